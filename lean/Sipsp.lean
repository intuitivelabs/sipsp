import Sipsp.Model.Basic
import Sipsp.Model.Lex
import Sipsp.Model.Tables
import Sipsp.Model.FLine
import Sipsp.Model.Values
import Sipsp.Model.NameAddr
import Sipsp.Model.Msg
import Sipsp.Model.Params
import Sipsp.Model.URI
import Sipsp.Model.Sig
import Sipsp.Driver.Exec
import Sipsp.Tie
import Sipsp.Proofs.Lookup
import Sipsp.Proofs.SlotArr
import Sipsp.Spec.Tables
import Sipsp.Properties.C16
import Sipsp.Properties.C17
import Sipsp.Properties.C01
import Sipsp.Properties.C02
import Sipsp.Properties.C03
import Sipsp.Properties.C06
import Sipsp.Properties.C07
import Sipsp.Properties.C08
import Sipsp.Properties.C09
import Sipsp.Properties.C10
import Sipsp.Properties.C11
import Sipsp.Properties.C12
import Sipsp.Properties.C13
import Sipsp.Properties.C14
import Sipsp.Properties.C15
import Sipsp.Proofs.CapacityPAI
import Sipsp.Properties.C04
import Sipsp.Properties.C05
import Sipsp.Properties.C18
import Sipsp.Properties.C19
import Sipsp.Properties.C20
import Sipsp.Proofs.AuditExamples
import Sipsp.Properties.C01x
import Sipsp.Properties.C17x
import Sipsp.Properties.C20x
import Sipsp.Properties.C14x
import Sipsp.Properties.C04x
import Sipsp.Properties.C18x
