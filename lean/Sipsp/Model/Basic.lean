/-
  Sipsp.Model.Basic — common types of the hand-written executable model of
  github.com/intuitivelabs/sipsp.  Core Lean only (no Mathlib) so that the
  driver links as a native executable.

  Conventions (DESIGN.md §4):
  * buffers are `Array UInt8`, Go `buf[i]` guarded by a length test is
    `match b[i]? with | none => <else branch> | some c => …`;
  * offsets are `Nat`; `PField` applies Go's `uint16` truncation;
  * a Go panic is recorded in a sticky ghost flag (`pnc`) of the object being
    parsed, never totalised away silently.
-/

namespace Sipsp

abbrev Buf := Array UInt8

/-- Go `ErrorHdr`, same order as the `const` block of parse_errors.go
    (tied to the source by `Sipsp.Tie`). -/
inductive Err where
  | ok | eoh | empty | moreBytes | moreValues | noCR | badChar | params | bad
  | valNotNumber | valTooLong | valBad | numTooBig | trunc | noCLen | bug
  | convBug | tooManyVals
  /-- model artefact: the generic loop driver saw no progress (never reachable,
      see `Proofs`); it has no Go counterpart. -/
  | lbug
  deriving DecidableEq, Repr, Inhabited

def Err.toNat : Err → Nat
  | .ok => 0 | .eoh => 1 | .empty => 2 | .moreBytes => 3 | .moreValues => 4
  | .noCR => 5 | .badChar => 6 | .params => 7 | .bad => 8 | .valNotNumber => 9
  | .valTooLong => 10 | .valBad => 11 | .numTooBig => 12 | .trunc => 13
  | .noCLen => 14 | .bug => 15 | .convBug => 16 | .tooManyVals => 17
  | .lbug => 99

def Err.name : Err → String
  | .ok => "ErrHdrOk" | .eoh => "ErrHdrEOH" | .empty => "ErrHdrEmpty"
  | .moreBytes => "ErrHdrMoreBytes" | .moreValues => "ErrHdrMoreValues"
  | .noCR => "ErrHdrNoCR" | .badChar => "ErrHdrBadChar" | .params => "ErrHdrParams"
  | .bad => "ErrHdrBad" | .valNotNumber => "ErrHdrValNotNumber"
  | .valTooLong => "ErrHdrValTooLong" | .valBad => "ErrHdrValBad"
  | .numTooBig => "ErrHdrNumTooBig" | .trunc => "ErrHdrTrunc" | .noCLen => "ErrHdrNoCLen"
  | .bug => "ErrHdrBug" | .convBug => "ErrConvBug" | .tooManyVals => "ErrHdrTooManyVals"
  | .lbug => "MODEL-LOOP-BUG"

/-- Go `uint16(x)` for a non-negative `x`. -/
@[inline] def trunc16 (x : Nat) : Nat := x % 65536

theorem trunc16_of_lt {x : Nat} (h : x < 65536) : trunc16 x = x := Nat.mod_eq_of_lt h

/-- Go `PField{Offs, Len OffsT}`. -/
structure PField where
  offs : Nat := 0
  len  : Nat := 0
  deriving DecidableEq, Repr, Inhabited

namespace PField

def zero : PField := {}

/-- `p.Set(start, end)`; Go panics (after assigning) iff `end < start`, see `setPanics`. -/
@[inline] def set (s e : Nat) : PField := ⟨trunc16 s, trunc16 (e - s)⟩
@[inline] def setPanics (s e : Nat) : Bool := decide (e < s)

/-- `p.Extend(newEnd)`: `p.Len = OffsT(newEnd) - p.Offs` in uint16 arithmetic. -/
@[inline] def extend (p : PField) (e : Nat) : PField :=
  ⟨p.offs, (trunc16 e + 65536 - p.offs) % 65536⟩
@[inline] def extendPanics (p : PField) (e : Nat) : Bool := decide (e < p.offs)

@[inline] def isEmpty (p : PField) : Bool := p.len == 0

/-- end offset as computed by Go in uint16 arithmetic (`f.Offs+f.Len`). -/
@[inline] def endT (p : PField) : Nat := trunc16 (p.offs + p.len)

/-- `buf[f.Offs : f.Offs+f.Len]`; `none` = Go panics (slice bounds out of range). -/
def get? (b : Buf) (p : PField) : Option Buf :=
  if p.offs ≤ p.endT ∧ p.endT ≤ b.size then some (b.extract p.offs p.endT) else none

/-- projections of `extend`, proved on the constructor: unifying `(p.extend e).offs` with `p.offs` instead makes the
    kernel compare `p.extend e` with `p` field by field and evaluate `(_ + 65536 - _) % 65536` on variables in unary -/
theorem extend_offs (p : PField) (e : Nat) : (p.extend e).offs = p.offs := by cases p; rfl
theorem extend_len (p : PField) (e : Nat) : (p.extend e).len = (trunc16 e + 65536 - p.offs) % 65536 := by cases p; rfl

end PField

/-! ### character classes -/

def chSP : UInt8 := 32
def chHT : UInt8 := 9
def chCR : UInt8 := 13
def chLF : UInt8 := 10

@[inline] def isWS (c : UInt8) : Bool := c == 32 || c == 9
@[inline] def isCRLFch (c : UInt8) : Bool := c == 13 || c == 10
@[inline] def isLWSch (c : UInt8) : Bool := c == 32 || c == 9 || c == 13 || c == 10
@[inline] def isDigit (c : UInt8) : Bool := 48 ≤ c && c ≤ 57

/-- Go slice expression `b[lo:hi]` on a slice of length `b.size`; `none` = panic. -/
def slice? (b : Buf) (lo hi : Nat) : Option Buf :=
  if lo ≤ hi ∧ hi ≤ b.size then some (b.extract lo hi) else none

/-! ### POptFlags (parse_utils.go) -/
abbrev POpt := Nat
def POptTokCommaTermF : Nat := 1
def POptTokQmTermF : Nat := 2
def POptTokSpTermF : Nat := 4
def POptInputEndF : Nat := 8
def POptParamSemiSepF : Nat := 16
def POptParamAmpSepF : Nat := 32
def POptTokURIParamF : Nat := 64
def POptTokURIHdrF : Nat := 128

@[inline] def hasFlag (flags f : Nat) : Bool := (flags &&& f) != 0

/-! ### generic loop driver (DESIGN §5.1) -/

inductive Step (σ : Type) where
  | cont (i : Nat) (st : σ)
  | done (o : Nat) (e : Err) (st : σ)

structure Machine (σ : Type) where
  /-- one iteration of the Go `for i < len(buf)` loop at position `i`, `c = buf[i]` -/
  step : Buf → Nat → UInt8 → σ → Step σ
  /-- the exit taken when `i == len(buf)` -/
  eob  : Buf → Nat → σ → Nat × Err × σ

def runLoop {σ : Type} (m : Machine σ) (b : Buf) (i : Nat) (st : σ) : Nat × Err × σ :=
  match hb : b[i]? with
  | none   => m.eob b i st
  | some c =>
    match m.step b i c st with
    | .cont i' st' => if i < i' then runLoop m b i' st' else (i, Err.lbug, st')
    | .done o e st' => (o, e, st')
termination_by b.size - i
decreasing_by
  have : i < b.size := by
    rcases Nat.lt_or_ge i b.size with h | h
    · exact h
    · rw [Array.getElem?_eq_none h] at hb; cases hb
  omega

end Sipsp
