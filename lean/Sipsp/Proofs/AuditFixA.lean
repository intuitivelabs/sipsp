/-
  Sipsp.Proofs.AuditFixA — three strengthenings of exported theorems.

  (A) C03: every definitive NON-OK verdict of ParseSIPMsg (first-line errors, header errors, "empty", NoCLen, the state
      error) is stable under appended bytes with no side condition on the returned object; the exemption `bodyToEnd`
      concerns the verdict OK only. Example: a BadChar first line, for every continuation.
  (B) C04 (termination): the six model-only loop guards never fire. The else-exit of `viaBrLoop` (GetViaBrSig) is dead
      code on every input. The verdict `lbug` is never returned: with no hypothesis by the single-value parsers, the
      value lists, ParseHdrLine and ParseFLine (read off their verdict lists); under the legitimacy hypotheses of the
      safety theorems by ParseHeaders (`hlsOK`, `hbOK`, `hlsPend`), ParseSIPMsg (`msgOK2`; one call, every chunk
      schedule, from Init, after Reset) and the two URI lists (`plClean` / `hlClean`; every option word, every chunk
      schedule). Tests show that the hypotheses are not redundant.
  (C) C06: on an object in state `init`, ParseSIPMsg with first line and header block OK IS the body section `msgBody`
      entered where the header block ended (`parseSIPMsg_eq_msgBody`; the converse `parseSIPMsg_ok_path` is in OneShot);
      hence the Content-Length framing of ParseSIPMsg itself (`parseSIPMsg_clen_framing`, `parseSIPMsg_ok_clen`).
  NOT proved here: (C) for a call resumed in the middle of the header block; for a header list / URI list with garbage in
  its UNUSED slots (outside the domain, no API call produces one) the model-only exit is reachable — see the tests at
  the end.
-/
import Sipsp.Proofs.MsgL1
import Sipsp.Proofs.MsgL2
import Sipsp.Proofs.TokParamEnd
import Sipsp.Proofs.SafeMsg
import Sipsp.Proofs.SigCompose
import Sipsp.Proofs.ValCall
import Sipsp.Proofs.VerdictsMsg
import Sipsp.Proofs.MsgPhases

namespace Sipsp

/-! ## (A) C03: all non-OK definitive verdicts are stable -/

/-- **every ERROR verdict of ParseSIPMsg is stable**, whatever the flags (without no-more-data) and whether or not a
    Content-Length header was seen: first-line errors, header errors, `.empty`, NoCLen, the state error
    (`parseSIPMsg_stable_all` in Proofs/MsgL1, whose side condition is void for a non-OK verdict). -/
theorem parseSIPMsg_stable_err (b s : Buf) (o : Nat) (m : PSIPMsg) (flags : Nat) (hok : msgOK b o m)
    (hfit : b.size ≤ 65535) (hnf : hasFlag flags SIPMsgNoMoreDataF = false)
    {o' : Nat} {e : Err} {m' : PSIPMsg} (hr : parseSIPMsg b o m flags = (o', e, m'))
    (he : e ≠ .moreBytes) (hne : e ≠ .ok) :
    parseSIPMsg (b ++ s) o m flags = (o', e, m') :=
  parseSIPMsg_stable_all b s o m flags hok hfit hnf hr he (fun h => absurd h hne)

theorem parseSIPMsg_stable_all_init (b s : Buf) (o : Nat) (ho : o ≤ b.size) (m0 : PSIPMsg) (len kh kc : Nat)
    (hdrs cts : Option Unit) (flags : Nat) (hfit : b.size ≤ 65535)
    (hnf : hasFlag flags SIPMsgNoMoreDataF = false) {o' : Nat} {e : Err} {m' : PSIPMsg}
    (hr : parseSIPMsg b o (m0.init len (hdrs.map fun _ => Array.replicate kh {})
      (cts.map fun _ => Array.replicate kc {})) flags = (o', e, m'))
    (he : e ≠ .moreBytes) (hx : e = .ok → ¬ bodyToEnd flags m') :
    parseSIPMsg (b ++ s) o (m0.init len (hdrs.map fun _ => Array.replicate kh {})
      (cts.map fun _ => Array.replicate kc {})) flags = (o', e, m') :=
  parseSIPMsg_stable_all b s o _ flags (msgOK_init b o ho m0 len kh kc hdrs cts) hfit hnf hr he hx

/-! ## (C) C06: ParseSIPMsg reaches the body section exactly through `msgBody` -/

theorem afaBodyEntry_pv (m : PSIPMsg) (o : Nat) (fl : PFLine) (hl : HdrLst) (hv : PHdrVals) :
    (afaBodyEntry m o fl hl hv).pv = hv := rfl

/-- **the link**: on a new / Init / Reset object (state `init`), if ParseFLine says OK at `o1` and ParseHeaders
    says OK at `h`, then ParseSIPMsg IS the body section `msgBody` entered at `h` with the parsed parts. -/
theorem parseSIPMsg_eq_msgBody (b : Buf) (o o1 h : Nat) (m : PSIPMsg) (flags : Nat) (fl : PFLine) (hl : HdrLst)
    (hv : PHdrVals) (hst : m.state = .init) (hf : parseFLine b o m.fl = (o1, .ok, fl))
    (hh : parseHeaders b o1 m.hl (some m.pv) = (h, .ok, hl, some hv)) :
    parseSIPMsg b o m flags = msgBody b h (afaBodyEntry m o fl hl hv) flags :=
  (MsgAt.headers (.fline (.enter hst) hf) hh).run flags

/-- **the Content-Length row of the body table, for ParseSIPMsg itself and EVERY flag word with body parsing on**: the
    first line was OK, ParseHeaders stopped with OK at `h`, a Content-Length `n = hv.clen.uiVal` was parsed and the `n`
    bytes are there: the call ends at `h + n` with the body `Set(h,h)` extended to `h + n` -/
theorem parseSIPMsg_clen_fit (b : Buf) (o o1 h : Nat) (m : PSIPMsg) (flags : Nat) (fl : PFLine) (hl : HdrLst)
    (hv : PHdrVals) (hst : m.state = .init) (hf : parseFLine b o m.fl = (o1, .ok, fl))
    (hh : parseHeaders b o1 m.hl (some m.pv) = (h, .ok, hl, some hv))
    (hs : hasFlag flags SIPMsgSkipBodyF = false) (hc : hv.clen.parsed = true) (hfit : h + hv.clen.uiVal ≤ b.size) :
    parseSIPMsg b o m flags =
      msgEnd { afaBodyEntry m o fl hl hv with body := PField.set h h } b (h + hv.clen.uiVal) := by
  rw [parseSIPMsg_eq_msgBody b o o1 h m flags fl hl hv hst hf hh]
  have hc' : (afaBodyEntry m o fl hl hv).pv.clen.parsed = true := hc
  have hu : (afaBodyEntry m o fl hl hv).pv.clen.uiVal = hv.clen.uiVal := rfl
  have hng : ¬ (h + hv.clen.uiVal > b.size) := by omega
  unfold msgBody
  simp only [hs, hc', hu, hng, Bool.false_eq_true, ↓reduceIte]

/-- **Content-Length framing of ParseSIPMsg itself** (body parsing on, more data may come): the first line was OK,
    ParseHeaders stopped with OK at `h` and its values object `hv` holds a parsed Content-Length `n = hv.clen.uiVal`.
    Then: the verdict is OK iff `h + n ≤ len(buf)`; if so the returned offset is `h + n`, the body field is
    `Set(h,h)` extended to `h + n`, and the returned object carries exactly `hv`; otherwise the verdict is MoreBytes
    at `h` (nothing of the body consumed). -/
theorem parseSIPMsg_clen_framing (b : Buf) (o o1 h : Nat) (m : PSIPMsg) (flags : Nat) (fl : PFLine) (hl : HdrLst)
    (hv : PHdrVals) (hst : m.state = .init) (hf : parseFLine b o m.fl = (o1, .ok, fl))
    (hh : parseHeaders b o1 m.hl (some m.pv) = (h, .ok, hl, some hv))
    (hs : hasFlag flags SIPMsgSkipBodyF = false) (hn : hasFlag flags SIPMsgNoMoreDataF = false)
    (hc : hv.clen.parsed = true) :
    ((parseSIPMsg b o m flags).2.1 = .ok ↔ h + hv.clen.uiVal ≤ b.size) ∧
    (h + hv.clen.uiVal ≤ b.size →
      (parseSIPMsg b o m flags).1 = h + hv.clen.uiVal ∧
      (parseSIPMsg b o m flags).2.2.body = (PField.set h h).extend (h + hv.clen.uiVal) ∧
      (parseSIPMsg b o m flags).2.2.state = .fin ∧ (parseSIPMsg b o m flags).2.2.pv = hv) ∧
    (¬ h + hv.clen.uiVal ≤ b.size →
      (parseSIPMsg b o m flags).1 = h ∧ (parseSIPMsg b o m flags).2.1 = .moreBytes) := by
  by_cases hfit : h + hv.clen.uiVal ≤ b.size
  · rw [parseSIPMsg_clen_fit b o o1 h m flags fl hl hv hst hf hh hs hc hfit]
    exact ⟨⟨fun _ => hfit, fun _ => rfl⟩, fun _ => ⟨rfl, rfl, rfl, rfl⟩, fun hx => absurd hfit hx⟩
  · rw [parseSIPMsg_eq_msgBody b o o1 h m flags fl hl hv hst hf hh]
    have hc' : (afaBodyEntry m o fl hl hv).pv.clen.parsed = true := hc
    have hu : (afaBodyEntry m o fl hl hv).pv.clen.uiVal = hv.clen.uiVal := rfl
    have hg : h + hv.clen.uiVal > b.size := by omega
    have hb : msgBody b h (afaBodyEntry m o fl hl hv) flags =
        (h, .moreBytes, { afaBodyEntry m o fl hl hv with body := PField.set h h }) := by
      unfold msgBody
      simp only [hs, hc', hu, hg, hn, Bool.false_eq_true, ↓reduceIte]
    refine ⟨⟨fun hq => ?_, fun hq => absurd hq hfit⟩, fun hq => absurd hq hfit, fun _ => ?_⟩
    · rw [hb] at hq; cases hq
    · rw [hb]; exact ⟨rfl, rfl⟩

/-- **the corollary in the property's words**: ParseSIPMsg on a state-`init` object returned OK with object `m'`, a
    Content-Length header was parsed (`m'.pv.clen.parsed`), body parsing on, more data may come. Then there is the
    offset `h` where ParseHeaders stopped (OK) such that the `n = m'.pv.clen.uiVal` body bytes are all there
    (`h + n ≤ len(buf)`), the returned offset is `h + n` — the first byte after the body — and the body field is
    `Set(h,h).Extend(h+n)`, i.e. `[h, h+n)` when it fits the 16-bit fields. -/
theorem parseSIPMsg_ok_clen (b : Buf) (o : Nat) (m : PSIPMsg) (flags : Nat) (hst : m.state = .init)
    (hs : hasFlag flags SIPMsgSkipBodyF = false) (hn : hasFlag flags SIPMsgNoMoreDataF = false)
    {o' : Nat} {m' : PSIPMsg} (hr : parseSIPMsg b o m flags = (o', .ok, m')) (hc : m'.pv.clen.parsed = true) :
    ∃ o1 fl h hl, parseFLine b o m.fl = (o1, .ok, fl) ∧
      parseHeaders b o1 m.hl (some m.pv) = (h, .ok, hl, some m'.pv) ∧
      h + m'.pv.clen.uiVal ≤ b.size ∧ o' = h + m'.pv.clen.uiVal ∧
      m'.body = (PField.set h h).extend (h + m'.pv.clen.uiVal) ∧
      (h + m'.pv.clen.uiVal < 65536 → m'.body.offs = h ∧ m'.body.len = m'.pv.clen.uiVal) := by
  obtain ⟨o1, fl, h, hl, hv, hf, hh, hb⟩ := parseSIPMsg_ok_path b o m flags hst hr
  have hpv : m'.pv = hv := by
    have := (msgBody_done_pv b h (afaBodyEntry m o fl hl hv) flags).2
    rw [hb] at this; exact this
  subst hpv
  have hfr := parseSIPMsg_clen_framing b o o1 h m flags fl hl m'.pv hst hf hh hs hn hc
  rw [hr] at hfr
  have hfit := hfr.1.1 rfl
  have h2 := hfr.2.1 hfit
  refine ⟨o1, fl, h, hl, hf, hh, hfit, h2.1, h2.2.1, fun hlim => ?_⟩
  have hbody : m'.body = (PField.set h h).extend (h + m'.pv.clen.uiVal) := h2.2.1
  rw [hbody]
  simp only [PField.set, PField.extend, trunc16]
  have e1 : h % 65536 = h := Nat.mod_eq_of_lt (by omega)
  have e2 : (h + m'.pv.clen.uiVal) % 65536 = h + m'.pv.clen.uiVal := Nat.mod_eq_of_lt hlim
  rw [e1, e2]
  exact ⟨rfl, by omega⟩

/-! ## (B) C04, part 1: the guard of `viaBrLoop` (GetViaBrSig) always holds — its else-exit is dead code -/

/-- **the guard of `viaBrLoop` holds on every input**: a MoreValues verdict of the parameter parser (new object,
    the Via-branch options) lies strictly after the start and inside the buffer -/
theorem afa_viaBr_guard (b : Buf) (offs next : Nat) (p : PTokParam) (ho : offs ≤ b.size)
    (hp : parseTokenParam b offs {} viaBrFlags = (next, .moreValues, p)) : offs < next ∧ next ≤ b.size := by
  have hr := parseTokenParam_facts b offs {} viaBrFlags hp
  obtain ⟨h1, h2, _⟩ := hr.2 ho
  refine ⟨?_, h2⟩
  rcases Nat.lt_or_ge offs next with h | h
  · exact h
  · have : next = offs := by omega
    subst this
    cases hr.1 rfl rfl

/-- one round of the Go loop of GetViaBrSig, the `continue` being the call of `k` — WITHOUT any guard -/
def afaViaBrRound (b : Buf) (k : Nat → Nat × Nat × Bool) (offs : Nat) : Nat × Nat × Bool :=
  match parseTokenParam b offs {} viaBrFlags with
  | (next, e, p) =>
    if p.pnc then (0, 0, true)
    else if e == .ok || e == .moreValues || e == .eoh then
      let isBranch : Option Bool :=
        if p.name.len == 6 then (p.name.get? b).map (fun nm => cmpEqL nm sBranch) else some false
      match isBranch with
      | none => (0, 0, true)
      | some true =>
        if p.val.len > 0 then
          match p.val.get? b with
          | none => (0, 0, true)
          | some val =>
            if val.size > 7 && cmpEqL (val.extract 0 7) sBrPrefix then
              ((getStrCharsSig (val.extract 7 val.size) 0 0).1, val.size - 7, false)
            else ((getStrCharsSig val 0 0).1, val.size, false)
        else (0, 0, false)
      | some false => if e == .moreValues then k next else (0, 0, false)
    else (0, 0, false)

/-- **`viaBrLoop` satisfies the recursion of the Go loop without the guard** (every offset inside the buffer) -/
theorem viaBrLoop_unguarded (b : Buf) (offs : Nat) (ho : offs ≤ b.size) :
    viaBrLoop b offs = afaViaBrRound b (viaBrLoop b) offs := by
  rw [viaBrLoop]
  unfold afaViaBrRound
  rcases hp : parseTokenParam b offs {} viaBrFlags with ⟨next, e, p⟩
  simp only
  by_cases hmv : e = .moreValues
  · subst hmv
    have hg := afa_viaBr_guard b offs next p ho hp
    simp only [hg, and_self, ↓reduceIte]
    rfl
  · have : (e == Err.moreValues) = false := by simpa using hmv
    simp only [this, Bool.false_eq_true, ↓reduceIte]
    rfl

/-- `viaBrLoop` with an ARBITRARY result `x` at the guard's else-exit -/
def afaViaBrLoopX (x : Nat × Nat × Bool) (b : Buf) (offs : Nat) : Nat × Nat × Bool :=
  match parseTokenParam b offs {} viaBrFlags with
  | (next, e, p) =>
    if p.pnc then (0, 0, true)
    else if e == .ok || e == .moreValues || e == .eoh then
      let isBranch : Option Bool :=
        if p.name.len == 6 then (p.name.get? b).map (fun nm => cmpEqL nm sBranch) else some false
      match isBranch with
      | none => (0, 0, true)
      | some true =>
        if p.val.len > 0 then
          match p.val.get? b with
          | none => (0, 0, true)
          | some val =>
            if val.size > 7 && cmpEqL (val.extract 0 7) sBrPrefix then
              ((getStrCharsSig (val.extract 7 val.size) 0 0).1, val.size - 7, false)
            else ((getStrCharsSig val 0 0).1, val.size, false)
        else (0, 0, false)
      | some false =>
        if e == .moreValues then
          if offs < next ∧ next ≤ b.size then afaViaBrLoopX x b next else x
        else (0, 0, false)
    else (0, 0, false)
termination_by b.size - offs
decreasing_by omega

theorem afaViaBrLoopX_model (b : Buf) (offs : Nat) : afaViaBrLoopX (0, 0, false) b offs = viaBrLoop b offs := by
  induction hk : b.size - offs using Nat.strongRecOn generalizing offs with
  | _ k ih =>
    rw [viaBrLoop, afaViaBrLoopX]
    rcases hp : parseTokenParam b offs {} viaBrFlags with ⟨next, e, p⟩
    simp only
    by_cases hg : offs < next ∧ next ≤ b.size
    · rw [if_pos hg, if_pos hg, ih (b.size - next) (by omega) next rfl]
      rfl
    · rw [if_neg hg, if_neg hg]
      rfl

/-- **the result of `viaBrLoop` does not depend on what its else-exit returns** -/
theorem viaBrLoop_exit_irrelevant (x : Nat × Nat × Bool) (b : Buf) (offs : Nat) (ho : offs ≤ b.size) :
    afaViaBrLoopX x b offs = viaBrLoop b offs := by
  induction hk : b.size - offs using Nat.strongRecOn generalizing offs with
  | _ k ih =>
    rw [viaBrLoop, afaViaBrLoopX]
    rcases hp : parseTokenParam b offs {} viaBrFlags with ⟨next, e, p⟩
    simp only
    by_cases hmv : e = .moreValues
    · subst hmv
      have hg := afa_viaBr_guard b offs next p ho hp
      rw [if_pos hg, if_pos hg, ih (b.size - next) (by omega) next hg.2 rfl]
      rfl
    · have : (e == Err.moreValues) = false := by simpa using hmv
      simp only [this, Bool.false_eq_true, ↓reduceIte]
      rfl

/-- `GetViaBrSig` with an arbitrary result at the dead exit -/
def afaGetViaBrSigX (x : Nat × Nat × Bool) (b : Buf) : Nat × Nat × Bool :=
  match indexByteFrom b 0 59 with
  | none => (0, 0, false)
  | some o => afaViaBrLoopX x b (o + 1)

/-- **GetViaBrSig, every input: the model-only exit is never taken** (whatever it would return, the result is the same) -/
theorem getViaBrSig_exit_irrelevant (x : Nat × Nat × Bool) (b : Buf) : afaGetViaBrSigX x b = getViaBrSig b := by
  unfold afaGetViaBrSigX getViaBrSig
  cases h : indexByteFrom b 0 59 with
  | none => rfl
  | some o =>
    have := get?_lt (indexByteFrom_some b 0 59 h).2.1
    exact viaBrLoop_exit_irrelevant x b (o + 1) (by omega)

/-! ## (B) C04, part 2: the model-only verdict `lbug` is never returned

  For the parsers whose loops need no hypothesis this is read off their verdict lists (Proofs/Verdicts, VerdictsMsg). -/

def afaNL {σ : Type} : Step σ → Prop
  | .cont _ _ => True
  | .done _ e _ => e ≠ .lbug

theorem afaNL_done {σ : Type} {o : Nat} {e : Err} {st : σ} (h : e ≠ .lbug) : afaNL (Step.done o e st) := h

/-- **ParseTokenParam never returns the model-only verdict** (every buffer, offset, object, option set) -/
theorem parseTokenParam_ne_lbug (b : Buf) (offs : Nat) (p : PTokParam) (flags : Nat) :
    (parseTokenParam b offs p flags).2.1 ≠ .lbug :=
  ne_of_verdicts (parseTokenParam_verdicts b offs p flags) (by decide)

/-! ### ParseAllURIParams / ParseAllURIHdrs: the loop guard never fails on a clean list -/

/-- **ParseAllURIParams never takes the model-only exit**: every buffer, every offset inside it, every option word,
    every clean list (unused slots zero: new lists of any capacity, lists after Reset, lists returned by earlier
    calls — see `plOK_new`, `plOK_reset`, `parseAllURIParams_post`) -/
theorem parseAllURIParams_ne_lbug (b : Buf) (offs : Nat) (l : URIParamsLst) (flags : Nat)
    (hcl : plClean l) (ho : offs ≤ b.size) : (parseAllURIParams b offs l flags).2.2.1 ≠ .lbug := by
  unfold parseAllURIParams
  rw [uriParamsLoop_slot]; exact slotLoop_ne_lbug pLaws b _ offs l 0 hcl ho

/-- **ParseAllURIHdrs never takes the model-only exit** (as `parseAllURIParams_ne_lbug`; `hlClean_new`, `hlClean_reset`,
    `parseAllURIHdrs_post`) -/
theorem parseAllURIHdrs_ne_lbug (b : Buf) (offs : Nat) (l : URIHdrsLst) (flags : Nat)
    (hcl : hlClean l) (ho : offs ≤ b.size) : (parseAllURIHdrs b offs l flags).2.2.1 ≠ .lbug := by
  unfold parseAllURIHdrs
  rw [uriHdrsLoop_slot]; exact slotLoop_ne_lbug hLaws b _ offs l 0 hcl ho

/-- new lists of any capacity and lists after Reset qualify -/
theorem afa_lists_qualify (k : Nat) (lp : URIParamsLst) (lh : URIHdrsLst) (hp : plClean lp) (hh : hlClean lh) :
    plClean ({ params := Array.replicate k {} } : URIParamsLst) ∧ hlClean ({ hdrs := Array.replicate k {} } : URIHdrsLst) ∧
    plClean lp.reset ∧ hlClean lh.reset :=
  ⟨(plOK_new #[] k).2, hlClean_new k, (plOK_reset #[] hp).1.2, (hlClean_reset hh).1⟩

/-! ### the header value parsers and the value lists (NO hypothesis needed: the guards of `contactsLoop` / `paisLoop`
      always hold, `parseNameAddrPVal_mv_range`) -/

theorem parseCallIDVal_ne_lbug (b : Buf) (o : Nat) (st : PCallIDBody) : (parseCallIDVal b o st).2.1 ≠ .lbug :=
  ne_of_verdicts (parseCallIDVal_verdicts b o st) (by decide)

theorem parseUIntVal_ne_lbug (b : Buf) (o : Nat) (st : PUIntBody) : (parseUIntVal b o st).2.1 ≠ .lbug :=
  ne_of_verdicts (parseUIntVal_verdicts b o st) (by decide)

theorem parseCLenVal_ne_lbug (b : Buf) (o : Nat) (st : PUIntBody) : (parseCLenVal b o st).2.1 ≠ .lbug :=
  ne_of_verdicts (parseCLenVal_verdicts b o st) (by decide)

theorem parseCSeqVal_ne_lbug (b : Buf) (o : Nat) (st : PCSeqBody) : (parseCSeqVal b o st).2.1 ≠ .lbug :=
  ne_of_verdicts (parseCSeqVal_verdicts b o st) (by decide)

/-- **ParseNameAddrPVal never returns the model-only verdict** (every header kind, buffer, offset, object) -/
theorem parseNameAddrPVal_ne_lbug (h : Nat) (b : Buf) (o : Nat) (pf : PFromBody) :
    (parseNameAddrPVal h b o pf).2.1 ≠ .lbug :=
  ne_of_verdicts (parseNameAddrPVal_verdicts h b o pf) (by decide)

theorem parseOnePAI_ne_lbug (b : Buf) (o : Nat) (pf : PFromBody) : (parseOnePAI b o pf).2.1 ≠ .lbug :=
  ne_of_verdicts (parseOnePAI_verdicts b o pf) (by decide)

/-- **ParseAllContactValues never takes the model-only exit**: every buffer, offset and object (in particular under
    `CtSafe`, the hypothesis of `contacts_never_panics`) -/
theorem parseAllContactValues_ne_lbug (b : Buf) (offs : Nat) (c : PContacts) :
    (parseAllContactValues b offs c).2.1 ≠ .lbug :=
  ne_of_verdicts (parseAllContactValues_verdicts b offs c) (by decide)

/-- **ParseAllPAIValues never takes the model-only exit** (every buffer, offset and object) -/
theorem parseAllPAIValues_ne_lbug (b : Buf) (offs : Nat) (c : PPAIs) :
    (parseAllPAIValues b offs c).2.1 ≠ .lbug :=
  ne_of_verdicts (parseAllPAIValues_verdicts b offs c) (by decide)

/-! ### ParseHdrLine (no hypothesis) and ParseHeaders -/

/-- **ParseHdrLine never returns the model-only verdict** (every buffer, offset, header object, values object or nil) -/
theorem parseHdrLine_ne_lbug (b : Buf) (o : Nat) (h : Hdr) (hb : Option PHdrVals) :
    (parseHdrLine b o h hb).2.1 ≠ .lbug :=
  ne_of_verdicts (parseHdrLine_verdicts b o h hb) (by decide)

/-- **ParseHeaders never takes the model-only exit**, from every legitimate list / values object — the hypotheses
    of `headers_never_panics` minus the ones not needed (`HlsSafe`, the 65,535 limit): new, finished, or returned by an
    earlier call on a prefix of the buffer with MoreBytes (`hlsOK`, `hbOK`), and no stale suspended header in the slots
    still to be filled (`hlsPend`) -/
theorem parseHeaders_ne_lbug (b : Buf) (offs : Nat) (hl : HdrLst) (hb : Option PHdrVals)
    (hok1 : hlsOK b hl) (hok2 : hbOK b offs hb) (hpe : hlsPend hl hb) (ho : offs ≤ b.size) :
    (parseHeaders b offs hl hb).2.1 ≠ .lbug := by
  refine parseHeaders_ind b (J := fun offs hl hb => hlsOK b hl ∧ hbOK b offs hb ∧ hlsPend hl hb ∧ offs ≤ b.size)
    (R := fun r => r.2.1 ≠ .lbug) (line := ?_) (bug := ?_) (endOk := fun _ _ _ _ _ _ _ _ _ _ => nofun)
    (endEmpty := fun _ _ _ _ _ _ _ _ _ _ => nofun) (stop := ?_) (eob := fun _ _ _ _ _ => nofun) offs hl hb
    ⟨hok1, hok2, hpe, ho⟩
  · intro offs hl hb n g hb' hJ _ hp _
    have hpost := parseHdrLine_post b offs hl.cur hb ⟨hJ.2.2.2, hlsOK_cur hJ.1, hJ.2.1⟩ hp (Or.inl rfl)
    exact ⟨hlsOK_next g hJ.1, hpost.2, hlsPend_next g hb' hJ.2.2.1, hpost.1⟩
  · -- the guard holds: an accepted line has moved the offset
    intro offs hl hb n g hb' hJ hp hn
    exact absurd (parseHdrLine_ok_gt b offs hl.cur hb ⟨hJ.2.2.2, hlsOK_cur hJ.1, hJ.2.1⟩ hJ.2.2.1.1 hp) hn
  · intro offs hl hb n e g hb' _ _ hp _ _
    have := parseHdrLine_ne_lbug b offs hl.cur hb
    rw [hp] at this
    exact this

/-! ### ParseFLine (no hypothesis) and ParseSIPMsg -/

/-- **ParseFLine never returns the model-only verdict** (it has no loop of the generic driver) -/
theorem parseFLine_ne_lbug (b : Buf) (o : Nat) (pl : PFLine) : (parseFLine b o pl).2.1 ≠ .lbug :=
  ne_of_verdicts (parseFLine_verdicts b o pl) (by decide)

theorem afa_msgErr_nl (m : PSIPMsg) (o : Nat) (e : Err) (flags : Nat) (he : e ≠ .lbug) :
    (msgErr m o e flags).2.1 ≠ .lbug :=
  msgErr_verd (· ≠ .lbug) m o e flags he nofun

theorem afa_msgBody_nl (b : Buf) (o : Nat) (m : PSIPMsg) (flags : Nat) : (msgBody b o m flags).2.1 ≠ .lbug :=
  ne_of_verdicts (msgBody_verdicts b o m flags) (by decide)

/-- the parts not yet parsed stay legitimate up to the header block -/
theorem afa_msgAt_ok {b : Buf} {o : Nat} {m : PSIPMsg} {s : MsgState} {o1 : Nat} {m1 : PSIPMsg} (hok : msgOK2 b o m)
    (h : MsgAt b o m s o1 m1) (hs : s ≠ .body) :
    o1 ≤ b.size ∧ hlsOK b m1.hl ∧ hvOK b o1 m1.pv ∧ hlsPend m1.hl (some m1.pv) := by
  induction h with
  | enter hst => exact ⟨hok.1, hok.2.2 (by rw [hst]; decide)⟩
  | resume hst _ => exact ⟨hok.1, hok.2.2 (by rw [hst]; exact hs)⟩
  | @fline o1 m1 o2 fl _ hp ih =>
    obtain ⟨ho, a1, a2, a3⟩ := ih (by decide)
    have hrg := parseFLine_range b o1 m1.fl ho
    rw [hp] at hrg
    exact ⟨(hrg rfl).2, a1, hvOK_mono a2 (hrg rfl).1 (hrg rfl).2, a3⟩
  | headers _ _ _ => exact absurd rfl hs

/-- **ParseSIPMsg never takes a model-only exit — one call, any legitimate object** (`msgOK2`, the legitimacy
    hypothesis of `msg_never_panics`; `MsgSafe` and the 65,535 limit are not needed here) -/
theorem parseSIPMsg_ne_lbug (b : Buf) (o : Nat) (m : PSIPMsg) (flags : Nat) (hok : msgOK2 b o m) :
    (parseSIPMsg b o m flags).2.1 ≠ .lbug := by
  refine parseSIPMsg_cases (P := fun r => r.2.1 ≠ .lbug) b o m flags (fun _ => nofun) ?_ ?_
    (fun _ => afa_msgBody_nl b _ _ flags)
  · intro o1 m1 o2 e fl _ hp _
    have := parseFLine_ne_lbug b o1 m1.fl
    rw [hp] at this
    exact afa_msgErr_nl _ _ _ _ this
  · intro o1 m1 o2 e hl hb h hp _
    obtain ⟨ho, a1, a2, a3⟩ := afa_msgAt_ok hok h (by decide)
    have := parseHeaders_ne_lbug b o1 m1.hl (some m1.pv) a1 a2 a3 ho
    rw [hp] at this
    exact afa_msgErr_nl _ _ _ _ this

/-- … from any object produced by Init: any previous contents, caller arrays of any capacity (or none), any start
    offset inside the buffer, any flags -/
theorem parseSIPMsg_ne_lbug_init (b : Buf) (o : Nat) (ho : o ≤ b.size) (m0 : PSIPMsg) (len kh kc : Nat)
    (hdrs cts : Option Unit) (flags : Nat) :
    (parseSIPMsg b o (m0.init len (hdrs.map fun _ => Array.replicate kh {}) (cts.map fun _ => Array.replicate kc {}))
      flags).2.1 ≠ .lbug :=
  parseSIPMsg_ne_lbug b o _ flags (msgOK2_init b o ho m0 len kh kc hdrs cts)

/-- **every chunk schedule**: the chain of resumed ParseSIPMsg calls never ends with the model-only verdict (the
    hypotheses are those of `msg_schedule_never_panics`) -/
theorem parseSIPMsg_schedule_ne_lbug (flags : Nat) (o : Nat) (m : PSIPMsg) (l : List Buf) (hg : Growing l)
    (hfit : ∀ x ∈ l, x.size ≤ 65535) (hne : l ≠ []) (h0 : ∀ b ∈ l.head?, msgOK2 b o m ∧ MsgSafe b o m) :
    (resumeRun (fun b o m => parseSIPMsg b o m flags) o m l).2.1 ≠ .lbug := by
  have := resumeRun_post (fun b o m => parseSIPMsg b o m flags) (fun b o m => msgOK2 b o m ∧ MsgSafe b o m)
    (fun _ _ r => r.2.1 ≠ .lbug) (fun b => b.size ≤ 65535) ?_ (fun b o o' r _ q => q) o m l hg hfit hne h0
  · obtain ⟨_, _, hq⟩ := this; exact hq
  · intro b o m hfit hI
    exact ⟨parseSIPMsg_ne_lbug b o m flags hI.1, parseSIPMsg_more_legit b o m flags hfit hI.1 hI.2⟩

theorem parseSIPMsg_schedule_ne_lbug_init (flags : Nat) (o : Nat) (m0 : PSIPMsg) (len kh kc : Nat)
    (hdrs cts : Option Unit) (l : List Buf) (hg : Growing l) (hfit : ∀ x ∈ l, x.size ≤ 65535) (hne : l ≠ [])
    (ho : ∀ b ∈ l.head?, o ≤ b.size) :
    (resumeRun (fun b o m => parseSIPMsg b o m flags) o
      (m0.init len (hdrs.map fun _ => Array.replicate kh {}) (cts.map fun _ => Array.replicate kc {})) l).2.1 ≠ .lbug :=
  parseSIPMsg_schedule_ne_lbug flags o _ l hg hfit hne
    (fun b hb => ⟨msgOK2_init b o (ho b hb) m0 len kh kc hdrs cts, MsgSafe_init b o (ho b hb) m0 len kh kc hdrs cts⟩)

/-! ### the two URI lists under every chunk schedule -/

theorem afa_oneShotRun_verdict {σ : Type} (P : Parser σ) (V : Err → Prop) (o : Nat) (st : σ) (l : List Buf)
    (hV : ∀ b ∈ l, V (P b o st).2.1) (hm : V .moreBytes) : V (oneShotRun P o st l).2.1 := by
  cases l with
  | nil => exact hm
  | cons b r =>
    obtain ⟨x, hx, h⟩ := flo_oneShotRun_mem P o st (b :: r) (by simp)
    rw [h]; exact hV x hx

/-- what holds of the first buffer of a growing sequence, with an offset inside it, holds of every buffer -/
theorem afa_growing_head {l : List Buf} (hg : Growing l) {H : Prop} {o : Nat} (h0 : ∀ b ∈ l.head?, H ∧ o ≤ b.size) :
    ∀ x ∈ l, H ∧ o ≤ x.size :=
  growing_all hg (H := fun b => H ∧ o ≤ b.size) (fun b s h => ⟨h.1, by rw [Array.size_append]; omega⟩) h0

/-- **ParseAllURIParams, every chunk schedule (option off)**: the chain of resumed calls never ends with the
    model-only verdict (hypotheses of `parseAllURIParams_schedule`) -/
theorem parseAllURIParams_schedule_ne_lbug (flags : Nat) (hf : hasFlag flags POptInputEndF = false) (o : Nat)
    (l : URIParamsLst) (bs : List Buf) (hg : Growing bs) (h0 : ∀ b ∈ bs.head?, plOK b l ∧ o ≤ b.size) :
    (resumeRun (uriParamsParser flags) o (0, l) bs).2.1 ≠ .lbug := by
  rw [parseAllURIParams_schedule flags hf o l bs hg h0]
  refine afa_oneShotRun_verdict _ (· ≠ .lbug) o (0, l) bs (fun b hb => ?_) nofun
  obtain ⟨hc, ho⟩ := afa_growing_head hg (fun b hb => ⟨(h0 b hb).1.2, (h0 b hb).2⟩) b hb
  exact parseAllURIParams_ne_lbug b o l flags hc ho

/-- **… with the end-of-input option at the last call** (hypotheses of `parseAllURIParams_schedule_end`) -/
theorem parseAllURIParams_schedule_end_ne_lbug (f : Nat) (hf : hasFlag f POptInputEndF = false) (o : Nat)
    (l : URIParamsLst) (bs : List Buf) (hg : Growing bs) (h0 : ∀ b ∈ bs.head?, plOK b l ∧ o ≤ b.size)
    (B : Buf) (hB : bs.getLast? = some B) :
    (resumeRunEnd (uriParamsParser f) (uriParamsParser (f ||| POptInputEndF)) o (0, l) bs).2.1 ≠ .lbug := by
  rw [parseAllURIParams_schedule_end f hf o l bs hg h0 B hB]
  obtain ⟨hc, ho⟩ := afa_growing_head hg (fun b hb => ⟨(h0 b hb).1.2, (h0 b hb).2⟩) B (List.mem_of_getLast? hB)
  exact parseAllURIParams_ne_lbug B o l _ hc ho

theorem parseAllURIHdrs_schedule_ne_lbug (flags : Nat) (hf : hasFlag flags POptInputEndF = false) (o : Nat)
    (l : URIHdrsLst) (bs : List Buf) (hg : Growing bs) (h0 : ∀ b ∈ bs.head?, hlClean l ∧ o ≤ b.size) :
    (resumeRun (uriHdrsParser flags) o (0, l) bs).2.1 ≠ .lbug := by
  rw [parseAllURIHdrs_schedule flags hf o l bs hg h0]
  refine afa_oneShotRun_verdict _ (· ≠ .lbug) o (0, l) bs (fun b hb => ?_) nofun
  obtain ⟨hc, ho⟩ := afa_growing_head hg h0 b hb
  exact parseAllURIHdrs_ne_lbug b o l flags hc ho

theorem parseAllURIHdrs_schedule_end_ne_lbug (f : Nat) (hf : hasFlag f POptInputEndF = false) (o : Nat)
    (l : URIHdrsLst) (bs : List Buf) (hg : Growing bs) (h0 : ∀ b ∈ bs.head?, hlClean l ∧ o ≤ b.size)
    (B : Buf) (hB : bs.getLast? = some B) :
    (resumeRunEnd (uriHdrsParser f) (uriHdrsParser (f ||| POptInputEndF)) o (0, l) bs).2.1 ≠ .lbug := by
  rw [parseAllURIHdrs_schedule_end f hf o l bs hg h0 B hB]
  obtain ⟨hc, ho⟩ := afa_growing_head hg h0 B (List.mem_of_getLast? hB)
  exact parseAllURIHdrs_ne_lbug B o l _ hc ho

/-! ### new / Init / Reset objects qualify -/

/-- ParseHeaders on the list and values object of any Init message object (caller arrays of any capacity, or none),
    with or without a values object -/
theorem parseHeaders_ne_lbug_init (b : Buf) (o : Nat) (ho : o ≤ b.size) (m0 : PSIPMsg) (len kh kc : Nat)
    (hdrs cts : Option Unit) (useVals : Bool) :
    (parseHeaders b o (m0.init len (hdrs.map fun _ => Array.replicate kh {}) (cts.map fun _ => Array.replicate kc {})).hl
      (if useVals then some (m0.init len (hdrs.map fun _ => Array.replicate kh {})
        (cts.map fun _ => Array.replicate kc {})).pv else none)).2.1 ≠ .lbug := by
  have hm := msgOK2_init b o ho m0 len kh kc hdrs cts
  obtain ⟨a1, a2, a3⟩ := hm.2.2 (by intro hh; cases hh)
  cases useVals
  · refine parseHeaders_ne_lbug b o _ none a1 trivial ⟨?_, a3.2.1, a3.2.2⟩ ho
    show hlPending (_, none)
    unfold hlPending; trivial
  · exact parseHeaders_ne_lbug b o _ (some _) a1 a2 a3 ho

/-- **after ANY history of Init / parse calls (complete, suspended, failed) / Reset, then Reset**: the next
    ParseSIPMsg call, at any offset inside any buffer, never takes a model-only exit (`ScReach`: the reachability
    predicate of `sig_never_panics_history`; Reset after any history is an Init object) -/
theorem parseSIPMsg_ne_lbug_reset {m : PSIPMsg} (hR : ScReach m) (b : Buf) (o : Nat) (ho : o ≤ b.size) (flags : Nat) :
    (parseSIPMsg b o m.reset flags).2.1 ≠ .lbug :=
  parseSIPMsg_ne_lbug b o m.reset flags (sc_reset_legit hR b o ho).1

theorem parseSIPMsg_schedule_ne_lbug_reset {m : PSIPMsg} (hR : ScReach m) (flags : Nat) (o : Nat) (l : List Buf)
    (hg : Growing l) (hfit : ∀ x ∈ l, x.size ≤ 65535) (hne : l ≠ []) (ho : ∀ b ∈ l.head?, o ≤ b.size) :
    (resumeRun (fun b o m => parseSIPMsg b o m flags) o m.reset l).2.1 ≠ .lbug :=
  parseSIPMsg_schedule_ne_lbug flags o _ l hg hfit hne (fun b hb => sc_reset_legit hR b o (ho b hb))

/-! ## non-vacuity / tests (closed computations by `decide +kernel`) -/

/-- "ABC\rxxxxxxxxxxxx": a first line that is rejected with BadChar at offset 3 -/
def afaBadFL : Buf := #[65, 66, 67, 13, 120, 120, 120, 120, 120, 120, 120, 120, 120, 120, 120, 120]

/-- test: the verdict; with flags 0 and no Content-Length parsed `bodyToEnd` HOLDS of the returned object, so a
    stability theorem that excludes `bodyToEnd` for every verdict does not apply to it -/
example : (parseSIPMsg afaBadFL 0 (({} : PSIPMsg).init 0 none none) 0).1 = 3 ∧
    (parseSIPMsg afaBadFL 0 (({} : PSIPMsg).init 0 none none) 0).2.1 = .badChar ∧
    bodyToEnd 0 (parseSIPMsg afaBadFL 0 (({} : PSIPMsg).init 0 none none) 0).2.2 := by
  refine ⟨by decide +kernel, by decide +kernel, by decide, by decide +kernel, by decide⟩

/-- **(A) instance: a BadChar first line stays BadChar at the same offset whatever bytes arrive later** — by
    `parseSIPMsg_stable_all_init`, whose side condition is void for a non-OK verdict -/
example (s : Buf) : (parseSIPMsg (afaBadFL ++ s) 0 (({} : PSIPMsg).init 0 none none) 0).1 = 3 ∧
    (parseSIPMsg (afaBadFL ++ s) 0 (({} : PSIPMsg).init 0 none none) 0).2.1 = .badChar := by
  rcases hp : parseSIPMsg afaBadFL 0 (({} : PSIPMsg).init 0 none none) 0 with ⟨o', e, m'⟩
  have h1 : (parseSIPMsg afaBadFL 0 (({} : PSIPMsg).init 0 none none) 0).1 = 3 := by decide +kernel
  have h2 : (parseSIPMsg afaBadFL 0 (({} : PSIPMsg).init 0 none none) 0).2.1 = .badChar := by decide +kernel
  rw [hp] at h1 h2
  simp only at h1 h2
  subst h1 h2
  have := parseSIPMsg_stable_all_init afaBadFL s 0 (Nat.zero_le _) {} 0 0 0 none none 0 (by decide) (by decide) hp
    nofun (fun hh => by cases hh)
  exact ⟨by rw [show parseSIPMsg (afaBadFL ++ s) 0 (({} : PSIPMsg).init 0 none none) 0 = _ from this],
    by rw [show parseSIPMsg (afaBadFL ++ s) 0 (({} : PSIPMsg).init 0 none none) 0 = _ from this]⟩

/-- "SIP/2.0/UDP h;a=b;branch=z9hG4bKabc": the loop of GetViaBrSig goes round twice (MoreValues after `a=b`) -/
def afaVia : Buf := #[83, 73, 80, 47, 50, 46, 48, 47, 85, 68, 80, 32, 104, 59, 97, 61, 98, 59, 98, 114, 97, 110, 99,
  104, 61, 122, 57, 104, 71, 52, 98, 75, 97, 98, 99]

/-- test of (B), GetViaBrSig: signature of the 3 characters after the magic cookie; an absurd value at the dead exit
    changes nothing -/
example : getViaBrSig afaVia = (0, 3, false) ∧ afaGetViaBrSigX (7, 7, true) afaVia = (0, 3, false) := by
  refine ⟨by decide +kernel, by decide +kernel⟩

/-- test of (B), URI parameters: "a=b;c=d;;e" with the end-of-input option, capacity 2 (overflowing) -/
example : (parseAllURIParams #[97, 61, 98, 59, 99, 61, 100, 59, 59, 101] 0 { params := Array.replicate 2 {} } 8).2.2.1
    = .eoh := by decide +kernel

/-- (B): the hypotheses of `parseSIPMsg_ne_lbug` / `parseSIPMsg_schedule_ne_lbug` are satisfiable: every object
    produced by Init meets them, for every buffer -/
example (b : Buf) : msgOK2 b 0 (({} : PSIPMsg).init 0 none none) ∧ MsgSafe b 0 (({} : PSIPMsg).init 0 none none) :=
  ⟨msgOK2_init b 0 (Nat.zero_le _) {} 0 0 0 none none, MsgSafe_init b 0 (Nat.zero_le _) {} 0 0 0 none none⟩

/-- "A B C\r\nl:2\r\n\r\nxyz": a message with Content-Length 2 followed by 3 bytes -/
def afaMsg : Buf := #[65, 32, 66, 32, 67, 13, 10, 108, 58, 50, 13, 10, 13, 10, 120, 121, 122]

/-- test of (C): the hypotheses of `parseSIPMsg_ok_clen` hold of a concrete call, and what it concludes:
    ParseHeaders stops at 14, the body is [14, 16), the returned offset is 16 -/
example : (parseSIPMsg afaMsg 0 (({} : PSIPMsg).init 0 none none) 0).1 = 16 ∧
    (parseSIPMsg afaMsg 0 (({} : PSIPMsg).init 0 none none) 0).2.1 = .ok ∧
    (parseSIPMsg afaMsg 0 (({} : PSIPMsg).init 0 none none) 0).2.2.pv.clen.parsed = true ∧
    (parseSIPMsg afaMsg 0 (({} : PSIPMsg).init 0 none none) 0).2.2.pv.clen.uiVal = 2 ∧
    (parseSIPMsg afaMsg 0 (({} : PSIPMsg).init 0 none none) 0).2.2.body = ⟨14, 2⟩ ∧
    (({} : PSIPMsg).init 0 none none).state = .init := by
  refine ⟨by decide +kernel, by decide +kernel, by decide +kernel, by decide +kernel, by decide +kernel, rfl⟩

/-- tests: the hypotheses of (B) are NOT redundant. Outside the domain — a list whose UNUSED slot holds a parameter
    suspended after a separator (no API call produces that), a header list whose unused slot is a header suspended in
    its From value while the values object says From is finished — the model-only exit is taken (the Go loop would go
    on with the stale element). `plClean` / `hlClean` / `hlsPend` exclude exactly this. -/
example : (parseAllURIParams #[97] 0 { params := #[{param := {state := .fNxt}}, {param := {state := .fNxt}}] } 0).2.2.1
    = .lbug := by decide +kernel
example : (parseAllURIHdrs #[97] 0 { hdrs := #[{state := .fNxt}, {state := .fNxt}] } 0).2.2.1 = .lbug := by
  decide +kernel
example : (parseHeaders #[97, 58, 98, 13, 10, 13, 10] 0 { hdrs := #[{ state := .hFrom }] }
    (some { from_ := { state := .fin } })).2.1 = .lbug := by decide +kernel

end Sipsp
