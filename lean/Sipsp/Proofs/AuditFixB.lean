/-
  Sipsp.Proofs.AuditFixB — strengthenings of C10 (A), C12 (B), C02 (C).  All statements are about the model.

  (A) C10, the RANGE half at run level (`uiVal` / `cseqNo` are unbounded `Nat` in the model; the exactness theorems only
      say "the number is the value of the reported digit string"): for any buffer, offset and verdict the number of the
      returned object fits 32 bits whenever that of the object passed in does; an accepted CSeq number field has at most
      10 bytes; after MoreBytes the invariants of the exactness theorems hold again on every extension of the buffer —
      hence "exact AND in range" for one call and for every chunk schedule from a new object. Conversely a digit string
      of value above 2^32-1 is rejected with NumTooBig at one of its digits WHATEVER follows (both digit loops are
      instances of `DigitAcc`), also when the call is resumed inside the number; on the canonical input "[spaces] digits
      CR LF non-continuation" ParseUIntVal / ParseCLenVal answer OK with exactly the value and the field iff in range.
      NOT proved: the canonical-input statement for CSeq (it needs the method part); a closed-form "input ⇒ NumTooBig"
      theorem for a CSeq number field longer than 10 digits (it is rejected at the end-of-header code and never accepted).
  (B) C12: Reset of every message object reachable by any history IS the new object of the same capacities, so every
      later call (chain of calls) returns what it returns on the new object — the retained buffer length is write-only;
      Init's result does not depend on the object and is the new object iff the arrays handed in are cleared (Init does
      not clear them: a test shows a stale entry being reported); the same for stand-alone PHdrVals / PContacts. For the
      `*x = T{}` types the model has NO Reset function (the driver's op `R` substitutes `{}`): those statements are
      definitional and say so. `afbUriParamsInit` / `afbUriHdrsInit` transcribe one-line Go functions the model lacks
      and are NOT covered by the differential check.
  (C) C02: ParseOnePAI, ParseFLine (exact equality), ParseAllContactValues, ParseAllPAIValues, ParseHdrLine, ParseHeaders
      under every chunk schedule; the `_from` versions start from any legitimate object, the others from new objects of
      any capacity (their hypotheses are thereby shown satisfiable).
-/
import Sipsp.Proofs.NumRun
import Sipsp.Proofs.Schedule
import Sipsp.Proofs.SigCompose
import Sipsp.Driver.Exec
import Sipsp.Proofs.ContactsL2
import Sipsp.Proofs.HeadersL2
import Sipsp.Proofs.FLine

namespace Sipsp

/-! ## (A) C10: the range half at RUN level -/

/-- 2^32 - 1 -/
def afbMaxU32 : Nat := 4294967295

/-! ### ParseUIntVal (= ParseExpiresVal): the number of the returned object never exceeds 2^32-1 -/

theorem afb_clEOH_uiVal (st : PUIntBody) (i n crl : Nat) : (clEOH st i n crl).2.2.uiVal = st.uiVal := by
  unfold clEOH
  cases st.state <;> rfl

theorem afb_clStep_u32 (b : Buf) (i : Nat) (c : UInt8) (st : PUIntBody) (hb : b[i]? = some c)
    (h : st.uiVal ≤ 4294967295) :
    StepAll2 (fun _ s => s.uiVal ≤ 4294967295) (fun _ _ s => s.uiVal ≤ 4294967295) (clStep b i c st) := by
  have hlt := get?_lt hb
  have key : ∀ s1 : PUIntBody, s1.uiVal ≤ 4294967295 →
      StepAll2 (fun _ s => s.uiVal ≤ 4294967295) (fun _ _ s => s.uiVal ≤ 4294967295) (lwsStd b i s1 clEOH id) := by
    intro s1 h1
    refine lwsStd_all2 b i s1 clEOH id _ _ (by omega) (fun _ _ _ => h1) (fun _ _ _ => h1)
      (fun n crl _ _ _ => ?_)
    rw [afb_clEOH_uiVal]; exact h1
  have hc := c.toNat_lt
  have t := clStep_tr b i c st
  generalize clStep b i c st = r at t ⊢
  cases t with
  | lws | lwsNum => exact key _ h
  | digit0 => show c.toNat - 48 ≤ 4294967295; omega
  | digit _ _ _ hv => show st.uiVal * 10 + (c.toNat - 48) ≤ 4294967295; omega
  | tooBig | bad | skip => exact h

/-- **ParseUIntVal (= ParseExpiresVal), any buffer, any offset, ANY verdict**: if the number held by the object passed
    in fits 32 bits (a new object: 0; an object returned by an earlier call: by this very theorem), so does the number
    of the returned object.  No wrapped value is ever stored. -/
theorem afb_parseUIntVal_u32 (b : Buf) (o : Nat) (st : PUIntBody) (h : st.uiVal ≤ 4294967295) :
    (parseUIntVal b o st).2.2.uiVal ≤ 4294967295 := by
  unfold parseUIntVal
  split
  · exact h
  · exact runLoop_safe2 clMachine b (fun _ s => s.uiVal ≤ 4294967295) (fun _ _ s => s.uiVal ≤ 4294967295) cl_progress
      (fun i c s hb hs => afb_clStep_u32 b i c s hb hs) (fun _ _ hs => hs) o st h

/-- OK ⇒ `uiVal ≤ 2^32-1` -/
theorem afb_uint_ok_le (b : Buf) (o : Nat) (st : PUIntBody) (h : st.uiVal ≤ 4294967295)
    {o' : Nat} {st' : PUIntBody} (hr : parseUIntVal b o st = (o', .ok, st')) : st'.uiVal ≤ 4294967295 := by
  have := afb_parseUIntVal_u32 b o st h
  rw [hr] at this; exact this

theorem afb_parseCLenVal_u32 (b : Buf) (o : Nat) (st : PUIntBody) (h : st.uiVal ≤ 4294967295) :
    (parseCLenVal b o st).2.2.uiVal ≤ 4294967295 := by
  rw [parseCLenVal_obj]; exact afb_parseUIntVal_u32 b o st h

/-! ### ParseCSeqVal: the number never exceeds 2^32-1 and an accepted digit string has at most 10 digits -/

theorem afb_csFinish_no (st : PCSeqBody) (b : Buf) (n crl : Nat) : (csFinish st b n crl).2.2.cseqNo = st.cseqNo := by
  unfold csFinish
  simp only
  split
  · rfl
  · split <;> rfl

theorem afb_csFinish_cseq (st : PCSeqBody) (b : Buf) (n crl : Nat) : (csFinish st b n crl).2.2.cseq = st.cseq := by
  unfold csFinish
  simp only
  split
  · rfl
  · split <;> rfl

/-- the end-of-header code accepts only a number field of at most 10 bytes and a number that fits 32 bits -/
theorem afb_csFinish_ok (st : PCSeqBody) (b : Buf) (n crl : Nat) (h : (csFinish st b n crl).2.1 = .ok) :
    st.cseq.len ≤ 10 ∧ st.cseqNo ≤ 4294967295 := by
  unfold csFinish at h
  simp only at h
  split at h
  · cases h
  · rename_i hn
    simp only [MaxCSeqNValueSize, Bool.or_eq_true, decide_eq_true_eq, not_or] at hn
    have h1 : ¬ st.cseq.len > 10 := by simpa using hn.1
    have h2 := hn.2
    exact ⟨by omega, by omega⟩

theorem afb_csEOH_no (b : Buf) (st : PCSeqBody) (i n crl : Nat) : (csEOH b st i n crl).2.2.cseqNo = st.cseqNo := by
  unfold csEOH
  cases st.state <;> simp only
  case fend => exact afb_csFinish_no st b n crl
  case foundMethod => rw [afb_csFinish_no]; rfl

theorem afb_csEOH_ok (b : Buf) (st : PCSeqBody) (i n crl : Nat) (h : (csEOH b st i n crl).2.1 = .ok) :
    (csEOH b st i n crl).2.2.cseq.len ≤ 10 ∧ (csEOH b st i n crl).2.2.cseqNo ≤ 4294967295 := by
  unfold csEOH at h ⊢
  cases hst : st.state <;> simp only [hst] at h ⊢
  case fend =>
    rw [afb_csFinish_no, afb_csFinish_cseq]; exact afb_csFinish_ok st b n crl h
  case foundMethod =>
    rw [afb_csFinish_no, afb_csFinish_cseq]; exact afb_csFinish_ok _ b n crl h
  all_goals cases h

/-- what every exit of the CSeq loop guarantees -/
def AfbCsT (e : Err) (s : PCSeqBody) : Prop :=
  s.cseqNo ≤ 4294967295 ∧ (e = .ok → s.cseq.len ≤ 10)

theorem afb_csStep_u32 (b : Buf) (i : Nat) (c : UInt8) (st : PCSeqBody) (hb : b[i]? = some c)
    (h : st.cseqNo ≤ 4294967295) :
    StepAll2 (fun _ s => s.cseqNo ≤ 4294967295) (fun _ e s => AfbCsT e s) (csStep b i c st) := by
  have hlt := get?_lt hb
  have key : ∀ s1 : PCSeqBody, s1.cseqNo ≤ 4294967295 →
      StepAll2 (fun _ s => s.cseqNo ≤ 4294967295) (fun _ e s => AfbCsT e s) (lwsStd b i s1 (csEOH b) id) := by
    intro s1 h1
    refine lwsStd_all2 b i s1 (csEOH b) id _ _ (by omega) (fun _ _ _ => h1)
      (fun _ _ _ => ⟨h1, (fun hh => by cases hh)⟩)
      (fun n crl _ _ _ => ⟨?_, fun hh => (afb_csEOH_ok b s1 i n crl hh).1⟩)
    rw [afb_csEOH_no]; exact h1
  have hc := c.toNat_lt
  have t := csStep_tr b i c st
  generalize csStep b i c st = r at t ⊢
  cases t with
  | lws | lwsNum | lwsMeth => exact key _ h
  | digit0 => show c.toNat - 48 ≤ 4294967295; omega
  | digit _ _ _ hv => show st.cseqNo * 10 + (c.toNat - 48) ≤ 4294967295; omega
  | tooBig | bad => exact ⟨h, fun hh => by cases hh⟩
  | meth0 | skip => exact h
/-- **ParseCSeqVal, any buffer, any offset, any verdict**: the number of the returned object fits 32 bits whenever the
    number of the object passed in does; and after OK the reported number field has at most 10 bytes.  The only
    hypothesis on a FINISHED object passed in again (the call then returns it unchanged) is that it has these
    properties itself — as every finished object returned by this function has. -/
theorem afb_parseCSeqVal_range (b : Buf) (o : Nat) (st : PCSeqBody) (h : st.cseqNo ≤ 4294967295)
    (hfin : st.state = .fin → st.cseq.len ≤ 10) :
    (parseCSeqVal b o st).2.2.cseqNo ≤ 4294967295 ∧
      ((parseCSeqVal b o st).2.1 = .ok → (parseCSeqVal b o st).2.2.cseq.len ≤ 10) := by
  unfold parseCSeqVal
  split
  · rename_i hf; exact ⟨h, fun _ => hfin hf⟩
  · exact runLoop_safe2 csMachine b (fun _ s => s.cseqNo ≤ 4294967295) (fun _ e s => AfbCsT e s) cs_progress
      (fun i c s hb hs => afb_csStep_u32 b i c s hb hs) (fun _ _ hs => ⟨hs, (fun hh => by cases hh)⟩) o st h

/-- OK ⇒ `cseqNo ≤ 2^32-1` and `cseq.len ≤ 10` -/
theorem afb_cseq_ok_le (b : Buf) (o : Nat) (st : PCSeqBody) (h : st.cseqNo ≤ 4294967295)
    (hfin : st.state = .fin → st.cseq.len ≤ 10)
    {o' : Nat} {st' : PCSeqBody} (hr : parseCSeqVal b o st = (o', .ok, st')) :
    st'.cseqNo ≤ 4294967295 ∧ st'.cseq.len ≤ 10 := by
  have := afb_parseCSeqVal_range b o st h hfin
  rw [hr] at this; exact ⟨this.1, this.2 rfl⟩

/-! ### the invariants `ClNum` / `CsNum` of the exactness theorems are re-established at every suspension -/

theorem afb_NumDone_app {b : Buf} {fld : PField} {v : Nat} (s : Buf) (h : NumDone b fld v) : NumDone (b ++ s) fld v := by
  obtain ⟨x, e, h1, h2, h3, h4, h5⟩ := h
  refine ⟨x, e, h1, h2, by rw [Array.size_append]; omega, ?_, ?_⟩
  · rw [digitsOf_app b s x e h3]; exact h4
  · rw [digitsOf_app b s x e h3]; exact h5

theorem afb_ClNum_app {b : Buf} {i : Nat} {st : PUIntBody} (s : Buf) (hi : i ≤ b.size) (h : ClNum b i st) :
    ClNum (b ++ s) i st := by
  refine ⟨fun hf => ?_, fun hd => afb_NumDone_app s (h.done hd)⟩
  rw [digitsOf_app b s _ i hi]; exact h.found hf

theorem afb_CsNum_app {b : Buf} {i : Nat} {st : PCSeqBody} (s : Buf) (hi : i ≤ b.size) (h : CsNum b i st) :
    CsNum (b ++ s) i st := by
  refine ⟨fun hf => ?_, fun hd => afb_NumDone_app s (h.done hd)⟩
  rw [digitsOf_app b s _ i hi]; exact h.found hf

/-- **ParseUIntVal suspended**: after MoreBytes the returned object satisfies `ClNum` at the returned offset — on the
    buffer that was parsed and on every extension of it — the offset lies inside the buffer and the object is not
    finished: the hypotheses of `uint_value_exact` / `clen_value_exact` for the resumed call. -/
theorem afb_uint_more_inv (b s : Buf) (o : Nat) (st : PUIntBody) (hfit : b.size ≤ 65535) (ho : o ≤ b.size)
    (h : ClNum b o st) {o' : Nat} {st' : PUIntBody} (hr : parseUIntVal b o st = (o', .moreBytes, st')) :
    ClNum (b ++ s) o' st' ∧ o' ≤ b.size ∧ st'.state ≠ .fin := by
  unfold parseUIntVal at hr
  split at hr
  · cases hr
  · rename_i hnf
    have := parseUIntVal_exit b o st hfit ho h hnf
    rw [hr] at this
    obtain ⟨a1, a2, a3⟩ := this.2 rfl
    exact ⟨afb_ClNum_app s a1 a2, a1, a3⟩

theorem afb_clen_more_inv (b s : Buf) (o : Nat) (st : PUIntBody) (hfit : b.size ≤ 65535) (ho : o ≤ b.size)
    (h : ClNum b o st) {o' : Nat} {st' : PUIntBody} (hr : parseCLenVal b o st = (o', .moreBytes, st')) :
    ClNum (b ++ s) o' st' ∧ o' ≤ b.size ∧ st'.state ≠ .fin :=
  afb_uint_more_inv b s o st hfit ho h (parseCLenVal_under' b o st hr (fun hh => by cases hh))

/-- **ParseCSeqVal suspended**: after MoreBytes the returned object satisfies `CsNum` at the returned offset (on the
    parsed buffer and on every extension), the offset lies inside the buffer and the object is not finished: the
    hypotheses of `cseq_value_exact` for the resumed call. -/
theorem afb_cseq_more_inv (b s : Buf) (o : Nat) (st : PCSeqBody) (hfit : b.size ≤ 65535) (ho : o ≤ b.size)
    (h : CsNum b o st) {o' : Nat} {st' : PCSeqBody} (hr : parseCSeqVal b o st = (o', .moreBytes, st')) :
    CsNum (b ++ s) o' st' ∧ o' ≤ b.size ∧ st'.state ≠ .fin := by
  unfold parseCSeqVal at hr
  split at hr
  · cases hr
  · rename_i hnf
    have := parseCSeqVal_exit b o st hfit ho h hnf
    rw [hr] at this
    obtain ⟨a1, a2, a3⟩ := this.2 rfl
    exact ⟨afb_CsNum_app s a1 a2, a1, a3⟩

/-! ### the converse: a digit string whose value exceeds 2^32-1 is REJECTED with the number-too-big verdict -/

/-! #### the decimal accumulator, for both digit loops

  `DigitAcc m val fresh inNum start upd`: what the loop body of `m` does around a number.  On an object that has not met
  the number (`fresh`) leading spaces / tabs are skipped and the first digit `d` opens the number (`start st i d`); inside
  the number (`inNum`) a digit either overflows 2^32-1 (NumTooBig on the spot) or is accumulated (`upd`). -/

/-- every byte of `[o, i)` is a space or a tab -/
def AfbWsRun (b : Buf) (o i : Nat) : Prop := ∀ k, o ≤ k → k < i → ∃ w, b[k]? = some w ∧ isWS w = true

structure DigitAcc {σ : Type} (m : Machine σ) (val : σ → Nat) (fresh inNum : σ → Prop) (start : σ → Nat → Nat → σ)
    (upd : σ → Nat → σ) : Prop where
  ws : ∀ b o i c st, fresh st → Lws b o i → b[i]? = some c → IsDigitB c → runLoop m b o st = runLoop m b i st
  first : ∀ b i c st, IsDigitB c → fresh st → m.step b i c st = .cont (i + 1) (start st i (c.toNat - 48))
  inNum_start : ∀ st i d, inNum (start st i d)
  val_start : ∀ st i d, val (start st i d) = d
  step : ∀ b i c st, IsDigitB c → inNum st →
    m.step b i c st = if val st * 10 + dval c > 4294967295 then Step.done i Err.numTooBig st
      else Step.cont (i + 1) (upd st (val st * 10 + dval c))
  inNum_upd : ∀ st v, inNum st → inNum (upd st v)
  val_upd : ∀ st v, val (upd st v) = v
  upd_upd : ∀ st v w, upd (upd st v) w = upd st w
  upd_val : ∀ st, upd st (val st) = st

namespace DigitAcc

variable {σ : Type} {m : Machine σ} {val : σ → Nat} {fresh inNum : σ → Prop} {start : σ → Nat → Nat → σ}
  {upd : σ → Nat → σ} (A : DigitAcc m val fresh inNum start upd)
include A

/-- inside the number, the bytes `[i, e)` being digits: if they push the value above 2^32-1 the loop stops at one of
    them with NumTooBig; otherwise it runs through all of them, accumulating the value -/
theorem run (b : Buf) (e : Nat) :
    ∀ (k i : Nat) (st : σ), e - i = k → i ≤ e → e ≤ b.size → inNum st → AllDigits (digitsOf b i e) →
      (val st ≤ 4294967295 → decFrom (val st) (digitsOf b i e) > 4294967295 →
        ∃ j st', i ≤ j ∧ j < e ∧ runLoop m b i st = (j, .numTooBig, st')) ∧
      (decFrom (val st) (digitsOf b i e) ≤ 4294967295 →
        runLoop m b i st = runLoop m b e (upd st (decFrom (val st) (digitsOf b i e)))) := by
  intro k
  induction k with
  | zero =>
    intro i st hk hie he hs hd
    have : i = e := by omega
    subst this
    rw [digitsOf_self, decFrom_nil, A.upd_val]
    exact ⟨fun hv h => absurd hv (by omega), fun _ => rfl⟩
  | succ k ih =>
    intro i st hk hie he hs hd
    have hlt : i < b.size := by omega
    have hb : b[i]? = some b[i] := Array.getElem?_eq_getElem hlt
    rw [digitsOf_cons b i e b[i] hb (by omega)] at hd ⊢
    have hc : IsDigitB b[i] := hd _ List.mem_cons_self
    have hstep := A.step b i b[i] st hc hs
    rw [decFrom_cons]
    have hge := decFrom_ge (val st * 10 + dval b[i]) (digitsOf b (i + 1) e)
    by_cases hov : val st * 10 + dval b[i] > 4294967295
    · rw [if_pos hov] at hstep
      exact ⟨fun _ _ => ⟨i, st, Nat.le_refl _, by omega, runLoop_done m hb hstep⟩, fun h => by omega⟩
    · rw [if_neg hov] at hstep
      have hrun := runLoop_cont_lt m hb hstep (Nat.lt_succ_self i)
      have h := ih (i + 1) (upd st (val st * 10 + dval b[i])) (by omega) (by omega) he (A.inNum_upd _ _ hs)
        (fun x hx => hd x (List.mem_cons_of_mem _ hx))
      rw [A.val_upd, A.upd_upd] at h
      refine ⟨fun _ hbig => ?_, fun hfit => by rw [hrun]; exact h.2 hfit⟩
      obtain ⟨j, st', a1, a2, a3⟩ := h.1 (by omega) hbig
      exact ⟨j, st', by omega, a2, by rw [hrun]; exact a3⟩

theorem first_digit (b : Buf) (i : Nat) (c : UInt8) (st : σ) (hs : fresh st) (hb : b[i]? = some c) (hc : IsDigitB c) :
    runLoop m b i st = runLoop m b (i + 1) (start st i (c.toNat - 48)) :=
  runLoop_cont_lt m hb (A.first b i c st hc hs) (Nat.lt_succ_self i)

/-- an object that has not met the number yet; optional spaces / tabs `[o, i)`, then digits `[i, e)` of value above
    2^32-1: NumTooBig at one of the digits, whatever follows them -/
theorem big_rejected_ws (b : Buf) (o i e : Nat) (st : σ) (hs : fresh st) (hoi : o ≤ i) (hws : AfbWsRun b o i)
    (hie : i < e) (he : e ≤ b.size) (hd : AllDigits (digitsOf b i e)) (hbig : decOf (digitsOf b i e) > 4294967295) :
    ∃ j st', i < j ∧ j < e ∧ runLoop m b o st = (j, .numTooBig, st') := by
  have hb : b[i]? = some b[i] := Array.getElem?_eq_getElem (by omega)
  rw [digitsOf_cons b i e b[i] hb hie] at hd hbig
  have hc : IsDigitB b[i] := hd _ List.mem_cons_self
  rw [decOf, decFrom_cons, dval_def] at hbig
  have h9 := hc.2
  obtain ⟨j, st', a1, a2, a3⟩ := (A.run b e (e - (i + 1)) (i + 1) (start st i (b[i].toNat - 48)) rfl (by omega) he
    (A.inNum_start _ _ _) (fun x hx => hd x (List.mem_cons_of_mem _ hx))).1
    (by rw [A.val_start]; omega) (by rw [A.val_start]; simpa using hbig)
  exact ⟨j, st', by omega, a2, by rw [A.ws b o i b[i] st hs (Lws.of_span hws hoi) hb hc, A.first_digit b i b[i] st hs hb hc]; exact a3⟩

end DigitAcc

/-- the loop of ParseUIntVal (= ParseExpiresVal) -/
theorem clAcc : DigitAcc clMachine (·.uiVal) (·.state = .init) (·.state = .found)
    (fun st i d => { st with state := .found, soffs := i, uiVal := d }) (fun st v => { st with uiVal := v }) where
  ws b o i c st hs hl hc hcd := runLoop_skip_lws clMachine b st clEOH id hl hc
    (isDigit_not_lws ((isDigit_iff _).2 hcd)) (fun c' hc' => clStep_lws b o c' st hc' (Or.inl hs))
  first b i c st hc hs := by
    exact (ClTr.digit0 (isDigit_not_lws ((isDigit_iff _).2 hc)) ((isDigit_iff _).2 hc) hs).eq
  inNum_start _ _ _ := rfl
  val_start _ _ _ := rfl
  step b i c st hc hs := by
    show clStep b i c st = _
    unfold clStep
    rw [isDigit_not_lws ((isDigit_iff _).2 hc), (isDigit_iff _).2 hc, hs, dval_def]
    simp only [Bool.false_eq_true, if_false, if_true]
  inNum_upd _ _ h := h
  val_upd _ _ := rfl
  upd_upd _ _ _ := rfl
  upd_val st := by cases st; rfl

/-- the loop of ParseCSeqVal -/
theorem csAcc : DigitAcc csMachine (·.cseqNo) (·.state = .init) (·.state = .foundDigit)
    (fun st i d => { st with state := .foundDigit, soffs := i, cseqNo := d }) (fun st v => { st with cseqNo := v }) where
  ws b o i c st hs hl hc hcd := runLoop_skip_lws csMachine b st (csEOH b) id hl hc
    (isDigit_not_lws ((isDigit_iff _).2 hcd)) (fun c' hc' => csStep_lws b o c' st hc' (Or.inl hs))
  first b i c st hc hs := by
    exact (CsTr.digit0 (isDigit_not_lws ((isDigit_iff _).2 hc)) ((isDigit_iff _).2 hc) hs).eq
  inNum_start _ _ _ := rfl
  val_start _ _ _ := rfl
  step b i c st hc hs := by
    show csStep b i c st = _
    unfold csStep
    rw [isDigit_not_lws ((isDigit_iff _).2 hc), (isDigit_iff _).2 hc, hs, dval_def]
    simp only [Bool.false_eq_true, if_false, if_true]
  inNum_upd _ _ h := h
  val_upd _ _ := rfl
  upd_upd _ _ _ := rfl
  upd_val st := by cases st; rfl

/-- **ParseUIntVal resumed (or called) inside a number**: the object is in the middle of a digit string that began at
    `st.soffs` (`ClNum`), the bytes `[i, e)` are further digits, and the value of the whole string `[st.soffs, e)`
    exceeds 2^32-1: the call is rejected with NumTooBig at one of these digits, whatever follows. -/
theorem afb_uint_big_resumed (b : Buf) (i e : Nat) (st : PUIntBody) (hs : st.state = .found) (h : ClNum b i st)
    (hv : st.uiVal ≤ 4294967295) (hie : i ≤ e) (he : e ≤ b.size) (hd : AllDigits (digitsOf b i e))
    (hbig : decOf (digitsOf b st.soffs e) > 4294967295) :
    ∃ j st', i ≤ j ∧ j < e ∧ parseUIntVal b i st = (j, .numTooBig, st') := by
  obtain ⟨h1, _, h3⟩ := h.found hs
  unfold parseUIntVal
  rw [if_neg (by rw [hs]; decide)]
  refine (clAcc.run b e (e - i) i st rfl hie he hs hd).1 hv ?_
  rw [digitsOf_split b st.soffs i e (by omega) hie, decOf, decFrom_append, ← decOf, ← h3] at hbig
  exact hbig

/-- **ParseUIntVal, new object, optional leading spaces / tabs, then a digit string of value above 2^32-1**: rejected
    with NumTooBig at one of the digits, whatever follows them -/
theorem afb_uint_big_rejected_ws (b : Buf) (o i e : Nat) (st : PUIntBody) (hs : st.state = .init) (hoi : o ≤ i)
    (hws : AfbWsRun b o i) (hie : i < e) (he : e ≤ b.size) (hd : AllDigits (digitsOf b i e))
    (hbig : decOf (digitsOf b i e) > 4294967295) :
    ∃ j st', i < j ∧ j < e ∧ parseUIntVal b o st = (j, .numTooBig, st') := by
  unfold parseUIntVal
  rw [if_neg (by rw [hs]; decide)]
  exact clAcc.big_rejected_ws b o i e st hs hoi hws hie he hd hbig

/-- … called at the first digit -/
theorem afb_uint_big_rejected (b : Buf) (o e : Nat) (st : PUIntBody) (hs : st.state = .init) (hoe : o < e)
    (he : e ≤ b.size) (hd : AllDigits (digitsOf b o e)) (hbig : decOf (digitsOf b o e) > 4294967295) :
    ∃ j st', o < j ∧ j < e ∧ parseUIntVal b o st = (j, .numTooBig, st') :=
  afb_uint_big_rejected_ws b o o e st hs (Nat.le_refl _) (fun _ h1 h2 => absurd h2 (by omega)) hoe he hd hbig

/-- ParseCLenVal passes the verdict on -/
theorem afb_clen_big_rejected_ws (b : Buf) (o i e : Nat) (st : PUIntBody) (hs : st.state = .init) (hoi : o ≤ i)
    (hws : AfbWsRun b o i) (hie : i < e) (he : e ≤ b.size) (hd : AllDigits (digitsOf b i e))
    (hbig : decOf (digitsOf b i e) > 4294967295) :
    ∃ j st', i < j ∧ j < e ∧ parseCLenVal b o st = (j, .numTooBig, st') := by
  obtain ⟨j, st', a1, a2, a3⟩ := afb_uint_big_rejected_ws b o i e st hs hoi hws hie he hd hbig
  exact ⟨j, st', a1, a2, parseCLenVal_of_uint a3 (fun hh => by cases hh)⟩

/-- **ParseCSeqVal resumed (or called) inside the number**: see `afb_uint_big_resumed` -/
theorem afb_cseq_big_resumed (b : Buf) (i e : Nat) (st : PCSeqBody) (hs : st.state = .foundDigit) (h : CsNum b i st)
    (hv : st.cseqNo ≤ 4294967295) (hie : i ≤ e) (he : e ≤ b.size) (hd : AllDigits (digitsOf b i e))
    (hbig : decOf (digitsOf b st.soffs e) > 4294967295) :
    ∃ j st', i ≤ j ∧ j < e ∧ parseCSeqVal b i st = (j, .numTooBig, st') := by
  obtain ⟨h1, _, h3⟩ := h.found hs
  unfold parseCSeqVal
  rw [if_neg (by rw [hs]; decide)]
  refine (csAcc.run b e (e - i) i st rfl hie he hs hd).1 hv ?_
  rw [digitsOf_split b st.soffs i e (by omega) hie, decOf, decFrom_append, ← decOf, ← h3] at hbig
  exact hbig

/-- **ParseCSeqVal, new object, optional leading spaces / tabs, then a digit string of value above 2^32-1**: rejected
    with NumTooBig at one of the digits, whatever follows them (method or not) -/
theorem afb_cseq_big_rejected_ws (b : Buf) (o i e : Nat) (st : PCSeqBody) (hs : st.state = .init) (hoi : o ≤ i)
    (hws : AfbWsRun b o i) (hie : i < e) (he : e ≤ b.size) (hd : AllDigits (digitsOf b i e))
    (hbig : decOf (digitsOf b i e) > 4294967295) :
    ∃ j st', i < j ∧ j < e ∧ parseCSeqVal b o st = (j, .numTooBig, st') := by
  unfold parseCSeqVal
  rw [if_neg (by rw [hs]; decide)]
  exact csAcc.big_rejected_ws b o i e st hs hoi hws hie he hd hbig

theorem afb_cseq_big_rejected (b : Buf) (o e : Nat) (st : PCSeqBody) (hs : st.state = .init) (hoe : o < e)
    (he : e ≤ b.size) (hd : AllDigits (digitsOf b o e)) (hbig : decOf (digitsOf b o e) > 4294967295) :
    ∃ j st', o < j ∧ j < e ∧ parseCSeqVal b o st = (j, .numTooBig, st') :=
  afb_cseq_big_rejected_ws b o o e st hs (Nat.le_refl _) (fun _ h1 h2 => absurd h2 (by omega)) hoe he hd hbig

/-! ### packaged: "exact AND in range", for new or legitimately suspended objects, and for every chunk schedule -/

/-- what a caller may legitimately pass to ParseUIntVal / ParseCLenVal: an offset inside the buffer and an object that
    is new (`afb_ClLegit_new`) or was returned with MoreBytes by a call on a prefix of the buffer (`afb_uint_more_legit`) -/
def AfbClLegit (b : Buf) (o : Nat) (st : PUIntBody) : Prop := o ≤ b.size ∧ ClNum b o st ∧ st.uiVal ≤ 4294967295

theorem afb_ClLegit_new (b : Buf) (o : Nat) (ho : o ≤ b.size) : AfbClLegit b o {} :=
  ⟨ho, ClNum_new b o, Nat.zero_le _⟩

/-- **C10 for ParseUIntVal (= ParseExpiresVal) at run level**: after OK the reported field is a non-empty digit string
    of the buffer, the reported number is exactly its decimal value, and it does not exceed 2^32-1 -/
theorem afb_uint_exact_in_range (b : Buf) (o : Nat) (st : PUIntBody) (hfit : b.size ≤ 65535) (h : AfbClLegit b o st)
    {o' : Nat} {st' : PUIntBody} (hr : parseUIntVal b o st = (o', .ok, st')) :
    NumDone b st'.sVal st'.uiVal ∧ st'.uiVal ≤ 4294967295 :=
  ⟨parseUIntVal_exact b o st hfit h.1 h.2.1 hr, afb_uint_ok_le b o st h.2.2 hr⟩

theorem afb_uint_more_legit (b s : Buf) (o : Nat) (st : PUIntBody) (hfit : b.size ≤ 65535) (h : AfbClLegit b o st)
    {o' : Nat} {st' : PUIntBody} (hr : parseUIntVal b o st = (o', .moreBytes, st')) : AfbClLegit (b ++ s) o' st' := by
  obtain ⟨a1, a2, _⟩ := afb_uint_more_inv b s o st hfit h.1 h.2.1 hr
  refine ⟨by rw [Array.size_append]; omega, a1, ?_⟩
  have := afb_parseUIntVal_u32 b o st h.2.2
  rw [hr] at this; exact this

/-- **C10 for ParseCLenVal at run level**: exact, at most 9 digits, at most 2^24 -/
theorem afb_clen_exact_in_range (b : Buf) (o : Nat) (st : PUIntBody) (hfit : b.size ≤ 65535) (h : AfbClLegit b o st)
    {o' : Nat} {st' : PUIntBody} (hr : parseCLenVal b o st = (o', .ok, st')) :
    NumDone b st'.sVal st'.uiVal ∧ st'.uiVal ≤ 16777216 ∧ st'.sVal.len ≤ 9 :=
  ⟨parseCLenVal_exact b o st hfit h.1 h.2.1 hr, (parseCLenVal_ok_range hr).2, (parseCLenVal_ok_range hr).1⟩

theorem afb_clen_more_legit (b s : Buf) (o : Nat) (st : PUIntBody) (hfit : b.size ≤ 65535) (h : AfbClLegit b o st)
    {o' : Nat} {st' : PUIntBody} (hr : parseCLenVal b o st = (o', .moreBytes, st')) : AfbClLegit (b ++ s) o' st' := by
  obtain ⟨a1, a2, _⟩ := afb_clen_more_inv b s o st hfit h.1 h.2.1 hr
  refine ⟨by rw [Array.size_append]; omega, a1, ?_⟩
  have := afb_parseCLenVal_u32 b o st h.2.2
  rw [hr] at this; exact this

/-- what a caller may legitimately pass to ParseCSeqVal (not a finished object: passing one again returns it
    unchanged, see `finished_cseq`) -/
def AfbCsLegit (b : Buf) (o : Nat) (st : PCSeqBody) : Prop :=
  o ≤ b.size ∧ CsNum b o st ∧ st.cseqNo ≤ 4294967295 ∧ st.state ≠ .fin

theorem afb_CsLegit_new (b : Buf) (o : Nat) (ho : o ≤ b.size) : AfbCsLegit b o {} :=
  ⟨ho, CsNum_new b o, Nat.zero_le _, (fun hh => by cases hh)⟩

/-- **C10 for ParseCSeqVal at run level**: after OK the reported number field is a non-empty digit string of the
    buffer of at most 10 digits, the reported number is exactly its decimal value, and it does not exceed 2^32-1 -/
theorem afb_cseq_exact_in_range (b : Buf) (o : Nat) (st : PCSeqBody) (hfit : b.size ≤ 65535) (h : AfbCsLegit b o st)
    {o' : Nat} {st' : PCSeqBody} (hr : parseCSeqVal b o st = (o', .ok, st')) :
    NumDone b st'.cseq st'.cseqNo ∧ st'.cseqNo ≤ 4294967295 ∧ st'.cseq.len ≤ 10 :=
  ⟨parseCSeqVal_exact b o st hfit h.1 h.2.1 (fun hf => absurd hf h.2.2.2) hr,
   afb_cseq_ok_le b o st h.2.2.1 (fun hf => absurd hf h.2.2.2) hr⟩

theorem afb_cseq_more_legit (b s : Buf) (o : Nat) (st : PCSeqBody) (hfit : b.size ≤ 65535) (h : AfbCsLegit b o st)
    {o' : Nat} {st' : PCSeqBody} (hr : parseCSeqVal b o st = (o', .moreBytes, st')) : AfbCsLegit (b ++ s) o' st' := by
  obtain ⟨a1, a2, a3⟩ := afb_cseq_more_inv b s o st hfit h.1 h.2.1 hr
  refine ⟨by rw [Array.size_append]; omega, a1, ?_, a3⟩
  have := (afb_parseCSeqVal_range b o st h.2.2.1 (fun hf => absurd hf h.2.2.2)).1
  rw [hr] at this; exact this

/-- the schedule form of a pair "what OK guarantees from a legitimate state" / "MoreBytes re-establishes legitimacy on
    every extension" (buffers within the 65,535-byte limit): what the chain of resumed calls guarantees when it ends
    with OK, relative to the buffer of the call that finished -/
theorem afb_schedule_ok {σ : Type} (P : Parser σ) (Legit : Buf → Nat → σ → Prop) (Q : Buf → σ → Prop)
    (hok : ∀ b o st, b.size ≤ 65535 → Legit b o st → ∀ {o' st'}, P b o st = (o', .ok, st') → Q b st')
    (hmore : ∀ b s o st, b.size ≤ 65535 → Legit b o st → ∀ {o' st'}, P b o st = (o', .moreBytes, st') →
      Legit (b ++ s) o' st')
    (o : Nat) (st : σ) (l : List Buf) (hg : Growing l) (hfit : ∀ x ∈ l, x.size ≤ 65535) (hne : l ≠ [])
    (h0 : ∀ b ∈ l.head?, Legit b o st) {o' : Nat} {st' : σ} (hr : resumeRun P o st l = (o', .ok, st')) :
    ∃ b ∈ l, Q b st' := by
  have := afb_resumeRun_post P Legit (fun b r => r.2.1 = .ok → Q b r.2.2) (fun b => b.size ≤ 65535)
    (fun b o st hC hI => ⟨fun he => hok b o st hC hI (o' := (P b o st).1) (by rw [← he]),
      fun he s => hmore b s o st hC hI (by rw [← he])⟩) o st l hg hfit hne h0
  rw [hr] at this
  obtain ⟨b, hb, hq⟩ := this
  exact ⟨b, hb, hq rfl⟩

/-- **ParseUIntVal under every chunk schedule from a new object**: if the chain of resumed calls ends with OK, the
    reported field is a digit string of the buffer of the call that finished, the number is its exact value, ≤ 2^32-1 -/
theorem afb_uint_schedule (o : Nat) (l : List Buf) (hg : Growing l) (hfit : ∀ x ∈ l, x.size ≤ 65535) (hne : l ≠ [])
    (h0 : ∀ b ∈ l.head?, o ≤ b.size) {o' : Nat} {st' : PUIntBody}
    (hr : resumeRun parseUIntVal o {} l = (o', .ok, st')) :
    ∃ b ∈ l, NumDone b st'.sVal st'.uiVal ∧ st'.uiVal ≤ 4294967295 :=
  afb_schedule_ok parseUIntVal AfbClLegit (fun b st' => NumDone b st'.sVal st'.uiVal ∧ st'.uiVal ≤ 4294967295)
    (fun b o st hC hI _ _ h => afb_uint_exact_in_range b o st hC hI h)
    (fun b s o st hC hI _ _ h => afb_uint_more_legit b s o st hC hI h)
    o {} l hg hfit hne (fun b hb => afb_ClLegit_new b o (h0 b hb)) hr

theorem afb_clen_schedule (o : Nat) (l : List Buf) (hg : Growing l) (hfit : ∀ x ∈ l, x.size ≤ 65535) (hne : l ≠ [])
    (h0 : ∀ b ∈ l.head?, o ≤ b.size) {o' : Nat} {st' : PUIntBody}
    (hr : resumeRun parseCLenVal o {} l = (o', .ok, st')) :
    ∃ b ∈ l, NumDone b st'.sVal st'.uiVal ∧ st'.uiVal ≤ 16777216 ∧ st'.sVal.len ≤ 9 :=
  afb_schedule_ok parseCLenVal AfbClLegit
    (fun b st' => NumDone b st'.sVal st'.uiVal ∧ st'.uiVal ≤ 16777216 ∧ st'.sVal.len ≤ 9)
    (fun b o st hC hI _ _ h => afb_clen_exact_in_range b o st hC hI h)
    (fun b s o st hC hI _ _ h => afb_clen_more_legit b s o st hC hI h)
    o {} l hg hfit hne (fun b hb => afb_ClLegit_new b o (h0 b hb)) hr

theorem afb_cseq_schedule (o : Nat) (l : List Buf) (hg : Growing l) (hfit : ∀ x ∈ l, x.size ≤ 65535) (hne : l ≠ [])
    (h0 : ∀ b ∈ l.head?, o ≤ b.size) {o' : Nat} {st' : PCSeqBody}
    (hr : resumeRun parseCSeqVal o {} l = (o', .ok, st')) :
    ∃ b ∈ l, NumDone b st'.cseq st'.cseqNo ∧ st'.cseqNo ≤ 4294967295 ∧ st'.cseq.len ≤ 10 :=
  afb_schedule_ok parseCSeqVal AfbCsLegit
    (fun b st' => NumDone b st'.cseq st'.cseqNo ∧ st'.cseqNo ≤ 4294967295 ∧ st'.cseq.len ≤ 10)
    (fun b o st hC hI _ _ h => afb_cseq_exact_in_range b o st hC hI h)
    (fun b s o st hC hI _ _ h => afb_cseq_more_legit b s o st hC hI h)
    o {} l hg hfit hne (fun b hb => afb_CsLegit_new b o (h0 b hb)) hr

/-! ### (A) tests / non-vacuity: the general theorems instantiated on concrete inputs (closed computations by
    `decide +kernel`; these are examples, not the general claims) -/

/-- "  4711 CRLF X" -/
def afbBufClen : Buf := #[32, 32, 52, 55, 49, 49, 13, 10, 88]
/-- "42 INVITE CRLF X" -/
def afbBufCSeq : Buf := #[52, 50, 32, 73, 78, 86, 73, 84, 69, 13, 10, 88]
/-- " 4294967296 CRLF X": 2^32 -/
def afbBufBig : Buf := #[32, 52, 50, 57, 52, 57, 54, 55, 50, 57, 54, 13, 10, 88]

/-- test: `uint_value_exact` (`parseUIntVal_exact`) + range on a concrete run from a new object -/
example : NumDone afbBufClen ⟨2, 4⟩ 4711 ∧ 4711 ≤ 4294967295 := by
  have hr : parseUIntVal afbBufClen 0 {} = (8, .ok, { uiVal := 4711, sVal := ⟨2, 4⟩, state := .fin }) := by
    decide +kernel
  exact afb_uint_exact_in_range afbBufClen 0 {} (by decide) (afb_ClLegit_new _ 0 (by decide)) hr

/-- test: `clen_value_exact` (`parseCLenVal_exact`) + range -/
example : NumDone afbBufClen ⟨2, 4⟩ 4711 ∧ 4711 ≤ 16777216 ∧ (⟨2, 4⟩ : PField).len ≤ 9 := by
  have hr : parseCLenVal afbBufClen 0 {} = (8, .ok, { uiVal := 4711, sVal := ⟨2, 4⟩, state := .fin }) := by
    decide +kernel
  exact afb_clen_exact_in_range afbBufClen 0 {} (by decide) (afb_ClLegit_new _ 0 (by decide)) hr

/-- test: `cseq_value_exact` (`parseCSeqVal_exact`) + range -/
example : NumDone afbBufCSeq (parseCSeqVal afbBufCSeq 0 {}).2.2.cseq 42 := by
  have hr : parseCSeqVal afbBufCSeq 0 {} = (11, .ok, (parseCSeqVal afbBufCSeq 0 {}).2.2) := by decide +kernel
  have hv : (parseCSeqVal afbBufCSeq 0 {}).2.2.cseqNo = 42 := by decide +kernel
  have := (afb_cseq_exact_in_range afbBufCSeq 0 {} (by decide) (afb_CsLegit_new _ 0 (by decide)) hr).1
  rw [hv] at this; exact this

/-- test: a suspended object ("  47", then the rest): the resumed call meets the hypotheses by `afb_clen_more_legit` -/
example : NumDone afbBufClen ⟨2, 4⟩ 4711 ∧ 4711 ≤ 16777216 ∧ (⟨2, 4⟩ : PField).len ≤ 9 := by
  have h1 : parseCLenVal #[32, 32, 52, 55] 0 {} = (4, .moreBytes, { uiVal := 47, state := .found, soffs := 2 }) := by
    decide +kernel
  have hl := afb_clen_more_legit #[32, 32, 52, 55] #[49, 49, 13, 10, 88] 0 {} (by decide) (afb_ClLegit_new _ 0 (by decide)) h1
  have h2 : parseCLenVal (#[32, 32, 52, 55] ++ #[49, 49, 13, 10, 88]) 4 { uiVal := 47, state := .found, soffs := 2 } =
      (8, .ok, { uiVal := 4711, sVal := ⟨2, 4⟩, state := .fin }) := by decide +kernel
  exact afb_clen_exact_in_range _ 4 _ (by decide) hl h2

/-- test: the hypotheses of the rejection theorem are satisfiable: 2^32 after one space -/
example : ∃ j st', 1 < j ∧ j < 11 ∧ parseUIntVal afbBufBig 0 {} = (j, .numTooBig, st') := by
  refine afb_uint_big_rejected_ws afbBufBig 0 1 11 {} rfl (by decide) ?_ (by decide) (by decide) ?_ (by decide +kernel)
  · intro k h1 h2
    have : k = 0 := by omega
    subst this; exact ⟨32, by decide, by decide⟩
  · intro c hc
    have : c ∈ [52, 50, 57, 52, 57, 54, 55, 50, 57, 54] := by
      have h : digitsOf afbBufBig 1 11 = [52, 50, 57, 52, 57, 54, 55, 50, 57, 54] := by decide +kernel
      rw [h] at hc; exact hc
    simp only [List.mem_cons, List.not_mem_nil, or_false] at this
    rcases this with h | h | h | h | h | h | h | h | h | h <;> (subst h; unfold IsDigitB; decide)

/-- test: the concrete verdict -/
example : (parseUIntVal afbBufBig 0 {}).2.1 = .numTooBig ∧ (parseCSeqVal afbBufBig 0 {}).2.1 = .numTooBig := by
  decide +kernel

/-! ### complete behaviour on the canonical input: [spaces] digits CR LF non-continuation -/

/-- a proper end of the header value at `e`: CR LF followed by a byte that does not continue the line -/
def AfbTerm (b : Buf) (e : Nat) : Prop :=
  b[e]? = some 13 ∧ b[e + 1]? = some 10 ∧ ∃ c2, b[e + 2]? = some c2 ∧ isWS c2 = false

theorem afb_skipLWS_term (b : Buf) (e : Nat) (h : AfbTerm b e) : skipLWS b e 0 = (e, 2, .eoh) := by
  obtain ⟨h0, h1, c2, h2, hw⟩ := h
  have := skipLWS_of_lws_eol (f := 0) (.nil e) (.crlf e h0 h1) h2 hw
  rwa [show e + 2 - e = 2 by omega] at this

/-- the object at the successful end of a number that began at `st.soffs` and ends before `e` -/
def afbClFin (st : PUIntBody) (e : Nat) : PUIntBody :=
  { st with sVal := PField.set st.soffs e, pnc := st.pnc || PField.setPanics st.soffs e, state := .fin, soffs := 0 }

theorem afb_cl_term (b : Buf) (e : Nat) (st : PUIntBody) (hs : st.state = .found) (h : AfbTerm b e) :
    runLoop clMachine b e st = (e + 2, .ok, afbClFin st e) := by
  have hstep : clStep b e 13 st = .done (e + 2) .ok (afbClFin st e) := by
    rw [(ClTr.lwsNum (by decide) hs).eq]
    unfold lwsStd
    rw [afb_skipLWS_term b e h]
    rfl
  exact runLoop_done clMachine h.1 hstep

/-- **ParseUIntVal on the canonical input, complete**: a new object; optional spaces / tabs `[o, i)`; a non-empty digit
    string `[i, e)`; CR LF and a byte that does not continue the line.  If the value fits 32 bits the call returns OK
    just after the CR LF with exactly that value and the field `[i, e)`; otherwise NumTooBig at one of the digits. -/
theorem afb_uint_canonical (b : Buf) (o i e : Nat) (hoi : o ≤ i) (hws : AfbWsRun b o i) (hie : i < e)
    (hd : AllDigits (digitsOf b i e)) (ht : AfbTerm b e) :
    (decOf (digitsOf b i e) ≤ 4294967295 →
      parseUIntVal b o {} = (e + 2, .ok, { uiVal := decOf (digitsOf b i e), sVal := PField.set i e, state := .fin })) ∧
    (decOf (digitsOf b i e) > 4294967295 → ∃ j st', i < j ∧ j < e ∧ parseUIntVal b o {} = (j, .numTooBig, st')) := by
  have he : e ≤ b.size := Nat.le_of_lt (get?_lt ht.1)
  refine ⟨fun hv => ?_, fun hv => afb_uint_big_rejected_ws b o i e {} rfl hoi hws hie he hd hv⟩
  have hbi : b[i]? = some b[i] := Array.getElem?_eq_getElem (by omega)
  have hd' := hd
  rw [digitsOf_cons b i e b[i] hbi hie] at hd'
  have hci : IsDigitB b[i] := hd' _ List.mem_cons_self
  have hval : decOf (digitsOf b i e) = decFrom (b[i].toNat - 48) (digitsOf b (i + 1) e) := by
    rw [digitsOf_cons b i e b[i] hbi hie, decOf, decFrom_cons, dval_def]; simp
  unfold parseUIntVal
  rw [if_neg (by decide), clAcc.ws b o i b[i] {} rfl (Lws.of_span hws hoi) hbi hci,
    clAcc.first_digit b i b[i] {} rfl hbi hci,
    (clAcc.run b e (e - (i + 1)) (i + 1) _ rfl (by omega) he rfl
      (fun x hx => hd' x (List.mem_cons_of_mem _ hx))).2 (by rw [← hval]; exact hv),
    afb_cl_term b e _ rfl ht]
  have hp : PField.setPanics i e = false := by unfold PField.setPanics; simp; omega
  simp only [afbClFin, hp, ← hval, Bool.or_false]

/-- **ParseCLenVal on the canonical input, complete** (buffer within the 65,535-byte limit): OK with the exact value
    and field iff the value is at most 2^24 and written with at most 9 digits; NumTooBig otherwise -/
theorem afb_clen_canonical (b : Buf) (o i e : Nat) (hfit : b.size ≤ 65535) (hoi : o ≤ i) (hws : AfbWsRun b o i)
    (hie : i < e) (hd : AllDigits (digitsOf b i e)) (ht : AfbTerm b e) :
    (decOf (digitsOf b i e) ≤ 16777216 ∧ e - i ≤ 9 →
      parseCLenVal b o {} = (e + 2, .ok, { uiVal := decOf (digitsOf b i e), sVal := PField.set i e, state := .fin })) ∧
    (¬ (decOf (digitsOf b i e) ≤ 16777216 ∧ e - i ≤ 9) → (parseCLenVal b o {}).2.1 = .numTooBig) := by
  have he : e ≤ b.size := Nat.le_of_lt (get?_lt ht.1)
  have hcan := afb_uint_canonical b o i e hoi hws hie hd ht
  have hset : PField.set i e = ⟨i, e - i⟩ := set_eq i e (by omega) (by omega)
  constructor
  · intro hv
    exact parseCLenVal_of_uint (hcan.1 (by omega)) (fun _ => by rw [hset]; exact ⟨hv.2, hv.1⟩)
  · intro hv
    by_cases hbig : decOf (digitsOf b i e) ≤ 4294967295
    · rw [parseCLenVal_tooBig (hcan.1 hbig) (by rw [hset]; show e - i > 9 ∨ decOf (digitsOf b i e) > 16777216; omega)]
    · obtain ⟨j, st', _, _, h3⟩ := hcan.2 (by omega)
      rw [parseCLenVal_of_uint h3 (fun hh => by cases hh)]

/-- the CSeq end-of-header code rejects a number field longer than 10 bytes (e.g. leading zeros) with NumTooBig -/
theorem afb_csFinish_long (st : PCSeqBody) (b : Buf) (n crl : Nat) (h : st.cseq.len > 10 ∨ st.cseqNo > 4294967295) :
    (csFinish st b n crl).2.1 = .numTooBig := by
  unfold csFinish
  simp only
  rw [if_pos]
  simp [MaxCSeqNValueSize]
  exact h

/-- test: the canonical theorem instantiated: "  4711 CR LF X" -/
example : parseCLenVal afbBufClen 0 {} = (8, .ok, { uiVal := 4711, sVal := PField.set 2 6, state := .fin }) := by
  have hd : digitsOf afbBufClen 2 6 = [52, 55, 49, 49] := by decide +kernel
  have hv : decOf (digitsOf afbBufClen 2 6) = 4711 := by decide +kernel
  have := (afb_clen_canonical afbBufClen 0 2 6 (by decide) (by decide)
    (by intro k _ h2
        have : k = 0 ∨ k = 1 := by omega
        rcases this with rfl | rfl <;> exact ⟨32, by decide, by decide⟩)
    (by decide)
    (by rw [hd]; intro c hc
        simp only [List.mem_cons, List.not_mem_nil, or_false] at hc
        rcases hc with h | h | h | h <;> (subst h; unfold IsDigitB; decide))
    ⟨by decide, by decide, 88, by decide, by decide⟩).1 (by rw [hv]; decide)
  rw [hv] at this; exact this

/-- test: 16777217 = 2^24 + 1 is rejected by ParseCLenVal but accepted by ParseUIntVal (Expires) -/
example : (parseCLenVal #[49, 54, 55, 55, 55, 50, 49, 55, 13, 10, 88] 0 {}).2.1 = .numTooBig ∧
    (parseUIntVal #[49, 54, 55, 55, 55, 50, 49, 55, 13, 10, 88] 0 {}).2.1 = .ok ∧
    (parseUIntVal #[49, 54, 55, 55, 55, 50, 49, 55, 13, 10, 88] 0 {}).2.2.uiVal = 16777217 := by decide +kernel

/-! ## (B) C12: Reset / Init make a used object behave like a new one

  In the model the result of a call is a function of (buffer, offset, flags, object), so "behaves like a new object on
  every later input" is: the object after Reset / Init EQUALS the new object (then every later call returns the same). -/

/-! ### (B i) PSIPMsg, no side condition: every object reachable by ANY history -/

/-- the new message object: header array of `kh` cleared entries, contact array of `kc` cleared entries; `len` is the
    length of the retained `Buf` slice (the parser never reads it, see `afb_parseSIPMsg_bufLen`) -/
def afbNewMsg (len kh kc : Nat) : PSIPMsg :=
  { bufLen := len, hl := { hdrs := Array.replicate kh {} }, pv := { contacts := { vals := Array.replicate kc {} } } }

/-- `afbNewMsg` is what Init produces from ANY object given cleared caller arrays -/
theorem afb_newMsg_eq_init (m0 : PSIPMsg) (len kh kc : Nat) :
    m0.init len (some (Array.replicate kh {})) (some (Array.replicate kc {})) = afbNewMsg len kh kc := rfl

/-- **PSIPMsg.Init, EVERY object `m` (reachable or not), every argument**: the result does not depend on `m` at all; it
    is the zero object over the GIVEN arrays (`none` = nil: the private 10-element arrays, which the Reset inside Init
    has just zeroed).  Init does not clear the caller's arrays: the result is the new object iff they are cleared. -/
theorem afb_msg_init_any (m : PSIPMsg) (len : Nat) (hdrs : Option (Array Hdr)) (cts : Option (Array PFromBody)) :
    m.init len hdrs cts =
      { bufLen := len, hl := { hdrs := hdrs.getD (Array.replicate 10 {}) },
        pv := { contacts := { vals := cts.getD (Array.replicate 10 {}) } } } := rfl

theorem afb_msg_init_indep (m m' : PSIPMsg) (len : Nat) (hdrs : Option (Array Hdr)) (cts : Option (Array PFromBody)) :
    m.init len hdrs cts = m'.init len hdrs cts := rfl

/-- **Init of any used object with cleared arrays behaves like new**: every later call — any buffer, offset, flags —
    returns what it returns on the new object -/
theorem afb_msg_init_like_new (m : PSIPMsg) (len kh kc : Nat) (b : Buf) (o flags : Nat) :
    parseSIPMsg b o (m.init len (some (Array.replicate kh {})) (some (Array.replicate kc {}))) flags =
      parseSIPMsg b o (afbNewMsg len kh kc) flags := rfl

/-- **C12 for PSIPMsg.Reset, no side condition**: for every object reachable by any history of Init (cleared arrays or
    nil) / ParseSIPMsg (any buffer, offset, flags, verdict) / Reset calls, Reset gives literally the new object with
    the same array capacities -/
theorem afb_msg_reset_reach {m : PSIPMsg} (hR : ScReach m) :
    m.reset = afbNewMsg m.bufLen m.hl.hdrs.size m.pv.contacts.vals.size := by
  rw [sc_reset_after_history hR]; rfl

/-- … hence for EVERY later buffer / offset / flags the call on the Reset object returns what it returns on the new
    object: "behaves like new" -/
theorem afb_msg_reset_like_new {m : PSIPMsg} (hR : ScReach m) (b : Buf) (o flags : Nat) :
    parseSIPMsg b o m.reset flags = parseSIPMsg b o (afbNewMsg m.bufLen m.hl.hdrs.size m.pv.contacts.vals.size) flags := by
  rw [afb_msg_reset_reach hR]

/-- … and so does every chain of resumed calls (every chunk schedule) -/
theorem afb_msg_reset_like_new_schedule {m : PSIPMsg} (hR : ScReach m) (flags o : Nat) (l : List Buf) :
    resumeRun (fun b o m => parseSIPMsg b o m flags) o m.reset l =
      resumeRun (fun b o m => parseSIPMsg b o m flags) o
        (afbNewMsg m.bufLen m.hl.hdrs.size m.pv.contacts.vals.size) l := by
  rw [afb_msg_reset_reach hR]

/-- the same with Init in place of Reset, the caller handing back the object's own (just cleared) arrays — what the
    driver's op `I` does: the new object -/
theorem afb_msg_reinit_reach {m : PSIPMsg} (hR : ScReach m) (len : Nat) :
    m.init len (some m.reset.hl.hdrs) (some m.reset.pv.contacts.vals) =
      afbNewMsg len m.hl.hdrs.size m.pv.contacts.vals.size := by
  rw [afb_msg_reset_reach hR]; rfl

/-- the objects produced by Reset / Init are again reachable (the statements iterate) -/
theorem afb_reach_reset {m : PSIPMsg} (hR : ScReach m) : ScReach m.reset := ScReach.reset hR

theorem afb_reach_newMsg (len kh kc : Nat) : ScReach (afbNewMsg len kh kc) := by
  have := ScReach.init ({} : PSIPMsg) len kh kc (some ()) (some ())
  exact this

/-! #### the retained buffer length is write-only for the parser -/

/-- same offset, same verdict, objects equal up to the retained buffer length — and equal after OK -/
def AfbLenEq (r1 r2 : Nat × Err × PSIPMsg) : Prop :=
  r1.1 = r2.1 ∧ r1.2.1 = r2.2.1 ∧ ({ r1.2.2 with bufLen := 0 } : PSIPMsg) = { r2.2.2 with bufLen := 0 } ∧
    (r2.2.1 = .ok → r1.2.2 = r2.2.2)

theorem afb_msgEnd_bufLen (m : PSIPMsg) (b : Buf) (o x : Nat) : msgEnd { m with bufLen := x } b o = msgEnd m b o := rfl

theorem afb_lenEq_refl (r : Nat × Err × PSIPMsg) : AfbLenEq r r := ⟨rfl, rfl, rfl, fun _ => rfl⟩

theorem afb_msgErr_lenEq (m : PSIPMsg) (o : Nat) (e : Err) (flags x : Nat) (he : e ≠ .ok) :
    AfbLenEq (msgErr { m with bufLen := x } o e flags) (msgErr m o e flags) := by
  unfold msgErr
  split
  · exact ⟨rfl, rfl, rfl, fun hh => absurd hh he⟩
  · split
    · exact ⟨rfl, rfl, rfl, fun hh => by cases hh⟩
    · exact ⟨rfl, rfl, rfl, fun hh => absurd hh he⟩

theorem afb_msgBody_lenEq (b : Buf) (o : Nat) (m : PSIPMsg) (flags x : Nat) :
    AfbLenEq (msgBody b o { m with bufLen := x } flags) (msgBody b o m flags) := by
  unfold msgBody
  simp only
  split
  · split
    · exact ⟨rfl, rfl, rfl, fun hh => by cases hh⟩
    · exact afb_lenEq_refl _
  · split
    · split
      · split
        · exact afb_lenEq_refl _
        · exact ⟨rfl, rfl, rfl, fun hh => by cases hh⟩
      · exact afb_lenEq_refl _
    · split <;> exact afb_lenEq_refl _

/-- the retained buffer length plays no part in reaching a phase -/
theorem MsgAt.setBufLen {b : Buf} {o : Nat} {m : PSIPMsg} {s : MsgState} {o1 : Nat} {m1 : PSIPMsg}
    (h : MsgAt b o m s o1 m1) (x : Nat) : MsgAt b o { m with bufLen := x } s o1 { m1 with bufLen := x } := by
  induction h with
  | enter hst => exact .enter hst
  | resume hst hs => exact .resume hst hs
  | fline _ hp ih => exact .fline ih hp
  | headers _ hp ih => exact .headers ih hp

theorem afb_parseSIPMsg_bufLen (b : Buf) (o : Nat) (m : PSIPMsg) (flags x : Nat) :
    AfbLenEq (parseSIPMsg b o { m with bufLen := x } flags) (parseSIPMsg b o m flags) := by
  refine parseSIPMsg_cases (P := fun r => AfbLenEq (parseSIPMsg b o { m with bufLen := x } flags) r) b o m flags ?_ ?_ ?_ ?_
  · intro hd
    rw [parseSIPMsg_dead (m := { m with bufLen := x }) hd]
    exact ⟨rfl, rfl, rfl, fun h => by cases h⟩
  · intro o1 m1 o2 e fl h hp he
    rw [(h.setBufLen x).run flags, msgFrom_fline, msgFLine_err (m := { m1 with bufLen := x }) hp he]
    exact afb_msgErr_lenEq { m1 with fl := fl } o2 e flags x he
  · intro o1 m1 o2 e hl hb h hp he
    rw [(h.setBufLen x).run flags, msgFrom_headers, msgHeaders_err (m := { m1 with bufLen := x }) hp he]
    exact afb_msgErr_lenEq { m1 with hl := hl, pv := hb.getD m1.pv } o2 e flags x he
  · intro o1 m1 h
    rw [(h.setBufLen x).run flags]
    exact afb_msgBody_lenEq b o1 m1 flags x

/-- **Reset of a reachable object against the new object with NO retained buffer** (what the driver's `msg` creates):
    every later call returns the same offset and verdict, the same object up to the length of the retained `Buf`
    slice, and after OK the very same object -/
theorem afb_msg_reset_like_new0 {m : PSIPMsg} (hR : ScReach m) (b : Buf) (o flags : Nat) :
    AfbLenEq (parseSIPMsg b o m.reset flags)
      (parseSIPMsg b o (afbNewMsg 0 m.hl.hdrs.size m.pv.contacts.vals.size) flags) := by
  rw [afb_msg_reset_reach hR]
  exact afb_parseSIPMsg_bufLen b o (afbNewMsg 0 m.hl.hdrs.size m.pv.contacts.vals.size) flags m.bufLen

/-! ### (B i') PHdrVals / PContacts used stand-alone (ParseHdrLine / ParseHeaders with a header-values object,
    ParseAllContactValues), no side condition: every object reachable by any history -/

/-- the new header-values object over a cleared contact array of `kc` entries -/
def afbNewHv (kc : Nat) : PHdrVals := { contacts := { vals := Array.replicate kc {} } }

/-- the life of a header-values object: new / Init with a cleared array, then any sequence of Reset, ParseHdrLine and
    ParseHeaders calls (any buffer, offset, header object / list, verdict) -/
inductive AfbHvReach : PHdrVals → Prop
  | new (kc : Nat) : AfbHvReach (afbNewHv kc)
  | init (hv : PHdrVals) (kc : Nat) : AfbHvReach (hv.init (Array.replicate kc {}))
  | reset {hv : PHdrVals} : AfbHvReach hv → AfbHvReach hv.reset
  | hdrline {hv hv' : PHdrVals} (b : Buf) (o : Nat) (h : Hdr) : AfbHvReach hv →
      (parseHdrLine b o h (some hv)).2.2.2 = some hv' → AfbHvReach hv'
  | headers {hv hv' : PHdrVals} (b : Buf) (o : Nat) (hl : HdrLst) : AfbHvReach hv →
      (parseHeaders b o hl (some hv)).2.2.2 = some hv' → AfbHvReach hv'

/-- the new contacts object over a cleared array of `kc` entries -/
def afbNewCt (kc : Nat) : PContacts := { vals := Array.replicate kc {} }

theorem afb_ct_reset_of_tail (c : PContacts) (H : TailZero c.vals {} c.n) : c.reset = afbNewCt c.vals.size := by
  have h2 : c.reset.vals = Array.replicate c.vals.size {} := clearUpToP_of_tailZero c.vals {} c.n H
  unfold PContacts.reset afbNewCt
  unfold PContacts.reset at h2
  simp only at h2
  rw [h2]

theorem afb_hv_reset_of_tail (hv : PHdrVals) (H : TailZero hv.contacts.vals {} hv.contacts.n) :
    hv.reset = afbNewHv hv.contacts.vals.size := by
  unfold PHdrVals.reset
  rw [afb_ct_reset_of_tail hv.contacts H]
  rfl

theorem AfbHvReach.inv {hv : PHdrVals} (h : AfbHvReach hv) : TailZero hv.contacts.vals {} hv.contacts.n := by
  induction h with
  | new kc => exact tailZero_new ({} : PFromBody) kc 0
  | init hv kc => exact tailZero_new ({} : PFromBody) kc 0
  | @reset hv _ ih => rw [afb_hv_reset_of_tail hv ih]; exact tailZero_new ({} : PFromBody) _ 0
  | hdrline b o h _ hr ih => exact sc_ct_parseHdrLine b o h _ (ScHb_some ih) _ hr
  | headers b o hl _ hr ih => exact sc_ct_parseHeaders b o hl _ (ScHb_some ih) _ hr

/-- **C12 for PHdrVals.Reset, no side condition** -/
theorem afb_hv_reset_reach {hv : PHdrVals} (hR : AfbHvReach hv) : hv.reset = afbNewHv hv.contacts.vals.size :=
  afb_hv_reset_of_tail hv hR.inv

/-- … behaves like new in every later ParseHdrLine / ParseHeaders call -/
theorem afb_hv_reset_like_new {hv : PHdrVals} (hR : AfbHvReach hv) (b : Buf) (o : Nat) :
    (∀ h : Hdr, parseHdrLine b o h (some hv.reset) = parseHdrLine b o h (some (afbNewHv hv.contacts.vals.size))) ∧
    (∀ hl : HdrLst, parseHeaders b o hl (some hv.reset) = parseHeaders b o hl (some (afbNewHv hv.contacts.vals.size))) := by
  rw [afb_hv_reset_reach hR]; exact ⟨fun _ => rfl, fun _ => rfl⟩

/-- the life of a stand-alone contacts object -/
inductive AfbCtReach : PContacts → Prop
  | new (kc : Nat) : AfbCtReach (afbNewCt kc)
  | reset {c : PContacts} : AfbCtReach c → AfbCtReach c.reset
  | parse {c : PContacts} (b : Buf) (o : Nat) : AfbCtReach c → AfbCtReach (parseAllContactValues b o c).2.2

theorem AfbCtReach.inv {c : PContacts} (h : AfbCtReach c) : TailZero c.vals {} c.n := by
  induction h with
  | new kc => exact tailZero_new ({} : PFromBody) kc 0
  | @reset c _ ih => rw [afb_ct_reset_of_tail c ih]; exact tailZero_new ({} : PFromBody) _ 0
  | parse b o _ ih => exact sc_ct_parseAll b o _ ih

/-- **C12 for PContacts.Reset, no side condition**, and "behaves like new" -/
theorem afb_ct_reset_reach {c : PContacts} (hR : AfbCtReach c) : c.reset = afbNewCt c.vals.size :=
  afb_ct_reset_of_tail c hR.inv

theorem afb_ct_reset_like_new {c : PContacts} (hR : AfbCtReach c) (b : Buf) (o : Nat) :
    parseAllContactValues b o c.reset = parseAllContactValues b o (afbNewCt c.vals.size) := by
  rw [afb_ct_reset_reach hR]

/-! ### (B ii) the object types whose Go `Reset` is `*x = T{}`

  PFLine, PFromBody, PCSeqBody, PCallIDBody, PUIntBody, PTokParam, Hdr, PsipURI (and URIParam, whose Reset assigns the
  zero value to both of its fields; PPAIs too).  Checked against /repo: parse_fline.go, parse_from.go, parse_cseq.go,
  parse_callid.go, parse_clen.go, parse_params.go, parse_headers.go, sipuri.go, parse_uri_params.go, parse_pai.go.

  HONEST STATUS.  Except for `PPAIs.reset` the MODEL HAS NO Reset FUNCTION for these types: wherever Go calls such a
  Reset the model writes the literal `{}` — the driver's op `R` (`Exec.doReset`) substitutes `{}` for a stand-alone
  object, `HdrLst.reset` maps every slot to `{}`, the list Resets store `{}` in the slots they clear.  "Reset gives
  the new object whatever the previous state" therefore holds BY CONSTRUCTION of the model: the statements below are
  definitional (`rfl`) and say exactly that; their content lies in the differential check that ties the driver to
  the Go code (an `R` line followed by any parse is compared with Go), not in a proof. -/

/-- the one model function of this kind: `PPAIs.reset` returns the zero object for EVERY argument -/
theorem afb_pais_reset (c : PPAIs) : c.reset = {} := rfl

/-- the driver's Reset of a stand-alone object of these types is the substitution of the zero object, whatever the
    object was (definitional) -/
theorem afb_driver_reset_simple :
    (∀ x : PFLine, Exec.doReset (.fline x) = .fline {}) ∧
    (∀ (t : Nat) (x : PFromBody), Exec.doReset (.nameaddr t x) = .nameaddr t {}) ∧
    (∀ x : PFromBody, Exec.doReset (.pai1 x) = .pai1 {}) ∧
    (∀ x : PCSeqBody, Exec.doReset (.cseq x) = .cseq {}) ∧
    (∀ x : PCallIDBody, Exec.doReset (.callid x) = .callid {}) ∧
    (∀ x : PUIntBody, Exec.doReset (.uint x) = .uint {}) ∧
    (∀ x : PUIntBody, Exec.doReset (.clen x) = .clen {}) ∧
    (∀ x : PTokParam, Exec.doReset (.tokparam x) = .tokparam {}) ∧
    (∀ x : PsipURI, Exec.doReset (.uri x) = .uri {}) ∧
    (∀ x : PPAIs, Exec.doReset (.pais x) = .pais {}) ∧
    (∀ (h : Hdr) (hb : Option PHdrVals), Exec.doReset (.hdrline h hb) = .hdrline {} (hb.map (·.reset))) :=
  ⟨fun _ => rfl, fun _ _ => rfl, fun _ => rfl, fun _ => rfl, fun _ => rfl, fun _ => rfl, fun _ => rfl, fun _ => rfl,
   fun _ => rfl, fun _ => rfl, fun _ _ => rfl⟩

/-- inside the model: `HdrLst.Reset` leaves the zero header in EVERY slot, whatever was there (the per-element
    `Hdr.Reset` of the Go loop) -/
theorem afb_hdrlst_reset_slots (hl : HdrLst) (k : Nat) (h : k < hl.reset.hdrs.size) : hl.reset.hdrs[k] = {} := by
  simp [HdrLst.reset]

/-- inside the model: the list Resets leave the zero element in every slot up to the one in progress, whatever was
    there (the per-element `PFromBody.Reset` / `URIParam.Reset` / `URIHdr.Reset` of the Go loops) -/
theorem afb_clearUpTo_slots {α : Type} (a : Array α) (z : α) (n k : Nat) (hk : k ≤ n) (h : k < (clearUpTo a z n).size) :
    (clearUpTo a z n)[k] = z := by
  -- `clearUpTo` and `clearUpToP` (Params) are the same fold
  haveI : Inhabited α := ⟨z⟩
  have hsz : (clearUpTo a z n).size = a.size := clearUpToP_size a z n
  have e := clearUpToP_get a z n k (by rw [← hsz]; exact h)
  rw [if_pos hk] at e
  exact (getElem!_pos (clearUpTo a z n) k h).symm.trans e

/-! ### (B iii) what the `Init` functions guarantee

  Go: `PContacts.Init(buf)` / `URIParamsLst.Init(buf)` / `URIHdrsLst.Init(buf)` only store the slice; `PHdrVals.Init`
  = Reset + `Contacts.Init`.  None of them clears the array it is given. -/

/-- **PContacts.Init only swaps the array**: every other field keeps its value -/
theorem afb_contacts_init (c : PContacts) (vals : Array PFromBody) : c.init vals = { c with vals := vals } := rfl

/-- hence: Init after Reset (or on a new object) = the zero object over the GIVEN array, for every `c` … -/
theorem afb_contacts_reset_init (c : PContacts) (vals : Array PFromBody) : c.reset.init vals = { vals := vals } := rfl

/-- … which is the new object exactly when the given array is cleared -/
theorem afb_contacts_init_new_iff (vals : Array PFromBody) :
    ({ vals := vals } : PContacts).vals = (afbNewCt vals.size).vals ↔ ∀ k (h : k < vals.size), vals[k] = {} := by
  unfold afbNewCt
  simp only
  constructor
  · intro h k hk
    have : vals[k] = (Array.replicate vals.size ({} : PFromBody))[k]'(by simpa using hk) := by
      congr 1
    rw [this]; simp
  · intro h
    apply Array.ext
    · simp
    · intro i h1 h2; rw [h i h1]; simp

/-- **PHdrVals.Init, EVERY object `hv`**: the result does not depend on `hv`; it is the zero object over the GIVEN
    contact array; the new object iff that array is cleared -/
theorem afb_hdrvals_init_any (hv : PHdrVals) (cbuf : Array PFromBody) :
    hv.init cbuf = { contacts := { vals := cbuf } } := rfl

theorem afb_hdrvals_init_new (hv : PHdrVals) (kc : Nat) : hv.init (Array.replicate kc {}) = afbNewHv kc := rfl

/-- the model has no `Init` for the URI lists (the driver resets them instead); this is the Go function
    `l.Params = pbuf`, written out here only to state what it guarantees -/
def afbUriParamsInit (l : URIParamsLst) (pbuf : Array URIParam) : URIParamsLst := { l with params := pbuf }
def afbUriHdrsInit (l : URIHdrsLst) (hbuf : Array PTokParam) : URIHdrsLst := { l with hdrs := hbuf }

/-- Init after Reset = the zero object over the given array (new iff the array is cleared); Init alone keeps the
    count, the type flags and the scratch element of the used object -/
theorem afb_uriparams_reset_init (l : URIParamsLst) (pbuf : Array URIParam) :
    afbUriParamsInit l.reset pbuf = { params := pbuf } ∧ (afbUriParamsInit l pbuf).n = l.n ∧
      (afbUriParamsInit l pbuf).types = l.types ∧ (afbUriParamsInit l pbuf).tmp = l.tmp :=
  ⟨rfl, rfl, rfl, rfl⟩

theorem afb_urihdrs_reset_init (l : URIHdrsLst) (hbuf : Array PTokParam) :
    afbUriHdrsInit l.reset hbuf = { hdrs := hbuf } ∧ (afbUriHdrsInit l hbuf).n = l.n ∧
      (afbUriHdrsInit l hbuf).tmp = l.tmp :=
  ⟨rfl, rfl, rfl⟩

/-- test: Init does NOT clear — a contact array holding a stale finished value, handed to Init, is not "like new":
    the next parse of `<sip:a>` CRLF X reports the stale entry as its first contact -/
example :
    let stale : PFromBody := { state := .fin, expires := 7, hasExpires := true }
    let dirty := (({} : PContacts).init #[stale, {}])
    let clean := (({} : PContacts).init #[{}, {}])
    let buf : Buf := #[60, 115, 105, 112, 58, 97, 62, 13, 10, 88]
    (parseAllContactValues buf 0 dirty).2.2.maxExpires = 7 ∧ (parseAllContactValues buf 0 clean).2.2.maxExpires = 0 := by
  decide +kernel

/-- test: a used message object (failed parse), Reset, is the new object of the same capacities -/
example : scTestUsed.reset = afbNewMsg scTestUsed.bufLen scTestUsed.hl.hdrs.size scTestUsed.pv.contacts.vals.size :=
  afb_msg_reset_reach scTestUsed_reach

/-! ## (C) C02: one-step laws and their schedule corollaries

  Every statement below has the shape used in Properties/C02.lean: a one-step law (`ResumableR` / `ResumableRC`: after
  MoreBytes the resumed call on ANY extension returns the offset, the verdict, and — unless the verdict is an error —
  the very object of a fresh call on the extension, the same observable object after an error; the legitimacy
  invariant is re-established) and, from the generic schedule theorem, the statement for EVERY chunk schedule. -/

/-! ### (C i) ParseOnePAI (ParseNameAddrPVal for P-Asserted-Identity + the `*` value remapped to the bad-value verdict) -/

theorem afb_onePAI_resumableR : ResumableR parseOnePAI naOK PFromBody.obs := by
  intro b s o st o' st' hI hr
  obtain ⟨h1, h2, _⟩ := parseOnePAI_resumeR b s o st hI hr
  exact ⟨h1, h2⟩

/-- the one-step law spelled out, with everything the proof yields: the invariant on the extended buffer, the object
    is not finished, the returned offset lies between the start offset and the end of the parsed buffer -/
theorem afb_onePAI_resume (b s : Buf) (o : Nat) (pf : PFromBody) (hok : naOK b o pf)
    {o' : Nat} {pf' : PFromBody} (hr : parseOnePAI b o pf = (o', Err.moreBytes, pf')) :
    RR PFromBody.obs (parseOnePAI (b ++ s) o' pf') (parseOnePAI (b ++ s) o pf) ∧
      naOK (b ++ s) o' pf' ∧ pf'.state ≠ .fin ∧ o ≤ o' ∧ o' ≤ b.size :=
  parseOnePAI_resumeR b s o pf hok hr

/-- L1: a definitive result is the result on every extension -/
theorem afb_onePAI_stable (b s : Buf) (o : Nat) (pf : PFromBody) (hok : naOK b o pf)
    {o' : Nat} {e : Err} {pf' : PFromBody} (hr : parseOnePAI b o pf = (o', e, pf')) (he : e ≠ .moreBytes) :
    parseOnePAI (b ++ s) o pf = (o', e, pf') :=
  parseOnePAI_stable b s o pf hok hr he

/-- **every chunk schedule, ParseOnePAI, from any legitimate object** -/
theorem afb_onePAI_schedule_from (o : Nat) (pf : PFromBody) (l : List Buf) (hg : Growing l)
    (h0 : ∀ b ∈ l.head?, naOK b o pf) :
    RR PFromBody.obs (resumeRun parseOnePAI o pf l) (oneShotRun parseOnePAI o pf l) :=
  resumeRun_eq_oneShotR parseOnePAI naOK PFromBody.obs afb_onePAI_resumableR o pf l hg h0

/-- **every chunk schedule, ParseOnePAI, from a new object** at an offset inside the first chunk -/
theorem afb_onePAI_schedule (o : Nat) (l : List Buf) (hg : Growing l) (h0 : ∀ b ∈ l.head?, o ≤ b.size) :
    RR PFromBody.obs (resumeRun parseOnePAI o {} l) (oneShotRun parseOnePAI o {} l) :=
  afb_onePAI_schedule_from o {} l hg (fun b hb => naOK_new b o (h0 b hb))

/-! ### (C ii) ParseFLine -/

theorem afb_fline_resumableRC :
    ResumableRC parseFLine (fun b o pl => o ≤ b.size ∧ flOK pl) (fun x => x) (fun b => b.size ≤ 65535) := by
  intro b s o st o' st' hC hI hr
  obtain ⟨a, b', c⟩ := parseFLine_resume b s o st hI.1 hI.2 hC hr
  exact ⟨RR.of_eq a, by rw [Array.size_append]; omega, b'⟩

theorem afb_RR_id_eq {σ : Type} {r1 r2 : Nat × Err × σ} (h : RR (fun x : σ => x) r1 r2) : r1 = r2 := by
  obtain ⟨a1, e1, s1⟩ := r1
  obtain ⟨a2, e2, s2⟩ := r2
  obtain ⟨h1, h2, _, h4⟩ := h
  simp only at h1 h2 h4
  rw [h1, h2, h4]

/-- **every chunk schedule, ParseFLine** (every chunk within the documented 65,535-byte limit), from any legitimate
    object: the chain of resumed calls returns EXACTLY what the fresh one-shot calls return -/
theorem afb_fline_schedule_from (o : Nat) (pl : PFLine) (l : List Buf) (hg : Growing l)
    (hfit : ∀ x ∈ l, x.size ≤ 65535) (h0 : ∀ b ∈ l.head?, o ≤ b.size ∧ flOK pl) :
    resumeRun parseFLine o pl l = oneShotRun parseFLine o pl l :=
  afb_RR_id_eq (resumeRun_eq_oneShotRC parseFLine (fun b o pl => o ≤ b.size ∧ flOK pl) (fun x => x)
    (fun b => b.size ≤ 65535) afb_fline_resumableRC o pl l hg hfit h0)

theorem afb_flOK_new : flOK {} := by unfold flOK; decide

/-- … from a new object -/
theorem afb_fline_schedule (o : Nat) (l : List Buf) (hg : Growing l) (hfit : ∀ x ∈ l, x.size ≤ 65535)
    (h0 : ∀ b ∈ l.head?, o ≤ b.size) : resumeRun parseFLine o {} l = oneShotRun parseFLine o {} l :=
  afb_fline_schedule_from o {} l hg hfit (fun b hb => ⟨h0 b hb, afb_flOK_new⟩)

/-! ### ParseAllContactValues -/

theorem afb_contacts_resumableR :
    ResumableR parseAllContactValues (fun b o c => ctOK b o c ∧ o ≤ b.size) PContacts.obs := by
  intro b s o st o' st' hI hr
  obtain ⟨h1, h2, _, _, h5⟩ := parseAllContactValues_resume b s o st hI.1 hI.2 hr
  exact ⟨h1, h2, by rw [Array.size_append]; omega⟩

theorem afb_contacts_schedule_from (o : Nat) (c : PContacts) (l : List Buf) (hg : Growing l)
    (h0 : ∀ b ∈ l.head?, ctOK b o c ∧ o ≤ b.size) :
    RR PContacts.obs (resumeRun parseAllContactValues o c l) (oneShotRun parseAllContactValues o c l) :=
  resumeRun_eq_oneShotR parseAllContactValues _ PContacts.obs afb_contacts_resumableR o c l hg h0

/-- **every chunk schedule, ParseAllContactValues, from a new object** over a cleared array of any capacity -/
theorem afb_contacts_schedule (o kc : Nat) (l : List Buf) (hg : Growing l) (h0 : ∀ b ∈ l.head?, o ≤ b.size) :
    RR PContacts.obs (resumeRun parseAllContactValues o { vals := Array.replicate kc {} } l)
      (oneShotRun parseAllContactValues o { vals := Array.replicate kc {} } l) :=
  afb_contacts_schedule_from o _ l hg (fun b hb => ⟨afb_ctOK_new b o (h0 b hb) kc, h0 b hb⟩)

/-! ### ParseAllPAIValues -/

theorem afb_pais_resumableR :
    ResumableR parseAllPAIValues (fun b o c => paOK b o c ∧ o ≤ b.size) PPAIs.obs := by
  intro b s o st o' st' hI hr
  obtain ⟨h1, h2, _, _, h5⟩ := parseAllPAIValues_resume b s o st hI.1 hI.2 hr
  exact ⟨h1, h2, by rw [Array.size_append]; omega⟩

theorem afb_pais_schedule_from (o : Nat) (c : PPAIs) (l : List Buf) (hg : Growing l)
    (h0 : ∀ b ∈ l.head?, paOK b o c ∧ o ≤ b.size) :
    RR PPAIs.obs (resumeRun parseAllPAIValues o c l) (oneShotRun parseAllPAIValues o c l) :=
  resumeRun_eq_oneShotR parseAllPAIValues _ PPAIs.obs afb_pais_resumableR o c l hg h0

/-- **every chunk schedule, ParseAllPAIValues, from a new object** -/
theorem afb_pais_schedule (o : Nat) (l : List Buf) (hg : Growing l) (h0 : ∀ b ∈ l.head?, o ≤ b.size) :
    RR PPAIs.obs (resumeRun parseAllPAIValues o {} l) (oneShotRun parseAllPAIValues o {} l) :=
  afb_pais_schedule_from o {} l hg (fun b hb => ⟨afb_paOK_new b o (h0 b hb), h0 b hb⟩)

/-! ### ParseHdrLine -/

/-- ParseHdrLine as a parser over the pair (header, header values or nil) -/
def afbHdrLineP : Parser (Hdr × Option PHdrVals) := fun b o st => parseHdrLine b o st.1 st.2

def afbHdrLineInv (b : Buf) (o : Nat) (st : Hdr × Option PHdrVals) : Prop := hlOK b o st.1 st.2 ∧ hlPending st

theorem afb_hdrline_resumableR : ResumableR afbHdrLineP afbHdrLineInv hlObs := by
  intro b s o st o' st' hI hr
  obtain ⟨h', hb'⟩ := st'
  obtain ⟨h1, h2, h3, _⟩ := parseHdrLine_resume b s o st.1 st.2 hI.1 hI.2 hr
  exact ⟨h1, h2, h3⟩

/-- **every chunk schedule, ParseHdrLine, from any legitimate (header, values) pair** -/
theorem afb_hdrline_schedule_from (o : Nat) (h : Hdr) (hb : Option PHdrVals) (l : List Buf) (hg : Growing l)
    (h0 : ∀ b ∈ l.head?, hlOK b o h hb ∧ hlPending (h, hb)) :
    RR hlObs (resumeRun afbHdrLineP o (h, hb) l) (oneShotRun afbHdrLineP o (h, hb) l) :=
  resumeRun_eq_oneShotR afbHdrLineP afbHdrLineInv hlObs afb_hdrline_resumableR o (h, hb) l hg h0

theorem afb_hvOK_new (b : Buf) (o : Nat) (ho : o ≤ b.size) (kc : Nat) : hvOK b o (afbNewHv kc) :=
  hvOK_new b o ho kc

theorem afb_hbOK_new (b : Buf) (o : Nat) (ho : o ≤ b.size) (kc : Nat) (nil : Bool) :
    hbOK b o (if nil then none else some (afbNewHv kc)) := by
  cases nil
  · exact afb_hvOK_new b o ho kc
  · trivial

/-- **every chunk schedule, ParseHdrLine, from a new header** with new header values (contact array of any capacity)
    or none (`nil = true`) -/
theorem afb_hdrline_schedule (o kc : Nat) (nil : Bool) (l : List Buf) (hg : Growing l) (h0 : ∀ b ∈ l.head?, o ≤ b.size) :
    RR hlObs (resumeRun afbHdrLineP o ({}, if nil then none else some (afbNewHv kc)) l)
      (oneShotRun afbHdrLineP o ({}, if nil then none else some (afbNewHv kc)) l) :=
  afb_hdrline_schedule_from o {} _ l hg (fun b hb =>
    ⟨⟨h0 b hb, hdrOK_new b, afb_hbOK_new b o (h0 b hb) kc nil⟩,
     hlPending_of_not_isVal (by simp [HState.isVal])⟩)

/-! ### ParseHeaders -/

def afbHeadersP : Parser (HdrLst × Option PHdrVals) := fun b o st => parseHeaders b o st.1 st.2

def afbHeadersInv (b : Buf) (o : Nat) (st : HdrLst × Option PHdrVals) : Prop :=
  hlsOK b st.1 ∧ hbOK b o st.2 ∧ hlsPend st.1 st.2 ∧ o ≤ b.size

theorem afb_headers_resumableR : ResumableR afbHeadersP afbHeadersInv hdrsObs := by
  intro b s o st o' st' hI hr
  obtain ⟨h1, h2, h3, h4⟩ := hI
  obtain ⟨hl', hb'⟩ := st'
  obtain ⟨r, a, b', c, _, e⟩ := parseHeaders_resume b s o st.1 st.2 h1 h2 h3 h4 hr
  exact ⟨r, a, b', c, by rw [Array.size_append]; omega⟩

/-- **every chunk schedule, ParseHeaders, from any legitimate (list, values) pair** -/
theorem afb_headers_schedule_from (o : Nat) (hl : HdrLst) (hb : Option PHdrVals) (l : List Buf) (hg : Growing l)
    (h0 : ∀ b ∈ l.head?, afbHeadersInv b o (hl, hb)) :
    RR hdrsObs (resumeRun afbHeadersP o (hl, hb) l) (oneShotRun afbHeadersP o (hl, hb) l) :=
  resumeRun_eq_oneShotR afbHeadersP afbHeadersInv hdrsObs afb_headers_resumableR o (hl, hb) l hg h0

theorem afb_headersInv_new_from (b : Buf) (o : Nat) (ho : o ≤ b.size) (kh : Nat) (hb : Option PHdrVals)
    (hok : hbOK b o hb) : afbHeadersInv b o ({ hdrs := Array.replicate kh {} }, hb) :=
  ⟨hlsOK_new b kh, hok, hlsPend_new kh hb, ho⟩

theorem afb_headersInv_new (b : Buf) (o : Nat) (ho : o ≤ b.size) (kh kc : Nat) (nil : Bool) :
    afbHeadersInv b o ({ hdrs := Array.replicate kh {} }, if nil then none else some (afbNewHv kc)) :=
  afb_headersInv_new_from b o ho kh _ (afb_hbOK_new b o ho kc nil)

/-- **every chunk schedule, ParseHeaders, from a new header list** (cleared array of any capacity) with new header
    values (contact array of any capacity) or none -/
theorem afb_headers_schedule (o kh kc : Nat) (nil : Bool) (l : List Buf) (hg : Growing l)
    (h0 : ∀ b ∈ l.head?, o ≤ b.size) :
    RR hdrsObs
      (resumeRun afbHeadersP o ({ hdrs := Array.replicate kh {} }, if nil then none else some (afbNewHv kc)) l)
      (oneShotRun afbHeadersP o ({ hdrs := Array.replicate kh {} }, if nil then none else some (afbNewHv kc)) l) :=
  afb_headers_schedule_from o _ _ l hg (fun b hb => afb_headersInv_new b o (h0 b hb) kh kc nil)

/-- what `RR` gives a caller: same offset, same verdict; the very same object whenever the verdict is one after which
    parsing goes on (OK, MoreBytes, MoreValues, Empty) -/
theorem afb_RR_use {σ τ : Type} {obs : σ → τ} {r1 r2 : Nat × Err × σ} (h : RR obs r1 r2) :
    r1.1 = r2.1 ∧ r1.2.1 = r2.2.1 ∧ (Err.goesOn r2.2.1 → r1 = r2) :=
  ⟨h.1, h.2.1, fun hg => h.eq hg⟩

/-! ### (C) tests / non-vacuity (closed computations by `decide +kernel`; examples, not the general claims) -/

/-- "*", "* CR LF", "* CR LF X": a schedule cutting a `*` P-Asserted-Identity value before and inside the line end -/
def afbStarCuts : List Buf := [#[42], #[42, 13, 10], #[42, 13, 10, 88]]

theorem afbStarCuts_growing : Growing afbStarCuts := ⟨⟨#[13, 10], by decide⟩, ⟨#[88], by decide⟩, trivial⟩

/-- test: the first two calls are suspended, the last one meets the `*`: the name-addr parser says OK, ParseOnePAI
    remaps it to the bad-value verdict, and the chain of resumed calls returns that verdict at that offset -/
example : (parseOnePAI #[42] 0 {}).2.1 = .moreBytes ∧ (parseOnePAI #[42, 13, 10] 0 {}).2.1 = .moreBytes ∧
    (parseNameAddrPVal HdrPAI #[42, 13, 10, 88] 0 {}).2.1 = .ok ∧ (parseOnePAI #[42, 13, 10, 88] 0 {}).2.1 = .valBad ∧
    (resumeRun parseOnePAI 0 {} afbStarCuts).2.1 = .valBad ∧ (resumeRun parseOnePAI 0 {} afbStarCuts).1 = 3 := by
  decide +kernel

/-- test: the schedule theorem instantiated on it -/
example : RR PFromBody.obs (resumeRun parseOnePAI 0 {} afbStarCuts) (oneShotRun parseOnePAI 0 {} afbStarCuts) :=
  afb_onePAI_schedule 0 afbStarCuts afbStarCuts_growing (by intro b hb; simp [afbStarCuts] at hb; subst hb; decide)

/-- "Via: x CR LF CSeq: 1 INVITE CR LF CR LF" cut after 3 and after 12 bytes -/
def afbHdrsBuf : Buf := "Via: x\r\nCSeq: 1 INVITE\r\n\r\n".toUTF8.data
def afbHdrsCuts : List Buf := [afbHdrsBuf.extract 0 3, afbHdrsBuf.extract 0 12, afbHdrsBuf]

theorem afbHdrsCuts_growing : Growing afbHdrsCuts :=
  ⟨prefix_grows _ (by decide), prefix_whole _ _, trivial⟩

/-- test: ParseHeaders (3-slot header array, header values with a 2-slot contact array) suspended twice, then OK; the
    schedule theorem gives the one-shot result, here with the very same object (`afb_RR_use`) -/
example : (afbHeadersP (afbHdrsBuf.extract 0 3) 0 ({ hdrs := Array.replicate 3 {} }, some (afbNewHv 2))).2.1 = .moreBytes ∧
    (afbHeadersP afbHdrsBuf 0 ({ hdrs := Array.replicate 3 {} }, some (afbNewHv 2))).2.1 = .ok := by
  decide +kernel

example : resumeRun afbHeadersP 0 ({ hdrs := Array.replicate 3 {} }, some (afbNewHv 2)) afbHdrsCuts =
    oneShotRun afbHeadersP 0 ({ hdrs := Array.replicate 3 {} }, some (afbNewHv 2)) afbHdrsCuts := by
  have h := afb_headers_schedule 0 3 2 false afbHdrsCuts afbHdrsCuts_growing
    (by intro b hb; simp [afbHdrsCuts] at hb; subst hb; exact Nat.zero_le _)
  refine (afb_RR_use h).2.2 ?_
  have : (oneShotRun afbHeadersP 0 ({ hdrs := Array.replicate 3 {} }, if false = true then none else some (afbNewHv 2))
      afbHdrsCuts).2.1 = .ok := by decide +kernel
  rw [this]; exact Or.inl rfl

/-- test: ParseFLine, a request line cut inside the method and inside the version -/
example : resumeRun parseFLine 0 {} [#[73, 78], #[73, 78, 86, 73, 84, 69, 32, 115, 105, 112, 58, 97, 32, 83, 73],
      #[73, 78, 86, 73, 84, 69, 32, 115, 105, 112, 58, 97, 32, 83, 73, 80, 47, 50, 46, 48, 13, 10, 88]] =
    oneShotRun parseFLine 0 {} [#[73, 78], #[73, 78, 86, 73, 84, 69, 32, 115, 105, 112, 58, 97, 32, 83, 73],
      #[73, 78, 86, 73, 84, 69, 32, 115, 105, 112, 58, 97, 32, 83, 73, 80, 47, 50, 46, 48, 13, 10, 88]] :=
  afb_fline_schedule 0 _ ⟨⟨#[86, 73, 84, 69, 32, 115, 105, 112, 58, 97, 32, 83, 73], by decide⟩,
    ⟨#[80, 47, 50, 46, 48, 13, 10, 88], by decide⟩, trivial⟩ (by decide) (by intro b hb; simp at hb; subst hb; decide)

end Sipsp
