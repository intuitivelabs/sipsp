/-
  Sipsp.Proofs.AuditFixC — four statements in their strongest form, each with a test on a concrete input; re-exported in
  Properties C05, C17, C04.  Everything is about the model.

  * C05, which header line a Contact / P-Asserted-Identity value belongs to.  `PlAssoc` / `PlMsg` and `HxAssoc` compare a
    value with the `val` of its header line only IF that line is stored in the header array; when the array overflows
    they accept wrong assignments (`PlAssoc` the constant map `f = N - 1`, `HxAssoc` wrong counts for lines that are
    not stored).  `AfcMsg gs m` (ValAssoc) determines the line of every value through `gs = afcMsgLines …`, the header
    objects of ALL accepted lines, a function of the input.  Here: that statement under every chunk schedule, relative
    to the buffer of the finishing call and to the last buffer (the list of accepted lines does not change when bytes
    are appended); the list IS the chain of lines of the text (`HsChain`) and the final header list is what accepting
    exactly these entries produces; a test object (header capacity 1, two Contact lines with 2 + 1 values, a CSeq
    line) on which `PlAssoc` accepts the constant map, `AfcAssoc` accepts no constant map, refutes the counts `[1, 2]`
    and determines `[2, 1]`.
  * C17, how far a rejected / suspended text is from a parameter: `BadChar` at `p` ⇒ at most FIVE bytes `s` make
    `b[0:p] ++ s` hold a parameter of the grammar; `MoreBytes` ⇒ at most SIX bytes `s` make `b ++ s` hold one.
  * C04 / C05 on the LAST buffer `B` of a chunk schedule: GetMsgSig does not panic on `B` nor on any extension of it
    (`AfcSigLast`, any verdict); the trimming of From / To / Contact / identity values read in `B`.
  * C17, `MoreBytes` at `r` EXACTLY: `afc_moreBytes_iff`, with `PVMoreAt` of ParamAt.  On `a = b SP CR LF` `PVMore` holds
    at 6 although the parser reports 5; `PVMoreAt` holds at 5 and not at 6.
  The `decide +kernel` computations are tests / non-vacuity, not the general claims.

  NOT proved here: that the counts of the first item are unique in general (they are on the test object; in general it
  needs that the `val` spans of different lines do not overlap, which is not derived for lines that are not stored);
  objects suspended in the middle of a header line other than through the one-shot equivalence (growing prefixes
  within the size limit); the object returned with MoreBytes.
-/
import Sipsp.Proofs.HnoExact
import Sipsp.Proofs.ResumedConverse
import Sipsp.Proofs.ParamVerdicts
import Sipsp.Proofs.SigGuardSafe
import Sipsp.Proofs.HdrSound

namespace Sipsp

/-! ## C05: the header line of every Contact / P-Asserted-Identity value -/

/-- **[C05] … under every chunk schedule, from Init**: if the chain of resumed calls over growing prefixes ends with
    OK, the final object is the object of ONE call on a buffer `b` of the schedule — a prefix of the last buffer `B`, so
    every span is a span of `B` with the same bytes — and satisfies `AfcMsg` relative to the accepted lines of `b` -/
theorem afc_values_pinned_schedule_init (flags : Nat) (o : Nat) (m0 : PSIPMsg) (len kh kc : Nat)
    (hdrs cts : Option Unit) (l : List Buf) (hg : Growing l) (hfit : ∀ x ∈ l, x.size ≤ 65535) (hne : l ≠ [])
    (ho : ∀ b ∈ l, o ≤ b.size) {B : Buf} (hB : l.getLast? = some B) {o' : Nat} {m' : PSIPMsg}
    (hr : resumeRun (C01.msgP flags) o
      (m0.init len (hdrs.map fun _ => Array.replicate kh {}) (cts.map fun _ => Array.replicate kc {})) l = (o', .ok, m')) :
    ∃ b ∈ l, (∃ t, B = b ++ t) ∧ parseSIPMsg b o
        (m0.init len (hdrs.map fun _ => Array.replicate kh {}) (cts.map fun _ => Array.replicate kc {})) flags = (o', .ok, m') ∧
      AfcMsg (afcMsgLines b o (m0.init len (hdrs.map fun _ => Array.replicate kh {}) (cts.map fun _ => Array.replicate kc {})))
        m' := by
  obtain ⟨b, hb, h⟩ := flo_schedule_init flags o m0 len kh kc hdrs cts l hg hfit hne ho hr
  exact ⟨b, hb, mlf_growing_last hg hB b hb, h,
    afc_values_pinned_init b o m0 len kh kc hdrs cts flags (hfit b hb) (ho b hb) h⟩

/-! #### the list of accepted lines does not change when bytes are appended; the schedule form on the LAST buffer -/

/-- a header block that is not suspended has the same accepted lines in every extension of the buffer (any fuel that
    is enough) -/
theorem afc_trace_app (b s : Buf) (offs : Nat) (hl : HdrLst) (hb : Option PHdrVals)
    (hok1 : hlsOK b hl) (hok2 : hbOK b offs hb) (fuel fuel' : Nat) (hf : b.size - offs < fuel)
    (hf' : (b ++ s).size - offs < fuel') (hr : (parseHeaders b offs hl hb).2.1 ≠ .moreBytes) :
    afcTrace (b ++ s) fuel' offs hl hb = afcTrace b fuel offs hl hb := by
  induction hk : b.size - offs using Nat.strongRecOn generalizing offs hl hb fuel fuel' with
  | _ k ih =>
    by_cases hlt : offs < b.size
    · obtain ⟨f, rfl⟩ : ∃ f, fuel = f + 1 := ⟨fuel - 1, by omega⟩
      obtain ⟨f', rfl⟩ : ∃ f', fuel' = f' + 1 := ⟨fuel' - 1, by omega⟩
      have hltB : offs < (b ++ s).size := by rw [Array.size_append]; omega
      rcases hp : parseHdrLine b offs hl.cur hb with ⟨n, e1, h, hb1⟩
      have hI : hlOK b offs hl.cur hb := ⟨by omega, hlsOK_cur hok1, hok2⟩
      have hm : e1 ≠ .moreBytes := by
        intro hm; subst hm
        apply hr
        rw [parseHeaders, if_pos hlt, hp]
      have hst := parseHdrLine_stable b s offs hl.cur hb hI hp hm
      rw [afcTrace, afcTrace, hst, hp]
      simp only
      by_cases hc : e1 = .ok ∧ offs < n
      · obtain ⟨rfl, hg⟩ := hc
        rw [if_pos ⟨hltB, rfl, hg⟩, if_pos ⟨hlt, rfl, hg⟩]
        have hpost := parseHdrLine_post b offs hl.cur hb hI hp (Or.inl rfl)
        congr 1
        refine ih (b.size - n) (by omega) n _ hb1 (hlsOK_next h hok1) hpost.2 f f' (by omega)
          (by rw [Array.size_append] at hf' ⊢; omega) ?_ rfl
        intro hh
        apply hr
        rw [parseHeaders_line hp hlt hg]
        exact hh
      · rw [if_neg (fun hh => hc ⟨hh.2.1, hh.2.2⟩), if_neg (fun hh => hc ⟨hh.2.1, hh.2.2⟩)]
    · exfalso
      apply hr
      rw [parseHeaders, if_neg hlt]

/-- a message parsed with OK has the same accepted header lines in every extension of the buffer -/
theorem afc_msgLines_app (b t : Buf) (o : Nat) (m : PSIPMsg) (flags : Nat) (hfit : b.size ≤ 65535)
    (hok : msgOK2 b o m) (H : MsgSafe b o m) (hst : m.state = .init) {o' : Nat} {m' : PSIPMsg}
    (hr : parseSIPMsg b o m flags = (o', .ok, m')) : afcMsgLines (b ++ t) o m = afcMsgLines b o m := by
  obtain ⟨ho, hfl, hrest⟩ := hok
  obtain ⟨hls, hvs, hpe⟩ := hrest (by rw [hst]; decide)
  obtain ⟨o1, fl, h, hl, hv, hp, hh, _⟩ := parseSIPMsg_ok_path b o m flags hst hr
  have hF := parseFLine_safe b o m.fl hfit (H.flS (Or.inl hst))
  have hge := parseFLine_ge b o m.fl
  rw [hp] at hF hge
  simp only at hF hge
  have hpB := parseFLine_stable b t o m.fl (hfl (Or.inl hst)) hfit hp (by decide)
  unfold afcMsgLines
  rw [hpB, hp]
  exact afc_trace_app b t o1 m.hl (some m.pv) hls (hvOK_mono hvs hge hF.ho) (b.size + 1) ((b ++ t).size + 1)
    (by omega) (by omega) (by rw [hh]; intro hq; cases hq)

/-- **[C05] every chunk schedule from Init, on the LAST buffer `B` of the schedule**
    (`l.getLast? = some B`): if the chain of resumed calls over growing prefixes ends with OK, the final object satisfies
    `AfcMsg` relative to the accepted header lines of `B` itself -/
theorem afc_values_pinned_last (flags : Nat) (o : Nat) (m0 : PSIPMsg) (len kh kc : Nat)
    (hdrs cts : Option Unit) (l : List Buf) (hg : Growing l) (hfit : ∀ x ∈ l, x.size ≤ 65535)
    (ho : ∀ b ∈ l, o ≤ b.size) {B : Buf} (hB : l.getLast? = some B) {o' : Nat} {m' : PSIPMsg}
    (hr : resumeRun (C01.msgP flags) o
      (m0.init len (hdrs.map fun _ => Array.replicate kh {}) (cts.map fun _ => Array.replicate kc {})) l = (o', .ok, m')) :
    AfcMsg (afcMsgLines B o (m0.init len (hdrs.map fun _ => Array.replicate kh {}) (cts.map fun _ => Array.replicate kc {})))
      m' := by
  have hne : l ≠ [] := by intro hh; rw [hh] at hB; cases hB
  obtain ⟨b, hb, h⟩ := flo_schedule_init flags o m0 len kh kc hdrs cts l hg hfit hne ho hr
  obtain ⟨t, rfl⟩ := mlf_growing_last hg hB b hb
  obtain ⟨_, _, q3⟩ := MsgLo_init o m0 len kh kc hdrs cts
  rw [afc_msgLines_app b t o _ flags (hfit b hb) (msgOK2_init b o (ho b hb) m0 len kh kc hdrs cts)
    (MsgSafe_init b o (ho b hb) m0 len kh kc hdrs cts) q3 h]
  exact afc_values_pinned_init b o m0 len kh kc hdrs cts flags (hfit b hb) (ho b hb) h

/-! #### the list of accepted lines IS the chain of lines ParseHeaders reports -/

/-- **the accepted lines, as computed by `afcTrace`, are the lines of the accepted text** (list object in the state of
    a new / reset one, ANY values object): if ParseHeaders ends with OK (or "empty"), then `afcTrace` lists a chain of
    lines of the text `[o, e)` — each entry has the name as written and the type that name classifies as (`HsChain`) —
    and the list object is exactly what accepting these entries, in order, produces -/
theorem afc_trace_chain (b : Buf) (hfit : b.size ≤ 65535) :
    ∀ (o : Nat) (hl : HdrLst) (hb : Option PHdrVals) (fuel : Nat), b.size - o < fuel → HlsClean hl →
      hl.cur = {} → ∀ {e : Nat} {er : Err} {hl' : HdrLst} {hb' : Option PHdrVals},
        parseHeaders b o hl hb = (e, er, hl', hb') → (er = .ok ∨ er = .empty) →
        HsChain b o (afcTrace b fuel o hl hb) e ∧
          hl' = (hl.acceptAll (afcTrace b fuel o hl hb)).setCur { state := .fin } := by
  intro o hl hb fuel hfu hc hcur e er hl' hb' hr her
  have key := parseHeaders_rec b (M := fun o hl hb r => ∀ fuel, b.size - o < fuel → HlsClean hl → hl.cur = {} →
      (r.2.1 = .ok ∨ r.2.1 = .empty) → HsChain b o (afcTrace b fuel o hl hb) r.1 ∧
        r.2.2.1 = (hl.acceptAll (afcTrace b fuel o hl hb)).setCur { state := .fin }) (line := ?line) (bug := ?bug)
      (empty := ?empty) (stop := ?stop) (eob := ?eob) o hl hb
  · rw [hr] at key
    exact key fuel hfu hc hcur her
  case line =>
    rintro o hl hb n g hb' r hlt hp hgt ih fuel hfu hc hcur her
    obtain ⟨f, rfl⟩ : ∃ f, fuel = f + 1 := ⟨fuel - 1, by omega⟩
    have hcl := accept_clean hl g hc
    obtain ⟨H, h1⟩ := ih f (by omega) hcl.1 hcl.2 her
    rw [afcTrace, hp, if_pos ⟨hlt, rfl, hgt⟩]
    rw [hcur] at hp
    exact ⟨HsChain.cons o n _ g _ (hs_line_name_type_sound b o hb hfit hp) hgt H, h1⟩
  case bug =>
    rintro o hl hb n g hb' _ _ _ _ _ _ _ her
    rcases her with h | h <;> cases h
  case empty =>
    rintro o hl hb n g hb' hlt hp fuel hfu _ hcur _
    obtain ⟨f, rfl⟩ : ∃ f, fuel = f + 1 := ⟨fuel - 1, by omega⟩
    rw [afcTrace, hp, if_neg (fun hh => by cases hh.2.1)]
    rw [hcur] at hp
    obtain ⟨hem, rfl, _⟩ := hs_line_empty_all b o hb hfit hp
    exact ⟨HsChain.nil o _ hem, rfl⟩
  case stop =>
    rintro o hl hb n e g hb' _ _ hne hne' _ _ _ _ her
    rcases her with h | h
    · exact absurd h hne
    · exact absurd h hne'
  case eob =>
    rintro o hl hb _ _ _ _ _ her
    rcases her with h | h <;> cases h

/-- **message from Init**: the list `afcMsgLines` is a chain of lines of the header block — it starts where the first line
    ends, every entry has the name as written and the type of that name — and the header list of the final object is
    what accepting exactly these entries, in order, produces -/
theorem afc_msgLines_chain (b : Buf) (o : Nat) (m0 : PSIPMsg) (len kh kc : Nat) (hdrs cts : Option Unit)
    (flags : Nat) (hfit : b.size ≤ 65535) {o' : Nat} {m' : PSIPMsg}
    (hr : parseSIPMsg b o (m0.init len (hdrs.map fun _ => Array.replicate kh {}) (cts.map fun _ => Array.replicate kc {}))
      flags = (o', .ok, m')) :
    ∃ e, HsChain b (parseFLine b o {}).1
        (afcMsgLines b o (m0.init len (hdrs.map fun _ => Array.replicate kh {}) (cts.map fun _ => Array.replicate kc {}))) e ∧
      m'.hl = ((hsNew (rcCap hdrs kh)).acceptAll
        (afcMsgLines b o (m0.init len (hdrs.map fun _ => Array.replicate kh {}) (cts.map fun _ => Array.replicate kc {})))).setCur
          { state := .fin } := by
  obtain ⟨q1, q2, q3⟩ := rc_init_lists m0 len kh kc hdrs cts
  obtain ⟨o1, fl, h, hl, hv, hp, hh, hbody⟩ := parseSIPMsg_ok_path b o _ flags q1 hr
  unfold afcMsgLines
  rw [afc_init_fl] at hp ⊢
  rw [hp]
  simp only
  rw [q2] at hh ⊢
  obtain ⟨H, h1⟩ := afc_trace_chain b hfit o1 (hsNew (rcCap hdrs kh)) _ (b.size + 1) (by omega)
    (hsNew_ok _).1 (hsNew_ok _).2 hh (Or.inl rfl)
  obtain ⟨_, k2, _⟩ := flo_msgBody_keeps b h (afaBodyEntry _ o fl hl hv) flags
  rw [hbody] at k2
  exact ⟨h, H, by rw [k2]; exact h1⟩

/-! #### non-vacuity, and the refutation of wrong assignments when the header array overflows
  (closed computations by `decide +kernel`: tests / examples, not the general claims) -/

/-- test message: two Contact lines (2 + 1 values) and a CSeq line -/
def afcExBuf : Buf := "REGISTER sip:a@b SIP/2.0\r\nContact: <sip:a@b>, <sip:c@d>\r\nContact: <sip:e@f>\r\nCSeq: 1 REGISTER\r\n\r\n".toUTF8.data

/-- Init object: header array of ONE entry (it overflows), contact array of four -/
def afcExInit : PSIPMsg :=
  ({} : PSIPMsg).init 0 ((some ()).map fun _ => Array.replicate 1 {}) ((some ()).map fun _ => Array.replicate 4 {})

def afcExM : PSIPMsg := (parseSIPMsg afcExBuf 0 afcExInit 0).2.2

/-- `PlIn` is a comparison of four numbers (used as an instance by the evaluation in `afcEx_facts` only) -/
def afcPlInDec (L v : PField) : Decidable (PlIn L v) := by unfold PlIn svInside; infer_instance

attribute [local instance] afcPlInDec in
/-- test: what the objects look like.  The call ends with OK; three lines accepted (Contact `val` = `[35, 55)`, Contact
    `[66, 75)`, CSeq), ONE stored; three contact values `[35, 44)`, `[46, 55)`, `[66, 75)`, all stored; `HNo` = 2; which
    value lies in which line (the last conjuncts).  One evaluation of the call for all the tests of this section. -/
theorem afcEx_facts :
    (afcExBuf.size ≤ 65535 ∧ (parseSIPMsg afcExBuf 0 afcExInit 0).2.1 = .ok) ∧
    (afcMsgLines afcExBuf 0 afcExInit).map (fun h => (h.type, h.val.offs, h.val.len)) =
      [(HdrContact, 35, 20), (HdrContact, 66, 9), (HdrCSeq, 83, 10)] ∧
    afcExM.hl.n = 3 ∧ afcExM.hl.hdrs.size = 1 ∧ afcExM.pv.contacts.n = 3 ∧ afcExM.pv.contacts.hNo = 2 ∧
    afcExM.pv.contacts.vals.toList.map (fun f => (f.v.offs, f.v.len)) = [(35, 9), (46, 9), (66, 9), (0, 0)] ∧
    afcIdx HdrContact (afcMsgLines afcExBuf 0 afcExInit) = [0, 1] ∧
    (afcMsgLines afcExBuf 0 afcExInit).length = 3 ∧ afcExM.pv.contacts.vals.size = 4 ∧
    ¬ PlIn (afcMsgLines afcExBuf 0 afcExInit)[0]!.val afcExM.pv.contacts.vals[2]!.v ∧
    ¬ PlIn (afcMsgLines afcExBuf 0 afcExInit)[1]!.val afcExM.pv.contacts.vals[0]!.v ∧
    ¬ PlIn (afcMsgLines afcExBuf 0 afcExInit)[1]!.val afcExM.pv.contacts.vals[1]!.v ∧
    (afcMsgLines afcExBuf 0 afcExInit)[2]!.type ≠ HdrContact := by decide +kernel

theorem afcEx_run : parseSIPMsg afcExBuf 0 afcExInit 0 =
    ((parseSIPMsg afcExBuf 0 afcExInit 0).1, .ok, (parseSIPMsg afcExBuf 0 afcExInit 0).2.2) :=
  mlf_triple_eta _ rfl afcEx_facts.1.2

/-- **the hypothesis of `afc_values_pinned_init` is satisfiable** (non-vacuity) and the theorem applies to the test -/
theorem afcEx_msg : AfcMsg (afcMsgLines afcExBuf 0 afcExInit) afcExM := by
  unfold afcExM
  exact afc_values_pinned_init afcExBuf 0 {} 0 1 4 (some ()) (some ()) 0 afcEx_facts.1.1 (Nat.zero_le _) afcEx_run

/-- test: **`PlAssoc` (ValAssoc) accepts the constant map** `f = HdrLst.N - 1` on this object: all three
    contact values "belong" to the CSeq line, because that line is not stored -/
theorem afcEx_old_accepts_const :
    (∀ k k', k ≤ k' → k' < afcExM.pv.contacts.n → (fun _ : Nat => afcExM.hl.n - 1) k ≤ (fun _ : Nat => afcExM.hl.n - 1) k') ∧
    ∀ k, k < afcExM.pv.contacts.n → (fun _ : Nat => afcExM.hl.n - 1) k < afcExM.hl.n ∧
      (k < afcExM.pv.contacts.vals.size → (fun _ : Nat => afcExM.hl.n - 1) k < afcExM.hl.hdrs.size →
        afcExM.hl.hdrs[(fun _ : Nat => afcExM.hl.n - 1) k]!.type = HdrContact ∧
        PlIn afcExM.hl.hdrs[(fun _ : Nat => afcExM.hl.n - 1) k]!.val afcExM.pv.contacts.vals[k]!.v) := by
  obtain ⟨_, _, h1, h2, _⟩ := afcEx_facts
  refine ⟨fun _ _ _ _ => Nat.le_refl _, fun k _ => ⟨?_, fun _ hh => ?_⟩⟩
  · show afcExM.hl.n - 1 < afcExM.hl.n
    omega
  · exfalso
    have hh' : afcExM.hl.n - 1 < afcExM.hl.hdrs.size := hh
    omega

/-- test: **`AfcAssoc` (its consequence `AfcAssoc.map`) is satisfied by NO constant map** on this object -/
theorem afcEx_const_refuted (c : Nat) :
    ¬ (∀ k, k < afcExM.pv.contacts.n → c < (afcMsgLines afcExBuf 0 afcExInit).length ∧
        (afcMsgLines afcExBuf 0 afcExInit)[c]!.type = HdrContact ∧
        (k < afcExM.pv.contacts.vals.size →
          PlIn (afcMsgLines afcExBuf 0 afcExInit)[c]!.val afcExM.pv.contacts.vals[k]!.v)) := by
  intro h
  obtain ⟨_, _, _, _, hn, _, _, _, hlen, hs, r02, r10, _, r2⟩ := afcEx_facts
  obtain ⟨a1, a2, a3⟩ := h 0 (by omega)
  obtain ⟨_, _, c3⟩ := h 2 (by omega)
  rw [hlen] at a1
  have hc : c = 0 ∨ c = 1 ∨ c = 2 := by omega
  rcases hc with rfl | rfl | rfl
  · exact r02 (c3 (by omega))
  · exact r10 (a3 (by omega))
  · exact r2 a2

/-- test: **wrong counts are refuted**: `[1, 2]` (second value assigned to the second, NOT stored, Contact line) does not
    satisfy `AfcBlocks` — the statement of HnoExact (`HxAssoc`) would not notice, the second line not being stored -/
theorem afcEx_wrong_counts_refuted :
    ¬ AfcBlocks HdrContact (afcMsgLines afcExBuf 0 afcExInit) afcExM.pv.contacts.vals [1, 2] := by
  intro h
  obtain ⟨_, _, _, _, _, _, _, hidx, _, hs, _, _, r11, _⟩ := afcEx_facts
  exact r11 (h 1 1 (by rw [hidx]; rfl) 1 (by decide) (by decide) (by omega))

/-- test: hence on this object the counts are DETERMINED: `[2, 1]` -/
theorem afcEx_counts_determined (cnt : List Nat) (h2 : cnt.length = afcExM.pv.contacts.hNo) (h3 : ∀ c ∈ cnt, 0 < c)
    (h4 : cnt.sum = afcExM.pv.contacts.n)
    (h5 : AfcBlocks HdrContact (afcMsgLines afcExBuf 0 afcExInit) afcExM.pv.contacts.vals cnt) : cnt = [2, 1] := by
  obtain ⟨_, _, _, _, hn, hno, _⟩ := afcEx_facts
  rw [hno] at h2
  rw [hn] at h4
  match cnt, h2 with
  | [a, c], _ =>
    have ha := h3 a (by simp)
    have hc := h3 c (by simp)
    simp only [List.sum_cons, List.sum_nil] at h4
    have : (a = 1 ∧ c = 2) ∨ (a = 2 ∧ c = 1) := by omega
    rcases this with ⟨rfl, rfl⟩ | ⟨rfl, rfl⟩
    · exact absurd h5 afcEx_wrong_counts_refuted
    · rfl

/-- a schedule for the test message: cut inside the first Contact value and inside the second Contact line -/
def afcExCuts : List Buf := [afcExBuf.extract 0 40, afcExBuf.extract 0 70, afcExBuf]

/-- non-vacuity of `afc_values_pinned_last` / `afc_values_pinned_schedule_init` (test: the chain of resumed calls ends with
    OK; the statement is relative to the accepted lines of the WHOLE buffer) and of `afc_msgLines_chain` -/
example : ∃ o' m', resumeRun (C01.msgP 0) 0 afcExInit afcExCuts = (o', .ok, m') ∧
    AfcMsg (afcMsgLines afcExBuf 0 afcExInit) m' := by
  have hg : Growing afcExCuts := ⟨prefix_grows _ (by decide), prefix_whole _ _, trivial⟩
  have he : (resumeRun (C01.msgP 0) 0 afcExInit afcExCuts).2.1 = .ok := by decide +kernel
  have hp := mlf_triple_eta (resumeRun (C01.msgP 0) 0 afcExInit afcExCuts) rfl he
  exact ⟨_, _, hp, afc_values_pinned_last 0 0 {} 0 1 4 (some ()) (some ()) afcExCuts hg
    (afc_fit_of_last hg rfl afcEx_facts.1.1) (fun _ _ => Nat.zero_le _) (B := afcExBuf) rfl hp⟩

example : ∃ e, HsChain afcExBuf (parseFLine afcExBuf 0 {}).1 (afcMsgLines afcExBuf 0 afcExInit) e :=
  let ⟨e, H, _⟩ := afc_msgLines_chain afcExBuf 0 {} 0 1 4 (some ()) (some ()) 0 afcEx_facts.1.1 afcEx_run
  ⟨e, H⟩

/-! ## C17: the completions of a rejected / suspended parameter text, with the witness explicit -/

/-- **the text before a rejected byte is a proper prefix of a parameter of the grammar, witness explicit**: if `BadChar`
    is reported at `p`, then `p` is a position of the buffer and there are at most FIVE bytes `s` such that the buffer
    `b[0:p] ++ s` — which has the bytes of `b` below `p` — holds a parameter of the grammar `PSParam` at `o`, accepted
    with `EOH` -/
theorem afc_badChar_prefix_extends {b : Buf} {flags o p : Nat} (h : PVBad b flags o p) :
    ∃ s o' p', s.size ≤ 5 ∧ p < b.size ∧ PVAgree b (b.extract 0 p ++ s) p ∧
      PSParam (b.extract 0 p ++ s) flags {} o o' .eoh p' :=
  tokparam_badChar_prefix_witness h

/-- … from the call: `BadChar` at `p` on a new object -/
theorem afc_badChar_call_extends {b : Buf} {flags o p : Nat} {p' : PTokParam}
    (h : parseTokenParam b o {} flags = (p, .badChar, p')) :
    ∃ s o' p'', s.size ≤ 5 ∧ p < b.size ∧ PVAgree b (b.extract 0 p ++ s) p ∧
      PSParam (b.extract 0 p ++ s) flags {} o o' .eoh p'' :=
  afc_badChar_prefix_extends (tokparam_badChar_sound h)

-- `hf` is not needed by the proof; the statement stands as the property files export it
set_option linter.unusedVariables false in
/-- **a suspended text is a proper prefix of a parameter of the grammar, with the size of the witness**: if the call
    (no end-of-input option, start offset inside the buffer) returns `MoreBytes`, there are at most SIX bytes `s` such
    that `b ++ s` holds a parameter of the grammar `PSParam` at `o`, accepted with `EOH` -/
theorem afc_moreBytes_extends {b : Buf} {flags o r : Nat} {p' : PTokParam} (ho : o ≤ b.size)
    (hf : hasFlag flags POptInputEndF = false) (h : parseTokenParam b o {} flags = (r, .moreBytes, p')) :
    ∃ s o' p'', s.size ≤ 6 ∧ PSParam (b ++ s) flags {} o o' .eoh p'' :=
  tokparam_moreBytes_witness ho h

/-- non-vacuity of `afc_badChar_call_extends` (`a b`: the second token is rejected at its first byte) and of
    `afc_moreBytes_extends` (unfinished white space) -/
example : ∃ s o' p'', s.size ≤ 5 ∧ 2 < "a b".toUTF8.data.size ∧ PVAgree "a b".toUTF8.data ("a b".toUTF8.data.extract 0 2 ++ s) 2 ∧
    PSParam ("a b".toUTF8.data.extract 0 2 ++ s) 0 {} 0 o' .eoh p'' := by
  have h1 : (parseTokenParam "a b".toUTF8.data 0 {} 0).1 = 2 ∧ (parseTokenParam "a b".toUTF8.data 0 {} 0).2.1 = .badChar := by
    decide +kernel
  exact afc_badChar_call_extends (mlf_triple_eta _ h1.1 h1.2)

example : ∃ s o' p'', s.size ≤ 6 ∧ PSParam ("a = b \r\n".toUTF8.data ++ s) 0 {} 0 o' .eoh p'' := by
  exact afc_moreBytes_extends (by decide) (by decide) (mlf_triple_eta _ rfl (by decide +kernel))

/-! ## C04 / C05: the schedule theorems stated on the LAST buffer of the schedule -/

/-- what is guaranteed about GetMsgSig on the final object of a chain of calls, against the last buffer `B` of the
    schedule: no panic on `B`, no panic and the same result on every extension of `B`, and — in the two end states
    GetMsgSig reads — the retained length `len(msg.Buf)` does not exceed `len(B)` -/
def AfcSigLast (B : Buf) (m' : PSIPMsg) : Prop :=
  (getMsgSig m' B).2.2 = false ∧
  (∀ s, (getMsgSig m' (B ++ s)).2.2 = false ∧ getMsgSig m' (B ++ s) = getMsgSig m' B) ∧
  (m'.state = .fin ∨ m'.state = .noCLen → m'.bufLen ≤ B.size)

/-- **[C04] every chunk schedule from any legitimate object, whatever verdict the chain ends with, stated on the last
    buffer `B` of the schedule** -/
theorem afc_sig_never_panics_last_from (flags : Nat) (o : Nat) (m : PSIPMsg) (l : List Buf)
    (hg : Growing l) (hfit : ∀ x ∈ l, x.size ≤ 65535) (hI : ScMsg m)
    (h0 : ∀ b ∈ l.head?, msgOK2 b o m ∧ MsgSafe b o m) {B : Buf} (hB : l.getLast? = some B) :
    AfcSigLast B (resumeRun (C01.msgP flags) o m l).2.2 := by
  have hne : l ≠ [] := by intro hh; rw [hh] at hB; cases hB
  obtain ⟨b, hb, hF, hlen⟩ := sig_fine_schedule_from flags o m l hg hfit hne hI h0
  obtain ⟨t, rfl⟩ := mlf_growing_last hg hB b hb
  refine ⟨hF.ext t, fun s => ?_, fun hc => ?_⟩
  · rw [Array.append_assoc]
    exact ⟨hF.ext _, by rw [hF.2 (t ++ s), hF.2 t]⟩
  · have := hlen hc
    rw [Array.size_append]; omega

/-- **[C04] every chunk schedule from Init, whatever verdict the chain ends with (OK, MoreBytes, NoCLen, any error),
    stated on the last buffer `B` of the schedule** (`l.getLast? = some B`): GetMsgSig on the final object does not
    panic against `B`, nor against any extension of `B`, with the same result; in the completed states
    `len(msg.Buf) ≤ len(B)` -/
theorem afc_sig_never_panics_last (flags : Nat) (o : Nat) (m0 : PSIPMsg) (len kh kc : Nat)
    (hdrs cts : Option Unit) (l : List Buf) (hg : Growing l) (hfit : ∀ x ∈ l, x.size ≤ 65535)
    (ho : ∀ b ∈ l, o ≤ b.size) {B : Buf} (hB : l.getLast? = some B) {o' : Nat} {e : Err} {m' : PSIPMsg}
    (hr : resumeRun (C01.msgP flags) o
      (m0.init len (hdrs.map fun _ => Array.replicate kh {}) (cts.map fun _ => Array.replicate kc {})) l = (o', e, m')) :
    AfcSigLast B m' := by
  have h0 : ∀ b ∈ l.head?, o ≤ b.size := by
    intro b hb
    cases l with
    | nil => cases hb
    | cons x xs => simp at hb; subst hb; exact ho _ List.mem_cons_self
  have := afc_sig_never_panics_last_from flags o _ l hg hfit (ScMsg_init m0 len kh kc hdrs cts)
    (fun b hb => ⟨msgOK2_init b o (h0 b hb) m0 len kh kc hdrs cts, MsgSafe_init b o (h0 b hb) m0 len kh kc hdrs cts⟩) hB
  rw [hr] at this
  exact this

theorem afc_HxNL_app {b : Buf} {i : Nat} (h : HxNL b i) (t : Buf) : HxNL (b ++ t) i := by
  obtain ⟨c, h1, h2, h3⟩ := h
  exact ⟨c, h1, get?_app h2, h3⟩

theorem afc_HxTrC_app {b : Buf} {e : Err} {v : PField} (h : HxTrC b e v) (t : Buf) : HxTrC (b ++ t) e v := by
  rcases h with h | ⟨h1, h2, j, c0, a1, a2, a3, a4, a5⟩
  · exact Or.inl (afc_HxNL_app h t)
  · exact Or.inr ⟨h1, get?_app h2, j, c0, a1, get?_app a2, a3, a4,
      Span.app (P := fun c => isLWSch c = true) (i := j + 1) a5 t⟩

/-- **[C05] trimming under every chunk schedule from Init, stated on the last buffer `B` of the schedule**: if the chain
    ends with OK, then — reading the bytes in `B` — the From and To values (if parsed) do not end with white space,
    every stored Contact / identity value does not end with white space except in the one shape of `HxTrC`; the
    message is complete and `len(msg.Buf)` = the returned offset `≤ len(B)` -/
theorem afc_msg_trim_last (flags : Nat) (o : Nat) (m0 : PSIPMsg) (len kh kc : Nat)
    (hdrs cts : Option Unit) (l : List Buf) (hg : Growing l) (hfit : ∀ x ∈ l, x.size ≤ 65535)
    (ho : ∀ b ∈ l, o ≤ b.size) {B : Buf} (hB : l.getLast? = some B) {o' : Nat} {m' : PSIPMsg}
    (hr : resumeRun (C01.msgP flags) o
      (m0.init len (hdrs.map fun _ => Array.replicate kh {}) (cts.map fun _ => Array.replicate kc {})) l = (o', .ok, m')) :
    (m'.pv.from_.parsed = true → HxNL B (m'.pv.from_.v.offs + m'.pv.from_.v.len)) ∧
    (m'.pv.to.parsed = true → HxNL B (m'.pv.to.v.offs + m'.pv.to.v.len)) ∧
    (∀ k, k < m'.pv.contacts.n → k < m'.pv.contacts.vals.size → HxTrC B .moreValues m'.pv.contacts.vals[k]!.v) ∧
    (∀ k, k < m'.pv.pais.n → k < m'.pv.pais.vals.size → HxTrC B .moreValues m'.pv.pais.vals[k]!.v) ∧
    m'.bufLen = o' ∧ o' ≤ B.size := by
  have hne : l ≠ [] := by intro hh; rw [hh] at hB; cases hB
  obtain ⟨b, hb, h⟩ := flo_schedule_init flags o m0 len kh kc hdrs cts l hg hfit hne ho hr
  obtain ⟨q1, q2, q3, q4⟩ := hx_msg_trim_init b o m0 len kh kc hdrs cts flags (hfit b hb) (ho b hb) h
  have hD := sg_parseSIPMsg_done_ok b o _ flags (hfit b hb) (ScMsg_init m0 len kh kc hdrs cts)
    (msgOK2_init b o (ho b hb) m0 len kh kc hdrs cts) (MsgSafe_init b o (ho b hb) m0 len kh kc hdrs cts)
    (by rw [h])
  rw [h] at hD
  obtain ⟨t, rfl⟩ := mlf_growing_last hg hB b hb
  refine ⟨fun hp => afc_HxNL_app (q1 hp) t, fun hp => afc_HxNL_app (q2 hp) t,
    fun k k1 k2 => afc_HxTrC_app (q3 k k1 k2) t, fun k k1 k2 => afc_HxTrC_app (q4 k k1 k2) t, hD.bufLen, ?_⟩
  have := hD.le
  rw [Array.size_append]
  exact Nat.le_trans this (Nat.le_add_right _ _)

/-- non-vacuity of `afc_sig_never_panics_last`: the schedule of SigGuardSafe (message cut after 50 and 100 bytes, ends
    with NoCLen); `B` is the whole message -/
example : AfcSigLast sgTestNoCL (resumeRun (C01.msgP 3) 0 sgTestInit sgTestCuts).2.2 :=
  afc_sig_never_panics_last 3 0 {} 0 0 0 none none sgTestCuts sgTestCuts_growing sgTestCuts_fit
    (fun _ _ => Nat.zero_le _) (B := sgTestNoCL) rfl
    (mlf_triple_eta (resumeRun (C01.msgP 3) 0 sgTestInit sgTestCuts) rfl rfl)

/-- a schedule for the trimming test message of HnoExact: cut inside the Contact value and before the CSeq line -/
def afcTrimCuts : List Buf := [hxTrimMsg.extract 0 40, hxTrimMsg.extract 0 62, hxTrimMsg]

/-- non-vacuity of `afc_msg_trim_last` (test: the chain ends with OK) -/
example : ∃ o' m', resumeRun (C01.msgP 0) 0 (({} : PSIPMsg).init 0 ((some ()).map fun _ => Array.replicate 4 {})
      ((some ()).map fun _ => Array.replicate 4 {})) afcTrimCuts = (o', .ok, m') ∧
    (∀ k, k < m'.pv.contacts.n → k < m'.pv.contacts.vals.size → HxTrC hxTrimMsg .moreValues m'.pv.contacts.vals[k]!.v) ∧
    m'.bufLen = o' ∧ o' ≤ hxTrimMsg.size := by
  have hg : Growing afcTrimCuts := ⟨prefix_grows _ (by decide), prefix_whole _ _, trivial⟩
  have he : hxTrimMsg.size ≤ 65535 ∧
      (resumeRun (C01.msgP 0) 0 (({} : PSIPMsg).init 0 ((some ()).map fun _ => Array.replicate 4 {})
        ((some ()).map fun _ => Array.replicate 4 {})) afcTrimCuts).2.1 = .ok := by decide +kernel
  have hp := mlf_triple_eta (resumeRun (C01.msgP 0) 0 (({} : PSIPMsg).init 0 ((some ()).map fun _ => Array.replicate 4 {})
      ((some ()).map fun _ => Array.replicate 4 {})) afcTrimCuts) rfl he.2
  have := afc_msg_trim_last 0 0 {} 0 4 4 (some ()) (some ()) afcTrimCuts hg (afc_fit_of_last hg rfl he.1)
    (fun _ _ => Nat.zero_le _) (B := hxTrimMsg) rfl hp
  exact ⟨_, _, hp, this.2.2.1, this.2.2.2.2.1, this.2.2.2.2.2⟩

/-! ## C17: `MoreBytes` of ParseTokenParam, with the returned offset determined -/

/-- **[C17] `MoreBytes` at `r` ⇒ `PVMoreAt`** (new object, every buffer, offset and option word): the text
    `[o, r)` is the beginning of a parameter; either the end-of-input option is off, `r` is the start of white space cut
    short by the end of the buffer (`r = o` or the byte before `r` is not SP / HT / CR / LF), or `r` is the end of the
    buffer / a trailing back-slash inside an open quoted string -/
theorem afc_moreBytes_at {b : Buf} {o flags r : Nat} {p' : PTokParam}
    (h : parseTokenParam b o {} flags = (r, .moreBytes, p')) : PVMoreAt b flags o r := by
  have := (pv_run flags o b o o {} {} (PVAt.init o o (Pad.nil o) (Lws.nil o)) (Or.inl (Or.inl rfl))).1.2
  rw [← parseTokenParam_run flags b o {} (by decide), h] at this
  exact this rfl

/-! ### the converse: every text of the shape `PVMoreAt … r` is suspended at that very offset -/

/-- white space up to the end of the input, end-of-input option off: skipLWS asks for more bytes -/
theorem afc_skipLWS_end_more {b : Buf} {i p : Nat} (f : Nat) (h : Lws b i p) (he : EndTail b p)
    (hf : hasFlag f POptInputEndF = false) : ∃ n crl, skipLWS b i f = (n, crl, .moreBytes) :=
  ⟨p, 0, skipLWS_of_out (.more h he (fun hh => by rw [hf] at hh; cases hh))⟩

/-- white space that ends right after a byte that is not white space is empty -/
theorem afc_lws_nil_of_pin {b : Buf} {x i : Nat} (h : Lws b x i)
    (hpin : ∃ c, 0 < i ∧ b[i - 1]? = some c ∧ isLWSch c = false) : x = i := by
  have hle := h.le
  rcases Nat.lt_or_ge x i with hlt | hge
  · exfalso
    obtain ⟨c, hc, hw⟩ := h.last hlt
    obtain ⟨c', _, hc', hl'⟩ := hpin
    rw [hc] at hc'
    cases hc'
    rw [(lws_split hl').1] at hw
    cases hw
  · omega

/-- **a position of the description `PVAt` that follows a byte other than white space is reached by the loop**, in the
    state of the description -/
theorem afc_reach_after_nonlws {flags offs : Nat} {b : Buf} {o : Nat} {p0 : PTokParam} {i : Nat} {st : TPState}
    (hst0 : p0.state = .init) (h : PVAt b flags o i st) (hne : st ≠ .quotedVal)
    (hpin : ∃ c, 0 < i ∧ b[i - 1]? = some c ∧ isLWSch c = false) : PVReach flags offs b o p0 i st := by
  cases h with
  | init t i hp hl =>
    have := afc_lws_nil_of_pin hl hpin
    subst this
    exact ⟨p0, hst0, tp_pad flags offs b hp p0 (Or.inl hst0)⟩
  | name n0 i hh => exact pv_reach_head hst0 hh
  | fEq n0 n1 i hh hl hlt =>
    have := afc_lws_nil_of_pin hl hpin
    omega
  | fVal q i he hl =>
    have := afc_lws_nil_of_pin hl hpin
    subst this
    exact pv_reach_eq hst0 he
  | val q v0 i he hl hr hv => exact pv_reach_tok hst0 he hl hr hv
  | quotedVal q v0 he hl h34 => exact absurd rfl hne
  | fSepTok q v0 v1 i he hl hr hv hl2 hlt2 =>
    have := afc_lws_nil_of_pin hl2 hpin
    omega
  | fSepQuo q v0 qe i he hl h34 hqb hl2 =>
    have := afc_lws_nil_of_pin hl2 hpin
    subst this
    exact pv_reach_quo hst0 he hl h34 hqb
  | fNxt j s t i hd hl1 hs hp hl2 =>
    have := afc_lws_nil_of_pin hl2 hpin
    subst this
    obtain ⟨p, hp', hr⟩ := pv_reach_sep (offs := offs) hst0 hd hl1 hs
    exact ⟨p, hp', by rw [hr, tp_pad flags offs b hp p (Or.inr (Or.inr hp'))]⟩

/-- **[C17] completeness of `PVMoreAt`**: every text of the shape `PVMoreAt … r` is suspended with
    `MoreBytes` at `r` -/
theorem afc_moreBytes_complete {b : Buf} {o flags r : Nat} (h : PVMoreAt b flags o r) :
    (parseTokenParam b o {} flags).1 = r ∧ (parseTokenParam b o {} flags).2.1 = .moreBytes := by
  rw [parseTokenParam_run flags b o {} (by decide)]
  cases h with
  | lws st q hf hP hne hpin hlw hend =>
    have hreach : ∃ p1 : PTokParam, (p1.state ≠ .quotedVal ∧ p1.state ≠ .err ∧ p1.state ≠ .fin) ∧
        runLoop (tpMachine flags o) b o {} = runLoop (tpMachine flags o) b r p1 := by
      rcases hpin with rfl | hpin
      · exact ⟨{}, by decide, rfl⟩
      · obtain ⟨p1, hp1, hr⟩ := afc_reach_after_nonlws (offs := o) (p0 := {}) rfl hP hne hpin
        exact ⟨p1, by rw [hp1]; exact ⟨hne, hP.live.1, hP.live.2.1⟩, hr⟩
    obtain ⟨p1, hne1, hr⟩ := hreach
    have hmb : tpMoreBytes b flags p1 r = (r, .moreBytes, p1) := by
      unfold tpMoreBytes
      rw [if_neg (by rw [hf]; decide)]
    rw [hr]
    cases hb : b[r]? with
    | none =>
      rw [runLoop_none (tpMachine flags o) p1 hb]
      show (tpMoreBytes b flags p1 r).1 = r ∧ (tpMoreBytes b flags p1 r).2.1 = .moreBytes
      rw [hmb]; exact ⟨rfl, rfl⟩
    | some c0 =>
      have hl0 : isLWSch c0 = true := by
        by_cases h1 : r < q
        · obtain ⟨c1, h1', h2⟩ := hlw.first h1
          rw [hb] at h1'; cases h1'; exact h2
        · have := hlw.le
          have : r = q := by omega
          subst this
          exact hend.first hb
      obtain ⟨upd, _, hstep⟩ := pv_lws_of_state (flags := flags) (offs := o) (b := b) (i := r) (p := p1) hne1
      obtain ⟨n, crl, hsk⟩ := afc_skipLWS_end_more flags hlw hend hf
      have hs : (tpMachine flags o).step b r c0 p1 = .done r .moreBytes p1 := by
        show tpStep flags o b r c0 p1 = _
        rw [hstep c0 hl0, tpLWS_more p1 upd hsk, hmb]
        rfl
      rw [runLoop_done (tpMachine flags o) hb hs]
      exact ⟨rfl, rfl⟩
  | quoted q v0 he hl h34 hpre hn =>
    obtain ⟨p1, hp1, hr⟩ := pv_reach_quote (offs := o) (p0 := {}) rfl he hl h34
    rw [hr]
    cases hb : b[v0 + 1]? with
    | none =>
      have hrv : r = v0 + 1 := by
        cases hpre with
        | nil => rfl
        | plain i' e' c0 h0 _ _ => rw [hb] at h0; cases h0
        | esc i' e' c1 h0 _ _ _ => rw [hb] at h0; cases h0
      rw [runLoop_none (tpMachine flags o) p1 hb]
      show (tpMoreBytes b flags p1 (v0 + 1)).1 = r ∧ (tpMoreBytes b flags p1 (v0 + 1)).2.1 = .moreBytes
      rw [tpMoreBytes_quoted b flags p1 (v0 + 1) hp1, hrv]
      exact ⟨rfl, rfl⟩
    | some c1 =>
      have hq : skipQuoted b (v0 + 1) = (r, .moreBytes) := skipQuoted_of_out (.more _ hpre hn)
      have hstep : (tpMachine flags o).step b (v0 + 1) c1 p1 = .done r .moreBytes p1 := by
        show tpStep flags o b (v0 + 1) c1 p1 = _
        unfold tpStep; simp only [hp1]; rw [hq]
        show stepOfRes (tpMoreBytes b flags p1 r) = _
        rw [tpMoreBytes_quoted b flags p1 r hp1]
        rfl
      rw [runLoop_done (tpMachine flags o) hb hstep]
      exact ⟨rfl, rfl⟩
  | quotedEsc q v0 he hl h34 hpre h92 hn =>
    obtain ⟨p1, hp1, hr⟩ := pv_reach_quote (offs := o) (p0 := {}) rfl he hl h34
    obtain ⟨c1, hc1⟩ := hpre.first h92
    have hq : skipQuoted b (v0 + 1) = (r, .moreBytes) := skipQuoted_of_out (.moreEsc _ hpre h92 hn)
    have hstep : (tpMachine flags o).step b (v0 + 1) c1 p1 = .done r .moreBytes p1 := by
      show tpStep flags o b (v0 + 1) c1 p1 = _
      unfold tpStep; simp only [hp1]; rw [hq]
      show stepOfRes (tpMoreBytes b flags p1 r) = _
      rw [tpMoreBytes_quoted b flags p1 r hp1]
      rfl
    rw [hr, runLoop_done (tpMachine flags o) hc1 hstep]
    exact ⟨rfl, rfl⟩

/-- **[C17] `MoreBytes` at `r`, exactly**: for every buffer, start offset and option word, ParseTokenParam on a new
    object returns `MoreBytes` with offset `r` IFF `PVMoreAt b flags o r` holds -/
theorem afc_moreBytes_iff (b : Buf) (o flags r : Nat) :
    ((parseTokenParam b o {} flags).1 = r ∧ (parseTokenParam b o {} flags).2.1 = .moreBytes) ↔ PVMoreAt b flags o r := by
  constructor
  · rintro ⟨h1, h2⟩
    rcases hp : parseTokenParam b o {} flags with ⟨r1, e, p'⟩
    rw [hp] at h1 h2
    simp only at h1 h2
    subst h1 h2
    exact afc_moreBytes_at hp
  · exact afc_moreBytes_complete

/-- test: `PVMore` holds at offset 6 of `a = b SP CR LF` (the text `[0, 6)` is `a = b SP`,
    state "after a value", the rest `CR LF` is white space cut by the end) — but the parser reports `MoreBytes` at 5, the
    START of the white space; `PVMoreAt` holds at 5 and NOT at 6 -/
example : (parseTokenParam "a = b \r\n".toUTF8.data 0 {} 0).1 = 5 ∧
    (parseTokenParam "a = b \r\n".toUTF8.data 0 {} 0).2.1 = .moreBytes ∧
    PVMoreAt "a = b \r\n".toUTF8.data 0 0 5 ∧ ¬ PVMoreAt "a = b \r\n".toUTF8.data 0 0 6 := by
  have h1 : (parseTokenParam "a = b \r\n".toUTF8.data 0 {} 0).1 = 5 ∧
      (parseTokenParam "a = b \r\n".toUTF8.data 0 {} 0).2.1 = .moreBytes := by decide +kernel
  refine ⟨h1.1, h1.2, (afc_moreBytes_iff _ 0 0 5).1 h1, fun h6 => ?_⟩
  have := (afc_moreBytes_iff _ 0 0 6).2 h6
  rw [h1.1] at this
  exact absurd this.1 (by decide)

/-- test: … and `PVMore` does hold at 6 on that text (state "after a value": `a = b SP`,
    then `CR LF` cut by the end of the buffer): `PVMore` alone does not characterise the returned offset -/
example : PVMore "a = b \r\n".toUTF8.data 0 0 6 := by
  have hsep : tpSep 0 = 59 := by decide
  have hterm : tpTerm 0 = 0 := by decide
  refine PVMore.lws .fSep 6
    (PVAt.fSepTok 2 4 5 6
      ⟨0, 1, ⟨0, 97, Pad.nil 0, Lws.nil 0, by decide, by decide, by rw [hsep]; decide, (fun k h1 h2 => by omega),
        by omega⟩, Lws.ws 1 2 32 (by decide) (by decide) (Lws.nil 2), by decide⟩
      (Lws.ws 3 4 32 (by decide) (by decide) (Lws.nil 4)) ?_ (by omega)
      (Lws.ws 5 6 32 (by decide) (by decide) (Lws.nil 6)) (by omega))
    (by decide) (Lws.nil 6) (EndTail.crlf 6 (by decide) (by decide) (by decide))
  intro k h1 h2
  have : k = 4 := by omega
  subst this
  exact ⟨98, by decide, by decide, by rw [hsep]; decide, by rw [hterm]; decide⟩

/-- test: with the end-of-input option (flag word 64) the same text is accepted (`EOH`), not suspended; inside an open
    quoted string the call is suspended at the end of the buffer whatever the option -/
example : (parseTokenParam "a = b \r\n".toUTF8.data 0 {} POptInputEndF).2.1 = .eoh ∧
    (parseTokenParam "a=\"bc".toUTF8.data 0 {} POptInputEndF).1 = 5 ∧
    (parseTokenParam "a=\"bc".toUTF8.data 0 {} POptInputEndF).2.1 = .moreBytes := by decide +kernel

/-- non-vacuity of the `quoted` shape of `PVMoreAt` (through `afc_moreBytes_iff`), end-of-input option set -/
example : PVMoreAt "a=\"bc".toUTF8.data POptInputEndF 0 5 :=
  (afc_moreBytes_iff _ 0 POptInputEndF 5).1 (by decide +kernel)

end Sipsp
