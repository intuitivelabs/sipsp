/-
  Sipsp.Proofs.Buf — base facts about buffers, independent of any parser: indexing (`b[i]?`), the bytes from a
  position on as a list, slices (`extract`) and fields, each also in `b ++ s` and behind a prefix (`pre ++ t`); word
  arrays (`set!`); `indexByteFrom`.
-/
import Sipsp.Model.Bytescase

namespace Sipsp

theorem get?_lt {b : Buf} {i : Nat} {c : UInt8} (h : b[i]? = some c) : i < b.size := by
  rcases Nat.lt_or_ge i b.size with h' | h'
  · exact h'
  · rw [Array.getElem?_eq_none h'] at h; cases h

theorem get?_app {b s : Buf} {i : Nat} {c : UInt8} (h : b[i]? = some c) : (b ++ s)[i]? = some c := by
  rw [Array.getElem?_append_left (get?_lt h)]; exact h

theorem get?_none_ge {b : Buf} {i : Nat} (h : b[i]? = none) : b.size ≤ i := by
  rcases Nat.lt_or_ge i b.size with h' | h'
  · rw [Array.getElem?_eq_getElem h'] at h; cases h
  · exact h'

theorem uget (b : Buf) (i : Nat) (h : i < b.size) : ∃ c, b[i]? = some c := ⟨b[i], Array.getElem?_eq_getElem h⟩

theorem uget_ne {b : Buf} {j : Nat} {c d : UInt8} (h : b[j]? = some c) (hcd : c ≠ d) : b[j]? ≠ some d :=
  fun hj => hcd (Option.some.inj (h.symm.trans hj))

theorem get?_shift (pre t : Buf) (i : Nat) : (pre ++ t)[pre.size + i]? = t[i]? := by
  rw [Array.getElem?_append_right (Nat.le_add_right _ _)]
  congr 1
  omega

theorem get?_shift1 (pre t : Buf) (i : Nat) : (pre ++ t)[pre.size + i + 1]? = t[i + 1]? := by
  rw [Nat.add_assoc]; exact get?_shift pre t (i + 1)

theorem drop_cons_of_get? {b : Buf} {o : Nat} {c : UInt8} (h : b[o]? = some c) :
    b.toList.drop o = c :: b.toList.drop (o + 1) := by
  have hlt := get?_lt h
  have hl : o < b.toList.length := by simpa using hlt
  rw [List.drop_eq_getElem_cons hl]
  congr 1
  have := (Array.getElem?_eq_some_iff.1 h)
  obtain ⟨h1, h2⟩ := this
  simpa using h2

theorem drop_nil_of_get? {b : Buf} {o : Nat} (h : b[o]? = none) : b.toList.drop o = [] := by
  have := get?_none_ge h
  apply List.drop_eq_nil_of_le
  simpa using this

theorem drop_get? (b : Buf) (p j : Nat) : (b.toList.drop p)[j]? = b[p + j]? := by
  rw [List.getElem?_drop]; simp

theorem extract_app (b s : Buf) (lo hi : Nat) (h : hi ≤ b.size) : (b ++ s).extract lo hi = b.extract lo hi := by
  apply Array.ext
  · simp; omega
  · intro k h1 h2
    simp only [Array.getElem_extract]
    rw [Array.getElem_append_left]

theorem extract_shift (pre t : Buf) (i j : Nat) :
    (pre ++ t).extract (pre.size + i) (pre.size + j) = t.extract i j := by
  apply Array.ext
  · simp [Array.size_extract, Array.size_append]
  · intro x h1 h2
    simp only [Array.getElem_extract]
    rw [Array.getElem_append_right (by omega)]
    congr 1
    omega

theorem uext_append (b : Buf) {p q r : Nat} (h1 : p ≤ q) (h2 : q ≤ r) :
    b.extract p q ++ b.extract q r = b.extract p r := by
  rw [Array.extract_append_extract, Nat.min_eq_left h1, Nat.max_eq_right h2]

theorem uext_single {b : Buf} {p : Nat} {d : UInt8} (h : b[p]? = some d) : b.extract p (p + 1) = #[d] := by
  obtain ⟨hlt, he⟩ := Array.getElem?_eq_some_iff.mp h
  rw [Array.extract_succ_right (by omega) hlt, he, Array.extract_empty_of_stop_le_start (Nat.le_refl _)]
  rfl

/-- successive prefixes of one buffer grow (how the `Growing` hypothesis is met by a concrete list of cuts; evaluating
    the equation instead is very slow in the kernel) -/
theorem prefix_grows (b : Buf) {i j : Nat} (h : i ≤ j) : ∃ s, b.extract 0 j = b.extract 0 i ++ s :=
  ⟨b.extract i j, by rw [Array.extract_append_extract, Nat.zero_min, Nat.max_eq_right h]⟩

theorem prefix_whole (b : Buf) (i : Nat) : ∃ s, b = b.extract 0 i ++ s :=
  ⟨b.extract i, by rw [Array.extract_append_extract, Nat.zero_min, Array.extract_eq_self_of_le (Nat.le_max_right ..)]⟩

theorem PField.get?_app (p : PField) (b s : Buf) (h : p.endT ≤ b.size) : p.get? (b ++ s) = p.get? b := by
  unfold PField.get?
  by_cases h1 : p.offs ≤ p.endT
  · rw [if_pos ⟨h1, by rw [Array.size_append]; omega⟩, if_pos ⟨h1, h⟩, extract_app b s _ _ h]
  · rw [if_neg fun hh => h1 hh.1, if_neg fun hh => h1 hh.1]

theorem trunc16_id {x : Nat} (h : x ≤ 65535) : trunc16 x = x := trunc16_of_lt (by omega)

theorem field_get? (b : Buf) (i l : Nat) (h : i + l ≤ b.size) (hfit : b.size ≤ 65535) :
    PField.get? b ⟨i, l⟩ = some (b.extract i (i + l)) := by
  unfold PField.get? PField.endT
  simp only
  rw [trunc16_id (by omega)]
  rw [if_pos ⟨by omega, h⟩]

theorem set_eq (i j : Nat) (hij : i ≤ j) (hj : j ≤ 65535) : PField.set i j = ⟨i, j - i⟩ := by
  unfold PField.set
  rw [trunc16_id (by omega), trunc16_id (by omega)]

theorem setPanics_false (s e : Nat) (h : s ≤ e) : PField.setPanics s e = false := by
  unfold PField.setPanics; simp; omega

theorem extend_eq (f : PField) (e : Nat) (h1 : f.offs ≤ e) (h2 : e ≤ 65535) : f.extend e = ⟨f.offs, e - f.offs⟩ := by
  unfold PField.extend trunc16
  congr 1
  omega

theorem set_extend (i j : Nat) (hij : i ≤ j) (hj : j ≤ 65535) :
    (PField.set i i).extend j = ⟨i, j - i⟩ := by
  rw [set_eq i i (Nat.le_refl i) (by omega)]
  exact extend_eq _ j hij hj

theorem set!_get_same (a : Array Nat) (i v : Nat) (h : i < a.size) : (a.set! i v)[i]! = v := by
  simp [h]

theorem set!_get_ne (a : Array Nat) (i k v : Nat) (h : i ≠ k) : (a.set! i v)[k]! = a[k]! := by
  simp [Array.getElem!_eq_getD, Array.getD_eq_getD_getElem?, Array.getElem?_setIfInBounds_ne h]

/-! ### `bytes.IndexByte` -/

theorem indexByteFrom_some (b : Buf) (i : Nat) (c : UInt8) {d : Nat} (h : indexByteFrom b i c = some d) :
    i ≤ d ∧ b[d]? = some c ∧ ∀ k, i ≤ k → k < d → b[k]? ≠ some c := by
  fun_induction indexByteFrom b i c with
  | case1 i hb => cases h
  | case2 i x hb hx =>
    cases h
    have : x = c := by simpa using hx
    subst this
    exact ⟨Nat.le_refl _, hb, fun k h1 h2 => by omega⟩
  | case3 i x hb hx ih =>
    have := ih h
    refine ⟨by omega, this.2.1, fun k h1 h2 => ?_⟩
    rcases Nat.eq_or_lt_of_le h1 with rfl | h1'
    · rw [hb]; intro hh; cases hh; simp at hx
    · exact this.2.2 k (by omega) h2

theorem indexByteFrom_none (b : Buf) (i : Nat) (c : UInt8) (h : indexByteFrom b i c = none) :
    ∀ k, i ≤ k → b[k]? ≠ some c := by
  fun_induction indexByteFrom b i c with
  | case1 i hb =>
    intro k hk hh
    have := get?_none_ge hb
    have := get?_lt hh
    omega
  | case2 i x hb hx => cases h
  | case3 i x hb hx ih =>
    intro k h1
    rcases Nat.eq_or_lt_of_le h1 with rfl | h1'
    · rw [hb]; intro hh; cases hh; simp at hx
    · exact ih h k (by omega)

end Sipsp
