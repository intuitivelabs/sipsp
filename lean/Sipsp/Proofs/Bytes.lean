/-
  Sipsp.Proofs.Bytes — list-level facts: CmpEq is equality of lower-cased names.
-/
import Sipsp.Proofs.EqFold

namespace Sipsp

theorem cmpEqAux_iff (a b : List UInt8) : cmpEqAux a b = true ↔ lowerL a = lowerL b := by
  induction a generalizing b with
  | nil => cases b <;> simp [cmpEqAux, lowerL]
  | cons v vs ih =>
    cases b with
    | nil => simp [cmpEqAux, lowerL]
    | cons w ws =>
      simp only [cmpEqAux, Bool.and_eq_true, ih, eqFold_iff, lowerL, List.map_cons, List.cons.injEq, beq_iff_eq]

/-- `bytescase.CmpEq(name, e)` is equality of the lower-cased byte strings. -/
theorem cmpEqL_iff (name : Buf) (e : List UInt8) : cmpEqL name e = true ↔ lowerL name.toList = lowerL e := by
  unfold cmpEqL
  rw [Bool.and_eq_true, cmpEqAux_iff, beq_iff_eq]
  exact ⟨fun h => h.2, fun h => ⟨by simpa [lowerL] using congrArg List.length h, h⟩⟩

theorem cmpEq_iff (a b : Buf) : cmpEq a b = true ↔ lowerL a.toList = lowerL b.toList := cmpEqL_iff a b.toList

theorem cmpEq_refl (a : Buf) : cmpEq a a = true := (cmpEq_iff a a).2 rfl
theorem cmpEq_symm (a b : Buf) : cmpEq a b = cmpEq b a := by
  rw [Bool.eq_iff_iff, cmpEq_iff, cmpEq_iff]; exact eq_comm

theorem bytesEqL_iff (a : Buf) (l : List UInt8) : bytesEqL a l = true ↔ a.toList = l := by
  simp [bytesEqL]

end Sipsp
