/-
  Sipsp.Proofs.CSeq — the transitions of the CSeq loop body (`CsTr`, the graph of `csStep`) and L1 / L2 for
  ParseCSeqVal. The end-of-header code reads the method text from the buffer (`GetMethodNo(pcs.Method.Get(buf))`), so
  stability needs the invariant that the method field lies inside the buffer (`csInv`; `csOK` is what a caller may
  pass).
-/
import Sipsp.Proofs.LwsSite

namespace Sipsp

theorem set_endT_le (s i n : Nat) (hs : s ≤ i) (hi : i ≤ n) : (PField.set s i).endT ≤ n := by
  unfold PField.set PField.endT trunc16
  simp only
  by_cases hn : n < 65536
  · have h1 : s % 65536 = s := Nat.mod_eq_of_lt (by omega)
    have h2 : (i - s) % 65536 = i - s := Nat.mod_eq_of_lt (by omega)
    rw [h1, h2]
    have : s + (i - s) = i := by omega
    rw [this, Nat.mod_eq_of_lt (by omega)]; exact hi
  · have := Nat.mod_lt (s % 65536 + (i - s) % 65536) (by decide : 65536 > 0)
    omega

/-- loop invariant of the CSeq machine on buffer `b` -/
def csInv (b : Buf) (i : Nat) (st : PCSeqBody) : Prop :=
  i ≤ b.size ∧ (st.state = .foundMethod → st.soffs ≤ i) ∧ (st.state = .fend → st.method.endT ≤ b.size)

theorem csFinish_app (st : PCSeqBody) (b s : Buf) (n crl : Nat) (h : st.method.endT ≤ b.size) :
    csFinish st (b ++ s) n crl = csFinish st b n crl := by
  unfold csFinish
  simp only
  rw [PField.get?_app _ b s h]

theorem csEOH_app (b s : Buf) (st : PCSeqBody) (i n crl : Nat) (hi : i ≤ b.size)
    (h1 : st.state = .foundMethod → st.soffs ≤ i) (h2 : st.state = .fend → st.method.endT ≤ b.size) :
    csEOH (b ++ s) st i n crl = csEOH b st i n crl := by
  unfold csEOH
  cases hst : st.state <;> simp only
  · apply csFinish_app
    simp only [csSetMethod]
    exact set_endT_le _ _ _ (h1 hst) hi
  · exact csFinish_app _ _ _ _ _ (h2 hst)

theorem csEOH_ne_more (b : Buf) (st : PCSeqBody) (i n crl : Nat) : (csEOH b st i n crl).2.1 ≠ Err.moreBytes := by
  unfold csEOH csFinish
  cases st.state <;> simp only <;> (repeat' split) <;> simp

theorem csInv_succ {b : Buf} {i : Nat} {st : PCSeqBody} (hlt : i < b.size) (hI : csInv b i st) : csInv b (i + 1) st :=
  ⟨hlt, fun h => Nat.le_succ_of_le (hI.2.1 h), hI.2.2⟩

/-- **the transitions of the CSeq loop body** (`csStep`, parse_cseq.go): its outcomes with the tests that lead there.
    `csStep_tr` / `CsTr.eq`: it is the graph of `csStep`, so a fact about one step is one `cases`, and a step over a
    byte whose class is known is a constructor. -/
inductive CsTr (b : Buf) (i : Nat) (c : UInt8) (st : PCSeqBody) : Step PCSeqBody → Prop
  /-- white space outside a token -/
  | lws (hl : isLWSch c = true) (hg : st.state = .init ∨ st.state = .endDigit ∨ st.state = .fend) :
      CsTr b i c st (lwsStd b i st (csEOH b) id)
  /-- white space ends the number -/
  | lwsNum (hl : isLWSch c = true) (hg : st.state = .foundDigit) :
      CsTr b i c st (lwsStd b i
        { st with cseq := PField.set st.soffs i, v := PField.set st.soffs i, state := .endDigit,
                  pnc := st.pnc || PField.setPanics st.soffs i } (csEOH b) id)
  /-- white space ends the method -/
  | lwsMeth (hl : isLWSch c = true) (hg : st.state = .foundMethod) :
      CsTr b i c st (lwsStd b i { csSetMethod st i with state := .fend } (csEOH b) id)
  /-- the first digit -/
  | digit0 (hl : isLWSch c = false) (hd : isDigit c = true) (hg : st.state = .init) :
      CsTr b i c st (.cont (i + 1) { st with state := .foundDigit, soffs := i, cseqNo := c.toNat - 48 })
  | digit (hl : isLWSch c = false) (hd : isDigit c = true) (hg : st.state = .foundDigit)
      (hv : ¬ st.cseqNo * 10 + (c.toNat - 48) > 4294967295) :
      CsTr b i c st (.cont (i + 1) { st with cseqNo := st.cseqNo * 10 + (c.toNat - 48) })
  | tooBig (hl : isLWSch c = false) (hd : isDigit c = true) (hg : st.state = .foundDigit)
      (hv : st.cseqNo * 10 + (c.toNat - 48) > 4294967295) : CsTr b i c st (.done i .numTooBig st)
  /-- the first byte of the method -/
  | meth0 (hl : isLWSch c = false) (hg : st.state = .endDigit) :
      CsTr b i c st (.cont (i + 1) { st with state := .foundMethod, soffs := i })
  /-- a byte of the method; any byte once the value is complete -/
  | skip (hg : st.state = .fin ∨ st.state = .foundMethod ∧ isLWSch c = false) : CsTr b i c st (.cont (i + 1) st)
  | bad (hl : isLWSch c = false)
      (hg : st.state = .fend ∨ isDigit c = false ∧ (st.state = .init ∨ st.state = .foundDigit)) :
      CsTr b i c st (.done i .badChar st)

theorem csStep_tr (b : Buf) (i : Nat) (c : UInt8) (st : PCSeqBody) : CsTr b i c st (csStep b i c st) := by
  unfold csStep
  by_cases hl : isLWSch c = true
  · rw [if_pos hl]
    cases hst : st.state <;> simp only
    · exact .lws hl (.inl hst)
    · exact .lwsNum hl hst
    · exact .lws hl (.inr (.inl hst))
    · exact .lwsMeth hl hst
    · exact .lws hl (.inr (.inr hst))
    · exact .skip (.inl hst)
  · have hl' : isLWSch c = false := by simpa using hl
    rw [if_neg hl]
    by_cases hd : isDigit c = true
    · rw [if_pos hd]
      cases hst : st.state <;> simp only
      · exact .digit0 hl' hd hst
      · split
        · exact .tooBig hl' hd hst ‹_›
        · have t := CsTr.digit (b := b) (i := i) hl' hd hst ‹_›
          rw [hst] at t; exact t
      · exact .meth0 hl' hst
      · exact .skip (.inr ⟨hst, hl'⟩)
      · exact .bad hl' (.inl hst)
      · exact .skip (.inl hst)
    · have hd' : isDigit c = false := by simpa using hd
      rw [if_neg hd]
      cases hst : st.state <;> simp only
      · exact .bad hl' (.inr ⟨hd', .inl hst⟩)
      · exact .bad hl' (.inr ⟨hd', .inr hst⟩)
      · exact .meth0 hl' hst
      · exact .skip (.inr ⟨hst, hl'⟩)
      · exact .bad hl' (.inl hst)
      · exact .skip (.inl hst)

theorem CsTr.eq {b : Buf} {i : Nat} {c : UInt8} {st : PCSeqBody} {r : Step PCSeqBody} (t : CsTr b i c st r) :
    csStep b i c st = r := by
  unfold csStep
  cases t with
  | lws hl hg => rw [if_pos hl]; rcases hg with g | g | g <;> rw [g]
  | lwsNum hl hg | lwsMeth hl hg => rw [if_pos hl, hg]
  | digit0 hl hd hg => simp only [hl, hd, hg, Bool.false_eq_true, ↓reduceIte]
  | digit hl hd hg hv => simp only [hl, hd, hg, hv, Bool.false_eq_true, ↓reduceIte]
  | tooBig hl hd hg hv => simp only [hl, hd, hg, hv, Bool.false_eq_true, ↓reduceIte]
  | meth0 hl hg => simp only [hl, hg, Bool.false_eq_true, ↓reduceIte, ite_self]
  | skip hg =>
    rcases hg with g | ⟨g, hl⟩
    · simp only [g, ite_self]
    · simp only [hl, g, Bool.false_eq_true, ↓reduceIte, ite_self]
  | bad hl hg =>
    rcases hg with g | ⟨hd, g | g⟩
    · simp only [hl, g, Bool.false_eq_true, ↓reduceIte, ite_self]
    · simp only [hl, hd, g, Bool.false_eq_true, ↓reduceIte]
    · simp only [hl, hd, g, Bool.false_eq_true, ↓reduceIte]

/-- **the transitions of the CSeq automaton as the L1 / L2 proofs read them**, for every buffer at once: the white-space
    site entered in a state `st1` between the tokens (whose method field, once set, lies inside any buffer on which the
    invariant holds), one byte forward keeping the invariant, or a definitive exit on the spot -/
theorem csStep_cases (i : Nat) (c : UInt8) (st : PCSeqBody) :
    (isLWSch c = true ∧ ∃ st1, (st1.state = .init ∨ st1.state = .endDigit ∨ st1.state = .fend) ∧
      (∀ b, csInv b i st → st1.state = .fend → st1.method.endT ≤ b.size) ∧
      ∀ B, csStep B i c st = lwsStd B i st1 (csEOH B) id) ∨
    (∃ st2, (st.state ≠ .fin → st2.state ≠ .fin) ∧ (∀ b, i < b.size → csInv b i st → csInv b (i + 1) st2) ∧
      ∀ B, csStep B i c st = .cont (i + 1) st2) ∨
    (∃ e, (e = .badChar ∨ e = .numTooBig) ∧ ∀ B, csStep B i c st = .done i e st) := by
  -- the tests of a transition do not mention the buffer
  have t := csStep_tr #[] i c st
  generalize csStep #[] i c st = r at t
  cases t with
  | lws hl hg =>
    refine .inl ⟨hl, st, hg, fun b hI h => hI.2.2 h, fun B => (CsTr.lws hl hg).eq⟩
  | lwsNum hl hg =>
    refine .inl ⟨hl, _, ?_, ?_, fun B => (CsTr.lwsNum hl hg).eq⟩
    · exact .inr (.inl rfl)
    · exact fun _ _ h => by cases h
  | lwsMeth hl hg =>
    refine .inl ⟨hl, _, ?_, ?_, fun B => (CsTr.lwsMeth hl hg).eq⟩
    · exact .inr (.inr rfl)
    · exact fun b hI _ => by simp only [csSetMethod]; exact set_endT_le _ _ _ (hI.2.1 hg) hI.1
  | digit0 hl hd hg =>
    refine .inr (.inl ⟨_, ?_, ?_, fun B => (CsTr.digit0 hl hd hg).eq⟩)
    · exact fun _ => by simp
    · exact fun _ hlt _ => ⟨hlt, by simp, by simp⟩
  | digit hl hd hg hv =>
    refine .inr (.inl ⟨_, ?_, ?_, fun B => (CsTr.digit hl hd hg hv).eq⟩)
    · exact fun _ => by simp [hg]
    · exact fun _ hlt _ => ⟨hlt, by simp [hg], by simp [hg]⟩
  | tooBig hl hd hg hv => exact .inr (.inr ⟨_, .inr rfl, fun B => (CsTr.tooBig hl hd hg hv).eq⟩)
  | meth0 hl hg =>
    refine .inr (.inl ⟨_, ?_, ?_, fun B => (CsTr.meth0 hl hg).eq⟩)
    · exact fun _ => by simp
    · exact fun _ hlt _ => ⟨hlt, fun _ => Nat.le_succ i, by simp⟩
  | skip hg => exact .inr (.inl ⟨st, id, fun _ => csInv_succ, fun B => (CsTr.skip hg).eq⟩)
  | bad hl hg => exact .inr (.inr ⟨_, .inl rfl, fun B => (CsTr.bad hl hg).eq⟩)

/-- a white-space site is entered between the tokens -/
theorem csLws_ne {st1 : PCSeqBody} (h : st1.state = .init ∨ st1.state = .endDigit ∨ st1.state = .fend) :
    st1.state ≠ .foundMethod ∧ st1.state ≠ .fin := by
  rcases h with g | g | g <;> rw [g] <;> exact ⟨nofun, nofun⟩

theorem cs_invCont (b : Buf) : InvCont csMachine b (csInv b) := by
  intro i c st i' st' hb hI hs hlt
  change csStep b i c st = .cont i' st' at hs
  rcases csStep_cases i c st with ⟨_, st1, hst1, hm, hB⟩ | ⟨st2, _, h2, hB⟩ | ⟨e, _, hB⟩ <;> rw [hB] at hs
  · obtain ⟨rfl, crl, hsk⟩ := lwsStd_cont b i st1 _ _ hs
    exact ⟨(skipLWS_range b i 0 hsk).2 hI.1, fun h => absurd h (csLws_ne hst1).1, hm b hI⟩
  · cases hs; exact h2 b (get?_lt hb) hI
  · cases hs

theorem cs_stepStable (b s : Buf) : StepStableI csMachine b s (csInv b) := by
  intro i c st hb hI hne
  show csStep (b ++ s) i c st = csStep b i c st
  rcases csStep_cases i c st with ⟨_, st1, hst1, hm, hB⟩ | ⟨st2, _, _, hB⟩ | ⟨e, _, hB⟩ <;> rw [hB, hB]
  exact lwsStd_stable b s i st1 _ _ id
    (fun n crl => csEOH_app b s st1 i n crl hI.1 (fun h => absurd h (csLws_ne hst1).1) (hm b hI))
    (fun o st' h => hne o st' ((hB b).trans h))

theorem cs_progress : Progress csMachine := by
  intro b i c st i' st' hb hs
  change csStep b i c st = .cont i' st' at hs
  rcases csStep_cases i c st with ⟨hl, st1, _, _, hB⟩ | ⟨st2, _, _, hB⟩ | ⟨e, _, hB⟩ <;> rw [hB] at hs
  · exact lwsStd_cont_gt b i c st1 _ _ hb hl hs
  · cases hs; omega
  · cases hs

/-! ### the invariant rule of the CSeq parser

`S` holds at every loop position, `T` of whatever is returned. The obligations name what the loop does to the object:
move on outside the number, close the number, close the method, open the number, read a digit, open the method, run the
end-of-header code between the tokens, suspend, fail. -/
section
variable (b : Buf) {S : Nat → PCSeqBody → Prop} {T : Nat → Err → PCSeqBody → Prop}
  (mono : ∀ i j st, S i st → st.state ≠ .foundDigit → i ≤ j → j ≤ b.size → S j st)
  (closeNum : ∀ i c st, b[i]? = some c → isLWSch c = true → S i st → st.state = .foundDigit →
    S i { st with cseq := PField.set st.soffs i, v := PField.set st.soffs i, state := .endDigit,
                  pnc := st.pnc || PField.setPanics st.soffs i })
  (closeMeth : ∀ i st, i < b.size → S i st → st.state = .foundMethod → S i { csSetMethod st i with state := .fend })
  (digit0 : ∀ i c st, b[i]? = some c → isDigit c = true → S i st → st.state = .init →
    S (i + 1) { st with state := .foundDigit, soffs := i, cseqNo := c.toNat - 48 })
  (digit : ∀ i c st, b[i]? = some c → isDigit c = true → S i st → st.state = .foundDigit →
    ¬ st.cseqNo * 10 + (c.toNat - 48) > 4294967295 → S (i + 1) { st with cseqNo := st.cseqNo * 10 + (c.toNat - 48) })
  (meth0 : ∀ i c st, b[i]? = some c → isLWSch c = false → S i st → st.state = .endDigit →
    S (i + 1) { st with state := .foundMethod, soffs := i })
  (eoh : ∀ i n crl st, S i st → st.state = .init ∨ st.state = .endDigit ∨ st.state = .fend → i ≤ n → n + crl ≤ b.size →
    1 ≤ crl → T (csEOH b st i n crl).1 (csEOH b st i n crl).2.1 (csEOH b st i n crl).2.2)
  (more : ∀ i st, S i st → T i .moreBytes st)
  (err : ∀ i e st, S i st → e = .numTooBig ∨ e = .badChar → T i e st)
include mono closeNum closeMeth digit0 digit meth0 eoh more err

theorem csStep_ind (i : Nat) (c : UInt8) (st : PCSeqBody) (hb : b[i]? = some c) (h : S i st) :
    StepAll2 S T (csStep b i c st) := by
  have hlt := get?_lt hb
  have site : ∀ s1 : PCSeqBody, S i s1 → s1.state = .init ∨ s1.state = .endDigit ∨ s1.state = .fend →
      StepAll2 S T (lwsStd b i s1 (csEOH b) id) := fun s1 h1 hg =>
    have hnd : s1.state ≠ .foundDigit := by rcases hg with g | g | g <;> rw [g] <;> nofun
    lwsStd_all2 b i s1 (csEOH b) id _ _ (by omega) (fun n a1 a2 => mono i n s1 h1 hnd a1 a2)
      (fun n a1 a2 => more n s1 (mono i n s1 h1 hnd a1 a2)) (fun n crl a1 a2 a4 => eoh i n crl s1 h1 hg a1 a2 a4)
  have t := csStep_tr b i c st
  generalize csStep b i c st = r at t ⊢
  cases t with
  | lws _ hg => exact site _ h hg
  | lwsNum hl hg => exact site _ (closeNum i c st hb hl h hg) (.inr (.inl rfl))
  | lwsMeth _ hg => exact site _ (closeMeth i st hlt h hg) (.inr (.inr rfl))
  | digit0 _ hd hg => exact digit0 i c st hb hd h hg
  | digit _ hd hg hv => exact digit i c st hb hd h hg hv
  | tooBig => exact err i _ st h (.inl rfl)
  | meth0 hl hg => exact meth0 i c st hb hl h hg
  | skip hg =>
    exact mono i (i + 1) st h (by rcases hg with g | ⟨g, _⟩ <;> rw [g] <;> nofun) (by omega) (by omega)
  | bad => exact err i _ st h (.inr rfl)

theorem parseCSeqVal_ind (o : Nat) (st : PCSeqBody) (h : S o st) (fin : st.state = .fin → T o .ok st) :
    T (parseCSeqVal b o st).1 (parseCSeqVal b o st).2.1 (parseCSeqVal b o st).2.2 := by
  unfold parseCSeqVal
  split
  · exact fin ‹_›
  · exact runLoop_safe2 csMachine b S T cs_progress
      (csStep_ind b mono closeNum closeMeth digit0 digit meth0 eoh more err) more o st h

end

theorem csEOH_indep (b : Buf) (st : PCSeqBody) (hs : st.state ≠ .foundMethod) (j j' n crl : Nat) :
    csEOH b st j n crl = csEOH b st j' n crl := by
  unfold csEOH; cases h : st.state <;> simp_all

theorem csStep_lws (b : Buf) (j : Nat) (c : UInt8) (st : PCSeqBody) (hl : isLWSch c = true)
    (hs : st.state = .init ∨ st.state = .endDigit ∨ st.state = .fend) :
    csStep b j c st = lwsStd b j st (csEOH b) id := (CsTr.lws hl hs).eq

theorem cs_stepRestart (b s : Buf) :
    ∀ i c st o st', b[i]? = some c → csInv b i st → csMachine.step b i c st = .done o .moreBytes st' →
      runLoop csMachine (b ++ s) o st' = runLoop csMachine (b ++ s) i st := by
  intro i c st o st' hb hI hs
  change csStep b i c st = .done o .moreBytes st' at hs
  rw [runLoop_eq_runStep csMachine st (get?_app hb)]
  show runLoop csMachine (b ++ s) o st' = runStep csMachine (b ++ s) i (csStep (b ++ s) i c st)
  rcases csStep_cases i c st with ⟨hl, st1, hst1, _, hB⟩ | ⟨st2, _, _, hB⟩ | ⟨e, he, hB⟩ <;> rw [hB] at hs ⊢
  · obtain ⟨hst', crl, hsk⟩ := lwsStd_more b i st1 (csEOH b) id (csEOH_ne_more b) hs
    rw [hst']
    exact lwsStd_restart csMachine b s i o crl st1 (csEOH (b ++ s)) id hb hl hsk rfl
      (fun j c' _ hl' => csStep_lws _ j c' st1 hl' hst1) (csEOH_indep _ st1 (csLws_ne hst1).1) (fun _ => rfl)
  · cases hs
  · cases hs; rcases he with h | h <;> cases h

theorem cs_more_inv (b : Buf) (i : Nat) (st : PCSeqBody) (h0 : csInv b i st) (hnf : st.state ≠ .fin)
    {o : Nat} {st' : PCSeqBody} (h : runLoop csMachine b i st = (o, Err.moreBytes, st')) :
    csInv b o st' ∧ st'.state ≠ .fin := by
  have := runLoop_moreI csMachine b (fun i st => csInv b i st ∧ st.state ≠ .fin)
    (fun o st' => csInv b o st' ∧ st'.state ≠ .fin) ?_ ?_ ?_ i st ⟨h0, hnf⟩ h
  · exact this
  · intro i c st i' st' hb hI hs hlt
    refine ⟨cs_invCont b i c st i' st' hb hI.1 hs hlt, ?_⟩
    change csStep b i c st = .cont i' st' at hs
    rcases csStep_cases i c st with ⟨_, st1, hst1, _, hB⟩ | ⟨st2, h2, _, hB⟩ | ⟨e, _, hB⟩ <;> rw [hB] at hs
    · rw [(lwsStd_cont b i st1 _ _ hs).1]; exact (csLws_ne hst1).2
    · cases hs; exact h2 hI.2
    · cases hs
  · intro i c st o st' hb hI hs
    change csStep b i c st = .done o .moreBytes st' at hs
    rcases csStep_cases i c st with ⟨_, st1, hst1, hm, hB⟩ | ⟨st2, _, _, hB⟩ | ⟨e, he, hB⟩ <;> rw [hB] at hs
    · obtain ⟨hst', crl, hsk⟩ := lwsStd_more b i st1 (csEOH b) id (csEOH_ne_more b) hs
      rw [hst']
      exact ⟨⟨(skipLWS_range b i 0 hsk).2 hI.1.1, fun h => absurd h (csLws_ne hst1).1, hm b hI.1⟩, (csLws_ne hst1).2⟩
    · cases hs
    · cases hs; rcases he with h | h <;> cases h
  · intro i st o st' _ hI h; cases h; exact hI

/-- what a caller may legitimately pass: a finished object (at any offset: the call returns at once), or an offset
    inside the buffer and a CSeq object that is new or was returned by an earlier call on a prefix of this buffer -/
def csOK (b : Buf) (o : Nat) (st : PCSeqBody) : Prop := st.state = .fin ∨ csInv b o st

theorem csInv_grows (b s : Buf) (o : Nat) (st : PCSeqBody) (h : csInv b o st) : csInv (b ++ s) o st := by
  have hs : (b ++ s).size = b.size + s.size := by simp
  exact ⟨by have := h.1; omega, h.2.1, fun hh => by have := h.2.2 hh; omega⟩

/-- **L1 for ParseCSeqVal** -/
theorem parseCSeqVal_stable (b s : Buf) (o : Nat) (st : PCSeqBody) (hok : csOK b o st)
    {o' : Nat} {e : Err} {st' : PCSeqBody}
    (h : parseCSeqVal b o st = (o', e, st')) (he : e ≠ .moreBytes) :
    parseCSeqVal (b ++ s) o st = (o', e, st') := by
  unfold parseCSeqVal at h ⊢
  split
  · rename_i hf; rw [if_pos hf] at h; exact h
  · rename_i hf; rw [if_neg hf] at h
    rcases hok with hok | hok
    · exact absurd hok hf
    · exact runLoop_stableI csMachine b s (csInv b) (cs_invCont b) (cs_stepStable b s) (fun _ _ => rfl) o st hok h he

/-- **L2 for ParseCSeqVal** (with the invariant re-established on the extended buffer) -/
theorem parseCSeqVal_resume (b s : Buf) (o : Nat) (st : PCSeqBody) (hok : csOK b o st)
    {o' : Nat} {st' : PCSeqBody} (h : parseCSeqVal b o st = (o', Err.moreBytes, st')) :
    parseCSeqVal (b ++ s) o' st' = parseCSeqVal (b ++ s) o st ∧ csOK (b ++ s) o' st' := by
  unfold parseCSeqVal at h ⊢
  by_cases hf : st.state = .fin
  · rw [if_pos hf] at h; cases h
  · rw [if_neg hf] at h
    rcases hok with hok | hok
    · exact absurd hok hf
    · obtain ⟨hI', hnf⟩ := cs_more_inv b o st hok hf h
      rw [if_neg hnf, if_neg hf]
      refine ⟨?_, Or.inr (csInv_grows b s o' st' hI')⟩
      exact runLoop_resumeR csMachine b s (csInv b) id Eq (cs_invCont b) (cs_stepStable b s)
        (cs_stepRestart b s) (fun i st o st' _ _ h => by cases h; rfl) o st hok h

end Sipsp
