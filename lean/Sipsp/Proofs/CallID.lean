/-
  Sipsp.Proofs.CallID — L1 (no premature verdict) and L2 (resumption) for ParseCallIDVal,
  plus progress (the loop artefact never fires) and the invariant rule of the parser (`parseCallIDVal_ind`).
-/
import Sipsp.Proofs.LwsSite

namespace Sipsp

theorem ciEOH_indep (st : PCallIDBody) (hs : st.state ≠ .found) (j j' n crl : Nat) :
    ciEOH st j n crl = ciEOH st j' n crl := by
  unfold ciEOH; cases h : st.state <;> simp_all

theorem ciEOH_ne_more (st : PCallIDBody) (i n crl : Nat) : (ciEOH st i n crl).2.1 ≠ Err.moreBytes := by
  unfold ciEOH; cases st.state <;> simp

/-- **the transitions of the Call-ID loop body** (`ciStep`, parse_callid.go): its outcomes with the tests that lead there;
    `ciStep_tr` / `CiTr.eq`: it is the graph of `ciStep` -/
inductive CiTr (b : Buf) (i : Nat) (c : UInt8) (st : PCallIDBody) : Step PCallIDBody → Prop
  /-- white space outside the token -/
  | lws (hl : isLWSch c = true) (hg : st.state = .init ∨ st.state = .fend) : CiTr b i c st (lwsStd b i st ciEOH id)
  /-- white space ends the token -/
  | lwsId (hl : isLWSch c = true) (hg : st.state = .found) :
      CiTr b i c st (lwsStd b i { ciSetCallID st i with state := .fend } ciEOH id)
  /-- the first byte of the token -/
  | start (hl : isLWSch c = false) (hg : st.state = .init) :
      CiTr b i c st (.cont (i + 1) { st with state := .found, soffs := i })
  /-- a byte of the token; any byte once the value is complete -/
  | skip (hg : st.state = .fin ∨ st.state = .found ∧ isLWSch c = false) : CiTr b i c st (.cont (i + 1) st)
  | bad (hl : isLWSch c = false) (hg : st.state = .fend) : CiTr b i c st (.done i .badChar st)

theorem ciStep_tr (b : Buf) (i : Nat) (c : UInt8) (st : PCallIDBody) : CiTr b i c st (ciStep b i c st) := by
  unfold ciStep
  by_cases hl : isLWSch c = true
  · rw [if_pos hl]
    cases hst : st.state <;> simp only
    · exact .lws hl (.inl hst)
    · exact .lwsId hl hst
    · exact .lws hl (.inr hst)
    · exact .skip (.inl hst)
  · have hl' : isLWSch c = false := by simpa using hl
    rw [if_neg hl]
    cases hst : st.state <;> simp only
    · exact .start hl' hst
    · exact .skip (.inr ⟨hst, hl'⟩)
    · exact .bad hl' hst
    · exact .skip (.inl hst)

theorem CiTr.eq {b : Buf} {i : Nat} {c : UInt8} {st : PCallIDBody} {r : Step PCallIDBody} (t : CiTr b i c st r) :
    ciStep b i c st = r := by
  unfold ciStep
  cases t with
  | lws hl hg => rw [if_pos hl]; rcases hg with g | g <;> rw [g]
  | lwsId hl hg => rw [if_pos hl, hg]
  | start hl hg => simp only [hl, hg, Bool.false_eq_true, ↓reduceIte]
  | skip hg =>
    rcases hg with g | ⟨g, hl⟩
    · simp only [g, ite_self]
    · simp only [hl, g, Bool.false_eq_true, ↓reduceIte]
  | bad hl hg => simp only [hl, hg, Bool.false_eq_true, ↓reduceIte]

theorem ciStep_lws (b : Buf) (j : Nat) (c : UInt8) (st : PCallIDBody) (hl : isLWSch c = true)
    (hs : st.state = .init ∨ st.state = .fend) : ciStep b j c st = lwsStd b j st ciEOH id := (CiTr.lws hl hs).eq

/-- **the transitions of the Call-ID automaton as the L1 / L2 proofs read them**, for every buffer at once: the
    white-space site entered in a state `st1` outside the token, one byte forward, or a definitive exit on the spot -/
theorem ciStep_cases (i : Nat) (c : UInt8) (st : PCallIDBody) :
    (isLWSch c = true ∧ ∃ st1, (st1.state = .init ∨ st1.state = .fend) ∧
      ∀ B, ciStep B i c st = lwsStd B i st1 ciEOH id) ∨
    (∃ st2, (st.state ≠ .fin → st2.state ≠ .fin) ∧ ∀ B, ciStep B i c st = .cont (i + 1) st2) ∨
    (∃ e, e = .badChar ∧ ∀ B, ciStep B i c st = .done i e st) := by
  have t := ciStep_tr #[] i c st
  generalize ciStep #[] i c st = r at t
  cases t with
  | lws hl hg => exact .inl ⟨hl, st, hg, fun B => (CiTr.lws hl hg).eq⟩
  | lwsId hl hg => exact .inl ⟨hl, _, .inr rfl, fun B => (CiTr.lwsId hl hg).eq⟩
  | start hl hg => exact .inr (.inl ⟨_, fun _ => by simp, fun B => (CiTr.start hl hg).eq⟩)
  | skip hg => exact .inr (.inl ⟨st, id, fun B => (CiTr.skip hg).eq⟩)
  | bad hl hg => exact .inr (.inr ⟨_, rfl, fun B => (CiTr.bad hl hg).eq⟩)

/-- the Call-ID automaton for `LwsCases`: the white-space site is entered outside the token (states `init`, `fend`); the
    final state is `fin`; the only exit on the spot is BadChar -/
theorem ciCases : LwsCases ciMachine ciEOH (fun st => st.state = .init ∨ st.state = .fend) (fun st => st.state = .fin)
    (fun e => e = .badChar) := ciStep_cases

theorem ci_stepStable (b s : Buf) : StepStable ciMachine b s := ciCases.stepStable b s

theorem ci_eobMore (b : Buf) : EobMore ciMachine b := fun _ _ => rfl

theorem ci_eobRestart (b s : Buf) : EobRestart ciMachine b s := by
  intro i st o st' _ h
  cases h; rfl

theorem ci_stepRestart (b s : Buf) : StepRestart ciMachine b s :=
  ciCases.stepRestart (fun _ he => he ▸ nofun) ciEOH_ne_more (fun B j c st1 hl h => ciStep_lws B j c st1 hl h)
    (fun st1 h => ciEOH_indep st1 (by rcases h with h | h <;> rw [h] <;> simp)) (fun _ _ _ => rfl) b s

theorem ci_progress : Progress ciMachine := ciCases.progress

/-! ### the invariant rule of the Call-ID parser

`S` holds at every loop position, `T` of whatever is returned. The obligations name what the loop does to the object: move
on, close the token, open the token, finish at an end of header behind a closed token, suspend, fail. -/
section
variable (b : Buf) {S : Nat → PCallIDBody → Prop} {T : Nat → Err → PCallIDBody → Prop}
  (mono : ∀ i j st, S i st → i ≤ j → j ≤ b.size → S j st)
  (close : ∀ i st, i < b.size → S i st → st.state = .found → S i { ciSetCallID st i with state := .fend })
  (start : ∀ i st, i < b.size → S i st → st.state = .init → S (i + 1) { st with state := .found, soffs := i })
  (done : ∀ i j st, S i st → st.state = .fend → i < j → j ≤ b.size → T j .ok { st with state := .fin, soffs := 0 })
  (more : ∀ i st, S i st → T i .moreBytes st)
  (err : ∀ i e st, S i st → e ≠ .ok → e ≠ .moreBytes → T i e st)
include mono close start done more err

theorem ciStep_ind (i : Nat) (c : UInt8) (st : PCallIDBody) (hb : b[i]? = some c) (h : S i st) :
    StepAll2 S T (ciStep b i c st) := by
  have hlt := get?_lt hb
  have key : ∀ s1 : PCallIDBody, S i s1 → s1.state = .init ∨ s1.state = .fend →
      StepAll2 S T (lwsStd b i s1 ciEOH id) := by
    intro s1 h1 hg
    refine lwsStd_all2 b i s1 ciEOH id _ _ (by omega) (fun n a1 a2 => mono i n s1 h1 a1 a2)
      (fun n a1 a2 => more n s1 (mono i n s1 h1 a1 a2)) (fun n crl a1 a2 a4 => ?_)
    rcases hg with hg | hg <;> simp only [ciEOH, hg]
    · exact err _ _ s1 (mono i _ s1 h1 (by omega) a2) (by decide) (by decide)
    · exact done i _ s1 h1 hg (by omega) a2
  have t := ciStep_tr b i c st
  generalize ciStep b i c st = r at t ⊢
  cases t with
  | lws _ hg => exact key _ h hg
  | lwsId _ hg => exact key _ (close i st hlt h hg) (.inr rfl)
  | start _ hg => exact start i st hlt h hg
  | skip => exact mono i (i + 1) st h (by omega) (by omega)
  | bad => exact err i _ st h (by decide) (by decide)

theorem parseCallIDVal_ind (o : Nat) (st : PCallIDBody) (h : S o st) (fin : st.state = .fin → T o .ok st) :
    T (parseCallIDVal b o st).1 (parseCallIDVal b o st).2.1 (parseCallIDVal b o st).2.2 := by
  unfold parseCallIDVal
  split
  · exact fin ‹_›
  · exact runLoop_safe2 ciMachine b S T ci_progress (ciStep_ind b mono close start done more err) more o st h

end

theorem ci_more_not_fin (b : Buf) (i : Nat) (st : PCallIDBody) (h0 : st.state ≠ .fin) :
    (runLoop ciMachine b i st).2.1 = Err.moreBytes → (runLoop ciMachine b i st).2.2.state ≠ .fin :=
  ciCases.more_not_F (fun _ he => he ▸ nofun) ciEOH_ne_more (fun st1 h => by rcases h with h | h <;> rw [h] <;> nofun)
    (fun _ _ _ => rfl) b i st h0

/-- **L1 for ParseCallIDVal** -/
theorem parseCallIDVal_stable (b s : Buf) (o : Nat) (st : PCallIDBody) {o' : Nat} {e : Err} {st' : PCallIDBody}
    (h : parseCallIDVal b o st = (o', e, st')) (he : e ≠ .moreBytes) :
    parseCallIDVal (b ++ s) o st = (o', e, st') := by
  unfold parseCallIDVal at h ⊢
  split
  · rename_i hf; rw [if_pos hf] at h; exact h
  · rename_i hf; rw [if_neg hf] at h
    exact runLoop_stable ciMachine b s (ci_stepStable b s) (ci_eobMore b) o st h he

/-- **L2 for ParseCallIDVal** -/
theorem parseCallIDVal_resume (b s : Buf) (o : Nat) (st : PCallIDBody) {o' : Nat} {st' : PCallIDBody}
    (h : parseCallIDVal b o st = (o', Err.moreBytes, st')) :
    parseCallIDVal (b ++ s) o' st' = parseCallIDVal (b ++ s) o st := by
  unfold parseCallIDVal at h ⊢
  by_cases hf : st.state = .fin
  · rw [if_pos hf] at h; cases h
  · rw [if_neg hf] at h
    have hnf := ci_more_not_fin b o st hf (by rw [h])
    rw [h] at hnf
    rw [if_neg hnf, if_neg hf]
    exact runLoop_resume ciMachine b s (ci_stepStable b s) (ci_stepRestart b s) (ci_eobRestart b s) o st h

end Sipsp
