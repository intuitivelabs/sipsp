/-
  Sipsp.Proofs.Capacity — the capacity of the caller-supplied arrays does not influence the parse (contacts).
-/
import Sipsp.Proofs.ValList
import Sipsp.Proofs.SlotArr
import Sipsp.Proofs.NameAddrPost

namespace Sipsp

/-- unused slots hold zero values -/
def CtClean (c : PContacts) : Prop :=
  (∀ k, c.n < k → k < c.vals.size → c.vals[k]! = {}) ∧ (c.n < c.vals.size → c.last = {})

/-- the first value, wherever the capacity puts it -/
def PContacts.firstOf (c : PContacts) : PFromBody := if c.vals.size > 0 then c.vals[0]! else c.first

/-- two contacts objects (with possibly different capacities) that went through the same parse -/
structure CtRel (c1 c2 : PContacts) : Prop where
  n : c1.n = c2.n
  hNo : c1.hNo = c2.hNo
  maxE : c1.maxExpires = c2.maxExpires
  minE : c1.minExpires = c2.minExpires
  lhv : c1.lastHVal = c2.lastHVal
  pnc : c1.pnc = c2.pnc
  cur : c1.cur = c2.cur
  agree : ∀ k, k < c1.n → k < c1.vals.size → k < c2.vals.size → c1.vals[k]! = c2.vals[k]!
  clean1 : CtClean c1
  clean2 : CtClean c2
  first : c1.n ≥ 1 → c1.firstOf = c2.firstOf

/-- the contact values as an array with an overflow slot: `CtClean c` is `SlotArr.Clean {} c.slots`, `c.cur` is
    `c.slots.cur`, and the `n` / `agree` fields of `CtRel` are `SlotArr.Agree c1.slots c2.slots` -/
def PContacts.slots (c : PContacts) : SlotArr PFromBody := ⟨c.vals, c.n, c.last⟩

theorem ctSlots_setCur (c : PContacts) (pf : PFromBody) : (c.setCur pf).slots = c.slots.setCur pf := by
  unfold PContacts.setCur SlotArr.setCur PContacts.slots; split <;> rfl

theorem ctSlots_next (c : PContacts) (pf : PFromBody) : (c.next pf).slots = SlotArr.push {} c.slots pf := by
  unfold PContacts.next SlotArr.push
  show _ = if c.n < c.vals.size then _ else _
  split
  · show SlotArr.mk ((c.setCur pf).account pf).vals ((c.setCur pf).account pf).n ((c.setCur pf).account pf).last = _
    rw [account_vals, account_n, account_last, setCur_n, ← ctSlots_setCur]; rfl
  · show SlotArr.mk ((c.setCur pf).account pf).vals ((c.setCur pf).account pf).n {} = _
    rw [account_vals, account_n, setCur_n, ← ctSlots_setCur]; rfl

/-- a new contacts object of any capacity is clean, its current slot is empty, and it is in normal form -/
theorem ctNew_clean (k : Nat) : CtClean ({ vals := Array.replicate k {} } : PContacts) :=
  SlotArr.clean_replicate ({} : PFromBody) k

theorem ctNew_cur (k : Nat) : ({ vals := Array.replicate k {} } : PContacts).cur = {} :=
  SlotArr.cur_replicate ({} : PFromBody) k

theorem ctNew_wrap (k : Nat) : ({ vals := Array.replicate k {} } : PContacts).wrap = { vals := Array.replicate k {} } := by
  unfold PContacts.wrap; simp [PFromBody.parsed]

theorem CtRel.slots {c1 c2 : PContacts} (h : CtRel c1 c2) : SlotArr.Agree c1.slots c2.slots := ⟨h.n, h.agree⟩

/-- the first value after one more value has been stored -/
theorem step_firstOf (c : PContacts) (pf : PFromBody) :
    ((c.setCur pf).account pf).firstOf = if c.n = 0 then pf else c.firstOf := by
  unfold PContacts.firstOf
  rw [account_vals, setCur_size, account_first, setCur_first, setCur_n, setCur_size]
  by_cases hs : c.vals.size > 0
  · rw [if_pos hs, if_pos hs]
    by_cases h0 : c.n = 0
    · rw [if_pos h0]
      have := setCur_get_n c pf (by omega)
      rw [h0] at this; exact this
    · rw [if_neg h0, setCur_vals_ne c pf 0 h0]
  · rw [if_neg hs, if_neg hs]
    by_cases h0 : c.n = 0
    · rw [if_pos ⟨h0, by omega⟩, if_pos h0]
    · rw [if_neg (fun hh => h0 hh.1), if_neg h0]

theorem setCur_firstOf (c : PContacts) (pf : PFromBody) (h : c.n ≥ 1) : (c.setCur pf).firstOf = c.firstOf := by
  unfold PContacts.firstOf
  rw [setCur_size, setCur_first, setCur_vals_ne c pf 0 (by omega)]

theorem CtClean.setCur {c : PContacts} (h : CtClean c) (pf : PFromBody) : CtClean (c.setCur pf) := by
  show SlotArr.Clean {} (c.setCur pf).slots
  rw [ctSlots_setCur]; exact SlotArr.Clean.setCur pf h

/-- the scalar bookkeeping after a value depends only on the scalars -/
theorem CtRel.step_scalars {c1 c2 : PContacts} (h : CtRel c1 c2) (pf : PFromBody) :
    ((c1.setCur pf).account pf).n = ((c2.setCur pf).account pf).n ∧
    ((c1.setCur pf).account pf).hNo = ((c2.setCur pf).account pf).hNo ∧
    ((c1.setCur pf).account pf).maxExpires = ((c2.setCur pf).account pf).maxExpires ∧
    ((c1.setCur pf).account pf).minExpires = ((c2.setCur pf).account pf).minExpires ∧
    ((c1.setCur pf).account pf).lastHVal = ((c2.setCur pf).account pf).lastHVal ∧
    ((c1.setCur pf).account pf).pnc = ((c2.setCur pf).account pf).pnc := by
  obtain ⟨a1, a2, a3, a4, a5⟩ := setCur_scalars c1 pf
  obtain ⟨b1, b2, b3, b4, b5⟩ := setCur_scalars c2 pf
  refine ⟨by rw [account_n, account_n, setCur_n, setCur_n, h.n], by rw [account_hNo, account_hNo, a1, b1, h.hNo],
    by rw [account_maxE, account_maxE, a2, b2, h.maxE],
    by rw [account_minE, account_minE, setCur_n, setCur_n, a3, b3, h.n, h.minE],
    by rw [account_lhv, account_lhv, a4, b4, h.lhv], by rw [account_pnc, account_pnc, a4, b4, a5, b5, h.lhv, h.pnc]⟩

theorem CtRel.step_firstOf {c1 c2 : PContacts} (h : CtRel c1 c2) (pf : PFromBody) :
    ((c1.setCur pf).account pf).firstOf = ((c2.setCur pf).account pf).firstOf := by
  rw [Sipsp.step_firstOf, Sipsp.step_firstOf, h.n]
  split
  · rfl
  · exact h.first (by rw [h.n]; omega)

/-- a suspended value is written back into both objects -/
theorem CtRel.setCur {c1 c2 : PContacts} (h : CtRel c1 c2) (pf : PFromBody) : CtRel (c1.setCur pf) (c2.setCur pf) := by
  obtain ⟨a1, a2, a3, a4, a5⟩ := setCur_scalars c1 pf
  obtain ⟨b1, b2, b3, b4, b5⟩ := setCur_scalars c2 pf
  have ha : SlotArr.Agree (c1.setCur pf).slots (c2.setCur pf).slots := by
    rw [ctSlots_setCur, ctSlots_setCur]; exact h.slots.setCur pf
  refine ⟨ha.1, by rw [a1, b1, h.hNo], by rw [a2, b2, h.maxE], by rw [a3, b3, h.minE],
    by rw [a4, b4, h.lhv], by rw [a5, b5, h.pnc], by rw [setCur_cur, setCur_cur], ha.2,
    h.clean1.setCur pf, h.clean2.setCur pf, fun hn1 => ?_⟩
  rw [setCur_n] at hn1
  rw [setCur_firstOf c1 pf hn1, setCur_firstOf c2 pf (by rw [← h.n]; exact hn1)]
  exact h.first hn1

theorem ctNext_scalars (c : PContacts) (pf : PFromBody) :
    (c.next pf).hNo = ((c.setCur pf).account pf).hNo ∧ (c.next pf).maxExpires = ((c.setCur pf).account pf).maxExpires ∧
    (c.next pf).minExpires = ((c.setCur pf).account pf).minExpires ∧
    (c.next pf).lastHVal = ((c.setCur pf).account pf).lastHVal ∧ (c.next pf).pnc = ((c.setCur pf).account pf).pnc ∧
    (c.next pf).firstOf = ((c.setCur pf).account pf).firstOf := by
  unfold PContacts.next; split <;> exact ⟨rfl, rfl, rfl, rfl, rfl, rfl⟩

theorem next_clean (c : PContacts) (pf : PFromBody) (h : CtClean c) : CtClean (c.next pf) ∧ (c.next pf).cur = {} := by
  show SlotArr.Clean {} (c.next pf).slots ∧ (c.next pf).slots.cur = {}
  rw [ctSlots_next]; exact ⟨SlotArr.Clean.push pf h, SlotArr.Clean.cur_push pf h⟩

theorem CtRel.next {c1 c2 : PContacts} (h : CtRel c1 c2) (pf : PFromBody) : CtRel (c1.next pf) (c2.next pf) := by
  have hs := h.step_scalars pf
  have k1 := ctNext_scalars c1 pf
  have k2 := ctNext_scalars c2 pf
  have c1' := next_clean c1 pf h.clean1
  have c2' := next_clean c2 pf h.clean2
  have ha : SlotArr.Agree (c1.next pf).slots (c2.next pf).slots := by
    rw [ctSlots_next, ctSlots_next]; exact h.slots.push _ _
  exact ⟨ha.1, by rw [k1.1, k2.1, hs.2.1], by rw [k1.2.1, k2.2.1, hs.2.2.1],
    by rw [k1.2.2.1, k2.2.2.1, hs.2.2.2.1], by rw [k1.2.2.2.1, k2.2.2.2.1, hs.2.2.2.2.1],
    by rw [k1.2.2.2.2.1, k2.2.2.2.2.1, hs.2.2.2.2.2], by rw [c1'.2, c2'.2], ha.2, c1'.1, c2'.1,
    fun _ => by rw [k1.2.2.2.2.2, k2.2.2.2.2.2, h.step_firstOf pf]⟩

/-- what can be said about the two objects after the value list of one header line was parsed -/
structure CtDone (c1 c2 : PContacts) : Prop where
  n : c1.n = c2.n
  hNo : c1.hNo = c2.hNo
  maxE : c1.maxExpires = c2.maxExpires
  minE : c1.minExpires = c2.minExpires
  lhv : c1.lastHVal = c2.lastHVal
  pnc : c1.pnc = c2.pnc
  agree : ∀ k, k < c1.n → k < c1.vals.size → k < c2.vals.size → c1.vals[k]! = c2.vals[k]!
  wrapCur : c1.wrap.cur = {} ∧ c2.wrap.cur = {}
  clean1 : CtClean c1.wrap
  clean2 : CtClean c2.wrap
  /-- the last value is retrievable whatever the capacity -/
  lastV : c1.n > 0 → c1.getContact (c1.n - 1) = c2.getContact (c2.n - 1)
  /-- … and so is the first one -/
  firstV : c1.n > 0 → c1.getContact 0 = c2.getContact 0
  first : c1.n ≥ 1 → c1.firstOf = c2.firstOf

theorem wrap_firstOf (c : PContacts) : c.wrap.firstOf = c.firstOf := by
  unfold PContacts.wrap; split <;> rfl

/-- once a finished value has been stored, the wrapper's normalisation is what the loop itself does before the
    next value -/
theorem wrap_step (c : PContacts) (pf : PFromBody) (h : CtClean c) (hf : pf.state = .fin) :
    ((c.setCur pf).account pf).wrap = c.next pf := by
  by_cases hin : c.n < c.vals.size
  · rw [PContacts.next, if_pos hin, PContacts.wrap, if_neg]
    rw [account_last, setCur_last_in c pf hin, h.2 hin]
    simp [PFromBody.parsed]
  · rw [PContacts.next, if_neg hin, PContacts.wrap, if_pos]
    rw [account_n, account_vals, account_last, setCur_n, setCur_size, setCur_last_out c pf hin]
    simp [PFromBody.parsed, hf]; omega

/-! ### `GetContact` -/

theorem vNo_eq_min (c : PContacts) : c.vNo = min c.n c.vals.size := by
  unfold PContacts.vNo; split <;> omega

/-- a stored value is retrievable -/
theorem getContact_stored (c : PContacts) (k : Nat) (hk : k < c.vNo) : c.getContact k = some c.vals[k]! := by
  have hs : k < c.vals.size := by rw [vNo_eq_min] at hk; omega
  unfold PContacts.getContact
  rw [if_pos hk]
  simp [hs]

/-- the last value, when it did not fit, is read from the scratch slot -/
theorem getContact_last_out (c : PContacts) (k : Nat) (hn : c.n = k + 1) (hs : c.vals.size ≤ k) :
    c.getContact k = some c.last := by
  unfold PContacts.getContact PContacts.isEmpty
  rw [if_neg (by rw [vNo_eq_min]; omega), if_neg (by simp [hn]), if_pos (by simp [hn])]

/-- the first value of an object without an array, once a later one occupies the scratch slot -/
theorem getContact_first_out (c : PContacts) (hn : c.n > 1) (hs : c.vals.size = 0) : c.getContact 0 = some c.first := by
  unfold PContacts.getContact PContacts.isEmpty
  rw [if_neg (by rw [vNo_eq_min]; omega), if_neg (by simp; omega), if_neg (by simp; omega), if_pos (beq_self_eq_true 0)]

/-- after the last value of a line: the object with the finished value stored -/
theorem done_facts (c : PContacts) (pf : PFromBody) (h : CtClean c) (hf : pf.state = .fin) :
    let c' := (c.setCur pf).account pf
    c'.wrap.cur = {} ∧ CtClean c'.wrap ∧ c'.getContact c.n = some pf ∧ c'.getContact 0 = some c'.firstOf := by
  intro c'
  have hnx := next_clean c pf h
  rw [← wrap_step c pf h hf] at hnx
  have hn : c'.n = c.n + 1 := by rw [account_n, setCur_n]
  have hsz : c'.vals.size = c.vals.size := by rw [account_vals, setCur_size]
  have hl : ¬ c.n < c.vals.size → c'.last = pf := fun hin => by rw [account_last, setCur_last_out c pf hin]
  refine ⟨hnx.2, hnx.1, ?_, ?_⟩
  · by_cases hin : c.n < c.vals.size
    · rw [getContact_stored c' c.n (by rw [vNo_eq_min, hn, hsz]; omega), account_vals, setCur_get_n c pf hin]
    · rw [getContact_last_out c' c.n hn (by omega), hl hin]
  · by_cases hs : c.vals.size > 0
    · rw [getContact_stored c' 0 (by rw [vNo_eq_min, hn, hsz]; omega), PContacts.firstOf, if_pos (by omega)]
    · have hfo : c'.firstOf = c'.first := by rw [PContacts.firstOf, if_neg (by omega)]
      by_cases h0 : c.n = 0
      · rw [getContact_last_out c' 0 (by omega) (by omega), hl (by omega), step_firstOf, if_pos h0]
      · rw [getContact_first_out c' (by omega) (by omega), hfo]

/-- the two objects after the last value of a line -/
theorem CtRel.done {c1 c2 : PContacts} (h : CtRel c1 c2) (pf : PFromBody) (hf : pf.state = .fin) :
    CtDone ((c1.setCur pf).account pf) ((c2.setCur pf).account pf) := by
  have hs := h.step_scalars pf
  have d1 := done_facts c1 pf h.clean1 hf
  have d2 := done_facts c2 pf h.clean2 hf
  have hfo := h.step_firstOf pf
  refine ⟨hs.1, hs.2.1, hs.2.2.1, hs.2.2.2.1, hs.2.2.2.2.1, hs.2.2.2.2.2, fun k hk h1 h2 => ?_, ⟨d1.1, d2.1⟩, d1.2.1,
    d2.2.1, fun _ => ?_, fun _ => by rw [d1.2.2.2, d2.2.2.2, hfo], fun _ => hfo⟩
  · rw [account_n, setCur_n] at hk
    rw [account_vals, setCur_size] at h1 h2
    rw [account_vals, account_vals]
    have := h.slots.setCur_get pf k (Nat.le_of_lt_succ hk) h1 h2
    rwa [← ctSlots_setCur, ← ctSlots_setCur] at this
  · have e1 : ((c1.setCur pf).account pf).n - 1 = c1.n := by rw [account_n, setCur_n]; omega
    have e2 : ((c2.setCur pf).account pf).n - 1 = c2.n := by rw [account_n, setCur_n]; omega
    rw [e1, e2, d1.2.2.1, d2.2.2.1]

/-- same offset, same verdict; related objects when suspended, `CtDone` after the last value -/
def CtRelOut (r1 r2 : Nat × Err × PContacts) : Prop :=
  r1.1 = r2.1 ∧ r1.2.1 = r2.2.1 ∧ (r1.2.1 = .moreBytes → CtRel r1.2.2 r2.2.2) ∧ (r1.2.1 = .ok → CtDone r1.2.2 r2.2.2)

theorem CtRelOut.of_err (n : Nat) {e : Err} (c1 c2 : PContacts) (h1 : e ≠ .moreBytes) (h2 : e ≠ .ok) :
    CtRelOut (n, e, c1) (n, e, c2) := ⟨rfl, rfl, fun h => absurd h h1, fun h => absurd h h2⟩

/-- **the value-list loop does the same whatever the capacity**, for any one-value parser that returns OK only with a
    finished value -/
theorem valsLoop_relCap {one : Buf → Nat → PFromBody → Nat × Err × PFromBody}
    (hfin : ∀ {b o pf n pf'}, one b o pf = (n, Err.ok, pf') → pf'.state = .fin) (b : Buf) (offs : Nat) (c1 c2 : PContacts)
    (h : CtRel c1 c2) : CtRelOut (valsLoop one b offs c1) (valsLoop one b offs c2) := by
  refine valsLoop_rel one one b b (fun o1 c1 o2 c2 => o1 = o2 ∧ CtRel c1 c2) CtRelOut (fun offs c1 o2 c2 ⟨ho, h⟩ => ?_)
    ⟨rfl, h⟩
  subst ho
  unfold valsStep
  rw [← h.cur]
  rcases hp : one b offs c1.cur with ⟨next, e1, pf⟩
  cases e1 <;> simp only
  case ok => exact ⟨rfl, rfl, (fun hh => by cases hh), fun _ => h.done pf (hfin hp)⟩
  case moreValues =>
    by_cases hg : offs < next ∧ next ≤ b.size
    · simp only [if_pos hg]; exact ⟨trivial, h.next pf⟩
    · simp only [if_neg hg]; exact CtRelOut.of_err _ _ _ (by decide) (by decide)
  case moreBytes => exact ⟨rfl, rfl, fun _ => h.setCur pf, (fun hh => by cases hh)⟩
  all_goals exact CtRelOut.of_err _ _ _ (by decide) (by decide)

theorem contactsLoop_rel (b : Buf) (offs : Nat) (c1 c2 : PContacts) (h : CtRel c1 c2) :
    CtRelOut (contactsLoop b offs c1) (contactsLoop b offs c2) := by
  rw [contactsLoop_eq_valsLoop, contactsLoop_eq_valsLoop]
  exact valsLoop_relCap (fun hp => (parseNameAddrPVal_post HdrContact _ _ _ hp (Or.inl rfl)).1) b offs c1 c2 h

/-- the relation in which two contacts objects stand between calls of ParseAllContactValues -/
def CtW (c1 c2 : PContacts) : Prop := CtRel c1.wrap c2.wrap

theorem CtDone.toW {c1 c2 : PContacts} (h : CtDone c1 c2) : CtW c1 c2 := by
  obtain ⟨a1, a2, a3, a4, a5, a6, a7⟩ := wrap_scalars c1
  obtain ⟨b1, b2, b3, b4, b5, b6, b7⟩ := wrap_scalars c2
  refine ⟨by rw [a1, b1, h.n], by rw [a3, b3, h.hNo], by rw [a4, b4, h.maxE], by rw [a5, b5, h.minE],
    by rw [a6, b6, h.lhv], by rw [a7, b7, h.pnc], by rw [h.wrapCur.1, h.wrapCur.2], ?_, h.clean1, h.clean2, ?_⟩
  · intro k hk h1 h2
    rw [a1] at hk; rw [a2] at h1 ⊢; rw [b2] at h2 ⊢
    exact h.agree k hk h1 h2
  · intro hn1
    rw [a1] at hn1
    rw [wrap_firstOf, wrap_firstOf]; exact h.first hn1

theorem CtRel.toW {c1 c2 : PContacts} (h : CtRel c1 c2) (hnf : c1.cur.state ≠ .fin) : CtW c1 c2 := by
  unfold CtW
  rw [wrap_id_of_pending c1 hnf, wrap_id_of_pending c2 (by rw [← h.cur]; exact hnf)]
  exact h

/-- a new header line: the header counter is bumped and the running extent cleared -/
theorem CtW.bump {c1 c2 : PContacts} (h : CtW c1 c2) :
    CtW { c1 with hNo := c1.hNo + 1, lastHVal := {} } { c2 with hNo := c2.hNo + 1, lastHVal := {} } := by
  unfold CtW at h ⊢
  rw [bump_wrap c1, bump_wrap c2]
  have hno : c1.hNo + 1 = c2.hNo + 1 := by rw [← (wrap_scalars c1).2.2.1, ← (wrap_scalars c2).2.2.1, h.hNo]
  exact ⟨h.n, hno, h.maxE, h.minE, rfl, h.pnc, h.cur, h.agree, h.clean1, h.clean2, h.first⟩

theorem parseAllContactValues_rel (b : Buf) (offs : Nat) (c1 c2 : PContacts) (h : CtW c1 c2) :
    CtRelOut (parseAllContactValues b offs c1) (parseAllContactValues b offs c2) :=
  contactsLoop_rel b offs c1.wrap c2.wrap h

/-- new objects (any two capacities) are related -/
theorem CtW_new (k1 k2 : Nat) :
    CtW ({ vals := Array.replicate k1 {} } : PContacts) ({ vals := Array.replicate k2 {} } : PContacts) := by
  unfold CtW
  rw [ctNew_wrap k1, ctNew_wrap k2]
  exact ⟨rfl, rfl, rfl, rfl, rfl, rfl, (ctNew_cur k1).trans (ctNew_cur k2).symm, (fun k hk => by cases hk), ctNew_clean k1,
    ctNew_clean k2, (fun hh => by cases hh)⟩

end Sipsp
