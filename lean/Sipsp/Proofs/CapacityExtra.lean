/-
  Sipsp.Proofs.CapacityExtra — the capacity property (C13) at message level, read through the accessors of the library.

  * first / last contact: `FinC c1 c2` = "`GetContact(0)` and `GetContact(N-1)` give the same in both objects". A
    completed value list establishes it, so it travels through the header block and ParseSIPMsg as the extra `Q` of
    `parseSIPMsg_relQ` (CapacityMsg); `MsgRelX` / `MsgDoneX` / `MsgOutX` are MsgRel / MsgDone / MsgOut plus `FinC`. After
    OK with N > 0, `GetContact(0)` and `GetContact(N-1)` are non-nil in both objects — every capacity, zero included —
    and equal in the two runs (one call, every chunk schedule, from any two Init calls); they are what a reference run
    with a large enough array stores at index 0 and N-1.
  * "more" indicators and stored prefix: same N; VNo = min N capacity; More ⇔ N > capacity ⇔ values were dropped; the
    smaller array holds a prefix of the larger one's values; the same for the header list (no accessor in the library:
    "dropped" is N > len(Hdrs)).
  * the identity list (PPAIs): stand-alone ParseAllPAIValues with ANY two capacities (the library fixes 2); at message
    level the list is identical in both runs. `GetPAI` has no scratch-slot fallback: a dropped identity is NOT
    retrievable, so "the last value is retrievable whatever the capacity" is false for identities and is not claimed
    (`PaDone.first_last` states the true version).
  * the accessors for EVERY index (`GetContact`, `GetPAI`, `GetHdr`: complete case tables; the first-of-type table keeps
    its 13 slots through Init, ParseSIPMsg and every chain of calls).
  NOT claimed (because false in library and model): first / last contact while a parse is SUSPENDED (MoreBytes) inside
  a Contact header line — the scratch slot then holds the half-parsed next value; `MsgRelX` says so explicitly
  (condition `state = body ∨ cur header state ≠ hContact`).
  Not done here: URI-parameter / stand-alone header-list capacities, the signature's truncation indication.
-/
import Sipsp.Proofs.CapacityMsg
import Sipsp.Proofs.CapacityPAI
import Sipsp.Proofs.HdrSpec
import Sipsp.Proofs.MsgLift

namespace Sipsp

/-! ### accessors of one contacts object (no relation involved) -/

/-- the "more" indicator says exactly that values were dropped -/
theorem more_iff (c : PContacts) : c.more = true ↔ c.n > c.vals.size := by
  unfold PContacts.more; simp

theorem more_iff_dropped (c : PContacts) : c.more = true ↔ c.vNo < c.n := by
  rw [more_iff, vNo_eq_min]; omega

theorem not_more_iff (c : PContacts) : c.more = false ↔ c.vNo = c.n := by
  rw [← Bool.not_eq_true, more_iff, vNo_eq_min]; omega

/-- with at least one value parsed, `GetContact(0)` is never nil, whatever the capacity -/
theorem getContact_first_isSome (c : PContacts) (h : c.n > 0) : (c.getContact 0).isSome = true := by
  by_cases hv : c.vNo > 0
  · rw [getContact_stored c 0 hv]; rfl
  · rw [vNo_eq_min] at hv
    by_cases h1 : c.n = 1
    · rw [getContact_last_out c 0 h1 (by omega)]; rfl
    · rw [getContact_first_out c (by omega) (by omega)]; rfl

/-- with at least one value parsed, `GetContact(N-1)` is never nil, whatever the capacity -/
theorem getContact_last_isSome (c : PContacts) (h : c.n > 0) : (c.getContact (c.n - 1)).isSome = true := by
  by_cases hv : c.vNo > c.n - 1
  · rw [getContact_stored c _ hv]; rfl
  · rw [vNo_eq_min] at hv
    rw [getContact_last_out c _ (by omega) (by omega)]; rfl

/-! ### first and last contact -/

/-- the first and the last contact value read with `GetContact` are the same in the two objects -/
def FinC (c1 c2 : PContacts) : Prop :=
  c1.n > 0 → c1.getContact 0 = c2.getContact 0 ∧ c1.getContact (c1.n - 1) = c2.getContact (c2.n - 1)

theorem CtDone.finC {c1 c2 : PContacts} (h : CtDone c1 c2) : FinC c1 c2 := fun hn => ⟨h.firstV hn, h.lastV hn⟩

def FinH : Option PHdrVals → Option PHdrVals → Prop
  | some a, some b => FinC a.contacts b.contacts
  | _, _ => True

/-- `FinH` is required of results with these verdicts (a line suspended inside a Contact value list has a
    half-parsed value in the scratch slot, so nothing is claimed there) -/
def FinOut (e : Err) (st : HState) (hb1 hb2 : Option PHdrVals) : Prop :=
  (e = .ok ∨ e = .empty ∨ (e = .moreBytes ∧ st ≠ .hContact)) → FinH hb1 hb2

theorem FinOut.of {e : Err} {st : HState} {hb1 hb2 : Option PHdrVals} (h : FinH hb1 hb2) : FinOut e st hb1 hb2 :=
  fun _ => h

/-! ### the strengthened message-level relations -/

/-- `MsgRel` plus: unless the parse is suspended inside a Contact header line, the first and the last contact read
    with `GetContact` are the same in both objects -/
def MsgRelX (m1 m2 : PSIPMsg) : Prop :=
  MsgRel m1 m2 ∧ ((m1.state = .body ∨ m1.hl.cur.state ≠ .hContact) → FinC m1.pv.contacts m2.pv.contacts)

/-- `MsgDone` plus first / last contact -/
def MsgDoneX (m1 m2 : PSIPMsg) : Prop := MsgDone m1 m2 ∧ FinC m1.pv.contacts m2.pv.contacts

def MsgOutX (r1 r2 : Nat × Err × PSIPMsg) : Prop :=
  r1.1 = r2.1 ∧ r1.2.1 = r2.2.1 ∧ (r1.2.1 = .moreBytes → MsgRelX r1.2.2 r2.2.2) ∧ (r1.2.1 = .ok → MsgDoneX r1.2.2 r2.2.2)

theorem MsgOutX.toOut {r1 r2 : Nat × Err × PSIPMsg} (h : MsgOutX r1 r2) : MsgOut r1 r2 :=
  ⟨h.1, h.2.1, fun hm => (h.2.2.1 hm).1, fun hk => (h.2.2.2 hk).1⟩

theorem MsgRelX.relQ {m1 m2 : PSIPMsg} (h : MsgRelX m1 m2) : MsgRelQ FinC m1 m2 := by
  obtain ⟨⟨hl2, c2, rfl, hH, hC⟩, hF⟩ := h
  exact ⟨hl2, c2, rfl, hH, hC, hF⟩

theorem MsgOutQ.outX {r1 r2 : Nat × Err × PSIPMsg} (h : MsgOutQ FinC r1 r2) : MsgOutX r1 r2 := by
  refine ⟨h.1, h.2.1, fun hm => ?_, fun hk => ?_⟩
  · obtain ⟨hl2, c2, e, hH, hC⟩ := h.2.2.1 hm
    exact ⟨⟨hl2, c2, e, hH, hC.1⟩, by rw [e]; exact hC.2⟩
  · obtain ⟨hl2, c2, e, hH, hC⟩ := h.2.2.2 hk
    exact ⟨⟨hl2, c2, e, hH, hC.1⟩, by rw [e]; exact hC.2 trivial⟩

/-- **one call of ParseSIPMsg**, any two capacity choices: same offset, same verdict, related objects, and after OK
    the first / last contact are equal as well -/
theorem parseSIPMsg_relX (b : Buf) (o : Nat) (m1 m2 : PSIPMsg) (flags : Nat) (hR : MsgRelX m1 m2)
    (hok : msgOK2 b o m1) : MsgOutX (parseSIPMsg b o m1 flags) (parseSIPMsg b o m2 flags) :=
  (parseSIPMsg_relQ FinC (fun _ _ => CtDone.finC) b o m1 m2 flags hR.relQ hok).outX

/-- two Init calls with different capacities give objects related in the strengthened sense (no contact yet) -/
theorem MsgRelX_init (m0 m0' : PSIPMsg) (len : Nat) (kh1 kc1 kh2 kc2 : Nat) (hd1 ct1 hd2 ct2 : Option Unit) :
    MsgRelX (m0.init len (hd1.map fun _ => Array.replicate kh1 {}) (ct1.map fun _ => Array.replicate kc1 {}))
      (m0'.init len (hd2.map fun _ => Array.replicate kh2 {}) (ct2.map fun _ => Array.replicate kc2 {})) := by
  refine ⟨MsgRel_init m0 m0' len kh1 kc1 kh2 kc2 hd1 ct1 hd2 ct2, fun _ hn => ?_⟩
  exact absurd hn (Nat.lt_irrefl 0)

/-- **every chunk schedule**: as `capacity_schedule`, with the first / last contact in the conclusion -/
theorem capacity_scheduleX (flags : Nat) (o : Nat) (m1 m2 : PSIPMsg) (l : List Buf) (hg : Growing l)
    (hfit : ∀ x ∈ l, x.size ≤ 65535) (hR : MsgRelX m1 m2) (h0 : ∀ b ∈ l.head?, msgOK2 b o m1) (hne : l ≠ []) :
    MsgOutX (resumeRun (fun b o m => parseSIPMsg b o m flags) o m1 l)
      (resumeRun (fun b o m => parseSIPMsg b o m flags) o m2 l) :=
  schedule_of_call flags MsgRelX MsgDoneX (fun b o m1 m2 h hok => parseSIPMsg_relX b o m1 m2 flags h hok) o m1 m2 l hg
    hfit hR h0 hne

/-- from Init with any two capacity choices (or none), any chunk schedule -/
theorem capacity_from_initX (flags : Nat) (o : Nat) (m0 m0' : PSIPMsg) (len kh1 kc1 kh2 kc2 : Nat)
    (hd1 ct1 hd2 ct2 : Option Unit) (l : List Buf) (hg : Growing l) (hfit : ∀ x ∈ l, x.size ≤ 65535)
    (ho : ∀ b ∈ l.head?, o ≤ b.size) (hne : l ≠ []) :
    MsgOutX
      (resumeRun (fun b o m => parseSIPMsg b o m flags) o
        (m0.init len (hd1.map fun _ => Array.replicate kh1 {}) (ct1.map fun _ => Array.replicate kc1 {})) l)
      (resumeRun (fun b o m => parseSIPMsg b o m flags) o
        (m0'.init len (hd2.map fun _ => Array.replicate kh2 {}) (ct2.map fun _ => Array.replicate kc2 {})) l) :=
  capacity_scheduleX flags o _ _ l hg hfit (MsgRelX_init m0 m0' len kh1 kc1 kh2 kc2 hd1 ct1 hd2 ct2)
    (fun b hb => msgOK2_init b o (ho b hb) m0 len kh1 kc1 hd1 ct1) hne

/-! ### first / last contact at message level -/

/-- after a successful parse, if any contact value was seen, `GetContact(0)` and `GetContact(N-1)` are
    non-nil in both objects (whatever their capacities, zero included) and give the same values -/
theorem MsgDoneX.first_last {m1 m2 : PSIPMsg} (h : MsgDoneX m1 m2) (hn : m1.pv.contacts.n > 0) :
    m1.pv.contacts.n = m2.pv.contacts.n ∧
    ∃ f l, m1.pv.contacts.getContact 0 = some f ∧ m2.pv.contacts.getContact 0 = some f ∧
      m1.pv.contacts.getContact (m1.pv.contacts.n - 1) = some l ∧
      m2.pv.contacts.getContact (m2.pv.contacts.n - 1) = some l := by
  obtain ⟨e0, e1⟩ := h.2 hn
  have i0 := getContact_first_isSome m1.pv.contacts hn
  have i1 := getContact_last_isSome m1.pv.contacts hn
  obtain ⟨f, hf⟩ := Option.isSome_iff_exists.mp i0
  obtain ⟨l, hl⟩ := Option.isSome_iff_exists.mp i1
  exact ⟨h.1.contacts_n, f, l, hf, by rw [← e0]; exact hf, hl, by rw [← e1]; exact hl⟩

/-- the same, read off the result of a run (single call or chunk schedule) -/
theorem MsgOutX.first_last {r1 r2 : Nat × Err × PSIPMsg} (h : MsgOutX r1 r2) (hok : r1.2.1 = .ok)
    (hn : r1.2.2.pv.contacts.n > 0) :
    r1.2.2.pv.contacts.n = r2.2.2.pv.contacts.n ∧
    ∃ f l, r1.2.2.pv.contacts.getContact 0 = some f ∧ r2.2.2.pv.contacts.getContact 0 = some f ∧
      r1.2.2.pv.contacts.getContact (r1.2.2.pv.contacts.n - 1) = some l ∧
      r2.2.2.pv.contacts.getContact (r2.2.2.pv.contacts.n - 1) = some l :=
  (h.2.2.2 hok).first_last hn

/-! ### "more" indicators and stored prefix at message level -/

/-- contacts. Both objects saw the same number `n` of values; each stores `min n capacity` of them
    (`VNo`), `More()` is true exactly when `n` exceeds the capacity, i.e. exactly when values were dropped; every index
    stored in both objects holds the same (non-nil) value -/
theorem MsgDone.contacts_more {m1 m2 : PSIPMsg} (h : MsgDone m1 m2) :
    m1.pv.contacts.n = m2.pv.contacts.n ∧
    m1.pv.contacts.vNo = min m1.pv.contacts.n m1.pv.contacts.vals.size ∧
    m2.pv.contacts.vNo = min m1.pv.contacts.n m2.pv.contacts.vals.size ∧
    (m1.pv.contacts.more = true ↔ m1.pv.contacts.n > m1.pv.contacts.vals.size) ∧
    (m2.pv.contacts.more = true ↔ m1.pv.contacts.n > m2.pv.contacts.vals.size) ∧
    (m1.pv.contacts.more = true ↔ m1.pv.contacts.vNo < m1.pv.contacts.n) ∧
    (m2.pv.contacts.more = true ↔ m2.pv.contacts.vNo < m1.pv.contacts.n) := by
  have hn := h.contacts_n
  refine ⟨hn, vNo_eq_min _, by rw [hn]; exact vNo_eq_min _, more_iff _, by rw [hn]; exact more_iff _,
    more_iff_dropped _, by rw [hn]; exact more_iff_dropped _⟩

theorem MsgDone.contacts_prefix {m1 m2 : PSIPMsg} (h : MsgDone m1 m2) (k : Nat)
    (h1 : k < m1.pv.contacts.vNo) (h2 : k < m2.pv.contacts.vNo) :
    m1.pv.contacts.getContact k = m2.pv.contacts.getContact k ∧ (m1.pv.contacts.getContact k).isSome = true := by
  rw [getContact_stored _ k h1, getContact_stored _ k h2]
  have a1 := h1; have a2 := h2
  rw [vNo_eq_min] at a1 a2
  rw [h.contacts_agree k (by omega) (by omega) (by omega)]
  exact ⟨rfl, rfl⟩

/-- what the smaller array holds is a prefix of what the larger array holds, and the larger one
    reports "more" only if the smaller one does -/
theorem MsgDone.contacts_mono {m1 m2 : PSIPMsg} (h : MsgDone m1 m2)
    (hle : m1.pv.contacts.vals.size ≤ m2.pv.contacts.vals.size) :
    m1.pv.contacts.vNo ≤ m2.pv.contacts.vNo ∧
    (m2.pv.contacts.more = true → m1.pv.contacts.more = true) ∧
    (∀ k, k < m1.pv.contacts.vNo → m1.pv.contacts.getContact k = m2.pv.contacts.getContact k) := by
  have hn := h.contacts_n
  have hv : m1.pv.contacts.vNo ≤ m2.pv.contacts.vNo := by rw [vNo_eq_min, vNo_eq_min]; omega
  refine ⟨hv, fun hm => ?_, fun k hk => (h.contacts_prefix k hk (by omega)).1⟩
  rw [more_iff] at hm ⊢; omega

/-- nothing dropped: every value is retrievable by index in an object whose "more" indicator is off -/
theorem contacts_all_stored (c : PContacts) (hm : c.more = false) (k : Nat) (hk : k < c.n) :
    c.getContact k = some c.vals[k]! :=
  getContact_stored c k (by rw [(not_more_iff c).mp hm]; exact hk)

/-- header list. Same total count `n` in both objects; an index below `min n capacity` of both arrays
    holds the same header (so the smaller array holds a prefix of the larger one); headers were dropped exactly
    when `n` exceeds the capacity (the library has no separate indicator: the caller compares `N` with `len(Hdrs)`) -/
theorem MsgDone.hdrs_prefix {m1 m2 : PSIPMsg} (h : MsgDone m1 m2) (k : Nat)
    (h1 : k < min m1.hl.n m1.hl.hdrs.size) (h2 : k < min m2.hl.n m2.hl.hdrs.size) :
    m1.hl.hdrs[k]? = m2.hl.hdrs[k]? ∧ (m1.hl.hdrs[k]?).isSome = true := by
  have hn := h.hdrs_n
  have s1 : k < m1.hl.hdrs.size := by omega
  have s2 : k < m2.hl.hdrs.size := by omega
  have := h.hdrs_agree k (by omega) s1 s2
  simp only [Array.getElem!_eq_getD, Array.getD_eq_getD_getElem?, Array.getElem?_eq_getElem s1,
    Array.getElem?_eq_getElem s2, Option.getD_some] at this
  rw [Array.getElem?_eq_getElem s1, Array.getElem?_eq_getElem s2, this]
  exact ⟨rfl, rfl⟩

theorem MsgDone.hdrs_mono {m1 m2 : PSIPMsg} (h : MsgDone m1 m2) (hle : m1.hl.hdrs.size ≤ m2.hl.hdrs.size) :
    min m1.hl.n m1.hl.hdrs.size ≤ min m2.hl.n m2.hl.hdrs.size ∧
    (m2.hl.n > m2.hl.hdrs.size → m1.hl.n > m1.hl.hdrs.size) ∧
    (∀ k, k < min m1.hl.n m1.hl.hdrs.size → m1.hl.hdrs[k]? = m2.hl.hdrs[k]?) := by
  have hn := h.hdrs_n
  exact ⟨by omega, fun _ => by omega, fun k hk => (h.hdrs_prefix k hk (by omega)).1⟩

/-! ### the identity list (`GetPAI` has no scratch-slot fallback; stand-alone, any two capacities) -/

theorem pa_vNo_eq_min (c : PPAIs) : c.vNo = min c.n c.vals.size := by
  unfold PPAIs.vNo; split <;> omega

theorem pa_more_iff (c : PPAIs) : c.more = true ↔ c.n > c.vals.size := by
  unfold PPAIs.more; simp

theorem pa_more_iff_dropped (c : PPAIs) : c.more = true ↔ c.vNo < c.n := by
  rw [pa_more_iff, pa_vNo_eq_min]; omega

theorem getPAI_stored (c : PPAIs) (k : Nat) (hk : k < c.vNo) : c.getPAI k = some c.vals[k]! := by
  have hs : k < c.vals.size := by rw [pa_vNo_eq_min] at hk; omega
  unfold PPAIs.getPAI
  rw [if_pos hk]
  simp [hs]

/-- unlike `GetContact`, `GetPAI` has no scratch slot: a dropped identity is not retrievable -/
theorem getPAI_dropped (c : PPAIs) (k : Nat) (hk : c.vNo ≤ k) : c.getPAI k = none := by
  unfold PPAIs.getPAI
  rw [if_neg (by omega)]

/-- ParseAllPAIValues with any two capacities (stand-alone; the library fixes the capacity to 2): after
    OK the same count `n` in both, `More()` ⇔ `n > capacity` ⇔ identities were dropped, and every index stored in both
    holds the same non-nil value -/
theorem PaDone.more_prefix {c1 c2 : PPAIs} (h : PaDone c1 c2) :
    c1.n = c2.n ∧ c1.vNo = min c1.n c1.vals.size ∧ c2.vNo = min c1.n c2.vals.size ∧
    (c1.more = true ↔ c1.n > c1.vals.size) ∧ (c2.more = true ↔ c1.n > c2.vals.size) ∧
    (c1.more = true ↔ c1.vNo < c1.n) ∧ (c2.more = true ↔ c2.vNo < c1.n) ∧
    (∀ k, k < c1.vNo → k < c2.vNo → c1.getPAI k = c2.getPAI k ∧ (c1.getPAI k).isSome = true) := by
  have hn := h.n
  refine ⟨hn, pa_vNo_eq_min _, by rw [hn]; exact pa_vNo_eq_min _, pa_more_iff _, by rw [hn]; exact pa_more_iff _,
    pa_more_iff_dropped _, by rw [hn]; exact pa_more_iff_dropped _, fun k h1 h2 => ?_⟩
  rw [getPAI_stored _ k h1, getPAI_stored _ k h2]
  rw [pa_vNo_eq_min] at h1 h2
  rw [h.agree k (by omega) (by omega) (by omega)]
  exact ⟨rfl, rfl⟩

/-- the smaller identity array holds a prefix of the larger one -/
theorem PaDone.mono {c1 c2 : PPAIs} (h : PaDone c1 c2) (hle : c1.vals.size ≤ c2.vals.size) :
    c1.vNo ≤ c2.vNo ∧ (c2.more = true → c1.more = true) ∧ (∀ k, k < c1.vNo → c1.getPAI k = c2.getPAI k) := by
  have hn := h.n
  have hv : c1.vNo ≤ c2.vNo := by rw [pa_vNo_eq_min, pa_vNo_eq_min]; omega
  refine ⟨hv, fun hm => ?_, fun k hk => (h.more_prefix.2.2.2.2.2.2.2 k hk (by omega)).1⟩
  rw [pa_more_iff] at hm ⊢; omega

/-- first identity: retrievable and equal as soon as both capacities are positive; last identity: only when it was
    not dropped -/
theorem PaDone.first_last {c1 c2 : PPAIs} (h : PaDone c1 c2) (hn : c1.n > 0) :
    (0 < c1.vals.size → 0 < c2.vals.size → c1.getPAI 0 = c2.getPAI 0 ∧ (c1.getPAI 0).isSome = true) ∧
    (c1.more = false → c2.more = false →
      c1.getPAI (c1.n - 1) = c2.getPAI (c2.n - 1) ∧ (c1.getPAI (c1.n - 1)).isSome = true) := by
  have hp := h.more_prefix
  refine ⟨fun s1 s2 => hp.2.2.2.2.2.2.2 0 (by rw [pa_vNo_eq_min]; omega) (by rw [pa_vNo_eq_min, ← h.n]; omega),
    fun m1 m2 => ?_⟩
  have a1 : ¬ c1.n > c1.vals.size := by rw [← pa_more_iff, m1]; exact Bool.false_ne_true
  have a2 : ¬ c2.n > c2.vals.size := by rw [← pa_more_iff, m2]; exact Bool.false_ne_true
  rw [← h.n]
  exact hp.2.2.2.2.2.2.2 (c1.n - 1) (by rw [pa_vNo_eq_min]; omega) (by rw [pa_vNo_eq_min, ← h.n]; omega)

/-- new identity objects of any two capacities are related -/
theorem PaW_new (k1 k2 : Nat) :
    PaW ({ vals := Array.replicate k1 {} } : PPAIs) ({ vals := Array.replicate k2 {} } : PPAIs) := by
  have hw : ∀ k, (({ vals := Array.replicate k {} } : PPAIs)).wrap = { vals := Array.replicate k {} } := by
    intro k; unfold PPAIs.wrap; simp [PFromBody.parsed]
  unfold PaW
  rw [hw k1, hw k2]
  have hcur : ∀ k, (({ vals := Array.replicate k {} } : PPAIs)).cur = {} := by
    intro k; unfold PPAIs.cur; split
    · rename_i h; simp at h; simp [h]
    · rfl
  have hclean : ∀ k, PaClean ({ vals := Array.replicate k {} } : PPAIs) := by
    intro k
    refine ⟨fun j _ hj => ?_, fun _ => rfl⟩
    simp at hj; simp [hj]
  exact ⟨rfl, rfl, rfl, rfl, by rw [hcur k1, hcur k2], (fun k hk => by cases hk), hclean k1, hclean k2⟩

/-- ParseAllPAIValues on two identity objects of ANY two capacities that went through the same
    history: same offset, same verdict, and after OK the facts of `PaDone.more_prefix` -/
theorem capacity_pais (b : Buf) (o : Nat) (c1 c2 : PPAIs) (h : PaW c1 c2) :
    (parseAllPAIValues b o c1).1 = (parseAllPAIValues b o c2).1 ∧
    (parseAllPAIValues b o c1).2.1 = (parseAllPAIValues b o c2).2.1 ∧
    ((parseAllPAIValues b o c1).2.1 = .ok → PaDone (parseAllPAIValues b o c1).2.2 (parseAllPAIValues b o c2).2.2) :=
  let r := parseAllPAIValues_rel b o c1 c2 h; ⟨r.1, r.2.1, r.2.2.2⟩

/-- at message level the identity list has the library's fixed capacity in both runs and is simply
    identical; its indicators mean what they say -/
theorem MsgDone.pais {m1 m2 : PSIPMsg} (h : MsgDone m1 m2) :
    m1.pv.pais = m2.pv.pais ∧
    (m1.pv.pais.more = true ↔ m1.pv.pais.n > m1.pv.pais.vals.size) ∧
    (m1.pv.pais.more = true ↔ m1.pv.pais.vNo < m1.pv.pais.n) ∧
    (∀ k, k < m1.pv.pais.vNo → (m1.pv.pais.getPAI k).isSome = true ∧ m1.pv.pais.getPAI k = m2.pv.pais.getPAI k) := by
  have he : m1.pv.pais = m2.pv.pais := h.pais_eq
  refine ⟨he, pa_more_iff _, pa_more_iff_dropped _, fun k hk => ⟨?_, by rw [he]⟩⟩
  rw [getPAI_stored _ k hk]; rfl

/-! ### tests / non-vacuity (closed computations, `decide +kernel`)
  a REGISTER with three contact values on two Contact lines and three identities, fed in two chunks (the first one ends
  inside the first contact value), into objects with capacities (headers 0, contacts 0) and (headers 7, contacts 5) -/

def exMsg : Buf := "REGISTER sip:x SIP/2.0\r\nContact: <sip:a@b>;expires=5, <sip:c@d>\r\nContact: <sip:e@f>\r\nP-Asserted-Identity: <sip:p@q>, <sip:r@s>, <sip:t@u>\r\nCSeq: 1 REGISTER\r\n\r\n".toUTF8.data

def exRun (kh kc : Nat) : Nat × Err × PSIPMsg :=
  resumeRun (fun b o m => parseSIPMsg b o m 0) 0
    (({} : PSIPMsg).init 0 ((some ()).map fun _ => Array.replicate kh {}) ((some ()).map fun _ => Array.replicate kc {}))
    [exMsg.extract 0 40, exMsg]

theorem exMsg_fits : (exMsg.extract 0 40).size ≤ 65535 ∧ exMsg.size ≤ 65535 := by decide +kernel

/-- non-vacuity: the hypotheses of `capacity_from_initX` are met by this schedule -/
theorem exRun_related : MsgOutX (exRun 0 0) (exRun 7 5) :=
  capacity_from_initX 0 0 {} {} 0 0 0 7 5 (some ()) (some ()) (some ()) (some ()) [exMsg.extract 0 40, exMsg]
    ⟨prefix_whole exMsg 40, trivial⟩
    (by
      intro x hx
      simp only [List.mem_cons, List.not_mem_nil, or_false] at hx
      rcases hx with hx | hx
      · rw [hx]; exact exMsg_fits.1
      · rw [hx]; exact exMsg_fits.2)
    (by intro b hb; exact Nat.zero_le _) (by simp)

-- test: the first call really is suspended inside the Contact line
example : (parseSIPMsg (exMsg.extract 0 40) 0 (({} : PSIPMsg).init 0 (some #[]) (some #[])) 0).2.1 = Err.moreBytes := by
  decide +kernel

/-- test, capacities zero: the chain ends with OK, three contacts counted, the first and the last contact are there,
    the middle one is not, "more" is on -/
theorem exRun_0_0 :
    (exRun 0 0).2.1 = Err.ok ∧ (exRun 0 0).2.2.pv.contacts.n = 3 ∧
    ((exRun 0 0).2.2.pv.contacts.getContact 0).map (·.v) = some { offs := 33, len := 19 } ∧
    ((exRun 0 0).2.2.pv.contacts.getContact 2).map (·.v) = some { offs := 74, len := 9 } ∧
    ((exRun 0 0).2.2.pv.contacts.getContact 1).isSome = false ∧
    (exRun 0 0).2.2.pv.contacts.more = true := by decide +kernel

/-- test, capacities 7 / 5: nothing dropped among the contacts; three identities into the fixed array of two -/
theorem exRun_7_5 :
    (exRun 7 5).2.2.pv.contacts.more = false ∧
    ((exRun 7 5).2.2.pv.contacts.getContact 2).map (·.v) = some { offs := 74, len := 9 } ∧
    (exRun 7 5).2.2.pv.pais.n = 3 ∧ (exRun 7 5).2.2.pv.pais.more = true ∧ (exRun 7 5).2.2.pv.pais.vNo = 2 := by
  decide +kernel

/-- the general theorem applied to the example: first and last contact of the capacity-0 run and of the
    capacity-5 run exist and coincide -/
example : ∃ f l, (exRun 0 0).2.2.pv.contacts.getContact 0 = some f ∧ (exRun 7 5).2.2.pv.contacts.getContact 0 = some f ∧
    (exRun 0 0).2.2.pv.contacts.getContact 2 = some l ∧ (exRun 7 5).2.2.pv.contacts.getContact 2 = some l := by
  have h1 : (exRun 0 0).2.2.pv.contacts.n = 3 := exRun_0_0.2.1
  have h := exRun_related.first_last exRun_0_0.1 (by rw [h1]; exact Nat.succ_pos 2)
  rw [← h.1, h1] at h
  exact h.2

/-! ## the accessors of the list objects, for every index -/

/-- complete case table of `GetContact(k)`, every `k` -/
theorem lo2_getContact_cases (c : PContacts) (k : Nat) :
    (k < c.vNo → c.getContact k = some c.vals[k]!) ∧
    (c.vNo ≤ k → c.n = 0 → c.getContact k = none) ∧
    (c.vNo ≤ k → c.n = k + 1 → c.getContact k = some c.last) ∧
    (c.vNo ≤ k → c.n ≠ 0 → c.n ≠ k + 1 → k = 0 → c.getContact k = some c.first) ∧
    (c.vNo ≤ k → c.n ≠ k + 1 → k ≠ 0 → c.getContact k = none) := by
  refine ⟨getContact_stored c k, ?_, ?_, ?_, ?_⟩
  -- the four rows behind the stored indices are read off the definition
  all_goals
    intros
    subst_vars
    unfold PContacts.getContact PContacts.isEmpty
    rw [if_neg (by omega)]
    simp [*]

/-- `GetContact(k)` is non-nil exactly for a stored index, or — when at least one value was parsed — for the first
    and the last index (scratch slots) -/
theorem lo2_getContact_isSome_iff (c : PContacts) (k : Nat) :
    (c.getContact k).isSome = true ↔ k < c.vNo ∨ (c.n > 0 ∧ (k = 0 ∨ k + 1 = c.n)) := by
  obtain ⟨h1, h2, h3, h4, h5⟩ := lo2_getContact_cases c k
  by_cases hv : k < c.vNo
  · rw [h1 hv]; simp [hv]
  · have hv' : c.vNo ≤ k := by omega
    by_cases hn : c.n = 0
    · rw [h2 hv' hn]; simp; omega
    · by_cases hl : c.n = k + 1
      · rw [h3 hv' hl]; simp; omega
      · by_cases hk : k = 0
        · rw [h4 hv' hn hl hk]; simp; omega
        · rw [h5 hv' hl hk]; simp; omega

/-- an index at or beyond the number of parsed values gives nil -/
theorem lo2_getContact_none_of_ge (c : PContacts) (k : Nat) (hk : c.n ≤ k) : c.getContact k = none := by
  have h := lo2_getContact_isSome_iff c k
  have hv := vNo_eq_min c
  cases hg : c.getContact k with
  | none => rfl
  | some x =>
    rw [hg] at h
    have := h.mp rfl
    omega

/-- `GetPAI(k)`: nil exactly outside `[0, VNo)` -/
theorem lo2_getPAI_none_iff (c : PPAIs) (k : Nat) : c.getPAI k = none ↔ c.vNo ≤ k := by
  constructor
  · intro h
    apply Nat.le_of_not_lt
    intro hk
    rw [getPAI_stored c k hk] at h
    cases h
  · exact getPAI_dropped c k

theorem lo2_getPAI_cases (c : PPAIs) (k : Nat) :
    (k < c.vNo → c.getPAI k = some c.vals[k]!) ∧ (c.vNo ≤ k → c.getPAI k = none) :=
  ⟨getPAI_stored c k, getPAI_dropped c k⟩

/-- `GetHdr(t)` for every `t`: the slot `t-1` of the first-of-type table for a known type, nil otherwise -/
theorem lo2_getHdr_cases (hl : HdrLst) (t : Nat) (hsz : hl.h.size = 13) :
    (HdrNone < t → t < HdrOther → hl.getHdr t = some hl.h[t - 1]!) ∧
    (t = HdrNone ∨ HdrOther ≤ t → hl.getHdr t = none) := by
  unfold HdrLst.getHdr
  constructor
  · intro h1 h2
    have hlt : t - 1 < hl.h.size := by unfold HdrOther at h2; omega
    simp [h1, h2, hlt]
  · intro h
    have : ¬ (HdrNone < t ∧ t < HdrOther) := by unfold HdrNone at *; omega
    simp only [gt_iff_lt, Bool.and_eq_true, decide_eq_true_eq, this, ↓reduceIte]

theorem lo2_getHdr_none_iff (hl : HdrLst) (t : Nat) (hsz : hl.h.size = 13) :
    hl.getHdr t = none ↔ (t = HdrNone ∨ HdrOther ≤ t) := by
  constructor
  · intro h
    apply Classical.byContradiction
    intro hn
    have h1 : HdrNone < t := by unfold HdrNone at *; omega
    have h2 : t < HdrOther := by omega
    rw [(lo2_getHdr_cases hl t hsz).1 h1 h2] at h
    cases h
  · exact (lo2_getHdr_cases hl t hsz).2

/-! ### the first-of-type table keeps its 13 slots -/

theorem lo2_accept_hsize (hl : HdrLst) (x : Hdr) : (hl.accept x).h.size = hl.h.size := by
  unfold HdrLst.accept
  dsimp only
  split
  · simp only [setHdr_h_size]
  · simp only [setHdr_h_size]

/-- one ParseSIPMsg call never changes the number of slots of the first-of-type table -/
theorem lo2_parseSIPMsg_hsize (b : Buf) (o : Nat) (m : PSIPMsg) (flags : Nat) :
    (parseSIPMsg b o m flags).2.2.hl.h.size = m.hl.h.size :=
  parseSIPMsg_hl_keeps (P := fun hl => hl.h.size = m.hl.h.size)
    (hl_parseHeaders_keeps (fun hl g h => by rw [(hlSetCur_scalars hl g).2]; exact h)
      (fun hl g h => by rw [lo2_accept_hsize, (hlSetCur_scalars hl g).2]; exact h)) b o m flags rfl

theorem lo2_init_hsize (m : PSIPMsg) (len : Nat) (hd : Option (Array Hdr)) (ct : Option (Array PFromBody)) :
    (m.init len hd ct).hl.h.size = 13 := by
  simp [PSIPMsg.init, PSIPMsg.reset]

/-- … nor does a chain of resumed calls -/
theorem lo2_run_hsize (flags : Nat) (o : Nat) (m : PSIPMsg) (l : List Buf) :
    (resumeRun (fun b o m => parseSIPMsg b o m flags) o m l).2.2.hl.h.size = m.hl.h.size :=
  resumeRun_inv _ (fun _ m' => m'.hl.h.size = m.hl.h.size) (fun r => r.2.2.hl.h.size = m.hl.h.size)
    (fun b o m' h => ⟨(lo2_parseSIPMsg_hsize b o m' flags).trans h, fun _ => (lo2_parseSIPMsg_hsize b o m' flags).trans h⟩)
    o m l (fun _ => rfl) rfl

/-- **`GetHdr` after Init and any chain of ParseSIPMsg calls**: total, nil exactly for `HdrNone`, `HdrOther` and
    unknown type numbers, otherwise the slot of that type -/
theorem lo2_getHdr_after_run (flags : Nat) (o : Nat) (m0 : PSIPMsg) (len : Nat) (hd : Option (Array Hdr))
    (ct : Option (Array PFromBody)) (l : List Buf) (t : Nat) :
    let m := (resumeRun (fun b o m => parseSIPMsg b o m flags) o (m0.init len hd ct) l).2.2
    (m.hl.getHdr t = none ↔ (t = HdrNone ∨ HdrOther ≤ t)) ∧
    (HdrNone < t → t < HdrOther → m.hl.getHdr t = some m.hl.h[t - 1]!) := by
  intro m
  have hsz : m.hl.h.size = 13 := by
    rw [lo2_run_hsize]; exact lo2_init_hsize m0 len hd ct
  exact ⟨lo2_getHdr_none_iff _ t hsz, (lo2_getHdr_cases _ t hsz).1⟩

/-! ### first / last contact = what a reference run with a large enough array stores -/

/-- `m2` plays the reference run: if its array holds index 0 (resp. all `N` values), then `GetContact(0)`
    (resp. `GetContact(N-1)`) of `m1` — whatever the capacity of `m1`, zero included — is that stored element -/
theorem lo2_MsgDoneX_reference {m1 m2 : PSIPMsg} (h : MsgDoneX m1 m2) (hn : m1.pv.contacts.n > 0) :
    (0 < m2.pv.contacts.vals.size → m1.pv.contacts.getContact 0 = some m2.pv.contacts.vals[0]!) ∧
    (m2.pv.contacts.n ≤ m2.pv.contacts.vals.size →
      m1.pv.contacts.getContact (m1.pv.contacts.n - 1) = some m2.pv.contacts.vals[m2.pv.contacts.n - 1]!) := by
  obtain ⟨hN, f, l, h1, h2, h3, h4⟩ := h.first_last hn
  have hv := vNo_eq_min m2.pv.contacts
  constructor
  · intro hs
    rw [h1, ← h2]
    exact getContact_stored _ 0 (by omega)
  · intro hs
    rw [h3, ← h4]
    exact getContact_stored _ _ (by omega)

/-- **from Init, every chunk schedule, every capacity (zero / none included)**: after OK with at least one contact,
    `GetContact(0)` is the element a reference run stores at index 0 and `GetContact(N-1)` the element it stores at
    index N-1 (reference = any run whose array has room for them) -/
theorem lo2_first_last_reference (flags : Nat) (o : Nat) (m0 m0' : PSIPMsg) (len kh1 kc1 kh2 kc2 : Nat)
    (hd1 ct1 hd2 ct2 : Option Unit) (l : List Buf) (hg : Growing l) (hfit : ∀ x ∈ l, x.size ≤ 65535)
    (ho : ∀ b ∈ l.head?, o ≤ b.size) (hne : l ≠ []) :
    let r1 := resumeRun (fun b o m => parseSIPMsg b o m flags) o
        (m0.init len (hd1.map fun _ => Array.replicate kh1 {}) (ct1.map fun _ => Array.replicate kc1 {})) l
    let r2 := resumeRun (fun b o m => parseSIPMsg b o m flags) o
        (m0'.init len (hd2.map fun _ => Array.replicate kh2 {}) (ct2.map fun _ => Array.replicate kc2 {})) l
    r1.2.1 = .ok → r1.2.2.pv.contacts.n > 0 →
      r2.2.1 = .ok ∧ r1.2.2.pv.contacts.n = r2.2.2.pv.contacts.n ∧
      (0 < r2.2.2.pv.contacts.vals.size →
        r1.2.2.pv.contacts.getContact 0 = some r2.2.2.pv.contacts.vals[0]!) ∧
      (r2.2.2.pv.contacts.n ≤ r2.2.2.pv.contacts.vals.size →
        r1.2.2.pv.contacts.getContact (r1.2.2.pv.contacts.n - 1) =
          some r2.2.2.pv.contacts.vals[r2.2.2.pv.contacts.n - 1]!) := by
  intro r1 r2 hok hn
  have hX : MsgOutX r1 r2 :=
    capacity_from_initX flags o m0 m0' len kh1 kc1 kh2 kc2 hd1 ct1 hd2 ct2 l hg hfit ho hne
  have hD := hX.2.2.2 hok
  have hr := lo2_MsgDoneX_reference hD hn
  exact ⟨by rw [← hX.2.1]; exact hok, hD.1.contacts_n, hr.1, hr.2⟩

/-! tests / non-vacuity (closed computations) -/

-- test: the case table on an object with capacity 1 that saw 3 values
example : let c : PContacts := { vals := #[{ expires := 1 }], n := 3, last := { expires := 3 }, first := { expires := 9 } }
    c.getContact 0 = some { expires := 1 } ∧ c.getContact 1 = none ∧ c.getContact 2 = some { expires := 3 } ∧
    c.getContact 3 = none ∧ c.getContact 1000 = none := by decide +kernel
-- test: capacity 0: the `first` slot
example : let c : PContacts := { vals := #[], n := 3, last := { expires := 3 }, first := { expires := 9 } }
    c.getContact 0 = some { expires := 9 } ∧ c.getContact 1 = none ∧ c.getContact 2 = some { expires := 3 } := by
  decide +kernel
-- test: GetHdr on a fresh object
example : (({} : PSIPMsg).init 0 none none).hl.getHdr 0 = none ∧ (({} : PSIPMsg).init 0 none none).hl.getHdr 14 = none ∧
    (({} : PSIPMsg).init 0 none none).hl.getHdr 99 = none ∧
    ((({} : PSIPMsg).init 0 none none).hl.getHdr 13).isSome = true := by decide +kernel
/-- non-vacuity of `lo2_MsgDoneX_reference`: the capacity-0 run of `exRun` against the capacity-5 run -/
example : (exRun 0 0).2.2.pv.contacts.getContact 0 = some (exRun 7 5).2.2.pv.contacts.vals[0]! ∧
    (exRun 0 0).2.2.pv.contacts.getContact 2 = some (exRun 7 5).2.2.pv.contacts.vals[2]! := by
  have hD := exRun_related.2.2.2 exRun_0_0.1
  have hn : (exRun 0 0).2.2.pv.contacts.n = 3 := exRun_0_0.2.1
  have hn2 : (exRun 7 5).2.2.pv.contacts.n = 3 := by rw [← hD.1.contacts_n]; exact hn
  have hs : (exRun 7 5).2.2.pv.contacts.vals.size = 5 := by decide +kernel
  have hr := lo2_MsgDoneX_reference hD (by omega)
  rw [hn, hn2, hs] at hr
  exact ⟨hr.1 (by omega), hr.2 (by omega)⟩

end Sipsp
