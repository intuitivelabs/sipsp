/-
  Sipsp.Proofs.CapacityHl — capacity independence through ParseHdrLine: two runs whose values objects differ only in
  the capacity-dependent representation of the contacts do the same.

  The walk carries a second relation `Q` between the two contacts objects besides `CtW`: anything that a completed
  value list establishes (`CtDone → Q`). Nothing but the Contact parser touches the contacts, so `Q` survives the
  line, except while the line is suspended inside a Contact value list. `Q := fun _ _ => True` gives the plain
  statement; CapacityExtra uses `Q := FinC` (first and last contact).
-/
import Sipsp.Proofs.Capacity
import Sipsp.Proofs.HdrLineL2
import Sipsp.Proofs.ValCall

namespace Sipsp

/-- the contacts objects of the two runs between calls of the Contact parser; `Q` is known when `idle` holds -/
def CtWQ (Q : PContacts → PContacts → Prop) (idle : Prop) (c1 c2 : PContacts) : Prop :=
  CtW c1 c2 ∧ (idle → Q c1 c2)

/-- both values objects are absent, or the second is the first one `a` with another contacts object `c2`, and `P a c2` -/
def HbWith (P : PHdrVals → PContacts → Prop) : Option PHdrVals → Option PHdrVals → Prop
  | none, none => True
  | some a, some b => ∃ c2, b = { a with contacts := c2 } ∧ P a c2
  | _, _ => False

theorem HbWith.imp {P P' : PHdrVals → PContacts → Prop} {hb1 hb2 : Option PHdrVals} (h : HbWith P hb1 hb2)
    (hpp : ∀ a c2, hb1 = some a → P a c2 → P' a c2) : HbWith P' hb1 hb2 := by
  cases hb1 <;> cases hb2 <;> first | trivial | (exact h.elim) | skip
  obtain ⟨c2, h1, h2⟩ := h
  exact ⟨c2, h1, hpp _ c2 rfl h2⟩

/-- a property of two such objects: of two absent ones, and of `a` beside `a` with the contacts `c2` -/
theorem HbWith.split {P : PHdrVals → PContacts → Prop} {hb1 hb2 : Option PHdrVals}
    {G : Option PHdrVals → Option PHdrVals → Prop} (h : HbWith P hb1 hb2) (absent : G none none)
    (present : ∀ a c2, P a c2 → G (some a) (some { a with contacts := c2 })) : G hb1 hb2 := by
  cases hb1 <;> cases hb2 <;> first | exact absent | (exact h.elim) | skip
  obtain ⟨c2, rfl, h2⟩ := h
  exact present _ c2 h2

/-- the second values object is the first one with another (related) contacts object -/
def HbRel (Q : PContacts → PContacts → Prop) (idle : Prop) : Option PHdrVals → Option PHdrVals → Prop :=
  HbWith fun a c2 => CtWQ Q idle a.contacts c2

/-- relation between the values objects returned with verdict `e` (header state `st`): after MoreBytes inside a
    Contact value list the objects are related as inside the loop -/
def HbOut (Q : PContacts → PContacts → Prop) (e : Err) (st : HState) : Option PHdrVals → Option PHdrVals → Prop :=
  HbWith fun a c2 =>
    ((e = .ok ∨ e = .empty) → CtWQ Q True a.contacts c2) ∧
    (e = .moreBytes → CtWQ Q (st ≠ .hContact) a.contacts c2 ∨ (st = .hContact ∧ CtRel a.contacts c2))

theorem CtWQ.mono {Q : PContacts → PContacts → Prop} {p q : Prop} {c1 c2 : PContacts} (h : CtWQ Q p c1 c2)
    (hqp : q → p) : CtWQ Q q c1 c2 := ⟨h.1, fun hq => h.2 (hqp hq)⟩

theorem HbRel.mono {Q : PContacts → PContacts → Prop} {p q : Prop} {hb1 hb2 : Option PHdrVals} (h : HbRel Q p hb1 hb2)
    (hqp : q → p) : HbRel Q q hb1 hb2 :=
  h.imp fun _ _ _ hc => hc.mono hqp

theorem HbOut.of_rel {Q : PContacts → PContacts → Prop} {e : Err} {st : HState} {hb1 hb2 : Option PHdrVals}
    (h : HbRel Q True hb1 hb2) : HbOut Q e st hb1 hb2 :=
  h.imp fun _ _ _ hc => ⟨fun _ => hc, fun _ => Or.inl (hc.mono fun _ => trivial)⟩

/-- a verdict that does not end the line: the objects stay as they were -/
theorem HbOut.of_idle {Q : PContacts → PContacts → Prop} {e : Err} {st : HState} {hb1 hb2 : Option PHdrVals}
    (h : HbRel Q (st ≠ .hContact) hb1 hb2) (h1 : e ≠ .ok) (h2 : e ≠ .empty) : HbOut Q e st hb1 hb2 :=
  h.imp fun _ _ _ hc => ⟨fun he => he.elim (absurd · h1) (absurd · h2), fun _ => Or.inl hc⟩

theorem HbOut.to_rel {Q : PContacts → PContacts → Prop} {st : HState} {hb1 hb2 : Option PHdrVals}
    (h : HbOut Q .ok st hb1 hb2) : HbRel Q True hb1 hb2 :=
  h.imp fun _ _ _ hc => hc.1 (Or.inl rfl)

/-- **the typed value parsers on related values objects**: same offset and verdict, after OK the same extent, and
    values objects that again differ in the contacts only -/
theorem valCall_rel (Q : PContacts → PContacts → Prop) (hQ : ∀ c1 c2, CtDone c1 c2 → Q c1 c2) (S st : HState)
    (b : Buf) (o : Nat) (hv : PHdrVals) (c2 : PContacts) (hc : CtWQ Q (S ≠ .hContact) hv.contacts c2) :
    ∃ n e f1 f2 v1 v2, valCall S st b o hv = (n, e, f1, v1) ∧
      valCall S st b o { hv with contacts := c2 } = (n, e, f2, v2) ∧ (e = .ok → f1 = f2) ∧
      HbOut Q e S (some v1) (some v2) := by
  cases S
  case hContact =>
    have hc0 : CtW (ctArg st hv.contacts) (ctArg st c2) := by
      unfold ctArg; split
      · exact hc.1.bump
      · exact hc.1
    have hrel := parseAllContactValues_rel b o _ _ hc0
    have hne := parseAllContactValues_ne_empty b o (ctArg st hv.contacts)
    rcases hq1 : parseAllContactValues b o (ctArg st hv.contacts) with ⟨n1, e1, f1⟩
    rcases hq2 : parseAllContactValues b o (ctArg st c2) with ⟨n2, e2, f2⟩
    rw [hq1, hq2] at hrel
    rw [hq1] at hne
    obtain ⟨r1, r2, r3, r4⟩ := hrel
    simp only at r1 r2 r3 r4 hne
    subst r1; subst r2
    refine ⟨n1, e1, f1.lastHVal, f2.lastHVal, { hv with contacts := f1 }, { hv with contacts := f2 },
      by simp only [valCall, hq1], by simp only [valCall, hq2], fun he => (r4 he).lhv, f2, rfl, fun he => ?_,
      fun he => Or.inr ⟨rfl, r3 he⟩⟩
    rcases he with he | he
    · exact ⟨(r4 he).toW, fun _ => hQ _ _ (r4 he)⟩
    · exact absurd he hne
  all_goals
    exact ⟨_, _, _, _, _, _, rfl, rfl, fun _ => rfl, c2, rfl, fun _ => hc.mono fun _ => by decide,
      fun _ => Or.inl hc⟩

/-- relation between the results of one iteration of the ParseHdrLine loop -/
def StepRelHl (Q : PContacts → PContacts → Prop) : Step HLσ → Step HLσ → Prop
  | .cont i1 s1, .cont i2 s2 => i1 = i2 ∧ s1.1 = s2.1 ∧ HbRel Q (s1.1.state ≠ .hContact) s1.2 s2.2
  | .done o1 e1 s1, .done o2 e2 s2 => o1 = o2 ∧ e1 = e2 ∧ s1.1 = s2.1 ∧ HbOut Q e1 s1.1.state s1.2 s2.2
  | _, _ => False

theorem StepRelHl.same_done {Q : PContacts → PContacts → Prop} (o : Nat) (e : Err) (h : Hdr)
    {hb1 hb2 : Option PHdrVals} (hR : HbRel Q True hb1 hb2) :
    StepRelHl Q (.done o e (h, hb1)) (.done o e (h, hb2)) := ⟨rfl, rfl, rfl, HbOut.of_rel hR⟩

theorem StepRelHl.same_cont {Q : PContacts → PContacts → Prop} (i : Nat) (h : Hdr) {hb1 hb2 : Option PHdrVals}
    (hR : HbRel Q True hb1 hb2) : StepRelHl Q (.cont i (h, hb1)) (.cont i (h, hb2)) :=
  ⟨rfl, rfl, hR.mono fun _ => trivial⟩

theorem valSite_rel (Q : PContacts → PContacts → Prop) (hQ : ∀ c1 c2, CtDone c1 c2 → Q c1 c2) (S : HState) (b : Buf)
    (j : Nat) (h : Hdr) (hv : PHdrVals) (c2 : PContacts) (hc : CtWQ Q (S ≠ .hContact) hv.contacts c2) :
    StepRelHl Q (valSite S b j h hv) (valSite S b j h { hv with contacts := c2 }) := by
  obtain ⟨n, e, f1, f2, v1, v2, h1, h2, hf, hv'⟩ := valCall_rel Q hQ S h.state b j hv c2 hc
  unfold valSite hlWrap
  rw [h1, h2]
  by_cases hok : e = .ok
  · subst hok
    simp only [BEq.rfl, ↓reduceIte]
    rw [hf rfl]
    exact ⟨rfl, rfl, rfl, HbOut.of_rel hv'.to_rel⟩
  · simp only [beq_iff_eq, hok, ↓reduceIte]
    exact ⟨rfl, rfl, rfl, hv'⟩

theorem colonDo_rel (Q : PContacts → PContacts → Prop) (hQ : ∀ c1 c2, CtDone c1 c2 → Q c1 c2) (b : Buf) (j : Nat)
    (h : Hdr) (hb1 hb2 : Option PHdrVals) (hR : HbRel Q True hb1 hb2) :
    StepRelHl Q (colonDo b j h hb1) (colonDo b j h hb2) := by
  refine hR.split (G := fun hb1 hb2 => StepRelHl Q (colonDo b j h hb1) (colonDo b j h hb2)) ?_ fun hv c2 hc => ?_
  · unfold colonDo
    cases h.name.get? b with
    | none => exact StepRelHl.same_done _ _ _ trivial
    | some nm => exact StepRelHl.same_cont _ _ trivial
  · unfold colonDo
    cases h.name.get? b with
    | none => exact StepRelHl.same_done _ _ _ ⟨c2, rfl, hc⟩
    | some nm =>
      dsimp only
      rw [show valKind { h with type := getHdrType nm } { hv with contacts := c2 } =
        valKind { h with type := getHdrType nm } hv from rfl]
      cases valKind { h with type := getHdrType nm } hv with
      | none => exact StepRelHl.same_cont _ _ ⟨c2, rfl, hc⟩
      | some S => exact valSite_rel Q hQ S b j _ hv c2 (hc.mono fun _ => trivial)

/-- the lexical decision does not look at the values object: the two runs take the same action -/
theorem hlStep_rel (Q : PContacts → PContacts → Prop) (hQ : ∀ c1 c2, CtDone c1 c2 → Q c1 c2) (b : Buf) (i : Nat)
    (c : UInt8) (h : Hdr) (hb1 hb2 : Option PHdrVals) (hbi : b[i]? = some c)
    (hR : HbRel Q (h.state ≠ .hContact) hb1 hb2) : StepRelHl Q (hlStep b i c (h, hb1)) (hlStep b i c (h, hb2)) := by
  rw [hlStep_eq, hlStep_eq]
  have sp := hlLex_spec b i c h hbi
  cases ha : hlLex b i c h <;> rw [ha] at sp
  case value =>
    refine hR.split (G := fun hb1 hb2 => StepRelHl Q (hlDo b i h hb1 .value) (hlDo b i h hb2 .value))
      ⟨rfl, rfl, rfl, trivial⟩ fun hv c2 hc => ?_
    change StepRelHl Q (hlCont b i h (some _)) (hlCont b i h (some _))
    rw [hlCont_nf, hlCont_nf]
    exact valSite_rel Q hQ h.state b i h _ c2 hc
  -- any other action is decided outside the typed-value states: the Contact parser is idle
  all_goals
    have hR' : HbRel Q True hb1 hb2 :=
      hR.mono fun _ hc => sp.not_isVal (by simp) (by simp [HState.isVal, hc])
  case exit => exact StepRelHl.same_done _ _ _ hR'
  case go => exact StepRelHl.same_cont _ _ hR'
  case colon =>
    have sc := sp.colon_range (Nat.le_of_lt (get?_lt hbi))
    change StepRelHl Q (hlAfterColon b _ _ hb1) (hlAfterColon b _ _ hb2)
    rw [hlAfterColon_nf _ _ _ _ sc.2.2, hlAfterColon_nf _ _ _ _ sc.2.2]
    exact colonDo_rel Q hQ b _ _ hb1 hb2 hR'

theorem parseHdrLine_rel (Q : PContacts → PContacts → Prop) (hQ : ∀ c1 c2, CtDone c1 c2 → Q c1 c2) (b : Buf) (o : Nat)
    (h : Hdr) (hb1 hb2 : Option PHdrVals) (hR : HbRel Q (h.state ≠ .hContact) hb1 hb2) :
    (parseHdrLine b o h hb1).1 = (parseHdrLine b o h hb2).1 ∧
    (parseHdrLine b o h hb1).2.1 = (parseHdrLine b o h hb2).2.1 ∧
    (parseHdrLine b o h hb1).2.2.1 = (parseHdrLine b o h hb2).2.2.1 ∧
    HbOut Q (parseHdrLine b o h hb1).2.1 (parseHdrLine b o h hb1).2.2.1.state
      (parseHdrLine b o h hb1).2.2.2 (parseHdrLine b o h hb2).2.2.2 := by
  unfold parseHdrLine
  have := runLoop_rel hlMachine hlMachine b b
    (fun i1 (s1 : HLσ) i2 (s2 : HLσ) => i1 = i2 ∧ s1.1 = s2.1 ∧ HbRel Q (s1.1.state ≠ .hContact) s1.2 s2.2)
    (fun r1 r2 => r1.1 = r2.1 ∧ r1.2.1 = r2.2.1 ∧ r1.2.2.1 = r2.2.2.1 ∧ HbOut Q r1.2.1 r1.2.2.1.state r1.2.2.2 r2.2.2.2)
    (by
      rintro i ⟨g1, v1⟩ _ ⟨g2, v2⟩ ⟨rfl, hg, hv⟩ hn
      exact ⟨hn, rfl, rfl, hg, HbOut.of_idle (e := .moreBytes) hv (by decide) (by decide)⟩)
    (by
      rintro i ⟨g1, v1⟩ _ ⟨g2, v2⟩ c ⟨rfl, hg, hv⟩ hc
      cases (show g1 = g2 from hg)
      refine ⟨c, hc, ?_⟩
      have hrel := hlStep_rel Q hQ b i c g1 v1 v2 hc hv
      simp only [hlMachine]
      revert hrel
      generalize hlStep b i c (g1, v1) = X1
      generalize hlStep b i c (g1, v2) = X2
      intro hrel
      cases X1 <;> cases X2 <;> first | exact hrel.elim | skip
      · obtain ⟨rfl, hg', hv'⟩ := hrel
        exact ⟨Iff.rfl, fun _ => ⟨rfl, hg', hv'⟩,
          fun _ => ⟨rfl, rfl, hg', HbOut.of_idle (e := .lbug) hv' (by decide) (by decide)⟩⟩
      · exact hrel)
    (i1 := o) (s1 := (h, hb1)) (i2 := o) (s2 := (h, hb2)) ⟨rfl, rfl, hR⟩
  rcases h1 : runLoop hlMachine b o (h, hb1) with ⟨o1, e1, g1, v1⟩
  rcases h2 : runLoop hlMachine b o (h, hb2) with ⟨o2, e2, g2, v2⟩
  rw [h1, h2] at this
  exact this

/-- with the pending invariant of the first run, a suspended result is related in the idle sense too -/
theorem HbOut.to_rel_more {Q : PContacts → PContacts → Prop} {st : HState} {hb1 hb2 : Option PHdrVals} {h : Hdr}
    (hst : h.state = st) (ho : HbOut Q .moreBytes st hb1 hb2) (hp : hlPending (h, hb1)) :
    HbRel Q (st ≠ .hContact) hb1 hb2 := by
  refine ho.imp fun a c2 ha hc => ?_
  subst ha
  rcases hc.2 rfl with h3 | ⟨h3, h4⟩
  · exact h3
  · exact ⟨h4.toW (hp.2.2.2.2.2.1 (by rw [hst]; exact h3)), fun hn => absurd h3 hn⟩

end Sipsp
