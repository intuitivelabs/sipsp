/-
  Sipsp.Proofs.CapacityMsg — capacity independence of ParseHeaders and ParseSIPMsg.
-/
import Sipsp.Proofs.CapacityHl
import Sipsp.Proofs.MsgL2
import Sipsp.Proofs.SlotArr

namespace Sipsp

/-- the slots of the header array not yet used hold the zero header, and so does the overflow slot `hdr` while the array
    has room: what Init and Reset leave and ParseHeaders keeps (`SlotArr.Clean {}` of `hl.slots`) -/
def HlsClean (hl : HdrLst) : Prop :=
  (∀ k, hl.n < k → k < hl.hdrs.size → hl.hdrs[k]! = {}) ∧ (hl.n < hl.hdrs.size → hl.hdr = {})

/-- two header lists (possibly different capacities) that went through the same parse -/
structure HlsRel (l1 l2 : HdrLst) : Prop where
  n : l1.n = l2.n
  pflags : l1.pflags = l2.pflags
  h : l1.h = l2.h
  cur : l1.cur = l2.cur
  agree : ∀ k, k < l1.n → k < l1.hdrs.size → k < l2.hdrs.size → l1.hdrs[k]! = l2.hdrs[k]!
  clean1 : HlsClean l1
  clean2 : HlsClean l2

/-- after the header section: counts, flags, first-of-type shortcuts and the stored prefix -/
structure HlsDone (l1 l2 : HdrLst) : Prop where
  n : l1.n = l2.n
  pflags : l1.pflags = l2.pflags
  h : l1.h = l2.h
  agree : ∀ k, k < l1.n → k < l1.hdrs.size → k < l2.hdrs.size → l1.hdrs[k]! = l2.hdrs[k]!

/-- the headers as an array with an overflow slot: `HlsClean hl` is `SlotArr.Clean {} hl.slots`, `hl.cur` is
    `hl.slots.cur`, and the `n` / `agree` fields of `HlsRel` are `SlotArr.Agree l1.slots l2.slots` -/
def HdrLst.slots (hl : HdrLst) : SlotArr Hdr := ⟨hl.hdrs, hl.n, hl.hdr⟩

theorem hlsSlots_setCur (hl : HdrLst) (h : Hdr) : (hl.setCur h).slots = hl.slots.setCur h := by
  unfold HdrLst.setCur SlotArr.setCur HdrLst.slots; split <;> rfl

theorem hlsSlots_next (hl : HdrLst) (h : Hdr) : ((hl.setCur h).accept h).slots = SlotArr.push {} hl.slots h := by
  unfold SlotArr.push
  show SlotArr.mk ((hl.setCur h).accept h).hdrs ((hl.setCur h).accept h).n ((hl.setCur h).accept h).hdr =
    if hl.n < hl.hdrs.size then _ else _
  rw [accept_hdrs, accept_n, accept_hdr, hlSetCur_n, hlSetCur_size, ← hlsSlots_setCur]
  by_cases hin : hl.n < hl.hdrs.size
  · rw [if_pos hin, if_pos hin]; rfl
  · rw [if_neg hin, if_neg hin]; rfl

theorem HlsClean.setCur {hl : HdrLst} (hc : HlsClean hl) (h : Hdr) : HlsClean (hl.setCur h) := by
  show SlotArr.Clean {} (hl.setCur h).slots
  rw [hlsSlots_setCur]; exact SlotArr.Clean.setCur h hc

/-- appending the header just parsed leaves the slots still to be filled empty, the new current one among them -/
theorem HlsClean.accept {hl : HdrLst} (hc : HlsClean hl) (h : Hdr) :
    HlsClean ((hl.setCur h).accept h) ∧ ((hl.setCur h).accept h).cur = {} := by
  show SlotArr.Clean {} ((hl.setCur h).accept h).slots ∧ ((hl.setCur h).accept h).slots.cur = {}
  rw [hlsSlots_next]; exact ⟨SlotArr.Clean.push h hc, SlotArr.Clean.cur_push h hc⟩

theorem HlsRel.slots {l1 l2 : HdrLst} (hR : HlsRel l1 l2) : SlotArr.Agree l1.slots l2.slots := ⟨hR.n, hR.agree⟩

/-- the list after one more accepted header -/
theorem HlsRel.next {l1 l2 : HdrLst} (hR : HlsRel l1 l2) (h : Hdr) :
    HlsRel ((l1.setCur h).accept h) ((l2.setCur h).accept h) := by
  have k1 := hR.clean1.accept h
  have k2 := hR.clean2.accept h
  have s1 := hlSetCur_scalars l1 h
  have s2 := hlSetCur_scalars l2 h
  have ha : SlotArr.Agree ((l1.setCur h).accept h).slots ((l2.setCur h).accept h).slots := by
    rw [hlsSlots_next, hlsSlots_next]; exact hR.slots.push _ _
  exact ⟨ha.1, by rw [accept_pflags, accept_pflags, s1.1, s2.1, hR.pflags],
    accept_h_congr _ _ h (by rw [s1.2, s2.2, hR.h]), by rw [k1.2, k2.2], ha.2, k1.1, k2.1⟩

theorem HlsRel.setCur {l1 l2 : HdrLst} (hR : HlsRel l1 l2) (h : Hdr) : HlsRel (l1.setCur h) (l2.setCur h) := by
  have s1 := hlSetCur_scalars l1 h
  have s2 := hlSetCur_scalars l2 h
  have ha : SlotArr.Agree (l1.setCur h).slots (l2.setCur h).slots := by
    rw [hlsSlots_setCur, hlsSlots_setCur]; exact hR.slots.setCur h
  exact ⟨ha.1, by rw [s1.1, s2.1, hR.pflags], by rw [s1.2, s2.2, hR.h], by rw [hlSetCur_cur, hlSetCur_cur], ha.2,
    hR.clean1.setCur h, hR.clean2.setCur h⟩

theorem HlsRel.done {l1 l2 : HdrLst} (hR : HlsRel l1 l2) : HlsDone l1 l2 := ⟨hR.n, hR.pflags, hR.h, hR.agree⟩

/-- **ParseHeaders does the same whatever the capacities** (the first run starts from a legitimate state); `Q` as in
    CapacityHl -/
theorem parseHeaders_rel (Q : PContacts → PContacts → Prop) (hQ : ∀ c1 c2, CtDone c1 c2 → Q c1 c2) (b : Buf)
    (offs : Nat) (l1 l2 : HdrLst) (hb1 hb2 : Option PHdrVals)
    (hR : HlsRel l1 l2) (hV : HbRel Q (l1.cur.state ≠ .hContact) hb1 hb2) (hok1 : hlsOK b l1) (hok2 : hbOK b offs hb1)
    (hpe : hlsPend l1 hb1) (ho : offs ≤ b.size) :
    (parseHeaders b offs l1 hb1).1 = (parseHeaders b offs l2 hb2).1 ∧
    (parseHeaders b offs l1 hb1).2.1 = (parseHeaders b offs l2 hb2).2.1 ∧
    ((parseHeaders b offs l1 hb1).2.1 = .ok →
      HlsDone (parseHeaders b offs l1 hb1).2.2.1 (parseHeaders b offs l2 hb2).2.2.1 ∧
      HbRel Q True (parseHeaders b offs l1 hb1).2.2.2 (parseHeaders b offs l2 hb2).2.2.2) ∧
    ((parseHeaders b offs l1 hb1).2.1 = .moreBytes →
      HlsRel (parseHeaders b offs l1 hb1).2.2.1 (parseHeaders b offs l2 hb2).2.2.1 ∧
      HbRel Q ((parseHeaders b offs l1 hb1).2.2.1.cur.state ≠ .hContact)
        (parseHeaders b offs l1 hb1).2.2.2 (parseHeaders b offs l2 hb2).2.2.2) := by
  induction hk : b.size - offs using Nat.strongRecOn generalizing offs l1 l2 hb1 hb2 with
  | _ k ih =>
    rw [parseHeaders.eq_1 b offs l1 hb1, parseHeaders.eq_1 b offs l2 hb2]
    by_cases hlt : offs < b.size
    · rw [if_pos hlt, if_pos hlt, ← hR.cur]
      have hrel := parseHdrLine_rel Q hQ b offs l1.cur hb1 hb2 hV
      have hI : hlOK b offs l1.cur hb1 := ⟨by omega, hlsOK_cur hok1, hok2⟩
      rcases hp1 : parseHdrLine b offs l1.cur hb1 with ⟨n1, e1, g1, v1⟩
      rcases hp2 : parseHdrLine b offs l1.cur hb2 with ⟨n2, e2, g2, v2⟩
      rw [hp1, hp2] at hrel
      obtain ⟨r1, r2, r3, r4⟩ := hrel
      simp only at r1 r2 r3 r4
      subst r1; subst r2; subst r3
      cases e1 <;> simp only
      case ok =>
        have hpost := parseHdrLine_post b offs l1.cur hb1 hI hp1 (Or.inl rfl)
        by_cases hg : offs < n1
        · rw [if_pos hg, if_pos hg]
          exact ih (b.size - n1) (by omega) n1 _ _ v1 v2 (hR.next g1) (r4.to_rel.mono fun _ => trivial)
            (hlsOK_next g1 hok1) hpost.2 (hlsPend_next g1 v1 hpe) hpost.1 rfl
        · rw [if_neg hg, if_neg hg]
          exact ⟨rfl, rfl, (fun hh => by cases hh), (fun hh => by cases hh)⟩
      case empty =>
        have hv : HbRel Q True v1 v2 := r4.imp fun _ _ _ hc => hc.1 (Or.inr rfl)
        by_cases hpos : l1.n > 0
        · rw [if_pos hpos, if_pos (by rw [← hR.n]; exact hpos)]
          exact ⟨rfl, rfl, fun _ => ⟨(hR.setCur g1).done, hv⟩, (fun hh => by cases hh)⟩
        · rw [if_neg hpos, if_neg (by rw [← hR.n]; exact hpos)]
          exact ⟨rfl, rfl, (fun hh => by cases hh), (fun hh => by cases hh)⟩
      case moreBytes =>
        obtain ⟨_, _, hpeN, _, _⟩ := parseHdrLine_resume b #[] offs l1.cur hb1 hI hpe.1 hp1
        refine ⟨trivial, trivial, (fun hh => by cases hh), fun _ => ⟨hR.setCur g1, ?_⟩⟩
        rw [hlSetCur_cur]
        exact HbOut.to_rel_more rfl r4 hpeN
      all_goals exact ⟨trivial, trivial, (fun hh => by cases hh), (fun hh => by cases hh)⟩
    · rw [if_neg hlt, if_neg hlt]
      exact ⟨rfl, rfl, (fun hh => by cases hh), fun _ => ⟨hR, hV⟩⟩

/-- the second message object is the first one with other (related) capacity-dependent parts -/
def MsgRel (m1 m2 : PSIPMsg) : Prop :=
  ∃ hl2 c2, m2 = { m1 with hl := hl2, pv := { m1.pv with contacts := c2 } } ∧
    (HlsRel m1.hl hl2 ∨ (m1.state = .body ∧ HlsDone m1.hl hl2)) ∧ CtW m1.pv.contacts c2

/-- … after a successful parse: the header lists are related as after a finished header block (`HlsDone`) -/
def MsgDone (m1 m2 : PSIPMsg) : Prop :=
  ∃ hl2 c2, m2 = { m1 with hl := hl2, pv := { m1.pv with contacts := c2 } } ∧ HlsDone m1.hl hl2 ∧ CtW m1.pv.contacts c2

/-- `m` with another header list and another contacts object: the two parts whose capacity the caller chooses -/
def withLists (hl2 : HdrLst) (c2 : PContacts) (m : PSIPMsg) : PSIPMsg :=
  { m with hl := hl2, pv := { m.pv with contacts := c2 } }

theorem msgBody_withLists (hl2 : HdrLst) (c2 : PContacts) (b : Buf) (m : PSIPMsg) (o : Nat) (flags : Nat) :
    msgBody b o (withLists hl2 c2 m) flags =
      ((msgBody b o m flags).1, (msgBody b o m flags).2.1, withLists hl2 c2 (msgBody b o m flags).2.2) := by
  unfold msgBody msgEnd PSIPMsg.setBufs withLists
  simp only
  repeat' split
  all_goals rfl

theorem msgBody_done_pv (b : Buf) (o : Nat) (m : PSIPMsg) (flags : Nat) :
    (msgBody b o m flags).2.2.hl = m.hl ∧ (msgBody b o m flags).2.2.pv = m.pv :=
  msgBody_hl_pv b o m flags

/-- the conclusion shared by the sections of the message parser -/
def MsgOut (r1 r2 : Nat × Err × PSIPMsg) : Prop :=
  r1.1 = r2.1 ∧ r1.2.1 = r2.2.1 ∧ (r1.2.1 = .moreBytes → MsgRel r1.2.2 r2.2.2) ∧ (r1.2.1 = .ok → MsgDone r1.2.2 r2.2.2)

/-! The walk through the message parser carries, as in CapacityHl, a second relation `Q` between the two contacts
objects: anything a completed value list establishes. It is known whenever the parse is not suspended inside a Contact
header line (`msgIdle`). `Q := fun _ _ => True` gives `MsgRel` / `MsgDone` / `MsgOut`. -/

def msgIdle (m : PSIPMsg) : Prop := m.state = .body ∨ m.hl.cur.state ≠ .hContact

def MsgRelQ (Q : PContacts → PContacts → Prop) (m1 m2 : PSIPMsg) : Prop :=
  ∃ hl2 c2, m2 = withLists hl2 c2 m1 ∧ (HlsRel m1.hl hl2 ∨ (m1.state = .body ∧ HlsDone m1.hl hl2)) ∧
    CtWQ Q (msgIdle m1) m1.pv.contacts c2

def MsgDoneQ (Q : PContacts → PContacts → Prop) (m1 m2 : PSIPMsg) : Prop :=
  ∃ hl2 c2, m2 = withLists hl2 c2 m1 ∧ HlsDone m1.hl hl2 ∧ CtWQ Q True m1.pv.contacts c2

def MsgOutQ (Q : PContacts → PContacts → Prop) (r1 r2 : Nat × Err × PSIPMsg) : Prop :=
  r1.1 = r2.1 ∧ r1.2.1 = r2.2.1 ∧ (r1.2.1 = .moreBytes → MsgRelQ Q r1.2.2 r2.2.2) ∧
    (r1.2.1 = .ok → MsgDoneQ Q r1.2.2 r2.2.2)

theorem MsgRel.relQ {m1 m2 : PSIPMsg} (h : MsgRel m1 m2) : MsgRelQ (fun _ _ => True) m1 m2 := by
  obtain ⟨hl2, c2, rfl, hH, hC⟩ := h
  exact ⟨hl2, c2, rfl, hH, hC, fun _ => trivial⟩

theorem MsgOutQ.out {Q : PContacts → PContacts → Prop} {r1 r2 : Nat × Err × PSIPMsg} (h : MsgOutQ Q r1 r2) :
    MsgOut r1 r2 := by
  refine ⟨h.1, h.2.1, fun hm => ?_, fun hk => ?_⟩
  · obtain ⟨hl2, c2, e, hH, hC⟩ := h.2.2.1 hm; exact ⟨hl2, c2, e, hH, hC.1⟩
  · obtain ⟨hl2, c2, e, hH, hC⟩ := h.2.2.2 hk; exact ⟨hl2, c2, e, hH, hC.1⟩

/-- an error exit of two calls that got the same verdict from their section: related objects when suspended -/
theorem msgErr_relQ {Q : PContacts → PContacts → Prop} (mA mB : PSIPMsg) (o : Nat) {e : Err} (flags : Nat)
    (he : e ≠ .ok) (hm : e = .moreBytes → MsgRelQ Q mA mB) : MsgOutQ Q (msgErr mA o e flags) (msgErr mB o e flags) := by
  have hv : (msgErr mA o e flags).2.1 = (msgErr mB o e flags).2.1 := by rw [msgErr_eq, msgErr_eq]
  refine ⟨by rw [msgErr_eq, msgErr_eq], hv, fun hmo => ?_, fun hk => absurd hk (msgErr_not_ok mA o e flags he)⟩
  obtain ⟨he', _, hA⟩ := msgErr_more_inv mA o e flags (o' := (msgErr mA o e flags).1)
    (m' := (msgErr mA o e flags).2.2) (Prod.ext rfl (Prod.ext hmo rfl))
  obtain ⟨_, _, hB⟩ := msgErr_more_inv mB o e flags (o' := (msgErr mB o e flags).1)
    (m' := (msgErr mB o e flags).2.2) (Prod.ext rfl (Prod.ext (hv ▸ hmo) rfl))
  rw [hA, hB]; exact hm he'

/-- the body phase on two objects whose header lists and contacts went through the same header block -/
theorem msgBody_relQ {Q : PContacts → PContacts → Prop} (b : Buf) (o : Nat) (m : PSIPMsg) (hlB : HdrLst) (cB : PContacts)
    (flags : Nat) (hst : m.state = .body) (hd : HlsDone m.hl hlB) (hc : CtWQ Q True m.pv.contacts cB) :
    MsgOutQ Q (msgBody b o m flags) (msgBody b o (withLists hlB cB m) flags) := by
  rw [msgBody_withLists]
  exact msgBody_cases (P := fun r => MsgOutQ Q r (r.1, r.2.1, withLists hlB cB r.2.2)) b o m flags ⟨rfl, rfl, nofun, nofun⟩
    ⟨rfl, rfl, fun _ => ⟨hlB, cB, rfl, Or.inr ⟨hst, hd⟩, hc.mono fun _ => trivial⟩, nofun⟩
    fun _ _ _ _ => ⟨rfl, rfl, nofun, fun _ => ⟨hlB, cB, rfl, hd, hc⟩⟩

/-- the phases before the body do not look at the header list or the contacts -/
theorem MsgAt.withLists {b : Buf} {o : Nat} {m : PSIPMsg} {s : MsgState} {o1 : Nat} {m1 : PSIPMsg}
    (h : MsgAt b o m s o1 m1) (hs : s = .fline ∨ s = .headers) (hl2 : HdrLst) (c2 : PContacts) :
    MsgAt b o (withLists hl2 c2 m) s o1 (withLists hl2 c2 m1) := by
  induction h with
  | enter hst => exact .enter hst
  | resume hst hs' => exact .resume hst hs'
  | fline _ hp ih => exact .fline (ih (Or.inl rfl)) hp
  | headers _ _ _ => rcases hs with hs | hs <;> cases hs

/-- ... and they are entered inside the buffer, with a header list and values that are legitimate there -/
theorem MsgAt.ok2 {b : Buf} {o : Nat} {m : PSIPMsg} {s : MsgState} {o1 : Nat} {m1 : PSIPMsg}
    (h : MsgAt b o m s o1 m1) (hok : msgOK2 b o m) (hs : s = .fline ∨ s = .headers) :
    o1 ≤ b.size ∧ hlsOK b m1.hl ∧ hvOK b o1 m1.pv := by
  induction h with
  | enter hst => exact ⟨hok.1, (hok.2.2 (by rw [hst]; decide)).1, (hok.2.2 (by rw [hst]; decide)).2.1⟩
  | resume hst _ =>
    have := hok.2.2 (by rw [hst]; rcases hs with rfl | rfl <;> decide)
    exact ⟨hok.1, this.1, this.2.1⟩
  | @fline o1 m1 o2 fl _ hp ih =>
    obtain ⟨ho1, h1, h2⟩ := ih (Or.inl rfl)
    have hrg := parseFLine_range b o1 m1.fl ho1
    rw [hp] at hrg
    exact ⟨(hrg rfl).2, h1, hvOK_mono h2 (hrg rfl).1 (hrg rfl).2⟩
  | headers _ _ _ => rcases hs with hs | hs <;> cases hs

/-- the statement below, carrying `Q`: the first call is read
    through its phases (`parseSIPMsg_cases`), the second one reaches the same phases (`MsgAt.withLists`, and
    `parseHeaders_rel` for the header block), so only the leaves `msgErr` / `msgBody` are compared -/
theorem parseSIPMsg_relQ (Q : PContacts → PContacts → Prop) (hQ : ∀ c1 c2, CtDone c1 c2 → Q c1 c2) (b : Buf) (o : Nat)
    (m1 m2 : PSIPMsg) (flags : Nat) (hR : MsgRelQ Q m1 m2) (hok : msgOK2 b o m1) :
    MsgOutQ Q (parseSIPMsg b o m1 flags) (parseSIPMsg b o m2 flags) := by
  obtain ⟨hl2, c2, rfl, hH, hC⟩ := hR
  have hH' : m1.state ≠ .body → HlsRel m1.hl hl2 := fun hn => hH.elim id (fun h => absurd h.1 hn)
  -- the header block, wherever the call enters it
  have hdrs : ∀ {o1 m}, MsgAt b o m1 .headers o1 m →
      MsgOutQ Q (msgHeaders b o1 m flags) (parseSIPMsg b o (withLists hl2 c2 m1) flags) := by
    intro o1 m h
    obtain ⟨e1, e2⟩ := h.frame (Or.inr rfl)
    obtain ⟨ho1, k1, k2⟩ := h.ok2 hok (Or.inr rfl)
    have hrel := parseHeaders_rel Q hQ b o1 m.hl hl2 (some m.pv) (some { m.pv with contacts := c2 })
      (e1 ▸ hH' (h.state_ne_body (by decide))) ⟨c2, rfl, by rw [e1, e2]; exact hC.mono Or.inr⟩ k1 k2
      (h.pend hok (Or.inr rfl)) ho1
    have s1 := parseHeaders_isSome b o1 m.hl m.pv
    have s2 := parseHeaders_isSome b o1 hl2 { m.pv with contacts := c2 }
    rw [(h.withLists (Or.inr rfl) hl2 c2).run flags, msgFrom_headers]
    rcases hp : parseHeaders b o1 m.hl (some m.pv) with ⟨o2, e, hl, hb⟩
    rcases hp2 : parseHeaders b o1 hl2 (some { m.pv with contacts := c2 }) with ⟨o2', e', hlB, hbB⟩
    rw [hp, hp2] at hrel; rw [hp] at s1; rw [hp2] at s2
    obtain ⟨r1, r2, r3, r4⟩ := hrel
    simp only at r1 r2 r3 r4 s1 s2
    subst r1; subst r2
    obtain ⟨vA, rfl⟩ := Option.isSome_iff_exists.1 s1
    obtain ⟨vB, rfl⟩ := Option.isSome_iff_exists.1 s2
    by_cases he : e = .ok
    · subst he
      obtain ⟨hd, cB, rfl, hcB⟩ := r3 rfl
      rw [msgHeaders_ok hp, msgHeaders_ok (m := withLists hl2 c2 m) hp2]
      exact msgBody_relQ b o2 { m with hl := hl, pv := vA, state := .body } hlB cB flags rfl hd hcB
    · rw [msgHeaders_err hp he, msgHeaders_err (m := withLists hl2 c2 m) hp2 he]
      refine msgErr_relQ _ _ o2 flags he fun hm => ?_
      obtain ⟨hr, cB, rfl, hcB⟩ := r4 hm
      exact ⟨hlB, cB, rfl, Or.inl hr, hcB.mono fun hi => hi.elim (fun hb => by rw [h.state] at hb; cases hb) id⟩
  refine parseSIPMsg_cases (P := fun r => MsgOutQ Q r (parseSIPMsg b o (withLists hl2 c2 m1) flags)) b o m1 flags
    (fun hd => ?_) (fun {o1 m o2 e fl} h hp he => ?_) (fun h hp he => ?_) (fun h => ?_)
  · rw [parseSIPMsg_dead (m := withLists hl2 c2 m1) hd]; exact ⟨rfl, rfl, nofun, nofun⟩
  · obtain ⟨e1, e2⟩ := h.frame (Or.inl rfl)
    rw [(h.withLists (Or.inl rfl) hl2 c2).run flags, msgFrom_fline, msgFLine_err (m := withLists hl2 c2 m) hp he]
    refine msgErr_relQ _ _ o2 flags he fun _ => ⟨hl2, c2, rfl, Or.inl (e1 ▸ hH' (h.state_ne_body (by decide))), ?_⟩
    show CtWQ Q (msgIdle { m with fl := fl }) m.pv.contacts c2
    rw [e2]
    exact hC.mono fun hi => hi.elim (fun hb => by rw [show m.state = .fline from h.state] at hb; cases hb)
      fun hn => Or.inr (e1 ▸ hn)
  · have := hdrs h; rwa [msgHeaders_err hp he] at this
  · cases h with
    | resume hst _ =>
      rw [(MsgAt.resume (b := b) (o := o) (m := withLists hl2 c2 m1) hst (Or.inr (Or.inr rfl))).run flags, msgFrom_body]
      exact msgBody_relQ b o m1 hl2 c2 flags hst (hH.elim HlsRel.done fun h => h.2) ⟨hC.1, fun _ => hC.2 (Or.inl hst)⟩
    | headers h' hp => have := hdrs h'; rwa [msgHeaders_ok hp] at this

/-- **ParseSIPMsg does the same whatever the capacities of the caller's arrays** -/
theorem parseSIPMsg_rel (b : Buf) (o : Nat) (m1 m2 : PSIPMsg) (flags : Nat) (hR : MsgRel m1 m2)
    (hok : msgOK2 b o m1) : MsgOut (parseSIPMsg b o m1 flags) (parseSIPMsg b o m2 flags) :=
  (parseSIPMsg_relQ (fun _ _ => True) (fun _ _ _ => trivial) b o m1 m2 flags hR.relQ hok).out

/-! ### from Init, under every chunk schedule -/

theorem HlsRel_new (k1 k2 : Nat) :
    HlsRel ({ hdrs := Array.replicate k1 {} } : HdrLst) ({ hdrs := Array.replicate k2 {} } : HdrLst) := by
  exact ⟨rfl, rfl, rfl, (SlotArr.cur_replicate ({} : Hdr) k1).trans (SlotArr.cur_replicate ({} : Hdr) k2).symm,
    (fun k hk => by cases hk), SlotArr.clean_replicate ({} : Hdr) k1, SlotArr.clean_replicate ({} : Hdr) k2⟩

/-- two Init calls with different capacities (and whatever the objects held before) give related objects -/
theorem MsgRel_init (m0 m0' : PSIPMsg) (len : Nat) (kh1 kc1 kh2 kc2 : Nat) (hd1 ct1 hd2 ct2 : Option Unit) :
    MsgRel (m0.init len (hd1.map fun _ => Array.replicate kh1 {}) (ct1.map fun _ => Array.replicate kc1 {}))
      (m0'.init len (hd2.map fun _ => Array.replicate kh2 {}) (ct2.map fun _ => Array.replicate kc2 {})) := by
  refine ⟨{ hdrs := (hd2.map fun _ => Array.replicate kh2 {}).getD (Array.replicate 10 {}) },
    { vals := (ct2.map fun _ => Array.replicate kc2 {}).getD (Array.replicate 10 {}) }, rfl, Or.inl ?_, ?_⟩
  · cases hd1 <;> cases hd2 <;> exact HlsRel_new _ _
  · cases ct1 <;> cases ct2 <;> exact CtW_new _ _

/-- a relation `R` that one call of ParseSIPMsg restores after MoreBytes (giving `D` after OK) is restored by every
    chain of resumed calls -/
theorem schedule_of_call (flags : Nat) (R D : PSIPMsg → PSIPMsg → Prop)
    (hcall : ∀ b o m1 m2, R m1 m2 → msgOK2 b o m1 →
      (parseSIPMsg b o m1 flags).1 = (parseSIPMsg b o m2 flags).1 ∧
      (parseSIPMsg b o m1 flags).2.1 = (parseSIPMsg b o m2 flags).2.1 ∧
      ((parseSIPMsg b o m1 flags).2.1 = .moreBytes → R (parseSIPMsg b o m1 flags).2.2 (parseSIPMsg b o m2 flags).2.2) ∧
      ((parseSIPMsg b o m1 flags).2.1 = .ok → D (parseSIPMsg b o m1 flags).2.2 (parseSIPMsg b o m2 flags).2.2))
    (o : Nat) (m1 m2 : PSIPMsg) (l : List Buf) (hg : Growing l)
    (hfit : ∀ x ∈ l, x.size ≤ 65535) (hR : R m1 m2) (h0 : ∀ b ∈ l.head?, msgOK2 b o m1) (hne : l ≠ []) :
    (resumeRun (fun b o m => parseSIPMsg b o m flags) o m1 l).1 =
      (resumeRun (fun b o m => parseSIPMsg b o m flags) o m2 l).1 ∧
    (resumeRun (fun b o m => parseSIPMsg b o m flags) o m1 l).2.1 =
      (resumeRun (fun b o m => parseSIPMsg b o m flags) o m2 l).2.1 ∧
    ((resumeRun (fun b o m => parseSIPMsg b o m flags) o m1 l).2.1 = .moreBytes →
      R (resumeRun (fun b o m => parseSIPMsg b o m flags) o m1 l).2.2
        (resumeRun (fun b o m => parseSIPMsg b o m flags) o m2 l).2.2) ∧
    ((resumeRun (fun b o m => parseSIPMsg b o m flags) o m1 l).2.1 = .ok →
      D (resumeRun (fun b o m => parseSIPMsg b o m flags) o m1 l).2.2
        (resumeRun (fun b o m => parseSIPMsg b o m flags) o m2 l).2.2) := by
  obtain ⟨_, _, h⟩ := resumeRun_two (fun b o m => parseSIPMsg b o m flags) (fun b o m => parseSIPMsg b o m flags)
    (fun b o1 m1 o2 m2 => o2 = o1 ∧ R m1 m2 ∧ msgOK2 b o1 m1)
    (fun _ r1 r2 => r1.1 = r2.1 ∧ r1.2.1 = r2.2.1 ∧ (r1.2.1 = .moreBytes → R r1.2.2 r2.2.2) ∧
      (r1.2.1 = .ok → D r1.2.2 r2.2.2)) (fun b => b.size ≤ 65535)
    (fun b o1 m1 o2 m2 hc hj => by
      obtain ⟨rfl, hR, hI⟩ := hj
      have h := hcall b o2 m1 m2 hR hI
      refine ⟨h, h.2.1, fun hm s => ⟨h.1.symm, h.2.2.1 hm, ?_⟩⟩
      rcases hp : parseSIPMsg b o2 m1 flags with ⟨a, e, t⟩
      rw [hp] at hm; simp only at hm; subst hm
      exact (parseSIPMsg_resume b s o2 m1 flags flags hI hc hp).2.1)
    o m1 o m2 l hg hfit hne (fun b hb => ⟨rfl, hR, h0 b hb⟩)
  exact h

/-- **capacity independence under every chunk schedule**: two chains of resumed calls on related message objects (`MsgRel`;
    two Init objects with different capacities are: `MsgRel_init`) return the same offset and verdict, and related objects -/
theorem capacity_schedule (flags : Nat) (o : Nat) (m1 m2 : PSIPMsg) (l : List Buf) (hg : Growing l)
    (hfit : ∀ x ∈ l, x.size ≤ 65535) (hR : MsgRel m1 m2) (h0 : ∀ b ∈ l.head?, msgOK2 b o m1) (hne : l ≠ []) :
    MsgOut (resumeRun (fun b o m => parseSIPMsg b o m flags) o m1 l)
      (resumeRun (fun b o m => parseSIPMsg b o m flags) o m2 l) :=
  schedule_of_call flags MsgRel MsgDone (fun b o m1 m2 h hok => parseSIPMsg_rel b o m1 m2 flags h hok) o m1 m2 l hg hfit hR
    h0 hne

/-- what two related message objects have in common after a successful parse -/
theorem MsgDone.observables {m1 m2 : PSIPMsg} (h : MsgDone m1 m2) :
    m1.fl = m2.fl ∧ m1.body = m2.body ∧ m1.bufLen = m2.bufLen ∧ m1.rawOffs = m2.rawOffs ∧ m1.rawLen = m2.rawLen ∧
    m1.state = m2.state ∧
    -- header list: total count, type flags, first-of-type shortcuts, stored prefix
    m1.hl.n = m2.hl.n ∧ m1.hl.pflags = m2.hl.pflags ∧ (∀ t, m1.hl.getHdr t = m2.hl.getHdr t) ∧
    (∀ k, k < m1.hl.n → k < m1.hl.hdrs.size → k < m2.hl.hdrs.size → m1.hl.hdrs[k]! = m2.hl.hdrs[k]!) ∧
    -- header values
    m1.pv.from_ = m2.pv.from_ ∧ m1.pv.to = m2.pv.to ∧ m1.pv.callid = m2.pv.callid ∧ m1.pv.cseq = m2.pv.cseq ∧
    m1.pv.clen = m2.pv.clen ∧ m1.pv.expires = m2.pv.expires ∧ m1.pv.pais = m2.pv.pais ∧
    -- contacts: total count, header count, expires summary, stored prefix
    m1.pv.contacts.n = m2.pv.contacts.n ∧ m1.pv.contacts.hNo = m2.pv.contacts.hNo ∧
    m1.pv.maxExpires = m2.pv.maxExpires ∧ m1.pv.contacts.minExpires = m2.pv.contacts.minExpires ∧
    (∀ k, k < m1.pv.contacts.n → k < m1.pv.contacts.vals.size → k < m2.pv.contacts.vals.size →
      m1.pv.contacts.vals[k]! = m2.pv.contacts.vals[k]!) := by
  obtain ⟨hl2, c2, rfl, hH, hC⟩ := h
  obtain ⟨a1, a2, a3, a4, a5, a6, a7⟩ := wrap_scalars m1.pv.contacts
  obtain ⟨b1, b2, b3, b4, b5, b6, b7⟩ := wrap_scalars c2
  have hn : m1.pv.contacts.n = c2.n := by rw [← a1, ← b1]; exact hC.n
  have hmx : m1.pv.contacts.maxExpires = c2.maxExpires := by rw [← a4, ← b4]; exact hC.maxE
  refine ⟨rfl, rfl, rfl, rfl, rfl, rfl, hH.n, hH.pflags, ?_, hH.agree, rfl, rfl, rfl, rfl, rfl, rfl, rfl,
    hn, by rw [← a3, ← b3]; exact hC.hNo, ?_, by rw [← a5, ← b5]; exact hC.minE, ?_⟩
  · intro t; unfold HdrLst.getHdr; rw [hH.h]
  · unfold PHdrVals.maxExpires PContacts.parsed
    simp only [hn, hmx]
  · intro k hk h1 h2
    have := hC.agree k (by rw [a1]; exact hk) (by rw [a2]; exact h1) (by rw [b2]; exact h2)
    rw [a2, b2] at this; exact this

/-! the components of `MsgDone.observables` that are read by name -/

theorem MsgDone.hdrs_n {m1 m2 : PSIPMsg} (h : MsgDone m1 m2) : m1.hl.n = m2.hl.n := h.observables.2.2.2.2.2.2.1

theorem MsgDone.hdrs_agree {m1 m2 : PSIPMsg} (h : MsgDone m1 m2) :
    ∀ k, k < m1.hl.n → k < m1.hl.hdrs.size → k < m2.hl.hdrs.size → m1.hl.hdrs[k]! = m2.hl.hdrs[k]! :=
  h.observables.2.2.2.2.2.2.2.2.2.1

theorem MsgDone.pais_eq {m1 m2 : PSIPMsg} (h : MsgDone m1 m2) : m1.pv.pais = m2.pv.pais :=
  h.observables.2.2.2.2.2.2.2.2.2.2.2.2.2.2.2.2.1

theorem MsgDone.contacts_n {m1 m2 : PSIPMsg} (h : MsgDone m1 m2) : m1.pv.contacts.n = m2.pv.contacts.n :=
  h.observables.2.2.2.2.2.2.2.2.2.2.2.2.2.2.2.2.2.1

theorem MsgDone.contacts_agree {m1 m2 : PSIPMsg} (h : MsgDone m1 m2) :
    ∀ k, k < m1.pv.contacts.n → k < m1.pv.contacts.vals.size → k < m2.pv.contacts.vals.size →
      m1.pv.contacts.vals[k]! = m2.pv.contacts.vals[k]! :=
  h.observables.2.2.2.2.2.2.2.2.2.2.2.2.2.2.2.2.2.2.2.2.2

end Sipsp
