/-
  Sipsp.Proofs.CapacityPAI — capacity independence of the P-Asserted-Identity value list (as Capacity.lean).
-/
import Sipsp.Proofs.Capacity
import Sipsp.Proofs.ContactsL1

namespace Sipsp

def PaClean (c : PPAIs) : Prop :=
  (∀ k, c.n < k → k < c.vals.size → c.vals[k]! = {}) ∧ (c.n < c.vals.size → c.last = {})

structure PaRel (c1 c2 : PPAIs) : Prop where
  n : c1.n = c2.n
  hNo : c1.hNo = c2.hNo
  lhv : c1.lastHVal = c2.lastHVal
  pnc : c1.pnc = c2.pnc
  cur : c1.cur = c2.cur
  agree : ∀ k, k < c1.n → k < c1.vals.size → k < c2.vals.size → c1.vals[k]! = c2.vals[k]!
  clean1 : PaClean c1
  clean2 : PaClean c2

theorem paNext_clean (c : PPAIs) (pf : PFromBody) (h : PaClean c) : PaClean (c.next pf) ∧ (c.next pf).cur = {} := by
  rw [PPAIs.next_eq]; exact next_clean c.toCt pf h

structure PaDone (c1 c2 : PPAIs) : Prop where
  n : c1.n = c2.n
  hNo : c1.hNo = c2.hNo
  lhv : c1.lastHVal = c2.lastHVal
  pnc : c1.pnc = c2.pnc
  agree : ∀ k, k < c1.n → k < c1.vals.size → k < c2.vals.size → c1.vals[k]! = c2.vals[k]!
  wrapCur : c1.wrap.cur = {} ∧ c2.wrap.cur = {}
  clean1 : PaClean c1.wrap
  clean2 : PaClean c2.wrap

theorem paWrap_scalars (c : PPAIs) :
    c.wrap.n = c.n ∧ c.wrap.vals = c.vals ∧ c.wrap.hNo = c.hNo ∧ c.wrap.lastHVal = c.lastHVal ∧ c.wrap.pnc = c.pnc := by
  unfold PPAIs.wrap; split <;> exact ⟨rfl, rfl, rfl, rfl, rfl⟩

theorem parseOnePAI_fin (b : Buf) (o : Nat) (pf : PFromBody) {n : Nat} {e : Err} {pf' : PFromBody}
    (h : parseOnePAI b o pf = (n, e, pf')) (hc : e = .ok ∨ e = .moreValues) : pf'.state = .fin := by
  obtain ⟨e0, h0, he0⟩ := parseOnePAI_inv h
  have : e0 = .ok ∨ e0 = .moreValues := by
    split at he0
    · rcases hc with rfl | rfl <;> cases he0
    · rw [← he0]; exact hc
  exact (parseNameAddrPVal_post HdrPAI b o pf h0 this).1

/-- as `CtRelOut` -/
def PaRelOut (r1 r2 : Nat × Err × PPAIs) : Prop :=
  r1.1 = r2.1 ∧ r1.2.1 = r2.2.1 ∧ (r1.2.1 = .moreBytes → PaRel r1.2.2 r2.2.2) ∧ (r1.2.1 = .ok → PaDone r1.2.2 r2.2.2)

theorem PaRelOut.of_err (n : Nat) {e : Err} (c1 c2 : PPAIs) (h1 : e ≠ .moreBytes) (h2 : e ≠ .ok) :
    PaRelOut (n, e, c1) (n, e, c2) := ⟨rfl, rfl, fun h => absurd h h1, fun h => absurd h h2⟩

/-- the value both contact lists get as `first` when two related identity lists are read as projections: with it the
    lists agree on the first value whatever the two capacities -/
def paFirst (c1 c2 : PPAIs) : PFromBody :=
  if c1.vals.size > 0 then c1.vals[0]! else if c2.vals.size > 0 then c2.vals[0]! else {}

theorem PaRel.toCt {c1 c2 : PPAIs} (h : PaRel c1 c2) :
    CtRel { c1.toCt with first := paFirst c1 c2 } { c2.toCt with first := paFirst c1 c2 } := by
  refine ⟨h.n, h.hNo, rfl, rfl, h.lhv, h.pnc, h.cur, h.agree, h.clean1, h.clean2, fun hn => ?_⟩
  unfold PContacts.firstOf paFirst
  show (if c1.vals.size > 0 then c1.vals[0]! else _) = (if c2.vals.size > 0 then c2.vals[0]! else _)
  by_cases h1 : c1.vals.size > 0 <;> by_cases h2 : c2.vals.size > 0 <;> simp only [h1, h2, ↓reduceIte]
  exact h.agree 0 hn h1 h2

theorem CtRel.toPa {c1 c2 : PContacts} (h : CtRel c1 c2) : PaRel c1.toPa c2.toPa :=
  ⟨h.n, h.hNo, h.lhv, h.pnc, h.cur, h.agree, h.clean1, h.clean2⟩

theorem CtDone.toPa {c1 c2 : PContacts} (h : CtDone c1 c2) : PaDone c1.toPa c2.toPa :=
  ⟨h.n, h.hNo, h.lhv, h.pnc, h.agree, by rw [← PContacts.toPa_wrap, ← PContacts.toPa_wrap]; exact h.wrapCur,
    by rw [← PContacts.toPa_wrap]; exact h.clean1, by rw [← PContacts.toPa_wrap]; exact h.clean2⟩

theorem CtRelOut.toPa {r1 r2 : Nat × Err × PContacts} (h : CtRelOut r1 r2) : PaRelOut (toPaR r1) (toPaR r2) :=
  ⟨h.1, h.2.1, fun e => (h.2.2.1 e).toPa, fun e => (h.2.2.2 e).toPa⟩

theorem paisLoop_rel (b : Buf) (offs : Nat) (c1 c2 : PPAIs) (h : PaRel c1 c2) :
    PaRelOut (paisLoop b offs c1) (paisLoop b offs c2) := by
  have := (valsLoop_relCap (one := parseOnePAI) (fun hp => parseOnePAI_fin _ _ _ hp (Or.inl rfl)) b offs _ _ h.toCt).toPa
  rw [← paisLoop_toPa, ← paisLoop_toPa] at this
  exact this

def PaW (c1 c2 : PPAIs) : Prop := PaRel c1.wrap c2.wrap

theorem PaDone.toW {c1 c2 : PPAIs} (h : PaDone c1 c2) : PaW c1 c2 := by
  obtain ⟨a1, a2, a3, a4, a5⟩ := paWrap_scalars c1
  obtain ⟨b1, b2, b3, b4, b5⟩ := paWrap_scalars c2
  refine ⟨by rw [a1, b1, h.n], by rw [a3, b3, h.hNo], by rw [a4, b4, h.lhv], by rw [a5, b5, h.pnc],
    by rw [h.wrapCur.1, h.wrapCur.2], ?_, h.clean1, h.clean2⟩
  intro k hk h1 h2
  rw [a1] at hk; rw [a2] at h1 ⊢; rw [b2] at h2 ⊢
  exact h.agree k hk h1 h2

theorem PaRel.toW {c1 c2 : PPAIs} (h : PaRel c1 c2) (hnf : c1.cur.state ≠ .fin) : PaW c1 c2 := by
  unfold PaW
  rw [paWrap_id_of_pending c1 hnf, paWrap_id_of_pending c2 (by rw [← h.cur]; exact hnf)]
  exact h

theorem PaW.bump {c1 c2 : PPAIs} (h : PaW c1 c2) :
    PaW { c1 with hNo := c1.hNo + 1, lastHVal := {} } { c2 with hNo := c2.hNo + 1, lastHVal := {} } := by
  unfold PaW at h ⊢
  have key : ∀ c : PPAIs, ({ c with hNo := c.hNo + 1, lastHVal := {} } : PPAIs).wrap =
      { c.wrap with hNo := c.wrap.hNo + 1, lastHVal := {} } := by
    intro c; unfold PPAIs.wrap; split <;> rfl
  rw [key c1, key c2]
  exact ⟨h.n, by show c1.wrap.hNo + 1 = c2.wrap.hNo + 1; rw [h.hNo], rfl, h.pnc, h.cur, h.agree, h.clean1, h.clean2⟩

theorem parseAllPAIValues_rel (b : Buf) (offs : Nat) (c1 c2 : PPAIs) (h : PaW c1 c2) :
    PaRelOut (parseAllPAIValues b offs c1) (parseAllPAIValues b offs c2) :=
  paisLoop_rel b offs c1.wrap c2.wrap h

end Sipsp
