/-
  Sipsp.Proofs.ContactsL1 — L1 (no premature verdict) for ParseAllContactValues and ParseAllPAIValues:
  the loops over the comma-separated values of one header line.
-/
import Sipsp.Proofs.NameAddrPost
import Sipsp.Proofs.ValList
import Sipsp.Proofs.NameAddrL1b

namespace Sipsp

theorem naOK_mono {b : Buf} {o o' : Nat} {pf : PFromBody} (h : naOK b o pf) (h1 : o ≤ o') (h2 : o' ≤ b.size) :
    naOK b o' pf := by
  rcases h with h | h
  · exact Or.inl h
  · exact Or.inr ⟨h2, by have := h.2.1; omega, by have := h.2.2; omega⟩

theorem naOK_grows {b : Buf} (s : Buf) {o : Nat} {pf : PFromBody} (h : naOK b o pf) : naOK (b ++ s) o pf := by
  rcases h with h | h
  · exact Or.inl h
  · exact Or.inr ⟨by rw [Array.size_append]; have := h.1; omega, h.2.1, h.2.2⟩

theorem naOK_new (b : Buf) (o : Nat) (ho : o ≤ b.size) : naOK b o {} :=
  Or.inr ⟨ho, Nat.zero_le _, Nat.zero_le _⟩

/-- legitimacy of a contacts object at offset `o` of `b`: the slots not yet filled (and the scratch slot) are
    new, finished, or suspended before `o` -/
def ctOK (b : Buf) (o : Nat) (c : PContacts) : Prop :=
  (∀ k, c.n ≤ k → k < c.vals.size → naOK b o c.vals[k]!) ∧ naOK b o c.last

theorem ctOK_cur {b : Buf} {o : Nat} {c : PContacts} (h : ctOK b o c) : naOK b o c.cur := by
  unfold PContacts.cur
  split
  · rename_i hlt; exact h.1 c.n (Nat.le_refl _) hlt
  · exact h.2

theorem ctOK_mono {b : Buf} {o o' : Nat} {c : PContacts} (h : ctOK b o c) (h1 : o ≤ o') (h2 : o' ≤ b.size) :
    ctOK b o' c :=
  ⟨fun k hk hk' => naOK_mono (h.1 k hk hk') h1 h2, naOK_mono h.2 h1 h2⟩

theorem ctOK_grows {b : Buf} (s : Buf) {o : Nat} {c : PContacts} (h : ctOK b o c) : ctOK (b ++ s) o c :=
  ⟨fun k hk hk' => naOK_grows s (h.1 k hk hk'), naOK_grows s h.2⟩

/-- a new contacts object over a cleared array of any capacity is legitimate -/
theorem afb_ctOK_new (b : Buf) (o : Nat) (ho : o ≤ b.size) (kc : Nat) : ctOK b o { vals := Array.replicate kc {} } := by
  refine ⟨fun k _ hk => ?_, naOK_new b o ho⟩
  have hk' : k < kc := by simpa using hk
  have : (Array.replicate kc ({} : PFromBody))[k]! = {} := by simp [hk']
  show naOK b o (Array.replicate kc ({} : PFromBody))[k]!
  rw [this]; exact naOK_new b o ho

/-- the object the loop continues with after a completed value -/
theorem ctOK_next {b : Buf} {o o' : Nat} {c : PContacts} (pf : PFromBody) (h : ctOK b o c)
    (h1 : o ≤ o') (h2 : o' ≤ b.size) :
    ctOK b o' (if c.n < c.vals.size then (c.setCur pf).account pf
               else { (c.setCur pf).account pf with last := {} }) := by
  have hv : ∀ k, c.n + 1 ≤ k → k < c.vals.size → naOK b o' ((c.setCur pf).account pf).vals[k]! := by
    intro k hk hk'
    rw [account_vals, setCur_vals_ne c pf k (by omega)]
    exact naOK_mono (h.1 k (by omega) hk') h1 h2
  split
  · rename_i hin
    refine ⟨fun k hk hk' => ?_, ?_⟩
    · rw [account_n, setCur_n] at hk
      rw [account_vals, setCur_size] at hk'
      exact hv k hk hk'
    · rw [account_last, setCur_last_in c pf hin]; exact naOK_mono h.2 h1 h2
  · refine ⟨fun k hk hk' => ?_, naOK_new b o' h2⟩
    have hk1 : c.n + 1 ≤ k := by
      have : ((c.setCur pf).account pf).n ≤ k := hk
      rw [account_n, setCur_n] at this; exact this
    have hk2 : k < c.vals.size := by
      have : k < ((c.setCur pf).account pf).vals.size := hk'
      rw [account_vals, setCur_size] at this; exact this
    exact hv k hk1 hk2

theorem parseOneContact_stable (b s : Buf) (o : Nat) (pf : PFromBody) (hok : naOK b o pf)
    {o' : Nat} {e : Err} {pf' : PFromBody} (hr : parseOneContact b o pf = (o', e, pf')) (he : e ≠ .moreBytes) :
    parseOneContact (b ++ s) o pf = (o', e, pf') := parseNameAddrPVal_stable HdrContact b s o pf hok hr he

theorem parseOneContact_more {b : Buf} {o : Nat} {pf : PFromBody} {next : Nat} {pf' : PFromBody}
    (hp : parseOneContact b o pf = (next, .moreValues, pf')) : o < next ∧ next ≤ b.size := by
  have hnf : pf.state ≠ .fin := by
    intro hf
    have : parseOneContact b o pf = (o, .ok, pf) := by unfold parseOneContact parseNameAddrPVal; rw [if_pos hf]
    rw [this] at hp; cases hp
  exact (parseNameAddrPVal_post HdrContact b o pf hp (Or.inr rfl)).2 hnf

/-- a one-value parser whose definitive results on a legitimate object do not change when bytes are appended -/
def OneStable (one : Buf → Nat → PFromBody → Nat × Err × PFromBody) : Prop :=
  ∀ (b s : Buf) (o : Nat) (pf : PFromBody), naOK b o pf → ∀ {o' : Nat} {e : Err} {pf' : PFromBody},
    one b o pf = (o', e, pf') → e ≠ .moreBytes → one (b ++ s) o pf = (o', e, pf')

/-- a one-value parser that has moved forward, inside the buffer, when it announces more values -/
def OneMoves (one : Buf → Nat → PFromBody → Nat × Err × PFromBody) : Prop :=
  ∀ {b : Buf} {o : Nat} {pf : PFromBody} {n : Nat} {pf' : PFromBody},
    one b o pf = (n, .moreValues, pf') → o < n ∧ n ≤ b.size

/-- **L1 for the value-list loop** -/
theorem valsLoop_stable {one : Buf → Nat → PFromBody → Nat × Err × PFromBody}
    (hst : OneStable one) (hmv : OneMoves one)
    (b s : Buf) (offs : Nat) (c : PContacts) (hok : ctOK b offs c) (ho : offs ≤ b.size)
    (he : (valsLoop one b offs c).2.1 ≠ .moreBytes) : valsLoop one (b ++ s) offs c = valsLoop one b offs c := by
  -- invariant of the run on `b`: a legitimate object, from which the run on `b ++ s` still gives its result
  refine valsLoop_inv one b
    (fun o d => ctOK b o d ∧ o ≤ b.size ∧ valsLoop one (b ++ s) o d = valsLoop one (b ++ s) offs c)
    (fun r => r.2.1 ≠ .moreBytes → valsLoop one (b ++ s) offs c = r) (fun o d ⟨hok, ho, heq⟩ => ?_) offs c
    ⟨hok, ho, rfl⟩ he
  rw [valsLoop_eq] at heq
  unfold valsStep at heq ⊢
  rcases hp : one b o d.cur with ⟨next, e1, pf⟩
  by_cases hm : e1 = .moreBytes
  · subst hm; exact fun h => absurd rfl h
  · rw [hst b s o d.cur (ctOK_cur hok) hp hm] at heq
    cases e1 <;> simp only at heq ⊢ <;> try exact fun _ => heq.symm
    have hg := hmv hp
    rw [if_pos (show o < next ∧ next ≤ (b ++ s).size from ⟨hg.1, by rw [Array.size_append]; omega⟩)] at heq
    rw [if_pos hg]
    exact ⟨ctOK_next pf hok (by omega) hg.2, hg.2, heq⟩

/-- the wrapper's scratch-slot clearing keeps legitimacy -/
theorem ctOK_entry {b : Buf} {o : Nat} {c : PContacts} (h : ctOK b o c) (ho : o ≤ b.size) :
    ctOK b o (if c.n ≥ c.vals.size && c.last.parsed then { c with last := {} } else c) := by
  split
  · exact ⟨h.1, naOK_new b o ho⟩
  · exact h

/-- **L1 for ParseAllContactValues** (C03) -/
theorem parseAllContactValues_stable (b s : Buf) (offs : Nat) (c : PContacts) (hok : ctOK b offs c)
    (ho : offs ≤ b.size) {o' : Nat} {e : Err} {c' : PContacts}
    (hr : parseAllContactValues b offs c = (o', e, c')) (he : e ≠ .moreBytes) :
    parseAllContactValues (b ++ s) offs c = (o', e, c') := by
  unfold parseAllContactValues at hr ⊢
  rw [contactsLoop_eq_valsLoop] at hr ⊢
  rw [← hr]
  exact valsLoop_stable parseOneContact_stable parseOneContact_more b s offs _ (ctOK_entry hok ho) ho (by rw [hr]; exact he)

/-- legitimacy of an identities object: as `ctOK` -/
def paOK (b : Buf) (o : Nat) (c : PPAIs) : Prop :=
  (∀ k, c.n ≤ k → k < c.vals.size → naOK b o c.vals[k]!) ∧ naOK b o c.last

theorem paOK_cur {b : Buf} {o : Nat} {c : PPAIs} (h : paOK b o c) : naOK b o c.cur := ctOK_cur (c := c.toCt) h

theorem paOK_mono {b : Buf} {o o' : Nat} {c : PPAIs} (h : paOK b o c) (h1 : o ≤ o') (h2 : o' ≤ b.size) :
    paOK b o' c := ctOK_mono (c := c.toCt) h h1 h2

theorem afb_paOK_new (b : Buf) (o : Nat) (ho : o ≤ b.size) : paOK b o {} := by
  refine ⟨fun k _ hk => ?_, naOK_new b o ho⟩
  have hk' : k < 2 := hk
  have : k = 0 ∨ k = 1 := by omega
  rcases this with rfl | rfl <;> exact naOK_new b o ho

theorem paOK_grows {b : Buf} (s : Buf) {o : Nat} {c : PPAIs} (h : paOK b o c) : paOK (b ++ s) o c :=
  ctOK_grows (c := c.toCt) s h

theorem parseOnePAI_inv {b : Buf} {o : Nat} {pf : PFromBody} {o' : Nat} {e : Err} {pf' : PFromBody}
    (hr : parseOnePAI b o pf = (o', e, pf')) :
    ∃ e0, parseNameAddrPVal HdrPAI b o pf = (o', e0, pf') ∧
      e = (if (e0 == .ok || e0 == .moreValues) && pf'.star then .valBad else e0) := by
  unfold parseOnePAI at hr
  rcases hp : parseNameAddrPVal HdrPAI b o pf with ⟨n, e0, p⟩
  rw [hp] at hr
  simp only at hr
  refine ⟨e0, ?_, ?_⟩
  · split at hr <;> (cases hr; rfl)
  · split at hr
    · rename_i hc; cases hr; rw [if_pos hc]
    · rename_i hc; cases hr; rw [if_neg hc]

theorem parseOnePAI_stable (b s : Buf) (o : Nat) (pf : PFromBody) (hok : naOK b o pf)
    {o' : Nat} {e : Err} {pf' : PFromBody} (hr : parseOnePAI b o pf = (o', e, pf')) (he : e ≠ .moreBytes) :
    parseOnePAI (b ++ s) o pf = (o', e, pf') := by
  obtain ⟨e0, h0, rfl⟩ := parseOnePAI_inv hr
  have hne : e0 ≠ .moreBytes := by
    intro h; subst h; simp at he
  unfold parseOnePAI
  rw [parseNameAddrPVal_stable HdrPAI b s o pf hok h0 hne]
  simp only
  split <;> rfl

theorem parseOnePAI_more {b : Buf} {o : Nat} {pf : PFromBody} {next : Nat} {pf' : PFromBody}
    (hp : parseOnePAI b o pf = (next, .moreValues, pf')) : o < next ∧ next ≤ b.size := by
  obtain ⟨e0, h0, he0⟩ := parseOnePAI_inv hp
  have he0' : e0 = .moreValues := by
    split at he0
    · cases he0
    · exact he0.symm
  subst he0'
  have hnf : pf.state ≠ .fin := by
    intro hf
    have : parseNameAddrPVal HdrPAI b o pf = (o, .ok, pf) := by unfold parseNameAddrPVal; rw [if_pos hf]
    rw [this] at h0; cases h0
  exact (parseNameAddrPVal_post HdrPAI b o pf h0 (Or.inr rfl)).2 hnf

theorem paOK_entry {b : Buf} {o : Nat} {c : PPAIs} (h : paOK b o c) (ho : o ≤ b.size) :
    paOK b o (if c.n ≥ c.vals.size && c.last.parsed then { c with last := {} } else c) := by
  split
  · exact ⟨h.1, naOK_new b o ho⟩
  · exact h

/-- **L1 for ParseAllPAIValues** (C03) -/
theorem parseAllPAIValues_stable (b s : Buf) (offs : Nat) (c : PPAIs) (hok : paOK b offs c)
    (ho : offs ≤ b.size) {o' : Nat} {e : Err} {c' : PPAIs}
    (hr : parseAllPAIValues b offs c = (o', e, c')) (he : e ≠ .moreBytes) :
    parseAllPAIValues (b ++ s) offs c = (o', e, c') := by
  change paisLoop b offs c.wrap = _ at hr
  show paisLoop (b ++ s) offs c.wrap = _
  rw [paisLoop_eq_valsLoop] at hr ⊢
  have h2 : (valsLoop parseOnePAI b offs c.wrap.toCt).2.1 = e := congrArg (·.2.1) hr
  rw [← hr, valsLoop_stable parseOnePAI_stable parseOnePAI_more b s offs c.wrap.toCt (paOK_entry hok ho) ho
    (by rw [h2]; exact he)]

/-- a one-value parser that is ParseNameAddrPVal for some header type, except that it may turn a verdict into an error
    (ParseOnePAI rejects `*`) -/
def NaOne (one : Buf → Nat → PFromBody → Nat × Err × PFromBody) : Prop :=
  ∀ {b : Buf} {o : Nat} {pf : PFromBody} {n : Nat} {e : Err} {pf' : PFromBody}, one b o pf = (n, e, pf') →
    ∃ ht e0, parseNameAddrPVal ht b o pf = (n, e0, pf') ∧ (e = .ok → e0 = .ok) ∧ (e = .moreValues → e0 = .moreValues) ∧
      (e = .moreBytes → e0 = .moreBytes)

theorem naOne_contact : NaOne parseOneContact := fun {_ _ _ _ e _} h => ⟨HdrContact, e, h, id, id, id⟩

/-- ParseOnePAI: same object and offset as ParseNameAddrPVal, whatever the verdict -/
theorem parseOnePAI_under (b : Buf) (o : Nat) (pf : PFromBody) {n : Nat} {e : Err} {pf' : PFromBody}
    (h : parseOnePAI b o pf = (n, e, pf')) :
    ∃ e0, parseNameAddrPVal HdrPAI b o pf = (n, e0, pf') ∧ (e = .ok → e0 = .ok) ∧ (e = .moreValues → e0 = .moreValues) ∧
      (e = .moreBytes → e0 = .moreBytes) := by
  obtain ⟨e0, h0, he0⟩ := parseOnePAI_inv h
  refine ⟨e0, h0, ?_, ?_, ?_⟩ <;> intro hh <;> subst hh <;> (split at he0 <;> first | (cases he0; done) | exact he0.symm | (cases he0; rfl))

theorem naOne_pai : NaOne parseOnePAI := fun h =>
  have ⟨e0, h0, h1, h2, h3⟩ := parseOnePAI_under _ _ _ h
  ⟨HdrPAI, e0, h0, h1, h2, h3⟩

end Sipsp
