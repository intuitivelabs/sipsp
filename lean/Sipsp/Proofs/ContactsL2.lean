/-
  Sipsp.Proofs.ContactsL2 — L2 (resumption) for ParseAllContactValues and ParseAllPAIValues.
-/
import Sipsp.Proofs.NameAddrRR
import Sipsp.Proofs.ContactsL1

namespace Sipsp

/-- what a caller can read of a contacts object -/
def PContacts.obs (c : PContacts) : PContacts :=
  { c with vals := c.vals.map PFromBody.obs, last := c.last.obs, first := c.first.obs }

theorem setCur_obs (c : PContacts) (p q : PFromBody) (h : p.obs = q.obs) : (c.setCur p).obs = (c.setCur q).obs := by
  unfold PContacts.setCur PContacts.obs
  split
  · simp only [Array.set!_eq_setIfInBounds, Array.map_setIfInBounds, h]
  · simp only [h]

theorem ctOK_setCur {b : Buf} {o : Nat} {c : PContacts} (pf : PFromBody) (h : ctOK b o c) (hp : naOK b o pf) :
    ctOK b o (c.setCur pf) := by
  refine ⟨fun k hk hk' => ?_, ?_⟩
  · rw [setCur_n] at hk
    rw [setCur_size] at hk'
    by_cases hkn : c.n = k
    · subst hkn
      have : (c.setCur pf).cur = pf := setCur_cur c pf
      unfold PContacts.cur at this
      rw [setCur_n, setCur_size, if_pos hk'] at this
      rw [this]; exact hp
    · rw [setCur_vals_ne c pf k hkn]; exact h.1 k hk hk'
  · by_cases hin : c.n < c.vals.size
    · rw [setCur_last_in c pf hin]; exact h.2
    · rw [setCur_last_out c pf hin]; exact hp

/-- re-entering the loop with the suspended element in place: the first value-parser call decides -/
theorem valsLoop_reenter {one : Buf → Nat → PFromBody → Nat × Err × PFromBody} (hmv : OneMoves one)
    (B : Buf) (o' offs : Nat) (c : PContacts) (pf : PFromBody) (hle : offs ≤ o')
    (hrr : RR PFromBody.obs (one B o' pf) (one B offs c.cur)) :
    RR PContacts.obs (valsLoop one B o' (c.setCur pf)) (valsLoop one B offs c) := by
  rw [valsLoop_eq one B o' (c.setCur pf), valsLoop_eq one B offs c]
  unfold valsStep
  rw [setCur_cur, setCur_n, setCur_size]
  rcases h1 : one B o' pf with ⟨n1, e1, p1⟩
  rcases h2 : one B offs c.cur with ⟨n2, e2, p2⟩
  rw [h1, h2] at hrr
  obtain ⟨hn, he, hg, ho⟩ := hrr
  simp only at hn he hg ho
  subst hn; subst he
  by_cases hgo : Err.goesOn e1
  · have := hg hgo
    subst this
    apply RR.of_eq
    rcases hgo with rfl | rfl | rfl | rfl <;> simp only [setCur_setCur, setCur_next]
    · -- MoreValues: both guards hold, the value parser has moved forward
      have g1 := hmv h1
      rw [if_pos g1, if_pos (show offs < n1 ∧ n1 ≤ B.size from ⟨by omega, g1.2⟩)]
    · split
      · rfl
      · rename_i hin
        unfold PContacts.setCur; simp only [hin, ↓reduceIte]
  · have h1 : e1 ≠ .ok := fun h => hgo (Or.inl h)
    have h2 : e1 ≠ .moreBytes := fun h => hgo (Or.inr (Or.inl h))
    have h3 : e1 ≠ .moreValues := fun h => hgo (Or.inr (Or.inr (Or.inl h)))
    cases e1 <;> first | exact absurd rfl h1 | exact absurd rfl h2 | exact absurd rfl h3 | skip
    all_goals
      simp only [setCur_setCur]
      refine ⟨rfl, rfl, fun hh => absurd hh hgo, ?_⟩
      simp only
      split
      · exact setCur_obs c _ _ ho
      · rename_i hin
        unfold PContacts.setCur; simp only [hin, ↓reduceIte]

/-- the one-value parsers resume: ParseNameAddrPVal's law, with the range of a suspension -/
def OneResumes (one : Buf → Nat → PFromBody → Nat × Err × PFromBody) : Prop :=
  ∀ (b s : Buf) (o : Nat) (pf : PFromBody), naOK b o pf → ∀ {o' : Nat} {pf' : PFromBody},
    one b o pf = (o', Err.moreBytes, pf') →
      RR PFromBody.obs (one (b ++ s) o' pf') (one (b ++ s) o pf) ∧
        naOK (b ++ s) o' pf' ∧ pf'.state ≠ .fin ∧ o ≤ o' ∧ o' ≤ b.size

theorem parseOneContact_resumeR : OneResumes parseOneContact := fun b s o pf hok _ _ hr =>
  have h := parseNameAddrPVal_resumeR HdrContact b s o pf hok hr
  ⟨h.1, h.2.1, h.2.2, parseNameAddrPVal_more_range HdrContact b o pf hok hr⟩

/-- **L2 for the value-list loop** -/
theorem valsLoop_resume {one : Buf → Nat → PFromBody → Nat × Err × PFromBody} (hres : OneResumes one)
    (hst : OneStable one) (hmv : OneMoves one) (b s : Buf) (offs : Nat) (c : PContacts) (hok : ctOK b offs c)
    (ho : offs ≤ b.size) (hr : (valsLoop one b offs c).2.1 = .moreBytes) :
    RR PContacts.obs (valsLoop one (b ++ s) (valsLoop one b offs c).1 (valsLoop one b offs c).2.2)
        (valsLoop one (b ++ s) offs c) ∧
      ctOK (b ++ s) (valsLoop one b offs c).1 (valsLoop one b offs c).2.2 ∧ offs ≤ (valsLoop one b offs c).1 ∧
      (valsLoop one b offs c).1 ≤ b.size ∧ (valsLoop one b offs c).2.2.cur.state ≠ .fin := by
  -- invariant of the run on `b`: a legitimate object behind `offs`, from which the run on `b ++ s` gives the same
  refine valsLoop_inv one b
    (fun o d => ctOK b o d ∧ offs ≤ o ∧ o ≤ b.size ∧ valsLoop one (b ++ s) o d = valsLoop one (b ++ s) offs c)
    (fun r => r.2.1 = .moreBytes → RR PContacts.obs (valsLoop one (b ++ s) r.1 r.2.2) (valsLoop one (b ++ s) offs c) ∧
      ctOK (b ++ s) r.1 r.2.2 ∧ offs ≤ r.1 ∧ r.1 ≤ b.size ∧ r.2.2.cur.state ≠ .fin)
    (fun o d ⟨hok, hlo, ho, heq⟩ => ?_) offs c ⟨hok, Nat.le_refl _, ho, rfl⟩ hr
  unfold valsStep
  rcases hp : one b o d.cur with ⟨next, e1, pf⟩
  have hcur := ctOK_cur hok
  cases e1 <;> simp only
  case moreBytes =>
    intro _
    obtain ⟨hrr, hok', hnf, hrg⟩ := hres b s o d.cur hcur hp
    refine ⟨heq ▸ valsLoop_reenter hmv (b ++ s) next o d pf hrg.1 hrr, ?_, by omega, hrg.2, ?_⟩
    · exact ctOK_setCur pf (ctOK_mono (ctOK_grows s hok) hrg.1 (by rw [Array.size_append]; omega)) hok'
    · rw [setCur_cur]; exact hnf
  case moreValues =>
    have hg := hmv hp
    rw [valsLoop_eq] at heq
    unfold valsStep at heq
    rw [hst b s o d.cur hcur hp (by decide)] at heq
    simp only at heq
    rw [if_pos (show o < next ∧ next ≤ (b ++ s).size from ⟨hg.1, by rw [Array.size_append]; omega⟩)] at heq
    rw [if_pos hg]
    exact ⟨ctOK_next pf hok (by omega) hg.2, by omega, hg.2, heq⟩
  all_goals exact fun h => by cases h

/-- **L2 for the loop on the normalised object** -/
theorem valsAll_resume {one : Buf → Nat → PFromBody → Nat × Err × PFromBody} (hres : OneResumes one)
    (hst : OneStable one) (hmv : OneMoves one)
    (b s : Buf) (offs : Nat) (c : PContacts) (hok : ctOK b offs c) (ho : offs ≤ b.size) {o' : Nat} {c' : PContacts}
    (hr : valsAll one b offs c = (o', Err.moreBytes, c')) :
    RR PContacts.obs (valsAll one (b ++ s) o' c') (valsAll one (b ++ s) offs c) ∧
      ctOK (b ++ s) o' c' ∧ c'.cur.state ≠ .fin ∧ offs ≤ o' ∧ o' ≤ b.size := by
  unfold valsAll at hr ⊢
  have := valsLoop_resume hres hst hmv b s offs c.wrap (ctOK_entry hok ho) ho (by rw [hr])
  rw [hr] at this
  -- the suspended element is not "parsed", so the wrapper leaves the object as it is
  rw [wrap_id_of_pending c' this.2.2.2.2]
  exact ⟨this.1, this.2.1, this.2.2.2.2, this.2.2.1, this.2.2.2.1⟩

/-- [C02] L2 for ParseAllContactValues -/
theorem parseAllContactValues_resume (b s : Buf) (offs : Nat) (c : PContacts) (hok : ctOK b offs c)
    (ho : offs ≤ b.size) {o' : Nat} {c' : PContacts}
    (hr : parseAllContactValues b offs c = (o', Err.moreBytes, c')) :
    RR PContacts.obs (parseAllContactValues (b ++ s) o' c') (parseAllContactValues (b ++ s) offs c) ∧
      ctOK (b ++ s) o' c' ∧ c'.cur.state ≠ .fin ∧ offs ≤ o' ∧ o' ≤ b.size := by
  simp only [parseAllContactValues_eq_valsAll] at hr ⊢
  exact valsAll_resume parseOneContact_resumeR parseOneContact_stable parseOneContact_more b s offs c hok ho hr

/-- what a caller can read of an identities object -/
def PPAIs.obs (c : PPAIs) : PPAIs :=
  { c with vals := c.vals.map PFromBody.obs, last := c.last.obs }

/-- the resumption law of ParseOnePAI (ParseNameAddrPVal + the "*" check) -/
theorem parseOnePAI_resumeR (b s : Buf) (o : Nat) (pf : PFromBody) (hok : naOK b o pf)
    {o' : Nat} {pf' : PFromBody} (hr : parseOnePAI b o pf = (o', Err.moreBytes, pf')) :
    RR PFromBody.obs (parseOnePAI (b ++ s) o' pf') (parseOnePAI (b ++ s) o pf) ∧
      naOK (b ++ s) o' pf' ∧ pf'.state ≠ .fin ∧ o ≤ o' ∧ o' ≤ b.size := by
  obtain ⟨e0, h0, he0⟩ := parseOnePAI_inv hr
  have he0' : e0 = .moreBytes := by
    split at he0
    · cases he0
    · exact he0.symm
  subst he0'
  obtain ⟨hrr, hok', hnf⟩ := parseNameAddrPVal_resumeR HdrPAI b s o pf hok h0
  have hrg := parseNameAddrPVal_more_range HdrPAI b o pf hok h0
  refine ⟨?_, hok', hnf, hrg.1, hrg.2⟩
  unfold parseOnePAI
  rcases h1 : parseNameAddrPVal HdrPAI (b ++ s) o' pf' with ⟨n1, e1, p1⟩
  rcases h2 : parseNameAddrPVal HdrPAI (b ++ s) o pf with ⟨n2, e2, p2⟩
  rw [h1, h2] at hrr
  obtain ⟨hn, he, hg, ho⟩ := hrr
  simp only at hn he hg ho
  subst hn; subst he
  simp only
  by_cases hgo : Err.goesOn e1
  · have := hg hgo; subst this; exact RR.refl _ _
  · have h1' : e1 ≠ .ok := fun h => hgo (Or.inl h)
    have h3' : e1 ≠ .moreValues := fun h => hgo (Or.inr (Or.inr (Or.inl h)))
    have hc : ∀ p : PFromBody, ((e1 == .ok || e1 == .moreValues) && p.star) = false := by
      intro p; simp [h1', h3']
    rw [hc p1, hc p2]
    exact ⟨rfl, rfl, fun hh => absurd hh hgo, ho⟩

theorem RR.toPa {r1 r2 : Nat × Err × PContacts} (h : RR PContacts.obs r1 r2) : RR PPAIs.obs (toPaR r1) (toPaR r2) :=
  ⟨h.1, h.2.1, fun hg => congrArg PContacts.toPa (h.2.2.1 hg), congrArg PContacts.toPa h.2.2.2⟩

/-- [C02] L2 for ParseAllPAIValues -/
theorem parseAllPAIValues_resume (b s : Buf) (offs : Nat) (c : PPAIs) (hok : paOK b offs c)
    (ho : offs ≤ b.size) {o' : Nat} {c' : PPAIs}
    (hr : parseAllPAIValues b offs c = (o', Err.moreBytes, c')) :
    RR PPAIs.obs (parseAllPAIValues (b ++ s) o' c') (parseAllPAIValues (b ++ s) offs c) ∧
      paOK (b ++ s) o' c' ∧ c'.cur.state ≠ .fin ∧ offs ≤ o' ∧ o' ≤ b.size := by
  rw [parseAllPAIValues_eq_valsAll] at hr
  rcases hv : valsAll parseOnePAI b offs c.toCt with ⟨n, e, d⟩
  rw [hv] at hr
  obtain ⟨rfl, rfl, rfl⟩ : n = o' ∧ e = Err.moreBytes ∧ d.toPa = c' := by
    simpa [toPaR, Prod.ext_iff] using hr
  have := valsAll_resume parseOnePAI_resumeR parseOnePAI_stable parseOnePAI_more b s offs c.toCt hok ho hv
  rw [parseAllPAIValues_toPa, parseAllPAIValues_eq_valsAll]
  exact ⟨this.1.toPa, this.2.1, this.2.2⟩

end Sipsp
