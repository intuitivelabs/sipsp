/-
  Sipsp.Proofs.EqFold — one byte position of bytescase.CmpEq / Prefix compares ASCII-lower-cased bytes.
-/
import Sipsp.Model.Bytescase

namespace Sipsp

/-- ASCII lower-casing, the reference notion of "ignoring letter case". -/
def lowerB (c : UInt8) : UInt8 := if 65 ≤ c ∧ c ≤ 90 then c + 32 else c

def lowerL (l : List UInt8) : List UInt8 := l.map lowerB

/-- A property of bytes holds for all of them if it holds for the 256 numerals (so that it can be evaluated). -/
theorem forall_byte {P : UInt8 → Prop} (h : ∀ a, a < 256 → P (UInt8.ofNat a)) (c : UInt8) : P c := by
  simpa using h c.toNat c.toNat_lt

/-- What the bit-twiddling of `letterMask` computes, byte by byte: the mask is 0 or 0x20, or-ing it in
    lower-cases, and neither lower-casing nor setting bit 0x20 moves a byte into or out of the letters. -/
theorem letterMask_spec : ∀ x : UInt8,
    x ||| letterMask x = lowerB x ∧ letterMask (lowerB x) = letterMask x ∧
    letterMask (x ||| 32) = letterMask x ∧ (letterMask x = 0 ∨ letterMask x = 32) :=
  forall_byte (by decide +kernel)

theorem eqFold_iff (v w : UInt8) : eqFold v w = (lowerB v == lowerB w) := by
  obtain ⟨hv, hlv, -, h32⟩ := letterMask_spec v
  obtain ⟨hw, hlw, hw32, -⟩ := letterMask_spec w
  unfold eqFold
  rw [hv, Bool.eq_iff_iff, beq_iff_eq, beq_iff_eq]
  constructor
  · intro h
    -- `w` is masked with the mask of `v`; the two masks agree because `lowerB v = w ||| letterMask v`
    have hm : letterMask w = letterMask v := by
      rw [← hlv, h]
      rcases h32 with h0 | h1
      · rw [h0, UInt8.or_zero]
      · rw [h1, hw32]
    rw [h, ← hw, hm]
  · intro h
    rw [← hlv, h, hlw, hw]

end Sipsp
