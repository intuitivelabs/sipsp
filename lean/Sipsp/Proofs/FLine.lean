/-
  Sipsp.Proofs.FLine — ParseFLine (straight-line code over skipToken / skipLine / skipCRLF) as a pipeline of stages, and
  L1 / L2 for it.  The three token stages of the request line are one function `flStage` of the stage's data (`FlTok`:
  terminator test, field, how the token is recorded, what comes after it); `FlAt b o pl s i p` says the call
  `parseFLine b o pl` enters stage `s` at offset `i` with object `p`; `parseFLine_cases` lists the ways the call can
  end, `FlAt.run` is its converse, `FlAt.app` carries a stage over to every extension of the buffer.  A property of
  ParseFLine is one lemma about `FlTok.ext` / `FlTok.after`, one induction on `FlAt`, and the two leaves `flCRLF`,
  `flRplReason`.
-/
import Sipsp.Proofs.Scan
import Sipsp.Model.FLine
import Sipsp.Proofs.EqFold

namespace Sipsp

/-! ### skipLine: stability and restart -/

theorem skipToEOL_ge' (b : Buf) (i : Nat) : i ≤ skipToEOL b i := skipToEOL_ge b i

theorem skipLine_stable (b s : Buf) (i : Nat) {n crl : Nat} {e : Err}
    (h : skipLine b i = (n, crl, e)) (he : e ≠ .moreBytes) : skipLine (b ++ s) i = (n, crl, e) := by
  unfold skipLine at h ⊢
  cases hj : b[skipToEOL b i]? with
  | none =>
    -- skipCRLF at the end of the buffer asks for more bytes
    exfalso
    have hge := get?_none_ge hj
    unfold skipCRLF at h
    have h1 : b[skipToEOL b i + 1]? = none := by
      apply Array.getElem?_eq_none; omega
    rw [h1, hj] at h
    simp only at h
    cases h; exact he rfl
  | some c =>
    rw [skipToEOL_stable b s i hj]
    exact skipCRLF_stable b s _ h he

theorem skipLine_restart (b s : Buf) (i : Nat) {n crl : Nat}
    (h : skipLine b i = (n, crl, Err.moreBytes)) : skipLine (b ++ s) n = skipLine (b ++ s) i := by
  unfold skipLine at h ⊢
  have hm := skipCRLF_moreBytes_pos h
  rw [hm.1]
  cases hj : b[skipToEOL b i]? with
  | none =>
    rw [skipToEOL_restart b s i]
  | some c =>
    -- stopped on a CR/LF of b that lacks look-ahead: the scan from there stays there
    rw [skipToEOL_stable b s i hj]
    have hc : isCRLFch c = true := skipToEOL_stop b i c hj
    rw [skipToEOL_eq_self (get?_app hj) hc]

theorem extend_endT (p : PField) (j : Nat) (hp : p.offs < 65536) (hj : j < 65536) : (p.extend j).endT = j := by
  unfold PField.extend PField.endT trunc16
  simp only
  have h1 : j % 65536 = j := Nat.mod_eq_of_lt hj
  rw [h1]
  by_cases h : p.offs ≤ j
  · have : (j + 65536 - p.offs) % 65536 = j - p.offs := by
      have : j + 65536 - p.offs = (j - p.offs) + 65536 := by omega
      rw [this, Nat.add_mod_right]; exact Nat.mod_eq_of_lt (by omega)
    rw [this]; have : p.offs + (j - p.offs) = j := by omega
    rw [this]; exact h1
  · have : (j + 65536 - p.offs) % 65536 = j + 65536 - p.offs := Nat.mod_eq_of_lt (by omega)
    rw [this]; have : p.offs + (j + 65536 - p.offs) = j + 65536 := by omega
    rw [this, Nat.add_mod_right]; exact h1

/-- the objects ParseFLine can be given: field offsets are 16-bit values (true of every field ever
    produced by the library) -/
def flOK (pl : PFLine) : Prop := pl.method.offs < 65536

/-- the prefix test, once: what it answers and where it stops -/
theorem prefixAux_spec (p s : List UInt8) (i : Nat) (hl : p.length ≤ s.length) :
    ((prefixAux p s i).2 = true ↔ lowerL (s.take p.length) = lowerL p) ∧
    ((prefixAux p s i).2 = true → (prefixAux p s i).1 = i + p.length) := by
  induction p generalizing s i with
  | nil => exact ⟨⟨fun _ => rfl, fun _ => rfl⟩, fun _ => rfl⟩
  | cons x xs ih =>
    match s, hl with
    | v :: vs, hl =>
      obtain ⟨h1, h2⟩ := ih vs (i + 1) (Nat.le_of_succ_le_succ hl)
      rw [prefixAux, eqFold_iff]
      by_cases hx : lowerB v = lowerB x
      · rw [if_pos (by simpa using hx)]
        refine ⟨h1.trans ?_, fun h => (h2 h).trans (by simp only [List.length_cons]; omega)⟩
        simp [lowerL, hx]
      · rw [if_neg (by simpa using hx)]
        refine ⟨⟨nofun, fun h => absurd ?_ hx⟩, nofun⟩
        simp only [lowerL, List.length_cons, List.take_succ_cons, List.map_cons, List.cons.injEq] at h
        exact h.1

/-- a successful version test has consumed the eight bytes of `SIP/2.0 SP` (a text shorter than that fails the test) -/
theorem sipVer_prefix_len {s : List UInt8} {l : Nat} (hpre : bcPrefix sipVerSP s = (l, true)) : l = 8 := by
  unfold bcPrefix at hpre
  split at hpre
  · cases hpre
  · rename_i hle
    have := (prefixAux_spec sipVerSP s 0 (Nat.le_of_not_gt hle)).2
    rw [hpre] at this
    simpa [sipVerSP] using this rfl

/-- ParseFLine on a new object that has its 14 bytes of look-ahead: the version test chooses between the reply
    branch and the request branch -/
theorem parseFLine_init (b : Buf) (o : Nat) (pl : PFLine) (hst : pl.state = .init) (hlen : ¬ b.size - o < 14) :
    parseFLine b o pl =
      if (bcPrefix sipVerSP (b.extract o (o + 8)).toList).2 = true then flReply b o 8 pl
      else flReqMethod b o { pl with state := .reqMethod, method := PField.set o o } := by
  unfold parseFLine
  rw [hst]
  simp only [if_neg hlen]
  rcases hp : bcPrefix sipVerSP (b.extract o (o + 8)).toList with ⟨l, ok⟩
  cases ok
  · rfl
  · rw [sipVer_prefix_len hp]; rfl

theorem parseFLine_short (b : Buf) (o : Nat) (pl : PFLine) (hst : pl.state = .init) (h : b.size - o < 14) :
    parseFLine b o pl = (o, .moreBytes, pl) := by
  unfold parseFLine; rw [hst]; simp only [if_pos h]

/-- the reply branch when the four bytes after the version are there (they are, within the look-ahead) -/
theorem flReply_eq {b : Buf} {o : Nat} (pl : PFLine) {d0 d1 d2 sp : UInt8} (h0 : b[o + 8]? = some d0)
    (h1 : b[o + 9]? = some d1) (h2 : b[o + 10]? = some d2) (h3 : b[o + 11]? = some sp) :
    flReply b o 8 pl =
      if (sp != 32 || !(isDigit d0 && isDigit d1 && isDigit d2)) = true then
        (o + 8, .badChar, { pl with version := PField.set o (o + 8 - 1), state := .rplStatus })
      else flRplReason b (o + 12)
        { pl with version := PField.set o (o + 8 - 1), statusCode := PField.set (o + 8) (o + 8 + 3),
                  status := (d0.toNat - 48) * 100 + (d1.toNat - 48) * 10 + (d2.toNat - 48),
                  reason := PField.set (o + 8 + 4) (o + 8 + 4), state := .rplReason } := by
  unfold flReply
  simp only [show o + 8 + 1 = o + 9 from rfl, show o + 8 + 2 = o + 10 from rfl, show o + 8 + 3 = o + 11 from rfl, h0, h1, h2,
    h3]

theorem flReply_bytes {b : Buf} {o : Nat} (hlen : ¬ b.size - o < 14) :
    ∃ d0 d1 d2 sp, b[o + 8]? = some d0 ∧ b[o + 9]? = some d1 ∧ b[o + 10]? = some d2 ∧ b[o + 11]? = some sp :=
  ⟨_, _, _, _, Array.getElem?_eq_getElem (by omega), Array.getElem?_eq_getElem (by omega),
    Array.getElem?_eq_getElem (by omega), Array.getElem?_eq_getElem (by omega)⟩

/-- the shape shared by the three token stages of the request line (`flReqMethod`, `flReqURI`, `flReqVer`): scan a
    token; at the end of the buffer ask for more bytes; reject a byte `bad` after the token; record the token with
    `upd` (it extends the field `fld` of the stage); reject an empty token; go on with `next` -/
def flStage (bad : UInt8 → Bool) (fld : PFLine → PField) (upd : PFLine → Nat → PFLine)
    (next : Buf → Nat → PFLine → Nat × Err × PFLine) (b : Buf) (i : Nat) (pl : PFLine) : Nat × Err × PFLine :=
  match b[skipToken b i]? with
  | none => (skipToken b i, .moreBytes, pl)
  | some c =>
    if bad c then (skipToken b i, .badChar, pl)
    else if (fld (upd pl (skipToken b i))).isEmpty then (skipToken b i, .badChar, upd pl (skipToken b i))
    else next b (skipToken b i) (upd pl (skipToken b i))

theorem flReqVer_eq (b : Buf) (i : Nat) (pl : PFLine) :
    flReqVer b i pl = flStage (fun c => c != 13 && c != 10) (·.version)
      (fun pl j => { pl with version := pl.version.extend j, pnc := pl.pnc || pl.version.extendPanics j })
      (fun b j pl1 => flCRLF b j { pl1 with state := .crlf }) b i pl := rfl

theorem flReqURI_eq (b : Buf) (i : Nat) (pl : PFLine) :
    flReqURI b i pl = flStage (fun c => c != 32) (·.uri)
      (fun pl j => { pl with uri := pl.uri.extend j, pnc := pl.pnc || pl.uri.extendPanics j })
      (fun b j pl1 => flReqVer b (j + 1) { pl1 with state := .reqVer, version := PField.set (j + 1) (j + 1) }) b i pl := rfl

theorem flReqMethod_eq (b : Buf) (i : Nat) (pl : PFLine) :
    flReqMethod b i pl = flStage (fun c => c != 32) (·.method)
      (fun pl j => { pl with method := pl.method.extend j, pnc := pl.pnc || pl.method.extendPanics j })
      (fun b j pl1 => match pl1.method.get? b with
        | none => (j, .badChar, { pl1 with pnc := true })
        | some nm => flReqURI b (j + 1)
            { pl1 with methodNo := getMethodNo nm, state := .reqURI, uri := PField.set (j + 1) (j + 1) }) b i pl := rfl

theorem flOK_set (pl : PFLine) (o : Nat) : flOK { pl with state := .reqMethod, method := PField.set o o } :=
  Nat.mod_lt _ (by decide)

/-! ### the token stages as data -/

inductive FlTok where | method | uri | version
  deriving DecidableEq

namespace FlTok

/-- the state in which ParseFLine enters the stage -/
def state : FlTok → FLState
  | method => .reqMethod | uri => .reqURI | version => .reqVer

/-- the stage entered after it -/
def next : FlTok → FLState
  | method => .reqURI | uri => .reqVer | version => .crlf

/-- a byte that must not follow the token -/
def bad : FlTok → UInt8 → Bool
  | version => fun c => c != 13 && c != 10
  | _ => fun c => c != 32

def fld : FlTok → PFLine → PField
  | method => (·.method) | uri => (·.uri) | version => (·.version)

/-- the token ends at `j`: its field is extended to `j` -/
def ext : FlTok → PFLine → Nat → PFLine
  | method, pl, j => { pl with method := pl.method.extend j, pnc := pl.pnc || pl.method.extendPanics j }
  | uri, pl, j => { pl with uri := pl.uri.extend j, pnc := pl.pnc || pl.uri.extendPanics j }
  | version, pl, j => { pl with version := pl.version.extend j, pnc := pl.pnc || pl.version.extendPanics j }

/-- after a token that ends at `j` (object `p`, token recorded): where and with what object the next stage is entered;
    `none`: the method name cannot be read back (Go panics) -/
def after : FlTok → Buf → Nat → PFLine → Option (Nat × PFLine)
  | method, b, j, p =>
    match p.method.get? b with
    | none => none
    | some nm => some (j + 1, { p with methodNo := getMethodNo nm, state := .reqURI, uri := PField.set (j + 1) (j + 1) })
  | uri, _, j, p => some (j + 1, { p with state := .reqVer, version := PField.set (j + 1) (j + 1) })
  | version, _, j, p => some (j, { p with state := .crlf })

end FlTok

/-- the stage function of a state (the functions ParseFLine dispatches to) -/
def flFrom (b : Buf) : FLState → Nat → PFLine → Nat × Err × PFLine
  | .reqMethod => flReqMethod b
  | .reqURI => flReqURI b
  | .reqVer => flReqVer b
  | .crlf => flCRLF b
  | .rplReason => flRplReason b
  | _ => fun i p => (i, .ok, { p with state := .fin })

/-- what a token stage does after the token: the argument `next` of `flStage` (`FlTok.next` is the STATE of the stage
    entered then; `FlTok.after` says where and with what object, `FlTok.After` is its graph) -/
def FlTok.cont : FlTok → Buf → Nat → PFLine → Nat × Err × PFLine
  | .method, b, j, p1 =>
    match p1.method.get? b with
    | none => (j, .badChar, { p1 with pnc := true })
    | some nm =>
      flReqURI b (j + 1) { p1 with methodNo := getMethodNo nm, state := .reqURI, uri := PField.set (j + 1) (j + 1) }
  | .uri, b, j, p1 => flReqVer b (j + 1) { p1 with state := .reqVer, version := PField.set (j + 1) (j + 1) }
  | .version, b, j, p1 => flCRLF b j { p1 with state := .crlf }

/-- a token stage is `flStage` over the stage's data -/
theorem flFrom_tok (k : FlTok) (b : Buf) (i : Nat) (p : PFLine) :
    flFrom b k.state i p = flStage k.bad k.fld k.ext k.cont b i p := by
  cases k <;> rfl

/-- `k.after b j p = some (i', p')`, by stage -/
inductive FlTok.After (b : Buf) (j : Nat) (p : PFLine) : FlTok → Nat → PFLine → Prop
  | method {nm : Buf} (hg : p.method.get? b = some nm) :
      FlTok.After b j p .method (j + 1)
        { p with methodNo := getMethodNo nm, state := .reqURI, uri := PField.set (j + 1) (j + 1) }
  | uri : FlTok.After b j p .uri (j + 1) { p with state := .reqVer, version := PField.set (j + 1) (j + 1) }
  | version : FlTok.After b j p .version j { p with state := .crlf }

theorem FlTok.after_some {k : FlTok} {b : Buf} {j : Nat} {p : PFLine} {i' : Nat} {p' : PFLine}
    (h : k.after b j p = some (i', p')) : FlTok.After b j p k i' p' := by
  cases k <;> simp only [FlTok.after] at h
  · split at h
    · cases h
    · rename_i nm hg; cases h; exact .method hg
  · cases h; exact .uri
  · cases h; exact .version

theorem FlTok.cont_some {k : FlTok} {b : Buf} {j : Nat} {p1 : PFLine} {i' : Nat} {p' : PFLine}
    (ha : k.after b j p1 = some (i', p')) : k.cont b j p1 = flFrom b k.next i' p' := by
  cases FlTok.after_some ha with
  | method hg => simp only [FlTok.cont, hg]; rfl
  | uri => rfl
  | version => rfl

theorem FlTok.cont_none {k : FlTok} {b : Buf} {j : Nat} {p1 : PFLine} (ha : k.after b j p1 = none) :
    k.cont b j p1 = (j, .badChar, { p1 with pnc := true }) := by
  cases k <;> simp only [FlTok.after] at ha
  · split at ha
    · rename_i hg; simp only [FlTok.cont, hg]
    · cases ha
  · cases ha
  · cases ha

/-- `FlAt b o pl s i p`: the call `parseFLine b o pl` enters stage `s` at offset `i` with the object `p` -/
inductive FlAt (b : Buf) (o : Nat) (pl : PFLine) : FLState → Nat → PFLine → Prop
  | resume {s : FLState} (h : pl.state = s)
      (hs : s = .reqMethod ∨ s = .reqURI ∨ s = .reqVer ∨ s = .crlf ∨ s = .rplReason) : FlAt b o pl s o pl
  | request (h : pl.state = .init) (hlen : ¬ b.size - o < 14)
      (hv : (bcPrefix sipVerSP (b.extract o (o + 8)).toList).2 = false) :
      FlAt b o pl .reqMethod o { pl with state := .reqMethod, method := PField.set o o }
  | reply (h : pl.state = .init) (hlen : ¬ b.size - o < 14)
      (hv : (bcPrefix sipVerSP (b.extract o (o + 8)).toList).2 = true) {d0 d1 d2 : UInt8}
      (h0 : b[o + 8]? = some d0) (h1 : b[o + 9]? = some d1) (h2 : b[o + 10]? = some d2) (h3 : b[o + 11]? = some 32)
      (hd : (isDigit d0 && isDigit d1 && isDigit d2) = true) :
      FlAt b o pl .rplReason (o + 12)
        { pl with version := PField.set o (o + 8 - 1), statusCode := PField.set (o + 8) (o + 8 + 3),
                  status := (d0.toNat - 48) * 100 + (d1.toNat - 48) * 10 + (d2.toNat - 48),
                  reason := PField.set (o + 8 + 4) (o + 8 + 4), state := .rplReason }
  | tok (k : FlTok) {i : Nat} {p : PFLine} {c : UInt8} {i' : Nat} {p' : PFLine} (h : FlAt b o pl k.state i p)
      (hj : b[skipToken b i]? = some c) (hc : k.bad c = false)
      (hne : (k.fld (k.ext p (skipToken b i))).isEmpty = false)
      (ha : k.after b (skipToken b i) (k.ext p (skipToken b i)) = some (i', p')) : FlAt b o pl k.next i' p'

/-- **one call, by the way it ends**: too short for the look-ahead; a malformed status; at a token stage the end of the
    buffer, a byte that cannot follow the token, an empty token, a method that cannot be read back; the line end; the
    reason line; an object already past the stages. -/
theorem parseFLine_cases {P : Nat × Err × PFLine → Prop} (b : Buf) (o : Nat) (pl : PFLine)
    (short : pl.state = .init → b.size - o < 14 → P (o, .moreBytes, pl))
    (status : pl.state = .init → ¬ b.size - o < 14 → (bcPrefix sipVerSP (b.extract o (o + 8)).toList).2 = true →
      ∀ {d0 d1 d2 sp : UInt8}, b[o + 8]? = some d0 → b[o + 9]? = some d1 → b[o + 10]? = some d2 → b[o + 11]? = some sp →
      (sp != 32 || !(isDigit d0 && isDigit d1 && isDigit d2)) = true →
      P (o + 8, .badChar, { pl with version := PField.set o (o + 8 - 1), state := .rplStatus }))
    (more : ∀ (k : FlTok) {i p}, FlAt b o pl k.state i p → b[skipToken b i]? = none → P (skipToken b i, .moreBytes, p))
    (bad : ∀ (k : FlTok) {i p c}, FlAt b o pl k.state i p → b[skipToken b i]? = some c → k.bad c = true →
      P (skipToken b i, .badChar, p))
    (empty : ∀ (k : FlTok) {i p c}, FlAt b o pl k.state i p → b[skipToken b i]? = some c → k.bad c = false →
      (k.fld (k.ext p (skipToken b i))).isEmpty = true → P (skipToken b i, .badChar, k.ext p (skipToken b i)))
    (unread : ∀ {i p c}, FlAt b o pl .reqMethod i p → b[skipToken b i]? = some c → FlTok.method.bad c = false →
      (FlTok.method.ext p (skipToken b i)).method.isEmpty = false →
      (FlTok.method.ext p (skipToken b i)).method.get? b = none →
      P (skipToken b i, .badChar, { FlTok.method.ext p (skipToken b i) with pnc := true }))
    (crlf : ∀ {i p}, FlAt b o pl .crlf i p → P (flCRLF b i p))
    (reason : ∀ {i p}, FlAt b o pl .rplReason i p → P (flRplReason b i p))
    (dead : pl.state = .rplStatus ∨ pl.state = .fin → P (o, .ok, { pl with state := .fin })) :
    P (parseFLine b o pl) := by
  -- from a token stage on
  have hT : ∀ (k : FlTok) {i p}, FlAt b o pl k.state i p →
      (∀ {i' p'}, FlAt b o pl k.next i' p' → P (flFrom b k.next i' p')) → P (flFrom b k.state i p) := by
    intro k i p h hnext
    rw [flFrom_tok]
    unfold flStage
    cases hj : b[skipToken b i]? with
    | none => exact more k h hj
    | some c =>
      dsimp only
      by_cases hc : k.bad c = true
      · rw [if_pos hc]; exact bad k h hj hc
      · rw [if_neg hc]
        by_cases hne : (k.fld (k.ext p (skipToken b i))).isEmpty = true
        · rw [if_pos hne]; exact empty k h hj (by simpa using hc) hne
        · rw [if_neg hne]
          cases ha : k.after b (skipToken b i) (k.ext p (skipToken b i)) with
          | none =>
            rw [FlTok.cont_none ha]
            cases k
            · refine unread h hj (by simpa using hc) (show (FlTok.method.fld _).isEmpty = false by simpa using hne) ?_
              cases hg : (FlTok.method.ext p (skipToken b i)).method.get? b with
              | none => rfl
              | some nm => simp [FlTok.after, hg] at ha
            · cases ha
            · cases ha
          | some r => rw [FlTok.cont_some ha]; exact hnext (.tok k h hj (by simpa using hc) (by simpa using hne) ha)
  have hV : ∀ {i p}, FlAt b o pl .reqVer i p → P (flReqVer b i p) :=
    fun h => hT .version h (fun h' => crlf h')
  have hU : ∀ {i p}, FlAt b o pl .reqURI i p → P (flReqURI b i p) :=
    fun h => hT .uri h (fun h' => hV h')
  have hM : ∀ {i p}, FlAt b o pl .reqMethod i p → P (flReqMethod b i p) :=
    fun h => hT .method h (fun h' => hU h')
  cases hst : pl.state
  case init =>
    by_cases hlen : b.size - o < 14
    · unfold parseFLine; rw [hst]; simp only [if_pos hlen]; exact short hst hlen
    · rw [parseFLine_init b o pl hst hlen]
      split
      · rename_i hv
        obtain ⟨d0, d1, d2, sp, g0, g1, g2, g3⟩ := flReply_bytes hlen
        rw [flReply_eq pl g0 g1 g2 g3]
        split
        · rename_i hc; exact status hst hlen hv g0 g1 g2 g3 hc
        · rename_i hc
          simp only [Bool.or_eq_true, bne_iff_ne, ne_eq, Bool.not_eq_true', not_or, Decidable.not_not,
            Bool.not_eq_false] at hc
          obtain ⟨rfl, hd⟩ := hc
          exact reason (.reply hst hlen hv g0 g1 g2 g3 hd)
      · rename_i hv
        exact hM (.request hst hlen (by simpa using hv))
  all_goals unfold parseFLine; rw [hst]; simp only
  case reqMethod => exact hM (.resume hst (by simp))
  case reqURI => exact hU (.resume hst (by simp))
  case reqVer => exact hV (.resume hst (by simp))
  case crlf => exact crlf (.resume hst (by simp))
  case rplReason => exact reason (.resume hst (by simp))
  case rplStatus => exact dead (Or.inl hst)
  case fin => exact dead (Or.inr hst)

/-! ### the converse: from a stage the call is the stage's function; what a token stage computes -/

section
variable {b : Buf} {i : Nat} {p : PFLine} {c : UInt8} (k : FlTok)

theorem flFrom_more (hj : b[skipToken b i]? = none) : flFrom b k.state i p = (skipToken b i, .moreBytes, p) := by
  rw [flFrom_tok]; unfold flStage; rw [hj]

theorem flFrom_bad (hj : b[skipToken b i]? = some c) (hc : k.bad c = true) :
    flFrom b k.state i p = (skipToken b i, .badChar, p) := by
  rw [flFrom_tok]; unfold flStage; rw [hj]; exact if_pos hc

theorem flFrom_empty (hj : b[skipToken b i]? = some c) (hc : k.bad c = false)
    (hne : (k.fld (k.ext p (skipToken b i))).isEmpty = true) :
    flFrom b k.state i p = (skipToken b i, .badChar, k.ext p (skipToken b i)) := by
  rw [flFrom_tok]; unfold flStage; rw [hj]; dsimp only
  rw [if_neg (by rw [hc]; decide), if_pos hne]

theorem flFrom_go (hj : b[skipToken b i]? = some c) (hc : k.bad c = false)
    (hne : (k.fld (k.ext p (skipToken b i))).isEmpty = false) :
    flFrom b k.state i p = k.cont b (skipToken b i) (k.ext p (skipToken b i)) := by
  rw [flFrom_tok]; unfold flStage; rw [hj]; dsimp only
  rw [if_neg (by rw [hc]; decide), if_neg (by rw [hne]; decide)]

end

theorem FlTok.after_method_none {b : Buf} {j : Nat} {p1 : PFLine} (hg : p1.method.get? b = none) :
    FlTok.method.after b j p1 = none := by
  simp [FlTok.after, hg]

theorem FlAt.run {b : Buf} {o : Nat} {pl : PFLine} {s : FLState} {i : Nat} {p : PFLine} (h : FlAt b o pl s i p) :
    parseFLine b o pl = flFrom b s i p := by
  induction h with
  | resume h hs =>
    unfold parseFLine; rw [h]
    rcases hs with rfl | rfl | rfl | rfl | rfl <;> rfl
  | request h hlen hv => rw [parseFLine_init b o pl h hlen, if_neg (by rw [hv]; decide)]; rfl
  | reply h hlen hv h0 h1 h2 h3 hd =>
    rw [parseFLine_init b o pl h hlen, if_pos hv, flReply_eq pl h0 h1 h2 h3, if_neg (by rw [hd]; decide)]; rfl
  | @tok k i p c i' p' _ hj hc hne ha ih => rw [ih, flFrom_go k hj hc hne, FlTok.cont_some ha]

/-! ### the stages on a longer buffer -/

theorem FlTok.ext_method_offs (k : FlTok) (p : PFLine) (j : Nat) : (k.ext p j).method.offs = p.method.offs := by
  cases p
  cases k
  · exact PField.extend_offs _ _
  · rfl
  · rfl

theorem FlTok.after_method_offs {k : FlTok} {b : Buf} {j : Nat} {p : PFLine} {i' : Nat} {p' : PFLine}
    (h : k.after b j p = some (i', p')) : p'.method.offs = p.method.offs := by
  cases FlTok.after_some h <;> rfl

/-- what comes after a token inside the buffer does not depend on later bytes (the method name is read back from
    inside the buffer) -/
theorem FlTok.after_app (k : FlTok) (b t : Buf) {j : Nat} {p : PFLine} (hj : j < b.size) (hfit : b.size ≤ 65535)
    (hok : flOK p) : k.after (b ++ t) j (k.ext p j) = k.after b j (k.ext p j) := by
  cases p
  cases k
  · simp only [FlTok.after, FlTok.ext]
    rw [PField.get?_app _ b t (by rw [extend_endT _ _ hok (by omega)]; omega)]
  · rfl
  · rfl

/-- **L1 of the stages**: the stage a call has entered on `b` it enters on every extension of `b`, at the same offset
    with the same object (within the 65,535-byte limit, 16-bit field offsets) -/
theorem FlAt.app {b : Buf} {o : Nat} {pl : PFLine} {s : FLState} {i : Nat} {p : PFLine} (h : FlAt b o pl s i p)
    (hok : flOK pl) (hfit : b.size ≤ 65535) (t : Buf) : FlAt (b ++ t) o pl s i p ∧ flOK p := by
  induction h with
  | resume h hs => exact ⟨.resume h hs, hok⟩
  | request h hlen hv =>
    refine ⟨.request h (by simp; omega) ?_, flOK_set pl o⟩
    rw [extract_app b t _ _ (by omega)]; exact hv
  | reply h hlen hv h0 h1 h2 h3 hd =>
    refine ⟨.reply h (by simp; omega) ?_ (get?_app h0) (get?_app h1) (get?_app h2) (get?_app h3) hd, hok⟩
    rw [extract_app b t _ _ (by omega)]; exact hv
  | @tok k i p c i' p' _ hj hc hne ha ih =>
    obtain ⟨h', hp⟩ := ih
    have hst := skipToken_stable b t i hj
    refine ⟨.tok k h' (by rw [hst]; exact get?_app hj) hc (by rw [hst]; exact hne) ?_, ?_⟩
    · rw [hst, FlTok.after_app k b t (get?_lt hj) hfit hp]; exact ha
    · unfold flOK at hp ⊢
      rw [FlTok.after_method_offs ha, FlTok.ext_method_offs]; exact hp


/-! ### a call on an object in the initial state, read backwards -/

/-- from the initial state a stage after the method is entered through the token stage before it -/
theorem FlAt.tok_inv {b : Buf} {o : Nat} {pl : PFLine} (hst : pl.state = .init) {s : FLState} {i' : Nat} {p' : PFLine} (h : FlAt b o pl s i' p')
    (hs : s = .reqURI ∨ s = .reqVer ∨ s = .crlf) :
    ∃ (k : FlTok) (i : Nat) (p : PFLine) (c : UInt8), k.next = s ∧ FlAt b o pl k.state i p ∧
      b[skipToken b i]? = some c ∧ k.bad c = false ∧ (k.fld (k.ext p (skipToken b i))).isEmpty = false ∧
      k.after b (skipToken b i) (k.ext p (skipToken b i)) = some (i', p') := by
  cases h with
  | resume h' _ => rw [hst] at h'; subst h'; rcases hs with hs | hs | hs <;> cases hs
  | request _ _ _ => rcases hs with hs | hs | hs <;> cases hs
  | reply _ _ _ _ _ _ _ _ => rcases hs with hs | hs | hs <;> cases hs
  | tok k h' hj hc hne ha => exact ⟨k, _, _, _, rfl, h', hj, hc, hne, ha⟩

/-- from the initial state the method stage is entered at the start, with the look-ahead and not behind `SIP/2.0 SP` -/
theorem FlAt.method_inv {b : Buf} {o : Nat} {pl : PFLine} (hst : pl.state = .init) {i : Nat} {p : PFLine} (h : FlAt b o pl .reqMethod i p) :
    i = o ∧ p.method = PField.set o o ∧ ¬ b.size - o < 14 ∧ (bcPrefix sipVerSP (b.extract o (o + 8)).toList).2 = false := by
  generalize hs : FLState.reqMethod = s at h
  cases h with
  | resume h' _ => rw [hst] at h'; subst h'; cases hs
  | request _ hlen hv => exact ⟨rfl, rfl, hlen, hv⟩
  | reply _ _ _ _ _ _ _ _ => cases hs
  | tok k _ _ _ _ _ => cases k <;> cases hs

/-- a token stage entered from the initial state starts its field where it is entered -/
theorem FlAt.fresh {b : Buf} {o : Nat} {pl : PFLine} (hst : pl.state = .init) (k : FlTok) {i : Nat} {p : PFLine} (h : FlAt b o pl k.state i p) :
    k.fld p = PField.set i i := by
  cases k
  · obtain ⟨rfl, hm, _⟩ := FlAt.method_inv hst h; exact hm
  · obtain ⟨k', i0, p0, c, hk, _, _, _, _, ha⟩ := FlAt.tok_inv hst h (Or.inl rfl)
    cases FlTok.after_some ha <;> first | rfl | cases hk
  · obtain ⟨k', i0, p0, c, hk, _, _, _, _, ha⟩ := FlAt.tok_inv hst h (Or.inr (Or.inl rfl))
    cases FlTok.after_some ha <;> first | rfl | cases hk

/-! ### what every family reads off the stages -/

theorem FlTok.after_offs {k : FlTok} {b : Buf} {j : Nat} {p : PFLine} {i' : Nat} {p' : PFLine}
    (h : k.after b j p = some (i', p')) : j ≤ i' ∧ i' ≤ j + 1 := by
  cases FlTok.after_some h <;> constructor <;> omega

theorem FlTok.after_state {k : FlTok} {b : Buf} {j : Nat} {p : PFLine} {i' : Nat} {p' : PFLine}
    (h : k.after b j p = some (i', p')) : p'.state = k.next := by
  cases FlTok.after_some h <;> rfl

theorem FlAt.state {b : Buf} {o : Nat} {pl : PFLine} {s : FLState} {i : Nat} {p : PFLine} (h : FlAt b o pl s i p) :
    p.state = s := by
  cases h with
  | resume h _ => exact h
  | request _ _ _ => rfl
  | reply _ _ _ _ _ _ _ _ => rfl
  | tok k _ _ _ _ ha => exact FlTok.after_state ha

/-- a stage is entered at an offset at or after the start, inside the buffer (the token stages after a byte of it) -/
theorem FlAt.range {b : Buf} {o : Nat} {pl : PFLine} {s : FLState} {i : Nat} {p : PFLine} (h : FlAt b o pl s i p) :
    o ≤ i ∧ (o ≤ b.size → i ≤ b.size) := by
  induction h with
  | resume _ _ => exact ⟨Nat.le_refl _, id⟩
  | request _ _ _ => exact ⟨Nat.le_refl _, id⟩
  | reply _ hlen _ _ _ _ _ _ => exact ⟨by omega, fun _ => by omega⟩
  | @tok k i p c i' p' _ hj _ _ ha ih =>
    have h1 := skipToken_ge b i
    have h2 := get?_lt hj
    have h3 := FlTok.after_offs ha
    exact ⟨by omega, fun _ => by omega⟩

/-- on an extension of `b`, the token stage entered where the scan on `b` stopped is the stage entered at `i` -/
theorem flFrom_restart (k : FlTok) (b s : Buf) (i : Nat) (p : PFLine) :
    flFrom (b ++ s) k.state (skipToken b i) p = flFrom (b ++ s) k.state i p := by
  rw [flFrom_tok, flFrom_tok]
  unfold flStage
  rw [skipToken_restart b s i]


/-! ### ParseFLine: L1 — `parseFLine_cases` on the call on `b`, `FlAt.app` + `FlAt.run` on the call on `b ++ s`, then what
      the stage computes at the same stop -/

theorem flCRLF_stable (b s : Buf) (i : Nat) (pl : PFLine) {o : Nat} {e : Err} {pl' : PFLine}
    (h : flCRLF b i pl = (o, e, pl')) (he : e ≠ .moreBytes) : flCRLF (b ++ s) i pl = (o, e, pl') := by
  unfold flCRLF at h ⊢
  rcases hs : skipCRLF b i with ⟨n, crl, e1⟩
  rw [hs] at h
  have he1 : e1 ≠ .moreBytes := by
    intro hh; subst hh; simp only at h; cases h; exact he rfl
  rw [skipCRLF_stable b s i hs he1]; exact h

theorem flRplReason_stable (b s : Buf) (i : Nat) (pl : PFLine) {o : Nat} {e : Err} {pl' : PFLine}
    (h : flRplReason b i pl = (o, e, pl')) (he : e ≠ .moreBytes) : flRplReason (b ++ s) i pl = (o, e, pl') := by
  unfold flRplReason at h ⊢
  rcases hs : skipLine b i with ⟨n, crl, e1⟩
  rw [hs] at h
  have he1 : e1 ≠ .moreBytes := by
    intro hh; subst hh; simp only at h; cases h; exact he rfl
  rw [skipLine_stable b s i hs he1]; exact h

/-- **L1 for ParseFLine** -/
theorem parseFLine_stable (b s : Buf) (o : Nat) (pl : PFLine) (hok : flOK pl) (hfit : b.size ≤ 65535)
    {o' : Nat} {e : Err} {pl' : PFLine}
    (h : parseFLine b o pl = (o', e, pl')) (he : e ≠ .moreBytes) : parseFLine (b ++ s) o pl = (o', e, pl') := by
  rw [← h]
  have he' : (parseFLine b o pl).2.1 ≠ .moreBytes := by rw [h]; exact he
  revert he'
  -- a token stage that stopped at a byte of `b` stops there on `b ++ s`
  have stop : ∀ {i c}, b[skipToken b i]? = some c →
      skipToken (b ++ s) i = skipToken b i ∧ (b ++ s)[skipToken (b ++ s) i]? = some c :=
    fun hj => ⟨skipToken_stable b s _ hj, by rw [skipToken_stable b s _ hj]; exact get?_app hj⟩
  refine parseFLine_cases (P := fun r => r.2.1 ≠ .moreBytes → parseFLine (b ++ s) o pl = r) b o pl
    (short := fun _ _ hq => absurd rfl hq) (status := ?status) (more := fun _ _ _ _ _ hq => absurd rfl hq) (bad := ?bad)
    (empty := ?empty) (unread := ?unread) (crlf := ?crlf) (reason := ?reason) (dead := ?dead)
  case status =>
    intro hst hlen hv d0 d1 d2 sp g0 g1 g2 g3 hc _
    rw [parseFLine_init (b ++ s) o pl hst (by simp; omega), extract_app b s _ _ (by omega), if_pos hv,
      flReply_eq pl (get?_app g0) (get?_app g1) (get?_app g2) (get?_app g3), if_pos hc]
  case bad =>
    intro k i p c h' hj hc _
    rw [((h'.app hok hfit s).1).run, flFrom_bad k (stop hj).2 hc, (stop hj).1]
  case empty =>
    intro k i p c h' hj hc hne _
    rw [((h'.app hok hfit s).1).run, flFrom_empty k (stop hj).2 hc (by rw [(stop hj).1]; exact hne), (stop hj).1]
  case unread =>
    intro i p c h' hj hc hne hg _
    have hS := h'.app hok hfit s
    rw [hS.1.run, show FLState.reqMethod = FlTok.method.state from rfl,
      flFrom_go .method (stop hj).2 hc (by rw [(stop hj).1]; exact hne), (stop hj).1, FlTok.cont_none]
    rw [FlTok.after_app .method b s (get?_lt hj) hfit hS.2]
    exact FlTok.after_method_none hg
  case crlf =>
    intro i p h' hq
    rw [((h'.app hok hfit s).1).run]
    exact flCRLF_stable b s i p rfl hq
  case reason =>
    intro i p h' hq
    rw [((h'.app hok hfit s).1).run]
    exact flRplReason_stable b s i p rfl hq
  case dead =>
    intro hst _
    unfold parseFLine
    rcases hst with hst | hst <;> rw [hst]

theorem flCRLF_resume (b s : Buf) (i : Nat) (pl : PFLine) (hi : i ≤ b.size) (hs : pl.state = .crlf) {o : Nat}
    {pl' : PFLine} (h : flCRLF b i pl = (o, Err.moreBytes, pl')) :
    parseFLine (b ++ s) o pl' = flCRLF (b ++ s) i pl ∧ pl'.method.offs = pl.method.offs ∧ o ≤ b.size := by
  unfold flCRLF at h
  rcases hc : skipCRLF b i with ⟨n, crl, e⟩
  rw [hc] at h
  cases e <;> simp only at h <;> cases h
  rw [(skipCRLF_moreBytes_pos hc).1]
  refine ⟨?_, rfl, hi⟩
  unfold parseFLine; rw [hs]

theorem flRplReason_resume (b s : Buf) (i : Nat) (pl : PFLine) (hi : i ≤ b.size) (hs : pl.state = .rplReason)
    {o : Nat} {pl' : PFLine} (h : flRplReason b i pl = (o, Err.moreBytes, pl')) :
    parseFLine (b ++ s) o pl' = flRplReason (b ++ s) i pl ∧ pl'.method.offs = pl.method.offs ∧ o ≤ b.size := by
  unfold flRplReason at h
  rcases hc : skipLine b i with ⟨n, crl, e⟩
  rw [hc] at h
  cases e <;> simp only at h <;> cases h
  refine ⟨?_, rfl, ?_⟩
  · conv => lhs; unfold parseFLine; rw [hs]
    simp only
    unfold flRplReason
    rw [skipLine_restart b s i hc]
  · -- the restart offset of skipLine lies inside the buffer
    unfold skipLine at hc
    rw [(skipCRLF_moreBytes_pos hc).1]
    cases hj : b[skipToEOL b i]? with
    | none => have := skipToEOL_end b i hj hi; omega
    | some c => have := get?_lt hj; omega

/-- **L2 for ParseFLine** -/
theorem parseFLine_resume (b s : Buf) (o : Nat) (pl : PFLine) (ho : o ≤ b.size) (hok : flOK pl)
    (hfit : b.size ≤ 65535) {o' : Nat} {pl' : PFLine}
    (h : parseFLine b o pl = (o', Err.moreBytes, pl')) :
    parseFLine (b ++ s) o' pl' = parseFLine (b ++ s) o pl ∧ flOK pl' ∧ o' ≤ b.size := by
  have key := parseFLine_cases (P := fun r => r.2.1 = .moreBytes →
      parseFLine (b ++ s) r.1 r.2.2 = parseFLine (b ++ s) o pl ∧ flOK r.2.2 ∧ r.1 ≤ b.size) b o pl
    (short := fun _ _ _ => ⟨rfl, hok, ho⟩) (status := fun _ _ _ _ _ _ _ _ _ _ _ _ hq => by cases hq) (more := ?more)
    (bad := fun _ _ _ _ _ _ _ hq => by cases hq) (empty := fun _ _ _ _ _ _ _ _ hq => by cases hq)
    (unread := fun _ _ _ _ _ hq => by cases hq) (crlf := ?crlf) (reason := ?reason) (dead := fun _ hq => by cases hq)
  · rw [h] at key; exact key rfl
  case more =>
    intro k i p h' hj _
    have hS := h'.app hok hfit s
    have hi := h'.range.2 ho
    refine ⟨?_, hS.2, skipToken_le b i hi⟩
    rw [hS.1.run, ← flFrom_restart k b s i p]
    exact (FlAt.resume h'.state (by cases k <;> simp [FlTok.state])).run
  case crlf =>
    intro i p h' hq
    have hS := h'.app hok hfit s
    obtain ⟨a1, a2, a3⟩ := flCRLF_resume b s i p (h'.range.2 ho) h'.state (o := (flCRLF b i p).1)
      (pl' := (flCRLF b i p).2.2) (by rw [← hq])
    exact ⟨by rw [a1, hS.1.run]; rfl, by unfold flOK; rw [a2]; exact hS.2, a3⟩
  case reason =>
    intro i p h' hq
    have hS := h'.app hok hfit s
    obtain ⟨a1, a2, a3⟩ := flRplReason_resume b s i p (h'.range.2 ho) h'.state (o := (flRplReason b i p).1)
      (pl' := (flRplReason b i p).2.2) (by rw [← hq])
    exact ⟨by rw [a1, hS.1.run]; rfl, by unfold flOK; rw [a2]; exact hS.2, a3⟩

end Sipsp
