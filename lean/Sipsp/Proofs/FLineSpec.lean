/-
  Sipsp.Proofs.FLineSpec — what ParseFLine reports for a line of the request / reply grammar.
-/
import Sipsp.Proofs.FLine

namespace Sipsp

/-- the bytes at positions `[i, j)` are all present and none of them is SP / HT / CR / LF: by unfolding
    `Span (fun c => isLWSch c = false) b i j`, and the scanner lemmas of Scan.lean take it as such -/
def TokenRun (b : Buf) (i j : Nat) : Prop := ∀ k, i ≤ k → k < j → ∃ c, b[k]? = some c ∧ isLWSch c = false

/-- the bytes at positions `[i, j)` are all present and none of them is CR / LF (`Span (fun c => isCRLFch c = false) b i j`) -/
def LineRun (b : Buf) (i j : Nat) : Prop := ∀ k, i ≤ k → k < j → ∃ c, b[k]? = some c ∧ isCRLFch c = false

theorem skipToken_tokenRun (b : Buf) (i : Nat) : TokenRun b i (skipToken b i) := by
  rw [skipToken_eq]; exact scanTo_skipped isLWSch b i

theorem skipToEOL_lineRun (b : Buf) (i : Nat) : LineRun b i (skipToEOL b i) := by
  rw [skipToEOL_eq]; exact scanTo_skipped isCRLFch b i

/-- what `skipCRLF` accepts as a line end: CR LF, a CR followed by a byte other than LF, or an LF followed by any
    byte (one byte of look-ahead is always required) -/
theorem fs_skipCRLF_ok_shape {b : Buf} {i e crl : Nat} (h : skipCRLF b i = (e, crl, Err.ok)) :
    (b[i]? = some 13 ∧ b[i + 1]? = some 10 ∧ e = i + 2 ∧ crl = 2) ∨
    (b[i]? = some 13 ∧ (∃ c1, b[i + 1]? = some c1 ∧ c1 ≠ 10) ∧ e = i + 1 ∧ crl = 1) ∨
    (b[i]? = some 10 ∧ (∃ c1, b[i + 1]? = some c1) ∧ e = i + 1 ∧ crl = 1) := by
  cases skipCRLF_out' h with
  | ok he =>
    cases he with
    | crlf h0 h1 => exact .inl ⟨h0, h1, rfl, by omega⟩
    | cr c h0 h1 hc => exact .inr (.inl ⟨h0, ⟨c, h1, hc⟩, rfl, by omega⟩)
    | lf c h0 h1 => exact .inr (.inr ⟨h0, ⟨c, h1⟩, rfl, by omega⟩)

theorem set_extendPanics (i j : Nat) (hij : i ≤ j) (hi : i ≤ 65535) : (PField.set i i).extendPanics j = false := by
  unfold PField.set PField.extendPanics
  simp only
  rw [trunc16_id hi]
  simp; omega

theorem isEmpty_span {i j : Nat} (h : i < j) : (⟨i, j - i⟩ : PField).isEmpty = false := by
  unfold PField.isEmpty; simp only [beq_eq_false_iff_ne]; omega

theorem flStage_run {bad : UInt8 → Bool} {fld : PFLine → PField} {upd : PFLine → Nat → PFLine}
    {next : Buf → Nat → PFLine → Nat × Err × PFLine} {b : Buf} {i j : Nat} {c : UInt8} (pl : PFLine) (hij : i ≤ j)
    (hr : TokenRun b i j) (hj : b[j]? = some c) (hc : isLWSch c = true) :
    flStage bad fld upd next b i pl =
      if bad c then (j, .badChar, pl) else if (fld (upd pl j)).isEmpty then (j, .badChar, upd pl j)
      else next b j (upd pl j) := by
  unfold flStage
  rw [skipToken_run b i j hij hr hj hc, hj]

theorem isLWSch_sp : isLWSch (32 : UInt8) = true := rfl

theorem isLWSch_eol {c : UInt8} (hc : c = 13 ∨ c = 10) : isLWSch c = true := by rcases hc with rfl | rfl <;> rfl

/-- **request line**: `method SP uri SP version EOL`, on any object in the initial state (the fields of a status line
    keep what the object held) -/
theorem parseFLine_request_any (b : Buf) (o m u v e crl : Nat) (pl : PFLine) (hst : pl.state = .init)
    (hfit : b.size ≤ 65535) (hlen : ¬ b.size - o < 14)
    (hnr : (bcPrefix sipVerSP (b.extract o (o + 8)).toList).2 = false)
    (hm : TokenRun b o m) (hm0 : o < m) (hsp1 : b[m]? = some 32)
    (hu : TokenRun b (m + 1) u) (hu0 : m + 1 < u) (hsp2 : b[u]? = some 32)
    (hv : TokenRun b (u + 1) v) (hv0 : u + 1 < v) {c : UInt8} (hend : b[v]? = some c) (hc : c = 13 ∨ c = 10)
    (heol : skipCRLF b v = (e, crl, .ok)) :
    parseFLine b o pl =
      (e, .ok, { pl with method := ⟨o, m - o⟩, uri := ⟨m + 1, u - (m + 1)⟩, version := ⟨u + 1, v - (u + 1)⟩,
                         methodNo := getMethodNo (b.extract o m), state := .fin }) := by
  have hvlt := get?_lt hend
  have hcc : (c != 13 && c != 10) = false := by rcases hc with rfl | rfl <;> rfl
  rw [parseFLine_init b o pl hst hlen, hnr, if_neg Bool.false_ne_true,
    flReqMethod_eq, flStage_run _ (Nat.le_of_lt hm0) hm hsp1 isLWSch_sp]
  simp only [bne_self_eq_false, Bool.false_eq_true, ↓reduceIte, set_extend o m (by omega) (by omega),
    set_extendPanics o m (by omega) (by omega), isEmpty_span hm0, field_get? b o (m - o) (by omega) hfit,
    show o + (m - o) = m by omega]
  rw [flReqURI_eq, flStage_run _ (Nat.le_of_lt hu0) hu hsp2 isLWSch_sp]
  simp only [bne_self_eq_false, Bool.false_eq_true, ↓reduceIte, set_extend (m + 1) u (by omega) (by omega),
    set_extendPanics (m + 1) u (by omega) (by omega), isEmpty_span hu0]
  rw [flReqVer_eq, flStage_run _ (Nat.le_of_lt hv0) hv hend (isLWSch_eol hc)]
  simp only [hcc, Bool.false_eq_true, ↓reduceIte, set_extend (u + 1) v (by omega) (by omega),
    set_extendPanics (u + 1) v (by omega) (by omega), isEmpty_span hv0]
  unfold flCRLF
  rw [heol]
  simp only [Bool.or_false]

theorem parseFLine_request (b : Buf) (o m u v e crl : Nat) (hfit : b.size ≤ 65535)
    (hlen : ¬ b.size - o < 14)
    (hnr : (bcPrefix sipVerSP (b.extract o (o + 8)).toList).2 = false)
    (hm : TokenRun b o m) (hm0 : o < m) (hsp1 : b[m]? = some 32)
    (hu : TokenRun b (m + 1) u) (hu0 : m + 1 < u) (hsp2 : b[u]? = some 32)
    (hv : TokenRun b (u + 1) v) (hv0 : u + 1 < v) {c : UInt8} (hend : b[v]? = some c) (hc : c = 13 ∨ c = 10)
    (heol : skipCRLF b v = (e, crl, .ok)) :
    parseFLine b o {} =
      (e, .ok, { method := ⟨o, m - o⟩, uri := ⟨m + 1, u - (m + 1)⟩, version := ⟨u + 1, v - (u + 1)⟩,
                 methodNo := getMethodNo (b.extract o m), state := .fin }) :=
  parseFLine_request_any b o m u v e crl {} rfl hfit hlen hnr hm hm0 hsp1 hu hu0 hsp2 hv hv0 hend hc heol

/-- **status line**: `SIP/2.0` (any letter case) `SP ddd SP reason EOL`, the reason possibly empty, on any object in
    the initial state -/
theorem parseFLine_reply_any (b : Buf) (o v e crl l : Nat) (pl : PFLine) (hst : pl.state = .init) (hfit : b.size ≤ 65535)
    (hlen : ¬ b.size - o < 14)
    (hpre : bcPrefix sipVerSP (b.extract o (o + 8)).toList = (l, true))
    {d0 d1 d2 : UInt8} (h0 : b[o + 8]? = some d0) (h1 : b[o + 9]? = some d1) (h2 : b[o + 10]? = some d2)
    (hd0 : isDigit d0 = true) (hd1 : isDigit d1 = true) (hd2 : isDigit d2 = true)
    (hsp : b[o + 11]? = some 32)
    (hr : LineRun b (o + 12) v) (hv0 : o + 12 ≤ v) {c : UInt8} (hend : b[v]? = some c) (hc : c = 13 ∨ c = 10)
    (heol : skipCRLF b v = (e, crl, .ok)) :
    parseFLine b o pl =
      (e, .ok, { pl with version := ⟨o, 7⟩, statusCode := ⟨o + 8, 3⟩,
                         status := (d0.toNat - 48) * 100 + (d1.toNat - 48) * 10 + (d2.toNat - 48),
                         reason := ⟨o + 12, v - (o + 12)⟩, state := .fin }) := by
  have hvlt := get?_lt hend
  have hcl : isCRLFch c = true := by rcases hc with rfl | rfl <;> rfl
  rw [parseFLine_init b o pl hst hlen, hpre, if_pos rfl, flReply_eq _ h0 h1 h2 hsp]
  simp only [bne_self_eq_false, hd0, hd1, hd2, Bool.and_self, Bool.not_true, Bool.or_self, Bool.false_eq_true, ↓reduceIte]
  unfold flRplReason skipLine
  rw [skipToEOL_run b (o + 12) v hv0 hr hend hcl, heol]
  simp only
  have hec : e - crl = v := by have := (skipCRLF_range heol).2.2.1 rfl; omega
  rw [hec, show o + 8 + 4 = o + 12 from rfl, set_extend (o + 12) v hv0 (by omega), set_extendPanics (o + 12) v hv0 (by omega),
    set_eq o (o + 8 - 1) (by omega) (by omega), set_eq (o + 8) (o + 8 + 3) (by omega) (by omega),
    show o + 8 - 1 - o = 7 by omega, show o + 8 + 3 - (o + 8) = 3 by omega]
  simp only [Bool.or_false]

theorem parseFLine_reply (b : Buf) (o v e crl l : Nat) (hfit : b.size ≤ 65535)
    (hlen : ¬ b.size - o < 14)
    (hpre : bcPrefix sipVerSP (b.extract o (o + 8)).toList = (l, true))
    {d0 d1 d2 : UInt8} (h0 : b[o + 8]? = some d0) (h1 : b[o + 9]? = some d1) (h2 : b[o + 10]? = some d2)
    (hd0 : isDigit d0 = true) (hd1 : isDigit d1 = true) (hd2 : isDigit d2 = true)
    (hsp : b[o + 11]? = some 32)
    (hr : LineRun b (o + 12) v) (hv0 : o + 12 ≤ v) {c : UInt8} (hend : b[v]? = some c) (hc : c = 13 ∨ c = 10)
    (heol : skipCRLF b v = (e, crl, .ok)) :
    parseFLine b o {} =
      (e, .ok, { version := ⟨o, 7⟩, statusCode := ⟨o + 8, 3⟩,
                 status := (d0.toNat - 48) * 100 + (d1.toNat - 48) * 10 + (d2.toNat - 48),
                 reason := ⟨o + 12, v - (o + 12)⟩, state := .fin }) :=
  parseFLine_reply_any b o v e crl l {} rfl hfit hlen hpre h0 h1 h2 hd0 hd1 hd2 hsp hr hv0 hend hc heol

/-! ### lines that violate the single-space grammar are rejected, not mis-split -/

/-- the method token is followed by HT, CR or LF instead of a single SP -/
theorem parseFLine_reject_sep1 (b : Buf) (o m : Nat) (hlen : ¬ b.size - o < 14)
    (hnr : (bcPrefix sipVerSP (b.extract o (o + 8)).toList).2 = false)
    (hm : TokenRun b o m) (hm0 : o ≤ m) {c : UInt8} (hsep : b[m]? = some c) (hc : c = 9 ∨ c = 13 ∨ c = 10) :
    (parseFLine b o {}).2.1 = .badChar ∧ (parseFLine b o {}).1 = m := by
  have hcl : isLWSch c = true := by rcases hc with rfl | rfl | rfl <;> rfl
  have hne : (c != 32) = true := by rcases hc with rfl | rfl | rfl <;> rfl
  rw [parseFLine_init b o {} rfl hlen, hnr, if_neg Bool.false_ne_true, flReqMethod_eq, flStage_run _ hm0 hm hsep hcl]
  simp only [hne, ↓reduceIte, and_self]

/-- two spaces after the method (an empty request URI) -/
theorem parseFLine_reject_empty_uri (b : Buf) (o m : Nat) (hfit : b.size ≤ 65535) (hlen : ¬ b.size - o < 14)
    (hnr : (bcPrefix sipVerSP (b.extract o (o + 8)).toList).2 = false)
    (hm : TokenRun b o m) (hm0 : o < m) (hsp1 : b[m]? = some 32) (hsp2 : b[m + 1]? = some 32) :
    (parseFLine b o {}).2.1 = .badChar := by
  have hmlt := get?_lt hsp2
  rw [parseFLine_init b o {} rfl hlen, hnr, if_neg Bool.false_ne_true,
    flReqMethod_eq, flStage_run _ (Nat.le_of_lt hm0) hm hsp1 isLWSch_sp]
  simp only [bne_self_eq_false, Bool.false_eq_true, ↓reduceIte, set_extend o m (by omega) (by omega),
    set_extendPanics o m (by omega) (by omega), isEmpty_span hm0, field_get? b o (m - o) (by omega) hfit]
  rw [flReqURI_eq, flStage_run _ (Nat.le_refl _) (fun k h1 h2 => by omega) hsp2 isLWSch_sp]
  simp only [bne_self_eq_false, Bool.false_eq_true, ↓reduceIte, set_extend (m + 1) (m + 1) (Nat.le_refl _) (by omega),
    Nat.sub_self]
  rfl

/-- the status code is not three digits followed by SP -/
theorem parseFLine_reject_status (b : Buf) (o l : Nat) (hlen : ¬ b.size - o < 14)
    (hpre : bcPrefix sipVerSP (b.extract o (o + 8)).toList = (l, true))
    {d0 d1 d2 sp : UInt8} (h0 : b[o + 8]? = some d0) (h1 : b[o + 9]? = some d1) (h2 : b[o + 10]? = some d2)
    (hsp : b[o + 11]? = some sp)
    (hbad : sp ≠ 32 ∨ isDigit d0 = false ∨ isDigit d1 = false ∨ isDigit d2 = false) :
    (parseFLine b o {}).2.1 = .badChar := by
  have : (sp != 32 || !(isDigit d0 && isDigit d1 && isDigit d2)) = true := by
    rcases hbad with h | h | h | h <;> simp [h]
  rw [parseFLine_init b o {} rfl hlen, hpre, if_pos rfl, flReply_eq _ h0 h1 h2 hsp, if_pos this]

end Sipsp
