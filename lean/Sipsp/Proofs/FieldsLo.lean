/-
  Sipsp.Proofs.FieldsLo — property C05, lower bounds, order and nesting of everything ParseSIPMsg reports (the upper
  bounds — every field ends at or before the returned offset — are in SafeFLine … SafeMsg, the body / raw-message
  layout in Layout).  For ALL buffers within the 65,535-byte limit, all offsets, flags, capacities, chunk schedules:
  (1) first line: every non-empty field starts at or after the offset the parse was given (`parseFLine_lo`), and
      WHENEVER ParseFLine (initial state, offset `o`) says OK the reported fields are method (at `o`) < URI < version,
      or version (at `o`) < status code < reason: one after the other, separated, non-empty, the last one ending before
      the returned offset — for every input, not only for lines of the grammar (`parseFLine_order`);
  (2) header line: on OK the name starts exactly at the line offset and is not empty, the value (if set) starts after
      the end of the name — generic headers AND the eight typed kinds (`parseHdrLine_lo`, `parseHdrLine_own_line`); the
      value parsers report nothing before the offset they were started at (`valCall_lo`);
  (3) header block: the stored headers are in message order without overlap (`parseHeaders_lo`, `HlsLo`);
  (4) message: `MsgLo o m'` — (1), (3) and the header values — after one call from the initial state, on an object
      produced by Init, and after any chain of resumed calls over growing prefixes from Init (`parseSIPMsg_lo`,
      `_init`, `_schedule_init`); `MsgOrd`: the first line ends before every header; `parseSIPMsg_before_body`: first
      line and headers end at or before the start of the body; `MsgLo.meaning` spells the records out field by field;
  (5) CSeq nesting (`CsNest`): the number starts where the CSeq value starts and ends at or before the start of the
      method, and the method ends where the value ends.
  The invariants of the first line (`FlLo`) and of the Call-ID / unsigned-integer / CSeq parsers (`CiLoI`, `ClLoI`,
  `CsLoI`, handed back with MoreBytes: `LoMT`) are resumption invariants; those of a header line (`HlLoI`) and of the
  header block are for a line parsed in one go.
  NOT proved here: lower bounds / nesting of the sub-fields of name-addr values (display name, URI, parameters, tag
  inside the value; C09 gives their exact spans for values of the grammar); lower bounds for objects resumed in the
  middle of a header line are obtained through the one-shot equivalence (C01), not as a resumption invariant; the
  `first` / `last` overflow slots of the contact list.
-/
import Sipsp.Proofs.OneShot
import Sipsp.Proofs.HlLex
import Sipsp.Proofs.FLineSound
import Sipsp.Proofs.SafeMsg

namespace Sipsp

/-- a field is empty (unset fields are `⟨0,0⟩`), or it starts at or after `s` -/
def FLo (s : Nat) (f : PField) : Prop := f.len = 0 ∨ s ≤ f.offs

theorem FLo_zero (s : Nat) : FLo s {} := Or.inl rfl

theorem FLo.mono {s s' : Nat} {f : PField} (h : FLo s f) (hs : s' ≤ s) : FLo s' f :=
  h.imp_right fun h => Nat.le_trans hs h

theorem flo_set_offs (a e : Nat) (h : a < 65536) : (PField.set a e).offs = a := trunc16_of_lt h

theorem FLo.set {s a : Nat} (h : s ≤ a) (ha : a < 65536) (e : Nat) : FLo s (PField.set a e) :=
  Or.inr (by rw [flo_set_offs a e ha]; exact h)

theorem FLo.extend {s : Nat} {p : PField} (h : s ≤ p.offs) (e : Nat) : FLo s (p.extend e) :=
  Or.inr (by rw [PField.extend_offs]; exact h)

/-- the running extent of a header value (`account`): the first value, or the old extent extended -/
theorem FLo.account {lo : Nat} {l v : PField} (hl : FLo lo l) (hv : lo ≤ v.offs) :
    FLo lo (if l.isEmpty then v else l.extend v.endT) := by
  split
  · exact Or.inr hv
  · rename_i he
    rcases hl with h0 | h0
    · exact absurd (by simp [PField.isEmpty, h0]) he
    · exact FLo.extend h0 _

/-! ### (1) first line -/

/-- the five first-line fields are empty or start at or after `s` -/
structure FL5 (s : Nat) (pl : PFLine) : Prop where
  method : FLo s pl.method
  uri : FLo s pl.uri
  version : FLo s pl.version
  statusCode : FLo s pl.statusCode
  reason : FLo s pl.reason

/-- the field that a suspended first-line parse is still extending already starts at or after `s` -/
def FlPend (s : Nat) (pl : PFLine) : Prop :=
  (pl.state = .reqMethod → s ≤ pl.method.offs) ∧ (pl.state = .reqURI → s ≤ pl.uri.offs) ∧
  (pl.state = .reqVer → s ≤ pl.version.offs) ∧ (pl.state = .rplReason → s ≤ pl.reason.offs)

/-- **lower-bound invariant of the first-line object**: holds of the zero object, and is kept by every call of
    ParseFLine at an offset `≥ s` (whatever the verdict) -/
def FlLo (s : Nat) (pl : PFLine) : Prop := FL5 s pl ∧ FlPend s pl

theorem FL5.st {s : Nat} {pl : PFLine} (h : FL5 s pl) (x : FLState) : FL5 s { pl with state := x } :=
  ⟨h.method, h.uri, h.version, h.statusCode, h.reason⟩

theorem FlPend.of_idle {s : Nat} {pl : PFLine}
    (h : pl.state = .crlf ∨ pl.state = .fin ∨ pl.state = .init ∨ pl.state = .rplStatus) : FlPend s pl := by
  rcases h with h | h | h | h <;> simp [FlPend, h]

theorem FlPend.reqMethod {s : Nat} {pl : PFLine} (hst : pl.state = .reqMethod) (hv : s ≤ pl.method.offs) : FlPend s pl := by
  simp [FlPend, hst, hv]

theorem FlPend.reqURI {s : Nat} {pl : PFLine} (hst : pl.state = .reqURI) (hv : s ≤ pl.uri.offs) : FlPend s pl := by
  simp [FlPend, hst, hv]

theorem FlPend.reqVer {s : Nat} {pl : PFLine} (hst : pl.state = .reqVer) (hv : s ≤ pl.version.offs) : FlPend s pl := by
  simp [FlPend, hst, hv]

theorem FlPend.rplReason {s : Nat} {pl : PFLine} (hst : pl.state = .rplReason) (hv : s ≤ pl.reason.offs) : FlPend s pl := by
  simp [FlPend, hst, hv]

theorem FlLo_new (s : Nat) : FlLo s {} :=
  ⟨⟨FLo_zero s, FLo_zero s, FLo_zero s, FLo_zero s, FLo_zero s⟩, FlPend.of_idle (Or.inr (Or.inr (Or.inl rfl)))⟩

theorem flCRLF_lo (b : Buf) (i s : Nat) (pl : PFLine) (hst : pl.state = .crlf) (h : FL5 s pl) :
    FlLo s (flCRLF b i pl).2.2 := by
  unfold flCRLF
  rcases hs : skipCRLF b i with ⟨n, crl, e⟩
  cases e <;> simp only
  case ok => exact ⟨h.st _, FlPend.of_idle (Or.inr (Or.inl rfl))⟩
  all_goals exact ⟨h, FlPend.of_idle (Or.inl hst)⟩

theorem flRplReason_lo (b : Buf) (i s : Nat) (pl : PFLine) (hst : pl.state = .rplReason) (h : FL5 s pl)
    (hv : s ≤ pl.reason.offs) : FlLo s (flRplReason b i pl).2.2 := by
  unfold flRplReason
  rcases hs : skipLine b i with ⟨n, crl, e⟩
  cases e <;> simp only
  case ok =>
    exact ⟨⟨h.method, h.uri, h.version, h.statusCode, Or.inr (by rw [PField.extend_offs]; exact hv)⟩,
      FlPend.of_idle (Or.inr (Or.inl rfl))⟩
  all_goals exact ⟨h, FlPend.rplReason hst hv⟩

/-- recording a token keeps the invariant (the field keeps its start).  The object is taken apart first, so that the
    kernel never compares it with the object whose field is extended (see `PField.extend_offs`). -/
theorem FlLo.ext {s : Nat} {p : PFLine} (k : FlTok) (j : Nat) (h : FlLo s p) (hst : p.state = k.state) :
    FlLo s (k.ext p j) := by
  obtain ⟨⟨h5m, h5u, h5v, h5s, h5r⟩, hm, hu, hv, hr⟩ := h
  obtain ⟨st0, mn, m, u, v, sc, rs, state, pn⟩ := p
  dsimp only at h5m h5u h5v h5s h5r hm hu hv hst
  cases k <;> dsimp only [FlTok.ext]
  · have hv' : s ≤ (m.extend j).offs := by rw [PField.extend_offs]; exact hm hst
    exact ⟨⟨Or.inr hv', h5u, h5v, h5s, h5r⟩, FlPend.reqMethod hst hv'⟩
  · have hv' : s ≤ (u.extend j).offs := by rw [PField.extend_offs]; exact hu hst
    exact ⟨⟨h5m, Or.inr hv', h5v, h5s, h5r⟩, FlPend.reqURI hst hv'⟩
  · have hv' : s ≤ (v.extend j).offs := by rw [PField.extend_offs]; exact hv hst
    exact ⟨⟨h5m, h5u, Or.inr hv', h5s, h5r⟩, FlPend.reqVer hst hv'⟩

theorem FlLo.pnc {s : Nat} {p : PFLine} (x : Bool) (h : FlLo s p) : FlLo s { p with pnc := x } := by
  obtain ⟨⟨a, b, c, d, e⟩, f⟩ := h
  cases p
  exact ⟨⟨a, b, c, d, e⟩, f⟩

/-- the field of the next stage starts after the token -/
theorem FlLo.after {s : Nat} {b : Buf} {j : Nat} {p : PFLine} {k : FlTok} {i' : Nat} {p' : PFLine} (h : FlLo s p)
    (hsj : s ≤ j) (hj : j + 1 < 65536) (ha : k.after b j p = some (i', p')) : FlLo s p' := by
  have hso := flo_set_offs (j + 1) (j + 1) hj
  have h5 := h.1
  cases FlTok.after_some ha with
  | method _ =>
    exact ⟨⟨h5.method, Or.inr (by rw [hso]; omega), h5.version, h5.statusCode, h5.reason⟩,
      FlPend.reqURI rfl (by rw [hso]; omega)⟩
  | uri =>
    exact ⟨⟨h5.method, h5.uri, Or.inr (by rw [hso]; omega), h5.statusCode, h5.reason⟩,
      FlPend.reqVer rfl (by rw [hso]; omega)⟩
  | version => exact ⟨h5.st _, FlPend.of_idle (Or.inl rfl)⟩

/-- a call at an offset `≥ s` keeps the invariant at every stage it enters -/
theorem FlAt.lo {b : Buf} {o s : Nat} {pl : PFLine} {st : FLState} {i : Nat} {p : PFLine} (hfit : b.size ≤ 65535)
    (hs : s ≤ o) (H : FlLo s pl) (h : FlAt b o pl st i p) : FlLo s p := by
  induction h with
  | resume _ _ => exact H
  | request _ hlen _ =>
    have hso : (PField.set o o).offs = o := flo_set_offs _ _ (by omega)
    exact ⟨⟨Or.inr (by rw [hso]; exact hs), H.1.uri, H.1.version, H.1.statusCode, H.1.reason⟩,
      FlPend.reqMethod rfl (by rw [hso]; exact hs)⟩
  | reply _ hlen _ _ _ _ _ _ =>
    have hre : (PField.set (o + 8 + 4) (o + 8 + 4)).offs = o + 8 + 4 := flo_set_offs _ _ (by omega)
    exact ⟨⟨H.1.method, H.1.uri, FLo.set hs (by omega) _, FLo.set (by omega) (by omega) _, Or.inr (by rw [hre]; omega)⟩,
      FlPend.rplReason rfl (by rw [hre]; omega)⟩
  | @tok k i p c i' p' h' hj _ _ ha ih =>
    have := get?_lt hj
    exact (ih.ext k _ h'.state).after (Nat.le_trans hs (Nat.le_trans h'.range.1 (skipToken_ge b i))) (by omega) ha

/-- **(1) first line, lower bound** (buffers within the 65,535-byte limit): a call of ParseFLine at an offset `o ≥ s`
    keeps the lower-bound invariant, whatever the verdict; in particular, starting from the zero object at `s`, every
    non-empty first-line field starts at or after `s` -/
theorem parseFLine_lo (b : Buf) (o s : Nat) (pl : PFLine) (hfit : b.size ≤ 65535) (hs : s ≤ o) (h : FlLo s pl) :
    FlLo s (parseFLine b o pl).2.2 := by
  refine parseFLine_cases (P := fun r => FlLo s r.2.2) b o pl (short := fun _ _ => h)
    (status := fun _ hlen _ _ _ _ _ _ _ _ _ _ => ?_)
    (more := fun _ _ _ h' _ => h'.lo hfit hs h) (bad := fun _ _ _ _ h' _ _ => h'.lo hfit hs h)
    (empty := fun k _ _ _ h' _ _ _ => (h'.lo hfit hs h).ext k _ h'.state)
    (unread := fun h' _ _ _ _ => ((h'.lo hfit hs h).ext .method _ h'.state).pnc true)
    (crlf := fun h' => flCRLF_lo b _ s _ h'.state (h'.lo hfit hs h).1)
    (reason := fun h' => flRplReason_lo b _ s _ h'.state (h'.lo hfit hs h).1 ((h'.lo hfit hs h).2.2.2.2 h'.state))
    (dead := fun _ => ⟨h.1.st _, FlPend.of_idle (Or.inr (Or.inl rfl))⟩)
  dsimp only
  exact ⟨⟨h.1.method, h.1.uri, FLo.set hs (by omega) _, h.1.statusCode, h.1.reason⟩,
    FlPend.of_idle (Or.inr (Or.inr (Or.inr rfl)))⟩

/-! #### first-line order: whenever ParseFLine says OK (from the initial state) -/

theorem flo_extend_end (p : PField) (j : Nat) (h1 : p.offs ≤ j) (h2 : j < 65536) :
    (p.extend j).offs = p.offs ∧ (p.extend j).offs + (p.extend j).len = j := by
  rw [PField.extend_offs, PField.extend_len]
  unfold trunc16
  omega

theorem flo_set_end (a e : Nat) (h1 : a ≤ e) (h2 : e < 65536) :
    (PField.set a e).offs = a ∧ (PField.set a e).offs + (PField.set a e).len = e := by
  show trunc16 a = a ∧ trunc16 a + trunc16 (e - a) = e
  unfold trunc16
  omega

/-- the request line as reported: method, URI, version, in this order, separated, none empty; the method starts at
    `o` and the version ends before the returned offset `o'` -/
structure FlOrdReq (o o' : Nat) (pl : PFLine) : Prop where
  mO : pl.method.offs = o
  mNE : 0 < pl.method.len
  mu : pl.method.offs + pl.method.len < pl.uri.offs
  uNE : 0 < pl.uri.len
  uv : pl.uri.offs + pl.uri.len < pl.version.offs
  vNE : 0 < pl.version.len
  vE : pl.version.offs + pl.version.len < o'

/-- the status line as reported: version, status code, reason, in this order, separated; the version starts at `o`
    and the reason ends before the returned offset `o'` -/
structure FlOrdRpl (o o' : Nat) (pl : PFLine) : Prop where
  vO : pl.version.offs = o
  vNE : 0 < pl.version.len
  vs : pl.version.offs + pl.version.len < pl.statusCode.offs
  sNE : 0 < pl.statusCode.len
  sr : pl.statusCode.offs + pl.statusCode.len < pl.reason.offs
  rE : pl.reason.offs + pl.reason.len < o'

theorem flo_isEmpty_pos {f : PField} (h : ¬ f.isEmpty = true) : 0 < f.len := by
  unfold PField.isEmpty at h
  simp at h
  omega

/-- **(1) first-line order, for every input** (buffers within the 65,535-byte limit): whenever ParseFLine, called
    at `o` on an object in its initial state, says OK, the reported fields are those of a request line — method
    (starting at `o`), URI, version, one after the other, separated, none empty — or those of a status line —
    version (starting at `o`), status code, reason —, and the last one ends before the returned offset -/
theorem parseFLine_order (b : Buf) (o : Nat) (pl : PFLine) (hfit : b.size ≤ 65535) (hst : pl.state = .init)
    {o' : Nat} {pl' : PFLine} (hr : parseFLine b o pl = (o', .ok, pl')) : FlOrdReq o o' pl' ∨ FlOrdRpl o o' pl' := by
  -- the object is made of the components of the line (`parseFLine_sound_any`); the order is that of the grammar
  rcases parseFLine_sound_any b o o' pl pl' hfit hst hr with ⟨m, u, v, hg, rfl⟩ | ⟨v, d0, d1, d2, hg, rfl⟩
  · obtain ⟨crl, hcrl⟩ := hg.eol
    have := (skipCRLF_range hcrl).2.2.1 rfl
    have := hg.mNe; have := hg.uNe; have := hg.vNe
    exact Or.inl ⟨rfl, by show 0 < m - o; omega, by show o + (m - o) < m + 1; omega, by show 0 < u - (m + 1); omega,
      by show m + 1 + (u - (m + 1)) < u + 1; omega, by show 0 < v - (u + 1); omega,
      by show u + 1 + (v - (u + 1)) < o'; omega⟩
  · obtain ⟨crl, hcrl⟩ := hg.eol
    have := (skipCRLF_range hcrl).2.2.1 rfl
    have := hg.rGe
    exact Or.inr ⟨rfl, by show 0 < 7; omega, by show o + 7 < o + 8; omega, by show 0 < 3; omega,
      by show o + 8 + 3 < o + 12; omega, by show o + 12 + (v - (o + 12)) < o'; omega⟩

/-! ### (2a) header values: Call-ID, unsigned integers, CSeq -/

/-- lower-bound invariant of the Call-ID object at loop position `i`: the saved start (`found`) resp. the reported
    field (`fend`, `fin`) lies at or after `lo` -/
def CiLoI (lo i : Nat) (st : PCallIDBody) : Prop :=
  (st.state = .found → lo ≤ st.soffs ∧ st.soffs ≤ i) ∧ (st.state = .fend ∨ st.state = .fin → lo ≤ st.callID.offs)

theorem CiLoI.mono {lo i j : Nat} {st : PCallIDBody} (h : CiLoI lo i st) (hij : i ≤ j) : CiLoI lo j st :=
  ⟨fun hs => ⟨(h.1 hs).1, Nat.le_trans (h.1 hs).2 hij⟩, h.2⟩

theorem CiLoI_init (lo i : Nat) (st : PCallIDBody) (h : st.state = .init) : CiLoI lo i st := by
  simp [CiLoI, h]

/-- what a finishing step of a value parser must establish: on OK, the post-condition `R` -/
def LoT {σ : Type} (R : σ → Prop) : Nat → Err → σ → Prop := fun _ e s => e = .ok → R s

theorem LoT.err {σ : Type} {R : σ → Prop} {n : Nat} {e : Err} {s : σ} (h : e ≠ .ok) : LoT R n e s := fun hh => absurd hh h

/-- … and, when it suspends with MoreBytes, the loop invariant `I` again at the returned offset -/
def LoMT {σ : Type} (R : σ → Prop) (I : Nat → σ → Prop) : Nat → Err → σ → Prop :=
  fun n e s => LoT R n e s ∧ (e = .moreBytes → I n s)

theorem LoMT.err {σ : Type} {R : σ → Prop} {I : Nat → σ → Prop} {n : Nat} {e : Err} {s : σ} (h1 : e ≠ .ok)
    (h2 : e ≠ .moreBytes) : LoMT R I n e s := ⟨.err h1, fun hh => absurd hh h2⟩

theorem LoMT.ok {σ : Type} {R : σ → Prop} {I : Nat → σ → Prop} {r : Nat × Err × σ} (h : LoMT R I r.1 r.2.1 r.2.2)
    {o' : Nat} {s' : σ} (hr : r = (o', .ok, s')) : R s' := by
  subst hr; exact h.1 rfl

theorem LoMT.more {σ : Type} {R : σ → Prop} {I : Nat → σ → Prop} {r : Nat × Err × σ} (h : LoMT R I r.1 r.2.1 r.2.2)
    {o' : Nat} {s' : σ} (hr : r = (o', .moreBytes, s')) : I o' s' := by
  subst hr; exact h.2 rfl

/-- the white-space pattern under a lower-bound invariant `I` that only grows with the position: the end-of-header
    code never says MoreBytes (`hne`), so it only owes the post-condition `R` -/
theorem lwsStd_lo {σ : Type} (b : Buf) (i lo : Nat) (s1 : σ) (eoh : σ → Nat → Nat → Nat → Nat × Err × σ)
    (R : σ → Prop) (I : Nat → σ → Prop) (hi : i ≤ b.size) (hlo : lo ≤ i) (h1 : ∀ j, i ≤ j → I j s1)
    (hne : ∀ n crl, (eoh s1 i n crl).2.1 ≠ .moreBytes)
    (heoh : ∀ n crl, (eoh s1 i n crl).2.1 = .ok → R (eoh s1 i n crl).2.2) :
    StepAll2 (fun j s => lo ≤ j ∧ I j s) (LoMT R I) (lwsStd b i s1 eoh id) :=
  lwsStd_all2 b i s1 eoh id _ _ hi (fun n a1 _ => ⟨Nat.le_trans hlo a1, h1 n a1⟩)
    (fun n a1 _ => ⟨.err (by decide), fun _ => h1 n a1⟩) (fun n crl _ _ _ => ⟨heoh n crl, fun hh => absurd hh (hne n crl)⟩)

/-- **Call-ID, lower bound**: after OK the reported Call-ID starts at or after `lo` (`≤` the offset at which the
    parse of the value started, resp. for which the invariant held); after MoreBytes the invariant holds again at the
    returned offset -/
theorem parseCallIDVal_lom (b : Buf) (o lo : Nat) (st : PCallIDBody) (hfit : b.size ≤ 65535) (hlo : lo ≤ o)
    (h : CiLoI lo o st) : LoMT (fun s => lo ≤ s.callID.offs) (CiLoI lo) (parseCallIDVal b o st).1
      (parseCallIDVal b o st).2.1 (parseCallIDVal b o st).2.2 :=
  parseCallIDVal_ind b (S := fun i s => lo ≤ i ∧ CiLoI lo i s) (fun _ _ _ h a1 _ => ⟨by omega, h.2.mono a1⟩)
    (fun i s hi h hg => ⟨h.1, nofun, fun _ => by
      show lo ≤ (PField.set s.soffs i).offs
      rw [flo_set_offs _ _ (by have := (h.2.1 hg).2; omega)]; exact (h.2.1 hg).1⟩)
    (fun i _ _ h _ => ⟨by omega, (fun _ => ⟨h.1, Nat.le_succ i⟩), (fun hh => by rcases hh with hh | hh <;> cases hh)⟩)
    (fun _ _ _ h hg _ _ => ⟨fun _ => h.2.2 (.inl hg), nofun⟩) (fun _ _ h => ⟨.err (by decide), fun _ => h.2⟩)
    (fun _ _ _ _ h1 h2 => .err h1 h2) o st ⟨hlo, h⟩ fun hf => ⟨fun _ => h.2 (.inr hf), nofun⟩

theorem parseCallIDVal_lo (b : Buf) (o lo : Nat) (st : PCallIDBody) (hfit : b.size ≤ 65535) (hlo : lo ≤ o)
    (h : CiLoI lo o st) {o' : Nat} {st' : PCallIDBody} (hr : parseCallIDVal b o st = (o', .ok, st')) :
    lo ≤ st'.callID.offs :=
  (parseCallIDVal_lom b o lo st hfit hlo h).ok hr

theorem parseCallIDVal_more (b : Buf) (o lo : Nat) (st : PCallIDBody) (hfit : b.size ≤ 65535) (hlo : lo ≤ o)
    (h : CiLoI lo o st) {o' : Nat} {st' : PCallIDBody} (hr : parseCallIDVal b o st = (o', .moreBytes, st')) :
    CiLoI lo o' st' :=
  (parseCallIDVal_lom b o lo st hfit hlo h).more hr

/-! #### unsigned integers -/

/-- lower-bound invariant of the unsigned-integer object at loop position `i`: the saved start (`found`) lies in
    `[lo, i]`, the reported field (`fend`, `fin`) starts at or after `lo` -/
def ClLoI (lo i : Nat) (st : PUIntBody) : Prop :=
  (st.state = .found → lo ≤ st.soffs ∧ st.soffs ≤ i) ∧ (st.state = .fend ∨ st.state = .fin → lo ≤ st.sVal.offs)

theorem ClLoI.mono {lo i j : Nat} {st : PUIntBody} (h : ClLoI lo i st) (hij : i ≤ j) : ClLoI lo j st :=
  ⟨fun hs => ⟨(h.1 hs).1, Nat.le_trans (h.1 hs).2 hij⟩, h.2⟩

theorem ClLoI_init (lo i : Nat) (st : PUIntBody) (h : st.state = .init) : ClLoI lo i st := by
  simp [ClLoI, h]

/-- **Expires, lower bound** (after OK; after MoreBytes the invariant again) -/
theorem parseUIntVal_lom (b : Buf) (o lo : Nat) (st : PUIntBody) (hfit : b.size ≤ 65535) (hlo : lo ≤ o)
    (h : ClLoI lo o st) : LoMT (fun s => lo ≤ s.sVal.offs) (ClLoI lo) (parseUIntVal b o st).1
      (parseUIntVal b o st).2.1 (parseUIntVal b o st).2.2 :=
  parseUIntVal_ind b (S := fun i s => lo ≤ i ∧ ClLoI lo i s) (fun _ _ _ h a1 _ => ⟨by omega, h.2.mono a1⟩)
    (fun i s hi h hg => ⟨h.1, nofun, fun _ => by
      show lo ≤ (PField.set s.soffs i).offs
      rw [flo_set_offs _ _ (by have := (h.2.1 hg).2; omega)]; exact (h.2.1 hg).1⟩)
    (fun i _ _ _ h _ => ⟨by omega, (fun _ => ⟨h.1, Nat.le_succ i⟩), (fun hh => by rcases hh with hh | hh <;> cases hh)⟩)
    (fun i _ _ _ h _ => ⟨by omega, h.2.mono (Nat.le_succ i)⟩)
    (fun _ _ _ h hg _ _ => ⟨fun _ => h.2.2 (.inl hg), nofun⟩) (fun _ _ h => ⟨.err (by decide), fun _ => h.2⟩)
    (fun _ _ _ _ h1 h2 => .err h1 h2) o st ⟨hlo, h⟩ fun hf => ⟨fun _ => h.2 (.inr hf), nofun⟩

theorem parseUIntVal_lo (b : Buf) (o lo : Nat) (st : PUIntBody) (hfit : b.size ≤ 65535) (hlo : lo ≤ o)
    (h : ClLoI lo o st) {o' : Nat} {st' : PUIntBody} (hr : parseUIntVal b o st = (o', .ok, st')) :
    lo ≤ st'.sVal.offs :=
  (parseUIntVal_lom b o lo st hfit hlo h).ok hr

theorem parseUIntVal_more (b : Buf) (o lo : Nat) (st : PUIntBody) (hfit : b.size ≤ 65535) (hlo : lo ≤ o)
    (h : ClLoI lo o st) {o' : Nat} {st' : PUIntBody} (hr : parseUIntVal b o st = (o', .moreBytes, st')) :
    ClLoI lo o' st' :=
  (parseUIntVal_lom b o lo st hfit hlo h).more hr

/-- **Content-Length, lower bound** -/
theorem parseCLenVal_lo (b : Buf) (o lo : Nat) (st : PUIntBody) (hfit : b.size ≤ 65535) (hlo : lo ≤ o)
    (h : ClLoI lo o st) {o' : Nat} {st' : PUIntBody} (hr : parseCLenVal b o st = (o', .ok, st')) :
    lo ≤ st'.sVal.offs :=
  parseUIntVal_lo b o lo st hfit hlo h (parseCLenVal_under' b o st hr (fun hh => by cases hh))

theorem parseCLenVal_more (b : Buf) (o lo : Nat) (st : PUIntBody) (hfit : b.size ≤ 65535) (hlo : lo ≤ o)
    (h : ClLoI lo o st) {o' : Nat} {st' : PUIntBody} (hr : parseCLenVal b o st = (o', .moreBytes, st')) :
    ClLoI lo o' st' :=
  parseUIntVal_more b o lo st hfit hlo h (parseCLenVal_under' b o st hr (fun hh => by cases hh))

/-! #### CSeq: lower bound and nesting (5) -/

/-- **CSeq nesting**: the value starts at or after `lo`; the number starts where the value starts and ends at or
    before the start of the method; the method ends where the value ends -/
structure CsNest (lo : Nat) (st : PCSeqBody) : Prop where
  lo : lo ≤ st.v.offs
  cseqO : st.cseq.offs = st.v.offs
  order : st.cseq.offs + st.cseq.len ≤ st.method.offs
  methE : st.method.offs + st.method.len = st.v.offs + st.v.len

/-- lower-bound invariant of the CSeq object at loop position `i`, by state: in the number, its saved start lies in
    `[lo, i]`; behind the number, the value so far IS the number and ends at or before `i`; in the method, the number
    ends at or before the saved start of the method; finished, the fields nest (`CsNest`) -/
def CsLoI (lo i : Nat) (st : PCSeqBody) : Prop :=
  (st.state = .foundDigit → lo ≤ st.soffs ∧ st.soffs ≤ i) ∧
  (st.state = .endDigit → lo ≤ st.v.offs ∧ st.cseq = st.v ∧ st.v.offs + st.v.len ≤ i) ∧
  (st.state = .foundMethod →
    lo ≤ st.v.offs ∧ st.cseq.offs = st.v.offs ∧ st.cseq.offs + st.cseq.len ≤ st.soffs ∧ st.soffs ≤ i) ∧
  (st.state = .fend ∨ st.state = .fin → CsNest lo st)

theorem CsLoI.mono {lo i j : Nat} {st : PCSeqBody} (h : CsLoI lo i st) (hij : i ≤ j) : CsLoI lo j st :=
  ⟨fun hs => ⟨(h.1 hs).1, Nat.le_trans (h.1 hs).2 hij⟩,
   fun hs => ⟨(h.2.1 hs).1, (h.2.1 hs).2.1, Nat.le_trans (h.2.1 hs).2.2 hij⟩,
   fun hs => ⟨(h.2.2.1 hs).1, (h.2.2.1 hs).2.1, (h.2.2.1 hs).2.2.1, Nat.le_trans (h.2.2.1 hs).2.2.2 hij⟩, h.2.2.2⟩

theorem CsLoI_init (lo i : Nat) (st : PCSeqBody) (h : st.state = .init) : CsLoI lo i st := by
  simp [CsLoI, h]

theorem csSetMethod_nest (lo i : Nat) (st : PCSeqBody) (hi : i < 65536) (h1 : lo ≤ st.v.offs)
    (h2 : st.cseq.offs = st.v.offs) (h3 : st.cseq.offs + st.cseq.len ≤ st.soffs) (h4 : st.soffs ≤ i) :
    CsNest lo (csSetMethod st i) := by
  obtain ⟨e1, e2⟩ := flo_extend_end st.v i (by omega) hi
  obtain ⟨m1, m2⟩ := flo_set_end st.soffs i h4 hi
  unfold csSetMethod
  exact ⟨by rw [e1]; exact h1, by rw [e1]; exact h2, by rw [m1]; exact h3, by rw [m2, e2]⟩

theorem csFinish_lo (lo : Nat) (st : PCSeqBody) (b : Buf) (n crl : Nat) (h : CsNest lo st)
    (hok : (csFinish st b n crl).2.1 = .ok) : CsNest lo (csFinish st b n crl).2.2 := by
  unfold csFinish at hok ⊢
  simp only at hok ⊢
  split
  · rename_i hc; rw [if_pos hc] at hok; cases hok
  · split <;> exact ⟨h.lo, h.cseqO, h.order, h.methE⟩

theorem csEOH_lo (b : Buf) (lo i n crl : Nat) (st : PCSeqBody) (hi : i < 65536) (h : CsLoI lo i st)
    (hok : (csEOH b st i n crl).2.1 = .ok) : CsNest lo (csEOH b st i n crl).2.2 := by
  unfold csEOH at hok ⊢
  cases hst : st.state <;> rw [hst] at hok <;> simp only at hok ⊢
  · cases hok
  · cases hok
  · cases hok
  · obtain ⟨a1, a2, a3, a4⟩ := h.2.2.1 hst
    exact csFinish_lo lo _ b n crl (csSetMethod_nest lo i st hi a1 a2 a3 a4) hok
  · exact csFinish_lo lo _ b n crl (h.2.2.2 (Or.inl hst)) hok
  · cases hok

theorem csStep_lo (b : Buf) (i lo : Nat) (c : UInt8) (st : PCSeqBody) (hfit : b.size ≤ 65535) (hb : b[i]? = some c)
    (hlo : lo ≤ i) (h : CsLoI lo i st) :
    StepAll2 (fun j s => lo ≤ j ∧ CsLoI lo j s) (LoMT (CsNest lo) (CsLoI lo)) (csStep b i c st) := by
  have hlt := get?_lt hb
  have key : ∀ s1 : PCSeqBody, CsLoI lo i s1 →
      StepAll2 (fun j s => lo ≤ j ∧ CsLoI lo j s) (LoMT (CsNest lo) (CsLoI lo)) (lwsStd b i s1 (csEOH b) id) :=
    fun s1 h1 => lwsStd_lo b i lo s1 (csEOH b) _ _ (by omega) hlo (fun j a1 => h1.mono a1) (csEOH_ne_more b s1 i)
      (fun n crl => csEOH_lo b lo i n crl s1 (by omega) h1)
  have hnext : lo ≤ i + 1 ∧ CsLoI lo (i + 1) st := ⟨by omega, h.mono (by omega)⟩
  have herr : ∀ {e : Err} {s : PCSeqBody}, e ≠ .ok → e ≠ .moreBytes → LoMT (CsNest lo) (CsLoI lo) i e s :=
    fun h1 h2 => .err h1 h2
  -- the step `endDigit → foundMethod` (first byte of the method)
  have hmeth : st.state = .endDigit →
      lo ≤ i + 1 ∧ CsLoI lo (i + 1) { st with state := .foundMethod, soffs := i } := by
    intro hst
    obtain ⟨a1, a2, a3⟩ := h.2.1 hst
    refine ⟨by omega, (fun hh => by cases hh), (fun hh => by cases hh), (fun _ => ⟨a1, ?_, ?_, Nat.le_succ i⟩),
      (fun hh => by rcases hh with hh | hh <;> cases hh)⟩
    · show st.cseq.offs = st.v.offs
      rw [a2]
    · show st.cseq.offs + st.cseq.len ≤ i
      rw [a2]; exact a3
  have t := csStep_tr b i c st
  generalize csStep b i c st = r at t ⊢
  cases t with
  | lws => exact key _ h
  | lwsNum _ hst =>
    obtain ⟨a1, a2⟩ := h.1 hst
    have hso : (PField.set st.soffs i).offs = st.soffs := flo_set_offs _ _ (by omega)
    refine key _ ⟨(fun hh => by cases hh), (fun _ => ⟨?_, rfl, ?_⟩), (fun hh => by cases hh),
      (fun hh => by rcases hh with hh | hh <;> cases hh)⟩
    · show lo ≤ (PField.set st.soffs i).offs
      rw [hso]; exact a1
    · exact set_inside st.soffs i i a2 (Nat.le_refl _)
  | lwsMeth _ hst =>
    obtain ⟨a1, a2, a3, a4⟩ := h.2.2.1 hst
    have hn := csSetMethod_nest lo i st (by omega) a1 a2 a3 a4
    exact key _ ⟨(fun hh => by cases hh), (fun hh => by cases hh), (fun hh => by cases hh),
      (fun _ => ⟨hn.lo, hn.cseqO, hn.order, hn.methE⟩)⟩
  | digit0 =>
    exact ⟨by omega, (fun _ => ⟨hlo, Nat.le_succ i⟩), (fun hh => by cases hh), (fun hh => by cases hh),
      (fun hh => by rcases hh with hh | hh <;> cases hh)⟩
  | digit _ _ hst =>
    exact ⟨by omega, (fun _ => ⟨(h.1 hst).1, Nat.le_succ_of_le (h.1 hst).2⟩), (fun hh => by rw [hst] at hh; cases hh),
      (fun hh => by rw [hst] at hh; cases hh), (fun hh => by rw [hst] at hh; rcases hh with hh | hh <;> cases hh)⟩
  | tooBig | bad => exact herr (by decide) (by decide)
  | meth0 _ hst => exact hmeth hst
  | skip => exact hnext

/-- **CSeq, lower bound and nesting (5)**: after OK the CSeq value starts at or after `lo`, the number starts where
    the value starts and ends at or before the method, and the method ends where the value ends; after MoreBytes the
    invariant holds again at the returned offset -/
theorem parseCSeqVal_lom (b : Buf) (o lo : Nat) (st : PCSeqBody) (hfit : b.size ≤ 65535) (hlo : lo ≤ o)
    (h : CsLoI lo o st) : LoMT (CsNest lo) (CsLoI lo) (parseCSeqVal b o st).1 (parseCSeqVal b o st).2.1
      (parseCSeqVal b o st).2.2 := by
  unfold parseCSeqVal
  split
  · rename_i hf; exact ⟨fun _ => h.2.2.2 (Or.inr hf), fun hh => by cases hh⟩
  · exact runLoop_safe2 csMachine b (fun j s => lo ≤ j ∧ CsLoI lo j s) _ cs_progress
      (fun i c s hb hs => csStep_lo b i lo c s hfit hb hs.1 hs.2) (fun i s hs => ⟨(fun hh => by cases hh), fun _ => hs.2⟩) o st ⟨hlo, h⟩

theorem parseCSeqVal_lo (b : Buf) (o lo : Nat) (st : PCSeqBody) (hfit : b.size ≤ 65535) (hlo : lo ≤ o)
    (h : CsLoI lo o st) {o' : Nat} {st' : PCSeqBody} (hr : parseCSeqVal b o st = (o', .ok, st')) :
    CsNest lo st' :=
  (parseCSeqVal_lom b o lo st hfit hlo h).ok hr

theorem parseCSeqVal_more (b : Buf) (o lo : Nat) (st : PCSeqBody) (hfit : b.size ≤ 65535) (hlo : lo ≤ o)
    (h : CsLoI lo o st) {o' : Nat} {st' : PCSeqBody} (hr : parseCSeqVal b o st = (o', .moreBytes, st')) :
    CsLoI lo o' st' :=
  (parseCSeqVal_lom b o lo st hfit hlo h).more hr

/-! #### Contact / P-Asserted-Identity value lists -/

/-- lower bounds of a contact list: the running extent of the header value starts at or after `lo` (the start of
    the value of the current header line) unless it is empty; every stored value starts at or after `s` -/
structure CtLo (lo s : Nat) (c : PContacts) : Prop where
  lhv : FLo lo c.lastHVal
  stored : ∀ k, k < c.n → k < c.vals.size → s ≤ c.vals[k]!.v.offs

/-- the loop over a one-value parser that is ParseNameAddrPVal underneath (`NaOne`: both lists), from a clean list whose
    current slot is new -/
theorem valsLoop_lo {one : Buf → Nat → PFromBody → Nat × Err × PFromBody} (hone : NaOne one) (b : Buf)
    (offs lo s : Nat) (c : PContacts) (hfit : b.size ≤ 65535) (hs : s ≤ lo) (hlo : lo ≤ offs) (hcl : CtClean c)
    (hcur : c.cur = {}) (h : CtLo lo s c) : CtLo lo s (valsLoop one b offs c).2.2 := by
  refine valsLoop_inv one b (fun offs c => lo ≤ offs ∧ CtClean c ∧ c.cur = {} ∧ CtLo lo s c) (fun r => CtLo lo s r.2.2)
    (fun offs c ⟨hlo, hcl, hcur, h⟩ => ?_) offs c ⟨hlo, hcl, hcur, h⟩
  unfold valsStep
  rcases hp : one b offs c.cur with ⟨next, e1, pf⟩
  obtain ⟨ht, e0, hp0, hok0, hmv0, _⟩ := hone hp
  have hvd : VDone offs e0 pf :=
    parseNameAddrPVal_vlo ht b offs offs c.cur hfit (Nat.le_refl _) (by rw [hcur]; decide) (Or.inl (by rw [hcur])) hp0
  have s1 := setCur_scalars c pf
  have hset : CtLo lo s (c.setCur pf) :=
    ⟨by rw [s1.2.2.2.1]; exact h.lhv, fun k hk hsz => by
      rw [setCur_n] at hk; rw [setCur_size] at hsz
      rw [setCur_vals_ne c pf k (by omega)]; exact h.stored k hk hsz⟩
  have hacc : Err.complete e0 → CtLo lo s ((c.setCur pf).account pf) := by
    intro hc
    have hv := hvd.1 hc
    refine ⟨by rw [account_lhv]; exact hset.lhv.account (by omega), ?_⟩
    intro k hk hsz
    rw [account_n, setCur_n] at hk
    rw [account_vals, setCur_size] at hsz
    rw [account_vals]
    exact setCur_storedP (fun p => s ≤ p.v.offs) c pf h.stored (by omega) k hk hsz
  cases e1 <;> simp only
  case ok => exact hacc (Or.inl (hok0 rfl))
  case moreValues =>
    have hcl' := next_clean c pf hcl
    have hL : CtLo lo s (c.next pf) := by
      have := hacc (Or.inr (hmv0 rfl))
      unfold PContacts.next; split
      · exact this
      · exact ⟨this.lhv, this.stored⟩
    by_cases hg : offs < next ∧ next ≤ b.size
    · rw [if_pos hg]; exact ⟨by omega, hcl'.1, hcl'.2, hL⟩
    · rw [if_neg hg]; exact hL
  case moreBytes => exact hset
  all_goals
    split
    · exact hset
    · exact ⟨h.lhv, h.stored⟩

/-- the value list of a new header line at `o`, either list (`NaOne one`): the running extent starts at or after `o`,
    the stored values keep their lower bound `s ≤ o` -/
theorem valsAll_new_lo {one : Buf → Nat → PFromBody → Nat × Err × PFromBody} (hone : NaOne one) (b : Buf) (o s : Nat)
    (c : PContacts) (k : Nat) (hfit : b.size ≤ 65535) (hs : s ≤ o) (hcl : CtClean c.wrap) (hcur : c.wrap.cur = {})
    (hst : ∀ j, j < c.n → j < c.vals.size → s ≤ c.vals[j]!.v.offs) :
    CtLo o s (valsAll one b o { c with hNo := k, lastHVal := {} }).2.2 := by
  unfold valsAll
  rw [bump_wrap]
  obtain ⟨a1, a2, _⟩ := wrap_scalars c
  exact valsLoop_lo hone b o o s _ hfit hs (Nat.le_refl _) hcl hcur ⟨FLo_zero o, by
    show ∀ j, j < c.wrap.n → j < c.wrap.vals.size → s ≤ c.wrap.vals[j]!.v.offs
    rw [a1, a2]; exact hst⟩

/-- **Contact, lower bounds**: parsing the value list of a new Contact header line at offset `o`: the reported
    extent of the header value is empty or starts at or after `o`; stored values keep their lower bound `s ≤ o` -/
theorem parseAllContactValues_new_lo (b : Buf) (o s : Nat) (c : PContacts) (k : Nat) (hfit : b.size ≤ 65535)
    (hs : s ≤ o) (hI : CtIdle b c) (hst : ∀ j, j < c.n → j < c.vals.size → s ≤ c.vals[j]!.v.offs) :
    CtLo o s (parseAllContactValues b o { c with hNo := k, lastHVal := {} }).2.2 := by
  rw [parseAllContactValues_eq_valsAll]; exact valsAll_new_lo naOne_contact b o s c k hfit hs hI.clean hI.cur hst

structure PaLo (lo s : Nat) (c : PPAIs) : Prop where
  lhv : FLo lo c.lastHVal
  stored : ∀ k, k < c.n → k < c.vals.size → s ≤ c.vals[k]!.v.offs

/-- **P-Asserted-Identity, lower bounds** -/
theorem parseAllPAIValues_new_lo (b : Buf) (o s : Nat) (c : PPAIs) (k : Nat) (hfit : b.size ≤ 65535)
    (hs : s ≤ o) (hI : PaIdle b c) (hst : ∀ j, j < c.n → j < c.vals.size → s ≤ c.vals[j]!.v.offs) :
    PaLo o s (parseAllPAIValues b o { c with hNo := k, lastHVal := {} }).2.2 := by
  rw [parseAllPAIValues_eq_valsAll]
  have := valsAll_new_lo naOne_pai b o s c.toCt k hfit hs (by have := hI.clean; rwa [PPAIs.wrap_eq] at this)
    (by have := hI.cur; rwa [PPAIs.wrap_eq] at this) hst
  exact ⟨this.lhv, this.stored⟩

/-! ### (2b) the header-value dispatch -/

/-- **lower bounds of the header-values object between header lines** of a one-shot parse that started at `s` from a
    fresh object: every value object is untouched or finished; what was reported starts at or after `s`; the CSeq
    fields nest -/
structure HvLo (s : Nat) (hv : PHdrVals) : Prop where
  fromQ : hv.from_.state = .init ∨ hv.from_.state = .fin
  fromL : VLo s hv.from_
  toQ : hv.to.state = .init ∨ hv.to.state = .fin
  toL : VLo s hv.to
  callidQ : hv.callid.state = .init ∨ hv.callid.state = .fin
  callidL : hv.callid.state = .fin → s ≤ hv.callid.callID.offs
  cseqQ : hv.cseq.state = .init ∨ hv.cseq.state = .fin
  cseqL : hv.cseq.state = .fin → CsNest s hv.cseq
  clenQ : hv.clen.state = .init ∨ hv.clen.state = .fin
  clenL : hv.clen.state = .fin → s ≤ hv.clen.sVal.offs
  expiresQ : hv.expires.state = .init ∨ hv.expires.state = .fin
  expiresL : hv.expires.state = .fin → s ≤ hv.expires.sVal.offs
  ct : CtLo s s hv.contacts
  pa : PaLo s s hv.pais

theorem flo_beq_ok : (Err.ok == Err.ok) = true := by decide

theorem CsNest.mono {lo lo' : Nat} {st : PCSeqBody} (h : CsNest lo st) (hl : lo' ≤ lo) : CsNest lo' st :=
  ⟨by have := h.lo; omega, h.cseqO, h.order, h.methE⟩

/-- a value that the dispatch selects has not been parsed yet (the two value lists are always selected) -/
theorem valKind_fresh {h : Hdr} {hv : PHdrVals} {S : HState} (hk : valKind h hv = some S) :
    (S = .hFrom → hv.from_.state ≠ .fin) ∧ (S = .hTo → hv.to.state ≠ .fin) ∧ (S = .hCallID → hv.callid.state ≠ .fin) ∧
    (S = .hCSeq → hv.cseq.state ≠ .fin) ∧ (S = .hCLen → hv.clen.state ≠ .fin) ∧
    (S = .hExpires → hv.expires.state ≠ .fin) := by
  rcases valKind_eq_some_iff.1 hk with ⟨rfl, _, hp⟩ | ⟨rfl, _, hp⟩ | ⟨rfl, _, hp⟩ | ⟨rfl, _, hp⟩ | ⟨rfl, _, hp⟩ | ⟨rfl, _⟩ |
    ⟨rfl, _, hp⟩ | ⟨rfl, _⟩
  all_goals simp_all [PFromBody.parsed, PCallIDBody.parsed, PCSeqBody.parsed, PUIntBody.parsed]

/-- **lower bounds after a typed value parser said OK** on a new header line, all eight kinds: the values object
    keeps / gets its lower bounds `≥ s`, the reported value starts at or after `o` -/
theorem valCall_lo (S : HState) (b : Buf) (o s : Nat) (hv : PHdrVals) (hfit : b.size ≤ 65535) (hso : s ≤ o)
    (ho : o ≤ b.size) (hisv : S.isVal)
    (hf : (S = .hFrom → hv.from_.state ≠ .fin) ∧ (S = .hTo → hv.to.state ≠ .fin) ∧
      (S = .hCallID → hv.callid.state ≠ .fin) ∧ (S = .hCSeq → hv.cseq.state ≠ .fin) ∧
      (S = .hCLen → hv.clen.state ≠ .fin) ∧ (S = .hExpires → hv.expires.state ≠ .fin))
    (L : HvLo s hv) (hct : CtIdle b hv.contacts) (hpa : PaIdle b hv.pais)
    {n : Nat} {V : PField} {hv2 : PHdrVals} (hr : valCall S .bodyStart b o hv = (n, .ok, V, hv2)) :
    HvLo s hv2 ∧ FLo o V := by
  obtain ⟨f1, f2, f3, f4, f5, f6⟩ := hf
  refine valCall_cases (M := fun _ e V hv2 => e = .ok → HvLo s hv2 ∧ FLo o V)
    (from_ := fun hS n e g hq he => ?from_) (to := fun hS n e g hq he => ?to)
    (callID := fun hS n e g hq he => ?callID) (cseq := fun hS n e g hq he => ?cseq)
    (clen := fun hS n e g hq he => ?clen) (contact := fun hS n e g hq he => ?contact)
    (expires := fun hS n e g hq he => ?expires) (pai := fun hS n e g hq he => ?pai)
    (other := fun h => absurd hisv h) hr rfl
  all_goals subst hS he
  case from_ =>
    have hv1 := (parseNameAddrPVal_vlo HdrFrom b o o hv.from_ hfit (Nat.le_refl _) (f1 rfl)
      (Or.inl (L.fromQ.resolve_right (f1 rfl))) hq).1 (Or.inl rfl)
    exact ⟨{ L with fromQ := Or.inr (parseNameAddrPVal_post HdrFrom b o hv.from_ hq (Or.inl rfl)).1,
                    fromL := Or.inr (Nat.le_trans hso hv1) }, Or.inr hv1⟩
  case to =>
    have hv1 := (parseNameAddrPVal_vlo HdrTo b o o hv.to hfit (Nat.le_refl _) (f2 rfl)
      (Or.inl (L.toQ.resolve_right (f2 rfl))) hq).1 (Or.inl rfl)
    exact ⟨{ L with toQ := Or.inr (parseNameAddrPVal_post HdrTo b o hv.to hq (Or.inl rfl)).1,
                    toL := Or.inr (Nat.le_trans hso hv1) }, Or.inr hv1⟩
  case callID =>
    have hv1 := parseCallIDVal_lo b o o hv.callid hfit (Nat.le_refl _) (CiLoI_init o o _ (L.callidQ.resolve_right (f3 rfl))) hq
    exact ⟨{ L with callidQ := Or.inr (parseCallIDVal_post b o hv.callid ho hq).2.2.1,
                    callidL := fun _ => Nat.le_trans hso hv1 }, Or.inr hv1⟩
  case cseq =>
    have hv1 := parseCSeqVal_lo b o o hv.cseq hfit (Nat.le_refl _) (CsLoI_init o o _ (L.cseqQ.resolve_right (f4 rfl))) hq
    exact ⟨{ L with cseqQ := Or.inr (parseCSeqVal_post b o hv.cseq ho hq).2.2.1, cseqL := fun _ => hv1.mono hso },
      Or.inr hv1.lo⟩
  case clen =>
    have hv1 := parseCLenVal_lo b o o hv.clen hfit (Nat.le_refl _) (ClLoI_init o o _ (L.clenQ.resolve_right (f5 rfl))) hq
    exact ⟨{ L with clenQ := Or.inr (parseCLenVal_post b o hv.clen ho hq).2.2.1,
                    clenL := fun _ => Nat.le_trans hso hv1 }, Or.inr hv1⟩
  case contact =>
    have hS := parseAllContactValues_new_lo b o s hv.contacts (hv.contacts.hNo + 1) hfit hso hct L.ct.stored
    rw [show { hv.contacts with hNo := hv.contacts.hNo + 1, lastHVal := {} } = ctArg .bodyStart hv.contacts from rfl, hq] at hS
    exact ⟨{ L with ct := ⟨hS.lhv.mono hso, hS.stored⟩ }, hS.lhv⟩
  case expires =>
    have hv1 := parseUIntVal_lo b o o hv.expires hfit (Nat.le_refl _) (ClLoI_init o o _ (L.expiresQ.resolve_right (f6 rfl))) hq
    exact ⟨{ L with expiresQ := Or.inr (parseUIntVal_post b o hv.expires ho hq).2.2.1,
                    expiresL := fun _ => Nat.le_trans hso hv1 }, Or.inr hv1⟩
  case pai =>
    have hS := parseAllPAIValues_new_lo b o s hv.pais (hv.pais.hNo + 1) hfit hso hpa L.pa.stored
    rw [show { hv.pais with hNo := hv.pais.hNo + 1, lastHVal := {} } = paArg .bodyStart hv.pais from rfl, hq] at hS
    exact ⟨{ L with pa := ⟨hS.lhv.mono hso, hS.stored⟩ }, hS.lhv⟩

/-! ### (2c) the header line -/

/-- **a header lies in its own line, which starts at `o`**: the name starts exactly at `o` and is not empty; the
    value is empty (unset values are `⟨0,0⟩`) or starts after the end of the name -/
structure HdrLo (o : Nat) (h : Hdr) : Prop where
  nameO : h.name.offs = o
  nameNE : 0 < h.name.len
  nv : h.val.len = 0 ∨ h.name.offs + h.name.len < h.val.offs

/-- what the lower-bound proof assumes about the header values passed to ParseHdrLine for a new line -/
def HbLo (b : Buf) (s : Nat) (hb : Option PHdrVals) : Prop :=
  ∀ hv, hb = some hv → HvLo s hv ∧ CtIdle b hv.contacts ∧ PaIdle b hv.pais

/-- loop invariant of ParseHdrLine for a line that starts at `o` (one-shot: from the initial state) -/
structure HlLoI (b : Buf) (o s i : Nat) (st : HLσ) : Prop where
  oi : o ≤ i
  hb : HbLo b s st.2
  gen : st.1.state = .init ∨ st.1.state = .name ∨ st.1.state = .nameEnd ∨ st.1.state = .bodyStart ∨
    st.1.state = .val ∨ st.1.state = .valEnd
  ini : st.1.state = .init → i = o ∧ st.1.val.len = 0
  nam : st.1.state = .name → st.1.name.offs = o ∧ st.1.val.len = 0
  col : st.1.state = .nameEnd ∨ st.1.state = .bodyStart →
    st.1.name.offs = o ∧ 0 < st.1.name.len ∧ st.1.name.offs + st.1.name.len < i ∧ st.1.val.len = 0
  vl : st.1.state = .val ∨ st.1.state = .valEnd →
    st.1.name.offs = o ∧ 0 < st.1.name.len ∧ st.1.name.offs + st.1.name.len < st.1.val.offs

/-- the invariant of a pair given by its header (the fields of `HlLoI` speak of `st.1`) -/
theorem HlLoI.pair {b : Buf} {o s i : Nat} {h : Hdr} {hb : Option PHdrVals} (oi : o ≤ i) (hH : HbLo b s hb)
    (gen : h.state = .init ∨ h.state = .name ∨ h.state = .nameEnd ∨ h.state = .bodyStart ∨ h.state = .val ∨
      h.state = .valEnd)
    (ini : h.state = .init → i = o ∧ h.val.len = 0) (nam : h.state = .name → h.name.offs = o ∧ h.val.len = 0)
    (col : h.state = .nameEnd ∨ h.state = .bodyStart →
      h.name.offs = o ∧ 0 < h.name.len ∧ h.name.offs + h.name.len < i ∧ h.val.len = 0)
    (vl : h.state = .val ∨ h.state = .valEnd → h.name.offs = o ∧ 0 < h.name.len ∧ h.name.offs + h.name.len < h.val.offs) :
    HlLoI b o s i (h, hb) :=
  ⟨oi, hH, gen, ini, nam, col, vl⟩

def HlLoQ (o s : Nat) : Nat → Err → HLσ → Prop := fun _ e st =>
  (e = .ok → HdrLo o st.1) ∧ (e = .ok ∨ e = .empty → ∀ hv, st.2 = some hv → HvLo s hv)

theorem HlLoQ.err {o s n : Nat} {e : Err} {st : HLσ} (h1 : e ≠ .ok) (h2 : e ≠ .empty) : HlLoQ o s n e st :=
  ⟨fun hh => absurd hh h1, fun hh => by rcases hh with hh | hh; exact absurd hh h1; exact absurd hh h2⟩

theorem HbLo.hv {b : Buf} {s : Nat} {hb : Option PHdrVals} (h : HbLo b s hb) : ∀ hv, hb = some hv → HvLo s hv :=
  fun hv hh => (h hv hh).1

/-- the invariant of a pair whose header is after the name (white space, or the colon seen) -/
theorem HlLoI.of_col {b : Buf} {o s j : Nat} {h2 : Hdr} {hb : Option PHdrVals}
    (hs : h2.state = .nameEnd ∨ h2.state = .bodyStart) (oi : o ≤ j) (hH : HbLo b s hb)
    (hn : h2.name.offs = o ∧ 0 < h2.name.len ∧ h2.name.offs + h2.name.len < j ∧ h2.val.len = 0) :
    HlLoI b o s j (h2, hb) :=
  HlLoI.pair oi hH (hs.elim (fun a => Or.inr (Or.inr (Or.inl a))) (fun a => Or.inr (Or.inr (Or.inr (Or.inl a)))))
    (fun hh => by rcases hs with a | a <;> rw [a] at hh <;> cases hh)
    (fun hh => by rcases hs with a | a <;> rw [a] at hh <;> cases hh) (fun _ => hn)
    (fun hh => by rcases hs with a | a <;> rw [a] at hh <;> rcases hh with hh | hh <;> cases hh)

/-- … whose header is at a token of a generically scanned value -/
theorem HlLoI.of_val {b : Buf} {o s j : Nat} {h2 : Hdr} {hb : Option PHdrVals} (hs : h2.state = .val) (oi : o ≤ j)
    (hH : HbLo b s hb) (hn : h2.name.offs = o ∧ 0 < h2.name.len ∧ h2.name.offs + h2.name.len < h2.val.offs) :
    HlLoI b o s j (h2, hb) :=
  HlLoI.pair oi hH (Or.inr (Or.inr (Or.inr (Or.inr (Or.inl hs))))) (fun hh => by rw [hs] at hh; cases hh)
    (fun hh => by rw [hs] at hh; cases hh) (fun hh => by rw [hs] at hh; rcases hh with hh | hh <;> cases hh)
    (fun _ => hn)

/-- what `HlLoI` knows of the header an iteration has made of `h` (`HlMid`) by the time the scan stands at `p`: after
    the name (non-empty: known of `h`, or just tested), and at the end of a token of the value -/
theorem HlLoI.mid {b : Buf} {o s i p : Nat} {h h1 : Hdr} {hb : Option PHdrVals} (hfit : b.size ≤ 65535)
    (hi : i < b.size) (H : HlLoI b o s i (h, hb)) (hm : HlMid b i h p h1) :
    (h1.state = .nameEnd ∨ h1.state = .bodyStart → h.state = .nameEnd ∨ h.state = .bodyStart ∨ h1.name.isEmpty = false →
      h1.name.offs = o ∧ 0 < h1.name.len ∧ h1.name.offs + h1.name.len < p + 1 ∧ h1.val.len = 0) ∧
    (h1.state = .valEnd → h1.name.offs = o ∧ 0 < h1.name.len ∧ h1.name.offs + h1.name.len < h1.val.offs) := by
  have hp := hm.range (Nat.le_of_lt hi)
  have hcol : h.state = .nameEnd ∨ h.state = .bodyStart →
      h.name.offs = o ∧ 0 < h.name.len ∧ h.name.offs + h.name.len < i ∧ h.val.len = 0 := H.col
  have hvl : h.state = .val ∨ h.state = .valEnd → h.name.offs = o ∧ 0 < h.name.len ∧ h.name.offs + h.name.len < h.val.offs :=
    H.vl
  cases hm with
  | same =>
    exact ⟨fun hs _ => by obtain ⟨a1, a2, a3, a4⟩ := hcol hs; exact ⟨a1, a2, by omega, a4⟩, fun hs => hvl (Or.inr hs)⟩
  | named hst =>
    refine ⟨fun hs => ?_, fun hs => ?_⟩
    · rcases hs with hs | hs <;> cases hs
    · cases hs
  | @nameExt h0 st h0h hs =>
    have h0o : h0.name.offs = o ∧ h0.val.len = 0 := by
      rcases h0h with ⟨rfl, hst⟩ | ⟨rfl, hst⟩
      · exact H.nam hst
      · obtain ⟨hio, hval⟩ : i = o ∧ h.val.len = 0 := H.ini hst
        exact ⟨by rw [← hio]; exact flo_set_offs i i (by omega), hval⟩
    obtain ⟨e1, e2⟩ := flo_extend_end h0.name (skipTokenDelim b i 58) (by have := H.oi; omega) (by omega)
    refine ⟨fun _ hne => ⟨e1.trans h0o.1, ?_, ?_, h0o.2⟩, fun hh => by rcases hs with rfl | rfl <;> cases hh⟩
    · have hst : h.state = .name ∨ h.state = .init := h0h.elim (fun a => Or.inl a.2) (fun a => Or.inr a.2)
      rcases hne with hh | hh | hh
      · rcases hst with a | a <;> rw [a] at hh <;> cases hh
      · rcases hst with a | a <;> rw [a] at hh <;> cases hh
      · exact flo_isEmpty_pos (by rw [hh]; decide)
    · show (h0.name.extend (skipTokenDelim b i 58)).offs + (h0.name.extend (skipTokenDelim b i 58)).len < _
      omega
  | colon hst =>
    obtain ⟨a1, a2, a3, a4⟩ := hcol (Or.inl hst)
    exact ⟨fun _ _ => ⟨a1, a2, by show h.name.offs + h.name.len < _; omega, a4⟩, fun hs => by cases hs⟩
  | valExt hst =>
    obtain ⟨a1, a2, a3⟩ := hvl (Or.inl hst)
    refine ⟨fun hs => ?_, fun _ => ⟨a1, a2, by rw [PField.extend_offs]; exact a3⟩⟩
    rcases hs with hs | hs <;> cases hs

/-- **every iteration of the ParseHdrLine loop keeps the lower-bound invariant** of a line parsed in one go: by the
    action the loop body decides on (`hlLex`), the header it hands out being an `HlMid` header of `h` -/
theorem hlStep_lo (b : Buf) (i o s : Nat) (c : UInt8) (st : HLσ) (hfit : b.size ≤ 65535) (hso : s ≤ o)
    (hb : b[i]? = some c) (H : HlLoI b o s i st) : StepAll2 (HlLoI b o s) (HlLoQ o s) (hlStep b i c st) := by
  obtain ⟨h, hv⟩ := st
  have hlt := get?_lt hb
  have hoi : o ≤ i := H.oi
  have hH : HbLo b s hv := H.hb
  have hcol : h.state = .nameEnd ∨ h.state = .bodyStart →
      h.name.offs = o ∧ 0 < h.name.len ∧ h.name.offs + h.name.len < i ∧ h.val.len = 0 := H.col
  have sp := hlLex_spec b i c h hb
  rw [hlStep_eq]
  cases ha : hlLex b i c h with
  | exit o1 e h' =>
    rw [ha] at sp
    obtain ⟨p, h1, sx⟩ := sp
    show HlLoQ o s o1 e (h', hv)
    cases sx.kind with
    | kept he =>
      exact HlLoQ.err (by rcases he with ⟨rfl, _⟩ | rfl | rfl <;> decide)
        (by rcases he with ⟨rfl, _⟩ | rfl | rfl <;> decide)
    | fin _ he =>
      rcases he with ⟨rfl, _, _⟩ | ⟨rfl, _, hs, _⟩
      · exact ⟨(fun hh => by cases hh), fun _ => hH.hv⟩
      · refine ⟨fun _ => ?_, fun _ => hH.hv⟩
        rcases hs with ⟨hs, rfl⟩ | hs
        · obtain ⟨a1, a2, _, a4⟩ := hcol (Or.inr hs)
          exact ⟨a1, a2, Or.inl a4⟩
        · obtain ⟨a1, a2, a3⟩ := (H.mid hfit hlt sx.mid).2 hs
          exact ⟨a1, a2, Or.inr a3⟩
  | go i' h' =>
    rw [ha] at sp
    obtain ⟨p, h1, sg⟩ := sp
    have hpr := sg.mid.range (Nat.le_of_lt hlt)
    have hpi := sg.pos_lt
    have hi' := sg.le_size
    show HlLoI b o s i' (h', hv)
    cases sg.kind with
    | nameEnd hs hne =>
      exact .of_col (Or.inl hs) (by omega) hH ((H.mid hfit hlt sg.mid).1 (Or.inl hs) (Or.inr (Or.inr hne)))
    | first n crl hsk hs hh =>
      subst hh
      obtain ⟨a1, a2, a3, _⟩ := hcol (Or.inr hs)
      have hr := skipLWS_range b p 0 hsk
      exact .of_val rfl (by omega) hH ⟨a1, a2, by
        show h1.name.offs + h1.name.len < (PField.set n n).offs
        rw [flo_set_offs n n (by omega)]; omega⟩
    | next n crl hsk hs => exact .of_val rfl (by omega) hH ((H.mid hfit hlt sg.mid).2 hs)
  | colon j h' =>
    rw [ha] at sp
    obtain ⟨p, sc⟩ := sp
    obtain rfl := sc.pos
    have hs := sc.state
    have hp := sc.pos_lt_size
    have hpr := sc.mid.range (Nat.le_of_lt hlt)
    obtain ⟨a1, a2, a3, a4⟩ := (H.mid hfit hlt sc.mid).1 (Or.inr hs) (sc.named.elim Or.inl fun a => Or.inr (Or.inr a))
    show StepAll2 _ _ (hlAfterColon b (p + 1) h' hv)
    rw [hlAfterColon_nf _ _ _ _ hs]
    cases hnm : h'.name.get? b with
    | none => rw [colonDo_noname hnm]; exact HlLoQ.err (n := p + 1) (by decide) (by decide)
    | some nm =>
      have keep : HlLoI b o s (p + 1) ({ h' with type := getHdrType nm }, hv) :=
        .of_col (Or.inr hs) (by omega) hH ⟨a1, a2, a3, a4⟩
      cases hv with
      | none => rw [colonDo_nil hnm]; exact keep
      | some hv0 =>
        cases hk : valKind { h' with type := getHdrType nm } hv0 with
        | none => rw [colonDo_untyped hnm hk]; exact keep
        | some K =>
          -- the one call of a typed value parser of a line parsed in one go
          rw [colonDo_typed hnm hk]
          obtain ⟨L, hct, hpa⟩ := hH hv0 rfl
          rcases hq : valCall K .bodyStart b (p + 1) hv0 with ⟨n1, e1, V, hv1⟩
          have hne' : e1 ≠ .empty := by have := valCall_ne_empty K .bodyStart b (p + 1) hv0; rwa [hq] at this
          have hlo := fun (he : e1 = .ok) => valCall_lo K b (p + 1) s hv0 hfit (by omega) (by omega) (valKind_isVal hk)
            (valKind_fresh hk) L hct hpa (he ▸ hq)
          simp only [valSite, hlWrap, hs, hq, StepAll2]
          refine ⟨fun he => ?_, fun he => ?_⟩
          · obtain rfl : e1 = .ok := he
            simp only [flo_beq_ok, ↓reduceIte]
            exact ⟨a1, a2, (hlo rfl).2.elim Or.inl (fun c => Or.inr (by show h'.name.offs + h'.name.len < V.offs; omega))⟩
          · intro hv' hh
            cases hh
            exact (hlo (he.resolve_right hne')).1
  | value =>
    -- a line parsed in one go never starts inside a value parser
    rw [ha] at sp
    have sp : h.state.isVal := sp
    exfalso
    have hg : h.state = .init ∨ h.state = .name ∨ h.state = .nameEnd ∨ h.state = .bodyStart ∨ h.state = .val ∨
      h.state = .valEnd := H.gen
    rcases hg with g | g | g | g | g | g <;> rw [g] at sp <;> simp [HState.isVal] at sp

/-- **(2) header line** (buffers within the 65,535-byte limit): ParseHdrLine on a new header (initial state, no value
    yet) at line offset `o`: on OK the name starts exactly at `o`, is not empty, and the value — if one was set —
    starts after the end of the name; on OK / "empty line" the header values keep their lower bounds `≥ s` (`s ≤ o`
    = start of the message), the CSeq fields nest. (The value ends at or before the returned offset:
    `parseHdrLine_safe`.) -/
theorem parseHdrLine_lo (b : Buf) (o s : Nat) (h : Hdr) (hb : Option PHdrVals) (hfit : b.size ≤ 65535) (hso : s ≤ o)
    (hst : h.state = .init) (hval : h.val.len = 0) (hH : HbLo b s hb)
    {o' : Nat} {e : Err} {h' : Hdr} {hb' : Option PHdrVals} (hr : parseHdrLine b o h hb = (o', e, h', hb')) :
    (e = .ok → HdrLo o h') ∧ (e = .ok ∨ e = .empty → ∀ hv, hb' = some hv → HvLo s hv) := by
  have hrl := parseHdrLine_run.1 hr
  have := runLoop_safe2 hlMachine b (HlLoI b o s) (HlLoQ o s) hl_progress
    (fun i c st hb' hS => hlStep_lo b i o s c st hfit hso hb' hS)
    (fun i st _ => ⟨(fun hh => by cases hh), (fun hh => by rcases hh with hh | hh <;> cases hh)⟩) o (h, hb)
    ⟨Nat.le_refl _, hH, Or.inl hst, (fun _ => ⟨rfl, hval⟩), (fun hh => by rw [hst] at hh; cases hh),
     (fun hh => by rw [hst] at hh; rcases hh with hh | hh <;> cases hh),
     (fun hh => by rw [hst] at hh; rcases hh with hh | hh <;> cases hh)⟩
  rw [hrl] at this
  exact this

/-! ### (3) the header block -/

/-- per-header facts relative to the start `s` of the message: the name starts at or after `s` and is not empty; the
    value is empty or starts after the end of the name -/
def HdrSp (s : Nat) (h : Hdr) : Prop :=
  s ≤ h.name.offs ∧ 0 < h.name.len ∧ (h.val.len = 0 ∨ h.name.offs + h.name.len < h.val.offs)

/-- **lower bounds and order of the stored headers**: every stored header (and every first-of-type shortcut that is
    set) satisfies `HdrSp s`; stored headers appear in message order without overlap: for `j < k` the name and the
    value of header `j` end at or before the start of the name of header `k` -/
structure HlsLo (s : Nat) (hl : HdrLst) : Prop where
  stored : ∀ k, k < hl.n → k < hl.hdrs.size → HdrSp s hl.hdrs[k]!
  order : ∀ j k, j < k → k < hl.n → k < hl.hdrs.size → HdrBefore hl.hdrs[k]!.name.offs hl.hdrs[j]!
  short : ∀ j, j < hl.h.size → hl.h[j]! = {} ∨ HdrSp s hl.h[j]!

theorem HlsLo.next {s offs : Nat} {hl : HdrLst} (L : HlsLo s hl) (hin : HlsIn offs hl) (g : Hdr) (hg : HdrLo offs g)
    (hso : s ≤ offs) : HlsLo s ((hl.setCur g).accept g) := by
  have hgs : HdrSp s g := ⟨by rw [hg.nameO]; exact hso, hg.nameNE, hg.nv⟩
  refine ⟨stored_next g hgs L.stored, fun j k hjk h1 h2 => ?_,
    accept_allP (fun h => h = {} ∨ HdrSp s h) _ g (Or.inr hgs) (by rw [(hlSetCur_scalars hl g).2]; exact L.short)⟩
  -- the new header starts where every stored one has ended
  rw [accept_n, hlSetCur_n] at h1; rw [accept_hdrs, hlSetCur_size] at h2; rw [accept_hdrs]
  have hj2 : j < hl.hdrs.size := by omega
  rw [hlSetCur_ne hl g j (by omega)]
  by_cases hkn : hl.n = k
  · subst hkn; rw [hlSetCur_get_n hl g h2, hg.nameO]; exact hin.stored j hjk hj2
  · rw [hlSetCur_ne hl g k hkn]; exact L.order j k hjk (by omega) h2

theorem HlsLo.setCur {s : Nat} {hl : HdrLst} (L : HlsLo s hl) (g : Hdr) : HlsLo s (hl.setCur g) := by
  refine ⟨stored_setCur g L.stored, fun j k hjk h1 h2 => ?_, by rw [(hlSetCur_scalars hl g).2]; exact L.short⟩
  rw [hlSetCur_n] at h1; rw [hlSetCur_size] at h2
  rw [hlSetCur_ne hl g k (by omega), hlSetCur_ne hl g j (by omega)]; exact L.order j k hjk h1 h2

/-- **(3) header block** (buffers within the 65,535-byte limit): ParseHeaders, one call from a list whose current slot
    is fresh, at an offset `≥ s`: on OK the stored headers keep / get their lower bounds and their order, and the
    header values keep / get their lower bounds -/
theorem parseHeaders_lo (b : Buf) (offs s : Nat) (hl : HdrLst) (hb : Option PHdrVals) (hfit : b.size ≤ 65535)
    (hok1 : hlsOK b hl) (hok2 : hbOK b offs hb) (hpe : hlsPend hl hb) (ho : offs ≤ b.size)
    (H : HlsSafe b offs hl hb) (hso : s ≤ offs) (hcur : hl.cur = {}) (L : HlsLo s hl)
    (LV : ∀ hv, hb = some hv → HvLo s hv) :
    (parseHeaders b offs hl hb).2.1 = .ok →
      HlsLo s (parseHeaders b offs hl hb).2.2.1 ∧ ∀ hv, (parseHeaders b offs hl hb).2.2.2 = some hv → HvLo s hv := by
  refine parseHeaders_ind b
    (J := fun o hl hb => s ≤ o ∧ hl.cur = {} ∧ HlsLegit b o hl hb ∧ HlsLo s hl ∧ ∀ hv, hb = some hv → HvLo s hv)
    (R := fun r => r.2.1 = .ok → HlsLo s r.2.2.1 ∧ ∀ hv, r.2.2.2 = some hv → HvLo s hv)
    (line := ?_) (bug := fun _ _ _ _ _ _ _ _ _ hh => by cases hh) (endOk := ?_)
    (endEmpty := fun _ _ _ _ _ _ _ _ _ _ hh => by cases hh) (stop := fun _ _ _ _ _ _ _ _ _ _ h1 _ hh => absurd hh h1)
    (eob := fun _ _ _ _ _ hh => by cases hh) offs hl hb ⟨hso, hcur, ⟨hok1, hok2, hpe, ho, H⟩, L, LV⟩
  all_goals
    intro o hl hb n g hb' ⟨hso, hcur, Lg, G1, G2⟩ _ hp
    obtain ⟨lo1, lo2⟩ := parseHdrLine_lo b o s hl.cur hb hfit hso (by rw [hcur]) (by rw [hcur])
      (fun hv hh => by subst hh; exact ⟨G2 hv rfl, Lg.safe.idle hcur⟩) hp
  · intro hg
    exact ⟨by omega, flo_next_cur hl g Lg.safe.clean, ((Lg.line hfit hp).2.2.1 rfl).2, G1.next Lg.safe.inn g (lo1 rfl) hso,
      lo2 (Or.inl rfl)⟩
  · exact fun _ _ => ⟨G1.setCur g, lo2 (Or.inr rfl)⟩

/-! ### (4) the whole message -/

/-- **lower bounds, order and nesting of everything ParseSIPMsg reports, relative to the start offset `s`**:
    first line (`FlLo`), stored headers and shortcuts (`HlsLo`), header values (`HvLo`) -/
structure MsgLo (s : Nat) (m : PSIPMsg) : Prop where
  fl : FlLo s m.fl
  hl : HlsLo s m.hl
  pv : HvLo s m.pv

/-- **(4) message, one call from the initial state**: after a successful ParseSIPMsg on a legitimate object in its
    initial state whose lists are fresh, everything reported has its lower bound `≥ o` (the offset given to the
    call), the stored headers are in message order without overlap, and the CSeq fields nest -/
theorem parseSIPMsg_lo (b : Buf) (o : Nat) (m : PSIPMsg) (flags : Nat) (hfit : b.size ≤ 65535)
    (hok : msgOK2 b o m) (H : MsgSafe b o m) (hst : m.state = .init) (hcur : m.hl.cur = {}) (L : MsgLo o m)
    {o' : Nat} {m' : PSIPMsg} (hr : parseSIPMsg b o m flags = (o', .ok, m')) : MsgLo o m' := by
  obtain ⟨o1, fl1, o2, hl2, pv2, hp, hp2, rfl, rfl, rfl, _⟩ := parseSIPMsg_ok_init b o m flags hst hr
  obtain ⟨hge, _, Lg⟩ := H.afterFLine hfit hok hst hp
  have hFl := parseFLine_lo b o o m.fl hfit (Nat.le_refl _) L.fl
  rw [hp] at hFl
  have hLo := parseHeaders_lo b o1 o m.hl (some m.pv) hfit Lg.ok Lg.vals Lg.pend Lg.ho Lg.safe hge hcur L.hl
    (fun hv hh => by cases hh; exact L.pv)
  rw [hp2] at hLo
  exact ⟨hFl, (hLo rfl).1, (hLo rfl).2 _ rfl⟩

/-! #### objects produced by Init; chunk schedules -/

theorem HvLo_new (s k : Nat) : HvLo s ({ contacts := { vals := Array.replicate k {} } } : PHdrVals) :=
  ⟨Or.inl rfl, Or.inl rfl, Or.inl rfl, Or.inl rfl, Or.inl rfl, (fun hh => by cases hh), Or.inl rfl,
   (fun hh => by cases hh), Or.inl rfl, (fun hh => by cases hh), Or.inl rfl, (fun hh => by cases hh),
   ⟨FLo_zero s, (fun j hj _ => by cases hj)⟩, ⟨FLo_zero s, (fun j hj _ => by cases hj)⟩⟩

theorem HlsLo_new (s k : Nat) : HlsLo s ({ hdrs := Array.replicate k {} } : HdrLst) := by
  refine ⟨(fun j hj _ => by cases hj), (fun j k _ hk _ => by cases hk), fun j hj => Or.inl ?_⟩
  have hj' : j < 13 := by simpa using hj
  show (Array.replicate 13 ({} : Hdr))[j]! = {}
  simp [hj']

theorem MsgLo_init (s : Nat) (m : PSIPMsg) (len kh kc : Nat) (hdrs : Option Unit) (cts : Option Unit) :
    let m1 := m.init len (hdrs.map fun _ => Array.replicate kh {}) (cts.map fun _ => Array.replicate kc {})
    MsgLo s m1 ∧ m1.hl.cur = {} ∧ m1.state = .init := by
  obtain ⟨k, k', e⟩ := init_eq_initObj m len kh kc hdrs cts
  simp only [e]
  exact ⟨⟨FlLo_new s, HlsLo_new s k, HvLo_new s k'⟩, flo_cur_new k, rfl⟩

/-- **(4) one call on an object produced by Init** (any previous contents, caller arrays of any capacity or none) -/
theorem parseSIPMsg_lo_init (b : Buf) (o : Nat) (m0 : PSIPMsg) (len kh kc : Nat) (hdrs cts : Option Unit) (flags : Nat)
    (hfit : b.size ≤ 65535) (ho : o ≤ b.size) {o' : Nat} {m' : PSIPMsg}
    (hr : parseSIPMsg b o (m0.init len (hdrs.map fun _ => Array.replicate kh {}) (cts.map fun _ => Array.replicate kc {}))
      flags = (o', .ok, m')) : MsgLo o m' := by
  obtain ⟨q1, q2, q3⟩ := MsgLo_init o m0 len kh kc hdrs cts
  exact parseSIPMsg_lo b o _ flags hfit (msgOK2_init b o ho m0 len kh kc hdrs cts)
    (MsgSafe_init b o ho m0 len kh kc hdrs cts) q3 q2 q1 hr

/-- **(4) under every chunk schedule, from Init**: if the chain of resumed calls over growing prefixes ends with OK,
    the final object has all lower bounds relative to the offset the first call was given, the stored headers are in
    message order without overlap, and the CSeq fields nest -/
theorem parseSIPMsg_lo_schedule_init (flags : Nat) (o : Nat) (m0 : PSIPMsg) (len kh kc : Nat) (hdrs cts : Option Unit)
    (l : List Buf) (hg : Growing l) (hfit : ∀ x ∈ l, x.size ≤ 65535) (hne : l ≠ []) (ho : ∀ b ∈ l, o ≤ b.size)
    {o' : Nat} {m' : PSIPMsg}
    (hr : resumeRun (C01.msgP flags) o
      (m0.init len (hdrs.map fun _ => Array.replicate kh {}) (cts.map fun _ => Array.replicate kc {})) l = (o', .ok, m')) :
    MsgLo o m' := by
  obtain ⟨b, hb, h⟩ := flo_schedule_init flags o m0 len kh kc hdrs cts l hg hfit hne ho hr
  exact parseSIPMsg_lo_init b o m0 len kh kc hdrs cts flags (hfit b hb) (ho b hb) h

/-! #### the first line lies before every header -/

/-- **order of the whole message**: the first line is a request line or a status line whose fields are in order from
    the start offset `o` and end before `o1`; every stored header, every shortcut and every header value starts at or
    after `o1` (and the stored headers are in order, `HlsLo`) -/
def MsgOrd (o : Nat) (m : PSIPMsg) : Prop :=
  ∃ o1, o ≤ o1 ∧ (FlOrdReq o o1 m.fl ∨ FlOrdRpl o o1 m.fl) ∧ HlsLo o1 m.hl ∧ HvLo o1 m.pv

/-- **(4) message order, one call from the initial state** on an object whose first line, header list and header
    values are fresh (as after Init) -/
theorem parseSIPMsg_ord (b : Buf) (o : Nat) (m : PSIPMsg) (flags : Nat) (hfit : b.size ≤ 65535)
    (hok : msgOK2 b o m) (H : MsgSafe b o m) (hst : m.state = .init) (hcur : m.hl.cur = {})
    (hfl : m.fl.state = .init) (Lh : ∀ s, HlsLo s m.hl) (Lv : ∀ s, HvLo s m.pv)
    {o' : Nat} {m' : PSIPMsg} (hr : parseSIPMsg b o m flags = (o', .ok, m')) : MsgOrd o m' := by
  obtain ⟨o1, fl1, o2, hl2, pv2, hp, hp2, rfl, rfl, rfl, _⟩ := parseSIPMsg_ok_init b o m flags hst hr
  obtain ⟨hge, _, Lg⟩ := H.afterFLine hfit hok hst hp
  have hLo := parseHeaders_lo b o1 o1 m.hl (some m.pv) hfit Lg.ok Lg.vals Lg.pend Lg.ho Lg.safe (Nat.le_refl _) hcur (Lh o1)
    (fun hv hh => by cases hh; exact Lv o1)
  rw [hp2] at hLo
  exact ⟨o1, hge, parseFLine_order b o m.fl hfit hfl hp, (hLo rfl).1, (hLo rfl).2 _ rfl⟩

/-- … on an object produced by Init -/
theorem parseSIPMsg_ord_init (b : Buf) (o : Nat) (m0 : PSIPMsg) (len kh kc : Nat) (hdrs cts : Option Unit) (flags : Nat)
    (hfit : b.size ≤ 65535) (ho : o ≤ b.size) {o' : Nat} {m' : PSIPMsg}
    (hr : parseSIPMsg b o (m0.init len (hdrs.map fun _ => Array.replicate kh {}) (cts.map fun _ => Array.replicate kc {}))
      flags = (o', .ok, m')) : MsgOrd o m' := by
  have ho2 := msgOK2_init b o ho m0 len kh kc hdrs cts
  have hS := MsgSafe_init b o ho m0 len kh kc hdrs cts
  obtain ⟨k, k', e⟩ := init_eq_initObj m0 len kh kc hdrs cts
  rw [e] at hr ho2 hS
  exact parseSIPMsg_ord b o _ flags hfit ho2 hS rfl (flo_cur_new k) rfl (fun s => HlsLo_new s k) (fun s => HvLo_new s k') hr

/-- … and under every chunk schedule, from Init -/
theorem parseSIPMsg_ord_schedule_init (flags : Nat) (o : Nat) (m0 : PSIPMsg) (len kh kc : Nat) (hdrs cts : Option Unit)
    (l : List Buf) (hg : Growing l) (hfit : ∀ x ∈ l, x.size ≤ 65535) (hne : l ≠ []) (ho : ∀ b ∈ l, o ≤ b.size)
    {o' : Nat} {m' : PSIPMsg}
    (hr : resumeRun (C01.msgP flags) o
      (m0.init len (hdrs.map fun _ => Array.replicate kh {}) (cts.map fun _ => Array.replicate kc {})) l = (o', .ok, m')) :
    MsgOrd o m' := by
  obtain ⟨b, hb, h⟩ := flo_schedule_init flags o m0 len kh kc hdrs cts l hg hfit hne ho hr
  exact parseSIPMsg_ord_init b o m0 len kh kc hdrs cts flags (hfit b hb) (ho b hb) h

/-! #### the first line and the header block lie before the body -/

/-- **(4) everything reported about the first line and the headers ends at or before the start of the body**: after
    a successful ParseSIPMsg (one call from the initial state) the body starts at an offset `≥ o` and every first-line
    field, every stored header, every shortcut and every header value (`MsgRelIn`) ends at or before it -/
theorem parseSIPMsg_before_body (b : Buf) (o : Nat) (m : PSIPMsg) (flags : Nat) (hfit : b.size ≤ 65535)
    (hok : msgOK2 b o m) (H : MsgSafe b o m) (hst : m.state = .init)
    {o' : Nat} {m' : PSIPMsg} (hr : parseSIPMsg b o m flags = (o', .ok, m')) :
    o ≤ m'.body.offs ∧ MsgRelIn b m'.body.offs m' := by
  obtain ⟨o1, fl1, o2, hl2, pv2, hp, hp2, rfl, rfl, rfl, hbo⟩ := parseSIPMsg_ok_init b o m flags hst hr
  obtain ⟨hge, hF, Lg⟩ := H.afterFLine hfit hok hst hp
  obtain ⟨_, _, hM, hR, _⟩ := parseHeaders_safe b o1 m.hl (some m.pv) hfit Lg.ok Lg.vals Lg.pend Lg.ho Lg.safe
  rw [hp2] at hM hR
  have hHS := hM (Or.inr rfl)
  have hrg := hR (Or.inl rfl)
  simp only at hrg
  rw [hbo, trunc16_of_lt (by omega)]
  exact ⟨by omega, hF.mono hrg.1 hrg.2, hHS.inn, (hHS.cur.hv _ rfl).inn⟩

/-- … on an object produced by Init, one call or any chain of resumed calls -/
theorem parseSIPMsg_before_body_schedule_init (flags : Nat) (o : Nat) (m0 : PSIPMsg) (len kh kc : Nat)
    (hdrs cts : Option Unit) (l : List Buf) (hg : Growing l) (hfit : ∀ x ∈ l, x.size ≤ 65535) (hne : l ≠ [])
    (ho : ∀ b ∈ l, o ≤ b.size) {o' : Nat} {m' : PSIPMsg}
    (hr : resumeRun (C01.msgP flags) o
      (m0.init len (hdrs.map fun _ => Array.replicate kh {}) (cts.map fun _ => Array.replicate kc {})) l = (o', .ok, m')) :
    ∃ b ∈ l, o ≤ m'.body.offs ∧ MsgRelIn b m'.body.offs m' := by
  obtain ⟨b, hb, h⟩ := flo_schedule_init flags o m0 len kh kc hdrs cts l hg hfit hne ho hr
  exact ⟨b, hb, parseSIPMsg_before_body b o _ flags (hfit b hb) (msgOK2_init b o (ho b hb) m0 len kh kc hdrs cts)
    (MsgSafe_init b o (ho b hb) m0 len kh kc hdrs cts) (MsgLo_init o m0 len kh kc hdrs cts).2.2 h⟩

/-! #### what the records say, field by field -/

/-- **(2) a header lies inside its own line**: ParseHdrLine on a new header at line offset `o`, OK with returned
    offset `o'`: `o = name.offs`, the name is not empty and ends at or before `o'`, the value (if set) starts after
    the end of the name and ends at or before `o'` -/
theorem parseHdrLine_own_line (b : Buf) (o s : Nat) (h : Hdr) (hb : Option PHdrVals) (hfit : b.size ≤ 65535)
    (hso : s ≤ o) (hst : h.state = .init) (hval : h.val.len = 0) (hH : HbLo b s hb)
    (H : HlSafe b o (h, hb)) (hI : hlOK b o h hb)
    {o' : Nat} {h' : Hdr} {hb' : Option PHdrVals} (hr : parseHdrLine b o h hb = (o', .ok, h', hb')) :
    h'.name.offs = o ∧ 0 < h'.name.len ∧ h'.name.offs + h'.name.len ≤ o' ∧
    (h'.val.len = 0 ∨ h'.name.offs + h'.name.len < h'.val.offs) ∧ h'.val.offs + h'.val.len ≤ o' ∧ o' ≤ b.size := by
  have h1 := (parseHdrLine_lo b o s h hb hfit hso hst hval hH hr).1 rfl
  have h2 := (parseHdrLine_safe b o h hb hfit H hI hr).2.1 (Or.inl rfl)
  exact ⟨h1.nameO, h1.nameNE, h2.nameIn, h1.nv, h2.valIn, h2.hi⟩

/-- what `MsgLo s m` says, field by field -/
theorem MsgLo.meaning {s : Nat} {m : PSIPMsg} (h : MsgLo s m) :
    (FLo s m.fl.method ∧ FLo s m.fl.uri ∧ FLo s m.fl.version ∧ FLo s m.fl.statusCode ∧ FLo s m.fl.reason) ∧
    (∀ k, k < m.hl.n → k < m.hl.hdrs.size →
      s ≤ m.hl.hdrs[k]!.name.offs ∧ 0 < m.hl.hdrs[k]!.name.len ∧
      (m.hl.hdrs[k]!.val.len = 0 ∨ m.hl.hdrs[k]!.name.offs + m.hl.hdrs[k]!.name.len < m.hl.hdrs[k]!.val.offs)) ∧
    (∀ j k, j < k → k < m.hl.n → k < m.hl.hdrs.size →
      m.hl.hdrs[j]!.name.offs + m.hl.hdrs[j]!.name.len ≤ m.hl.hdrs[k]!.name.offs ∧
      m.hl.hdrs[j]!.val.offs + m.hl.hdrs[j]!.val.len ≤ m.hl.hdrs[k]!.name.offs) ∧
    (∀ j, j < m.hl.h.size → m.hl.h[j]! = {} ∨
      (s ≤ m.hl.h[j]!.name.offs ∧ 0 < m.hl.h[j]!.name.len ∧
       (m.hl.h[j]!.val.len = 0 ∨ m.hl.h[j]!.name.offs + m.hl.h[j]!.name.len < m.hl.h[j]!.val.offs))) ∧
    (m.pv.from_.state = .fin → s ≤ m.pv.from_.v.offs) ∧ (m.pv.to.state = .fin → s ≤ m.pv.to.v.offs) ∧
    (m.pv.callid.state = .fin → s ≤ m.pv.callid.callID.offs) ∧
    (m.pv.cseq.state = .fin → s ≤ m.pv.cseq.v.offs ∧ m.pv.cseq.cseq.offs = m.pv.cseq.v.offs ∧
      m.pv.cseq.cseq.offs + m.pv.cseq.cseq.len ≤ m.pv.cseq.method.offs ∧
      m.pv.cseq.method.offs + m.pv.cseq.method.len = m.pv.cseq.v.offs + m.pv.cseq.v.len) ∧
    (m.pv.clen.state = .fin → s ≤ m.pv.clen.sVal.offs) ∧ (m.pv.expires.state = .fin → s ≤ m.pv.expires.sVal.offs) ∧
    FLo s m.pv.contacts.lastHVal ∧
    (∀ k, k < m.pv.contacts.n → k < m.pv.contacts.vals.size → s ≤ m.pv.contacts.vals[k]!.v.offs) ∧
    FLo s m.pv.pais.lastHVal ∧
    (∀ k, k < m.pv.pais.n → k < m.pv.pais.vals.size → s ≤ m.pv.pais.vals[k]!.v.offs) := by
  refine ⟨⟨h.fl.1.method, h.fl.1.uri, h.fl.1.version, h.fl.1.statusCode, h.fl.1.reason⟩, h.hl.stored, h.hl.order,
    h.hl.short, ?_, ?_, h.pv.callidL, ?_, h.pv.clenL, h.pv.expiresL, h.pv.ct.lhv, h.pv.ct.stored, h.pv.pa.lhv,
    h.pv.pa.stored⟩
  · intro hf
    rcases h.pv.fromL with h0 | h0
    · rw [hf] at h0; cases h0
    · exact h0
  · intro hf
    rcases h.pv.toL with h0 | h0
    · rw [hf] at h0; cases h0
    · exact h0
  · intro hf
    have := h.pv.cseqL hf
    exact ⟨this.lo, this.cseqO, this.order, this.methE⟩

/-- consecutive stored headers: header `k` (name and value) ends at or before the start of the name of header `k+1` -/
theorem HlsLo.consecutive {s : Nat} {hl : HdrLst} (h : HlsLo s hl) (k : Nat) (h1 : k + 1 < hl.n)
    (h2 : k + 1 < hl.hdrs.size) :
    hl.hdrs[k]!.name.offs + hl.hdrs[k]!.name.len ≤ hl.hdrs[k + 1]!.name.offs ∧
    hl.hdrs[k]!.val.offs + hl.hdrs[k]!.val.len ≤ hl.hdrs[k + 1]!.name.offs :=
  h.order k (k + 1) (Nat.lt_succ_self k) h1 h2

/-! ### non-vacuity (tests: closed computations on the model) -/

/-- a buffer with two bytes before the message of `C01.exMsg`; the parse starts at offset 2 -/
def floExBuf : Buf := "ab".toUTF8.data ++ C01.exMsg

/-- the test run, evaluated once: the verdict and the number of stored headers -/
theorem floEx_run : (parseSIPMsg floExBuf 2 C01.exInit 0).2.1 = Err.ok ∧
    (parseSIPMsg floExBuf 2 C01.exInit 0).2.2.hl.n = 5 := by decide +kernel

example : (parseSIPMsg floExBuf 2 C01.exInit 0).2.1 = Err.ok := floEx_run.1

/-- the hypotheses of `parseSIPMsg_lo_init` are met by a concrete message at a non-zero offset -/
example : MsgLo 2 (parseSIPMsg floExBuf 2 C01.exInit 0).2.2 := by
  have hr : parseSIPMsg floExBuf 2 C01.exInit 0 = (_, .ok, _) := mlf_triple_eta _ rfl floEx_run.1
  exact parseSIPMsg_lo_init floExBuf 2 {} 0 0 0 none none 0 (by decide +kernel) (by decide +kernel) hr

/-- test: the same for the order of the whole message -/
example : MsgOrd 2 (parseSIPMsg floExBuf 2 C01.exInit 0).2.2 := by
  have hr : parseSIPMsg floExBuf 2 C01.exInit 0 = (_, .ok, _) := mlf_triple_eta _ rfl floEx_run.1
  exact parseSIPMsg_ord_init floExBuf 2 {} 0 0 0 none none 0 (by decide +kernel) (by decide +kernel) hr

/-- … and the object really has stored headers, so the order statement is not vacuous -/
example : (parseSIPMsg floExBuf 2 C01.exInit 0).2.2.hl.n = 5 := floEx_run.2

end Sipsp
