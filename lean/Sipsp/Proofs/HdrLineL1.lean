/-
  Sipsp.Proofs.HdrLineL1 — L1 (no premature verdict) for ParseHdrLine: the eight value parsers (`valCall`), the call
  site (`valSite`, `colonDo`), the loop body (over `hlLex`, HlLex) and the loop.
-/
import Sipsp.Proofs.ContactsL1
import Sipsp.Proofs.SlotArr
import Sipsp.Proofs.HlLex
import Sipsp.Proofs.CallID
import Sipsp.Proofs.UInt
import Sipsp.Proofs.ValCall

namespace Sipsp

theorem csOK_mono {b : Buf} {o o' : Nat} {st : PCSeqBody} (h : csOK b o st) (h1 : o ≤ o') (h2 : o' ≤ b.size) :
    csOK b o' st := by
  rcases h with h | h
  · exact Or.inl h
  · exact Or.inr ⟨h2, fun hh => by have := h.2.1 hh; omega, h.2.2⟩

theorem csOK_grows {b : Buf} (s : Buf) {o : Nat} {st : PCSeqBody} (h : csOK b o st) : csOK (b ++ s) o st := by
  rcases h with h | h
  · exact Or.inl h
  · exact Or.inr (csInv_grows b s o st h)

/-- legitimacy of the header-values object at offset `o` of `b`: the five components whose value parsers need a premise
    for L1 / L2 (name-addr objects that are new, finished or suspended before `o`; the CSeq invariant). Call-ID,
    Content-Length and Expires have none: their parsers are stable and resumable from every object -/
def hvOK (b : Buf) (o : Nat) (hv : PHdrVals) : Prop :=
  naOK b o hv.from_ ∧ naOK b o hv.to ∧ csOK b o hv.cseq ∧ ctOK b o hv.contacts ∧ paOK b o hv.pais

def hbOK (b : Buf) (o : Nat) : Option PHdrVals → Prop
  | none => True
  | some hv => hvOK b o hv

/-- the new header-values object over a cleared contact array of any capacity is legitimate -/
theorem hvOK_new (b : Buf) (o : Nat) (ho : o ≤ b.size) (kc : Nat) :
    hvOK b o { contacts := { vals := Array.replicate kc {} } } :=
  ⟨naOK_new b o ho, naOK_new b o ho, Or.inr ⟨ho, (fun hh => by cases hh), (fun hh => by cases hh)⟩,
   afb_ctOK_new b o ho kc, afb_paOK_new b o ho⟩

theorem replicate_hdr_get (kh k : Nat) (hk : k < (Array.replicate kh ({} : Hdr)).size) :
    (Array.replicate kh ({} : Hdr))[k]! = {} := by
  simp at hk; simp [hk]

theorem flo_cur_new (k : Nat) : (({ hdrs := Array.replicate k {} } : HdrLst)).cur = {} :=
  SlotArr.cur_replicate ({} : Hdr) k

theorem hvOK_mono {b : Buf} {o o' : Nat} {hv : PHdrVals} (h : hvOK b o hv) (h1 : o ≤ o') (h2 : o' ≤ b.size) :
    hvOK b o' hv :=
  ⟨naOK_mono h.1 h1 h2, naOK_mono h.2.1 h1 h2, csOK_mono h.2.2.1 h1 h2, ctOK_mono h.2.2.2.1 h1 h2,
   paOK_mono h.2.2.2.2 h1 h2⟩

theorem hbOK_mono {b : Buf} {o o' : Nat} {hb : Option PHdrVals} (h : hbOK b o hb) (h1 : o ≤ o') (h2 : o' ≤ b.size) :
    hbOK b o' hb := by
  cases hb with
  | none => trivial
  | some hv => exact hvOK_mono h h1 h2

theorem hvOK_grows {b : Buf} (s : Buf) {o : Nat} {hv : PHdrVals} (h : hvOK b o hv) : hvOK (b ++ s) o hv :=
  ⟨naOK_grows s h.1, naOK_grows s h.2.1, csOK_grows s h.2.2.1, ctOK_grows s h.2.2.2.1, paOK_grows s h.2.2.2.2⟩

theorem hbOK_grows {b : Buf} (s : Buf) {o : Nat} {hb : Option PHdrVals} (h : hbOK b o hb) : hbOK (b ++ s) o hb := by
  cases hb with
  | none => trivial
  | some hv => exact hvOK_grows s h

theorem ctOK_hno {b : Buf} {o : Nat} {c : PContacts} (h : ctOK b o c) (k : Nat) (f : PField) :
    ctOK b o { c with hNo := k, lastHVal := f } := h
theorem paOK_hno {b : Buf} {o : Nat} {c : PPAIs} (h : paOK b o c) (k : Nat) (f : PField) :
    paOK b o { c with hNo := k, lastHVal := f } := h

theorem ctOK_ctArg {b : Buf} {o : Nat} {c : PContacts} (h : ctOK b o c) (st : HState) : ctOK b o (ctArg st c) := by
  unfold ctArg; split
  · exact ctOK_hno h _ _
  · exact h

theorem paOK_paArg {b : Buf} {o : Nat} {c : PPAIs} (h : paOK b o c) (st : HState) : paOK b o (paArg st c) := by
  unfold paArg; split
  · exact paOK_hno h _ _
  · exact h

theorem valCall_stable (S st : HState) (b s : Buf) (o : Nat) (hv : PHdrVals) (hok : hvOK b o hv) (ho : o ≤ b.size)
    (he : (valCall S st b o hv).2.1 ≠ .moreBytes) : valCall S st (b ++ s) o hv = valCall S st b o hv := by
  obtain ⟨ok1, ok2, ok3, ok4, ok5⟩ := hok
  rcases hq : valCall S st b o hv with ⟨n, e, V, hv2⟩
  rw [hq] at he
  refine valCall_cases (M := fun n e V hv2 => e ≠ .moreBytes → valCall S st (b ++ s) o hv = (n, e, V, hv2))
    (from_ := fun hS n e f hp he => ?from_) (to := fun hS n e f hp he => ?to) (callID := fun hS n e f hp he => ?callID)
    (cseq := fun hS n e f hp he => ?cseq) (clen := fun hS n e f hp he => ?clen) (contact := fun hS n e c hp he => ?contact)
    (expires := fun hS n e f hp he => ?expires) (pai := fun hS n e c hp he => ?pai) (other := fun hS _ => ?other) hq he
  case other => exact valCall_other hS ..
  all_goals subst hS; simp only [valCall]
  case from_ => rw [parseNameAddrPVal_stable HdrFrom b s o _ ok1 hp he]
  case to => rw [parseNameAddrPVal_stable HdrTo b s o _ ok2 hp he]
  case callID => rw [parseCallIDVal_stable b s o _ hp he]
  case cseq => rw [parseCSeqVal_stable b s o _ ok3 hp he]
  case clen => rw [parseCLenVal_stable b s o _ hp he]
  case contact => rw [parseAllContactValues_stable b s o _ (ctOK_ctArg ok4 st) ho hp he]
  case expires => rw [parseUIntVal_stable b s o _ hp he]
  case pai => rw [parseAllPAIValues_stable b s o _ (paOK_paArg ok5 st) ho hp he]

theorem extend_endT_eq (p : PField) (j : Nat) (hp : p.offs < 65536) : (p.extend j).endT = trunc16 j := by
  unfold PField.extend PField.endT trunc16
  simp only
  have hj : j % 65536 < 65536 := Nat.mod_lt _ (by decide)
  by_cases h : p.offs ≤ j % 65536
  · have : (j % 65536 + 65536 - p.offs) % 65536 = j % 65536 - p.offs := by
      have : j % 65536 + 65536 - p.offs = (j % 65536 - p.offs) + 65536 := by omega
      rw [this, Nat.add_mod_right]; exact Nat.mod_eq_of_lt (by omega)
    rw [this]; have : p.offs + (j % 65536 - p.offs) = j % 65536 := by omega
    rw [this]; exact Nat.mod_mod _ _
  · have : (j % 65536 + 65536 - p.offs) % 65536 = j % 65536 + 65536 - p.offs := Nat.mod_eq_of_lt (by omega)
    rw [this]; have : p.offs + (j % 65536 + 65536 - p.offs) = j % 65536 + 65536 := by omega
    rw [this, Nat.add_mod_right]; exact Nat.mod_mod _ _

theorem extend_endT_le (p : PField) (j n : Nat) (hp : p.offs < 65536) (hj : j ≤ n) : (p.extend j).endT ≤ n := by
  rw [extend_endT_eq p j hp]
  unfold trunc16
  have := Nat.mod_le j 65536
  omega

/-- legitimacy of a header object w.r.t. buffer `b`: the name range is a 16-bit range inside `b` -/
def hdrOK (b : Buf) (h : Hdr) : Prop := h.name.offs < 65536 ∧ h.name.endT ≤ b.size

theorem hdrOK_grows {b : Buf} (s : Buf) {h : Hdr} (hk : hdrOK b h) : hdrOK (b ++ s) h :=
  ⟨hk.1, by rw [Array.size_append]; have := hk.2; omega⟩

/-- `hdrOK` only looks at the name. (Passing `hd` itself for a header that differs in another field makes the
    kernel compare the two headers field by field, `PField.extend` included.) -/
theorem hdrOK_of_name {b : Buf} {h h' : Hdr} (hn : h'.name = h.name) (hd : hdrOK b h) : hdrOK b h' := by
  unfold hdrOK; rw [hn]; exact hd

theorem hdrOK_extend {b : Buf} {h h' : Hdr} {j : Nat} (hn : h'.name = h.name.extend j) (ho : h.name.offs < 65536)
    (hj : j ≤ b.size) : hdrOK b h' := by
  unfold hdrOK; rw [hn, PField.extend_offs]; exact ⟨ho, extend_endT_le h.name j b.size ho hj⟩

/-- loop invariant of ParseHdrLine on `b` -/
def hlInv (b : Buf) (i : Nat) (st : HLσ) : Prop := i ≤ b.size ∧ hdrOK b st.1 ∧ hbOK b i st.2

theorem hdrOK.mid {b : Buf} {i p : Nat} {h h1 : Hdr} (hd : hdrOK b h) (hm : HlMid b i h p h1) (hi : i ≤ b.size) :
    hdrOK b h1 := by
  have hp := hm.range hi
  have hset : hdrOK b ({ h with state := .name, name := PField.set i i } : Hdr) :=
    ⟨by show (PField.set i i).offs < 65536; unfold PField.set trunc16; exact Nat.mod_lt _ (by decide),
     set_endT_le i i b.size (Nat.le_refl _) hi⟩
  cases hm with
  | same => exact hd
  | named => exact hset
  | nameExt h0h =>
    rcases h0h with ⟨rfl, _⟩ | ⟨rfl, _⟩
    · exact hdrOK_extend rfl hd.1 hp.2
    · exact hdrOK_extend rfl hset.1 hp.2
  | colon | valExt => exact hdrOK_of_name (by rfl) hd

/-! ### L1 through the call of a typed value parser, and for the loop body -/

theorem valSite_stable (S : HState) (b s : Buf) (j : Nat) (h : Hdr) (hv : PHdrVals) (hok : hvOK b j hv) (hj : j ≤ b.size)
    (hne : ∀ o st', valSite S b j h hv ≠ .done o .moreBytes st') : valSite S (b ++ s) j h hv = valSite S b j h hv := by
  unfold valSite at hne ⊢
  rw [valCall_stable S h.state b s j hv hok hj (fun he => hne _ _ (by rw [he]))]

theorem colonDo_stable (b s : Buf) (j : Nat) (h : Hdr) (hb : Option PHdrVals) (hj : j ≤ b.size)
    (hn : h.name.endT ≤ b.size) (hok : hbOK b j hb) (hne : ∀ o st', colonDo b j h hb ≠ .done o .moreBytes st') :
    colonDo (b ++ s) j h hb = colonDo b j h hb := by
  unfold colonDo at hne ⊢
  rw [PField.get?_app h.name b s hn]
  revert hne
  cases h.name.get? b with
  | none => exact fun _ => rfl
  | some nm =>
    cases hb with
    | none => exact fun _ => rfl
    | some hv =>
      dsimp only
      cases valKind { h with type := getHdrType nm } hv with
      | none => exact fun _ => rfl
      | some S => exact fun hne => valSite_stable S b s j _ hv hok hj hne

theorem hl_stepStable (b s : Buf) : StepStableI hlMachine b s (hlInv b) := by
  intro i c ⟨h, hv⟩ hb ⟨hi, hd, hok⟩ hne
  change ∀ o st', hlStep b i c (h, hv) ≠ .done o .moreBytes st' at hne
  change hlStep (b ++ s) i c (h, hv) = hlStep b i c (h, hv)
  rw [hlStep_eq] at hne
  rw [hlStep_eq, hlStep_eq]
  have sp := hlLex_spec b i c h hb
  have ex := hlLex_ext b s i c h hb
  cases ha : hlLex b i c h <;> rw [ha] at hne sp ex
  · rename_i o e h'
    rw [ex.2 fun he => hne o (h', hv) (by rw [he]; rfl)]; rfl
  · rw [show hlLex (b ++ s) i c h = _ from ex]; rfl
  · rename_i j h'
    rw [show hlLex (b ++ s) i c h = _ from ex]
    have sc := sp.colon_range hi
    obtain ⟨p, sa⟩ := sp
    change ∀ o st', hlAfterColon b j h' hv ≠ .done o .moreBytes st' at hne
    change hlAfterColon (b ++ s) j h' hv = hlAfterColon b j h' hv
    rw [hlAfterColon_nf _ _ _ _ sc.2.2] at hne
    rw [hlAfterColon_nf _ _ _ _ sc.2.2, hlAfterColon_nf _ _ _ _ sc.2.2]
    exact colonDo_stable b s j h' hv sc.2.1 (hdrOK.mid hd sa.mid hi).2 (hbOK_mono hok (Nat.le_of_lt sc.1) sc.2.1) hne
  · rw [show hlLex (b ++ s) i c h = _ from ex]
    cases hv with
    | none => rfl
    | some hv =>
      change ∀ o st', hlCont b i h (some hv) ≠ .done o .moreBytes st' at hne
      change hlCont (b ++ s) i h (some hv) = hlCont b i h (some hv)
      rw [hlCont_nf] at hne
      rw [hlCont_nf, hlCont_nf]
      exact valSite_stable _ b s i h hv hok hi hne

/-! ### the invariant is preserved by continuing steps -/

theorem hl_invCont (b : Buf) : InvCont hlMachine b (hlInv b) := by
  intro i c ⟨h, hv⟩ i' st' hb ⟨hi, hd, hok⟩ hs _
  change hlStep b i c (h, hv) = _ at hs
  rw [hlStep_eq] at hs
  have sp := hlLex_spec b i c h hb
  cases ha : hlLex b i c h <;> rw [ha] at hs sp
  · cases hs
  · cases hs
    have r := sp.go_range hi
    obtain ⟨⟨p, h1, hm, _, hn⟩, _⟩ := sp.go_hdr
    exact ⟨r.2, hdrOK_of_name hn (hdrOK.mid hd hm hi), hbOK_mono hok (Nat.le_of_lt r.1) r.2⟩
  · have sc := sp.colon_range hi
    obtain ⟨p, sa⟩ := sp
    rw [show hlDo b i h hv (.colon _ _) = hlAfterColon b _ _ hv from rfl, hlAfterColon_nf _ _ _ _ sc.2.2] at hs
    obtain ⟨rfl, nm, _, rfl⟩ := colonDo_cont hs
    exact ⟨sc.2.1, hdrOK_of_name (by rfl) (hdrOK.mid hd sa.mid hi), hbOK_mono hok (Nat.le_of_lt sc.1) sc.2.1⟩
  · exact absurd hs (hlCont_ne_cont _ _ _ _)

/-- what a caller may legitimately pass to ParseHdrLine -/
def hlOK (b : Buf) (o : Nat) (h : Hdr) (hb : Option PHdrVals) : Prop := hlInv b o (h, hb)

theorem parseHdrLine_stable (b s : Buf) (o : Nat) (h : Hdr) (hb : Option PHdrVals) (hok : hlOK b o h hb)
    {o' : Nat} {e : Err} {h' : Hdr} {hb' : Option PHdrVals}
    (hr : parseHdrLine b o h hb = (o', e, h', hb')) (he : e ≠ .moreBytes) :
    parseHdrLine (b ++ s) o h hb = (o', e, h', hb') := by
  rw [parseHdrLine_run] at hr ⊢
  exact runLoop_stableI hlMachine b s (hlInv b) (hl_invCont b) (hl_stepStable b s) (fun _ _ => rfl) o _ hok hr he

end Sipsp
