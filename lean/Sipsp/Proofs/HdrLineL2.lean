/-
  Sipsp.Proofs.HdrLineL2 — L2 (resumption) for ParseHdrLine.
-/
import Sipsp.Proofs.ContactsL2
import Sipsp.Proofs.HeadersL1
import Sipsp.Proofs.Range

namespace Sipsp

/-- what a caller can read of the header-values object -/
def PHdrVals.obs (hv : PHdrVals) : PHdrVals :=
  { hv with from_ := hv.from_.obs, to := hv.to.obs, contacts := hv.contacts.obs, pais := hv.pais.obs }

def hlObs (st : HLσ) : HLσ := (st.1, st.2.map PHdrVals.obs)

/-- wrapping both results in the same way preserves the relation -/
theorem RR.map {σ τ σ' τ' : Type} {obs : σ → τ} {obs' : σ' → τ'} {r1 r2 : Nat × Err × σ} (hrr : RR obs r1 r2)
    (w : Err → σ → σ')
    (hw : ∀ e f f', obs f = obs f' → ¬ Err.goesOn e → obs' (w e f) = obs' (w e f')) :
    RR obs' (r1.1, r1.2.1, w r1.2.1 r1.2.2) (r2.1, r2.2.1, w r2.2.1 r2.2.2) := by
  obtain ⟨n1, e1, f1⟩ := r1
  obtain ⟨n2, e2, f2⟩ := r2
  obtain ⟨hn, he, hg, ho⟩ := hrr
  simp only at hn he hg ho ⊢
  subst hn; subst he
  by_cases hgo : Err.goesOn e1
  · rw [hg hgo]; exact RR.refl _ _
  · exact ⟨rfl, rfl, fun hh => absurd hh hgo, hw e1 f1 f2 ho hgo⟩

theorem not_goesOn_ne_ok {e : Err} (h : ¬ Err.goesOn e) : (e == Err.ok) = false := by
  cases e <;> first | rfl | exact absurd (Or.inl rfl) h

/-- in a "continue the value parser" state, the value being parsed is not finished yet -/
def hvPending (st : HState) (hv : PHdrVals) : Prop :=
  (st = .hFrom → hv.from_.state ≠ .fin) ∧ (st = .hTo → hv.to.state ≠ .fin) ∧
  (st = .hCallID → hv.callid.state ≠ .fin) ∧ (st = .hCSeq → hv.cseq.state ≠ .fin) ∧
  (st = .hCLen → hv.clen.state ≠ .fin) ∧ (st = .hContact → hv.contacts.cur.state ≠ .fin) ∧
  (st = .hExpires → hv.expires.state ≠ .fin) ∧ (st = .hPAI → hv.pais.cur.state ≠ .fin)

def hlPending (st : HLσ) : Prop :=
  match st.2 with
  | none => True
  | some hv => hvPending st.1.state hv

theorem hlPending_of_not_isVal {h : Hdr} {hb : Option PHdrVals} (hn : ¬ h.state.isVal) : hlPending (h, hb) := by
  unfold hlPending
  cases hb with
  | none => trivial
  | some hv =>
    simp only
    refine ⟨?_, ?_, ?_, ?_, ?_, ?_, ?_, ?_⟩ <;> intro hh <;> exfalso <;> apply hn <;> simp [HState.isVal, hh]

/-- what a caller can read of a value parser's result -/
def valObs (p : PField × PHdrVals) : PHdrVals := p.2.obs

/-- **L2 for the eight value parsers**: the continuation call `valCall S S` on the returned object resumes the
    call `valCall S st` that suspended -/
theorem valCall_restart (S st : HState) (b s : Buf) (i : Nat) (hv : PHdrVals) (hi : i ≤ b.size) (hok : hvOK b i hv)
    {n : Nat} {V : PField} {hv2 : PHdrVals} (hq : valCall S st b i hv = (n, .moreBytes, V, hv2)) :
    RR valObs (valCall S S (b ++ s) n hv2) (valCall S st (b ++ s) i hv) ∧
    hvOK (b ++ s) n hv2 ∧ i ≤ n ∧ n ≤ b.size ∧ S.isVal ∧ hvPending S hv2 := by
  -- the components the parser does not touch stay legitimate at any later offset
  have frame : ∀ {n}, i ≤ n → n ≤ b.size → hvOK (b ++ s) n hv := fun h1 h2 =>
    hvOK_mono (hvOK_grows s hok) h1 (by rw [Array.size_append]; omega)
  obtain ⟨ok1, ok2, ok3, ok4, ok5⟩ := hok
  refine valCall_cases (M := fun n e _ hv2 => e = .moreBytes →
      RR valObs (valCall S S (b ++ s) n hv2) (valCall S st (b ++ s) i hv) ∧
      hvOK (b ++ s) n hv2 ∧ i ≤ n ∧ n ≤ b.size ∧ S.isVal ∧ hvPending S hv2)
    (from_ := fun hS n e f hp he => ?from_) (to := fun hS n e f hp he => ?to) (callID := fun hS n e f hp he => ?callID)
    (cseq := fun hS n e f hp he => ?cseq) (clen := fun hS n e f hp he => ?clen) (contact := fun hS n e c hp he => ?contact)
    (expires := fun hS n e f hp he => ?expires) (pai := fun hS n e c hp he => ?pai) (other := fun _ he => nomatch he) hq rfl
  all_goals subst hS he; simp only [valCall]
  case from_ =>
    obtain ⟨hrr, hokN, hnf⟩ := parseNameAddrPVal_resumeR HdrFrom b s i hv.from_ ok1 hp
    obtain ⟨h1, h2⟩ := parseNameAddrPVal_more_range HdrFrom b i hv.from_ ok1 hp
    have F := frame h1 h2
    exact ⟨hrr.map (fun _ f => (f.v, { hv with from_ := f })) (fun _ f f' hf _ => by simp only [valObs, PHdrVals.obs, hf]),
      ⟨hokN, F.2.1, F.2.2.1, F.2.2.2.1, F.2.2.2.2⟩, h1, h2, .inl rfl,
      fun _ => hnf, nofun, nofun, nofun, nofun, nofun, nofun, nofun⟩
  case to =>
    obtain ⟨hrr, hokN, hnf⟩ := parseNameAddrPVal_resumeR HdrTo b s i hv.to ok2 hp
    obtain ⟨h1, h2⟩ := parseNameAddrPVal_more_range HdrTo b i hv.to ok2 hp
    have F := frame h1 h2
    exact ⟨hrr.map (fun _ f => (f.v, { hv with to := f })) (fun _ f f' hf _ => by simp only [valObs, PHdrVals.obs, hf]),
      ⟨F.1, hokN, F.2.2.1, F.2.2.2.1, F.2.2.2.2⟩, h1, h2, .inr (.inl rfl),
      nofun, fun _ => hnf, nofun, nofun, nofun, nofun, nofun, nofun⟩
  case callID =>
    have hres := parseCallIDVal_resume b s i hv.callid hp
    have hrg := parseCallIDVal_range b i hv.callid hi
    rw [hp] at hrg
    exact ⟨RR.of_eq (by rw [hres]), frame hrg.1 hrg.2, hrg.1, hrg.2, .inr (.inr (.inl rfl)),
      nofun, nofun, fun _ => parseCallIDVal_more_notfin b i hv.callid hp, nofun, nofun, nofun, nofun, nofun⟩
  case cseq =>
    obtain ⟨hres, hokN⟩ := parseCSeqVal_resume b s i hv.cseq ok3 hp
    obtain ⟨h1, h2⟩ := parseCSeqVal_more_range b i hv.cseq ok3 hp
    have F := frame h1 h2
    exact ⟨RR.of_eq (by rw [hres]), ⟨F.1, F.2.1, hokN, F.2.2.2.1, F.2.2.2.2⟩, h1, h2, .inr (.inr (.inr (.inl rfl))),
      nofun, nofun, nofun, fun _ => parseCSeqVal_more_notfin b i hv.cseq ok3 hp, nofun, nofun, nofun, nofun⟩
  case clen =>
    have hres := parseCLenVal_resume b s i hv.clen hp
    obtain ⟨h1, h2⟩ := parseCLenVal_more_range b i hv.clen hi hp
    exact ⟨RR.of_eq (by rw [hres]), frame h1 h2, h1, h2, .inr (.inr (.inr (.inr (.inl rfl)))),
      nofun, nofun, nofun, nofun, fun _ => parseCLenVal_more_notfin b i hv.clen hp, nofun, nofun, nofun⟩
  case contact =>
    obtain ⟨hrr, hokN, hnf, h1, h2⟩ := parseAllContactValues_resume b s i _ (ctOK_ctArg ok4 st) hi hp
    have F := frame h1 h2
    exact ⟨hrr.map (fun _ c => (c.lastHVal, { hv with contacts := c }))
        (fun _ f f' hf _ => by simp only [valObs, PHdrVals.obs, hf]),
      ⟨F.1, F.2.1, F.2.2.1, hokN, F.2.2.2.2⟩, h1, h2, .inr (.inr (.inr (.inr (.inr (.inl rfl))))),
      nofun, nofun, nofun, nofun, nofun, fun _ => hnf, nofun, nofun⟩
  case expires =>
    have hres := parseUIntVal_resume b s i hv.expires hp
    have hrg := parseUIntVal_range b i hv.expires hi
    rw [hp] at hrg
    exact ⟨RR.of_eq (by rw [hres]), frame hrg.1 hrg.2, hrg.1, hrg.2, .inr (.inr (.inr (.inr (.inr (.inr (.inl rfl)))))),
      nofun, nofun, nofun, nofun, nofun, nofun, fun _ => parseUIntVal_more_notfin b i hv.expires hp, nofun⟩
  case pai =>
    obtain ⟨hrr, hokN, hnf, h1, h2⟩ := parseAllPAIValues_resume b s i _ (paOK_paArg ok5 st) hi hp
    have F := frame h1 h2
    exact ⟨hrr.map (fun _ c => (c.lastHVal, { hv with pais := c }))
        (fun _ f f' hf _ => by simp only [valObs, PHdrVals.obs, hf]),
      ⟨F.1, F.2.1, F.2.2.1, F.2.2.2.1, hokN⟩, h1, h2, .inr (.inr (.inr (.inr (.inr (.inr (.inr rfl)))))),
      nofun, nofun, nofun, nofun, nofun, nofun, nofun, fun _ => hnf⟩

theorem valCall_range (S st : HState) (b : Buf) (o : Nat) (hv : PHdrVals) (ho : o ≤ b.size) (hok : hvOK b o hv)
    {n : Nat} {e : Err} {V : PField} {hv2 : PHdrVals} (hq : valCall S st b o hv = (n, e, V, hv2))
    (he : e = .ok ∨ e = .moreBytes) : o ≤ n ∧ n ≤ b.size := by
  rcases he with rfl | rfl
  · have := valCall_post S st b o hv hok ho hq; exact ⟨this.1, this.2.1⟩
  · have := valCall_restart S st b #[] o hv ho hok hq; exact ⟨this.2.2.1, this.2.2.2.1⟩

theorem hlWrap_obs (h : Hdr) (e : Err) (p p' : PField × PHdrVals) (hp : valObs p = valObs p') (hng : ¬ Err.goesOn e) :
    hlObs (hlWrap h e p) = hlObs (hlWrap h e p') := by
  simp only [valObs] at hp
  simp only [hlObs, hlWrap, not_goesOn_ne_ok hng, Bool.false_eq_true, ↓reduceIte, Option.map_some, hp]

theorem runStep_earlier {σ : Type} (m : Machine σ) (hp : Progress m) (B : Buf) (i o : Nat) (c' : UInt8) (st' : σ)
    (hB : B[o]? = some c') (hio : i ≤ o) :
    runStep m B o (m.step B o c' st') = runStep m B i (m.step B o c' st') := by
  cases hs : m.step B o c' st' with
  | done o1 e1 s1 => rfl
  | cont i' s1 =>
    have := hp B o c' st' i' s1 hB hs
    simp only [runStep, if_pos this, if_pos (show i < i' by omega)]

/-- what every suspension site of the loop body guarantees: the suspended offset is a valid restart point -/
structure HlSite (b s : Buf) (i : Nat) (X : Step HLσ) (o : Nat) (st' : HLσ) : Prop where
  le : i ≤ o
  inBuf : o ≤ b.size
  inv : hlInv (b ++ s) o st'
  pend : hlPending st'
  /-- the step at `o` from the suspended state does what the step `X` at `i` does -/
  again : ∀ c', (b ++ s)[o]? = some c' →
    RR hlObs (runStep hlMachine (b ++ s) o (hlStep (b ++ s) o c' st')) (runStep hlMachine (b ++ s) i X)

theorem hlSite_of_eq {b s : Buf} {i o : Nat} {X : Step HLσ} {st' : HLσ} (h1 : i ≤ o) (h2 : o ≤ b.size)
    (h3 : hlInv (b ++ s) o st') (h3p : hlPending st')
    (h : ∀ c', (b ++ s)[o]? = some c' → hlStep (b ++ s) o c' st' = X) : HlSite b s i X o st' := by
  refine ⟨h1, h2, h3, h3p, fun c' hc => ?_⟩
  rw [← h c' hc]
  exact RR.of_eq (runStep_earlier hlMachine hl_progress (b ++ s) i o c' st' hc h1)

theorem hlInv_grows {b : Buf} (s : Buf) {i : Nat} {st : HLσ} (h : hlInv b i st) : hlInv (b ++ s) i st :=
  ⟨by rw [Array.size_append]; have := h.1; omega, hdrOK_grows s h.2.1, hbOK_grows s h.2.2⟩

/-- **the suspension site inside a typed value parser**, called at `j ≥ i` with a legitimate header and values -/
theorem valSite_site (S : HState) (b s : Buf) (i j : Nat) (h : Hdr) (hv : PHdrVals) (hij : i ≤ j) (hj : j ≤ b.size)
    (hd : hdrOK b h) (hok : hvOK b j hv) {o : Nat} {st' : HLσ} (hs : valSite S b j h hv = .done o .moreBytes st') :
    HlSite b s i (valSite S (b ++ s) j h hv) o st' := by
  unfold valSite at hs
  rcases hq : valCall S h.state b j hv with ⟨n1, e1, V, hv1⟩
  rw [hq] at hs
  cases hs
  change HlSite b s i _ n1 (({ h with state := S } : Hdr), some hv1)
  obtain ⟨hrr, hokN, h1, h2, hS, hp⟩ := valCall_restart S h.state b s j hv hj hok hq
  refine ⟨by omega, h2, ⟨by rw [Array.size_append]; omega, hdrOK_of_name (by rfl) (hdrOK_grows s hd), hokN⟩, hp,
    fun c' hc => ?_⟩
  rw [hlStep_isVal _ _ _ _ _ hS, hlCont_nf]
  exact hrr.map (hlWrap { h with state := S }) (hlWrap_obs _)

/-- a suspension after the ':' is inside the typed value parser that `valKind` selected -/
theorem colonDo_more {b : Buf} {j : Nat} {h : Hdr} {hb : Option PHdrVals} {o : Nat} {st' : HLσ}
    (hs : colonDo b j h hb = .done o .moreBytes st') :
    ∃ nm hv S, h.name.get? b = some nm ∧ hb = some hv ∧ valKind { h with type := getHdrType nm } hv = some S ∧
      valSite S b j { h with type := getHdrType nm } hv = .done o .moreBytes st' := by
  unfold colonDo at hs
  split at hs
  · cases hs
  · rename_i nm hn
    split at hs
    · cases hs
    · rename_i hv
      split at hs
      · cases hs
      · rename_i S hk; exact ⟨nm, hv, S, hn, rfl, hk, hs⟩

/-- **every suspension of the loop body is at a valid restart point** -/
theorem hlStep_site (b s : Buf) (i : Nat) (c : UInt8) (st : HLσ) (hb : b[i]? = some c) (hI : hlInv b i st)
    {o : Nat} {st' : HLσ} (hs : hlStep b i c st = .done o .moreBytes st') :
    HlSite b s i (hlStep (b ++ s) i c st) o st' := by
  obtain ⟨h, hv⟩ := st
  obtain ⟨hi, hd, hok⟩ := hI
  rw [hlStep_eq] at hs ⊢
  have sp := hlLex_spec b i c h hb
  have ex := hlLex_ext b s i c h hb
  cases ha : hlLex b i c h <;> rw [ha] at hs sp ex
  · -- a lexical site: the decision at the returned offset is the decision at `i`
    cases hs
    have r := sp.exit_range hi
    obtain ⟨⟨p, h1, hm, _, hn⟩, hnv, _⟩ := sp.exit_hdr
    have hne : hlLex (b ++ s) i c h ≠ .value := fun hv' => by
      have := hlLex_spec (b ++ s) i c h (get?_app hb)
      rw [hv'] at this; rw [hlLex_isVal b i c this] at ha; cases ha
    refine hlSite_of_eq r.1 r.2.1
      (hlInv_grows s ⟨r.2.1, hdrOK_of_name hn (hdrOK.mid hd hm hi), hbOK_mono hok r.1 r.2.1⟩)
      (hlPending_of_not_isVal hnv) (fun c' hc => ?_)
    rw [hlStep_eq, ex.1 rfl c' hc]
    exact hlDo_congr _ _ _ _ _ _ hne
  · cases hs
  · rename_i j h'
    rw [show hlLex (b ++ s) i c h = _ from ex]
    have sc := sp.colon_range hi
    obtain ⟨p, sa⟩ := sp
    have hd' := hdrOK.mid hd sa.mid hi
    change hlAfterColon b j h' hv = _ at hs
    change HlSite b s i (hlAfterColon (b ++ s) j h' hv) o st'
    rw [hlAfterColon_nf _ _ _ _ sc.2.2] at hs ⊢
    obtain ⟨nm, hv0, S, hn, rfl, hk, hs'⟩ := colonDo_more hs
    rw [colonDo_typed (by rw [PField.get?_app h'.name b s hd'.2]; exact hn) hk]
    exact valSite_site S b s i j _ hv0 (Nat.le_of_lt sc.1) sc.2.1 (hdrOK_of_name (by rfl) hd')
      (hvOK_mono hok (Nat.le_of_lt sc.1) sc.2.1) hs'
  · rw [show hlLex (b ++ s) i c h = _ from ex]
    cases hv with
    | none => cases hs
    | some hv0 =>
      change hlCont b i h (some hv0) = _ at hs
      change HlSite b s i (hlCont (b ++ s) i h (some hv0)) o st'
      rw [hlCont_nf] at hs ⊢
      exact valSite_site _ b s i i h hv0 (Nat.le_refl _) hi hd hok hs

theorem hl_stepRestart (b s : Buf) :
    ∀ i c st o st', b[i]? = some c → hlInv b i st → hlMachine.step b i c st = .done o .moreBytes st' →
      RR hlObs (runLoop hlMachine (b ++ s) o st') (runLoop hlMachine (b ++ s) i st) := by
  intro i c st o st' hb hI hs
  change hlStep b i c st = .done o .moreBytes st' at hs
  have site := hlStep_site b s i c st hb hI hs
  cases hB : (b ++ s)[o]? with
  | none =>
    -- nothing was appended: the extended buffer is the old one
    have hsz := get?_none_ge hB
    rw [Array.size_append] at hsz
    have hs0 : s = #[] := Array.eq_empty_of_size_eq_zero (by have := site.inBuf; omega)
    subst hs0
    simp only [Array.append_empty] at hB ⊢
    rw [runLoop_none hlMachine st' hB, runLoop_done hlMachine hb hs]
    exact RR.refl _ _
  | some c' =>
    rw [runLoop_eq_runStep hlMachine st' hB, runLoop_eq_runStep hlMachine st (get?_app hb)]
    exact site.again c' hB

/-- continuing steps never enter a "continue the value parser" state (only suspensions do) -/
theorem hl_cont_not_isVal (b : Buf) (i : Nat) (c : UInt8) (st : HLσ) (hb : b[i]? = some c) {i' : Nat} {st' : HLσ}
    (hs : hlStep b i c st = .cont i' st') : ¬ st'.1.state.isVal := by
  obtain ⟨h, hv⟩ := st
  rw [hlStep_eq] at hs
  have sp := hlLex_spec b i c h hb
  cases ha : hlLex b i c h <;> rw [ha] at hs sp
  · cases hs
  · cases hs
    exact not_isVal_of (sp.go_hdr.2.elim (fun h1 => by simp [h1]) (fun h1 => by simp [h1]))
  · have sc := sp.colon_range (Nat.le_of_lt (get?_lt hb))
    rw [show hlDo b i h hv (.colon _ _) = hlAfterColon b _ _ hv from rfl, hlAfterColon_nf _ _ _ _ sc.2.2] at hs
    obtain ⟨_, nm, _, rfl⟩ := colonDo_cont hs
    exact not_isVal_of (Or.inr (Or.inr (Or.inr (Or.inl sc.2.2))))
  · exact absurd hs (hlCont_ne_cont _ _ _ _)

/-- **L2 for ParseHdrLine** -/
theorem parseHdrLine_resume (b s : Buf) (o : Nat) (h : Hdr) (hb : Option PHdrVals) (hok : hlOK b o h hb)
    (hpe : hlPending (h, hb)) {o' : Nat} {h' : Hdr} {hb' : Option PHdrVals}
    (hr : parseHdrLine b o h hb = (o', Err.moreBytes, h', hb')) :
    RR hlObs (parseHdrLine (b ++ s) o' h' hb') (parseHdrLine (b ++ s) o h hb) ∧
      hlOK (b ++ s) o' h' hb' ∧ hlPending (h', hb') ∧ o ≤ o' ∧ o' ≤ b.size := by
  have hrl := parseHdrLine_run.1 hr
  have hres := runLoop_resumeR hlMachine b s (hlInv b) id (RR hlObs) (hl_invCont b) (hl_stepStable b s)
    (hl_stepRestart b s)
    (by
      intro i st o2 st2 _ _ he
      simp only [hlMachine, Prod.mk.injEq, true_and] at he
      obtain ⟨rfl, rfl⟩ := he
      exact RR.refl _ _)
    o (h, hb) hok hrl
  have hinv := runLoop_moreI hlMachine b (fun i st => hlInv b i st ∧ o ≤ i ∧ hlPending st)
    (fun o2 st2 => hlInv (b ++ s) o2 st2 ∧ hlPending st2 ∧ o ≤ o2 ∧ o2 ≤ b.size)
    (by
      intro i c st i' st' hb hI hs hlt
      exact ⟨hl_invCont b i c st i' st' hb hI.1 hs hlt, by have := hI.2.1; omega,
        hlPending_of_not_isVal (hl_cont_not_isVal b i c st hb hs)⟩)
    (by
      intro i c st o2 st2 hb hI hs
      have site := hlStep_site b s i c st hb hI.1 hs
      exact ⟨site.inv, site.pend, Nat.le_trans hI.2.1 site.le, site.inBuf⟩)
    (by
      intro i st o2 st2 _ hI he
      simp only [hlMachine, Prod.mk.injEq, true_and] at he
      obtain ⟨rfl, rfl⟩ := he
      exact ⟨hlInv_grows s hI.1, hI.2.2, hI.2.1, hI.1.1⟩)
    o (h, hb) ⟨hok, Nat.le_refl _, hpe⟩ hrl
  refine ⟨?_, hinv.1, hinv.2.1, hinv.2.2.1, hinv.2.2.2⟩
  unfold parseHdrLine
  exact hres

end Sipsp
