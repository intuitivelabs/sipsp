/-
  Sipsp.Proofs.HdrSound — property C07, SOUNDNESS of ParseHdrLine / ParseHeaders with respect to the header grammar of
  `Sipsp.Proofs.HdrSpec` (`HdrLineAt`, `EmptyLine`, `HdrBlock`; `Lws`, `Eol` of Proofs/Lex): the converse of
  `parseHdrLine_spec` / `parseHeaders_block`. The scanner accepts exactly the lines and blocks of that grammar.

  Scope: ALL buffers of at most 65,535 bytes, ALL offsets, a new header object / a list object in the state of a new
  or reset one (any capacity), generic treatment: no values object (`hb = none`), or a values object and a name — the
  text from the line start up to the first SP / HT / CR / LF / colon, `skipTokenDelim b o 58` — that classifies as a
  type without a dedicated value parser (`IsOther`); for blocks `HsGeneric` (every line start of the buffer) or
  `AfcGenericIn` (the line starts inside the accepted text only).

  How: `HlAt` says what the text `[o, i)` is when an iteration of the loop starts at `i` (nothing yet; name and white
  space; name, colon; name, colon, tokens so far); every decision of the loop body keeps it (`hlLex_at`, one walk over
  `hlLex`), so an accepting generic verdict comes with SOME line of the grammar in the text (`hl_out_text`); the grammar's
  line is parsed as such (`HdrLineAt.parse_gen`) and the call returns one thing, hence the reported header is the
  grammar's (`hl_line_out`). Every outcome of ParseHdrLine is described (`hs_parseHdrLine_cases`); for blocks: soundness,
  the verdict list, what an accepted block reports, and ParseHeaders accepts iff the text is a block of the grammar.
  With ANY values object (typed lines included): name, type and one header per accepted line (`HsChain`).

  NOT proved here: the verdict list under the restricted hypothesis with the bound = the returned offset of a rejected
  block (`lo2_block_verdicts_in` has a bound chosen by the caller; the other form needs: the returned offset of an
  error verdict is at or after the start of the rejected line, for typed lines as well); the VALUE part of the eight
  typed header kinds when a values object is supplied (their value parsers decide where the line ends and what `Val`
  is; `Sipsp.Proofs.HdrTyped` has the completeness side), hence no iff for blocks containing typed lines; resumed calls
  with more than one suspension or with a values object; buffers above 65,535 bytes (offsets are 16-bit in the header
  object).
-/
import Sipsp.Proofs.HdrSpec

namespace Sipsp

/-! ### lexical layer: what the scanners skipped is what the grammar says -/

/-- an accepted line end is a line end of the grammar (CR LF, lone CR, lone LF) -/
theorem hs_skipCRLF_ok_eol {b : Buf} {i n crl : Nat} (h : skipCRLF b i = (n, crl, Err.ok)) :
    Eol b i n ∧ n = i + crl := by
  cases skipCRLF_out' h with
  | ok he => have := he.gt; exact ⟨he, by omega⟩

/-- "end of header": linear white space, then a line end whose next byte is present and is not SP / HT -/
theorem hs_skipLWS_eoh (b : Buf) (i flags : Nat) {n crl : Nat} (h : skipLWS b i flags = (n, crl, .eoh))
    (hf : hasFlag flags POptInputEndF = false) :
    Lws b i n ∧ Eol b n (n + crl) ∧ ∃ c2, b[n + crl]? = some c2 ∧ isWS c2 = false := by
  cases skipLWS_out' h with
  | @eoh _ e c2 hl he h2 hw =>
    rw [show n + (e - n) = e by have := he.gt; omega]; exact ⟨hl, he, c2, h2, hw⟩
  | eohEnd _ _ _ _ hfl => rw [hf] at hfl; cases hfl

theorem hs_flag0 : hasFlag 0 POptInputEndF = false := by decide

/-- the bytes `skipTokenDelim` ran over are name bytes -/
theorem hs_skipTokenDelim_run (b : Buf) (i : Nat) : NameRun b i (skipTokenDelim b i 58) := by
  intro k h1 h2
  rw [skipTokenDelim_eq] at h2
  obtain ⟨c, hc, hl⟩ := scanTo_skipped _ b i k h1 h2
  simp only [Bool.or_eq_false_iff, beq_eq_false_iff_ne] at hl
  exact ⟨c, hc, hl.1, hl.2⟩

/-- the bytes `skipWS` ran over are spaces / tabs -/
theorem hs_skipWS_run (b : Buf) (i : Nat) : WsRun b i (skipWS b i) := by
  intro k h1 h2
  rw [skipWS_eq] at h2
  obtain ⟨c, hc, hl⟩ := scanTo_skipped _ b i k h1 h2
  exact ⟨c, hc, by simpa using hl⟩

/-! ### one call on a new header object: what the text read so far is -/

/-- tokens, each followed by non-empty linear white space, from `v` up to the first byte `v2` of the next token -/
inductive ValPre (b : Buf) (v : Nat) : Nat → Prop
  | nil : ValPre b v v
  | snoc (v1 j v2 : Nat) : ValPre b v v1 → TokenRun b v1 j → v1 < j → Lws b j v2 → j < v2 → ValPre b v v2

theorem ValPre.close {b : Buf} {v v2 ve p : Nat} (hp : ValPre b v v2) (H : ValRun b v2 ve p) : ValRun b v ve p := by
  induction hp with
  | nil => exact H
  | snoc v1 j v2 _ ht hlt hl hjv ih =>
    obtain ⟨c, hc, hcl⟩ := H.first
    exact ih (.cons v1 j v2 ve p c ht hlt hl hjv hc hcl H)

/-- no value parser is selected for a name of type `t` (no values object, or `HtGen`) -/
def HlGenT (hb : Option PHdrVals) (t : Nat) : Prop := ∀ hv, hb = some hv → HtGen t hv

/-- **what the text `[o, i)` is when an iteration starts at `i` with header `h`** (one call on a new header). Before the
    colon the header object is known exactly (a typed value parser is handed it); after the colon only its state
    matters: what it reports comes from `HdrLineAt.parse_gen`. -/
inductive HlAt (b : Buf) (o : Nat) (hb : Option PHdrVals) : Nat → Hdr → Prop
  | init : HlAt b o hb o {}
  | nameEnd (n i : Nat) : NameRun b o n → o < n → WsRun b n i → n < i → HlAt b o hb i (hdrAt 0 o n {} .nameEnd)
  | body (n c : Nat) (h : Hdr) : HtName b o n c → HlGenT hb (getHdrType (b.extract o n)) → h.state = .bodyStart →
      HlAt b o hb (c + 1) h
  | val (n c v v2 : Nat) (cv : UInt8) (h : Hdr) : HtName b o n c → HlGenT hb (getHdrType (b.extract o n)) →
      Lws b (c + 1) v → ValPre b v v2 → b[v2]? = some cv → isLWSch cv = false → h.state = .val → HlAt b o hb (v2 + 1) h

/-- the generic outcomes on the text: an accepting verdict comes with SOME line of the grammar -/
def HlOutT (b : Buf) (o : Nat) (hb : Option PHdrVals) (o' : Nat) (e : Err) : Prop :=
  (e = .ok ∧ ∃ h0, HdrLineAt b o o' h0 ∧ HlGenT hb h0.type) ∨ (e = .empty ∧ EmptyLine b o o') ∨ e = .moreBytes ∨
    e = .badChar

/-- what the decision of one iteration says about the text -/
def HlAct.At (b : Buf) (o : Nat) (hb : Option PHdrVals) : HlAct → Prop
  | .exit o' e _ => HlOutT b o hb o' e
  | .go i' h' => HlAt b o hb i' h'
  | .colon j h' => ∃ n c, HtName b o n c ∧ j = c + 1 ∧ h' = hdrAt 0 o n {} .bodyStart
  | .value => False

theorem hlNameLex_at {b : Buf} {o : Nat} (hb : Option PHdrVals) (hfit : b.size ≤ 65535) :
    (hlNameLex b o { state := .name, name := PField.set o o }).At b o hb := by
  have hge := skipTokenDelim_ge b o 58
  have hrun := hs_skipTokenDelim_run b o
  unfold hlNameLex
  dsimp only
  cases hj : b[skipTokenDelim b o 58]? with
  | none => exact .inr (.inr (.inl rfl))
  | some cj =>
    have hjl := get?_lt hj
    by_cases hon : o < skipTokenDelim b o 58
    · simp only [set_extend o _ hge (by omega), set_extendPanics o _ hge (by omega), isEmpty_span hon,
        Bool.false_eq_true, Bool.or_self, ↓reduceIte]
      split
      · rename_i hw
        exact .nameEnd _ _ hrun hon
          (fun k h1 h2 => by rw [show k = skipTokenDelim b o 58 by omega]; exact ⟨cj, hj, hw⟩) (Nat.lt_succ_self _)
      · split
        · rename_i h58
          have h58 : cj = 58 := by simpa using h58
          subst h58
          exact ⟨_, _, ⟨hrun, hon, fun k h1 h2 => by omega, Nat.le_refl _, hj⟩, rfl, rfl⟩
        · exact .inr (.inr (.inr rfl))
    · have hem : ((PField.set o o).extend o).isEmpty = true := by
        unfold PField.isEmpty PField.extend PField.set; simp
      rw [show skipTokenDelim b o 58 = o by omega]
      simp only [hem, ↓reduceIte]
      split
      · exact .inr (.inr (.inr rfl))
      · split <;> exact .inr (.inr (.inr rfl))

theorem hlValEndLex_at {b : Buf} {o n c v v2 j : Nat} {hb : Option PHdrVals} (H : HtName b o n c)
    (hg : HlGenT hb (getHdrType (b.extract o n))) (hl0 : Lws b (c + 1) v) (hp : ValPre b v v2)
    (ht : TokenRun b v2 j) (hvj : v2 < j) {cj : UInt8} (hj : b[j]? = some cj) (hcj : isLWSch cj = true) (h : Hdr) :
    (hlValEndLex b j h).At b o hb := by
  unfold hlValEndLex
  rcases hq : skipLWS b j 0 with ⟨q, crl, e⟩
  rcases skipLWS_three_verdicts b _ 0 hq with rfl | rfl | rfl
  · obtain ⟨_, cv, hc, hcl⟩ := skipLWS_ok b _ 0 hq
    exact .val n c v q cv _ H hg hl0 (.snoc v2 j q hp ht hvj (skipLWS_ok_lws b _ 0 hq) (skipLWS_ok_gt b _ 0 hj hcj hq))
      hc hcl rfl
  · obtain ⟨hl, he, c2, h2, hw2⟩ := hs_skipLWS_eoh b _ 0 hq hs_flag0
    obtain ⟨h1, h2', h3, h4, h5⟩ := H
    exact .inl ⟨rfl, _, .inl ⟨n, c, v, j, q, c2, h1, h2', h3, h4, h5, hl0, hp.close (.last v2 j q ht hvj hl), he, h2,
      hw2, rfl⟩, hg⟩
  · exact .inr (.inr (.inl rfl))

theorem hlLex_at {b : Buf} {o i : Nat} {c : UInt8} {h : Hdr} {hb : Option PHdrVals} (hfit : b.size ≤ 65535)
    (hc : b[i]? = some c) (hS : HlAt b o hb i h) : (hlLex b i c h).At b o hb := by
  unfold hlLex
  cases hS with
  | init =>
    dsimp only
    split
    · rename_i h13
      have h13 : c = 13 := by simpa using h13
      subst h13
      cases h1 : b[o + 1]? with
      | none => exact .inr (.inr (.inl rfl))
      | some c1 =>
        dsimp only
        split
        · rename_i h10
          have h10 : c1 = 10 := by simpa using h10
          subst h10; exact .inr (.inl ⟨rfl, .crlf o hc h1⟩)
        · rename_i h10
          exact .inr (.inl ⟨rfl, .cr o c1 hc h1 (by simpa using h10)⟩)
    · split
      · rename_i h10
        have h10 : c = 10 := by simpa using h10
        subst h10; exact .inr (.inl ⟨rfl, .lf o hc⟩)
      · exact hlNameLex_at hb hfit
  | nameEnd n i hn hon hw hni =>
    dsimp only [hdrAt]
    have hge := skipWS_ge b i
    cases hj : b[skipWS b i]? with
    | none => exact .inr (.inr (.inl rfl))
    | some c1 =>
      dsimp only
      split
      · rename_i h58
        have h58 : c1 = 58 := by simpa using h58
        subst h58
        refine ⟨n, _, ⟨hn, hon, fun k h1 h2 => ?_, by omega, hj⟩, rfl, rfl⟩
        by_cases hk : k < i
        · exact hw k h1 hk
        · exact hs_skipWS_run b i k (by omega) h2
      · exact .inr (.inr (.inr rfl))
  | body n c0 h H hg hst =>
    rw [hst]
    dsimp only
    rcases hq : skipLWS b (c0 + 1) 0 with ⟨q, crl, e⟩
    rcases skipLWS_three_verdicts b _ 0 hq with rfl | rfl | rfl <;> dsimp only
    · obtain ⟨_, cv, hc', hcl⟩ := skipLWS_ok b _ 0 hq
      exact .val n c0 q q cv _ H hg (skipLWS_ok_lws b _ 0 hq) .nil hc' hcl rfl
    · obtain ⟨hl, he, c2, h2, hw2⟩ := hs_skipLWS_eoh b _ 0 hq hs_flag0
      obtain ⟨h1, h2', h3, h4, h5⟩ := H
      exact .inl ⟨rfl, _, .inr ⟨n, c0, q, c2, h1, h2', h3, h4, h5, hl, he, h2, hw2, rfl⟩, hg⟩
    · exact .inr (.inr (.inl rfl))
  | val n c0 v v2 cv h H hg hl0 hp hv hcv hst =>
    rw [hst]
    dsimp only
    have hge := skipToken_ge b (v2 + 1)
    cases hj : b[skipToken b (v2 + 1)]? with
    | none => exact .inr (.inr (.inl rfl))
    | some cj =>
      dsimp only
      refine hlValEndLex_at H hg hl0 hp (fun k h1 h2 => ?_) (by omega) hj (skipToken_stop b _ cj hj) _
      by_cases hk : k = v2
      · subst hk; exact ⟨cv, hv, hcv⟩
      · exact skipToken_tokenRun b (v2 + 1) k (by omega) h2

/-- every outcome of ParseHdrLine on a new header object (generic treatment), by verdict -/
def HsLineOut (b : Buf) (o : Nat) (hb : Option PHdrVals) (e : Nat) (er : Err) (h : Hdr) (hb' : Option PHdrVals) :
    Prop :=
  (er = .ok ∧ HdrLineAt b o e h ∧ hb' = hb) ∨
  (er = .empty ∧ EmptyLine b o e ∧ h = { state := .fin } ∧ hb' = hb) ∨
  er = .moreBytes ∨
  er = .badChar

/-- the same on the result triple of the loop driver -/
def HsOutR (b : Buf) (o : Nat) (hb : Option PHdrVals) (r : Nat × Err × HLσ) : Prop :=
  HsLineOut b o hb r.1 r.2.1 r.2.2.1 r.2.2.2

/-! ### the whole line -/

/-- the name of a line of the grammar ends where `skipTokenDelim` stops, so the reported type is the classification
    of the text up to the first SP / HT / CR / LF / colon -/
theorem hs_lineAt_type {b : Buf} {o e : Nat} {h : Hdr} (H : HdrLineAt b o e h) :
    h.type = getHdrType (b.extract o (skipTokenDelim b o 58)) ∧ h.name = ⟨o, skipTokenDelim b o 58 - o⟩ := by
  rcases H with ⟨n, c, v, ve, p, c2, h1, h2, h3, h4, h5, _, _, _, _, _, rfl⟩ |
    ⟨n, c, p, c2, h1, h2, h3, h4, h5, _, _, _, _, rfl⟩ <;>
  · rw [HtName.stop ⟨h1, h2, h3, h4, h5⟩]; exact ⟨rfl, rfl⟩

/-- **every run of the loop of ParseHdrLine on a new header object**: a generic outcome (`HsLineOut`; when it is OK and
    a values object was supplied, no value parser was selected for the reported type), or — values object supplied, a
    value parser `S` selected for the name — EXACTLY what that parser returned when called after the colon -/
def HlLineR (b : Buf) (o : Nat) (hb : Option PHdrVals) (r : Nat × Err × HLσ) : Prop :=
  (HsOutR b o hb r ∧ (r.2.1 = .ok → ∀ hv, hb = some hv → valKind r.2.2.1 hv = none)) ∨
  ∃ n c S hv, hb = some hv ∧ HtName b o n c ∧
    valKind (hdrAt (getHdrType (b.extract o n)) o n {} .bodyStart) hv = some S ∧
    r = ((valCall S .bodyStart b (c + 1) hv).1, (valCall S .bodyStart b (c + 1) hv).2.1,
      htHdr (getHdrType (b.extract o n)) o n S (valCall S .bodyStart b (c + 1) hv).2.1
        (valCall S .bodyStart b (c + 1) hv).2.2.1, some (valCall S .bodyStart b (c + 1) hv).2.2.2)

/-- the text read by one call on a new header: a generic outcome with the values object untouched, or the one call of a
    typed value parser after the colon -/
theorem hl_out_text (b : Buf) (o : Nat) (hb : Option PHdrVals) (hfit : b.size ≤ 65535) {o' : Nat} {e : Err}
    {h' : Hdr} {hb' : Option PHdrVals} (hr : parseHdrLine b o {} hb = (o', e, h', hb')) :
    (HlOutT b o hb o' e ∧ hb' = hb) ∨ HlLineR b o hb (o', e, (h', hb')) := by
  have hval : ∀ {i h}, HlAt b o hb i h → ¬ h.state.isVal := by
    intro i h hS
    cases hS <;> simp_all [HState.isVal, hdrAt]
  refine parseHdrLine_ind b (fun i st => st.2 = hb ∧ HlAt b o hb i st.1)
    (fun o' e st => (HlOutT b o hb o' e ∧ st.2 = hb) ∨ HlLineR b o hb (o', e, st))
    ?_ ?_ ?_ ?_ ?_ ?_ (fun _ _ hS => .inl ⟨.inr (.inr (.inl rfl)), hS.1⟩) ⟨rfl, .init⟩ hr
  · intro i c h hb1 o' e h' hc hS ha
    have := hlLex_at hfit hc hS.2; rw [ha] at this; exact .inl ⟨this, hS.1⟩
  · intro i c h hb1 i' h' hc hS ha
    have := hlLex_at hfit hc hS.2; rw [ha] at this; exact ⟨hS.1, this⟩
  · intro _ _ _ _ _ _ _ hS _ _; exact .inl ⟨.inr (.inr (.inr rfl)), hS.1⟩
  · intro i c h hb1 j h' nm hc hS ha hn hk
    have := hlLex_at hfit hc hS.2; rw [ha] at this
    obtain ⟨n, c0, H, rfl, rfl⟩ := this
    have hcl := get?_lt H.2.2.2.2
    rw [hdrAt_name_get? b 0 o n {} .bodyStart H.2.1 (by have := H.2.2.2.1; omega) hfit] at hn
    cases hn
    refine ⟨hS.1, .body n c0 _ H (fun hv hh => ?_) rfl⟩
    exact valKind_eq_none_iff.mp (hk hv (hS.1.trans hh))
  · intro i c h _ hS hv; exact absurd hv (hval hS.2)
  · intro i c h hv j h1 K hc hS hcall
    rcases hcall with ⟨ha, _⟩ | ⟨h', nm, ha, hn, rfl, hk⟩
    · have := hlLex_at hfit hc hS.2; rw [ha] at this; exact this.elim
    · have := hlLex_at hfit hc hS.2; rw [ha] at this
      obtain ⟨n, c0, H, rfl, rfl⟩ := this
      rw [hdrAt_name_get? b 0 o n {} .bodyStart H.2.1 (by have := H.2.2.2.1; have := get?_lt H.2.2.2.2; omega) hfit] at hn
      cases hn
      exact .inr (.inr ⟨n, c0, K, hv, hS.1.symm, H, hk, rfl⟩)

/-- the master statement: the header reported with an accepting generic verdict is the grammar's, because the grammar's
    line is parsed as such (`HdrLineAt.parse_gen`, `EmptyLine.parse`) and the call returns one thing -/
theorem hl_line_out (b : Buf) (o : Nat) (hb : Option PHdrVals) (hfit : b.size ≤ 65535) :
    HlLineR b o hb (runLoop hlMachine b o (({} : Hdr), hb)) := by
  rcases hq : runLoop hlMachine b o (({} : Hdr), hb) with ⟨o', e, h', hb'⟩
  have hr : parseHdrLine b o {} hb = (o', e, h', hb') := parseHdrLine_run.2 hq
  rcases hl_out_text b o hb hfit hr with ⟨hT, rfl⟩ | hT
  · rcases hT with ⟨rfl, h0, H, hg⟩ | ⟨rfl, H⟩ | rfl | rfl
    · have := H.parse_gen hb' hfit hg
      rw [hr] at this; cases this
      exact .inl ⟨.inl ⟨rfl, H, rfl⟩, fun _ hv hh => valKind_eq_none_iff.mpr (hg hv hh)⟩
    · have := (H.parse hb').1
      rw [hr] at this; cases this
      exact .inl ⟨.inr (.inl ⟨rfl, H, rfl, rfl⟩), nofun⟩
    · exact .inl ⟨.inr (.inr (.inl rfl)), nofun⟩
    · exact .inl ⟨.inr (.inr (.inr rfl)), nofun⟩
  · exact hT

/-- … and in the generic treatment only the generic outcomes are left: a name of the typed path would end where
    `skipTokenDelim` stops and classify as a typed kind -/
theorem hs_line_loop (b : Buf) (o : Nat) (hb : Option PHdrVals) (hfit : b.size ≤ 65535)
    (hg : hb = none ∨ IsOther (getHdrType (b.extract o (skipTokenDelim b o 58)))) :
    HsOutR b o hb (runLoop hlMachine b o (({} : Hdr), hb)) := by
  rcases hl_line_out b o hb hfit with ⟨h, _⟩ | ⟨n, c, S, hv, rfl, H, hk, _⟩
  · exact h
  · rcases hg with hg | hg
    · cases hg
    · rw [H.stop] at hg
      exact absurd hg (valKind_not_other hk)

/-- **ParseHdrLine, every outcome** (new header object; no values object, or the name — the text up to the first
    SP / HT / CR / LF / colon — classifies as a type without a dedicated value parser):
    * OK: the text `[o, e)` is a header line of the grammar and `h` is the header it denotes; one byte after the line
      end is present and is not SP / HT; the values object is untouched;
    * "empty": `[o, e)` is the empty line that ends a block (CR LF, CR + another byte, LF);
    * otherwise the verdict is "more bytes" or "bad character". -/
theorem hs_parseHdrLine_cases (b : Buf) (o : Nat) (hb : Option PHdrVals) (hfit : b.size ≤ 65535)
    (hg : hb = none ∨ IsOther (getHdrType (b.extract o (skipTokenDelim b o 58)))) :
    HsLineOut b o hb (parseHdrLine b o {} hb).1 (parseHdrLine b o {} hb).2.1 (parseHdrLine b o {} hb).2.2.1
      (parseHdrLine b o {} hb).2.2.2 :=
  hs_line_loop b o hb hfit hg

/-- **soundness of an accepted line**: whatever ParseHdrLine accepts (OK) is a header line of the grammar, and the
    header reported is exactly the one the grammar denotes -/
theorem hs_line_sound (b : Buf) (o : Nat) (hb : Option PHdrVals) (hfit : b.size ≤ 65535)
    (hg : hb = none ∨ IsOther (getHdrType (b.extract o (skipTokenDelim b o 58))))
    {e : Nat} {h : Hdr} {hb' : Option PHdrVals} (hr : parseHdrLine b o {} hb = (e, .ok, h, hb')) :
    HdrLineAt b o e h ∧ hb' = hb := by
  have := hs_parseHdrLine_cases b o hb hfit hg
  rw [hr] at this
  rcases this with ⟨_, h1, h2⟩ | ⟨h1, _⟩ | h1 | h1
  · exact ⟨h1, h2⟩
  · cases h1
  · cases h1
  · cases h1

/-- the same with the positions spelled out: name `[o, n)` (non-empty), spaces / tabs up to the colon at `c`, linear
    white space, then either a value `[v, ve)` of tokens and linear white space or nothing, the line end at `p`, and
    a byte after the line end that is not SP / HT (the look-ahead that tells the end of the header from a fold) -/
theorem hs_line_sound_explicit (b : Buf) (o : Nat) (hb : Option PHdrVals) (hfit : b.size ≤ 65535)
    (hg : hb = none ∨ IsOther (getHdrType (b.extract o (skipTokenDelim b o 58))))
    {e : Nat} {h : Hdr} {hb' : Option PHdrVals} (hr : parseHdrLine b o {} hb = (e, .ok, h, hb')) :
    ∃ n c p, ∃ c2 : UInt8, NameRun b o n ∧ o < n ∧ WsRun b n c ∧ n ≤ c ∧ b[c]? = some 58 ∧ Eol b p e ∧
      b[e]? = some c2 ∧ isWS c2 = false ∧
      h.name = ⟨o, n - o⟩ ∧ h.type = getHdrType (b.extract o n) ∧ h.state = .fin ∧ h.pnc = false ∧ hb' = hb ∧
      ((∃ v ve, Lws b (c + 1) v ∧ ValRun b v ve p ∧ h.val = ⟨v, ve - v⟩) ∨ (Lws b (c + 1) p ∧ h.val = {})) := by
  obtain ⟨H, hh⟩ := hs_line_sound b o hb hfit hg hr
  rcases H with ⟨n, c, v, ve, p, c2, h1, h2, h3, h4, h5, h6, h7, h8, h9, h10, rfl⟩ |
    ⟨n, c, p, c2, h1, h2, h3, h4, h5, h6, h8, h9, h10, rfl⟩
  · exact ⟨n, c, p, c2, h1, h2, h3, h4, h5, h8, h9, h10, rfl, rfl, rfl, rfl, hh, Or.inl ⟨v, ve, h6, h7, rfl⟩⟩
  · exact ⟨n, c, p, c2, h1, h2, h3, h4, h5, h8, h9, h10, rfl, rfl, rfl, rfl, hh, Or.inr ⟨h6, rfl⟩⟩

/-- the "empty" verdict of ParseHdrLine, ANY values object: exactly the empty line, header finished, values object
    untouched -/
theorem hs_line_empty_all (b : Buf) (o : Nat) (hb : Option PHdrVals) (hfit : b.size ≤ 65535)
    {e : Nat} {h : Hdr} {hb' : Option PHdrVals} (hr : parseHdrLine b o {} hb = (e, .empty, h, hb')) :
    EmptyLine b o e ∧ h = { state := .fin } ∧ hb' = hb := by
  have hall := hl_line_out b o hb hfit
  rw [parseHdrLine_run.1 hr] at hall
  rcases hall with ⟨(⟨h1, _⟩ | ⟨_, h1, h2, h3⟩ | h1 | h1), _⟩ | ⟨n, c, S, hv, _, _, _, q⟩
  · cases h1
  · exact ⟨h1, h2, h3⟩
  · cases h1
  · cases h1
  · exact absurd (congrArg (·.2.1) q).symm (valCall_ne_empty S .bodyStart b (c + 1) hv)

/-- **every other verdict is "more bytes" or the error "bad character"** -/
theorem hs_line_verdicts (b : Buf) (o : Nat) (hb : Option PHdrVals) (hfit : b.size ≤ 65535)
    (hg : hb = none ∨ IsOther (getHdrType (b.extract o (skipTokenDelim b o 58))))
    {e : Nat} {er : Err} {h : Hdr} {hb' : Option PHdrVals} (hr : parseHdrLine b o {} hb = (e, er, h, hb')) :
    er = .ok ∨ er = .empty ∨ er = .moreBytes ∨ er = .badChar := by
  have := hs_parseHdrLine_cases b o hb hfit hg
  rw [hr] at this
  rcases this with ⟨h1, _⟩ | ⟨h1, _⟩ | h1 | h1
  · exact Or.inl h1
  · exact Or.inr (Or.inl h1)
  · exact Or.inr (Or.inr (Or.inl h1))
  · exact Or.inr (Or.inr (Or.inr h1))

/-- **accepted iff of the grammar** (line level, with `parseHdrLine_spec` for the other direction) -/
theorem hs_line_ok_iff (b : Buf) (o : Nat) (hb : Option PHdrVals) (hfit : b.size ≤ 65535)
    (hg : hb = none ∨ IsOther (getHdrType (b.extract o (skipTokenDelim b o 58))))
    (e : Nat) (h : Hdr) (hb' : Option PHdrVals) :
    parseHdrLine b o {} hb = (e, .ok, h, hb') ↔ HdrLineAt b o e h ∧ hb' = hb := by
  constructor
  · exact hs_line_sound b o hb hfit hg
  · rintro ⟨H, rfl⟩
    refine H.parse hb' hfit ?_
    rcases hg with hg | hg
    · exact Or.inl hg
    · exact Or.inr (by rw [(hs_lineAt_type H).1]; exact hg)

theorem hs_line_empty_iff (b : Buf) (o : Nat) (hb : Option PHdrVals) (hfit : b.size ≤ 65535)
    (hg : hb = none ∨ IsOther (getHdrType (b.extract o (skipTokenDelim b o 58))))
    (e : Nat) (h : Hdr) (hb' : Option PHdrVals) :
    parseHdrLine b o {} hb = (e, .empty, h, hb') ↔ EmptyLine b o e ∧ h = { state := .fin } ∧ hb' = hb := by
  constructor
  · exact hs_line_empty_all b o hb hfit
  · rintro ⟨H, rfl, rfl⟩
    exact (H.parse hb').1

/-- a line of the grammar at `o` is unique: its end and the header it denotes are determined by the text -/
theorem hs_lineAt_unique {b : Buf} {o e e' : Nat} {h h' : Hdr} (hfit : b.size ≤ 65535)
    (H : HdrLineAt b o e h) (H' : HdrLineAt b o e' h') : e = e' ∧ h = h' := by
  have h1 := H.parse none hfit (Or.inl rfl)
  have h2 := H'.parse none hfit (Or.inl rfl)
  rw [h1] at h2
  cases h2
  exact ⟨rfl, rfl⟩

theorem hs_emptyLine_unique {b : Buf} {o e e' : Nat} (H : EmptyLine b o e) (H' : EmptyLine b o e') : e = e' := by
  have h1 := (H.parse none).1
  have h2 := (H'.parse none).1
  rw [h1] at h2
  cases h2
  rfl

/-- a header line and the empty line never start at the same place -/
theorem hs_line_not_empty {b : Buf} {o e e' : Nat} {h : Hdr} (hfit : b.size ≤ 65535)
    (H : HdrLineAt b o e h) (H' : EmptyLine b o e') : False := by
  have h1 := H.parse none hfit (Or.inl rfl)
  have h2 := (H'.parse none).1
  rw [h1] at h2
  cases h2

/-! ### ANY values object: the name and the type of an accepted line -/

/-- **name and type of ANY accepted line, with or without a values object, typed or not**: if ParseHdrLine says OK
    for a new header object, the text at `o` starts with a non-empty name `[o, n)` (no SP / HT / CR / LF / colon in
    it), spaces / tabs, and the colon; the reported name is `[o, n)`, the reported type is the classification of
    exactly that text, and the header is finished -/
theorem hs_line_name_type_sound (b : Buf) (o : Nat) (hb : Option PHdrVals) (hfit : b.size ≤ 65535)
    {e : Nat} {h : Hdr} {hb' : Option PHdrVals} (hr : parseHdrLine b o {} hb = (e, .ok, h, hb')) :
    ∃ n c, NameRun b o n ∧ o < n ∧ WsRun b n c ∧ n ≤ c ∧ b[c]? = some 58 ∧ h.name = ⟨o, n - o⟩ ∧
      h.type = getHdrType (b.extract o n) ∧ h.state = .fin := by
  have hall := hl_line_out b o hb hfit
  rw [parseHdrLine_run.1 hr] at hall
  rcases hall with ⟨(⟨_, H, _⟩ | ⟨h1, _⟩ | h1 | h1), _⟩ | ⟨n, c, S, hv, _, ⟨q1, q2, q3, q4, q5⟩, _, hr⟩
  · rcases H with ⟨n, c, v, ve, p, c2, h1, h2, h3, h4, h5, _, _, _, _, _, rfl⟩ |
      ⟨n, c, p, c2, h1, h2, h3, h4, h5, _, _, _, _, rfl⟩ <;>
    exact ⟨n, c, h1, h2, h3, h4, h5, rfl, rfl, rfl⟩
  · cases h1
  · cases h1
  · cases h1
  · simp only [Prod.mk.injEq] at hr
    obtain ⟨_, hok, rfl, _⟩ := hr
    rw [← hok]
    exact ⟨n, c, q1, q2, q3, q4, q5, rfl, rfl, rfl⟩

/-- **soundness phrased on the REPORTED type**: with a values object, an accepted line whose reported type is not one
    of the eight typed kinds is a line of the grammar, the reported header is the one it denotes, and the values object
    is untouched -/
theorem hs_line_sound_reported (b : Buf) (o : Nat) (hb : Option PHdrVals) (hfit : b.size ≤ 65535)
    {e : Nat} {h : Hdr} {hb' : Option PHdrVals} (hr : parseHdrLine b o {} hb = (e, .ok, h, hb'))
    (ht : IsOther h.type) : HdrLineAt b o e h ∧ hb' = hb := by
  have hall := hl_line_out b o hb hfit
  rw [parseHdrLine_run.1 hr] at hall
  rcases hall with ⟨(⟨_, H, h2⟩ | ⟨h1, _⟩ | h1 | h1), _⟩ | ⟨n, c, S, hv, _, _, hk, hr⟩
  · exact ⟨H, h2⟩
  · cases h1
  · cases h1
  · cases h1
  · simp only [Prod.mk.injEq] at hr
    obtain ⟨_, _, rfl, _⟩ := hr
    rw [htHdr_type] at ht
    exact absurd ht (valKind_not_other hk)

/-! ### ANY values object: one header per logical line, names and types -/

/-- a reported header whose name and type are right: at `o` a non-empty name `[o, n)`, spaces / tabs, the colon; the
    header is finished, carries that name and the classification of exactly that text (the value part is the business
    of the value parser when the line is typed) -/
def HsNameAt (b : Buf) (o : Nat) (h : Hdr) : Prop :=
  ∃ n c, NameRun b o n ∧ o < n ∧ WsRun b n c ∧ n ≤ c ∧ b[c]? = some 58 ∧ h.name = ⟨o, n - o⟩ ∧
    h.type = getHdrType (b.extract o n) ∧ h.state = .fin

/-- accepted lines one after the other (each starting where the previous one ended), then the empty line -/
inductive HsChain (b : Buf) : Nat → List Hdr → Nat → Prop
  | nil (o e : Nat) : EmptyLine b o e → HsChain b o [] e
  | cons (o e1 e : Nat) (h : Hdr) (hs : List Hdr) : HsNameAt b o h → o < e1 → HsChain b e1 hs e → HsChain b o (h :: hs) e

/-- **ParseHeaders, ANY values object** (list object in the state of a new / reset one): if the verdict is OK (or
    "empty"), the accepted text is a chain of lines — each reported header has the name as written and the
    classification of that name — ended by the empty line, and the list object is what accepting exactly these
    headers, in order, produces: one header per logical line, none invented, none dropped -/
theorem hs_block_names_all (b : Buf) (hfit : b.size ≤ 65535) :
    ∀ (k o : Nat) (hl : HdrLst) (hb : Option PHdrVals), b.size - o = k → HlsClean hl → hl.cur = {} →
      ∀ {e : Nat} {er : Err} {hl' : HdrLst} {hb' : Option PHdrVals},
        parseHeaders b o hl hb = (e, er, hl', hb') → (er = .ok ∨ er = .empty) →
        ∃ hs, HsChain b o hs e ∧ hl' = (hl.acceptAll hs).setCur { state := .fin } ∧
          er = (if (hl.acceptAll hs).n > 0 then Err.ok else Err.empty) := by
  intro _ o hl hb _
  have key := parseHeaders_rec b (M := fun o hl _ r => HlsClean hl → hl.cur = {} → (r.2.1 = .ok ∨ r.2.1 = .empty) →
      ∃ hs, HsChain b o hs r.1 ∧ r.2.2.1 = (hl.acceptAll hs).setCur { state := .fin } ∧
        r.2.1 = (if (hl.acceptAll hs).n > 0 then Err.ok else Err.empty)) ?_ ?_ ?_ ?_ ?_ o hl hb
  · intro hc hcur e er hl' hb' hr her
    rw [hr] at key
    exact key hc hcur her
  · intro o hl hb n g hb' r _ hp hgt ih hc hcur her
    rw [hcur] at hp
    have hcl := accept_clean hl g hc
    obtain ⟨hs, H, h1, h2⟩ := ih hcl.1 hcl.2 her
    exact ⟨g :: hs, HsChain.cons o n _ g hs (hs_line_name_type_sound b o hb hfit hp) hgt H, h1, h2⟩
  · intro _ _ _ _ _ _ _ _ _ _ _ her; rcases her with h | h <;> cases h
  · intro o hl hb n g hb' _ hp hc hcur _
    rw [hcur] at hp
    obtain ⟨hem, rfl, _⟩ := hs_line_empty_all b o hb hfit hp
    exact ⟨[], HsChain.nil o _ hem, rfl, rfl⟩
  · intro _ _ _ _ e _ _ _ _ hne hne' _ _ her
    rcases her with h | h
    · exact absurd h hne
    · exact absurd h hne'
  · intro _ _ _ _ _ _ her; rcases her with h | h <;> cases h

theorem HsChain.length_pos {b : Buf} {o e : Nat} {hs : List Hdr} (H : HsChain b o hs e) : o < e := by
  induction H with
  | nil o e he =>
    cases he <;> omega
  | cons o e1 e h hs _ hlt _ ih => omega

/-! ### the header block -/

/-- the byte before the end of a line end is a CR or LF -/
theorem hs_eol_last {b : Buf} {p e : Nat} (h : Eol b p e) : p < e ∧ ∃ c, b[e - 1]? = some c ∧ isCRLFch c = true := by
  cases h with
  | crlf h0 h1 => exact ⟨by omega, 10, h1, by decide⟩
  | cr c h0 h1 hc => exact ⟨by omega, 13, h0, by decide⟩
  | lf c h0 h1 => exact ⟨by omega, 10, h0, by decide⟩

theorem hs_lineAt_last {b : Buf} {o e : Nat} {h : Hdr} (H : HdrLineAt b o e h) :
    o < e ∧ ∃ c, b[e - 1]? = some c ∧ isCRLFch c = true := by
  refine ⟨H.gt.1, ?_⟩
  rcases H with ⟨n, c, v, ve, p, c2, _, _, _, _, _, _, _, h8, _, _, _⟩ | ⟨n, c, p, c2, _, _, _, _, _, _, h8, _, _, _⟩
  · exact (hs_eol_last h8).2
  · exact (hs_eol_last h8).2

/-- `o'` is where a line of the text from `o` on can start: `o` itself, or any later position just after a CR / LF -/
def HsLineStart (b : Buf) (o o' : Nat) : Prop :=
  o' = o ∨ (o < o' ∧ ∃ c, b[o' - 1]? = some c ∧ isCRLFch c = true)

/-- the generic treatment for a block: no values object, or no line of the text from `o` on starts with a name (text
    up to the first SP / HT / CR / LF / colon) of one of the eight header types with a dedicated value parser -/
def HsGeneric (b : Buf) (o : Nat) (hb : Option PHdrVals) : Prop :=
  hb = none ∨ ∀ o', HsLineStart b o o' → IsOther (getHdrType (b.extract o' (skipTokenDelim b o' 58)))

theorem HsGeneric.here {b : Buf} {o : Nat} {hb : Option PHdrVals} (h : HsGeneric b o hb) :
    hb = none ∨ IsOther (getHdrType (b.extract o (skipTokenDelim b o 58))) := by
  rcases h with h | h
  · exact Or.inl h
  · exact Or.inr (h o (Or.inl rfl))

/-! ### blocks: the generic-treatment hypothesis restricted to the line starts inside the accepted text -/

/-- the generic treatment, restricted to `[o, e)`: no values object, or no line of the text that starts at `o` or after a
    CR / LF at a position BELOW `e` carries one of the eight typed names (`HsGeneric` asks this of every line start of
    the whole buffer) -/
def AfcGenericIn (b : Buf) (o e : Nat) (hb : Option PHdrVals) : Prop :=
  hb = none ∨ ∀ o', HsLineStart b o o' → o' < e → IsOther (getHdrType (b.extract o' (skipTokenDelim b o' 58)))

theorem HsGeneric.afc_in {b : Buf} {o : Nat} {hb : Option PHdrVals} (h : HsGeneric b o hb) (e : Nat) :
    AfcGenericIn b o e hb := by
  rcases h with h | h
  · exact Or.inl h
  · exact Or.inr (fun o' ho' _ => h o' ho')

theorem AfcGenericIn.next {b : Buf} {o e1 e : Nat} {hb : Option PHdrVals} {h : Hdr} (hg : AfcGenericIn b o e hb)
    (H : HdrLineAt b o e1 h) : AfcGenericIn b e1 e hb := by
  rcases hg with hg | hg
  · exact Or.inl hg
  · refine Or.inr (fun o' ho' hlt => hg o' ?_ hlt)
    obtain ⟨hlt1, hc⟩ := hs_lineAt_last H
    rcases ho' with rfl | ⟨h1, h2⟩
    · exact Or.inr ⟨hlt1, hc⟩
    · exact Or.inr ⟨by omega, h2⟩

theorem afc_block_lt {b : Buf} {o e : Nat} {hs : List Hdr} (H : HdrBlock b o hs e) : o < e := by
  induction H with
  | nil o e he => cases he <;> omega
  | cons o e1 e h hs hline _ ih => have := hline.gt.1; omega

/-- in a block none of whose lines (line starts below its end) carries a typed name, every header is of a generic type -/
theorem afc_block_generic {b : Buf} {o e : Nat} {hs : List Hdr} (H : HdrBlock b o hs e) {hb : Option PHdrVals}
    (hg : AfcGenericIn b o e hb) : hb = none ∨ ∀ h ∈ hs, IsOther h.type := by
  induction H with
  | nil o e _ => exact Or.inr (fun h hh => by cases hh)
  | cons o e1 e h hs hline H2 ih =>
    rcases hg with hn | hg'
    · exact Or.inl hn
    · rcases ih (AfcGenericIn.next (Or.inr hg') hline) with hn | hrest
      · exact Or.inl hn
      · refine Or.inr (fun x hx => ?_)
        rcases List.mem_cons.mp hx with rfl | hx
        · rw [(hs_lineAt_type hline).1]
          have := afc_block_lt H2
          exact hg' o (Or.inl rfl) (by have := hline.gt.1; omega)
        · exact hrest x hx

/-- an accepted text is a block of the grammar, under the restricted hypothesis (the end `e` of the accepted text lies
    behind the line at `o`, so that line is covered by the hypothesis) -/
theorem afc_block_of_ok (b : Buf) (hb : Option PHdrVals) (hfit : b.size ≤ 65535) (o : Nat) (hl : HdrLst)
    (hc : HlsClean hl) (hcur : hl.cur = {}) {e : Nat} {er : Err} {hl' : HdrLst} {hb' : Option PHdrVals}
    (hr : parseHeaders b o hl hb = (e, er, hl', hb')) (her : er = .ok ∨ er = .empty) (hg : AfcGenericIn b o e hb) :
    ∃ hs, HdrBlock b o hs e := by
  have key := parseHeaders_rec b (M := fun o hl hb1 r => HlsClean hl → hl.cur = {} → (r.2.1 = .ok ∨ r.2.1 = .empty) →
      o < r.1 ∧ (hb1 = hb → AfcGenericIn b o r.1 hb → ∃ hs, HdrBlock b o hs r.1)) ?_ ?_ ?_ ?_ ?_ o hl hb
  · rw [hr] at key
    exact (key hc hcur her).2 rfl hg
  · rintro o hl hb1 n g hb' r _ hp hgt ih hc hcur her
    have hcl := accept_clean hl g hc
    obtain ⟨hlt, ih2⟩ := ih hcl.1 hcl.2 her
    refine ⟨by omega, ?_⟩
    rintro rfl hg
    have hhere : hb1 = none ∨ IsOther (getHdrType (b.extract o (skipTokenDelim b o 58))) :=
      hg.imp id fun h => h o (Or.inl rfl) (by omega)
    rw [hcur] at hp
    obtain ⟨hline, rfl⟩ := hs_line_sound b o _ hfit hhere hp
    obtain ⟨hs, H⟩ := ih2 rfl (hg.next hline)
    exact ⟨g :: hs, HdrBlock.cons o n _ g hs hline H⟩
  · rintro o hl _ n g hb' _ _ _ _ _ her
    rcases her with h | h <;> cases h
  · rintro o hl hb1 n g hb' _ hp _ hcur _
    rw [hcur] at hp
    have hem := (hs_line_empty_all b o _ hfit hp).1
    exact ⟨by cases hem <;> omega, fun _ _ => ⟨[], HdrBlock.nil o n hem⟩⟩
  · rintro o hl _ n e g hb' _ _ hne hne' _ _ her
    rcases her with h | h
    · exact absurd h hne
    · exact absurd h hne'
  · rintro o hl _ _ _ _ her
    rcases her with h | h <;> cases h

/-- **soundness of an accepted block, hypothesis restricted to the accepted block**: if ParseHeaders ends with OK
    (or "empty") at `e`, and no line start of `[o, e)` carries a typed name (or there is no values object), then `[o, e)`
    is a block of the grammar and the list object is exactly what accepting its headers, in order, produces; the values
    object is untouched.  Nothing is assumed about the bytes from `e` on. -/
theorem afc_block_sound_in (b : Buf) (o : Nat) (hl : HdrLst) (hb : Option PHdrVals) (hfit : b.size ≤ 65535)
    (hc : HlsClean hl) (hcur : hl.cur = {}) {e : Nat} {er : Err} {hl' : HdrLst} {hb' : Option PHdrVals}
    (hr : parseHeaders b o hl hb = (e, er, hl', hb')) (her : er = .ok ∨ er = .empty) (hg : AfcGenericIn b o e hb) :
    ∃ hs, HdrBlock b o hs e ∧ hl' = (hl.acceptAll hs).setCur { state := .fin } ∧ hb' = hb ∧
      er = (if (hl.acceptAll hs).n > 0 then Err.ok else Err.empty) := by
  obtain ⟨hs, H⟩ := afc_block_of_ok b hb hfit o hl hc hcur hr her hg
  have := parseHeaders_block b hb hfit H hl hc hcur (afc_block_generic H hg)
  rw [hr] at this
  cases this
  exact ⟨hs, H, rfl, rfl, rfl⟩

/-- **soundness of an accepted block**: if ParseHeaders ends with OK (or "empty": no header at all), the text
    `[o, e)` is a block of the grammar — header lines one after the other, then the empty line — and the list object
    is exactly what accepting the headers denoted by those lines, in order, produces -/
theorem hs_block_sound (b : Buf) (o : Nat) (hl : HdrLst) (hb : Option PHdrVals) (hfit : b.size ≤ 65535)
    (hc : HlsClean hl) (hcur : hl.cur = {}) (hg : HsGeneric b o hb)
    {e : Nat} {er : Err} {hl' : HdrLst} {hb' : Option PHdrVals}
    (hr : parseHeaders b o hl hb = (e, er, hl', hb')) (her : er = .ok ∨ er = .empty) :
    ∃ hs, HdrBlock b o hs e ∧ hl' = (hl.acceptAll hs).setCur { state := .fin } ∧ hb' = hb ∧
      er = (if (hl.acceptAll hs).n > 0 then Err.ok else Err.empty) :=
  afc_block_sound_in b o hl hb hfit hc hcur hr her (hg.afc_in e)

/-- header lines of the grammar one after the other from `o` to the line start `e` (no closing empty line) -/
inductive lo2Lines (b : Buf) : Nat → List Hdr → Nat → Prop
  | nil (o : Nat) : lo2Lines b o [] o
  | cons (o e1 e : Nat) (h : Hdr) (hs : List Hdr) : HdrLineAt b o e1 h → lo2Lines b e1 hs e → lo2Lines b o (h :: hs) e

/-- **one ParseHeaders call** (list object in the state of a new one), hypothesis restricted to the line starts below
    `e'`: the verdict is OK / empty / MoreBytes / BadChar, or the text holds header lines of the grammar from `o` up
    to a line start at or beyond `e'` -/
theorem lo2_block_verdicts_in (b : Buf) (o : Nat) (hl : HdrLst) (hb : Option PHdrVals) (hfit : b.size ≤ 65535)
    (hc : HlsClean hl) (hcur : hl.cur = {}) (e' : Nat) (hg : AfcGenericIn b o e' hb) :
    ((parseHeaders b o hl hb).2.1 = .ok ∨ (parseHeaders b o hl hb).2.1 = .empty ∨
      (parseHeaders b o hl hb).2.1 = .moreBytes ∨ (parseHeaders b o hl hb).2.1 = .badChar) ∨
    (∃ hs o', lo2Lines b o hs o' ∧ e' ≤ o') := by
  -- beyond `e'` nothing is claimed: the empty list of lines reaches it
  have hfar : ∀ o, ¬ o < e' → ∀ {P : Prop}, P ∨ ∃ hs o', lo2Lines b o hs o' ∧ e' ≤ o' :=
    fun o hoe _ => Or.inr ⟨[], o, lo2Lines.nil o, by omega⟩
  have hhere : ∀ {o}, AfcGenericIn b o e' hb → o < e' →
      hb = none ∨ IsOther (getHdrType (b.extract o (skipTokenDelim b o 58))) :=
    fun hg hoe => hg.imp id fun h => h _ (Or.inl rfl) hoe
  refine parseHeaders_rec b (M := fun o hl hb1 r => hb1 = hb → HlsClean hl → hl.cur = {} → AfcGenericIn b o e' hb →
      (r.2.1 = .ok ∨ r.2.1 = .empty ∨ r.2.1 = .moreBytes ∨ r.2.1 = .badChar) ∨ ∃ hs o', lo2Lines b o hs o' ∧ e' ≤ o')
    ?_ ?_ ?_ ?_ ?_ o hl hb rfl hc hcur hg
  · rintro o hl _ n g hb' r _ hp hgt ih rfl hc hcur hg
    by_cases hoe : o < e'
    · rw [hcur] at hp
      obtain ⟨hline, rfl⟩ := hs_line_sound b o _ hfit (hhere hg hoe) hp
      have hcl := accept_clean hl g hc
      rcases ih rfl hcl.1 hcl.2 (hg.next hline) with hv | ⟨hs, o', hch, hle⟩
      · exact Or.inl hv
      · exact Or.inr ⟨g :: hs, o', lo2Lines.cons o n o' g hs hline hch, hle⟩
    · exact hfar o hoe
  · rintro o hl _ n g hb' _ hp hgt rfl _ hcur hg
    by_cases hoe : o < e'
    · rw [hcur] at hp
      exact absurd (hs_line_sound b o _ hfit (hhere hg hoe) hp).1.gt.1 hgt
    · exact hfar o hoe
  · rintro o hl _ n g hb' _ _ _ _ _ _
    left
    show (if hl.n > 0 then Err.ok else Err.empty) = _ ∨ (if hl.n > 0 then Err.ok else Err.empty) = _ ∨ _
    split
    · exact Or.inl rfl
    · exact Or.inr (Or.inl rfl)
  · rintro o hl _ n e g hb' _ hp hne hne' rfl _ hcur hg
    by_cases hoe : o < e'
    · rw [hcur] at hp
      rcases hs_line_verdicts b o _ hfit (hhere hg hoe) hp with h | h | h | h
      · exact absurd h hne
      · exact absurd h hne'
      · exact Or.inl (Or.inr (Or.inr (Or.inl h)))
      · exact Or.inl (Or.inr (Or.inr (Or.inr h)))
    · exact hfar o hoe
  · intro _ _ _ _ _ _ _ _
    exact Or.inl (Or.inr (Or.inr (Or.inl rfl)))

/-- a chain of lines ends where it starts or inside the buffer -/
theorem lo2Lines.end_lt {b : Buf} {o e : Nat} {hs : List Hdr} (H : lo2Lines b o hs e) : e = o ∨ e < b.size := by
  induction H with
  | nil o => exact Or.inl rfl
  | cons o e1 e h hs hl _ ih => exact Or.inr (ih.elim (fun h => h ▸ hl.gt.2) id)

/-- the verdicts of ParseHeaders (generic treatment): OK, "empty", "more bytes", or the error "bad character" -/
theorem hs_block_verdicts (b : Buf) (o : Nat) (hl : HdrLst) (hb : Option PHdrVals) (hfit : b.size ≤ 65535)
    (hc : HlsClean hl) (hcur : hl.cur = {}) (hg : HsGeneric b o hb)
    {e : Nat} {er : Err} {hl' : HdrLst} {hb' : Option PHdrVals}
    (hr : parseHeaders b o hl hb = (e, er, hl', hb')) :
    er = .ok ∨ er = .empty ∨ er = .moreBytes ∨ er = .badChar := by
  rcases lo2_block_verdicts_in b o hl hb hfit hc hcur (b.size + o + 1) (hg.afc_in _) with h | ⟨hs, o', H, hle⟩
  · rw [hr] at h; exact h
  · rcases H.end_lt with h | h <;> omega

/-- a new list object of capacity `k` (what `new_list_ok` of C07 says, repeated here for this file) -/
def hsNew (k : Nat) : HdrLst := { hdrs := Array.replicate k {} }

theorem hsNew_ok (k : Nat) : HlsClean (hsNew k) ∧ (hsNew k).cur = {} := hls_new_ok k

theorem hs_new_count (k : Nat) (hs : List Hdr) : ((hsNew k).acceptAll hs).n = hs.length := by
  rw [acceptAll_n]; show 0 + hs.length = hs.length; omega

/-- **ParseHeaders (new list object of any capacity) accepts at `e` iff `[o, e)` is a non-empty block of the grammar** —
    for every `e` such that no line start of `[o, e)` carries a typed name (or without a values object) -/
theorem afc_block_ok_iff_in (b : Buf) (o k : Nat) (hb : Option PHdrVals) (hfit : b.size ≤ 65535) (e : Nat)
    (hg : AfcGenericIn b o e hb) (hl' : HdrLst) (hb' : Option PHdrVals) :
    parseHeaders b o (hsNew k) hb = (e, .ok, hl', hb') ↔
      ∃ hs, hs ≠ [] ∧ HdrBlock b o hs e ∧ hl' = ((hsNew k).acceptAll hs).setCur { state := .fin } ∧ hb' = hb := by
  have hnew := hsNew_ok k
  constructor
  · intro hr
    obtain ⟨hs, H, h1, h2, h3⟩ := afc_block_sound_in b o (hsNew k) hb hfit hnew.1 hnew.2 hr (Or.inl rfl) hg
    refine ⟨hs, ?_, H, h1, h2⟩
    intro hnil
    subst hnil
    have : ((hsNew k).acceptAll []).n = 0 := hs_new_count k []
    rw [this] at h3
    simp at h3
  · rintro ⟨hs, hne, H, rfl, rfl⟩
    have := parseHeaders_block b hb' hfit H (hsNew k) hnew.1 hnew.2 (afc_block_generic H hg)
    rw [this, hs_new_count]
    have : hs.length > 0 := by
      cases hs with
      | nil => exact absurd rfl hne
      | cons _ _ => simp
    rw [if_pos this]

/-- **ParseHeaders accepts iff the text is a block of the grammar** (new list object of any capacity, generic
    treatment): the result is OK at `e` with list object `hl'` iff `[o, e)` is a block with at least one header line
    and `hl'` is the list object those headers produce. An ill-formed block is never accepted, a well-formed one never
    rejected, and what is reported is determined by the grammar. -/
theorem hs_block_ok_iff (b : Buf) (o k : Nat) (hb : Option PHdrVals) (hfit : b.size ≤ 65535) (hg : HsGeneric b o hb)
    (e : Nat) (hl' : HdrLst) (hb' : Option PHdrVals) :
    parseHeaders b o (hsNew k) hb = (e, .ok, hl', hb') ↔
      ∃ hs, hs ≠ [] ∧ HdrBlock b o hs e ∧ hl' = ((hsNew k).acceptAll hs).setCur { state := .fin } ∧ hb' = hb :=
  afc_block_ok_iff_in b o k hb hfit e (hg.afc_in e) hl' hb'

/-- the same without the list object: ParseHeaders says OK at `e` iff `[o, e)` is a non-empty block of the grammar -/
theorem hs_block_accepts_iff (b : Buf) (o k : Nat) (hb : Option PHdrVals) (hfit : b.size ≤ 65535)
    (hg : HsGeneric b o hb) (e : Nat) :
    (∃ hl' hb', parseHeaders b o (hsNew k) hb = (e, .ok, hl', hb')) ↔ ∃ hs, hs ≠ [] ∧ HdrBlock b o hs e := by
  constructor
  · rintro ⟨hl', hb', hr⟩
    obtain ⟨hs, h1, h2, _⟩ := (hs_block_ok_iff b o k hb hfit hg e hl' hb').mp hr
    exact ⟨hs, h1, h2⟩
  · rintro ⟨hs, h1, h2⟩
    exact ⟨_, _, (hs_block_ok_iff b o k hb hfit hg e _ _).mpr ⟨hs, h1, h2, rfl, rfl⟩⟩

/-- "empty" (no header at all): exactly when the text at `o` is the empty line -/
theorem hs_block_empty_iff (b : Buf) (o k : Nat) (hb : Option PHdrVals) (hfit : b.size ≤ 65535)
    (hg : HsGeneric b o hb) (e : Nat) :
    (∃ hl' hb', parseHeaders b o (hsNew k) hb = (e, .empty, hl', hb')) ↔ EmptyLine b o e := by
  have hnew := hsNew_ok k
  constructor
  · rintro ⟨hl', hb', hr⟩
    obtain ⟨hs, H, _, _, h3⟩ := hs_block_sound b o (hsNew k) hb hfit hnew.1 hnew.2 hg hr (Or.inr rfl)
    rw [hs_new_count] at h3
    cases H with
    | nil _ _ he => exact he
    | cons _ e1 _ h hs _ _ => simp at h3
  · intro he
    have := parseHeaders_block b hb hfit (HdrBlock.nil o e he) (hsNew k) hnew.1 hnew.2 (afc_block_generic (HdrBlock.nil o e he) (hg.afc_in e))
    rw [this, hs_new_count]
    exact ⟨_, _, rfl⟩

/-- a block of the grammar at `o` is unique: its end and the headers it denotes are determined by the text -/
theorem hs_block_unique {b : Buf} (hfit : b.size ≤ 65535) {o e : Nat} {hs : List Hdr} (H : HdrBlock b o hs e) :
    ∀ {e' : Nat} {hs' : List Hdr}, HdrBlock b o hs' e' → hs = hs' ∧ e = e' := by
  induction H with
  | nil o e he =>
    intro e' hs' H'
    cases H' with
    | nil _ _ he' => exact ⟨rfl, hs_emptyLine_unique he he'⟩
    | cons _ e1 _ h hs hline _ => exact (hs_line_not_empty hfit hline he).elim
  | cons o e1 e h hs hline _ ih =>
    intro e' hs' H'
    cases H' with
    | nil _ _ he' => exact (hs_line_not_empty hfit hline he').elim
    | cons _ e1' _ h' hs' hline' H2 =>
      obtain ⟨rfl, rfl⟩ := hs_lineAt_unique hfit hline hline'
      obtain ⟨rfl, rfl⟩ := ih H2
      exact ⟨rfl, rfl⟩

/-- what the list object of a new list (capacity `k`) records after accepting the headers `hs`: the count is their
    number (also beyond the capacity), the stored headers are the first `k` of them in order, a type flag is set iff a
    header of that type occurs, and the first-of-type table holds the first header of each known type -/
theorem hs_new_report (k : Nat) (hs : List Hdr) :
    (((hsNew k).acceptAll hs).setCur { state := .fin }).n = hs.length ∧
    (((hsNew k).acceptAll hs).setCur { state := .fin }).hdrs.size = k ∧
    (∀ j (hj : j < hs.length), j < k → (((hsNew k).acceptAll hs).setCur { state := .fin }).hdrs[j]! = hs[j]) ∧
    (∀ t, t < 16 →
      (((hsNew k).acceptAll hs).setCur { state := .fin }).pflags.testBit t = hs.any (fun h => h.type == t)) ∧
    (∀ j, j < 13 → (((hsNew k).acceptAll hs).setCur { state := .fin }).h[j]! =
      (match hs.find? (fun h => h.type == j + 1) with | some h => h | none => {})) := by
  have hsz : (hsNew k).hdrs.size = k := by simp [hsNew]
  refine ⟨?_, ?_, ?_, ?_, ?_⟩
  · rw [hlSetCur_n, hs_new_count]
  · rw [hlSetCur_size, acceptAll_size, hsz]
  · intro j hj hjk
    have h0 : (hsNew k).n = 0 := rfl
    have := acceptAll_stored (hsNew k) hs j hj (by rw [h0, hsz]; omega)
    rw [h0, Nat.zero_add] at this
    rw [hlSetCur_ne _ _ _ (by rw [hs_new_count]; omega)]
    exact this
  · intro t ht
    rw [(hlSetCur_scalars _ _).1, acceptAll_pflags (hsNew k) hs t ht (by show (0 : Nat) < 65536; decide)]
    have : (hsNew k).pflags.testBit t = false := by show (0 : Nat).testBit t = false; simp
    rw [this, Bool.false_or]
  · intro j hj
    rw [(hlSetCur_scalars _ _).2]
    have h13 : (hsNew k).h.size = 13 := by simp [hsNew]
    have hget : (hsNew k).h[j]! = {} := by
      show (Array.replicate 13 ({} : Hdr))[j]! = {}
      simp [hj]
    have := (acceptAll_first (hsNew k) hs j (by rw [h13]; exact hj) (by rw [hget]; rfl)).1
    rw [this, hget]
    cases hs.find? (fun h => h.type == j + 1) <;> rfl

/-- **what an accepted block reports** (new list object of capacity `k`, generic treatment): the headers of the block
    of the grammar, counted / stored / flagged / indexed as `hs_new_report` says -/
theorem hs_block_report (b : Buf) (o k : Nat) (hb : Option PHdrVals) (hfit : b.size ≤ 65535) (hg : HsGeneric b o hb)
    {e : Nat} {hl' : HdrLst} {hb' : Option PHdrVals} (hr : parseHeaders b o (hsNew k) hb = (e, .ok, hl', hb')) :
    ∃ hs, hs ≠ [] ∧ HdrBlock b o hs e ∧ hb' = hb ∧ hl'.n = hs.length ∧ hl'.hdrs.size = k ∧
      (∀ j (hj : j < hs.length), j < k → hl'.hdrs[j]! = hs[j]) ∧
      (∀ t, t < 16 → hl'.pflags.testBit t = hs.any (fun h => h.type == t)) ∧
      (∀ j, j < 13 → hl'.h[j]! = (match hs.find? (fun h => h.type == j + 1) with | some h => h | none => {})) := by
  obtain ⟨hs, hne, H, rfl, rfl⟩ := (hs_block_ok_iff b o k hb hfit hg e hl' hb').mp hr
  obtain ⟨r1, r2, r3, r4, r5⟩ := hs_new_report k hs
  exact ⟨hs, hne, H, rfl, r1, r2, r3, r4, r5⟩

/-- **what ANY accepted block reports** (new list object of capacity `k`, with or without a values object, typed
    lines included): a chain of lines whose reported names and types are right (`HsChain`), counted / stored / flagged
    / indexed as `hs_new_report` says -/
theorem hs_block_all_report (b : Buf) (o k : Nat) (hb : Option PHdrVals) (hfit : b.size ≤ 65535)
    {e : Nat} {hl' : HdrLst} {hb' : Option PHdrVals} (hr : parseHeaders b o (hsNew k) hb = (e, .ok, hl', hb')) :
    ∃ hs, hs ≠ [] ∧ HsChain b o hs e ∧ hl'.n = hs.length ∧ hl'.hdrs.size = k ∧
      (∀ j (hj : j < hs.length), j < k → hl'.hdrs[j]! = hs[j]) ∧
      (∀ t, t < 16 → hl'.pflags.testBit t = hs.any (fun h => h.type == t)) ∧
      (∀ j, j < 13 → hl'.h[j]! = (match hs.find? (fun h => h.type == j + 1) with | some h => h | none => {})) := by
  have hnew := hsNew_ok k
  obtain ⟨hs, H, rfl, h3⟩ := hs_block_names_all b hfit (b.size - o) o (hsNew k) hb rfl hnew.1 hnew.2 hr (Or.inl rfl)
  obtain ⟨r1, r2, r3, r4, r5⟩ := hs_new_report k hs
  refine ⟨hs, ?_, H, r1, r2, r3, r4, r5⟩
  intro hnil
  subst hnil
  have : ((hsNew k).acceptAll []).n = 0 := hs_new_count k []
  rw [this] at h3
  simp at h3

/-! ### resumed calls (one suspension; through the L2 theorems of C02) -/

/-- a line accepted by a RESUMED call — the first call on the prefix `b` asked for more bytes, the second call
    continues at the returned offset with the returned objects on the longer buffer — is a line of the grammar in
    the longer buffer, starting at the ORIGINAL offset, and the header reported is the one it denotes -/
theorem hs_line_resumed_sound (b s : Buf) (o : Nat) (ho : o ≤ b.size) (hfit : (b ++ s).size ≤ 65535)
    {o1 e : Nat} {h1 h : Hdr} {hb1 hb' : Option PHdrVals}
    (hr1 : parseHdrLine b o {} none = (o1, .moreBytes, h1, hb1))
    (hr2 : parseHdrLine (b ++ s) o1 h1 hb1 = (e, .ok, h, hb')) : HdrLineAt (b ++ s) o e h ∧ hb' = none := by
  obtain ⟨hrr, _⟩ := parseHdrLine_resume b s o {} none ⟨ho, hdrOK_new b, trivial⟩ trivial hr1
  rw [hr2] at hrr
  rcases hf : parseHdrLine (b ++ s) o {} none with ⟨e2, er2, h2, hb2⟩
  rw [hf] at hrr
  obtain ⟨q1, q2, q3, _⟩ := hrr
  simp only at q1 q2 q3
  subst q1
  subst q2
  have := q3 (Or.inl rfl)
  cases this
  exact hs_line_sound (b ++ s) o none hfit (Or.inl rfl) hf

/-- the same for ParseHeaders: a block accepted by a resumed call is a block of the grammar in the longer buffer
    from the original offset, and the list object is the one its headers produce -/
theorem hs_block_resumed_sound (b s : Buf) (o k : Nat) (ho : o ≤ b.size) (hfit : (b ++ s).size ≤ 65535)
    {o1 e : Nat} {hl1 hl' : HdrLst} {hb1 hb' : Option PHdrVals}
    (hr1 : parseHeaders b o (hsNew k) none = (o1, .moreBytes, hl1, hb1))
    (hr2 : parseHeaders (b ++ s) o1 hl1 hb1 = (e, .ok, hl', hb')) :
    ∃ hs, hs ≠ [] ∧ HdrBlock (b ++ s) o hs e ∧ hl' = ((hsNew k).acceptAll hs).setCur { state := .fin } ∧
      hb' = none := by
  obtain ⟨hrr, _⟩ := parseHeaders_resume b s o (hsNew k) none (hlsOK_new b k) trivial (hlsPend_new k none) ho hr1
  rw [hr2] at hrr
  rcases hf : parseHeaders (b ++ s) o (hsNew k) none with ⟨e2, er2, h2, hb2⟩
  rw [hf] at hrr
  obtain ⟨q1, q2, q3, _⟩ := hrr
  simp only at q1 q2 q3
  subst q1
  subst q2
  have := q3 (Or.inl rfl)
  cases this
  exact (hs_block_ok_iff (b ++ s) o k none hfit (Or.inl rfl) e hl' hb').mp hf

/-- a rejected or suspended line is not a line of the grammar (from completeness: the scanner is a function) -/
theorem hs_line_reject (b : Buf) (o : Nat) (hfit : b.size ≤ 65535) {e : Nat} {er : Err} {h : Hdr}
    {hb' : Option PHdrVals} (hr : parseHdrLine b o {} none = (e, er, h, hb')) (hne : er ≠ .ok) :
    ¬ ∃ e' h', HdrLineAt b o e' h' := by
  rintro ⟨e', h', H⟩
  have := H.parse none hfit (Or.inl rfl)
  rw [hr] at this
  cases this
  exact hne rfl

/-! ### tests / non-vacuity (closed computations, not part of the general claims) -/

/-- demo text: `Q :z CR LF W: CR LF CR LF X` -/
def hsDemo : Buf := "Q :z\r\nW:\r\n\r\nX".toUTF8.data

/-- non-vacuity of `HsGeneric` WITH a values object: no line start of the demo text carries a typed name -/
theorem hsDemo_generic : HsGeneric hsDemo 0 (some {}) := by
  refine Or.inr (fun o' h => ?_)
  have hsz : hsDemo.size = 13 := by decide +kernel
  have hlt : o' < 14 := by
    rcases h with rfl | ⟨_, c, hc, _⟩
    · omega
    · have := get?_lt hc; omega
  have all : ∀ o', o' < 14 → getHdrType (hsDemo.extract o' (skipTokenDelim hsDemo o' 58)) = 14 := by
    decide +kernel
  rw [all o' hlt]
  unfold IsOther
  decide

/-- test: ParseHeaders accepts the demo text (values object supplied, capacity 1, two headers), so by
    `hs_block_accepts_iff` the text `[0, 12)` is a block of the grammar -/
example : ∃ hs, hs ≠ [] ∧ HdrBlock hsDemo 0 hs 12 := by
  refine (hs_block_accepts_iff hsDemo 0 1 (some {}) (by decide +kernel) hsDemo_generic 12).mp ?_
  have h1 : (parseHeaders hsDemo 0 (hsNew 1) (some {})).1 = 12 := by decide +kernel
  have h2 : (parseHeaders hsDemo 0 (hsNew 1) (some {})).2.1 = .ok := by decide +kernel
  rcases h : parseHeaders hsDemo 0 (hsNew 1) (some {}) with ⟨e, er, hl', hb'⟩
  rw [h] at h1 h2
  simp only at h1 h2
  subst h1
  subst h2
  exact ⟨_, _, rfl⟩

/-- test: white space inside the name is rejected ("bad character"), hence — `hs_line_reject` — no line of the grammar
    starts there -/
example : ¬ ∃ e' h', HdrLineAt "a b:c\r\nX".toUTF8.data 0 e' h' := by
  have h2 : (parseHdrLine "a b:c\r\nX".toUTF8.data 0 {} none).2.1 = .badChar := by decide +kernel
  rcases h : parseHdrLine "a b:c\r\nX".toUTF8.data 0 {} none with ⟨e, er, hh, hb'⟩
  rw [h] at h2
  simp only at h2
  subst h2
  exact hs_line_reject _ 0 (by decide +kernel) h (by decide)

/-- test: a complete line at the very end of the buffer is NOT accepted yet (one byte of look-ahead is needed to
    tell the line end from a fold) -/
example : (parseHdrLine "a:c\r\n".toUTF8.data 0 {} none).2.1 = .moreBytes := by decide +kernel

/-- test: a resumed call (cut inside the value) — hypotheses of `hs_line_resumed_sound` are satisfiable -/
example : (parseHdrLine "Subject: a".toUTF8.data 0 {} none).2.1 = .moreBytes ∧
    (parseHdrLine ("Subject: a".toUTF8.data ++ "b\r\nX".toUTF8.data)
      (parseHdrLine "Subject: a".toUTF8.data 0 {} none).1
      (parseHdrLine "Subject: a".toUTF8.data 0 {} none).2.2.1
      (parseHdrLine "Subject: a".toUTF8.data 0 {} none).2.2.2).2.1 = .ok := by decide +kernel

/-- demo text with typed lines: `f: <sip:a@b>`, `CSeq: 1 INVITE`, `Q:z`, the empty line, `X` -/
def hsDemoTyped : Buf := "f: <sip:a@b>\r\nCSeq: 1 INVITE\r\nQ:z\r\n\r\nX".toUTF8.data

/-- test: the hypothesis of `hs_block_all_report` is satisfiable with a values object and typed lines (capacity 2,
    three headers): the text `[0, 37)` is a chain of three lines with the names / types reported -/
example : ∃ hs, hs ≠ [] ∧ HsChain hsDemoTyped 0 hs 37 ∧ hs.length = 3 := by
  have h1 : (parseHeaders hsDemoTyped 0 (hsNew 2) (some {})).1 = 37 := by decide +kernel
  have h2 : (parseHeaders hsDemoTyped 0 (hsNew 2) (some {})).2.1 = .ok := by decide +kernel
  have h3 : (parseHeaders hsDemoTyped 0 (hsNew 2) (some {})).2.2.1.n = 3 := by decide +kernel
  rcases h : parseHeaders hsDemoTyped 0 (hsNew 2) (some {}) with ⟨e, er, hl', hb'⟩
  rw [h] at h1 h2 h3
  simp only at h1 h2 h3
  subst h1
  subst h2
  obtain ⟨hs, q1, q2, q3, _⟩ := hs_block_all_report hsDemoTyped 0 2 (some {}) (by decide +kernel) h
  exact ⟨hs, q1, q2, by rw [← q3]; exact h3⟩

/-- test: a resumed ParseHeaders call (cut inside the block) — hypotheses of `hs_block_resumed_sound` are satisfiable -/
example : (parseHeaders "Q:z\r\n".toUTF8.data 0 (hsNew 1) none).2.1 = .moreBytes ∧
    (parseHeaders ("Q:z\r\n".toUTF8.data ++ "\r\nX".toUTF8.data)
      (parseHeaders "Q:z\r\n".toUTF8.data 0 (hsNew 1) none).1
      (parseHeaders "Q:z\r\n".toUTF8.data 0 (hsNew 1) none).2.2.1
      (parseHeaders "Q:z\r\n".toUTF8.data 0 (hsNew 1) none).2.2.2).2.1 = .ok := by decide +kernel

/-- test text: the demo block `hsDemo` (`Q :z`, `W:`, empty line; `[0, 12)`) followed by a body whose first line
    starts with the typed name `From` -/
def afcExG : Buf := "Q :z\r\nW:\r\n\r\nFrom: x\r\n".toUTF8.data

/-- test: `HsGeneric` (of the WHOLE buffer, values object present) FAILS on this
    text — the line start 12, after the block, carries a typed name -/
theorem afcExG_not_generic : ¬ HsGeneric afcExG 0 (some {}) := by
  rintro (h | h)
  · cases h
  · have := h 12 (Or.inr ⟨by omega, 10, by decide +kernel, by decide⟩)
    have ht : getHdrType (afcExG.extract 12 (skipTokenDelim afcExG 12 58)) = HdrFrom := by decide +kernel
    rw [ht] at this
    revert this
    unfold IsOther
    decide

/-- non-vacuity: the restricted hypothesis holds for the accepted block `[0, 12)`, any values object -/
theorem afcExG_generic_in (hv : PHdrVals) : AfcGenericIn afcExG 0 12 (some hv) := by
  refine Or.inr (fun o' _ hlt => ?_)
  have all : ∀ o', o' < 12 → getHdrType (afcExG.extract o' (skipTokenDelim afcExG o' 58)) = 14 := by
    decide +kernel
  rw [all o' hlt]
  unfold IsOther
  decide

/-- test / non-vacuity of `afc_block_sound_in`: one call with a values object accepts `[0, 12)`, hence it is a block of
    the grammar — although `HsGeneric` fails -/
example : ∃ hs, hs ≠ [] ∧ HdrBlock afcExG 0 hs 12 := by
  have h1 : (parseHeaders afcExG 0 (hsNew 1) (some {})).1 = 12 := by decide +kernel
  have h2 : (parseHeaders afcExG 0 (hsNew 1) (some {})).2.1 = .ok := by decide +kernel
  rcases h : parseHeaders afcExG 0 (hsNew 1) (some {}) with ⟨e, er, hl', hb'⟩
  rw [h] at h1 h2
  simp only at h1 h2
  subst h1
  subst h2
  obtain ⟨hs, hne, H, _⟩ := (afc_block_ok_iff_in afcExG 0 1 (some {}) (by decide +kernel) 12 (afcExG_generic_in {}) hl' hb').mp h
  exact ⟨hs, hne, H⟩

end Sipsp
