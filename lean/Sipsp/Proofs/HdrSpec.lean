/-
  Sipsp.Proofs.HdrSpec — a grammar of header lines (name, optional white space, colon, linear white space with folds,
  value tokens, line end in any of the three accepted forms; `Lws` and `Eol` are those of Proofs/Lex) and the proof that
  ParseHdrLine decomposes every line of that grammar exactly as written.
-/
import Sipsp.Proofs.FLineSpec
import Sipsp.Proofs.CapacityMsg
import Sipsp.Proofs.ValCall
import Sipsp.Proofs.HlLex
import Sipsp.Proofs.SlotArr

namespace Sipsp

/-- the bytes at `[i, j)` are present, none is white space, a line end or the delimiter -/
def NameRun (b : Buf) (i j : Nat) : Prop :=
  ∀ k, i ≤ k → k < j → ∃ c, b[k]? = some c ∧ isLWSch c = false ∧ c ≠ 58

/-- the bytes at `[i, j)` are spaces or tabs -/
def WsRun (b : Buf) (i j : Nat) : Prop := ∀ k, i ≤ k → k < j → ∃ c, b[k]? = some c ∧ isWS c = true

/-- the value of a header: tokens separated by linear white space (folds included); `v` is its first byte, `ve` the
    end of its last token, `p` the position of the line end that finishes the header -/
inductive ValRun (b : Buf) : Nat → Nat → Nat → Prop
  | last (v j p : Nat) : TokenRun b v j → v < j → Lws b j p → ValRun b v j p
  | cons (v j v2 ve p : Nat) (c : UInt8) : TokenRun b v j → v < j → Lws b j v2 → j < v2 → b[v2]? = some c →
      isLWSch c = false → ValRun b v2 ve p → ValRun b v ve p

theorem ValRun.bounds {b : Buf} {v ve p : Nat} (h : ValRun b v ve p) : v < ve ∧ ve ≤ p := by
  induction h with
  | last v j p _ h1 h2 => exact ⟨h1, h2.le⟩
  | cons v j v2 ve p c _ h1 h2 h3 _ _ _ ih => have := h2.le; omega

/-- the token `[v, j)` followed by white space / a line end: what the `hVal` state does from `v+1` -/
theorem hl_token (b : Buf) (hb : Option PHdrVals) (v j : Nat) (ht : TokenRun b v j) (hvj : v < j) {cj : UInt8}
    (hj : b[j]? = some cj) (hcj : isLWSch cj = true) (h : Hdr) (hst : h.state = .val) (hvo : h.val.offs ≤ v)
    (hp : h.pnc = false) (hfit : b.size ≤ 65535) :
    ∃ c, b[v + 1]? = some c ∧
      hlStep b (v + 1) c (h, hb) =
        hlValEnd b j { h with val := ⟨h.val.offs, j - h.val.offs⟩, state := .valEnd } hb := by
  have hjl := get?_lt hj
  have hsk : skipToken b (v + 1) = j :=
    skipToken_run b (v + 1) j (by omega) (fun k h1 h2 => ht k (by omega) h2) hj hcj
  have hc1 : ∃ c, b[v + 1]? = some c := by
    by_cases h1 : v + 1 < j
    · obtain ⟨c, hc, _⟩ := ht (v + 1) (by omega) h1; exact ⟨c, hc⟩
    · have : v + 1 = j := by omega
      rw [this]; exact ⟨cj, hj⟩
  obtain ⟨c, hc⟩ := hc1
  refine ⟨c, hc, ?_⟩
  unfold hlStep
  simp only [hst]
  rw [hsk, hj]
  simp only
  have hxp : h.val.extendPanics j = false := by unfold PField.extendPanics; simp; omega
  rw [extend_eq h.val j (by omega) (by omega), hp, hxp]
  rfl

/-- **the value loop**: from the second byte of the value, in state `hVal`, the loop walks over all tokens and folds
    and finishes at the line end with the value extended to the end of the last token -/
theorem hl_val_run (b : Buf) (hb : Option PHdrVals) {v ve p : Nat} (H : ValRun b v ve p) {e : Nat} (he : Eol b p e)
    {c2 : UInt8} (h2 : b[e]? = some c2) (hw2 : isWS c2 = false) (hfit : b.size ≤ 65535) :
    ∀ (h : Hdr), h.state = .val → h.val.offs ≤ v → h.pnc = false →
      runLoop hlMachine b (v + 1) (h, hb) =
        (e, .ok, ({ h with val := ⟨h.val.offs, ve - h.val.offs⟩, state := .fin }, hb)) := by
  induction H with
  | last v j p ht hvj hl =>
    intro h hst hvo hp
    have hjp := hl.le
    obtain ⟨cj, hj, hcj⟩ := hl.first_eol he
    obtain ⟨c, hc, hstep⟩ := hl_token b hb v j ht hvj hj hcj h hst hvo hp hfit
    have hgt := he.gt
    refine runLoop_done hlMachine hc ?_
    change hlStep b (v + 1) c (h, hb) = _
    rw [hstep]
    unfold hlValEnd
    rw [skipLWS_of_lws_eol hl he h2 hw2]
    simp only
    have : p + (e - p) = e := by omega
    rw [this]
  | cons v j v2 ve p c3 ht hvj hl hjv hc3 hl3 _ ih =>
    intro h hst hvo hp
    obtain ⟨cj, hj, hcj⟩ := hl.first hjv
    obtain ⟨c, hc, hstep⟩ := hl_token b hb v j ht hvj hj hcj h hst hvo hp hfit
    have hcont : hlStep b (v + 1) c (h, hb) =
        .cont (v2 + 1) ({ h with val := ⟨h.val.offs, j - h.val.offs⟩, state := .val }, hb) := by
      rw [hstep]
      unfold hlValEnd
      rw [skipLWS_of_lws hl hc3 hl3]
    rw [runLoop_cont_lt hlMachine hc (by exact hcont) (by omega)]
    have := ih he { h with val := ⟨h.val.offs, j - h.val.offs⟩, state := .val } rfl (by show h.val.offs ≤ v2; omega) hp
    rw [this]

/-! ### the whole line -/

/-- header types whose value is not handed to a dedicated value parser -/
def IsOther (t : Nat) : Prop :=
  t ≠ HdrFrom ∧ t ≠ HdrTo ∧ t ≠ HdrCallID ∧ t ≠ HdrCSeq ∧ t ≠ HdrCLen ∧ t ≠ HdrContact ∧ t ≠ HdrExpires ∧ t ≠ HdrPAI

theorem valKind_not_other {h : Hdr} {hv : PHdrVals} {S : HState} (hk : valKind h hv = some S) : ¬ IsOther h.type := by
  rintro ⟨h1, h2, h3, h4, h5, h6, h7, h8⟩
  rcases valKind_eq_some_iff.mp hk with q | q | q | q | q | q | q | q
  · exact h1 q.2.1
  · exact h2 q.2.1
  · exact h3 q.2.1
  · exact h4 q.2.1
  · exact h5 q.2.1
  · exact h6 q.2
  · exact h7 q.2.1
  · exact h8 q.2

/-- the header is scanned generically although a values object is supplied: its type has no value parser, or it is
    a single-valued type (From, To, Call-ID, CSeq, Content-Length, Expires) whose value is already parsed -/
def HtGen (t : Nat) (hv : PHdrVals) : Prop :=
  IsOther t ∨ (t = HdrFrom ∧ hv.from_.parsed = true) ∨ (t = HdrTo ∧ hv.to.parsed = true) ∨
  (t = HdrCallID ∧ hv.callid.parsed = true) ∨ (t = HdrCSeq ∧ hv.cseq.parsed = true) ∨
  (t = HdrCLen ∧ hv.clen.parsed = true) ∨ (t = HdrExpires ∧ hv.expires.parsed = true)

theorem valKind_eq_none_iff {h : Hdr} {hv : PHdrVals} : valKind h hv = none ↔ HtGen h.type hv := by
  constructor
  · -- none of the eight alternatives of `valKind_eq_some_iff` holds
    intro hk
    have hn : ∀ S, ¬ valKind h hv = some S := fun S h => by rw [hk] at h; cases h
    simp only [valKind_eq_some_iff, not_or, not_and] at hn
    have h1 := (hn .hFrom).1 rfl; have h2 := (hn .hTo).2.1 rfl; have h3 := (hn .hCallID).2.2.1 rfl
    have h4 := (hn .hCSeq).2.2.2.1 rfl; have h5 := (hn .hCLen).2.2.2.2.1 rfl; have h6 := (hn .hContact).2.2.2.2.2.1 rfl
    have h7 := (hn .hExpires).2.2.2.2.2.2.1 rfl; have h8 := (hn .hPAI).2.2.2.2.2.2.2 rfl
    simp only [Bool.not_eq_false] at h1 h2 h3 h4 h5 h7
    by_cases g1 : h.type = HdrFrom
    · exact .inr (.inl ⟨g1, h1 g1⟩)
    by_cases g2 : h.type = HdrTo
    · exact .inr (.inr (.inl ⟨g2, h2 g2⟩))
    by_cases g3 : h.type = HdrCallID
    · exact .inr (.inr (.inr (.inl ⟨g3, h3 g3⟩)))
    by_cases g4 : h.type = HdrCSeq
    · exact .inr (.inr (.inr (.inr (.inl ⟨g4, h4 g4⟩))))
    by_cases g5 : h.type = HdrCLen
    · exact .inr (.inr (.inr (.inr (.inr (.inl ⟨g5, h5 g5⟩)))))
    by_cases g7 : h.type = HdrExpires
    · exact .inr (.inr (.inr (.inr (.inr (.inr ⟨g7, h7 g7⟩)))))
    exact .inl ⟨g1, g2, g3, g4, g5, h6, g7, h8⟩
  · rintro (⟨h1, h2, h3, h4, h5, h6, h7, h8⟩ | ⟨ht, hp⟩ | ⟨ht, hp⟩ | ⟨ht, hp⟩ | ⟨ht, hp⟩ | ⟨ht, hp⟩ | ⟨ht, hp⟩) <;>
      unfold valKind <;> simp +decide only [*, beq_iff_eq, ↓reduceIte, Bool.not_true, Bool.false_eq_true]

/-- the generic treatment: no values object, or a header type without a dedicated value parser -/
theorem parseBody_generic (b : Buf) (o : Nat) (h : Hdr) (hb : Option PHdrVals) (hg : hb = none ∨ IsOther h.type) :
    parseBody b o h hb = (o, .ok, h, hb) := by
  cases hb with
  | none => rfl
  | some hv =>
    rcases hg with hg | hg
    · cases hg
    · rw [parseBody_eq, valKind_eq_none_iff.mpr (.inl hg)]; rfl

theorem ValRun.first {b : Buf} {v ve p : Nat} (h : ValRun b v ve p) : ∃ c, b[v]? = some c ∧ isLWSch c = false := by
  cases h with
  | last v j p ht hvj _ => exact ht v (Nat.le_refl _) hvj
  | cons v j v2 ve p c ht hvj _ _ _ _ _ => exact ht v (Nat.le_refl _) hvj

/-- the header object at the various points of a line: type, name `[o, n)`, value, state -/
def hdrAt (t o n : Nat) (v : PField) (st : HState) : Hdr := { type := t, name := ⟨o, n - o⟩, val := v, state := st }

/-- the part of a header line up to the colon: name `[o, n)`, optional spaces / tabs, colon at `c` -/
def HtName (b : Buf) (o n c : Nat) : Prop := NameRun b o n ∧ o < n ∧ WsRun b n c ∧ n ≤ c ∧ b[c]? = some 58

theorem HtName.lt {b : Buf} {o n c : Nat} (H : HtName b o n c) : o < c + 1 ∧ c < b.size := by
  obtain ⟨_, h1, _, h2, h3⟩ := H
  have := get?_lt h3; omega

/-- the byte that ends the name is a space / tab (more of them may follow up to the colon) or the colon itself -/
theorem HtName.nameEnd {b : Buf} {o n c : Nat} (H : HtName b o n c) :
    ∃ cn, b[n]? = some cn ∧ ((isWS cn = true ∧ n < c) ∨ (cn = 58 ∧ n = c)) := by
  obtain ⟨_, _, hws, hnc, hcolon⟩ := H
  by_cases h1 : n < c
  · obtain ⟨cn, hcn, hw⟩ := hws n (Nat.le_refl _) h1; exact ⟨cn, hcn, Or.inl ⟨hw, h1⟩⟩
  · have : n = c := by omega
    exact ⟨58, by rw [this]; exact hcolon, Or.inr ⟨rfl, this⟩⟩

theorem HtName.stop {b : Buf} {o n c : Nat} (H : HtName b o n c) : skipTokenDelim b o 58 = n := by
  obtain ⟨cn, hcn, hcase⟩ := H.nameEnd
  refine skipTokenDelim_run b o n (Nat.le_of_lt H.2.1) H.1 hcn ?_
  rcases hcase with ⟨hw, _⟩ | ⟨h58, _⟩
  · exact Or.inl (isWS_lws hw)
  · exact Or.inr h58

/-- `case hName:` at the first byte of a line when the name `[o, n)` is followed by a space / tab -/
theorem hlName_ws {b : Buf} {o n : Nat} {cn : UInt8} (hb : Option PHdrVals) (hfit : b.size ≤ 65535)
    (hsk : skipTokenDelim b o 58 = n) (hon : o < n) (hcn : b[n]? = some cn) (hw : isWS cn = true) :
    hlName b o { state := .name, name := PField.set o o } hb = .cont (n + 1) (hdrAt 0 o n {} .nameEnd, hb) := by
  have := get?_lt hcn
  unfold hlName
  simp only [hsk, hcn, hw, ↓reduceIte, set_extend o n (by omega) (by omega), set_extendPanics o n (by omega) (by omega),
    isEmpty_span hon, Bool.false_eq_true, Bool.or_self]
  rfl

/-- `case hName:` at the first byte of a line when the name `[o, n)` is followed by the colon -/
theorem hlName_colon {b : Buf} {o n : Nat} (hb : Option PHdrVals) (hfit : b.size ≤ 65535)
    (hsk : skipTokenDelim b o 58 = n) (hon : o < n) (hcn : b[n]? = some 58) :
    hlName b o { state := .name, name := PField.set o o } hb =
      hlAfterColon b (n + 1) (hdrAt 0 o n {} .bodyStart) hb := by
  have := get?_lt hcn
  unfold hlName
  simp only [hsk, hcn, show isWS (58 : UInt8) = false from rfl, beq_self_eq_true, ↓reduceIte,
    set_extend o n (by omega) (by omega), set_extendPanics o n (by omega) (by omega), isEmpty_span hon,
    Bool.false_eq_true, Bool.or_self]
  rfl

/-- `case hNameEnd:` when the spaces / tabs end at the colon -/
theorem hlStep_nameEnd_colon {b : Buf} {i : Nat} (o n : Nat) (y : UInt8) (hb : Option PHdrVals)
    (hj : b[skipWS b i]? = some 58) :
    hlStep b i y (hdrAt 0 o n {} .nameEnd, hb) = hlAfterColon b (skipWS b i + 1) (hdrAt 0 o n {} .bodyStart) hb := by
  unfold hlStep hdrAt
  simp only [hj, beq_self_eq_true, ↓reduceIte]

/-- the name recorded at the colon reads back the text `[o, n)` -/
theorem hdrAt_name_get? (b : Buf) (t o n : Nat) (v : PField) (st : HState) (hon : o < n) (hn : n ≤ b.size)
    (hfit : b.size ≤ 65535) : (hdrAt t o n v st).name.get? b = some (b.extract o n) := by
  show PField.get? b ⟨o, n - o⟩ = _
  rw [field_get? b o (n - o) (by omega) hfit, show o + (n - o) = n by omega]

/-- the header reported on the typed path: finished with the value parser's span when the verdict is OK; otherwise
    the header stays in the state of its value parser (the caller resumes or gives up) with no value -/
def htHdr (t o n : Nat) (st : HState) (e : Err) (v : PField) : Hdr :=
  if e == .ok then hdrAt t o n v .fin else hdrAt t o n {} st

theorem htHdr_ok (t o n : Nat) (st : HState) (v : PField) : htHdr t o n st .ok v = hdrAt t o n v .fin := rfl

theorem htHdr_type (t o n : Nat) (st : HState) (e : Err) (v : PField) : (htHdr t o n st e v).type = t := by
  unfold htHdr; split <;> rfl

/-- `htHdr` is how the call site of the value parsers (`hlWrap`) wraps the parser's result -/
theorem htHdr_wrap (t o n : Nat) (S : HState) (e : Err) (v : PField) (hv : PHdrVals) :
    hlWrap (hdrAt t o n {} S) e (v, hv) = (htHdr t o n S e v, some hv) := rfl

/-- the code after the colon either finishes the line or goes on at the position it was called with, so it does
    not matter at which earlier loop position it was reached -/
theorem hlAfterColon_runStep (b : Buf) (i c : Nat) (h : Hdr) (hb : Option PHdrVals) (hi : i ≤ c) :
    runStep hlMachine b i (hlAfterColon b (c + 1) h hb) = runStep hlMachine b c (hlAfterColon b (c + 1) h hb) := by
  unfold hlAfterColon
  split
  · rfl
  · dsimp only
    split
    · rfl
    · show (if i < c + 1 then _ else _) = (if c < c + 1 then _ else _)
      rw [if_pos (Nat.lt_succ_of_le hi), if_pos (Nat.lt_succ_self c)]

/-- **the line up to the colon**: the name `[o, n)`, optional spaces / tabs, the colon at `c` — the loop arrives at
    the code after the colon (`hlAfterColon` at `c + 1`) with the name recorded, and goes on with what that code
    says, whatever follows -/
theorem runLoop_hl_name {b : Buf} {o n c : Nat} (H : HtName b o n c) (hb : Option PHdrVals) (hfit : b.size ≤ 65535) :
    runLoop hlMachine b o (({} : Hdr), hb) =
      runStep hlMachine b c (hlAfterColon b (c + 1) (hdrAt 0 o n {} .bodyStart) hb) := by
  obtain ⟨cn, hcn, hcase⟩ := H.nameEnd
  obtain ⟨hname, hon, hws, hnc, hcolon⟩ := H
  obtain ⟨c0, h0, hl0, _⟩ := hname o (Nat.le_refl _) hon
  have hstep0 : hlStep b o c0 (({} : Hdr), hb) = hlName b o { state := .name, name := PField.set o o } hb := by
    unfold isLWSch at hl0; simp only [Bool.or_eq_false_iff] at hl0
    unfold hlStep; simp only [hl0.1.2, hl0.2, Bool.false_eq_true, ↓reduceIte]
  have hsk := HtName.stop ⟨hname, hon, hws, hnc, hcolon⟩
  rw [runLoop_eq_runStep hlMachine _ h0]
  show runStep hlMachine b o (hlStep b o c0 (({} : Hdr), hb)) = _
  rw [hstep0]
  rcases hcase with ⟨hw, hlt⟩ | ⟨rfl, rfl⟩
  · -- white space before the colon
    rw [hlName_ws hb hfit hsk hon hcn hw]
    have hy : ∃ y, b[n + 1]? = some y := by
      by_cases h1 : n + 1 < c
      · obtain ⟨y, hy, _⟩ := hws (n + 1) (by omega) h1; exact ⟨y, hy⟩
      · rw [show n + 1 = c by omega]; exact ⟨58, hcolon⟩
    obtain ⟨y, hy⟩ := hy
    have hskw : skipWS b (n + 1) = c :=
      skipWS_run b (n + 1) c (by omega) (fun k h1 h2 => hws k (by omega) h2) hcolon (by decide)
    show (if o < n + 1 then runLoop hlMachine b (n + 1) (hdrAt 0 o n {} .nameEnd, hb) else _) = _
    rw [if_pos (by omega), runLoop_eq_runStep hlMachine _ hy]
    show runStep hlMachine b (n + 1) (hlStep b (n + 1) y (hdrAt 0 o n {} .nameEnd, hb)) = _
    rw [hlStep_nameEnd_colon o n y hb (by rw [hskw]; exact hcolon), hskw]
    exact hlAfterColon_runStep b (n + 1) c _ hb (by omega)
  · rw [hlName_colon hb hfit hsk hon hcn]
    exact hlAfterColon_runStep b o n _ hb (by omega)

/-- after the colon: classification of the name, generic dispatch (no values object, or no value parser selected for the
    type: `HtGen`), and on to the value -/
theorem hlAfterColon_gen (b : Buf) (o n i : Nat) (hb : Option PHdrVals) (hon : o < n) (hn : n ≤ b.size)
    (hfit : b.size ≤ 65535) (hg : ∀ hv, hb = some hv → HtGen (getHdrType (b.extract o n)) hv) :
    hlAfterColon b i (hdrAt 0 o n {} .bodyStart) hb =
      .cont i (hdrAt (getHdrType (b.extract o n)) o n {} .bodyStart, hb) := by
  have hnm := hdrAt_name_get? b 0 o n {} .bodyStart hon hn hfit
  rw [hlAfterColon_nf b i _ hb rfl]
  cases hb with
  | none => exact colonDo_nil hnm i
  | some hv => exact colonDo_untyped hnm (valKind_eq_none_iff.mpr (hg hv rfl)) i

theorem hlAfterColon_spec (b : Buf) (o n i : Nat) (hb : Option PHdrVals) (hon : o < n) (hn : n ≤ b.size)
    (hfit : b.size ≤ 65535) (hg : hb = none ∨ IsOther (getHdrType (b.extract o n))) :
    hlAfterColon b i (hdrAt 0 o n {} .bodyStart) hb =
      .cont i (hdrAt (getHdrType (b.extract o n)) o n {} .bodyStart, hb) :=
  hlAfterColon_gen b o n i hb hon hn hfit fun hv hh => by
    rcases hg with hg | hg
    · rw [hg] at hh; cases hh
    · exact .inl hg

/-- the generic value scanner from the byte after the colon, for a value `[v, ve)` -/
theorem runLoop_hl_body (b : Buf) (hb : Option PHdrVals) (t o n i v ve p e : Nat) (hfit : b.size ≤ 65535)
    (hlws : Lws b i v) (hval : ValRun b v ve p) (he : Eol b p e) {c2 : UInt8} (h2 : b[e]? = some c2)
    (hw2 : isWS c2 = false) :
    runLoop hlMachine b i (hdrAt t o n {} .bodyStart, hb) = (e, .ok, hdrAt t o n ⟨v, ve - v⟩ .fin, hb) := by
  obtain ⟨cv, hv, hcvl⟩ := hval.first
  have hvl := get?_lt hv
  have hiv := hlws.le
  have hx : ∃ x, b[i]? = some x := by
    by_cases h1 : i < v
    · obtain ⟨x, hx, _⟩ := hlws.first h1; exact ⟨x, hx⟩
    · rw [show i = v by omega]; exact ⟨cv, hv⟩
  obtain ⟨x, hx⟩ := hx
  have hstep : hlStep b i x (hdrAt t o n {} .bodyStart, hb) = .cont (v + 1) (hdrAt t o n (PField.set v v) .val, hb) := by
    unfold hlStep hdrAt
    simp only
    rw [skipLWS_of_lws hlws hv hcvl]
  rw [runLoop_cont_lt hlMachine hx (by exact hstep) (by omega)]
  have hoffs : (PField.set v v).offs = v := trunc16_id (by omega)
  rw [hl_val_run b hb hval he h2 hw2 hfit (hdrAt t o n (PField.set v v) .val) rfl (Nat.le_of_eq hoffs) rfl]
  show (e, Err.ok, hdrAt t o n ⟨(PField.set v v).offs, ve - (PField.set v v).offs⟩ .fin, hb) = _
  rw [hoffs]

/-- the generic value scanner from the byte after the colon, for an empty value: only linear white space up to the
    line end -/
theorem runLoop_hl_body_empty (b : Buf) (hb : Option PHdrVals) (t o n i p e : Nat) (hlws : Lws b i p)
    (he : Eol b p e) {c2 : UInt8} (h2 : b[e]? = some c2) (hw2 : isWS c2 = false) :
    runLoop hlMachine b i (hdrAt t o n {} .bodyStart, hb) = (e, .ok, hdrAt t o n {} .fin, hb) := by
  obtain ⟨x, hx, _⟩ := hlws.first_eol he
  have hgt := he.gt
  refine runLoop_done hlMachine hx ?_
  show hlStep b i x (hdrAt t o n {} .bodyStart, hb) = _
  unfold hlStep hdrAt
  simp only
  rw [skipLWS_of_lws_eol hlws he h2 hw2]
  simp only [show p + (e - p) = e by omega]

/-- ParseHdrLine on a line whose name is left to the generic value scanner by the code after the colon -/
theorem parseHdrLine_scan {b : Buf} {o n c : Nat} (H : HtName b o n c) (hb : Option PHdrVals) (hfit : b.size ≤ 65535)
    {t : Nat} (hafter : hlAfterColon b (c + 1) (hdrAt 0 o n {} .bodyStart) hb = .cont (c + 1) (hdrAt t o n {} .bodyStart, hb))
    {e : Nat} {h : Hdr}
    (hrun : runLoop hlMachine b (c + 1) (hdrAt t o n {} .bodyStart, hb) = (e, .ok, h, hb)) :
    parseHdrLine b o {} hb = (e, .ok, h, hb) := by
  unfold parseHdrLine
  rw [runLoop_hl_name H hb hfit, hafter]
  show (match (if c < c + 1 then runLoop hlMachine b (c + 1) (hdrAt t o n {} .bodyStart, hb) else _) with
    | (o, e, (h', hb')) => (o, e, h', hb')) = _
  rw [if_pos (Nat.lt_succ_self c), hrun]

/-- **ParseHdrLine decomposes a header line as written**: name `[o, n)`, optional spaces / tabs up to the colon at
    `c`, linear white space (folds included), a value of one or more tokens starting at `v` whose last token ends at
    `ve`, optional white space, and a line end at `p` (CR LF, lone CR or lone LF, the next byte not being a space or
    tab). The parser reports the name, the value from its first to its last non-white-space byte, the type of the
    name, and the offset after the line end. -/
theorem parseHdrLine_spec (b : Buf) (o n c v ve p e : Nat) (hb : Option PHdrVals) (hfit : b.size ≤ 65535)
    (hname : NameRun b o n) (hon : o < n) (hws : WsRun b n c) (hnc : n ≤ c) (hcolon : b[c]? = some 58)
    (hlws : Lws b (c + 1) v) (hval : ValRun b v ve p) (he : Eol b p e) {c2 : UInt8} (h2 : b[e]? = some c2)
    (hw2 : isWS c2 = false) (hg : hb = none ∨ IsOther (getHdrType (b.extract o n))) :
    parseHdrLine b o {} hb =
      (e, .ok, hdrAt (getHdrType (b.extract o n)) o n ⟨v, ve - v⟩ .fin, hb) := by
  have hcl := get?_lt hcolon
  exact parseHdrLine_scan ⟨hname, hon, hws, hnc, hcolon⟩ hb hfit
    (hlAfterColon_spec b o n (c + 1) hb hon (by omega) hfit hg)
    (runLoop_hl_body b hb _ o n (c + 1) v ve p e hfit hlws hval he h2 hw2)

/-- **ParseHdrLine on a header with an empty value**: after the colon only linear white space up to the line end; the value is
    reported as not set -/
theorem parseHdrLine_spec_empty (b : Buf) (o n c p e : Nat) (hb : Option PHdrVals) (hfit : b.size ≤ 65535)
    (hname : NameRun b o n) (hon : o < n) (hws : WsRun b n c) (hnc : n ≤ c) (hcolon : b[c]? = some 58)
    (hlws : Lws b (c + 1) p) (he : Eol b p e) {c2 : UInt8} (h2 : b[e]? = some c2)
    (hw2 : isWS c2 = false) (hg : hb = none ∨ IsOther (getHdrType (b.extract o n))) :
    parseHdrLine b o {} hb = (e, .ok, hdrAt (getHdrType (b.extract o n)) o n {} .fin, hb) := by
  have hcl := get?_lt hcolon
  exact parseHdrLine_scan ⟨hname, hon, hws, hnc, hcolon⟩ hb hfit
    (hlAfterColon_spec b o n (c + 1) hb hon (by omega) hfit hg)
    (runLoop_hl_body_empty b hb _ o n (c + 1) p e hlws he h2 hw2)

/-! ### the header block -/

/-- a well-formed header line at `[o, e)` and the header it denotes (with a value, or with an empty value) -/
def HdrLineAt (b : Buf) (o e : Nat) (h : Hdr) : Prop :=
  (∃ n c v ve p, ∃ c2 : UInt8, NameRun b o n ∧ o < n ∧ WsRun b n c ∧ n ≤ c ∧ b[c]? = some 58 ∧ Lws b (c + 1) v ∧
    ValRun b v ve p ∧ Eol b p e ∧ b[e]? = some c2 ∧ isWS c2 = false ∧
    h = hdrAt (getHdrType (b.extract o n)) o n ⟨v, ve - v⟩ .fin) ∨
  (∃ n c p, ∃ c2 : UInt8, NameRun b o n ∧ o < n ∧ WsRun b n c ∧ n ≤ c ∧ b[c]? = some 58 ∧ Lws b (c + 1) p ∧
    Eol b p e ∧ b[e]? = some c2 ∧ isWS c2 = false ∧ h = hdrAt (getHdrType (b.extract o n)) o n {} .fin)

theorem HdrLineAt.gt {b : Buf} {o e : Nat} {h : Hdr} (H : HdrLineAt b o e h) : o < e ∧ e < b.size := by
  rcases H with ⟨n, c, v, ve, p, c2, _, h1, _, h2, _, h3, h4, h5, h6, _, _⟩ | ⟨n, c, p, c2, _, h1, _, h2, _, h3, h5, h6, _, _⟩
  · have := h3.le; have := h4.bounds; have := h5.gt; have := get?_lt h6; omega
  · have := h3.le; have := h5.gt; have := get?_lt h6; omega

/-- a line of the grammar is parsed as such whenever no value parser is selected for its type -/
theorem HdrLineAt.parse_gen {b : Buf} {o e : Nat} {h : Hdr} (H : HdrLineAt b o e h) (hb : Option PHdrVals)
    (hfit : b.size ≤ 65535) (hg : ∀ hv, hb = some hv → HtGen h.type hv) : parseHdrLine b o {} hb = (e, .ok, h, hb) := by
  rcases H with ⟨n, c, v, ve, p, c2, h1, h2, h3, h4, h5, h6, h7, h8, h9, h10, rfl⟩ |
    ⟨n, c, p, c2, h1, h2, h3, h4, h5, h6, h8, h9, h10, rfl⟩
  · have hcl := get?_lt h5
    exact parseHdrLine_scan ⟨h1, h2, h3, h4, h5⟩ hb hfit (hlAfterColon_gen b o n (c + 1) hb h2 (by omega) hfit hg)
      (runLoop_hl_body b hb _ o n (c + 1) v ve p e hfit h6 h7 h8 h9 h10)
  · have hcl := get?_lt h5
    exact parseHdrLine_scan ⟨h1, h2, h3, h4, h5⟩ hb hfit (hlAfterColon_gen b o n (c + 1) hb h2 (by omega) hfit hg)
      (runLoop_hl_body_empty b hb _ o n (c + 1) p e h6 h8 h9 h10)

theorem HdrLineAt.parse {b : Buf} {o e : Nat} {h : Hdr} (H : HdrLineAt b o e h) (hb : Option PHdrVals)
    (hfit : b.size ≤ 65535) (hg : hb = none ∨ IsOther h.type) : parseHdrLine b o {} hb = (e, .ok, h, hb) :=
  H.parse_gen hb hfit fun hv hh => by
    rcases hg with hg | hg
    · rw [hg] at hh; cases hh
    · exact .inl hg

/-- the empty line that ends the block: CR LF, CR followed by another byte, or LF -/
inductive EmptyLine (b : Buf) : Nat → Nat → Prop
  | crlf (o : Nat) : b[o]? = some 13 → b[o + 1]? = some 10 → EmptyLine b o (o + 2)
  | cr (o : Nat) (c : UInt8) : b[o]? = some 13 → b[o + 1]? = some c → c ≠ 10 → EmptyLine b o (o + 1)
  | lf (o : Nat) : b[o]? = some 10 → EmptyLine b o (o + 1)

theorem EmptyLine.run {b : Buf} {o e : Nat} (H : EmptyLine b o e) (hb : Option PHdrVals) :
    runLoop hlMachine b o (({} : Hdr), hb) = (e, .empty, ({ state := .fin }, hb)) := by
  cases H with
  | crlf h0 h1 =>
    refine runLoop_done hlMachine h0 ?_
    show hlStep b o 13 (({} : Hdr), hb) = _
    unfold hlStep; simp only [beq_self_eq_true, ↓reduceIte, h1]
  | cr c h0 h1 hc =>
    refine runLoop_done hlMachine h0 ?_
    show hlStep b o 13 (({} : Hdr), hb) = _
    unfold hlStep; simp only [beq_self_eq_true, ↓reduceIte, h1, beq_iff_eq, hc]
  | lf h0 =>
    refine runLoop_done hlMachine h0 ?_
    show hlStep b o 10 (({} : Hdr), hb) = _
    unfold hlStep; simp only [show ((10 : UInt8) == 13) = false from rfl, Bool.false_eq_true, ↓reduceIte, beq_self_eq_true]

theorem EmptyLine.lt {b : Buf} {o e : Nat} (H : EmptyLine b o e) : o < b.size := by
  cases H <;> exact get?_lt ‹_›

theorem EmptyLine.parse {b : Buf} {o e : Nat} (H : EmptyLine b o e) (hb : Option PHdrVals) :
    parseHdrLine b o {} hb = (e, .empty, { state := .fin }, hb) ∧ o < b.size := by
  unfold parseHdrLine
  rw [H.run hb]
  exact ⟨rfl, H.lt⟩

/-- a header block: well-formed lines one after the other, then the empty line; `hs` are the headers denoted -/
inductive HdrBlock (b : Buf) : Nat → List Hdr → Nat → Prop
  | nil (o e : Nat) : EmptyLine b o e → HdrBlock b o [] e
  | cons (o e1 e : Nat) (h : Hdr) (hs : List Hdr) : HdrLineAt b o e1 h → HdrBlock b e1 hs e → HdrBlock b o (h :: hs) e

/-- what ParseHeaders does with the list object for the headers `hs`, in order -/
def HdrLst.acceptAll (hl : HdrLst) (hs : List Hdr) : HdrLst := hs.foldl (fun l h => (l.setCur h).accept h) hl

theorem accept_clean (hl : HdrLst) (h : Hdr) (hc : HlsClean hl) :
    HlsClean ((hl.setCur h).accept h) ∧ ((hl.setCur h).accept h).cur = {} :=
  hc.accept h

theorem hls_new_ok (k : Nat) :
    HlsClean ({ hdrs := Array.replicate k {} } : HdrLst) ∧ ({ hdrs := Array.replicate k {} } : HdrLst).cur = {} :=
  ⟨SlotArr.clean_replicate ({} : Hdr) k, SlotArr.cur_replicate ({} : Hdr) k⟩

/-- **ParseHeaders on a well-formed block**: one header per line, in order, then the end of the block -/
theorem parseHeaders_block (b : Buf) (hb : Option PHdrVals) (hfit : b.size ≤ 65535) {o e : Nat} {hs : List Hdr}
    (H : HdrBlock b o hs e) :
    ∀ (hl : HdrLst), HlsClean hl → hl.cur = {} → (hb = none ∨ ∀ h ∈ hs, IsOther h.type) →
      parseHeaders b o hl hb =
        (e, (if (hl.acceptAll hs).n > 0 then Err.ok else Err.empty), (hl.acceptAll hs).setCur { state := .fin }, hb) := by
  induction H with
  | nil o e he =>
    intro hl _ hcur _
    obtain ⟨hp, hlt⟩ := he.parse hb
    exact parseHeaders_end (hcur ▸ hp) hlt
  | cons o e1 e h hs hline _ ih =>
    intro hl hc hcur hg
    have hgt := hline.gt
    have hp := hline.parse hb hfit (hg.imp_right fun hg => hg h List.mem_cons_self)
    have hcl := accept_clean hl h hc
    rw [parseHeaders_line (hcur ▸ hp) (by omega) hgt.1]
    exact ih _ hcl.1 hcl.2 (hg.imp_right fun hg x hx => hg x (List.mem_cons_of_mem _ hx))

/-! ### what the list object records for a sequence of accepted headers -/

theorem acceptAll_cons (hl : HdrLst) (h : Hdr) (hs : List Hdr) :
    hl.acceptAll (h :: hs) = ((hl.setCur h).accept h).acceptAll hs := rfl

/-- **the count includes the headers that did not fit the caller's array** -/
theorem acceptAll_n (hl : HdrLst) (hs : List Hdr) : (hl.acceptAll hs).n = hl.n + hs.length := by
  induction hs generalizing hl with
  | nil => rfl
  | cons h hs ih => rw [acceptAll_cons, ih, accept_n, hlSetCur_n, List.length_cons]; omega

theorem acceptAll_size (hl : HdrLst) (hs : List Hdr) : (hl.acceptAll hs).hdrs.size = hl.hdrs.size := by
  induction hs generalizing hl with
  | nil => rfl
  | cons h hs ih => rw [acceptAll_cons, ih, accept_hdrs, hlSetCur_size]

theorem acceptAll_keep (hl : HdrLst) (hs : List Hdr) (j : Nat) (hj : j < hl.n) :
    (hl.acceptAll hs).hdrs[j]! = hl.hdrs[j]! := by
  induction hs generalizing hl with
  | nil => rfl
  | cons h hs ih =>
    rw [acceptAll_cons, ih _ (by rw [accept_n, hlSetCur_n]; omega), accept_hdrs, hlSetCur_ne hl h j (by omega)]

/-- **the stored headers are the headers of the block, in order** (those that fit the caller's array) -/
theorem acceptAll_stored (hl : HdrLst) (hs : List Hdr) (k : Nat) (hk : k < hs.length)
    (hin : hl.n + k < hl.hdrs.size) : (hl.acceptAll hs).hdrs[hl.n + k]! = hs[k] := by
  induction hs generalizing hl k with
  | nil => cases hk
  | cons h hs ih =>
    rw [acceptAll_cons]
    cases k with
    | zero =>
      show (((hl.setCur h).accept h).acceptAll hs).hdrs[hl.n]! = h
      rw [acceptAll_keep ((hl.setCur h).accept h) hs hl.n (by rw [accept_n, hlSetCur_n]; omega), accept_hdrs]
      exact hlSetCur_get_n hl h (by omega)
    | succ k =>
      have := ih ((hl.setCur h).accept h) k (by simpa using hk)
        (by rw [accept_n, hlSetCur_n, accept_hdrs, hlSetCur_size]; omega)
      rw [accept_n, hlSetCur_n] at this
      have e : hl.n + (k + 1) = hl.n + 1 + k := by omega
      rw [e, this]; rfl

/-- **the type-flag set is the set of types seen** (16-bit flag word) -/
theorem acceptAll_pflags (hl : HdrLst) (hs : List Hdr) (t : Nat) (ht : t < 16) (h0 : hl.pflags < 65536) :
    (hl.acceptAll hs).pflags.testBit t = (hl.pflags.testBit t || hs.any (fun h => h.type == t)) := by
  induction hs generalizing hl with
  | nil => simp [HdrLst.acceptAll]
  | cons h hs ih =>
    rw [acceptAll_cons, ih _ (by rw [accept_pflags]; exact Nat.mod_lt _ (by decide))]
    rw [accept_pflags, (hlSetCur_scalars hl h).1]
    have e16 : (65536 : Nat) = 2 ^ 16 := by decide
    rw [e16, Nat.testBit_mod_two_pow, Nat.testBit_or, Nat.testBit_shiftLeft]
    simp only [ht, decide_true, Bool.true_and, List.any_cons]
    have : (decide (t ≥ h.type) && Nat.testBit 1 (t - h.type)) = (h.type == t) := by
      by_cases he : h.type = t
      · subst he; simp
      · have hne : (h.type == t) = false := by simpa using he
        rw [hne]
        by_cases hge : t ≥ h.type
        · have h1 : t - h.type ≠ 0 := by omega
          have h2 : Nat.testBit 1 (t - h.type) = false := by
            cases hq : Nat.testBit 1 (t - h.type) with
            | false => rfl
            | true => exact absurd (Nat.testBit_one_eq_true_iff_self_eq_zero.mp hq) h1
          simp [hge, h2]
        · simp [hge]
    rw [this, Bool.or_assoc]

theorem setHdr_get (hl : HdrLst) (x : Hdr) (j : Nat) (hj : j < hl.h.size) :
    (hl.setHdr x).h[j]! = if x.type ≥ 1 ∧ x.type - 1 = j ∧ hl.h[j]!.missing = true then x else hl.h[j]! := by
  unfold HdrLst.setHdr
  by_cases hc : (decide (x.type ≥ 1) && decide (x.type - 1 < hl.h.size)) = true
  · rw [if_pos hc]
    simp only [Bool.and_eq_true, decide_eq_true_eq] at hc
    have hget : hl.h[x.type - 1]? = some hl.h[x.type - 1]! := by
      simp [Array.getElem!_eq_getD, Array.getD_eq_getD_getElem?, Array.getElem?_eq_getElem hc.2]
    rw [hget]
    simp only
    by_cases hm : hl.h[x.type - 1]!.missing = true
    · rw [if_pos hm]
      by_cases hjt : x.type - 1 = j
      · subst hjt
        rw [if_pos ⟨hc.1, rfl, hm⟩]
        simp [Array.set!_eq_setIfInBounds, Array.getElem!_eq_getD, Array.getD_eq_getD_getElem?,
          Array.getElem?_setIfInBounds_self_of_lt hc.2]
      · rw [if_neg (fun hh => hjt hh.2.1)]
        simp [Array.set!_eq_setIfInBounds, Array.getElem!_eq_getD, Array.getD_eq_getD_getElem?,
          Array.getElem?_setIfInBounds_ne hjt]
    · rw [if_neg hm]
      by_cases hjt : x.type - 1 = j
      · subst hjt; rw [if_neg (fun hh => hm hh.2.2)]
      · rw [if_neg (fun hh => hjt hh.2.1)]
  · rw [if_neg hc]
    have : ¬ (x.type ≥ 1 ∧ x.type - 1 = j ∧ hl.h[j]!.missing = true) := by
      intro hh
      apply hc
      simp only [Bool.and_eq_true, decide_eq_true_eq]
      exact ⟨hh.1, by rw [hh.2.1]; exact hj⟩
    rw [if_neg this]

theorem setHdr_h_size (hl : HdrLst) (x : Hdr) : (hl.setHdr x).h.size = hl.h.size := by
  unfold HdrLst.setHdr
  repeat' split
  all_goals first | rfl | simp

theorem accept_h (hl : HdrLst) (x : Hdr) :
    ((hl.setCur x).accept x).h = (({ hl with pflags := (hl.pflags ||| (1 <<< x.type)) % 65536 } : HdrLst).setHdr x).h := by
  have s := hlSetCur_scalars hl x
  have := accept_h_congr (hl.setCur x) hl x s.2
  rw [this]
  unfold HdrLst.accept
  dsimp only
  split <;> rfl

/-- **the first-of-type table holds the first header of each type** (for a table slot that was empty before) -/
theorem acceptAll_first (hl : HdrLst) (hs : List Hdr) (j : Nat) (hj : j < hl.h.size)
    (hm : hl.h[j]!.missing = true) :
    (hl.acceptAll hs).h[j]! = (match hs.find? (fun h => h.type == j + 1) with | some h => h | none => hl.h[j]!) ∧
    (hl.acceptAll hs).h.size = hl.h.size := by
  induction hs generalizing hl with
  | nil => exact ⟨rfl, rfl⟩
  | cons x hs ih =>
    rw [acceptAll_cons]
    have hsz : ((hl.setCur x).accept x).h.size = hl.h.size := by rw [accept_h, setHdr_h_size]
    have hget : ((hl.setCur x).accept x).h[j]! = if x.type ≥ 1 ∧ x.type - 1 = j ∧ hl.h[j]!.missing = true then x else hl.h[j]! := by
      rw [accept_h]; exact setHdr_get _ x j hj
    by_cases hx : x.type = j + 1
    · -- this header takes the slot; later ones of the same type do not replace it
      have hfind : (x :: hs).find? (fun h => h.type == j + 1) = some x := by simp [List.find?, hx]
      rw [hfind]
      have hnow : ((hl.setCur x).accept x).h[j]! = x := by
        rw [hget, if_pos ⟨by omega, by omega, hm⟩]
      have hnm : x.missing = false := by unfold Hdr.missing HdrNone; simp; omega
      -- once filled, the slot stays
      have hstay : ∀ (l : HdrLst) (ys : List Hdr), j < l.h.size → l.h[j]!.missing = false →
          (l.acceptAll ys).h[j]! = l.h[j]! ∧ (l.acceptAll ys).h.size = l.h.size := by
        intro l ys
        induction ys generalizing l with
        | nil => intro _ _; exact ⟨rfl, rfl⟩
        | cons y ys ihy =>
          intro hjl hml
          rw [acceptAll_cons]
          have h1 : ((l.setCur y).accept y).h[j]! = l.h[j]! := by
            rw [accept_h]
            have := setHdr_get ({ l with pflags := (l.pflags ||| (1 <<< y.type)) % 65536 } : HdrLst) y j hjl
            rw [this, if_neg (fun hh => by
              have h3 : l.h[j]!.missing = true := hh.2.2
              rw [hml] at h3; exact absurd h3 (by decide))]
          have h2 : ((l.setCur y).accept y).h.size = l.h.size := by rw [accept_h, setHdr_h_size]
          have := ihy ((l.setCur y).accept y) (by rw [h2]; exact hjl) (by rw [h1]; exact hml)
          exact ⟨by rw [this.1, h1], by rw [this.2, h2]⟩
      have := hstay ((hl.setCur x).accept x) hs (by rw [hsz]; exact hj) (by rw [hnow]; exact hnm)
      exact ⟨by rw [this.1, hnow], by rw [this.2, hsz]⟩
    · have hfind : (x :: hs).find? (fun h => h.type == j + 1) = hs.find? (fun h => h.type == j + 1) := by
        have : (x.type == j + 1) = false := by simpa using hx
        simp [List.find?, this]
      rw [hfind]
      have hnow : ((hl.setCur x).accept x).h[j]! = hl.h[j]! := by
        rw [hget, if_neg (fun hh => hx (by omega))]
      have := ih ((hl.setCur x).accept x) (by rw [hsz]; exact hj) (by rw [hnow]; exact hm)
      exact ⟨by rw [this.1, hnow], by rw [this.2, hsz]⟩

end Sipsp
