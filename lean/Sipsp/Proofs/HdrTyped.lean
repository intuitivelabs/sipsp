/-
  Sipsp.Proofs.HdrTyped — header lines of the eight header types with a dedicated value parser (From, To, Call-ID,
  CSeq, Content-Length, Contact, Expires, P-Asserted-Identity) when a values object is supplied; accumulation of the
  Contact / P-Asserted-Identity values over several header lines of one message; header blocks that mix generic and
  typed lines.  Everything for ALL buffers within the 65,535-byte limit, ALL offsets and ALL texts of the grammars.

  (1) The typed path, for ANY text after the colon (property C07): for `name [SP/HT] ":" …` whose name classifies as
      one of the eight types, a new header object and a values object whose component is not yet parsed, ParseHdrLine
      returns the verdict and offset of the value parser started after the colon (or at the first value byte: each
      value parser skips the linear white space in front of the value); the header has the name as written, the type,
      the value parser's span as `val` and is finished iff the verdict is OK (`htHdr`); the values object changes in
      that one component only.  `ht_line_kind` is the eight in one, over the parser `valKind` selects.
  (2) Instantiated with value grammars (property C07): From / To (the C09 grammar `NAValue`), Call-ID (one run of
      non-white-space bytes), Expires / Content-Length (digits: the number is their decimal value; Content-Length at
      most 9 digits and 2^24), CSeq (digits, white space, method), Contact / P-Asserted-Identity (`ValList`: `val` runs
      from the start of the first value to the end of the last one, `htSpan`; the object is `htLine` of the old one:
      header counter + 1, values accepted in order, for any capacity, also on an object that already holds values of
      earlier lines); generic scanning with a values object (`ht_line_gen`: types without value parser, and repeated
      single-valued headers whose value is already parsed).
  (3) Several Contact lines (property C09): `PContacts.htLines`, with HNo = number of Contact lines, N = total number
      of values, stored values = all values in order up to the capacity, max / min expires over all values; for
      P-Asserted-Identity the two counters.
  (4) Blocks (property C07): `HtLine` (a generic line or a typed line whose value satisfies its grammar), `HtBlock`,
      `ht_parseHeaders_block` (one header per line, in order, the values object threaded through the typed lines),
      `HtBlock.contacts` (the contacts / PAI objects after the block are `htLines` of the Contact / PAI lines of the
      block, whatever stands between them).  Non-vacuity: `htEx_block` and the examples at the end.
  NOT proved: stored values / expires summaries for P-Asserted-Identity lines beyond the counters; typed lines whose
  single-valued component is in the middle of a value (resumption after "more bytes": L2 theorems elsewhere);
  Contact `*`; rejection results other than the tests at the end (with a values object the typed kinds reject an
  empty value, a Call-ID of two tokens, a Content-Length of more than 9 digits — see the tests).
-/
import Sipsp.Proofs.HdrSpec
import Sipsp.Proofs.NameAddrSpec
import Sipsp.Proofs.NumRun
import Sipsp.Proofs.NaRun

namespace Sipsp

/-! ### (1) the line up to the colon, whatever follows -/

/-- **the typed path**: when the dispatch after the colon selects the value parser of state `S`, ParseHdrLine
    returns what that parser returns — its offset and verdict, its span as the value of a finished header when the
    verdict is OK, its values object -/
theorem ht_line_kind (b : Buf) (o n c : Nat) (hv : PHdrVals) (hfit : b.size ≤ 65535)
    (hname : NameRun b o n) (hon : o < n) (hws : WsRun b n c) (hnc : n ≤ c) (hcolon : b[c]? = some 58) {S : HState}
    (hk : valKind (hdrAt (getHdrType (b.extract o n)) o n {} .bodyStart) hv = some S) :
    parseHdrLine b o {} (some hv) =
      ((valCall S .bodyStart b (c + 1) hv).1, (valCall S .bodyStart b (c + 1) hv).2.1,
        htHdr (getHdrType (b.extract o n)) o n S (valCall S .bodyStart b (c + 1) hv).2.1
          (valCall S .bodyStart b (c + 1) hv).2.2.1, some (valCall S .bodyStart b (c + 1) hv).2.2.2) := by
  have hcl := get?_lt hcolon
  unfold parseHdrLine
  rw [runLoop_hl_name ⟨hname, hon, hws, hnc, hcolon⟩ (some hv) hfit, hlAfterColon_nf b (c + 1) _ (some hv) rfl,
    colonDo_typed (hdrAt_name_get? b 0 o n {} .bodyStart hon (by omega) hfit) hk]
  rfl

/-- a new Contact header line: the header counter is bumped and the running extent of the line cleared -/
def PContacts.htBump (c : PContacts) : PContacts := { c with hNo := c.hNo + 1, lastHVal := {} }
def PPAIs.htBump (c : PPAIs) : PPAIs := { c with hNo := c.hNo + 1, lastHVal := {} }

/-! #### (1) the typed path of ParseHdrLine, one theorem per type (the claim: (1) at the head of the file) -/

theorem ht_line_from (b : Buf) (o n c : Nat) (hv : PHdrVals) (hfit : b.size ≤ 65535)
    (hname : NameRun b o n) (hon : o < n) (hws : WsRun b n c) (hnc : n ≤ c) (hcolon : b[c]? = some 58)
    (ht : getHdrType (b.extract o n) = HdrFrom) (hnp : hv.from_.parsed = false) {n' : Nat} {e : Err} {f : PFromBody}
    (hp : parseFromVal b (c + 1) hv.from_ = (n', e, f)) :
    parseHdrLine b o {} (some hv) = (n', e, htHdr HdrFrom o n .hFrom e f.v, some { hv with from_ := f }) := by
  have := ht_line_kind b o n c hv hfit hname hon hws hnc hcolon (S := .hFrom)
    (valKind_eq_some_iff.mpr (by simp [hdrAt, ht, hnp]))
  simp only [valCall] at this
  rw [show parseNameAddrPVal HdrFrom b (c + 1) hv.from_ = (n', e, f) from hp, ht] at this
  exact this

theorem ht_line_to (b : Buf) (o n c : Nat) (hv : PHdrVals) (hfit : b.size ≤ 65535)
    (hname : NameRun b o n) (hon : o < n) (hws : WsRun b n c) (hnc : n ≤ c) (hcolon : b[c]? = some 58)
    (ht : getHdrType (b.extract o n) = HdrTo) (hnp : hv.to.parsed = false) {n' : Nat} {e : Err} {f : PFromBody}
    (hp : parseNameAddrPVal HdrTo b (c + 1) hv.to = (n', e, f)) :
    parseHdrLine b o {} (some hv) = (n', e, htHdr HdrTo o n .hTo e f.v, some { hv with to := f }) := by
  have := ht_line_kind b o n c hv hfit hname hon hws hnc hcolon (S := .hTo)
    (valKind_eq_some_iff.mpr (by simp [hdrAt, ht, hnp]))
  simp only [valCall] at this
  rw [hp, ht] at this
  exact this

theorem ht_line_callid (b : Buf) (o n c : Nat) (hv : PHdrVals) (hfit : b.size ≤ 65535)
    (hname : NameRun b o n) (hon : o < n) (hws : WsRun b n c) (hnc : n ≤ c) (hcolon : b[c]? = some 58)
    (ht : getHdrType (b.extract o n) = HdrCallID) (hnp : hv.callid.parsed = false) {n' : Nat} {e : Err} {f : PCallIDBody}
    (hp : parseCallIDVal b (c + 1) hv.callid = (n', e, f)) :
    parseHdrLine b o {} (some hv) = (n', e, htHdr HdrCallID o n .hCallID e f.callID, some { hv with callid := f }) := by
  have := ht_line_kind b o n c hv hfit hname hon hws hnc hcolon (S := .hCallID)
    (valKind_eq_some_iff.mpr (by simp [hdrAt, ht, hnp]))
  simp only [valCall] at this
  rw [hp, ht] at this
  exact this

theorem ht_line_cseq (b : Buf) (o n c : Nat) (hv : PHdrVals) (hfit : b.size ≤ 65535)
    (hname : NameRun b o n) (hon : o < n) (hws : WsRun b n c) (hnc : n ≤ c) (hcolon : b[c]? = some 58)
    (ht : getHdrType (b.extract o n) = HdrCSeq) (hnp : hv.cseq.parsed = false) {n' : Nat} {e : Err} {f : PCSeqBody}
    (hp : parseCSeqVal b (c + 1) hv.cseq = (n', e, f)) :
    parseHdrLine b o {} (some hv) = (n', e, htHdr HdrCSeq o n .hCSeq e f.v, some { hv with cseq := f }) := by
  have := ht_line_kind b o n c hv hfit hname hon hws hnc hcolon (S := .hCSeq)
    (valKind_eq_some_iff.mpr (by simp [hdrAt, ht, hnp]))
  simp only [valCall] at this
  rw [hp, ht] at this
  exact this

theorem ht_line_clen (b : Buf) (o n c : Nat) (hv : PHdrVals) (hfit : b.size ≤ 65535)
    (hname : NameRun b o n) (hon : o < n) (hws : WsRun b n c) (hnc : n ≤ c) (hcolon : b[c]? = some 58)
    (ht : getHdrType (b.extract o n) = HdrCLen) (hnp : hv.clen.parsed = false) {n' : Nat} {e : Err} {f : PUIntBody}
    (hp : parseCLenVal b (c + 1) hv.clen = (n', e, f)) :
    parseHdrLine b o {} (some hv) = (n', e, htHdr HdrCLen o n .hCLen e f.sVal, some { hv with clen := f }) := by
  have := ht_line_kind b o n c hv hfit hname hon hws hnc hcolon (S := .hCLen)
    (valKind_eq_some_iff.mpr (by simp [hdrAt, ht, hnp]))
  simp only [valCall] at this
  rw [hp, ht] at this
  exact this

theorem ht_line_expires (b : Buf) (o n c : Nat) (hv : PHdrVals) (hfit : b.size ≤ 65535)
    (hname : NameRun b o n) (hon : o < n) (hws : WsRun b n c) (hnc : n ≤ c) (hcolon : b[c]? = some 58)
    (ht : getHdrType (b.extract o n) = HdrExpires) (hnp : hv.expires.parsed = false) {n' : Nat} {e : Err} {f : PUIntBody}
    (hp : parseUIntVal b (c + 1) hv.expires = (n', e, f)) :
    parseHdrLine b o {} (some hv) = (n', e, htHdr HdrExpires o n .hExpires e f.sVal, some { hv with expires := f }) := by
  have := ht_line_kind b o n c hv hfit hname hon hws hnc hcolon (S := .hExpires)
    (valKind_eq_some_iff.mpr (by simp [hdrAt, ht, hnp]))
  simp only [valCall] at this
  rw [hp, ht] at this
  exact this

theorem ht_line_contact (b : Buf) (o n c : Nat) (hv : PHdrVals) (hfit : b.size ≤ 65535)
    (hname : NameRun b o n) (hon : o < n) (hws : WsRun b n c) (hnc : n ≤ c) (hcolon : b[c]? = some 58)
    (ht : getHdrType (b.extract o n) = HdrContact) {n' : Nat} {e : Err} {f : PContacts}
    (hp : parseAllContactValues b (c + 1) hv.contacts.htBump = (n', e, f)) :
    parseHdrLine b o {} (some hv) = (n', e, htHdr HdrContact o n .hContact e f.lastHVal, some { hv with contacts := f }) := by
  have := ht_line_kind b o n c hv hfit hname hon hws hnc hcolon (S := .hContact) (valKind_eq_some_iff.mpr (by simp [hdrAt, ht]))
  simp only [valCall] at this
  rw [show ctArg .bodyStart hv.contacts = hv.contacts.htBump from rfl, hp, ht] at this
  exact this

theorem ht_line_pai (b : Buf) (o n c : Nat) (hv : PHdrVals) (hfit : b.size ≤ 65535)
    (hname : NameRun b o n) (hon : o < n) (hws : WsRun b n c) (hnc : n ≤ c) (hcolon : b[c]? = some 58)
    (ht : getHdrType (b.extract o n) = HdrPAI) {n' : Nat} {e : Err} {f : PPAIs}
    (hp : parseAllPAIValues b (c + 1) hv.pais.htBump = (n', e, f)) :
    parseHdrLine b o {} (some hv) = (n', e, htHdr HdrPAI o n .hPAI e f.lastHVal, some { hv with pais := f }) := by
  have := ht_line_kind b o n c hv hfit hname hon hws hnc hcolon (S := .hPAI) (valKind_eq_some_iff.mpr (by simp [hdrAt, ht]))
  simp only [valCall] at this
  rw [show paArg .bodyStart hv.pais = hv.pais.htBump from rfl, hp, ht] at this
  exact this

/-! ### the value parsers skip the linear white space in front of the value -/

theorem ht_ci_lead_lws (b : Buf) {o0 o : Nat} (hl : Lws b o0 o) {c : UInt8} (hc : b[o]? = some c)
    (hcl : isLWSch c = false) (st : PCallIDBody) (hst : st.state = .init) :
    parseCallIDVal b o0 st = parseCallIDVal b o st := by
  unfold parseCallIDVal
  have hnf : ¬ st.state = .fin := by rw [hst]; decide
  rw [if_neg hnf, if_neg hnf]
  exact runLoop_skip_lws ciMachine b st ciEOH id hl hc hcl (fun c' hc' => ciStep_lws b o0 c' st hc' (Or.inl hst))

theorem ht_ui_lead_lws (b : Buf) {o0 o : Nat} (hl : Lws b o0 o) {c : UInt8} (hc : b[o]? = some c)
    (hcl : isLWSch c = false) (st : PUIntBody) (hst : st.state = .init) :
    parseUIntVal b o0 st = parseUIntVal b o st := by
  unfold parseUIntVal
  have hnf : ¬ st.state = .fin := by rw [hst]; decide
  rw [if_neg hnf, if_neg hnf]
  exact runLoop_skip_lws clMachine b st clEOH id hl hc hcl (fun c' hc' => clStep_lws b o0 c' st hc' (Or.inl hst))

theorem ht_cs_lead_lws (b : Buf) {o0 o : Nat} (hl : Lws b o0 o) {c : UInt8} (hc : b[o]? = some c)
    (hcl : isLWSch c = false) (st : PCSeqBody) (hst : st.state = .init) :
    parseCSeqVal b o0 st = parseCSeqVal b o st := by
  unfold parseCSeqVal
  have hnf : ¬ st.state = .fin := by rw [hst]; decide
  rw [if_neg hnf, if_neg hnf]
  exact runLoop_skip_lws csMachine b st (csEOH b) id hl hc hcl (fun c' hc' => csStep_lws b o0 c' st hc' (Or.inl hst))


/-! #### (1), phrased at the first byte of the value

  The same with the value parser started at the first value byte `v` (after the linear white space that follows the
  colon), for a component that is still in its initial state. -/

theorem ht_line_from_at (b : Buf) (o n c v : Nat) (hv : PHdrVals) (hfit : b.size ≤ 65535)
    (hname : NameRun b o n) (hon : o < n) (hws : WsRun b n c) (hnc : n ≤ c) (hcolon : b[c]? = some 58)
    (ht : getHdrType (b.extract o n) = HdrFrom) (hl : Lws b (c + 1) v) {cv : UInt8} (hv0 : b[v]? = some cv)
    (hcv : isLWSch cv = false) (hst : hv.from_.state = .init) {n' : Nat} {e : Err} {f : PFromBody}
    (hp : parseFromVal b v hv.from_ = (n', e, f)) :
    parseHdrLine b o {} (some hv) = (n', e, htHdr HdrFrom o n .hFrom e f.v, some { hv with from_ := f }) := by
  have hp' : parseFromVal b (c + 1) hv.from_ = (n', e, f) := by
    rw [← hp]; exact parse_lead_lws HdrFrom b hl hv0 hcv _ hst
  exact ht_line_from b o n c hv hfit hname hon hws hnc hcolon ht (by unfold PFromBody.parsed; rw [hst]; rfl) hp'

theorem ht_line_to_at (b : Buf) (o n c v : Nat) (hv : PHdrVals) (hfit : b.size ≤ 65535)
    (hname : NameRun b o n) (hon : o < n) (hws : WsRun b n c) (hnc : n ≤ c) (hcolon : b[c]? = some 58)
    (ht : getHdrType (b.extract o n) = HdrTo) (hl : Lws b (c + 1) v) {cv : UInt8} (hv0 : b[v]? = some cv)
    (hcv : isLWSch cv = false) (hst : hv.to.state = .init) {n' : Nat} {e : Err} {f : PFromBody}
    (hp : parseNameAddrPVal HdrTo b v hv.to = (n', e, f)) :
    parseHdrLine b o {} (some hv) = (n', e, htHdr HdrTo o n .hTo e f.v, some { hv with to := f }) := by
  have hp' : parseNameAddrPVal HdrTo b (c + 1) hv.to = (n', e, f) := by
    rw [← hp]; exact parse_lead_lws HdrTo b hl hv0 hcv _ hst
  exact ht_line_to b o n c hv hfit hname hon hws hnc hcolon ht (by unfold PFromBody.parsed; rw [hst]; rfl) hp'

theorem ht_line_callid_at (b : Buf) (o n c v : Nat) (hv : PHdrVals) (hfit : b.size ≤ 65535)
    (hname : NameRun b o n) (hon : o < n) (hws : WsRun b n c) (hnc : n ≤ c) (hcolon : b[c]? = some 58)
    (ht : getHdrType (b.extract o n) = HdrCallID) (hl : Lws b (c + 1) v) {cv : UInt8} (hv0 : b[v]? = some cv)
    (hcv : isLWSch cv = false) (hst : hv.callid.state = .init) {n' : Nat} {e : Err} {f : PCallIDBody}
    (hp : parseCallIDVal b v hv.callid = (n', e, f)) :
    parseHdrLine b o {} (some hv) = (n', e, htHdr HdrCallID o n .hCallID e f.callID, some { hv with callid := f }) := by
  have hp' : parseCallIDVal b (c + 1) hv.callid = (n', e, f) := by
    rw [← hp]; exact ht_ci_lead_lws b hl hv0 hcv _ hst
  exact ht_line_callid b o n c hv hfit hname hon hws hnc hcolon ht (by unfold PCallIDBody.parsed; rw [hst]; rfl) hp'

theorem ht_line_cseq_at (b : Buf) (o n c v : Nat) (hv : PHdrVals) (hfit : b.size ≤ 65535)
    (hname : NameRun b o n) (hon : o < n) (hws : WsRun b n c) (hnc : n ≤ c) (hcolon : b[c]? = some 58)
    (ht : getHdrType (b.extract o n) = HdrCSeq) (hl : Lws b (c + 1) v) {cv : UInt8} (hv0 : b[v]? = some cv)
    (hcv : isLWSch cv = false) (hst : hv.cseq.state = .init) {n' : Nat} {e : Err} {f : PCSeqBody}
    (hp : parseCSeqVal b v hv.cseq = (n', e, f)) :
    parseHdrLine b o {} (some hv) = (n', e, htHdr HdrCSeq o n .hCSeq e f.v, some { hv with cseq := f }) := by
  have hp' : parseCSeqVal b (c + 1) hv.cseq = (n', e, f) := by
    rw [← hp]; exact ht_cs_lead_lws b hl hv0 hcv _ hst
  exact ht_line_cseq b o n c hv hfit hname hon hws hnc hcolon ht (by unfold PCSeqBody.parsed; rw [hst]; rfl) hp'

theorem ht_line_clen_at (b : Buf) (o n c v : Nat) (hv : PHdrVals) (hfit : b.size ≤ 65535)
    (hname : NameRun b o n) (hon : o < n) (hws : WsRun b n c) (hnc : n ≤ c) (hcolon : b[c]? = some 58)
    (ht : getHdrType (b.extract o n) = HdrCLen) (hl : Lws b (c + 1) v) {cv : UInt8} (hv0 : b[v]? = some cv)
    (hcv : isLWSch cv = false) (hst : hv.clen.state = .init) {n' : Nat} {e : Err} {f : PUIntBody}
    (hp : parseCLenVal b v hv.clen = (n', e, f)) :
    parseHdrLine b o {} (some hv) = (n', e, htHdr HdrCLen o n .hCLen e f.sVal, some { hv with clen := f }) := by
  have hp' : parseCLenVal b (c + 1) hv.clen = (n', e, f) := by
    rw [← hp]; exact parseCLenVal_congr (ht_ui_lead_lws b hl hv0 hcv _ hst)
  exact ht_line_clen b o n c hv hfit hname hon hws hnc hcolon ht (by unfold PUIntBody.parsed; rw [hst]; rfl) hp'

theorem ht_line_expires_at (b : Buf) (o n c v : Nat) (hv : PHdrVals) (hfit : b.size ≤ 65535)
    (hname : NameRun b o n) (hon : o < n) (hws : WsRun b n c) (hnc : n ≤ c) (hcolon : b[c]? = some 58)
    (ht : getHdrType (b.extract o n) = HdrExpires) (hl : Lws b (c + 1) v) {cv : UInt8} (hv0 : b[v]? = some cv)
    (hcv : isLWSch cv = false) (hst : hv.expires.state = .init) {n' : Nat} {e : Err} {f : PUIntBody}
    (hp : parseUIntVal b v hv.expires = (n', e, f)) :
    parseHdrLine b o {} (some hv) = (n', e, htHdr HdrExpires o n .hExpires e f.sVal, some { hv with expires := f }) := by
  have hp' : parseUIntVal b (c + 1) hv.expires = (n', e, f) := by
    rw [← hp]; exact ht_ui_lead_lws b hl hv0 hcv _ hst
  exact ht_line_expires b o n c hv hfit hname hon hws hnc hcolon ht (by unfold PUIntBody.parsed; rw [hst]; rfl) hp'

/-! ### (2) From / To: the value is a name-addr value of the C09 grammar -/

/-- where the reported value span of a name-addr value lies: from the first byte after the leading white space (`s`,
    not a white-space byte) to the byte `w` at which the end of the value (`Term`: optional white space, then the line
    end or the comma) begins -/
theorem ht_navalue_v {h : Nat} {b : Buf} {o0 o' : Nat} {e' : Err} {r : PFromBody} (H : NAValue h b o0 o' e' r) :
    ∃ s w, r.v = ⟨s, w - s⟩ ∧ Lws b o0 s ∧ s < w ∧ Term h b w o' e' ∧ r.state = .fin := by
  rcases H with ⟨o, a, g, nm, hl, hp, hu, hag, hg, T, rfl⟩ |
    ⟨o, a, g, m, w, nm, L, hl, hp, hu, hag, hg, hl2, hm, hL, T, rfl⟩ |
    ⟨o, t, c, hl, hc, h1, hr, hot, T, rfl⟩ | ⟨o, t, m, w, c, L, hl, hc, h1, hr, hot, hl2, hm, hL, T, rfl⟩
  · exact ⟨o, g + 1, rfl, hl, by have := hp.le; omega, T, rfl⟩
  · exact ⟨o, w, rfl, hl, by have := hp.le; have := hl2.le; have := hL.bounds; omega, T, rfl⟩
  · exact ⟨o, t, rfl, hl, by omega, T, rfl⟩
  · exact ⟨o, w, rfl, hl, by have := hl2.le; have := hL.bounds; omega, T, rfl⟩

/-- **From**: name, colon, a name-addr value of the C09 grammar (leading linear white space included) ending with
    the line end; new From object. The header's value is the value span of the name-addr value. -/
theorem ht_from_value (b : Buf) (o n c o' : Nat) (r : PFromBody) (hv : PHdrVals) (hfit : b.size ≤ 65535)
    (hname : NameRun b o n) (hon : o < n) (hws : WsRun b n c) (hnc : n ≤ c) (hcolon : b[c]? = some 58)
    (ht : getHdrType (b.extract o n) = HdrFrom) (hnew : hv.from_ = {})
    (H : NAValue HdrFrom b (c + 1) o' .ok r) :
    parseHdrLine b o {} (some hv) = (o', .ok, hdrAt HdrFrom o n r.v .fin, some { hv with from_ := r }) := by
  have hp : parseFromVal b (c + 1) hv.from_ = (o', .ok, r) := by rw [hnew]; exact H.parse hfit
  exact ht_line_from b o n c hv hfit hname hon hws hnc hcolon ht (by rw [hnew]; rfl) hp

/-- **To**: as `ht_from_value`, into a new To object -/
theorem ht_to_value (b : Buf) (o n c o' : Nat) (r : PFromBody) (hv : PHdrVals) (hfit : b.size ≤ 65535)
    (hname : NameRun b o n) (hon : o < n) (hws : WsRun b n c) (hnc : n ≤ c) (hcolon : b[c]? = some 58)
    (ht : getHdrType (b.extract o n) = HdrTo) (hnew : hv.to = {})
    (H : NAValue HdrTo b (c + 1) o' .ok r) :
    parseHdrLine b o {} (some hv) = (o', .ok, hdrAt HdrTo o n r.v .fin, some { hv with to := r }) := by
  have hp : parseNameAddrPVal HdrTo b (c + 1) hv.to = (o', .ok, r) := by rw [hnew]; exact H.parse hfit
  exact ht_line_to b o n c hv hfit hname hon hws hnc hcolon ht (by rw [hnew]; rfl) hp

/-! ### (2) Contact / P-Asserted-Identity: one header line -/

/-- the running extent of a line after one more value -/
def htLhvStep (l : PField) (r : PFromBody) : PField := if l.isEmpty then r.v else l.extend r.v.endT

/-- the extent of a list of values: from the start of the first value to the end of the last one -/
def htSpan (rs : List PFromBody) : PField :=
  match rs.head?, rs.getLast? with
  | some f, some l => ⟨f.v.offs, l.v.offs + l.v.len - f.v.offs⟩
  | _, _ => {}

theorem ht_step_lhv (c : PContacts) (r : PFromBody) :
    ((c.setCur r).account r).lastHVal = htLhvStep c.lastHVal r := by
  rw [account_lhv, (setCur_scalars c r).2.2.2.1]; rfl

theorem ht_ctAcceptAll_lhv (c : PContacts) (rs : List PFromBody) :
    (c.acceptAll rs).lastHVal = rs.foldl htLhvStep c.lastHVal := by
  induction rs generalizing c with
  | nil => rfl
  | cons r rs ih =>
    cases rs with
    | nil => show ((c.setCur r).account r).lastHVal = _; rw [ht_step_lhv]; rfl
    | cons r2 rs' => rw [acceptAll_cons2, ih, (ctNext_scalars c r).2.2.2.1, ht_step_lhv]; rfl

theorem ht_ctAcceptAll_hNo (c : PContacts) (rs : List PFromBody) : (c.acceptAll rs).hNo = c.hNo := by
  induction rs generalizing c with
  | nil => rfl
  | cons r rs ih =>
    cases rs with
    | nil => show ((c.setCur r).account r).hNo = _; rw [account_hNo, (setCur_scalars c r).1]
    | cons r2 rs' => rw [acceptAll_cons2, ih, (ctNext_scalars c r).1, account_hNo, (setCur_scalars c r).1]

theorem ht_lhvStep_ext (s0 w0 s w : Nat) (r : PFromBody) (hr : r.v = ⟨s, w - s⟩) (h0 : s0 < w0) (h1 : w0 ≤ s)
    (h2 : s < w) (h3 : w ≤ 65535) : htLhvStep ⟨s0, w0 - s0⟩ r = ⟨s0, w - s0⟩ := by
  unfold htLhvStep
  have hne : (({ offs := s0, len := w0 - s0 } : PField).isEmpty) = false := by
    unfold PField.isEmpty; simp; omega
  rw [hne]
  simp only [Bool.false_eq_true, ↓reduceIte]
  have hend : r.v.endT = w := by
    rw [hr]; unfold PField.endT; simp only
    rw [trunc16_id (by omega)]; omega
  rw [hend]
  exact extend_eq ⟨s0, w0 - s0⟩ w (by show s0 ≤ w; omega) h3

/-- the running extent over the values of a list, starting from a non-empty extent that ends before the list -/
theorem ht_lhv_fold {h : Nat} {b : Buf} {o o' : Nat} {rs : List PFromBody} (H : ValList h b o rs o')
    (hfit : b.size ≤ 65535) :
    ∀ s0 w0, s0 < w0 → w0 ≤ o →
      ∃ l, rs.getLast? = some l ∧ rs.foldl htLhvStep ⟨s0, w0 - s0⟩ = ⟨s0, l.v.offs + l.v.len - s0⟩ := by
  induction H with
  | last o o' r hv =>
    intro s0 w0 h0 h1
    obtain ⟨s, w, hr, hl, hsw, T, _⟩ := ht_navalue_v hv
    have := hl.le; have := T.range
    refine ⟨r, rfl, ?_⟩
    show htLhvStep ⟨s0, w0 - s0⟩ r = _
    rw [ht_lhvStep_ext s0 w0 s w r hr h0 (by omega) hsw (by omega), hr]
    show (⟨s0, w - s0⟩ : PField) = ⟨s0, s + (w - s) - s0⟩
    congr 1; omega
  | cons o o1 o' r rs hv hrest ih =>
    intro s0 w0 h0 h1
    obtain ⟨s, w, hr, hl, hsw, T, _⟩ := ht_navalue_v hv
    have := hl.le; have := T.range
    obtain ⟨l, hl1, hl2⟩ := ih s0 w (by omega) (by omega)
    refine ⟨l, ?_, ?_⟩
    · cases rs with
      | nil => exact absurd rfl hrest.ne_nil
      | cons r2 rs' => simpa using hl1
    · show rs.foldl htLhvStep (htLhvStep ⟨s0, w0 - s0⟩ r) = _
      rw [ht_lhvStep_ext s0 w0 s w r hr h0 (by omega) hsw (by omega), hl2]

/-- the last value of a list: its span, and the end of the line after it -/
theorem ht_vallist_last {h : Nat} {b : Buf} {o o' : Nat} {rs : List PFromBody} (H : ValList h b o rs o') :
    ∃ l sl wl, rs.getLast? = some l ∧ l.v = ⟨sl, wl - sl⟩ ∧ o ≤ sl ∧ sl < wl ∧ Term h b wl o' .ok := by
  induction H with
  | last o2 o3 r3 hv3 =>
    obtain ⟨s3, w3, hr3, hl3, hsw3, T3, _⟩ := ht_navalue_v hv3
    exact ⟨r3, s3, w3, rfl, hr3, hl3.le, hsw3, T3⟩
  | cons o2 o3 o4 r3 rs3 hv3 hrest3 ih3 =>
    have hr3 := hv3.range
    obtain ⟨l, sl, wl, h0, h1, h2, h3, h4⟩ := ih3
    refine ⟨l, sl, wl, ?_, h1, by omega, h3, h4⟩
    cases rs3 with
    | nil => exact absurd rfl hrest3.ne_nil
    | cons r4 rs4 => simpa using h0

/-- **the running extent of a header line**: starting from the cleared extent, after the values of the line it spans
    from the start of the first value to the end of the last value; the span begins after the leading white space, is
    not empty and ends where the end of the last value (`Term`: optional white space and the line end) begins -/
theorem ht_lhv_line {h : Nat} {b : Buf} {o o' : Nat} {rs : List PFromBody} (H : ValList h b o rs o')
    (hfit : b.size ≤ 65535) :
    rs.foldl htLhvStep {} = htSpan rs ∧
    ∃ s w, htSpan rs = ⟨s, w - s⟩ ∧ Lws b o s ∧ s < w ∧ Term h b w o' .ok := by
  cases H with
  | last _ _ r hv =>
    obtain ⟨s, w, hr, hl, hsw, T, _⟩ := ht_navalue_v hv
    have e1 : [r].foldl htLhvStep {} = r.v := rfl
    have e2 : htSpan [r] = ⟨s, w - s⟩ := by
      show (⟨r.v.offs, r.v.offs + r.v.len - r.v.offs⟩ : PField) = _
      rw [hr]; show (⟨s, s + (w - s) - s⟩ : PField) = _
      congr 1; omega
    exact ⟨by rw [e1, e2, hr], s, w, e2, hl, hsw, T⟩
  | cons _ o1 _ r rs' hv hrest =>
    obtain ⟨s, w, hr, hl, hsw, T, _⟩ := ht_navalue_v hv
    have := hl.le; have := T.range
    obtain ⟨l, hl1, hl2⟩ := ht_lhv_fold hrest hfit s w hsw (by omega)
    have hfold : (r :: rs').foldl htLhvStep {} = ⟨s, l.v.offs + l.v.len - s⟩ := by
      show rs'.foldl htLhvStep (htLhvStep {} r) = _
      have : htLhvStep {} r = ⟨s, w - s⟩ := by rw [← hr]; rfl
      rw [this, hl2]
    have hlast : (r :: rs').getLast? = some l := by
      cases rs' with
      | nil => exact absurd rfl hrest.ne_nil
      | cons r2 rs'' => simpa using hl1
    have hspan : htSpan (r :: rs') = ⟨s, l.v.offs + l.v.len - s⟩ := by
      unfold htSpan
      rw [hlast]
      show (⟨r.v.offs, l.v.offs + l.v.len - r.v.offs⟩ : PField) = _
      rw [hr]
    obtain ⟨l', sl, wl, hl1', hlv, hosl, hslwl, Tl⟩ := ht_vallist_last hrest
    have : l = l' := by rw [hl1] at hl1'; exact Option.some.inj hl1'
    subst this
    have hend : l.v.offs + l.v.len = wl := by rw [hlv]; show sl + (wl - sl) = wl; omega
    refine ⟨by rw [hfold, hspan], s, wl, by rw [hspan, hend], hl, by omega, Tl⟩

/-- the wrapper's normalisation of the scratch slot commutes with the per-line bump -/
theorem ht_bump_wrap (c : PContacts) : c.htBump.wrap = c.wrap.htBump := by
  unfold PContacts.htBump PContacts.wrap; split <;> rfl

/-- the contacts object between two header lines: after the wrapper's normalisation the unused slots are clear -/
def HtCtReady (c : PContacts) : Prop := CtClean c.wrap ∧ c.wrap.cur = {}

/-- what one Contact header line with the values `rs` does to the contacts object -/
def PContacts.htLine (c : PContacts) (rs : List PFromBody) : PContacts := c.htBump.wrap.acceptAll rs

theorem ht_ready_new (k : Nat) : HtCtReady ({ vals := Array.replicate k {} } : PContacts) := by
  have hw : (({ vals := Array.replicate k {} } : PContacts)).wrap = { vals := Array.replicate k {} } := by
    unfold PContacts.wrap; simp [PFromBody.parsed]
  unfold HtCtReady; rw [hw]; exact ct_new_ok k

theorem ht_parseAllContacts (b : Buf) (hfit : b.size ≤ 65535) {o o' : Nat} {rs : List PFromBody}
    (H : ValList HdrContact b o rs o') (c : PContacts) (hr : HtCtReady c) :
    parseAllContactValues b o c.htBump = (o', .ok, c.htLine rs) := by
  rw [parseAllContactValues_eq_wrap]
  unfold PContacts.htLine
  rw [ht_bump_wrap]
  exact contactsLoop_list b hfit H c.wrap.htBump hr.1 hr.2

/-- **Contact**: name, colon, a comma-separated list of name-addr values of the C09 grammar ending with the line end.
    The header's value runs from the start of the first value to the end of the last one (`htSpan`, see
    `ht_lhv_line`); the contacts object is `htLine` of the old one: header counter bumped, values accepted in order. -/
theorem ht_contact_values (b : Buf) (o n c o' : Nat) (rs : List PFromBody) (hv : PHdrVals) (hfit : b.size ≤ 65535)
    (hname : NameRun b o n) (hon : o < n) (hws : WsRun b n c) (hnc : n ≤ c) (hcolon : b[c]? = some 58)
    (ht : getHdrType (b.extract o n) = HdrContact) (hr : HtCtReady hv.contacts)
    (H : ValList HdrContact b (c + 1) rs o') :
    parseHdrLine b o {} (some hv) =
      (o', .ok, hdrAt HdrContact o n (htSpan rs) .fin, some { hv with contacts := hv.contacts.htLine rs }) := by
  have hp := ht_parseAllContacts b hfit H hv.contacts hr
  have := ht_line_contact b o n c hv hfit hname hon hws hnc hcolon ht hp
  rw [this, htHdr_ok]
  have hl : (hv.contacts.htLine rs).lastHVal = htSpan rs := by
    unfold PContacts.htLine
    rw [ht_ctAcceptAll_lhv, ht_bump_wrap]
    exact (ht_lhv_line H hfit).1
  rw [hl]

/-! #### P-Asserted-Identity -/

theorem ht_paAcceptAll_lhv (c : PPAIs) (rs : List PFromBody) :
    (c.acceptAll rs).lastHVal = rs.foldl htLhvStep c.lastHVal := by
  rw [PPAIs.acceptAll_eq]; exact ht_ctAcceptAll_lhv c.toCt rs

theorem ht_paBump_wrap (c : PPAIs) : c.htBump.wrap = c.wrap.htBump := by
  unfold PPAIs.htBump PPAIs.wrap; split <;> rfl

def HtPaReady (c : PPAIs) : Prop := PaClean c.wrap ∧ c.wrap.cur = {}

/-- what one P-Asserted-Identity header line with the values `rs` does to the object -/
def PPAIs.htLine (c : PPAIs) (rs : List PFromBody) : PPAIs := c.htBump.wrap.acceptAll rs

theorem PContacts.toPa_htLine (c : PContacts) (rs : List PFromBody) : (c.htLine rs).toPa = c.toPa.htLine rs := by
  unfold PContacts.htLine PPAIs.htLine
  rw [toPa_acceptAll, toPa_wrap]
  rfl

theorem PPAIs.htLine_eq (c : PPAIs) (rs : List PFromBody) : c.htLine rs = (c.toCt.htLine rs).toPa :=
  (PContacts.toPa_htLine c.toCt rs).symm

theorem HtCtReady.toPa {c : PContacts} (h : HtCtReady c) : HtPaReady c.toPa :=
  ⟨by rw [← PContacts.toPa_wrap]; exact h.1, by rw [← PContacts.toPa_wrap]; exact h.2⟩

theorem HtPaReady.toCt {c : PPAIs} (h : HtPaReady c) : HtCtReady c.toCt := by
  unfold HtPaReady at h
  rw [PPAIs.wrap_eq] at h
  exact h

theorem ht_paReady_new : HtPaReady ({} : PPAIs) := by
  have hw : (({} : PPAIs)).wrap = {} := by unfold PPAIs.wrap; simp [PFromBody.parsed]
  unfold HtPaReady; rw [hw]; exact pa_new_ok

theorem ht_parseAllPAIs (b : Buf) (hfit : b.size ≤ 65535) {o o' : Nat} {rs : List PFromBody}
    (H : ValList HdrPAI b o rs o') (c : PPAIs) (hr : HtPaReady c) :
    parseAllPAIValues b o c.htBump = (o', .ok, c.htLine rs) := by
  rw [parseAllPAIValues_eq_wrap]
  unfold PPAIs.htLine
  rw [ht_paBump_wrap]
  exact paisLoop_list b hfit H c.wrap.htBump hr.1 hr.2

/-- **P-Asserted-Identity**: as `ht_contact_values` -/
theorem ht_pai_values (b : Buf) (o n c o' : Nat) (rs : List PFromBody) (hv : PHdrVals) (hfit : b.size ≤ 65535)
    (hname : NameRun b o n) (hon : o < n) (hws : WsRun b n c) (hnc : n ≤ c) (hcolon : b[c]? = some 58)
    (ht : getHdrType (b.extract o n) = HdrPAI) (hr : HtPaReady hv.pais)
    (H : ValList HdrPAI b (c + 1) rs o') :
    parseHdrLine b o {} (some hv) =
      (o', .ok, hdrAt HdrPAI o n (htSpan rs) .fin, some { hv with pais := hv.pais.htLine rs }) := by
  have hp := ht_parseAllPAIs b hfit H hv.pais hr
  have := ht_line_pai b o n c hv hfit hname hon hws hnc hcolon ht hp
  rw [this, htHdr_ok]
  have hl : (hv.pais.htLine rs).lastHVal = htSpan rs := by
    unfold PPAIs.htLine
    rw [ht_paAcceptAll_lhv, ht_paBump_wrap]
    exact (ht_lhv_line H hfit).1
  rw [hl]

/-! ### (2) Call-ID: the value is one run of non-white-space bytes -/

theorem ht_tokenrun_run {b : Buf} {i j : Nat} (h : TokenRun b i j) : Run (fun c => !isLWSch c) b i j :=
  Span.mono h fun c hc => by show (!isLWSch c) = true; rw [hc]; rfl

/-- **ParseCallIDVal on a well-formed value**: optional linear white space, one run `[v, j)` of bytes other than
    SP / HT / CR / LF, optional linear white space, the line end (not followed by SP / HT): verdict OK, offset after
    the line end, the reported Call-ID is exactly the run -/
theorem ht_callid_run (b : Buf) (i0 v j p e : Nat) (hfit : b.size ≤ 65535) (hl : Lws b i0 v) (ht : TokenRun b v j)
    (hvj : v < j) (hl2 : Lws b j p) (he : Eol b p e) {c2 : UInt8} (h2 : b[e]? = some c2) (hw2 : isWS c2 = false) :
    parseCallIDVal b i0 {} = (e, .ok, { callID := ⟨v, j - v⟩, state := .fin }) := by
  obtain ⟨cv, hv, hcvl⟩ := ht v (Nat.le_refl _) hvj
  obtain ⟨cj, hj, hcjl⟩ := hl2.first_eol he
  have hjl := get?_lt hj
  have hgt := he.gt
  have hpe := hl2.le
  rw [ht_ci_lead_lws b hl hv hcvl {} rfl]
  unfold parseCallIDVal
  rw [if_neg (by decide)]
  have hs1 : ciStep b v cv {} = .cont (v + 1) { state := .found, soffs := v } := (CiTr.start hcvl rfl).eq
  rw [runLoop_cont_lt ciMachine hv (by exact hs1) (by omega)]
  have hrun : runLoop ciMachine b (v + 1) ({ state := .found, soffs := v } : PCallIDBody) =
      runLoop ciMachine b j { state := .found, soffs := v } := by
    refine runLoop_run ciMachine b (fun c => !isLWSch c) _ (fun k c _ hc => ?_) (v + 1) j (by omega)
      (ht_tokenrun_run (fun k h1 h2 => ht k (by omega) h2))
    have hc' : isLWSch c = false := by simpa using hc
    exact (CiTr.skip (st := { state := .found, soffs := v }) (.inr ⟨rfl, hc'⟩)).eq
  rw [hrun]
  refine runLoop_done ciMachine hj ?_
  show ciStep b j cj ({ state := .found, soffs := v } : PCallIDBody) = _
  rw [(CiTr.lwsId hcjl rfl).eq, lwsStd_eoh _ ciEOH id (skipLWS_of_lws_eol hl2 he h2 hw2)]
  unfold ciEOH ciSetCallID
  simp only [set_eq v j (by omega) (by omega), setPanics_false v j (by omega), Bool.or_false]
  have : p + (e - p) = e := by omega
  rw [this]

/-- **Call-ID**: name, colon, a Call-ID value; new Call-ID object. The header's value is the run `[v, j)`. -/
theorem ht_callid_value (b : Buf) (o n c v j p e : Nat) (hv : PHdrVals) (hfit : b.size ≤ 65535)
    (hname : NameRun b o n) (hon : o < n) (hws : WsRun b n c) (hnc : n ≤ c) (hcolon : b[c]? = some 58)
    (ht : getHdrType (b.extract o n) = HdrCallID) (hnew : hv.callid = {})
    (hl : Lws b (c + 1) v) (htok : TokenRun b v j) (hvj : v < j) (hl2 : Lws b j p) (he : Eol b p e) {c2 : UInt8}
    (h2 : b[e]? = some c2) (hw2 : isWS c2 = false) :
    parseHdrLine b o {} (some hv) =
      (e, .ok, hdrAt HdrCallID o n ⟨v, j - v⟩ .fin,
        some { hv with callid := { callID := ⟨v, j - v⟩, state := .fin } }) := by
  have hp : parseCallIDVal b (c + 1) hv.callid = (e, .ok, { callID := ⟨v, j - v⟩, state := .fin }) := by
    rw [hnew]; exact ht_callid_run b (c + 1) v j p e hfit hl htok hvj hl2 he h2 hw2
  exact ht_line_callid b o n c hv hfit hname hon hws hnc hcolon ht (by rw [hnew]; rfl) hp

/-! ### (2) Expires / Content-Length: the value is a string of digits -/

theorem ht_dec_one (b : Buf) (v : Nat) (c : UInt8) (hb : b[v]? = some c) :
    decOf (digitsOf b v (v + 1)) = c.toNat - 48 := by
  rw [digitsOf_snoc b v v c (Nat.le_refl _) hb, digitsOf_self]
  simp [decOf, decFrom, dval_def]

theorem ht_dec_snoc (b : Buf) (v k : Nat) (c : UInt8) (hvk : v ≤ k) (hb : b[k]? = some c) :
    decOf (digitsOf b v (k + 1)) = decOf (digitsOf b v k) * 10 + (c.toNat - 48) := by
  rw [digitsOf_snoc b v k c hvk hb, decOf, decFrom_snoc, ← decOf, dval_def]

/-- the object in the middle of the digits -/
def htClMid (b : Buf) (v k : Nat) : PUIntBody := { uiVal := decOf (digitsOf b v k), state := .found, soffs := v }

/-- a loop that moves from `mid k` to `mid (k + 1)` at every position of `[i, j)` -/
theorem ht_runLoop_mid {σ : Type} (m : Machine σ) (b : Buf) (mid : Nat → σ) (i j : Nat) (hij : i ≤ j)
    (hstep : ∀ k, i ≤ k → k < j → ∃ c, b[k]? = some c ∧ m.step b k c (mid k) = .cont (k + 1) (mid (k + 1))) :
    runLoop m b i (mid i) = runLoop m b j (mid j) :=
  loop_span (runLoop m b) _ (runLoop_law m b) mid hij (P := fun _ => True)
    (fun k h1 h2 => (hstep k h1 h2).imp fun c hc => ⟨hc.1, trivial⟩)
    fun k c h1 h2 hc _ => by obtain ⟨c', hc', hs⟩ := hstep k h1 h2; rw [hc] at hc'; cases hc'; exact hs

/-- the value read so far stays within the bound of the whole digit string -/
theorem ht_dec_prefix_le (b : Buf) (v k j M : Nat) (hvk : v ≤ k) (hkj : k ≤ j)
    (hmax : decOf (digitsOf b v j) ≤ M) : decOf (digitsOf b v k) ≤ M := by
  rw [digitsOf_split b v k j hvk hkj, decOf, decFrom_append, ← decOf] at hmax
  have := decFrom_ge (decOf (digitsOf b v k)) (digitsOf b k j)
  omega

/-- the digit loop of ParseUIntVal over `[v + 1, j)` -/
theorem ht_cl_digits (b : Buf) (v j : Nat) (hd : Run isDigit b v j) (hvj : v < j)
    (hmax : decOf (digitsOf b v j) ≤ 4294967295) :
    runLoop clMachine b (v + 1) (htClMid b v (v + 1)) = runLoop clMachine b j (htClMid b v j) := by
  refine ht_runLoop_mid clMachine b (htClMid b v) (v + 1) j hvj (fun k h1 h2 => ?_)
  obtain ⟨c, hc, hcd⟩ := hd k (by omega) h2
  have hle := ht_dec_prefix_le b v (k + 1) j _ (by omega) h2 hmax
  refine ⟨c, hc, ?_⟩
  show clStep b k c (htClMid b v k) = _
  unfold clStep htClMid
  simp only [isDigit_not_lws hcd, hcd, Bool.false_eq_true, ↓reduceIte]
  rw [← ht_dec_snoc b v k c (by omega) hc, if_neg (by omega)]

/-- **ParseUIntVal (= ParseExpiresVal) on a well-formed value**: optional linear white space, digits `[v, j)` whose
    decimal value fits 32 bits, optional linear white space, the line end: verdict OK, offset after the line end, the
    reported string is exactly the digits and the number is their decimal value -/
theorem ht_uint_run (b : Buf) (i0 v j p e : Nat) (hfit : b.size ≤ 65535) (hl : Lws b i0 v) (hd : Run isDigit b v j)
    (hvj : v < j) (hmax : decOf (digitsOf b v j) ≤ 4294967295) (hl2 : Lws b j p) (he : Eol b p e) {c2 : UInt8}
    (h2 : b[e]? = some c2) (hw2 : isWS c2 = false) :
    parseUIntVal b i0 {} =
      (e, .ok, { uiVal := decOf (digitsOf b v j), sVal := ⟨v, j - v⟩, state := .fin }) := by
  obtain ⟨cv, hv, hcvd⟩ := hd v (Nat.le_refl _) hvj
  have hcvl := isDigit_not_lws hcvd
  obtain ⟨cj, hj, hcjl⟩ := hl2.first_eol he
  have hjl := get?_lt hj
  have hgt := he.gt
  have hpe := hl2.le
  rw [ht_ui_lead_lws b hl hv hcvl {} rfl]
  unfold parseUIntVal
  rw [if_neg (by decide)]
  have hs1 : clStep b v cv {} = .cont (v + 1) (htClMid b v (v + 1)) := by
    unfold clStep htClMid
    simp only [hcvl, hcvd, Bool.false_eq_true, ↓reduceIte]
    rw [ht_dec_one b v cv hv]
  rw [runLoop_cont_lt clMachine hv (by exact hs1) (by omega)]
  rw [ht_cl_digits b v j hd hvj hmax]
  refine runLoop_done clMachine hj ?_
  show clStep b j cj (htClMid b v j) = _
  rw [(ClTr.lwsNum hcjl rfl).eq, lwsStd_eoh _ clEOH id (skipLWS_of_lws_eol hl2 he h2 hw2)]
  unfold clEOH clSetSVal htClMid
  simp only [set_eq v j (by omega) (by omega), setPanics_false v j (by omega), Bool.or_false]
  have : p + (e - p) = e := by omega
  rw [this]

/-- **ParseCLenVal on a well-formed value**: as `ht_uint_run`, at most 9 digits and a value of at most 2^24 -/
theorem ht_clen_run (b : Buf) (i0 v j p e : Nat) (hfit : b.size ≤ 65535) (hl : Lws b i0 v) (hd : Run isDigit b v j)
    (hvj : v < j) (hlen : j - v ≤ 9) (hmax : decOf (digitsOf b v j) ≤ 16777216) (hl2 : Lws b j p) (he : Eol b p e)
    {c2 : UInt8} (h2 : b[e]? = some c2) (hw2 : isWS c2 = false) :
    parseCLenVal b i0 {} =
      (e, .ok, { uiVal := decOf (digitsOf b v j), sVal := ⟨v, j - v⟩, state := .fin }) :=
  parseCLenVal_of_uint (ht_uint_run b i0 v j p e hfit hl hd hvj (by omega) hl2 he h2 hw2) (fun _ => ⟨hlen, hmax⟩)

/-- **Expires**: name, colon, digits; new object. The header's value is the digit string, the number its value. -/
theorem ht_expires_value (b : Buf) (o n c v j p e : Nat) (hv : PHdrVals) (hfit : b.size ≤ 65535)
    (hname : NameRun b o n) (hon : o < n) (hws : WsRun b n c) (hnc : n ≤ c) (hcolon : b[c]? = some 58)
    (ht : getHdrType (b.extract o n) = HdrExpires) (hnew : hv.expires = {})
    (hl : Lws b (c + 1) v) (hd : Run isDigit b v j) (hvj : v < j) (hmax : decOf (digitsOf b v j) ≤ 4294967295)
    (hl2 : Lws b j p) (he : Eol b p e) {c2 : UInt8} (h2 : b[e]? = some c2) (hw2 : isWS c2 = false) :
    parseHdrLine b o {} (some hv) =
      (e, .ok, hdrAt HdrExpires o n ⟨v, j - v⟩ .fin,
        some { hv with expires := { uiVal := decOf (digitsOf b v j), sVal := ⟨v, j - v⟩, state := .fin } }) := by
  have hp : parseUIntVal b (c + 1) hv.expires =
      (e, .ok, { uiVal := decOf (digitsOf b v j), sVal := ⟨v, j - v⟩, state := .fin }) := by
    rw [hnew]; exact ht_uint_run b (c + 1) v j p e hfit hl hd hvj hmax hl2 he h2 hw2
  exact ht_line_expires b o n c hv hfit hname hon hws hnc hcolon ht (by rw [hnew]; rfl) hp

/-- **Content-Length**: name, colon, at most 9 digits with a value of at most 2^24; new object -/
theorem ht_clen_value (b : Buf) (o n c v j p e : Nat) (hv : PHdrVals) (hfit : b.size ≤ 65535)
    (hname : NameRun b o n) (hon : o < n) (hws : WsRun b n c) (hnc : n ≤ c) (hcolon : b[c]? = some 58)
    (ht : getHdrType (b.extract o n) = HdrCLen) (hnew : hv.clen = {})
    (hl : Lws b (c + 1) v) (hd : Run isDigit b v j) (hvj : v < j) (hlen : j - v ≤ 9)
    (hmax : decOf (digitsOf b v j) ≤ 16777216)
    (hl2 : Lws b j p) (he : Eol b p e) {c2 : UInt8} (h2 : b[e]? = some c2) (hw2 : isWS c2 = false) :
    parseHdrLine b o {} (some hv) =
      (e, .ok, hdrAt HdrCLen o n ⟨v, j - v⟩ .fin,
        some { hv with clen := { uiVal := decOf (digitsOf b v j), sVal := ⟨v, j - v⟩, state := .fin } }) := by
  have hp : parseCLenVal b (c + 1) hv.clen =
      (e, .ok, { uiVal := decOf (digitsOf b v j), sVal := ⟨v, j - v⟩, state := .fin }) := by
    rw [hnew]; exact ht_clen_run b (c + 1) v j p e hfit hl hd hvj hlen hmax hl2 he h2 hw2
  exact ht_line_clen b o n c hv hfit hname hon hws hnc hcolon ht (by rw [hnew]; rfl) hp

/-! ### (2) CSeq: digits, white space, a method token -/

def htCsMid (b : Buf) (v k : Nat) : PCSeqBody := { cseqNo := decOf (digitsOf b v k), state := .foundDigit, soffs := v }

theorem ht_cs_digits (b : Buf) (v j : Nat) (hd : Run isDigit b v j) (hvj : v < j)
    (hmax : decOf (digitsOf b v j) ≤ 4294967295) :
    runLoop csMachine b (v + 1) (htCsMid b v (v + 1)) = runLoop csMachine b j (htCsMid b v j) := by
  refine ht_runLoop_mid csMachine b (htCsMid b v) (v + 1) j hvj (fun k h1 h2 => ?_)
  obtain ⟨c, hc, hcd⟩ := hd k (by omega) h2
  have hle := ht_dec_prefix_le b v (k + 1) j _ (by omega) h2 hmax
  refine ⟨c, hc, ?_⟩
  show csStep b k c (htCsMid b v k) = _
  unfold csStep htCsMid
  simp only [isDigit_not_lws hcd, hcd, Bool.false_eq_true, ↓reduceIte]
  rw [← ht_dec_snoc b v k c (by omega) hc, if_neg (by omega)]

/-- the object while the method token is being read -/
def htCsMeth (b : Buf) (v j m : Nat) : PCSeqBody :=
  { cseqNo := decOf (digitsOf b v j), cseq := ⟨v, j - v⟩, v := ⟨v, j - v⟩, state := .foundMethod, soffs := m }

/-- **ParseCSeqVal on a well-formed value**: optional linear white space, at most 10 digits `[v, j)` whose value fits
    32 bits, linear white space (at least one byte), a method `[m, t)` of bytes other than SP / HT / CR / LF, optional
    linear white space, the line end: verdict OK, offset after the line end; the number is the decimal value of the
    digits, the method is classified from its text, and the value span runs from the first digit to the end of the
    method -/
theorem ht_cseq_run (b : Buf) (i0 v j m t p e : Nat) (hfit : b.size ≤ 65535) (hl : Lws b i0 v)
    (hd : Run isDigit b v j) (hvj : v < j) (hlen : j - v ≤ 10) (hmax : decOf (digitsOf b v j) ≤ 4294967295)
    (hl1 : Lws b j m) (hjm : j < m) (htok : TokenRun b m t) (hmt : m < t) (hl2 : Lws b t p) (he : Eol b p e)
    {c2 : UInt8} (h2 : b[e]? = some c2) (hw2 : isWS c2 = false) :
    parseCSeqVal b i0 {} =
      (e, .ok, { cseqNo := decOf (digitsOf b v j), methodNo := getMethodNo (b.extract m t), cseq := ⟨v, j - v⟩,
                 method := ⟨m, t - m⟩, v := ⟨v, t - v⟩, state := .fin }) := by
  obtain ⟨cv, hv, hcvd⟩ := hd v (Nat.le_refl _) hvj
  have hcvl := isDigit_not_lws hcvd
  obtain ⟨cj, hj, hcjl⟩ := hl1.first hjm
  obtain ⟨cm, hm, hcml⟩ := htok m (Nat.le_refl _) hmt
  obtain ⟨ct, htt, hctl⟩ := hl2.first_eol he
  have hjl := get?_lt hj
  have htl := get?_lt htt
  have hgt := he.gt
  have hpe := hl2.le
  rw [ht_cs_lead_lws b hl hv hcvl {} rfl]
  unfold parseCSeqVal
  rw [if_neg (by decide)]
  -- the first digit
  have hs1 : csStep b v cv {} = .cont (v + 1) (htCsMid b v (v + 1)) := by
    unfold csStep htCsMid
    simp only [hcvl, hcvd, Bool.false_eq_true, ↓reduceIte]
    rw [ht_dec_one b v cv hv]
  rw [runLoop_cont_lt csMachine hv (by exact hs1) (by omega)]
  rw [ht_cs_digits b v j hd hvj hmax]
  -- the white space after the number
  have hs2 : csStep b j cj (htCsMid b v j) =
      .cont m { cseqNo := decOf (digitsOf b v j), cseq := ⟨v, j - v⟩, v := ⟨v, j - v⟩, state := .endDigit, soffs := v } := by
    unfold csStep htCsMid
    simp only [hcjl, ↓reduceIte]
    rw [lwsStd_ok _ (csEOH b) id (skipLWS_of_lws hl1 hm hcml)]
    simp only [set_eq v j (by omega) (by omega), setPanics_false v j (by omega), Bool.or_false]
  rw [runLoop_cont_lt csMachine hj (by exact hs2) hjm]
  -- the first byte of the method
  have hs3 : csStep b m cm { cseqNo := decOf (digitsOf b v j), cseq := ⟨v, j - v⟩, v := ⟨v, j - v⟩, state := .endDigit, soffs := v } =
      .cont (m + 1) (htCsMeth b v j m) := (CsTr.meth0 hcml rfl).eq
  rw [runLoop_cont_lt csMachine hm (by exact hs3) (by omega)]
  -- the rest of the method
  have hrun : runLoop csMachine b (m + 1) (htCsMeth b v j m) = runLoop csMachine b t (htCsMeth b v j m) := by
    refine runLoop_run csMachine b (fun c => !isLWSch c) _ (fun k c _ hc => ?_) (m + 1) t (by omega)
      (ht_tokenrun_run (fun k h1 h2 => htok k (by omega) h2))
    have hc' : isLWSch c = false := by simpa using hc
    exact (CsTr.skip (st := htCsMeth b v j m) (.inr ⟨rfl, hc'⟩)).eq
  rw [hrun]
  -- the end of the line
  refine runLoop_done csMachine htt ?_
  show csStep b t ct (htCsMeth b v j m) = _
  rw [(CsTr.lwsMeth hctl rfl).eq, lwsStd_eoh _ (csEOH b) id (skipLWS_of_lws_eol hl2 he h2 hw2)]
  unfold csEOH csSetMethod htCsMeth
  simp only [set_eq m t (by omega) (by omega), setPanics_false m t (by omega), Bool.or_false,
    extend_eq ⟨v, j - v⟩ t (by show v ≤ t; omega) (by omega),
    extendPanics_false (⟨v, j - v⟩ : PField) t (by show v ≤ t; omega)]
  unfold csFinish
  have hget : PField.get? b ⟨m, t - m⟩ = some (b.extract m t) := by
    rw [field_get? b m (t - m) (by omega) hfit]; congr 2; omega
  simp only [hget]
  have hpe2 : p + (e - p) = e := by omega
  rw [hpe2]
  split
  · rename_i hc
    exfalso
    simp only [MaxCSeqNValueSize, Bool.or_eq_true] at hc
    rcases hc with hc | hc
    · have := of_decide_eq_true hc; omega
    · have := of_decide_eq_true hc; omega
  · rfl

/-- **CSeq**: name, colon, a CSeq value; new object. The header's value runs from the number through the method. -/
theorem ht_cseq_value (b : Buf) (o n c v j m t p e : Nat) (hv : PHdrVals) (hfit : b.size ≤ 65535)
    (hname : NameRun b o n) (hon : o < n) (hws : WsRun b n c) (hnc : n ≤ c) (hcolon : b[c]? = some 58)
    (ht : getHdrType (b.extract o n) = HdrCSeq) (hnew : hv.cseq = {})
    (hl : Lws b (c + 1) v) (hd : Run isDigit b v j) (hvj : v < j) (hlen : j - v ≤ 10)
    (hmax : decOf (digitsOf b v j) ≤ 4294967295) (hl1 : Lws b j m) (hjm : j < m) (htok : TokenRun b m t) (hmt : m < t)
    (hl2 : Lws b t p) (he : Eol b p e) {c2 : UInt8} (h2 : b[e]? = some c2) (hw2 : isWS c2 = false) :
    parseHdrLine b o {} (some hv) =
      (e, .ok, hdrAt HdrCSeq o n ⟨v, t - v⟩ .fin,
        some { hv with cseq := { cseqNo := decOf (digitsOf b v j), methodNo := getMethodNo (b.extract m t),
                                 cseq := ⟨v, j - v⟩, method := ⟨m, t - m⟩, v := ⟨v, t - v⟩, state := .fin } }) := by
  have hp := ht_cseq_run b (c + 1) v j m t p e hfit hl hd hvj hlen hmax hl1 hjm htok hmt hl2 he h2 hw2
  rw [← hnew] at hp
  exact ht_line_cseq b o n c hv hfit hname hon hws hnc hcolon ht (by rw [hnew]; rfl) hp

/-! ### generic treatment with a values object: other header types, and repeated single-valued headers -/

/-- a header line with a value, scanned generically although a values object is supplied -/
theorem ht_line_gen (b : Buf) (o n c v ve p e : Nat) (hv : PHdrVals) (hfit : b.size ≤ 65535)
    (hname : NameRun b o n) (hon : o < n) (hws : WsRun b n c) (hnc : n ≤ c) (hcolon : b[c]? = some 58)
    (hlws : Lws b (c + 1) v) (hval : ValRun b v ve p) (he : Eol b p e) {c2 : UInt8} (h2 : b[e]? = some c2)
    (hw2 : isWS c2 = false) (hg : HtGen (getHdrType (b.extract o n)) hv) :
    parseHdrLine b o {} (some hv) =
      (e, .ok, hdrAt (getHdrType (b.extract o n)) o n ⟨v, ve - v⟩ .fin, some hv) :=
  HdrLineAt.parse_gen (.inl ⟨n, c, v, ve, p, c2, hname, hon, hws, hnc, hcolon, hlws, hval, he, h2, hw2, rfl⟩) (some hv) hfit
    fun _ h => by cases h; exact hg

/-! ### (3) accumulation over several Contact header lines of one message -/

theorem ht_vallist_fin {h : Nat} {b : Buf} {o o' : Nat} {rs : List PFromBody} (H : ValList h b o rs o') :
    ∀ r ∈ rs, r.state = .fin := by
  induction H with
  | last o o' r hv =>
    intro x hx
    have : x = r := by simpa using hx
    rw [this]; exact (ht_navalue_v hv).choose_spec.choose_spec.2.2.2.2
  | cons o o1 o' r rs hv _ ih =>
    intro x hx
    rcases List.mem_cons.1 hx with hx | hx
    · rw [hx]; exact (ht_navalue_v hv).choose_spec.choose_spec.2.2.2.2
    · exact ih x hx

theorem ht_vallist_range {h : Nat} {b : Buf} {o o' : Nat} {rs : List PFromBody} (H : ValList h b o rs o') :
    o < o' ∧ o' ≤ b.size := by
  induction H with
  | last o o' r hv => exact hv.range
  | cons o o1 o' r rs hv _ ih => have := hv.range; omega

/-- after the values of a line the contacts object is ready for the next line -/
theorem ht_acceptAll_ready (rs : List PFromBody) (hne : rs ≠ []) (hfin : ∀ r ∈ rs, r.state = .fin) :
    ∀ c : PContacts, CtClean c → HtCtReady (c.acceptAll rs) := by
  induction rs with
  | nil => exact absurd rfl hne
  | cons r rs ih =>
    intro c hc
    cases rs with
    | nil =>
      have := done_facts c r hc (hfin r List.mem_cons_self)
      exact ⟨this.2.1, this.1⟩
    | cons r2 rs' =>
      rw [acceptAll_cons2]
      exact ih (by simp) (fun x hx => hfin x (List.mem_cons_of_mem _ hx)) (c.next r) (next_clean c r hc).1

theorem ht_htLine_eq (c : PContacts) (rs : List PFromBody) : c.htLine rs = c.wrap.htBump.acceptAll rs := by
  unfold PContacts.htLine; rw [ht_bump_wrap]

theorem ht_htLine_ready (c : PContacts) (rs : List PFromBody) (hr : HtCtReady c) (hne : rs ≠ [])
    (hfin : ∀ r ∈ rs, r.state = .fin) : HtCtReady (c.htLine rs) := by
  rw [ht_htLine_eq]
  exact ht_acceptAll_ready rs hne hfin c.wrap.htBump hr.1

/-- **one Contact line**: the header counter goes up by one, the value counter by the number of values -/
theorem ht_htLine_hNo (c : PContacts) (rs : List PFromBody) : (c.htLine rs).hNo = c.hNo + 1 := by
  rw [ht_htLine_eq, ht_ctAcceptAll_hNo]
  show c.wrap.hNo + 1 = _
  rw [(wrap_scalars c).2.2.1]

theorem ht_htLine_n (c : PContacts) (rs : List PFromBody) : (c.htLine rs).n = c.n + rs.length := by
  rw [ht_htLine_eq, ctAcceptAll_n]
  show c.wrap.n + _ = _
  rw [(wrap_scalars c).1]

theorem ht_htLine_size (c : PContacts) (rs : List PFromBody) : (c.htLine rs).vals.size = c.vals.size := by
  rw [ht_htLine_eq, ctAcceptAll_size]
  show c.wrap.vals.size = _
  rw [(wrap_scalars c).2.1]

theorem ht_htLine_keep (c : PContacts) (rs : List PFromBody) (j : Nat) (hj : j < c.n) :
    (c.htLine rs).vals[j]! = c.vals[j]! := by
  rw [ht_htLine_eq, ctAcceptAll_keep _ _ j (by show j < c.wrap.n; rw [(wrap_scalars c).1]; exact hj)]
  show c.wrap.vals[j]! = _
  rw [(wrap_scalars c).2.1]

theorem ht_htLine_stored (c : PContacts) (rs : List PFromBody) (k : Nat) (hk : k < rs.length)
    (hin : c.n + k < c.vals.size) : (c.htLine rs).vals[c.n + k]! = rs[k] := by
  have hw := wrap_scalars c
  rw [ht_htLine_eq]
  have := ctAcceptAll_stored c.wrap.htBump rs k hk (by show c.wrap.n + k < c.wrap.vals.size; rw [hw.1, hw.2.1]; exact hin)
  have e : c.wrap.htBump.n = c.n := hw.1
  rw [e] at this
  exact this

theorem ht_htLine_maxE (c : PContacts) (rs : List PFromBody) :
    (c.htLine rs).maxExpires = rs.foldl (fun m r => max m r.expires) c.maxExpires := by
  rw [ht_htLine_eq, ctAcceptAll_maxE]
  show rs.foldl _ c.wrap.maxExpires = _
  rw [(wrap_scalars c).2.2.2.1]

/-- the minimum the next value is compared with: 2^32-1 before the first value of the message -/
def PContacts.htMin0 (c : PContacts) : Nat := if c.n == 0 then 4294967295 else c.minExpires

theorem ht_htLine_minE (c : PContacts) (rs : List PFromBody) (hne : rs ≠ []) :
    (c.htLine rs).minExpires = rs.foldl (fun m r => min m r.expires) c.htMin0 := by
  rw [ht_htLine_eq, ctAcceptAll_minE _ _ hne]
  have hw := wrap_scalars c
  show rs.foldl _ (if c.wrap.n == 0 then 4294967295 else c.wrap.minExpires) = _
  rw [hw.1, hw.2.2.2.2.1]; rfl

/-- what a sequence of Contact header lines (the value lists `rss`, in order) does to the contacts object -/
def PContacts.htLines (c : PContacts) (rss : List (List PFromBody)) : PContacts := rss.foldl PContacts.htLine c

theorem ht_htLines_cons (c : PContacts) (rs : List PFromBody) (rss : List (List PFromBody)) :
    c.htLines (rs :: rss) = (c.htLine rs).htLines rss := rfl

/-- **`HNo` is the number of Contact header lines** -/
theorem ht_htLines_hNo (c : PContacts) (rss : List (List PFromBody)) : (c.htLines rss).hNo = c.hNo + rss.length := by
  induction rss generalizing c with
  | nil => rfl
  | cons rs rss ih => rw [ht_htLines_cons, ih, ht_htLine_hNo, List.length_cons]; omega

/-- **`N` is the total number of values of all Contact lines** (also those beyond the caller's array) -/
theorem ht_htLines_n (c : PContacts) (rss : List (List PFromBody)) :
    (c.htLines rss).n = c.n + rss.flatten.length := by
  induction rss generalizing c with
  | nil => rfl
  | cons rs rss ih => rw [ht_htLines_cons, ih, ht_htLine_n, List.flatten_cons, List.length_append]; omega

theorem ht_htLines_size (c : PContacts) (rss : List (List PFromBody)) : (c.htLines rss).vals.size = c.vals.size := by
  induction rss generalizing c with
  | nil => rfl
  | cons rs rss ih => rw [ht_htLines_cons, ih, ht_htLine_size]

theorem ht_htLines_keep (c : PContacts) (rss : List (List PFromBody)) (j : Nat) (hj : j < c.n) :
    (c.htLines rss).vals[j]! = c.vals[j]! := by
  induction rss generalizing c with
  | nil => rfl
  | cons rs rss ih =>
    rw [ht_htLines_cons, ih _ (by rw [ht_htLine_n]; omega), ht_htLine_keep c rs j hj]

/-- **the stored values are the values of all Contact lines, in order** (those that fit the caller's array) -/
theorem ht_htLines_stored (c : PContacts) (rss : List (List PFromBody)) (k : Nat) (hk : k < rss.flatten.length)
    (hin : c.n + k < c.vals.size) : (c.htLines rss).vals[c.n + k]! = rss.flatten[k] := by
  induction rss generalizing c k with
  | nil => simp at hk
  | cons rs rss ih =>
    rw [ht_htLines_cons]
    simp only [List.flatten_cons]
    by_cases h1 : k < rs.length
    · rw [ht_htLines_keep _ _ _ (by rw [ht_htLine_n]; omega), ht_htLine_stored c rs k h1 hin,
        List.getElem_append_left h1]
    · have hk' : k - rs.length < rss.flatten.length := by
        simp only [List.flatten_cons, List.length_append] at hk; omega
      have := ih (c.htLine rs) (k - rs.length) hk' (by rw [ht_htLine_n, ht_htLine_size]; omega)
      rw [ht_htLine_n] at this
      have e : c.n + rs.length + (k - rs.length) = c.n + k := by omega
      rw [e] at this
      rw [this, List.getElem_append_right (by omega)]

/-- **the maximum expires summarises the values of all Contact lines** -/
theorem ht_htLines_maxE (c : PContacts) (rss : List (List PFromBody)) :
    (c.htLines rss).maxExpires = rss.flatten.foldl (fun m r => max m r.expires) c.maxExpires := by
  induction rss generalizing c with
  | nil => rfl
  | cons rs rss ih => rw [ht_htLines_cons, ih, ht_htLine_maxE, List.flatten_cons, List.foldl_append]

/-- **the minimum expires summarises the values of all Contact lines**, starting from 2^32-1 for the first value of
    the message -/
theorem ht_htLines_minE (c : PContacts) (rss : List (List PFromBody)) (hne : ∀ rs ∈ rss, rs ≠ []) :
    (c.htLines rss).minExpires =
      if rss = [] then c.minExpires else rss.flatten.foldl (fun m r => min m r.expires) c.htMin0 := by
  induction rss generalizing c with
  | nil => rfl
  | cons rs rss ih =>
    have hrs : rs ≠ [] := hne rs List.mem_cons_self
    have h0 : (c.htLine rs).htMin0 = (c.htLine rs).minExpires := by
      unfold PContacts.htMin0
      have hl : rs.length ≠ 0 := by
        intro h; exact hrs (List.length_eq_zero_iff.1 h)
      have hn0 : (c.htLine rs).n ≠ 0 := by rw [ht_htLine_n]; omega
      have : ((c.htLine rs).n == 0) = false := by rw [beq_eq_false_iff_ne]; exact hn0
      rw [this]; rfl
    rw [ht_htLines_cons, ih _ (fun x hx => hne x (List.mem_cons_of_mem _ hx))]
    rw [if_neg (List.cons_ne_nil rs rss), List.flatten_cons, List.foldl_append, ← ht_htLine_minE c rs hrs]
    by_cases hnil : rss = []
    · rw [if_pos hnil, hnil]; rfl
    · rw [if_neg hnil, h0]

theorem ht_htLines_ready (c : PContacts) (rss : List (List PFromBody)) (hr : HtCtReady c)
    (hne : ∀ rs ∈ rss, rs ≠ []) (hfin : ∀ rs ∈ rss, ∀ r ∈ rs, r.state = .fin) : HtCtReady (c.htLines rss) := by
  induction rss generalizing c with
  | nil => exact hr
  | cons rs rss ih =>
    rw [ht_htLines_cons]
    exact ih _ (ht_htLine_ready c rs hr (hne rs List.mem_cons_self) (hfin rs List.mem_cons_self))
      (fun x hx => hne x (List.mem_cons_of_mem _ hx)) (fun x hx => hfin x (List.mem_cons_of_mem _ hx))

/-! #### P-Asserted-Identity lines -/

theorem ht_paLine_eq (c : PPAIs) (rs : List PFromBody) : c.htLine rs = c.wrap.htBump.acceptAll rs := by
  unfold PPAIs.htLine; rw [ht_paBump_wrap]

theorem ht_paLine_ready (c : PPAIs) (rs : List PFromBody) (hr : HtPaReady c) (hne : rs ≠ [])
    (hfin : ∀ r ∈ rs, r.state = .fin) : HtPaReady (c.htLine rs) := by
  rw [PPAIs.htLine_eq]
  exact (ht_htLine_ready c.toCt rs hr.toCt hne hfin).toPa

theorem ht_paLine_n (c : PPAIs) (rs : List PFromBody) : (c.htLine rs).n = c.n + rs.length := by
  rw [PPAIs.htLine_eq]; exact ht_htLine_n c.toCt rs

def PPAIs.htLines (c : PPAIs) (rss : List (List PFromBody)) : PPAIs := rss.foldl PPAIs.htLine c

theorem PContacts.toPa_htLines (c : PContacts) (rss : List (List PFromBody)) :
    (c.htLines rss).toPa = c.toPa.htLines rss := by
  induction rss generalizing c with
  | nil => rfl
  | cons rs rss ih => show ((c.htLine rs).htLines rss).toPa = (c.toPa.htLine rs).htLines rss; rw [ih, toPa_htLine]

theorem PPAIs.htLines_eq (c : PPAIs) (rss : List (List PFromBody)) : c.htLines rss = (c.toCt.htLines rss).toPa :=
  (PContacts.toPa_htLines c.toCt rss).symm

theorem ht_paLines_hNo (c : PPAIs) (rss : List (List PFromBody)) : (c.htLines rss).hNo = c.hNo + rss.length := by
  rw [PPAIs.htLines_eq]; exact ht_htLines_hNo c.toCt rss

theorem ht_paLines_n (c : PPAIs) (rss : List (List PFromBody)) : (c.htLines rss).n = c.n + rss.flatten.length := by
  rw [PPAIs.htLines_eq]; exact ht_htLines_n c.toCt rss

/-! ### (4) header blocks that mix generic and typed lines -/

/-- the value grammars of the typed lines, as predicates: the text at `i0` (right after the colon), the offset `e`
    after the line, and the object the value parser produces from a new object -/
def HtCallIDVal (b : Buf) (i0 e : Nat) (f : PCallIDBody) : Prop :=
  ∃ v j p, ∃ c2 : UInt8, Lws b i0 v ∧ TokenRun b v j ∧ v < j ∧ Lws b j p ∧ Eol b p e ∧ b[e]? = some c2 ∧ isWS c2 = false ∧
    f = { callID := ⟨v, j - v⟩, state := .fin }

def HtUIntVal (b : Buf) (i0 e : Nat) (f : PUIntBody) : Prop :=
  ∃ v j p, ∃ c2 : UInt8, Lws b i0 v ∧ Run isDigit b v j ∧ v < j ∧ decOf (digitsOf b v j) ≤ 4294967295 ∧ Lws b j p ∧
    Eol b p e ∧ b[e]? = some c2 ∧ isWS c2 = false ∧
    f = { uiVal := decOf (digitsOf b v j), sVal := ⟨v, j - v⟩, state := .fin }

/-- Content-Length: at most 9 digits, value at most 2^24 -/
def HtCLenVal (b : Buf) (i0 e : Nat) (f : PUIntBody) : Prop :=
  HtUIntVal b i0 e f ∧ f.sVal.len ≤ 9 ∧ f.uiVal ≤ 16777216

def HtCSeqVal (b : Buf) (i0 e : Nat) (f : PCSeqBody) : Prop :=
  ∃ v j m t p, ∃ c2 : UInt8, Lws b i0 v ∧ Run isDigit b v j ∧ v < j ∧ j - v ≤ 10 ∧ decOf (digitsOf b v j) ≤ 4294967295 ∧
    Lws b j m ∧ j < m ∧ TokenRun b m t ∧ m < t ∧ Lws b t p ∧ Eol b p e ∧ b[e]? = some c2 ∧ isWS c2 = false ∧
    f = { cseqNo := decOf (digitsOf b v j), methodNo := getMethodNo (b.extract m t), cseq := ⟨v, j - v⟩,
          method := ⟨m, t - m⟩, v := ⟨v, t - v⟩, state := .fin }

theorem HtCallIDVal.parse {b : Buf} {i0 e : Nat} {f : PCallIDBody} (H : HtCallIDVal b i0 e f) (hfit : b.size ≤ 65535) :
    parseCallIDVal b i0 {} = (e, .ok, f) ∧ i0 < e := by
  obtain ⟨v, j, p, c2, h1, h2, h3, h4, h5, h6, h7, rfl⟩ := H
  exact ⟨ht_callid_run b i0 v j p e hfit h1 h2 h3 h4 h5 h6 h7, by have := h1.le; have := h4.le; have := h5.gt; omega⟩

theorem HtUIntVal.parse {b : Buf} {i0 e : Nat} {f : PUIntBody} (H : HtUIntVal b i0 e f) (hfit : b.size ≤ 65535) :
    parseUIntVal b i0 {} = (e, .ok, f) ∧ i0 < e := by
  obtain ⟨v, j, p, c2, h1, h2, h3, h4, h5, h6, h7, h8, rfl⟩ := H
  exact ⟨ht_uint_run b i0 v j p e hfit h1 h2 h3 h4 h5 h6 h7 h8, by have := h1.le; have := h5.le; have := h6.gt; omega⟩

theorem HtCLenVal.parse {b : Buf} {i0 e : Nat} {f : PUIntBody} (H : HtCLenVal b i0 e f) (hfit : b.size ≤ 65535) :
    parseCLenVal b i0 {} = (e, .ok, f) ∧ i0 < e := by
  obtain ⟨⟨v, j, p, c2, h1, h2, h3, h4, h5, h6, h7, h8, rfl⟩, h9, h10⟩ := H
  exact ⟨ht_clen_run b i0 v j p e hfit h1 h2 h3 h9 h10 h5 h6 h7 h8, by have := h1.le; have := h5.le; have := h6.gt; omega⟩

theorem HtCSeqVal.parse {b : Buf} {i0 e : Nat} {f : PCSeqBody} (H : HtCSeqVal b i0 e f) (hfit : b.size ≤ 65535) :
    parseCSeqVal b i0 {} = (e, .ok, f) ∧ i0 < e := by
  obtain ⟨v, j, m, t, p, c2, h1, h2, h3, h4, h5, h6, h7, h8, h9, h10, h11, h12, h13, rfl⟩ := H
  exact ⟨ht_cseq_run b i0 v j m t p e hfit h1 h2 h3 h4 h5 h6 h7 h8 h9 h10 h11 h12 h13,
    by have := h1.le; have := h10.le; have := h11.gt; omega⟩

/-- what a line contributes to the multi-valued objects -/
inductive HtEv where
  | other
  | contact (rs : List PFromBody)
  | pai (rs : List PFromBody)

/-- **a header line of a block parsed with a values object** `hv`: the line at `o`, the offset `e` after it, the
    header it denotes, the values object after it and its contribution to the Contact / PAI lists. Either a line
    scanned generically (`HdrLineAt`, for a type without value parser or a repeated single-valued header), or a
    line of one of the eight typed kinds whose value satisfies the value grammar of that kind (single-valued kinds:
    into a new component). -/
inductive HtLine (b : Buf) (o : Nat) (hv : PHdrVals) : Nat → Hdr → PHdrVals → HtEv → Prop
  | generic (e : Nat) (h : Hdr) : HdrLineAt b o e h → HtGen h.type hv → HtLine b o hv e h hv .other
  | from_ (n c e : Nat) (r : PFromBody) : HtName b o n c → getHdrType (b.extract o n) = HdrFrom → hv.from_ = {} →
      NAValue HdrFrom b (c + 1) e .ok r → HtLine b o hv e (hdrAt HdrFrom o n r.v .fin) { hv with from_ := r } .other
  | to (n c e : Nat) (r : PFromBody) : HtName b o n c → getHdrType (b.extract o n) = HdrTo → hv.to = {} →
      NAValue HdrTo b (c + 1) e .ok r → HtLine b o hv e (hdrAt HdrTo o n r.v .fin) { hv with to := r } .other
  | callid (n c e : Nat) (f : PCallIDBody) : HtName b o n c → getHdrType (b.extract o n) = HdrCallID →
      hv.callid = {} → HtCallIDVal b (c + 1) e f →
      HtLine b o hv e (hdrAt HdrCallID o n f.callID .fin) { hv with callid := f } .other
  | cseq (n c e : Nat) (f : PCSeqBody) : HtName b o n c → getHdrType (b.extract o n) = HdrCSeq →
      hv.cseq = {} → HtCSeqVal b (c + 1) e f →
      HtLine b o hv e (hdrAt HdrCSeq o n f.v .fin) { hv with cseq := f } .other
  | clen (n c e : Nat) (f : PUIntBody) : HtName b o n c → getHdrType (b.extract o n) = HdrCLen →
      hv.clen = {} → HtCLenVal b (c + 1) e f →
      HtLine b o hv e (hdrAt HdrCLen o n f.sVal .fin) { hv with clen := f } .other
  | expires (n c e : Nat) (f : PUIntBody) : HtName b o n c → getHdrType (b.extract o n) = HdrExpires →
      hv.expires = {} → HtUIntVal b (c + 1) e f →
      HtLine b o hv e (hdrAt HdrExpires o n f.sVal .fin) { hv with expires := f } .other
  | contact (n c e : Nat) (rs : List PFromBody) : HtName b o n c → getHdrType (b.extract o n) = HdrContact →
      ValList HdrContact b (c + 1) rs e →
      HtLine b o hv e (hdrAt HdrContact o n (htSpan rs) .fin) { hv with contacts := hv.contacts.htLine rs } (.contact rs)
  | pai (n c e : Nat) (rs : List PFromBody) : HtName b o n c → getHdrType (b.extract o n) = HdrPAI →
      ValList HdrPAI b (c + 1) rs e →
      HtLine b o hv e (hdrAt HdrPAI o n (htSpan rs) .fin) { hv with pais := hv.pais.htLine rs } (.pai rs)

/-- the multi-valued components are ready for a header line -/
def HtReady (hv : PHdrVals) : Prop := HtCtReady hv.contacts ∧ HtPaReady hv.pais

/-- a single-valued typed line: `hval` = what the value grammar gives about the value parser started behind the colon
    (and that it ends behind it), `hline` = the line theorem of the kind -/
theorem ht_line_single {b : Buf} {o n c e : Nat} {hv hv' : PHdrVals} {h : Hdr} {R : Prop} (hn : HtName b o n c)
    (hval : R ∧ c + 1 < e)
    (hline : NameRun b o n → o < n → WsRun b n c → n ≤ c → b[c]? = some 58 → R →
      parseHdrLine b o {} (some hv) = (e, .ok, h, some hv')) (hr : HtReady hv) :
    parseHdrLine b o {} (some hv) = (e, .ok, h, some hv') ∧ o < e ∧ o < b.size ∧ HtReady hv := by
  have := hn.lt
  obtain ⟨h1, h2, h3, h4, h5⟩ := hn
  exact ⟨hline h1 h2 h3 h4 h5 hval.1, by omega, by omega, hr⟩

/-- **ParseHdrLine on a line of a block** -/
theorem HtLine.parse {b : Buf} {o e : Nat} {hv hv' : PHdrVals} {h : Hdr} {ev : HtEv} (H : HtLine b o hv e h hv' ev)
    (hfit : b.size ≤ 65535) (hr : HtReady hv) :
    parseHdrLine b o {} (some hv) = (e, .ok, h, some hv') ∧ o < e ∧ o < b.size ∧ HtReady hv' := by
  cases H with
  | generic _ _ hline hg =>
    have := hline.gt
    exact ⟨hline.parse_gen (some hv) hfit fun _ h => by cases h; exact hg, this.1, by omega, hr⟩
  | from_ n c _ r hn ht hnew hval =>
    exact ht_line_single hn ⟨hval, hval.range.1⟩
      (fun h1 h2 h3 h4 h5 hp => ht_from_value b o n c e r hv hfit h1 h2 h3 h4 h5 ht hnew hp) hr
  | to n c _ r hn ht hnew hval =>
    exact ht_line_single hn ⟨hval, hval.range.1⟩
      (fun h1 h2 h3 h4 h5 hp => ht_to_value b o n c e r hv hfit h1 h2 h3 h4 h5 ht hnew hp) hr
  | callid n c _ f hn ht hnew hval =>
    exact ht_line_single hn (hnew ▸ hval.parse hfit)
      (fun h1 h2 h3 h4 h5 hp => ht_line_callid b o n c hv hfit h1 h2 h3 h4 h5 ht (by rw [hnew]; rfl) hp) hr
  | cseq n c _ f hn ht hnew hval =>
    exact ht_line_single hn (hnew ▸ hval.parse hfit)
      (fun h1 h2 h3 h4 h5 hp => ht_line_cseq b o n c hv hfit h1 h2 h3 h4 h5 ht (by rw [hnew]; rfl) hp) hr
  | clen n c _ f hn ht hnew hval =>
    exact ht_line_single hn (hnew ▸ hval.parse hfit)
      (fun h1 h2 h3 h4 h5 hp => ht_line_clen b o n c hv hfit h1 h2 h3 h4 h5 ht (by rw [hnew]; rfl) hp) hr
  | expires n c _ f hn ht hnew hval =>
    exact ht_line_single hn (hnew ▸ hval.parse hfit)
      (fun h1 h2 h3 h4 h5 hp => ht_line_expires b o n c hv hfit h1 h2 h3 h4 h5 ht (by rw [hnew]; rfl) hp) hr
  | contact n c _ rs hn ht hval =>
    have := hn.lt; have := ht_vallist_range hval
    obtain ⟨h1, h2, h3, h4, h5⟩ := hn
    exact ⟨ht_contact_values b o n c e rs hv hfit h1 h2 h3 h4 h5 ht hr.1 hval, by omega, by omega,
      ht_htLine_ready hv.contacts rs hr.1 hval.ne_nil (ht_vallist_fin hval), hr.2⟩
  | pai n c _ rs hn ht hval =>
    have := hn.lt; have := ht_vallist_range hval
    obtain ⟨h1, h2, h3, h4, h5⟩ := hn
    exact ⟨ht_pai_values b o n c e rs hv hfit h1 h2 h3 h4 h5 ht hr.2 hval, by omega, by omega,
      hr.1, ht_paLine_ready hv.pais rs hr.2 hval.ne_nil (ht_vallist_fin hval)⟩

/-- a header block parsed with a values object: lines one after the other (the values object threaded through them),
    then the empty line; `hs` are the headers denoted, `evs` the contributions to the Contact / PAI lists -/
inductive HtBlock (b : Buf) : Nat → PHdrVals → List Hdr → List HtEv → Nat → PHdrVals → Prop
  | nil (o e : Nat) (hv : PHdrVals) : EmptyLine b o e → HtBlock b o hv [] [] e hv
  | cons (o e1 e : Nat) (hv hv1 hv' : PHdrVals) (h : Hdr) (hs : List Hdr) (ev : HtEv) (evs : List HtEv) :
      HtLine b o hv e1 h hv1 ev → HtBlock b e1 hv1 hs evs e hv' → HtBlock b o hv (h :: hs) (ev :: evs) e hv'

/-- **ParseHeaders on a well-formed block with a values object**: one header per line, in order (generic and typed
    lines mixed), the values object as left by the typed lines, then the end of the block -/
theorem ht_parseHeaders_block (b : Buf) (hfit : b.size ≤ 65535) {o e : Nat} {hv hv' : PHdrVals} {hs : List Hdr}
    {evs : List HtEv} (H : HtBlock b o hv hs evs e hv') :
    ∀ (hl : HdrLst), HlsClean hl → hl.cur = {} → HtReady hv →
      parseHeaders b o hl (some hv) =
        (e, (if (hl.acceptAll hs).n > 0 then Err.ok else Err.empty), (hl.acceptAll hs).setCur { state := .fin },
          some hv') ∧ HtReady hv' := by
  induction H with
  | nil o e hv he =>
    intro hl _ hcur hr
    obtain ⟨hp, hlt⟩ := he.parse (some hv)
    exact ⟨parseHeaders_end (hcur ▸ hp) hlt, hr⟩
  | cons o e1 e hv hv1 hv' h hs ev evs hline _ ih =>
    intro hl hc hcur hr
    obtain ⟨hp, hlt, hsz, hr1⟩ := hline.parse hfit hr
    have hcl := accept_clean hl h hc
    rw [parseHeaders_line (hcur ▸ hp) hsz hlt]
    exact ih _ hcl.1 hcl.2 hr1

/-- the value lists of the Contact lines of a block, in order -/
def htCtOf : List HtEv → List (List PFromBody)
  | [] => []
  | .contact rs :: evs => rs :: htCtOf evs
  | _ :: evs => htCtOf evs

/-- the value lists of the P-Asserted-Identity lines of a block, in order -/
def htPaOf : List HtEv → List (List PFromBody)
  | [] => []
  | .pai rs :: evs => rs :: htPaOf evs
  | _ :: evs => htPaOf evs

theorem HtLine.contacts {b : Buf} {o e : Nat} {hv hv' : PHdrVals} {h : Hdr} {ev : HtEv} (H : HtLine b o hv e h hv' ev) :
    hv'.contacts = hv.contacts.htLines (htCtOf [ev]) ∧ hv'.pais = hv.pais.htLines (htPaOf [ev]) := by
  cases H <;> exact ⟨rfl, rfl⟩

theorem ht_htLines_append (c : PContacts) (l1 l2 : List (List PFromBody)) :
    c.htLines (l1 ++ l2) = (c.htLines l1).htLines l2 := by
  unfold PContacts.htLines; rw [List.foldl_append]

theorem ht_paLines_append (c : PPAIs) (l1 l2 : List (List PFromBody)) :
    c.htLines (l1 ++ l2) = (c.htLines l1).htLines l2 := by
  unfold PPAIs.htLines; rw [List.foldl_append]

theorem htCtOf_cons (ev : HtEv) (evs : List HtEv) : htCtOf (ev :: evs) = htCtOf [ev] ++ htCtOf evs := by
  cases ev <;> rfl

theorem htPaOf_cons (ev : HtEv) (evs : List HtEv) : htPaOf (ev :: evs) = htPaOf [ev] ++ htPaOf evs := by
  cases ev <;> rfl

/-- **(3) the Contact values of a whole block**: whatever other headers stand between them, the contacts object
    after the block is the old one after the Contact lines of the block, in order (`htLines`: see `ht_htLines_hNo`,
    `ht_htLines_n`, `ht_htLines_stored`, `ht_htLines_maxE`, `ht_htLines_minE`); likewise P-Asserted-Identity -/
theorem HtBlock.contacts {b : Buf} {o e : Nat} {hv hv' : PHdrVals} {hs : List Hdr} {evs : List HtEv}
    (H : HtBlock b o hv hs evs e hv') :
    hv'.contacts = hv.contacts.htLines (htCtOf evs) ∧ hv'.pais = hv.pais.htLines (htPaOf evs) := by
  induction H with
  | nil o e hv _ => exact ⟨rfl, rfl⟩
  | cons o e1 e hv hv1 hv' h hs ev evs hline _ ih =>
    have := hline.contacts
    rw [htCtOf_cons, htPaOf_cons, ht_htLines_append, ht_paLines_append, ← this.1, ← this.2]
    exact ih

/-- every Contact line of a block has at least one value -/
theorem HtBlock.ct_ne {b : Buf} {o e : Nat} {hv hv' : PHdrVals} {hs : List Hdr} {evs : List HtEv}
    (H : HtBlock b o hv hs evs e hv') : ∀ rs ∈ htCtOf evs, rs ≠ [] := by
  induction H with
  | nil o e hv _ => intro rs hrs; cases hrs
  | cons o e1 e hv hv1 hv' h hs ev evs hline _ ih =>
    intro rs hrs
    cases hline with
    | contact n c _ rs' hn ht hval =>
      rcases List.mem_cons.1 hrs with h1 | h1
      · rw [h1]; exact hval.ne_nil
      · exact ih rs h1
    | _ => exact ih rs hrs

/-- a new list object (any capacity) satisfies the hypotheses of `ht_parseHeaders_block` -/
theorem ht_new_list_ok (k : Nat) :
    HlsClean ({ hdrs := Array.replicate k {} } : HdrLst) ∧ ({ hdrs := Array.replicate k {} } : HdrLst).cur = {} :=
  hls_new_ok k

/-! ### non-vacuity and tests -/

/-- the block used below: two Contact lines (compact name `m`) with a Via line (compact `v`) between them -/
abbrev htExB : Buf := "m:<a>\r\nv:x\r\nm:<b>,<c>\r\n\r\n".toUTF8.data

/-- the values object used below: new, with a contact array of two slots -/
abbrev htExHv : PHdrVals := { contacts := { vals := Array.replicate 2 {} } }

theorem htExHv_ready : HtReady htExHv := ⟨ht_ready_new 2, ht_paReady_new⟩

/-- `<x>` at `[o, o + 3)` as a name-addr value -/
theorem htEx_angle (h : Nat) (o o' : Nat) (e' : Err) (h0 : htExB[o]? = some 60) (h1 : runCheck isURIch htExB (o + 1) (o + 2) = true)
    (h2 : htExB[o + 2]? = some 62) (T : Term h htExB (o + 2 + 1) o' e') :
    NAValue h htExB o o' e' (naResult h {} ⟨o + 1, o + 2 - (o + 1)⟩ {} ⟨o, o + 2 + 1 - o⟩ {}) :=
  Or.inl ⟨o, o, o + 2, {}, .nil o, .none h0, run_of_check h1, by omega, h2, T, rfl⟩

/-- **the hypotheses of the block theorem are satisfiable** (non-vacuity): the block above is an `HtBlock` with a
    Contact line of one value, a generic line, and a Contact line of two values -/
theorem htEx_block : ∃ hs hv', HtBlock htExB 0 htExHv hs [.contact
      [naResult HdrContact {} ⟨3, 1⟩ {} ⟨2, 3⟩ {}], .other,
      .contact [naResult HdrContact {} ⟨15, 1⟩ {} ⟨14, 3⟩ {}, naResult HdrContact {} ⟨19, 1⟩ {} ⟨18, 3⟩ {}]] 25 hv' ∧
    hs.length = 3 := by
  have name1 : ∀ o : Nat, (∃ c, htExB[o]? = some c ∧ isLWSch c = false ∧ c ≠ 58) → htExB[o + 1]? = some 58 →
      HtName htExB o (o + 1) (o + 1) := by
    intro o ⟨c, h1, h2, h3⟩ h4
    refine ⟨fun k hk1 hk2 => ?_, by omega, fun k hk1 hk2 => by omega, Nat.le_refl _, h4⟩
    have : k = o := by omega
    subst this; exact ⟨c, h1, h2, h3⟩
  -- line 1: `m:<a>` CR LF
  have l1 : HtLine htExB 0 htExHv 7 _ _ (.contact [naResult HdrContact {} ⟨3, 1⟩ {} ⟨2, 3⟩ {}]) :=
    .contact 1 1 7 _ (name1 0 ⟨109, by decide, by decide, by decide⟩ (by decide)) (by decide +kernel)
      (.last 2 7 _ (htEx_angle HdrContact 2 7 .ok (by decide) (by decide) (by decide)
        (.eol 5 7 118 (.nil 5) (.crlf 5 (by decide) (by decide)) (by decide) (by decide))))
  -- line 2: `v:x` CR LF, generic
  have l2 : ∀ hv, HtLine htExB 7 hv 12 (hdrAt (getHdrType (htExB.extract 7 8)) 7 8 ⟨9, 10 - 9⟩ .fin) hv .other := by
    intro hv
    refine .generic 12 _ (Or.inl ⟨8, 8, 9, 10, 10, 109, (name1 7 ⟨118, by decide, by decide, by decide⟩ (by decide)).1,
      by decide, fun k h1 h2 => by omega, by decide, by decide, .nil 9, ?_, .crlf 10 (by decide) (by decide), by decide,
      by decide, rfl⟩) (Or.inl ?_)
    · refine .last 9 10 10 (fun k h1 h2 => ?_) (by decide) (.nil 10)
      have : k = 9 := by omega
      subst this; exact ⟨120, by decide, by decide⟩
    · show IsOther (getHdrType (htExB.extract 7 8))
      have ht : getHdrType (htExB.extract 7 8) = HdrVia := by decide +kernel
      rw [ht]; unfold IsOther; decide
  -- line 3: `m:<b>,<c>` CR LF
  have l3 : ∀ hv : PHdrVals, HtLine htExB 12 hv 23
      (hdrAt HdrContact 12 13 (htSpan [naResult HdrContact {} ⟨15, 1⟩ {} ⟨14, 3⟩ {}, naResult HdrContact {} ⟨19, 1⟩ {} ⟨18, 3⟩ {}]) .fin)
      { hv with contacts := hv.contacts.htLine [naResult HdrContact {} ⟨15, 1⟩ {} ⟨14, 3⟩ {}, naResult HdrContact {} ⟨19, 1⟩ {} ⟨18, 3⟩ {}] }
      (.contact [naResult HdrContact {} ⟨15, 1⟩ {} ⟨14, 3⟩ {}, naResult HdrContact {} ⟨19, 1⟩ {} ⟨18, 3⟩ {}]) := by
    intro hv
    exact .contact 13 13 23 _ (name1 12 ⟨109, by decide, by decide, by decide⟩ (by decide)) (by decide +kernel)
      (.cons 14 18 23 _ _ (htEx_angle HdrContact 14 18 .moreValues (by decide) (by decide) (by decide)
          (.comma 17 (.nil 17) (by decide) (by decide)))
        (.last 18 23 _ (htEx_angle HdrContact 18 23 .ok (by decide) (by decide) (by decide)
          (.eol 21 23 13 (.nil 21) (.crlf 21 (by decide) (by decide)) (by decide) (by decide)))))
  exact ⟨_, _, .cons 0 7 25 _ _ _ _ _ _ _ l1 (.cons 7 12 25 _ _ _ _ _ _ _ (l2 _) (.cons 12 23 25 _ _ _ _ _ _ _ (l3 _)
    (.nil 23 25 _ (.crlf 23 (by decide) (by decide))))), rfl⟩

/-- … and what the theorems say about it: ParseHeaders returns OK at offset 25 with three headers, the contacts
    object has seen two Contact lines and three values, of which the first two are stored in the array of two -/
example : ∃ hl' hv', parseHeaders htExB 0 { hdrs := Array.replicate 4 {} } (some htExHv) = (25, .ok, hl', some hv') ∧
    hl'.n = 3 ∧ hv'.contacts.hNo = 2 ∧ hv'.contacts.n = 3 ∧
    hv'.contacts.vals[0]! = naResult HdrContact {} ⟨3, 1⟩ {} ⟨2, 3⟩ {} ∧
    hv'.contacts.vals[1]! = naResult HdrContact {} ⟨15, 1⟩ {} ⟨14, 3⟩ {} := by
  obtain ⟨hs, hv', hb, hlen⟩ := htEx_block
  have hnew := ht_new_list_ok 4
  obtain ⟨hp, _⟩ := ht_parseHeaders_block htExB (by decide) hb _ hnew.1 hnew.2 htExHv_ready
  have hn : (({ hdrs := Array.replicate 4 {} } : HdrLst).acceptAll hs).n = 3 := by rw [acceptAll_n, hlen]
  refine ⟨_, hv', by rw [hp, hn]; rfl, by rw [hlSetCur_n, hn], ?_, ?_, ?_, ?_⟩
  · rw [hb.contacts.1, ht_htLines_hNo]; rfl
  · rw [hb.contacts.1, ht_htLines_n]; rfl
  · rw [hb.contacts.1]
    exact ht_htLines_stored htExHv.contacts _ 0 (by decide) (by decide)
  · rw [hb.contacts.1]
    exact ht_htLines_stored htExHv.contacts _ 1 (by decide) (by decide)

theorem ht_tokenrun_of_check {b : Buf} {i j : Nat} (h : runCheck (fun c => !isLWSch c) b i j = true) :
    TokenRun b i j := by
  intro k h1 h2
  obtain ⟨c, hc, hp⟩ := run_of_check h k h1 h2
  exact ⟨c, hc, by simpa using hp⟩

/-- the hypotheses of `ht_cseq_run` are satisfiable: `42 INVITE` CR LF followed by `X` -/
example : parseCSeqVal "42 INVITE\r\nX".toUTF8.data 0 {} =
    (11, .ok, { cseqNo := 42, methodNo := MInvite, cseq := ⟨0, 2⟩, method := ⟨3, 6⟩, v := ⟨0, 9⟩, state := .fin }) := by
  have := ht_cseq_run "42 INVITE\r\nX".toUTF8.data 0 0 2 3 9 9 11 (by decide) (.nil 0) (run_of_check (by decide))
    (by decide) (by decide) (by decide +kernel) (.ws 2 3 32 (by decide) (by decide) (.nil 3)) (by decide)
    (ht_tokenrun_of_check (by decide)) (by decide) (.nil 9) (.crlf 9 (by decide) (by decide)) (c2 := 88) (by decide)
    (by decide)
  rw [this]
  have e1 : decOf (digitsOf "42 INVITE\r\nX".toUTF8.data 0 2) = 42 := by decide +kernel
  have e2 : getMethodNo ("42 INVITE\r\nX".toUTF8.data.extract 3 9) = MInvite := by decide +kernel
  rw [e1, e2]

/-- the hypotheses of `ht_callid_value` are satisfiable: `i: a@b` CR LF followed by `X` (compact name, one space) -/
example : parseHdrLine "i: a@b\r\nX".toUTF8.data 0 {} (some {}) =
    (8, .ok, hdrAt HdrCallID 0 1 ⟨3, 3⟩ .fin, some { callid := { callID := ⟨3, 3⟩, state := .fin } }) := by
  refine ht_callid_value "i: a@b\r\nX".toUTF8.data 0 1 1 3 6 6 8 {} (by decide) (fun k h1 h2 => ?_) (by decide)
    (fun k h1 h2 => by omega) (by decide) (by decide) (by decide +kernel) rfl
    (.ws 2 3 32 (by decide) (by decide) (.nil 3)) (ht_tokenrun_of_check (by decide)) (by decide) (.nil 6)
    (.crlf 6 (by decide) (by decide)) (c2 := 88) (by decide) (by decide)
  have : k = 0 := by omega
  subst this; exact ⟨105, by decide, by decide, by decide⟩

/-- tests (evaluation of the model, not proofs of the property): with a values object the typed kinds do NOT accept
    what the generic scanner accepts — an empty value is "bad", a second token after a Call-ID is a bad character,
    a Content-Length written with ten digits is "number too big" whatever its value -/
example : (parseHdrLine "i:\r\nX".toUTF8.data 0 {} (some {})).2.1 = .bad ∧
    (parseHdrLine "i:\r\nX".toUTF8.data 0 {} none).2.1 = .ok ∧
    (parseHdrLine "i: a b\r\nX".toUTF8.data 0 {} (some {})).2.1 = .badChar ∧
    (parseHdrLine "i: a b\r\nX".toUTF8.data 0 {} none).2.2.1.val = ⟨3, 3⟩ ∧
    (parseHdrLine "l: 0000000001\r\nX".toUTF8.data 0 {} (some {})).2.1 = .numTooBig ∧
    (parseHdrLine "l: 0000000001\r\nX".toUTF8.data 0 {} (some {})).1 = 3 := by
  decide +kernel

/-- test: a second Call-ID header of the same message is scanned generically (`HtGen`) and leaves the object alone -/
example :
    let r := parseHdrLine "i: x y\r\nX".toUTF8.data 0 {} (some { callid := { callID := ⟨3, 3⟩, state := .fin } })
    r.1 = 8 ∧ r.2.1 = .ok ∧ r.2.2.1 = { type := HdrCallID, name := ⟨0, 1⟩, val := ⟨3, 3⟩, state := .fin } ∧
    r.2.2.2.map (·.callid) = some { callID := ⟨3, 3⟩, state := .fin } := by
  decide +kernel

end Sipsp
