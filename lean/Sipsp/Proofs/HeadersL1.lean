/-
  Sipsp.Proofs.HeadersL1 — post-condition of ParseHdrLine on OK and L1 for ParseHeaders.
-/
import Sipsp.Proofs.Post
import Sipsp.Proofs.MsgPhases
import Sipsp.Proofs.VerdictsMsg
import Sipsp.Proofs.HdrLineL1

namespace Sipsp

theorem valCall_post (S st : HState) (b : Buf) (o : Nat) (hv : PHdrVals) (hok : hvOK b o hv) (ho : o ≤ b.size)
    {n : Nat} {V : PField} {hv2 : PHdrVals} (hq : valCall S st b o hv = (n, .ok, V, hv2)) :
    o ≤ n ∧ n ≤ b.size ∧ hvOK b n hv2 := by
  have frame : ∀ {n}, o ≤ n → n ≤ b.size → hvOK b n hv := hvOK_mono hok
  obtain ⟨ok1, ok2, ok3, ok4, ok5⟩ := hok
  refine valCall_cases (M := fun n e _ hv2 => e = .ok → o ≤ n ∧ n ≤ b.size ∧ hvOK b n hv2)
    (from_ := fun _ n e f hp he => ?from_) (to := fun _ n e f hp he => ?to) (callID := fun _ n e f hp he => ?callID)
    (cseq := fun _ n e f hp he => ?cseq) (clen := fun _ n e f hp he => ?clen) (contact := fun _ n e c hp he => ?contact)
    (expires := fun _ n e f hp he => ?expires) (pai := fun _ n e c hp he => ?pai) (other := fun _ he => nomatch he) hq rfl
  all_goals subst he
  case from_ =>
    obtain ⟨h3, h1, h2⟩ := naPVal_ok_range HdrFrom b o hv.from_ ho hp (Or.inl rfl)
    have F := frame h1 h2
    exact ⟨h1, h2, Or.inl h3, F.2.1, F.2.2.1, F.2.2.2.1, F.2.2.2.2⟩
  case to =>
    obtain ⟨h3, h1, h2⟩ := naPVal_ok_range HdrTo b o hv.to ho hp (Or.inl rfl)
    have F := frame h1 h2
    exact ⟨h1, h2, F.1, Or.inl h3, F.2.2.1, F.2.2.2.1, F.2.2.2.2⟩
  case callID =>
    obtain ⟨h1, h2, _⟩ := parseCallIDVal_post b o hv.callid ho hp
    exact ⟨h1, h2, frame h1 h2⟩
  case cseq =>
    obtain ⟨h1, h2, h3, _⟩ := parseCSeqVal_post b o hv.cseq ho hp
    have F := frame h1 h2
    exact ⟨h1, h2, F.1, F.2.1, Or.inl h3, F.2.2.2.1, F.2.2.2.2⟩
  case clen =>
    obtain ⟨h1, h2, _⟩ := parseCLenVal_post b o hv.clen ho hp
    exact ⟨h1, h2, frame h1 h2⟩
  case contact =>
    obtain ⟨h1, h2, h3⟩ := parseAllContactValues_post b o _ (ctOK_ctArg ok4 st) ho hp
    have F := frame h1 h2
    exact ⟨h1, h2, F.1, F.2.1, F.2.2.1, h3, F.2.2.2.2⟩
  case expires =>
    obtain ⟨h1, h2, _⟩ := parseUIntVal_post b o hv.expires ho hp
    exact ⟨h1, h2, frame h1 h2⟩
  case pai =>
    obtain ⟨h1, h2, h3⟩ := parseAllPAIValues_post b o _ (paOK_paArg ok5 st) ho hp
    have F := frame h1 h2
    exact ⟨h1, h2, F.1, F.2.1, F.2.2.1, F.2.2.2.1, h3⟩

theorem valCall_ne_empty (S st : HState) (b : Buf) (o : Nat) (hv : PHdrVals) : (valCall S st b o hv).2.1 ≠ .empty :=
  ne_of_verdicts (valCall_verdicts S st b o hv) (by decide)

theorem parseBody_post (b : Buf) (o : Nat) (h : Hdr) (hb : Option PHdrVals) (hok : hbOK b o hb) (ho : o ≤ b.size)
    {n : Nat} {h2 : Hdr} {hb2 : Option PHdrVals}
    (hr : parseBody b o h hb = (n, .ok, h2, hb2)) : o ≤ n ∧ n ≤ b.size ∧ hbOK b n hb2 := by
  cases hb with
  | none => cases hr; exact ⟨Nat.le_refl _, ho, trivial⟩
  | some hv =>
    rw [parseBody_eq] at hr
    cases hk : valKind h hv with
    | none => rw [hk] at hr; cases hr; exact ⟨Nat.le_refl _, ho, hok⟩
    | some S =>
      rcases hq : valCall S h.state b o hv with ⟨n1, e1, V, hv1⟩
      simp only [hk, bodyDisp, hq, Prod.mk.injEq] at hr
      obtain ⟨rfl, rfl, -, rfl⟩ := hr
      exact valCall_post S h.state b o hv hok ho hq

theorem parseBody_ne_empty (b : Buf) (o : Nat) (h : Hdr) (hb : Option PHdrVals) :
    (parseBody b o h hb).2.1 ≠ .empty :=
  ne_of_verdicts (parseBody_verdicts b o h hb) (by decide)

/-! ### post-condition of ParseHdrLine on OK -/

/-- an OK exit of the loop body returns an offset inside the buffer at which the values object is legitimate -/
def HlPost (b : Buf) (o : Nat) (e : Err) (st' : HLσ) : Prop := (e = .ok ∨ e = .empty) → o ≤ b.size ∧ hbOK b o st'.2

theorem valSite_post (S : HState) (b : Buf) (j : Nat) (h : Hdr) (hv : PHdrVals) (hok : hvOK b j hv) (hj : j ≤ b.size)
    {o : Nat} {e : Err} {st' : HLσ} (hs : valSite S b j h hv = .done o e st') : HlPost b o e st' := by
  unfold valSite at hs
  rcases hq : valCall S h.state b j hv with ⟨n1, e1, V, hv1⟩
  rw [hq] at hs; cases hs
  rintro (rfl | rfl)
  · exact (valCall_post _ _ b j hv hok hj hq).2
  · have := valCall_ne_empty S h.state b j hv
    rw [hq] at this; exact absurd rfl this

theorem colonDo_post (b : Buf) (j : Nat) (h : Hdr) (hb : Option PHdrVals) (hj : j ≤ b.size) (hok : hbOK b j hb)
    {o : Nat} {e : Err} {st' : HLσ} (hs : colonDo b j h hb = .done o e st') : HlPost b o e st' := by
  unfold colonDo at hs
  split at hs
  · cases hs; intro hq; rcases hq with hq | hq <;> cases hq
  · split at hs
    · cases hs
    · split at hs
      · cases hs
      · exact valSite_post _ b j _ _ hok hj hs

theorem hlStep_post (b : Buf) (i : Nat) (c : UInt8) (st : HLσ) (hb : b[i]? = some c) (hI : hlInv b i st)
    {o : Nat} {e : Err} {st' : HLσ} (hs : hlStep b i c st = .done o e st') : HlPost b o e st' := by
  obtain ⟨h, hv⟩ := st
  obtain ⟨hi, hd, hok⟩ := hI
  rw [hlStep_eq] at hs
  have sp := hlLex_spec b i c h hb
  cases ha : hlLex b i c h <;> rw [ha] at hs sp
  · cases hs
    have r := sp.exit_range hi
    exact fun _ => ⟨r.2.1, hbOK_mono hok r.1 r.2.1⟩
  · cases hs
  · have sc := sp.colon_range hi
    rw [show hlDo b i h hv (.colon _ _) = hlAfterColon b _ _ hv from rfl, hlAfterColon_nf _ _ _ _ sc.2.2] at hs
    exact colonDo_post b _ _ hv sc.2.1 (hbOK_mono hok (Nat.le_of_lt sc.1) sc.2.1) hs
  · cases hv with
    | none => cases hs; intro hq; rcases hq with hq | hq <;> cases hq
    | some hv =>
      rw [show hlDo b i h (some hv) .value = hlCont b i h (some hv) from rfl, hlCont_nf] at hs
      exact valSite_post _ b i h hv hok hi hs

theorem parseHdrLine_post (b : Buf) (o : Nat) (h : Hdr) (hb : Option PHdrVals) (hok : hlOK b o h hb)
    {o' : Nat} {e : Err} {h' : Hdr} {hb' : Option PHdrVals} (hr : parseHdrLine b o h hb = (o', e, h', hb'))
    (he : e = .ok ∨ e = .empty) : o' ≤ b.size ∧ hbOK b o' hb' := by
  have hrl := parseHdrLine_run.1 hr
  have key := runLoop_inv hlMachine b (hlInv b) (fun r => (r.2.1 = .ok ∨ r.2.1 = .empty) → r.1 ≤ b.size ∧ hbOK b r.1 r.2.2.2)
    (by
      intro i c st i' st' hb hP hs
      exact ⟨fun hlt => hl_invCont b i c st i' st' hb hP hs hlt, fun _ hq => by rcases hq with hq | hq <;> cases hq⟩)
    (by
      intro i c st o2 e2 st2 hb hP hs
      exact hlStep_post b i c st hb hP hs)
    (by
      intro i st _ _ hq
      simp only [hlMachine] at hq
      rcases hq with hq | hq <;> cases hq)
    o (h, hb) hok
  rw [hrl] at key
  exact key he

/-- legitimacy of the header list w.r.t. `b`: the slots not yet filled and the scratch slot -/
def hlsOK (b : Buf) (hl : HdrLst) : Prop :=
  (∀ k, hl.n ≤ k → k < hl.hdrs.size → hdrOK b hl.hdrs[k]!) ∧ hdrOK b hl.hdr

theorem hlsOK_cur {b : Buf} {hl : HdrLst} (h : hlsOK b hl) : hdrOK b hl.cur := by
  unfold HdrLst.cur
  split
  · rename_i hlt; exact h.1 hl.n (Nat.le_refl _) hlt
  · exact h.2

theorem hlsOK_grows {b : Buf} (s : Buf) {hl : HdrLst} (h : hlsOK b hl) : hlsOK (b ++ s) hl :=
  ⟨fun k hk hk' => hdrOK_grows s (h.1 k hk hk'), hdrOK_grows s h.2⟩

theorem hdrOK_new (b : Buf) : hdrOK b {} := ⟨by decide, Nat.zero_le _⟩

/-- a new header list over a cleared array of any capacity is legitimate -/
theorem hlsOK_new (b : Buf) (kh : Nat) : hlsOK b { hdrs := Array.replicate kh {} } :=
  ⟨fun k _ hk => by
    show hdrOK b (Array.replicate kh ({} : Hdr))[k]!
    rw [replicate_hdr_get kh k hk]; exact hdrOK_new b, hdrOK_new b⟩

theorem setHdr_hdrs (hl : HdrLst) (nh : Hdr) : (hl.setHdr nh).hdrs = hl.hdrs := by
  unfold HdrLst.setHdr; repeat' split
  all_goals rfl
theorem setHdr_n (hl : HdrLst) (nh : Hdr) : (hl.setHdr nh).n = hl.n := by
  unfold HdrLst.setHdr; repeat' split
  all_goals rfl
theorem setHdr_hdr (hl : HdrLst) (nh : Hdr) : (hl.setHdr nh).hdr = hl.hdr := by
  unfold HdrLst.setHdr; repeat' split
  all_goals rfl

theorem hlSetCur_n (hl : HdrLst) (h : Hdr) : (hl.setCur h).n = hl.n := by
  unfold HdrLst.setCur; split <;> rfl
theorem hlSetCur_size (hl : HdrLst) (h : Hdr) : (hl.setCur h).hdrs.size = hl.hdrs.size := by
  unfold HdrLst.setCur; split
  · simp
  · rfl
theorem hlSetCur_ne (hl : HdrLst) (h : Hdr) (k : Nat) (hk : hl.n ≠ k) : (hl.setCur h).hdrs[k]! = hl.hdrs[k]! := by
  unfold HdrLst.setCur; split
  · simp [Array.getElem!_eq_getD, Array.getD_eq_getD_getElem?, Array.getElem?_setIfInBounds_ne hk]
  · rfl
theorem hlSetCur_hdr_in (hl : HdrLst) (h : Hdr) (hin : hl.n < hl.hdrs.size) : (hl.setCur h).hdr = hl.hdr := by
  unfold HdrLst.setCur; rw [if_pos hin]

theorem accept_hdrs (hl : HdrLst) (h : Hdr) : (hl.accept h).hdrs = hl.hdrs := by
  unfold HdrLst.accept; dsimp only; split <;> simp only [setHdr_hdrs]
theorem accept_n (hl : HdrLst) (h : Hdr) : (hl.accept h).n = hl.n + 1 := by
  unfold HdrLst.accept; dsimp only; split <;> simp only [setHdr_n]
theorem accept_hdr (hl : HdrLst) (h : Hdr) :
    (hl.accept h).hdr = if hl.n < hl.hdrs.size then hl.hdr else {} := by
  unfold HdrLst.accept; dsimp only; split <;> simp only [setHdr_hdr]

theorem hlSetCur_cur (hl : HdrLst) (h : Hdr) : (hl.setCur h).cur = h := by
  unfold HdrLst.setCur HdrLst.cur
  split
  · rename_i hin
    have h' : hl.n < (hl.hdrs.set! hl.n h).size := by simpa using hin
    simp only [h', ↓reduceIte]
    simp [hin]
  · rfl

theorem hlSetCur_setCur (hl : HdrLst) (p q : Hdr) : (hl.setCur p).setCur q = hl.setCur q := by
  unfold HdrLst.setCur
  split
  · rename_i hin
    have h' : hl.n < (hl.hdrs.set! hl.n p).size := by simpa using hin
    simp only [h', ↓reduceIte]
    simp [Array.setIfInBounds_setIfInBounds]
  · rfl

theorem hlSetCur_hdr_out (hl : HdrLst) (h : Hdr) (hin : ¬ hl.n < hl.hdrs.size) : (hl.setCur h).hdr = h := by
  unfold HdrLst.setCur; rw [if_neg hin]

theorem hlSetCur_get_n (hl : HdrLst) (h : Hdr) (hin : hl.n < hl.hdrs.size) : (hl.setCur h).hdrs[hl.n]! = h := by
  have := hlSetCur_cur hl h
  unfold HdrLst.cur at this
  rw [hlSetCur_n, hlSetCur_size, if_pos hin] at this
  exact this

theorem hlSetCur_scalars (hl : HdrLst) (h : Hdr) : (hl.setCur h).pflags = hl.pflags ∧ (hl.setCur h).h = hl.h := by
  unfold HdrLst.setCur; split <;> exact ⟨rfl, rfl⟩

theorem setHdr_h_congr (l1 l2 : HdrLst) (nh : Hdr) (h : l1.h = l2.h) : (l1.setHdr nh).h = (l2.setHdr nh).h := by
  unfold HdrLst.setHdr
  rw [h]
  repeat' split
  all_goals first | rfl | (simp_all)

theorem setHdr_pflags (hl : HdrLst) (nh : Hdr) : (hl.setHdr nh).pflags = hl.pflags := by
  unfold HdrLst.setHdr; repeat' split
  all_goals rfl

theorem accept_pflags (hl : HdrLst) (h : Hdr) : (hl.accept h).pflags = (hl.pflags ||| (1 <<< h.type)) % 65536 := by
  unfold HdrLst.accept; dsimp only; split <;> simp only [setHdr_pflags]

theorem accept_h_congr (l1 l2 : HdrLst) (nh : Hdr) (h : l1.h = l2.h) : (l1.accept nh).h = (l2.accept nh).h := by
  unfold HdrLst.accept; dsimp only
  have := setHdr_h_congr { l1 with pflags := (l1.pflags ||| (1 <<< nh.type)) % 65536 }
    { l2 with pflags := (l2.pflags ||| (1 <<< nh.type)) % 65536 } nh h
  split <;> split <;> exact this

/-- what holds of every stored header still holds after the current slot is written … -/
theorem stored_setCur {P : Hdr → Prop} {hl : HdrLst} (g : Hdr) (H : ∀ k, k < hl.n → k < hl.hdrs.size → P hl.hdrs[k]!) :
    ∀ k, k < (hl.setCur g).n → k < (hl.setCur g).hdrs.size → P (hl.setCur g).hdrs[k]! := by
  intro k h1 h2
  rw [hlSetCur_n] at h1; rw [hlSetCur_size] at h2
  rw [hlSetCur_ne hl g k (by omega)]; exact H k h1 h2

/-- … and after the header written there is counted, if it holds of that header too -/
theorem stored_next {P : Hdr → Prop} {hl : HdrLst} (g : Hdr) (hg : P g)
    (H : ∀ k, k < hl.n → k < hl.hdrs.size → P hl.hdrs[k]!) :
    ∀ k, k < ((hl.setCur g).accept g).n → k < ((hl.setCur g).accept g).hdrs.size → P ((hl.setCur g).accept g).hdrs[k]! := by
  intro k h1 h2
  rw [accept_n, hlSetCur_n] at h1; rw [accept_hdrs, hlSetCur_size] at h2
  rw [accept_hdrs]
  by_cases hkn : hl.n = k
  · subst hkn; rw [hlSetCur_get_n hl g h2]; exact hg
  · rw [hlSetCur_ne hl g k hkn]; exact H k (by omega) h2

theorem setHdr_allP (P : Hdr → Prop) (hl : HdrLst) (g : Hdr) (hg : P g) (H : ∀ j, j < hl.h.size → P hl.h[j]!) :
    ∀ j, j < (hl.setHdr g).h.size → P (hl.setHdr g).h[j]! := by
  unfold HdrLst.setHdr
  split
  · split
    · split
      · intro j hj
        simp only [Array.set!_eq_setIfInBounds, Array.size_setIfInBounds] at hj
        by_cases hjt : g.type - 1 = j
        · subst hjt
          simp only [Array.set!_eq_setIfInBounds, Array.getElem!_eq_getD, Array.getD_eq_getD_getElem?,
            Array.getElem?_setIfInBounds_self_of_lt hj, Option.getD_some]
          exact hg
        · have := H j hj
          simp only [Array.set!_eq_setIfInBounds, Array.getElem!_eq_getD, Array.getD_eq_getD_getElem?,
            Array.getElem?_setIfInBounds_ne hjt] at this ⊢
          exact this
      · exact H
    · exact H
  · exact H

theorem accept_allP (P : Hdr → Prop) (hl : HdrLst) (g : Hdr) (hg : P g) (H : ∀ j, j < hl.h.size → P hl.h[j]!) :
    ∀ j, j < (hl.accept g).h.size → P (hl.accept g).h[j]! := by
  have := setHdr_allP P { hl with pflags := (hl.pflags ||| (1 <<< g.type)) % 65536 } g hg H
  unfold HdrLst.accept
  dsimp only
  split <;> exact this

theorem hlsOK_next {b : Buf} {hl : HdrLst} (h : Hdr) (hk : hlsOK b hl) : hlsOK b ((hl.setCur h).accept h) := by
  refine ⟨fun k hk1 hk2 => ?_, ?_⟩
  · rw [accept_n, hlSetCur_n] at hk1
    rw [accept_hdrs, hlSetCur_size] at hk2
    rw [accept_hdrs, hlSetCur_ne hl h k (by omega)]
    exact hk.1 k (by omega) hk2
  · rw [accept_hdr, hlSetCur_n, hlSetCur_size]
    split
    · rename_i hin; rw [hlSetCur_hdr_in hl h hin]; exact hk.2
    · exact hdrOK_new b

theorem parseHeaders_stable (b s : Buf) (offs : Nat) (hl : HdrLst) (hb : Option PHdrVals)
    (hok1 : hlsOK b hl) (hok2 : hbOK b offs hb)
    {o' : Nat} {e : Err} {hl' : HdrLst} {hb' : Option PHdrVals}
    (hr : parseHeaders b offs hl hb = (o', e, hl', hb')) (he : e ≠ .moreBytes) :
    parseHeaders (b ++ s) offs hl hb = (o', e, hl', hb') := by
  induction hk : b.size - offs using Nat.strongRecOn generalizing offs hl hb with
  | _ k ih =>
    rw [parseHeaders] at hr ⊢
    by_cases hlt : offs < b.size
    · have hltB : offs < (b ++ s).size := by rw [Array.size_append]; omega
      rw [if_pos hlt] at hr
      rw [if_pos hltB]
      rcases hp : parseHdrLine b offs hl.cur hb with ⟨n, e1, h, hb1⟩
      rw [hp] at hr
      have hI : hlOK b offs hl.cur hb := ⟨by omega, hlsOK_cur hok1, hok2⟩
      by_cases hm : e1 = .moreBytes
      · subst hm; simp only at hr; cases hr; exact absurd rfl he
      · rw [parseHdrLine_stable b s offs hl.cur hb hI hp hm]
        cases e1 <;> simp only at hr ⊢ <;> try exact hr
        -- OK: next header line
        have hpost := parseHdrLine_post b offs hl.cur hb hI hp (Or.inl rfl)
        split at hr
        · rename_i hg
          rw [if_pos hg]
          exact ih (b.size - n) (by omega) n _ hb1 (hlsOK_next h hok1) hpost.2 hr rfl
        · rename_i hg
          rw [if_neg hg]; exact hr
    · rw [if_neg hlt] at hr; cases hr; exact absurd rfl he

theorem parseHeaders_post (b : Buf) (offs : Nat) (hl : HdrLst) (hb : Option PHdrVals)
    (hok1 : hlsOK b hl) (hok2 : hbOK b offs hb)
    {o' : Nat} {hl' : HdrLst} {hb' : Option PHdrVals}
    (hr : parseHeaders b offs hl hb = (o', .ok, hl', hb')) : o' ≤ b.size ∧ hbOK b o' hb' := by
  have key := parseHeaders_ind b (J := fun offs hl hb => hlsOK b hl ∧ hbOK b offs hb)
    (R := fun r => r.2.1 = .ok → r.1 ≤ b.size ∧ hbOK b r.1 r.2.2.2)
    (line := fun offs hl hb n g hb' hJ hlt hp _ =>
      ⟨hlsOK_next g hJ.1, (parseHdrLine_post b offs hl.cur hb ⟨by omega, hlsOK_cur hJ.1, hJ.2⟩ hp (Or.inl rfl)).2⟩)
    (bug := fun _ _ _ _ _ _ _ _ _ hh => by cases hh)
    (endOk := fun offs hl hb n g hb' hJ hlt hp _ _ =>
      parseHdrLine_post b offs hl.cur hb ⟨by omega, hlsOK_cur hJ.1, hJ.2⟩ hp (Or.inr rfl))
    (endEmpty := fun _ _ _ _ _ _ _ _ _ _ hh => by cases hh)
    (stop := fun _ _ _ _ _ _ _ _ _ _ hne _ hh => absurd hh hne) (eob := fun _ _ _ _ _ hh => by cases hh)
    offs hl hb ⟨hok1, hok2⟩
  rw [hr] at key
  exact key rfl

end Sipsp
