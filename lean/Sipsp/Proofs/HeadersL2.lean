/-
  Sipsp.Proofs.HeadersL2 — L2 (resumption) for ParseHeaders.
-/
import Sipsp.Proofs.HdrLineL2
import Sipsp.Proofs.MsgPhases

namespace Sipsp

/-! ### a header line that ends with OK has consumed something -/

/-- a resumed value parser that ends with OK has consumed something: the value it was given was not finished -/
theorem valCall_ok_gt (S : HState) (b : Buf) (i : Nat) (hv : PHdrVals) (hi : i ≤ b.size) (hok : hvOK b i hv)
    (hp : hvPending S hv) {n : Nat} {V : PField} {hv2 : PHdrVals} (hq : valCall S S b i hv = (n, .ok, V, hv2)) :
    i < n := by
  obtain ⟨ok1, ok2, ok3, ok4, ok5⟩ := hok
  obtain ⟨p1, p2, p3, p4, p5, p6, p7, p8⟩ := hp
  refine valCall_cases (M := fun n e _ _ => e = .ok → i < n)
    (from_ := fun hS n e f hr he => ?from_) (to := fun hS n e f hr he => ?to) (callID := fun hS n e f hr he => ?callID)
    (cseq := fun hS n e f hr he => ?cseq) (clen := fun hS n e f hr he => ?clen) (contact := fun hS n e c hr he => ?contact)
    (expires := fun hS n e f hr he => ?expires) (pai := fun hS n e c hr he => ?pai) (other := fun _ he => nomatch he) hq rfl
  all_goals subst he
  case from_ => exact ((parseNameAddrPVal_post HdrFrom b i hv.from_ hr (Or.inl rfl)).2 (p1 hS)).1
  case to => exact ((parseNameAddrPVal_post HdrTo b i hv.to hr (Or.inl rfl)).2 (p2 hS)).1
  case callID => exact (parseCallIDVal_post b i hv.callid hi hr).2.2.2 (p3 hS)
  case cseq => exact (parseCSeqVal_post b i hv.cseq hi hr).2.2.2 (p4 hS)
  case clen => exact (parseCLenVal_post b i hv.clen hi hr).2.2.2 (p5 hS)
  case contact => subst hS; exact parseAllContactValues_ok_gt b i hv.contacts ok4 hi (p6 rfl) hr
  case expires => exact (parseUIntVal_post b i hv.expires hi hr).2.2.2 (p7 hS)
  case pai => subst hS; exact parseAllPAIValues_ok_gt b i hv.pais ok5 hi (p8 rfl) hr

theorem hlStep_ok_gt (b : Buf) (i : Nat) (c : UInt8) (st : HLσ) (hb : b[i]? = some c) (hI : hlInv b i st)
    (hp : hlPending st) {o : Nat} {st' : HLσ} (hs : hlStep b i c st = .done o .ok st') : i < o := by
  obtain ⟨h, hv⟩ := st
  obtain ⟨hi, hd, hok⟩ := hI
  rw [hlStep_eq] at hs
  have sp := hlLex_spec b i c h hb
  cases ha : hlLex b i c h <;> rw [ha] at hs sp
  · cases hs; exact (sp.exit_range hi).2.2 (Or.inl rfl)
  · cases hs
  · have sc := sp.colon_range hi
    rw [show hlDo b i h hv (.colon _ _) = hlAfterColon b _ _ hv from rfl, hlAfterColon_nf _ _ _ _ sc.2.2] at hs
    unfold colonDo at hs
    split at hs
    · cases hs
    · split at hs
      · cases hs
      · split at hs
        · cases hs
        · unfold valSite at hs
          rename_i hv0 _ S _
          rcases hq : valCall S _ b _ hv0 with ⟨n1, e1, V, hv1⟩
          rw [hq] at hs; cases hs
          have := (valCall_post S _ b _ hv0 (hvOK_mono hok (Nat.le_of_lt sc.1) sc.2.1) sc.2.1 hq).1
          omega
  · cases hv with
    | none => cases hs
    | some hv0 =>
      rw [show hlDo b i h (some hv0) .value = hlCont b i h (some hv0) from rfl, hlCont_nf] at hs
      unfold valSite at hs
      rcases hq : valCall h.state h.state b i hv0 with ⟨n1, e1, V, hv1⟩
      rw [hq] at hs; cases hs
      exact valCall_ok_gt h.state b i hv0 hi hok hp hq

/-- **ParseHdrLine, OK, from a legitimate (possibly suspended) header object: the offset has moved** -/
theorem parseHdrLine_ok_gt (b : Buf) (o : Nat) (h : Hdr) (hb : Option PHdrVals) (hok : hlOK b o h hb)
    (hp : hlPending (h, hb)) {o' : Nat} {h' : Hdr} {hb' : Option PHdrVals}
    (hr : parseHdrLine b o h hb = (o', .ok, h', hb')) : o < o' := by
  have hrl := parseHdrLine_run.1 hr
  have key := runLoop_inv hlMachine b (fun i st => hlInv b i st ∧ o ≤ i ∧ hlPending st)
    (fun r => r.2.1 = .ok → o < r.1)
    (by
      intro i c st i' st' hb hP hs
      refine ⟨fun hlt => ⟨hl_invCont b i c st i' st' hb hP.1 hs hlt, by have := hP.2.1; omega,
        hlPending_of_not_isVal (hl_cont_not_isVal b i c st hb hs)⟩, fun _ hq => by cases hq⟩)
    (by
      intro i c st o2 e2 st2 hb hP hs hq
      subst hq
      have := hlStep_ok_gt b i c st hb hP.1 hP.2.2 hs
      have := hP.2.1
      omega)
    (by
      intro i st _ _ hq
      simp only [hlMachine] at hq
      cases hq)
    o (h, hb) ⟨hok, Nat.le_refl _, hp⟩
  rw [hrl] at key
  exact key rfl

def hdrsObs (st : HdrLst × Option PHdrVals) : HdrLst × Option PHdrVals := (st.1, st.2.map PHdrVals.obs)

/-- the slots after the current one (and the scratch slot while it is not in use) hold no suspended header -/
def hlsPend (hl : HdrLst) (hb : Option PHdrVals) : Prop :=
  hlPending (hl.cur, hb) ∧ (∀ k, hl.n < k → k < hl.hdrs.size → ¬ hl.hdrs[k]!.state.isVal) ∧
  (hl.n < hl.hdrs.size → ¬ hl.hdr.state.isVal)

/-- a new header list holds no suspended header -/
theorem hlsPend_new (kh : Nat) (hb : Option PHdrVals) : hlsPend { hdrs := Array.replicate kh {} } hb := by
  refine ⟨hlPending_of_not_isVal ?_, fun k _ hk => ?_, fun _ => by simp [HState.isVal]⟩
  · rw [flo_cur_new]; simp [HState.isVal]
  · show ¬ (Array.replicate kh ({} : Hdr))[k]!.state.isVal
    rw [replicate_hdr_get kh k hk]; simp [HState.isVal]

theorem hlsPend_next {hl : HdrLst} {hb : Option PHdrVals} (h : Hdr) (hb' : Option PHdrVals)
    (hp : hlsPend hl hb) : hlsPend ((hl.setCur h).accept h) hb' := by
  obtain ⟨_, p2, p3⟩ := hp
  have hn : ((hl.setCur h).accept h).n = hl.n + 1 := by rw [accept_n, hlSetCur_n]
  have hs : ((hl.setCur h).accept h).hdrs.size = hl.hdrs.size := by rw [accept_hdrs, hlSetCur_size]
  have hk : ∀ k, hl.n < k → k < hl.hdrs.size → ((hl.setCur h).accept h).hdrs[k]! = hl.hdrs[k]! := by
    intro k h1 _; rw [accept_hdrs, hlSetCur_ne hl h k (by omega)]
  have hh : ¬ ((hl.setCur h).accept h).hdr.state.isVal := by
    rw [accept_hdr, hlSetCur_n, hlSetCur_size]
    split
    · rename_i hin; rw [hlSetCur_hdr_in hl h hin]; exact p3 hin
    · simp [HState.isVal]
  refine ⟨?_, ?_, fun _ => hh⟩
  · apply hlPending_of_not_isVal
    unfold HdrLst.cur
    rw [hn, hs]
    split
    · rename_i hin; rw [hk _ (by omega) hin]; exact p2 _ (by omega) hin
    · exact hh
  · intro k h1 h2
    rw [hn] at h1; rw [hs] at h2
    rw [hk k (by omega) h2]; exact p2 k (by omega) h2

theorem hlsOK_setCur {b : Buf} {hl : HdrLst} (h : Hdr) (hk : hlsOK b hl) (hd : hdrOK b h) : hlsOK b (hl.setCur h) := by
  refine ⟨fun k hk1 hk2 => ?_, ?_⟩
  · rw [hlSetCur_n] at hk1
    rw [hlSetCur_size] at hk2
    by_cases hkn : hl.n = k
    · subst hkn
      have : (hl.setCur h).cur = h := hlSetCur_cur hl h
      unfold HdrLst.cur at this
      rw [hlSetCur_n, hlSetCur_size, if_pos hk2] at this
      rw [this]; exact hd
    · rw [hlSetCur_ne hl h k hkn]; exact hk.1 k hk1 hk2
  · by_cases hin : hl.n < hl.hdrs.size
    · rw [hlSetCur_hdr_in hl h hin]; exact hk.2
    · rw [hlSetCur_hdr_out hl h hin]; exact hd

theorem hlsPend_setCur {hl : HdrLst} {hb : Option PHdrVals} (h : Hdr) (hb' : Option PHdrVals)
    (hp : hlsPend hl hb) (hpe : hlPending (h, hb')) : hlsPend (hl.setCur h) hb' := by
  obtain ⟨_, p2, p3⟩ := hp
  refine ⟨by rw [hlSetCur_cur]; exact hpe, ?_, ?_⟩
  · intro k h1 h2
    rw [hlSetCur_n] at h1; rw [hlSetCur_size] at h2
    rw [hlSetCur_ne hl h k (by omega)]; exact p2 k h1 h2
  · intro hin
    rw [hlSetCur_n, hlSetCur_size] at hin
    rw [hlSetCur_hdr_in hl h hin]; exact p3 hin

/-- re-entering the header loop with the suspended header in place: the first ParseHdrLine call decides -/
theorem parseHeaders_reenter (B : Buf) (n offs : Nat) (hl : HdrLst) (h : Hdr) (hb hb1 : Option PHdrVals)
    (h1 : offs < B.size) (h2 : n < B.size) (hle : offs ≤ n)
    (hgt : ∀ o' h' hb', parseHdrLine B n h hb1 = (o', .ok, h', hb') → n < o')
    (hrr : RR hlObs (parseHdrLine B n h hb1) (parseHdrLine B offs hl.cur hb)) :
    RR hdrsObs (parseHeaders B n (hl.setCur h) hb1) (parseHeaders B offs hl hb) := by
  rw [parseHeaders.eq_1 B n (hl.setCur h) hb1, parseHeaders.eq_1 B offs hl hb]
  rw [if_pos h1, if_pos h2, hlSetCur_cur]
  rcases hq1 : parseHdrLine B n h hb1 with ⟨n1, e1, g1, v1⟩
  rcases hq2 : parseHdrLine B offs hl.cur hb with ⟨n2, e2, g2, v2⟩
  rw [hq1, hq2] at hrr
  obtain ⟨hn, he, hg, ho⟩ := hrr
  simp only at hn he hg ho
  subst hn; subst he
  by_cases hgo : Err.goesOn e1
  · have := hg hgo
    simp only [Prod.mk.injEq] at this
    obtain ⟨rfl, rfl⟩ := this
    apply RR.of_eq
    rcases hgo with rfl | rfl | rfl | rfl <;> simp only [hlSetCur_setCur, hlSetCur_n]
    -- OK: both guards hold
    have g1' : n < n1 := hgt n1 g1 v1 hq1
    rw [if_pos g1', if_pos (show offs < n1 by omega)]
  · have hk1 : e1 ≠ .ok := fun h => hgo (Or.inl h)
    have hk2 : e1 ≠ .empty := fun h => hgo (Or.inr (Or.inr (Or.inr h)))
    cases e1 <;> first | exact absurd rfl hk1 | exact absurd rfl hk2 | skip
    all_goals
      simp only [hlSetCur_setCur]
      refine ⟨rfl, rfl, fun hh => absurd hh hgo, ?_⟩
      simp only [hlObs, hdrsObs, Prod.mk.injEq] at ho ⊢
      rw [ho.1, ho.2]
      exact ⟨rfl, rfl⟩

theorem parseHeaders_resume (b s : Buf) (offs : Nat) (hl : HdrLst) (hb : Option PHdrVals)
    (hok1 : hlsOK b hl) (hok2 : hbOK b offs hb) (hpe : hlsPend hl hb) (ho : offs ≤ b.size)
    {o' : Nat} {hl' : HdrLst} {hb' : Option PHdrVals}
    (hr : parseHeaders b offs hl hb = (o', Err.moreBytes, hl', hb')) :
    RR hdrsObs (parseHeaders (b ++ s) o' hl' hb') (parseHeaders (b ++ s) offs hl hb) ∧
      hlsOK (b ++ s) hl' ∧ hbOK (b ++ s) o' hb' ∧ hlsPend hl' hb' ∧ offs ≤ o' ∧ o' ≤ b.size := by
  refine parseHeaders_rec b (M := fun o l v r => hlsOK b l → hbOK b o v → hlsPend l v → o ≤ b.size →
    ∀ o' hl' hb', r = (o', Err.moreBytes, hl', hb') →
      RR hdrsObs (parseHeaders (b ++ s) o' hl' hb') (parseHeaders (b ++ s) o l v) ∧
        hlsOK (b ++ s) hl' ∧ hbOK (b ++ s) o' hb' ∧ hlsPend hl' hb' ∧ o ≤ o' ∧ o' ≤ b.size)
    ?_ ?_ ?_ ?_ ?_ offs hl hb hok1 hok2 hpe ho o' hl' hb' hr
  · intro offs hl hb n h hb1 r hlt hp hg ih hok1 hok2 hpe ho o' hl' hb' hr
    have hI : hlOK b offs hl.cur hb := ⟨by omega, hlsOK_cur hok1, hok2⟩
    have hpB := parseHdrLine_stable b s offs hl.cur hb hI hp (by decide)
    have hpost := parseHdrLine_post b offs hl.cur hb hI hp (Or.inl rfl)
    have := ih (hlsOK_next h hok1) hpost.2 (hlsPend_next h hb1 hpe) hpost.1 o' hl' hb' hr
    refine ⟨?_, this.2.1, this.2.2.1, this.2.2.2.1, by omega, this.2.2.2.2.2⟩
    rw [parseHeaders_line hpB (by rw [Array.size_append]; omega) hg]
    exact this.1
  · intro _ _ _ _ _ _ _ _ _ _ _ _ _ _ _ _ hr; cases hr
  · intro _ hl _ _ _ _ _ _ _ _ _ _ _ _ _ hr
    by_cases hn : hl.n > 0
    · rw [if_pos hn] at hr; cases hr
    · rw [if_neg hn] at hr; cases hr
  · intro offs hl hb n e h hb1 hlt hp _ _ hok1 hok2 hpe ho o' hl' hb' hr
    simp only [Prod.mk.injEq] at hr
    obtain ⟨rfl, rfl, rfl, rfl⟩ := hr
    have hltB : offs < (b ++ s).size := by rw [Array.size_append]; omega
    have hI : hlOK b offs hl.cur hb := ⟨by omega, hlsOK_cur hok1, hok2⟩
    obtain ⟨hrr, hokN, hpeN, hr1, hr2⟩ := parseHdrLine_resume b s offs hl.cur hb hI hpe.1 hp
    refine ⟨?_, hlsOK_setCur h (hlsOK_grows s hok1) hokN.2.1, hokN.2.2, hlsPend_setCur h hb1 hpe hpeN, hr1, hr2⟩
    by_cases hnB : n < (b ++ s).size
    · exact parseHeaders_reenter (b ++ s) n offs hl h hb hb1 hltB hnB hr1
        (fun o' h' hb' hq => parseHdrLine_ok_gt (b ++ s) n h hb1 hokN hpeN hq) hrr
    · -- nothing was appended
      have hsz : (b ++ s).size ≤ n := by omega
      rw [Array.size_append] at hsz
      have hs0 : s = #[] := Array.eq_empty_of_size_eq_zero (by omega)
      subst hs0
      simp only [Array.append_empty]
      rw [parseHeaders_eob _ _ (by omega), parseHeaders_stop hp hlt nofun nofun]
      exact RR.refl _ _
  · intro offs hl hb _ hok1 hok2 hpe ho o' hl' hb' hr
    simp only [Prod.mk.injEq, true_and] at hr
    obtain ⟨rfl, rfl, rfl⟩ := hr
    exact ⟨RR.refl _ _, hlsOK_grows s hok1, hbOK_grows s hok2, hpe, Nat.le_refl _, ho⟩

end Sipsp
