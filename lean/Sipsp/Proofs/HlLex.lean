/-
  Sipsp.Proofs.HlLex — the loop body of ParseHdrLine (parse_headers.go) in normal form.

  One iteration first looks at bytes and at the header only (`hlLex`: which of four things happens, `HlAct`) and
  touches the values object in one place (`hlDo`): the two calls of the typed value parsers, which are one function
  `valSite` (ValCall.lean). What an iteration can do to the header is `HlMid`; where each action leads is `HlAct.Spec`.
  A fact about the header line is then: one lemma about `valCall` (the eight value parsers), a closure lemma over
  `HlMid`, and one `cases` on `HlAct`; `parseHdrLine_ind` is the invariant rule of the line in these terms.
-/
import Sipsp.Proofs.ValCall
import Sipsp.Proofs.Scan
import Sipsp.Proofs.RunLoop

namespace Sipsp

/-- what one iteration of the ParseHdrLine loop decides from the bytes and the header -/
inductive HlAct where
  /-- return `(o, e)` with header `h`; the values object is not touched -/
  | exit (o : Nat) (e : Err) (h : Hdr)
  /-- go on at `i` with header `h`; the values object is not touched -/
  | go (i : Nat) (h : Hdr)
  /-- the header name is complete: the code after the ':' (first byte after it: `j`) -/
  | colon (j : Nat) (h : Hdr)
  /-- the header is inside a typed value: continue its parser -/
  | value

/-- `case hName:` -/
def hlNameLex (b : Buf) (i : Nat) (h : Hdr) : HlAct :=
  let j := skipTokenDelim b i 58
  match b[j]? with
  | none => .exit j .moreBytes h
  | some c =>
    if isWS c then
      let h1 := { h with state := .nameEnd, name := h.name.extend j, pnc := h.pnc || h.name.extendPanics j }
      if h1.name.isEmpty then .exit j .badChar h1 else .go (j + 1) h1
    else if c == 58 then
      let h1 := { h with state := .bodyStart, name := h.name.extend j, pnc := h.pnc || h.name.extendPanics j }
      if h1.name.isEmpty then .exit j .badChar h1 else .colon (j + 1) h1
    else .exit j .badChar h

/-- `case hValEnd:` -/
def hlValEndLex (b : Buf) (i : Nat) (h : Hdr) : HlAct :=
  match skipLWS b i 0 with
  | (n, _, .ok) => .go (n + 1) { h with state := .val }
  | (n, crl, .eoh) => .exit (n + crl) .ok { h with state := .fin }
  | (n, _, e) => .exit n e h

/-- **the lexical decision of one iteration** (the `switch h.state` of the loop body of ParseHdrLine, without the calls
    of the value parsers): what happens at the byte `c` at `i`, decided from the bytes and the header alone -/
def hlLex (b : Buf) (i : Nat) (c : UInt8) (h : Hdr) : HlAct :=
  match h.state with
  | .init =>
    if c == 13 then
      match b[i + 1]? with
      | none => .exit i .moreBytes h
      | some c1 =>
        if c1 == 10 then .exit (i + 2) .empty { h with state := .fin }
        else .exit (i + 1) .empty { h with state := .fin }
    else if c == 10 then .exit (i + 1) .empty { h with state := .fin }
    else hlNameLex b i { h with state := .name, name := PField.set i i }
  | .name => hlNameLex b i h
  | .nameEnd =>
    let j := skipWS b i
    match b[j]? with
    | none => .exit j .moreBytes h
    | some c1 => if c1 == 58 then .colon (j + 1) { h with state := .bodyStart } else .exit j .badChar h
  | .bodyStart =>
    match skipLWS b i 0 with
    | (n, _, .ok) => .go (n + 1) { h with state := .val, val := PField.set n n }
    | (n, crl, .eoh) => .exit (n + crl) .ok { h with state := .fin }
    | (n, _, e) => .exit n e h
  | .val =>
    let j := skipToken b i
    match b[j]? with
    | none => .exit j .moreBytes h
    | some _ => hlValEndLex b j { h with val := h.val.extend j, pnc := h.pnc || h.val.extendPanics j, state := .valEnd }
  | .valEnd => hlValEndLex b i h
  | .fin => .exit i .bug h
  | _ => .value

/-- the only place where the values object is used -/
def hlDo (b : Buf) (i : Nat) (h : Hdr) (hb : Option PHdrVals) : HlAct → Step HLσ
  | .exit o e h' => .done o e (h', hb)
  | .go i' h' => .cont i' (h', hb)
  | .colon j h' => hlAfterColon b j h' hb
  | .value => hlCont b i h hb

-- `hlDo` reads its position and header arguments only for the action `.value`, which `hlNameLex` / `hlValEndLex` never
-- decide: `i0` and `h0` are arbitrary in the next two equations
theorem hlName_eq (b : Buf) (i i0 : Nat) (h h0 : Hdr) (hb : Option PHdrVals) :
    hlName b i h hb = hlDo b i0 h0 hb (hlNameLex b i h) := by
  unfold hlName hlNameLex
  dsimp only
  cases b[skipTokenDelim b i 58]? with
  | none => rfl
  | some c => dsimp only; simp only [apply_ite (hlDo b i0 h0 hb)]; rfl

theorem hlValEnd_eq (b : Buf) (i i0 : Nat) (h h0 : Hdr) (hb : Option PHdrVals) :
    hlValEnd b i h hb = hlDo b i0 h0 hb (hlValEndLex b i h) := by
  unfold hlValEnd hlValEndLex
  rcases skipLWS b i 0 with ⟨n, crl, e⟩
  cases e <;> rfl

theorem hlStep_eq (b : Buf) (i : Nat) (c : UInt8) (h : Hdr) (hb : Option PHdrVals) :
    hlStep b i c (h, hb) = hlDo b i h hb (hlLex b i c h) := by
  unfold hlStep hlLex
  dsimp only
  cases h.state <;> dsimp only
  case init =>
    simp only [apply_ite (hlDo b i h hb), ← hlName_eq b i i _ h hb]
    cases b[i + 1]? with
    | none => rfl
    | some c1 => dsimp only; simp only [apply_ite (hlDo b i h hb)]; rfl
  case name => exact hlName_eq ..
  case nameEnd =>
    cases b[skipWS b i]? with
    | none => rfl
    | some c1 => dsimp only; simp only [apply_ite (hlDo b i h hb)]; rfl
  case bodyStart =>
    rcases skipLWS b i 0 with ⟨n, crl, e⟩
    cases e <;> rfl
  case val =>
    cases b[skipToken b i]? with
    | none => rfl
    | some c1 => exact hlValEnd_eq ..
  case valEnd => exact hlValEnd_eq ..
  all_goals rfl

theorem hlLex_isVal (b : Buf) (i : Nat) (c : UInt8) {h : Hdr} (hv : h.state.isVal) : hlLex b i c h = .value := by
  unfold hlLex
  rcases hv with h1 | h1 | h1 | h1 | h1 | h1 | h1 | h1 <;> rw [h1]

theorem hlStep_isVal (B : Buf) (i : Nat) (c : UInt8) (h : Hdr) (hb : Option PHdrVals) (hv : h.state.isVal) :
    hlStep B i c (h, hb) = hlCont B i h hb := by
  rw [hlStep_eq, hlLex_isVal B i c hv]; rfl

theorem hlDo_congr (B : Buf) (i i' : Nat) (h h' : Hdr) (hb : Option PHdrVals) {a : HlAct} (ha : a ≠ .value) :
    hlDo B i h hb a = hlDo B i' h' hb a := by
  cases a <;> first | rfl | exact absurd rfl ha

/-! ### one run: what an iteration does to the header, and where each action leads -/

/-- the headers one iteration at `i` makes of `h` before it leaves (all other fields untouched), with the position
    the scan has reached by then -/
inductive HlMid (b : Buf) (i : Nat) (h : Hdr) : Nat → Hdr → Prop
  | same : HlMid b i h i h
  /-- first byte of a line -/
  | named (hst : h.state = .init) : HlMid b i h i { h with state := .name, name := PField.set i i }
  /-- the name ends where `skipTokenDelim` stopped: at white space (`st = nameEnd`) or at the colon (`st = bodyStart`) -/
  | nameExt {h0 : Hdr} {st : HState}
      (h0h : (h0 = h ∧ h.state = .name) ∨ (h0 = { h with state := .name, name := PField.set i i } ∧ h.state = .init))
      (hs : st = .nameEnd ∨ st = .bodyStart) :
      HlMid b i h (skipTokenDelim b i 58)
        { h0 with state := st, name := h0.name.extend (skipTokenDelim b i 58),
                  pnc := h0.pnc || h0.name.extendPanics (skipTokenDelim b i 58) }
  /-- the colon after white space -/
  | colon (hst : h.state = .nameEnd) : HlMid b i h (skipWS b i) { h with state := .bodyStart }
  /-- a token of a generically scanned value ends where `skipToken` stopped -/
  | valExt (hst : h.state = .val) :
      HlMid b i h (skipToken b i)
        { h with val := h.val.extend (skipToken b i), pnc := h.pnc || h.val.extendPanics (skipToken b i),
                 state := .valEnd }

theorem HlMid.range {b : Buf} {i p : Nat} {h h1 : Hdr} (hm : HlMid b i h p h1) (hi : i ≤ b.size) : i ≤ p ∧ p ≤ b.size := by
  cases hm with
  | same | named => exact ⟨Nat.le_refl _, hi⟩
  | nameExt => exact ⟨skipTokenDelim_ge b i 58, skipTokenDelim_le b i 58 hi⟩
  | colon => exact ⟨skipWS_ge b i, skipWS_le b i hi⟩
  | valExt => exact ⟨skipToken_ge b i, skipToken_le b i hi⟩

theorem HlMid.type {b : Buf} {i p : Nat} {h h1 : Hdr} (hm : HlMid b i h p h1) : h1.type = h.type := by
  cases hm with
  | same | named | colon | valExt => rfl
  | nameExt h0h => rcases h0h with ⟨rfl, _⟩ | ⟨rfl, _⟩ <;> rfl

theorem HlMid.of_valEnd {b : Buf} {i p : Nat} {h h1 : Hdr} (hm : HlMid b i h p h1) (hs : h1.state = .valEnd) :
    h1 = h ∨ h.state = .val := by
  cases hm with
  | same => exact Or.inl rfl
  | named | colon => cases hs
  | nameExt _ hst => rcases hst with rfl | rfl <;> cases hs
  | valExt hst => exact Or.inr hst

theorem HlMid.not_isVal {b : Buf} {i p : Nat} {h h1 : Hdr} (hm : HlMid b i h p h1) (hn : ¬ h.state.isVal) :
    ¬ h1.state.isVal := by
  cases hm with
  | same => exact hn
  | named | colon | valExt => simp [HState.isVal]
  | nameExt _ hs => rcases hs with rfl | rfl <;> simp [HState.isVal]

/-- how an iteration that returns `(o, e)` leaves the `HlMid` header `h1` it has made of `h`: as it is (MoreBytes, with
    where that can happen; BadChar; Bug), or finished (the empty line; OK at the line end that `skipLWS` found at `p`) -/
inductive HlAct.ExitKind (b : Buf) (i : Nat) (h : Hdr) (o : Nat) (e : Err) (p : Nat) (h1 : Hdr) : Hdr → Prop
  | kept
      (he : (e = .moreBytes ∧ (h1 = h ∨ (h1.state = .name ∧ h.state = .init) ∨ (h1.state = .valEnd ∧ h.state = .val))) ∨
        e = .badChar ∨ e = .bug) : ExitKind b i h o e p h1 h1
  | fin (hlt : i < o)
      (he : (e = .empty ∧ h1 = h ∧ h.state = .init) ∨
        (e = .ok ∧ p < b.size ∧ ((h1.state = .bodyStart ∧ h1 = h) ∨ h1.state = .valEnd) ∧
          ∃ n crl, skipLWS b p 0 = (n, crl, .eoh) ∧ o = n + crl)) : ExitKind b i h o e p h1 { h1 with state := .fin }

/-- an iteration that returns `(o, e)` with header `h'`: it had reached `p` with the `HlMid` header `h1` -/
structure HlAct.ExitAt (b : Buf) (i : Nat) (h : Hdr) (o : Nat) (e : Err) (h' : Hdr) (p : Nat) (h1 : Hdr) : Prop where
  mid : HlMid b i h p h1
  pos_le : p ≤ o
  le_size : o ≤ b.size
  not_isVal : ¬ h.state.isVal
  kind : HlAct.ExitKind b i h o e p h1 h'

/-- how an iteration that goes on leaves the `HlMid` header `h1`: as it is, behind the white space that ends the name;
    or in state `val` at the token that `skipLWS` found at `n`, the first of a generic value (the value starts there)
    or a later one -/
inductive HlAct.GoKind (b : Buf) (h : Hdr) (p : Nat) (h1 : Hdr) : Nat → Hdr → Prop
  | nameEnd (hs : h1.state = .nameEnd) (hne : h1.name.isEmpty = false) : GoKind b h p h1 (p + 1) h1
  | first (n crl : Nat) (hsk : skipLWS b p 0 = (n, crl, .ok)) (hs : h1.state = .bodyStart) (hh : h1 = h) :
      GoKind b h p h1 (n + 1) { h1 with state := .val, val := PField.set n n }
  | next (n crl : Nat) (hsk : skipLWS b p 0 = (n, crl, .ok)) (hs : h1.state = .valEnd) :
      GoKind b h p h1 (n + 1) { h1 with state := .val }

/-- an iteration that goes on at `i'` with header `h'`: it had reached `p` with the `HlMid` header `h1` -/
structure HlAct.GoAt (b : Buf) (i : Nat) (h : Hdr) (i' : Nat) (h' : Hdr) (p : Nat) (h1 : Hdr) : Prop where
  mid : HlMid b i h p h1
  pos_lt_size : p < b.size
  pos_lt : p < i'
  le_size : i' ≤ b.size
  not_isVal : ¬ h.state.isVal
  kind : HlAct.GoKind b h p h1 i' h'

/-- an iteration that has found the colon at `p` and hands the `HlMid` header `h'` to the code after it (at `j`) -/
structure HlAct.ColonAt (b : Buf) (i : Nat) (h : Hdr) (j : Nat) (h' : Hdr) (p : Nat) : Prop where
  mid : HlMid b i h p h'
  pos : j = p + 1
  pos_lt_size : p < b.size
  state : h'.state = .bodyStart
  not_isVal : ¬ h.state.isVal
  named : h.state = .nameEnd ∨ h'.name.isEmpty = false

/-- **where the action decided at `i` (header `h`) on buffer `b` leads**: the header handed out is an `HlMid` header
    `h1` of `h`, with the state set to `fin` at the end of the line and to `val` at the next token of a generic value -/
def HlAct.Spec (b : Buf) (i : Nat) (h : Hdr) : HlAct → Prop
  | .exit o e h' => ∃ p h1, HlAct.ExitAt b i h o e h' p h1
  | .go i' h' => ∃ p h1, HlAct.GoAt b i h i' h' p h1
  | .colon j h' => ∃ p, HlAct.ColonAt b i h j h' p
  | .value => h.state.isVal

theorem not_isVal_of {st : HState}
    (h : st = .init ∨ st = .name ∨ st = .nameEnd ∨ st = .bodyStart ∨ st = .val ∨ st = .valEnd ∨ st = .fin) :
    ¬ st.isVal := by
  rcases h with h | h | h | h | h | h | h <;> rw [h] <;> simp [HState.isVal]

theorem hlNameLex_spec {b : Buf} {i : Nat} {h h0 : Hdr} (hi : i ≤ b.size)
    (h0h : (h0 = h ∧ h.state = .name) ∨ (h0 = { h with state := .name, name := PField.set i i } ∧ h.state = .init)) :
    (hlNameLex b i h0).Spec b i h := by
  have hge := skipTokenDelim_ge b i 58
  have hle := skipTokenDelim_le b i 58 hi
  have hnv : ¬ h.state.isVal :=
    not_isVal_of (h0h.elim (fun a => Or.inr (Or.inl a.2)) (fun a => Or.inl a.2))
  have hm0 : HlMid b i h i h0 := by
    rcases h0h with ⟨rfl, _⟩ | ⟨rfl, hst⟩
    · exact .same
    · exact .named hst
  unfold hlNameLex
  dsimp only
  cases hj : b[skipTokenDelim b i 58]? with
  | none =>
    exact ⟨_, _, hm0, hge, hle, hnv, .kept (Or.inl ⟨rfl,
      h0h.elim (fun a => Or.inl a.1) (fun a => Or.inr (Or.inl ⟨by rw [a.1], a.2⟩))⟩)⟩
  | some c =>
    have hjl := get?_lt hj
    dsimp only
    split
    · split
      · exact ⟨_, _, .nameExt h0h (Or.inl rfl), Nat.le_refl _, hle, hnv, .kept (Or.inr (Or.inl rfl))⟩
      · rename_i hne
        exact ⟨_, _, .nameExt h0h (Or.inl rfl), hjl, Nat.lt_succ_self _, hjl, hnv,
          .nameEnd rfl (by simpa using hne)⟩
    · split
      · split
        · exact ⟨_, _, .nameExt h0h (Or.inr rfl), Nat.le_refl _, hle, hnv, .kept (Or.inr (Or.inl rfl))⟩
        · rename_i hne
          exact ⟨_, .nameExt h0h (Or.inr rfl), rfl, hjl, rfl, hnv, Or.inr (by simpa using hne)⟩
      · exact ⟨_, _, hm0, hge, hle, hnv, .kept (Or.inr (Or.inl rfl))⟩

theorem hlValEndLex_spec {b : Buf} {i p : Nat} {h h1 : Hdr} (hi : i ≤ b.size) (hm : HlMid b i h p h1)
    (hs : h1.state = .valEnd) (hp : p < b.size) (hnv : ¬ h.state.isVal) : (hlValEndLex b p h1).Spec b i h := by
  unfold hlValEndLex
  rcases hsk : skipLWS b p 0 with ⟨n, crl, e⟩
  have hr := skipLWS_range b p 0 hsk
  have hip := (hm.range hi).1
  rcases skipLWS_three_verdicts b p 0 hsk with rfl | rfl | rfl <;> dsimp only
  · have := get?_lt (skipLWS_ok b p 0 hsk).2.choose_spec.1
    exact ⟨_, _, hm, hp, by omega, by omega, hnv, .next n crl hsk hs⟩
  · have := skipLWS_eoh_range b p 0 hsk (by decide)
    exact ⟨_, _, hm, by omega, by omega, hnv,
      .fin (by omega) (Or.inr ⟨rfl, hp, Or.inr hs, n, crl, hsk, rfl⟩)⟩
  · exact ⟨_, _, hm, hr.1, hr.2 (by omega), hnv, .kept (Or.inl ⟨rfl,
      (hm.of_valEnd hs).elim Or.inl (fun hv => Or.inr (Or.inr ⟨hs, hv⟩))⟩)⟩

theorem hlLex_spec (b : Buf) (i : Nat) (c : UInt8) (h : Hdr) (hb : b[i]? = some c) : (hlLex b i c h).Spec b i h := by
  have hlt := get?_lt hb
  unfold hlLex
  cases hst : h.state <;> dsimp only
  case init =>
    have hnv : ¬ h.state.isVal := not_isVal_of (Or.inl hst)
    have eol : ∀ k, 1 ≤ k → i + k ≤ b.size → HlAct.Spec b i h (.exit (i + k) .empty { h with state := .fin }) :=
      fun k hk hin => ⟨_, _, .same, by omega, hin, hnv, .fin (by omega) (Or.inl ⟨rfl, rfl, hst⟩)⟩
    split
    · split
      · exact ⟨_, _, .same, Nat.le_refl _, by omega, hnv, .kept (Or.inl ⟨rfl, Or.inl rfl⟩)⟩
      · rename_i c1 h1
        have := get?_lt h1
        split
        · exact eol 2 (by omega) (by omega)
        · exact eol 1 (by omega) (by omega)
    · split
      · exact eol 1 (by omega) (by omega)
      · exact hlNameLex_spec (by omega) (.inr ⟨rfl, hst⟩)
  case name => exact hlNameLex_spec (by omega) (.inl ⟨rfl, hst⟩)
  case nameEnd =>
    have hnv : ¬ h.state.isVal := not_isVal_of (by simp [hst])
    have hge := skipWS_ge b i
    have hle := skipWS_le b i (by omega)
    cases hj : b[skipWS b i]? with
    | none => exact ⟨_, _, .same, hge, hle, hnv, .kept (Or.inl ⟨rfl, Or.inl rfl⟩)⟩
    | some c1 =>
      dsimp only
      split
      · exact ⟨_, .colon hst, rfl, get?_lt hj, rfl, hnv, Or.inl hst⟩
      · exact ⟨_, _, .same, hge, hle, hnv, .kept (Or.inr (Or.inl rfl))⟩
  case bodyStart =>
    have hnv : ¬ h.state.isVal := not_isVal_of (by simp [hst])
    rcases hsk : skipLWS b i 0 with ⟨n, crl, e⟩
    have hr := skipLWS_range b i 0 hsk
    rcases skipLWS_three_verdicts b i 0 hsk with rfl | rfl | rfl <;> dsimp only
    · have := get?_lt (skipLWS_ok b i 0 hsk).2.choose_spec.1
      exact ⟨_, _, .same, hlt, by omega, by omega, hnv, .first n crl hsk hst rfl⟩
    · have := skipLWS_eoh_range b i 0 hsk (by decide)
      exact ⟨_, _, .same, by omega, by omega, hnv,
        .fin (by omega) (Or.inr ⟨rfl, hlt, Or.inl ⟨hst, rfl⟩, n, crl, hsk, rfl⟩)⟩
    · exact ⟨_, _, .same, hr.1, hr.2 (by omega), hnv, .kept (Or.inl ⟨rfl, Or.inl rfl⟩)⟩
  case val =>
    have hnv : ¬ h.state.isVal := not_isVal_of (by simp [hst])
    cases hj : b[skipToken b i]? with
    | none =>
      exact ⟨_, _, .same, skipToken_ge b i, skipToken_le b i (by omega), hnv, .kept (Or.inl ⟨rfl, Or.inl rfl⟩)⟩
    | some c1 => exact hlValEndLex_spec (by omega) (.valExt hst) rfl (get?_lt hj) hnv
  case valEnd => exact hlValEndLex_spec (by omega) .same hst hlt (not_isVal_of (by simp [hst]))
  case fin =>
    exact ⟨_, _, .same, Nat.le_refl _, by omega, not_isVal_of (by simp [hst]), .kept (Or.inr (Or.inr rfl))⟩
  all_goals simp [HlAct.Spec, HState.isVal, hst]

/-! what the clients read off `Spec` -/

theorem HlAct.Spec.exit_verdict {b : Buf} {i o : Nat} {e : Err} {h h' : Hdr} (sp : HlAct.Spec b i h (.exit o e h')) :
    e = .moreBytes ∨ e = .badChar ∨ e = .bug ∨ e = .ok ∨ e = .empty := by
  obtain ⟨p, h1, sx⟩ := sp
  cases sx.kind with
  | kept he => rcases he with ⟨he, _⟩ | he | he <;> simp [he]
  | fin _ he => rcases he with ⟨he, _⟩ | ⟨he, _⟩ <;> simp [he]

theorem HlAct.Spec.exit_range {b : Buf} {i o : Nat} {e : Err} {h h' : Hdr} (sp : HlAct.Spec b i h (.exit o e h'))
    (hi : i ≤ b.size) : i ≤ o ∧ o ≤ b.size ∧ (e = .ok ∨ e = .empty → i < o) := by
  obtain ⟨p, h1, sx⟩ := sp
  refine ⟨Nat.le_trans (sx.mid.range hi).1 sx.pos_le, sx.le_size, fun he => ?_⟩
  cases sx.kind with
  | kept hk => rcases hk with ⟨hk, _⟩ | hk | hk <;> rcases he with rfl | rfl <;> cases hk
  | fin hlt _ => exact hlt

theorem HlAct.Spec.exit_hdr {b : Buf} {i o : Nat} {e : Err} {h h' : Hdr} (sp : HlAct.Spec b i h (.exit o e h')) :
    (∃ p h1, HlMid b i h p h1 ∧ p ≤ o ∧ h'.name = h1.name) ∧ ¬ h'.state.isVal ∧
    (e = .ok ∨ e = .empty → h'.state = .fin) := by
  obtain ⟨p, h1, sx⟩ := sp
  cases sx.kind with
  | kept hk =>
    refine ⟨⟨p, _, sx.mid, sx.pos_le, rfl⟩, sx.mid.not_isVal sx.not_isVal, fun he => ?_⟩
    rcases hk with ⟨hk, _⟩ | hk | hk <;> rcases he with rfl | rfl <;> cases hk
  | fin => exact ⟨⟨p, h1, sx.mid, sx.pos_le, rfl⟩, by simp [HState.isVal], fun _ => rfl⟩

/-- the states of a value that is scanned generically (no typed parser) -/
def HState.isGen (s : HState) : Prop := s = .bodyStart ∨ s = .val ∨ s = .valEnd

/-- the iteration never changes the type of the header; it says OK, or goes on to the next token of the value, only for
    a header that is already in its generically scanned value; and it does not suspend in such a value unless it was
    given a header in one -/
def HlAct.Gen (h : Hdr) : HlAct → Prop
  | .exit _ e h' => h'.type = h.type ∧ (e = .ok → h.state.isGen) ∧ (e = .moreBytes → h'.state.isGen → h.state.isGen)
  | .go _ h' => h'.type = h.type ∧ (h'.state = .nameEnd ∨ (h'.state = .val ∧ h.state.isGen))
  | .colon _ h' => h'.type = h.type
  | .value => True

theorem HlAct.Spec.gen {b : Buf} {i : Nat} {h : Hdr} {a : HlAct} (sp : a.Spec b i h) : a.Gen h := by
  have gen_of : ∀ {p h1}, HlMid b i h p h1 → (h1.state = .bodyStart ∧ h1 = h) ∨ h1.state = .valEnd → h.state.isGen := by
    intro p h1 hm hs
    rcases hs with ⟨hs, rfl⟩ | hs
    · exact Or.inl hs
    · rcases hm.of_valEnd hs with rfl | hv
      · exact Or.inr (Or.inr hs)
      · exact Or.inr (Or.inl hv)
  cases a with
  | exit o e h' =>
    obtain ⟨p, h1, sx⟩ := sp
    cases sx.kind with
    | kept hk =>
      refine ⟨sx.mid.type, fun he => ?_, fun he hg => ?_⟩
      · rcases hk with ⟨hk, _⟩ | hk | hk <;> rw [he] at hk <;> cases hk
      · rcases hk with ⟨_, rfl | ⟨hn, _⟩ | ⟨_, hv⟩⟩ | hk | hk
        · exact hg
        · rw [hn] at hg; rcases hg with hg | hg | hg <;> cases hg
        · exact Or.inr (Or.inl hv)
        · rw [he] at hk; cases hk
        · rw [he] at hk; cases hk
    | fin _ hk =>
      refine ⟨sx.mid.type, fun he => ?_, fun he => ?_⟩
      · rcases hk with ⟨hk, _⟩ | ⟨_, _, hs, _⟩
        · rw [he] at hk; cases hk
        · exact gen_of sx.mid hs
      · rcases hk with ⟨hk, _⟩ | ⟨hk, _⟩ <;> rw [he] at hk <;> cases hk
  | go i' h' =>
    obtain ⟨p, h1, sg⟩ := sp
    cases sg.kind with
    | nameEnd hs _ => exact ⟨sg.mid.type, Or.inl hs⟩
    | first n crl _ hs hh => exact ⟨sg.mid.type, Or.inr ⟨rfl, gen_of sg.mid (Or.inl ⟨hs, hh⟩)⟩⟩
    | next n crl _ hs => exact ⟨sg.mid.type, Or.inr ⟨rfl, gen_of sg.mid (Or.inr hs)⟩⟩
  | colon j h' => obtain ⟨p, sc⟩ := sp; exact sc.mid.type
  | value => trivial

theorem HlAct.Spec.go_range {b : Buf} {i i' : Nat} {h h' : Hdr} (sp : HlAct.Spec b i h (.go i' h')) (hi : i ≤ b.size) :
    i < i' ∧ i' ≤ b.size := by
  obtain ⟨p, h1, sg⟩ := sp
  exact ⟨Nat.lt_of_le_of_lt (sg.mid.range hi).1 sg.pos_lt, sg.le_size⟩

theorem HlAct.Spec.go_hdr {b : Buf} {i i' : Nat} {h h' : Hdr} (sp : HlAct.Spec b i h (.go i' h')) :
    (∃ p h1, HlMid b i h p h1 ∧ p < i' ∧ h'.name = h1.name) ∧ (h'.state = .nameEnd ∨ h'.state = .val) := by
  obtain ⟨p, h1, sg⟩ := sp
  cases sg.kind with
  | nameEnd hs _ => exact ⟨⟨p, _, sg.mid, sg.pos_lt, rfl⟩, Or.inl hs⟩
  | first | next => exact ⟨⟨p, h1, sg.mid, sg.pos_lt, rfl⟩, Or.inr rfl⟩

theorem HlAct.Spec.colon_range {b : Buf} {i j : Nat} {h h' : Hdr} (sp : HlAct.Spec b i h (.colon j h'))
    (hi : i ≤ b.size) : i < j ∧ j ≤ b.size ∧ h'.state = .bodyStart := by
  obtain ⟨p, sc⟩ := sp
  rw [sc.pos]
  exact ⟨Nat.lt_succ_of_le (sc.mid.range hi).1, sc.pos_lt_size, sc.state⟩

theorem HlAct.Spec.not_isVal {b : Buf} {i : Nat} {h : Hdr} {a : HlAct} (sp : a.Spec b i h) (ha : a ≠ .value) :
    ¬ h.state.isVal := by
  cases a with
  | exit => obtain ⟨_, _, sx⟩ := sp; exact sx.not_isVal
  | go => obtain ⟨_, _, sg⟩ := sp; exact sg.not_isVal
  | colon => obtain ⟨_, sc⟩ := sp; exact sc.not_isVal
  | value => exact absurd rfl ha

/-! ### the run on `b` against the run on `b ++ s` -/

/-- `R o h'` holds where the decision on `b` was to ask for more bytes (at `o`, header `h'`); `E a` holds of any other
    decision `a` -/
def HlAct.Ext (R : Nat → Hdr → Prop) (E : HlAct → Prop) : HlAct → Prop
  | .exit o e h' => (e = .moreBytes → R o h') ∧ (e ≠ .moreBytes → E (.exit o e h'))
  | .go i h' => E (.go i h')
  | .colon j h' => E (.colon j h')
  | .value => E .value

theorem HlAct.Ext.of_notMore {R : Nat → Hdr → Prop} {E : HlAct → Prop} {a : HlAct}
    (hn : ∀ o h', a ≠ .exit o .moreBytes h') (hE : E a) : a.Ext R E := by
  cases a with
  | exit o e h' => exact ⟨fun he => absurd (he ▸ rfl) (hn o h'), fun _ => hE⟩
  | _ => exact hE

theorem HlAct.Ext.imp {R R' : Nat → Hdr → Prop} {E E' : HlAct → Prop} {a : HlAct} (h : a.Ext R E)
    (hR : ∀ o h', R o h' → R' o h') (hE : ∀ a, E a → E' a) : a.Ext R' E' := by
  cases a with
  | exit o e h' => exact ⟨fun he => hR _ _ (h.1 he), fun he => hE _ (h.2 he)⟩
  | _ => exact hE _ h

theorem hlNameLex_ext (b s : Buf) (i : Nat) (h : Hdr) :
    (hlNameLex b i h).Ext (fun o h' => h' = h ∧ hlNameLex (b ++ s) o h = hlNameLex (b ++ s) i h)
      (fun a => hlNameLex (b ++ s) i h = a) := by
  cases hj : b[skipTokenDelim b i 58]? with
  | none =>
    have e1 : hlNameLex b i h = .exit (skipTokenDelim b i 58) .moreBytes h := by unfold hlNameLex; simp only [hj]
    rw [e1]
    refine ⟨fun _ => ⟨rfl, ?_⟩, fun k => absurd rfl k⟩
    unfold hlNameLex; simp only [skipTokenDelim_restart b s i 58]
  | some c0 =>
    refine .of_notMore ?_ ?_
    · unfold hlNameLex; simp only [hj]; repeat' split
      all_goals nofun
    · unfold hlNameLex; simp only [skipTokenDelim_stable b s i 58 hj, get?_app hj, hj]

theorem hlValEndLex_ext (b s : Buf) (j : Nat) (h : Hdr) :
    (hlValEndLex b j h).Ext (fun o h' => h' = h ∧ hlValEndLex (b ++ s) o h = hlValEndLex (b ++ s) j h)
      (fun a => hlValEndLex (b ++ s) j h = a) := by
  rcases hsk : skipLWS b j 0 with ⟨n, crl, e⟩
  by_cases he : e = .moreBytes
  · subst he
    have e1 : hlValEndLex b j h = .exit n .moreBytes h := by unfold hlValEndLex; rw [hsk]
    rw [e1]
    refine ⟨fun _ => ⟨rfl, ?_⟩, fun k => absurd rfl k⟩
    unfold hlValEndLex; rw [(skipLWS_restart b s j 0 hsk (by decide)).1]
  · refine .of_notMore ?_ ?_
    · unfold hlValEndLex; rw [hsk]
      intro o h' hh
      cases e <;> first | exact he rfl | cases hh
    · unfold hlValEndLex; rw [skipLWS_stable b s j 0 hsk he (by decide), hsk]

/-- **L1 and L2 for the lexical decision**: unless the decision on `b` was to ask for more bytes, it is the decision
    on `b ++ s`; if it was, deciding again on `b ++ s` at the returned offset with the returned header gives what the
    decision on `b ++ s` at `i` gives. -/
theorem hlLex_ext (b s : Buf) (i : Nat) (c : UInt8) (h : Hdr) (hb : b[i]? = some c) :
    (hlLex b i c h).Ext (fun o h' => ∀ c', (b ++ s)[o]? = some c' → hlLex (b ++ s) o c' h' = hlLex (b ++ s) i c h)
      (fun a => hlLex (b ++ s) i c h = a) := by
  have hnm : ∀ (B : Buf) (j : Nat) (c' : UInt8) (g : Hdr), g.state = .name → hlLex B j c' g = hlNameLex B j g := by
    intro B j c' g hg; unfold hlLex; rw [hg]
  have hve : ∀ (B : Buf) (j : Nat) (c' : UInt8) (g : Hdr), g.state = .valEnd → hlLex B j c' g = hlValEndLex B j g := by
    intro B j c' g hg; unfold hlLex; rw [hg]
  cases hs : h.state
  case init =>
    by_cases h13 : (c == 13) = true
    · cases h1 : b[i + 1]? with
      | none =>
        have e1 : hlLex b i c h = .exit i .moreBytes h := by unfold hlLex; simp only [hs, h13, h1, ↓reduceIte]
        rw [e1]
        exact ⟨fun _ c' hc' => by rw [get?_app hb] at hc'; cases hc'; rfl, fun k => absurd rfl k⟩
      | some c1 =>
        refine .of_notMore ?_ ?_
        · unfold hlLex; simp only [hs, h13, h1, ↓reduceIte]; split <;> nofun
        · unfold hlLex; simp only [hs, h13, h1, get?_app h1, ↓reduceIte]
    · by_cases h10 : (c == 10) = true
      · refine .of_notMore ?_ ?_
        · unfold hlLex; simp only [hs, h13, h10, Bool.false_eq_true, ↓reduceIte]; nofun
        · unfold hlLex; simp only [hs, h13, h10, Bool.false_eq_true, ↓reduceIte]
      · have e0 : ∀ B : Buf, hlLex B i c h = hlNameLex B i { h with state := .name, name := PField.set i i } := by
          intro B; unfold hlLex; simp only [hs, h13, h10, Bool.false_eq_true, ↓reduceIte]
        rw [e0 b]
        refine (hlNameLex_ext b s i _).imp (fun o h' hr c' _ => ?_) (fun a ha => by rw [e0]; exact ha)
        rw [hr.1, hnm _ _ _ _ rfl, e0, hr.2]
  case name =>
    rw [hnm b i c h hs]
    refine (hlNameLex_ext b s i h).imp (fun o h' hr c' _ => ?_) (fun a ha => by rw [hnm _ _ _ _ hs]; exact ha)
    rw [hr.1, hnm _ _ _ _ hs, hnm _ _ _ _ hs, hr.2]
  case nameEnd =>
    cases hj : b[skipWS b i]? with
    | none =>
      have e1 : hlLex b i c h = .exit (skipWS b i) .moreBytes h := by unfold hlLex; simp only [hs, hj]
      rw [e1]
      refine ⟨fun _ c' _ => ?_, fun k => absurd rfl k⟩
      unfold hlLex; simp only [hs, skipWS_restart b s i]
    | some c1 =>
      refine .of_notMore ?_ ?_
      · unfold hlLex; simp only [hs, hj]; split <;> nofun
      · unfold hlLex; simp only [hs, skipWS_stable b s i hj, get?_app hj, hj]
  case bodyStart =>
    rcases hsk : skipLWS b i 0 with ⟨n, crl, e⟩
    by_cases he : e = .moreBytes
    · subst he
      have e1 : hlLex b i c h = .exit n .moreBytes h := by unfold hlLex; simp only [hs, hsk]
      rw [e1]
      refine ⟨fun _ c' _ => ?_, fun k => absurd rfl k⟩
      unfold hlLex; simp only [hs, (skipLWS_restart b s i 0 hsk (by decide)).1]
    · refine .of_notMore ?_ ?_
      · unfold hlLex; simp only [hs, hsk]
        intro o h' hh
        cases e <;> first | exact he rfl | cases hh
      · unfold hlLex; simp only [hs, skipLWS_stable b s i 0 hsk he (by decide), hsk]
  case val =>
    cases hj : b[skipToken b i]? with
    | none =>
      have e1 : hlLex b i c h = .exit (skipToken b i) .moreBytes h := by unfold hlLex; simp only [hs, hj]
      rw [e1]
      refine ⟨fun _ c' _ => ?_, fun k => absurd rfl k⟩
      unfold hlLex; simp only [hs, skipToken_restart b s i]
    | some c1 =>
      have e0 : ∀ B : Buf, B = b ∨ B = b ++ s → hlLex B i c h = hlValEndLex B (skipToken b i)
          { h with val := h.val.extend (skipToken b i), pnc := h.pnc || h.val.extendPanics (skipToken b i),
                   state := .valEnd } := by
        rintro B (rfl | rfl) <;> unfold hlLex
        · simp only [hs, hj]
        · simp only [hs, skipToken_stable b s i hj, get?_app hj]
      rw [e0 b (Or.inl rfl)]
      refine (hlValEndLex_ext b s _ _).imp (fun o h' hr c' _ => ?_) (fun a ha => by rw [e0 _ (Or.inr rfl)]; exact ha)
      rw [hr.1, hve _ _ _ _ rfl, e0 _ (Or.inr rfl), hr.2]
  case valEnd =>
    rw [hve b i c h hs]
    refine (hlValEndLex_ext b s i h).imp (fun o h' hr c' _ => ?_) (fun a ha => by rw [hve _ _ _ _ hs]; exact ha)
    rw [hr.1, hve _ _ _ _ hs, hve _ _ _ _ hs, hr.2]
  case fin =>
    refine .of_notMore ?_ ?_ <;> unfold hlLex <;> simp only [hs]
    nofun
  all_goals
    refine .of_notMore ?_ ?_ <;> unfold hlLex <;> simp only [hs]
    nofun

/-! ### the code after the ':' -/

/-- the code after the ':' in normal form: name lookup, selection of the value parser, the call -/
def colonDo (b : Buf) (j : Nat) (h : Hdr) (hb : Option PHdrVals) : Step HLσ :=
  match h.name.get? b with
  | none => .done j .badChar ({ h with pnc := true }, hb)
  | some nm =>
    match hb with
    | none => .cont j ({ h with type := getHdrType nm }, none)
    | some hv =>
      match valKind { h with type := getHdrType nm } hv with
      | none => .cont j ({ h with type := getHdrType nm }, some hv)
      | some S => valSite S b j { h with type := getHdrType nm } hv

theorem colonDo_noname {b : Buf} {h : Hdr} (hn : h.name.get? b = none) (j : Nat) (hb : Option PHdrVals) :
    colonDo b j h hb = .done j .badChar ({ h with pnc := true }, hb) := by
  unfold colonDo; rw [hn]

theorem colonDo_nil {b : Buf} {h : Hdr} {nm : Buf} (hn : h.name.get? b = some nm) (j : Nat) :
    colonDo b j h none = .cont j ({ h with type := getHdrType nm }, none) := by
  unfold colonDo; rw [hn]

theorem colonDo_untyped {b : Buf} {h : Hdr} {nm : Buf} {hv : PHdrVals} (hn : h.name.get? b = some nm)
    (hk : valKind { h with type := getHdrType nm } hv = none) (j : Nat) :
    colonDo b j h (some hv) = .cont j ({ h with type := getHdrType nm }, some hv) := by
  unfold colonDo; rw [hn]; dsimp only; rw [hk]

theorem colonDo_typed {b : Buf} {h : Hdr} {nm : Buf} {hv : PHdrVals} {S : HState} (hn : h.name.get? b = some nm)
    (hk : valKind { h with type := getHdrType nm } hv = some S) (j : Nat) :
    colonDo b j h (some hv) = valSite S b j { h with type := getHdrType nm } hv := by
  unfold colonDo; rw [hn]; dsimp only; rw [hk]

theorem hlAfterColon_nf (b : Buf) (j : Nat) (h : Hdr) (hb : Option PHdrVals) (hs : h.state = .bodyStart) :
    hlAfterColon b j h hb = colonDo b j h hb := by
  unfold hlAfterColon colonDo
  cases h.name.get? b with
  | none => rfl
  | some nm =>
    dsimp only
    cases hb with
    | none => simp only [parseBody, hs, bne_self_eq_false, Bool.false_eq_true, ↓reduceIte]
    | some hv =>
    rw [parseBody_eq]
    cases hk : valKind { h with type := getHdrType nm } hv with
    | none => simp only [hk]; simp only [bodyDisp, hs, bne_self_eq_false, Bool.false_eq_true, ↓reduceIte]
    | some S =>
      have hS : (S != HState.bodyStart) = true := by
        have := (valKind_isVal hk).ne_bodyStart
        simpa using this
      simp only [hk, bodyDisp, hS, ↓reduceIte, valSite, hlWrap]
      by_cases he : ((valCall S h.state b j hv).2.1 == Err.ok) = true
      · simp only [he, ↓reduceIte]
      · simp only [he, Bool.false_eq_true, ↓reduceIte]

/-- the call of a typed value parser that the iteration at `(i, c)` from `(h, some hv)` makes: at `j`, with header
    `h1`, the parser of state `S` -/
def HlCall (b : Buf) (i : Nat) (c : UInt8) (h : Hdr) (hv : PHdrVals) (j : Nat) (h1 : Hdr) (S : HState) : Prop :=
  (hlLex b i c h = .value ∧ j = i ∧ h1 = h ∧ S = h.state) ∨
  (∃ h' nm, hlLex b i c h = .colon j h' ∧ h'.name.get? b = some nm ∧ h1 = { h' with type := getHdrType nm } ∧
    valKind h1 hv = some S)

theorem hlCont_ne_cont (b : Buf) (i : Nat) (h : Hdr) (hb : Option PHdrVals) {i' : Nat} {st' : HLσ} :
    hlCont b i h hb ≠ .cont i' st' := by
  cases hb with
  | none => nofun
  | some hv => rw [hlCont_nf]; nofun

theorem colonDo_cont {b : Buf} {j : Nat} {h : Hdr} {hb : Option PHdrVals} {i' : Nat} {st' : HLσ}
    (hs : colonDo b j h hb = .cont i' st') :
    i' = j ∧ ∃ nm, h.name.get? b = some nm ∧ st' = ({ h with type := getHdrType nm }, hb) := by
  unfold colonDo at hs
  split at hs
  · cases hs
  · rename_i nm hn
    split at hs
    · cases hs; exact ⟨rfl, nm, hn, rfl⟩
    · split at hs
      · cases hs; exact ⟨rfl, nm, hn, rfl⟩
      · cases hs

theorem hl_progress : Progress hlMachine := by
  intro b i c ⟨h, hv⟩ i' st' hb hs
  change hlStep b i c (h, hv) = _ at hs
  rw [hlStep_eq] at hs
  have sp := hlLex_spec b i c h hb
  have hi := Nat.le_of_lt (get?_lt hb)
  cases ha : hlLex b i c h <;> rw [ha] at hs sp
  · cases hs
  · cases hs; exact (sp.go_range hi).1
  · have sc := sp.colon_range hi
    rw [show hlDo b i h hv (.colon _ _) = hlAfterColon b _ _ hv from rfl, hlAfterColon_nf _ _ _ _ sc.2.2] at hs
    rw [(colonDo_cont hs).1]; exact sc.1
  · exact absurd hs (hlCont_ne_cont _ _ _ _)

theorem parseHdrLine_run {b : Buf} {o : Nat} {h : Hdr} {hb : Option PHdrVals} {o' : Nat} {e : Err} {h' : Hdr}
    {hb' : Option PHdrVals} :
    parseHdrLine b o h hb = (o', e, h', hb') ↔ runLoop hlMachine b o (h, hb) = (o', e, (h', hb')) := by
  unfold parseHdrLine
  rcases runLoop hlMachine b o (h, hb) with ⟨o1, e1, h1, hb1⟩
  simp only [Prod.mk.injEq]

/-- **invariant rule for ParseHdrLine**: `S` holds on entry of every iteration, `T` of whatever is returned. The
    obligations are about the actions of the loop body and the one call of a typed value parser (`HlCall`), not about
    `hlStep`. -/
theorem parseHdrLine_ind (b : Buf) (S : Nat → HLσ → Prop) (T : Nat → Err → HLσ → Prop)
    (hexit : ∀ i c h hb o e h', b[i]? = some c → S i (h, hb) → hlLex b i c h = .exit o e h' → T o e (h', hb))
    (hgo : ∀ i c h hb i' h', b[i]? = some c → S i (h, hb) → hlLex b i c h = .go i' h' → S i' (h', hb))
    (hnoname : ∀ i c h hb j h', b[i]? = some c → S i (h, hb) → hlLex b i c h = .colon j h' → h'.name.get? b = none →
      T j .badChar ({ h' with pnc := true }, hb))
    (huntyped : ∀ i c h hb j h' nm, b[i]? = some c → S i (h, hb) → hlLex b i c h = .colon j h' →
      h'.name.get? b = some nm → (∀ hv, hb = some hv → valKind { h' with type := getHdrType nm } hv = none) →
      S j ({ h' with type := getHdrType nm }, hb))
    (hnil : ∀ i c h, b[i]? = some c → S i (h, none) → h.state.isVal → T i .bug ({ h with pnc := true }, none))
    (hcall : ∀ i c h hv j h1 K, b[i]? = some c → S i (h, some hv) → HlCall b i c h hv j h1 K →
      T (valCall K h1.state b j hv).1 (valCall K h1.state b j hv).2.1
        (hlWrap { h1 with state := K } (valCall K h1.state b j hv).2.1 (valCall K h1.state b j hv).2.2))
    (heob : ∀ i st, S i st → T i .moreBytes st)
    {o : Nat} {h : Hdr} {hb : Option PHdrVals} (h0 : S o (h, hb))
    {o' : Nat} {e : Err} {h' : Hdr} {hb' : Option PHdrVals} (hr : parseHdrLine b o h hb = (o', e, h', hb')) :
    T o' e (h', hb') := by
  have key := runLoop_inv hlMachine b S (fun r => T r.1 r.2.1 r.2.2) ?_ ?_ (fun i st _ hS => heob i st hS) o (h, hb) h0
  · rw [parseHdrLine_run.1 hr] at key
    exact key
  all_goals
    intro i c ⟨g, gv⟩
  · intro i' st' hc hS hs
    refine ⟨fun _ => ?_, fun hn => absurd (hl_progress b i c (g, gv) i' st' hc hs) hn⟩
    change hlStep b i c (g, gv) = _ at hs
    rw [hlStep_eq] at hs
    have sp := hlLex_spec b i c g hc
    cases ha : hlLex b i c g <;> rw [ha] at hs sp
    · cases hs
    · cases hs; exact hgo i c g gv _ _ hc hS ha
    · rename_i j g'
      rw [show hlDo b i g gv (.colon j g') = hlAfterColon b j g' gv from rfl,
        hlAfterColon_nf _ _ _ _ (sp.colon_range (Nat.le_of_lt (get?_lt hc))).2.2] at hs
      cases hn : g'.name.get? b with
      | none => rw [colonDo_noname hn] at hs; cases hs
      | some nm =>
        cases gv with
        | none => rw [colonDo_nil hn] at hs; cases hs; exact huntyped i c g none _ g' nm hc hS ha hn (fun _ hh => by cases hh)
        | some hv =>
          cases hk : valKind { g' with type := getHdrType nm } hv with
          | none =>
            rw [colonDo_untyped hn hk] at hs; cases hs
            exact huntyped i c g (some hv) _ g' nm hc hS ha hn (fun _ hh => by cases hh; exact hk)
          | some K => rw [colonDo_typed hn hk] at hs; cases hs
    · exact absurd hs (hlCont_ne_cont _ _ _ _)
  · intro o1 e1 st' hc hS hs
    change hlStep b i c (g, gv) = _ at hs
    rw [hlStep_eq] at hs
    have sp := hlLex_spec b i c g hc
    cases ha : hlLex b i c g <;> rw [ha] at hs sp
    · cases hs; exact hexit i c g gv _ _ _ hc hS ha
    · cases hs
    · rename_i j g'
      rw [show hlDo b i g gv (.colon j g') = hlAfterColon b j g' gv from rfl,
        hlAfterColon_nf _ _ _ _ (sp.colon_range (Nat.le_of_lt (get?_lt hc))).2.2] at hs
      cases hn : g'.name.get? b with
      | none => rw [colonDo_noname hn] at hs; cases hs; exact hnoname i c g gv _ g' hc hS ha hn
      | some nm =>
        cases gv with
        | none => rw [colonDo_nil hn] at hs; cases hs
        | some hv =>
          cases hk : valKind { g' with type := getHdrType nm } hv with
          | none => rw [colonDo_untyped hn hk] at hs; cases hs
          | some K =>
            rw [colonDo_typed hn hk] at hs; cases hs
            exact hcall i c g hv j _ K hc hS (Or.inr ⟨g', nm, ha, hn, rfl, hk⟩)
    · cases gv with
      | none => cases hs; exact hnil i c g hc hS sp
      | some hv =>
        rw [show hlDo b i g (some hv) .value = hlCont b i g (some hv) from rfl, hlCont_nf] at hs
        cases hs
        exact hcall i c g hv i g g.state hc hS (Or.inl ⟨ha, rfl, rfl, rfl⟩)

end Sipsp
