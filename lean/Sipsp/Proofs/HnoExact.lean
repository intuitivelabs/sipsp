/-
  Sipsp.Proofs.HnoExact — three claims of property C05 about the model, for EVERY input within the 65,535-byte limit (no
  grammar assumption), any capacities, one call on an Init object and every chunk schedule from Init.

  (1) WHICH stored header line each stored Contact / P-Asserted-Identity value belongs to (`HxAssoc`, spelled out in
      `HxAssoc.meaning`): let `idx` be the positions of the accepted header lines of type `ty`, in message order; then
      `idx.length = HNo`, and there are `HNo` counts `cnt`, each ≥ 1, with sum `N`, such that the values with index in
      `[hxStart cnt i, hxStart cnt (i+1))` (cumulative counts: the values of the first line first, then those of the
      second, …) are the values of line `idx[i]`: each of them that is stored is not empty and lies inside the `val` of
      THAT header (if it is stored).  When the header array holds all headers, `idx` is computed from the stored ones.
      This makes the monotone map `PlAssoc` of ValAssoc exact: onto the lines of the type, no line without a value,
      `HNo` lines in all.  (`HxAssoc` is `GAssoc` of ValAssoc over a ghost type function; the line-level facts are those
      of MsgLift — one header line is at most ONE call of the dispatch `parseBody` — and of ValAssoc — the counters.)
  (2) `cseq_number_before_method` (`HxCsStrict`): the CSeq number is not empty, ends STRICTLY before the method starts,
      and the method is not empty — because the number ends at a white-space byte and the method starts at a byte that
      is not white space.  The resumption invariant `HxCsI` holds of every object in the initial state and is kept by a
      call that asks for more bytes, so a value parsed over any number of calls on the same buffer is covered.  At
      message level "a CSeq header was accepted" = its type flag is set, also when the header array was too small to
      store it.
  (3) the LAST byte of a reported name-addr value `V` (`HxTrC`): whenever ParseNameAddrPVal, started on a new object,
      says OK or "more values" (any header kind), it is not SP / HT / CR / LF — except in ONE shape: verdict "more
      values", the byte at the end of `V` is the comma, and `V` ends with a non-empty run of white space that directly
      follows a `;` (empty parameter, `<a>; ,<b>`) or a `=` (empty parameter value, `<a>;tag= ,<b>`); never after OK.  The
      same for the parameter span (it ends where `V` ends).  Loop invariant `HxTrI`, by cases on the transitions of the
      loop body.  At message level (through `hx_msg_vals_init` of MsgLift): From / To never end with white space; every
      stored Contact / identity value does not, except in that one shape.
  NOT proved here: that the counts `cnt` are unique (they are, because the header values do not overlap — `HlsLo` — and the
  stored values are not empty, but this is not derived); that the `val` of a Contact header starts with its first value and
  ends with its last one (only containment); (1) for objects suspended in the middle of a header line other than through
  the one-shot equivalence (growing prefixes within the size limit); for (3): nothing about leading white space or white
  space inside the spans other than at their end; the `first` / `last` overflow slots of the contact list.
-/
import Sipsp.Proofs.ValAssoc

namespace Sipsp

/-- closes `HxTrI mv b (i+1) X` for an updated object `X` whose state is a constructor or `pf.state`, given
    `hT : HxTrI mv b i pf`, `hnl : HxNL b (i+1)` and possibly `h59 : HxNLc mv 59 b (i+1)`, `h61 : HxNLc mv 61 b (i+1)` -/
macro "hx_tr_leaf" hT:ident h59f:ident h61f:ident : tactic =>
  `(tactic| (have t4 := ($hT).fixed; have t5 := ($hT).pe; have t6 := ($hT).ve
             refine ⟨fun hh => ?_, fun hh => ?_, fun hh => ?_, fun hh => ?_, fun hh => ?_, fun hh => ?_⟩ <;>
             first
               | (exfalso; simp [setFromParamVal_state] at hh; done)
               | (exfalso; simp_all [setFromParamVal_state]; done)
               | assumption
               | (exact Or.inl ($h59f (by assumption)))
               | (exact Or.inl ($h61f (by assumption)))
               | (dsimp only [PFromBody.setURI, PFromBody.setName, PFromBody.setV, PFromBody.extV, PFromBody.extParams,
                    PFromBody.resetUPT]
                  first
                    | (rw [(flo_set_end _ _ (by omega) (by omega)).2]; assumption)
                    | (rw [(flo_extend_end _ _ (by omega) (by omega)).2]; assumption)
                    | (exact t4 (by simp_all))
                    | (exact t5 (by simp_all))
                    | (exact t6 (by simp_all)))))


/-! ### (1) the exact association of the stored values with the header lines of their type -/

/-- **the exact association** of the values of a list (`vals`, `n` = number of values counted, `hNo` = its header
    count) with the header lines counted in `hl`.  `tyOf j` is the type of the `j`-th accepted header line (a ghost
    function: it agrees with the stored headers; lines beyond the capacity of the header array are counted but not
    stored).  `hxIdx ty tyOf hl.n` is the list of the positions of the lines of type `ty`, in message order; there are
    exactly `hNo` of them.  `cnt` gives for each of these lines the number of values it carried (each at least 1, sum
    `n`); the values of line `i` (0-based among the lines of type `ty`) are those with index in
    `[hxStart cnt i, hxStart cnt (i+1))` — cumulative counts, the values of the first line first, then those of the
    second, … — and each of them that is stored lies inside the `val` of that header (if the header is stored) and is
    not empty. -/
def HxAssoc (ty : Nat) (hl : HdrLst) (vals : Array PFromBody) (n hNo : Nat) : Prop :=
  ∃ (tyOf : Nat → Nat) (cnt : List Nat),
    (∀ j, j < hl.n → j < hl.hdrs.size → hl.hdrs[j]!.type = tyOf j) ∧
    (hxIdx ty tyOf hl.n).length = hNo ∧ cnt.length = hNo ∧ (∀ c ∈ cnt, 0 < c) ∧ cnt.sum = n ∧
    ∀ i j, (hxIdx ty tyOf hl.n)[i]? = some j → ∀ k, hxStart cnt i ≤ k → k < hxStart cnt (i + 1) → k < vals.size →
      j < hl.hdrs.size → PlIn hl.hdrs[j]!.val vals[k]!.v

theorem HxAssoc_iff {ty : Nat} {hl : HdrLst} {vals : Array PFromBody} {n hNo : Nat} :
    HxAssoc ty hl vals n hNo ↔ ∃ tyOf, (∀ j, j < hl.n → j < hl.hdrs.size → hl.hdrs[j]!.type = tyOf j) ∧
      GAssoc ty hl.n tyOf (fun j v => j < hl.hdrs.size → PlIn hl.hdrs[j]!.val v.v) vals n hNo :=
  ⟨fun ⟨t, c, a, r⟩ => ⟨t, a, c, r⟩, fun ⟨t, a, c, r⟩ => ⟨t, c, a, r⟩⟩

theorem HxAssoc.setCur {ty : Nat} {hl : HdrLst} {vals : Array PFromBody} {n hNo : Nat} (H : HxAssoc ty hl vals n hNo)
    (g : Hdr) : HxAssoc ty (hl.setCur g) vals n hNo := by
  obtain ⟨tyOf, h1, G⟩ := HxAssoc_iff.1 H
  have hget : ∀ j, j < hl.n → (hl.setCur g).hdrs[j]! = hl.hdrs[j]! := fun j hj => hlSetCur_ne hl g j (by omega)
  refine HxAssoc_iff.2 ⟨tyOf, fun j hj hs => ?_, ?_⟩
  · rw [hlSetCur_n] at hj; rw [hlSetCur_size] at hs
    rw [hget j hj]; exact h1 j hj hs
  · rw [hlSetCur_n]
    exact G.imp fun j v hj h hjs => by rw [hlSetCur_size] at hjs; rw [hget j hj]; exact h hjs

theorem HxAssoc.next {ty : Nat} {hl : HdrLst} {vals vals' : Array PFromBody} {n n' hNo hNo' : Nat}
    (H : HxAssoc ty hl vals n hNo) (g : Hdr) (E : PlEff ty vals n vals' n' g.type g.val)
    (C : HxCnt ty n hNo n' hNo' g.type) : HxAssoc ty ((hl.setCur g).accept g) vals' n' hNo' := by
  have hn : ((hl.setCur g).accept g).n = hl.n + 1 := by rw [accept_n, hlSetCur_n]
  have hs : ((hl.setCur g).accept g).hdrs.size = hl.hdrs.size := by rw [accept_hdrs, hlSetCur_size]
  have hget : ∀ j, j < hl.n → ((hl.setCur g).accept g).hdrs[j]! = hl.hdrs[j]! := fun j hj => by
    rw [accept_hdrs]; exact hlSetCur_ne hl g j (by omega)
  have hgetn : hl.n < hl.hdrs.size → ((hl.setCur g).accept g).hdrs[hl.n]! = g := fun hin => by
    rw [accept_hdrs]; exact hlSetCur_get_n hl g hin
  obtain ⟨tyOf, h1, G⟩ := HxAssoc_iff.1 H
  refine HxAssoc_iff.2 ⟨fun j => if j = hl.n then g.type else tyOf j, fun j hj hjs => ?_, ?_⟩
  · rw [hn] at hj; rw [hs] at hjs
    show _ = if j = hl.n then g.type else tyOf j
    by_cases hjn : j = hl.n
    · subst hjn; rw [if_pos rfl, hgetn hjs]
    · rw [if_neg hjn, hget j (by omega)]; exact h1 j (by omega) hjs
  · rw [hn]
    refine G.snoc (t := g.type) (fun j hj => if_neg (by omega)) (if_pos rfl)
      (fun j v hj h hjs => by rw [hs] at hjs; rw [hget j hj]; exact h hjs) (fun ht => ?_) (E.cases C).2
    obtain ⟨a, c, d, e⟩ := (E.cases C).1 ht
    exact ⟨a, c, d, fun k k1 k2 k3 hjs => by rw [hs] at hjs; rw [hgetn hjs]; exact e k k1 k2 k3⟩

/-- the association `AfcAssoc` of ValAssoc.lean (relative to the list `gs` of ALL accepted lines) implies the exact one:
    take the types of the entries of `gs` -/
theorem AfcAssoc.hxAssoc {ty : Nat} {gs : List Hdr} {hl : HdrLst} {vals : Array PFromBody} {n hNo : Nat}
    (S : AfcStored gs hl) (H : AfcAssoc ty gs vals n hNo) : HxAssoc ty hl vals n hNo := by
  refine HxAssoc_iff.2 ⟨fun j => gs[j]!.type, fun j hj hjs => by rw [S.2 j hj hjs], ?_⟩
  rw [← S.1]
  exact (AfcAssoc_iff.1 H).imp fun j v hj h hjs => by rw [S.2 j (by rw [← S.1]; exact hj) hjs]; exact h

/-! ### (2) CSeq: the number ends strictly before the method starts, and neither is empty -/

/-- **strict CSeq order**: the number has at least one byte, ends strictly before the start of the method, and the
    method has at least one byte -/
structure HxCsStrict (st : PCSeqBody) : Prop where
  numNe : 0 < st.cseq.len
  lt : st.cseq.offs + st.cseq.len < st.method.offs
  methNe : 0 < st.method.len

/-- resumption invariant of the CSeq object at loop position `i`: in the number, at least one digit was read; between
    number and method, the number is reported, not empty, and the byte just after it is white space; in the method, its
    first byte stands after that white space -/
def HxCsI (b : Buf) (i : Nat) (st : PCSeqBody) : Prop :=
  (st.state = .foundDigit → st.soffs < i) ∧
  (st.state = .endDigit → 0 < st.cseq.len ∧ st.cseq.offs + st.cseq.len ≤ i ∧
    ∃ c, b[st.cseq.offs + st.cseq.len]? = some c ∧ isLWSch c = true) ∧
  (st.state = .foundMethod → 0 < st.cseq.len ∧ st.cseq.offs + st.cseq.len < st.soffs ∧ st.soffs < i) ∧
  (st.state = .fend ∨ st.state = .fin → HxCsStrict st)

section
variable {b : Buf} {i : Nat} {st : PCSeqBody} (h : HxCsI b i st)
include h
theorem HxCsI.inNum (hs : st.state = .foundDigit) : st.soffs < i := h.1 hs
theorem HxCsI.afterNum (hs : st.state = .endDigit) : 0 < st.cseq.len ∧ st.cseq.offs + st.cseq.len ≤ i ∧
    ∃ c, b[st.cseq.offs + st.cseq.len]? = some c ∧ isLWSch c = true := h.2.1 hs
theorem HxCsI.inMeth (hs : st.state = .foundMethod) :
    0 < st.cseq.len ∧ st.cseq.offs + st.cseq.len < st.soffs ∧ st.soffs < i := h.2.2.1 hs
theorem HxCsI.strict (hs : st.state = .fend ∨ st.state = .fin) : HxCsStrict st := h.2.2.2 hs
end

theorem HxCsI.mono {b : Buf} {i j : Nat} {st : PCSeqBody} (h : HxCsI b i st) (hij : i ≤ j) : HxCsI b j st :=
  ⟨fun hs => by have := h.inNum hs; omega,
   fun hs => ⟨(h.afterNum hs).1, by have := (h.afterNum hs).2.1; omega, (h.afterNum hs).2.2⟩,
   fun hs => ⟨(h.inMeth hs).1, (h.inMeth hs).2.1, by have := (h.inMeth hs).2.2; omega⟩, h.strict⟩

theorem HxCsI_init (b : Buf) (i : Nat) (st : PCSeqBody) (h : st.state = .init) : HxCsI b i st :=
  ⟨(fun hh => by rw [h] at hh; cases hh), (fun hh => by rw [h] at hh; cases hh), (fun hh => by rw [h] at hh; cases hh),
   (fun hh => by rw [h] at hh; rcases hh with hh | hh <;> cases hh)⟩

theorem hx_csSetMethod_strict (i : Nat) (st : PCSeqBody) (hi : i < 65536) (h1 : 0 < st.cseq.len)
    (h2 : st.cseq.offs + st.cseq.len < st.soffs) (h3 : st.soffs < i) : HxCsStrict (csSetMethod st i) := by
  refine ⟨?_, ?_, ?_⟩ <;> simp only [csSetMethod, PField.set, trunc16] <;> omega

theorem hx_csFinish (st : PCSeqBody) (b : Buf) (n crl : Nat) (h : HxCsStrict st)
    (hok : (csFinish st b n crl).2.1 = .ok) : HxCsStrict (csFinish st b n crl).2.2 := by
  unfold csFinish at hok ⊢
  simp only at hok ⊢
  split
  · rename_i hc; rw [if_pos hc] at hok; cases hok
  · split <;> exact ⟨h.numNe, h.lt, h.methNe⟩

theorem hx_csEOH (b : Buf) (i n crl : Nat) (st : PCSeqBody) (hi : i < 65536) (h : HxCsI b i st)
    (hok : (csEOH b st i n crl).2.1 = .ok) : HxCsStrict (csEOH b st i n crl).2.2 := by
  unfold csEOH at hok ⊢
  cases hst : st.state <;> rw [hst] at hok <;> simp only at hok ⊢
  · cases hok
  · cases hok
  · cases hok
  · obtain ⟨a1, a2, a3⟩ := h.inMeth hst
    exact hx_csFinish _ b n crl (hx_csSetMethod_strict i st hi a1 a2 a3) hok
  · exact hx_csFinish _ b n crl (h.strict (Or.inl hst)) hok
  · cases hok

/-- what a finished call of ParseCSeqVal guarantees: strict order after OK, the resumption invariant after MoreBytes -/
def HxCsT (b : Buf) : Nat → Err → PCSeqBody → Prop := fun j e s =>
  (e = .ok → HxCsStrict s) ∧ (e = .moreBytes → HxCsI b j s)

theorem HxCsT.err {b : Buf} {j : Nat} {e : Err} {s : PCSeqBody} (h1 : e ≠ .ok) (h2 : e ≠ .moreBytes) : HxCsT b j e s :=
  ⟨fun hh => absurd hh h1, fun hh => absurd hh h2⟩

theorem hx_csStep (b : Buf) (i : Nat) (c : UInt8) (st : PCSeqBody) (hfit : b.size ≤ 65535) (hb : b[i]? = some c)
    (h : HxCsI b i st) : StepAll2 (fun j s => HxCsI b j s) (HxCsT b) (csStep b i c st) := by
  refine csStep_ind b (S := fun j s => HxCsI b j s) (T := HxCsT b)
    (mono := fun _ _ _ h _ hij _ => h.mono hij)
    (closeNum := fun i c st hb hl h hg => ?closeNum) (closeMeth := fun i st hlt h hg => ?closeMeth)
    (digit0 := fun i _ _ _ _ _ _ =>
      ⟨fun _ => by show i < i + 1; omega, nofun, nofun, fun hh => by rcases hh with hh | hh <;> cases hh⟩)
    (digit := fun i _ st _ _ h hg _ => ?digit) (meth0 := fun i c st hb hl h hg => ?meth0)
    (eoh := fun i n crl s h _ _ _ _ =>
      ⟨hx_csEOH b i n crl s (by omega) h, fun hh => absurd hh (csEOH_ne_more b s i n crl)⟩)
    (more := fun _ _ h => ⟨nofun, fun _ => h⟩)
    (err := fun _ _ _ _ he => HxCsT.err (by rcases he with rfl | rfl <;> nofun) (by rcases he with rfl | rfl <;> nofun))
    i c st hb h
  case closeNum =>
    -- the number `[soffs, i)` is not empty and is followed by the white-space byte at `i`
    have hlt := get?_lt hb
    have a1 := h.inNum hg
    have hso : (PField.set st.soffs i).offs = st.soffs := flo_set_offs _ _ (by omega)
    have hsl : (PField.set st.soffs i).len = i - st.soffs := by
      show trunc16 (i - st.soffs) = _
      exact trunc16_of_lt (by omega)
    refine ⟨nofun, (fun _ => ⟨?_, ?_, c, ?_, hl⟩), nofun, (fun hh => by rcases hh with hh | hh <;> cases hh)⟩
    · show 0 < (PField.set st.soffs i).len
      rw [hsl]; omega
    · show (PField.set st.soffs i).offs + (PField.set st.soffs i).len ≤ i
      rw [hso, hsl]; omega
    · show b[(PField.set st.soffs i).offs + (PField.set st.soffs i).len]? = some c
      rw [hso, hsl, show st.soffs + (i - st.soffs) = i by omega]; exact hb
  case closeMeth =>
    obtain ⟨a1, a2, a3⟩ := h.inMeth hg
    have hn := hx_csSetMethod_strict i st (by omega) a1 a2 a3
    exact ⟨nofun, nofun, nofun, (fun _ => ⟨hn.numNe, hn.lt, hn.methNe⟩)⟩
  case digit =>
    have := h.inNum hg
    exact ⟨(fun _ => by show st.soffs < i + 1; omega), (fun hh => by rw [hg] at hh; cases hh),
      (fun hh => by rw [hg] at hh; cases hh), (fun hh => by rw [hg] at hh; rcases hh with hh | hh <;> cases hh)⟩
  case meth0 =>
    -- the method starts at a byte that is not white space, hence after the byte that ended the number
    obtain ⟨a1, a2, c1, a3, a4⟩ := h.afterNum hg
    have hne : st.cseq.offs + st.cseq.len ≠ i := by
      intro he
      rw [he, hb] at a3
      cases a3
      rw [hl] at a4; cases a4
    refine ⟨nofun, nofun, (fun _ => ⟨a1, ?_, ?_⟩), (fun hh => by rcases hh with hh | hh <;> cases hh)⟩
    · show st.cseq.offs + st.cseq.len < i
      omega
    · show i < i + 1
      omega

/-- **`cseq_number_before_method`, ParseCSeqVal**: whenever ParseCSeqVal says OK — on a new object, or on any object
    returned by earlier calls on the same buffer (`HxCsI`, which holds of every object in the initial state and is kept
    by every call that asks for more bytes) — the number field has at least one byte, ends STRICTLY before the start of
    the method field, and the method field has at least one byte.  Every input within the 65,535-byte limit. -/
theorem hx_parseCSeqVal_strict (b : Buf) (o : Nat) (st : PCSeqBody) (hfit : b.size ≤ 65535) (h : HxCsI b o st) :
    HxCsT b (parseCSeqVal b o st).1 (parseCSeqVal b o st).2.1 (parseCSeqVal b o st).2.2 := by
  unfold parseCSeqVal
  split
  · rename_i hf; exact ⟨fun _ => h.strict (Or.inr hf), fun hh => by cases hh⟩
  · exact runLoop_safe2 csMachine b (fun j s => HxCsI b j s) (HxCsT b) cs_progress
      (fun i c s hb hs => hx_csStep b i c s hfit hb hs) (fun i s hs => ⟨(fun hh => by cases hh), (fun _ => hs)⟩) o st h

theorem hx_parseCSeqVal_strict_new (b : Buf) (o : Nat) (hfit : b.size ≤ 65535) {o' : Nat} {st' : PCSeqBody}
    (hr : parseCSeqVal b o {} = (o', .ok, st')) : HxCsStrict st' := by
  have := hx_parseCSeqVal_strict b o {} hfit (HxCsI_init b o {} rfl)
  rw [hr] at this
  exact this.1 rfl

/-- the CSeq object between two header lines of one ParseHeaders call: untouched, or parsed with the strict order -/
def HxCsK (st : PCSeqBody) : Prop := st.state = .init ∨ (st.state = .fin ∧ HxCsStrict st)

/-- **one header line** (header object that has not reached the colon; buffers within the 65,535-byte limit), verdict OK
    or "empty line": the CSeq object stays untouched-or-strictly-ordered -/
theorem hx_line_cseq (b : Buf) (o : Nat) (h : Hdr) (hv : PHdrVals) (hfit : b.size ≤ 65535) (hst : HxPre h.state)
    {o' : Nat} {e : Err} {h' : Hdr} {hb' : Option PHdrVals} (hr : parseHdrLine b o h (some hv) = (o', e, h', hb'))
    (he : e = .ok ∨ e = .empty) : ∃ hv', hb' = some hv' ∧ (HxCsK hv.cseq → HxCsK hv'.cseq) := by
  obtain ⟨hv', hb, hcase⟩ := hx_parseHdrLine_split b o h hv hst hr
  simp only at hb hcase
  subst hb
  refine ⟨hv', rfl, fun K => ?_⟩
  rcases hcase with ⟨rfl, _⟩ | ⟨i, h1, h2, _, hs1, hp, _, hne, _⟩
  · exact K
  · rcases he with rfl | rfl
    · rcases (hx_parseBody_frame b i h1 hv hp).2.2.2.1 with hq | ⟨_, hnp, hq⟩
      · rw [hq]; exact K
      · have hini : hv.cseq.state = .init := by
          rcases K with K | K
          · exact K
          · exfalso
            unfold PCSeqBody.parsed at hnp
            rw [K.1] at hnp
            cases hnp
        have hT := hx_parseCSeqVal_strict b i hv.cseq hfit (HxCsI_init b i _ hini)
        rw [hq] at hT
        have hf := sv_cs_ok b i hv.cseq hq
        refine Or.inr ⟨?_, hT.1 rfl⟩
        unfold PCSeqBody.parsed at hf
        simpa using hf
    · exact absurd rfl hne

/-- `HxMsg` in the form the rule for the header block (`lift_parseHeaders`) asks for: about the header list and the
    values object, if the caller passed one (`HxMsg_iff`) -/
def HxInv (hl : HdrLst) (hb : Option PHdrVals) : Prop :=
  ∀ hv, hb = some hv → HxAssoc HdrContact hl hv.contacts.vals hv.contacts.n hv.contacts.hNo ∧
    HxAssoc HdrPAI hl hv.pais.vals hv.pais.n hv.pais.hNo ∧ HxCsK hv.cseq

theorem hx_lineStep (b : Buf) (hfit : b.size ≤ 65535) : LineStep b fun _ hl hv =>
    HxAssoc HdrContact hl hv.contacts.vals hv.contacts.n hv.contacts.hNo ∧
    HxAssoc HdrPAI hl hv.pais.vals hv.pais.n hv.pais.hNo ∧ HxCsK hv.cseq := by
  intro _ offs hl hv n e g hv1 hcur HS hp ⟨G1, G2, G3⟩
  obtain ⟨hct, hpa⟩ := HS.idle hcur
  have hpre : HxPre hl.cur.state := by rw [hcur]; exact Or.inl rfl
  obtain ⟨hv', hq, hemp, hokE⟩ := pl_parseHdrLine b offs hl.cur hv hfit (by rw [hcur]; exact Or.inl rfl) hct hpa hp
  cases hq
  have hK : e = .ok ∨ e = .empty → HxCsK hv1.cseq := fun he => by
    obtain ⟨hv3, hq3, hk3⟩ := hx_line_cseq b offs hl.cur hv hfit hpre hp he
    cases hq3; exact hk3 G3
  refine ⟨fun he => ?_, fun he => ?_⟩
  · subst he
    obtain ⟨hv1', hq, C1, C2⟩ := hx_line_cnt b offs hl.cur hv hpre hp
    cases hq
    exact ⟨G1.next g (hokE rfl).1 C1, G2.next g (hokE rfl).2 C2, hK (.inl rfl)⟩
  · have := hK (.inr he)
    rw [hemp he] at this ⊢
    exact ⟨G1.setCur g, G2.setCur g, this⟩

/-- **header block** (same hypotheses as `lift_parseHeaders`: a legitimate list whose current slot is new, i.e. one call
    of ParseHeaders from the start of a line; buffers within the 65,535-byte limit): ParseHeaders keeps / establishes
    the exact association -/
theorem hx_parseHeaders (b : Buf) (offs : Nat) (hl : HdrLst) (hb : Option PHdrVals) (hfit : b.size ≤ 65535)
    (hok1 : hlsOK b hl) (hok2 : hbOK b offs hb) (hpe : hlsPend hl hb) (ho : offs ≤ b.size)
    (H : HlsSafe b offs hl hb) (hcur : hl.cur = {}) (hsome : hb ≠ none) (G : HxInv hl hb) :
    (parseHeaders b offs hl hb).2.1 = .ok → HxInv (parseHeaders b offs hl hb).2.2.1 (parseHeaders b offs hl hb).2.2.2 :=
  lift_parseHeaders hfit (hx_lineStep b hfit) offs hl hb ⟨hok1, hok2, hpe, ho, H⟩ hcur hsome [] (b.size + 1) (by omega) G

/-- **message, one call from the initial state** (same hypotheses as `parseSIPMsg_nn`) -/
theorem hx_parseSIPMsg (b : Buf) (o : Nat) (m : PSIPMsg) (flags : Nat) (hfit : b.size ≤ 65535)
    (hok : msgOK2 b o m) (H : MsgSafe b o m) (hst : m.state = .init) (hcur : m.hl.cur = {})
    (G : HxInv m.hl (some m.pv)) {o' : Nat} {m' : PSIPMsg} (hr : parseSIPMsg b o m flags = (o', .ok, m')) :
    HxInv m'.hl (some m'.pv) := fun hv hh => by
  cases hh
  exact lift_parseSIPMsg hfit (hx_lineStep b hfit) o m flags hok H hst hcur (G _ rfl) hr

theorem HxAssoc_zero (ty : Nat) (hl : HdrLst) (vals : Array PFromBody) (h0 : hl.n = 0) : HxAssoc ty hl vals 0 0 := by
  refine ⟨fun _ => 0, [], (fun j hj => by omega), (by rw [h0]; rfl), rfl, (fun c hc => by cases hc), rfl, fun i j hij => ?_⟩
  rw [h0] at hij
  cases hij

theorem HxInv_init (m : PSIPMsg) (len kh kc : Nat) (hdrs : Option Unit) (cts : Option Unit) :
    let m1 := m.init len (hdrs.map fun _ => Array.replicate kh {}) (cts.map fun _ => Array.replicate kc {})
    HxInv m1.hl (some m1.pv) := by
  obtain ⟨k, k', e⟩ := init_eq_initObj m len kh kc hdrs cts
  rw [e]
  exact fun hv hh => by cases hh; exact ⟨HxAssoc_zero _ _ _ rfl, HxAssoc_zero _ _ _ rfl, Or.inl rfl⟩

/-- the statement about one message object: `HxAssoc` for the Contact list and for the identity list; the CSeq object is
    untouched or parsed with the strict order -/
def HxMsg (m : PSIPMsg) : Prop :=
  HxAssoc HdrContact m.hl m.pv.contacts.vals m.pv.contacts.n m.pv.contacts.hNo ∧
  HxAssoc HdrPAI m.hl m.pv.pais.vals m.pv.pais.n m.pv.pais.hNo ∧ HxCsK m.pv.cseq

theorem HxMsg_iff (m : PSIPMsg) : HxMsg m ↔ HxInv m.hl (some m.pv) :=
  ⟨fun h _ hh => by cases hh; exact h, fun h => h _ rfl⟩

/-- **C05, message level, one call on an object produced by Init** (any previous contents, caller arrays of any
    capacity or none; EVERY input within the 65,535-byte limit) -/
theorem hx_values_exact_init (b : Buf) (o : Nat) (m0 : PSIPMsg) (len kh kc : Nat) (hdrs cts : Option Unit)
    (flags : Nat) (hfit : b.size ≤ 65535) (ho : o ≤ b.size) {o' : Nat} {m' : PSIPMsg}
    (hr : parseSIPMsg b o (m0.init len (hdrs.map fun _ => Array.replicate kh {}) (cts.map fun _ => Array.replicate kc {}))
      flags = (o', .ok, m')) : HxMsg m' := by
  obtain ⟨_, q2, q3⟩ := MsgLo_init o m0 len kh kc hdrs cts
  exact hx_parseSIPMsg b o _ flags hfit (msgOK2_init b o ho m0 len kh kc hdrs cts)
    (MsgSafe_init b o ho m0 len kh kc hdrs cts) q3 q2 (HxInv_init m0 len kh kc hdrs cts) hr |> (HxMsg_iff m').2

/-- **C05, message level, under every chunk schedule from Init**: if the chain of resumed calls over growing prefixes
    ends with OK, the final object satisfies `HxMsg` -/
theorem hx_values_exact_schedule_init (flags : Nat) (o : Nat) (m0 : PSIPMsg) (len kh kc : Nat)
    (hdrs cts : Option Unit) (l : List Buf) (hg : Growing l) (hfit : ∀ x ∈ l, x.size ≤ 65535) (hne : l ≠ [])
    (ho : ∀ b ∈ l, o ≤ b.size) {o' : Nat} {m' : PSIPMsg}
    (hr : resumeRun (C01.msgP flags) o
      (m0.init len (hdrs.map fun _ => Array.replicate kh {}) (cts.map fun _ => Array.replicate kc {})) l = (o', .ok, m')) :
    HxMsg m' := by
  obtain ⟨b, hb, h⟩ := flo_schedule_init flags o m0 len kh kc hdrs cts l hg hfit hne ho hr
  exact hx_values_exact_init b o m0 len kh kc hdrs cts flags (hfit b hb) (ho b hb) h

/-- **ParseHeaders, one call on the header list and values object of an Init object** -/
theorem hx_parseHeaders_init (b : Buf) (o : Nat) (m0 : PSIPMsg) (len kh kc : Nat) (hdrs cts : Option Unit)
    (hfit : b.size ≤ 65535) (ho : o ≤ b.size) :
    let m1 := m0.init len (hdrs.map fun _ => Array.replicate kh {}) (cts.map fun _ => Array.replicate kc {})
    (parseHeaders b o m1.hl (some m1.pv)).2.1 = .ok →
      HxInv (parseHeaders b o m1.hl (some m1.pv)).2.2.1 (parseHeaders b o m1.hl (some m1.pv)).2.2.2 := by
  intro m1
  obtain ⟨_, q2, q3⟩ := MsgLo_init o m0 len kh kc hdrs cts
  obtain ⟨_, _, hrest⟩ := msgOK2_init b o ho m0 len kh kc hdrs cts
  obtain ⟨hls, hvs, hpe⟩ := hrest (by rw [q3]; decide)
  have hS := MsgSafe_init b o ho m0 len kh kc hdrs cts
  exact hx_parseHeaders b o m1.hl (some m1.pv) hfit hls hvs hpe ho (hS.hls (Or.inl q3)) q2 (by intro hh; cases hh)
    (HxInv_init m0 len kh kc hdrs cts)

/-- **`HxAssoc`, when the header array holds all the headers** (`hl.n ≤` its capacity): let `idx` be the positions of the
    stored headers of type `ty`, in order.  Then `HNo` is the number of these headers, and there are counts `cnt` — one
    for each of them, each at least 1, with sum `N` — such that the values of the `i`-th header of type `ty` are exactly
    those with index in `[hxStart cnt i, hxStart cnt (i+1))` (cumulative counts): each of them that is stored has at
    least one byte and lies inside the `val` of THAT header; every value index below `N` is in exactly one of the blocks
    (`hx_block_exists`, `hx_block_unique`) -/
theorem HxAssoc.meaning_all_stored {ty : Nat} {hl : HdrLst} {vals : Array PFromBody} {n hNo : Nat}
    (H : HxAssoc ty hl vals n hNo) (hcap : hl.n ≤ hl.hdrs.size) :
    ((List.range hl.n).filter (fun j => hl.hdrs[j]!.type == ty)).length = hNo ∧
    ∃ cnt : List Nat, cnt.length = hNo ∧ (∀ c ∈ cnt, 0 < c) ∧ cnt.sum = n ∧
      ∀ i j, ((List.range hl.n).filter (fun j => hl.hdrs[j]!.type == ty))[i]? = some j →
        ∀ k, hxStart cnt i ≤ k → k < hxStart cnt (i + 1) → k < vals.size →
          j < hl.n ∧ hl.hdrs[j]!.type = ty ∧ 0 < vals[k]!.v.len ∧ hl.hdrs[j]!.val.offs ≤ vals[k]!.v.offs ∧
          vals[k]!.v.offs + vals[k]!.v.len ≤ hl.hdrs[j]!.val.offs + hl.hdrs[j]!.val.len := by
  obtain ⟨tyOf, cnt, h1, h2, h3, h4, h5, h6⟩ := H
  have e : (List.range hl.n).filter (fun j => hl.hdrs[j]!.type == ty) = hxIdx ty tyOf hl.n := by
    unfold hxIdx
    apply List.filter_congr
    intro x hx
    have := List.mem_range.1 hx
    rw [h1 x this (by omega)]
  rw [e]
  refine ⟨h2, cnt, h3, h4, h5, fun i j hij k k1 k2 k3 => ?_⟩
  obtain ⟨hj, hty⟩ := hxIdx_lt hij
  have := h6 i j hij k k1 k2 k3 (by omega)
  exact ⟨hj, by rw [h1 j hj (by omega)]; exact hty, this.1, this.2.1, this.2.2⟩

/-- **`HxAssoc`, any capacity of the header array**: the same with a ghost function `tyOf` for the types of ALL accepted
    header lines (it agrees with the stored ones); a value is compared with the `val` of its header only if that header
    is stored -/
theorem HxAssoc.meaning {ty : Nat} {hl : HdrLst} {vals : Array PFromBody} {n hNo : Nat} (H : HxAssoc ty hl vals n hNo) :
    ∃ (tyOf : Nat → Nat) (cnt : List Nat),
      (∀ j, j < hl.n → j < hl.hdrs.size → hl.hdrs[j]!.type = tyOf j) ∧
      ((List.range hl.n).filter (fun j => tyOf j == ty)).length = hNo ∧
      cnt.length = hNo ∧ (∀ c ∈ cnt, 0 < c) ∧ cnt.sum = n ∧
      ∀ i j, ((List.range hl.n).filter (fun j => tyOf j == ty))[i]? = some j →
        ∀ k, hxStart cnt i ≤ k → k < hxStart cnt (i + 1) → k < vals.size → j < hl.hdrs.size →
          hl.hdrs[j]!.type = ty ∧ 0 < vals[k]!.v.len ∧ hl.hdrs[j]!.val.offs ≤ vals[k]!.v.offs ∧
          vals[k]!.v.offs + vals[k]!.v.len ≤ hl.hdrs[j]!.val.offs + hl.hdrs[j]!.val.len := by
  obtain ⟨tyOf, cnt, h1, h2, h3, h4, h5, h6⟩ := H
  refine ⟨tyOf, cnt, h1, h2, h3, h4, h5, fun i j hij k k1 k2 k3 hjs => ?_⟩
  obtain ⟨hj, hty⟩ := hxIdx_lt hij
  have := h6 i j hij k k1 k2 k3 hjs
  exact ⟨by rw [h1 j hj hjs]; exact hty, this.1, this.2.1, this.2.2⟩

/-- **every stored value has its header line**: for each value index `k < N` there is exactly one line number `i < HNo`
    with `k` in the block of `i`; if the header array holds all headers, the `i`-th stored header of type `ty` exists
    and the value lies inside its `val` -/
theorem HxAssoc.value_line {ty : Nat} {hl : HdrLst} {vals : Array PFromBody} {n hNo : Nat}
    (H : HxAssoc ty hl vals n hNo) (hcap : hl.n ≤ hl.hdrs.size) (k : Nat) (hk : k < n) (hks : k < vals.size) :
    ∃ i j, i < hNo ∧ ((List.range hl.n).filter (fun j => hl.hdrs[j]!.type == ty))[i]? = some j ∧
      hl.hdrs[j]!.type = ty ∧ PlIn hl.hdrs[j]!.val vals[k]!.v := by
  obtain ⟨hlen, cnt, c1, c2, c3, c4⟩ := H.meaning_all_stored hcap
  obtain ⟨i, hi, k1, k2⟩ := hx_block_exists cnt k (by rw [c3]; exact hk)
  have hi' : i < ((List.range hl.n).filter (fun j => hl.hdrs[j]!.type == ty)).length := by rw [hlen, ← c1]; exact hi
  refine ⟨i, _, by rw [← c1]; exact hi, List.getElem?_eq_getElem hi', ?_⟩
  obtain ⟨_, a2, a3, a4, a5⟩ := c4 i _ (List.getElem?_eq_getElem hi') k k1 k2 hks
  exact ⟨a2, a3, a4, a5⟩


/-- **`cseq_number_before_method`**: in a message object that satisfies `HxMsg` (every successful parse from Init, see
    below), if the CSeq object is parsed then the number field has at least one byte, ends STRICTLY before the start of
    the method field, and the method field has at least one byte -/
theorem hx_cseq_number_before_method {m : PSIPMsg} (h : HxMsg m) (hp : m.pv.cseq.parsed = true) :
    0 < m.pv.cseq.cseq.len ∧ m.pv.cseq.cseq.offs + m.pv.cseq.cseq.len < m.pv.cseq.method.offs ∧
    0 < m.pv.cseq.method.len := by
  rcases h.2.2 with K | K
  · exfalso
    unfold PCSeqBody.parsed at hp
    rw [K] at hp
    cases hp
  · exact ⟨K.2.numNe, K.2.lt, K.2.methNe⟩

/-- `cseq_number_before_method` after one successful ParseSIPMsg call on an object produced by Init; "a CSeq header was
    accepted" = its type flag is set (also when the header array was too small to store it) -/
theorem hx_cseq_number_before_method_init (b : Buf) (o : Nat) (m0 : PSIPMsg) (len kh kc : Nat) (hdrs cts : Option Unit)
    (flags : Nat) (hfit : b.size ≤ 65535) (ho : o ≤ b.size) {o' : Nat} {m' : PSIPMsg}
    (hr : parseSIPMsg b o (m0.init len (hdrs.map fun _ => Array.replicate kh {}) (cts.map fun _ => Array.replicate kc {}))
      flags = (o', .ok, m')) (hf : m'.hl.pflags.testBit HdrCSeq = true) :
    0 < m'.pv.cseq.cseq.len ∧ m'.pv.cseq.cseq.offs + m'.pv.cseq.cseq.len < m'.pv.cseq.method.offs ∧
    0 < m'.pv.cseq.method.len :=
  hx_cseq_number_before_method (hx_values_exact_init b o m0 len kh kc hdrs cts flags hfit ho hr)
    (shortcut_parsed_of_flag .cseq m' (svParsed_init b o m0 len kh kc hdrs cts flags hr) hf)

/-- `cseq_number_before_method` after every chain of resumed calls over growing prefixes, from Init -/
theorem hx_cseq_number_before_method_schedule_init (flags : Nat) (o : Nat) (m0 : PSIPMsg) (len kh kc : Nat)
    (hdrs cts : Option Unit) (l : List Buf) (hg : Growing l) (hfit : ∀ x ∈ l, x.size ≤ 65535) (hne : l ≠ [])
    (ho : ∀ b ∈ l, o ≤ b.size) {o' : Nat} {m' : PSIPMsg}
    (hr : resumeRun (C01.msgP flags) o
      (m0.init len (hdrs.map fun _ => Array.replicate kh {}) (cts.map fun _ => Array.replicate kc {})) l = (o', .ok, m'))
    (hf : m'.hl.pflags.testBit HdrCSeq = true) :
    0 < m'.pv.cseq.cseq.len ∧ m'.pv.cseq.cseq.offs + m'.pv.cseq.cseq.len < m'.pv.cseq.method.offs ∧
    0 < m'.pv.cseq.method.len :=
  hx_cseq_number_before_method (hx_values_exact_schedule_init flags o m0 len kh kc hdrs cts l hg hfit hne ho hr)
    (shortcut_parsed_of_flag .cseq m' (svParsed_schedule_init flags o m0 len kh kc hdrs cts l hr) hf)

/-- **the hypothesis of `hx_values_exact_init` is satisfiable** and the theorem applies to the test message of PaiLines
    (two Contact lines with 2 + 1 values, two P-Asserted-Identity lines with 2 + 1 values, other headers between them;
    header capacity 8, contact capacity 4) -/
theorem hxTest_msg : HxMsg (plTestM 8 4) := by
  have h : (parseSIPMsg plTestMsg 0 (({} : PSIPMsg).init 0 ((some ()).map fun _ => Array.replicate 8 {})
      ((some ()).map fun _ => Array.replicate 4 {})) 0).2.1 = .ok := by decide +kernel
  rw [plTestM]
  rcases hp : parseSIPMsg plTestMsg 0 (({} : PSIPMsg).init 0 ((some ()).map fun _ => Array.replicate 8 {})
      ((some ()).map fun _ => Array.replicate 4 {})) 0 with ⟨o', e', m'⟩
  rw [hp] at h
  simp only at h
  subst h
  exact hx_values_exact_init plTestMsg 0 {} 0 8 4 (some ()) (some ()) 0 (by decide +kernel) (Nat.zero_le _) hp

/-- test: what the object looks like.  7 headers; the Contact headers are stored at positions 0 and 3, `HNo` = 2; three
    contact values: `V` = `[35, 54)` and `[57, 70)` inside header 0 (`val` = `[35, 70)`), `[124, 133)` inside header 3
    (`val` = `[124, 133)`): counts `[2, 1]`.  The P-Asserted-Identity headers are stored at positions 2 and 4, `HNo` = 2,
    three identities counted (two stored).  CSeq `1 REGISTER`: number `[185, 186)`, method `[187, 195)`. -/
example : (plTestM 8 4).hl.n = 7 ∧ (plTestM 8 4).pv.contacts.hNo = 2 ∧ (plTestM 8 4).pv.contacts.n = 3 ∧
    (List.range (plTestM 8 4).hl.n).filter (fun j => (plTestM 8 4).hl.hdrs[j]!.type == HdrContact) = [0, 3] ∧
    (plTestM 8 4).pv.contacts.vals.toList.map (fun f => (f.v.offs, f.v.len)) = [(35, 19), (57, 13), (124, 9), (0, 0)] ∧
    ((plTestM 8 4).hl.hdrs[0]!.val, (plTestM 8 4).hl.hdrs[3]!.val) = (⟨35, 35⟩, ⟨124, 9⟩) ∧
    (plTestM 8 4).pv.pais.hNo = 2 ∧ (plTestM 8 4).pv.pais.n = 3 ∧
    (List.range (plTestM 8 4).hl.n).filter (fun j => (plTestM 8 4).hl.hdrs[j]!.type == HdrPAI) = [2, 4] ∧
    (plTestM 8 4).hl.pflags.testBit HdrCSeq = true ∧
    ((plTestM 8 4).pv.cseq.cseq, (plTestM 8 4).pv.cseq.method) = (⟨185, 1⟩, ⟨187, 8⟩) := by decide +kernel

/-- test for `hx_block_exists`: with counts `[2, 1]` the blocks are `[0, 2)` and `[2, 3)` -/
example : hxStart [2, 1] 0 = 0 ∧ hxStart [2, 1] 1 = 2 ∧ hxStart [2, 1] 2 = 3 := by decide

/-- tests for `hx_parseCSeqVal_strict_new`: texts without white space between number and method, or without a method,
    are rejected; `1 R` is the smallest accepted text: number `[0, 1)`, method `[2, 3)` -/
example :
    (parseCSeqVal "1REGISTER\r\n\r\n".toUTF8.data 0 {}).2.1 = .badChar ∧
    (parseCSeqVal "1 \r\n\r\n".toUTF8.data 0 {}).2.1 = .bad ∧
    (parseCSeqVal "1 R\r\n\r\n".toUTF8.data 0 {}).2.1 = .ok ∧
    ((parseCSeqVal "1 R\r\n\r\n".toUTF8.data 0 {}).2.2.cseq, (parseCSeqVal "1 R\r\n\r\n".toUTF8.data 0 {}).2.2.method) =
      (⟨0, 1⟩, ⟨2, 1⟩) := by decide +kernel

/-! ### (3) trimming: the last byte of a reported name-addr value -/

/-- the byte before position `i` exists and is not white space (SP, HT, CR, LF) -/
def HxNL (b : Buf) (i : Nat) : Prop := ∃ c, 0 < i ∧ b[i - 1]? = some c ∧ isLWSch c = false

/-- … and it is the byte `d` if several values are allowed for this header -/
def HxNLc (mv : Bool) (d : UInt8) (b : Buf) (i : Nat) : Prop :=
  ∃ c, 0 < i ∧ b[i - 1]? = some c ∧ isLWSch c = false ∧ (mv = true → c = d)

/-- position `i` is preceded by a non-empty run of white space that follows a byte `c0` at `j` (which is `;` or `=`
    if several values are allowed) -/
def HxRun (mv : Bool) (b : Buf) (i : Nat) : Prop :=
  ∃ j c0, j + 1 < i ∧ b[j]? = some c0 ∧ isLWSch c0 = false ∧ (mv = true → c0 = 59 ∨ c0 = 61) ∧
    ∀ k, j < k → k < i → ∃ c', b[k]? = some c' ∧ isLWSch c' = true

/-- … and the byte at `i` is not white space -/
def HxGap (mv : Bool) (b : Buf) (i : Nat) : Prop := HxRun mv b i ∧ ∃ c, b[i]? = some c ∧ isLWSch c = false

theorem HxNLc.nl {mv : Bool} {d : UInt8} {b : Buf} {i : Nat} (h : HxNLc mv d b i) : HxNL b i := by
  obtain ⟨c, h1, h2, h3, _⟩ := h; exact ⟨c, h1, h2, h3⟩

theorem hx_nl_succ {b : Buf} {i : Nat} {c : UInt8} (hb : b[i]? = some c) (hl : isLWSch c = false) : HxNL b (i + 1) :=
  ⟨c, by omega, by simpa using hb, hl⟩

theorem hx_nlc_succ (mv : Bool) (d : UInt8) {b : Buf} {i : Nat} {c : UInt8} (hb : b[i]? = some c) (hl : isLWSch c = false)
    (hd : mv = true → c = d) : HxNLc mv d b (i + 1) :=
  ⟨c, by omega, by simpa using hb, hl, hd⟩

/-- white space skipped from a position whose predecessor is not white space -/
theorem hx_gap_of_skip {mv : Bool} {d : UInt8} {b : Buf} {i n crl : Nat} {c : UInt8} (hb : b[i]? = some c)
    (hl : isLWSch c = true) (hsk : skipLWS b i 0 = (n, crl, .ok)) (hd : d = 59 ∨ d = 61)
    (h : HxNLc mv d b i ∨ HxGap mv b i) : HxGap mv b n := by
  have hgt := skipLWS_ok_gt b i 0 hb hl hsk
  obtain ⟨_, cn, hcn, hln⟩ := skipLWS_ok b i 0 hsk
  have hrun := skipLWS_ok_run hsk
  rcases h with ⟨c0, h1, h2, h3, h4⟩ | ⟨_, c1, hc1, hl1⟩
  · refine ⟨⟨i - 1, c0, by omega, h2, h3, fun hm => ?_, fun k k1 k2 => hrun k (by omega) k2⟩, cn, hcn, hln⟩
    rw [h4 hm]
    rcases hd with rfl | rfl
    · exact Or.inl rfl
    · exact Or.inr rfl
  · rw [hb] at hc1; cases hc1; rw [hl] at hl1; cases hl1

/-- trimming invariant of the name-addr automaton at loop position `i` (`mv` = several values allowed) -/
structure HxTrI (mv : Bool) (b : Buf) (i : Nat) (pf : PFromBody) : Prop where
  ext : (pf.state = .nameOrURI ∨ pf.state = .paramName ∨ pf.state = .possibleParamName ∨ pf.state = .paramVal ∨
    pf.state = .possibleVal) → HxNL b i
  newP : (pf.state = .newParam ∨ pf.state = .newPossibleParam) → HxNLc mv 59 b i ∨ HxGap mv b i
  newV : (pf.state = .newParamVal ∨ pf.state = .newPossibleVal) → HxNLc mv 61 b i ∨ HxGap mv b i
  fixed : (pf.state = .uriFound ∨ pf.state = .nameOrURIEnd ∨ pf.state = .star) → HxNL b (pf.v.offs + pf.v.len)
  pe : (pf.state = .paramNameEnd ∨ pf.state = .possibleParamNameEnd) → HxNL b pf.pend
  ve : (pf.state = .paramValEnd ∨ pf.state = .possibleValEnd) → HxNL b pf.vend

/-- the states whose clauses do not depend on the loop position -/
abbrev HxStill (s : FBState) : Prop :=
  s ≠ .nameOrURI ∧ s ≠ .paramName ∧ s ≠ .possibleParamName ∧ s ≠ .paramVal ∧ s ≠ .possibleVal ∧
  s ≠ .newParam ∧ s ≠ .newPossibleParam ∧ s ≠ .newParamVal ∧ s ≠ .newPossibleVal

theorem HxTrI.move {mv : Bool} {b : Buf} {i j : Nat} {pf : PFromBody} (h : HxTrI mv b i pf) (hs : HxStill pf.state) :
    HxTrI mv b j pf := by
  obtain ⟨s1, s2, s3, s4, s5, s6, s7, s8, s9⟩ := hs
  refine ⟨fun hh => ?_, fun hh => ?_, fun hh => ?_, h.fixed, h.pe, h.ve⟩
  · rcases hh with hh | hh | hh | hh | hh <;> contradiction
  · rcases hh with hh | hh <;> contradiction
  · rcases hh with hh | hh <;> contradiction

/-- in the text of a token only the byte before the position is asked for -/
theorem HxTrI.of_ext {mv : Bool} {b : Buf} {j : Nat} {pf : PFromBody} (hnl : HxNL b j)
    (hs : pf.state = .nameOrURI ∨ pf.state = .paramName ∨ pf.state = .possibleParamName ∨ pf.state = .paramVal ∨
      pf.state = .possibleVal) : HxTrI mv b j pf := by
  refine ⟨fun _ => hnl, fun hh => ?_, fun hh => ?_, fun hh => ?_, fun hh => ?_, fun hh => ?_⟩ <;>
    (exfalso; rcases hs with g | g | g | g | g <;> rw [g] at hh <;> revert hh <;> decide)

theorem HxTrI.of_newP {mv : Bool} {b : Buf} {j : Nat} {pf : PFromBody} (h59 : HxNLc mv 59 b j ∨ HxGap mv b j)
    (hs : pf.state = .newParam ∨ pf.state = .newPossibleParam) : HxTrI mv b j pf := by
  refine ⟨fun hh => ?_, fun _ => h59, fun hh => ?_, fun hh => ?_, fun hh => ?_, fun hh => ?_⟩ <;>
    (exfalso; rcases hs with g | g <;> rw [g] at hh <;> revert hh <;> decide)

theorem HxTrI.of_newV {mv : Bool} {b : Buf} {j : Nat} {pf : PFromBody} (h61 : HxNLc mv 61 b j ∨ HxGap mv b j)
    (hs : pf.state = .newParamVal ∨ pf.state = .newPossibleVal) : HxTrI mv b j pf := by
  refine ⟨fun hh => ?_, fun hh => ?_, fun _ => h61, fun hh => ?_, fun hh => ?_, fun hh => ?_⟩ <;>
    (exfalso; rcases hs with g | g <;> rw [g] at hh <;> revert hh <;> decide)

/-- the object is unchanged and the byte read was not white space (a state that does not wait for `;` or `=`) -/
theorem HxTrI.next_same {mv : Bool} {b : Buf} {i : Nat} {pf : PFromBody} (h : HxTrI mv b i pf) (hnl : HxNL b (i + 1))
    (hnew : ¬ (pf.state = .newParam ∨ pf.state = .newPossibleParam ∨ pf.state = .newParamVal ∨ pf.state = .newPossibleVal)) :
    HxTrI mv b (i + 1) pf :=
  ⟨fun _ => hnl, fun hh => absurd (hh.elim .inl fun g => .inr (.inl g)) hnew,
   fun hh => absurd (hh.elim (fun g => .inr (.inr (.inl g))) fun g => .inr (.inr (.inr g))) hnew, h.fixed, h.pe, h.ve⟩

/-- the object after `name-or-URI` text ended at white space: the value ends where that text ended -/
theorem hx_tr_nuEnd {mv : Bool} {b : Buf} {i : Nat} {pf : PFromBody} (hfit : i < 65535) (hnu : pf.state = .nameOrURI)
    (hI : PnI i pf) (hT : HxTrI mv b i pf) :
    HxTrI mv b i { (pf.setURI pf.s i).extV i with state := .nameOrURIEnd } := by
  have hv := hI.lt (by rw [hnu]; decide)
  refine ⟨nofun, nofun, nofun, fun _ => ?_, nofun, nofun⟩
  show HxNL b ((pf.v.extend i).offs + (pf.v.extend i).len)
  rw [(flo_extend_end pf.v i (by omega) (by omega)).2]
  exact hT.ext (Or.inl hnu)

theorem hx_tr_nameWS {mv : Bool} {b : Buf} {i n crl : Nat} {pf : PFromBody} {c : UInt8} (hb : b[i]? = some c)
    (hl : isLWSch c = true) (hsk : skipLWS b i 0 = (n, crl, .ok))
    (hg : pf.state = .newParam ∨ pf.state = .newPossibleParam ∨ pf.state = .paramName ∨ pf.state = .possibleParamName)
    (hT : HxTrI mv b i pf) : HxTrI mv b n (naNameWS pf i) := by
  rcases hg with g | g | g | g
  · rw [naNameWS_NP false g]
    exact .of_newP (.inr (hx_gap_of_skip hb hl hsk (.inl rfl) (hT.newP (.inl g)))) (.inl g)
  · rw [naNameWS_NP true g]
    exact .of_newP (.inr (hx_gap_of_skip hb hl hsk (.inl rfl) (hT.newP (.inr g)))) (.inr g)
  · rw [naNameWS_PN false g]; exact ⟨nofun, nofun, nofun, nofun, fun _ => hT.ext (.inr (.inl g)), nofun⟩
  · rw [naNameWS_PN true g]; exact ⟨nofun, nofun, nofun, nofun, fun _ => hT.ext (.inr (.inr (.inl g))), nofun⟩

theorem hx_tr_valWS {mv : Bool} {b : Buf} {i n crl : Nat} {pf : PFromBody} {c : UInt8} (hb : b[i]? = some c)
    (hl : isLWSch c = true) (hsk : skipLWS b i 0 = (n, crl, .ok))
    (hg : pf.state = .newParamVal ∨ pf.state = .newPossibleVal ∨ pf.state = .paramVal ∨ pf.state = .possibleVal)
    (hT : HxTrI mv b i pf) : HxTrI mv b n (naValWS pf i n true) := by
  rcases hg with g | g | g | g
  · rw [naValWS_NV false g]
    exact .of_newV (.inr (hx_gap_of_skip hb hl hsk (.inr rfl) (hT.newV (.inl g)))) (.inl g)
  · rw [naValWS_NV true g]
    exact .of_newV (.inr (hx_gap_of_skip hb hl hsk (.inr rfl) (hT.newV (.inr g)))) (.inr g)
  · rw [naValWS_PV false g]; exact ⟨nofun, nofun, nofun, nofun, nofun, fun _ => hT.ext (.inr (.inr (.inr (.inl g))))⟩
  · rw [naValWS_PV true g]; exact ⟨nofun, nofun, nofun, nofun, nofun, fun _ => hT.ext (.inr (.inr (.inr (.inr g))))⟩

theorem NaTr.hxTr {h : Nat} {b : Buf} {i : Nat} {c : UInt8} {pf : PFromBody} (hfit : i < 65535) (hb : b[i]? = some c)
    (hI : PnI i pf) (hT : HxTrI (multipleValsOk h) b i pf) {i' : Nat} {st' : PFromBody}
    (t : NaTr h b i c pf (.cont i' st')) : HxTrI (multipleValsOk h) b i' st' := by
  have nl59 : c = 59 → HxNLc (multipleValsOk h) 59 b (i + 1) ∨ HxGap (multipleValsOk h) b (i + 1) :=
    fun hc => .inl (hx_nlc_succ _ _ hb (by rw [hc]; rfl) fun _ => hc)
  have nl61 : c = 61 → HxNLc (multipleValsOk h) 61 b (i + 1) ∨ HxGap (multipleValsOk h) b (i + 1) :=
    fun hc => .inl (hx_nlc_succ _ _ hb (by rw [hc]; rfl) fun _ => hc)
  cases t
  -- white space: the loop goes on behind it
  case a_lwsURI hg hl t =>
    obtain ⟨_, rfl⟩ := t.of_cont
    exact (hx_tr_nuEnd hfit hg hI hT).move (by show HxStill FBState.nameOrURIEnd; decide)
  case a_lws hg hl t | q_lws hg hl t =>
    all_goals
      obtain ⟨_, rfl⟩ := t.of_cont
      exact hT.move (by rcases hg with g | g | g <;> rw [g] <;> decide)
  case uf_lws hg hl t =>
    obtain ⟨_, rfl⟩ := t.of_cont
    exact hT.move (by rcases hg with g | g <;> rw [g] <;> decide)
  case p_lws hg hl t =>
    obtain ⟨⟨crl, hk⟩, rfl⟩ := t.of_cont
    exact hx_tr_nameWS hb hl hk hg hT
  case v_lws hg hl t =>
    obtain ⟨⟨crl, hk⟩, rfl⟩ := t.of_cont
    exact hx_tr_valWS hb hl hk hg hT
  -- `;` opens a parameter, `=` a parameter value
  case semi_uri hg hc | semi_uriEnd hg hc | uf_semi hg hc =>
    all_goals exact .of_newP (nl59 hc) (by first | exact .inl rfl | exact .inr rfl)
  case p_semi hg hc | p_semiP hg hc | pe_semi hg hc | pe_semiP hg hc | v_semi hg hc | v_semiP hg hc | ve_semi hg hc |
      ve_semiP hg hc =>
    all_goals
      refine .of_newP (nl59 hc) ?_
      rw [setFromParamVal_state]
      first | exact .inl rfl | exact .inr rfl
  case p_semiNew hg hc => exact .of_newP (nl59 hc) hg
  case p_eq hg hc | p_eqP hg hc | pe_eq hg hc | pe_eqP hg hc =>
    all_goals exact .of_newV (nl61 hc) (by first | exact .inl rfl | exact .inr rfl)
  -- a byte of a token (the closing quote of a quoted parameter value counts as one)
  case tok_init hg hl hc => exact .of_ext (hx_nl_succ hb hl) (.inl rfl)
  case q_closeVal hg hc => exact .of_ext (hx_nl_succ hb (by rw [hc]; rfl)) (.inr (.inr (.inr (.inl rfl))))
  case q_closePVal hg hc => exact .of_ext (hx_nl_succ hb (by rw [hc]; rfl)) (.inr (.inr (.inr (.inr rfl))))
  case v_tokNew hg hl hc => exact .of_ext (hx_nl_succ hb hl) (.inr (.inr (.inr (.inl rfl))))
  case v_tokNewP hg hl hc => exact .of_ext (hx_nl_succ hb hl) (.inr (.inr (.inr (.inr rfl))))
  case v_tok hg hl hc => exact .of_ext (hx_nl_succ hb hl) (.inr (.inr (.inr hg)))
  case p_tok hg hl hc =>
    exact .of_ext (hx_nl_succ hb hl) ((naParam_state pf i hg).elim (fun g => .inr (.inl g)) fun g => .inr (.inr (.inl g)))
  case a_tok hg hl hc =>
    exact hT.next_same (hx_nl_succ hb hl) (by rcases hg with g | g <;> rw [g] <;> decide)
  case a_star hg hc =>
    exact hT.next_same (hx_nl_succ hb (by rw [hc]; rfl)) (by rcases hg with g | g | g <;> rw [g] <;> decide)
  -- `,` in a header with one value only: an ordinary byte in every state
  case comma1 hg hc hm =>
    have hl : isLWSch c = false := by rw [hc]; rfl
    have hn : ∀ d, HxNLc (multipleValsOk h) d b (i + 1) :=
      fun d => hx_nlc_succ _ _ hb hl fun hh => by rw [hm] at hh; cases hh
    exact ⟨fun _ => hx_nl_succ hb hl, fun _ => .inl (hn 59), fun _ => .inl (hn 61), hT.fixed, hT.pe, hT.ve⟩
  -- the value ends with this byte (`*`, `>`)
  case star_init hg hc =>
    refine ⟨nofun, nofun, nofun, fun _ => ?_, nofun, nofun⟩
    show HxNL b ((PField.set i (i + 1)).offs + (PField.set i (i + 1)).len)
    rw [(flo_set_end i (i + 1) (by omega) (by omega)).2]
    exact hx_nl_succ hb (by rw [hc]; rfl)
  case u_close hg hc =>
    have hv := hI.lt (by rw [hg]; decide)
    refine ⟨nofun, nofun, nofun, fun _ => ?_, nofun, nofun⟩
    show HxNL b ((pf.v.extend (i + 1)).offs + (pf.v.extend (i + 1)).len)
    rw [(flo_extend_end pf.v (i + 1) (by omega) (by omega)).2]
    exact hx_nl_succ hb (by rw [hc]; rfl)
  -- the new state waits for nothing
  case lt_name | lt_init | quote_init | quote_name | tok_uriEnd | q_close | v_quote | v_quoteNew | v_quoteP |
      v_quoteNewP =>
    all_goals exact ⟨nofun, nofun, nofun, nofun, nofun, nofun⟩
  -- the object is unchanged, in a state whose clauses do not speak of the position
  case q_esc hg _ _ _ | q_tok hg _ _ =>
    all_goals exact hT.move (by rcases hg with g | g | g <;> rw [g] <;> decide)
  case u_tok hg _ _ | uf_tok hg _ _ => all_goals exact hT.move (by rw [hg]; decide)
  case other hg =>
    exact hT.move (by rcases hg with g | g | g | g | g | g | g | g | g | g | g <;> rw [g] <;> decide)

/-- the final condition on the value span `v` reported with verdict `e`: the byte before its end is not white space —
    or (the exception) the verdict is "more values", the byte at its end is the comma, and the span ends with a
    non-empty run of white space that directly follows a `;` or a `=` -/
def HxTrC (b : Buf) (e : Err) (v : PField) : Prop :=
  HxNL b (v.offs + v.len) ∨ (e = .moreValues ∧ b[v.offs + v.len]? = some 44 ∧ HxRun true b (v.offs + v.len))

def HxTrDone (b : Buf) (e : Err) (st' : PFromBody) : Prop := (e = .ok ∨ e = .moreValues) → HxTrC b e st'.v

theorem hx_trd_err {b : Buf} {e : Err} {st' : PFromBody} (h1 : e ≠ .ok) (h2 : e ≠ .moreValues) : HxTrDone b e st' := by
  intro hh; rcases hh with hh | hh
  · exact absurd hh h1
  · exact absurd hh h2

/-- `endOfHdr` with end position `e`: it suffices to know the byte before the end of the value in the object (where
    that is reported as it is) and the byte before `e` (where the value is extended to `e`) -/
theorem hx_tr_eoh (h : Nat) {b : Buf} (pf : PFromBody) (e n crl : Nat) (r : Err)
    (hpre : pf.state ≠ .init → pf.v.offs < e) (he : e < 65536)
    (hF : PnFixed pf.state → HxNL b (pf.v.offs + pf.v.len))
    (hE : PnExt pf.state → HxNL b e ∨ (r = .moreValues ∧ b[e]? = some 44 ∧ HxRun true b e)) :
    HxTrDone b (naEOH h b pf e n crl r).2.1 (naEOH h b pf e n crl r).2.2 := by
  intro hc
  obtain ⟨hv, hq⟩ := pn_eoh h b pf e n crl r hc
  rcases hq with ⟨hs, hq⟩ | ⟨hs, hq⟩ <;> rw [hq, hv]
  · exact .inl (hF hs)
  · have := hpre fun h0 => by rw [h0] at hs; revert hs; unfold PnExt; decide
    unfold HxTrC
    rw [(flo_extend_end pf.v e (by omega) he).2]
    exact hE hs

/-- what the invariant gives at an exit position `i` whose byte is white space or the comma -/
theorem hx_tr_at {h : Nat} {b : Buf} {i : Nat} {pf : PFromBody} {c : UInt8} (hb : b[i]? = some c)
    (hT : HxTrI (multipleValsOk h) b i pf)
    (hnpv : pf.state ≠ .paramNameEnd ∧ pf.state ≠ .possibleParamNameEnd ∧ pf.state ≠ .paramValEnd ∧
      pf.state ≠ .possibleValEnd)
    (r : Err) (hc : isLWSch c = true ∨ (r = .moreValues ∧ c = 44 ∧ multipleValsOk h = true)) :
    PnExt pf.state → HxNL b i ∨ (r = .moreValues ∧ b[i]? = some 44 ∧ HxRun true b i) := by
  have new : ∀ {d}, HxNLc (multipleValsOk h) d b i ∨ HxGap (multipleValsOk h) b i →
      HxNL b i ∨ (r = .moreValues ∧ b[i]? = some 44 ∧ HxRun true b i) := by
    rintro d (q | ⟨hrun, c1, hc1, hl1⟩)
    · exact .inl q.nl
    · rcases hc with hc | ⟨hr, rfl, hmv⟩
      · rw [hb] at hc1; cases hc1; rw [hc] at hl1; cases hl1
      · exact .inr ⟨hr, hb, hmv ▸ hrun⟩
  rintro (g | g | g | g | g)
  · exact .inl (hT.ext (.inl g))
  · rcases g with g | g | g | g | g | g
    · exact new (hT.newP (.inl g))
    · exact absurd g hnpv.1
    · exact new (hT.newP (.inr g))
    · exact absurd g hnpv.2.1
    · exact .inl (hT.ext (.inr (.inl g)))
    · exact .inl (hT.ext (.inr (.inr (.inl g))))
  · exact absurd g (fun g => g.elim hnpv.2.2.1 hnpv.2.2.2)
  · exact new (hT.newV g)
  · exact .inl (hT.ext (.inr (.inr (.inr g))))

/-- the exits of a white-space site at `i`; `pe` is the object that reaches the end of the header -/
theorem NaLws.hxDone {h : Nat} {b : Buf} {i : Nat} {om : Nat → Nat} {pm : PFromBody} {pk : Nat → PFromBody}
    {pe : PFromBody} {o : Nat} {e : Err} {st' : PFromBody} (t : NaLws h b i om pm pk pe (.done o e st'))
    (hfit : i < 65536) (hpre : pe.state ≠ .init → pe.v.offs < i)
    (hF : PnFixed pe.state → HxNL b (pe.v.offs + pe.v.len)) (hE : PnExt pe.state → HxNL b i) : HxTrDone b e st' := by
  cases t
  case eoh n crl hk => exact hx_tr_eoh h pe i n crl .ok hpre hfit hF fun hx => .inl (hE hx)
  all_goals exact hx_trd_err (by decide) (by decide)

/-- white space where a parameter or a value may start: the byte before it is not white space -/
theorem hx_nl_of_new {mv : Bool} {d : UInt8} {b : Buf} {i : Nat} {c : UInt8} (hb : b[i]? = some c) (hl : isLWSch c = true)
    (h : HxNLc mv d b i ∨ HxGap mv b i) : HxNL b i := by
  rcases h with q | ⟨_, c1, hc1, hl1⟩
  · exact q.nl
  · rw [hb] at hc1; cases hc1; rw [hl] at hl1; cases hl1

theorem hx_nameWS_nf {pf : PFromBody} {i : Nat}
    (hg : pf.state = .newParam ∨ pf.state = .newPossibleParam ∨ pf.state = .paramName ∨ pf.state = .possibleParamName) :
    ¬ PnFixed (naNameWS pf i).state := by
  unfold naNameWS PnFixed
  split
  · nofun
  · split
    · nofun
    · rcases hg with g | g | g | g <;> rw [g] <;> decide

theorem hx_valWS_nf {pf : PFromBody} {i n : Nat}
    (hg : pf.state = .newParamVal ∨ pf.state = .newPossibleVal ∨ pf.state = .paramVal ∨ pf.state = .possibleVal) :
    ¬ PnFixed (naValWS pf i n false).state := by
  unfold naValWS PnFixed
  split
  · rename_i g; rw [if_neg Bool.false_ne_true, g]; decide
  · rename_i g; rw [if_neg Bool.false_ne_true, g]; decide
  · nofun
  · nofun
  · rcases hg with g | g | g | g <;> rw [g] <;> decide

theorem NaTr.hxDone {h : Nat} {b : Buf} {i : Nat} {c : UInt8} {pf : PFromBody} (hfit : i < 65535) (hb : b[i]? = some c)
    (hI : PnI i pf) (hT : HxTrI (multipleValsOk h) b i pf) {o : Nat} {e : Err} {st' : PFromBody}
    (t : NaTr h b i c pf (.done o e st')) : HxTrDone b e st' := by
  have h16 : i < 65536 := by omega
  -- a white-space site that leaves the object as it is
  have plain : isLWSch c = true → (pf.state ≠ .paramNameEnd ∧ pf.state ≠ .possibleParamNameEnd ∧
      pf.state ≠ .paramValEnd ∧ pf.state ≠ .possibleValEnd) → ∀ {om pm pk},
      NaLws h b i om pm pk pf (.done o e st') → HxTrDone b e st' := fun hl hn _ _ _ t =>
    t.hxDone h16 hI.lt hT.fixed fun hx => (hx_tr_at hb hT hn .ok (.inl hl) hx).elim id fun q => nomatch q.1
  cases t
  case a_lwsURI hg hl t =>
    have hT' := hx_tr_nuEnd hfit hg hI hT
    exact t.hxDone h16 (hI.lwsURI hfit hg).lt hT'.fixed nofun
  case a_lws hg hl t | q_lws hg hl t =>
    all_goals exact plain hl (by rcases hg with g | g | g <;> rw [g] <;> decide) t
  case uf_lws hg hl t => exact plain hl (by rcases hg with g | g <;> rw [g] <;> decide) t
  case p_lws hg hl t =>
    refine t.hxDone h16 (pn_nameWS hI hfit).lt (fun hf => absurd hf (hx_nameWS_nf hg)) fun _ => ?_
    rcases hg with g | g | g | g
    · exact hx_nl_of_new hb hl (hT.newP (.inl g))
    · exact hx_nl_of_new hb hl (hT.newP (.inr g))
    · exact hT.ext (.inr (.inl g))
    · exact hT.ext (.inr (.inr (.inl g)))
  case v_lws hg hl t =>
    refine t.hxDone h16 (pn_valWS false hI hfit).lt (fun hf => absurd hf (hx_valWS_nf hg)) fun _ => ?_
    rcases hg with g | g | g | g
    · exact hx_nl_of_new hb hl (hT.newV (.inl g))
    · exact hx_nl_of_new hb hl (hT.newV (.inr g))
    · exact hT.ext (.inr (.inr (.inr (.inl g))))
    · exact hT.ext (.inr (.inr (.inr (.inr g))))
  case comma hg hc hm =>
    exact hx_tr_eoh h pf i i 1 .moreValues hI.lt h16 hT.fixed
      (hx_tr_at hb hT ⟨hg.2.2.2.2.2.1, hg.2.2.2.2.2.2.1, hg.2.2.2.2.2.2.2.1, hg.2.2.2.2.2.2.2.2⟩ .moreValues
        (.inr ⟨rfl, hc, hm⟩))
  case commaWS ev hg hc hm =>
    rcases hg with ⟨hg, rfl⟩ | ⟨hg, rfl⟩
    · exact hx_tr_eoh h pf pf.pend i 1 .moreValues (fun _ => (hI.endP hg).1) (hI.endP hg).2
        (fun hf => by exfalso; revert hf; unfold PnFixed; rcases hg with g | g <;> rw [g] <;> decide)
        fun _ => .inl (hT.pe hg)
    · exact hx_tr_eoh h pf pf.vend i 1 .moreValues (fun _ => (hI.endV hg).1) (hI.endV hg).2
        (fun hf => by exfalso; revert hf; unfold PnFixed; rcases hg with g | g <;> rw [g] <;> decide)
        fun _ => .inl (hT.ve hg)
  all_goals exact hx_trd_err (by decide) (by decide)

/-- **the last byte of a reported name-addr value `V`** (ParseNameAddrPVal started on a new object, verdict OK or "more
    values", any header kind, EVERY input within the 65,535-byte limit): the byte before the end of `V` is not white
    space (SP, HT, CR, LF) — except in ONE shape: the verdict is "more values", the byte at the end of `V` is the comma,
    and `V` ends with a non-empty run of white space that directly follows a `;` (an empty parameter: `<a>; ,<b>`) or a
    `=` (an empty parameter value: `<a>;tag= ,<b>`).  After verdict OK (last value of a line, From / To) `V` never ends
    with white space. -/
theorem hx_value_last_byte (h : Nat) (b : Buf) (o : Nat) (hfit : b.size ≤ 65535)
    {o' : Nat} {e : Err} {pf' : PFromBody} (hp : parseNameAddrPVal h b o {} = (o', e, pf'))
    (hc : e = .ok ∨ e = .moreValues) : HxTrC b e pf'.v := by
  refine parseNameAddrPVal_rule h b o {} (by decide) (fun i st => PnI i st ∧ HxTrI (multipleValsOk h) b i st)
    (fun _ e st' => HxTrDone b e st') (fun _ _ _ _ _ hq => hq) ⟨?_, ?_⟩ ?_ ?_ ?_ hp hc
  · exact ⟨fun hh => absurd rfl hh, (fun hh => by rcases hh with hh | hh | hh <;> cases hh),
      (fun hh => by rcases hh with hh | hh <;> cases hh), (fun hh => by rcases hh with hh | hh <;> cases hh)⟩
  · exact ⟨(fun hh => by rcases hh with hh | hh | hh | hh | hh <;> cases hh), (fun hh => by rcases hh with hh | hh <;> cases hh),
      (fun hh => by rcases hh with hh | hh <;> cases hh), (fun hh => by rcases hh with hh | hh | hh <;> cases hh),
      (fun hh => by rcases hh with hh | hh <;> cases hh), (fun hh => by rcases hh with hh | hh <;> cases hh)⟩
  · intro i c st i' st' hb _ hP t
    have hlt := get?_lt hb
    exact ⟨t.pn (by omega) hP.1, t.hxTr (by omega) hb hP.1 hP.2⟩
  · intro i c st o1 e1 st1 hb hP t
    have hlt := get?_lt hb
    exact t.hxDone (by omega) hb hP.1 hP.2
  · intro i st _
    exact hx_trd_err (e := Err.moreBytes) (by decide) (by decide)


/-- `HxTrC`, spelled out (`E` = the end of the span) -/
theorem HxTrC.meaning {b : Buf} {e : Err} {v : PField} (h : HxTrC b e v) :
    (∃ c, 0 < v.offs + v.len ∧ b[v.offs + v.len - 1]? = some c ∧ isLWSch c = false) ∨
    (e = .moreValues ∧ b[v.offs + v.len]? = some 44 ∧
      ∃ j c0, j + 1 < v.offs + v.len ∧ b[j]? = some c0 ∧ (c0 = 59 ∨ c0 = 61) ∧
        ∀ k, j < k → k < v.offs + v.len → ∃ c', b[k]? = some c' ∧ isLWSch c' = true) := by
  rcases h with h | ⟨h1, h2, j, c0, a1, a2, _, a4, a5⟩
  · exact Or.inl h
  · exact Or.inr ⟨h1, h2, j, c0, a1, a2, a4 rfl, a5⟩

/-- after verdict OK (the last value of a header line; From, To, …) the value never ends with white space -/
theorem hx_value_last_byte_ok (h : Nat) (b : Buf) (o : Nat) (hfit : b.size ≤ 65535)
    {o' : Nat} {pf' : PFromBody} (hp : parseNameAddrPVal h b o {} = (o', .ok, pf')) :
    ∃ c, 0 < pf'.v.offs + pf'.v.len ∧ b[pf'.v.offs + pf'.v.len - 1]? = some c ∧ isLWSch c = false := by
  rcases hx_value_last_byte h b o hfit hp (Or.inl rfl) with q | ⟨q, _⟩
  · exact q
  · cases q

/-- **the parameter span**: if reported, it ends exactly where `V` ends (`NaNest`), so the same statement holds for its
    last byte -/
theorem hx_params_last_byte (h : Nat) (b : Buf) (o : Nat) (hfit : b.size ≤ 65535) (ho : o ≤ b.size)
    {o' : Nat} {e : Err} {pf' : PFromBody} (hp : parseNameAddrPVal h b o {} = (o', e, pf'))
    (hc : e = .ok ∨ e = .moreValues) :
    (pf'.params.offs = 0 ∧ pf'.params.len = 0) ∨
    (pf'.params.offs + pf'.params.len = pf'.v.offs + pf'.v.len ∧ HxTrC b e pf'.params) := by
  have hN := (parseNameAddrPVal_nest_new h b o hfit ho hp hc).1
  rcases hN.parL with q | ⟨_, q⟩
  · exact Or.inl q
  · refine Or.inr ⟨q, ?_⟩
    have := hx_value_last_byte h b o hfit hp hc
    unfold HxTrC at this ⊢
    rw [q]; exact this

/-- the exception shapes: `;tag= ,` and `; ,` keep the blank inside `V` (`[0, 9)` resp. `[0, 5)`, last byte SP), also when
    the white space is a folded line; `;tag=1 ,`, `;p ,` and `<a> ,` do not; after OK (`;tag= ` at the end of the line)
    `V` ends with the `=` -/
example :
    (let r := parseNameAddrPVal HdrContact "<a>;tag= ,<b>\r\n\r\n".toUTF8.data 0 {}; (r.2.1, r.2.2.v, r.2.2.params)) =
      (.moreValues, ⟨0, 9⟩, ⟨4, 5⟩) ∧
    (let r := parseNameAddrPVal HdrContact "<a>; ,<b>\r\n\r\n".toUTF8.data 0 {}; (r.2.1, r.2.2.v)) = (.moreValues, ⟨0, 5⟩) ∧
    (let r := parseNameAddrPVal HdrContact "<a>;tag=\r\n ,<b>\r\n\r\n".toUTF8.data 0 {}; (r.2.1, r.2.2.v)) =
      (.moreValues, ⟨0, 11⟩) ∧
    (let r := parseNameAddrPVal HdrContact "<a>;tag=1 ,<b>\r\n\r\n".toUTF8.data 0 {}; (r.2.1, r.2.2.v, r.2.2.params)) =
      (.moreValues, ⟨0, 9⟩, ⟨4, 5⟩) ∧
    (let r := parseNameAddrPVal HdrContact "<a>;p ,<b>\r\n\r\n".toUTF8.data 0 {}; (r.2.1, r.2.2.v)) = (.moreValues, ⟨0, 5⟩) ∧
    (let r := parseNameAddrPVal HdrContact "<a> ,<b>\r\n\r\n".toUTF8.data 0 {}; (r.2.1, r.2.2.v)) = (.moreValues, ⟨0, 3⟩) ∧
    (let r := parseNameAddrPVal HdrContact "<a>;tag= \r\n\r\n".toUTF8.data 0 {}; (r.2.1, r.2.2.v)) = (.ok, ⟨0, 8⟩) := by
  decide +kernel

/-! ### (3b) trimming, message level -/

/-- the trimming statement as a property of completed values -/
theorem hx_trim_prop (b : Buf) (hfit : b.size ≤ 65535) : HxValProp2 b (fun e pf => HxTrC b e pf.v) :=
  fun h o _ _ _ hp hc => hx_value_last_byte h b o hfit hp hc

/-- **C05, trimming, message level, one call on an Init object**: after a successful ParseSIPMsg the From and To
    values (if parsed) do not end with white space; every stored Contact / identity value does not end with white
    space, except in the one shape of `HxTrC` (`; ,` / `= ,`) -/
theorem hx_msg_trim_init (b : Buf) (o : Nat) (m0 : PSIPMsg) (len kh kc : Nat)
    (hdrs cts : Option Unit) (flags : Nat) (hfit : b.size ≤ 65535) (ho : o ≤ b.size) {o' : Nat} {m' : PSIPMsg}
    (hr : parseSIPMsg b o (m0.init len (hdrs.map fun _ => Array.replicate kh {}) (cts.map fun _ => Array.replicate kc {}))
      flags = (o', .ok, m')) :
    (m'.pv.from_.parsed = true → HxNL b (m'.pv.from_.v.offs + m'.pv.from_.v.len)) ∧
    (m'.pv.to.parsed = true → HxNL b (m'.pv.to.v.offs + m'.pv.to.v.len)) ∧
    (∀ k, k < m'.pv.contacts.n → k < m'.pv.contacts.vals.size → HxTrC b .moreValues m'.pv.contacts.vals[k]!.v) ∧
    (∀ k, k < m'.pv.pais.n → k < m'.pv.pais.vals.size → HxTrC b .moreValues m'.pv.pais.vals[k]!.v) := by
  have hV := hx_msg_vals_init b o m0 len kh kc hdrs cts flags (hx_trim_prop b hfit) hfit ho hr
  have okc : ∀ v : PField, HxTrC b .ok v → HxNL b (v.offs + v.len) := by
    intro v hh
    rcases hh with q | ⟨q, _⟩
    · exact q
    · cases q
  have anyc : ∀ pf : PFromBody, HxAny (fun e pf => HxTrC b e pf.v) pf → HxTrC b .moreValues pf.v := by
    intro pf hh
    rcases hh with q | q
    · exact Or.inl (okc _ q)
    · exact q
  refine ⟨fun hp => ?_, fun hp => ?_, fun k h1 h2 => anyc _ (hV.ct k (Nat.zero_le _) h1 h2),
    fun k h1 h2 => anyc _ (hV.pa k (Nat.zero_le _) h1 h2)⟩
  · rcases hV.from_ with q | ⟨_, q⟩
    · rw [q] at hp; cases hp
    · exact okc _ q
  · rcases hV.to with q | ⟨_, q⟩
    · rw [q] at hp; cases hp
    · exact okc _ q

/-- trimming at message level under every chunk schedule from Init (the buffer is the one of the call that completed
    the message) -/
theorem hx_msg_trim_schedule_init (flags : Nat) (o : Nat) (m0 : PSIPMsg) (len kh kc : Nat)
    (hdrs cts : Option Unit) (l : List Buf) (hg : Growing l) (hfit : ∀ x ∈ l, x.size ≤ 65535) (hne : l ≠ [])
    (ho : ∀ b ∈ l, o ≤ b.size) {o' : Nat} {m' : PSIPMsg}
    (hr : resumeRun (C01.msgP flags) o
      (m0.init len (hdrs.map fun _ => Array.replicate kh {}) (cts.map fun _ => Array.replicate kc {})) l = (o', .ok, m')) :
    ∃ b ∈ l,
    (m'.pv.from_.parsed = true → HxNL b (m'.pv.from_.v.offs + m'.pv.from_.v.len)) ∧
    (m'.pv.to.parsed = true → HxNL b (m'.pv.to.v.offs + m'.pv.to.v.len)) ∧
    (∀ k, k < m'.pv.contacts.n → k < m'.pv.contacts.vals.size → HxTrC b .moreValues m'.pv.contacts.vals[k]!.v) ∧
    (∀ k, k < m'.pv.pais.n → k < m'.pv.pais.vals.size → HxTrC b .moreValues m'.pv.pais.vals[k]!.v) := by
  obtain ⟨b, hb, h⟩ := flo_schedule_init flags o m0 len kh kc hdrs cts l hg hfit hne ho hr
  exact ⟨b, hb, hx_msg_trim_init b o m0 len kh kc hdrs cts flags (hfit b hb) (ho b hb) h⟩


/-- test message: a Contact line with an empty parameter value before the comma -/
def hxTrimMsg : Buf := "REGISTER sip:a@b SIP/2.0\r\nContact: <sip:a@b>;x= , <sip:c@d>\r\nCSeq: 1 REGISTER\r\n\r\n".toUTF8.data

/-- test (message level): the Contact line `<sip:a@b>;x= , <sip:c@d>` is accepted; the first stored value is `[35, 48)`
    and its last byte (offset 47) is the blank after `=` (offset 46), the comma stands at 48 — the exception shape; the
    second value `[50, 59)` ends with `>` -/
example :
    (parseSIPMsg hxTrimMsg 0 (({} : PSIPMsg).init 0 ((some ()).map fun _ => Array.replicate 4 {})
      ((some ()).map fun _ => Array.replicate 4 {})) 0).2.1 = .ok ∧
    ((parseSIPMsg hxTrimMsg 0 (({} : PSIPMsg).init 0 ((some ()).map fun _ => Array.replicate 4 {})
      ((some ()).map fun _ => Array.replicate 4 {})) 0).2.2.pv.contacts.vals.toList.map
        (fun f => (f.v.offs, f.v.len))).take 2 = [(35, 13), (50, 9)] ∧
    hxTrimMsg[46]? = some 61 ∧ hxTrimMsg[47]? = some 32 ∧ hxTrimMsg[48]? = some 44 ∧ hxTrimMsg[58]? = some 62 := by
  decide +kernel

end Sipsp
