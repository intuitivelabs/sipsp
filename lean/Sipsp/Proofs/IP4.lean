/-
  Sipsp.Proofs.IP4 — IP4Prefix / ContainsIP4: soundness, completeness, exact address bytes, stop indications.
-/
import Sipsp.Model.Sig
import Sipsp.Proofs.Num
import Sipsp.Proofs.Buf

namespace Sipsp

/-! ### specification -/

/-- one group: one to three digits, value at most 255 -/
def IsGroup (g : List UInt8) : Prop := 1 ≤ g.length ∧ g.length ≤ 3 ∧ AllDigits g ∧ decOf g ≤ 255

/-- four dot-separated groups with the given values -/
def IsIP4 (l : List UInt8) (a0 a1 a2 a3 : Nat) : Prop :=
  ∃ g0 g1 g2 g3 : List UInt8, l = g0 ++ 46 :: (g1 ++ 46 :: (g2 ++ 46 :: g3)) ∧
    IsGroup g0 ∧ IsGroup g1 ∧ IsGroup g2 ∧ IsGroup g3 ∧
    decOf g0 = a0 ∧ decOf g1 = a1 ∧ decOf g2 = a2 ∧ decOf g3 = a3

/-! ### the scanner over a list -/

/-- the loop of IP4Prefix (`ip4Loop` of the model, ip_prefix.go) as a recursion over the list of the bytes still to be
    read, with the number `n` of bytes read in place of the two offsets (`ip4Loop_eq`): the form the inductions run on -/
def ip4L : List UInt8 → Nat → IP4St → Bool × Nat × Err × Array Nat
  | [], n, st => if st.pos < 3 || st.digits == 0 then (false, n, .moreBytes, st.ip) else (true, n, .ok, st.ip)
  | c :: cs, n, st =>
    if isDigit c then
      if st.digits + 1 > 3 || st.ip[st.pos]! * 10 + (c.toNat - 48) > 255 then
        if st.pos < 3 then (false, n, .bad, st.ip) else (true, n, .moreValues, st.ip)
      else ip4L cs (n + 1) { st with digits := st.digits + 1,
                                      ip := st.ip.set! st.pos (st.ip[st.pos]! * 10 + (c.toNat - 48)) }
    else if c == 46 then
      if st.digits == 0 then (false, n, .bad, st.ip)
      else if st.pos + 1 > 3 then (true, n, .badChar, st.ip)
      else ip4L cs (n + 1) { st with pos := st.pos + 1, digits := 0, ip := st.ip.set! (st.pos + 1) 0 }
    else if st.pos < 3 || st.digits == 0 then (false, n, .bad, st.ip) else (true, n, .badChar, st.ip)

theorem ip4Loop_eq (b : Buf) (start o : Nat) (st : IP4St) (h : start ≤ o) :
    ip4Loop b start o st = ip4L (b.toList.drop o) (o - start) st := by
  fun_induction ip4Loop b start o st with
  | case1 o st hb hc => rw [drop_nil_of_get? hb, ip4L, if_pos hc]
  | case2 o st hb hc => rw [drop_nil_of_get? hb, ip4L, if_neg hc]
  | case3 o st c hb hd cur hov hp => rw [drop_cons_of_get? hb, ip4L, if_pos hd, if_pos hov, if_pos hp]
  | case4 o st c hb hd cur hov hp => rw [drop_cons_of_get? hb, ip4L, if_pos hd, if_pos hov, if_neg hp]
  | case5 o st c hb hd cur hov ih =>
    rw [drop_cons_of_get? hb, ip4L, if_pos hd, if_neg hov, ih (by omega)]
    have : o + 1 - start = o - start + 1 := by omega
    rw [this]
  | case6 o st c hb hd h46 hz => rw [drop_cons_of_get? hb, ip4L, if_neg hd, if_pos h46, if_pos hz]
  | case7 o st c hb hd h46 hz hp => rw [drop_cons_of_get? hb, ip4L, if_neg hd, if_pos h46, if_neg hz, if_pos hp]
  | case8 o st c hb hd h46 hz hp ih =>
    rw [drop_cons_of_get? hb, ip4L, if_neg hd, if_pos h46, if_neg hz, if_neg hp, ih (by omega)]
    have : o + 1 - start = o - start + 1 := by omega
    rw [this]
  | case9 o st c hb hd h46 hc => rw [drop_cons_of_get? hb, ip4L, if_neg hd, if_neg h46, if_pos hc]
  | case10 o st c hb hd h46 hc => rw [drop_cons_of_get? hb, ip4L, if_neg hd, if_neg h46, if_neg hc]

/-! ### what the scanner state stands for -/

/-- the text of completed groups (each followed by a dot) and the digits of the group being read -/
def ipText : List (List UInt8) → List UInt8 → List UInt8
  | [], cur => cur
  | g :: gs, cur => g ++ 46 :: ipText gs cur

theorem ipText_snoc (gs : List (List UInt8)) (cur : List UInt8) (c : UInt8) :
    ipText gs cur ++ [c] = ipText gs (cur ++ [c]) := by
  induction gs with
  | nil => rfl
  | cons g gs ih => simp only [ipText, List.append_assoc, List.cons_append, ih]

theorem ipText_close (gs : List (List UInt8)) (cur : List UInt8) :
    ipText gs cur ++ [46] = ipText (gs ++ [cur]) [] := by
  induction gs with
  | nil => simp [ipText]
  | cons g gs ih => simp only [ipText, List.append_assoc, List.cons_append, ih]

/-- the state stands for completed groups `gs` and current digits `cur` -/
def Ip4Rep (st : IP4St) (gs : List (List UInt8)) (cur : List UInt8) : Prop :=
  st.pos = gs.length ∧ st.digits = cur.length ∧ st.ip.size = 4 ∧ gs.length ≤ 3 ∧
  (∀ i, i < gs.length → st.ip[i]! = decOf gs[i]!) ∧ st.ip[gs.length]! = decOf cur ∧
  (∀ g ∈ gs, IsGroup g) ∧ AllDigits cur ∧ cur.length ≤ 3 ∧ decOf cur ≤ 255

theorem AllDigits_nil : AllDigits [] := fun c hc => by cases hc

theorem Ip4Rep_init : Ip4Rep {} [] [] := by
  refine ⟨rfl, rfl, rfl, by decide, (fun i hi => by cases hi), ?_, (fun g hg => by cases hg),
    AllDigits_nil, by decide, by rw [decOf_nil]; omega⟩
  rw [decOf_nil]; rfl

/-- a digit that is accepted extends the current group -/
theorem Ip4Rep_digit {st : IP4St} {gs : List (List UInt8)} {cur : List UInt8} (h : Ip4Rep st gs cur) (c : UInt8)
    (hd : IsDigitB c) (hov : ¬ (st.digits + 1 > 3 ∨ st.ip[st.pos]! * 10 + (c.toNat - 48) > 255)) :
    Ip4Rep { st with digits := st.digits + 1, ip := st.ip.set! st.pos (st.ip[st.pos]! * 10 + (c.toNat - 48)) }
      gs (cur ++ [c]) := by
  obtain ⟨h1, h2, h3, h4, h5, h6, h7, h8, h9, h10⟩ := h
  have hv : st.ip[st.pos]! * 10 + (c.toNat - 48) = decOf (cur ++ [c]) := by
    rw [decOf_snoc, dval_def, h1, h6]
  refine ⟨h1, by simp [h2], by simp [h3], h4, ?_, ?_, h7, ?_, ?_, ?_⟩
  · intro i hi
    show (st.ip.set! st.pos _)[i]! = _
    rw [set!_get_ne _ _ _ _ (by omega)]; exact h5 i hi
  · show (st.ip.set! st.pos _)[gs.length]! = _
    rw [← h1, set!_get_same _ _ _ (by omega), hv]
  · intro x hx
    rcases List.mem_append.1 hx with hx | hx
    · exact h8 x hx
    · simp only [List.mem_singleton] at hx; subst hx; exact hd
  · simp only [List.length_append, List.length_singleton]; omega
  · rw [← hv]; omega

/-- a dot that is accepted closes the current group -/
theorem Ip4Rep_dot {st : IP4St} {gs : List (List UInt8)} {cur : List UInt8} (h : Ip4Rep st gs cur)
    (hz : st.digits ≠ 0) (hp : ¬ st.pos + 1 > 3) :
    Ip4Rep { st with pos := st.pos + 1, digits := 0, ip := st.ip.set! (st.pos + 1) 0 } (gs ++ [cur]) [] := by
  obtain ⟨h1, h2, h3, h4, h5, h6, h7, h8, h9, h10⟩ := h
  refine ⟨by simp [h1], rfl, by simp [h3], by simp; omega, ?_, ?_, ?_, AllDigits_nil, by decide, by rw [decOf_nil]; omega⟩
  · intro i hi
    simp only [List.length_append, List.length_singleton] at hi
    show (st.ip.set! (st.pos + 1) 0)[i]! = _
    rw [set!_get_ne _ _ _ _ (by omega)]
    by_cases hlt : i < gs.length
    · rw [h5 i hlt]
      simp [List.getElem!_eq_getElem?_getD, List.getElem?_append_left hlt]
    · have : i = gs.length := by omega
      subst this
      rw [h6]
      simp
  · show (st.ip.set! (st.pos + 1) 0)[(gs ++ [cur]).length]! = _
    simp only [List.length_append, List.length_singleton]
    rw [← h1, set!_get_same _ _ _ (by omega), decOf_nil]
  · intro g hg
    rcases List.mem_append.1 hg with hg | hg
    · exact h7 g hg
    · simp only [List.mem_singleton] at hg; subst hg
      exact ⟨by omega, h9, h8, h10⟩

/-- with three completed groups and at least one digit, the text read so far is an address -/
theorem Ip4Rep_full {st : IP4St} {gs : List (List UInt8)} {cur : List UInt8} (h : Ip4Rep st gs cur)
    (hp : ¬ st.pos < 3) (hz : st.digits ≠ 0) :
    IsIP4 (ipText gs cur) st.ip[0]! st.ip[1]! st.ip[2]! st.ip[3]! := by
  obtain ⟨h1, h2, h3, h4, h5, h6, h7, h8, h9, h10⟩ := h
  have hl : gs.length = 3 := by omega
  match gs, hl with
  | [g0, g1, g2], _ =>
    refine ⟨g0, g1, g2, cur, rfl, h7 g0 (by simp), h7 g1 (by simp), h7 g2 (by simp), ⟨by omega, h9, h8, h10⟩, ?_, ?_, ?_, ?_⟩
    · exact (h5 0 (by simp)).symm
    · exact (h5 1 (by simp)).symm
    · exact (h5 2 (by simp)).symm
    · exact h6.symm

/-! ### soundness of the prefix scanner, with the meaning of its verdicts -/

/-- what a positive answer of the scanner means: it consumed `k` more bytes, the text read is an address with the
    returned bytes, and the verdict says what follows -/
def IP4Ans (w l : List UInt8) (n : Nat) (r : Bool × Nat × Err × Array Nat) : Prop :=
  r.1 = true → ∃ k, r.2.1 = n + k ∧ k ≤ l.length ∧
    IsIP4 (w ++ l.take k) r.2.2.2[0]! r.2.2.2[1]! r.2.2.2[2]! r.2.2.2[3]! ∧
    (r.2.2.1 = .ok ∨ r.2.2.1 = .moreValues ∨ r.2.2.1 = .badChar) ∧
    (r.2.2.1 = .ok → k = l.length) ∧
    (r.2.2.1 = .moreValues → ∃ c, l[k]? = some c ∧ IsDigitB c) ∧
    (r.2.2.1 = .badChar → ∃ c, l[k]? = some c ∧ ¬ IsDigitB c)

/-- an answer for the text after the byte `c` is an answer for the text from `c` on -/
theorem IP4Ans.cons {w cs : List UInt8} {c : UInt8} {n : Nat} {r : Bool × Nat × Err × Array Nat}
    (h : IP4Ans (w ++ [c]) cs (n + 1) r) : IP4Ans w (c :: cs) n r := by
  intro ht
  obtain ⟨k, e1, e2, e3, e4, e5, e6, e7⟩ := h ht
  refine ⟨k + 1, by rw [e1]; omega, by simp only [List.length_cons]; omega, ?_, e4, ?_, ?_, ?_⟩
  · simpa [List.take_succ_cons, List.append_assoc] using e3
  · intro hh; rw [e5 hh]; rfl
  · intro hh; simpa using e6 hh
  · intro hh; simpa using e7 hh

theorem ip4L_sound (l : List UInt8) (n : Nat) (st : IP4St) (gs : List (List UInt8)) (cur : List UInt8)
    (h : Ip4Rep st gs cur) : IP4Ans (ipText gs cur) l n (ip4L l n st) := by
  induction l generalizing n st gs cur with
  | nil =>
    rw [ip4L]
    split
    · intro hh; cases hh
    · rename_i hc
      simp only [Bool.or_eq_true, decide_eq_true_eq, beq_iff_eq, not_or] at hc
      intro _
      refine ⟨0, rfl, Nat.le_refl _, ?_, Or.inl rfl, fun _ => rfl, (fun hh => by cases hh), (fun hh => by cases hh)⟩
      simp only [List.take_nil, List.append_nil]
      exact Ip4Rep_full h hc.1 hc.2
  | cons c cs ih =>
    rw [ip4L]
    by_cases hd : isDigit c = true
    · rw [if_pos hd]
      have hdB := (isDigit_iff c).1 hd
      by_cases hov : (st.digits + 1 > 3 || st.ip[st.pos]! * 10 + (c.toNat - 48) > 255) = true
      · rw [if_pos hov]
        split
        · intro hh; cases hh
        · rename_i hp
          intro _
          have hz : st.digits ≠ 0 := by
            intro h0
            simp only [Bool.or_eq_true, decide_eq_true_eq] at hov
            obtain ⟨h1, h2, _, _, _, h6, _, _, _, _⟩ := h
            have hcur : cur = [] := List.eq_nil_of_length_eq_zero (by omega)
            subst hcur
            rw [h1, h6, decOf_nil] at hov
            have := dval_le c hdB
            rw [dval_def] at this
            omega
          refine ⟨0, rfl, Nat.zero_le _, ?_, Or.inr (Or.inl rfl), (fun hh => by cases hh),
            fun _ => ⟨c, rfl, hdB⟩, (fun hh => by cases hh)⟩
          simp only [List.take_zero, List.append_nil]
          exact Ip4Rep_full h hp hz
      · rw [if_neg hov]
        have hov' : ¬ (st.digits + 1 > 3 ∨ st.ip[st.pos]! * 10 + (c.toNat - 48) > 255) := by
          simpa using hov
        have := ih (n + 1) _ gs (cur ++ [c]) (Ip4Rep_digit h c hdB hov')
        rw [← ipText_snoc] at this
        exact this.cons
    · rw [if_neg hd]
      have hdB : ¬ IsDigitB c := fun hh => hd ((isDigit_iff c).2 hh)
      by_cases h46 : (c == 46) = true
      · rw [if_pos h46]
        split
        · intro hh; cases hh
        · rename_i hz
          have hz' : st.digits ≠ 0 := by simpa using hz
          split
          · rename_i hp
            intro _
            refine ⟨0, rfl, Nat.zero_le _, ?_, Or.inr (Or.inr rfl), (fun hh => by cases hh), (fun hh => by cases hh),
              fun _ => ⟨c, rfl, hdB⟩⟩
            simp only [List.take_zero, List.append_nil]
            exact Ip4Rep_full h (by omega) hz'
          · rename_i hp
            have := ih (n + 1) _ (gs ++ [cur]) [] (Ip4Rep_dot h hz' hp)
            rw [← ipText_close, ← show c = 46 by simpa using h46] at this
            exact this.cons
      · rw [if_neg h46]
        split
        · intro hh; cases hh
        · rename_i hc
          simp only [Bool.or_eq_true, decide_eq_true_eq, beq_iff_eq, not_or] at hc
          intro _
          refine ⟨0, rfl, Nat.zero_le _, ?_, Or.inr (Or.inr rfl), (fun hh => by cases hh), (fun hh => by cases hh),
            fun _ => ⟨c, rfl, hdB⟩⟩
          simp only [List.take_zero, List.append_nil]
          exact Ip4Rep_full h hc.1 hc.2

/-! ### completeness of the prefix scanner -/

/-- digits that keep the current group valid are consumed -/
theorem ip4L_group (g rest : List UInt8) (n : Nat) (st : IP4St) (gs : List (List UInt8)) (cur : List UInt8)
    (h : Ip4Rep st gs cur) (hg : AllDigits g) (hl : (cur ++ g).length ≤ 3) (hv : decOf (cur ++ g) ≤ 255) :
    ∃ st', ip4L (g ++ rest) n st = ip4L rest (n + g.length) st' ∧ Ip4Rep st' gs (cur ++ g) := by
  induction g generalizing n st cur with
  | nil => exact ⟨st, by simp, by simpa using h⟩
  | cons c g ih =>
    have hc : IsDigitB c := hg c List.mem_cons_self
    have hg' : AllDigits g := fun x hx => hg x (List.mem_cons_of_mem _ hx)
    have hsplit : cur ++ c :: g = (cur ++ [c]) ++ g := by simp
    have hh := h
    obtain ⟨h1, h2, _, _, _, h6, _, _, _, _⟩ := hh
    have hov : ¬ (st.digits + 1 > 3 ∨ st.ip[st.pos]! * 10 + (c.toNat - 48) > 255) := by
      have hlen : cur.length + 1 ≤ 3 := by
        have : (cur ++ c :: g).length = cur.length + 1 + g.length := by simp; omega
        omega
      have hval : decOf (cur ++ [c]) ≤ 255 := by
        have : decOf (cur ++ c :: g) = decFrom (decOf (cur ++ [c])) g := by
          rw [hsplit]; unfold decOf; rw [decFrom_append]
        have hge := decFrom_ge (decOf (cur ++ [c])) g
        omega
      rw [decOf_snoc, dval_def] at hval
      rw [h1, h6, h2]
      omega
    have hR := Ip4Rep_digit h c hc hov
    obtain ⟨st', e1, e2⟩ := ih (n + 1) _ (cur ++ [c]) hR hg' (by rw [← hsplit]; exact hl) (by rw [← hsplit]; exact hv)
    refine ⟨st', ?_, by rw [hsplit]; exact e2⟩
    rw [List.cons_append, ip4L, if_pos ((isDigit_iff c).2 hc)]
    have : ¬ ((st.digits + 1 > 3 || st.ip[st.pos]! * 10 + (c.toNat - 48) > 255) = true) := by simpa using hov
    rw [if_neg this, e1]
    simp only [List.length_cons]
    have : n + 1 + g.length = n + (g.length + 1) := by omega
    rw [this]

/-- once three groups and a digit have been read the answer is positive, whatever follows -/
theorem ip4L_full (l : List UInt8) (n : Nat) (st : IP4St) (gs : List (List UInt8)) (cur : List UInt8)
    (h : Ip4Rep st gs cur) (h3 : gs.length = 3) (hc : cur ≠ []) : (ip4L l n st).1 = true := by
  have hp : ¬ st.pos < 3 := by rw [h.1]; omega
  have hz : st.digits ≠ 0 := by
    rw [h.2.1]; intro h0; exact hc (List.eq_nil_of_length_eq_zero h0)
  induction l generalizing n st cur with
  | nil =>
    rw [ip4L]
    have : ¬ ((decide (st.pos < 3) || st.digits == 0) = true) := by simp [hp, hz]
    rw [if_neg this]
  | cons c cs ih =>
    rw [ip4L]
    split
    · split
      · first | rfl | (rw [if_neg hp])
      · rename_i hd hov
        have hov' : ¬ (st.digits + 1 > 3 ∨ st.ip[st.pos]! * 10 + (c.toNat - 48) > 255) := by simpa using hov
        have hR := Ip4Rep_digit h c ((isDigit_iff c).1 hd) hov'
        exact ih (n + 1) _ (cur ++ [c]) hR (by simp) (by simpa using hp) (by simp)
    · split
      · have : ¬ ((st.digits == 0) = true) := by simpa using hz
        rw [if_neg this, if_pos (by omega)]
      · have : ¬ ((decide (st.pos < 3) || st.digits == 0) = true) := by simp [hp, hz]
        rw [if_neg this]

theorem ip4L_dot (rest : List UInt8) (n : Nat) (st : IP4St) (gs : List (List UInt8)) (cur : List UInt8)
    (h : Ip4Rep st gs cur) (hc : cur ≠ []) (hl : gs.length < 3) :
    ∃ st', ip4L (46 :: rest) n st = ip4L rest (n + 1) st' ∧ Ip4Rep st' (gs ++ [cur]) [] := by
  have hz : st.digits ≠ 0 := by
    rw [h.2.1]; intro h0; exact hc (List.eq_nil_of_length_eq_zero h0)
  have hp : ¬ st.pos + 1 > 3 := by rw [h.1]; omega
  refine ⟨_, ?_, Ip4Rep_dot h hz hp⟩
  rw [ip4L]
  have h1 : ¬ (isDigit (46 : UInt8) = true) := by decide
  have h2 : ((46 : UInt8) == 46) = true := by decide
  have h3 : ¬ ((st.digits == 0) = true) := by simpa using hz
  rw [if_neg h1, if_pos h2, if_neg h3, if_neg hp]

theorem IsGroup.ne_nil {g : List UInt8} (h : IsGroup g) : g ≠ [] := by
  intro h0; subst h0; have := h.1; simp at this

/-- the scanner reads through a whole group sequence: after it, it is in a state that stands for three completed
    groups and a non-empty current group, at offset `l.length` -/
theorem ip4L_through (l t : List UInt8) (a0 a1 a2 a3 : Nat) (h : IsIP4 l a0 a1 a2 a3) :
    ∃ st' gs cur, ip4L (l ++ t) 0 {} = ip4L t l.length st' ∧ Ip4Rep st' gs cur ∧ gs.length = 3 ∧ cur ≠ [] := by
  obtain ⟨g0, g1, g2, g3, rfl, h0, h1, h2, h3, _⟩ := h
  simp only [List.append_assoc, List.cons_append]
  obtain ⟨s1, e1, r1⟩ := ip4L_group g0 (46 :: (g1 ++ 46 :: (g2 ++ 46 :: (g3 ++ t)))) 0 {} [] [] Ip4Rep_init
    h0.2.2.1 (by simpa using h0.2.1) (by simpa using h0.2.2.2)
  rw [e1]
  obtain ⟨s2, e2, r2⟩ := ip4L_dot (g1 ++ 46 :: (g2 ++ 46 :: (g3 ++ t))) _ s1 [] ([] ++ g0) r1
    (by simpa using h0.ne_nil) (by decide)
  rw [e2]
  obtain ⟨s3, e3, r3⟩ := ip4L_group g1 (46 :: (g2 ++ 46 :: (g3 ++ t))) _ s2 _ [] r2
    h1.2.2.1 (by simpa using h1.2.1) (by simpa using h1.2.2.2)
  rw [e3]
  obtain ⟨s4, e4, r4⟩ := ip4L_dot (g2 ++ 46 :: (g3 ++ t)) _ s3 _ ([] ++ g1) r3 (by simpa using h1.ne_nil) (by simp)
  rw [e4]
  obtain ⟨s5, e5, r5⟩ := ip4L_group g2 (46 :: (g3 ++ t)) _ s4 _ [] r4
    h2.2.2.1 (by simpa using h2.2.1) (by simpa using h2.2.2.2)
  rw [e5]
  obtain ⟨s6, e6, r6⟩ := ip4L_dot (g3 ++ t) _ s5 _ ([] ++ g2) r5 (by simpa using h2.ne_nil) (by simp)
  rw [e6]
  obtain ⟨s7, e7, r7⟩ := ip4L_group g3 t _ s6 _ [] r6
    h3.2.2.1 (by simpa using h3.2.1) (by simpa using h3.2.2.2)
  rw [e7]
  refine ⟨s7, _, _, ?_, r7, by simp, by simpa using h3.ne_nil⟩
  congr 1
  simp only [List.length_append, List.length_cons]
  omega

/-- **completeness**: a text that starts with an address gets a positive answer -/
theorem ip4L_complete (l t : List UInt8) (a0 a1 a2 a3 : Nat) (h : IsIP4 l a0 a1 a2 a3) :
    (ip4L (l ++ t) 0 {}).1 = true := by
  obtain ⟨st', gs, cur, e, r, h3, hc⟩ := ip4L_through l t a0 a1 a2 a3 h
  rw [e]
  exact ip4L_full t _ st' gs cur r h3 hc

/-! ### IP4Prefix on buffers -/

theorem ip4PrefixAt_eq (b : Buf) (p : Nat) : ip4PrefixAt b p = ip4L (b.toList.drop p) 0 {} := by
  unfold ip4PrefixAt
  rw [ip4Loop_eq b p p {} (Nat.le_refl _), Nat.sub_self]

/-- **IP4Prefix, soundness and meaning of the verdict**: a positive answer at offset `p` with length `n` means
    that the `n` bytes at `p` are four dot-separated groups (1–3 digits, ≤ 255) whose values are the returned
    address bytes; the verdict says what follows (end of input / a digit / another byte) -/
theorem ip4PrefixAt_sound (b : Buf) (p : Nat) {n : Nat} {e : Err} {ip : Array Nat}
    (h : ip4PrefixAt b p = (true, n, e, ip)) :
    n ≤ (b.toList.drop p).length ∧ IsIP4 ((b.toList.drop p).take n) ip[0]! ip[1]! ip[2]! ip[3]! ∧
    (e = .ok ∨ e = .moreValues ∨ e = .badChar) ∧
    (e = .ok → n = (b.toList.drop p).length) ∧
    (e = .moreValues → ∃ c, (b.toList.drop p)[n]? = some c ∧ IsDigitB c) ∧
    (e = .badChar → ∃ c, (b.toList.drop p)[n]? = some c ∧ ¬ IsDigitB c) := by
  rw [ip4PrefixAt_eq] at h
  have := ip4L_sound (b.toList.drop p) 0 {} [] [] Ip4Rep_init
  rw [h] at this
  obtain ⟨k, e1, e2, e3, e4, e5, e6, e7⟩ := this rfl
  simp only [Nat.zero_add] at e1
  subst e1
  simp only [ipText, List.nil_append] at e3
  exact ⟨e2, e3, e4, e5, e6, e7⟩

/-- the same for `IP4Prefix` (offset 0), in terms of the buffer -/
theorem ip4Prefix_sound (b : Buf) {n : Nat} {e : Err} {ip : Array Nat} (h : ip4Prefix b = (true, n, e, ip)) :
    n ≤ b.size ∧ IsIP4 (b.toList.take n) ip[0]! ip[1]! ip[2]! ip[3]! ∧
    (e = .ok ∨ e = .moreValues ∨ e = .badChar) ∧
    (e = .ok → n = b.size) ∧
    (e = .moreValues → ∃ c, b[n]? = some c ∧ IsDigitB c) ∧
    (e = .badChar → ∃ c, b[n]? = some c ∧ ¬ IsDigitB c) := by
  simpa using ip4PrefixAt_sound b 0 h

/-- **IP4Prefix, completeness**: if the text at `p` starts with such a group sequence, the answer is positive -/
theorem ip4PrefixAt_complete (b : Buf) (p : Nat) (l t : List UInt8) (a0 a1 a2 a3 : Nat)
    (h : IsIP4 l a0 a1 a2 a3) (hp : b.toList.drop p = l ++ t) : (ip4PrefixAt b p).1 = true := by
  rw [ip4PrefixAt_eq, hp]
  exact ip4L_complete l t a0 a1 a2 a3 h

/-- after a negative answer no prefix of the text at `p` is an address (the contrapositive of completeness) -/
theorem ip4PrefixAt_false (b : Buf) (p : Nat) (h : (ip4PrefixAt b p).1 = false) :
    ¬ ∃ l t a0 a1 a2 a3, IsIP4 l a0 a1 a2 a3 ∧ b.toList.drop p = l ++ t := by
  rintro ⟨l, t, a0, a1, a2, a3, h1, h2⟩
  rw [ip4PrefixAt_complete b p l t a0 a1 a2 a3 h1 h2] at h
  cases h

/-! ### ContainsIP4 -/

theorem ip4_not_acc {b : Buf} {o : Nat} (h : ∀ n e ip, ip4PrefixAt b o ≠ (true, n, e, ip)) :
    (ip4PrefixAt b o).1 = false := by
  rcases hq : ip4PrefixAt b o with ⟨ok, n, e, ip⟩
  cases ok with
  | false => rfl
  | true => exact absurd hq (h n e ip)

/-- the inner loop returns the FIRST offset in its range at which IP4Prefix accepts -/
theorem containsIP4Try_some (b : Buf) (o d : Nat) {r : Nat × Nat × Array Nat}
    (h : containsIP4Try b o d = some r) :
    o ≤ r.1 ∧ r.1 < d ∧ (∃ e, ip4PrefixAt b r.1 = (true, r.2.1, e, r.2.2)) ∧
    ∀ p, o ≤ p → p < r.1 → (ip4PrefixAt b p).1 = false := by
  fun_induction containsIP4Try b o d with
  | case1 o hlt nxt e ip hp => cases h; exact ⟨Nat.le_refl _, hlt, ⟨e, hp⟩, fun p h1 h2 => absurd h2 (Nat.not_lt.2 h1)⟩
  | case2 o hlt hne ih =>
    obtain ⟨h1, h2, h3, h4⟩ := ih h
    refine ⟨by omega, h2, h3, fun p hp1 hp2 => ?_⟩
    rcases Nat.eq_or_lt_of_le hp1 with rfl | hp1'
    · exact ip4_not_acc hne
    · exact h4 p (by omega) hp2
  | case3 o hlt => cases h

theorem containsIP4Try_none (b : Buf) (o d : Nat) (h : containsIP4Try b o d = none) :
    ∀ p, o ≤ p → p < d → (ip4PrefixAt b p).1 = false := by
  fun_induction containsIP4Try b o d with
  | case1 o hlt nxt e ip hp => cases h
  | case2 o hlt hne ih =>
    intro p h1 h2
    rcases Nat.eq_or_lt_of_le h1 with rfl | h1'
    · exact ip4_not_acc hne
    · exact ih h p (by omega) h2
  | case3 o hlt => intro p h1 h2; omega

/-- **ContainsIP4, soundness**: the span reported is accepted by IP4Prefix with exactly the returned length and
    address bytes (hence, by `ip4PrefixAt_sound`, it is a group sequence with those values) -/
theorem containsIP4Loop_sound (b : Buf) (i : Nat) {o n : Nat} {ip : Array Nat}
    (h : containsIP4Loop b i = some (o, n, ip)) : ∃ e, ip4PrefixAt b o = (true, n, e, ip) := by
  fun_induction containsIP4Loop b i with
  | case1 i hlt hidx => cases h
  | case2 i hlt dOffs hidx offs r htry =>
    cases h
    exact (containsIP4Try_some b offs dOffs htry).2.2.1
  | case3 i hlt dOffs hidx offs htry hg ih => exact ih h
  | case4 i hlt dOffs hidx offs htry hg => cases h
  | case5 i hlt => cases h

/-- where the first dot of an address at `p` is, and that only digits precede it -/
theorem IsIP4.first_dot {l t : List UInt8} {a0 a1 a2 a3 : Nat} (h : IsIP4 l a0 a1 a2 a3) (b : Buf) (p : Nat)
    (hp : b.toList.drop p = l ++ t) :
    ∃ k, 1 ≤ k ∧ k ≤ 3 ∧ b[p + k]? = some 46 ∧ ∀ j, j < k → ∃ c, b[p + j]? = some c ∧ IsDigitB c := by
  obtain ⟨g0, g1, g2, g3, rfl, h0, _⟩ := h
  refine ⟨g0.length, h0.1, h0.2.1, ?_, ?_⟩
  · rw [← drop_get?, hp]
    simp
  · intro j hj
    rw [← drop_get?, hp]
    have : (g0 ++ 46 :: (g1 ++ 46 :: (g2 ++ 46 :: g3)) ++ t)[j]? = g0[j]? := by
      rw [List.append_assoc, List.getElem?_append_left hj]
    rw [this]
    refine ⟨g0[j], List.getElem?_eq_getElem hj, h0.2.2.1 _ (List.getElem_mem hj)⟩

/-- an address whose first dot is the first dot at or after `i` starts inside the window tried for that dot -/
theorem window_covers (b : Buf) (i dOffs p k : Nat) (hi : i = 0 ∨ b[i - 1]? = some 46)
    (hk3 : k ≤ 3) (heq : dOffs = p + k) (hge : i ≤ dOffs)
    (hdig : ∀ j, j < k → ∃ c, b[p + j]? = some c ∧ IsDigitB c) :
    (if dOffs ≥ 3 then dOffs - 3 else i) ≤ p := by
  split
  · omega
  · rcases hi with rfl | hi
    · exact Nat.zero_le _
    · rcases Nat.lt_or_ge p i with hpi | hpi
      · exfalso
        obtain ⟨c, hc, hcd⟩ := hdig (i - 1 - p) (by omega)
        have : p + (i - 1 - p) = i - 1 := by omega
        rw [this, hi] at hc
        cases hc
        exact absurd hcd (by unfold IsDigitB; decide)
      · exact hpi

/-- **ContainsIP4, completeness and leftmost match** (loop level): the search starting at `i` (the start of the text,
    or just after a dot) reports an offset at or before every position where an address starts whose first dot is at
    or after `i` -/
theorem containsIP4Loop_finds (b : Buf) (i : Nat) (hi : i = 0 ∨ b[i - 1]? = some 46) {p : Nat} {l t : List UInt8}
    {a0 a1 a2 a3 : Nat} (hv : IsIP4 l a0 a1 a2 a3) (hp : b.toList.drop p = l ++ t) {k : Nat} (hk1 : 1 ≤ k)
    (hk3 : k ≤ 3) (hdot : b[p + k]? = some 46) (hdig : ∀ j, j < k → ∃ c, b[p + j]? = some c ∧ IsDigitB c) (hge : i ≤ p + k) :
    ∃ o n ip, containsIP4Loop b i = some (o, n, ip) ∧ o ≤ p := by
  have hacc := ip4PrefixAt_complete b p l t a0 a1 a2 a3 hv hp
  fun_induction containsIP4Loop b i with
  | case1 i hlt hidx => exact absurd hdot (indexByteFrom_none b i 46 hidx (p + k) hge)
  | case2 i hlt dOffs hidx offs r htry =>
    obtain ⟨hd1, hd2, hd3⟩ := indexByteFrom_some b i 46 hidx
    obtain ⟨ht1, ht2, _, ht4⟩ := containsIP4Try_some b offs dOffs htry
    refine ⟨r.1, r.2.1, r.2.2, rfl, Nat.le_of_not_lt fun hpo => ?_⟩
    -- `p < o < dOffs ≤ p + k`: the first dot of the address at `p` is `dOffs`, and `p` was tried before `o`
    have hq : dOffs ≤ p + k := Nat.le_of_not_lt fun hlt' => hd3 _ hge hlt' hdot
    have heq : dOffs = p + k := by
      refine Nat.le_antisymm hq (Nat.le_of_not_lt fun hgt => ?_)
      obtain ⟨c, hc, hcd⟩ := hdig (dOffs - p) (by omega)
      rw [show p + (dOffs - p) = dOffs by omega, hd2] at hc
      cases hc
      exact absurd hcd (by unfold IsDigitB; decide)
    have := ht4 p (window_covers b i dOffs p k hi hk3 heq hd1 hdig) hpo
    rw [hacc] at this; cases this
  | case3 i hlt dOffs hidx offs htry hg ih =>
    obtain ⟨hd1, hd2, hd3⟩ := indexByteFrom_some b i 46 hidx
    have hq : dOffs ≤ p + k := Nat.le_of_not_lt fun hlt' => hd3 _ hge hlt' hdot
    rcases Nat.eq_or_lt_of_le hq with heq | hgt
    · -- the address starts within the three bytes before this dot: it was tried
      have := containsIP4Try_none b offs dOffs htry p (window_covers b i dOffs p k hi hk3 heq hd1 hdig) (by omega)
      rw [hacc] at this; cases this
    · exact ih (Or.inr (by simpa using hd2)) (by omega)
  | case4 i hlt dOffs hidx offs htry hg =>
    have := (indexByteFrom_some b i 46 hidx).1
    omega
  | case5 i hlt =>
    have := get?_lt hdot
    omega

/-- **ContainsIP4 reports nothing only if the text contains no address at all** -/
theorem containsIP4_none (b : Buf) (h : containsIP4 b = none) :
    ¬ ∃ p l t a0 a1 a2 a3, IsIP4 l a0 a1 a2 a3 ∧ b.toList.drop p = l ++ t := by
  rintro ⟨p, l, t, a0, a1, a2, a3, hv, hp⟩
  obtain ⟨k, h1, h2, h3, h4⟩ := hv.first_dot b p hp
  obtain ⟨o, n, ip, e, _⟩ := containsIP4Loop_finds b 0 (Or.inl rfl) hv hp h1 h2 h3 h4 (Nat.zero_le _)
  cases h.symm.trans e

/-- **ContainsIP4 reports an address only if there is one, and the span reported is one** -/
theorem containsIP4_some (b : Buf) {o n : Nat} {ip : Array Nat} (h : containsIP4 b = some (o, n, ip)) :
    n ≤ (b.toList.drop o).length ∧ IsIP4 ((b.toList.drop o).take n) ip[0]! ip[1]! ip[2]! ip[3]! := by
  obtain ⟨e, he⟩ := containsIP4Loop_sound b 0 h
  have := ip4PrefixAt_sound b o he
  exact ⟨this.1, this.2.1⟩

end Sipsp
