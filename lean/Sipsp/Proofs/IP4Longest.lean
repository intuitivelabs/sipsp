/-
  Sipsp.Proofs.IP4Longest — IP4Prefix accepts the LONGEST group sequence at its position (four dot-separated groups of
  1–3 digits, each ≤ 255; spec predicate `IsIP4` of Sipsp.Proofs.IP4): the accepted length is the maximum of the lengths
  of the prefixes that are group sequences, and when the scan stops at a byte (verdicts MoreValues / BadChar) the
  accepted text followed by that byte is not the beginning of ANY group sequence.  ContainsIP4 reports the LEFTMOST
  position at which a group sequence starts, and the span it reports cannot be extended to the right: exactly the
  leftmost dotted quad, as long as possible (`scLeftmostLongest`, unique), and nothing iff the text contains none
  (`scHasIP4`).
-/
import Sipsp.Proofs.IP4

namespace Sipsp

/-! ### one byte of the scanner; it never moves backwards -/

/-- what the scanner does at the byte `c`: stop with an answer and a verdict, or go on in a new state. It is the body
    of `ip4L` as a value (`ip4L_cons`), so that a proof can take the cases of one step without walking its tests -/
def ip4Step (c : UInt8) (st : IP4St) : (Bool × Err) ⊕ IP4St :=
  if isDigit c then
    if st.digits + 1 > 3 || st.ip[st.pos]! * 10 + (c.toNat - 48) > 255 then
      if st.pos < 3 then .inl (false, .bad) else .inl (true, .moreValues)
    else .inr { st with digits := st.digits + 1, ip := st.ip.set! st.pos (st.ip[st.pos]! * 10 + (c.toNat - 48)) }
  else if c == 46 then
    if st.digits == 0 then .inl (false, .bad)
    else if st.pos + 1 > 3 then .inl (true, .badChar)
    else .inr { st with pos := st.pos + 1, digits := 0, ip := st.ip.set! (st.pos + 1) 0 }
  else if st.pos < 3 || st.digits == 0 then .inl (false, .bad) else .inl (true, .badChar)

def ip4After (cs : List UInt8) (n : Nat) (st : IP4St) : (Bool × Err) ⊕ IP4St → Bool × Nat × Err × Array Nat
  | .inl r => (r.1, n, r.2, st.ip)
  | .inr st' => ip4L cs (n + 1) st'

theorem ip4L_cons (c : UInt8) (cs : List UInt8) (n : Nat) (st : IP4St) :
    ip4L (c :: cs) n st = ip4After cs n st (ip4Step c st) := by
  rw [ip4L]; unfold ip4Step; simp only [apply_ite (ip4After cs n st)]; rfl

theorem ip4L_ge (l : List UInt8) (n : Nat) (st : IP4St) : n ≤ (ip4L l n st).2.1 := by
  induction l generalizing n st with
  | nil =>
    rw [ip4L]
    split <;> exact Nat.le_refl _
  | cons c cs ih =>
    rw [ip4L_cons]
    cases ip4Step c st with
    | inl r => exact Nat.le_refl _
    | inr st' => exact Nat.le_trans (Nat.le_succ n) (ih (n + 1) st')

/-- **the accepted length bounds every group sequence at the start of the text** (list level) -/
theorem ip4L_longest (l t : List UInt8) (a0 a1 a2 a3 : Nat) (h : IsIP4 l a0 a1 a2 a3) :
    l.length ≤ (ip4L (l ++ t) 0 {}).2.1 := by
  obtain ⟨st', gs, cur, e, _, _, _⟩ := ip4L_through l t a0 a1 a2 a3 h
  rw [e]
  exact ip4L_ge t l.length st'

/-! ### IP4Prefix: the accepted prefix is the longest group sequence -/

/-- **IP4Prefix, longest match**: if the test at offset `p` accepts with length `n`, every prefix of the text at `p`
    that is a group sequence (four dot-separated groups of 1–3 digits, each ≤ 255) has length at most `n`.
    (With `ip4PrefixAt_sound`: the prefix of length `n` IS such a sequence, so `n` is the maximum.) -/
theorem ip4PrefixAt_longest (b : Buf) (p : Nat) {n : Nat} {e : Err} {ip : Array Nat}
    (h : ip4PrefixAt b p = (true, n, e, ip)) (l t : List UInt8) (a0 a1 a2 a3 : Nat)
    (hl : IsIP4 l a0 a1 a2 a3) (hp : b.toList.drop p = l ++ t) : l.length ≤ n := by
  rw [ip4PrefixAt_eq, hp] at h
  have := ip4L_longest l t a0 a1 a2 a3 hl
  rw [h] at this
  exact this

/-- the same, stated with `take`: no strictly longer prefix of the text at `p` is a group sequence -/
theorem ip4PrefixAt_no_longer (b : Buf) (p : Nat) {n : Nat} {e : Err} {ip : Array Nat}
    (h : ip4PrefixAt b p = (true, n, e, ip)) (m : Nat) (hm : n < m) (hmb : m ≤ (b.toList.drop p).length) :
    ¬ ∃ a0 a1 a2 a3, IsIP4 ((b.toList.drop p).take m) a0 a1 a2 a3 := by
  rintro ⟨a0, a1, a2, a3, hv⟩
  have := ip4PrefixAt_longest b p h _ ((b.toList.drop p).drop m) a0 a1 a2 a3 hv (List.take_append_drop m _).symm
  rw [List.length_take, Nat.min_eq_left hmb] at this
  omega

theorem ip4Prefix_longest (b : Buf) {n : Nat} {e : Err} {ip : Array Nat}
    (h : ip4Prefix b = (true, n, e, ip)) (l t : List UInt8) (a0 a1 a2 a3 : Nat)
    (hl : IsIP4 l a0 a1 a2 a3) (hp : b.toList = l ++ t) : l.length ≤ n :=
  ip4PrefixAt_longest b 0 h l t a0 a1 a2 a3 hl (by simpa using hp)

theorem ip4Prefix_no_longer (b : Buf) {n : Nat} {e : Err} {ip : Array Nat}
    (h : ip4Prefix b = (true, n, e, ip)) (m : Nat) (hm : n < m) (hmb : m ≤ b.size) :
    ¬ ∃ a0 a1 a2 a3, IsIP4 (b.toList.take m) a0 a1 a2 a3 := by
  have := ip4PrefixAt_no_longer b 0 h m hm (by simpa using hmb)
  simpa using this

/-- **IP4Prefix accepts exactly the maximum**: the accepted length `n` is the length of a prefix that is a group
    sequence (with the returned bytes), and it bounds the length of every prefix that is one -/
theorem ip4Prefix_is_max (b : Buf) {n : Nat} {e : Err} {ip : Array Nat} (h : ip4Prefix b = (true, n, e, ip)) :
    (n ≤ b.size ∧ IsIP4 (b.toList.take n) ip[0]! ip[1]! ip[2]! ip[3]!) ∧
    ∀ m, m ≤ b.size → (∃ a0 a1 a2 a3, IsIP4 (b.toList.take m) a0 a1 a2 a3) → m ≤ n := by
  have hs := ip4PrefixAt_sound b 0 h
  refine ⟨⟨by simpa using hs.1, by simpa using hs.2.1⟩, fun m hmb hv => ?_⟩
  rcases Nat.lt_or_ge n m with hlt | hge
  · exact absurd hv (ip4Prefix_no_longer b h m hlt hmb)
  · exact hge

/-! ### ContainsIP4: the reported span is the leftmost match and cannot be extended to the right -/

/-- **ContainsIP4 reports the leftmost address**: no group sequence starts at an offset before the reported one -/
theorem containsIP4_leftmost (b : Buf) {o n : Nat} {ip : Array Nat} (h : containsIP4 b = some (o, n, ip))
    (p : Nat) (l t : List UInt8) (a0 a1 a2 a3 : Nat) (hv : IsIP4 l a0 a1 a2 a3) (hp : b.toList.drop p = l ++ t) :
    o ≤ p := by
  obtain ⟨k, h1, h2, h3, h4⟩ := hv.first_dot b p hp
  obtain ⟨o', n', ip', e, hle⟩ := containsIP4Loop_finds b 0 (Or.inl rfl) hv hp h1 h2 h3 h4 (Nat.zero_le _)
  cases h.symm.trans e
  exact hle

/-- **the span reported by ContainsIP4 cannot be extended to the right**: every group sequence that starts at the
    reported offset is at most as long as the reported length -/
theorem containsIP4_longest (b : Buf) {o n : Nat} {ip : Array Nat} (h : containsIP4 b = some (o, n, ip))
    (l t : List UInt8) (a0 a1 a2 a3 : Nat) (hv : IsIP4 l a0 a1 a2 a3) (hp : b.toList.drop o = l ++ t) :
    l.length ≤ n := by
  obtain ⟨e, he⟩ := containsIP4Loop_sound b 0 h
  exact ip4PrefixAt_longest b o he l t a0 a1 a2 a3 hv hp

theorem containsIP4_no_longer (b : Buf) {o n : Nat} {ip : Array Nat} (h : containsIP4 b = some (o, n, ip))
    (m : Nat) (hm : n < m) (hmb : o + m ≤ b.size) :
    ¬ ∃ a0 a1 a2 a3, IsIP4 ((b.toList.drop o).take m) a0 a1 a2 a3 := by
  obtain ⟨e, he⟩ := containsIP4Loop_sound b 0 h
  exact ip4PrefixAt_no_longer b o he m hm (by simp only [List.length_drop, Array.length_toList]; omega)

/-! ### the byte at which the scan stops cannot extend the sequence -/

/-- a scan that stops AT a byte (any verdict except the two end-of-input ones) depends only on the text up to and
    including that byte -/
theorem ip4L_stop_local (l : List UInt8) (n0 : Nat) (st : IP4St) {r : Bool × Nat × Err × Array Nat}
    (h : ip4L l n0 st = r) (he : r.2.2.1 ≠ .ok) (he2 : r.2.2.1 ≠ .moreBytes) (u : List UInt8) :
    ip4L (l.take (r.2.1 - n0 + 1) ++ u) n0 st = r := by
  induction l generalizing n0 st with
  | nil =>
    exfalso
    rw [ip4L] at h
    split at h <;> subst h
    · exact he2 rfl
    · exact he rfl
  | cons c cs ih =>
    rw [ip4L_cons] at h
    cases hs : ip4Step c st with
    | inl x =>
      rw [hs] at h; subst h
      show ip4L (List.take (n0 - n0 + 1) (c :: cs) ++ u) n0 st = _
      rw [Nat.sub_self, List.take_succ_cons, List.take_zero, List.cons_append, ip4L_cons, hs]
      rfl
    | inr st' =>
      rw [hs] at h
      have hge := ip4L_ge cs (n0 + 1) st'
      rw [show ip4After cs n0 st (.inr st') = ip4L cs (n0 + 1) st' from rfl] at h
      rw [h] at hge
      rw [show r.2.1 - n0 + 1 = (r.2.1 - (n0 + 1) + 1) + 1 by omega, List.take_succ_cons, List.cons_append,
        ip4L_cons, hs]
      exact ih (n0 + 1) st' h
/-- list level: an accepted scan that stopped at a byte: the accepted text plus that byte starts no group sequence -/
theorem ip4L_stop_byte (l : List UInt8) {n : Nat} {e : Err} {ip : Array Nat}
    (h : ip4L l 0 {} = (true, n, e, ip)) (he : e ≠ .ok) (u : List UInt8) (a0 a1 a2 a3 : Nat) :
    ¬ IsIP4 (l.take (n + 1) ++ u) a0 a1 a2 a3 := by
  intro hv
  have hs := ip4L_sound l 0 {} [] [] Ip4Rep_init
  rw [h] at hs
  obtain ⟨k, e1, e2, _, e4, _, e6, e7⟩ := hs rfl
  have e1' : n = 0 + k := e1
  have hk : k = n := by omega
  subst hk
  obtain ⟨hlt, hmb⟩ : k < l.length ∧ e ≠ .moreBytes := by
    have e4' : e = .ok ∨ e = .moreValues ∨ e = .badChar := e4
    rcases e4' with h0 | h1 | h2
    · exact absurd h0 he
    · obtain ⟨c, hc, _⟩ := e6 h1
      exact ⟨(List.getElem?_eq_some_iff.1 hc).1, by rw [h1]; intro hh; cases hh⟩
    · obtain ⟨c, hc, _⟩ := e7 h2
      exact ⟨(List.getElem?_eq_some_iff.1 hc).1, by rw [h2]; intro hh; cases hh⟩
  have hloc := ip4L_stop_local l 0 {} h he hmb u
  have hloc' : ip4L (l.take (k + 1) ++ u) 0 {} = (true, k, e, ip) := hloc
  have hlong := ip4L_longest (l.take (k + 1) ++ u) [] a0 a1 a2 a3 hv
  rw [List.append_nil, hloc'] at hlong
  have hlong' : (l.take (k + 1) ++ u).length ≤ k := hlong
  rw [List.length_append, List.length_take, Nat.min_eq_left (by omega)] at hlong'
  omega

/-- **IP4Prefix stops at the first byte that cannot extend the sequence**: when the test accepts `n` bytes and did
    not stop at the end of the input (verdict MoreValues or BadChar), the `n` accepted bytes followed by the next
    byte of the text are not the beginning of ANY four-group sequence, whatever one appends -/
theorem ip4PrefixAt_stop_byte (b : Buf) (p : Nat) {n : Nat} {e : Err} {ip : Array Nat}
    (h : ip4PrefixAt b p = (true, n, e, ip)) (he : e ≠ .ok) (u : List UInt8) (a0 a1 a2 a3 : Nat) :
    ¬ IsIP4 ((b.toList.drop p).take (n + 1) ++ u) a0 a1 a2 a3 := by
  rw [ip4PrefixAt_eq] at h
  exact ip4L_stop_byte _ h he u a0 a1 a2 a3

theorem ip4Prefix_stop_byte (b : Buf) {n : Nat} {e : Err} {ip : Array Nat}
    (h : ip4Prefix b = (true, n, e, ip)) (he : e ≠ .ok) (u : List UInt8) (a0 a1 a2 a3 : Nat) :
    ¬ IsIP4 (b.toList.take (n + 1) ++ u) a0 a1 a2 a3 := by
  have := ip4PrefixAt_stop_byte b 0 h he u a0 a1 a2 a3
  simpa using this

/-- the same for the span reported by ContainsIP4, when it does not end at the end of the text -/
theorem containsIP4_stop_byte (b : Buf) {o n : Nat} {ip : Array Nat} (h : containsIP4 b = some (o, n, ip))
    (hne : o + n < b.size) (u : List UInt8) (a0 a1 a2 a3 : Nat) :
    ¬ IsIP4 ((b.toList.drop o).take (n + 1) ++ u) a0 a1 a2 a3 := by
  obtain ⟨e, he⟩ := containsIP4Loop_sound b 0 h
  refine ip4PrefixAt_stop_byte b o he ?_ u a0 a1 a2 a3
  intro hok
  have := (ip4PrefixAt_sound b o he).2.2.2.1 hok
  simp only [List.length_drop, Array.length_toList] at this
  omega

/-! ### ContainsIP4 reports exactly the leftmost dotted quad, as long as possible -/

/-- the text contains a dotted quad somewhere (four groups of one to three digits, each at most 255) -/
def scHasIP4 (b : Buf) : Prop := ∃ p l t a0 a1 a2 a3, IsIP4 l a0 a1 a2 a3 ∧ b.toList.drop p = l ++ t

/-- `[o, o + n)` is the LEFTMOST dotted quad of the text, taken as LONG as possible -/
def scLeftmostLongest (b : Buf) (o n : Nat) : Prop :=
  (o + n ≤ b.size ∧ ∃ a0 a1 a2 a3, IsIP4 ((b.toList.drop o).take n) a0 a1 a2 a3) ∧
  (∀ p l t a0 a1 a2 a3, IsIP4 l a0 a1 a2 a3 → b.toList.drop p = l ++ t → o ≤ p) ∧
  (∀ l t a0 a1 a2 a3, IsIP4 l a0 a1 a2 a3 → b.toList.drop o = l ++ t → l.length ≤ n)

theorem scIP4_length_pos {l : List UInt8} {a0 a1 a2 a3 : Nat} (h : IsIP4 l a0 a1 a2 a3) : 0 < l.length := by
  obtain ⟨g0, g1, g2, g3, he, _⟩ := h
  rw [he]; simp only [List.length_append, List.length_cons]; omega

theorem scContainsIP4_ll (b : Buf) {o n : Nat} {ip : Array Nat} (h : containsIP4 b = some (o, n, ip)) :
    scLeftmostLongest b o n := by
  have hs := containsIP4_some b h
  refine ⟨⟨?_, _, _, _, _, hs.2⟩, fun p l t a0 a1 a2 a3 => containsIP4_leftmost b h p l t a0 a1 a2 a3,
    fun l t a0 a1 a2 a3 => containsIP4_longest b h l t a0 a1 a2 a3⟩
  have h1 := hs.1
  have hp := scIP4_length_pos hs.2
  simp only [List.length_take, List.length_drop, Array.length_toList] at h1 hp
  omega

theorem scLeftmostLongest_unique (b : Buf) {o n o' n' : Nat} (h : scLeftmostLongest b o n)
    (h' : scLeftmostLongest b o' n') : o' = o ∧ n' = n := by
  obtain ⟨⟨hb, a0, a1, a2, a3, hi⟩, hl, hg⟩ := h
  obtain ⟨⟨hb', a0', a1', a2', a3', hi'⟩, hl', hg'⟩ := h'
  have e1 : o ≤ o' := hl o' _ _ _ _ _ _ hi' (List.take_append_drop n' _).symm
  have e2 : o' ≤ o := hl' o _ _ _ _ _ _ hi (List.take_append_drop n _).symm
  have eo : o' = o := by omega
  subst eo
  refine ⟨rfl, ?_⟩
  have f1 := hg _ _ _ _ _ _ hi' (List.take_append_drop n' _).symm
  have f2 := hg' _ _ _ _ _ _ hi (List.take_append_drop n _).symm
  simp only [List.length_take, List.length_drop, Array.length_toList] at f1 f2
  omega

theorem scContainsIP4_iff_ll (b : Buf) (o n : Nat) :
    (∃ ip, containsIP4 b = some (o, n, ip)) ↔ scLeftmostLongest b o n := by
  constructor
  · rintro ⟨ip, h⟩; exact scContainsIP4_ll b h
  · intro h
    rcases hc : containsIP4 b with _ | ⟨o', n', ip⟩
    · exfalso
      obtain ⟨⟨_, a0, a1, a2, a3, hi⟩, _, _⟩ := h
      exact containsIP4_none b hc ⟨o, _, _, a0, a1, a2, a3, hi, (List.take_append_drop n _).symm⟩
    · obtain ⟨e1, e2⟩ := scLeftmostLongest_unique b h (scContainsIP4_ll b hc)
      subst e1; subst e2
      exact ⟨ip, rfl⟩

theorem scContainsIP4_none_iff (b : Buf) : containsIP4 b = none ↔ ¬ scHasIP4 b := by
  constructor
  · exact containsIP4_none b
  · intro h
    rcases hc : containsIP4 b with _ | ⟨o, n, ip⟩
    · rfl
    · exfalso
      have := containsIP4_some b hc
      exact h ⟨o, _, _, _, _, _, _, this.2, (List.take_append_drop n _).symm⟩

/-! ### tests / non-vacuity (closed computations, `decide +kernel`) -/

-- the hypotheses are met by concrete runs, with each of the three verdicts
example : ip4Prefix "1.2.3.256".toUTF8.data = (true, 8, .moreValues, #[1, 2, 3, 25]) := by decide +kernel
example : ip4Prefix "1.2.3.4.5".toUTF8.data = (true, 7, .badChar, #[1, 2, 3, 4]) := by decide +kernel
example : ip4Prefix "1.2.3.0001".toUTF8.data = (true, 9, .moreValues, #[1, 2, 3, 0]) := by decide +kernel
-- the leftmost match is reported, not the first one that looks "nicest": here the match starts inside "256"
example : containsIP4 "x256.1.1.1".toUTF8.data = some (2, 8, #[56, 1, 1, 1]) := by decide +kernel
example : containsIP4 "a.1.2.3.4.5 9.9.9.9".toUTF8.data = some (2, 7, #[1, 2, 3, 4]) := by decide +kernel
-- instance of the longest-prefix theorem: "1.2.3.25" is the longest group sequence at the start of "1.2.3.256"
example : ¬ ∃ a0 a1 a2 a3, IsIP4 ("1.2.3.256".toUTF8.data.toList.take 9) a0 a1 a2 a3 :=
  ip4Prefix_no_longer "1.2.3.256".toUTF8.data (n := 8) (e := .moreValues) (ip := #[1, 2, 3, 25])
    (by decide +kernel) 9 (by decide) (by decide +kernel)

end Sipsp
