/-
  Sipsp.Proofs.Layout — after a successful ParseSIPMsg: the body starts where the header block ended and ends at the
  returned offset; Buf is the buffer up to the returned offset and the raw-message view is exactly the bytes from the
  start offset to the returned offset.
-/
import Sipsp.Proofs.SafeMsg
import Sipsp.Proofs.MsgPhases

namespace Sipsp

/-- the layout facts of a finished message: `s` = start offset, `h` = end of the header block, `e` = returned offset -/
structure MsgLayout (m : PSIPMsg) (s h e : Nat) : Prop where
  state : m.state = .fin
  bodyOffs : m.body.offs = h
  bodyEnd : m.body.offs + m.body.len = e
  bufLen : m.bufLen = e
  rawOffs : m.rawOffs = s
  rawEnd : m.rawOffs + m.rawLen = e
  offs : m.offs = s

theorem msgEnd_layout (b : Buf) (m : PSIPMsg) (h e : Nat) (hb : m.body = PField.set h h) (hhe : h ≤ e)
    (hfit : e ≤ 65535) (hs : m.offs ≤ e) : MsgLayout (msgEnd m b e).2.2 m.offs h e := by
  unfold msgEnd PSIPMsg.setBufs
  have h1 : (PField.set h h).offs = h := trunc16_of_lt (by omega)
  simp only
  refine ⟨rfl, ?_, ?_, rfl, rfl, ?_, rfl⟩
  · rw [PField.extend_offs, hb]; exact h1
  · rw [PField.extend_offs, PField.extend_len, hb, h1]; unfold trunc16; omega
  · show m.offs + (e - m.offs) = e
    omega

theorem msgBody_layout (b : Buf) (o : Nat) (m : PSIPMsg) (flags : Nat) (ho : o ≤ b.size) (hfit : b.size ≤ 65535)
    (hs : m.offs ≤ o) {o' : Nat} {m' : PSIPMsg} (hr : msgBody b o m flags = (o', .ok, m')) :
    MsgLayout m' m.offs o o' := by
  revert hr
  refine msgBody_cases (P := fun r => r = (o', .ok, m') → MsgLayout m' m.offs o o') b o m flags nofun nofun
    fun s e _ he hq => ?_
  obtain ⟨h1, h2⟩ := he ho
  have := msgEnd_layout b { m with body := PField.set o o, state := s } o e rfl h1 (by omega)
    (show m.offs ≤ e by omega)
  rw [hq] at this
  have he' : e = o' := congrArg Prod.fst hq
  rw [← he']; exact this

/-- layout of a successful message parse, relative to the header block the call (or an earlier call) finished:
    `∃ h`, the end of the header block, with `start ≤ … ≤ h ≤ o'` -/
theorem msgHeaders_layout (b : Buf) (o : Nat) (m : PSIPMsg) (flags : Nat) (hfit : b.size ≤ 65535)
    (hst : m.state = .headers) (hok : msgOK2 b o m) (H : MsgSafe b o m) {o' : Nat} {m' : PSIPMsg}
    (hr : msgHeaders b o m flags = (o', .ok, m')) :
    ∃ h, o ≤ h ∧ h ≤ o' ∧ (parseHeaders b o m.hl (some m.pv)).1 = h ∧ (parseHeaders b o m.hl (some m.pv)).2.1 = .ok ∧
      MsgLayout m' m.offs h o' := by
  obtain ⟨ho, _, hrest⟩ := hok
  obtain ⟨hls, hvs, hpe⟩ := hrest (by rw [hst]; decide)
  have hoffs : m.offs ≤ o := H.offs (by rw [hst]; decide)
  have hS := parseHeaders_safe b o m.hl (some m.pv) hfit hls hvs hpe ho (H.hls (Or.inr (Or.inr hst)))
  rw [msgHeaders_eq] at hr
  rcases hp : parseHeaders b o m.hl (some m.pv) with ⟨o1, e1, hl1, hb1⟩
  rw [hp] at hr hS
  unfold afterHeaders at hr
  by_cases he : e1 = .ok
  · subst he
    simp only at hr
    have hR := hS.2.2.2.1 (Or.inl rfl)
    simp only at hR
    have hl := msgBody_layout b o1 _ flags hR.2 hfit (by show m.offs ≤ o1; omega) hr
    have hle : o1 ≤ o' := by have h1 := hl.bodyOffs; have h2 := hl.bodyEnd; omega
    exact ⟨o1, hR.1, hle, rfl, rfl, hl⟩
  · exfalso
    have : (msgErr { m with hl := hl1, pv := hb1.getD m.pv } o1 e1 flags).2.1 ≠ .ok := msgErr_not_ok _ _ _ _ he
    cases e1 <;> first | exact absurd rfl he | (simp only at hr; rw [hr] at this; exact this rfl)

/-- **layout of a successfully parsed message** (one call; `s` is the offset of the first call: the offset passed in if
    the object is new, the remembered start otherwise) -/
theorem parseSIPMsg_layout (b : Buf) (o : Nat) (m : PSIPMsg) (flags : Nat) (hfit : b.size ≤ 65535)
    (hok : msgOK2 b o m) (H : MsgSafe b o m) {o' : Nat} {m' : PSIPMsg}
    (hr : parseSIPMsg b o m flags = (o', .ok, m')) :
    ∃ h, (if m.state = .init then o else m.offs) ≤ h ∧ h ≤ o' ∧ o' ≤ b.size ∧
      MsgLayout m' (if m.state = .init then o else m.offs) h o' := by
  have hT := parseSIPMsg_safe b o m flags hfit hok H
  rw [hr] at hT
  have hne : ∀ {m1 : PSIPMsg} {o1 : Nat} {e : Err}, e ≠ .ok → msgErr m1 o1 e flags ≠ (o', .ok, m') :=
    fun he hh => msgErr_not_ok _ _ _ flags he (congrArg (fun r => r.2.1) hh)
  revert hr
  -- OK comes from the body phase only, entered at the end `o1` of the header block
  refine parseSIPMsg_cases (P := fun r => r = (o', .ok, m') → _) b o m flags (fun _ hr => by cases hr)
    (fun _ _ he hr => absurd hr (hne he)) (fun _ _ he hr => absurd hr (hne he)) ?_
  intro o1 m1 h hr
  obtain ⟨_, _, H1⟩ := h.legit hfit hok H
  have hoffs : m1.offs ≤ o1 := H1.offs (by rw [h.state]; decide)
  have hl := msgBody_layout b o1 m1 flags H1.ho hfit hoffs hr
  rw [h.offs] at hl hoffs
  exact ⟨o1, hoffs, by have h1 := hl.bodyOffs; have h2 := hl.bodyEnd; omega, hT.le, hl⟩

end Sipsp
