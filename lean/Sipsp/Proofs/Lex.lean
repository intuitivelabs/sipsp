/-
  Sipsp.Proofs.Lex — the lexical layer. The four single-byte scanners are one scan (`scanTo`). `skipCRLF` and `skipLWS`
  are each described once by what every result means in the text (`CrlfOut`, `LwsOut`), over the grammar of line ends
  (`Eol`), linear white space (`Lws`) and the end of the input (`EndTail`); for `skipLWS` the description is exact.
  Stability under buffer extension, restart after MoreBytes, ranges and verdict sets are read off these descriptions.
  `Span` (a block of bytes of one class) and `loop_scan` (a loop walks over such a block) serve every later scanner.
-/
import Sipsp.Model.Lex
import Sipsp.Proofs.Buf

namespace Sipsp

/-- a property of the value of an `if`, branch by branch, with the test at hand; `repeat' apply ite_ind` walks a
    cascade of tests by unification only, where `split` rebuilds the goal at every test -/
theorem ite_ind {α : Sort _} {P : α → Prop} {c : Prop} [Decidable c] {x y : α} (hx : c → P x) (hy : ¬c → P y) :
    P (if c then x else y) := by
  split
  · exact hx ‹_›
  · exact hy ‹_›

/-- the bytes at `[i, j)` are present and all satisfy `P` (`TokenRun`, `LineRun`, `NameRun`, `WsRun`, `Run`, `PRun`
    are this by unfolding, so the lemmas below apply to them as they stand) -/
def Span (P : UInt8 → Prop) (b : Buf) (i j : Nat) : Prop := ∀ k, i ≤ k → k < j → ∃ c, b[k]? = some c ∧ P c

namespace Span
variable {P Q : UInt8 → Prop} {b : Buf} {i j k : Nat}

theorem nil (P : UInt8 → Prop) (b : Buf) (i : Nat) : Span P b i i := fun k h1 h2 => by omega

theorem sub (h : Span P b i j) {i' j' : Nat} (hi : i ≤ i') (hj : j' ≤ j) : Span P b i' j' :=
  fun k h1 h2 => h k (by omega) (by omega)

theorem mono (h : Span P b i j) (hpq : ∀ c, P c → Q c) : Span Q b i j :=
  fun k h1 h2 => (h k h1 h2).imp fun c hc => ⟨hc.1, hpq c hc.2⟩

theorem append (h1 : Span P b i j) (h2 : Span P b j k) : Span P b i k := fun x hx1 hx2 =>
  (Nat.lt_or_ge x j).elim (h1 x hx1) fun h => h2 x h hx2

theorem one {c : UInt8} (hb : b[i]? = some c) (hc : P c) : Span P b i (i + 1) := fun x hx1 hx2 => by
  rw [show x = i by omega]; exact ⟨c, hb, hc⟩

theorem app (h : Span P b i j) (s : Buf) : Span P (b ++ s) i j :=
  fun x hx1 hx2 => (h x hx1 hx2).imp fun _ hc => ⟨get?_app hc.1, hc.2⟩

theorem le_size (h : Span P b i j) (hij : i < j) : j ≤ b.size := by
  obtain ⟨c, hc, _⟩ := h (j - 1) (by omega) (by omega)
  have := get?_lt hc
  omega

end Span

/-- **a loop walks over a block**: `L` any loop function on `b`, `nx k c st st'` = "at the byte `c` at `k`, in state
    `st`, the loop goes on at `k + 1` with `st'`" (`hL`: the one-step unfolding law). Over a block of `P`-bytes on which
    the steps go on and keep `Inv`, the loop from the start of the block is the loop from its end, in a state with `Inv`. -/
theorem loop_scan {σ ρ : Type} {b : Buf} (L : Nat → σ → ρ) (nx : Nat → UInt8 → σ → σ → Prop)
    (hL : ∀ k c st st', b[k]? = some c → nx k c st st' → L k st = L (k + 1) st')
    {P : UInt8 → Prop} (Inv : Nat → σ → Prop) {i j : Nat} (hij : i ≤ j) (hr : Span P b i j)
    (hstep : ∀ k c st, i ≤ k → k < j → b[k]? = some c → P c → Inv k st → ∃ st', nx k c st st' ∧ Inv (k + 1) st')
    (st : σ) (h0 : Inv i st) : ∃ st', L i st = L j st' ∧ Inv j st' := by
  induction hk : j - i generalizing i st with
  | zero => rw [show i = j by omega] at h0 ⊢; exact ⟨st, rfl, h0⟩
  | succ n ih =>
    obtain ⟨c, hc, hp⟩ := hr i (Nat.le_refl _) (by omega)
    obtain ⟨st1, h1, hI1⟩ := hstep i c st (Nat.le_refl _) (by omega) hc hp h0
    obtain ⟨st', h2, hI'⟩ := ih (i := i + 1) (by omega) (hr.sub (by omega) (Nat.le_refl _))
      (fun k c st a1 a2 => hstep k c st (by omega) a2) st1 hI1 (by omega)
    exact ⟨st', (hL i c st st1 hc h1).trans h2, hI'⟩

/-- the same with the state a function of the position (a fixed state: `s := fun _ => st`) -/
theorem loop_span {σ ρ : Type} {b : Buf} (L : Nat → σ → ρ) (nx : Nat → UInt8 → σ → σ → Prop)
    (hL : ∀ k c st st', b[k]? = some c → nx k c st st' → L k st = L (k + 1) st')
    {P : UInt8 → Prop} (s : Nat → σ) {i j : Nat} (hij : i ≤ j) (hr : Span P b i j)
    (hstep : ∀ k c, i ≤ k → k < j → b[k]? = some c → P c → nx k c (s k) (s (k + 1))) : L i (s i) = L j (s j) := by
  obtain ⟨st', h1, h2⟩ := loop_scan L nx hL (fun k st => st = s k) hij hr
    (fun k c st a1 a2 hc hp h => ⟨s (k + 1), h ▸ hstep k c a1 a2 hc hp, rfl⟩) (s i) rfl
  rw [h1, h2]

/-- what `skipToken`, `skipToEOL`, `skipTokenDelim` and `skipWS` all do: scan forward from `i` to the first byte
    satisfying `stop`, or to the end of the buffer -/
def scanTo (stop : UInt8 → Bool) (b : Buf) (i : Nat) : Nat :=
  match hb : b[i]? with
  | none => i
  | some c => if stop c then i else scanTo stop b (i + 1)
termination_by b.size - i
decreasing_by
  have hi : i < b.size := by
    rcases Nat.lt_or_ge i b.size with h | h
    · exact h
    · rw [Array.getElem?_eq_none h] at hb; cases hb
  omega

section
variable {stop : UInt8 → Bool} {b : Buf} {i : Nat} {c : UInt8}

theorem scanTo_none (hb : b[i]? = none) : scanTo stop b i = i := by
  rw [scanTo]; split
  · rfl
  · rename_i c' h; rw [hb] at h; cases h

theorem scanTo_eq_self (hb : b[i]? = some c) (hl : stop c = true) : scanTo stop b i = i := by
  rw [scanTo]; split
  · rfl
  · rename_i c' h; rw [hb] at h; cases h; rw [if_pos hl]

theorem scanTo_step (hb : b[i]? = some c) (hl : stop c = false) : scanTo stop b i = scanTo stop b (i + 1) := by
  conv => lhs; rw [scanTo]
  split
  · rename_i h; rw [hb] at h; cases h
  · rename_i c' h; rw [hb] at h; cases h; simp only [hl, Bool.false_eq_true, ↓reduceIte]

theorem scanTo_stop (stop : UInt8 → Bool) (b : Buf) (i : Nat) :
    ∀ c, b[scanTo stop b i]? = some c → stop c = true := by
  fun_induction scanTo stop b i with
  | case1 i hb => intro c h; rw [hb] at h; cases h
  | case2 i c hb hl => intro c' h; rw [hb] at h; cases h; exact hl
  | case3 i c hb hl ih => exact ih

theorem scanTo_stable (b s : Buf) (i : Nat) (h : b[scanTo stop b i]? = some c) :
    scanTo stop (b ++ s) i = scanTo stop b i := by
  fun_induction scanTo stop b i with
  | case1 i hb => rw [hb] at h; cases h
  | case2 i c' hb hl => exact scanTo_eq_self (get?_app hb) hl
  | case3 i c' hb hl ih => rw [scanTo_step (get?_app hb) (by simpa using hl)]; exact ih h

/-- the scan from where the scan on a shorter buffer stopped: the bytes in between do not stop it -/
theorem scanTo_restart (b s : Buf) (i : Nat) :
    scanTo stop (b ++ s) (scanTo stop b i) = scanTo stop (b ++ s) i := by
  fun_induction scanTo stop b i with
  | case1 | case2 => rfl
  | case3 i c' hb hl ih => rw [scanTo_step (b := b ++ s) (get?_app hb) (by simpa using hl)]; exact ih

theorem scanTo_le (stop : UInt8 → Bool) (b : Buf) (i : Nat) (hi : i ≤ b.size) : scanTo stop b i ≤ b.size := by
  fun_induction scanTo stop b i with
  | case1 i hb => exact hi
  | case2 i c hb hl => exact hi
  | case3 i c hb hl ih => have := get?_lt hb; exact ih (by omega)

theorem scanTo_end (stop : UInt8 → Bool) (b : Buf) (i : Nat) (h : b[scanTo stop b i]? = none) (hi : i ≤ b.size) : scanTo stop b i = b.size := by
  have := scanTo_le stop b i hi
  have := get?_none_ge h
  omega

theorem scanTo_skipped (stop : UInt8 → Bool) (b : Buf) (i : Nat) :
    Span (fun c => stop c = false) b i (scanTo stop b i) := by
  fun_induction scanTo stop b i with
  | case1 i hb => intro k h1 h2; omega
  | case2 i c hb hl => intro k h1 h2; omega
  | case3 i c hb hl ih =>
    intro k h1 h2
    rcases Nat.eq_or_lt_of_le h1 with h | h
    · subst h; exact ⟨c, hb, by simpa using hl⟩
    · exact ih k (by omega) h2

theorem scanTo_run {j : Nat} (hij : i ≤ j) (hr : Span (fun c => stop c = false) b i j)
    (hj : b[j]? = some c) (hc : stop c = true) : scanTo stop b i = j :=
  (loop_span (fun k (_ : Unit) => scanTo stop b k) (fun _ c _ _ => stop c = false) (fun _ _ _ _ => scanTo_step)
    (fun _ => ()) hij hr fun _ _ _ _ _ hp => hp).trans (scanTo_eq_self hj hc)

end

section
variable (stop : UInt8 → Bool)

theorem scanTo_ge (b : Buf) (i : Nat) : i ≤ scanTo stop b i := by
  fun_induction scanTo stop b i with
  | case1 | case2 => exact Nat.le_refl _
  | case3 i c hb hl ih => omega

theorem scanTo_shift (pre t : Buf) (i : Nat) : scanTo stop (pre ++ t) (pre.size + i) = pre.size + scanTo stop t i := by
  fun_induction scanTo stop t i with
  | case1 i hb => exact scanTo_none (by rw [get?_shift]; exact hb)
  | case2 i c hb hl => exact scanTo_eq_self (by rw [get?_shift]; exact hb) hl
  | case3 i c hb hl ih => rw [scanTo_step (by rw [get?_shift]; exact hb) (by simpa using hl), Nat.add_assoc]; exact ih

end

/-- a line end at `p` as `skipCRLF` accepts it: CR LF, a CR followed by a byte other than LF, or an LF followed by any
    byte; `e` is the offset after it. The byte after a lone CR / LF has to be present: `skipCRLF` reads it to tell CR
    from CR LF (at the end of the buffer it asks for more bytes). After CR LF nothing is required. -/
inductive Eol (b : Buf) : Nat → Nat → Prop
  | crlf (p : Nat) : b[p]? = some 13 → b[p + 1]? = some 10 → Eol b p (p + 2)
  | cr (p : Nat) (c : UInt8) : b[p]? = some 13 → b[p + 1]? = some c → c ≠ 10 → Eol b p (p + 1)
  | lf (p : Nat) (c : UInt8) : b[p]? = some 10 → b[p + 1]? = some c → Eol b p (p + 1)

theorem Eol.skipCRLF {b : Buf} {p e : Nat} (h : Eol b p e) : skipCRLF b p = (e, e - p, .ok) := by
  cases h with
  | crlf h0 h1 => unfold Sipsp.skipCRLF; rw [h1, h0]; simp
  | cr c h0 h1 hc =>
    unfold Sipsp.skipCRLF; rw [h1, h0]
    have : (c == 10) = false := by simpa using hc
    simp [this]
  | lf c h0 h1 => unfold Sipsp.skipCRLF; rw [h1, h0]; simp

theorem Eol.first {b : Buf} {p e : Nat} (h : Eol b p e) :
    ∃ c, b[p]? = some c ∧ isWS c = false ∧ isCRLFch c = true ∧ isLWSch c = true := by
  cases h with
  | crlf h0 h1 => exact ⟨13, h0, by decide, by decide, by decide⟩
  | cr c h0 h1 hc => exact ⟨13, h0, by decide, by decide, by decide⟩
  | lf c h0 h1 => exact ⟨10, h0, by decide, by decide, by decide⟩

theorem Eol.gt {b : Buf} {p e : Nat} (h : Eol b p e) : p < e ∧ e ≤ p + 2 := by
  cases h <;> omega

theorem Eol.size {b : Buf} {p e : Nat} (h : Eol b p e) : e ≤ b.size := by
  cases h <;> (have := get?_lt ‹b[p + 1]? = some _›; omega)

theorem Eol.app {b : Buf} {p e : Nat} (t : Buf) (h : Eol b p e) : Eol (b ++ t) p e := by
  cases h with
  | crlf h0 h1 => exact .crlf p (get?_app h0) (get?_app h1)
  | cr c h0 h1 hc => exact .cr p c (get?_app h0) (get?_app h1) hc
  | lf c h0 h1 => exact .lf p c (get?_app h0) (get?_app h1)

/-- every outcome of `skipCRLF` at `i` -/
inductive CrlfOut (b : Buf) (i : Nat) : Nat × Nat × Err → Prop
  | ok {e : Nat} : Eol b i e → CrlfOut b i (e, e - i, .ok)
  | noCR {c : UInt8} : b[i]? = some c → isCRLFch c = false → CrlfOut b i (i, 0, .noCR)
  | more : b[i + 1]? = none → (∀ c, b[i]? = some c → isCRLFch c = true) → CrlfOut b i (i, 0, .moreBytes)

theorem skipCRLF_out (b : Buf) (i : Nat) : CrlfOut b i (skipCRLF b i) := by
  unfold skipCRLF
  cases h1 : b[i + 1]? with
  | none =>
    cases h0 : b[i]? with
    | none => exact .more h1 (fun c h => by rw [h0] at h; cases h)
    | some c =>
      dsimp only
      split
      · rename_i hc
        refine .noCR h0 ?_
        simp only [Bool.and_eq_true, bne_iff_ne, ne_eq] at hc
        simp [isCRLFch, hc.1, hc.2]
      · rename_i hc
        refine .more h1 (fun c' h => ?_)
        rw [h0] at h; cases h
        simp only [Bool.and_eq_true, bne_iff_ne, ne_eq, not_and, Decidable.not_not] at hc
        by_cases h13 : c = 13
        · simp [isCRLFch, h13]
        · simp [isCRLFch, hc h13]
  | some c1 =>
    have := get?_lt h1
    have h0 : b[i]? = some b[i] := Array.getElem?_eq_getElem (by omega)
    rw [h0]
    dsimp only
    split
    · rename_i h13
      have e13 : b[i] = 13 := by simpa using h13
      rw [e13] at h0
      split
      · rename_i h10
        rw [show c1 = 10 by simpa using h10] at h1
        have := CrlfOut.ok (Eol.crlf i h0 h1)
        rwa [Nat.add_sub_cancel_left] at this
      · rename_i h10
        have := CrlfOut.ok (Eol.cr i c1 h0 h1 (by simpa using h10))
        rwa [Nat.add_sub_cancel_left] at this
    · rename_i h13
      split
      · rename_i h10
        have e10 : b[i] = 10 := by simpa using h10
        rw [e10] at h0
        have := CrlfOut.ok (Eol.lf i c1 h0 h1)
        rwa [Nat.add_sub_cancel_left] at this
      · rename_i h10
        refine .noCR h0 ?_
        simp only [beq_iff_eq] at h13 h10
        simp [isCRLFch, h13, h10]

theorem skipCRLF_out' {b : Buf} {i : Nat} {r : Nat × Nat × Err} (h : skipCRLF b i = r) : CrlfOut b i r :=
  h ▸ skipCRLF_out b i

theorem skipCRLF_noCR_of {b : Buf} {i : Nat} {c : UInt8} (h0 : b[i]? = some c) (hc : isCRLFch c = false) :
    skipCRLF b i = (i, 0, .noCR) := by
  simp only [isCRLFch, Bool.or_eq_false_iff, beq_eq_false_iff_ne, ne_eq] at hc
  unfold skipCRLF
  rw [h0]
  cases b[i + 1]? <;> simp [hc.1, hc.2]

theorem skipCRLF_more_of {b : Buf} {i : Nat} {c : UInt8} (h0 : b[i]? = some c) (hcr : isCRLFch c = true)
    (h1 : b[i + 1]? = none) : skipCRLF b i = (i, 0, .moreBytes) := by
  unfold skipCRLF; rw [h1, h0]; dsimp only
  simp only [isCRLFch, Bool.or_eq_true, beq_iff_eq] at hcr
  rcases hcr with rfl | rfl <;> rfl

theorem skipCRLF_stable (b s : Buf) (i : Nat) {n crl : Nat} {e : Err}
    (h : skipCRLF b i = (n, crl, e)) (he : e ≠ .moreBytes) : skipCRLF (b ++ s) i = (n, crl, e) := by
  cases skipCRLF_out' h with
  | ok hE => exact (hE.app s).skipCRLF
  | noCR h0 hc => exact skipCRLF_noCR_of (get?_app h0) hc
  | more => exact absurd rfl he

theorem skipCRLF_moreBytes_pos {b : Buf} {i n crl : Nat} (h : skipCRLF b i = (n, crl, Err.moreBytes)) :
    n = i ∧ crl = 0 ∧ b.size ≤ i + 1 := by
  cases skipCRLF_out' h with
  | more h1 _ => exact ⟨rfl, rfl, get?_none_ge h1⟩

theorem skipCRLF_range {b : Buf} {i n crl : Nat} {e : Err} (h : skipCRLF b i = (n, crl, e)) :
    i ≤ n ∧ n ≤ i + 2 ∧ (e = .ok → n ≤ b.size ∧ n = i + crl ∧ 1 ≤ crl) ∧ (e ≠ .ok → n = i ∧ crl = 0) := by
  cases skipCRLF_out' h with
  | ok hE => have := hE.gt; have := hE.size; exact ⟨by omega, by omega, fun _ => by omega, fun h => absurd rfl h⟩
  | noCR | more => exact ⟨Nat.le_refl _, by omega, nofun, fun _ => ⟨rfl, rfl⟩⟩

theorem skipCRLF_verdicts {b : Buf} {i n crl : Nat} {e : Err} (h : skipCRLF b i = (n, crl, e)) :
    e = .ok ∨ e = .noCR ∨ e = .moreBytes := by
  cases skipCRLF_out' h <;> simp

theorem skipCRLF_at_eol {b : Buf} {i n crl : Nat} {e : Err} (h : skipCRLF b i = (n, crl, e))
    (hc : ∀ c, b[i]? = some c → isCRLFch c = true) : e = Err.ok ∨ e = Err.moreBytes := by
  cases skipCRLF_out' h with
  | ok | more => simp
  | noCR h0 hn => rw [hc _ h0] at hn; cases hn

/-! ### skipLWS: one equation per branch -/

theorem skipLWS_none {b : Buf} {i f : Nat} (h : b[i]? = none) : skipLWS b i f = (i, 0, .moreBytes) := by
  rw [skipLWS]; split
  · rfl
  · rename_i c hc; rw [h] at hc; cases hc

theorem skipLWS_ws {b : Buf} {i f : Nat} {c : UInt8} (h : b[i]? = some c) (hws : isWS c = true) :
    skipLWS b i f = skipLWS b (i + 1) f := by
  rw [skipLWS]; split
  · rename_i hc; rw [h] at hc; cases hc
  · rename_i c' hc; rw [h] at hc; cases hc; simp only [hws, if_true]

theorem skipLWS_other {b : Buf} {i f : Nat} {c : UInt8} (h : b[i]? = some c) (hws : isWS c = false)
    (hcr : isCRLFch c = false) : skipLWS b i f = (i, 0, .ok) := by
  rw [skipLWS]; split
  · rename_i hc; rw [h] at hc; cases hc
  · rename_i c' hc; rw [h] at hc; cases hc; simp only [hws, hcr, Bool.false_eq_true, if_false]

theorem skipLWS_crlf_err {b : Buf} {i f : Nat} {c : UInt8} {n crl : Nat} {e : Err} (h : b[i]? = some c)
    (hws : isWS c = false) (hcr : isCRLFch c = true) (hs : skipCRLF b i = (n, crl, e)) (he : e ≠ .ok) :
    skipLWS b i f = (n, crl, e) := by
  rw [skipLWS]; split
  · rename_i hc; rw [h] at hc; cases hc
  · rename_i c' hc; rw [h] at hc; cases hc
    simp only [hws, hcr, Bool.false_eq_true, if_false, if_true]
    split
    · rename_i heq; rw [hs] at heq; cases heq; exact absurd rfl he
    · rename_i heq; rw [hs] at heq; cases heq; rfl

theorem skipLWS_crlf_end {b : Buf} {i f : Nat} {c : UInt8} {n crl : Nat} (h : b[i]? = some c)
    (hws : isWS c = false) (hcr : isCRLFch c = true) (hs : skipCRLF b i = (n, crl, .ok)) (hn : b[n]? = none) :
    skipLWS b i f = if hasFlag f POptInputEndF then (n, 0, .eoh) else (i, 0, .moreBytes) := by
  rw [skipLWS]; split
  · rename_i hc; rw [h] at hc; cases hc
  · rename_i c' hc; rw [h] at hc; cases hc
    simp only [hws, hcr, Bool.false_eq_true, if_false, if_true]
    split
    · rename_i heq; rw [hs] at heq; cases heq
      split
      · rfl
      · rename_i c2 hc2; rw [hn] at hc2; cases hc2
    · rename_i hne heq; rw [hs] at heq; cases heq; exact (hne rfl).elim

theorem skipLWS_crlf_ws {b : Buf} {i f : Nat} {c c2 : UInt8} {n crl : Nat} (h : b[i]? = some c)
    (hws : isWS c = false) (hcr : isCRLFch c = true) (hs : skipCRLF b i = (n, crl, .ok))
    (hn : b[n]? = some c2) (hws2 : isWS c2 = true) : skipLWS b i f = skipLWS b (n + 1) f := by
  rw [skipLWS]; split
  · rename_i hc; rw [h] at hc; cases hc
  · rename_i c' hc; rw [h] at hc; cases hc
    simp only [hws, hcr, Bool.false_eq_true, if_false, if_true]
    split
    · rename_i heq; rw [hs] at heq; cases heq
      split
      · rename_i hc2; rw [hn] at hc2; cases hc2
      · rename_i c3 hc3; rw [hn] at hc3; cases hc3; simp only [hws2, if_true]
    · rename_i hne heq; rw [hs] at heq; cases heq; exact (hne rfl).elim

theorem skipLWS_crlf_eoh {b : Buf} {i f : Nat} {c c2 : UInt8} {n crl : Nat} (h : b[i]? = some c)
    (hws : isWS c = false) (hcr : isCRLFch c = true) (hs : skipCRLF b i = (n, crl, .ok))
    (hn : b[n]? = some c2) (hws2 : isWS c2 = false) : skipLWS b i f = (i, crl, .eoh) := by
  rw [skipLWS]; split
  · rename_i hc; rw [h] at hc; cases hc
  · rename_i c' hc; rw [h] at hc; cases hc
    simp only [hws, hcr, Bool.false_eq_true, if_false, if_true]
    split
    · rename_i heq; rw [hs] at heq; cases heq
      split
      · rename_i hc2; rw [hn] at hc2; cases hc2
      · rename_i c3 hc3; rw [hn] at hc3; cases hc3; simp only [hws2, Bool.false_eq_true, if_false]
    · rename_i hne heq; rw [hs] at heq; cases heq; exact (hne rfl).elim

/-- linear white space from `i` to `n`: spaces / tabs and folds (a line end followed by a space or tab) -/
inductive Lws (b : Buf) : Nat → Nat → Prop
  | nil (i : Nat) : Lws b i i
  | ws (i n : Nat) (c : UInt8) : b[i]? = some c → isWS c = true → Lws b (i + 1) n → Lws b i n
  | fold (i e n : Nat) (c2 : UInt8) : Eol b i e → b[e]? = some c2 → isWS c2 = true → Lws b (e + 1) n → Lws b i n

theorem Lws.le {b : Buf} {i n : Nat} (h : Lws b i n) : i ≤ n := by
  induction h with
  | nil i => exact Nat.le_refl _
  | ws i n c _ _ _ ih => omega
  | fold i e n c2 he _ _ _ ih => have := he.gt; omega

theorem isWS_lws {c : UInt8} (h : isWS c = true) : isLWSch c = true := by
  unfold isWS at h; unfold isLWSch
  simp only [Bool.or_eq_true] at h ⊢
  exact Or.inl (Or.inl h)

theorem Lws.first {b : Buf} {i n : Nat} (h : Lws b i n) (hlt : i < n) : ∃ c, b[i]? = some c ∧ isLWSch c = true := by
  cases h with
  | nil i => omega
  | ws i n c hc hw _ => exact ⟨c, hc, isWS_lws hw⟩
  | fold i e n c2 he _ _ _ => obtain ⟨c, h1, _, _, h4⟩ := he.first; exact ⟨c, h1, h4⟩

theorem Lws.first_eol {b : Buf} {i p e : Nat} (h : Lws b i p) (he : Eol b p e) :
    ∃ c, b[i]? = some c ∧ isLWSch c = true := by
  have := h.le
  by_cases h1 : i < p
  · exact h.first h1
  · obtain ⟨c0, h0, _, _, h4⟩ := he.first
    exact ⟨c0, by rw [show i = p by omega]; exact h0, h4⟩

theorem lws_split {c : UInt8} (h : isLWSch c = false) : isWS c = false ∧ isCRLFch c = false := by
  unfold isLWSch at h; unfold isWS isCRLFch
  simp only [Bool.or_eq_false_iff] at h ⊢
  exact ⟨⟨h.1.1.1, h.1.1.2⟩, ⟨h.1.2, h.2⟩⟩

theorem lws_join {c : UInt8} (h1 : isWS c = false) (h2 : isCRLFch c = false) : isLWSch c = false := by
  simp only [isWS, isCRLFch, isLWSch, Bool.or_eq_false_iff] at h1 h2 ⊢
  exact ⟨⟨⟨h1.1, h1.2⟩, h2.1⟩, h2.2⟩

theorem isCRLFch_not_ws {c : UInt8} (h : isCRLFch c = true) : isWS c = false := by
  simp only [isCRLFch, Bool.or_eq_true, beq_iff_eq] at h
  rcases h with rfl | rfl <;> rfl

theorem Lws.trans {b : Buf} {i j k : Nat} (h1 : Lws b i j) (h2 : Lws b j k) : Lws b i k := by
  induction h1 with
  | nil i => exact h2
  | ws i n c hc hw _ ih => exact .ws i k c hc hw (ih h2)
  | fold i e n c2 he hc hw _ ih => exact .fold i e k c2 he hc hw (ih h2)

/-- a stretch of spaces and tabs is linear white space -/
theorem Lws.of_span {b : Buf} {i n : Nat} (h : Span (fun c => isWS c = true) b i n) (hin : i ≤ n) : Lws b i n := by
  obtain ⟨k, rfl⟩ := Nat.exists_eq_add_of_le hin
  induction k generalizing i with
  | zero => exact .nil i
  | succ k ih =>
    obtain ⟨c, hc, hw⟩ := h i (Nat.le_refl _) (by omega)
    exact .ws i _ c hc hw (by
      have := ih (i := i + 1) (h.sub (Nat.le_succ i) (by omega)) (by omega)
      rwa [show i + 1 + k = i + (k + 1) by omega] at this)

theorem Lws.app {b : Buf} {i n : Nat} (t : Buf) (h : Lws b i n) : Lws (b ++ t) i n := by
  induction h with
  | nil i => exact .nil i
  | ws i n c hc hw _ ih => exact .ws i n c (get?_app hc) hw ih
  | fold i e n c2 he hc hw _ ih => exact .fold i e n c2 (he.app t) (get?_app hc) hw ih

theorem Lws.le_size {b : Buf} {i n : Nat} (h : Lws b i n) (hi : i ≤ b.size) : n ≤ b.size := by
  induction h with
  | nil i => exact hi
  | ws i n c hc _ _ ih => exact ih (get?_lt hc)
  | fold i e n c2 _ hc _ _ ih => exact ih (get?_lt hc)

theorem Eol.run {b : Buf} {p e : Nat} (h : Eol b p e) : Span (fun c => isLWSch c = true) b p e := by
  intro k h1 h2
  cases h with
  | crlf h0 h1' =>
    rcases Nat.eq_or_lt_of_le h1 with rfl | h
    · exact ⟨13, h0, rfl⟩
    · rw [show k = p + 1 by omega]; exact ⟨10, h1', rfl⟩
  | cr c h0 _ _ => rw [show k = p by omega]; exact ⟨13, h0, rfl⟩
  | lf c h0 _ => rw [show k = p by omega]; exact ⟨10, h0, rfl⟩

theorem Lws.run {b : Buf} {i n : Nat} (h : Lws b i n) : Span (fun c => isLWSch c = true) b i n := by
  induction h with
  | nil i => intro k h1 h2; omega
  | ws i n c hc hw _ ih =>
    intro k h1 h2
    rcases Nat.eq_or_lt_of_le h1 with rfl | h
    · exact ⟨c, hc, isWS_lws hw⟩
    · exact ih k h h2
  | fold i e n c2 he hc hw _ ih =>
    intro k h1 h2
    have := he.gt
    rcases Nat.lt_or_ge k e with h | h
    · exact he.run k h1 h
    · rcases Nat.eq_or_lt_of_le h with rfl | h'
      · exact ⟨c2, hc, isWS_lws hw⟩
      · exact ih k h' h2

theorem skipLWS_skip {b : Buf} {i q : Nat} (f : Nat) (h : Lws b i q) : skipLWS b i f = skipLWS b q f := by
  induction h with
  | nil i => rfl
  | ws i n c h1 hw _ ih => rw [skipLWS_ws h1 hw]; exact ih
  | fold i e n c2 he h2 hw2 _ ih =>
    obtain ⟨c0, h0, hw0, hcr0, _⟩ := he.first
    rw [skipLWS_crlf_ws h0 hw0 hcr0 he.skipCRLF h2 hw2]; exact ih

/-- the input ends at `p`: nothing left, a lone CR or LF as the last byte, or CR LF as the last two bytes -/
inductive EndTail (b : Buf) : Nat → Prop
  | none (p : Nat) : b[p]? = none → EndTail b p
  | one (p : Nat) (c : UInt8) : b[p]? = some c → isCRLFch c = true → b[p + 1]? = none → EndTail b p
  | crlf (p : Nat) : b[p]? = some 13 → b[p + 1]? = some 10 → b[p + 2]? = none → EndTail b p

/-- **every outcome of `skipLWS` from `i`** under the option word `f`: linear white space `[i, q)` and then
    * a byte that is neither white space nor a line end: OK at that byte;
    * a line end `[q, e)` followed by a byte that is not SP / HT: end of header at `q`, with the length of the line end;
    * CR LF as the last two bytes, with the end-of-input option: end of header at the end of the buffer;
    * the end of the input (CR LF as the last two bytes only without the option): MoreBytes at `q`. -/
inductive LwsOut (b : Buf) (f i : Nat) : Nat × Nat × Err → Prop
  | ok {n : Nat} {c : UInt8} : Lws b i n → b[n]? = some c → isLWSch c = false → LwsOut b f i (n, 0, .ok)
  | eoh {q e : Nat} {c2 : UInt8} : Lws b i q → Eol b q e → b[e]? = some c2 → isWS c2 = false →
      LwsOut b f i (q, e - q, .eoh)
  | eohEnd {q : Nat} : Lws b i q → b[q]? = some 13 → b[q + 1]? = some 10 → b[q + 2]? = none →
      hasFlag f POptInputEndF = true → LwsOut b f i (b.size, 0, .eoh)
  | more {q : Nat} : Lws b i q → EndTail b q → (hasFlag f POptInputEndF = true → b[q + 1]? = none) →
      LwsOut b f i (q, 0, .moreBytes)

theorem LwsOut.prepend {b : Buf} {f i j : Nat} {r : Nat × Nat × Err} (hl : Lws b i j) (h : LwsOut b f j r) :
    LwsOut b f i r := by
  cases h with
  | ok h1 h2 h3 => exact .ok (hl.trans h1) h2 h3
  | eoh h1 h2 h3 h4 => exact .eoh (hl.trans h1) h2 h3 h4
  | eohEnd h1 h2 h3 h4 h5 => exact .eohEnd (hl.trans h1) h2 h3 h4 h5
  | more h1 h2 h3 => exact .more (hl.trans h1) h2 h3

theorem skipLWS_out (b : Buf) (i f : Nat) : LwsOut b f i (skipLWS b i f) := by
  fun_induction skipLWS b i f with
  | case1 i hb => exact .more (.nil i) (.none i hb) (fun _ => Array.getElem?_eq_none (by have := get?_none_ge hb; omega))
  | case2 i c hb hws ih => exact ih.prepend (.ws i _ c hb hws (.nil _))
  | case3 i c hb hws hcr n' crl' hs hb2 hfl =>
    cases skipCRLF_out' hs with
    | ok he =>
      cases he with
      | crlf h0 h1 =>
        rw [show i + 2 = b.size by have := get?_lt h1; have := get?_none_ge hb2; omega]
        exact .eohEnd (.nil i) h0 h1 hb2 hfl
      | cr c1 h0 h1 _ => rw [h1] at hb2; cases hb2
      | lf c1 h0 h1 => rw [h1] at hb2; cases hb2
  | case4 i c hb hws hcr n' crl' hs hb2 hfl =>
    cases skipCRLF_out' hs with
    | ok he =>
      cases he with
      | crlf h0 h1 => exact .more (.nil i) (.crlf i h0 h1 hb2) (fun h => absurd h hfl)
      | cr c1 h0 h1 _ => rw [h1] at hb2; cases hb2
      | lf c1 h0 h1 => rw [h1] at hb2; cases hb2
  | case5 i c hb hws hcr n' crl' hs c2 hb2 hws2 ih =>
    cases skipCRLF_out' hs with
    | ok he => exact ih.prepend (.fold i n' _ c2 he hb2 hws2 (.nil _))
  | case6 i c hb hws hcr n' crl' hs c2 hb2 hws2 =>
    cases skipCRLF_out' hs with
    | ok he => exact .eoh (.nil i) he hb2 (by simpa using hws2)
  | case7 i c hb hws hcr n' crl' e' hne hs =>
    cases skipCRLF_out' hs with
    | ok he => exact (hne rfl).elim
    | noCR h0 hc => rw [hb] at h0; cases h0; rw [hcr] at hc; cases hc
    | more h1 _ => exact .more (.nil i) (.one i c hb hcr h1) (fun _ => h1)
  | case8 i c hb hws hcr => exact .ok (.nil i) hb (lws_join (by simpa using hws) (by simpa using hcr))

theorem skipLWS_out' {b : Buf} {f i : Nat} {r : Nat × Nat × Err} (h : skipLWS b i f = r) : LwsOut b f i r :=
  h ▸ skipLWS_out b i f

theorem skipLWS_of_out {b : Buf} {f i : Nat} {r : Nat × Nat × Err} (h : LwsOut b f i r) : skipLWS b i f = r := by
  cases h with
  | ok hl hn hc => rw [skipLWS_skip f hl]; exact skipLWS_other hn (lws_split hc).1 (lws_split hc).2
  | eoh hl he h2 hw =>
    obtain ⟨c0, h0, hw0, hcr0, _⟩ := he.first
    rw [skipLWS_skip f hl]; exact skipLWS_crlf_eoh h0 hw0 hcr0 he.skipCRLF h2 hw
  | @eohEnd q hl h0 h1 h2 hf =>
    rw [skipLWS_skip f hl, skipLWS_crlf_end h0 (by decide) (by decide) (Eol.crlf q h0 h1).skipCRLF h2, if_pos hf,
      show q + 2 = b.size by have := get?_lt h1; have := get?_none_ge h2; omega]
  | @more q hl he hf =>
    rw [skipLWS_skip f hl]
    cases he with
    | none h0 => exact skipLWS_none h0
    | one c h0 hcr h1 => exact skipLWS_crlf_err h0 (isCRLFch_not_ws hcr) hcr (skipCRLF_more_of h0 hcr h1) nofun
    | crlf h0 h1 h2 =>
      rw [skipLWS_crlf_end h0 (by decide) (by decide) (Eol.crlf q h0 h1).skipCRLF h2,
        if_neg (fun hfl => by rw [hf hfl] at h1; cases h1)]

theorem skipLWS_iff {b : Buf} {f i : Nat} {r : Nat × Nat × Err} : skipLWS b i f = r ↔ LwsOut b f i r :=
  ⟨skipLWS_out', skipLWS_of_out⟩

/-! ### the same text in another buffer

Line ends, linear white space and the end of the input are read off single bytes through five tests (CR, LF, SP / HT,
the two classes built from them). A buffer `b'` that from position `k` on shows, position by position, bytes that
these tests do not tell from those of `b` has the same line ends and white space there, so `skipLWS` returns the same
result moved by `k`: behind a prefix (`k` bytes, the same bytes), or with letters in another case (`k = 0`). -/

/-- bytes the lexical layer cannot tell apart -/
structure LexSame (c c' : UInt8) : Prop where
  cr : c = 13 ↔ c' = 13
  lf : c = 10 ↔ c' = 10
  ws : isWS c' = isWS c
  crlf : isCRLFch c' = isCRLFch c
  lws : isLWSch c' = isLWSch c

theorem LexSame.refl (c : UInt8) : LexSame c c := ⟨Iff.rfl, Iff.rfl, rfl, rfl, rfl⟩

/-- from position `k` on, `b'` reads like `b`: the same bytes up to `LexSame`, and it ends where `b` ends -/
structure LexMap (b b' : Buf) (k : Nat) : Prop where
  byte : ∀ {p : Nat} {c : UInt8}, b[p]? = some c → ∃ c', b'[p + k]? = some c' ∧ LexSame c c'
  stop : ∀ {p : Nat}, b[p]? = none → b'[p + k]? = none
  size : b'.size = b.size + k

section
variable {b b' : Buf} {k : Nat}

theorem LexMap.byte1 (H : LexMap b b' k) {p : Nat} {c : UInt8} (h : b[p + 1]? = some c) :
    ∃ c', b'[p + k + 1]? = some c' ∧ LexSame c c' := by rw [Nat.add_right_comm]; exact H.byte h

theorem LexMap.stop1 (H : LexMap b b' k) {p : Nat} (h : b[p + 1]? = none) : b'[p + k + 1]? = none := by
  rw [Nat.add_right_comm]; exact H.stop h

theorem Eol.map (H : LexMap b b' k) {p e : Nat} (h : Eol b p e) : Eol b' (p + k) (e + k) := by
  cases h with
  | crlf h0 h1 =>
    obtain ⟨c0, e0, s0⟩ := H.byte h0
    obtain ⟨c1, e1, s1⟩ := H.byte1 h1
    cases s0.cr.mp rfl; cases s1.lf.mp rfl
    rw [Nat.add_right_comm]; exact .crlf _ e0 e1
  | cr c h0 h1 hc =>
    obtain ⟨c0, e0, s0⟩ := H.byte h0
    obtain ⟨c1, e1, s1⟩ := H.byte1 h1
    cases s0.cr.mp rfl
    rw [Nat.add_right_comm]; exact .cr _ c1 e0 e1 (fun hh => hc (s1.lf.mpr hh))
  | lf c h0 h1 =>
    obtain ⟨c0, e0, s0⟩ := H.byte h0
    obtain ⟨c1, e1, _⟩ := H.byte1 h1
    cases s0.lf.mp rfl
    rw [Nat.add_right_comm]; exact .lf _ c1 e0 e1

theorem Lws.map (H : LexMap b b' k) {i n : Nat} (h : Lws b i n) : Lws b' (i + k) (n + k) := by
  induction h with
  | nil i => exact .nil _
  | ws i n c hc hw _ ih =>
    obtain ⟨c', e, s⟩ := H.byte hc
    exact .ws _ _ c' e (by rw [s.ws]; exact hw) (by rw [← Nat.add_right_comm]; exact ih)
  | fold i e n c2 he hc hw _ ih =>
    obtain ⟨c', e2, s⟩ := H.byte hc
    exact .fold _ _ _ c' (he.map H) e2 (by rw [s.ws]; exact hw) (by rw [← Nat.add_right_comm]; exact ih)

theorem EndTail.map (H : LexMap b b' k) {p : Nat} (h : EndTail b p) : EndTail b' (p + k) := by
  cases h with
  | none h0 => exact .none _ (H.stop h0)
  | one c h0 hc h1 =>
    obtain ⟨c', e, s⟩ := H.byte h0
    exact .one _ c' e (by rw [s.crlf]; exact hc) (H.stop1 h1)
  | crlf h0 h1 h2 =>
    obtain ⟨c0, e0, s0⟩ := H.byte h0
    obtain ⟨c1, e1, s1⟩ := H.byte1 h1
    cases s0.cr.mp rfl; cases s1.lf.mp rfl
    exact .crlf _ e0 e1 (by rw [Nat.add_right_comm]; exact H.stop h2)

theorem LwsOut.map (H : LexMap b b' k) {f i : Nat} {r : Nat × Nat × Err} (h : LwsOut b f i r) :
    LwsOut b' f (i + k) (r.1 + k, r.2.1, r.2.2) := by
  cases h with
  | ok hl hn hc =>
    obtain ⟨c', e, s⟩ := H.byte hn
    exact .ok (hl.map H) e (by rw [s.lws]; exact hc)
  | @eoh q e c2 hl hE h2 hw =>
    obtain ⟨c', e2, s⟩ := H.byte h2
    have := LwsOut.eoh (f := f) (hl.map H) (hE.map H) e2 (by rw [s.ws]; exact hw)
    rw [Nat.add_sub_add_right] at this; exact this
  | eohEnd hl h0 h1 h2 hfl =>
    obtain ⟨c0, e0, s0⟩ := H.byte h0
    obtain ⟨c1, e1, s1⟩ := H.byte1 h1
    cases s0.cr.mp rfl; cases s1.lf.mp rfl
    rw [← H.size]
    exact .eohEnd (hl.map H) e0 e1 (by rw [Nat.add_right_comm]; exact H.stop h2) hfl
  | more hl ht hf => exact .more (hl.map H) (ht.map H) (fun h => H.stop1 (hf h))

theorem skipLWS_map (H : LexMap b b' k) (i f : Nat) :
    skipLWS b' (i + k) f = ((skipLWS b i f).1 + k, (skipLWS b i f).2.1, (skipLWS b i f).2.2) :=
  skipLWS_of_out ((skipLWS_out b i f).map H)

end

theorem skipLWS_at_end {b : Buf} {i p : Nat} (f : Nat) (h : Lws b i p) (he : EndTail b p) :
    skipLWS b i f = (p, 0, .moreBytes) ∨ skipLWS b i f = (b.size, 0, .eoh) := by
  cases he with
  | none h0 =>
    exact .inl (skipLWS_of_out (.more h (.none p h0) fun _ => Array.getElem?_eq_none (by have := get?_none_ge h0; omega)))
  | one c h0 hcr h1 => exact .inl (skipLWS_of_out (.more h (.one p c h0 hcr h1) fun _ => h1))
  | crlf h0 h1 h2 =>
    by_cases hf : hasFlag f POptInputEndF = true
    · exact .inr (skipLWS_of_out (.eohEnd h h0 h1 h2 hf))
    · exact .inl (skipLWS_of_out (.more h (.crlf p h0 h1 h2) fun hfl => absurd hfl hf))

theorem skipLWS_of_lws {b : Buf} {i n f : Nat} (h : Lws b i n) {c : UInt8} (hn : b[n]? = some c)
    (hc : isLWSch c = false) : skipLWS b i f = (n, 0, .ok) :=
  skipLWS_of_out (.ok h hn hc)

theorem skipLWS_of_lws_eol {b : Buf} {i p e f : Nat} (h : Lws b i p) (he : Eol b p e) {c2 : UInt8}
    (h2 : b[e]? = some c2) (hw2 : isWS c2 = false) : skipLWS b i f = (p, e - p, .eoh) :=
  skipLWS_of_out (.eoh h he h2 hw2)

/-! ### skipLWS: stability, restart after MoreBytes, ranges, verdicts -/

theorem skipLWS_stable (b s : Buf) (i flags : Nat) {n crl : Nat} {e : Err}
    (h : skipLWS b i flags = (n, crl, e)) (he : e ≠ .moreBytes) (hf : hasFlag flags POptInputEndF = false) :
    skipLWS (b ++ s) i flags = (n, crl, e) := by
  cases skipLWS_out' h with
  | ok hl hn hc => exact skipLWS_of_out (.ok (hl.app s) (get?_app hn) hc)
  | eoh hl hE h2 hw => exact skipLWS_of_out (.eoh (hl.app s) (hE.app s) (get?_app h2) hw)
  | eohEnd _ _ _ _ hfl => rw [hf] at hfl; cases hfl
  | more => exact absurd rfl he

-- `hf` is not needed by the proof; the statement stands as the property files export it
set_option linter.unusedVariables false in
theorem skipLWS_restart (b s : Buf) (i flags : Nat) {n crl : Nat}
    (h : skipLWS b i flags = (n, crl, .moreBytes)) (hf : hasFlag flags POptInputEndF = false) :
    skipLWS (b ++ s) n flags = skipLWS (b ++ s) i flags ∧ i ≤ n := by
  cases skipLWS_out' h with
  | more hl _ _ => exact ⟨(skipLWS_skip flags (hl.app s)).symm, hl.le⟩

theorem skipLWS_range (b : Buf) (i flags : Nat) {n crl : Nat} {e : Err}
    (h : skipLWS b i flags = (n, crl, e)) : i ≤ n ∧ (i ≤ b.size → n ≤ b.size) := by
  cases skipLWS_out' h with
  | ok hl _ _ | eoh hl _ _ _ | more hl _ _ => exact ⟨hl.le, hl.le_size⟩
  | eohEnd hl _ h1 _ _ => have := hl.le; have := get?_lt h1; exact ⟨by omega, fun _ => Nat.le_refl _⟩

theorem skipLWS_ok (b : Buf) (i flags : Nat) {n crl : Nat} (h : skipLWS b i flags = (n, crl, .ok)) :
    crl = 0 ∧ ∃ c, b[n]? = some c ∧ isLWSch c = false := by
  cases skipLWS_out' h with
  | ok _ hc hl => exact ⟨rfl, _, hc, hl⟩

theorem skipLWS_ok_lws (b : Buf) (i flags : Nat) {n crl : Nat} (h : skipLWS b i flags = (n, crl, .ok)) : Lws b i n := by
  cases skipLWS_out' h; assumption

theorem skipLWS_ok_gt (b : Buf) (i flags : Nat) {n crl : Nat} {c : UInt8} (hb : b[i]? = some c)
    (hc : isLWSch c = true) (h : skipLWS b i flags = (n, crl, .ok)) : i < n := by
  have hr := skipLWS_range b i flags h
  obtain ⟨_, c', hc', hl⟩ := skipLWS_ok b i flags h
  rcases Nat.lt_or_ge i n with h' | h'
  · exact h'
  · have : n = i := by omega
    subst this; rw [hb] at hc'; cases hc'; rw [hc] at hl; cases hl

theorem skipLWS_eoh_range (b : Buf) (i flags : Nat) {n crl : Nat} (h : skipLWS b i flags = (n, crl, .eoh))
    (hf : hasFlag flags POptInputEndF = false) : i ≤ n ∧ n + crl < b.size ∧ 1 ≤ crl := by
  cases skipLWS_out' h with
  | eoh hl he h2 _ => have := hl.le; have := he.gt; have := get?_lt h2; omega
  | eohEnd _ _ _ _ hfl => rw [hf] at hfl; cases hfl

theorem skipLWS_eoh_le (b : Buf) (i flags : Nat) {n crl : Nat} (h : skipLWS b i flags = (n, crl, .eoh)) :
    n + crl ≤ b.size := by
  cases skipLWS_out' h with
  | eoh _ he h2 _ => have := get?_lt h2; have := he.gt; omega
  | eohEnd => exact Nat.le_refl _

theorem skipLWS_three_verdicts (b : Buf) (i flags : Nat) {n crl : Nat} {e : Err}
    (h : skipLWS b i flags = (n, crl, e)) : e = .ok ∨ e = .eoh ∨ e = .moreBytes := by
  cases skipLWS_out' h <;> simp

end Sipsp
