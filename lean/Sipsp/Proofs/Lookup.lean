/-
  Sipsp.Proofs.Lookup — the hash-bucket lookups GetHdrType / GetMethodNo find exactly the table entries.
-/
import Sipsp.Proofs.Bytes
import Sipsp.Model.Tables

namespace Sipsp

theorem byteToLower_eq : ∀ v : UInt8, byteToLower v = lowerB v := forall_byte (by decide +kernel)

/-! ### both lookups are a `find?` with their comparison as the test -/

theorem lookupCI_eq_find (name : Buf) (tbl : List (List UInt8 × Nat)) :
    lookupCI name tbl = (tbl.find? (fun e => cmpEqL name e.1)).map (·.2) := by
  induction tbl with
  | nil => rfl
  | cons e es ih => rw [lookupCI, List.find?_cons, ih]; cases cmpEqL name e.1 <;> rfl

theorem lookupExact_eq_find (name : Buf) (tbl : List (List UInt8 × Nat)) :
    lookupExact name tbl = (tbl.find? (fun e => bytesEqL name e.1)).map (·.2) := by
  induction tbl with
  | nil => rfl
  | cons e es ih => rw [lookupExact, List.find?_cons, ih]; cases bytesEqL name e.1 <;> rfl

/-- searching a sublist selected by `q` finds the same element, provided `q` keeps everything the test accepts -/
theorem find?_filter_of_imp {α : Type} (p q : α → Bool) (l : List α) (h : ∀ e ∈ l, p e = true → q e = true) :
    (l.filter q).find? p = l.find? p := by
  induction l with
  | nil => rfl
  | cons e es ih =>
    have ih' := ih (fun e' he' => h e' (List.mem_cons_of_mem _ he'))
    cases hq : q e
    · have hp : ¬ p e = true := fun hp => by rw [h e List.mem_cons_self hp] at hq; cases hq
      rw [List.filter_cons_of_neg (by rw [hq]; decide), ih', List.find?_cons_of_neg hp]
    · rw [List.filter_cons_of_pos hq, List.find?_cons, List.find?_cons, ih']

/-- looking in the hash bucket is the same as looking in the whole table, provided matching entries
    have the hash of the name -/
theorem lookupCI_filter (name : Buf) (p : List UInt8 × Nat → Bool) (tbl : List (List UInt8 × Nat))
    (hp : ∀ e ∈ tbl, cmpEqL name e.1 = true → p e = true) :
    lookupCI name (tbl.filter p) = lookupCI name tbl := by
  rw [lookupCI_eq_find, lookupCI_eq_find, find?_filter_of_imp _ p tbl hp]

theorem lookupExact_filter (name : Buf) (p : List UInt8 × Nat → Bool) (tbl : List (List UInt8 × Nat))
    (hp : ∀ e ∈ tbl, name.toList = e.1 → p e = true) :
    lookupExact name (tbl.filter p) = lookupExact name tbl := by
  rw [lookupExact_eq_find, lookupExact_eq_find,
    find?_filter_of_imp _ p tbl (fun e he hc => hp e he ((bytesEqL_iff _ _).1 hc))]

/-! ### a functional table searched with a test: any matching entry gives the result, none gives the default -/

theorem find?_getD_of_mem {α β : Type} {p : α × β → Bool} {tbl : List (α × β)} {d : β}
    (hfun : ∀ e ∈ tbl, ∀ e' ∈ tbl, p e = true → p e' = true → e.2 = e'.2) {e : α × β} (he : e ∈ tbl)
    (hp : p e = true) : ((tbl.find? p).map (·.2)).getD d = e.2 := by
  cases h : tbl.find? p with
  | none => exact absurd hp (List.find?_eq_none.1 h e he)
  | some e' => exact (hfun e he e' (List.mem_of_find?_eq_some h) hp (List.find?_some h)).symm

theorem find?_getD_of_not {α β : Type} {p : α × β → Bool} {tbl : List (α × β)} {d : β}
    (h : ∀ e ∈ tbl, p e = false) : ((tbl.find? p).map (·.2)).getD d = d := by
  rw [List.find?_eq_none.2 fun e he => by rw [h e he]; exact Bool.false_ne_true]; rfl

/-- the shape shared by `getHdrType` and `getMethodNo`: first byte, bucket, default -/
theorem firstByte_getD {name : Buf} {d : Nat} {look : UInt8 → Option Nat} {r : Option Nat}
    (hnone : name[0]? = none → r = none) (hsome : ∀ c, name[0]? = some c → look c = r) :
    (match name[0]? with
      | none => d
      | some c => match look c with
        | some t => t
        | none => d) = r.getD d := by
  cases h0 : name[0]? with
  | none => rw [hnone h0]; rfl
  | some c => simp only [hsome c h0]; cases r <;> rfl

theorem head_of_get0 {name : Buf} {c : UInt8} (h0 : name[0]? = some c) :
    name.toList = c :: name.toList.tail ∧ name.size = name.toList.tail.length + 1 := by
  rw [← Array.getElem?_toList] at h0
  rw [← Array.length_toList]
  cases hl : name.toList with
  | nil => rw [hl] at h0; cases h0
  | cons x xs => rw [hl] at h0; cases h0; exact ⟨rfl, rfl⟩

theorem nil_of_get0 {name : Buf} (h0 : name[0]? = none) : name.toList = [] := by
  rw [← Array.getElem?_toList] at h0
  cases hl : name.toList with
  | nil => rfl
  | cons x xs => rw [hl] at h0; cases h0

/-- the hash of a name only depends on its lower-cased first byte and its length -/
theorem hashNameL_of_lower {bl bf : Nat} {c : UInt8} {rest : List UInt8} {e : List UInt8}
    (h : lowerL (c :: rest) = lowerL e) : hashNameL bl bf e = hashName bl bf c (rest.length + 1) := by
  cases e with
  | nil => simp [lowerL] at h
  | cons w ws =>
    simp only [lowerL, List.map_cons, List.cons.injEq] at h
    have hl : ws.length = rest.length := by
      have := congrArg List.length h.2
      simpa using this.symm
    simp only [hashNameL, hashName, byteToLower_eq, h.1, List.length_cons, hl]

end Sipsp
