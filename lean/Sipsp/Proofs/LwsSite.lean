/-
  Sipsp.Proofs.LwsSite — the white-space site shared by the value parsers (`lwsStd`): the three things it can do (go
  on behind the white space, run the end-of-header code, ask for more bytes), its stability and restart, and the
  automata whose only suspension site it is (`LwsCases`: stability, progress, restart, range, "a suspended object is
  not final", once for all of them).
-/
import Sipsp.Proofs.RunLoop
import Sipsp.Model.Values
import Sipsp.Proofs.Lex

namespace Sipsp

variable {σ : Type}

/-- **linear white space at a white-space site**: what is particular to the site is only that, when `skipLWS` reports
    the first byte `n` behind the white space, the step goes on there with `st'` -/
theorem runLoop_lws (m : Machine σ) {b : Buf} {w n : Nat} {c : UInt8} (hl : Lws b w n) (hlt : w < n)
    (hn : b[n]? = some c) (hc : isLWSch c = false) (st st' : σ)
    (hsite : ∀ c0, isLWSch c0 = true → skipLWS b w 0 = (n, 0, .ok) → m.step b w c0 st = .cont n st') :
    runLoop m b w st = runLoop m b n st' := by
  obtain ⟨c0, hc0, hl0⟩ := hl.first hlt
  exact runLoop_cont_lt m hc0 (hsite c0 hl0 (skipLWS_of_lws hl hn hc)) hlt

theorem lwsStd_ok {b : Buf} {i n : Nat} (st : σ) (eoh : σ → Nat → Nat → Nat → Nat × Err × σ)
    (mb : σ → σ) (hs : skipLWS b i 0 = (n, 0, .ok)) : lwsStd b i st eoh mb = .cont n st := by
  unfold lwsStd; rw [hs]

theorem lwsStd_eoh {b : Buf} {i p crl : Nat} (st : σ) (eoh : σ → Nat → Nat → Nat → Nat × Err × σ)
    (mb : σ → σ) (hs : skipLWS b i 0 = (p, crl, .eoh)) :
    lwsStd b i st eoh mb = .done (eoh st i p crl).1 (eoh st i p crl).2.1 (eoh st i p crl).2.2 := by
  unfold lwsStd; rw [hs]

/-- a machine whose step on a white-space byte in state `st` is the standard white-space site skips the
    linear white space in front of a byte that is not white space -/
theorem runLoop_skip_lws (m : Machine σ) (b : Buf) (st : σ) (eoh : σ → Nat → Nat → Nat → Nat × Err × σ)
    (mb : σ → σ) {w n : Nat} (hl : Lws b w n) {c : UInt8} (hn : b[n]? = some c) (hc : isLWSch c = false)
    (hstep : ∀ c', isLWSch c' = true → m.step b w c' st = lwsStd b w st eoh mb) :
    runLoop m b w st = runLoop m b n st := by
  by_cases h1 : w < n
  · exact runLoop_lws m hl h1 hn hc st st fun c0 h0 hs => (hstep c0 h0).trans (lwsStd_ok st eoh mb hs)
  · rw [show w = n by have := hl.le; omega]

/-- an OK exit of the standard white-space pattern is an end-of-header exit -/
theorem lwsStd_done_ok (b : Buf) (i : Nat) (st : σ) (eoh : σ → Nat → Nat → Nat → Nat × Err × σ) (mb : σ → σ)
    {o : Nat} {st' : σ} (h : lwsStd b i st eoh mb = .done o .ok st') :
    ∃ n crl, i ≤ n ∧ n + crl ≤ b.size ∧ eoh st i n crl = (o, .ok, st') ∧ 1 ≤ crl := by
  unfold lwsStd at h
  rcases hsk : skipLWS b i 0 with ⟨n, crl, e⟩
  rw [hsk] at h
  cases e <;> simp only at h <;> try (cases h; done)
  case eoh =>
    have hr := skipLWS_eoh_range b i 0 hsk (by decide)
    refine ⟨n, crl, hr.1, by omega, ?_, hr.2.2⟩
    simp only [Step.done.injEq] at h
    obtain ⟨h1, h2, h3⟩ := h
    rw [← h1, ← h2, ← h3]

/-- the site on a longer buffer, with an end-of-header code `eoh'` that may read the buffer -/
theorem lwsStd_stable (b s : Buf) (i : Nat) (st : σ) (eoh eoh' : σ → Nat → Nat → Nat → Nat × Err × σ) (mb : σ → σ)
    (heq : ∀ n crl, eoh' st i n crl = eoh st i n crl)
    (h : ∀ o st', lwsStd b i st eoh mb ≠ .done o .moreBytes st') :
    lwsStd (b ++ s) i st eoh' mb = lwsStd b i st eoh mb := by
  unfold lwsStd at h ⊢
  rcases hsk : skipLWS b i 0 with ⟨n, crl, e⟩
  rw [hsk] at h
  have hne : e ≠ .moreBytes := by
    intro he; subst he; exact h n (mb st) rfl
  rw [skipLWS_stable b s i 0 hsk hne (by decide)]
  cases e <;> simp only [heq]

/-- a site that goes on: in the same state, where `skipLWS` says the white space ends -/
theorem lwsStd_cont (b : Buf) (i : Nat) (st : σ) (eoh : σ → Nat → Nat → Nat → Nat × Err × σ) (mb : σ → σ)
    {i' : Nat} {st' : σ} (h : lwsStd b i st eoh mb = .cont i' st') :
    st' = st ∧ ∃ crl, skipLWS b i 0 = (i', crl, .ok) := by
  unfold lwsStd at h
  rcases hsk : skipLWS b i 0 with ⟨n, crl, e⟩
  rw [hsk] at h
  cases e <;> simp only at h <;> cases h
  exact ⟨rfl, crl, rfl⟩

theorem lwsStd_cont_gt (b : Buf) (i : Nat) (c : UInt8) (st : σ)
    (eoh : σ → Nat → Nat → Nat → Nat × Err × σ) (mb : σ → σ) (hb : b[i]? = some c) (hl : isLWSch c = true)
    {i' : Nat} {st' : σ} (h : lwsStd b i st eoh mb = .cont i' st') : i < i' := by
  obtain ⟨_, crl, hsk⟩ := lwsStd_cont b i st eoh mb h
  exact skipLWS_ok_gt b i 0 hb hl hsk

/-- a site that asks for more bytes: with the bookkeeping `mb` done, where `skipLWS` ran out of bytes -/
theorem lwsStd_more (b : Buf) (i : Nat) (st : σ) (eoh : σ → Nat → Nat → Nat → Nat × Err × σ) (mb : σ → σ)
    (heoh : ∀ s j n crl, (eoh s j n crl).2.1 ≠ .moreBytes)
    {o : Nat} {st' : σ} (h : lwsStd b i st eoh mb = .done o .moreBytes st') :
    st' = mb st ∧ ∃ crl, skipLWS b i 0 = (o, crl, .moreBytes) := by
  unfold lwsStd at h
  rcases hsk : skipLWS b i 0 with ⟨n, crl, e⟩
  rw [hsk] at h
  cases e <;> simp only at h
  case eoh =>
    simp only [Step.done.injEq] at h
    exact absurd h.2.1 (heoh _ _ _ _)
  case moreBytes => simp only [Step.done.injEq] at h; exact ⟨h.2.2.symm, crl, by rw [h.1]⟩
  all_goals cases h

/-- restart at a `lwsStd` site: the resumed run starts from the state `st1` the step had moved to when it
    suspended, not from the returned `mb st1`: this is for a caller whose re-entry undoes the `moreBytes:` bookkeeping
    `mb` (name-addr: `saveS` stores the local `s`, the next call loads it back); `mb` is redone by whoever suspends
    next. With `mb st1 = st1` it is `lwsStd_restart`. -/
theorem lwsStd_restart' (m : Machine σ) (b s : Buf) (i n crl : Nat) (st1 : σ)
    (eoh : σ → Nat → Nat → Nat → Nat × Err × σ) (mb : σ → σ) {c : UInt8}
    (hbi : b[i]? = some c) (hci : isLWSch c = true)
    (hsk : skipLWS b i 0 = (n, crl, Err.moreBytes))
    (hstep : ∀ j c', (b ++ s)[j]? = some c' → isLWSch c' = true →
      m.step (b ++ s) j c' st1 = lwsStd (b ++ s) j st1 eoh mb)
    (heoh : ∀ j j' n' crl', eoh st1 j n' crl' = eoh st1 j' n' crl')
    (heob : ∀ j, m.eob (b ++ s) j st1 = (j, Err.moreBytes, mb st1)) :
    runLoop m (b ++ s) n st1 = runStep m (b ++ s) i (lwsStd (b ++ s) i st1 eoh mb) := by
  obtain ⟨hre, hin⟩ := skipLWS_restart b s i 0 hsk (by decide)
  rcases hB : skipLWS (b ++ s) i 0 with ⟨n2, crl2, e2⟩
  have hBn : skipLWS (b ++ s) n 0 = (n2, crl2, e2) := hre.trans hB
  have hrange := skipLWS_range (b ++ s) n 0 hBn
  have horig : lwsStd (b ++ s) i st1 eoh mb =
      (match (n2, crl2, e2) with
       | (n, _, .ok) => .cont n st1
       | (n, crl, .eoh) => let r := eoh st1 i n crl; .done r.1 r.2.1 r.2.2
       | (n, _, .moreBytes) => .done n .moreBytes (mb st1)
       | (n, _, e) => .done n e st1) := by
    unfold lwsStd; rw [hB]; rfl
  cases hbn : (b ++ s)[n]? with
  | none =>
    rw [runLoop_none m st1 hbn, heob n]
    rw [skipLWS_none hbn] at hBn
    cases hBn
    rw [horig]; simp only [runStep]
  | some c' =>
    by_cases hl : isLWSch c' = true
    · rw [runLoop_eq_runStep m st1 hbn, hstep n c' hbn hl]
      unfold lwsStd; rw [hBn, hB]
      cases e2 with
      | ok =>
        have h1 : n < n2 := skipLWS_ok_gt (b ++ s) n 0 hbn hl hBn
        have h2 : i < n2 := by omega
        simp only [runStep, if_pos h1, if_pos h2]
      | eoh => simp only [runStep, heoh n i]
      | _ => rfl
    · obtain ⟨hws, hcr⟩ := lws_split (Bool.eq_false_iff.mpr hl)
      rw [skipLWS_other hbn hws hcr] at hBn
      cases hBn
      rw [horig]
      simp only [runStep]
      have : i < n := by
        rcases Nat.lt_or_ge i n with h | h
        · exact h
        · have : n = i := by omega
          subst this
          rw [get?_app hbi] at hbn; cases hbn; exact absurd hci hl
      rw [if_pos this]

/-- the same when the bookkeeping leaves `st1` as it is -/
theorem lwsStd_restart (m : Machine σ) (b s : Buf) (i n crl : Nat) (st1 : σ)
    (eoh : σ → Nat → Nat → Nat → Nat × Err × σ) (mb : σ → σ) {c : UInt8}
    (hbi : b[i]? = some c) (hci : isLWSch c = true)
    (hsk : skipLWS b i 0 = (n, crl, Err.moreBytes))
    (hmb : mb st1 = st1)
    (hstep : ∀ j c', (b ++ s)[j]? = some c' → isLWSch c' = true →
      m.step (b ++ s) j c' st1 = lwsStd (b ++ s) j st1 eoh mb)
    (heoh : ∀ j j' n' crl', eoh st1 j n' crl' = eoh st1 j' n' crl')
    (heob : ∀ j, m.eob (b ++ s) j st1 = (j, Err.moreBytes, st1)) :
    runLoop m (b ++ s) n (mb st1) = runStep m (b ++ s) i (lwsStd (b ++ s) i st1 eoh mb) := by
  rw [hmb]
  exact lwsStd_restart' m b s i n crl st1 eoh mb hbi hci hsk hstep heoh (fun j => by rw [hmb]; exact heob j)

theorem lwsStd_verd (V : Err → Prop) (b : Buf) (i : Nat) (st : σ) (eoh : σ → Nat → Nat → Nat → Nat × Err × σ)
    (mb : σ → σ) (hm : V .moreBytes) (heoh : ∀ s j n crl, V (eoh s j n crl).2.1) : (lwsStd b i st eoh mb).Verd V := by
  unfold lwsStd
  rcases hs : skipLWS b i 0 with ⟨n, crl, e⟩
  rcases skipLWS_three_verdicts b i 0 hs with rfl | rfl | rfl
  · exact True.intro
  · exact heoh _ _ _ _
  · exact hm

/-! ### where the site can lead -/

/-- **the three things the standard white-space pattern can do**: go on behind the white space, run the end-of-header
    code, or ask for more bytes (`skipLWS` has no other verdict, so the last alternative of `lwsStd` never fires) -/
theorem lwsStd_class (b : Buf) (i : Nat) (st : σ) (eoh : σ → Nat → Nat → Nat → Nat × Err × σ) (mb : σ → σ)
    (hi : i ≤ b.size) :
    (∃ n, i ≤ n ∧ n ≤ b.size ∧ lwsStd b i st eoh mb = .cont n st) ∨
    (∃ n crl, i ≤ n ∧ n + crl ≤ b.size ∧ 1 ≤ crl ∧
      lwsStd b i st eoh mb = .done (eoh st i n crl).1 (eoh st i n crl).2.1 (eoh st i n crl).2.2) ∨
    (∃ n, i ≤ n ∧ n ≤ b.size ∧ lwsStd b i st eoh mb = .done n .moreBytes (mb st)) := by
  unfold lwsStd
  rcases hsk : skipLWS b i 0 with ⟨n, crl, e⟩
  have hr := skipLWS_range b i 0 hsk
  rcases skipLWS_three_verdicts b i 0 hsk with rfl | rfl | rfl
  · exact Or.inl ⟨n, hr.1, hr.2 hi, rfl⟩
  · have hrg := skipLWS_eoh_range b i 0 hsk (by decide)
    exact Or.inr (Or.inl ⟨n, crl, hr.1, by omega, hrg.2.2, rfl⟩)
  · exact Or.inr (Or.inr ⟨n, hr.1, hr.2 hi, rfl⟩)

/-- a step that is the standard white-space pattern: `S` where it goes on, `T` of its exits -/
theorem lwsStd_all2 (b : Buf) (i : Nat) (s1 : σ) (eoh : σ → Nat → Nat → Nat → Nat × Err × σ) (mb : σ → σ)
    (S : Nat → σ → Prop) (T : Nat → Err → σ → Prop) (hi : i ≤ b.size)
    (hcont : ∀ n, i ≤ n → n ≤ b.size → S n s1)
    (hmb : ∀ n, i ≤ n → n ≤ b.size → T n .moreBytes (mb s1))
    (heoh : ∀ n crl, i ≤ n → n + crl ≤ b.size → 1 ≤ crl →
      T (eoh s1 i n crl).1 (eoh s1 i n crl).2.1 (eoh s1 i n crl).2.2) :
    StepAll2 S T (lwsStd b i s1 eoh mb) := by
  rcases lwsStd_class b i s1 eoh mb hi with ⟨n, a1, a2, a3⟩ | ⟨n, crl, a1, a2, a4, a3⟩ | ⟨n, a1, a2, a3⟩ <;> rw [a3]
  · exact hcont n a1 a2
  · exact heoh n crl a1 a2 a4
  · exact hmb n a1 a2

theorem lwsStd_range (b : Buf) (i : Nat) (st : σ) (eoh : σ → Nat → Nat → Nat → Nat × Err × σ)
    (mb : σ → σ) (hi : i ≤ b.size) (heoh : ∀ s j n crl, (eoh s j n crl).1 = n + crl) :
    (∀ i' st', lwsStd b i st eoh mb = .cont i' st' → i ≤ i' ∧ i' ≤ b.size) ∧
    (∀ o e st', lwsStd b i st eoh mb = .done o e st' → i ≤ o ∧ o ≤ b.size) := by
  rcases lwsStd_class b i st eoh mb hi with ⟨n, a1, a2, a3⟩ | ⟨n, crl, a1, a2, _, a3⟩ | ⟨n, a1, a2, a3⟩ <;> rw [a3]
  · exact ⟨fun _ _ h => (by cases h; exact ⟨a1, a2⟩), fun _ _ _ h => by cases h⟩
  · refine ⟨fun _ _ h => (by cases h), fun o e st' h => ?_⟩
    simp only [Step.done.injEq] at h
    rw [← h.1, heoh]; omega
  · exact ⟨fun _ _ h => (by cases h), fun _ _ _ h => (by cases h; exact ⟨a1, a2⟩)⟩

theorem lwsStd_more_ge (b : Buf) (i : Nat) (st : σ) (eoh : σ → Nat → Nat → Nat → Nat × Err × σ) (mb : σ → σ)
    (heoh : ∀ s j n crl, (eoh s j n crl).2.1 ≠ .moreBytes)
    {o : Nat} {st' : σ} (h : lwsStd b i st eoh mb = .done o .moreBytes st') : i ≤ o := by
  obtain ⟨_, crl, hsk⟩ := lwsStd_more b i st eoh mb heoh h
  exact (skipLWS_range b i 0 hsk).1

/-! ### automata whose only suspension site is the standard white-space site

`LwsCases`: every transition is that site entered in a state `st1` with `L st1`, one byte forward (a state that is
not final, `F`, stays so), or an exit on the spot with a verdict in `E`. Stability, restart, progress and "a
suspended object is not final" follow once for all such automata (Call-ID, the unsigned-integer values). -/

def LwsCases (m : Machine σ) (eoh : σ → Nat → Nat → Nat → Nat × Err × σ) (L F : σ → Prop) (E : Err → Prop) : Prop :=
  ∀ i c st,
    (isLWSch c = true ∧ ∃ st1, L st1 ∧ ∀ B, m.step B i c st = lwsStd B i st1 eoh id) ∨
    (∃ st2, (¬ F st → ¬ F st2) ∧ ∀ B, m.step B i c st = .cont (i + 1) st2) ∨
    (∃ e, E e ∧ ∀ B, m.step B i c st = .done i e st)

variable {m : Machine σ} {eoh : σ → Nat → Nat → Nat → Nat × Err × σ} {L F : σ → Prop} {E : Err → Prop}

theorem LwsCases.stepStable (H : LwsCases m eoh L F E) (b s : Buf) : StepStable m b s := by
  intro i c st hb hne
  rcases H i c st with ⟨_, st1, _, hB⟩ | ⟨st2, _, hB⟩ | ⟨e, _, hB⟩ <;> rw [hB, hB]
  exact lwsStd_stable b s i st1 eoh eoh id (fun _ _ => rfl) (fun o st' h => hne o st' ((hB b).trans h))

theorem LwsCases.progress (H : LwsCases m eoh L F E) : Progress m := by
  intro b i c st i' st' hb hs
  rcases H i c st with ⟨hl, st1, _, hB⟩ | ⟨st2, _, hB⟩ | ⟨e, _, hB⟩ <;> rw [hB] at hs
  · exact lwsStd_cont_gt b i c st1 _ _ hb hl hs
  · cases hs; omega
  · cases hs

theorem LwsCases.stepRestart (H : LwsCases m eoh L F E) (hE : ∀ e, E e → e ≠ .moreBytes) (hne : ∀ s j n crl, (eoh s j n crl).2.1 ≠ .moreBytes)
    (hlws : ∀ B j c st1, isLWSch c = true → L st1 → m.step B j c st1 = lwsStd B j st1 eoh id)
    (hind : ∀ st1, L st1 → ∀ j j' n crl, eoh st1 j n crl = eoh st1 j' n crl)
    (heob : ∀ B j st, m.eob B j st = (j, Err.moreBytes, st)) (b s : Buf) : StepRestart m b s := by
  intro i c st o st' hb hs
  rw [runLoop_eq_runStep m st (get?_app hb)]
  rcases H i c st with ⟨hl, st1, hst1, hB⟩ | ⟨st2, _, hB⟩ | ⟨e, he, hB⟩ <;> rw [hB] at hs ⊢
  · obtain ⟨hst', crl, hsk⟩ := lwsStd_more b i st1 eoh id hne hs
    rw [hst']
    exact lwsStd_restart m b s i o crl st1 eoh id hb hl hsk rfl (fun j c' _ hl' => hlws _ j c' st1 hl' hst1)
      (hind st1 hst1) (fun _ => heob _ _ _)
  · cases hs
  · cases hs; exact absurd rfl (hE _ he)

theorem LwsCases.more_not_F (H : LwsCases m eoh L F E) (hE : ∀ e, E e → e ≠ .moreBytes) (hne : ∀ s j n crl, (eoh s j n crl).2.1 ≠ .moreBytes)
    (hL : ∀ st1, L st1 → ¬ F st1) (heob : ∀ B j st, m.eob B j st = (j, Err.moreBytes, st))
    (b : Buf) (i : Nat) (st : σ) (h0 : ¬ F st) :
    (runLoop m b i st).2.1 = Err.moreBytes → ¬ F (runLoop m b i st).2.2 := by
  apply runLoop_inv m b (fun _ st => ¬ F st) (fun r => r.2.1 = Err.moreBytes → ¬ F r.2.2)
  · intro i c st i' st' hb hP hs
    refine ⟨fun _ => ?_, fun _ h => by cases h⟩
    rcases H i c st with ⟨_, st1, hst1, hB⟩ | ⟨st2, h2, hB⟩ | ⟨e, _, hB⟩ <;> rw [hB] at hs
    · rw [(lwsStd_cont b i st1 _ _ hs).1]; exact hL _ hst1
    · cases hs; exact h2 hP
    · cases hs
  · intro i c st o e st' hb hP hs hm
    simp only at hm; subst hm
    rcases H i c st with ⟨_, st1, hst1, hB⟩ | ⟨st2, _, hB⟩ | ⟨e, he, hB⟩ <;> rw [hB] at hs
    · rw [(lwsStd_more b i st1 _ _ hne hs).1]; exact hL _ hst1
    · cases hs
    · cases hs; exact absurd rfl (hE _ he)
  · intro i st _ hP _; rw [heob]; exact hP
  · exact h0

theorem LwsCases.range (H : LwsCases m eoh L F E) (heoh : ∀ s j n crl, (eoh s j n crl).1 = n + crl)
    (heob : ∀ b i st, (m.eob b i st).1 = i) (b : Buf) (o : Nat) (st : σ) (ho : o ≤ b.size) :
    o ≤ (runLoop m b o st).1 ∧ (runLoop m b o st).1 ≤ b.size :=
  runLoop_safe2 m b (fun j _ => o ≤ j ∧ j ≤ b.size) (fun j _ _ => o ≤ j ∧ j ≤ b.size) H.progress
    (fun i c s hb hS => by
      have hi := get?_lt hb
      rcases H i c s with ⟨_, st1, _, hB⟩ | ⟨st2, _, hB⟩ | ⟨e, _, hB⟩ <;> rw [hB]
      · exact lwsStd_all2 b i st1 eoh id _ _ (by omega) (fun n a1 a2 => ⟨by omega, a2⟩)
          (fun n a1 a2 => ⟨by omega, a2⟩) (fun n crl a1 a2 _ => by rw [heoh]; omega)
      · exact ⟨by omega, hi⟩
      · exact ⟨hS.1, by omega⟩)
    (fun i s hS => by rw [heob]; exact hS) o st ⟨Nat.le_refl _, ho⟩

end Sipsp
