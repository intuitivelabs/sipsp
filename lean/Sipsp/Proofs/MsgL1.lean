/-
  Sipsp.Proofs.MsgL1 — L1 (no premature verdict) for ParseSIPMsg.
-/
import Sipsp.Proofs.HeadersL1
import Sipsp.Proofs.MsgPhases

namespace Sipsp

/-! ### ParseFLine: the returned offset is not before the start, and after OK it is inside the buffer -/

def FlRange (b : Buf) (i : Nat) (r : Nat × Err × PFLine) : Prop := r.2.1 = .ok → i ≤ r.1 ∧ r.1 ≤ b.size

/-- both facts, as they travel through the stages of the line -/
def FlPos (b : Buf) (i : Nat) (r : Nat × Err × PFLine) : Prop := i ≤ r.1 ∧ (r.2.1 = .ok → r.1 ≤ b.size)

theorem flCRLF_pos (b : Buf) (i : Nat) (pl : PFLine) : FlPos b i (flCRLF b i pl) := by
  unfold flCRLF
  rcases hs : skipCRLF b i with ⟨n, crl, e⟩
  have := skipCRLF_range hs
  cases e <;> simp only <;> refine ⟨this.1, fun hq => ?_⟩ <;> first | exact (this.2.2.1 rfl).1 | cases hq

theorem flRplReason_pos (b : Buf) (i : Nat) (pl : PFLine) : FlPos b i (flRplReason b i pl) := by
  unfold flRplReason skipLine
  have hge := skipToEOL_ge b i
  rcases hs : skipCRLF b (skipToEOL b i) with ⟨n, crl, e⟩
  have := skipCRLF_range hs
  cases e <;> simp only <;> refine ⟨by omega, fun hq => ?_⟩ <;> first | exact (this.2.2.1 rfl).1 | cases hq

theorem parseFLine_pos (b : Buf) (o : Nat) (pl : PFLine) :
    o ≤ (parseFLine b o pl).1 ∧ ((parseFLine b o pl).2.1 = .ok → o ≤ b.size → (parseFLine b o pl).1 ≤ b.size) := by
  have tk : ∀ {s i p}, FlAt b o pl s i p → o ≤ skipToken b i :=
    fun h => Nat.le_trans h.range.1 (skipToken_ge b _)
  have lf : ∀ {s i p r}, FlAt b o pl s i p → FlPos b i r → o ≤ r.1 ∧ (r.2.1 = .ok → o ≤ b.size → r.1 ≤ b.size) :=
    fun h hr => ⟨Nat.le_trans h.range.1 hr.1, fun hq _ => hr.2 hq⟩
  exact parseFLine_cases (P := fun r => o ≤ r.1 ∧ (r.2.1 = .ok → o ≤ b.size → r.1 ≤ b.size)) b o pl
    (fun _ _ => ⟨Nat.le_refl _, fun hq => by cases hq⟩)
    (fun _ _ _ _ _ _ _ _ _ _ _ _ => ⟨Nat.le_add_right _ _, fun hq => by cases hq⟩)
    (fun _ _ _ h _ => ⟨tk h, fun hq => by cases hq⟩) (fun _ _ _ _ h _ _ => ⟨tk h, fun hq => by cases hq⟩)
    (fun _ _ _ _ h _ _ _ => ⟨tk h, fun hq => by cases hq⟩) (fun h _ _ _ _ => ⟨tk h, fun hq => by cases hq⟩)
    (fun h => lf h (flCRLF_pos b _ _)) (fun h => lf h (flRplReason_pos b _ _)) (fun _ => ⟨Nat.le_refl _, fun _ ho => ho⟩)

theorem parseFLine_range (b : Buf) (o : Nat) (pl : PFLine) (ho : o ≤ b.size) : FlRange b o (parseFLine b o pl) :=
  fun hq => ⟨(parseFLine_pos b o pl).1, (parseFLine_pos b o pl).2 hq ho⟩

theorem parseFLine_ge (b : Buf) (o : Nat) (pl : PFLine) : o ≤ (parseFLine b o pl).1 := (parseFLine_pos b o pl).1

/-! ### the message parser -/

/-- what a caller may legitimately pass to ParseSIPMsg with buffer `b` and offset `o`: a message object that is
    new (after Init/Reset) or was returned by an earlier call on a prefix of `b` together with `o` -/
def msgOK (b : Buf) (o : Nat) (m : PSIPMsg) : Prop :=
  o ≤ b.size ∧ flOK m.fl ∧ hlsOK b m.hl ∧ hvOK b o m.pv

theorem setBufs_app (m : PSIPMsg) (b s : Buf) (o : Nat) (ho : o ≤ b.size) : m.setBufs (b ++ s) o = m.setBufs b o := by
  unfold PSIPMsg.setBufs
  have h1 : decide (o > (b ++ s).size) = false := by rw [Array.size_append]; simp; omega
  have h2 : decide (o > b.size) = false := by simp; omega
  rw [h1, h2]

theorem msgEnd_app (m : PSIPMsg) (b s : Buf) (o : Nat) (ho : o ≤ b.size) : msgEnd m (b ++ s) o = msgEnd m b o := by
  unfold msgEnd
  simp only [setBufs_app _ b s o ho]

/-- the body of the result extends to the end of the buffer by definition: no Content-Length, and neither
    "skip body" nor "Content-Length required" was requested (the exemption stated in the property) -/
def bodyToEnd (flags : Nat) (m : PSIPMsg) : Prop :=
  hasFlag flags SIPMsgSkipBodyF = false ∧ m.pv.clen.parsed = false ∧ hasFlag flags SIPMsgCLenReqF = false

theorem msgBody_stable (b s : Buf) (o : Nat) (m : PSIPMsg) (flags : Nat) (ho : o ≤ b.size)
    (hnf : hasFlag flags SIPMsgNoMoreDataF = false) (hx : ¬ bodyToEnd flags m)
    (he : (msgBody b o m flags).2.1 ≠ .moreBytes) : msgBody (b ++ s) o m flags = msgBody b o m flags := by
  unfold msgBody at he ⊢
  simp only at he ⊢
  by_cases h1 : hasFlag flags SIPMsgSkipBodyF = true
  · simp only [h1, ↓reduceIte]
    split
    · rw [setBufs_app _ b s o ho]
    · rw [msgEnd_app _ b s o ho]
  · simp only [h1, Bool.false_eq_true, ↓reduceIte] at he ⊢
    by_cases h2 : m.pv.clen.parsed = true
    · simp only [h2, ↓reduceIte] at he ⊢
      by_cases h3 : o + m.pv.clen.uiVal > b.size
      · simp only [h3, ↓reduceIte, hnf, Bool.false_eq_true] at he
        exact absurd rfl he
      · have h3' : ¬ o + m.pv.clen.uiVal > (b ++ s).size := by rw [Array.size_append]; omega
        simp only [h3, h3', ↓reduceIte]
        rw [msgEnd_app _ b s _ (by omega)]
    · simp only [h2, Bool.false_eq_true, ↓reduceIte] at he ⊢
      by_cases h4 : hasFlag flags SIPMsgCLenReqF = true
      · simp only [h4, ↓reduceIte]
        rw [msgEnd_app _ b s o ho]
      · exfalso
        apply hx
        exact ⟨by simpa using h1, by simpa using h2, by simpa using h4⟩

theorem msgErr_stable (m : PSIPMsg) (o : Nat) (e : Err) (flags : Nat) (he : e ≠ .moreBytes) :
    msgErr m o e flags = (o, e, { m with state := .err }) := by
  rw [msgErr_eq, if_neg (fun h => he h.1), if_neg (fun h => he h.1)]

theorem msgErr_more (m : PSIPMsg) (o : Nat) (flags : Nat) (hnf : hasFlag flags SIPMsgNoMoreDataF = false) :
    msgErr m o .moreBytes flags = (o, .moreBytes, m) := by
  rw [msgErr_eq, if_neg (fun h => by rw [hnf] at h; cases h.2), if_pos ⟨rfl, hnf⟩]

theorem msgErr_verdict (m : PSIPMsg) (o : Nat) (e : Err) (flags : Nat)
    (hnf : hasFlag flags SIPMsgNoMoreDataF = false) : (msgErr m o e flags).2.1 = e := by
  rw [msgErr_eq]; exact if_neg (fun h => by rw [hnf] at h; cases h.2)

theorem hvOK_getD {b : Buf} {o : Nat} {hb : Option PHdrVals} {pv : PHdrVals} (h1 : hbOK b o hb) (h2 : hvOK b o pv) :
    hvOK b o (hb.getD pv) := by
  cases hb with
  | none => exact h2
  | some hv => exact h1

/-- the exemption on the result of a section of ParseSIPMsg: only an OK verdict can be exempt (the one branch of
    `msgBody` that takes the rest of the buffer as the body answers OK) -/
def StableSide (flags : Nat) (r : Nat × Err × PSIPMsg) : Prop := r.2.1 = .ok → ¬ bodyToEnd flags r.2.2

theorem msgBody_stable_all (b s : Buf) (o : Nat) (m : PSIPMsg) (flags : Nat) (ho : o ≤ b.size)
    (hnf : hasFlag flags SIPMsgNoMoreDataF = false) (he : (msgBody b o m flags).2.1 ≠ .moreBytes)
    (hx : StableSide flags (msgBody b o m flags)) : msgBody (b ++ s) o m flags = msgBody b o m flags := by
  by_cases hb : bodyToEnd flags m
  · -- body = rest of the buffer: the verdict is OK and the values object is untouched, so the result is exempt
    exfalso
    obtain ⟨h1, h2, h3⟩ := hb
    unfold StableSide msgBody at hx
    simp only [h1, h2, h3, Bool.false_eq_true, ↓reduceIte] at hx
    exact hx rfl ⟨h1, h2, h3⟩
  · exact msgBody_stable b s o m flags ho hnf hb he

/-! ### L1 for the phases of a call

A phase reached on `b` from a legitimate object is reached on every extension `b ++ t` (`MsgAt.app`), at an offset
inside `b` and with an object that is legitimate for the phase. With `MsgAt.run` a statement about the call on `b`
against the call on `b ++ t` is then a statement about the two leaves (`msgErr`, `msgBody`): `parseSIPMsg_ext` is
that case analysis, once. -/

/-- what the phases need of the object: the first line while it is being parsed, the header list and the values until
    the header block is done (`msgOK` and `msgOK2` both give it) -/
def msgLegit (b : Buf) (o : Nat) (m : PSIPMsg) : Prop :=
  o ≤ b.size ∧ (m.state = .init ∨ m.state = .fline → flOK m.fl) ∧ (m.state ≠ .body → hlsOK b m.hl ∧ hvOK b o m.pv)

theorem msgOK.legit {b : Buf} {o : Nat} {m : PSIPMsg} (h : msgOK b o m) : msgLegit b o m :=
  ⟨h.1, fun _ => h.2.1, fun _ => h.2.2⟩

theorem MsgAt.app {b : Buf} {o : Nat} {m : PSIPMsg} {s : MsgState} {o1 : Nat} {m1 : PSIPMsg}
    (h : MsgAt b o m s o1 m1) (hok : msgLegit b o m) (hfit : b.size ≤ 65535) (t : Buf) :
    MsgAt (b ++ t) o m s o1 m1 ∧ o1 ≤ b.size ∧ (s = .fline → flOK m1.fl) ∧
      (s ≠ .body → hlsOK b m1.hl ∧ hvOK b o1 m1.pv) := by
  induction h with
  | enter hst => exact ⟨.enter hst, hok.1, fun _ => hok.2.1 (Or.inl hst), fun _ => hok.2.2 (by rw [hst]; decide)⟩
  | resume hst hs =>
    exact ⟨.resume hst hs, hok.1, fun hf => hok.2.1 (Or.inr (hst.trans hf)), fun hn => hok.2.2 (by rw [hst]; exact hn)⟩
  | @fline o1 m1 o2 fl _ hp ih =>
    obtain ⟨hA, ho1, hfl, hr⟩ := ih
    have hrg := parseFLine_range b o1 m1.fl ho1
    rw [hp] at hrg
    have hrg' := hrg rfl
    exact ⟨.fline hA (parseFLine_stable b t o1 m1.fl (hfl rfl) hfit hp (by decide)), hrg'.2, nofun,
      fun _ => ⟨(hr (by decide)).1, hvOK_mono (hr (by decide)).2 hrg'.1 hrg'.2⟩⟩
  | @headers o1 m1 o2 hl hb _ hp ih =>
    obtain ⟨hA, ho1, _, hr⟩ := ih
    obtain ⟨h1, h2⟩ := hr (by decide)
    exact ⟨.headers hA (parseHeaders_stable b t o1 m1.hl (some m1.pv) h1 h2 hp (by decide)),
      (parseHeaders_post b o1 m1.hl (some m1.pv) h1 h2 hp).1, nofun, fun hn => absurd rfl hn⟩

/-- a phase before the body is reached from an object that is not in the body phase -/
theorem MsgAt.state_ne_body {b : Buf} {o : Nat} {m : PSIPMsg} {s : MsgState} {o1 : Nat} {m1 : PSIPMsg}
    (h : MsgAt b o m s o1 m1) (hs : s ≠ .body) : m.state ≠ .body := by
  induction h with
  | enter hst => rw [hst]; decide
  | resume hst _ => rw [hst]; exact hs
  | fline _ _ ih => exact ih (by decide)
  | headers _ _ _ => exact absurd rfl hs

/-- **the call on `b` against the call on `b ++ s`**, by the way the call on `b` ends (legitimate object, no-more-data
    flag off, 65,535-byte limit): both calls return the same definitive result that is not OK; or the call on `b` says
    MoreBytes; or both calls are the body phase from the same offset and object (`MsgAt.app`, `MsgAt.run`). A statement
    about the pair of results is a statement about these three leaves. -/
theorem parseSIPMsg_ext {P : Nat × Err × PSIPMsg → Nat × Err × PSIPMsg → Prop} (b s : Buf) (o : Nat) (m : PSIPMsg)
    (f : Nat) (hok : msgLegit b o m) (hfit : b.size ≤ 65535) (hnf : hasFlag f SIPMsgNoMoreDataF = false)
    (same : ∀ r, r.2.1 ≠ .ok → r.2.1 ≠ .moreBytes → P r r)
    (more : ∀ r r', r.2.1 = .moreBytes → P r r')
    (body : ∀ {o1 m1}, MsgAt b o m .body o1 m1 → o1 ≤ b.size → P (msgBody b o1 m1 f) (msgBody (b ++ s) o1 m1 f)) :
    P (parseSIPMsg b o m f) (parseSIPMsg (b ++ s) o m f) := by
  -- a section that did not say OK: MoreBytes, or the same `msgErr` result once the section is stable
  have leaf : ∀ (mx : PSIPMsg) (ox : Nat) (e : Err), e ≠ .ok →
      (e ≠ .moreBytes → parseSIPMsg (b ++ s) o m f = msgErr mx ox e f) →
      P (msgErr mx ox e f) (parseSIPMsg (b ++ s) o m f) := by
    intro mx ox e hne h
    have hv := msgErr_verdict mx ox e f hnf
    by_cases hm : e = .moreBytes
    · exact more _ _ (hv.trans hm)
    · rw [h hm]; exact same _ (by rwa [hv]) (by rwa [hv])
  refine parseSIPMsg_cases (P := fun r => P r (parseSIPMsg (b ++ s) o m f)) b o m f ?_ ?_ ?_ ?_
  · intro hd; rw [parseSIPMsg_dead hd (b ++ s)]; exact same _ nofun nofun
  · intro o1 m1 o2 e fl h hp hne
    obtain ⟨hA, _, hfl, _⟩ := h.app hok hfit s
    exact leaf _ _ _ hne fun hm => by
      rw [hA.run f, msgFrom_fline, msgFLine_err (parseFLine_stable b s o1 m1.fl (hfl rfl) hfit hp hm) hne]
  · intro o1 m1 o2 e hl hb h hp hne
    obtain ⟨hA, _, _, hr⟩ := h.app hok hfit s
    obtain ⟨h1, h2⟩ := hr (by decide)
    exact leaf _ _ _ hne fun hm => by
      rw [hA.run f, msgFrom_headers, msgHeaders_err (parseHeaders_stable b s o1 m1.hl (some m1.pv) h1 h2 hp hm) hne]
  · intro o1 m1 h
    obtain ⟨hA, ho1, _, _⟩ := h.app hok hfit s
    rw [hA.run f, msgFrom_body]; exact body h ho1

/-- **L1 for ParseSIPMsg**: a verdict other than MoreBytes — success or any error — with its offset and the whole
    message object is unchanged by any bytes appended later.  Exemptions (as in the property): the no-more-data flag,
    and — for the verdict OK only — the body extent of a message without Content-Length (`bodyToEnd`: body = rest of
    the buffer); every other definitive verdict is stable unconditionally.  Within the documented 65,535 byte limit. -/
theorem parseSIPMsg_stable_all (b s : Buf) (o : Nat) (m : PSIPMsg) (flags : Nat) (hok : msgOK b o m)
    (hfit : b.size ≤ 65535) (hnf : hasFlag flags SIPMsgNoMoreDataF = false)
    {o' : Nat} {e : Err} {m' : PSIPMsg} (hr : parseSIPMsg b o m flags = (o', e, m'))
    (he : e ≠ .moreBytes) (hx : e = .ok → ¬ bodyToEnd flags m') :
    parseSIPMsg (b ++ s) o m flags = (o', e, m') := by
  rw [← hr]
  exact parseSIPMsg_ext (P := fun r r' => r.2.1 ≠ .moreBytes → StableSide flags r → r' = r) b s o m flags hok.legit hfit hnf
    (fun _ _ _ _ _ => rfl) (fun _ _ h h' => absurd h h')
    (fun _ ho he hx => msgBody_stable_all b s _ _ flags ho hnf he hx) (by rw [hr]; exact he) (by rw [hr]; exact hx)

theorem parseSIPMsg_stable (b s : Buf) (o : Nat) (m : PSIPMsg) (flags : Nat) (hok : msgOK b o m)
    (hfit : b.size ≤ 65535) (hnf : hasFlag flags SIPMsgNoMoreDataF = false)
    {o' : Nat} {e : Err} {m' : PSIPMsg} (hr : parseSIPMsg b o m flags = (o', e, m'))
    (he : e ≠ .moreBytes) (hx : ¬ bodyToEnd flags m') :
    parseSIPMsg (b ++ s) o m flags = (o', e, m') :=
  parseSIPMsg_stable_all b s o m flags hok hfit hnf hr he (fun _ => hx)

/-! ### objects a caller starts from -/

/-- a message object initialised with `Init` (any previous contents; caller-supplied arrays of any capacity whose
    elements are zero values, or none) is legitimate for every buffer and every offset inside it -/
theorem msgOK_init (b : Buf) (o : Nat) (ho : o ≤ b.size) (m : PSIPMsg) (len kh kc : Nat)
    (hdrs : Option Unit) (cts : Option Unit) :
    msgOK b o (m.init len (hdrs.map fun _ => Array.replicate kh {}) (cts.map fun _ => Array.replicate kc {})) := by
  refine ⟨ho, by simp [PSIPMsg.init, PSIPMsg.reset, flOK], ?_, ?_⟩
  · cases hdrs <;> exact hlsOK_new b _
  · cases cts <;> exact hvOK_new b o ho _

/-- legitimacy does not depend on bytes appended later -/
theorem msgOK_grows {b : Buf} (s : Buf) {o : Nat} {m : PSIPMsg} (h : msgOK b o m) : msgOK (b ++ s) o m :=
  ⟨by rw [Array.size_append]; have := h.1; omega, h.2.1, hlsOK_grows s h.2.2.1, hvOK_grows s h.2.2.2⟩

end Sipsp
