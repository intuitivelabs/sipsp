/-
  Sipsp.Proofs.MsgL1Body — the exempted case of L1 (C03, no premature verdict) for ParseSIPMsg:
  a message without Content-Length, parsed with neither "skip body" nor "Content-Length required"
  (`bodyToEnd`).  Its body is by definition "the rest of the buffer", so the result legitimately changes when
  bytes are appended; this file says exactly HOW it changes (`BodyGrew`): only the body length, `bufLen` and
  `rawLen` follow the longer buffer, every other component is unchanged.

  Hypotheses: those of `parseSIPMsg_stable`, `(b ++ s).size ≤ 65535`, and `hoffs`: the object is new (state init),
  or its saved message start `offs` lies inside the shorter buffer, or the call on the shorter buffer did not
  panic. `hoffs` cannot be dropped (see the last test): with `offs` beyond the shorter buffer Go panics there.
  Not covered: buffers beyond 65,535 bytes, the no-more-data flag.
-/
import Sipsp.Proofs.MsgL1
import Sipsp.Proofs.CapacityMsg

namespace Sipsp

/-! ### the two message objects involved -/

/-- the message object left by the "body extends to the end of the buffer" exit of `msgBody`, written out
    for a buffer of `n` bytes and a body starting at `o` -/
def bodyEndMsg (m : PSIPMsg) (o n : Nat) : PSIPMsg :=
  { m with body := ⟨o, n - o⟩, bufLen := n, rawOffs := m.offs, rawLen := n - m.offs, state := .fin }

/-- `m` with body end, `Buf` end and `RawMsg` end moved to `n`; nothing else touched -/
def growMsg (m : PSIPMsg) (n : Nat) : PSIPMsg :=
  { m with body := ⟨m.body.offs, n - m.body.offs⟩, bufLen := n, rawLen := n - m.rawOffs }

theorem growMsg_bodyEndMsg (m : PSIPMsg) (o n n' : Nat) : growMsg (bodyEndMsg m o n) n' = bodyEndMsg m o n' := rfl

/-- **the relation between the result on a buffer and the result on an extension of it** (body-to-end case).
    `m'` is the message returned on the shorter buffer, `o''` / `m''` the offset and message returned on the
    longer one. Everything is equal except the three lengths, which are determined by `o''`. -/
structure BodyGrew (m' : PSIPMsg) (o'' : Nat) (m'' : PSIPMsg) : Prop where
  fl : m''.fl = m'.fl
  pv : m''.pv = m'.pv
  hl : m''.hl = m'.hl
  body_offs : m''.body.offs = m'.body.offs
  rawOffs : m''.rawOffs = m'.rawOffs
  offs : m''.offs = m'.offs
  state : m''.state = m'.state
  pnc : m''.pnc = m'.pnc
  /-- the body ends where the parser stopped … -/
  body_end : m''.body.offs + m''.body.len = o''
  /-- … `msg.Buf` ends there … -/
  bufLen : m''.bufLen = o''
  /-- … and so does `msg.RawMsg` -/
  raw_end : m''.rawOffs + m''.rawLen = o''

theorem bodyGrew_growMsg (m' : PSIPMsg) (n : Nat) (h1 : m'.body.offs ≤ n) (h2 : m'.rawOffs ≤ n) :
    BodyGrew m' n (growMsg m' n) := by
  refine ⟨rfl, rfl, rfl, rfl, rfl, rfl, rfl, rfl, ?_, rfl, ?_⟩
  · show m'.body.offs + (n - m'.body.offs) = n
    omega
  · show m'.rawOffs + (n - m'.rawOffs) = n
    omega

theorem bodyGrew_unique {m' m'' : PSIPMsg} {n : Nat} (h : BodyGrew m' n m'') : m'' = growMsg m' n := by
  obtain ⟨h1, h2, h3, h4, h5, h6, h7, h8, h9, h10, h11⟩ := h
  rcases m'' with ⟨fl, pv, hl, ⟨bo, bl⟩, bufLen, rawOffs, rawLen, state, offs, pnc⟩
  simp only at h1 h2 h3 h4 h5 h6 h7 h8 h9 h10 h11
  subst h1 h2 h3 h4 h5 h6 h7 h8 h10
  have e1 : bufLen - m'.body.offs = bl := by omega
  have e2 : bufLen - m'.rawOffs = rawLen := by omega
  unfold growMsg
  simp only [e1, e2]

/-! ### the body section -/

/-- `m.offs ≤ b.size`: the message started inside the buffer (else Go panics slicing `RawMsg`) -/
theorem msgBody_toEnd (b : Buf) (o : Nat) (m : PSIPMsg) (flags : Nat) (ho : o ≤ b.size) (hfit : b.size ≤ 65535)
    (hoffs : m.offs ≤ b.size) (hx : bodyToEnd flags m) :
    msgBody b o m flags = (b.size, .ok, bodyEndMsg m o b.size) := by
  obtain ⟨h1, h2, h3⟩ := hx
  unfold msgBody
  simp only [h1, h2, h3, Bool.false_eq_true, ↓reduceIte]
  unfold msgEnd PSIPMsg.setBufs bodyEndMsg PField.extend PField.extendPanics PField.set
  have t1 : trunc16 o = o := trunc16_of_lt (by omega)
  have t2 : trunc16 b.size = b.size := trunc16_of_lt (by omega)
  have t3 : (b.size + 65536 - o) % 65536 = b.size - o := by omega
  have d1 : decide (b.size < o) = false := by simp; omega
  have d2 : decide (b.size > b.size) = false := by simp
  have d3 : decide (m.offs > b.size) = false := by simp; omega
  simp only [t1, t2, t3, d1, d2, d3, Bool.or_false]

theorem msgBody_toEnd_offs (b : Buf) (o : Nat) (m : PSIPMsg) (flags : Nat) (hx : bodyToEnd flags m)
    {o' : Nat} {e : Err} {m' : PSIPMsg} (hr : msgBody b o m flags = (o', e, m')) (hp : m'.pnc = false) :
    m.offs ≤ b.size := by
  obtain ⟨h1, h2, h3⟩ := hx
  unfold msgBody at hr
  simp only [h1, h2, h3, Bool.false_eq_true, ↓reduceIte] at hr
  unfold msgEnd PSIPMsg.setBufs at hr
  cases hr
  simp only [Bool.or_eq_false_iff, decide_eq_false_iff_not] at hp
  omega

/-- what the finished message looks like when the parser stopped at `n`: body, `Buf` and `RawMsg` all end at `n` -/
structure EndShape (n : Nat) (m : PSIPMsg) : Prop where
  state : m.state = .fin
  body_end : m.body.offs + m.body.len = n
  bufLen : m.bufLen = n
  rawOffs : m.rawOffs = m.offs
  raw_end : m.rawOffs + m.rawLen = n

theorem endShape_bodyEndMsg (m : PSIPMsg) (o n : Nat) (h1 : o ≤ n) (h2 : m.offs ≤ n) : EndShape n (bodyEndMsg m o n) := by
  refine ⟨rfl, ?_, rfl, rfl, ?_⟩
  · show o + (n - o) = n
    omega
  · show m.offs + (n - m.offs) = n
    omega

/-- conclusion shared by the lemmas below: the call on `b` stopped at the end of `b` with a message of the
    expected shape, and the call on `b ++ s` (result `r`) stops at the end of `b ++ s`, successfully, with the same
    message grown to that end -/
def GrowResult (b s : Buf) (o' : Nat) (m' : PSIPMsg) (r : Nat × Err × PSIPMsg) : Prop :=
  o' = b.size ∧ EndShape b.size m' ∧ r = ((b ++ s).size, .ok, growMsg m' (b ++ s).size)

theorem msgBody_grow (b s : Buf) (o : Nat) (m : PSIPMsg) (flags : Nat) (ho : o ≤ b.size)
    (hfit : (b ++ s).size ≤ 65535)
    {o' : Nat} {m' : PSIPMsg} (hr : msgBody b o m flags = (o', .ok, m')) (hx : bodyToEnd flags m')
    (hoffs' : m.offs ≤ b.size ∨ m'.pnc = false) :
    GrowResult b s o' m' (msgBody (b ++ s) o m flags) := by
  have hsz : (b ++ s).size = b.size + s.size := Array.size_append
  -- `msgBody` never touches the header values, so `bodyToEnd` can be read off the input or the output
  have hpv : m'.pv = m.pv := by
    have := (msgBody_done_pv b o m flags).2
    rw [hr] at this
    exact this
  have hx0 : bodyToEnd flags m := by
    unfold bodyToEnd at hx ⊢
    rw [hpv] at hx
    exact hx
  have hoffs : m.offs ≤ b.size := by
    rcases hoffs' with h | h
    · exact h
    · exact msgBody_toEnd_offs b o m flags hx0 hr h
  rw [msgBody_toEnd b o m flags ho (by omega) hoffs hx0] at hr
  rw [msgBody_toEnd (b ++ s) o m flags (by omega) hfit (by omega) hx0]
  cases hr
  exact ⟨rfl, endShape_bodyEndMsg m o b.size ho hoffs, rfl⟩

/-! ### the whole parser -/

/-- **ParseSIPMsg, body-to-end case** (function form). `hoffs`: the message object is new (state `init`: the
    parser sets `offs` itself), or it is being continued and had started inside the buffer, or (weakest form) the
    call on `b` did not panic. Without it Go panics slicing `RawMsg` on `b` and the model records `pnc` there only. -/
theorem parseSIPMsg_grow (b s : Buf) (o : Nat) (m : PSIPMsg) (flags : Nat) (hok : msgOK b o m)
    (hfit : (b ++ s).size ≤ 65535) (hnf : hasFlag flags SIPMsgNoMoreDataF = false)
    {o' : Nat} {m' : PSIPMsg} (hr : parseSIPMsg b o m flags = (o', .ok, m')) (hx : bodyToEnd flags m')
    (hoffs : m.state = .init ∨ m.offs ≤ b.size ∨ m'.pnc = false) :
    GrowResult b s o' m' (parseSIPMsg (b ++ s) o m flags) := by
  have hsz : (b ++ s).size = b.size + s.size := Array.size_append
  -- an OK verdict comes from the body phase, which the call on `b ++ s` reaches as well
  refine parseSIPMsg_ext (P := fun r r' => r = (o', .ok, m') → GrowResult b s o' m' r') b s o m flags hok.legit (by omega) hnf
    (fun r h _ hh => by rw [hh] at h; exact absurd rfl h) (fun r _ h hh => by rw [hh] at h; cases h)
    (fun {o1 m1} h ho1 hr => msgBody_grow b s o1 m1 flags ho1 hfit hr hx ?_) hr
  rw [h.offs]
  split
  · exact Or.inl hok.1
  · rename_i hni; exact hoffs.resolve_left hni

/-! ### C03, the exempted case (`_grows`, `_grows_init`, `_body`, `_changes` are re-exported in Properties/C03) -/

/-- **C03, exempted case, main theorem.** A successful result whose body extends to the end of the buffer
    (`bodyToEnd`): on every extension `b ++ s` of the buffer (within the 65,535 byte limit) the parser again
    succeeds, stops at the end of the longer buffer, and returns the same message except that body, `Buf` and
    `RawMsg` end at the new end (`BodyGrew`). Also: the call on `b` had stopped at the end of `b`. -/
theorem parseSIPMsg_bodyToEnd_grows (b s : Buf) (o : Nat) (m : PSIPMsg) (flags : Nat) (hok : msgOK b o m)
    (hfit : (b ++ s).size ≤ 65535) (hnf : hasFlag flags SIPMsgNoMoreDataF = false)
    {o' : Nat} {m' : PSIPMsg} (hr : parseSIPMsg b o m flags = (o', .ok, m')) (hx : bodyToEnd flags m')
    (hoffs : m.state = .init ∨ m.offs ≤ b.size ∨ m'.pnc = false) :
    o' = b.size ∧
    ∃ m'', parseSIPMsg (b ++ s) o m flags = ((b ++ s).size, .ok, m'') ∧ BodyGrew m' (b ++ s).size m'' := by
  have hsz : (b ++ s).size = b.size + s.size := Array.size_append
  obtain ⟨h1, h2, h3⟩ := parseSIPMsg_grow b s o m flags hok hfit hnf hr hx hoffs
  refine ⟨h1, growMsg m' (b ++ s).size, h3, bodyGrew_growMsg m' _ ?_ ?_⟩
  · have := h2.body_end
    omega
  · have := h2.raw_end
    omega

theorem parseSIPMsg_bodyToEnd_rel (b s : Buf) (o : Nat) (m : PSIPMsg) (flags : Nat) (hok : msgOK b o m)
    (hfit : (b ++ s).size ≤ 65535) (hnf : hasFlag flags SIPMsgNoMoreDataF = false)
    {o' : Nat} {m' : PSIPMsg} (hr : parseSIPMsg b o m flags = (o', .ok, m')) (hx : bodyToEnd flags m')
    (hoffs : m.state = .init ∨ m.offs ≤ b.size ∨ m'.pnc = false)
    {o'' : Nat} {e'' : Err} {m'' : PSIPMsg} (hr2 : parseSIPMsg (b ++ s) o m flags = (o'', e'', m'')) :
    o'' = (b ++ s).size ∧ e'' = .ok ∧ BodyGrew m' o'' m'' ∧ bodyToEnd flags m'' := by
  obtain ⟨_, m2, h2, h3⟩ := parseSIPMsg_bodyToEnd_grows b s o m flags hok hfit hnf hr hx hoffs
  rw [hr2] at h2
  cases h2
  refine ⟨rfl, rfl, h3, ?_⟩
  unfold bodyToEnd at hx ⊢
  rw [h3.pv]
  exact hx

theorem parseSIPMsg_bodyToEnd_shape (b : Buf) (o : Nat) (m : PSIPMsg) (flags : Nat) (hok : msgOK b o m)
    (hfit : b.size ≤ 65535) (hnf : hasFlag flags SIPMsgNoMoreDataF = false)
    {o' : Nat} {m' : PSIPMsg} (hr : parseSIPMsg b o m flags = (o', .ok, m')) (hx : bodyToEnd flags m')
    (hoffs : m.state = .init ∨ m.offs ≤ b.size ∨ m'.pnc = false) :
    o' = b.size ∧ EndShape b.size m' := by
  have h := parseSIPMsg_grow b #[] o m flags hok (by simpa using hfit) hnf hr hx hoffs
  exact ⟨h.1, h.2.1⟩

/-- from any object produced by Init (caller arrays of any capacity, or none): no further hypothesis -/
theorem parseSIPMsg_bodyToEnd_grows_init (b s : Buf) (o : Nat) (ho : o ≤ b.size) (m0 : PSIPMsg) (len kh kc : Nat)
    (hdrs cts : Option Unit) (flags : Nat) (hfit : (b ++ s).size ≤ 65535)
    (hnf : hasFlag flags SIPMsgNoMoreDataF = false) {o' : Nat} {m' : PSIPMsg}
    (hr : parseSIPMsg b o (m0.init len (hdrs.map fun _ => Array.replicate kh {})
      (cts.map fun _ => Array.replicate kc {})) flags = (o', .ok, m'))
    (hx : bodyToEnd flags m') :
    o' = b.size ∧
    ∃ m'', parseSIPMsg (b ++ s) o (m0.init len (hdrs.map fun _ => Array.replicate kh {})
      (cts.map fun _ => Array.replicate kc {})) flags = ((b ++ s).size, .ok, m'') ∧
      BodyGrew m' (b ++ s).size m'' :=
  parseSIPMsg_bodyToEnd_grows b s o _ flags (msgOK_init b o ho m0 len kh kc hdrs cts) hfit hnf hr hx
    (Or.inl (by simp [PSIPMsg.init, PSIPMsg.reset]))

/-! ### the body bytes, and converse facts -/

theorem extract_to_end_app (b s : Buf) (k : Nat) (hk : k ≤ b.size) :
    (b ++ s).extract k (b ++ s).size = b.extract k b.size ++ s := by
  rw [Array.extract_append, Nat.sub_eq_zero_of_le hk, Array.size_append, Nat.add_sub_cancel_left, Array.extract_size,
    Array.extract_eq_extract_right.2 (by omega : min (b.size + s.size - k) (b.size - k) = min (b.size - k) (b.size - k))]

/-- a message of the final shape: `Body.Get(buf)` does not panic and is the rest of the buffer -/
theorem endShape_body_get (b : Buf) (m : PSIPMsg) (hfit : b.size ≤ 65535) (h : EndShape b.size m) :
    m.body.get? b = some (b.extract m.body.offs b.size) := by
  have he := h.body_end
  unfold PField.get? PField.endT
  rw [he, trunc16_of_lt (by omega)]
  rw [if_pos ⟨by omega, Nat.le_refl _⟩]

/-- **the body of the longer result is the body of the shorter result followed by the appended bytes** -/
theorem parseSIPMsg_bodyToEnd_body (b s : Buf) (o : Nat) (m : PSIPMsg) (flags : Nat) (hok : msgOK b o m)
    (hfit : (b ++ s).size ≤ 65535) (hnf : hasFlag flags SIPMsgNoMoreDataF = false)
    {o' : Nat} {m' : PSIPMsg} (hr : parseSIPMsg b o m flags = (o', .ok, m')) (hx : bodyToEnd flags m')
    (hoffs : m.state = .init ∨ m.offs ≤ b.size ∨ m'.pnc = false)
    {o'' : Nat} {e'' : Err} {m'' : PSIPMsg} (hr2 : parseSIPMsg (b ++ s) o m flags = (o'', e'', m'')) :
    ∃ body, m'.body.get? b = some body ∧ m''.body.get? (b ++ s) = some (body ++ s) := by
  have hsz : (b ++ s).size = b.size + s.size := Array.size_append
  obtain ⟨h1, h2, h3⟩ := parseSIPMsg_grow b s o m flags hok hfit hnf hr hx hoffs
  rw [hr2] at h3
  cases h3
  refine ⟨b.extract m'.body.offs b.size, endShape_body_get b m' (by omega) h2, ?_⟩
  have hbe := h2.body_end
  have hs2 : EndShape (b ++ s).size (growMsg m' (b ++ s).size) := by
    refine ⟨h2.state, ?_, rfl, h2.rawOffs, ?_⟩
    · show m'.body.offs + ((b ++ s).size - m'.body.offs) = (b ++ s).size
      omega
    · have := h2.raw_end
      show m'.rawOffs + ((b ++ s).size - m'.rawOffs) = (b ++ s).size
      omega
  rw [endShape_body_get (b ++ s) _ hfit hs2]
  show some ((b ++ s).extract m'.body.offs (b ++ s).size) = _
  rw [extract_to_end_app b s _ (by omega)]

/-- the exemption is necessary: in the body-to-end case every non-empty extension changes the result
    (the returned offset moves), so `parseSIPMsg_stable` cannot hold there -/
theorem parseSIPMsg_bodyToEnd_changes (b s : Buf) (o : Nat) (m : PSIPMsg) (flags : Nat) (hok : msgOK b o m)
    (hfit : (b ++ s).size ≤ 65535) (hnf : hasFlag flags SIPMsgNoMoreDataF = false)
    {o' : Nat} {m' : PSIPMsg} (hr : parseSIPMsg b o m flags = (o', .ok, m')) (hx : bodyToEnd flags m')
    (hoffs : m.state = .init ∨ m.offs ≤ b.size ∨ m'.pnc = false) (hs : 0 < s.size) :
    (parseSIPMsg (b ++ s) o m flags).1 = o' + s.size ∧ parseSIPMsg (b ++ s) o m flags ≠ parseSIPMsg b o m flags := by
  have hsz : (b ++ s).size = b.size + s.size := Array.size_append
  obtain ⟨h1, _, h3⟩ := parseSIPMsg_grow b s o m flags hok hfit hnf hr hx hoffs
  refine ⟨by rw [h3]; show (b ++ s).size = _; omega, ?_⟩
  rw [h3, hr]
  intro hc
  have := congrArg (fun r => r.1) hc
  simp only at this
  omega

theorem bodyGrew_self {n : Nat} {m : PSIPMsg} (h : EndShape n m) : BodyGrew m n m :=
  ⟨rfl, rfl, rfl, rfl, rfl, rfl, rfl, rfl, h.body_end, h.bufLen, h.raw_end⟩

/-! ### tests / non-vacuity (closed computations, `decide +kernel`) -/

/-- a request without Content-Length, 5 body bytes so far -/
def exNoCLen : Buf := "INVITE sip:a@b SIP/2.0\r\nCall-ID: x1\r\n\r\nhello".toUTF8.data
def exNoCLenInit : PSIPMsg := ({} : PSIPMsg).init 0 none none

-- test: the hypotheses of the main theorem are met by a concrete message (flags 0) …
theorem exNoCLen_run : (parseSIPMsg exNoCLen 0 exNoCLenInit 0).1 = 44 ∧
    (parseSIPMsg exNoCLen 0 exNoCLenInit 0).2.1 = Err.ok ∧
    (parseSIPMsg exNoCLen 0 exNoCLenInit 0).2.2.body = ⟨39, 5⟩ ∧
    (parseSIPMsg exNoCLen 0 exNoCLenInit 0).2.2.pv.clen.parsed = false := by decide +kernel
example : (parseSIPMsg exNoCLen 0 exNoCLenInit 0).2.1 = Err.ok := exNoCLen_run.2.1
example : bodyToEnd 0 (parseSIPMsg exNoCLen 0 exNoCLenInit 0).2.2 :=
  ⟨by decide, exNoCLen_run.2.2.2, by decide⟩
example : msgOK exNoCLen 0 exNoCLenInit := msgOK_init _ 0 (Nat.zero_le _) {} 0 0 0 none none
-- … test: and what the theorem says happens, on this instance: offset 44 → 46, body length 5 → 7
example : (parseSIPMsg exNoCLen 0 exNoCLenInit 0).1 = 44 ∧
    (parseSIPMsg exNoCLen 0 exNoCLenInit 0).2.2.body = ⟨39, 5⟩ := ⟨exNoCLen_run.1, exNoCLen_run.2.2.1⟩
example : (parseSIPMsg (exNoCLen ++ #[33, 33]) 0 exNoCLenInit 0).1 = 46 ∧
    (parseSIPMsg (exNoCLen ++ #[33, 33]) 0 exNoCLenInit 0).2.2.body = ⟨39, 7⟩ := by decide +kernel

-- test: the hypothesis `hoffs` cannot be dropped. A continued object (state `fline`) whose `offs` lies beyond the
-- shorter buffer: Go panics on the shorter buffer (slicing `RawMsg`; the model records `pnc`), not on the longer one,
-- so `pnc` (and `rawLen`) are not related as in `BodyGrew`.
example : (parseSIPMsg exNoCLen 0 { exNoCLenInit with state := .fline, offs := 45 } 0).2.2.pnc = true ∧
    (parseSIPMsg (exNoCLen ++ #[33, 33]) 0 { exNoCLenInit with state := .fline, offs := 45 } 0).2.2.pnc = false := by
  decide +kernel

end Sipsp
