/-
  Sipsp.Proofs.MsgL2 — L2 (resumption) for ParseSIPMsg.
-/
import Sipsp.Proofs.HeadersL2
import Sipsp.Proofs.MsgL1

namespace Sipsp

/-! ### a values object that is passed in is passed back -/

theorem parseHdrLine_isSome (b : Buf) (o : Nat) (h : Hdr) (hv : PHdrVals) :
    (parseHdrLine b o h (some hv)).2.2.2.isSome = true := by
  -- the values object is replaced only by the result of a value parser (`hcall`)
  rcases hr : parseHdrLine b o h (some hv) with ⟨o', e, h', hb'⟩
  exact parseHdrLine_ind b (fun _ st => st.2.isSome = true) (fun _ _ st => st.2.isSome = true)
    (hexit := fun _ _ _ _ _ _ _ _ hS _ => hS) (hgo := fun _ _ _ _ _ _ _ hS _ => hS)
    (hnoname := fun _ _ _ _ _ _ _ hS _ _ => hS) (huntyped := fun _ _ _ _ _ _ _ _ hS _ _ _ => hS)
    (hnil := fun _ _ _ _ hS _ => hS) (hcall := fun _ _ _ _ _ _ _ _ _ _ => rfl) (heob := fun _ _ hS => hS)
    (o := o) (h := h) (hb := some hv) rfl hr

theorem parseHeaders_isSome (b : Buf) (offs : Nat) (hl : HdrLst) (hv : PHdrVals) :
    (parseHeaders b offs hl (some hv)).2.2.2.isSome = true := by
  refine parseHeaders_ind b (J := fun _ _ hb => hb.isSome = true) (R := fun r => r.2.2.2.isSome = true)
    (line := ?_) (bug := ?_) (endOk := ?_) (endEmpty := ?_) (stop := ?_) (eob := fun _ _ _ h _ => h) offs hl (some hv) rfl
  all_goals
    intro offs hl hb
    cases hb with
    | none => intros; contradiction
    | some v =>
      intros
      have := parseHdrLine_isSome b offs hl.cur v
      simp_all

/-! ### the message parser -/

/-- what a caller can read of a message object -/
def msgObs (m : PSIPMsg) : PSIPMsg := { m with pv := m.pv.obs }

/-- legitimacy for resumption, phase by phase: the first line is asked to be legitimate only while it is being parsed,
    the header list and the values only until the body phase is reached — there, in addition to what `msgOK` asks, no
    stale suspended header in the slots still to be filled (`hlsPend`). Neither of `msgOK`, `msgOK2` implies the
    other: `msgOK` asks for all parts in every state and does not know `hlsPend` -/
def msgOK2 (b : Buf) (o : Nat) (m : PSIPMsg) : Prop :=
  o ≤ b.size ∧ (m.state = .init ∨ m.state = .fline → flOK m.fl) ∧
  (m.state ≠ .body → hlsOK b m.hl ∧ hvOK b o m.pv ∧ hlsPend m.hl (some m.pv))

theorem msgBody_resume (b s : Buf) (o : Nat) (m : PSIPMsg) (flags flags' : Nat)
    {o' : Nat} {m' : PSIPMsg} (hr : msgBody b o m flags = (o', Err.moreBytes, m')) :
    o' = o ∧ m' = { m with body := PField.set o o } ∧
      msgBody (b ++ s) o m' flags' = msgBody (b ++ s) o m flags' := by
  unfold msgBody at hr
  simp only at hr
  have key : ∀ x : Nat × Err × PSIPMsg, x = (o', Err.moreBytes, m') →
      (x = (o, Err.moreBytes, { m with body := PField.set o o }) ∨ x.2.1 ≠ .moreBytes) →
      o' = o ∧ m' = { m with body := PField.set o o } := by
    intro x hx hc
    rcases hc with hc | hc
    · rw [hc] at hx; simp only [Prod.mk.injEq, true_and] at hx; exact ⟨hx.1.symm, hx.2.symm⟩
    · rw [hx] at hc; exact absurd rfl hc
  have := key _ hr (by
    repeat' split
    all_goals first
      | exact Or.inl rfl
      | (right; simp [msgEnd, PSIPMsg.setBufs]))
  refine ⟨this.1, this.2, ?_⟩
  rw [this.2]
  unfold msgBody
  rfl

theorem msgErr_more_inv (m : PSIPMsg) (o : Nat) (e : Err) (flags : Nat) {o' : Nat} {m' : PSIPMsg}
    (h : msgErr m o e flags = (o', Err.moreBytes, m')) : e = .moreBytes ∧ o' = o ∧ m' = m := by
  unfold msgErr at h
  split at h
  · rename_i hne
    simp only [Prod.mk.injEq] at h
    have : e = .moreBytes := h.2.1
    subst this; simp at hne
  · split at h
    · simp only [Prod.mk.injEq] at h; exact absurd h.2.1 (by decide)
    · rename_i hne _
      simp only [Prod.mk.injEq] at h
      exact ⟨h.2.1, h.1.symm, h.2.2.symm⟩

/-- what the message parser does with the result of ParseHeaders -/
def afterHeaders (B : Buf) (m : PSIPMsg) (flags : Nat) (r : Nat × Err × HdrLst × Option PHdrVals) :
    Nat × Err × PSIPMsg :=
  match r with
  | (o', .ok, hl, hb) => msgBody B o' { m with hl := hl, pv := hb.getD m.pv, state := .body } flags
  | (o', e, hl, hb) => msgErr { m with hl := hl, pv := hb.getD m.pv } o' e flags

theorem msgHeaders_eq (B : Buf) (o : Nat) (m : PSIPMsg) (flags : Nat) :
    msgHeaders B o m flags = afterHeaders B m flags (parseHeaders B o m.hl (some m.pv)) := by
  unfold msgHeaders afterHeaders
  rcases parseHeaders B o m.hl (some m.pv) with ⟨o1, e1, hl1, hb1⟩
  cases e1 <;> rfl

theorem afterHeaders_rr (B : Buf) (mB : PSIPMsg) (hlX : HdrLst) (pvX : PHdrVals) (flags : Nat)
    (rA rB : Nat × Err × HdrLst × Option PHdrVals)
    (hsA : rA.2.2.2.isSome = true) (hsB : rB.2.2.2.isSome = true)
    (hrr : RR hdrsObs rA rB) :
    RR msgObs (afterHeaders B { mB with hl := hlX, pv := pvX } flags rA) (afterHeaders B mB flags rB) := by
  obtain ⟨oA, eA, hlA, hbA⟩ := rA
  obtain ⟨oB, eB, hlB, hbB⟩ := rB
  obtain ⟨hn, he, hg, ho⟩ := hrr
  simp only at hn he hg ho hsA hsB
  subst hn; subst he
  cases hbA with
  | none => cases hsA
  | some vA =>
  cases hbB with
  | none => cases hsB
  | some vB =>
  by_cases hgo : Err.goesOn eA
  · have := hg hgo
    simp only [Prod.mk.injEq, Option.some.injEq] at this
    obtain ⟨rfl, rfl⟩ := this
    apply RR.of_eq
    unfold afterHeaders
    cases eA <;> simp only [Option.getD_some]
  · have hk1 : eA ≠ .ok := fun h => hgo (Or.inl h)
    have hk2 : eA ≠ .moreBytes := fun h => hgo (Or.inr (Or.inl h))
    simp only [hdrsObs, Prod.mk.injEq, Option.map_some, Option.some.injEq] at ho
    obtain ⟨rfl, hov⟩ := ho
    unfold afterHeaders
    cases eA <;> first | exact absurd rfl hk1 | exact absurd rfl hk2 | skip
    all_goals
      simp only [Option.getD_some]
      rw [msgErr_stable _ _ _ _ (by decide), msgErr_stable _ _ _ _ (by decide)]
      refine ⟨rfl, rfl, fun hh => absurd hh hgo, ?_⟩
      simp only [msgObs, hov]

theorem parseSIPMsg_headers (B : Buf) (o : Nat) (m : PSIPMsg) (flags : Nat) (hst : m.state = .headers) :
    parseSIPMsg B o m flags = msgHeaders B o m flags := by
  unfold parseSIPMsg; rw [hst]

theorem parseSIPMsg_body (B : Buf) (o : Nat) (m : PSIPMsg) (flags : Nat) (hst : m.state = .body) :
    parseSIPMsg B o m flags = msgBody B o m flags := by
  unfold parseSIPMsg; rw [hst]

theorem parseSIPMsg_fline (B : Buf) (o : Nat) (m : PSIPMsg) (flags : Nat) (hst : m.state = .fline) :
    parseSIPMsg B o m flags = msgFLine B o m flags := by
  unfold parseSIPMsg; rw [hst]

theorem msgOK2.legit {b : Buf} {o : Nat} {m : PSIPMsg} (h : msgOK2 b o m) : msgLegit b o m :=
  ⟨h.1, h.2.1, fun hn => ⟨(h.2.2 hn).1, (h.2.2 hn).2.1⟩⟩

/-- before the header block is done, the header list and the values are those the call was given: no stale suspended
    header -/
theorem MsgAt.pend {b : Buf} {o : Nat} {m : PSIPMsg} {s : MsgState} {o1 : Nat} {m1 : PSIPMsg}
    (h : MsgAt b o m s o1 m1) (hok : msgOK2 b o m) (hs : s = .fline ∨ s = .headers) : hlsPend m1.hl (some m1.pv) := by
  rw [(h.frame hs).1, (h.frame hs).2]
  exact (hok.2.2 (h.state_ne_body (by rcases hs with rfl | rfl <;> decide))).2.2

/-- **L2 for ParseSIPMsg**: after MoreBytes, a call on ANY extension of the buffer, with the returned offset
    and the same message object — and with any flags — returns the offset and verdict of a fresh call with
    those flags on that extension; the message object is the same whenever the verdict is not an error, and the
    same up to the name-addr parsers' unexported saved restart offset after an error. The legitimacy condition
    is re-established, so the statement applies again to the next chunk. -/
theorem parseSIPMsg_resume (b s : Buf) (o : Nat) (m : PSIPMsg) (flags flags' : Nat)
    (hok : msgOK2 b o m) (hfit : b.size ≤ 65535) {o' : Nat} {m' : PSIPMsg}
    (hr : parseSIPMsg b o m flags = (o', Err.moreBytes, m')) :
    RR msgObs (parseSIPMsg (b ++ s) o' m' flags') (parseSIPMsg (b ++ s) o m flags') ∧
      msgOK2 (b ++ s) o' m' ∧ o' ≤ b.size := by
  -- the call suspended in the first line, in the header block or in the body: the fresh call on `b ++ s` reaches that
  -- phase with the same object (`MsgAt.app`), the resumed call enters it, and the phase's own L2 applies
  have hsz : (b ++ s).size = b.size + s.size := Array.size_append
  revert hr
  refine parseSIPMsg_cases (P := fun r => r = (o', Err.moreBytes, m') →
    RR msgObs (parseSIPMsg (b ++ s) o' m' flags') (parseSIPMsg (b ++ s) o m flags') ∧ msgOK2 (b ++ s) o' m' ∧
      o' ≤ b.size) b o m flags ?_ ?_ ?_ ?_
  · intro _ hh; cases hh
  · intro o1 m1 o2 e fl h hp _ hr
    obtain ⟨rfl, rfl, rfl⟩ := msgErr_more_inv _ _ _ _ hr
    obtain ⟨hA, ho1, hfl, hrest⟩ := h.app hok.legit hfit s
    obtain ⟨hls, hvs⟩ := hrest (by decide)
    have hpe := h.pend hok (Or.inl rfl)
    have hge := parseFLine_ge b o1 m1.fl
    rw [hp] at hge
    obtain ⟨hex, hfl', hle⟩ := parseFLine_resume b s o1 m1.fl ho1 (hfl rfl) hfit hp
    refine ⟨?_, ⟨by omega, fun _ => hfl',
      fun _ => ⟨hlsOK_grows s hls, hvOK_mono (hvOK_grows s hvs) hge (by omega), hpe⟩⟩, hle⟩
    apply RR.of_eq
    rw [hA.run flags', msgFrom_fline,
      parseSIPMsg_fline _ _ _ _ (show ({ m1 with fl := fl } : PSIPMsg).state = .fline from h.state)]
    unfold msgFLine
    simp only
    rw [hex]
  · intro o1 m1 o2 e hl hb h hp _ hr
    obtain ⟨rfl, rfl, rfl⟩ := msgErr_more_inv _ _ _ _ hr
    obtain ⟨hA, ho1, _, hrest⟩ := h.app hok.legit hfit s
    obtain ⟨hls, hvs⟩ := hrest (by decide)
    have hpe := h.pend hok (Or.inr rfl)
    have hsome := parseHeaders_isSome b o1 m1.hl m1.pv
    rw [hp] at hsome
    cases hb with
    | none => cases hsome
    | some v1 =>
    simp only [Option.getD_some]
    obtain ⟨hrr, h1, h2, h3, h4, h5⟩ := parseHeaders_resume b s o1 m1.hl (some m1.pv) hls hvs hpe ho1 hp
    have hst : ({ m1 with hl := hl, pv := v1 } : PSIPMsg).state = .headers := h.state
    refine ⟨?_, ⟨by omega, (fun hh => by rcases hh with hh | hh <;> (rw [hst] at hh; cases hh)),
      fun _ => ⟨h1, h2, h3⟩⟩, h5⟩
    rw [hA.run flags', msgFrom_headers, parseSIPMsg_headers _ _ _ _ hst, msgHeaders_eq, msgHeaders_eq]
    exact afterHeaders_rr (b ++ s) m1 hl v1 flags' _ _ (parseHeaders_isSome _ _ _ _) (parseHeaders_isSome _ _ _ _) hrr
  · intro o1 m1 h hr
    obtain ⟨hA, ho1, _, _⟩ := h.app hok.legit hfit s
    obtain ⟨rfl, rfl, hbe⟩ := msgBody_resume b s o1 m1 flags flags' hr
    have hst : ({ m1 with body := PField.set o' o' } : PSIPMsg).state = .body := h.state
    refine ⟨?_, ⟨by omega, (fun hh => by rcases hh with hh | hh <;> (rw [hst] at hh; cases hh)),
      fun hne => absurd hst hne⟩, ho1⟩
    rw [hA.run flags', msgFrom_body, parseSIPMsg_body _ _ _ _ hst]
    exact RR.of_eq hbe

/-- every object produced by Init (any previous contents, caller arrays of any capacity or none) is legitimate
    for resumption -/
theorem msgOK2_init (b : Buf) (o : Nat) (ho : o ≤ b.size) (m : PSIPMsg) (len kh kc : Nat)
    (hdrs : Option Unit) (cts : Option Unit) :
    msgOK2 b o (m.init len (hdrs.map fun _ => Array.replicate kh {}) (cts.map fun _ => Array.replicate kc {})) := by
  have hm := msgOK_init b o ho m len kh kc hdrs cts
  refine ⟨ho, fun _ => hm.2.1, fun _ => ⟨hm.2.2.1, hm.2.2.2, ?_⟩⟩
  cases hdrs <;> exact hlsPend_new _ _

end Sipsp
