/-
  Sipsp.Proofs.MsgLastFlags — property C01 at schedule level when the flags of the LAST call differ from the flags
  of the earlier calls ("final chunk with the no-more-data flag"); re-exported in Properties/C01x.

  `resumeRunEnd (mlfP f) (mlfP f') o m l` (Schedule) is the caller's loop: ParseSIPMsg with flag word `f` on every
  buffer of `l` but the last while the verdict is MoreBytes, each call resuming at the offset returned by the previous
  one on the same object; ParseSIPMsg with flag word `f'` on the last buffer. `l` is ANY growing list of buffers
  (`Growing`: each one is the previous one plus some — possibly no — bytes; so the last two may be equal: nothing more
  arrived, the caller just learnt that the stream ended), each within 65,535 bytes. `mlfOneShotEnd` is the reference:
  FRESH calls from the original (offset, object) on the same buffers, `f` on all but the last (first definitive verdict
  wins — as `oneShotRun` in `schedule_msg`), `f'` on the last.

  Proved, for every byte string, every cut, every start offset inside the first buffer, every legitimate object (every
  Init object with zeroed caller arrays of any capacity qualifies):
  (1) for EVERY `f` and EVERY `f'` the chain returns what the fresh calls return: offset, verdict, the very same object
      when the verdict is not an error, the same `msgObs` observation after an error (`schedule_msg_last_flags`).
      In terms of ONE call with `f'` on the last buffer `B`, `f` without the no-more-data flag: if one call with `f` on
      `B` says MoreBytes (the stream ended while the parser wanted more — the situation in which a caller sets the
      flag), the chain returns what one call with `f'` on `B` returns, for every `f'`; for `f'` with the same body-mode
      flags as `f` (e.g. `f ||| SIPMsgNoMoreDataF`) it does so whatever one call with `f` on `B` says, provided no
      EARLIER buffer is already a complete message whose body is "the rest of the buffer" (`bodyToEnd`; void with
      skip-body or Content-Length-required). The flag is read only where the call would say MoreBytes
      (`parseSIPMsg_flags_switch`).
  (2) a message whose body is shorter than its Content-Length, fed in pieces: with the flag on the final call the chain
      returns what ONE call with the flag on the whole input returns — OK at the end of the input, object finished,
      body = the bytes from the end of the header block to the end of the input — and WITHOUT the flag it ends with
      MoreBytes at the body start, as one call does (`schedule_msg_truncated_body`).
  The tests at the end of the file show that "earlier calls do not carry the no-more-data flag" and the `bodyToEnd`
  side condition of the ONE-call forms are needed. Neither is a violation of C01: in both tests the chain still equals
  the fresh calls on the same buffers (general form (1)).

  NOT proved: the ONE-call forms when an earlier call carries the no-more-data flag or an earlier buffer is a complete
  `bodyToEnd` message (false, see the tests; the general form covers these schedules); objects outside `msgOK2`
  (`msgOK` in addition for the ONE-call forms); buffers beyond 65,535 bytes; the stand-alone ParseHeaders /
  ParseHdrLine (they take no flags).  The one-step law used is `parseSIPMsg_resume` (MsgL2).
-/
import Sipsp.Proofs.AuditFixA

namespace Sipsp

/-! ### ParseSIPMsg: every schedule, flag word `f` before the last call, `f'` at the last call -/

/-- the message parser with a fixed flag word, as a streaming parser (the function `C01.msgP`) -/
def mlfP (flags : Nat) : Parser PSIPMsg := fun b o m => parseSIPMsg b o m flags

/-- **C01 with any flag word at any call**: for every growing sequence of prefixes, each within 65,535 bytes and each
    with a flag word of its own, the chain of resumed calls returns what fresh calls with the same flag words return
    (`RR msgObs`, as `schedule_msg`). `schedule_msg` is the case of one flag word, `schedule_msg_last_flags` the case of
    one flag word for all calls but the last. -/
theorem schedule_msg_flags_each (o : Nat) (m : PSIPMsg) (l : List (Nat × Buf)) (hg : Growing (l.map Prod.snd))
    (hfit : ∀ x ∈ l, x.2.size ≤ 65535) (h0 : ∀ x ∈ l.head?, msgOK2 x.2 o m) :
    RR msgObs (resumeRunW mlfP o m l) (oneShotRunW mlfP o m l) :=
  resumeRunW_rel mlfP (fun _ => True) msgOK2 (fun b => b.size ≤ 65535) (RR msgObs) (RR.refl msgObs) (fun _ _ _ => RR.trans)
    (fun _ _ h => h.2.1)
    (fun f f' b s o st _ _ _ hC hI hr =>
      ⟨(parseSIPMsg_resume b s o st f f' hI hC hr).1, (parseSIPMsg_resume b s o st f f' hI hC hr).2.1⟩)
    o m l hg hfit (fun _ _ => trivial) h0

/-- **C01, the flags of the last call differ (general form)**: for EVERY growing sequence of prefixes (each within the
    65,535-byte limit), EVERY flag word `f` for the calls before the last and EVERY flag word `f'` for the last
    call, from any legitimate object: the chain of resumed calls returns what FRESH calls on the same prefixes return
    (`f` on the prefixes before the last — the first definitive verdict wins, as in `schedule_msg` —, `f'` on the last
    buffer): same offset, same verdict, the very same object when the verdict is not an error and the same `msgObs`
    observation after an error. No hypothesis on `f` or `f'`. -/
theorem schedule_msg_last_flags (f f' : Nat) (o : Nat) (m : PSIPMsg) (l : List Buf) (hg : Growing l)
    (hfit : ∀ x ∈ l, x.size ≤ 65535) (h0 : ∀ b ∈ l.head?, msgOK2 b o m) :
    RR msgObs (resumeRunEnd (mlfP f) (mlfP f') o m l) (mlfOneShotEnd (mlfP f) (mlfP f') o m l) := by
  have key := schedule_msg_flags_each o m (markLast f f' l) (by rw [markLast_snd]; exact hg)
    (fun x hx => hfit x.2 (by rw [← markLast_snd f f' l]; exact List.mem_map_of_mem hx))
    (fun x hx => h0 x.2 (by
      rw [← markLast_snd f f' l]
      cases hl : markLast f f' l with
      | nil => rw [hl] at hx; cases hx
      | cons y ys => rw [hl] at hx; simp at hx; subst hx; simp))
  rw [(resumeRunW_end mlfP f f' o m l).1, (resumeRunW_end mlfP f f' o m l).2] at key
  exact key

/-- … from any object produced by Init: any previous contents, zeroed caller arrays of any capacity (or none) -/
theorem schedule_msg_last_flags_init (f f' : Nat) (o : Nat) (m0 : PSIPMsg) (len kh kc : Nat)
    (hdrs cts : Option Unit) (l : List Buf) (hg : Growing l) (hfit : ∀ x ∈ l, x.size ≤ 65535)
    (ho : ∀ b ∈ l.head?, o ≤ b.size) :
    let m := m0.init len (hdrs.map fun _ => Array.replicate kh {}) (cts.map fun _ => Array.replicate kc {})
    RR msgObs (resumeRunEnd (mlfP f) (mlfP f') o m l) (mlfOneShotEnd (mlfP f) (mlfP f') o m l) :=
  schedule_msg_last_flags f f' o _ l hg hfit (fun b hb => msgOK2_init b o (ho b hb) m0 len kh kc hdrs cts)

/-! ### definitive verdicts under extension of the buffer -/

theorem mlf_msgBody_definitive (b s : Buf) (o : Nat) (m : PSIPMsg) (f : Nat) (ho : o ≤ b.size)
    (hnf : hasFlag f SIPMsgNoMoreDataF = false) (he : (msgBody b o m f).2.1 ≠ .moreBytes) :
    (msgBody (b ++ s) o m f).2.1 ≠ .moreBytes := by
  by_cases hx : bodyToEnd f m
  · obtain ⟨h1, h2, h3⟩ := hx
    unfold msgBody
    simp only [h1, h2, h3, Bool.false_eq_true, ↓reduceIte, msgEnd]
    intro h; cases h
  · rw [msgBody_stable b s o m f ho hnf hx he]; exact he

/-- the verdict only: the object need not be the same (a body that extends to the end of the buffer grows) -/
theorem parseSIPMsg_definitive_grows (b s : Buf) (o : Nat) (m : PSIPMsg) (f : Nat) (hok : msgLegit b o m)
    (hfit : b.size ≤ 65535) (hnf : hasFlag f SIPMsgNoMoreDataF = false)
    (he : (parseSIPMsg b o m f).2.1 ≠ .moreBytes) : (parseSIPMsg (b ++ s) o m f).2.1 ≠ .moreBytes :=
  parseSIPMsg_ext (P := fun r r' => r.2.1 ≠ .moreBytes → r'.2.1 ≠ .moreBytes) b s o m f hok hfit hnf
    (fun _ _ _ h => h) (fun _ _ h h' => absurd h h') (fun _ ho he => mlf_msgBody_definitive b s _ _ f ho hnf he) he

theorem parseSIPMsg_more_prefix (b s : Buf) (o : Nat) (m : PSIPMsg) (f : Nat) (hok : msgLegit b o m)
    (hfit : b.size ≤ 65535) (hnf : hasFlag f SIPMsgNoMoreDataF = false)
    (hm : (parseSIPMsg (b ++ s) o m f).2.1 = .moreBytes) : (parseSIPMsg b o m f).2.1 = .moreBytes := by
  cases he : (parseSIPMsg b o m f).2.1 with
  | moreBytes => rfl
  | _ => exact absurd hm (parseSIPMsg_definitive_grows b s o m f hok hfit hnf (by rw [he]; intro h; cases h))

/-! ### a definitive result does not depend on the no-more-data flag -/

theorem mlf_msgErr_switch (m : PSIPMsg) (o : Nat) (e : Err) (f f' : Nat)
    (hnf : hasFlag f SIPMsgNoMoreDataF = false) (he : (msgErr m o e f).2.1 ≠ .moreBytes) :
    msgErr m o e f' = msgErr m o e f := by
  by_cases hm : e = .moreBytes
  · subst hm
    rw [msgErr_more m o f hnf] at he
    exact absurd rfl he
  · rw [msgErr_stable m o e f hm, msgErr_stable m o e f' hm]

theorem mlf_msgBody_switch (b : Buf) (o : Nat) (m : PSIPMsg) (f f' : Nat)
    (hnf : hasFlag f SIPMsgNoMoreDataF = false)
    (hs : hasFlag f' SIPMsgSkipBodyF = hasFlag f SIPMsgSkipBodyF)
    (hc : hasFlag f' SIPMsgCLenReqF = hasFlag f SIPMsgCLenReqF)
    (he : (msgBody b o m f).2.1 ≠ .moreBytes) : msgBody b o m f' = msgBody b o m f := by
  unfold msgBody at he ⊢
  simp only [hs, hc] at he ⊢
  by_cases h1 : hasFlag f SIPMsgSkipBodyF = true
  · simp only [h1, ↓reduceIte]
  · simp only [h1, Bool.false_eq_true, ↓reduceIte] at he ⊢
    by_cases h2 : m.pv.clen.parsed = true
    · simp only [h2, ↓reduceIte] at he ⊢
      by_cases h3 : o + m.pv.clen.uiVal > b.size
      · simp only [h3, ↓reduceIte, hnf, Bool.false_eq_true] at he
        exact absurd rfl he
      · simp only [h3, ↓reduceIte]
    · simp only [h2, Bool.false_eq_true, ↓reduceIte]

/-- **the no-more-data flag is only read where the call would otherwise say MoreBytes**: a definitive result of a call
    without the flag is the result of the call with any flag word `f'` that agrees with `f` on the two body-mode
    flags (in particular `f' = f ||| SIPMsgNoMoreDataF`), on the same buffer — any object, any buffer -/
theorem parseSIPMsg_flags_switch (b : Buf) (o : Nat) (m : PSIPMsg) (f f' : Nat)
    (hnf : hasFlag f SIPMsgNoMoreDataF = false)
    (hs : hasFlag f' SIPMsgSkipBodyF = hasFlag f SIPMsgSkipBodyF)
    (hc : hasFlag f' SIPMsgCLenReqF = hasFlag f SIPMsgCLenReqF)
    (he : (parseSIPMsg b o m f).2.1 ≠ .moreBytes) : parseSIPMsg b o m f' = parseSIPMsg b o m f := by
  -- the phases do not see the flags: both calls end at the same leaf
  refine parseSIPMsg_cases (P := fun r => r.2.1 ≠ .moreBytes → parseSIPMsg b o m f' = r) b o m f ?_ ?_ ?_ ?_ he
  · exact fun hd _ => parseSIPMsg_dead hd b o f'
  · intro o1 m1 o2 e fl h hp hne he
    rw [h.run f']; exact (msgFLine_err hp hne f').trans (mlf_msgErr_switch _ _ _ f f' hnf he)
  · intro o1 m1 o2 e hl hb h hp hne he
    rw [h.run f']; exact (msgHeaders_err hp hne f').trans (mlf_msgErr_switch _ _ _ f f' hnf he)
  · intro o1 m1 h he
    rw [h.run f']; exact mlf_msgBody_switch b o1 m1 f f' hnf hs hc he

theorem mlf_hasFlag_or_nmd (f k : Nat) (hk : SIPMsgNoMoreDataF &&& k = 0) :
    hasFlag (f ||| SIPMsgNoMoreDataF) k = hasFlag f k := by
  unfold hasFlag
  rw [Nat.and_or_distrib_right, hk, Nat.or_zero]

theorem mlf_hasFlag_nmd (f : Nat) : hasFlag (f ||| SIPMsgNoMoreDataF) SIPMsgNoMoreDataF = true := by
  unfold hasFlag
  rw [Nat.and_or_distrib_right]
  have : SIPMsgNoMoreDataF &&& SIPMsgNoMoreDataF = 4 := by decide
  rw [this]
  simp only [bne_iff_ne, ne_eq, Nat.or_eq_zero_iff, not_and]
  intro _ h; cases h

/-! ### when the fresh calls reduce to ONE call with `f'` on the last buffer -/

theorem mlf_msgOK_all {o : Nat} {m : PSIPMsg} {l : List Buf} (hg : Growing l) (h0 : ∀ b ∈ l.head?, msgOK b o m) :
    ∀ x ∈ l, msgOK x o m :=
  growing_all hg (H := fun b => msgOK b o m) (fun _ s h => msgOK_grows s h) h0

/-- **C01, the stream ended while the parser was still asking for more**: `f` any flag word without the no-more-data
    flag, `f'` ANY flag word (in particular `f ||| SIPMsgNoMoreDataF`). If one call with `f` on the last buffer `B`
    says MoreBytes (equivalently, by `schedule_msg`: the chain with `f` alone ends with MoreBytes), then the chain —
    `f` before the last call, `f'` at the last call on `B` — returns what ONE call with `f'` on `B` returns on the
    original object. The last two buffers may be equal (nothing more arrived: the caller just learnt that the
    stream ended and calls again on the same bytes with the flag). -/
theorem schedule_msg_last_flags_more (f f' : Nat) (o : Nat) (m : PSIPMsg) (l : List Buf) (hg : Growing l)
    (hfit : ∀ x ∈ l, x.size ≤ 65535) (h0 : ∀ b ∈ l.head?, msgOK2 b o m ∧ msgOK b o m)
    (hnf : hasFlag f SIPMsgNoMoreDataF = false) (B : Buf) (hB : l.getLast? = some B)
    (hmore : (parseSIPMsg B o m f).2.1 = .moreBytes) :
    RR msgObs (resumeRunEnd (mlfP f) (mlfP f') o m l) (parseSIPMsg B o m f') := by
  have h := schedule_msg_last_flags f f' o m l hg hfit (fun b hb => (h0 b hb).1)
  have hall := mlf_msgOK_all hg (fun b hb => (h0 b hb).2)
  rw [mlfOneShotEnd_last (mlfP f) (mlfP f') o m l B hB (by
    intro x hx hne
    have hxl : x ∈ l := List.dropLast_subset l hx
    obtain ⟨t, rfl⟩ := mlf_growing_last hg hB x hxl
    exact absurd (parseSIPMsg_more_prefix x t o m f (hall x hxl).legit (hfit x hxl) hnf hmore) hne)] at h
  exact h

/-- **C01, the no-more-data flag at the last call, in terms of ONE call**: `f` without the no-more-data flag, `f'`
    with the same body-mode flags (`f' = f ||| SIPMsgNoMoreDataF`: `schedule_msg_last_nmd`). Provided no earlier
    prefix already holds a complete message whose body is "the rest of the buffer" (`bodyToEnd`: no Content-Length,
    neither skip-body nor Content-Length-required — there the chain stops early, with the shorter body, by
    definition of that mode; see the test below), the chain returns what ONE call with `f'` on the last buffer
    returns: offset, verdict, object (`msgObs` after an error). -/
theorem schedule_msg_last_flags_one (f f' : Nat) (o : Nat) (m : PSIPMsg) (l : List Buf) (hg : Growing l)
    (hfit : ∀ x ∈ l, x.size ≤ 65535) (h0 : ∀ b ∈ l.head?, msgOK2 b o m ∧ msgOK b o m)
    (hnf : hasFlag f SIPMsgNoMoreDataF = false)
    (hs : hasFlag f' SIPMsgSkipBodyF = hasFlag f SIPMsgSkipBodyF)
    (hc : hasFlag f' SIPMsgCLenReqF = hasFlag f SIPMsgCLenReqF)
    (B : Buf) (hB : l.getLast? = some B)
    (hx : ∀ x ∈ l.dropLast, (parseSIPMsg x o m f).2.1 = .ok → ¬ bodyToEnd f (parseSIPMsg x o m f).2.2) :
    RR msgObs (resumeRunEnd (mlfP f) (mlfP f') o m l) (parseSIPMsg B o m f') := by
  have h := schedule_msg_last_flags f f' o m l hg hfit (fun b hb => (h0 b hb).1)
  have hall := mlf_msgOK_all hg (fun b hb => (h0 b hb).2)
  rw [mlfOneShotEnd_last (mlfP f) (mlfP f') o m l B hB (by
    intro x hxd hne
    have hxl : x ∈ l := List.dropLast_subset l hxd
    obtain ⟨t, rfl⟩ := mlf_growing_last hg hB x hxl
    show parseSIPMsg x o m f = parseSIPMsg (x ++ t) o m f'
    rcases hr : parseSIPMsg x o m f with ⟨o', e, m'⟩
    have hne' : e ≠ .moreBytes := by
      have : (parseSIPMsg x o m f).2.1 ≠ .moreBytes := hne
      rw [hr] at this; exact this
    have hst := parseSIPMsg_stable_all x t o m f (hall x hxl) (hfit x hxl) hnf hr hne' (by
      intro he
      have := hx x hxd (by rw [hr]; exact he)
      rw [hr] at this; exact this)
    rw [parseSIPMsg_flags_switch (x ++ t) o m f f' hnf hs hc (by rw [hst]; exact hne'), hst])] at h
  exact h

/-- … for `f' = f ||| SIPMsgNoMoreDataF` -/
theorem schedule_msg_last_nmd (f : Nat) (o : Nat) (m : PSIPMsg) (l : List Buf) (hg : Growing l)
    (hfit : ∀ x ∈ l, x.size ≤ 65535) (h0 : ∀ b ∈ l.head?, msgOK2 b o m ∧ msgOK b o m)
    (hnf : hasFlag f SIPMsgNoMoreDataF = false) (B : Buf) (hB : l.getLast? = some B)
    (hx : ∀ x ∈ l.dropLast, (parseSIPMsg x o m f).2.1 = .ok → ¬ bodyToEnd f (parseSIPMsg x o m f).2.2) :
    RR msgObs (resumeRunEnd (mlfP f) (mlfP (f ||| SIPMsgNoMoreDataF)) o m l)
      (parseSIPMsg B o m (f ||| SIPMsgNoMoreDataF)) :=
  schedule_msg_last_flags_one f _ o m l hg hfit h0 hnf (mlf_hasFlag_or_nmd f _ (by decide))
    (mlf_hasFlag_or_nmd f _ (by decide)) B hB hx

/-- … from any Init object (any previous contents, zeroed caller arrays of any capacity, or none) -/
theorem schedule_msg_last_nmd_init (f : Nat) (o : Nat) (m0 : PSIPMsg) (len kh kc : Nat) (hdrs cts : Option Unit)
    (l : List Buf) (hg : Growing l) (hfit : ∀ x ∈ l, x.size ≤ 65535) (ho : ∀ b ∈ l.head?, o ≤ b.size)
    (hnf : hasFlag f SIPMsgNoMoreDataF = false) (B : Buf) (hB : l.getLast? = some B) :
    let m := m0.init len (hdrs.map fun _ => Array.replicate kh {}) (cts.map fun _ => Array.replicate kc {})
    (∀ x ∈ l.dropLast, (parseSIPMsg x o m f).2.1 = .ok → ¬ bodyToEnd f (parseSIPMsg x o m f).2.2) →
    RR msgObs (resumeRunEnd (mlfP f) (mlfP (f ||| SIPMsgNoMoreDataF)) o m l)
      (parseSIPMsg B o m (f ||| SIPMsgNoMoreDataF)) := by
  intro m hx
  exact schedule_msg_last_nmd f o m l hg hfit
    (fun b hb => ⟨msgOK2_init b o (ho b hb) m0 len kh kc hdrs cts, msgOK_init b o (ho b hb) m0 len kh kc hdrs cts⟩)
    hnf B hB hx

/-- in the two modes with a definite message end (skip-body, Content-Length required) the side condition is void -/
theorem schedule_msg_last_nmd_framed (f : Nat) (o : Nat) (m : PSIPMsg) (l : List Buf) (hg : Growing l)
    (hfit : ∀ x ∈ l, x.size ≤ 65535) (h0 : ∀ b ∈ l.head?, msgOK2 b o m ∧ msgOK b o m)
    (hnf : hasFlag f SIPMsgNoMoreDataF = false)
    (hfr : hasFlag f SIPMsgSkipBodyF = true ∨ hasFlag f SIPMsgCLenReqF = true)
    (B : Buf) (hB : l.getLast? = some B) :
    RR msgObs (resumeRunEnd (mlfP f) (mlfP (f ||| SIPMsgNoMoreDataF)) o m l)
      (parseSIPMsg B o m (f ||| SIPMsgNoMoreDataF)) :=
  schedule_msg_last_nmd f o m l hg hfit h0 hnf B hB (by
    intro x _ _ hbe
    rcases hfr with h | h
    · rw [hbe.1] at h; cases h
    · rw [hbe.2.2] at h; cases h)

/-- the chain with ONE flag word (`schedule_msg`) in terms of one call: if one call on the last buffer says MoreBytes,
    so does the chain, at the same offset with the same object -/
theorem schedule_msg_more (f : Nat) (o : Nat) (m : PSIPMsg) (l : List Buf) (hg : Growing l)
    (hfit : ∀ x ∈ l, x.size ≤ 65535) (h0 : ∀ b ∈ l.head?, msgOK2 b o m ∧ msgOK b o m)
    (hnf : hasFlag f SIPMsgNoMoreDataF = false) (B : Buf) (hB : l.getLast? = some B)
    (hmore : (parseSIPMsg B o m f).2.1 = .moreBytes) :
    resumeRun (mlfP f) o m l = parseSIPMsg B o m f := by
  have h := schedule_msg_last_flags_more f f o m l hg hfit h0 hnf B hB hmore
  rw [mlf_resumeRunEnd_same] at h
  exact h.eq (by rw [hmore]; exact Or.inr (Or.inl rfl))

/-! ### (2) a body shorter than its Content-Length, the stream ends -/

/-- the row "body shorter than its Content-Length, no-more-data flag set" of the C06 body table for ParseSIPMsg itself:
    OK at the end of the buffer, the body field is `Set(h,h)` extended to the end of the buffer — the truncated body.
    `parseSIPMsg_clen_framing` is the row without the flag. -/
theorem parseSIPMsg_clen_trunc (b : Buf) (o o1 h : Nat) (m : PSIPMsg) (flags : Nat) (fl : PFLine) (hl : HdrLst)
    (hv : PHdrVals) (hst : m.state = .init) (hf : parseFLine b o m.fl = (o1, .ok, fl))
    (hh : parseHeaders b o1 m.hl (some m.pv) = (h, .ok, hl, some hv))
    (hs : hasFlag flags SIPMsgSkipBodyF = false) (hn : hasFlag flags SIPMsgNoMoreDataF = true)
    (hc : hv.clen.parsed = true) (hshort : b.size < h + hv.clen.uiVal) :
    (parseSIPMsg b o m flags).1 = b.size ∧ (parseSIPMsg b o m flags).2.1 = .ok ∧
    (parseSIPMsg b o m flags).2.2.body = (PField.set h h).extend b.size ∧
    (parseSIPMsg b o m flags).2.2.state = .fin ∧ (parseSIPMsg b o m flags).2.2.pv = hv := by
  rw [parseSIPMsg_eq_msgBody b o o1 h m flags fl hl hv hst hf hh]
  have hc' : (afaBodyEntry m o fl hl hv).pv.clen.parsed = true := hc
  have hu : (afaBodyEntry m o fl hl hv).pv.clen.uiVal = hv.clen.uiVal := rfl
  have hg : h + hv.clen.uiVal > b.size := hshort
  have hb : msgBody b h (afaBodyEntry m o fl hl hv) flags =
      msgEnd { afaBodyEntry m o fl hl hv with body := PField.set h h } b b.size := by
    unfold msgBody
    simp only [hs, hc', hu, hg, hn, Bool.false_eq_true, ↓reduceIte]
  rw [hb]
  exact ⟨rfl, rfl, rfl, rfl, rfl⟩

theorem mlf_set_extend (h e : Nat) (hhe : h ≤ e) (he : e ≤ 65535) : (PField.set h h).extend e = ⟨h, e - h⟩ := by
  unfold PField.extend PField.set
  rw [trunc16_of_lt (x := h) (by omega), trunc16_of_lt (x := e) (by omega)]
  congr 1
  show (e + 65536 - h) % 65536 = e - h
  omega

theorem mlf_body_get (b : Buf) (h e : Nat) (hhe : h ≤ e) (heb : e ≤ b.size) (he : e ≤ 65535) :
    ((PField.set h h).extend e).get? b = some (b.extract h e) := by
  rw [mlf_set_extend h e hhe he]
  unfold PField.get? PField.endT
  simp only
  rw [show h + (e - h) = e by omega, trunc16_of_lt (by omega), if_pos ⟨hhe, heb⟩]

theorem mlf_headers_end_le (b : Buf) (o o1 h : Nat) (m : PSIPMsg) (fl : PFLine) (hl : HdrLst) (hv : PHdrVals)
    (hok : msgOK b o m) (hf : parseFLine b o m.fl = (o1, .ok, fl))
    (hh : parseHeaders b o1 m.hl (some m.pv) = (h, .ok, hl, some hv)) : h ≤ b.size := by
  obtain ⟨ho, _, hls, hvs⟩ := hok
  have hrg := parseFLine_range b o m.fl ho
  rw [hf] at hrg
  have hrg' := hrg rfl
  exact (parseHeaders_post b o1 m.hl (some m.pv) hls (hvOK_mono hvs hrg'.1 hrg'.2) hh).1

/-- **(2) the corollary a user cares about.** The whole input `B` is a message whose body is shorter than its
    Content-Length (hypotheses as in `parseSIPMsg_clen_framing`, on `B`: first line OK, header block OK at `h` with a
    parsed Content-Length `n`, `h + n > len(B)`), body parsing on, `f` without the no-more-data flag. It is fed as ANY
    growing sequence of prefixes ending with `B` (the last two may be equal), from a new / Init / Reset object:
    * with the no-more-data flag on the final call the chain returns exactly (offset, verdict, whole object) what ONE
      call with the flag on `B` returns: OK at `len(B)`, finished, the parsed values `hv`, and the body is the
      truncated body `B[h:]`;
    * WITHOUT the flag the chain ends with MoreBytes at `h` (the body start), exactly as one call on `B`. -/
theorem schedule_msg_truncated_body (f : Nat) (o : Nat) (m : PSIPMsg) (l : List Buf) (hg : Growing l)
    (hfit : ∀ x ∈ l, x.size ≤ 65535) (h0 : ∀ b ∈ l.head?, msgOK2 b o m ∧ msgOK b o m)
    (hnf : hasFlag f SIPMsgNoMoreDataF = false) (hs : hasFlag f SIPMsgSkipBodyF = false)
    (B : Buf) (hB : l.getLast? = some B) (o1 h : Nat) (fl : PFLine) (hl : HdrLst) (hv : PHdrVals)
    (hst : m.state = .init) (hf : parseFLine B o m.fl = (o1, .ok, fl))
    (hh : parseHeaders B o1 m.hl (some m.pv) = (h, .ok, hl, some hv))
    (hc : hv.clen.parsed = true) (hshort : B.size < h + hv.clen.uiVal) :
    (resumeRunEnd (mlfP f) (mlfP (f ||| SIPMsgNoMoreDataF)) o m l = parseSIPMsg B o m (f ||| SIPMsgNoMoreDataF) ∧
      (resumeRunEnd (mlfP f) (mlfP (f ||| SIPMsgNoMoreDataF)) o m l).1 = B.size ∧
      (resumeRunEnd (mlfP f) (mlfP (f ||| SIPMsgNoMoreDataF)) o m l).2.1 = .ok ∧
      (resumeRunEnd (mlfP f) (mlfP (f ||| SIPMsgNoMoreDataF)) o m l).2.2.state = .fin ∧
      (resumeRunEnd (mlfP f) (mlfP (f ||| SIPMsgNoMoreDataF)) o m l).2.2.pv = hv ∧
      (resumeRunEnd (mlfP f) (mlfP (f ||| SIPMsgNoMoreDataF)) o m l).2.2.body = (PField.set h h).extend B.size ∧
      (resumeRunEnd (mlfP f) (mlfP (f ||| SIPMsgNoMoreDataF)) o m l).2.2.body.get? B = some (B.extract h B.size)) ∧
    (resumeRun (mlfP f) o m l = parseSIPMsg B o m f ∧
      (resumeRun (mlfP f) o m l).1 = h ∧ (resumeRun (mlfP f) o m l).2.1 = .moreBytes) := by
  have hBl : B ∈ l := List.mem_of_getLast? hB
  have hokB : msgOK B o m := mlf_msgOK_all hg (fun b hb => (h0 b hb).2) B hBl
  have hfr := (parseSIPMsg_clen_framing B o o1 h m f fl hl hv hst hf hh hs hnf hc).2.2 (by omega)
  have htr := parseSIPMsg_clen_trunc B o o1 h m (f ||| SIPMsgNoMoreDataF) fl hl hv hst hf hh
    (by rw [mlf_hasFlag_or_nmd f _ (by decide)]; exact hs) (mlf_hasFlag_nmd f) hc hshort
  have hle := mlf_headers_end_le B o o1 h m fl hl hv hokB hf hh
  have hrun : resumeRunEnd (mlfP f) (mlfP (f ||| SIPMsgNoMoreDataF)) o m l =
      parseSIPMsg B o m (f ||| SIPMsgNoMoreDataF) :=
    (schedule_msg_last_flags_more f _ o m l hg hfit h0 hnf B hB hfr.2).eq (by rw [htr.2.1]; exact Or.inl rfl)
  have hrun2 := schedule_msg_more f o m l hg hfit h0 hnf B hB hfr.2
  refine ⟨⟨hrun, ?_⟩, hrun2, ?_⟩
  · rw [hrun]
    exact ⟨htr.1, htr.2.1, htr.2.2.2.1, htr.2.2.2.2, htr.2.2.1,
      by rw [htr.2.2.1]; exact mlf_body_get B h B.size hle (Nat.le_refl _) (hfit B hBl)⟩
  · rw [hrun2]; exact hfr

/-- every object produced by Init (any previous contents, zeroed caller arrays of any capacity, or none) meets the
    hypothesis `h0` of the theorems above -/
theorem mlf_h0_init (o : Nat) (m0 : PSIPMsg) (len kh kc : Nat) (hdrs cts : Option Unit) (l : List Buf)
    (ho : ∀ b ∈ l.head?, o ≤ b.size) :
    ∀ b ∈ l.head?,
      msgOK2 b o (m0.init len (hdrs.map fun _ => Array.replicate kh {}) (cts.map fun _ => Array.replicate kc {})) ∧
      msgOK b o (m0.init len (hdrs.map fun _ => Array.replicate kh {}) (cts.map fun _ => Array.replicate kc {})) :=
  fun b hb => ⟨msgOK2_init b o (ho b hb) m0 len kh kc hdrs cts, msgOK_init b o (ho b hb) m0 len kh kc hdrs cts⟩

theorem schedule_msg_last_flags_more_init (f f' : Nat) (o : Nat) (m0 : PSIPMsg) (len kh kc : Nat)
    (hdrs cts : Option Unit) (l : List Buf) (hg : Growing l) (hfit : ∀ x ∈ l, x.size ≤ 65535)
    (ho : ∀ b ∈ l.head?, o ≤ b.size) (hnf : hasFlag f SIPMsgNoMoreDataF = false) (B : Buf)
    (hB : l.getLast? = some B) :
    let m := m0.init len (hdrs.map fun _ => Array.replicate kh {}) (cts.map fun _ => Array.replicate kc {})
    (parseSIPMsg B o m f).2.1 = .moreBytes →
    RR msgObs (resumeRunEnd (mlfP f) (mlfP f') o m l) (parseSIPMsg B o m f') := by
  intro m hmore
  exact schedule_msg_last_flags_more f f' o m l hg hfit (mlf_h0_init o m0 len kh kc hdrs cts l ho) hnf B hB hmore

theorem schedule_msg_last_flags_verdict (f f' : Nat) (o : Nat) (m : PSIPMsg) (l : List Buf) (hg : Growing l)
    (hfit : ∀ x ∈ l, x.size ≤ 65535) (h0 : ∀ b ∈ l.head?, msgOK2 b o m) :
    (resumeRunEnd (mlfP f) (mlfP f') o m l).1 = (mlfOneShotEnd (mlfP f) (mlfP f') o m l).1 ∧
    (resumeRunEnd (mlfP f) (mlfP f') o m l).2.1 = (mlfOneShotEnd (mlfP f) (mlfP f') o m l).2.1 :=
  let h := schedule_msg_last_flags f f' o m l hg hfit h0; ⟨h.1, h.2.1⟩

theorem schedule_msg_last_flags_object (f f' : Nat) (o : Nat) (m : PSIPMsg) (l : List Buf) (hg : Growing l)
    (hfit : ∀ x ∈ l, x.size ≤ 65535) (h0 : ∀ b ∈ l.head?, msgOK2 b o m)
    (hv : Err.goesOn (mlfOneShotEnd (mlfP f) (mlfP f') o m l).2.1) :
    resumeRunEnd (mlfP f) (mlfP f') o m l = mlfOneShotEnd (mlfP f) (mlfP f') o m l :=
  (schedule_msg_last_flags f f' o m l hg hfit h0).eq hv

/-- with `f' = f` the statement is `schedule_msg` (C01) -/
theorem schedule_msg_last_flags_same (f : Nat) (o : Nat) (m : PSIPMsg) (l : List Buf) :
    resumeRunEnd (mlfP f) (mlfP f) o m l = resumeRun (mlfP f) o m l ∧
    mlfOneShotEnd (mlfP f) (mlfP f) o m l = oneShotRun (mlfP f) o m l :=
  ⟨mlf_resumeRunEnd_same _ o m l, mlfOneShotEnd_same _ o m l⟩

/-! ### tests / non-vacuity (closed computations by `decide +kernel`; labelled as tests, not as general claims) -/

/-- "A B C\r\nl:5\r\n\r\nxyz": Content-Length 5, only 3 body bytes -/
def mlfMsg : Buf := #[65, 32, 66, 32, 67, 13, 10, 108, 58, 53, 13, 10, 13, 10, 120, 121, 122]
/-- "A B C\r\ni:x\r\n\r\nxyz": no Content-Length -/
def mlfNoCL : Buf := #[65, 32, 66, 32, 67, 13, 10, 105, 58, 120, 13, 10, 13, 10, 120, 121, 122]
def mlfInit : PSIPMsg := ({} : PSIPMsg).init 0 none none
/-- cut inside the first line, inside the Content-Length line, inside the blank line, inside the body; the whole
    input; and the whole input once more (nothing arrived, the stream ended) -/
def mlfCuts : List Buf :=
  [mlfMsg.extract 0 3, mlfMsg.extract 0 9, mlfMsg.extract 0 13, mlfMsg.extract 0 15, mlfMsg, mlfMsg]

theorem mlfCuts_growing : Growing mlfCuts :=
  ⟨prefix_grows _ (by decide), prefix_grows _ (by decide), prefix_grows _ (by decide),
   prefix_whole _ _, ⟨#[], Array.append_empty.symm⟩, trivial⟩

/-- test / non-vacuity of `schedule_msg_truncated_body`: ALL its hypotheses hold of a concrete message (Content-Length 5,
    three body bytes) fed in six pieces, and its conclusion instantiates to: OK at 17 with body "xyz" when the last
    call carries the flag, MoreBytes at 14 when it does not -/
example :
    (resumeRunEnd (mlfP 0) (mlfP (0 ||| SIPMsgNoMoreDataF)) 0 mlfInit mlfCuts).1 = 17 ∧
    (resumeRunEnd (mlfP 0) (mlfP (0 ||| SIPMsgNoMoreDataF)) 0 mlfInit mlfCuts).2.1 = .ok ∧
    (resumeRunEnd (mlfP 0) (mlfP (0 ||| SIPMsgNoMoreDataF)) 0 mlfInit mlfCuts).2.2.body.get? mlfMsg =
      some #[120, 121, 122] ∧
    (resumeRun (mlfP 0) 0 mlfInit mlfCuts).1 = 14 ∧ (resumeRun (mlfP 0) 0 mlfInit mlfCuts).2.1 = .moreBytes := by
  have hf : (parseFLine mlfMsg 0 mlfInit.fl).1 = 7 ∧ (parseFLine mlfMsg 0 mlfInit.fl).2.1 = .ok := by decide +kernel
  have hf := mlf_triple_eta _ hf.1 hf.2
  have hh : (parseHeaders mlfMsg 7 mlfInit.hl (some mlfInit.pv)).1 = 14 ∧
      (parseHeaders mlfMsg 7 mlfInit.hl (some mlfInit.pv)).2.1 = .ok ∧
      (parseHeaders mlfMsg 7 mlfInit.hl (some mlfInit.pv)).2.2.2.map (fun hv => (hv.clen.parsed, hv.clen.uiVal)) =
        some (true, 5) := by decide +kernel
  rcases hp : parseHeaders mlfMsg 7 mlfInit.hl (some mlfInit.pv) with ⟨h, e, hl, hb⟩
  obtain ⟨hv, rfl⟩ := afa_parseHeaders_some mlfMsg 7 mlfInit.hl mlfInit.pv hp
  rw [hp] at hh
  simp only [Option.map_some, Option.some.injEq, Prod.mk.injEq] at hh
  obtain ⟨rfl, rfl, hc1, hc2⟩ := hh
  have key := schedule_msg_truncated_body 0 0 mlfInit mlfCuts mlfCuts_growing (by decide +kernel)
    (fun b _ => ⟨msgOK2_init b 0 (Nat.zero_le _) {} 0 0 0 none none, msgOK_init b 0 (Nat.zero_le _) {} 0 0 0 none none⟩)
    (by decide) (by decide) mlfMsg (by decide +kernel) 7 14 _ hl hv rfl hf hp hc1
    (by rw [hc2]; decide)
  obtain ⟨⟨_, k1, k2, _, _, _, k3⟩, _, k4, k5⟩ := key
  refine ⟨k1, k2, ?_, k4, k5⟩
  rw [k3]
  decide +kernel

/-- test: the same numbers by direct computation -/
example : (resumeRunEnd (mlfP 0) (mlfP 4) 0 mlfInit mlfCuts).1 = 17 ∧
    (resumeRunEnd (mlfP 0) (mlfP 4) 0 mlfInit mlfCuts).2.1 = .ok ∧
    (resumeRunEnd (mlfP 0) (mlfP 4) 0 mlfInit mlfCuts).2.2.body = ⟨14, 3⟩ ∧
    (parseSIPMsg mlfMsg 0 mlfInit 4).1 = 17 ∧ (parseSIPMsg mlfMsg 0 mlfInit 4).2.1 = .ok ∧
    (resumeRun (mlfP 0) 0 mlfInit mlfCuts).1 = 14 ∧ (resumeRun (mlfP 0) 0 mlfInit mlfCuts).2.1 = .moreBytes := by
  decide +kernel

/-- test: the hypothesis "the calls before the last do not carry the no-more-data flag" of
    `schedule_msg_last_flags_more` / `_one` / `schedule_msg_last_nmd` is NEEDED. With the flag already on the first
    call the chain stops there — with the error Trunc when the cut lies in the header block, with OK and a body of one
    byte when it lies in the body — while one call with the flag on the whole input says OK at 17.
    (The general form `schedule_msg_last_flags` covers these schedules too: it compares with fresh calls on the same
    prefixes, and the fresh call on the first prefix gives that same early verdict.) -/
example :
    (resumeRunEnd (mlfP 4) (mlfP 4) 0 mlfInit [mlfMsg.extract 0 9, mlfMsg]).2.1 = .trunc ∧
    (resumeRunEnd (mlfP 4) (mlfP 4) 0 mlfInit [mlfMsg.extract 0 15, mlfMsg]).1 = 15 ∧
    (resumeRunEnd (mlfP 4) (mlfP 4) 0 mlfInit [mlfMsg.extract 0 15, mlfMsg]).2.1 = .ok ∧
    (parseSIPMsg mlfMsg 0 mlfInit 4).1 = 17 ∧ (parseSIPMsg mlfMsg 0 mlfInit 4).2.1 = .ok := by
  decide +kernel

/-- test: the side condition `hx` of `schedule_msg_last_flags_one` / `schedule_msg_last_nmd` (no earlier prefix is
    already a complete message whose body is "the rest of the buffer") is NEEDED: without Content-Length and with
    flags 0 the chain stops at the first prefix that contains the blank line (OK at 15, body "x"), one call with the
    flag on the whole input says OK at 17; the general form gives the former (fresh call on the first prefix);
    with "Content-Length required" (flags 2 / 6) both say OK at 14. -/
example :
    (resumeRunEnd (mlfP 0) (mlfP 4) 0 mlfInit [mlfNoCL.extract 0 15, mlfNoCL]).1 = 15 ∧
    (resumeRunEnd (mlfP 0) (mlfP 4) 0 mlfInit [mlfNoCL.extract 0 15, mlfNoCL]).2.1 = .ok ∧
    (mlfOneShotEnd (mlfP 0) (mlfP 4) 0 mlfInit [mlfNoCL.extract 0 15, mlfNoCL]).1 = 15 ∧
    (parseSIPMsg mlfNoCL 0 mlfInit 4).1 = 17 ∧ (parseSIPMsg mlfNoCL 0 mlfInit 4).2.1 = .ok ∧
    bodyToEnd 0 (parseSIPMsg (mlfNoCL.extract 0 15) 0 mlfInit 0).2.2 ∧
    (resumeRunEnd (mlfP 2) (mlfP 6) 0 mlfInit [mlfNoCL.extract 0 15, mlfNoCL]).1 = 14 ∧
    (parseSIPMsg mlfNoCL 0 mlfInit 6).1 = 14 := by
  unfold bodyToEnd
  decide +kernel

end Sipsp
