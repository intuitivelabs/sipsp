/-
  Sipsp.Proofs.MsgLift — the climb shared by the message-level invariants of C05 that are established "from the start
  of a header line, after OK": one value list (`valsLoop` of ValList.lean, any one-value parser) → the value dispatch →
  one header line (ParseHdrLine on a header object without a value parser in progress is at most ONE call of the
  dispatch `parseBody`) → ParseHeaders → ParseSIPMsg → Init.  `LineStep b Inv` says that `Inv gs hl hv` is kept by one
  header line; `gs` = the header objects of ALL lines accepted so far, stored in the header array or not, and
  `afcTrace` / `afcMsgLines` give them as a FUNCTION of the input.  `HxVals Ψ`: a property `Ψ` of the values
  ParseNameAddrPVal completes from a new object holds of From, To and every stored Contact / identity value.
  NOT proved here: anything for an object suspended in the middle of a header line (the chunk-schedule forms go
  through the one-shot equivalence of OneShot.lean).
-/
import Sipsp.Proofs.OneShot
import Sipsp.Proofs.SafeHeaders
import Sipsp.Proofs.SafeMsg
import Sipsp.Proofs.MsgPhases
import Sipsp.Proofs.HlLex

namespace Sipsp

/-- a value list after some parsing: same capacity, at least as many values, the old values untouched -/
def PlKeep (vals : Array PFromBody) (n : Nat) (vals' : Array PFromBody) (n' : Nat) : Prop :=
  vals'.size = vals.size ∧ n ≤ n' ∧ ∀ j, j < n → vals'[j]! = vals[j]!

theorem PlKeep.refl (vals : Array PFromBody) (n : Nat) : PlKeep vals n vals n := ⟨rfl, Nat.le_refl _, fun _ _ => rfl⟩

theorem PlKeep.trans {v1 v2 v3 : Array PFromBody} {n1 n2 n3 : Nat} (h1 : PlKeep v1 n1 v2 n2) (h2 : PlKeep v2 n2 v3 n3) :
    PlKeep v1 n1 v3 n3 :=
  ⟨h2.1.trans h1.1, Nat.le_trans h1.2.1 h2.2.1, fun j hj => (h2.2.2 j (by have := h1.2.1; omega)).trans (h1.2.2 j hj)⟩

theorem valsLoop_keep (one : Buf → Nat → PFromBody → Nat × Err × PFromBody) (b : Buf) (offs : Nat) (c : PContacts) :
    PlKeep c.vals c.n (valsLoop one b offs c).2.2.vals (valsLoop one b offs c).2.2.n ∧
    (valsLoop one b offs c).2.2.hNo = c.hNo ∧ ((valsLoop one b offs c).2.1 = .ok → c.n < (valsLoop one b offs c).2.2.n) := by
  refine valsLoop_inv one b (fun _ d => PlKeep c.vals c.n d.vals d.n ∧ d.hNo = c.hNo)
    (fun r => PlKeep c.vals c.n r.2.2.vals r.2.2.n ∧ r.2.2.hNo = c.hNo ∧ (r.2.1 = .ok → c.n < r.2.2.n))
    (fun o d ⟨hK, hH⟩ => ?_) offs c ⟨PlKeep.refl _ _, rfl⟩
  unfold valsStep
  rcases one b o d.cur with ⟨next, e1, pf⟩
  have hset : PlKeep c.vals c.n (d.setCur pf).vals (d.setCur pf).n ∧ (d.setCur pf).hNo = c.hNo :=
    ⟨hK.trans ⟨setCur_size d pf, by rw [setCur_n]; exact Nat.le_refl _, fun j hj => setCur_vals_ne d pf j (by omega)⟩,
      (setCur_scalars d pf).1.trans hH⟩
  have hacc : PlKeep c.vals c.n ((d.setCur pf).account pf).vals ((d.setCur pf).account pf).n ∧
      ((d.setCur pf).account pf).hNo = c.hNo ∧ c.n < ((d.setCur pf).account pf).n :=
    ⟨hK.trans ⟨by rw [account_vals]; exact setCur_size d pf, by rw [account_n, setCur_n]; omega,
        fun j hj => by rw [account_vals]; exact setCur_vals_ne d pf j (by omega)⟩,
      by rw [account_hNo, hset.2], by rw [account_n, setCur_n]; have := hK.2.1; omega⟩
  have hnx : PlKeep c.vals c.n (d.next pf).vals (d.next pf).n ∧ (d.next pf).hNo = c.hNo := by
    unfold PContacts.next; split
    · exact ⟨hacc.1, hacc.2.1⟩
    · exact ⟨hacc.1, hacc.2.1⟩
  cases e1 <;> simp only
  case ok => exact ⟨hacc.1, hacc.2.1, fun _ => hacc.2.2⟩
  case moreValues =>
    by_cases hg : o < next ∧ next ≤ b.size
    · rw [if_pos hg]; exact hnx
    · rw [if_neg hg]; exact ⟨hnx.1, hnx.2, nofun⟩
  case moreBytes => exact ⟨hset.1, hset.2, nofun⟩
  all_goals
    split
    · exact ⟨hset.1, hset.2, nofun⟩
    · exact ⟨hK, hH, nofun⟩

/-- the argument is the object as the dispatch hands it over for a NEW header line: header count advanced to `k`,
    running header value cleared -/
theorem pl_contact_line_keep (b : Buf) (o : Nat) (c : PContacts) (k : Nat) :
    PlKeep c.vals c.n (parseAllContactValues b o { c with hNo := k, lastHVal := {} }).2.2.vals
      (parseAllContactValues b o { c with hNo := k, lastHVal := {} }).2.2.n ∧
    (parseAllContactValues b o { c with hNo := k, lastHVal := {} }).2.2.hNo = k ∧
    ((parseAllContactValues b o { c with hNo := k, lastHVal := {} }).2.1 = .ok →
      c.n < (parseAllContactValues b o { c with hNo := k, lastHVal := {} }).2.2.n) := by
  rw [parseAllContactValues_eq_wrap, bump_wrap, contactsLoop_eq_valsLoop]
  have := valsLoop_keep parseOneContact b o { c.wrap with hNo := k, lastHVal := {} }
  have e1 : ({ c.wrap with hNo := k, lastHVal := {} } : PContacts).vals = c.vals := (wrap_scalars c).2.1
  have e2 : ({ c.wrap with hNo := k, lastHVal := {} } : PContacts).n = c.n := (wrap_scalars c).1
  rw [e1, e2] at this
  exact this

theorem pl_pai_line_keep (b : Buf) (o : Nat) (c : PPAIs) (k : Nat) :
    PlKeep c.vals c.n (parseAllPAIValues b o { c with hNo := k, lastHVal := {} }).2.2.vals
      (parseAllPAIValues b o { c with hNo := k, lastHVal := {} }).2.2.n ∧
    (parseAllPAIValues b o { c with hNo := k, lastHVal := {} }).2.2.hNo = k ∧
    ((parseAllPAIValues b o { c with hNo := k, lastHVal := {} }).2.1 = .ok →
      c.n < (parseAllPAIValues b o { c with hNo := k, lastHVal := {} }).2.2.n) := by
  rw [parseAllPAIValues_eq_wrap, paBump_wrap, paisLoop_eq_valsLoop]
  have := valsLoop_keep parseOnePAI b o ({ c.wrap with hNo := k, lastHVal := {} } : PPAIs).toCt
  have e1 : ({ c.wrap with hNo := k, lastHVal := {} } : PPAIs).toCt.vals = c.vals := (paWrap_scalars c).2.1
  have e2 : ({ c.wrap with hNo := k, lastHVal := {} } : PPAIs).toCt.n = c.n := (paWrap_scalars c).1
  rw [e1, e2] at this
  exact this

/-- the values of a Contact list stored from index `n0` on satisfy `Φ` -/
def HxAllCt (Φ : PFromBody → Prop) (c : PContacts) (n0 : Nat) : Prop :=
  ∀ i, n0 ≤ i → i < c.n → i < c.vals.size → Φ c.vals[i]!

def HxAllPa (Φ : PFromBody → Prop) (c : PPAIs) (n0 : Nat) : Prop :=
  ∀ i, n0 ≤ i → i < c.n → i < c.vals.size → Φ c.vals[i]!

/-- `Ψ e pf` holds of every value `pf` that ParseNameAddrPVal, started on a new object, completes in buffer `b` with
    verdict `e` (OK or "more values") -/
def HxValProp2 (b : Buf) (Ψ : Err → PFromBody → Prop) : Prop :=
  ∀ h o next e pf, parseNameAddrPVal h b o {} = (next, e, pf) → Err.complete e → Ψ e pf

theorem valsLoop_all {Φ : PFromBody → Prop} {one : Buf → Nat → PFromBody → Nat × Err × PFromBody} (hone : NaOne one)
    (b : Buf) (offs : Nat) (c : PContacts) (hΦ : HxValProp2 b fun _ => Φ) (hcl : CtClean c) (hcur : c.cur = {}) (n0 : Nat)
    (h : HxAllCt Φ c n0) : (valsLoop one b offs c).2.1 = .ok → HxAllCt Φ (valsLoop one b offs c).2.2 n0 := by
  refine valsLoop_inv one b (fun _ d => CtClean d ∧ d.cur = {} ∧ HxAllCt Φ d n0) (fun r => r.2.1 = .ok → HxAllCt Φ r.2.2 n0)
    (fun o d ⟨hcl, hcur, h⟩ => ?_) offs c ⟨hcl, hcur, h⟩
  unfold valsStep
  rcases hp : one b o d.cur with ⟨next, e1, pf⟩
  obtain ⟨ht, e0, hp0, hok0, hmv0, -⟩ := hone hp
  rw [hcur] at hp0
  have hacc : Err.complete e0 → HxAllCt Φ ((d.setCur pf).account pf) n0 := by
    intro hc i hn hi hs
    rw [account_n, setCur_n] at hi
    rw [account_vals, setCur_size] at hs
    rw [account_vals]
    by_cases hin : i = d.n
    · subst hin
      rw [setCur_get_n d pf hs]
      exact hΦ ht o next e0 pf hp0 hc
    · rw [setCur_vals_ne d pf i (by omega)]
      exact h i hn (by omega) hs
  cases e1 <;> simp only
  case ok => exact fun _ => hacc (Or.inl (hok0 rfl))
  case moreValues =>
    by_cases hg : o < next ∧ next ≤ b.size
    · rw [if_pos hg]
      have hcl' := next_clean d pf hcl
      refine ⟨hcl'.1, hcl'.2, ?_⟩
      have := hacc (Or.inr (hmv0 rfl))
      unfold PContacts.next; split
      · exact this
      · exact this
    · rw [if_neg hg]; exact fun hh => by cases hh
  all_goals exact fun hh => by cases hh

theorem hx_contact_line_all {Φ : PFromBody → Prop} (b : Buf) (o : Nat) (c : PContacts) (k : Nat) (hΦ : HxValProp2 b fun _ => Φ)
    (hcl : CtClean c.wrap) (hcur : c.wrap.cur = {}) {o' : Nat} {c' : PContacts}
    (hr : parseAllContactValues b o { c with hNo := k, lastHVal := {} } = (o', .ok, c')) :
    ∀ i, c.n ≤ i → i < c'.n → i < c'.vals.size → Φ c'.vals[i]! := by
  rw [parseAllContactValues_eq_wrap, bump_wrap, contactsLoop_eq_valsLoop] at hr
  have h0 : HxAllCt Φ ({ c.wrap with hNo := k, lastHVal := {} } : PContacts) c.n :=
    fun i hn hi _ => by
      have hi' : i < c.wrap.n := hi
      rw [(wrap_scalars c).1] at hi'; omega
  have := valsLoop_all naOne_contact b o { c.wrap with hNo := k, lastHVal := {} } hΦ hcl hcur c.n h0
  rw [hr] at this
  exact this rfl

theorem hx_pai_line_all {Φ : PFromBody → Prop} (b : Buf) (o : Nat) (c : PPAIs) (k : Nat) (hΦ : HxValProp2 b fun _ => Φ)
    (hcl : PaClean c.wrap) (hcur : c.wrap.cur = {}) {o' : Nat} {c' : PPAIs}
    (hr : parseAllPAIValues b o { c with hNo := k, lastHVal := {} } = (o', .ok, c')) :
    ∀ i, c.n ≤ i → i < c'.n → i < c'.vals.size → Φ c'.vals[i]! := by
  rw [parseAllPAIValues_eq_wrap, paBump_wrap] at hr
  have h0 : HxAllPa Φ ({ c.wrap with hNo := k, lastHVal := {} } : PPAIs) c.n :=
    fun i hn hi _ => by
      have hi' : i < c.wrap.n := hi
      rw [(paWrap_scalars c).1] at hi'; omega
  have : (paisLoop b o { c.wrap with hNo := k, lastHVal := {} }).2.1 = .ok →
      HxAllPa Φ (paisLoop b o { c.wrap with hNo := k, lastHVal := {} }).2.2 c.n := by
    rw [paisLoop_eq_valsLoop]
    exact valsLoop_all naOne_pai b o ({ c.wrap with hNo := k, lastHVal := {} } : PPAIs).toCt hΦ hcl hcur c.n h0
  rw [hr] at this
  exact this rfl

theorem sv_na_ok (h : Nat) (b : Buf) (o : Nat) (pf : PFromBody) {o' : Nat} {pf' : PFromBody}
    (hr : parseNameAddrPVal h b o pf = (o', .ok, pf')) : pf'.parsed = true := by
  have := (parseNameAddrPVal_post h b o pf hr (Or.inl rfl)).1
  unfold PFromBody.parsed; rw [this]; rfl

theorem pl_valKind_inv {h : Hdr} {hv : PHdrVals} {S : HState} (hk : valKind h hv = some S) :
    (S = .hContact → h.type = HdrContact) ∧ (S = .hPAI → h.type = HdrPAI) ∧
    (S = .hCSeq → h.type = HdrCSeq ∧ hv.cseq.parsed = false) ∧
    (S = .hFrom → hv.from_.parsed = false) ∧ (S = .hTo → hv.to.parsed = false) := by
  rcases valKind_eq_some_iff.1 hk with ⟨rfl, q⟩ | ⟨rfl, q⟩ | ⟨rfl, q⟩ | ⟨rfl, q⟩ | ⟨rfl, q⟩ | ⟨rfl, q⟩ | ⟨rfl, q⟩ | ⟨rfl, q⟩ <;>
    simp [q]

theorem hx_parseBody_frame (b : Buf) (o : Nat) (h : Hdr) (hv : PHdrVals)
    {n : Nat} {e : Err} {h2 : Hdr} {hv2 : PHdrVals} (hr : parseBody b o h (some hv) = (n, e, h2, some hv2)) :
    h2.type = h.type ∧ (h.type ≠ HdrContact → hv2.contacts = hv.contacts) ∧ (h.type ≠ HdrPAI → hv2.pais = hv.pais) ∧
    (hv2.cseq = hv.cseq ∨
      (h.type = HdrCSeq ∧ hv.cseq.parsed = false ∧ parseCSeqVal b o hv.cseq = (n, e, hv2.cseq))) ∧
    (hv2.from_ = hv.from_ ∨ (hv.from_.parsed = false ∧ parseNameAddrPVal HdrFrom b o hv.from_ = (n, e, hv2.from_))) ∧
    (hv2.to = hv.to ∨ (hv.to.parsed = false ∧ parseNameAddrPVal HdrTo b o hv.to = (n, e, hv2.to))) := by
  rw [parseBody_eq] at hr
  cases hk : valKind h hv with
  | none => rw [hk] at hr; cases hr; exact ⟨rfl, fun _ => rfl, fun _ => rfl, .inl rfl, .inl rfl, .inl rfl⟩
  | some S =>
    rw [hk] at hr
    obtain ⟨i1, i2, i3, i4, i5⟩ := pl_valKind_inv hk
    obtain ⟨f1, f2, f3, f4, f5⟩ := pl_valCall_frame S h.state b o hv
    cases hr
    refine ⟨rfl, fun ht => f1 fun hs => ht (i1 hs), fun ht => f2 fun hs => ht (i2 hs), ?_, ?_, ?_⟩
    · by_cases hs : S = .hCSeq
      · subst hs; exact .inr ⟨(i3 rfl).1, (i3 rfl).2, rfl⟩
      · exact .inl (f3 hs)
    · by_cases hs : S = .hFrom
      · subst hs; exact .inr ⟨i4 rfl, rfl⟩
      · exact .inl (f4 hs)
    · by_cases hs : S = .hTo
      · subst hs; exact .inr ⟨i5 rfl, rfl⟩
      · exact .inl (f5 hs)

/-- the dispatch on a Contact header (any state of the header): the call `valCall .hContact` -/
theorem parseBody_contact (b : Buf) (i : Nat) (h : Hdr) (hv : PHdrVals) (ht : h.type = HdrContact) :
    parseBody b i h (some hv) = bodyDisp b i h hv (some .hContact) := by
  rw [parseBody_eq, valKind_eq_some_iff.2 (.inr (.inr (.inr (.inr (.inr (.inl ⟨rfl, ht⟩))))))]

/-- … on a P-Asserted-Identity header -/
theorem parseBody_pai (b : Buf) (i : Nat) (h : Hdr) (hv : PHdrVals) (ht : h.type = HdrPAI) :
    parseBody b i h (some hv) = bodyDisp b i h hv (some .hPAI) := by
  rw [parseBody_eq, valKind_eq_some_iff.2 (.inr (.inr (.inr (.inr (.inr (.inr (.inr ⟨rfl, ht⟩)))))))]

/-- a result of the dispatch on a NEW Contact line (`ctArg`: header count advanced, running header value cleared), read
    off: the ParseAllContactValues call it is -/
theorem parseBody_contact_new {b : Buf} {i : Nat} {h : Hdr} {hv : PHdrVals} (ht : h.type = HdrContact)
    (hs : h.state ≠ .hContact) {n : Nat} {e : Err} {h2 : Hdr} {hb2 : Option PHdrVals}
    (hr : parseBody b i h (some hv) = (n, e, h2, hb2)) :
    ∃ c1, parseAllContactValues b i { hv.contacts with hNo := hv.contacts.hNo + 1, lastHVal := {} } = (n, e, c1) ∧
      h2 = { h with state := .hContact, val := if e == .ok then c1.lastHVal else h.val } ∧
      hb2 = some { hv with contacts := c1 } := by
  have ha : ctArg h.state hv.contacts = { hv.contacts with hNo := hv.contacts.hNo + 1, lastHVal := {} } :=
    if_pos (by simpa using hs)
  rw [parseBody_contact b i h hv ht] at hr
  simp only [bodyDisp, valCall, ha] at hr
  cases hr
  exact ⟨_, rfl, rfl, rfl⟩

theorem parseBody_pai_new {b : Buf} {i : Nat} {h : Hdr} {hv : PHdrVals} (ht : h.type = HdrPAI)
    (hs : h.state ≠ .hPAI) {n : Nat} {e : Err} {h2 : Hdr} {hb2 : Option PHdrVals}
    (hr : parseBody b i h (some hv) = (n, e, h2, hb2)) :
    ∃ c1, parseAllPAIValues b i { hv.pais with hNo := hv.pais.hNo + 1, lastHVal := {} } = (n, e, c1) ∧
      h2 = { h with state := .hPAI, val := if e == .ok then c1.lastHVal else h.val } ∧
      hb2 = some { hv with pais := c1 } := by
  have ha : paArg h.state hv.pais = { hv.pais with hNo := hv.pais.hNo + 1, lastHVal := {} } :=
    if_pos (by simpa using hs)
  rw [parseBody_pai b i h hv ht] at hr
  simp only [bodyDisp, valCall, ha] at hr
  cases hr
  exact ⟨_, rfl, rfl, rfl⟩

/-! ### ParseHdrLine factors through ONE call of the value dispatch -/

/-- the states of a value that is scanned generically (no typed parser); `HState.isGen` of HlLex.lean -/
def svG3 (s : HState) : Prop := s = .bodyStart ∨ s = .val ∨ s = .valEnd

/-- states of a header object before the colon -/
def HxPre (s : HState) : Prop := s = .init ∨ s = .name ∨ s = .nameEnd

/-- loop invariant: the values object is still the one the line started with; after the colon the value is being
    scanned generically, and `G` holds of the type of the header (`G` = what is known of a type for which the
    dispatch did nothing) -/
def HxS (G : Nat → Prop) (hv : PHdrVals) : Nat → HLσ → Prop := fun _ st =>
  st.2 = some hv ∧ (HxPre st.1.state ∨ (svG3 st.1.state ∧ G st.1.type))

/-- what a finished line is: the values object was left alone (and after OK the value was scanned generically), or the
    result is that of ONE call of the dispatch `parseBody` at a position inside the buffer on a header in the "body
    start" state with the values object the line started with -/
def HxT (G : Nat → Prop) (b : Buf) (hv : PHdrVals) : Nat → Err → HLσ → Prop := fun o' e st =>
  ∃ hv', st.2 = some hv' ∧
    ((hv' = hv ∧ (e = .ok → G st.1.type)) ∨
     (∃ i h1 h2, i ≤ b.size ∧ h1.state = .bodyStart ∧ parseBody b i h1 (some hv) = (o', e, h2, some hv') ∧
        h2.state ≠ .bodyStart ∧ e ≠ .empty ∧ st.1 = (if e == .ok then { h2 with state := .fin } else h2)))

/-- `G` = what is known of a type for which the dispatch selects no parser -/
theorem hx_parseHdrLine_splitG {G : Nat → Prop} (b : Buf) (o : Nat) (h : Hdr) (hv : PHdrVals)
    (hG : ∀ h1, h1.state = .bodyStart → valKind h1 hv = none → G h1.type)
    (hst : HxPre h.state ∨ (svG3 h.state ∧ G h.type))
    {o' : Nat} {e : Err} {h' : Hdr} {hb' : Option PHdrVals} (hr : parseHdrLine b o h (some hv) = (o', e, h', hb')) :
    HxT G b hv o' e (h', hb') := by
  have hgen : ∀ g : Hdr, HxPre g.state ∨ (svG3 g.state ∧ G g.type) → svG3 g.state → G g.type := by
    intro g hg h3
    rcases hg with hh | hh
    · exfalso
      rcases h3 with h3 | h3 | h3 <;> rw [h3] at hh <;> rcases hh with hh | hh | hh <;> cases hh
    · exact hh.2
  refine parseHdrLine_ind b (HxS G hv) (HxT G b hv) (hexit := ?hexit) (hgo := ?hgo) (hnoname := ?hnoname)
    (huntyped := ?huntyped) (hnil := ?hnil) (hcall := ?hcall) (heob := ?heob)
    (show HxS G hv o (h, some hv) from ⟨rfl, hst⟩) hr
  case hexit =>
    rintro i c g _ o1 e1 g' hc ⟨rfl, hg⟩ ha
    have hL := (hlLex_spec b i c g hc).gen
    rw [ha] at hL
    exact ⟨hv, rfl, Or.inl ⟨rfl, fun he => by show G g'.type; rw [hL.1]; exact hgen g hg (hL.2.1 he)⟩⟩
  case hgo =>
    rintro i c g _ i' g' hc ⟨rfl, hg⟩ ha
    have hL := (hlLex_spec b i c g hc).gen
    rw [ha] at hL
    refine ⟨rfl, ?_⟩
    rcases hL.2 with hs | ⟨hs, h3⟩
    · exact Or.inl (Or.inr (Or.inr hs))
    · exact Or.inr ⟨Or.inr (Or.inl hs), by show G g'.type; rw [hL.1]; exact hgen g hg h3⟩
  case hnoname =>
    rintro i c g _ j g' _ ⟨rfl, _⟩ _ _
    exact ⟨hv, rfl, Or.inl ⟨rfl, fun he => by cases he⟩⟩
  case huntyped =>
    rintro i c g _ j g' nm hc ⟨rfl, _⟩ ha _ hk
    have sp := hlLex_spec b i c g hc
    rw [ha] at sp
    have hs := (sp.colon_range (Nat.le_of_lt (get?_lt hc))).2.2
    exact ⟨rfl, Or.inr ⟨Or.inl hs, hG _ hs (hk hv rfl)⟩⟩
  case hnil =>
    rintro i c g _ ⟨hh, _⟩
    cases hh
  case hcall =>
    -- the one call of a typed value parser, in the form of the dispatch `parseBody`
    rintro i c g _ j h1 K hc ⟨hh, hg⟩ hcall
    cases hh
    have sp := hlLex_spec b i c g hc
    rcases hcall with ⟨ha, -⟩ | ⟨g', nm, ha, _, rfl, hk⟩ <;> rw [ha] at sp
    · exfalso
      have sp' : g.state.isVal := sp
      rcases hg with hp | ⟨hp, _⟩
      · rcases hp with hp | hp | hp <;> rw [hp] at sp' <;> simp [HState.isVal] at sp'
      · rcases hp with hp | hp | hp <;> rw [hp] at sp' <;> simp [HState.isVal] at sp'
    · obtain ⟨_, hj, hs⟩ := sp.colon_range (Nat.le_of_lt (get?_lt hc))
      have hpb := parseBody_eq b j { g' with type := getHdrType nm } hv
      rw [hk] at hpb
      have hne := parseBody_ne_empty b j { g' with type := getHdrType nm } (some hv)
      rw [hpb] at hne
      refine ⟨_, rfl, Or.inr ⟨j, { g' with type := getHdrType nm }, _, hj, hs, hpb, ?_, hne, ?_⟩⟩
      · exact (valKind_isVal hk).ne_bodyStart
      · show (hlWrap _ _ _).1 = _
        unfold hlWrap
        dsimp only
        split <;> rfl
  case heob =>
    rintro i ⟨g, gb⟩ ⟨hh, _⟩
    exact ⟨hv, hh, Or.inl ⟨rfl, fun he => by cases he⟩⟩

/-- "the value of a header of type `t` is scanned generically": the dispatch, asked at some position with a header of
    that type, left the header in the "body start" state (nothing to do for this type / this values object) -/
def HxGen (b : Buf) (hv : PHdrVals) (t : Nat) : Prop :=
  ∃ i h1, h1.state = .bodyStart ∧ h1.type = t ∧ (parseBody b i h1 (some hv)).2.2.1.state = .bodyStart

theorem hx_parseHdrLine_split (b : Buf) (o : Nat) (h : Hdr) (hv : PHdrVals) (hst : HxPre h.state)
    {o' : Nat} {e : Err} {h' : Hdr} {hb' : Option PHdrVals} (hr : parseHdrLine b o h (some hv) = (o', e, h', hb')) :
    HxT (HxGen b hv) b hv o' e (h', hb') :=
  hx_parseHdrLine_splitG b o h hv (fun h1 hs hk => ⟨0, h1, hs, rfl, by rw [parseBody_eq, hk]; exact hs⟩) (.inl hst) hr

/-- a single-valued name-addr object (From, To) between two header lines: new, or parsed with `Φ` -/
def HxNaK (Φ : PFromBody → Prop) (pf : PFromBody) : Prop := pf = {} ∨ (pf.parsed = true ∧ Φ pf)

/-- `Ψ` with one of the two verdicts -/
def HxAny (Ψ : Err → PFromBody → Prop) (pf : PFromBody) : Prop := Ψ .ok pf ∨ Ψ .moreValues pf

theorem HxValProp2.any {b : Buf} {Ψ : Err → PFromBody → Prop} (h : HxValProp2 b Ψ) : HxValProp2 b fun _ => HxAny Ψ := by
  intro k o next e pf hp hc
  have := h k o next e pf hp hc
  rcases hc with rfl | rfl
  · exact Or.inl this
  · exact Or.inr this

/-- the values object between two header lines: `Ψ .ok` for From and To (if parsed), `Ψ` with one of the two verdicts
    for every stored Contact / identity value -/
structure HxVals (Ψ : Err → PFromBody → Prop) (hv : PHdrVals) : Prop where
  from_ : HxNaK (Ψ .ok) hv.from_
  to : HxNaK (Ψ .ok) hv.to
  ct : HxAllCt (HxAny Ψ) hv.contacts 0
  pa : HxAllPa (HxAny Ψ) hv.pais 0

theorem hx_naK_step {Ψ : Err → PFromBody → Prop} {b : Buf} (hΨ : HxValProp2 b Ψ) (h o n : Nat) (pf pf2 : PFromBody)
    (K : HxNaK (Ψ .ok) pf) (hc : pf2 = pf ∨ (pf.parsed = false ∧ parseNameAddrPVal h b o pf = (n, .ok, pf2))) : HxNaK (Ψ .ok) pf2 := by
  rcases hc with rfl | ⟨hnp, hq⟩
  · exact K
  · rcases K with rfl | ⟨hp, _⟩
    · exact Or.inr ⟨sv_na_ok h b o {} hq, hΨ h o n .ok pf2 hq (Or.inl rfl)⟩
    · rw [hp] at hnp; cases hnp

theorem hx_parseBody_vals {Ψ : Err → PFromBody → Prop} (b : Buf) (o : Nat) (h : Hdr) (hv : PHdrVals) (hΨ : HxValProp2 b Ψ)
    (hst : h.state = .bodyStart) (hct : CtIdle b hv.contacts) (hpa : PaIdle b hv.pais)
    {n : Nat} {h2 : Hdr} {hv2 : PHdrVals} (hr : parseBody b o h (some hv) = (n, .ok, h2, some hv2))
    (G : HxVals Ψ hv) : HxVals Ψ hv2 := by
  obtain ⟨_, f1, f2, _, f4, f5⟩ := hx_parseBody_frame b o h hv hr
  refine ⟨hx_naK_step hΨ HdrFrom o n _ _ G.from_ f4, hx_naK_step hΨ HdrTo o n _ _ G.to f5, ?_, ?_⟩
  · by_cases htc : h.type = HdrContact
    · obtain ⟨c1, hq, -, e2⟩ := parseBody_contact_new htc (by rw [hst]; decide) hr
      cases e2
      have hk := (pl_contact_line_keep b o hv.contacts (hv.contacts.hNo + 1)).1
      rw [hq] at hk
      have hnew := hx_contact_line_all b o hv.contacts _ hΨ.any hct.clean hct.cur hq
      intro i _ hi hs
      by_cases hin : i < hv.contacts.n
      · show HxAny Ψ c1.vals[i]!
        rw [hk.2.2 i hin]
        exact G.ct i (Nat.zero_le _) hin (by rw [← hk.1]; exact hs)
      · exact hnew i (by omega) hi hs
    · rw [f1 htc]; exact G.ct
  · by_cases htp : h.type = HdrPAI
    · obtain ⟨c1, hq, -, e2⟩ := parseBody_pai_new htp (by rw [hst]; decide) hr
      cases e2
      have hk := (pl_pai_line_keep b o hv.pais (hv.pais.hNo + 1)).1
      rw [hq] at hk
      have hnew := hx_pai_line_all b o hv.pais _ hΨ.any hpa.clean hpa.cur hq
      intro i _ hi hs
      by_cases hin : i < hv.pais.n
      · show HxAny Ψ c1.vals[i]!
        rw [hk.2.2 i hin]
        exact G.pa i (Nat.zero_le _) hin (by rw [← hk.1]; exact hs)
      · exact hnew i (by omega) hi hs
    · rw [f2 htp]; exact G.pa

theorem hx_line_vals {Ψ : Err → PFromBody → Prop} (b : Buf) (o : Nat) (h : Hdr) (hv : PHdrVals) (hΨ : HxValProp2 b Ψ)
    (hst : HxPre h.state) (hct : CtIdle b hv.contacts) (hpa : PaIdle b hv.pais)
    {o' : Nat} {e : Err} {h' : Hdr} {hb' : Option PHdrVals} (hr : parseHdrLine b o h (some hv) = (o', e, h', hb'))
    (he : e = .ok ∨ e = .empty) : ∃ hv', hb' = some hv' ∧ (HxVals Ψ hv → HxVals Ψ hv') := by
  obtain ⟨hv', hb, hcase⟩ := hx_parseHdrLine_split b o h hv hst hr
  simp only at hb hcase
  subst hb
  refine ⟨hv', rfl, fun K => ?_⟩
  rcases hcase with ⟨rfl, _⟩ | ⟨i, h1, h2, _, hs1, hp, _, hne, _⟩
  · exact K
  · rcases he with rfl | rfl
    · exact hx_parseBody_vals b i h1 hv hΨ hs1 hct hpa hp K
    · exact absurd rfl hne

/-! ### from one header line to the header block and the message -/

/-- `Inv gs hl hv` (gs = ALL header objects accepted so far, stored or not) is kept by one header line parsed from a new
    header object on a legitimate list: an accepted line is appended, the closing empty line is not -/
def LineStep (b : Buf) (Inv : List Hdr → HdrLst → PHdrVals → Prop) : Prop :=
  ∀ gs offs hl hv n e g hv1, hl.cur = {} → HlsSafe b offs hl (some hv) →
    parseHdrLine b offs hl.cur (some hv) = (n, e, g, some hv1) → Inv gs hl hv →
    (e = .ok → Inv (gs ++ [g]) ((hl.setCur g).accept g) hv1) ∧ (e = .empty → Inv gs (hl.setCur g) hv1)

/-- **the accepted header lines of one ParseHeaders call, as a function of the input**: the header objects ParseHdrLine
    returns for the successive accepted lines (same recursion as `parseHeaders`; `fuel` bounds the number of lines,
    `b.size - offs + 1` is always enough) -/
def afcTrace (b : Buf) : Nat → Nat → HdrLst → Option PHdrVals → List Hdr
  | 0, _, _, _ => []
  | fuel + 1, offs, hl, hb =>
    if offs < b.size ∧ (parseHdrLine b offs hl.cur hb).2.1 = .ok ∧ offs < (parseHdrLine b offs hl.cur hb).1 then
      (parseHdrLine b offs hl.cur hb).2.2.1 ::
        afcTrace b fuel (parseHdrLine b offs hl.cur hb).1
          ((hl.setCur (parseHdrLine b offs hl.cur hb).2.2.1).accept (parseHdrLine b offs hl.cur hb).2.2.1)
          (parseHdrLine b offs hl.cur hb).2.2.2
    else []

/-- `hcur`: the call starts at the start of a header line; `gs0` = the lines accepted before the call -/
theorem lift_parseHeaders {Inv : List Hdr → HdrLst → PHdrVals → Prop} {b : Buf} (hfit : b.size ≤ 65535)
    (hstep : LineStep b Inv) (offs : Nat) (hl : HdrLst) (hb : Option PHdrVals) (L : HlsLegit b offs hl hb)
    (hcur : hl.cur = {}) (hsome : hb ≠ none) (gs0 : List Hdr) (fuel : Nat)
    (hfuel : b.size - offs < fuel) (G : ∀ hv, hb = some hv → Inv gs0 hl hv) :
    (parseHeaders b offs hl hb).2.1 = .ok →
      ∀ hv, (parseHeaders b offs hl hb).2.2.2 = some hv →
        Inv (gs0 ++ afcTrace b fuel offs hl hb) (parseHeaders b offs hl hb).2.2.1 hv := by
  cases hb with
  | none => exact absurd rfl hsome
  | some hv0 =>
  -- `J`: a legitimate list at the start of a line; the lines accepted so far (`gs`), followed by those the rest of the
  -- call accepts, are the lines of the whole call
  refine parseHeaders_ind b
    (J := fun o1 hl1 hb1 => HlsLegit b o1 hl1 hb1 ∧ hl1.cur = {} ∧ ∃ hv1 gs f, hb1 = some hv1 ∧ b.size - o1 < f ∧
      gs ++ afcTrace b f o1 hl1 hb1 = gs0 ++ afcTrace b fuel offs hl (some hv0) ∧ Inv gs hl1 hv1)
    (R := fun r => r.2.1 = .ok → ∀ hv, r.2.2.2 = some hv → Inv (gs0 ++ afcTrace b fuel offs hl (some hv0)) r.2.2.1 hv)
    (line := ?_) (bug := fun _ _ _ _ _ _ _ _ _ hh => by cases hh) (endOk := ?_)
    (endEmpty := fun _ _ _ _ _ _ _ _ _ _ hh => by cases hh) (stop := fun _ _ _ _ _ _ _ _ _ _ hne _ hh => absurd hh hne)
    (eob := fun _ _ _ _ _ hh => by cases hh) offs hl (some hv0) ⟨L, hcur, hv0, gs0, fuel, rfl, hfuel, rfl, G hv0 rfl⟩
  · rintro o1 hl1 _ n g hb' ⟨L, hcur, hv1, gs, f, rfl, hf, htr, hI⟩ hlt hp hg
    obtain ⟨hv', rfl⟩ : ∃ hv', hb' = some hv' := by
      have := parseHdrLine_isSome b o1 hl1.cur hv1
      rw [hp] at this
      exact Option.isSome_iff_exists.1 this
    obtain ⟨f', rfl⟩ : ∃ f', f = f' + 1 := ⟨f - 1, by omega⟩
    refine ⟨((L.line hfit hp).2.2.1 rfl).2, flo_next_cur hl1 g L.safe.clean, hv', gs ++ [g], f', rfl, by omega, ?_,
      (hstep gs o1 hl1 hv1 n .ok g hv' hcur L.safe hp hI).1 rfl⟩
    rw [← htr, afcTrace, hp, if_pos ⟨hlt, rfl, hg⟩]; simp
  · rintro o1 hl1 _ n g hb' ⟨L, hcur, hv1, gs, f, rfl, hf, htr, hI⟩ hlt hp _ _ hv' hh
    cases hh
    obtain ⟨f', rfl⟩ : ∃ f', f = f' + 1 := ⟨f - 1, by omega⟩
    have he : afcTrace b (f' + 1) o1 hl1 (some hv1) = [] := by
      rw [afcTrace, hp]; exact if_neg (fun hh => by cases hh.2.1)
    rw [← htr, he, List.append_nil]
    exact (hstep gs o1 hl1 hv1 n .empty g hv' hcur L.safe hp hI).2 rfl

/-- **all accepted header lines of a message, as a function of the input**: the lines of the ParseHeaders call that
    ParseSIPMsg makes at the end of the first line -/
def afcMsgLines (b : Buf) (o : Nat) (m : PSIPMsg) : List Hdr :=
  afcTrace b (b.size + 1) (parseFLine b o m.fl).1 m.hl (some m.pv)

theorem lift_parseSIPMsg {Inv : List Hdr → HdrLst → PHdrVals → Prop} {b : Buf} (hfit : b.size ≤ 65535)
    (hstep : LineStep b Inv) (o : Nat) (m : PSIPMsg) (flags : Nat)
    (hok : msgOK2 b o m) (H : MsgSafe b o m) (hst : m.state = .init) (hcur : m.hl.cur = {})
    (G : Inv [] m.hl m.pv) {o' : Nat} {m' : PSIPMsg} (hr : parseSIPMsg b o m flags = (o', .ok, m')) :
    Inv (afcMsgLines b o m) m'.hl m'.pv := by
  obtain ⟨o1, fl1, o2, hl2, pv2, hp, hp2, _, k2, k3, _⟩ := parseSIPMsg_ok_init b o m flags hst hr
  have hNn := lift_parseHeaders hfit hstep o1 m.hl (some m.pv) (H.afterFLine hfit hok hst hp).2.2 hcur (by intro hh; cases hh)
    [] (b.size + 1) (by omega) (fun hv hh => by cases hh; exact G)
  rw [hp2] at hNn
  have := hNn rfl pv2 rfl
  unfold afcMsgLines
  rw [hp, k2, k3]
  rw [List.nil_append] at this
  exact this

theorem lift_init {Inv : List Hdr → HdrLst → PHdrVals → Prop} {b : Buf} (hfit : b.size ≤ 65535)
    (hstep : LineStep b Inv) (o : Nat) (m0 : PSIPMsg) (len kh kc : Nat) (hdrs cts : Option Unit) (flags : Nat)
    (ho : o ≤ b.size)
    (G : ∀ k k', Inv [] (initObj len k k').hl (initObj len k k').pv) {o' : Nat} {m' : PSIPMsg}
    (hr : parseSIPMsg b o (m0.init len (hdrs.map fun _ => Array.replicate kh {}) (cts.map fun _ => Array.replicate kc {}))
      flags = (o', .ok, m')) :
    Inv (afcMsgLines b o (m0.init len (hdrs.map fun _ => Array.replicate kh {}) (cts.map fun _ => Array.replicate kc {})))
      m'.hl m'.pv := by
  obtain ⟨k, k', e⟩ := init_eq_initObj m0 len kh kc hdrs cts
  have hok := msgOK2_init b o ho m0 len kh kc hdrs cts
  have HS := MsgSafe_init b o ho m0 len kh kc hdrs cts
  rw [e] at hr hok HS ⊢
  exact lift_parseSIPMsg hfit hstep o _ flags hok HS rfl (flo_cur_new k) (G k k') hr

theorem hx_vals_lineStep {Ψ : Err → PFromBody → Prop} {b : Buf} (hΨ : HxValProp2 b Ψ) :
    LineStep b fun _ _ hv => HxVals Ψ hv := by
  intro _ offs hl hv n e g hv1 hcur HS hp G
  obtain ⟨hct, hpa⟩ := HS.idle hcur
  have hK : e = .ok ∨ e = .empty → HxVals Ψ hv1 := fun he => by
    obtain ⟨hv3, hq3, hk3⟩ := hx_line_vals b offs hl.cur hv hΨ (by rw [hcur]; exact Or.inl rfl) hct hpa hp he
    cases hq3; exact hk3 G
  exact ⟨fun he => hK (.inl he), fun he => hK (.inr he)⟩

theorem hx_msg_vals {Ψ : Err → PFromBody → Prop} {b : Buf} (hΨ : HxValProp2 b Ψ) (hfit : b.size ≤ 65535) (o : Nat)
    (m : PSIPMsg) (flags : Nat) (hok : msgOK2 b o m) (H : MsgSafe b o m) (hst : m.state = .init) (hcur : m.hl.cur = {})
    (G : HxVals Ψ m.pv) {o' : Nat} {m' : PSIPMsg} (hr : parseSIPMsg b o m flags = (o', .ok, m')) : HxVals Ψ m'.pv :=
  lift_parseSIPMsg hfit (hx_vals_lineStep hΨ) o m flags hok H hst hcur G hr

/-- [C05] exported as `msg_vals_init` -/
theorem hx_msg_vals_init {Ψ : Err → PFromBody → Prop} (b : Buf) (o : Nat) (m0 : PSIPMsg) (len kh kc : Nat)
    (hdrs cts : Option Unit) (flags : Nat) (hΨ : HxValProp2 b Ψ) (hfit : b.size ≤ 65535) (ho : o ≤ b.size)
    {o' : Nat} {m' : PSIPMsg}
    (hr : parseSIPMsg b o (m0.init len (hdrs.map fun _ => Array.replicate kh {}) (cts.map fun _ => Array.replicate kc {}))
      flags = (o', .ok, m')) : HxVals Ψ m'.pv :=
  lift_init hfit (hx_vals_lineStep hΨ) o m0 len kh kc hdrs cts flags ho
    (fun _ _ => ⟨Or.inl rfl, Or.inl rfl, fun _ _ hi _ => (nomatch hi), fun _ _ hi _ => (nomatch hi)⟩) hr

/-! ### invariants of the header list alone: kept by EVERY ParseHeaders call (any state of the list, any verdict) -/

/-- `parseSIPMsg_hl_keeps` (MsgPhases.lean) and `resumeRun_inv` (Schedule.lean) carry such a property through every
    ParseSIPMsg call and every chain of calls -/
theorem hl_parseHeaders_keeps {P : HdrLst → Prop} (hs : ∀ hl g, P hl → P (hl.setCur g))
    (hn : ∀ hl g, P hl → P ((hl.setCur g).accept g)) (b : Buf) (offs : Nat) (hl : HdrLst) (hb : Option PHdrVals)
    (H : P hl) : P (parseHeaders b offs hl hb).2.2.1 :=
  parseHeaders_ind b (J := fun _ hl _ => P hl) (R := fun r => P r.2.2.1)
    (line := fun _ hl _ _ g _ h _ _ _ => hn hl g h) (bug := fun _ hl _ _ g _ h _ _ => hn hl g h)
    (endOk := fun _ hl _ _ g _ h _ _ _ => hs hl g h) (endEmpty := fun _ hl _ _ g _ h _ _ _ => hs hl g h)
    (stop := fun _ hl _ _ _ g _ h _ _ _ _ => hs hl g h)
    (eob := fun _ _ _ h _ => h) offs hl hb H

end Sipsp
