/-
  Sipsp.Proofs.MsgPhases — ParseHeaders and ParseSIPMsg as what they ARE: a loop over header lines, and a pipeline of
  three phases (first line, header block, body) entered at the phase the object is suspended in.
  The block: one induction, read from the end of the block (`parseHeaders_rec`; `parseHeaders_ind` is its instance for
  an invariant of the starts), and the four equations for the ways a line can end.
  The call: one description of the phases (`MsgAt`) with one case rule and its converse: a call that reaches a phase
  IS the rest of the pipeline run from there, for every flag word, since `MsgAt` does not mention the flags — two calls
  whose phases can be matched are compared at the leaves, `msgErr` and `msgBody`. `MsgInv2` is the rule for an
  invariant that says one thing while the header block is open and another once it is closed.
  No hypothesis on buffer, offset, object or flags: this is the layer for the facts that hold of EVERY call; the facts
  about legitimate calls only add hypotheses at the leaves. (Chains of resumed calls: `resumeRun_inv` in
  Sipsp.Proofs.Schedule.)
-/
import Sipsp.Model.Msg
import Sipsp.Proofs.Lex

namespace Sipsp

/-! ### the header block, line by line -/

/-- **the header block as a chain of ParseHdrLine calls, read from its end**: `M offs hl hb r` = "from `offs` with list
    `hl` and values `hb` the block returns `r`". One rule per way a line can end; after an accepted line `M` of the rest
    of the block gives `M` of the whole. For statements whose witness is built from the end (`h :: hs`). -/
theorem parseHeaders_rec (b : Buf) {M : Nat → HdrLst → Option PHdrVals → Nat × Err × HdrLst × Option PHdrVals → Prop}
    (line : ∀ offs hl hb n g hb' r, offs < b.size → parseHdrLine b offs hl.cur hb = (n, .ok, g, hb') → offs < n →
      M n ((hl.setCur g).accept g) hb' r → M offs hl hb r)
    (bug : ∀ offs hl hb n g hb', offs < b.size → parseHdrLine b offs hl.cur hb = (n, .ok, g, hb') → ¬ offs < n →
      M offs hl hb (n, .lbug, (hl.setCur g).accept g, hb'))
    (empty : ∀ offs hl hb n g hb', offs < b.size → parseHdrLine b offs hl.cur hb = (n, .empty, g, hb') →
      M offs hl hb (n, if hl.n > 0 then .ok else .empty, hl.setCur g, hb'))
    (stop : ∀ offs hl hb n e g hb', offs < b.size → parseHdrLine b offs hl.cur hb = (n, e, g, hb') → e ≠ .ok →
      e ≠ .empty → M offs hl hb (n, e, hl.setCur g, hb'))
    (eob : ∀ offs hl hb, b.size ≤ offs → M offs hl hb (offs, .moreBytes, hl, hb))
    (offs : Nat) (hl : HdrLst) (hb : Option PHdrVals) : M offs hl hb (parseHeaders b offs hl hb) := by
  induction hk : b.size - offs using Nat.strongRecOn generalizing offs hl hb with
  | _ k ih =>
    rw [parseHeaders.eq_1 b offs hl hb]
    by_cases hlt : offs < b.size
    · rw [if_pos hlt]
      rcases hp : parseHdrLine b offs hl.cur hb with ⟨n, e, g, hb'⟩
      cases e <;> simp only
      case ok =>
        by_cases hg : offs < n
        · rw [if_pos hg]; exact line offs hl hb n g hb' _ hlt hp hg (ih (b.size - n) (by omega) n _ hb' rfl)
        · rw [if_neg hg]; exact bug offs hl hb n g hb' hlt hp hg
      case empty =>
        have := empty offs hl hb n g hb' hlt hp
        split <;> rename_i hn
        · rwa [if_pos hn] at this
        · rwa [if_neg hn] at this
      all_goals exact stop offs hl hb n _ g hb' hlt hp (by decide) (by decide)
    · rw [if_neg hlt]; exact eob offs hl hb (Nat.le_of_not_lt hlt)

/-- `J` (which may mention the offset) is kept by every accepted line; `R` holds of every way the block can end.
    (`lbug` is the model's "no progress" answer; the empty line ends the block with OK after at least one header, `endOk`,
    else with "empty", `endEmpty`.) -/
theorem parseHeaders_ind (b : Buf) {J : Nat → HdrLst → Option PHdrVals → Prop}
    {R : Nat × Err × HdrLst × Option PHdrVals → Prop}
    (line : ∀ offs hl hb n g hb', J offs hl hb → offs < b.size → parseHdrLine b offs hl.cur hb = (n, .ok, g, hb') →
      offs < n → J n ((hl.setCur g).accept g) hb')
    (bug : ∀ offs hl hb n g hb', J offs hl hb → parseHdrLine b offs hl.cur hb = (n, .ok, g, hb') → ¬ offs < n →
      R (n, .lbug, (hl.setCur g).accept g, hb'))
    (endOk : ∀ offs hl hb n g hb', J offs hl hb → offs < b.size → parseHdrLine b offs hl.cur hb = (n, .empty, g, hb') →
      hl.n > 0 → R (n, .ok, hl.setCur g, hb'))
    (endEmpty : ∀ offs hl hb n g hb', J offs hl hb → offs < b.size → parseHdrLine b offs hl.cur hb = (n, .empty, g, hb') →
      ¬ hl.n > 0 → R (n, .empty, hl.setCur g, hb'))
    (stop : ∀ offs hl hb n e g hb', J offs hl hb → offs < b.size → parseHdrLine b offs hl.cur hb = (n, e, g, hb') →
      e ≠ .ok → e ≠ .empty → R (n, e, hl.setCur g, hb'))
    (eob : ∀ offs hl hb, J offs hl hb → b.size ≤ offs → R (offs, .moreBytes, hl, hb))
    (offs : Nat) (hl : HdrLst) (hb : Option PHdrVals) (h : J offs hl hb) : R (parseHeaders b offs hl hb) :=
  parseHeaders_rec b (M := fun o l v r => J o l v → R r)
    (line := fun o l v n g v' _ hlt hp hg ih hJ => ih (line o l v n g v' hJ hlt hp hg))
    (bug := fun o l v n g v' _ hp hg hJ => bug o l v n g v' hJ hp hg)
    (empty := fun o l v n g v' hlt hp hJ => by
      split
      · exact endOk o l v n g v' hJ hlt hp ‹_›
      · exact endEmpty o l v n g v' hJ hlt hp ‹_›)
    (stop := fun o l v n e g v' hlt hp h1 h2 hJ => stop o l v n e g v' hJ hlt hp h1 h2)
    (eob := fun o l v hle hJ => eob o l v hJ hle) offs hl hb h

/-- one accepted line: the block goes on behind it -/
theorem parseHeaders_line {b : Buf} {o n : Nat} {hl : HdrLst} {hb hb' : Option PHdrVals} {g : Hdr}
    (hp : parseHdrLine b o hl.cur hb = (n, .ok, g, hb')) (hsz : o < b.size) (hlt : o < n) :
    parseHeaders b o hl hb = parseHeaders b n ((hl.setCur g).accept g) hb' := by
  rw [parseHeaders, if_pos hsz, hp]
  simp only
  rw [if_pos hlt]

/-- the empty line: the block ends -/
theorem parseHeaders_end {b : Buf} {o n : Nat} {hl : HdrLst} {hb hb' : Option PHdrVals} {g : Hdr}
    (hp : parseHdrLine b o hl.cur hb = (n, .empty, g, hb')) (hsz : o < b.size) :
    parseHeaders b o hl hb = (n, (if hl.n > 0 then Err.ok else Err.empty), hl.setCur g, hb') := by
  rw [parseHeaders, if_pos hsz, hp]
  by_cases hn : hl.n > 0 <;> simp only [hn, ↓reduceIte]

/-- a line that ends neither OK nor empty: the block ends with its verdict -/
theorem parseHeaders_stop {b : Buf} {o n : Nat} {e : Err} {hl : HdrLst} {hb hb' : Option PHdrVals} {g : Hdr}
    (hp : parseHdrLine b o hl.cur hb = (n, e, g, hb')) (hsz : o < b.size) (h1 : e ≠ .ok) (h2 : e ≠ .empty) :
    parseHeaders b o hl hb = (n, e, hl.setCur g, hb') := by
  rw [parseHeaders, if_pos hsz, hp]
  cases e <;> first | rfl | exact absurd rfl h1 | exact absurd rfl h2

/-- the end of the buffer: MoreBytes, nothing changed -/
theorem parseHeaders_eob {b : Buf} {o : Nat} (hl : HdrLst) (hb : Option PHdrVals) (hsz : b.size ≤ o) :
    parseHeaders b o hl hb = (o, .moreBytes, hl, hb) := by
  rw [parseHeaders, if_neg (Nat.not_lt.mpr hsz)]

/-! ### the phases of one ParseSIPMsg call -/

/-- `MsgAt b o m s o1 m1`: the call `parseSIPMsg b o m _` enters the phase `s` (first line, header block, body) at
    offset `o1` with the object `m1` -/
inductive MsgAt (b : Buf) (o : Nat) (m : PSIPMsg) : MsgState → Nat → PSIPMsg → Prop
  | enter (h : m.state = .init) : MsgAt b o m .fline o { m with offs := o, state := .fline }
  | resume {s : MsgState} (h : m.state = s) (hs : s = .fline ∨ s = .headers ∨ s = .body) : MsgAt b o m s o m
  | fline {o1 : Nat} {m1 : PSIPMsg} {o2 : Nat} {fl : PFLine} (h : MsgAt b o m .fline o1 m1)
      (hp : parseFLine b o1 m1.fl = (o2, .ok, fl)) : MsgAt b o m .headers o2 { m1 with fl := fl, state := .headers }
  | headers {o1 : Nat} {m1 : PSIPMsg} {o2 : Nat} {hl : HdrLst} {hb : Option PHdrVals} (h : MsgAt b o m .headers o1 m1)
      (hp : parseHeaders b o1 m1.hl (some m1.pv) = (o2, .ok, hl, hb)) :
      MsgAt b o m .body o2 { m1 with hl := hl, pv := hb.getD m1.pv, state := .body }

theorem MsgAt.state {b : Buf} {o : Nat} {m : PSIPMsg} {s : MsgState} {o1 : Nat} {m1 : PSIPMsg}
    (h : MsgAt b o m s o1 m1) : m1.state = s := by
  cases h <;> first | rfl | assumption

/-- before the header block the header list and the values are those the call was given -/
theorem MsgAt.frame {b : Buf} {o : Nat} {m : PSIPMsg} {s : MsgState} {o1 : Nat} {m1 : PSIPMsg}
    (h : MsgAt b o m s o1 m1) (hs : s = .fline ∨ s = .headers) : m1.hl = m.hl ∧ m1.pv = m.pv := by
  induction h with
  | enter _ => exact ⟨rfl, rfl⟩
  | resume _ _ => exact ⟨rfl, rfl⟩
  | fline _ _ ih => exact ih (Or.inl rfl)
  | headers _ _ _ => rcases hs with hs | hs <;> cases hs

/-- **one call, by the way it ends**: on an object in an end state; with the verdict of the first line, or of the
    header block, that was not OK (`msgErr`: MoreBytes suspends, everything else fails); or with what the body phase
    says. The phase reached is described by `MsgAt`, so an invariant is carried there by ONE induction on `MsgAt`. -/
theorem parseSIPMsg_cases {P : Nat × Err × PSIPMsg → Prop} (b : Buf) (o : Nat) (m : PSIPMsg) (flags : Nat)
    (dead : m.state = .err ∨ m.state = .noCLen ∨ m.state = .fin → P (o, .bug, { m with state := .err }))
    (flErr : ∀ {o1 m1 o2 e fl}, MsgAt b o m .fline o1 m1 → parseFLine b o1 m1.fl = (o2, e, fl) → e ≠ .ok →
      P (msgErr { m1 with fl := fl } o2 e flags))
    (hdErr : ∀ {o1 m1 o2 e hl hb}, MsgAt b o m .headers o1 m1 → parseHeaders b o1 m1.hl (some m1.pv) = (o2, e, hl, hb) →
      e ≠ .ok → P (msgErr { m1 with hl := hl, pv := hb.getD m1.pv } o2 e flags))
    (body : ∀ {o1 m1}, MsgAt b o m .body o1 m1 → P (msgBody b o1 m1 flags)) : P (parseSIPMsg b o m flags) := by
  have hH : ∀ {o1 m1}, MsgAt b o m .headers o1 m1 → P (msgHeaders b o1 m1 flags) := by
    intro o1 m1 h
    unfold msgHeaders
    rcases hp : parseHeaders b o1 m1.hl (some m1.pv) with ⟨o2, e, hl, hb⟩
    cases e <;> simp only
    case ok => exact body (.headers h hp)
    all_goals exact hdErr h hp (by decide)
  have hF : ∀ {o1 m1}, MsgAt b o m .fline o1 m1 → P (msgFLine b o1 m1 flags) := by
    intro o1 m1 h
    unfold msgFLine
    rcases hp : parseFLine b o1 m1.fl with ⟨o2, e, fl⟩
    cases e <;> simp only
    case ok => exact hH (.fline h hp)
    all_goals exact flErr h hp (by decide)
  unfold parseSIPMsg
  cases hst : m.state <;> simp only
  case init => exact hF (.enter hst)
  case fline => exact hF (.resume hst (Or.inl rfl))
  case headers => exact hH (.resume hst (Or.inr (Or.inl rfl)))
  case body => exact body (.resume hst (Or.inr (Or.inr rfl)))
  case err => exact dead (Or.inl hst)
  case noCLen => exact dead (Or.inr (Or.inl hst))
  case fin => exact dead (Or.inr (Or.inr hst))

/-! ### the converse: a call that reaches a phase is the rest of the pipeline run from there -/

/-- the rest of the pipeline from phase `s` -/
def msgFrom (b : Buf) (flags : Nat) : MsgState → Nat → PSIPMsg → Nat × Err × PSIPMsg
  | .fline, o, m => msgFLine b o m flags
  | .headers, o, m => msgHeaders b o m flags
  | .body, o, m => msgBody b o m flags
  | _, o, m => msgErr m o .bug flags

theorem msgFrom_fline (b : Buf) (flags o : Nat) (m : PSIPMsg) : msgFrom b flags .fline o m = msgFLine b o m flags := rfl
theorem msgFrom_headers (b : Buf) (flags o : Nat) (m : PSIPMsg) : msgFrom b flags .headers o m = msgHeaders b o m flags := rfl
theorem msgFrom_body (b : Buf) (flags o : Nat) (m : PSIPMsg) : msgFrom b flags .body o m = msgBody b o m flags := rfl

theorem msgFLine_ok {b : Buf} {o : Nat} {m : PSIPMsg} {o2 : Nat} {fl : PFLine} (hp : parseFLine b o m.fl = (o2, .ok, fl))
    (flags : Nat) : msgFLine b o m flags = msgHeaders b o2 { m with fl := fl, state := .headers } flags := by
  unfold msgFLine; rw [hp]

theorem msgFLine_err {b : Buf} {o : Nat} {m : PSIPMsg} {o2 : Nat} {e : Err} {fl : PFLine}
    (hp : parseFLine b o m.fl = (o2, e, fl)) (he : e ≠ .ok) (flags : Nat) :
    msgFLine b o m flags = msgErr { m with fl := fl } o2 e flags := by
  unfold msgFLine; rw [hp]
  cases e <;> first | rfl | exact absurd rfl he

theorem msgHeaders_ok {b : Buf} {o : Nat} {m : PSIPMsg} {o2 : Nat} {hl : HdrLst} {hb : Option PHdrVals}
    (hp : parseHeaders b o m.hl (some m.pv) = (o2, .ok, hl, hb)) (flags : Nat) :
    msgHeaders b o m flags = msgBody b o2 { m with hl := hl, pv := hb.getD m.pv, state := .body } flags := by
  unfold msgHeaders; rw [hp]

theorem msgHeaders_err {b : Buf} {o : Nat} {m : PSIPMsg} {o2 : Nat} {e : Err} {hl : HdrLst} {hb : Option PHdrVals}
    (hp : parseHeaders b o m.hl (some m.pv) = (o2, e, hl, hb)) (he : e ≠ .ok) (flags : Nat) :
    msgHeaders b o m flags = msgErr { m with hl := hl, pv := hb.getD m.pv } o2 e flags := by
  unfold msgHeaders; rw [hp]
  cases e <;> first | rfl | exact absurd rfl he

/-- **a call that reaches phase `s` at `(o1, m1)` is the pipeline run from there**, whatever the flags -/
theorem MsgAt.run {b : Buf} {o : Nat} {m : PSIPMsg} {s : MsgState} {o1 : Nat} {m1 : PSIPMsg}
    (h : MsgAt b o m s o1 m1) (flags : Nat) : parseSIPMsg b o m flags = msgFrom b flags s o1 m1 := by
  induction h with
  | enter hst => unfold parseSIPMsg; rw [hst]; rfl
  | resume hst hs => unfold parseSIPMsg; rcases hs with rfl | rfl | rfl <;> rw [hst] <;> rfl
  | fline _ hp ih => rw [ih]; exact msgFLine_ok hp flags
  | headers _ hp ih => rw [ih]; exact msgHeaders_ok hp flags

/-- the start offset the object remembers at whatever phase the call has reached -/
theorem MsgAt.offs {b : Buf} {o : Nat} {m : PSIPMsg} {s : MsgState} {o1 : Nat} {m1 : PSIPMsg} (h : MsgAt b o m s o1 m1) :
    m1.offs = if m.state = .init then o else m.offs := by
  induction h with
  | enter hst => rw [if_pos hst]
  | resume hst hs => rw [if_neg (by rw [hst]; rcases hs with rfl | rfl | rfl <;> decide)]
  | fline _ _ ih => exact ih
  | headers _ _ ih => exact ih

/-- on an object in an end state every call answers "bug" -/
theorem parseSIPMsg_dead {m : PSIPMsg} (hd : m.state = .err ∨ m.state = .noCLen ∨ m.state = .fin) (b : Buf) (o : Nat)
    (flags : Nat) : parseSIPMsg b o m flags = (o, .bug, { m with state := .err }) := by
  unfold parseSIPMsg
  rcases hd with hd | hd | hd <;> rw [hd] <;> rfl

/-! ### what a failed or suspended section returns; what a call leaves of the header list and the values -/

/-- **`msgErr` in closed form**: the section's verdict is passed on, MoreBytes becoming Trunc under the no-more-data
    option; the object is left as it is but for the state, which is set to `err` unless the call is suspended -/
theorem msgErr_eq (m : PSIPMsg) (o : Nat) (e : Err) (flags : Nat) :
    msgErr m o e flags =
      (o, (if e = .moreBytes ∧ hasFlag flags SIPMsgNoMoreDataF = true then .trunc else e),
        { m with state := if e = .moreBytes ∧ hasFlag flags SIPMsgNoMoreDataF = false then m.state else .err }) := by
  unfold msgErr
  by_cases he : e = .moreBytes <;> cases hf : hasFlag flags SIPMsgNoMoreDataF <;> simp [he]

/-- an error exit passes the section's verdict on, or turns MoreBytes into Trunc -/
theorem msgErr_verd (V : Err → Prop) (m : PSIPMsg) (o : Nat) (e : Err) (flags : Nat) (he : V e) (ht : V .trunc) :
    V (msgErr m o e flags).2.1 := by
  rw [msgErr_eq]
  show V (if _ then _ else _)
  split <;> assumption

theorem msgErr_not_ok (m : PSIPMsg) (o : Nat) (e : Err) (flags : Nat) (he : e ≠ .ok) :
    (msgErr m o e flags).2.1 ≠ .ok := msgErr_verd (· ≠ .ok) m o e flags he (by decide)

theorem msgErr_hl_pv (m : PSIPMsg) (o : Nat) (e : Err) (flags : Nat) :
    (msgErr m o e flags).2.2.hl = m.hl ∧ (msgErr m o e flags).2.2.pv = m.pv := by
  rw [msgErr_eq]; exact ⟨rfl, rfl⟩

/-- **the body phase**, the leaf `parseSIPMsg_cases` leaves open: no usable Content-Length, MoreBytes with only the body
    mark set, or `msgEnd` at an end `e` with `o ≤ e ≤ b.size` in the state it had or in `.fin` -/
theorem msgBody_cases {P : Nat × Err × PSIPMsg → Prop} (b : Buf) (o : Nat) (m : PSIPMsg) (flags : Nat)
    (noclen : P (o, .noCLen, { ({ m with body := PField.set o o } : PSIPMsg).setBufs b o with state := .noCLen }))
    (more : P (o, .moreBytes, { m with body := PField.set o o }))
    (fin : ∀ s e, s = m.state ∨ s = .fin → (o ≤ b.size → o ≤ e ∧ e ≤ b.size) →
      P (msgEnd { m with body := PField.set o o, state := s } b e)) : P (msgBody b o m flags) := by
  unfold msgBody
  refine ite_ind (P := P)
    (fun _ => ite_ind (P := P) (fun _ => noclen) fun _ => ?skip)
    (fun _ => ite_ind (P := P)
      (fun _ => ite_ind (P := P) (fun _ => ite_ind (P := P) (fun _ => ?trunc) fun _ => more) fun hle => ?clen)
      (fun _ => ite_ind (P := P) (fun _ => ?req) fun _ => ?rest))
  -- the body is skipped: the message ends here, finished
  case skip => exact fin _ _ (Or.inr rfl) fun ho => ⟨Nat.le_refl _, ho⟩
  -- a Content-Length that reaches beyond the buffer, and no more data will come: the body is the rest of the buffer
  case trunc => exact fin _ _ (Or.inl rfl) fun ho => ⟨ho, Nat.le_refl _⟩
  -- a Content-Length inside the buffer
  case clen => exact fin _ _ (Or.inl rfl) fun _ => ⟨Nat.le_add_right _ _, Nat.le_of_not_gt hle⟩
  -- no Content-Length although one is required: an empty body
  case req => exact fin _ _ (Or.inl rfl) fun ho => ⟨Nat.le_refl _, ho⟩
  -- no Content-Length: the body is the rest of the buffer
  case rest => exact fin _ _ (Or.inl rfl) fun ho => ⟨ho, Nat.le_refl _⟩

theorem msgBody_hl_pv (b : Buf) (o : Nat) (m : PSIPMsg) (flags : Nat) :
    (msgBody b o m flags).2.2.hl = m.hl ∧ (msgBody b o m flags).2.2.pv = m.pv :=
  msgBody_cases (P := fun r => r.2.2.hl = m.hl ∧ r.2.2.pv = m.pv) b o m flags ⟨rfl, rfl⟩ ⟨rfl, rfl⟩
    fun _ _ _ _ => ⟨rfl, rfl⟩

/-- **what a call does to the header list and the values**: nothing, or they are what ONE ParseHeaders call on them
    returned (nothing else in ParseSIPMsg touches either) -/
theorem parseSIPMsg_hl_pv (b : Buf) (o : Nat) (m : PSIPMsg) (flags : Nat) :
    ((parseSIPMsg b o m flags).2.2.hl = m.hl ∧ (parseSIPMsg b o m flags).2.2.pv = m.pv) ∨
    ∃ o1, (parseSIPMsg b o m flags).2.2.hl = (parseHeaders b o1 m.hl (some m.pv)).2.2.1 ∧
      (parseSIPMsg b o m flags).2.2.pv = ((parseHeaders b o1 m.hl (some m.pv)).2.2.2).getD m.pv := by
  -- the body phase is reached by `resume` (nothing done) or by `headers` from a phase where `frame` applies
  have hB : ∀ {o1 m1}, MsgAt b o m .body o1 m1 → (m1.hl = m.hl ∧ m1.pv = m.pv) ∨
      ∃ o1, m1.hl = (parseHeaders b o1 m.hl (some m.pv)).2.2.1 ∧
        m1.pv = ((parseHeaders b o1 m.hl (some m.pv)).2.2.2).getD m.pv := by
    intro o1 m1 h
    generalize hs : MsgState.body = s at h
    cases h with
    | enter _ => cases hs
    | resume _ _ => exact Or.inl ⟨rfl, rfl⟩
    | fline _ _ => cases hs
    | @headers o0 m0 _ hl hb h0 hp =>
      obtain ⟨e1, e2⟩ := h0.frame (Or.inr rfl)
      rw [e1, e2] at hp
      exact Or.inr ⟨o0, by rw [hp], by rw [hp, e2]⟩
  refine parseSIPMsg_cases (P := fun r => (r.2.2.hl = m.hl ∧ r.2.2.pv = m.pv) ∨
      ∃ o1, r.2.2.hl = (parseHeaders b o1 m.hl (some m.pv)).2.2.1 ∧
        r.2.2.pv = ((parseHeaders b o1 m.hl (some m.pv)).2.2.2).getD m.pv) b o m flags
    (dead := fun _ => Or.inl ⟨rfl, rfl⟩) (flErr := ?flErr) (hdErr := ?hdErr) (body := ?body)
  case flErr =>
    intro o1 m1 o2 e fl h _ _
    rw [(msgErr_hl_pv _ _ _ _).1, (msgErr_hl_pv _ _ _ _).2]
    exact Or.inl (h.frame (Or.inl rfl))
  case hdErr =>
    intro o1 m1 o2 e hl hb h hp _
    obtain ⟨e1, e2⟩ := h.frame (Or.inr rfl)
    rw [(msgErr_hl_pv _ _ _ _).1, (msgErr_hl_pv _ _ _ _).2]
    rw [e1, e2] at hp
    exact Or.inr ⟨o1, by rw [hp], by rw [hp, e2]⟩
  case body =>
    intro o1 m1 h
    rw [(msgBody_hl_pv _ _ _ _).1, (msgBody_hl_pv _ _ _ _).2]
    exact hB h

/-- what every ParseHeaders call keeps of the header list, every ParseSIPMsg call keeps -/
theorem parseSIPMsg_hl_keeps {P : HdrLst → Prop} (hP : ∀ b o hl hb, P hl → P (parseHeaders b o hl hb).2.2.1)
    (b : Buf) (o : Nat) (m : PSIPMsg) (flags : Nat) (H : P m.hl) : P (parseSIPMsg b o m flags).2.2.hl := by
  rcases parseSIPMsg_hl_pv b o m flags with h | ⟨o1, h, _⟩
  · rw [h.1]; exact H
  · rw [h]; exact hP b o1 m.hl _ H

/-! ### a message invariant in two phases

  While the header block is open (states init, fline, headers) the header list and the values object satisfy `T` (what
  ParseHeaders needs to go on); once it is closed (body, fin) they satisfy `D` (what a successful ParseHeaders
  established); nothing is said in the error states (the object must be Reset).  Such an invariant is kept by every
  ParseSIPMsg call as soon as ParseHeaders takes `T` to `D` on OK and to `T` on MoreBytes. -/

def MsgInv2 (T D : HdrLst → PHdrVals → Prop) (m : PSIPMsg) : Prop :=
  ((m.state = .init ∨ m.state = .fline ∨ m.state = .headers) → T m.hl m.pv) ∧
  ((m.state = .body ∨ m.state = .fin) → D m.hl m.pv)

/-- ParseHeaders with a values object takes `T` to `D` on OK and to `T` on MoreBytes -/
def HdrsStep (T D : HdrLst → PHdrVals → Prop) : Prop :=
  ∀ b o hl pv, T hl pv → ∀ {o2 e hl2 hb}, parseHeaders b o hl (some pv) = (o2, e, hl2, hb) →
    (e = .ok → D hl2 (hb.getD pv)) ∧ (e = .moreBytes → T hl2 (hb.getD pv))

/-- the body phase leaves the object in the body state, finished, or without a usable Content-Length -/
theorem msgBody_state (b : Buf) (o : Nat) (m : PSIPMsg) (flags : Nat) (hst : m.state = .body) :
    (msgBody b o m flags).2.2.state = .body ∨ (msgBody b o m flags).2.2.state = .noCLen ∨
      (msgBody b o m flags).2.2.state = .fin :=
  msgBody_cases (P := fun r => r.2.2.state = .body ∨ r.2.2.state = .noCLen ∨ r.2.2.state = .fin) b o m flags
    (Or.inr (Or.inl rfl)) (Or.inl hst) fun _ _ _ _ => Or.inr (Or.inr rfl)

section
variable {T D : HdrLst → PHdrVals → Prop}

theorem MsgInv2.of_open {m : PSIPMsg} (hT : T m.hl m.pv) (hs : m.state ≠ .body ∧ m.state ≠ .fin) : MsgInv2 T D m :=
  ⟨fun _ => hT, fun h => h.elim (fun h => absurd h hs.1) fun h => absurd h hs.2⟩

theorem MsgInv2.of_err {m : PSIPMsg} (hs : m.state = .err ∨ m.state = .noCLen) : MsgInv2 T D m := by
  refine ⟨fun h => ?_, fun h => ?_⟩
  · rcases hs with hs | hs <;> rw [hs] at h <;> rcases h with h | h | h <;> cases h
  · rcases hs with hs | hs <;> rw [hs] at h <;> rcases h with h | h <;> cases h

/-- the error exit: the object goes to the error state, or (MoreBytes) stays as it is -/
theorem MsgInv2.msgErr (m : PSIPMsg) (o : Nat) (e : Err) (flags : Nat) (he : e ≠ .ok)
    (H : e = .moreBytes → MsgInv2 T D m) :
    MsgInv2 T D (msgErr m o e flags).2.2 ∧
      ((msgErr m o e flags).2.1 = .ok → D (msgErr m o e flags).2.2.hl (msgErr m o e flags).2.2.pv) := by
  unfold Sipsp.msgErr
  split
  · exact ⟨.of_err (Or.inl rfl), fun h => absurd h he⟩
  · rename_i hne
    have hm : e = .moreBytes := by simpa using hne
    split
    · exact ⟨.of_err (Or.inl rfl), fun h => by cases h⟩
    · exact ⟨H hm, fun h => absurd h he⟩

/-- the invariant at the phase a call has reached -/
theorem MsgAt.inv2 (hS : HdrsStep T D) {b : Buf} {o : Nat} {m : PSIPMsg} {s : MsgState} {o1 : Nat} {m1 : PSIPMsg}
    (h : MsgAt b o m s o1 m1) (H : MsgInv2 T D m) : if s = .body then D m1.hl m1.pv else T m1.hl m1.pv := by
  induction h with
  | enter hst => exact H.1 (Or.inl hst)
  | resume hst hs =>
    rcases hs with rfl | rfl | rfl
    · exact H.1 (Or.inr (Or.inl hst))
    · exact H.1 (Or.inr (Or.inr hst))
    · exact H.2 (Or.inl hst)
  | fline _ _ ih => exact ih
  | @headers o1 m1 _ _ _ _ hp ih => exact (hS b o1 m1.hl m1.pv ih hp).1 rfl

/-- **every ParseSIPMsg call keeps a two-phase invariant**, and after OK the closed-block facts hold -/
theorem MsgInv2.parseSIPMsg (hS : HdrsStep T D) (b : Buf) (o : Nat) (m : PSIPMsg) (flags : Nat) (H : MsgInv2 T D m) :
    MsgInv2 T D (parseSIPMsg b o m flags).2.2 ∧
    ((parseSIPMsg b o m flags).2.1 = .ok → D (parseSIPMsg b o m flags).2.2.hl (parseSIPMsg b o m flags).2.2.pv) := by
  refine parseSIPMsg_cases (P := fun r => MsgInv2 T D r.2.2 ∧ (r.2.1 = .ok → D r.2.2.hl r.2.2.pv)) b o m flags
    (dead := fun _ => ⟨.of_err (Or.inl rfl), nofun⟩) (flErr := ?flErr) (hdErr := ?hdErr) (body := ?body)
  case flErr =>
    intro o1 m1 o2 e fl h _ he
    exact MsgInv2.msgErr _ _ _ _ he fun _ =>
      .of_open (h.inv2 hS H) (by rw [show _ = m1.state from rfl, h.state]; decide)
  case hdErr =>
    intro o1 m1 o2 e hl hb h hp he
    exact MsgInv2.msgErr _ _ _ _ he fun hm =>
      .of_open ((hS b o1 m1.hl m1.pv (h.inv2 hS H) hp).2 hm) (by rw [show _ = m1.state from rfl, h.state]; decide)
  case body =>
    intro o1 m1 h
    have hD : D (msgBody b o1 m1 flags).2.2.hl (msgBody b o1 m1 flags).2.2.pv := by
      rw [(msgBody_hl_pv b o1 m1 flags).1, (msgBody_hl_pv b o1 m1 flags).2]; exact h.inv2 hS H
    refine ⟨⟨fun hh => ?_, fun _ => hD⟩, fun _ => hD⟩
    rcases msgBody_state b o1 m1 flags h.state with g | g | g <;> rw [g] at hh <;> rcases hh with hh | hh | hh <;> cases hh

end

end Sipsp
