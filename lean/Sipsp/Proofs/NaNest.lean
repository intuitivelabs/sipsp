/-
  Sipsp.Proofs.NaNest — nesting and order of the sub-fields of a name-addr value (From / To / Contact /
  P-Asserted-Identity), for EVERY input (property C05, "header-specific sub-fields nest").

  Proved (all buffers within the 65,535-byte limit, all offsets, all header kinds, all inputs):
  * `parseNameAddrPVal_nest`: a parse of one value that started at `lo` on a new object — in one call, or continued
    over the objects returned with MoreBytes (`NnEntry`) — and ends with OK or MoreValues leaves a nested value
    (`NaNest`) that starts at or after `lo`; after MoreBytes the object is again a legitimate argument at the returned
    offset.
  * `NaNest` / `NaNest.meaning` (unset fields are `{}` = `⟨0,0⟩`): the URI field always lies inside the
    value `v` (for `*` it is `v` itself); the display name, if reported, starts inside `v` and ends at or before the
    start of the URI; the parameter span, if reported, starts at or after the end of the URI and ends exactly where
    `v` ends; the tag, if reported, lies inside the parameter span (which is then reported), hence inside `v`.
  * message level (`parseSIPMsg_nn`, `parseSIPMsg_nn_init`, `parseSIPMsg_nn_schedule_init`): after a successful
    ParseSIPMsg — one call, or any chain of resumed calls from Init — From and To are untouched (`{}`) or finished and
    nested, and every stored Contact and P-Asserted-Identity value is nested (`HvNn`).  Nesting is a property of the
    values ParseNameAddrPVal completes from a new object (`nn_valProp`); the climb from the value to the message is the
    one of MsgLift.lean.
  The proof is a loop invariant (`NnSt`, one clause per parser state) on the transitions of the loop body, carried
  along with the bounds invariant `NaSafe` of SafeNA.lean.

  NOT proved here: that the reported spans are trimmed of white space (they are not always: the display name
  includes the white space in front of "<"; after `;name=` + white space + "," the value and the parameter span include
  that white space); the nesting of the fields of the value a suspended Contact / PAI *list* parse is working on
  (message level is stated for successful parses; the chunked case goes through the one-shot equivalence
  `C01.schedule_msg_init`); anything about the scalar results (LR, Q, Expires).
-/
import Sipsp.Proofs.SafeNALo
import Sipsp.Proofs.MsgLift
import Sipsp.Proofs.FieldsLo

namespace Sipsp

/-- unfolds the field updates and the invariant clauses, then arithmetic -/
macro "nn_arith" : tactic =>
  `(tactic| (simp only [NnSt, NnU, NnP, NnE, PFromBody.setURI, PFromBody.setName, PFromBody.setV, PFromBody.extV,
               PFromBody.extParams, PFromBody.resetUPT, PFromBody.saveS, PField.inside, PField.set, PField.extend,
               trunc16] at *
             repeat' (apply And.intro)
             all_goals first | trivial | omega))

/-- closes `NnSt lo X X.state` for the object `X` built by a continuing step -/
macro "nn_step" hI:ident hg:ident : tactic =>
  `(tactic| (try dsimp only
             first
               | (rw [$hg:ident]; exact $hI:ident)
               | nn_arith))

/-- simp set that decides the tests on a known parser state -/
macro "nn_state" hg:ident " at " hs:ident : tactic =>
  `(tactic| simp only [$hg:ident, beq_iff_eq, bne_iff_ne, ne_eq, reduceCtorEq, not_true_eq_false, not_false_eq_true,
      or_false, false_or, or_true, true_or, or_self, Bool.or_eq_true, ↓reduceIte] at $hs:ident)


/-- **nesting and order of the fields of a finished name-addr value.** Unset fields are `⟨0,0⟩`.
    The URI field of a finished value always lies inside the value (for `*` it is the value itself). -/
structure NaNest (pf : PFromBody) : Prop where
  /-- the URI lies inside the value -/
  uriL : pf.v.offs ≤ pf.uri.offs
  uriU : pf.uri.offs + pf.uri.len ≤ pf.v.offs + pf.v.len
  /-- the display name, if any, starts inside the value … -/
  nameL : (pf.name.offs = 0 ∧ pf.name.len = 0) ∨ pf.v.offs ≤ pf.name.offs
  /-- … and ends at or before the start of the URI (an unset name has end 0) -/
  nameU : pf.name.offs + pf.name.len ≤ pf.uri.offs
  /-- the parameter span, if any, starts at or after the end of the URI and runs to the end of the value -/
  parL : (pf.params.offs = 0 ∧ pf.params.len = 0) ∨
    (pf.uri.offs + pf.uri.len ≤ pf.params.offs ∧ pf.params.offs + pf.params.len = pf.v.offs + pf.v.len)
  /-- the tag, if any, lies inside the parameter span (which is then set) -/
  tagL : (pf.tag.offs = 0 ∧ pf.tag.len = 0) ∨
    (pf.params.offs ≠ 0 ∧ pf.params.offs ≤ pf.tag.offs ∧ pf.tag.offs + pf.tag.len ≤ pf.params.offs + pf.params.len)

/-- head of the value is in place: URI inside the value, name before the URI and inside the value -/
def NnU (pf : PFromBody) : Prop :=
  pf.v.offs ≤ pf.uri.offs ∧ pf.name.offs + pf.name.len ≤ pf.uri.offs ∧
  pf.uri.offs + pf.uri.len ≤ pf.v.offs + pf.v.len ∧
  ((pf.name.offs = 0 ∧ pf.name.len = 0) ∨ pf.v.offs ≤ pf.name.offs)

/-- the parameter span has been opened after the URI; the tag, if any, starts inside it -/
def NnP (pf : PFromBody) : Prop :=
  pf.params.offs ≠ 0 ∧ pf.v.offs ≤ pf.params.offs ∧ pf.uri.offs + pf.uri.len ≤ pf.params.offs ∧
  ((pf.tag.offs = 0 ∧ pf.tag.len = 0) ∨ pf.params.offs ≤ pf.tag.offs)

/-- nothing but (perhaps) the URI has been reported yet; no parameter value is pending -/
def NnE (pf : PFromBody) : Prop :=
  pf.name.offs = 0 ∧ pf.name.len = 0 ∧ pf.params.offs = 0 ∧ pf.tag.offs = 0 ∧ pf.tag.len = 0 ∧
  pf.vstart = 0 ∧ pf.vend = 0

/-- the invariant, by parser state (`lo` = offset at which the parse of this value began) -/
def NnSt (lo : Nat) (pf : PFromBody) : FBState → Prop
  | .init => pf.uri.offs = 0 ∧ pf.uri.len = 0 ∧ NnE pf
  | .quoted | .name | .nameOrURI =>
    lo ≤ pf.v.offs ∧ pf.uri.offs = 0 ∧ pf.uri.len = 0 ∧ NnE pf ∧ pf.v.offs ≤ pf.s
  | .nameOrURIEnd => lo ≤ pf.v.offs ∧ NnE pf ∧ pf.v.offs ≤ pf.s ∧ NnU pf
  | .star => lo ≤ pf.v.offs ∧ NnE pf
  | .uri =>
    lo ≤ pf.v.offs ∧ pf.uri.offs = 0 ∧ pf.uri.len = 0 ∧ pf.params.offs = 0 ∧ pf.tag.offs = 0 ∧ pf.tag.len = 0 ∧
    pf.vstart = 0 ∧ pf.vend = 0 ∧ pf.v.offs ≤ pf.s ∧ pf.name.offs + pf.name.len ≤ pf.s ∧
    ((pf.name.offs = 0 ∧ pf.name.len = 0) ∨ pf.v.offs ≤ pf.name.offs)
  | .uriFound =>
    lo ≤ pf.v.offs ∧ NnU pf ∧ pf.params.offs = 0 ∧ pf.tag.offs = 0 ∧ pf.tag.len = 0 ∧ pf.vstart = 0 ∧ pf.vend = 0
  | .newParam | .newPossibleParam =>
    lo ≤ pf.v.offs ∧ NnU pf ∧ pf.vstart = 0 ∧ pf.vend = 0 ∧
    ((pf.params.offs = 0 ∧ pf.tag.offs = 0 ∧ pf.tag.len = 0) ∨ NnP pf)
  | .paramName | .possibleParamName => lo ≤ pf.v.offs ∧ NnU pf ∧ pf.vstart = 0 ∧ pf.vend = 0 ∧ NnP pf
  | .paramNameEnd | .possibleParamNameEnd =>
    lo ≤ pf.v.offs ∧ NnU pf ∧ pf.vstart = 0 ∧ pf.vend = 0 ∧ NnP pf ∧ pf.tag.offs + pf.tag.len ≤ pf.pend
  | .newParamVal | .newPossibleVal | .paramVal | .possibleVal | .quotedVal | .quotedPossibleVal =>
    lo ≤ pf.v.offs ∧ NnU pf ∧ NnP pf ∧ pf.params.offs ≤ pf.vstart
  | .paramValEnd | .possibleValEnd =>
    lo ≤ pf.v.offs ∧ NnU pf ∧ NnP pf ∧ pf.params.offs ≤ pf.vstart ∧ pf.tag.offs + pf.tag.len ≤ pf.vend
  | _ => True

def NnInv (lo : Nat) (pf : PFromBody) : Prop := NnSt lo pf pf.state

/-- closes `NnSt lo X X.state` for an explicitly updated object `X` from the clause `hI` of the state before the
    step and the bounds in the context: both are unfolded, the rest is linear arithmetic -/
macro "nn_goal" hI:ident : tactic =>
  `(tactic| (simp only [NnSt, NnU, NnP, NnE] at $hI:ident
             simp only [NnSt, NnU, NnP, NnE, PFromBody.setURI, PFromBody.setName, PFromBody.setV, PFromBody.extV,
               PFromBody.resetUPT, PField.set, PField.extend_offs, PField.extend_len, trunc16, true_and]
             omega))

/-- the text of a name-or-URI ended at `i`: it is the URI, and the value ends there -/
theorem NnInv.lwsURI {b : Buf} {i lo : Nat} {pf : PFromBody} (hI : NnInv lo pf) (hS : NaSafe b i pf)
    (hfit : i < 65536) (hg : pf.state = .nameOrURI) :
    NnInv lo { (pf.setURI pf.s i).extV i with state := .nameOrURIEnd } := by
  unfold NnInv at hI
  rw [hg] at hI
  have hs := hS.s
  show NnSt lo _ FBState.nameOrURIEnd
  nn_goal hI

/-- a completed parameter is stored: back to "new parameter" -/
theorem nn_sfp (b : Buf) (lo : Nat) (pf : PFromBody)
    (hst : pf.state = .newParam ∨ pf.state = .newPossibleParam) (hlo : lo ≤ pf.v.offs) (hU : NnU pf) (hP : NnP pf)
    (hv : pf.vstart < pf.vend → pf.params.offs ≤ pf.vstart ∧ pf.vend < 65536) :
    NnInv lo (setFromParamVal b pf) := by
  unfold NnInv
  rw [setFromParamVal_state]
  have key : lo ≤ (setFromParamVal b pf).v.offs ∧ NnU (setFromParamVal b pf) ∧ (setFromParamVal b pf).vstart = 0 ∧
      (setFromParamVal b pf).vend = 0 ∧
      (((setFromParamVal b pf).params.offs = 0 ∧ (setFromParamVal b pf).tag.offs = 0 ∧ (setFromParamVal b pf).tag.len = 0) ∨
        NnP (setFromParamVal b pf)) := by
    refine ⟨?_, ?_, setFromParamVal_vstart b pf, setFromParamVal_vend b pf, Or.inr ?_⟩
    · rw [setFromParamVal_v]; exact hlo
    · unfold NnU at hU ⊢; rw [setFromParamVal_name, setFromParamVal_uri, setFromParamVal_v]; exact hU
    · unfold NnP at hP ⊢
      rw [setFromParamVal_uri, setFromParamVal_v, setFromParamVal_params]
      rcases setFromParamVal_tag b pf with e7 | ⟨hlt, e7⟩
      · rw [e7]; exact hP
      · have := hv hlt
        rw [e7]
        simp only [PField.set, trunc16]
        omega
  rcases hst with hst | hst <;> rw [hst] <;> exact key

theorem naNameWS_nn (b : Buf) (i lo : Nat) (pf : PFromBody) (hS : NaSafe b i pf)
    (hg : pf.state = .newParam ∨ pf.state = .newPossibleParam ∨ pf.state = .paramName ∨ pf.state = .possibleParamName)
    (hI : NnInv lo pf) : NnInv lo (naNameWS pf i) := by
  have g7 := hS.tag
  unfold PField.inside at g7
  unfold NnInv at hI ⊢
  rcases hg with g | g | g | g <;> rw [g] at hI <;>
    simp only [naNameWS, g, beq_iff_eq, reduceCtorEq, ↓reduceIte]
  · exact hI
  · exact hI
  · nn_goal hI
  · nn_goal hI

/-- first byte of a parameter name: the parameter span is opened here unless it is open already -/
theorem naParam_nn (b : Buf) (i lo : Nat) (pf : PFromBody) (hfit : i < 65535) (h0 : 0 < i) (hS : NaSafe b i pf)
    (hg : pf.state = .newParam ∨ pf.state = .newPossibleParam ∨ pf.state = .paramName ∨ pf.state = .possibleParamName)
    (hI : NnInv lo pf) : NnInv lo (naParamsOffs (naParamStart pf i) i) := by
  have g6 := hS.uri
  have g9 := hS.v
  unfold PField.inside at g6 g9
  unfold NnInv at hI ⊢
  rcases hg with g | g | g | g <;> rw [g] at hI <;>
    simp only [naParamsOffs, naParamStart, g, beq_iff_eq, reduceCtorEq, ↓reduceIte] <;>
    split <;> (try rw [g]) <;> nn_goal hI

/-- white space after a parameter value (`ok`: the white space is complete and the loop goes on at `n`) -/
theorem naValWS_nn (b : Buf) (i n lo : Nat) (pf : PFromBody) (ok : Bool) (hS : NaSafe b i pf) (hin : i ≤ n)
    (hg : pf.state = .newParamVal ∨ pf.state = .newPossibleVal ∨ pf.state = .paramVal ∨ pf.state = .possibleVal)
    (hI : NnInv lo pf) : NnInv lo (naValWS pf i n ok) := by
  have g7 := hS.tag
  have g8 := hS.params.1
  unfold PField.inside at g7
  unfold NnInv at hI ⊢
  rcases hg with g | g | g | g <;> rw [g] at hI <;> simp only [naValWS, g] <;>
    (try split) <;> (try rw [g]) <;> nn_goal hI

/-- the step lemma of the nesting proof. Each transition rewrites one or two spans; the clause of the new state asks
    only for what the clause of the old state and the bounds `NaSafe` already give: a span that is set starts at the
    current position, a span that is extended ends there, and everything reported earlier ends at or before it.  So
    a case is: read the old clause, unfold the update, arithmetic (`nn_goal`); the cases with content are the white
    space after a name-or-URI (the text becomes the URI), the first byte of a parameter (the span opens) and a stored
    parameter (`nn_sfp`: the pending value lies inside the parameter span, so a tag does). -/
theorem NaTr.nn {h : Nat} {b : Buf} {i lo : Nat} {c : UInt8} {pf : PFromBody} (hfit : i < 65535) (hlo : lo ≤ i)
    (h0 : pf.state = .init ∨ 0 < i) (hS : NaSafe b i pf) (hI : NnInv lo pf)
    {i' : Nat} {st' : PFromBody} (t : NaTr h b i c pf (.cont i' st')) : NnInv lo st' := by
  have g3 := hS.vend
  have g4 := hS.s
  have g5 := hS.name
  have g8 := hS.params.1
  have g9 := hS.v
  unfold PField.inside at g5 g9
  have hI0 := hI
  unfold NnInv at hI ⊢
  cases t
  case a_lwsURI hg _ t =>
    obtain ⟨-, rfl⟩ := t.of_cont
    exact hI0.lwsURI hS (by omega) hg
  case p_lws hg _ t =>
    obtain ⟨-, rfl⟩ := t.of_cont
    exact naNameWS_nn b i lo pf hS hg hI0
  case v_lws hg _ t =>
    obtain ⟨⟨crl, hk⟩, rfl⟩ := t.of_cont
    exact naValWS_nn b i _ lo pf true hS (skipLWS_range b i 0 hk).1 hg hI0
  case p_tok hg _ _ =>
    exact naParam_nn b i lo pf hfit (h0.resolve_left fun hi => absurd hg (by rw [hi]; decide)) hS hg hI0
  case lt_name hg _ | quote_name hg _ => all_goals rcases hg with g | g | g <;> rw [g] at hI <;> nn_goal hI
  case lt_init hg _ | quote_init hg _ | semi_uri hg _ | semi_uriEnd hg _ | star_init hg _ | tok_init hg _ _
      | tok_uriEnd hg _ _ | q_close hg _ | q_closeVal hg _ | q_closePVal hg _ | u_close hg _ | uf_semi hg _
      | p_eq hg _ | p_eqP hg _ | pe_eq hg _ | pe_eqP hg _ | v_quote hg _ | v_quoteNew hg _ | v_quoteP hg _
      | v_quoteNewP hg _ | v_tokNew hg _ _ | v_tokNewP hg _ _ =>
    all_goals rw [hg] at hI; nn_goal hI
  -- a parameter is complete: a pending value `[vstart, vend)` lies inside the parameter span
  case p_semi hg _ | p_semiP hg _ =>
    all_goals
      rw [hg] at hI
      exact nn_sfp b lo _ (by first | exact Or.inl rfl | exact Or.inr rfl) hI.1 hI.2.1 hI.2.2.2.2
        fun hlt => absurd hlt (by rw [show pf.vstart = 0 from hI.2.2.1, show pf.vend = 0 from hI.2.2.2.1]; omega)
  case pe_semi hg _ | pe_semiP hg _ =>
    all_goals
      rw [hg] at hI
      exact nn_sfp b lo _ (by first | exact Or.inl rfl | exact Or.inr rfl) hI.1 hI.2.1 hI.2.2.2.2.1
        fun hlt => absurd hlt (by rw [show pf.vstart = 0 from hI.2.2.1, show pf.vend = 0 from hI.2.2.2.1]; omega)
  case v_semi hg _ | v_semiP hg _ =>
    all_goals
      rcases hg with g | g <;> rw [g] at hI <;>
        exact nn_sfp b lo _ (by first | exact Or.inl rfl | exact Or.inr rfl) hI.1 hI.2.1 hI.2.2.1
          fun _ => ⟨hI.2.2.2, by dsimp only; omega⟩
  case ve_semi hg _ | ve_semiP hg _ =>
    all_goals
      rw [hg] at hI
      exact nn_sfp b lo _ (by first | exact Or.inl rfl | exact Or.inr rfl) hI.1 hI.2.1 hI.2.2.1
        fun _ => ⟨hI.2.2.2.1, by dsimp only; omega⟩
  case a_lws _ _ t | q_lws _ _ t | uf_lws _ _ t => all_goals obtain ⟨-, rfl⟩ := t.of_cont; exact hI0
  all_goals exact hI0

theorem NaNest.fin {p : PFromBody} (h : Nat) (hN : NaNest p) :
    NaNest { p with state := .fin, soffs := 0, type := h } :=
  ⟨hN.uriL, hN.uriU, hN.nameL, hN.nameU, hN.parL, hN.tagL⟩

theorem NaNest.congr {p q : PFromBody} (hn : q.name = p.name) (hu : q.uri = p.uri) (ht : q.tag = p.tag)
    (hp : q.params = p.params) (hv : q.v = p.v) (h : NaNest p) : NaNest q := by
  obtain ⟨a1, a2, a3, a4, a5, a6⟩ := h
  refine ⟨?_, ?_, ?_, ?_, ?_, ?_⟩ <;> simp only [hn, hu, ht, hp, hv] <;> assumption

/-- a value without parameters: the head alone -/
theorem NaNest.of_head {pf : PFromBody} (hU : NnU pf) (hp : pf.params.offs = 0 ∧ pf.params.len = 0)
    (ht : pf.tag.offs = 0 ∧ pf.tag.len = 0) : NaNest pf :=
  ⟨hU.1, hU.2.2.1, hU.2.2.2, hU.2.1, Or.inl hp, Or.inl ht⟩

/-- closing a value at `e`: `r` is `pf` with the value (and the parameter span, if open) extended to `e` and
    possibly a last tag `[a, z)` stored -/
theorem nn_close (pf r : PFromBody) (e : Nat) (he : e < 65536) (hn : r.name = pf.name) (hu : r.uri = pf.uri)
    (hv : r.v = pf.v.extend e)
    (hp : (pf.params.offs = 0 ∧ r.params = pf.params) ∨ (pf.params.offs ≠ 0 ∧ r.params = pf.params.extend e))
    (ht : r.tag = pf.tag ∨
      ∃ a z, a < z ∧ z ≤ e ∧ pf.params.offs ≠ 0 ∧ pf.params.offs ≤ a ∧ r.tag = PField.set a z)
    (hU : NnU pf) (hP : (pf.params.offs = 0 ∧ pf.tag.offs = 0 ∧ pf.tag.len = 0) ∨ NnP pf)
    (hl : pf.params.len = 0) (h2 : pf.params.offs ≤ e) (h3 : pf.uri.offs + pf.uri.len ≤ e)
    (h4 : pf.tag.offs + pf.tag.len ≤ e) : NaNest r := by
  unfold NnU at hU
  unfold NnP at hP
  have hve : r.v.offs = pf.v.offs ∧ r.v.len = e - pf.v.offs := by
    rw [hv, PField.extend_offs, PField.extend_len, trunc16]; omega
  have hpe : (pf.params.offs = 0 ∧ r.params.offs = 0 ∧ r.params.len = 0) ∨
      (pf.params.offs ≠ 0 ∧ r.params.offs = pf.params.offs ∧ r.params.len = e - pf.params.offs) := by
    rcases hp with ⟨p0, hp⟩ | ⟨p0, hp⟩
    · left; rw [hp]; exact ⟨p0, p0, hl⟩
    · right; rw [hp, PField.extend_offs, PField.extend_len, trunc16]; omega
  have hte : (r.tag.offs = pf.tag.offs ∧ r.tag.len = pf.tag.len) ∨
      (pf.params.offs ≠ 0 ∧ pf.params.offs ≤ r.tag.offs ∧ r.tag.offs + r.tag.len ≤ e) := by
    rcases ht with ht | ⟨a, z, h5, h6, h7, h8, ht⟩
    · left; rw [ht]; exact ⟨rfl, rfl⟩
    · right; rw [ht]; simp only [PField.set, trunc16]; omega
  refine ⟨?_, ?_, ?_, ?_, ?_, ?_⟩
  · rw [hu]; omega
  · rw [hu]; omega
  · rw [hn]; omega
  · rw [hn, hu]; omega
  · rw [hu]; omega
  · omega

/-- what the end-of-value code of the parameter-name states reports (no value pending) -/
theorem naEOHParamName_nn (b : Buf) (pf : PFromBody) (e : Nat) (hv : pf.vstart = 0 ∧ pf.vend = 0) :
    (naEOHParamName b pf e).name = pf.name ∧ (naEOHParamName b pf e).uri = pf.uri ∧
    (naEOHParamName b pf e).tag = pf.tag ∧ (naEOHParamName b pf e).v = pf.v.extend e ∧
    ((pf.params.offs = 0 ∧ (naEOHParamName b pf e).params = pf.params) ∨
      (pf.params.offs ≠ 0 ∧ (naEOHParamName b pf e).params = pf.params.extend e)) := by
  unfold naEOHParamName
  have h1 : ∀ p : PFromBody, p.vstart = 0 → p.vend = 0 → (setFromParamVal b p).tag = p.tag := fun p h1 h2 =>
    (setFromParamVal_tag b p).resolve_right fun hh => by omega
  simp only [PFromBody.extV, PFromBody.extParams, apply_ite PFromBody.name, apply_ite PFromBody.uri,
    apply_ite PFromBody.tag, apply_ite PFromBody.v, apply_ite PFromBody.params, apply_ite PFromBody.vstart,
    apply_ite PFromBody.vend, setFromParamVal_name, setFromParamVal_uri, setFromParamVal_v, setFromParamVal_params,
    h1, hv.1, hv.2, ite_self, true_and]
  by_cases p0 : pf.params.offs = 0
  · exact Or.inl ⟨p0, by rw [if_neg (by rw [p0]; decide)]⟩
  · exact Or.inr ⟨p0, by rw [if_pos (bne_iff_ne.mpr p0)]⟩

/-- a pending parameter is stored and the value closed at `e` (the code of the value-end states at the end of
    the value; `naEOHVal` runs it with the value end set to `e`) -/
theorem sfpClose_nn (b : Buf) (pf : PFromBody) (e : Nat) :
    (((setFromParamVal b pf).extParams e).extV e).name = pf.name ∧
    (((setFromParamVal b pf).extParams e).extV e).uri = pf.uri ∧
    (((setFromParamVal b pf).extParams e).extV e).v = pf.v.extend e ∧
    (((setFromParamVal b pf).extParams e).extV e).params = pf.params.extend e ∧
    ((((setFromParamVal b pf).extParams e).extV e).tag = pf.tag ∨
      (pf.vstart < pf.vend ∧ (((setFromParamVal b pf).extParams e).extV e).tag = PField.set pf.vstart pf.vend)) := by
  simp only [PFromBody.extV, PFromBody.extParams, setFromParamVal_name, setFromParamVal_uri, setFromParamVal_v,
    setFromParamVal_params, true_and]
  exact setFromParamVal_tag b pf

/-- what the end-of-value code of the parameter-value states reports: the pending value `[vstart, e)` may
    have become the tag -/
theorem naEOHVal_nn (b : Buf) (pf : PFromBody) (e : Nat) :
    (naEOHVal b pf e).name = pf.name ∧ (naEOHVal b pf e).uri = pf.uri ∧
    (naEOHVal b pf e).v = pf.v.extend e ∧ (naEOHVal b pf e).params = pf.params.extend e ∧
    ((naEOHVal b pf e).tag = pf.tag ∨ (pf.vstart < e ∧ (naEOHVal b pf e).tag = PField.set pf.vstart e)) :=
  sfpClose_nn b { pf with vend := e } e

/-- end of the value right after `=` (empty parameter value): nothing is stored -/
theorem nn_newVal (b : Buf) (pf X : PFromBody) (e : Nat) (he : e < 65536)
    (hX : X.name = pf.name ∧ X.uri = pf.uri ∧ X.tag = pf.tag ∧ X.params = pf.params ∧ X.v = pf.v ∧ X.vstart = e)
    (hU : NnU pf) (hP : NnP pf) (hl : pf.params.len = 0) (h2 : pf.params.offs ≤ e)
    (h3 : pf.uri.offs + pf.uri.len ≤ e) (h4 : pf.tag.offs + pf.tag.len ≤ e) : NaNest (naEOHVal b X e) := by
  obtain ⟨x1, x2, x3, x4, x5, x6⟩ := hX
  obtain ⟨c1, c2, c3, c4, c5⟩ := naEOHVal_nn b X e
  refine nn_close pf _ e he (by rw [c1, x1]) (by rw [c2, x2]) (by rw [c3, x5]) (Or.inr ⟨hP.1, by rw [c4, x4]⟩)
    (Or.inl ?_) hU (Or.inr hP) hl h2 h3 h4
  rcases c5 with c5 | ⟨hlt, _⟩
  · rw [c5, x3]
  · omega

/-- **the end-of-value code produces a nested value**: `e` is the end of the value (the current position `i`, or
    the position before trailing white space), `q` the object that is then marked finished -/
theorem NaEoh.nn {b : Buf} {pf : PFromBody} {e : Nat} {q : PFromBody} (t : NaEoh b pf e (some q)) (lo i : Nat)
    (hfit : i < 65536) (hC : NaCore b i pf) (hI : NnInv lo pf) (he : e ≤ i) (hs : pf.state = .nameOrURI → pf.s ≤ e)
    (hp : pf.params.offs ≤ e) (hu : pf.uri.offs + pf.uri.len ≤ e) (ht : pf.tag.offs + pf.tag.len ≤ e)
    (hve : pf.state = .paramValEnd ∨ pf.state = .possibleValEnd → pf.vend ≤ e) :
    NaNest q ∧ lo ≤ q.v.offs := by
  have hl := hC.params.2
  have he' : e < 65536 := by omega
  unfold NnInv at hI
  cases t
  case found hg =>
    rcases hg with g | g <;> rw [g] at hI
    · obtain ⟨hlo, hU, hpo, hto, htl, _⟩ := hI
      exact ⟨.of_head hU ⟨hpo, hl⟩ ⟨hto, htl⟩, hlo⟩
    · obtain ⟨hlo, ⟨_, _, hpo, hto, htl, _⟩, _, hU⟩ := hI
      exact ⟨.of_head hU ⟨hpo, hl⟩ ⟨hto, htl⟩, hlo⟩
  case nameOrURI hg =>
    have hs' := hs hg
    rw [hg] at hI
    simp only [NnSt, NnE] at hI
    refine ⟨⟨?_, ?_, ?_, ?_, ?_, ?_⟩, ?_⟩ <;>
      simp only [PFromBody.extV, PFromBody.setURI, PField.set, PField.extend_offs, PField.extend_len, trunc16] <;> omega
  case star hg =>
    rw [hg] at hI
    simp only [NnSt, NnE] at hI
    refine ⟨⟨?_, ?_, ?_, ?_, ?_, ?_⟩, ?_⟩ <;> dsimp only <;> omega
  case paramName hg =>
    have key : lo ≤ pf.v.offs → NnU pf → pf.vstart = 0 → pf.vend = 0 →
        ((pf.params.offs = 0 ∧ pf.tag.offs = 0 ∧ pf.tag.len = 0) ∨ NnP pf) →
        NaNest (naEOHParamName b pf e) ∧ lo ≤ (naEOHParamName b pf e).v.offs := by
      intro a1 a2 a3 a4 a5
      obtain ⟨c1, c2, c3, c4, c5⟩ := naEOHParamName_nn b pf e ⟨a3, a4⟩
      exact ⟨nn_close pf _ e he' c1 c2 c4 c5 (Or.inl c3) a2 a5 hl hp hu ht,
        by rw [naEOHParamName_voffs]; exact a1⟩
    -- the clause of each of the six states: new parameter (`NnP` or nothing reported yet), end of a name (`NnP` and
    -- a bound on the tag), inside a name (`NnP`)
    rcases hg with g | g | g | g | g | g <;> rw [g] at hI
    · obtain ⟨hlo, hU, hvs, hve0, hP⟩ := hI; exact key hlo hU hvs hve0 hP
    · obtain ⟨hlo, hU, hvs, hve0, hP, _⟩ := hI; exact key hlo hU hvs hve0 (Or.inr hP)
    · obtain ⟨hlo, hU, hvs, hve0, hP⟩ := hI; exact key hlo hU hvs hve0 hP
    · obtain ⟨hlo, hU, hvs, hve0, hP, _⟩ := hI; exact key hlo hU hvs hve0 (Or.inr hP)
    · obtain ⟨hlo, hU, hvs, hve0, hP⟩ := hI; exact key hlo hU hvs hve0 (Or.inr hP)
    · obtain ⟨hlo, hU, hvs, hve0, hP⟩ := hI; exact key hlo hU hvs hve0 (Or.inr hP)
  case valEnd hg =>
    have hve' := hve hg
    have key : lo ≤ pf.v.offs → NnU pf → NnP pf → pf.params.offs ≤ pf.vstart →
        NaNest (((setFromParamVal b pf).extParams e).extV e) ∧
          lo ≤ (((setFromParamVal b pf).extParams e).extV e).v.offs := by
      intro a1 a2 a3 a4
      obtain ⟨c1, c2, c3, c4, c5⟩ := sfpClose_nn b pf e
      refine ⟨nn_close pf _ e he' c1 c2 c3 (Or.inr ⟨a3.1, c4⟩) ?_ a2 (Or.inr a3) hl hp hu ht,
        by rw [c3, PField.extend_offs]; exact a1⟩
      exact c5.imp id fun c5 => ⟨pf.vstart, pf.vend, c5.1, hve', a3.1, a4, c5.2⟩
    rcases hg with g | g <;> rw [g] at hI <;> exact key hI.1 hI.2.1 hI.2.2.1 hI.2.2.2.1
  case newVal hg =>
    have key : lo ≤ pf.v.offs → NnU pf → NnP pf →
        NaNest (naEOHVal b { pf with vstart := e } e) ∧ lo ≤ (naEOHVal b { pf with vstart := e } e).v.offs :=
      fun a1 a2 a3 => ⟨nn_newVal b pf _ e he' ⟨rfl, rfl, rfl, rfl, rfl, rfl⟩ a2 a3 hl hp hu ht,
        by rw [naEOHVal_voffs]; exact a1⟩
    rcases hg with g | g <;> rw [g] at hI <;> exact key hI.1 hI.2.1 hI.2.2.1
  case val hg =>
    have key : lo ≤ pf.v.offs → NnU pf → NnP pf → pf.params.offs ≤ pf.vstart →
        NaNest (naEOHVal b pf e) ∧ lo ≤ (naEOHVal b pf e).v.offs := by
      intro a1 a2 a3 a4
      obtain ⟨c1, c2, c3, c4, c5⟩ := naEOHVal_nn b pf e
      refine ⟨nn_close pf _ e he' c1 c2 c3 (Or.inr ⟨a3.1, c4⟩) ?_ a2 (Or.inr a3) hl hp hu ht,
        by rw [naEOHVal_voffs]; exact a1⟩
      exact c5.imp id fun c5 => ⟨pf.vstart, e, c5.1, Nat.le_refl _, a3.1, a4, c5.2⟩
    rcases hg with g | g <;> rw [g] at hI <;> exact key hI.1 hI.2.1 hI.2.2.1 hI.2.2.2

/-- what holds of a finishing step: a complete value is nested and starts at or after `lo`; after MoreBytes the
    invariant is carried on -/
def NnDone (lo : Nat) (e : Err) (st' : PFromBody) : Prop :=
  (Err.complete e → NaNest st' ∧ lo ≤ st'.v.offs) ∧ (e = .moreBytes → NnInv lo st')

theorem NnDone.err {lo : Nat} {e : Err} {st' : PFromBody} (h1 : e ≠ .ok) (h2 : e ≠ .moreValues) (h3 : e ≠ .moreBytes) :
    NnDone lo e st' :=
  ⟨(fun hc => by rcases hc with hc | hc; exact absurd hc h1; exact absurd hc h2), fun hh => absurd hh h3⟩

theorem NnInv.saveS {lo : Nat} {pf : PFromBody} (h : NnInv lo pf) : NnInv lo pf.saveS := by
  unfold NnInv at h ⊢
  show NnSt lo pf.saveS pf.state
  cases hst : pf.state <;> rw [hst] at h <;> exact h

theorem NnDone.more {lo : Nat} {st' : PFromBody} (h : NnInv lo st') : NnDone lo .moreBytes st' :=
  ⟨(fun hc => by rcases hc with hc | hc <;> cases hc), fun _ => h⟩

/-- the end-of-value code run with an explicit value end `e ≤ i` -/
theorem naEOH_nndone (h : Nat) (b : Buf) (lo : Nat) (pf : PFromBody) (i e n crl : Nat) (r : Err) (hr : r ≠ .moreBytes)
    (hfit : i < 65536) (hC : NaCore b i pf) (hI : NnInv lo pf) (he : e ≤ i) (hs : pf.state = .nameOrURI → pf.s ≤ e)
    (hp : pf.params.offs ≤ e) (hu : pf.uri.offs + pf.uri.len ≤ e) (ht : pf.tag.offs + pf.tag.len ≤ e)
    (hve : pf.state = .paramValEnd ∨ pf.state = .possibleValEnd → pf.vend ≤ e) :
    NnDone lo (naEOH h b pf e n crl r).2.1 (naEOH h b pf e n crl r).2.2 := by
  refine ⟨fun hc => ?_, fun hh => absurd hh (naEOH_ne_more h b pf e n crl r hr)⟩
  rcases naEOH_tr h b pf e n crl r with ⟨q, t, hq⟩ | hq <;> rw [hq] at hc ⊢
  · cases q with
    | none => rcases hc with hc | hc <;> cases hc
    | some q =>
      have := t.nn lo i hfit hC hI he hs hp hu ht hve
      exact ⟨this.1.fin h, by rw [naEohRes_v]; exact this.2⟩
  · rcases hc with hc | hc <;> cases hc

/-- … with the value ending at the current position -/
theorem naEOH_nndone_at (h : Nat) (b : Buf) (lo : Nat) (pf : PFromBody) (i n crl : Nat) (r : Err) (hr : r ≠ .moreBytes)
    (hfit : i < 65536) (hS : NaSafe b i pf) (hI : NnInv lo pf) :
    NnDone lo (naEOH h b pf i n crl r).2.1 (naEOH h b pf i n crl r).2.2 :=
  naEOH_nndone h b lo pf i i n crl r hr hfit hS.toNaCore hI (Nat.le_refl _) (fun _ => hS.s) hS.params.1 hS.uri
    hS.tag (fun _ => hS.vend)

/-- the exits of a white-space site; `pe` is the object that reaches the end of the header, `pm` the one saved
    when the white space is not yet complete -/
theorem NaLws.nndone {h : Nat} {b : Buf} {i lo : Nat} {om : Nat → Nat} {pm : PFromBody} {pk : Nat → PFromBody}
    {pe : PFromBody} {o : Nat} {e : Err} {st' : PFromBody} (t : NaLws h b i om pm pk pe (.done o e st'))
    (hfit : i < 65536) (hE : NaSafe b i pe) (hEI : NnInv lo pe) (hM : NnInv lo pm) : NnDone lo e st' := by
  cases t
  case eoh n crl hk => exact naEOH_nndone_at h b lo pe i n crl .ok (by decide) hfit hE hEI
  case more => exact NnDone.more hM.saveS

theorem NaTr.nndone {h : Nat} {b : Buf} {i lo : Nat} {c : UInt8} {pf : PFromBody} (hfit : i < 65535)
    (hS : NaSafe b i pf) (hI : NnInv lo pf) {o : Nat} {e : Err} {st' : PFromBody}
    (t : NaTr h b i c pf (.done o e st')) : NnDone lo e st' := by
  have hfit' : i < 65536 := by omega
  cases t
  case a_lwsURI hg _ t => exact t.nndone hfit' hS.lwsURI (hI.lwsURI hS hfit' hg) (hI.lwsURI hS hfit' hg)
  case a_lws _ _ t | q_lws _ _ t | uf_lws _ _ t => all_goals exact t.nndone hfit' hS hI hI
  case p_lws hg _ t =>
    exact t.nndone hfit' (naNameWS_safe b i i pf hS (Nat.le_refl _) hS.hi) (naNameWS_nn b i lo pf hS hg hI) hI
  case v_lws hg _ t =>
    exact t.nndone hfit' (naValWS_safe b i i pf false hS (Nat.le_refl _) hS.hi)
      (naValWS_nn b i i lo pf false hS (Nat.le_refl _) hg hI) hI
  case comma => exact naEOH_nndone_at h b lo pf i i 1 .moreValues (by decide) hfit' hS hI
  -- `,` after white space: the value ends at the saved end of the parameter name / value, before the white space
  case commaWS ev hg _ _ =>
    unfold NnInv at hI
    rcases hg with ⟨hg, rfl⟩ | ⟨hg, rfl⟩
    · have hE := hS.endP hg
      have hK : pf.uri.offs + pf.uri.len ≤ pf.pend ∧ pf.tag.offs + pf.tag.len ≤ pf.pend := by
        rcases hg with g | g <;> rw [g] at hI <;> simp only [NnSt, NnP] at hI <;> omega
      exact naEOH_nndone h b lo pf i pf.pend i 1 .moreValues (by decide) hfit' hS.toNaCore hI hS.pend
        (fun hh => absurd hg (by rw [hh]; decide)) hE.2 hK.1 hK.2 (fun hh => absurd hg (by
          rcases hh with hh | hh <;> rw [hh] <;> decide))
    · have hE := hS.endV hg
      have hK : pf.uri.offs + pf.uri.len ≤ pf.vend ∧ pf.tag.offs + pf.tag.len ≤ pf.vend := by
        rcases hg with g | g <;> rw [g] at hI <;> simp only [NnSt, NnP] at hI <;> omega
      exact naEOH_nndone h b lo pf i pf.vend i 1 .moreValues (by decide) hfit' hS.toNaCore hI hS.vend
        (fun hh => absurd hg (by rw [hh]; decide)) hE.2 hK.1 hK.2 (fun _ => Nat.le_refl _)
  case q_escMore => exact NnDone.more hI.saveS
  all_goals exact NnDone.err (by decide) (by decide) (by decide)

theorem NnInv.soffs {lo : Nat} {pf : PFromBody} (k : Nat) (h : NnInv lo pf) : NnInv lo { pf with soffs := k } := by
  unfold NnInv at h ⊢
  show NnSt lo { pf with soffs := k } pf.state
  cases hst : pf.state <;> rw [hst] at h <;> exact h

theorem NaTr.more {h : Nat} {b : Buf} {i : Nat} {c : UInt8} {pf : PFromBody} {o : Nat} {e : Err} {st' : PFromBody}
    (t : NaTr h b i c pf (.done o e st')) (he : e = .moreBytes) :
    (pf.state = .init → st'.state = .init) ∧ i ≤ o := by
  cases t
  case a_lwsURI hg _ t =>
    obtain ⟨n, crl, hk, rfl, rfl⟩ := t.of_more he
    exact ⟨fun hi => absurd hg (by rw [hi]; decide), (skipLWS_range b i 0 hk).1⟩
  case a_lws _ _ t | q_lws _ _ t | uf_lws _ _ t =>
    all_goals obtain ⟨n, crl, hk, rfl, rfl⟩ := t.of_more he; exact ⟨id, (skipLWS_range b i 0 hk).1⟩
  case p_lws _ _ t | v_lws _ _ t =>
    all_goals obtain ⟨n, crl, hk, rfl, rfl⟩ := t.of_more he; exact ⟨id, Nat.le_refl _⟩
  case q_escMore => exact ⟨id, Nat.le_refl _⟩
  case comma => exact absurd he (naEOH_ne_more h b pf i i 1 .moreValues (by decide))
  case commaWS ev _ _ _ => exact absurd he (naEOH_ne_more h b pf ev i 1 .moreValues (by decide))
  all_goals cases he

/-- a suspended run that has left the initial state has consumed at least one byte: the returned offset is
    positive -/
theorem na_more_pos (h : Nat) (b : Buf) (i : Nat) (pf : PFromBody) (h0 : pf.state = .init ∨ 0 < i)
    {o : Nat} {st' : PFromBody} (hr : runLoop (naMachine h) b i pf = (o, Err.moreBytes, st')) :
    st'.state = .init ∨ 0 < o := by
  have key := na_runLoop_tr h b (fun j st => st.state = .init ∨ 0 < j)
    (fun r => r.2.1 = .moreBytes → (r.2.2.state = .init ∨ 0 < r.1))
    (fun j c st j' st' _ hlt _ _ => Or.inr (by omega))
    (fun j c st o2 e2 st2 _ hP t hq => hP.imp (t.more hq).1 fun hP => Nat.lt_of_lt_of_le hP (t.more hq).2)
    (fun j st hP _ => hP) i pf h0
  rw [hr] at key
  exact key rfl

/-- what a caller may pass to have the nesting theorem: an object that is new, or was returned with MoreBytes by
    an earlier call of the same value parse (which started at `lo`), at an offset `o ≥ lo` -/
def NnEntry (b : Buf) (o lo : Nat) (pf : PFromBody) : Prop :=
  lo ≤ o ∧ pf.state ≠ .fin ∧ (pf.state = .init ∨ 0 < o) ∧
  NaSafe b o { pf with s := pf.soffs, soffs := 0 } ∧ NnInv lo { pf with s := pf.soffs, soffs := 0 }

theorem NnEntry_new (b : Buf) (o : Nat) (ho : o ≤ b.size) : NnEntry b o o {} := by
  refine ⟨Nat.le_refl _, by decide, Or.inl rfl, ?_, ?_⟩
  · rcases NaEntry_new b o ho with hE | hE
    · exact absurd hE.1 (by decide)
    · exact hE.2
  · unfold NnInv
    show NnSt o _ FBState.init
    simp only [NnSt, NnE]
    decide

/-- the entry condition does not depend on the bytes, only on the buffer being long enough -/
theorem NnEntry.grow {b b' : Buf} {o lo : Nat} {pf : PFromBody} (h : NnEntry b o lo pf) (hb : o ≤ b'.size) :
    NnEntry b' o lo pf := by
  obtain ⟨h1, h2, h3, h4, h5⟩ := h
  exact ⟨h1, h2, h3, ⟨⟨hb, h4.pend, h4.vend, h4.s, h4.name, h4.uri, h4.tag, h4.params, h4.v, h4.pnc⟩, h4.endP, h4.endV⟩, h5⟩

/-- **nesting theorem for ParseNameAddrPVal** (any header kind; buffers within the 65,535-byte limit): a parse of one
    value that started at `lo` on a new object — in one call, or continued over the objects returned with MoreBytes —
    and ends with OK or MoreValues leaves a value whose sub-fields are nested and ordered (`NaNest`) and which
    starts at or after `lo`; after MoreBytes the object is again a legitimate argument at the returned offset. -/
theorem parseNameAddrPVal_nest (h : Nat) (b : Buf) (o lo : Nat) (pf : PFromBody) (hfit : b.size ≤ 65535)
    (hE : NnEntry b o lo pf) {o' : Nat} {e : Err} {pf' : PFromBody}
    (hr : parseNameAddrPVal h b o pf = (o', e, pf')) :
    (Err.complete e → NaNest pf' ∧ lo ≤ pf'.v.offs) ∧ (e = .moreBytes → NnEntry b o' lo pf') := by
  obtain ⟨hlo, hnf, hpos, hS, hI⟩ := hE
  have hsafe := parseNameAddrPVal_safe h b o pf (Or.inr ⟨hnf, hS⟩) hr
  have hok : naOK b o pf := Or.inr ⟨hS.hi, hS.pend, hS.vend⟩
  obtain ⟨p1, hrl, rfl⟩ := parseNameAddrPVal_run hnf hr
  have key := na_runLoop_tr h b
    (fun i st => lo ≤ i ∧ (st.state = .init ∨ 0 < i) ∧ NaSafe b i st ∧ NnInv lo st)
    (fun r => NnDone lo r.2.1 r.2.2)
    (fun i c st i' st' hb hlt hP t =>
      have hfit' : i < 65535 := by have := get?_lt hb; omega
      ⟨Nat.le_trans hP.1 (Nat.le_of_lt hlt), Or.inr (by omega), t.safe hb hP.2.2.1,
        t.nn hfit' hP.1 hP.2.1 hP.2.2.1 hP.2.2.2⟩)
    (fun i c st o1 e1 st1 hb hP t => t.nndone (by have := get?_lt hb; omega) hP.2.2.1 hP.2.2.2)
    (fun i st hP => NnDone.more hP.2.2.2.saveS)
    o { pf with s := pf.soffs, soffs := 0 } ⟨hlo, hpos, hS, hI⟩
  rw [hrl] at key
  refine ⟨fun hc => ?_, fun hm => ?_⟩
  · have hk := key.1 hc
    have hx : naExit pf.soffs e p1 = { p1 with s := 0 } := by
      unfold naExit
      rcases hc with hc | hc <;> rw [hc] <;> rfl
    rw [hx]
    exact ⟨NaNest.congr (p := p1) rfl rfl rfl rfl rfl hk.1, hk.2⟩
  · subst hm
    have hk := key.2 rfl
    have hI2 : naInv2 b o { pf with s := pf.soffs, soffs := 0 } := ⟨⟨hS.hi, hS.pend, hS.vend⟩, rfl⟩
    have hmi := (na_more h b o _ hI2 hnf hrl).2
    have hps := na_more_pos h b o { pf with s := pf.soffs, soffs := 0 } hpos hrl
    have hrg := parseNameAddrPVal_more_range h b o pf hok hr
    have hEn := hsafe.2 rfl
    have hx : ({ naExit pf.soffs Err.moreBytes p1 with s := (naExit pf.soffs Err.moreBytes p1).soffs, soffs := 0 } : PFromBody) =
        { p1 with soffs := 0 } := by
      show ({ p1 with s := p1.soffs, soffs := 0 } : PFromBody) = { p1 with soffs := 0 }
      rw [hmi.2.2]
    refine ⟨by omega, hmi.2.1, hps, ?_, ?_⟩
    · rcases hEn with hEn | hEn
      · exact absurd hEn.1 hmi.2.1
      · exact hEn.2
    · rw [hx]; exact hk.soffs 0

theorem nn_unset {f : PField} (h : f.offs = 0 ∧ f.len = 0) : f = {} := by
  rcases f with ⟨a, l⟩
  obtain ⟨h1, h2⟩ := h
  simp only at h1 h2
  subst h1; subst h2; rfl

/-- **`NaNest`, spelled out** (a field `[offs, offs+len)`; an unset field is `{}` = `⟨0,0⟩`):
    * the URI lies inside the value;
    * the display name, if reported, starts inside the value and ends at or before the start of the URI;
    * the parameter span, if reported, starts at or after the end of the URI, inside the value, and ends exactly
      where the value ends;
    * the tag, if reported, lies inside the parameter span (which is then reported), hence inside the value. -/
theorem NaNest.meaning {pf : PFromBody} (h : NaNest pf) :
    (pf.v.offs ≤ pf.uri.offs ∧ pf.uri.offs + pf.uri.len ≤ pf.v.offs + pf.v.len) ∧
    (pf.name = {} ∨
      (pf.v.offs ≤ pf.name.offs ∧ pf.name.offs + pf.name.len ≤ pf.uri.offs ∧
       pf.name.offs + pf.name.len ≤ pf.v.offs + pf.v.len)) ∧
    (pf.params = {} ∨
      (pf.v.offs ≤ pf.params.offs ∧ pf.uri.offs + pf.uri.len ≤ pf.params.offs ∧
       pf.params.offs + pf.params.len = pf.v.offs + pf.v.len)) ∧
    (pf.tag = {} ∨
      (pf.params ≠ {} ∧ pf.params.offs ≤ pf.tag.offs ∧
       pf.tag.offs + pf.tag.len ≤ pf.params.offs + pf.params.len ∧
       pf.v.offs ≤ pf.tag.offs ∧ pf.tag.offs + pf.tag.len ≤ pf.v.offs + pf.v.len)) := by
  obtain ⟨a1, a2, a3, a4, a5, a6⟩ := h
  refine ⟨⟨a1, a2⟩, ?_, ?_, ?_⟩
  · rcases a3 with a3 | a3
    · exact Or.inl (nn_unset a3)
    · exact Or.inr ⟨a3, a4, by omega⟩
  · rcases a5 with a5 | a5
    · exact Or.inl (nn_unset a5)
    · exact Or.inr ⟨by omega, a5.1, a5.2⟩
  · rcases a6 with a6 | a6
    · exact Or.inl (nn_unset a6)
    · refine Or.inr ⟨?_, a6.2.1, a6.2.2, ?_, ?_⟩
      · intro hp
        have : pf.params.offs = 0 := by rw [hp]
        exact a6.1 this
      · rcases a5 with a5 | a5 <;> omega
      · rcases a5 with a5 | a5 <;> omega

theorem parseNameAddrPVal_nest_new (h : Nat) (b : Buf) (o : Nat) (hfit : b.size ≤ 65535) (ho : o ≤ b.size)
    {o' : Nat} {e : Err} {pf' : PFromBody} (hr : parseNameAddrPVal h b o {} = (o', e, pf'))
    (hc : Err.complete e) : NaNest pf' ∧ o ≤ pf'.v.offs :=
  (parseNameAddrPVal_nest h b o o {} hfit (NnEntry_new b o ho) hr).1 hc

/-- test input: quoted display name with an escaped quote, URI with its own parameter, three header parameters
    (the tag in the middle), parsed from offset 2 -/
def nnExBuf : Buf := "xx\"Bob \\\" x\" <sip:a@b;x=y>;a=b;tag=xyz;c\r\n\r\n".toUTF8.data

example : (parseNameAddrPVal HdrFrom nnExBuf 2 {}).2.1 = Err.ok := by decide +kernel
example : (parseNameAddrPVal HdrFrom nnExBuf 2 {}).2.2.name = ⟨2, 11⟩ ∧
    (parseNameAddrPVal HdrFrom nnExBuf 2 {}).2.2.uri = ⟨14, 11⟩ ∧
    (parseNameAddrPVal HdrFrom nnExBuf 2 {}).2.2.params = ⟨27, 13⟩ ∧
    (parseNameAddrPVal HdrFrom nnExBuf 2 {}).2.2.tag = ⟨35, 3⟩ ∧
    (parseNameAddrPVal HdrFrom nnExBuf 2 {}).2.2.v = ⟨2, 38⟩ := by decide +kernel

/-- the theorem applies to it (its hypotheses are satisfiable on a non-trivial input) -/
example : NaNest (parseNameAddrPVal HdrFrom nnExBuf 2 {}).2.2 :=
  (parseNameAddrPVal_nest_new HdrFrom nnExBuf 2 (by decide +kernel) (by decide +kernel) rfl
    (Or.inl (by decide +kernel))).1

/-- test: a bare URI with parameters after white space, closed by a comma (MoreValues) -/
example : (parseNameAddrPVal HdrContact "sip:a@b ;tag=1 , <sip:c>\r\n\r\n".toUTF8.data 0 {}).2.1 = Err.moreValues ∧
    (parseNameAddrPVal HdrContact "sip:a@b ;tag=1 , <sip:c>\r\n\r\n".toUTF8.data 0 {}).2.2.params = ⟨9, 5⟩ ∧
    (parseNameAddrPVal HdrContact "sip:a@b ;tag=1 , <sip:c>\r\n\r\n".toUTF8.data 0 {}).2.2.tag = ⟨13, 1⟩ ∧
    (parseNameAddrPVal HdrContact "sip:a@b ;tag=1 , <sip:c>\r\n\r\n".toUTF8.data 0 {}).2.2.v = ⟨0, 14⟩ := by
  decide +kernel

/-- test (behaviour of the code, not a theorem about trimming): after `;tag=` + white space + "," the value and the
    parameter span run up to the comma, i.e. include the white space (byte 18); the empty second `tag` keeps the first -/
example : (parseNameAddrPVal HdrContact "sip:a@b;tag=1;tag= ,x\r\n\r\n".toUTF8.data 0 {}).2.1 = Err.moreValues ∧
    (parseNameAddrPVal HdrContact "sip:a@b;tag=1;tag= ,x\r\n\r\n".toUTF8.data 0 {}).2.2.v = ⟨0, 19⟩ ∧
    (parseNameAddrPVal HdrContact "sip:a@b;tag=1;tag= ,x\r\n\r\n".toUTF8.data 0 {}).2.2.params = ⟨8, 11⟩ ∧
    (parseNameAddrPVal HdrContact "sip:a@b;tag=1;tag= ,x\r\n\r\n".toUTF8.data 0 {}).2.2.tag = ⟨12, 1⟩ := by
  decide +kernel

/-- test: `*` — the URI field is the value itself -/
example : (parseNameAddrPVal HdrContact " * \r\n\r\n".toUTF8.data 0 {}).2.1 = Err.ok ∧
    (parseNameAddrPVal HdrContact " * \r\n\r\n".toUTF8.data 0 {}).2.2.uri = ⟨1, 1⟩ ∧
    (parseNameAddrPVal HdrContact " * \r\n\r\n".toUTF8.data 0 {}).2.2.v = ⟨1, 1⟩ := by decide +kernel


def CtNn (c : PContacts) : Prop := ∀ k, k < c.n → k < c.vals.size → NaNest c.vals[k]!

def PaNn (c : PPAIs) : Prop := ∀ k, k < c.n → k < c.vals.size → NaNest c.vals[k]!

/-- **nesting of the name-addr header values of a message**: From and To are untouched (`{}`: no such header yet) or
    finished and nested (`NaNest`); every stored Contact and P-Asserted-Identity value is nested -/
structure HvNn (hv : PHdrVals) : Prop where
  from_ : hv.from_ = {} ∨ (hv.from_.state = .fin ∧ NaNest hv.from_)
  to : hv.to = {} ∨ (hv.to.state = .fin ∧ NaNest hv.to)
  ct : CtNn hv.contacts
  pa : PaNn hv.pais

/-- nesting, as a property of the values ParseNameAddrPVal completes from a new object -/
theorem nn_valProp (b : Buf) (hfit : b.size ≤ 65535) : HxValProp2 b fun _ pf => NaNest pf :=
  fun h o _ _ _ hp hc =>
    (parseNameAddrPVal_nest_new h b o hfit (by have := (parseNameAddrPVal_post h b o {} hp hc).2 (by decide); omega) hp hc).1

theorem HvNn_iff (hv : PHdrVals) : HvNn hv ↔ HxVals (fun _ pf => NaNest pf) hv := by
  have hf : ∀ pf : PFromBody, pf.state = .fin ↔ pf.parsed = true := fun pf => by
    unfold PFromBody.parsed; exact beq_iff_eq.symm
  constructor
  · intro ⟨a, c, d, e⟩
    exact ⟨a.imp id fun q => ⟨(hf _).1 q.1, q.2⟩, c.imp id fun q => ⟨(hf _).1 q.1, q.2⟩,
      fun i _ h1 h2 => Or.inl (d i h1 h2), fun i _ h1 h2 => Or.inl (e i h1 h2)⟩
  · intro ⟨a, c, d, e⟩
    exact ⟨a.imp id fun q => ⟨(hf _).2 q.1, q.2⟩, c.imp id fun q => ⟨(hf _).2 q.1, q.2⟩,
      fun i h1 h2 => (d i (Nat.zero_le _) h1 h2).elim id id, fun i h1 h2 => (e i (Nat.zero_le _) h1 h2).elim id id⟩

/-- **message, one call from the initial state** (same hypotheses as `parseSIPMsg_lo`): after a successful
    ParseSIPMsg the From and To values (if such headers were seen) and every stored Contact and
    P-Asserted-Identity value are nested -/
theorem parseSIPMsg_nn (b : Buf) (o : Nat) (m : PSIPMsg) (flags : Nat) (hfit : b.size ≤ 65535)
    (hok : msgOK2 b o m) (H : MsgSafe b o m) (hst : m.state = .init) (hcur : m.hl.cur = {}) (L : MsgLo o m)
    (G : HvNn m.pv) {o' : Nat} {m' : PSIPMsg} (hr : parseSIPMsg b o m flags = (o', .ok, m')) : HvNn m'.pv :=
  (HvNn_iff _).2 (hx_msg_vals (nn_valProp b hfit) hfit o m flags hok H hst hcur ((HvNn_iff _).1 G) hr)

/-- **message, one call on an object produced by Init** (any previous contents, caller arrays of any capacity or
    none; buffers within the 65,535-byte limit) -/
theorem parseSIPMsg_nn_init (b : Buf) (o : Nat) (m0 : PSIPMsg) (len kh kc : Nat) (hdrs cts : Option Unit) (flags : Nat)
    (hfit : b.size ≤ 65535) (ho : o ≤ b.size) {o' : Nat} {m' : PSIPMsg}
    (hr : parseSIPMsg b o (m0.init len (hdrs.map fun _ => Array.replicate kh {}) (cts.map fun _ => Array.replicate kc {}))
      flags = (o', .ok, m')) : HvNn m'.pv :=
  (HvNn_iff _).2 (hx_msg_vals_init b o m0 len kh kc hdrs cts flags (nn_valProp b hfit) hfit ho hr)

/-- **message, under every chunk schedule, from Init**: if the chain of resumed calls over growing prefixes ends
    with OK, the name-addr header values of the final object are nested -/
theorem parseSIPMsg_nn_schedule_init (flags : Nat) (o : Nat) (m0 : PSIPMsg) (len kh kc : Nat) (hdrs cts : Option Unit)
    (l : List Buf) (hg : Growing l) (hfit : ∀ x ∈ l, x.size ≤ 65535) (hne : l ≠ []) (ho : ∀ b ∈ l, o ≤ b.size)
    {o' : Nat} {m' : PSIPMsg}
    (hr : resumeRun (C01.msgP flags) o
      (m0.init len (hdrs.map fun _ => Array.replicate kh {}) (cts.map fun _ => Array.replicate kc {})) l = (o', .ok, m')) :
    HvNn m'.pv := by
  obtain ⟨b, hb, h⟩ := flo_schedule_init flags o m0 len kh kc hdrs cts l hg hfit hne ho hr
  exact parseSIPMsg_nn_init b o m0 len kh kc hdrs cts flags (hfit b hb) (ho b hb) h

/-- **`HvNn`, spelled out** with `NaNest.meaning`: for From, To (unless untouched) and each stored Contact /
    P-Asserted-Identity value `p`: URI inside `p.v`; display name (if any) inside `p.v` and before the URI; parameter
    span (if any) after the URI, inside `p.v`, ending where `p.v` ends; tag (if any) inside the parameter span -/
theorem HvNn.meaning {hv : PHdrVals} (h : HvNn hv) :
    (hv.from_ = {} ∨ NaNest hv.from_) ∧ (hv.to = {} ∨ NaNest hv.to) ∧
    (∀ k, k < hv.contacts.n → k < hv.contacts.vals.size → NaNest hv.contacts.vals[k]!) ∧
    (∀ k, k < hv.pais.n → k < hv.pais.vals.size → NaNest hv.pais.vals[k]!) :=
  ⟨h.from_.imp id (fun q => q.2), h.to.imp id (fun q => q.2), h.ct, h.pa⟩

/-- test message, parsed from offset 2: quoted display name with an escaped quote, URI parameter, three From
    parameters (tag in the middle), bare-URI To with a parameter after white space, a Contact line with two values,
    one identity -/
def nnExMsg : Buf := "xxINVITE sip:a@b SIP/2.0\r\nFrom: \"A \\\" b\" <sip:a@b;x=1>;p=q;tag=1a;z\r\nTo: sip:c@d ;tag=zz\r\nCall-ID: x\r\nCSeq: 1 INVITE\r\nContact: <sip:u@h>;expires=5 , \"N\" <sip:v@h>;q=0.5\r\nP-Asserted-Identity: <sip:i@h>\r\nContent-Length: 0\r\n\r\n".toUTF8.data

/-- the run on the test message, evaluated once -/
theorem nnExMsg_run : (parseSIPMsg nnExMsg 2 C01.exInit 0).2.1 = Err.ok ∧
    (parseSIPMsg nnExMsg 2 C01.exInit 0).2.2.pv.contacts.n = 2 ∧
    (parseSIPMsg nnExMsg 2 C01.exInit 0).2.2.pv.pais.n = 1 ∧
    (parseSIPMsg nnExMsg 2 C01.exInit 0).2.2.pv.from_.v = ⟨32, 35⟩ ∧
    (parseSIPMsg nnExMsg 2 C01.exInit 0).2.2.pv.from_.params = ⟨55, 12⟩ ∧
    (parseSIPMsg nnExMsg 2 C01.exInit 0).2.2.pv.from_.tag = ⟨63, 2⟩ := by decide +kernel

example : (parseSIPMsg nnExMsg 2 C01.exInit 0).2.1 = Err.ok ∧
    (parseSIPMsg nnExMsg 2 C01.exInit 0).2.2.pv.contacts.n = 2 ∧
    (parseSIPMsg nnExMsg 2 C01.exInit 0).2.2.pv.pais.n = 1 ∧
    (parseSIPMsg nnExMsg 2 C01.exInit 0).2.2.pv.from_.v = ⟨32, 35⟩ ∧
    (parseSIPMsg nnExMsg 2 C01.exInit 0).2.2.pv.from_.params = ⟨55, 12⟩ ∧
    (parseSIPMsg nnExMsg 2 C01.exInit 0).2.2.pv.from_.tag = ⟨63, 2⟩ := nnExMsg_run

/-- the hypotheses of `parseSIPMsg_nn_init` are met by this message -/
example : HvNn (parseSIPMsg nnExMsg 2 C01.exInit 0).2.2.pv := by
  have hv := nnExMsg_run.1
  rcases hr : parseSIPMsg nnExMsg 2 C01.exInit 0 with ⟨o', e, m'⟩
  rw [hr] at hv
  cases hv
  exact parseSIPMsg_nn_init nnExMsg 2 {} 0 0 0 none none 0 (by decide +kernel) (by decide +kernel) hr

end Sipsp
