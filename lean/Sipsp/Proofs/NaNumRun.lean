/-
  Sipsp.Proofs.NaNumRun — property C10 at run level for the Contact `expires` and `q` parameters
  (ParseNameAddrPVal): every number reported after a whole name-addr parse is the exact (or saturated) value of a
  parameter text of the consumed input; never a wrapped or truncated number.  Soundness direction, ANY input (no
  grammar assumption, any verdict), one call on a new object and resumed calls.

  How the model (and the Go code) converts a parameter value: nothing is accumulated byte by byte.  The automaton only
  records the four work offsets `pstart, pend, vstart, vend`; when a parameter ends (at `;`, at the `,` that ends the
  value, or at the end of the header) it calls `setFromParamVal`, which slices name and value out of the buffer and
  converts the value text with `pUInt64Val` (`setExpires`, `setQ`).

  The loop invariant `NrInv`: the numeric fields (`NrNum`: HasExpires, Expires, Q, ParamErr, ErrOffs) are the fold
  `nrAll` of `nrEffect` — what `setFromParamVal` does to them, reading nothing else (`nr_sfp_num`) — over a list of
  recorded parameter spans (`NrSpanOk`: a name, optionally a value, and between the two white space, one `=`, white
  space: `NrGap`), and the four work offsets are what the automaton state says (`nrPend`).  Every transition of the loop
  body keeps it (`NaTr.nr`), so every returned object satisfies it, after one call and after resumed calls (`nr_parse`,
  `nr_parse_resume`).  Read off the fold: the last `expires` span decides (`NrOut.expires`; `nr_setExpires_any` of
  Num.lean for ANY value text: Expires = min (value of the LEADING DIGITS) (2^32-1)); the last `q` span with an accepted
  text decides, and a rejected text sets the parameter error (`NrOut.q`, `NrOut.q_flag`; `NrQOk` are the accepted shapes
  with their value, `nr_setQ_cases` is `setQ` on ANY text).

  What the statements do NOT say (model behaviour, same in the Go code, see the tests at the end of the file):
  * the `expires` value text need not consist of digits: `expires=12abc` is reported as set with value 12 and nothing
    is flagged, `expires=abc` and `expires="12"` give 0 — hence "leading digits";
  * the accepted `q` shapes are wider than `0[.ddd]` / `1[.000]`: empty integer part (`.5`, `.`), leading zeros
    (`00000001` = 1000);
  * there is no "q is set" flag in the object: "unset" means Q keeps its previous value;
  * the gap claim `NrGap` between name and value is made for header kinds with comma-separated values (Contact …):
    in From / To the automaton skips commas in front of an unquoted value (`;tag=,abc` gives the tag `abc`);
  * NOT proved here: that every `expires` / `q` parameter of the text is among the recorded spans (completeness: that is
    the grammar-level theorem of C09, Proofs/NameAddrSpec), nor what the bytes of the name / value spans are beyond
    their position and the gap.
-/
import Sipsp.Proofs.NameAddrSpec2
import Sipsp.Proofs.NaTrans

namespace Sipsp

/-- splits a conjunction of (in)equalities, white-space runs and gaps and closes each part; `h5` is the (simplified)
    `nrPend` fact of the object before the step -/
macro "nr_arith" h5:ident : tactic =>
  `(tactic| ((repeat' apply And.intro) <;>
      first
        | trivial
        | omega
        | assumption
        | exact nr_run_empty _ _ _
        | (simp only [$h5:ident]; done)
        | exact nr_gap_eq (nr_run_empty _ _ _) (Nat.le_refl _) (by assumption) (by assumption)
        | exact nr_gap_eq (by simp only [$h5:ident]) (by omega) (by assumption) (by assumption)
        | (refine NrGap.extend ?_ (by assumption) (by omega); simp only [$h5:ident]; done)))

/-- closes `NrInv … pf'` for an explicitly updated object from the destructured invariant of `pf` (`h5`, its `nrPend`
    fact, already simplified with the state equation `g`; `h6` its `NrAcc` fact) -/
macro "nr_close" g:ident h5:ident h6:ident : tactic =>
  `(tactic| (refine ⟨?_, ?_, ?_, ?_, ?_, NrAcc.mono $h6 (by omega)⟩
             · omega
             · omega
             · first | omega | (dsimp only [PFromBody.setURI, PFromBody.setName, PFromBody.setV, PFromBody.extV,
                 PFromBody.extParams, PFromBody.resetUPT]; omega)
             · first | omega | (dsimp only [PFromBody.setURI, PFromBody.setName, PFromBody.setV, PFromBody.extV,
                 PFromBody.extParams, PFromBody.resetUPT]; omega)
             · (simp only [nrPend, nrGapM, nrEqM, $g:ident, PFromBody.setURI, PFromBody.setName, PFromBody.setV, PFromBody.extV,
                 PFromBody.extParams, PFromBody.resetUPT]; nr_arith $h5)))


/-! ### the numeric fields and the effect of one parameter on them -/

/-- the fields of the object that the `expires` and `q` parameters may change -/
structure NrNum where
  hasExpires : Bool := false
  expires : Nat := 0
  q : Nat := 0
  paramErr : Err := .ok
  errOffs : Nat := 0
  deriving DecidableEq, Repr, Inhabited

def PFromBody.nrNum (pf : PFromBody) : NrNum := ⟨pf.hasExpires, pf.expires, pf.q, pf.paramErr, pf.errOffs⟩

/-- an otherwise empty object carrying the numeric fields and the value offsets (all that `setQ` reads) -/
def nrOfNum (m : NrNum) (vs ve : Nat) : PFromBody :=
  { hasExpires := m.hasExpires, expires := m.expires, q := m.q, paramErr := m.paramErr, errOffs := m.errOffs, vstart := vs, vend := ve }

/-- the `q` branch of `setFromParamVal` on the numeric fields (characterised by `nr_setQ_cases`) -/
def nrSetQ (m : NrNum) (vs ve : Nat) (val : List UInt8) : NrNum := (setQ (nrOfNum m vs ve) val).nrNum

/-- what a parameter with name `[ps, pe)` and value `[vs, ve)` does to the numeric fields -/
def nrEffect (b : Buf) (ps pe vs ve : Nat) (m : NrNum) : NrNum :=
  if ps < pe ∧ vs < ve then
    if cmpEqL (b.extract ps pe) sExpires then
      { m with hasExpires := true, expires := min (decOf (nrDigPre (b.extract vs ve).toList)) 4294967295 }
    else if cmpEqL (b.extract ps pe) sQ then nrSetQ m vs ve (b.extract vs ve).toList
    else m
  else if ps < pe ∧ vs = ve then m
  else { m with paramErr := .valBad, errOffs := trunc16 vs }

/-- the four things `nrEffect` does: an `expires` parameter with a value sets the two expires fields; a `q` parameter
    with a value goes through `nrSetQ`; any other parameter with a value, and any parameter without one, changes
    nothing; an empty name, or a value range the wrong way round, sets the parameter error -/
theorem nrEffect_cases (b : Buf) (ps pe vs ve : Nat) (m : NrNum) :
    (ps < pe ∧ vs < ve ∧ cmpEqL (b.extract ps pe) sExpires = true ∧ nrEffect b ps pe vs ve m =
      { m with hasExpires := true, expires := min (decOf (nrDigPre (b.extract vs ve).toList)) 4294967295 }) ∨
    (ps < pe ∧ vs < ve ∧ cmpEqL (b.extract ps pe) sQ = true ∧
      nrEffect b ps pe vs ve m = nrSetQ m vs ve (b.extract vs ve).toList) ∨
    nrEffect b ps pe vs ve m = m ∨
    (¬ (ps < pe ∧ vs < ve) ∧ ¬ (ps < pe ∧ vs = ve) ∧
      nrEffect b ps pe vs ve m = { m with paramErr := .valBad, errOffs := trunc16 vs }) := by
  unfold nrEffect
  split
  · rename_i hc
    split
    · rename_i hn; exact Or.inl ⟨hc.1, hc.2, hn, rfl⟩
    · split
      · rename_i hn; exact Or.inr (Or.inl ⟨hc.1, hc.2, hn, rfl⟩)
      · exact Or.inr (Or.inr (Or.inl rfl))
  · rename_i hc
    split
    · exact Or.inr (Or.inr (Or.inl rfl))
    · rename_i hc2; exact Or.inr (Or.inr (Or.inr ⟨hc, hc2, rfl⟩))

theorem NrNum.ext' {x y : NrNum} (h1 : x.hasExpires = y.hasExpires) (h2 : x.expires = y.expires) (h3 : x.q = y.q)
    (h4 : x.paramErr = y.paramErr) (h5 : x.errOffs = y.errOffs) : x = y := by
  cases x; cases y; simp_all

theorem nr_setQ_num (pf : PFromBody) (val : List UInt8) :
    (setQ pf val).nrNum = nrSetQ pf.nrNum pf.vstart pf.vend val := by
  obtain ⟨e1, e2, e3⟩ := setQ_congr pf (nrOfNum pf.nrNum pf.vstart pf.vend) val rfl rfl rfl rfl rfl
  obtain ⟨_, _, o3, o4⟩ := setQ_other pf val
  obtain ⟨_, _, p3, p4⟩ := setQ_other (nrOfNum pf.nrNum pf.vstart pf.vend) val
  exact NrNum.ext' (o3.trans p3.symm) (o4.trans p4.symm) e1 e2 e3

/-- **frame**: the numeric fields after `setFromParamVal` are `nrEffect` of the numeric fields before (name and value
    inside the buffer, so that Go does not panic); nothing else of the object is read -/
theorem nr_sfp_num (b : Buf) (pf : PFromBody) (h1 : pf.pend ≤ b.size) (h2 : pf.vend ≤ b.size) :
    (setFromParamVal b pf).nrNum = nrEffect b pf.pstart pf.pend pf.vstart pf.vend pf.nrNum := by
  rw [setFromParamVal_do]
  unfold nrEffect
  by_cases c1 : pf.pstart < pf.pend ∧ pf.vstart < pf.vend
  · rw [if_pos c1, sfpKind_valued c1.1 c1.2 h1 h2]
    unfold sfpName
    by_cases t1 : cmpEqL (b.extract pf.pstart pf.pend) sTag = true
    · -- a name that is `tag` is neither `expires` nor `q`: the lengths differ
      have hl := cmpEqL_len t1
      rw [if_pos t1, cmpEqL_false_of_len (l := sExpires) (by rw [hl]; decide),
        cmpEqL_false_of_len (l := sQ) (by rw [hl]; decide)]
      rfl
    · rw [if_neg t1]
      by_cases t2 : cmpEqL (b.extract pf.pstart pf.pend) sExpires = true
      · rw [if_pos t2, if_pos t2]
        have he := nr_setExpires_any pf (b.extract pf.vstart pf.vend).toList
        exact NrNum.ext' he.1 he.2 rfl rfl rfl
      · rw [if_neg t2, if_neg t2]
        by_cases t3 : cmpEqL (b.extract pf.pstart pf.pend) sQ = true
        · rw [if_pos t3, if_pos t3]; exact nr_setQ_num pf _
        · rw [if_neg t3, if_neg t3]; split <;> rfl
  · rw [if_neg c1]
    by_cases c2 : pf.pstart < pf.pend ∧ pf.vstart = pf.vend
    · rw [if_pos c2, c2.2, sfpKind_flag c2.1 h1]
      unfold sfpFlag; split <;> rfl
    · rw [if_neg c2, sfpKind_bad c1 c2]; rfl

/-! ### white space runs; the gap between a parameter name and its value -/

/-- between the end of a parameter name and the start of its value: white space, one `=`, white space -/
def NrGap (b : Buf) (pe vs : Nat) : Prop :=
  ∃ eq, pe ≤ eq ∧ eq < vs ∧ Run isLWSch b pe eq ∧ b[eq]? = some 61 ∧ Run isLWSch b (eq + 1) vs

theorem nr_gap_eq {b : Buf} {pe i : Nat} (hr : Run isLWSch b pe i) (hpe : pe ≤ i) (hb : b[i]? = some 61) :
    NrGap b pe (i + 1) := ⟨i, hpe, Nat.lt_succ_self i, hr, hb, Run.empty _ _ _⟩

theorem NrGap.extend {b : Buf} {pe i n : Nat} (h : NrGap b pe i) (hr : Run isLWSch b i n) (hin : i ≤ n) : NrGap b pe n := by
  obtain ⟨eq, h1, h2, h3, h4, h5⟩ := h
  exact ⟨eq, h1, by omega, h3, h4, Run.append h5 hr⟩

theorem NrGap.app {b : Buf} {pe vs : Nat} (h : NrGap b pe vs) (s : Buf) : NrGap (b ++ s) pe vs := by
  obtain ⟨eq, h1, h2, h3, h4, h5⟩ := h
  exact ⟨eq, h1, h2, Run.app h3 s, get?_app h4, Run.app h5 s⟩

/-- the gap claim is made for the header kinds whose values are separated by `,` (Contact, …): in the other kinds
    (From, To, …) the automaton silently skips commas in front of an unquoted parameter value -/
def nrGapM (mv : Bool) (b : Buf) (pe vs : Nat) : Prop := match mv with | true => NrGap b pe vs | false => True

def nrEqM (mv : Bool) (vs i : Nat) : Prop := match mv with | true => vs = i | false => True

theorem nrGapM.app {mv : Bool} {b : Buf} {pe vs : Nat} (h : nrGapM mv b pe vs) (s : Buf) : nrGapM mv (b ++ s) pe vs := by
  cases mv
  · trivial
  · exact NrGap.app h s

/-! ### the loop invariant: the numeric fields are the fold of `nrEffect` over recorded spans -/

/-- a recorded parameter span: the name `[ps, pe)` is not empty and starts at or after `o`; either there is no value
    text (`vs = ve`) or the value `[vs, ve)` is not empty, lies after the name, and between the two there is nothing but
    white space and exactly one `=`; everything ends at or before `lim` -/
def NrSpanOk (mv : Bool) (b : Buf) (o lim : Nat) (x : PSpan) : Prop :=
  o ≤ x.ps ∧ x.ps < x.pe ∧ x.pe ≤ lim ∧ (x.vs = x.ve ∨ (x.pe < x.vs ∧ x.vs < x.ve ∧ x.ve ≤ lim ∧ nrGapM mv b x.pe x.vs))

theorem NrSpanOk.mono {mv : Bool} {b : Buf} {o i j : Nat} {x : PSpan} (h : NrSpanOk mv b o i x) (hij : i ≤ j) : NrSpanOk mv b o j x := by
  obtain ⟨h1, h2, h3, h4⟩ := h
  refine ⟨h1, h2, by omega, ?_⟩
  rcases h4 with h4 | h4
  · exact Or.inl h4
  · exact Or.inr ⟨h4.1, h4.2.1, by have := h4.2.2.1; omega, h4.2.2.2⟩

variable {mv : Bool}

/-- the numeric fields after all parameters of the list, in order -/
def nrAll (b : Buf) (L : List PSpan) (m : NrNum) : NrNum := L.foldl (fun m x => nrEffect b x.ps x.pe x.vs x.ve m) m

/-- the numeric fields `m` are what the parameters at the spans `L` (in order) do to `m0` -/
def NrAcc (mv : Bool) (b : Buf) (m0 : NrNum) (o lim : Nat) (m : NrNum) : Prop :=
  ∃ L : List PSpan, m = nrAll b L m0 ∧ ∀ x ∈ L, NrSpanOk mv b o lim x

theorem NrAcc.mono {b : Buf} {m0 m : NrNum} {o i j : Nat} (h : NrAcc mv b m0 o i m) (hij : i ≤ j) : NrAcc mv b m0 o j m := by
  obtain ⟨L, h1, h2⟩ := h
  exact ⟨L, h1, fun x hx => (h2 x hx).mono hij⟩

theorem nr_all_snoc (b : Buf) (L : List PSpan) (x : PSpan) (m : NrNum) :
    nrAll b (L ++ [x]) m = nrEffect b x.ps x.pe x.vs x.ve (nrAll b L m) := by
  unfold nrAll
  rw [List.foldl_append]
  rfl

theorem NrAcc.snoc {b : Buf} {m0 m : NrNum} {o i : Nat} (h : NrAcc mv b m0 o i m) (x : PSpan) (hx : NrSpanOk mv b o i x) :
    NrAcc mv b m0 o i (nrEffect b x.ps x.pe x.vs x.ve m) := by
  obtain ⟨L, h1, h2⟩ := h
  refine ⟨L ++ [x], by rw [nr_all_snoc, h1], ?_⟩
  intro y hy
  rcases List.mem_append.1 hy with hy | hy
  · exact h2 y hy
  · rw [List.mem_singleton.1 hy]; exact hx

/-- what a returned object satisfies -/
def NrOut (mv : Bool) (b : Buf) (m0 : NrNum) (o lim : Nat) (pf : PFromBody) : Prop :=
  lim ≤ b.size ∧ NrAcc mv b m0 o lim pf.nrNum

theorem NrOut.mono {b : Buf} {m0 : NrNum} {o i j : Nat} {pf : PFromBody} (h : NrOut mv b m0 o i pf) (hij : i ≤ j)
    (hj : j ≤ b.size) : NrOut mv b m0 o j pf := ⟨hj, h.2.mono hij⟩

/-- the four work offsets, by automaton state -/
def nrPend (mv : Bool) (b : Buf) (o i : Nat) (st : FBState) (ps pe vs ve : Nat) : Prop :=
  match st with
  | .paramName | .possibleParamName => o ≤ ps ∧ ps < i ∧ vs = ve
  | .paramNameEnd | .possibleParamNameEnd => o ≤ ps ∧ ps < pe ∧ vs = ve ∧ Run isLWSch b pe i
  | .newParamVal | .newPossibleVal => o ≤ ps ∧ ps < pe ∧ pe < vs ∧ vs ≤ i ∧ nrEqM mv vs i ∧ nrGapM mv b pe i
  | .paramVal | .possibleVal | .quotedVal | .quotedPossibleVal => o ≤ ps ∧ ps < pe ∧ pe < vs ∧ vs < i ∧ nrGapM mv b pe vs
  | .paramValEnd | .possibleValEnd => o ≤ ps ∧ ps < pe ∧ pe < vs ∧ vs < ve ∧ nrGapM mv b pe vs
  | _ => pe ≤ ps ∧ vs = ve

/-- the states whose facts mention the current position exactly (the scan stands right after white space) -/
def nrAtPos (st : FBState) : Prop :=
  st = .paramNameEnd ∨ st = .possibleParamNameEnd ∨ st = .newParamVal ∨ st = .newPossibleVal

theorem nrPend_mono {b : Buf} {o i j : Nat} {st : FBState} {ps pe vs ve : Nat} (h : nrPend mv b o i st ps pe vs ve) (hij : i ≤ j)
    (hst : ¬ nrAtPos st) : nrPend mv b o j st ps pe vs ve := by
  unfold nrAtPos at hst
  cases st <;> simp only [nrPend] at h ⊢ <;>
    first
      | omega
      | exact absurd (Or.inl rfl) hst
      | exact absurd (Or.inr (Or.inl rfl)) hst
      | exact absurd (Or.inr (Or.inr (Or.inl rfl))) hst
      | exact absurd (Or.inr (Or.inr (Or.inr rfl))) hst
      | exact ⟨h.1, h.2.1, h.2.2.1, by have := h.2.2.2.1; omega, h.2.2.2.2⟩

structure NrInv (mv : Bool) (b : Buf) (m0 : NrNum) (o i : Nat) (pf : PFromBody) : Prop where
  oi : o ≤ i
  hi : i ≤ b.size
  pend : pf.pend ≤ i
  vend : pf.vend ≤ i
  pk : nrPend mv b o i pf.state pf.pstart pf.pend pf.vstart pf.vend
  acc : NrAcc mv b m0 o i pf.nrNum

theorem NrInv.mono {b : Buf} {m0 : NrNum} {o i j : Nat} {pf : PFromBody} (h : NrInv mv b m0 o i pf) (hij : i ≤ j)
    (hj : j ≤ b.size) (hst : ¬ nrAtPos pf.state) : NrInv mv b m0 o j pf :=
  ⟨by have := h.oi; omega, hj, by have := h.pend; omega, by have := h.vend; omega, nrPend_mono h.pk hij hst, h.acc.mono hij⟩

theorem NrInv.out {b : Buf} {m0 : NrNum} {o i : Nat} {pf : PFromBody} (h : NrInv mv b m0 o i pf) : NrOut mv b m0 o i pf :=
  ⟨h.hi, h.acc⟩

/-- the invariant only looks at the state, the work offsets and the parameter-dependent fields -/
theorem NrInv.congr {b : Buf} {m0 : NrNum} {o i : Nat} {pf pf' : PFromBody} (h : NrInv mv b m0 o i pf)
    (h1 : pf'.state = pf.state) (h2 : pf'.pstart = pf.pstart) (h3 : pf'.pend = pf.pend) (h4 : pf'.vstart = pf.vstart)
    (h5 : pf'.vend = pf.vend) (h6 : pf'.nrNum = pf.nrNum) : NrInv mv b m0 o i pf' :=
  ⟨h.oi, h.hi, by rw [h3]; exact h.pend, by rw [h5]; exact h.vend, by rw [h1, h2, h3, h4, h5]; exact h.pk,
   by rw [h6]; exact h.acc⟩

theorem NrOut.congr {b : Buf} {m0 : NrNum} {o i : Nat} {pf pf' : PFromBody} (h : NrOut mv b m0 o i pf)
    (h6 : pf'.nrNum = pf.nrNum) : NrOut mv b m0 o i pf' := ⟨h.1, by rw [h6]; exact h.2⟩

/-- storing a parameter: the span joins the list -/
theorem nr_sfp_out {b : Buf} {m0 : NrNum} {o i : Nat} (pf : PFromBody) (hi : i ≤ b.size) (hpe : pf.pend ≤ i)
    (hve : pf.vend ≤ i) (hsp : NrSpanOk mv b o i ⟨pf.pstart, pf.pend, pf.vstart, pf.vend⟩) (hacc : NrAcc mv b m0 o i pf.nrNum) :
    NrOut mv b m0 o i (setFromParamVal b pf) := by
  refine ⟨hi, ?_⟩
  rw [nr_sfp_num b pf (by omega) (by omega)]
  exact hacc.snoc ⟨pf.pstart, pf.pend, pf.vstart, pf.vend⟩ hsp

theorem nr_sfp_inv {b : Buf} {m0 : NrNum} {o i j : Nat} (pf : PFromBody) (hoi : o ≤ i) (hi : i ≤ b.size) (hpe : pf.pend ≤ i)
    (hve : pf.vend ≤ i) (hsp : NrSpanOk mv b o i ⟨pf.pstart, pf.pend, pf.vstart, pf.vend⟩) (hacc : NrAcc mv b m0 o i pf.nrNum)
    (hst : pf.state = .newParam ∨ pf.state = .newPossibleParam) (hij : i ≤ j) (hj : j ≤ b.size) :
    NrInv mv b m0 o j (setFromParamVal b pf) := by
  obtain ⟨-, -, -, -, -, fs, -, -, f1, f2, f3, f4⟩ := setFromParamVal_frame b pf
  refine ⟨by omega, hj, by rw [f2]; omega, by rw [f4]; omega, ?_, (nr_sfp_out pf hi hpe hve hsp hacc).2.mono hij⟩
  rw [fs, f1, f2, f3, f4]
  rcases hst with g | g <;> rw [g] <;> exact ⟨Nat.le_refl _, rfl⟩

theorem PFromBody.extV_nrNum (pf : PFromBody) (e : Nat) : (pf.extV e).nrNum = pf.nrNum := by
  unfold PFromBody.extV PFromBody.nrNum; rfl
theorem PFromBody.extParams_nrNum (pf : PFromBody) (e : Nat) : (pf.extParams e).nrNum = pf.nrNum := by
  unfold PFromBody.extParams PFromBody.nrNum; rfl
theorem PFromBody.setURI_nrNum (pf : PFromBody) (s e : Nat) : (pf.setURI s e).nrNum = pf.nrNum := by
  unfold PFromBody.setURI PFromBody.nrNum; rfl

/-- the pending parameter is stored at the end of the value, then the parameter and value ranges are closed -/
theorem nr_sfp_ext {b : Buf} {m0 : NrNum} {o i : Nat} (pf : PFromBody) (e : Nat) (hi : i ≤ b.size) (hpe : pf.pend ≤ i)
    (hve : pf.vend ≤ i) (hsp : NrSpanOk mv b o i ⟨pf.pstart, pf.pend, pf.vstart, pf.vend⟩) (hacc : NrAcc mv b m0 o i pf.nrNum) :
    NrOut mv b m0 o i (((setFromParamVal b pf).extParams e).extV e) :=
  (nr_sfp_out pf hi hpe hve hsp hacc).congr (by rw [PFromBody.extV_nrNum, PFromBody.extParams_nrNum])

/-- parameter-name states at the end of the value -/
theorem nr_eohPN {b : Buf} {m0 : NrNum} {o i : Nat} {pf : PFromBody} (hI : NrInv mv b m0 o i pf) (e : Nat)
    (hg : pf.state = .newParam ∨ pf.state = .paramNameEnd ∨ pf.state = .newPossibleParam ∨
      pf.state = .possibleParamNameEnd ∨ pf.state = .paramName ∨ pf.state = .possibleParamName)
    (he : pf.state = .paramName ∨ pf.state = .possibleParamName → e = i) :
    NrOut mv b m0 o i (naEOHParamName b pf e) := by
  obtain ⟨h1, h2, h3, h4, h5, h6⟩ := hI
  have key : ∀ p : PFromBody, p.nrNum = ((if p.params.offs != 0 then p.extParams e else p).extV e).nrNum := by
    intro p; rw [PFromBody.extV_nrNum]; split
    · rw [PFromBody.extParams_nrNum]
    · rfl
  unfold naEOHParamName
  refine NrOut.congr ?_ (key _).symm
  rcases hg with g | g | g | g | g | g <;> simp only [g, nrPend] at h5 <;>
    simp +decide only [g, ↓reduceIte]
  · rw [if_neg (by omega)]; exact ⟨h2, h6⟩
  · rw [if_pos h5.2.1]
    exact nr_sfp_out _ h2 h3 h4 ⟨h5.1, h5.2.1, h3, Or.inl h5.2.2.1⟩ h6
  · rw [if_neg (by omega)]; exact ⟨h2, h6⟩
  · rw [if_pos h5.2.1]
    exact nr_sfp_out _ h2 h3 h4 ⟨h5.1, h5.2.1, h3, Or.inl h5.2.2.1⟩ h6
  · cases he (Or.inl g)
    rw [if_pos h5.2.1]
    exact nr_sfp_out _ h2 (Nat.le_refl _) h4 ⟨h5.1, h5.2.1, Nat.le_refl _, Or.inl h5.2.2⟩ h6
  · cases he (Or.inr g)
    rw [if_pos h5.2.1]
    exact nr_sfp_out _ h2 (Nat.le_refl _) h4 ⟨h5.1, h5.2.1, Nat.le_refl _, Or.inl h5.2.2⟩ h6

theorem NrOut.finish {b : Buf} {m0 : NrNum} {o i : Nat} {q : PFromBody} (hq : NrOut mv b m0 o i q) (h : Nat) (pf : PFromBody)
    (n crl : Nat) (r : Err) : NrOut mv b m0 o i (naEohRes h pf n crl r (some q)).2.2 := hq.congr rfl

/-- **label `endOfHdr`**: whatever the state, the returned object satisfies `NrOut`.  `e` is the end of the value: the
    current position, or (`,` after white space) the saved end of the last name / value. -/
theorem nr_eoh (h : Nat) {b : Buf} {m0 : NrNum} {o i : Nat} {pf : PFromBody} (hI : NrInv mv b m0 o i pf) (e n crl : Nat) (r : Err)
    (he : e = i ∨ pf.state = .paramNameEnd ∨ pf.state = .possibleParamNameEnd ∨ pf.state = .paramValEnd ∨
      pf.state = .possibleValEnd) (hin : i ≤ n + crl) (hn : n + crl ≤ b.size) :
    NrOut mv b m0 o (naEOH h b pf e n crl r).1 (naEOH h b pf e n crl r).2.2 := by
  rw [naEOH_fst]
  refine NrOut.mono (i := i) ?_ hin hn
  rcases naEOH_tr h b pf e n crl r with ⟨q, t, hq⟩ | hq <;> rw [hq]
  · have ⟨h1, h2, h3, h4, h5, h6⟩ := hI
    cases t
    case bad hg => exact hI.out
    all_goals refine NrOut.finish ?_ h pf n crl r
    case found hg => exact hI.out
    case star hg => exact hI.out.congr rfl
    case nameOrURI hg => exact hI.out.congr (by rw [PFromBody.extV_nrNum, PFromBody.setURI_nrNum])
    case paramName hg =>
      exact nr_eohPN hI e hg fun hh => he.resolve_right (by rcases hh with g | g <;> simp [g])
    case valEnd hg =>
      have h5' : o ≤ pf.pstart ∧ pf.pstart < pf.pend ∧ pf.pend < pf.vstart ∧ pf.vstart < pf.vend ∧
          nrGapM mv b pf.pend pf.vstart := by
        rcases hg with g | g <;> simpa only [g, nrPend] using h5
      exact nr_sfp_ext pf e h2 h3 h4 ⟨h5'.1, h5'.2.1, h3, Or.inr ⟨h5'.2.2.1, h5'.2.2.2.1, h4, h5'.2.2.2.2⟩⟩ h6
    case newVal hg =>
      have h5' : o ≤ pf.pstart ∧ pf.pstart < pf.pend := by
        rcases hg with g | g <;> simp only [g, nrPend] at h5 <;> exact ⟨h5.1, h5.2.1⟩
      cases he.resolve_right (by rcases hg with g | g <;> simp [g])
      exact nr_sfp_ext { pf with vstart := i, vend := i } i h2 h3 (Nat.le_refl _) ⟨h5'.1, h5'.2, h3, Or.inl rfl⟩ h6
    case val hg =>
      have h5' : o ≤ pf.pstart ∧ pf.pstart < pf.pend ∧ pf.pend < pf.vstart ∧ pf.vstart < i ∧
          nrGapM mv b pf.pend pf.vstart := by
        rcases hg with g | g <;> simpa only [g, nrPend] using h5
      cases he.resolve_right (by rcases hg with g | g <;> simp [g])
      exact nr_sfp_ext { pf with vend := i } i h2 h3 (Nat.le_refl _)
        ⟨h5'.1, h5'.2.1, h3, Or.inr ⟨h5'.2.2.1, h5'.2.2.2.1, Nat.le_refl _, h5'.2.2.2.2⟩⟩ h6
  · exact hI.out

/-- what one step guarantees: a continuing step and a MoreBytes exit keep the invariant, every exit satisfies `NrOut` -/
def nrStepOk (mv : Bool) (b : Buf) (m0 : NrNum) (o : Nat) : Step PFromBody → Prop
  | .cont i' st' => NrInv mv b m0 o i' st'
  | .done p e st' => NrOut mv b m0 o p st' ∧ (e = .moreBytes → NrInv mv b m0 o p st')

theorem nr_ok_cont {b : Buf} {m0 : NrNum} {o i' : Nat} {st' : PFromBody} (hI : NrInv mv b m0 o i' st') :
    nrStepOk mv b m0 o (.cont i' st') := hI

theorem nr_ok_err {b : Buf} {m0 : NrNum} {o p : Nat} {e : Err} {st' : PFromBody} (hout : NrOut mv b m0 o p st')
    (he : e ≠ .moreBytes) : nrStepOk mv b m0 o (.done p e st') := ⟨hout, fun hh => absurd hh he⟩

theorem nr_ok_more {b : Buf} {m0 : NrNum} {o p : Nat} {e : Err} {st' : PFromBody} (hI : NrInv mv b m0 o p st') :
    nrStepOk mv b m0 o (.done p e st') := ⟨hI.out, fun _ => hI⟩

theorem NrInv.saveS {b : Buf} {m0 : NrNum} {o i : Nat} {pf : PFromBody} (h : NrInv mv b m0 o i pf) : NrInv mv b m0 o i pf.saveS :=
  h.congr rfl rfl rfl rfl rfl rfl

theorem nr_eoh_ok (h : Nat) {b : Buf} {m0 : NrNum} {o i : Nat} {pf : PFromBody} (hI : NrInv mv b m0 o i pf) (e n crl : Nat) (r : Err)
    (hr : r ≠ .moreBytes)
    (he : e = i ∨ pf.state = .paramNameEnd ∨ pf.state = .possibleParamNameEnd ∨ pf.state = .paramValEnd ∨
      pf.state = .possibleValEnd) (hin : i ≤ n + crl) (hn : n + crl ≤ b.size) :
    nrStepOk mv b m0 o (.done (naEOH h b pf e n crl r).1 (naEOH h b pf e n crl r).2.1 (naEOH h b pf e n crl r).2.2) :=
  nr_ok_err (nr_eoh h hI e n crl r he hin hn) (naEOH_ne_more h b pf e n crl r hr)

/-- a white-space site: `pe` satisfies the invariant where the white space starts, `pk n` where it ends, and the
    object saved on MoreBytes at the offset returned with it -/
theorem NaLws.nr {h : Nat} {b : Buf} {m0 : NrNum} {o i : Nat} {om : Nat → Nat} {pm pe : PFromBody} {pk : Nat → PFromBody}
    {r : Step PFromBody} (t : NaLws h b i om pm pk pe r) (hE : NrInv mv b m0 o i pe)
    (hK : ∀ n, i ≤ n → n ≤ b.size → Run isLWSch b i n → NrInv mv b m0 o n (pk n))
    (hM : ∀ n, i ≤ n → n ≤ b.size → NrInv mv b m0 o (om n) pm) : nrStepOk mv b m0 o r := by
  cases t
  all_goals
    rename_i n crl hk
    have hr := skipLWS_range b i 0 hk
  case ok => exact hK n hr.1 (hr.2 hE.hi) (skipLWS_ok_run hk)
  case eoh =>
    have hrg := skipLWS_eoh_range b i 0 hk (by decide)
    exact nr_eoh_ok h hE i n crl .ok (by decide) (Or.inl rfl) (by omega) (by omega)
  case more => exact nr_ok_more (hM n hr.1 (hr.2 hE.hi)).saveS

theorem nrGapM.of {b : Buf} {pe vs : Nat} (h : NrGap b pe vs) : nrGapM mv b pe vs := by
  cases mv
  · trivial
  · exact h

theorem nrGapM.extend {b : Buf} {pe i n : Nat} (h : nrGapM mv b pe i) (hr : Run isLWSch b i n) (hin : i ≤ n) :
    nrGapM mv b pe n := by
  cases mv
  · trivial
  · exact NrGap.extend h hr hin

theorem nrEqM.refl (i : Nat) : nrEqM mv i i := by
  cases mv
  · trivial
  · exact rfl

/-- in a header kind with comma-separated values, a value that has not begun starts at the current position -/
theorem nrGapM.at {b : Buf} {pe vs i : Nat} (he : nrEqM mv vs i) (h : nrGapM mv b pe i) : nrGapM mv b pe vs := by
  cases mv
  · trivial
  · rw [show vs = i from he]; exact h

/-- a parameter without value text ends at `;` -/
theorem nr_sfp_flag {b : Buf} {m0 : NrNum} {o i : Nat} (pf : PFromBody) (hoi : o ≤ i) (hib : i < b.size)
    (h1 : o ≤ pf.pstart) (h2 : pf.pstart < pf.pend) (h3 : pf.pend ≤ i) (h4 : pf.vend ≤ i) (h5 : pf.vstart = pf.vend)
    (hacc : NrAcc mv b m0 o i pf.nrNum) (hst : pf.state = .newParam ∨ pf.state = .newPossibleParam) :
    NrInv mv b m0 o (i + 1) (setFromParamVal b pf) :=
  nr_sfp_inv pf hoi (by omega) h3 h4 ⟨h1, h2, h3, Or.inl h5⟩ hacc hst (by omega) (by omega)

/-- a parameter with `=` ends at `;` (the value text may be empty) -/
theorem nr_sfp_val {b : Buf} {m0 : NrNum} {o i : Nat} (pf : PFromBody) (hoi : o ≤ i) (hib : i < b.size)
    (h1 : o ≤ pf.pstart) (h2 : pf.pstart < pf.pend) (h3 : pf.pend < pf.vstart) (h4 : pf.vstart ≤ pf.vend) (h5 : pf.vend ≤ i)
    (hgap : nrGapM mv b pf.pend pf.vstart)
    (hacc : NrAcc mv b m0 o i pf.nrNum) (hst : pf.state = .newParam ∨ pf.state = .newPossibleParam) :
    NrInv mv b m0 o (i + 1) (setFromParamVal b pf) := by
  refine nr_sfp_inv pf hoi (by omega) (by omega) h5 ⟨h1, h2, by show pf.pend ≤ i; omega, ?_⟩ hacc hst (by omega) (by omega)
  rcases Nat.lt_or_ge pf.vstart pf.vend with hlt | hge
  · exact Or.inr ⟨h3, hlt, h5, hgap⟩
  · exact Or.inl (by show pf.vstart = pf.vend; omega)

/-- white space after a parameter name (`n` = where the white space ends) -/
theorem nr_nameWS {b : Buf} {m0 : NrNum} {o i n : Nat} {pf : PFromBody} (hI : NrInv mv b m0 o i pf)
    (hg : pf.state = .newParam ∨ pf.state = .newPossibleParam ∨ pf.state = .paramName ∨ pf.state = .possibleParamName)
    (hin : i ≤ n) (hn : n ≤ b.size) (hrun : Run isLWSch b i n) : NrInv mv b m0 o n (naNameWS pf i) := by
  obtain ⟨h1, h2, h3, h4, h5, h6⟩ := hI
  unfold naNameWS
  rcases hg with g | g | g | g <;> simp only [nrPend, g] at h5 <;> simp +decide only [g, ↓reduceIte]
  all_goals refine ⟨Nat.le_trans h1 hin, hn, by first | exact hin | exact Nat.le_trans h3 hin, Nat.le_trans h4 hin, ?_, h6.mono hin⟩
  all_goals simp only [nrPend, g]
  · exact h5
  · exact h5
  · exact ⟨h5.1, h5.2.1, h5.2.2, hrun⟩
  · exact ⟨h5.1, h5.2.1, h5.2.2, hrun⟩

theorem nr_paramStart {b : Buf} {m0 : NrNum} {o i : Nat} {pf : PFromBody} (hI : NrInv mv b m0 o i pf) (hib : i < b.size)
    (hg : pf.state = .newParam ∨ pf.state = .newPossibleParam ∨ pf.state = .paramName ∨ pf.state = .possibleParamName) :
    NrInv mv b m0 o (i + 1) (naParamsOffs (naParamStart pf i) i) := by
  obtain ⟨h1, h2, h3, h4, h5, h6⟩ := hI
  have key : ∀ p : PFromBody, NrInv mv b m0 o (i + 1) p → NrInv mv b m0 o (i + 1) (naParamsOffs p i) := by
    intro p hp; unfold naParamsOffs; split
    · exact hp.congr rfl rfl rfl rfl rfl rfl
    · exact hp
  refine key _ ?_
  unfold naParamStart
  rcases hg with g | g | g | g <;> simp only [nrPend, g] at h5 <;> simp +decide only [g, ↓reduceIte]
  all_goals refine ⟨Nat.le_succ_of_le h1, hib, Nat.le_succ_of_le h3, Nat.le_succ_of_le h4, ?_, h6.mono (Nat.le_succ i)⟩
  all_goals simp only [nrPend, g]
  · exact ⟨h1, Nat.lt_succ_self i, h5.2⟩
  · exact ⟨h1, Nat.lt_succ_self i, h5.2⟩
  · exact ⟨h5.1, by omega, h5.2.2⟩
  · exact ⟨h5.1, by omega, h5.2.2⟩

/-- white space in or before a parameter value, ending at `n`: when the white space is not complete (`ok = false`)
    the object is kept as it is at the position where the white space starts -/
theorem nr_valWS {b : Buf} {m0 : NrNum} {o i n : Nat} {pf : PFromBody} (ok : Bool) (hI : NrInv mv b m0 o i pf) (hin : i ≤ n)
    (hn : n ≤ b.size) (hrun : Run isLWSch b i n) (hok : ok = false → n = i)
    (hg : pf.state = .newParamVal ∨ pf.state = .newPossibleVal ∨ pf.state = .paramVal ∨ pf.state = .possibleVal) :
    NrInv mv b m0 o n (naValWS pf i n ok) := by
  have ⟨h1, h2, h3, h4, h5, h6⟩ := hI
  unfold naValWS
  rcases hg with g | g | g | g <;> simp only [nrPend, g] at h5 <;> simp only [g]
  case inl | inr.inl =>
    all_goals
      cases ok
      · cases hok rfl; exact hI
      · refine ⟨Nat.le_trans h1 hin, hn, Nat.le_trans h3 hin, Nat.le_trans h4 hin, ?_, h6.mono hin⟩
        simp only [nrPend, ↓reduceIte]
        exact ⟨h5.1, h5.2.1, by omega, Nat.le_refl _, nrEqM.refl n, h5.2.2.2.2.2.extend hrun hin⟩
  all_goals
    refine ⟨Nat.le_trans h1 hin, hn, Nat.le_trans h3 hin, hin, ?_, h6.mono hin⟩
    simp only [nrPend]
    exact h5

/-- closes one field of `NrInv` for an explicitly updated object: the update is unfolded in the goal; what remains is
    a hypothesis, arithmetic, or a conjunct of `h5` (the `nrPend` fact of the object before the step) -/
macro "nr_fld" h5:ident : tactic =>
  `(tactic| (simp only [PFromBody.nrNum, PFromBody.setURI, PFromBody.setName, PFromBody.setV, PFromBody.extV,
               PFromBody.resetUPT, nrPend] <;>
             first
               | assumption
               | omega
               | ((repeat' apply And.intro) <;> first | omega | (simp only [$h5:ident]; done))))

/-- **every step of the loop body**: a continuing step and a MoreBytes exit keep the invariant, every exit satisfies `NrOut` -/
theorem NaTr.nr {h : Nat} {b : Buf} {m0 : NrNum} {o i : Nat} {c : UInt8} {pf : PFromBody} {r : Step PFromBody}
    (hb : b[i]? = some c) (hmv : multipleValsOk h = mv) (hI : NrInv mv b m0 o i pf) (t : NaTr h b i c pf r) :
    nrStepOk mv b m0 o r := by
  have hib := get?_lt hb
  have ⟨h1, h2, h3, h4, h5, h6⟩ := hI
  have h1' := Nat.le_succ_of_le h1
  have h3' := Nat.le_succ_of_le h3
  have h4' := Nat.le_succ_of_le h4
  have h6' := h6.mono (Nat.le_succ i)
  simp only [PFromBody.nrNum] at h6'
  cases t
  -- white space
  case a_lwsURI hg hl t =>
    simp only [nrPend, hg] at h5
    have hE : NrInv mv b m0 o i { (pf.setURI pf.s i).extV i with state := .nameOrURIEnd } := by
      simp only [PFromBody.nrNum] at h6
      refine ⟨h1, h2, ?_, ?_, ?_, ?_⟩ <;> nr_fld h5
    have hne : ¬ nrAtPos FBState.nameOrURIEnd := by simp [nrAtPos]
    exact t.nr hE (fun n hin hn _ => hE.mono hin hn hne) (fun n hin hn => hE.mono hin hn hne)
  case a_lws hg hl t | q_lws hg hl t | uf_lws hg hl t =>
    all_goals
      have hne : ¬ nrAtPos pf.state := fun hp => by rcases hp with p | p | p | p <;> rw [p] at hg <;> simp at hg
      exact t.nr hI (fun n hin hn _ => hI.mono hin hn hne) (fun n hin hn => hI.mono hin hn hne)
  case p_lws hg hl t =>
    exact t.nr (nr_nameWS hI hg (Nat.le_refl _) h2 (Run.empty _ _ _)) (fun n hin hn hr => nr_nameWS hI hg hin hn hr)
      (fun _ _ _ => hI)
  case v_lws hg hl t =>
    exact t.nr (nr_valWS false hI (Nat.le_refl _) h2 (Run.empty _ _ _) (fun _ => rfl) hg)
      (fun n hin hn hr => nr_valWS true hI hin hn hr (fun hh => by cases hh) hg) (fun _ _ _ => hI)
  -- the value ends at `,`
  case comma hg hc hm => exact nr_eoh_ok h hI i i 1 .moreValues (by decide) (Or.inl rfl) (by omega) (by omega)
  case commaWS e hg hc hm =>
    exact nr_eoh_ok h hI e i 1 .moreValues (by decide) (Or.inr (by rcases hg with ⟨g | g, _⟩ | ⟨g | g, _⟩ <;> simp [g]))
      (by omega) (by omega)
  -- errors and MoreBytes inside a quoted string
  case u_bad | star_bad | a_bad | p_bad | v_bad | end_bad => all_goals exact nr_ok_err hI.out (by decide)
  case q_escCRLF => exact nr_ok_err (hI.out.mono (Nat.le_succ i) hib) (by decide)
  case q_escMore => exact nr_ok_more hI.saveS
  -- bytes of the current token: the object stays, and its state does not tie a fact to the current position
  case a_star hg hc | a_tok hg hl hc | q_tok hg hl hc | u_tok hg hl hc | uf_tok hg hl hc | p_semiNew hg hc | v_tok hg hl hc |
      other hg | q_esc c1 hg hc hc1 hl1 =>
    all_goals
      have hne : ¬ nrAtPos pf.state := fun hp => by rcases hp with p | p | p | p <;> rw [p] at hg <;> simp at hg
      first
        | exact nr_ok_cont (hI.mono (Nat.le_succ i) hib hne)
        | (have := get?_lt hc1; exact nr_ok_cont (hI.mono (by omega) (by omega) hne))
  -- `,` in a header with one value: no gap claim is made, and a value that has not begun may start later
  case comma1 hg hc hm =>
    cases (hmv.symm.trans hm : mv = false)
    by_cases hp : nrAtPos pf.state
    · refine nr_ok_cont ⟨h1', hib, h3', h4', ?_, h6.mono (Nat.le_succ i)⟩
      rcases hp with p | p | p | p
      · exact absurd p hg.2.2.2.2.2.1
      · exact absurd p hg.2.2.2.2.2.2.1
      all_goals
        simp only [nrPend, p] at h5 ⊢
        exact ⟨h5.1, h5.2.1, h5.2.2.1, Nat.le_succ_of_le h5.2.2.2.1, trivial, trivial⟩
    · exact nr_ok_cont (hI.mono (Nat.le_succ i) hib hp)
  -- a parameter is complete
  case p_semi hg hc | p_semiP hg hc =>
    all_goals
      simp only [nrPend, hg] at h5
      exact nr_ok_cont (nr_sfp_flag _ h1 hib h5.1 h5.2.1 (Nat.le_refl i) h4 h5.2.2 h6 (by simp))
  case pe_semi hg hc | pe_semiP hg hc =>
    all_goals
      simp only [nrPend, hg] at h5
      exact nr_ok_cont (nr_sfp_flag _ h1 hib h5.1 h5.2.1 h3 h4 h5.2.2.1 h6 (by simp))
  case v_semi hg hc | v_semiP hg hc =>
    all_goals
      rcases hg with g | g <;> simp only [nrPend, g] at h5
      · exact nr_ok_cont (nr_sfp_val _ h1 hib h5.1 h5.2.1 h5.2.2.1 h5.2.2.2.1 (Nat.le_refl i)
          (h5.2.2.2.2.2.at h5.2.2.2.2.1) h6 (by simp))
      · exact nr_ok_cont (nr_sfp_val _ h1 hib h5.1 h5.2.1 h5.2.2.1 (Nat.le_of_lt h5.2.2.2.1) (Nat.le_refl i) h5.2.2.2.2 h6
          (by simp))
  case ve_semi hg hc | ve_semiP hg hc =>
    all_goals
      simp only [nrPend, hg] at h5
      exact nr_ok_cont (nr_sfp_val _ h1 hib h5.1 h5.2.1 h5.2.2.1 (Nat.le_of_lt h5.2.2.2.1) h4 h5.2.2.2.2 h6 (by simp))
  case p_tok hg hl hc => exact nr_ok_cont (nr_paramStart hI hib hg)
  -- `=`: the gap between name and value begins
  case p_eq hg hc | p_eqP hg hc =>
    all_goals
      subst hc
      simp only [nrPend, hg] at h5
      refine nr_ok_cont ⟨h1', hib, Nat.le_succ i, h4', ?_, h6.mono (Nat.le_succ i)⟩
      simp only [nrPend]
      exact ⟨h5.1, h5.2.1, Nat.lt_succ_self i, Nat.le_refl _, nrEqM.refl _,
        nrGapM.of (nr_gap_eq (Run.empty _ _ _) (Nat.le_refl i) hb)⟩
  case pe_eq hg hc | pe_eqP hg hc =>
    all_goals
      subst hc
      simp only [nrPend, hg] at h5
      refine nr_ok_cont ⟨h1', hib, h3', h4', ?_, h6.mono (Nat.le_succ i)⟩
      simp only [nrPend]
      exact ⟨h5.1, h5.2.1, Nat.lt_succ_of_le h3, Nat.le_refl _, nrEqM.refl _, nrGapM.of (nr_gap_eq h5.2.2.2 h3 hb)⟩
  -- every other step: an explicit update of a few fields
  case lt_name hg hc | quote_name hg hc =>
    all_goals
      rcases hg with g | g | g <;> simp only [nrPend, g] at h5 <;>
        refine nr_ok_cont ⟨h1', hib, ?_, ?_, ?_, ?_⟩ <;> nr_fld h5
  case lt_init hg hc | quote_init hg hc | semi_uri hg hc | semi_uriEnd hg hc | star_init hg hc | tok_init hg hl hc |
      tok_uriEnd hg hl hc | q_close hg hc | q_closeVal hg hc | q_closePVal hg hc | u_close hg hc | uf_semi hg hc |
      v_quote hg hc | v_quoteNew hg hc | v_quoteP hg hc | v_quoteNewP hg hc | v_tokNew hg hl hc | v_tokNewP hg hl hc =>
    all_goals
      simp only [nrPend, hg] at h5
      refine nr_ok_cont ⟨h1', hib, ?_, ?_, ?_, ?_⟩ <;> nr_fld h5

/-- **ParseNameAddrPVal, any header kind, any buffer, any verdict**: if the object passed in satisfies the invariant
    (a new object does, `nr_entry_new`; so does an object returned with MoreBytes), the numeric fields of the returned
    object are the fold of `nrEffect` over a list of parameter spans lying in `[o, o')`; after MoreBytes the object
    satisfies the invariant again. -/
theorem nr_parse (h : Nat) (b : Buf) (m0 : NrNum) (o offs : Nat) (pf : PFromBody) (hE : NrInv (multipleValsOk h) b m0 o offs pf)
    {o' : Nat} {e : Err} {pf' : PFromBody} (hr : parseNameAddrPVal h b offs pf = (o', e, pf')) :
    NrOut (multipleValsOk h) b m0 o o' pf' ∧ (e = .moreBytes → NrInv (multipleValsOk h) b m0 o o' pf') := by
  by_cases hf : pf.state = .fin
  · unfold parseNameAddrPVal at hr
    rw [if_pos hf] at hr
    cases hr
    exact ⟨hE.out, nofun⟩
  · exact parseNameAddrPVal_rule h b offs pf hf (NrInv (multipleValsOk h) b m0 o)
      (fun o' e p => NrOut (multipleValsOk h) b m0 o o' p ∧ (e = .moreBytes → NrInv (multipleValsOk h) b m0 o o' p))
      (fun _ _ _ _ _ hq => ⟨hq.1.congr rfl, fun hm => (hq.2 hm).congr rfl rfl rfl rfl rfl rfl⟩)
      (hE.congr rfl rfl rfl rfl rfl rfl)
      (fun _ _ _ _ _ hb _ hP t => t.nr hb rfl hP) (fun _ _ _ _ _ _ hb hP t => t.nr hb rfl hP)
      (fun _ _ hP => ⟨hP.saveS.out, fun _ => hP.saveS⟩) hr

/-- a new object may be passed at any offset inside the buffer -/
theorem nr_entry_new (b : Buf) (o : Nat) (ho : o ≤ b.size) : NrInv mv b {} o o {} :=
  ⟨Nat.le_refl _, ho, Nat.zero_le _, Nat.zero_le _, ⟨Nat.le_refl _, rfl⟩, ⟨[], rfl, fun x hx => by cases hx⟩⟩

/-! ### what the fold says about `expires` -/

/-- the span is an `expires` parameter (name in any letter case) with a non-empty value text -/
def nrIsExp (b : Buf) (x : PSpan) : Prop :=
  x.ps < x.pe ∧ x.vs < x.ve ∧ cmpEqL (b.extract x.ps x.pe) sExpires = true

theorem nr_effect_exp_set (b : Buf) (x : PSpan) (m : NrNum) (hx : nrIsExp b x) :
    nrEffect b x.ps x.pe x.vs x.ve m =
      { m with hasExpires := true, expires := min (decOf (nrDigPre (b.extract x.vs x.ve).toList)) 4294967295 } := by
  unfold nrEffect
  rw [if_pos ⟨hx.1, hx.2.1⟩, if_pos hx.2.2]

theorem nr_setQ_keep (m : NrNum) (vs ve : Nat) (val : List UInt8) :
    (nrSetQ m vs ve val).hasExpires = m.hasExpires ∧ (nrSetQ m vs ve val).expires = m.expires := by
  obtain ⟨_, _, o3, o4⟩ := setQ_other (nrOfNum m vs ve) val
  exact ⟨o3, o4⟩

theorem nr_effect_exp_keep (b : Buf) (x : PSpan) (m : NrNum) (hx : ¬ nrIsExp b x) :
    (nrEffect b x.ps x.pe x.vs x.ve m).hasExpires = m.hasExpires ∧ (nrEffect b x.ps x.pe x.vs x.ve m).expires = m.expires := by
  rcases nrEffect_cases b x.ps x.pe x.vs x.ve m with ⟨h1, h2, h3, _⟩ | ⟨_, _, _, h⟩ | h | ⟨_, _, h⟩
  · exact absurd ⟨h1, h2, h3⟩ hx
  · rw [h]; exact nr_setQ_keep m _ _ _
  all_goals rw [h]; exact ⟨rfl, rfl⟩

/-- what the parameter of no span of the list changes is at the end what it was -/
theorem nr_all_keep {α : Type} (f : NrNum → α) (b : Buf) (L : List PSpan) (m0 : NrNum)
    (h : ∀ x ∈ L, ∀ m, f (nrEffect b x.ps x.pe x.vs x.ve m) = f m) : f (nrAll b L m0) = f m0 := by
  induction L generalizing m0 with
  | nil => rfl
  | cons x L ih =>
    exact (ih _ (fun y hy => h y (List.mem_cons_of_mem _ hy))).trans (h x List.mem_cons_self m0)

/-- no `expires` parameter among the spans: the two fields keep their initial values -/
theorem nr_all_exp_none (b : Buf) (L : List PSpan) (m0 : NrNum) (hn : ∀ x ∈ L, ¬ nrIsExp b x) :
    (nrAll b L m0).hasExpires = m0.hasExpires ∧ (nrAll b L m0).expires = m0.expires :=
  ⟨nr_all_keep (·.hasExpires) b L m0 (fun x hx m => (nr_effect_exp_keep b x m (hn x hx)).1),
   nr_all_keep (·.expires) b L m0 (fun x hx m => (nr_effect_exp_keep b x m (hn x hx)).2)⟩

theorem nr_all_append (b : Buf) (L1 L2 : List PSpan) (m : NrNum) : nrAll b (L1 ++ L2) m = nrAll b L2 (nrAll b L1 m) := by
  unfold nrAll; rw [List.foldl_append]

theorem nr_all_cons (b : Buf) (x : PSpan) (L : List PSpan) (m : NrNum) :
    nrAll b (x :: L) m = nrAll b L (nrEffect b x.ps x.pe x.vs x.ve m) := rfl

/-- the last `expires` parameter among the spans decides -/
theorem nr_all_exp_last (b : Buf) (L1 L2 : List PSpan) (x : PSpan) (m0 : NrNum) (hx : nrIsExp b x)
    (hn : ∀ y ∈ L2, ¬ nrIsExp b y) :
    (nrAll b (L1 ++ x :: L2) m0).hasExpires = true ∧
    (nrAll b (L1 ++ x :: L2) m0).expires = min (decOf (nrDigPre (b.extract x.vs x.ve).toList)) 4294967295 := by
  have h2 := nr_all_exp_none b L2 (nrEffect b x.ps x.pe x.vs x.ve (nrAll b L1 m0)) hn
  rw [nr_all_append, nr_all_cons]
  rw [nr_effect_exp_set b x _ hx] at h2 ⊢
  exact ⟨h2.1, h2.2⟩

/-- a list of spans either has no `expires` parameter or splits at its last one -/
theorem nr_split_last (P : PSpan → Prop) (L : List PSpan) :
    (∀ x ∈ L, ¬ P x) ∨ ∃ L1 x L2, L = L1 ++ x :: L2 ∧ P x ∧ ∀ y ∈ L2, ¬ P y := by
  induction L with
  | nil => exact Or.inl (fun x hx => by cases hx)
  | cons a L ih =>
    rcases ih with ih | ⟨L1, x, L2, h1, h2, h3⟩
    · by_cases ha : P a
      · exact Or.inr ⟨[], a, L, rfl, ha, ih⟩
      · refine Or.inl (fun x hx => ?_)
        rcases List.mem_cons.1 hx with hx | hx
        · rw [hx]; exact ha
        · exact ih x hx
    · exact Or.inr ⟨a :: L1, x, L2, by rw [h1]; rfl, h2, h3⟩

/-- **(a) `expires` at run level**, for every object satisfying `NrOut` (= every object returned by ParseNameAddrPVal
    started from an object whose `HasExpires` was false): if `HasExpires` is reported, then there is an `expires`
    parameter in the consumed text — name `[ps, pe)` matched case-insensitively, followed by a non-empty value text
    `[vs, ve)` — and `Expires` is the decimal value of the LEADING DIGITS of that text, saturated at 2^32-1 (digit
    strings of any length); when the text consists of digits only it is `min (value) (2^32-1)`.  If `HasExpires` is
    not reported, `Expires` still has its initial value. -/
theorem NrOut.expires {b : Buf} {m0 : NrNum} {o lim : Nat} {pf : PFromBody} (hO : NrOut mv b m0 o lim pf)
    (h0 : m0.hasExpires = false) :
    (pf.hasExpires = false ∧ pf.expires = m0.expires) ∨
    (pf.hasExpires = true ∧ ∃ ps pe vs ve, o ≤ ps ∧ ps < pe ∧ pe < vs ∧ vs < ve ∧ ve ≤ lim ∧ lim ≤ b.size ∧
      nrGapM mv b pe vs ∧ cmpEqL (b.extract ps pe) sExpires = true ∧
      pf.expires = min (decOf (nrDigPre (b.extract vs ve).toList)) 4294967295 ∧
      (AllDigits (b.extract vs ve).toList → pf.expires = min (decOf (b.extract vs ve).toList) 4294967295)) := by
  obtain ⟨hlim, L, hacc, hL⟩ := hO
  have e1 : pf.hasExpires = (nrAll b L m0).hasExpires := congrArg NrNum.hasExpires hacc
  have e2 : pf.expires = (nrAll b L m0).expires := congrArg NrNum.expires hacc
  rcases nr_split_last (nrIsExp b) L with hn | ⟨L1, x, L2, hsp, hx, hn⟩
  · have := nr_all_exp_none b L m0 hn
    exact Or.inl ⟨by rw [e1, this.1, h0], by rw [e2, this.2]⟩
  · have hk := nr_all_exp_last b L1 L2 x m0 hx hn
    rw [← hsp] at hk
    have hxo := hL x (by rw [hsp]; exact List.mem_append_right _ List.mem_cons_self)
    obtain ⟨s1, s2, s3, s4⟩ := hxo
    have hv : x.pe < x.vs ∧ x.vs < x.ve ∧ x.ve ≤ lim ∧ nrGapM mv b x.pe x.vs := by
      rcases s4 with s4 | s4
      · have := hx.2.1; omega
      · exact s4
    refine Or.inr ⟨by rw [e1, hk.1], x.ps, x.pe, x.vs, x.ve, s1, s2, hv.1, hv.2.1, hv.2.2.1, hlim, hv.2.2.2, hx.2.2,
      by rw [e2, hk.2], ?_⟩
    intro hd
    rw [e2, hk.2, nrDigPre_of_digits _ hd]

/-! ### `q`: ANY value text -/

/-- converse of `pUInt64Val_spec`: the 64-bit parser reports no error only on digit strings, with the exact value -/
theorem nr_pUInt64Val_ok (l : List UInt8) (m : Nat) (h : pUInt64Val l = (m, .ok)) : AllDigits l ∧ m = decOf l := by
  by_cases hd : AllDigits l
  · rcases Nat.lt_or_ge maxU64 (decOf l) with hbig | hfit
    · rw [(pUInt64Val_spec l hd).2 hbig] at h; cases h
    · rw [(pUInt64Val_spec l hd).1 hfit] at h; cases h; exact ⟨hd, rfl⟩
  · have := nq_pU_nondigit l hd
    rw [h] at this; cases this

/-- the texts accepted as a `q` value, with their value in thousandths: an integer part of digits (any number of
    leading zeros; may be empty) worth 0 or 1, optionally followed by `.` and at most three digits, which must be zeros
    when the integer part is 1 -/
def NrQOk (val : List UInt8) (v : Nat) : Prop :=
  ∃ ip fp, AllDigits ip ∧ AllDigits fp ∧ fp.length ≤ 3 ∧ decOf ip ≤ 1 ∧ (decOf ip = 1 → decOf fp = 0) ∧
    ((val = ip ∧ fp = []) ∨ val = ip ++ 46 :: fp) ∧ v = qValue ip fp

theorem NrQOk.of_text {val ip fp : List UInt8} (H : NqQText val ip fp) : NrQOk val (qValue ip fp) :=
  ⟨ip, fp, H.di, H.df, H.len, H.le1, H.one, H.shape, rfl⟩

theorem nr_setQ_of_ok (pf : PFromBody) (val : List UInt8) (v : Nat) (h : NrQOk val v) : setQ pf val = { pf with q := v } := by
  obtain ⟨ip, fp, hi, hf, hl, hu, hone, hsh, rfl⟩ := h
  exact nq_setQ_accept pf val ip fp ⟨hi, hf, hl, hu, hone, hsh⟩

/-- **`setQ` on ANY text**: either the text is an accepted `q` value and `q` becomes exactly its value in thousandths,
    or `q` is left alone and the parameter error is set (to something other than "no error") -/
theorem nr_setQ_cases (pf : PFromBody) (val : List UInt8) :
    (∃ v, NrQOk val v ∧ setQ pf val = { pf with q := v }) ∨
    (∃ e eo, e ≠ Err.ok ∧ setQ pf val = { pf with paramErr := e, errOffs := eo }) := by
  rcases nq_setQ_total pf val with ⟨ip, fp, H, hs⟩ | ⟨_, e, he, hs | ⟨_, hs⟩⟩
  · exact Or.inl ⟨_, .of_text H, hs⟩
  all_goals exact Or.inr ⟨e, _, by rcases he with rfl | rfl | rfl <;> decide, hs⟩

theorem nr_qok_unique {val : List UInt8} {v v' : Nat} (h : NrQOk val v) (h' : NrQOk val v') : v = v' := by
  have e1 := nr_setQ_of_ok {} val v h
  have e2 := nr_setQ_of_ok {} val v' h'
  rw [e1] at e2
  exact congrArg PFromBody.q e2

theorem nr_setQnum_ok (m : NrNum) (vs ve : Nat) (val : List UInt8) (v : Nat) (h : NrQOk val v) :
    nrSetQ m vs ve val = { m with q := v } := by
  unfold nrSetQ
  rw [nr_setQ_of_ok _ val v h]
  rfl

theorem nr_setQnum_bad (m : NrNum) (vs ve : Nat) (val : List UInt8) (h : ¬ ∃ v, NrQOk val v) :
    ∃ e eo, e ≠ Err.ok ∧ nrSetQ m vs ve val = { m with paramErr := e, errOffs := eo } := by
  rcases nr_setQ_cases (nrOfNum m vs ve) val with ⟨v, hv, _⟩ | ⟨e, eo, he, hs⟩
  · exact absurd ⟨v, hv⟩ h
  · refine ⟨e, eo, he, ?_⟩
    unfold nrSetQ
    rw [hs]
    rfl

/-! ### what the fold says about `q` -/

/-- the span is a `q` parameter (name in any letter case) with a non-empty value text -/
def nrIsQ (b : Buf) (x : PSpan) : Prop :=
  x.ps < x.pe ∧ x.vs < x.ve ∧ cmpEqL (b.extract x.ps x.pe) sQ = true

/-- … whose text is an accepted `q` value worth `v` thousandths -/
def nrIsQGood (b : Buf) (x : PSpan) (v : Nat) : Prop := nrIsQ b x ∧ NrQOk (b.extract x.vs x.ve).toList v

/-- … whose text is not an accepted `q` value -/
def nrIsQBad (b : Buf) (x : PSpan) : Prop := nrIsQ b x ∧ ¬ ∃ v, NrQOk (b.extract x.vs x.ve).toList v

theorem nr_effect_q (b : Buf) (x : PSpan) (m : NrNum) (hx : nrIsQ b x) :
    nrEffect b x.ps x.pe x.vs x.ve m = nrSetQ m x.vs x.ve (b.extract x.vs x.ve).toList := by
  have hl := cmpEqL_len hx.2.2
  have t2 : cmpEqL (b.extract x.ps x.pe) sExpires = false := cmpEqL_false_of_len (by rw [hl]; decide)
  unfold nrEffect
  rw [if_pos ⟨hx.1, hx.2.1⟩, t2, if_neg (by decide), if_pos hx.2.2]

theorem nr_effect_q_good (b : Buf) (x : PSpan) (m : NrNum) (v : Nat) (hx : nrIsQGood b x v) :
    nrEffect b x.ps x.pe x.vs x.ve m = { m with q := v } := by
  rw [nr_effect_q b x m hx.1, nr_setQnum_ok m _ _ _ v hx.2]

theorem nr_effect_q_bad (b : Buf) (x : PSpan) (m : NrNum) (hx : nrIsQBad b x) :
    ∃ e eo, e ≠ Err.ok ∧ nrEffect b x.ps x.pe x.vs x.ve m = { m with paramErr := e, errOffs := eo } := by
  rw [nr_effect_q b x m hx.1]
  exact nr_setQnum_bad m _ _ _ hx.2

/-- a span that is not a `q` parameter with an accepted text leaves `q` alone -/
theorem nr_effect_q_keep (b : Buf) (x : PSpan) (m : NrNum) (hx : ¬ ∃ v, nrIsQGood b x v) :
    (nrEffect b x.ps x.pe x.vs x.ve m).q = m.q := by
  by_cases hq : nrIsQ b x
  · obtain ⟨e, eo, _, hs⟩ := nr_effect_q_bad b x m ⟨hq, fun ⟨v, hv⟩ => hx ⟨v, hq, hv⟩⟩
    rw [hs]
  · rcases nrEffect_cases b x.ps x.pe x.vs x.ve m with ⟨_, _, _, h⟩ | ⟨h1, h2, h3, _⟩ | h | ⟨_, _, h⟩
    · rw [h]
    · exact absurd ⟨h1, h2, h3⟩ hq
    all_goals rw [h]

/-- the parameter error, once set, stays set -/
theorem nr_effect_perr (b : Buf) (x : PSpan) (m : NrNum) (hm : m.paramErr ≠ .ok) :
    (nrEffect b x.ps x.pe x.vs x.ve m).paramErr ≠ .ok := by
  by_cases hq : nrIsQ b x
  · by_cases hg : ∃ v, NrQOk (b.extract x.vs x.ve).toList v
    · obtain ⟨v, hv⟩ := hg
      rw [nr_effect_q_good b x m v ⟨hq, hv⟩]; exact hm
    · obtain ⟨e, eo, he, hs⟩ := nr_effect_q_bad b x m ⟨hq, hg⟩
      rw [hs]; exact he
  · rcases nrEffect_cases b x.ps x.pe x.vs x.ve m with ⟨_, _, _, h⟩ | ⟨h1, h2, h3, _⟩ | h | ⟨_, _, h⟩
    · rw [h]; exact hm
    · exact absurd ⟨h1, h2, h3⟩ hq
    · rw [h]; exact hm
    · rw [h]; exact (by decide : Err.valBad ≠ Err.ok)

theorem nr_all_perr (b : Buf) (L : List PSpan) (m : NrNum) (hm : m.paramErr ≠ .ok) : (nrAll b L m).paramErr ≠ .ok := by
  induction L generalizing m with
  | nil => exact hm
  | cons x L ih => rw [nr_all_cons]; exact ih _ (nr_effect_perr b x m hm)

/-- no `q` parameter with an accepted text among the spans: `q` keeps its initial value -/
theorem nr_all_q_none (b : Buf) (L : List PSpan) (m0 : NrNum) (hn : ∀ x ∈ L, ¬ ∃ v, nrIsQGood b x v) :
    (nrAll b L m0).q = m0.q :=
  nr_all_keep (·.q) b L m0 (fun x hx m => nr_effect_q_keep b x m (hn x hx))

/-- the last `q` parameter with an accepted text decides, and `q` is exactly its value -/
theorem nr_all_q_last (b : Buf) (L1 L2 : List PSpan) (x : PSpan) (v : Nat) (m0 : NrNum) (hx : nrIsQGood b x v)
    (hn : ∀ y ∈ L2, ¬ ∃ v, nrIsQGood b y v) : (nrAll b (L1 ++ x :: L2) m0).q = v := by
  rw [nr_all_append, nr_all_cons, nr_all_q_none b L2 _ hn, nr_effect_q_good b x _ v hx]

/-- a `q` parameter whose text is not accepted is flagged: the parameter error is set at the end -/
theorem nr_all_q_bad (b : Buf) (L : List PSpan) (m0 : NrNum) (x : PSpan) (hx : x ∈ L) (hb : nrIsQBad b x) :
    (nrAll b L m0).paramErr ≠ .ok := by
  obtain ⟨L1, L2, rfl⟩ := List.append_of_mem hx
  rw [nr_all_append, nr_all_cons]
  apply nr_all_perr
  obtain ⟨e, eo, he, hs⟩ := nr_effect_q_bad b x (nrAll b L1 m0) hb
  rw [hs]; exact he

/-- a well-located span that is not a `q` parameter with a rejected text leaves the parameter error alone -/
theorem nr_effect_perr_keep (b : Buf) (x : PSpan) (m : NrNum) {o lim : Nat} (hs : NrSpanOk mv b o lim x) (hx : ¬ nrIsQBad b x) :
    (nrEffect b x.ps x.pe x.vs x.ve m).paramErr = m.paramErr := by
  by_cases hq : nrIsQ b x
  · by_cases hg : ∃ v, NrQOk (b.extract x.vs x.ve).toList v
    · obtain ⟨v, hv⟩ := hg
      rw [nr_effect_q_good b x m v ⟨hq, hv⟩]
    · exact absurd ⟨hq, hg⟩ hx
  · rcases nrEffect_cases b x.ps x.pe x.vs x.ve m with ⟨_, _, _, h⟩ | ⟨h1, h2, h3, _⟩ | h | ⟨hc, hc2, _⟩
    · rw [h]
    · exact absurd ⟨h1, h2, h3⟩ hq
    · rw [h]
    · obtain ⟨_, s2, _, s4⟩ := hs
      rcases s4 with s4 | s4
      · exact absurd ⟨s2, s4⟩ hc2
      · exact absurd ⟨s2, s4.2.1⟩ hc

/-- the parameter error is set only because of a `q` parameter with a rejected text -/
theorem nr_all_perr_keep (b : Buf) (L : List PSpan) (m0 : NrNum) {o lim : Nat} (hs : ∀ x ∈ L, NrSpanOk mv b o lim x)
    (hn : ∀ x ∈ L, ¬ nrIsQBad b x) : (nrAll b L m0).paramErr = m0.paramErr :=
  nr_all_keep (·.paramErr) b L m0 (fun x hx m => nr_effect_perr_keep b x m (hs x hx) (hn x hx))

/-- **(b) `q` at run level**, for every object satisfying `NrOut`: `Q` either still has its initial value, or it is
    EXACTLY the value in thousandths of the text of a `q` parameter of the consumed input whose text has an accepted
    shape; never a wrapped or truncated number. -/
theorem NrOut.q {b : Buf} {m0 : NrNum} {o lim : Nat} {pf : PFromBody} (hO : NrOut mv b m0 o lim pf) :
    pf.q = m0.q ∨
    ∃ ps pe vs ve, o ≤ ps ∧ ps < pe ∧ pe < vs ∧ vs < ve ∧ ve ≤ lim ∧ lim ≤ b.size ∧ nrGapM mv b pe vs ∧
      cmpEqL (b.extract ps pe) sQ = true ∧ NrQOk (b.extract vs ve).toList pf.q := by
  obtain ⟨hlim, L, hacc, hL⟩ := hO
  have e1 : pf.q = (nrAll b L m0).q := congrArg NrNum.q hacc
  rcases nr_split_last (fun x => ∃ v, nrIsQGood b x v) L with hn | ⟨L1, x, L2, hsp, ⟨v, hx⟩, hn⟩
  · exact Or.inl (by rw [e1, nr_all_q_none b L m0 hn])
  · have hk := nr_all_q_last b L1 L2 x v m0 hx hn
    rw [← hsp] at hk
    obtain ⟨s1, s2, s3, s4⟩ := hL x (by rw [hsp]; exact List.mem_append_right _ List.mem_cons_self)
    have hv : x.pe < x.vs ∧ x.vs < x.ve ∧ x.ve ≤ lim ∧ nrGapM mv b x.pe x.vs := by
      rcases s4 with s4 | s4
      · have := hx.1.2.1; omega
      · exact s4
    refine Or.inr ⟨x.ps, x.pe, x.vs, x.ve, s1, s2, hv.1, hv.2.1, hv.2.2.1, hlim, hv.2.2.2, hx.1.2.2, ?_⟩
    rw [e1, hk]; exact hx.2

/-- **(b), the flag**: the recorded spans `L` can be chosen such that, besides `NrOut`, (1) `Q` is the value of the last
    `q` parameter of `L` with an accepted text (initial value if there is none), (2) if some `q` parameter of `L` has a
    rejected text then `ParamErr` is set, and (3) if no `q` parameter of `L` has a rejected text `ParamErr` has its
    initial value. -/
theorem NrOut.q_flag {b : Buf} {m0 : NrNum} {o lim : Nat} {pf : PFromBody} (hO : NrOut mv b m0 o lim pf) :
    ∃ L : List PSpan, pf.nrNum = nrAll b L m0 ∧ (∀ x ∈ L, NrSpanOk mv b o lim x) ∧
      (((∀ x ∈ L, ¬ ∃ v, nrIsQGood b x v) ∧ pf.q = m0.q) ∨
        ∃ L1 x L2, L = L1 ++ x :: L2 ∧ nrIsQGood b x pf.q ∧ ∀ y ∈ L2, ¬ ∃ v, nrIsQGood b y v) ∧
      ((∃ x ∈ L, nrIsQBad b x) → pf.paramErr ≠ .ok) ∧
      ((∀ x ∈ L, ¬ nrIsQBad b x) → pf.paramErr = m0.paramErr) := by
  obtain ⟨hlim, L, hacc, hL⟩ := hO
  have e1 : pf.q = (nrAll b L m0).q := congrArg NrNum.q hacc
  have e2 : pf.paramErr = (nrAll b L m0).paramErr := congrArg NrNum.paramErr hacc
  refine ⟨L, hacc, hL, ?_, ?_, ?_⟩
  · rcases nr_split_last (fun x => ∃ v, nrIsQGood b x v) L with hn | ⟨L1, x, L2, hsp, ⟨v, hx⟩, hn⟩
    · exact Or.inl ⟨hn, by rw [e1, nr_all_q_none b L m0 hn]⟩
    · have hk := nr_all_q_last b L1 L2 x v m0 hx hn
      rw [← hsp] at hk
      exact Or.inr ⟨L1, x, L2, hsp, by rw [e1, hk]; exact hx, hn⟩
  · rintro ⟨x, hx, hb⟩
    rw [e2]; exact nr_all_q_bad b L m0 x hx hb
  · intro hn
    rw [e2]; exact nr_all_perr_keep b L m0 hL hn

/-! ### more bytes: the invariant survives the extension of the buffer -/

theorem nr_effect_app (b s : Buf) (x : PSpan) (m : NrNum) {o lim : Nat} (hx : NrSpanOk mv b o lim x) (hlim : lim ≤ b.size) :
    nrEffect (b ++ s) x.ps x.pe x.vs x.ve m = nrEffect b x.ps x.pe x.vs x.ve m := by
  obtain ⟨_, s2, s3, s4⟩ := hx
  unfold nrEffect
  by_cases c1 : x.ps < x.pe ∧ x.vs < x.ve
  · have hve : x.ve ≤ b.size := by
      rcases s4 with s4 | s4
      · have := c1.2; omega
      · have := s4.2.2.1; omega
    rw [if_pos c1, if_pos c1, extract_app b s x.ps x.pe (by omega), extract_app b s x.vs x.ve hve]
  · rw [if_neg c1, if_neg c1]

theorem nr_all_app (b s : Buf) (L : List PSpan) (m : NrNum) {o lim : Nat} (hL : ∀ x ∈ L, NrSpanOk mv b o lim x)
    (hlim : lim ≤ b.size) : nrAll (b ++ s) L m = nrAll b L m := by
  induction L generalizing m with
  | nil => rfl
  | cons x L ih =>
    rw [nr_all_cons, nr_all_cons, nr_effect_app b s x m (hL x List.mem_cons_self) hlim]
    exact ih _ (fun y hy => hL y (List.mem_cons_of_mem _ hy))

theorem NrSpanOk.app {b : Buf} {o lim : Nat} {x : PSpan} (h : NrSpanOk mv b o lim x) (s : Buf) :
    NrSpanOk mv (b ++ s) o lim x := by
  obtain ⟨h1, h2, h3, h4⟩ := h
  refine ⟨h1, h2, h3, ?_⟩
  rcases h4 with h4 | h4
  · exact Or.inl h4
  · exact Or.inr ⟨h4.1, h4.2.1, h4.2.2.1, h4.2.2.2.app s⟩

theorem nrPend_app {b : Buf} {o i : Nat} {st : FBState} {ps pe vs ve : Nat} (h : nrPend mv b o i st ps pe vs ve) (s : Buf) :
    nrPend mv (b ++ s) o i st ps pe vs ve := by
  cases st <;> simp only [nrPend] at h ⊢ <;>
    first
      | exact h
      | exact ⟨h.1, h.2.1, h.2.2.1, Run.app h.2.2.2 s⟩
      | exact ⟨h.1, h.2.1, h.2.2.1, h.2.2.2.1, h.2.2.2.2.1, h.2.2.2.2.2.app s⟩
      | exact ⟨h.1, h.2.1, h.2.2.1, h.2.2.2.1, h.2.2.2.2.app s⟩

theorem NrInv.app {b : Buf} {m0 : NrNum} {o i : Nat} {pf : PFromBody} (h : NrInv mv b m0 o i pf) (s : Buf) :
    NrInv mv (b ++ s) m0 o i pf := by
  obtain ⟨h1, h2, h3, h4, h5, L, h6, h7⟩ := h
  refine ⟨h1, by rw [Array.size_append]; omega, h3, h4, nrPend_app h5 s, L, ?_, fun x hx => (h7 x hx).app s⟩
  rw [nr_all_app b s L m0 h7 h2]; exact h6

/-- **resumed call**: a call that asked for more bytes, followed by a call on the extended buffer from the returned
    offset with the returned object (and so on: the hypothesis of the second call is the conclusion of the first) -/
theorem nr_parse_resume (h : Nat) (b s : Buf) (m0 : NrNum) (o offs : Nat) (pf : PFromBody) (hE : NrInv (multipleValsOk h) b m0 o offs pf)
    {o1 : Nat} {pf1 : PFromBody} (hr1 : parseNameAddrPVal h b offs pf = (o1, .moreBytes, pf1))
    {o' : Nat} {e : Err} {pf' : PFromBody} (hr2 : parseNameAddrPVal h (b ++ s) o1 pf1 = (o', e, pf')) :
    NrOut (multipleValsOk h) (b ++ s) m0 o o' pf' ∧ (e = .moreBytes → NrInv (multipleValsOk h) (b ++ s) m0 o o' pf') :=
  nr_parse h (b ++ s) m0 o o1 pf1 (((nr_parse h b m0 o offs pf hE hr1).2 rfl).app s) hr2

/-! ### ParseNameAddrPVal on a new object (any header kind; `parseOneContact` is the Contact instance) -/

/-- **C10 (a), run level, one call on a new object**: whatever the verdict, `HasExpires` is reported only when the
    consumed text `[offs, o')` contains an `expires` parameter — name `[ps, pe)` matched case-insensitively, non-empty
    value text `[vs, ve)` after it — and then `Expires` is the decimal value of the leading digits of that text (all of
    it when the text is a digit string, of ANY length), saturated at 2^32-1; never a wrapped value. -/
theorem nr_new_expires (h : Nat) (b : Buf) (offs : Nat) (ho : offs ≤ b.size)
    {o' : Nat} {e : Err} {pf' : PFromBody} (hr : parseNameAddrPVal h b offs {} = (o', e, pf')) :
    (pf'.hasExpires = false ∧ pf'.expires = 0) ∨
    (pf'.hasExpires = true ∧ ∃ ps pe vs ve, offs ≤ ps ∧ ps < pe ∧ pe < vs ∧ vs < ve ∧ ve ≤ o' ∧ o' ≤ b.size ∧
      nrGapM (multipleValsOk h) b pe vs ∧ cmpEqL (b.extract ps pe) sExpires = true ∧
      pf'.expires = min (decOf (nrDigPre (b.extract vs ve).toList)) 4294967295 ∧
      (AllDigits (b.extract vs ve).toList → pf'.expires = min (decOf (b.extract vs ve).toList) 4294967295)) :=
  (nr_parse h b {} offs offs {} (nr_entry_new b offs ho) hr).1.expires rfl

/-- **C10 (b), run level, one call on a new object**: `Q` is 0 (never set) or EXACTLY the value in thousandths of the
    text of a `q` parameter of the consumed input, the text being of an accepted shape (`NrQOk`) -/
theorem nr_new_q (h : Nat) (b : Buf) (offs : Nat) (ho : offs ≤ b.size)
    {o' : Nat} {e : Err} {pf' : PFromBody} (hr : parseNameAddrPVal h b offs {} = (o', e, pf')) :
    pf'.q = 0 ∨
    ∃ ps pe vs ve, offs ≤ ps ∧ ps < pe ∧ pe < vs ∧ vs < ve ∧ ve ≤ o' ∧ o' ≤ b.size ∧
      nrGapM (multipleValsOk h) b pe vs ∧ cmpEqL (b.extract ps pe) sQ = true ∧ NrQOk (b.extract vs ve).toList pf'.q :=
  (nr_parse h b {} offs offs {} (nr_entry_new b offs ho) hr).1.q

theorem nr_frac_le (fp : List UInt8) (hf : AllDigits fp) (hl : fp.length ≤ 3) : decOf fp * 10 ^ (3 - fp.length) ≤ 999 := by
  match fp, hf, hl with
  | [], _, _ => rw [decOf_nil]; simp
  | [a], hf, _ =>
    have ha := dval_le a (hf a (by simp))
    have : decOf [a] = dval a := by unfold decOf; rw [decFrom_cons, decFrom_nil]; omega
    rw [this]
    show dval a * 100 ≤ 999
    omega
  | [a, c], hf, _ =>
    have ha := dval_le a (hf a (by simp)); have hc := dval_le c (hf c (by simp))
    have : decOf [a, c] = dval a * 10 + dval c := by unfold decOf; rw [decFrom_cons, decFrom_cons, decFrom_nil]; omega
    rw [this]
    show (dval a * 10 + dval c) * 10 ≤ 999
    omega
  | [a, c, d], hf, hl =>
    have := decOf_le3 [a, c, d] hf hl
    show decOf [a, c, d] * 1 ≤ 999
    omega

/-- the accepted shapes never give more than 1000 -/
theorem nr_qok_le {val : List UInt8} {v : Nat} (h : NrQOk val v) : v ≤ 1000 := by
  obtain ⟨ip, fp, hi, hf, hl, hu, hone, _, rfl⟩ := h
  have hd := nr_frac_le fp hf hl
  unfold qValue
  rcases Nat.lt_or_ge (decOf ip) 1 with h0 | h1
  · have : decOf ip = 0 := by omega
    rw [this]; omega
  · have h1' : decOf ip = 1 := by omega
    rw [h1', hone h1']; omega

theorem nr_new_q_le (h : Nat) (b : Buf) (offs : Nat) (ho : offs ≤ b.size)
    {o' : Nat} {e : Err} {pf' : PFromBody} (hr : parseNameAddrPVal h b offs {} = (o', e, pf')) : pf'.q ≤ 1000 := by
  rcases nr_new_q h b offs ho hr with h0 | ⟨_, _, _, _, _, _, _, _, _, _, _, _, hq⟩
  · rw [h0]; omega
  · exact nr_qok_le hq

theorem nr_mv_contact : multipleValsOk HdrContact = true := by decide +kernel

/-- **C10 (a) for one Contact value** (one call of `parseOneContact` = ParseNameAddrPVal(HdrContact, …) on a new
    object, any buffer, any offset inside it, any verdict — in particular OK and MoreValues): if `HasExpires` is
    reported there are offsets `offs ≤ ps < pe ≤ eq < vs < ve ≤ o' ≤ len(buf)` such that `buf[ps:pe]` is `expires` in
    any letter case, `buf[pe:eq]` and `buf[eq+1:vs]` are white space, `buf[eq]` is `=`, and `Expires` is the decimal
    value of the leading digits of `buf[vs:ve]` saturated at 2^32-1 — of all of `buf[vs:ve]` when it consists of
    digits, whatever their number; otherwise `Expires` is 0. -/
theorem nr_contact_expires (b : Buf) (offs : Nat) (ho : offs ≤ b.size)
    {o' : Nat} {e : Err} {pf' : PFromBody} (hr : parseOneContact b offs {} = (o', e, pf')) :
    (pf'.hasExpires = false ∧ pf'.expires = 0) ∨
    (pf'.hasExpires = true ∧ ∃ ps pe vs ve, offs ≤ ps ∧ ps < pe ∧ pe < vs ∧ vs < ve ∧ ve ≤ o' ∧ o' ≤ b.size ∧
      NrGap b pe vs ∧ cmpEqL (b.extract ps pe) sExpires = true ∧
      pf'.expires = min (decOf (nrDigPre (b.extract vs ve).toList)) 4294967295 ∧
      (AllDigits (b.extract vs ve).toList → pf'.expires = min (decOf (b.extract vs ve).toList) 4294967295)) := by
  have h := nr_new_expires HdrContact b offs ho hr
  rw [nr_mv_contact] at h
  exact h

/-- **C10 (b) for one Contact value**: `Q` is 0 (never set) or exactly the value in thousandths of the text of a `q`
    parameter (located as in `nr_contact_expires`) whose text has an accepted shape; in particular `Q ≤ 1000`. -/
theorem nr_contact_q (b : Buf) (offs : Nat) (ho : offs ≤ b.size)
    {o' : Nat} {e : Err} {pf' : PFromBody} (hr : parseOneContact b offs {} = (o', e, pf')) :
    pf'.q ≤ 1000 ∧
    (pf'.q = 0 ∨
      ∃ ps pe vs ve, offs ≤ ps ∧ ps < pe ∧ pe < vs ∧ vs < ve ∧ ve ≤ o' ∧ o' ≤ b.size ∧
        NrGap b pe vs ∧ cmpEqL (b.extract ps pe) sQ = true ∧ NrQOk (b.extract vs ve).toList pf'.q) := by
  have h := nr_new_q HdrContact b offs ho hr
  rw [nr_mv_contact] at h
  exact ⟨nr_new_q_le HdrContact b offs ho hr, h⟩

/-- **C10 (b), the flag, for one Contact value**: there is a list `L` of parameter spans of the consumed text
    (`NrSpanOk`), the numeric fields being the fold of `nrEffect` over it, such that `Q` is the value of the last `q`
    parameter of `L` with an accepted text (0 if none), `ParamErr` is set when some `q` parameter of `L` has a rejected
    text, and is not set otherwise. -/
theorem nr_contact_q_flag (b : Buf) (offs : Nat) (ho : offs ≤ b.size)
    {o' : Nat} {e : Err} {pf' : PFromBody} (hr : parseOneContact b offs {} = (o', e, pf')) :
    ∃ L : List PSpan, pf'.nrNum = nrAll b L {} ∧ (∀ x ∈ L, NrSpanOk true b offs o' x) ∧
      (((∀ x ∈ L, ¬ ∃ v, nrIsQGood b x v) ∧ pf'.q = 0) ∨
        ∃ L1 x L2, L = L1 ++ x :: L2 ∧ nrIsQGood b x pf'.q ∧ ∀ y ∈ L2, ¬ ∃ v, nrIsQGood b y v) ∧
      ((∃ x ∈ L, nrIsQBad b x) → pf'.paramErr ≠ .ok) ∧
      ((∀ x ∈ L, ¬ nrIsQBad b x) → pf'.paramErr = .ok) := by
  have h := (nr_parse HdrContact b {} offs offs {} (nr_entry_new b offs ho) hr).1.q_flag
  rw [nr_mv_contact] at h
  exact h

/-! ### non-vacuity and tests (closed computations, `decide +kernel`) -/

/-- non-vacuity of `NrQOk`: the text `0.5` is worth 500 thousandths -/
example : NrQOk [48, 46, 53] 500 := by
  refine ⟨[48], [53], ?_, ?_, by decide, ?_, ?_, Or.inr rfl, ?_⟩
  · intro c hc; simp only [List.mem_cons, List.not_mem_nil, or_false] at hc; subst hc; unfold IsDigitB; decide
  · intro c hc; simp only [List.mem_cons, List.not_mem_nil, or_false] at hc; subst hc; unfold IsDigitB; decide
  · simp only [decOf, decFrom_cons, decFrom_nil, dval_def]; decide
  · simp only [decOf, decFrom_cons, decFrom_nil, dval_def]; decide
  · simp only [qValue, decOf, decFrom_cons, decFrom_nil, dval_def]; decide

/-- test: both parameters, as written -/
example : (parseOneContact "<sip:a@b>;expires=3600;q=0.5\r\nX".toUTF8.data 0 {}).2.1 = Err.ok ∧
    (parseOneContact "<sip:a@b>;expires=3600;q=0.5\r\nX".toUTF8.data 0 {}).2.2.hasExpires = true ∧
    (parseOneContact "<sip:a@b>;expires=3600;q=0.5\r\nX".toUTF8.data 0 {}).2.2.expires = 3600 ∧
    (parseOneContact "<sip:a@b>;expires=3600;q=0.5\r\nX".toUTF8.data 0 {}).2.2.q = 500 := by decide +kernel

/-- test: saturation of a 23-digit value; upper-case name -/
example : (parseOneContact "<sip:a@b>;EXPIRES=99999999999999999999999\r\nX".toUTF8.data 0 {}).2.2.expires = 4294967295 := by
  decide +kernel

/-- test (the reason why `nr_new_expires` speaks of the LEADING DIGITS): `expires=12abc` is accepted, reported as set,
    worth 12, and nothing is flagged; `expires=abc` is reported as set and worth 0.  (Same in the Go code.) -/
example : (parseOneContact "<sip:a@b>;expires=12abc\r\nX".toUTF8.data 0 {}).2.1 = Err.ok ∧
    (parseOneContact "<sip:a@b>;expires=12abc\r\nX".toUTF8.data 0 {}).2.2.hasExpires = true ∧
    (parseOneContact "<sip:a@b>;expires=12abc\r\nX".toUTF8.data 0 {}).2.2.expires = 12 ∧
    (parseOneContact "<sip:a@b>;expires=12abc\r\nX".toUTF8.data 0 {}).2.2.paramErr = Err.ok ∧
    (parseOneContact "<sip:a@b>;expires=abc\r\nX".toUTF8.data 0 {}).2.2.hasExpires = true ∧
    (parseOneContact "<sip:a@b>;expires=abc\r\nX".toUTF8.data 0 {}).2.2.expires = 0 := by decide +kernel

/-- test (why the gap claim is restricted to comma-separated header kinds): in From the commas in front of an
    unquoted value are skipped -/
example : (parseFromVal "<sip:a@b>;expires=,,5\r\nX".toUTF8.data 0 {}).2.1 = Err.ok ∧
    (parseFromVal "<sip:a@b>;expires=,,5\r\nX".toUTF8.data 0 {}).2.2.expires = 5 ∧
    (parseFromVal "<sip:a@b>;tag=,abc\r\nX".toUTF8.data 0 {}).2.2.tag = ⟨15, 3⟩ := by decide +kernel

/-- test (accepted `q` shapes beyond `0[.ddd]` / `1[.000]`): empty integer part, leading zeros -/
example : (parseOneContact "<sip:a@b>;q=.5\r\nX".toUTF8.data 0 {}).2.2.q = 500 ∧
    (parseOneContact "<sip:a@b>;q=.5\r\nX".toUTF8.data 0 {}).2.2.paramErr = Err.ok ∧
    (parseOneContact "<sip:a@b>;q=00000001\r\nX".toUTF8.data 0 {}).2.2.q = 1000 := by decide +kernel

/-- test: rejected `q` texts leave `q` alone and set the parameter error (the verdict stays OK) -/
example : (parseOneContact "<sip:a@b>;q=1.001\r\nX".toUTF8.data 0 {}).2.2.q = 0 ∧
    (parseOneContact "<sip:a@b>;q=1.001\r\nX".toUTF8.data 0 {}).2.2.paramErr = Err.valBad ∧
    (parseOneContact "<sip:a@b>;q=18446744073709551617\r\nX".toUTF8.data 0 {}).2.2.q = 0 ∧
    (parseOneContact "<sip:a@b>;q=18446744073709551617\r\nX".toUTF8.data 0 {}).2.2.paramErr = Err.valTooLong ∧
    (parseOneContact "<sip:a@b>;q=0.5;q=abc\r\nX".toUTF8.data 0 {}).2.2.q = 500 ∧
    (parseOneContact "<sip:a@b>;q=0.5;q=abc\r\nX".toUTF8.data 0 {}).2.2.paramErr = Err.valNotNumber := by decide +kernel

end Sipsp
