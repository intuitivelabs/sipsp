/-
  Sipsp.Proofs.NaRun — the name-addr loop as a run of its transitions.

  A continuing step moves forward, so the loop has an invariant rule stated on `NaTr` (`na_runLoop_tr`; for one call,
  `parseNameAddrPVal_rule`).  Forwards over a known text: since `NaTr` is the graph of `naStep`, a step over a byte whose
  class is known is a constructor of `NaTr` (`na_tr`, `na_tr_done`); no lemma `naStep h b i c pf = …` per (state, byte
  class) is needed.  White space and the line end that ends the value are stated once for every white-space site
  (`na_lws`, `na_eol`).
-/
import Sipsp.Proofs.LwsSite
import Sipsp.Proofs.NaTrans

namespace Sipsp


/-- a continuing step moves forward: by one or two bytes, or over the white space it stood on -/
theorem NaTr.progress {h : Nat} {b : Buf} {i : Nat} {c : UInt8} {pf : PFromBody} (hb : b[i]? = some c)
    {i' : Nat} {st' : PFromBody} (t : NaTr h b i c pf (.cont i' st')) : i < i' := by
  cases t
  case a_lwsURI hg hl t | a_lws hg hl t | q_lws hg hl t | uf_lws hg hl t | p_lws hg hl t | v_lws hg hl t =>
    all_goals (obtain ⟨⟨crl, hk⟩, _⟩ := t.of_cont; exact skipLWS_ok_gt b i 0 hb hl hk)
  all_goals omega

theorem na_progress (h : Nat) : Progress (naMachine h) := by
  intro b i c pf i' st' hb hs
  have t := naStep_tr h b i c pf
  rw [show naStep h b i c pf = .cont i' st' from hs] at t
  exact t.progress hb

/-- `runLoop_inv` for the name-addr loop: the steps are given as transitions, and a continuing step advances -/
theorem na_runLoop_tr (h : Nat) (b : Buf) (P : Nat → PFromBody → Prop) (Q : Nat × Err × PFromBody → Prop)
    (hcont : ∀ i c pf i' st', b[i]? = some c → i < i' → P i pf → NaTr h b i c pf (.cont i' st') → P i' st')
    (hdone : ∀ i c pf o e st', b[i]? = some c → P i pf → NaTr h b i c pf (.done o e st') → Q (o, e, st'))
    (heob : ∀ i pf, P i pf → Q (i, .moreBytes, pf.saveS)) (i : Nat) (pf : PFromBody) (hP : P i pf) :
    Q (runLoop (naMachine h) b i pf) := by
  refine runLoop_inv (naMachine h) b P Q (fun i c st i' st' hb hP hs => ?_) (fun i c st o e st' hb hP hs => ?_)
    (fun i st _ hP => heob i st hP) i pf hP
  · have t := naStep_tr h b i c st
    rw [show naStep h b i c st = .cont i' st' from hs] at t
    exact ⟨fun hlt => hcont i c st i' st' hb hlt hP t, fun hn => absurd (na_progress h b i c st i' st' hb hs) hn⟩
  · have t := naStep_tr h b i c st
    rw [show naStep h b i c st = .done o e st' from hs] at t
    exact hdone i c st o e st' hb hP t

/-- a call on an object that is not finished is the loop, entered with the saved restart offset loaded -/
theorem parseNameAddrPVal_run {h : Nat} {b : Buf} {o : Nat} {pf : PFromBody} (hf : pf.state ≠ .fin) {o' : Nat} {e : Err}
    {pf' : PFromBody} (hp : parseNameAddrPVal h b o pf = (o', e, pf')) :
    ∃ p1, runLoop (naMachine h) b o { pf with s := pf.soffs, soffs := 0 } = (o', e, p1) ∧ pf' = naExit pf.soffs e p1 := by
  unfold parseNameAddrPVal at hp
  rw [if_neg hf] at hp
  simp only [Prod.mk.injEq] at hp
  obtain ⟨rfl, rfl, rfl⟩ := hp
  exact ⟨_, rfl, rfl⟩

/-- **a fact about one call, from the transitions of the loop body**: `P` is an invariant of the loop that holds on
    entry, `Q` what the exits establish.  `Q` must not look at the ghost local `s` nor at the saved restart offset,
    which `naExit` rewrites when the call returns. -/
theorem parseNameAddrPVal_rule (h : Nat) (b : Buf) (o : Nat) (pf : PFromBody) (hf : pf.state ≠ .fin)
    (P : Nat → PFromBody → Prop) (Q : Nat → Err → PFromBody → Prop)
    (hQ : ∀ o' e p s so, Q o' e p → Q o' e { p with s := s, soffs := so })
    (h0 : P o { pf with s := pf.soffs, soffs := 0 })
    (hcont : ∀ i c pf i' st', b[i]? = some c → i < i' → P i pf → NaTr h b i c pf (.cont i' st') → P i' st')
    (hdone : ∀ i c pf o1 e st', b[i]? = some c → P i pf → NaTr h b i c pf (.done o1 e st') → Q o1 e st')
    (heob : ∀ i pf, P i pf → Q i .moreBytes pf.saveS)
    {o' : Nat} {e : Err} {pf' : PFromBody} (hp : parseNameAddrPVal h b o pf = (o', e, pf')) : Q o' e pf' := by
  obtain ⟨p1, hrl, rfl⟩ := parseNameAddrPVal_run hf hp
  have key := na_runLoop_tr h b P (fun r => Q r.1 r.2.1 r.2.2) hcont hdone heob o _ h0
  rw [hrl] at key
  unfold naExit
  split
  · exact hQ o' e p1 0 p1.soffs key
  · exact hQ o' e p1 0 _ key


variable {h : Nat} {b : Buf}

theorem na_tr {i n : Nat} {c : UInt8} {pf pf' : PFromBody} (hc : b[i]? = some c) (tr : NaTr h b i c pf (.cont n pf')) :
    runLoop (naMachine h) b i pf = runLoop (naMachine h) b n pf' :=
  runLoop_cont_lt (naMachine h) hc tr.eq (tr.progress hc)

theorem na_tr_done {i o : Nat} {c : UInt8} {e : Err} {pf pf' : PFromBody} (hc : b[i]? = some c)
    (tr : NaTr h b i c pf (.done o e pf')) : runLoop (naMachine h) b i pf = (o, e, pf') :=
  runLoop_done (naMachine h) hc tr.eq

/-- the states in which `,` ends the value wherever it stands -/
def naCommaSt : FBState → Bool
  | .init | .name | .nameOrURI | .nameOrURIEnd | .uriFound | .newParam | .newPossibleParam | .paramName
  | .possibleParamName | .newParamVal | .newPossibleVal | .paramVal | .possibleVal => true
  | _ => false

/-- `NaTr.comma`, with its two conditions on the state decided by evaluation -/
theorem NaTr.commaAt {i : Nat} {pf : PFromBody} (hx : naCommaSt pf.state = true) (hm : multipleValsOk h = true) :
    NaTr h b i 44 pf (.done (naEOH h b pf i i 1 .moreValues).1 (naEOH h b pf i i 1 .moreValues).2.1
      (naEOH h b pf i i 1 .moreValues).2.2) := by
  refine .comma ?_ ?_ rfl hm <;> revert hx <;> cases pf.state <;> decide

/-- `,` where it ends the value: `endOfHdr` with the extent `e` that the constructor (`.comma`: `e = i`, `.commaWS`:
    the saved end of the parameter name or value) gives -/
theorem na_comma {i e : Nat} {pf q : PFromBody} (hc : b[i]? = some 44)
    (tr : NaTr h b i 44 pf (.done (naEOH h b pf e i 1 .moreValues).1 (naEOH h b pf e i 1 .moreValues).2.1
      (naEOH h b pf e i 1 .moreValues).2.2)) (hq : NaEoh b pf e (some q)) :
    runLoop (naMachine h) b i pf = (i + 1, .moreValues, { q with state := .fin, soffs := 0, type := h }) := by
  rw [na_tr_done hc tr, hq.eq]; rfl

/-! ### white space at a white-space site, and the line end

  A site is given by the constructor of `NaTr` for white space in the current state, e.g. `fun hl t => .p_lws hg hl t`;
  `pk`, `pe` are the objects with which the loop goes on after the white space / enters `endOfHdr`. -/

section site
variable {w : Nat} {pf pm pe : PFromBody} {om : Nat → Nat} {pk : Nat → PFromBody}
  (site : ∀ {c r}, isLWSch c = true → NaLws h b w om pm pk pe r → NaTr h b w c pf r)
include site

theorem na_lws {n : Nat} {c : UInt8} (hl : Lws b w n) (hlt : w < n) (hn : b[n]? = some c) (hc : isLWSch c = false) :
    runLoop (naMachine h) b w pf = runLoop (naMachine h) b n (pk n) :=
  runLoop_lws _ hl hlt hn hc pf (pk n) fun _ h0 hs => (site h0 (.ok hs)).eq

/-- optional white space and a line end that is no fold: `endOfHdr` with the object `pe`, at the position where the
    white space began -/
theorem na_eol {p e : Nat} {c2 : UInt8} (hl : Lws b w p) (he : Eol b p e) (h2 : b[e]? = some c2) (hw2 : isWS c2 = false)
    {q : PFromBody} (hq : NaEoh b pe w (some q)) :
    runLoop (naMachine h) b w pf = (e, .ok, { q with state := .fin, soffs := 0, type := h }) := by
  obtain ⟨c0, hc0, hl0⟩ := hl.first_eol he
  rw [na_tr_done hc0 (site hl0 (.eoh (skipLWS_of_lws_eol hl he h2 hw2))), hq.eq]
  have : p + (e - p) = e := by have := he.gt; omega
  simp only [naEohRes, naFinish, this]

/-- the same in a state in which the end of the header is an error (inside a quoted string, in a display name) -/
theorem na_eol_bad {p e : Nat} {c2 : UInt8} (hl : Lws b w p) (he : Eol b p e) (h2 : b[e]? = some c2)
    (hw2 : isWS c2 = false) (hq : NaEoh b pe w none) : runLoop (naMachine h) b w pf = (e, .bad, pe) := by
  obtain ⟨c0, hc0, hl0⟩ := hl.first_eol he
  rw [na_tr_done hc0 (site hl0 (.eoh (skipLWS_of_lws_eol hl he h2 hw2))), hq.eq]
  have : p + (e - p) = e := by have := he.gt; omega
  simp only [naEohRes, this]

end site

/-- optional white space (`na_lws` asks for at least one byte) at a site where the loop goes on with the same object -/
theorem na_lws_skip {w n : Nat} {pf pm pe : PFromBody} {om : Nat → Nat}
    (site : ∀ {c r}, isLWSch c = true → NaLws h b w om pm (fun _ => pf) pe r → NaTr h b w c pf r) {c : UInt8}
    (hl : Lws b w n) (hn : b[n]? = some c) (hc : isLWSch c = false) :
    runLoop (naMachine h) b w pf = runLoop (naMachine h) b n pf := by
  by_cases h1 : w < n
  · exact na_lws site hl h1 hn hc
  · rw [show w = n by have := hl.le; omega]

end Sipsp
