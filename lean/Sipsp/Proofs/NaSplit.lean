/-
  Sipsp.Proofs.NaSplit — property C09, the clause "multi-value headers are split only at commas outside quotes and
  angle brackets; the value count … summarises all values": the CONVERSE direction (soundness), for EVERY input — no
  grammar assumption on the text; any buffer, any offset, any capacity of the caller's array.  (The completeness
  direction for texts of the grammar is `C09.contact_values` / `contact_count` / `comma_inside_uri` / `comma_inside_quotes`.)

  "Top level" is the AUTOMATON'S OWN notion, made explicit as a 9-mode byte scanner (`NsMode`, `nsStep`, `nsModeAt`;
  `NsTop b o j` = position `j` is at top level when the text is scanned from `o`; `NsTopComma`; `NsNoComma b o e` = no
  top-level comma in `[o, e)`).  A double quote opens a quoted string only in the display-name / bare-URI part (`head`)
  and in a parameter value (`pvl`); inside a quoted string a backslash protects the next byte; `<` opens the bracket
  only in `head`; `>` closes it; `;` starts a parameter name, `=` a parameter value.  It differs from the naive reading
  "outside double quotes and outside `<` … `>`" exactly here (tests in section J, each a concrete input):
    (a) a `"` between `<` and `>` is an ordinary byte:           `<sip:"a>,b`  is split at the comma;
    (b) a `"` after `>` and before the first `;` is ordinary:     `<a>"x,y"`   is split at the comma;
    (c) a `<` after `>` is ordinary (no second bracket):          `<a><b,c>`   is split at the comma;
    (d) a `"` inside a parameter NAME is ordinary:                `<a>;x"b,c"` is split at the comma;
    (e) a `"` inside a bare URI / name token DOES open a string:  `s:a"b,c" <x>, d` is split only at the second comma.
  The scanner is defined on all byte strings; on texts the automaton rejects it may say anything — the theorems only use
  it up to the point the automaton reached.

  Proved (no size limit on the buffer unless stated):
  * (1) value level (`ns_value_more`, `ns_value_ok`; `ns_parse` for any object in the initial state): if
    `parseNameAddrPVal h b o {}` answers "more values" with offset `o'`, then `h` is a kind with several values,
    `o < o'`, `b[o'-1] = ','`, that comma is at top level (`NsTop b o (o'-1)`) and NO top-level comma occurs in
    `[o, o'-1)`: the value ends at the FIRST top-level comma.  On OK, `o'` is the offset after a line end not followed
    by SP / HT (`NsEol`) and — kinds with several values — no top-level comma occurs in `[o, o')`.
    The loop invariant `NsInv`: the scanner mode of the automaton state (`nsOf`) is the mode of the scan at the current
    offset, and no top-level comma so far; every transition of the loop body keeps it (`NaTr.ns`).
  * (2) list level (`parseAllContactValues_segs`, `parseAllPAIValues_segs`; any object with clean unused slots whose
    current slot is new, in particular a new object of any capacity): whenever the call answers OK with offset `o'`
    there is a list of pieces `NsSegs h b o L o'`: every piece but the last is closed by the first top-level comma after
    its start (the scan restarts after it), the last has no top-level comma and is closed by the line end; the value of
    each piece is what the value parser reports at its start; the object is `c.acceptAll` of these values in order.
    N grows by exactly 1 + `nsCommaCount b o o'`, the number of top-level commas of the consumed text counted by an
    independent scanner (`nsScanR`) — for every capacity.  PAI: no accepted value is `*`.
  * (3) `ns_single_never_more`: for a kind with a single value (`multipleValsOk h = false`: From, To, …) the verdict is
    never "more values" — any buffer, offset AND any object passed in (any state).
  * spans (buffers ≤ 65,535 bytes): on "more values" `V` ends at or before the comma (it never contains it); on OK it
    ends at or before a run of white space / line-end bytes reaching `o'` (`ns_value_vend`).  Kinds with several values:
    `V` starts at the first byte from `o` that is not SP / HT / CR / LF (`ns_value_first`).  For the pieces of a list,
    in order (`NsVSpans`): start of piece ≤ V.Offs, only such bytes between them, V ends ≤ the closing comma, pieces
    strictly ordered, `b[next start - 1] = ','`.
  * `parseAllContactValues_new_converse`, `parseAllPAIValues_new_converse`: one call on a new object, all of the above in
    one statement (N, stored values = values of the first `cap` pieces, max / min expires over ALL pieces).

  NOT proved here: the resumed case (a value or list continued after "more bytes": the invariant is stated for every
  automaton state, but the theorems here are for one call; chains of resumed calls are `rc_*_schedule` in
  `ResumedConverse`); that `V` is trimmed at its END — it is not always: bytes after `>` are skipped and not part of
  `V` (`<a> jk ,c` reports `<a>`), and after `;name=` + white space + `,` the white space is part of `V` (`a:b;x= ,c`
  reports 7 bytes); `ns_value_first` for single-valued kinds (false there: From / To skip leading commas); any statement
  about texts on which ParseAllContactValues does not answer OK.
-/
import Sipsp.Proofs.NaNumRun
import Sipsp.Proofs.HdrSound
import Sipsp.Proofs.NaNest

namespace Sipsp

/-- closes a continuing leaf of the parameter states -/
macro "nv_pleaf" hs:ident pf:ident hni:ident hI:ident : tactic =>
  `(tactic| first
      | (cases $hs:ident; done)
      | (cases $hs:ident; exact nv_keep $hni $hI)
      | (cases $hs:ident
         refine nv_set (pf := $pf) ?_ ?_ $hni $hI
         · first
             | exact (nv_param _ _ $hni).1
             | (rw [setFromParamVal_state]; intro hh; cases hh)
             | (intro hh; cases hh)
         · first
             | exact (nv_param _ _ $hni).2
             | (rw [(setFromParamVal_vp _ _).1])
             | rfl))


theorem naExit_v (s : Nat) (e : Err) (p : PFromBody) : (naExit s e p).v = p.v := by unfold naExit; split <;> rfl

/-! ### A. the nesting scanner: the automaton's own notion of "top level" -/

/-- where the left-to-right scan of a name-addr value stands:
    `head`  in front of / inside the display name or the bare URI (before any `<`, `;`),
    `hq`    inside a quoted string of the display name, `hqe` right after a backslash in it,
    `uri`   between `<` and `>`,
    `fnd`   after `>` (before the first `;`),
    `pnm`   in a parameter name (from `;` to `=` or the next `;`),
    `pvl`   in a parameter value (from `=` to the next `;`),
    `vq`    inside a quoted string of a parameter value, `vqe` right after a backslash in it. -/
inductive NsMode where
  | head | hq | hqe | uri | fnd | pnm | pvl | vq | vqe
  deriving DecidableEq, Repr, Inhabited

def nsStep (m : NsMode) (c : UInt8) : NsMode :=
  match m with
  | .head => if c == 34 then .hq else if c == 60 then .uri else if c == 59 then .pnm else .head
  | .hq => if c == 34 then .head else if c == 92 then .hqe else .hq
  | .hqe => .hq
  | .uri => if c == 62 then .fnd else .uri
  | .fnd => if c == 59 then .pnm else .fnd
  | .pnm => if c == 61 then .pvl else .pnm
  | .pvl => if c == 59 then .pnm else if c == 34 then .vq else .pvl
  | .vq => if c == 34 then .pvl else if c == 92 then .vqe else .vq
  | .vqe => .vq

/-- outside quoted strings and outside `<` … `>` -/
def NsMode.top : NsMode → Bool
  | .head | .fnd | .pnm | .pvl => true
  | _ => false

/-- not right after a backslash -/
def NsMode.plain : NsMode → Bool
  | .hqe | .vqe => false
  | _ => true

/-- the mode in which byte `o + k` is read when the scan starts at `o` in mode `head` -/
def nsModeAt (b : Buf) (o : Nat) : Nat → NsMode
  | 0 => .head
  | k + 1 =>
    match b[o + k]? with
    | some c => nsStep (nsModeAt b o k) c
    | none => nsModeAt b o k

/-- **position `j` is at top level** of the value text that starts at `o` -/
def NsTop (b : Buf) (o j : Nat) : Prop := o ≤ j ∧ (nsModeAt b o (j - o)).top = true

def NsTopComma (b : Buf) (o j : Nat) : Prop := b[j]? = some 44 ∧ NsTop b o j

instance (b : Buf) (o j : Nat) : Decidable (NsTop b o j) := by unfold NsTop; exact inferInstance
instance (b : Buf) (o j : Nat) : Decidable (NsTopComma b o j) := by unfold NsTopComma; exact inferInstance

def NsNoComma (b : Buf) (o e : Nat) : Prop := ∀ j, o ≤ j → j < e → ¬ NsTopComma b o j

theorem nsStep_lws {m : NsMode} {c : UInt8} (hm : m.plain = true) (hc : isLWSch c = true) : nsStep m c = m := by
  simp only [isLWSch, Bool.or_eq_true, beq_iff_eq] at hc
  rcases hc with ((rfl | rfl) | rfl) | rfl <;> cases m <;> first | rfl | cases hm

theorem ns_isLWSch_ne_comma {c : UInt8} (hc : isLWSch c = true) : c ≠ 44 := by
  intro h; subst h; revert hc; decide

/-- the scan has reached `i` in mode `m` and (for header kinds with several values) met no top-level comma so far -/
structure NsAt (mv : Bool) (b : Buf) (o i : Nat) (m : NsMode) : Prop where
  le : o ≤ i
  mode : nsModeAt b o (i - o) = m
  nc : mv = true → NsNoComma b o i

theorem NsAt.start (mv : Bool) (b : Buf) (o : Nat) : NsAt mv b o o .head :=
  ⟨Nat.le_refl _, by rw [Nat.sub_self]; rfl, fun _ j h1 h2 => by omega⟩

theorem nsModeAt_succ {b : Buf} {o i : Nat} {c : UInt8} (hoi : o ≤ i) (hb : b[i]? = some c) :
    nsModeAt b o (i + 1 - o) = nsStep (nsModeAt b o (i - o)) c := by
  have e1 : i + 1 - o = (i - o) + 1 := by omega
  have e2 : o + (i - o) = i := by omega
  rw [e1, nsModeAt, e2, hb]

/-- one byte: the comma (if it is one) must not be a separator -/
theorem NsAt.step {mv : Bool} {b : Buf} {o i : Nat} {m : NsMode} {c : UInt8} (h : NsAt mv b o i m) (hb : b[i]? = some c)
    (hc : mv = true → c = 44 → m.top = false) : NsAt mv b o (i + 1) (nsStep m c) := by
  refine ⟨by have := h.le; omega, by rw [nsModeAt_succ h.le hb, h.mode], fun hmv j h1 h2 => ?_⟩
  rcases Nat.lt_or_ge j i with hj | hj
  · exact h.nc hmv j h1 hj
  · have : j = i := by omega
    subst this
    rintro ⟨h44, _, htop⟩
    rw [hb] at h44
    cases h44
    rw [h.mode, hc hmv rfl] at htop
    cases htop

theorem NsAt.run {mv : Bool} {b : Buf} {o i : Nat} {m : NsMode} (h : NsAt mv b o i m) (hm : m.plain = true)
    (n : Nat) (hin : i ≤ n) (hr : Run isLWSch b i n) : NsAt mv b o n m := by
  obtain ⟨k, rfl⟩ := Nat.exists_eq_add_of_le hin
  induction k with
  | zero => exact h
  | succ k ih =>
    obtain ⟨c, hc, hl⟩ := hr (i + k) (Nat.le_add_right i k) (Nat.lt_succ_self _)
    have h2 := (ih (Nat.le_add_right i k) fun j h1 h2 => hr j h1 (Nat.lt_succ_of_lt h2)).step hc fun _ h44 =>
      absurd h44 (ns_isLWSch_ne_comma hl)
    rwa [nsStep_lws hm hl] at h2
theorem NsAt.esc {mv : Bool} {b : Buf} {o i : Nat} {m : NsMode} {c1 : UInt8} (h : NsAt mv b o i m)
    (hm : m = .hq ∨ m = .vq) (hb : b[i]? = some 92) (hb1 : b[i + 1]? = some c1) : NsAt mv b o (i + 2) m := by
  rcases hm with rfl | rfl <;> exact (h.step hb fun _ _ => rfl).step hb1 fun _ _ => rfl

/-! ### B. the automaton follows the scanner -/

/-- the scanner mode of each automaton state (the unused `tag…` states and the final state have none) -/
def nsOf : FBState → Option NsMode
  | .init | .name | .nameOrURI | .nameOrURIEnd | .star => some .head
  | .quoted => some .hq
  | .uri => some .uri
  | .uriFound => some .fnd
  | .newParam | .newPossibleParam | .paramName | .possibleParamName | .paramNameEnd | .possibleParamNameEnd => some .pnm
  | .newParamVal | .newPossibleVal | .paramVal | .possibleVal | .paramValEnd | .possibleValEnd => some .pvl
  | .quotedVal | .quotedPossibleVal => some .vq
  | _ => none

theorem nsOf_plain {s : FBState} {m : NsMode} (h : nsOf s = some m) : m.plain = true := by
  cases s <;> simp only [nsOf, Option.some.injEq, reduceCtorEq] at h <;> subst h <;> rfl

/-- the loop invariant: the automaton is at `i` in a state whose scanner mode is the mode of the scan at `i` -/
def NsInv (h : Nat) (b : Buf) (o i : Nat) (pf : PFromBody) : Prop :=
  ∃ m, NsAt (multipleValsOk h) b o i m ∧ nsOf pf.state = some m

/-- the line end of the header: `o'` is the offset after a line end that starts at or after `o` and is not followed by
    SP / HT -/
def NsEol (b : Buf) (o o' : Nat) : Prop := ∃ p, o ≤ p ∧ Eol b p o' ∧ ∃ c2, b[o']? = some c2 ∧ isWS c2 = false

/-- what a finished call says about the text it consumed -/
structure NsPost (h : Nat) (b : Buf) (o o' : Nat) (e : Err) : Prop where
  more : e = .moreValues → multipleValsOk h = true ∧ o < o' ∧ b[o' - 1]? = some 44 ∧ NsTop b o (o' - 1) ∧
    NsNoComma b o (o' - 1)
  ok : e = .ok → NsEol b o o' ∧ (multipleValsOk h = true → NsNoComma b o o')

def nsStepOk (h : Nat) (b : Buf) (o : Nat) : Step PFromBody → Prop
  | .cont i' st' => NsInv h b o i' st'
  | .done o' e _ => NsPost h b o o' e

theorem ns_post_err {h : Nat} {b : Buf} {o o' : Nat} {e : Err} (h1 : e ≠ .ok) (h2 : e ≠ .moreValues) :
    NsPost h b o o' e := ⟨fun hh => absurd hh h2, fun hh => absurd hh h1⟩

theorem ns_comma_post {h : Nat} {b : Buf} {o i : Nat} {m : NsMode} (hA : NsAt (multipleValsOk h) b o i m)
    (hm : m.top = true) (hb : b[i]? = some 44) (hmv : multipleValsOk h = true) (pf : PFromBody) (e : Nat) :
    NsPost h b o (naEOH h b pf e i 1 .moreValues).1 (naEOH h b pf e i 1 .moreValues).2.1 := by
  rw [naEOH_fst]
  refine ⟨fun _ => ?_, fun hok => ?_⟩
  · have e1 : i + 1 - 1 = i := by omega
    rw [e1]
    exact ⟨hmv, by have := hA.le; omega, hb, ⟨hA.le, by rw [hA.mode]; exact hm⟩, hA.nc hmv⟩
  · exact absurd hok (naEOH_ne h b pf e i 1 (by decide) (by decide) (by decide))


theorem ns_cont1 {h : Nat} {b : Buf} {o i : Nat} {m : NsMode} {c : UInt8} {st' : PFromBody}
    (hA : NsAt (multipleValsOk h) b o i m) (hb : b[i]? = some c)
    (hc : multipleValsOk h = true → c = 44 → m.top = false) (hs : nsOf st'.state = some (nsStep m c)) :
    nsStepOk h b o (.cont (i + 1) st') := ⟨_, hA.step hb hc, hs⟩

/-- white space after a parameter name or value, and the first byte of a parameter name, change the state within
    its mode -/
theorem naNameWS_nsOf (pf : PFromBody) (i : Nat) : nsOf (naNameWS pf i).state = nsOf pf.state := by
  simp only [naNameWS, beq_iff_eq]
  split <;> (try split) <;> simp only [*, nsOf]

theorem naValWS_nsOf (pf : PFromBody) (i n : Nat) (ok : Bool) : nsOf (naValWS pf i n ok).state = nsOf pf.state := by
  unfold naValWS
  split <;> (try split) <;> simp only [*, nsOf]

theorem naParam_nsOf (pf : PFromBody) (i : Nat) : nsOf (naParamsOffs (naParamStart pf i) i).state = nsOf pf.state := by
  have : (naParamsOffs (naParamStart pf i) i).state = (naParamStart pf i).state := by
    unfold naParamsOffs; split <;> rfl
  rw [this]
  simp only [naParamStart, beq_iff_eq]
  split <;> (try split) <;> simp only [*, nsOf]

theorem nsStep_comma {m : NsMode} (hm : m.plain = true) : nsStep m 44 = m := by
  cases m <;> first | rfl | cases hm

/-- a state in which the automaton takes `,` for a separator has a mode at top level -/
theorem nsOf_top {s : FBState} {m : NsMode} (hm : nsOf s = some m)
    (hg : s ≠ .quoted ∧ s ≠ .quotedVal ∧ s ≠ .quotedPossibleVal ∧ s ≠ .uri) : m.top = true := by
  obtain ⟨h1, h2, h3, h4⟩ := hg
  cases s <;> first | (cases hm; rfl) | contradiction

/-- a white-space site: the run of white space leaves the mode alone; at the end of the header the line end found
    by `skipLWS` is the one of `NsEol` -/
theorem NaLws.ns {h : Nat} {b : Buf} {o i : Nat} {m : NsMode} {om : Nat → Nat} {pm : PFromBody} {pk : Nat → PFromBody}
    {pe : PFromBody} {r : Step PFromBody} (t : NaLws h b i om pm pk pe r) (hA : NsAt (multipleValsOk h) b o i m)
    (hp : m.plain = true) (hk : ∀ n, nsOf (pk n).state = some m) : nsStepOk h b o r := by
  cases t
  case ok n crl hsk => exact ⟨m, hA.run hp n (skipLWS_range b i 0 hsk).1 (skipLWS_ok_run hsk), hk n⟩
  case eoh n crl hsk =>
    show NsPost h b o _ _
    rw [naEOH_fst]
    obtain ⟨_, h2, h3⟩ := hs_skipLWS_eoh b i 0 hsk (by decide)
    have hr := skipLWS_eoh_range b i 0 hsk (by decide)
    exact ⟨fun hmo => absurd hmo (naEOH_ne h b pe i n crl (by decide) (by decide) (by decide)), fun _ => ⟨⟨n, by have := hA.le; omega, h2, h3⟩,
      (hA.run hp (n + crl) (by omega) (skipLWS_eoh_run hsk (by decide))).nc⟩⟩
  case more => exact ns_post_err (by decide) (by decide)

/- `tactic.hygienic false` in the two proofs by `cases` on `NaTr` whose last step needs the state (`NaTr.ns`,
   `NaTr.nv`): the hypotheses of the constructors keep the names they have there (`hg`, `hc`, `hl`, `hm`, `h1`, `t`),
   so that one closing step can use them in all the remaining cases at once, where `case` would have to list some
   forty constructors to name them. -/

set_option tactic.hygienic false in
/-- **every transition of the loop body keeps the invariant or ends with the post-condition**: the scanner mode of
    the new state is the mode after the byte, and a `,` read at top level by a kind with several values ends the value -/
theorem NaTr.ns {h : Nat} {b : Buf} {o i : Nat} {c : UInt8} {pf : PFromBody} (hb : b[i]? = some c)
    (hI : NsInv h b o i pf) {r : Step PFromBody} (tr : NaTr h b i c pf r) : nsStepOk h b o r := by
  obtain ⟨m, hA, hmo⟩ := hI
  have hp := nsOf_plain hmo
  cases tr
  case a_lwsURI => rw [hg] at hmo; cases hmo; exact t.ns hA rfl fun _ => rfl
  case a_lws | q_lws | uf_lws => all_goals exact t.ns hA hp fun _ => hmo
  case p_lws => exact t.ns hA hp fun _ => by rw [naNameWS_nsOf, hmo]
  case v_lws => exact t.ns hA hp fun _ => by rw [naValWS_nsOf, hmo]
  case comma => exact ns_comma_post hA (nsOf_top hmo ⟨hg.1, hg.2.1, hg.2.2.1, hg.2.2.2.1⟩) (hc ▸ hb) hm pf i
  case commaWS =>
    refine ns_comma_post hA (nsOf_top hmo ?_) (hc ▸ hb) hm pf e
    rcases hg with ⟨g | g, _⟩ | ⟨g | g, _⟩ <;> rw [g] <;> decide
  case comma1 =>
    refine ns_cont1 hA hb (fun hmv => by rw [hm] at hmv; cases hmv) ?_
    rw [hc, nsStep_comma hp, hmo]
  case q_esc =>
    rw [hc] at hb
    repeat' (rcases hg with hg | hg)
    all_goals
      rw [hg] at hmo; cases hmo
      exact ⟨_, hA.esc (by simp) hb h1, by rw [hg]; rfl⟩
  case other =>
    repeat' (rcases hg with hg | hg)
    all_goals (rw [hg] at hmo; cases hmo)
  case q_escCRLF | q_escMore | u_bad | star_bad | a_bad | p_bad | v_bad | end_bad =>
    all_goals exact ns_post_err (by decide) (by decide)
  -- the other transitions read one byte in a state that `hg` names: `m` is the mode of that state, a `,` (if the
  -- byte can be one) is not at top level, and the mode of the new state is `nsStep m c`, by computation from the
  -- byte that `hc` gives (or excludes)
  all_goals
    repeat' (rcases hg with hg | hg)
  all_goals
    rw [hg] at hmo; cases hmo
    refine ns_cont1 hA hb (fun _ h44 => ?_) ?_
    · first | rfl | exact absurd h44 hc.1 | (rw [hc] at h44; exact absurd h44 (by decide))
    · first
        | (subst hc; rfl)
        | (subst hc; rw [hg]; rfl)
        | (rw [setFromParamVal_state]; subst hc; rfl)
        | (rw [naParam_nsOf, hg]; simp [nsOf, nsStep, hc])
        | (simp [hg, nsOf, nsStep, hc])

/-! ### C. the loop and ParseNameAddrPVal -/

/-- **the converse of the splitting rule, value level, any object that is at the start of a value** -/
theorem ns_parse (h : Nat) (b : Buf) (o : Nat) (pf : PFromBody) (hst : pf.state = .init) {o' : Nat} {e : Err}
    {pf' : PFromBody} (hp : parseNameAddrPVal h b o pf = (o', e, pf')) : NsPost h b o o' e :=
  parseNameAddrPVal_rule h b o pf (by rw [hst]; decide) (fun i st => NsInv h b o i st) (fun o' e _ => NsPost h b o o' e)
    (fun _ _ _ _ _ hq => hq) ⟨.head, NsAt.start _ b o, congrArg nsOf hst⟩
    (fun _ _ _ _ _ hb _ hP t => t.ns hb hP) (fun _ _ _ _ _ _ hb hP t => t.ns hb hP)
    (fun _ _ _ => ns_post_err (e := Err.moreBytes) (by decide) (by decide)) hp

/-! ### D. header kinds with a single value never answer "more values" (any object, any state) -/

theorem NaLws.noMore {h : Nat} {b : Buf} {i : Nat} {om : Nat → Nat} {pm : PFromBody} {pk : Nat → PFromBody}
    {pe : PFromBody} {o : Nat} {e : Err} {st' : PFromBody} (t : NaLws h b i om pm pk pe (.done o e st')) :
    e ≠ .moreValues := by
  cases t
  case eoh n crl hk => exact naEOH_ne h b pe i n crl (by decide) (by decide) (by decide)
  all_goals decide

theorem NaTr.noMore {h : Nat} {b : Buf} {i : Nat} {c : UInt8} {pf : PFromBody} (hmv : multipleValsOk h = false)
    {o : Nat} {e : Err} {st' : PFromBody} (tr : NaTr h b i c pf (.done o e st')) : e ≠ .moreValues := by
  cases tr
  case a_lwsURI _ _ t | a_lws _ _ t | q_lws _ _ t | uf_lws _ _ t | p_lws _ _ t | v_lws _ _ t => all_goals exact t.noMore
  case comma _ _ hm | commaWS _ _ _ hm => all_goals (rw [hmv] at hm; cases hm)
  all_goals decide

/-- **(3)** a header kind with a single value (From, To, …): the verdict is never "more values", whatever the input
    and whatever object is passed in -/
theorem ns_single_never_more (h : Nat) (hmv : multipleValsOk h = false) (b : Buf) (o : Nat) (pf : PFromBody) :
    (parseNameAddrPVal h b o pf).2.1 ≠ .moreValues := by
  unfold parseNameAddrPVal
  split
  · show Err.ok ≠ Err.moreValues
    decide
  · exact na_runLoop_tr h b (fun _ _ => True) (fun r => r.2.1 ≠ .moreValues) (fun _ _ _ _ _ _ _ _ _ => trivial)
      (fun _ _ _ _ _ _ _ _ t => t.noMore hmv) (fun _ _ _ => (by decide : Err.moreBytes ≠ Err.moreValues)) o _ trivial

/-! ### E. value level, stated for a new object -/

/-- **(1a)** "more values": the byte before the returned offset is a comma, it is at top level, and it is the FIRST
    top-level comma of the text that starts at `o` -/
theorem ns_value_more (h : Nat) (b : Buf) (o : Nat) {o' : Nat} {pf' : PFromBody}
    (hp : parseNameAddrPVal h b o {} = (o', .moreValues, pf')) :
    multipleValsOk h = true ∧ o < o' ∧ b[o' - 1]? = some 44 ∧ NsTop b o (o' - 1) ∧ NsNoComma b o (o' - 1) :=
  (ns_parse h b o {} rfl hp).more rfl

/-- **(1b)** OK: the returned offset is the one after the line end of the header, and (header kinds with several
    values) there is no top-level comma before it -/
theorem ns_value_ok (h : Nat) (b : Buf) (o : Nat) {o' : Nat} {pf' : PFromBody}
    (hp : parseNameAddrPVal h b o {} = (o', .ok, pf')) :
    NsEol b o o' ∧ (multipleValsOk h = true → NsNoComma b o o') :=
  (ns_parse h b o {} rfl hp).ok rfl

/-! ### F. list level: ParseAllContactValues / ParseAllPAIValues, converse direction -/

/-- the text `[o, o')` cut at its top-level commas (the scan restarts after each of them), with the value the value
    parser reports for each piece: every piece but the last ends with the first top-level comma after its start, the last
    one with the line end of the header and has no top-level comma -/
inductive NsSegs (h : Nat) (b : Buf) : Nat → List (Nat × PFromBody) → Nat → Prop
  | last (o o' : Nat) (r : PFromBody) : parseNameAddrPVal h b o {} = (o', .ok, r) → NsNoComma b o o' → NsEol b o o' →
      NsSegs h b o [(o, r)] o'
  | cons (o j o' : Nat) (r : PFromBody) (rest : List (Nat × PFromBody)) :
      parseNameAddrPVal h b o {} = (j + 1, .moreValues, r) → b[j]? = some 44 → NsTop b o j → NsNoComma b o j →
      NsSegs h b (j + 1) rest o' → NsSegs h b o ((o, r) :: rest) o'

theorem NsSegs.ne_nil {h : Nat} {b : Buf} {o o' : Nat} {L : List (Nat × PFromBody)} (H : NsSegs h b o L o') : L ≠ [] := by
  cases H <;> simp

theorem NsSegs.head_start {h : Nat} {b : Buf} {o o' : Nat} {L : List (Nat × PFromBody)} (H : NsSegs h b o L o') :
    ∃ r rest, L = (o, r) :: rest := by
  cases H with
  | last _ _ r => exact ⟨r, [], rfl⟩
  | cons _ _ _ r rest => exact ⟨r, rest, rfl⟩

theorem ns_mv_pai : multipleValsOk HdrPAI = true := by decide

/-- one run of the loop over the values of a header line that ends with OK, for either list: `one` is the one-value
    parser, which on a complete value is ParseNameAddrPVal (and may say more of the value, `Q`) -/
theorem valsLoop_segs {one : Buf → Nat → PFromBody → Nat × Err × PFromBody} {ht : Nat} {Q : PFromBody → Prop} (b : Buf)
    (hmv : multipleValsOk ht = true)
    (hone : ∀ {o n : Nat} {e : Err} {pf : PFromBody}, one b o {} = (n, e, pf) → e = .ok ∨ e = .moreValues →
      parseNameAddrPVal ht b o {} = (n, e, pf) ∧ Q pf) (o' : Nat) (c' : PContacts) :
    ∀ (o : Nat) (c : PContacts), CtClean c → c.cur = {} → valsLoop one b o c = (o', .ok, c') →
      ∃ L, NsSegs ht b o L o' ∧ c' = c.acceptAll (L.map Prod.snd) ∧ ∀ x ∈ L, Q x.2 := by
  intro o
  induction hk : b.size - o using Nat.strongRecOn generalizing o with
  | _ k ih =>
    intro c hcl hcur hp
    rw [valsLoop_eq] at hp
    unfold valsStep at hp
    rw [hcur] at hp
    rcases hq : one b o {} with ⟨next, e, pf⟩
    rw [hq] at hp
    cases e <;> simp only at hp
    case ok =>
      cases hp
      obtain ⟨hq, hQ⟩ := hone hq (Or.inl rfl)
      have hv := ns_value_ok ht b o hq
      exact ⟨[(o, pf)], .last o _ pf hq (hv.2 hmv) hv.1, rfl, List.forall_mem_singleton.2 hQ⟩
    case moreValues =>
      by_cases hg : o < next ∧ next ≤ b.size
      · rw [if_pos hg] at hp
        obtain ⟨hq, hQ⟩ := hone hq (Or.inr rfl)
        obtain ⟨_, _, h3, h4, h5⟩ := ns_value_more ht b o hq
        obtain ⟨L, hL, hc', hs⟩ := ih (b.size - next) (by omega) next rfl (c.next pf) (next_clean c pf hcl).1
          (next_clean c pf hcl).2 hp
        have hj : next = (next - 1) + 1 := by omega
        rw [hj] at hq hL
        obtain ⟨r, rest, rfl⟩ := hL.head_start
        exact ⟨_, .cons o (next - 1) o' pf _ hq h3 h4 h5 hL, hc', List.forall_mem_cons.2 ⟨hQ, hs⟩⟩
      · rw [if_neg hg] at hp; cases hp
    all_goals cases hp

theorem contactsLoop_segs (b : Buf) (o' : Nat) (c' : PContacts) (o : Nat) (c : PContacts) (hc : CtClean c)
    (hcur : c.cur = {}) (hp : contactsLoop b o c = (o', .ok, c')) :
    ∃ L, NsSegs HdrContact b o L o' ∧ c' = c.acceptAll (L.map Prod.snd) := by
  rw [contactsLoop_eq_valsLoop] at hp
  obtain ⟨L, hL, hc', _⟩ := valsLoop_segs (Q := fun _ => True) b nr_mv_contact (fun hq _ => ⟨hq, trivial⟩) o' c' o c hc hcur hp
  exact ⟨L, hL, hc'⟩

/-- **(2) ParseAllContactValues, converse**: whenever it answers OK — any buffer, any offset, any capacity — the text
    it consumed is cut at its top-level commas into pieces (`NsSegs`), and the object is the old one after accepting,
    in order, exactly the values the value parser reports for those pieces -/
theorem parseAllContactValues_segs (b : Buf) (o : Nat) (c : PContacts) (hc : CtClean c) (hcur : c.cur = {})
    {o' : Nat} {c' : PContacts} (hp : parseAllContactValues b o c = (o', .ok, c')) :
    ∃ L, NsSegs HdrContact b o L o' ∧ c' = c.acceptAll (L.map Prod.snd) := by
  rw [parseAllContactValues_eq_wrap, wrap_id_of_pending c (by rw [hcur]; decide)] at hp
  exact contactsLoop_segs b o' c' o c hc hcur hp

theorem ns_onePAI {b : Buf} {o : Nat} {pf0 : PFromBody} {n : Nat} {e : Err} {pf : PFromBody}
    (hq : parseOnePAI b o pf0 = (n, e, pf)) (he : e = .ok ∨ e = .moreValues) :
    parseNameAddrPVal HdrPAI b o pf0 = (n, e, pf) ∧ pf.star = false := by
  unfold parseOnePAI at hq
  split at hq
  rename_i n1 e1 pf1 hr
  split at hq <;> cases hq
  · rcases he with he | he <;> cases he
  · rename_i hns
    exact ⟨hr, by rcases he with rfl | rfl <;> simpa using hns⟩

theorem paisLoop_segs (b : Buf) (o' : Nat) (c' : PPAIs) (o : Nat) (c : PPAIs) (hc : PaClean c) (hcur : c.cur = {})
    (hp : paisLoop b o c = (o', .ok, c')) :
    ∃ L, NsSegs HdrPAI b o L o' ∧ c' = c.acceptAll (L.map Prod.snd) ∧ ∀ x ∈ L, x.2.star = false := by
  rw [paisLoop_eq_valsLoop] at hp
  rcases hr : valsLoop parseOnePAI b o c.toCt with ⟨n, e, d⟩
  rw [hr] at hp
  cases hp
  obtain ⟨L, hL, rfl, hs⟩ := valsLoop_segs b ns_mv_pai ns_onePAI _ d o c.toCt hc hcur hr
  exact ⟨L, hL, by rw [PPAIs.acceptAll_eq], hs⟩

/-- **(2) ParseAllPAIValues, converse** (no accepted value is `*`) -/
theorem parseAllPAIValues_segs (b : Buf) (o : Nat) (c : PPAIs) (hc : PaClean c) (hcur : c.cur = {})
    {o' : Nat} {c' : PPAIs} (hp : parseAllPAIValues b o c = (o', .ok, c')) :
    ∃ L, NsSegs HdrPAI b o L o' ∧ c' = c.acceptAll (L.map Prod.snd) ∧ ∀ x ∈ L, x.2.star = false := by
  rw [parseAllPAIValues_eq_wrap, paWrap_id_of_pending c (by rw [hcur]; decide)] at hp
  exact paisLoop_segs b o' c' o c hc hcur hp

/-! ### G. counting the top-level commas of a text (a scanner of its own; restarts after each such comma) -/

/-- mode and number of top-level commas after `k` bytes from `o` -/
def nsScanR (b : Buf) (o : Nat) : Nat → NsMode × Nat
  | 0 => (.head, 0)
  | k + 1 =>
    match b[o + k]? with
    | some c =>
      if c == 44 && (nsScanR b o k).1.top then (.head, (nsScanR b o k).2 + 1)
      else (nsStep (nsScanR b o k).1 c, (nsScanR b o k).2)
    | none => nsScanR b o k

/-- **the number of top-level commas of the text `[o, e)`** -/
def nsCommaCount (b : Buf) (o e : Nat) : Nat := (nsScanR b o (e - o)).2

theorem nsScanR_nocomma (b : Buf) (o : Nat) : ∀ k, NsNoComma b o (o + k) → nsScanR b o k = (nsModeAt b o k, 0) := by
  intro k
  induction k with
  | zero => intro _; rfl
  | succ k ih =>
    intro hn
    have h1 := ih (fun j h1 h2 => hn j h1 (by omega))
    rw [nsScanR, nsModeAt, h1]
    cases hb : b[o + k]? with
    | none => rfl
    | some c =>
      simp only
      by_cases hc : (c == 44 && (nsModeAt b o k).top) = true
      · exfalso
        simp only [Bool.and_eq_true, beq_iff_eq] at hc
        refine hn (o + k) (by omega) (by omega) ⟨by rw [hb, hc.1], by omega, ?_⟩
        have : o + k - o = k := by omega
        rw [this]; exact hc.2
      · rw [if_neg hc]

theorem nsScanR_restart (b : Buf) (o k1 n : Nat) (h : nsScanR b o k1 = (.head, n)) :
    ∀ k, nsScanR b o (k1 + k) = ((nsScanR b (o + k1) k).1, n + (nsScanR b (o + k1) k).2) := by
  intro k
  induction k with
  | zero => rw [Nat.add_zero, h]; rfl
  | succ k ih =>
    have e1 : k1 + (k + 1) = (k1 + k) + 1 := by omega
    have e2 : o + (k1 + k) = o + k1 + k := by omega
    rw [e1, nsScanR, nsScanR, e2, ih]
    cases b[o + k1 + k]? with
    | none => rfl
    | some c =>
      simp only
      split
      · simp only [Prod.mk.injEq, true_and]; omega
      · rfl

theorem NsEol.lt {b : Buf} {o o' : Nat} (h : NsEol b o o') : o < o' := by
  obtain ⟨p, h1, h2, _⟩ := h
  have := h2.gt
  omega

theorem NsSegs.count {h : Nat} {b : Buf} {o o' : Nat} {L : List (Nat × PFromBody)} (H : NsSegs h b o L o') :
    o < o' ∧ L.length = nsCommaCount b o o' + 1 := by
  induction H with
  | last o o' r _ hn he =>
    have hlt := he.lt
    refine ⟨hlt, ?_⟩
    have e : o + (o' - o) = o' := by omega
    unfold nsCommaCount
    rw [nsScanR_nocomma b o (o' - o) (by rw [e]; exact hn)]
    rfl
  | cons o j o' r rest _ hj ht hn _ ih =>
    obtain ⟨hlt, hlen⟩ := ih
    have hoj := ht.1
    refine ⟨by omega, ?_⟩
    have e : o + (j - o) = j := by omega
    have h1 := nsScanR_nocomma b o (j - o) (by rw [e]; exact hn)
    have h2 : nsScanR b o (j - o + 1) = (.head, 1) := by
      rw [nsScanR, e, hj, h1]
      simp only
      rw [if_pos (by rw [ht.2]; rfl)]
    have h3 := nsScanR_restart b o (j - o + 1) 1 h2 (o' - (j + 1))
    have e3 : j - o + 1 + (o' - (j + 1)) = o' - o := by omega
    have e4 : o + (j - o + 1) = j + 1 := by omega
    rw [e3, e4] at h3
    unfold nsCommaCount at hlen ⊢
    rw [h3]
    simp only [List.length_cons]
    omega

/-- **(2) the value count**: after ParseAllContactValues answered OK, `N` has grown by 1 + the number of top-level
    commas of the consumed text — for every capacity of the caller's array -/
theorem parseAllContactValues_count (b : Buf) (o : Nat) (c : PContacts) (hc : CtClean c) (hcur : c.cur = {})
    {o' : Nat} {c' : PContacts} (hp : parseAllContactValues b o c = (o', .ok, c')) :
    c'.n = c.n + 1 + nsCommaCount b o o' := by
  obtain ⟨L, hL, rfl⟩ := parseAllContactValues_segs b o c hc hcur hp
  rw [ctAcceptAll_n, List.length_map, hL.count.2]
  omega

theorem parseAllPAIValues_count (b : Buf) (o : Nat) (c : PPAIs) (hc : PaClean c) (hcur : c.cur = {})
    {o' : Nat} {c' : PPAIs} (hp : parseAllPAIValues b o c = (o', .ok, c')) :
    c'.n = c.n + 1 + nsCommaCount b o o' := by
  obtain ⟨L, hL, rfl, _⟩ := parseAllPAIValues_segs b o c hc hcur hp
  rw [paAcceptAll_n, List.length_map, hL.count.2]
  omega

/-! ### H. the reported value `V` of a piece ends before the comma / the trailing white space of the line -/

/-- what an exit says about the end of `V`: on "more values" it lies at or before the comma, on OK at or before a
    run of white space / line-end bytes that reaches the returned offset -/
def NsTight (b : Buf) (o' : Nat) (e : Err) (st' : PFromBody) : Prop :=
  (e = .moreValues → st'.v.inside (o' - 1)) ∧ (e = .ok → ∃ t, st'.v.inside t ∧ t ≤ o' ∧ Run isLWSch b t o')

/-- where a complete exit returns: "more values" right after the comma at `i`; OK after a run of white space / line-end
    bytes that begins at `i` -/
theorem NaLws.exit_offs {h : Nat} {b : Buf} {i : Nat} {om : Nat → Nat} {pm : PFromBody} {pk : Nat → PFromBody}
    {pe : PFromBody} {o : Nat} {e : Err} {st' : PFromBody} (t : NaLws h b i om pm pk pe (.done o e st')) :
    e ≠ .moreValues ∧ (e = .ok → i ≤ o ∧ Run isLWSch b i o) := by
  cases t
  case eoh n crl hk =>
    rw [naEOH_fst]
    have hr := skipLWS_eoh_range b i 0 hk (by decide)
    exact ⟨naEOH_ne h b pe i n crl (by decide) (by decide) (by decide),
      fun _ => ⟨by omega, skipLWS_eoh_run hk (by decide)⟩⟩
  all_goals exact ⟨by decide, nofun⟩

theorem NaTr.exit_offs {h : Nat} {b : Buf} {i : Nat} {c : UInt8} {pf : PFromBody} {o : Nat} {e : Err} {st' : PFromBody}
    (tr : NaTr h b i c pf (.done o e st')) :
    (e = .moreValues → o = i + 1) ∧ (e = .ok → i ≤ o ∧ Run isLWSch b i o) := by
  cases tr
  case a_lwsURI _ _ t | a_lws _ _ t | q_lws _ _ t | uf_lws _ _ t | p_lws _ _ t | v_lws _ _ t =>
    all_goals exact ⟨fun hh => absurd hh t.exit_offs.1, t.exit_offs.2⟩
  case comma | commaWS =>
    all_goals
      rw [naEOH_fst]
      exact ⟨fun _ => rfl, fun hh => absurd hh (naEOH_ne h b pf _ i 1 (by decide) (by decide) (by decide))⟩
  all_goals exact ⟨nofun, nofun⟩

/-- a complete value ends at or before the position at which the exit was taken (`NaDone.here`) -/
theorem NaDone.tight {b : Buf} {i o : Nat} {e : Err} {st' : PFromBody} (hd : NaDone b i o e st')
    (ho : (e = .moreValues → o = i + 1) ∧ (e = .ok → i ≤ o ∧ Run isLWSch b i o)) : NsTight b o e st' :=
  ⟨fun hm => by rw [ho.1 hm, Nat.add_sub_cancel]; exact (hd.here (.inr hm)).v,
   fun hk => ⟨i, (hd.here (.inl hk)).v, (ho.2 hk).1, (ho.2 hk).2⟩⟩

/-- where the reported value ends: on "more values" at or before the comma; on OK at or before a run of white space /
    line-end bytes that reaches the returned offset -/
theorem ns_value_vend (h : Nat) (b : Buf) (o : Nat) (ho : o ≤ b.size) {o' : Nat} {e : Err} {pf' : PFromBody}
    (hp : parseNameAddrPVal h b o {} = (o', e, pf')) :
    (e = .moreValues → pf'.v.inside (o' - 1)) ∧
    (e = .ok → ∃ t, pf'.v.inside t ∧ t ≤ o' ∧ Run isLWSch b t o') := by
  have hE : NaSafe b o { ({} : PFromBody) with s := ({} : PFromBody).soffs, soffs := 0 } :=
    ((NaEntry_new b o ho).resolve_left fun a => absurd a.1 (by decide)).2
  exact parseNameAddrPVal_rule h b o {} (by decide) (NaSafe b) (NsTight b) (fun _ _ _ _ _ hq => hq) hE
    (fun _ _ _ _ _ hb _ hP t => t.safe hb hP) (fun _ _ _ _ _ _ hb hP t => (t.done hb hP).tight t.exit_offs)
    (fun _ _ _ => ⟨nofun, nofun⟩) hp

/-- the reported values lie inside their pieces, in order: each `V` starts at or after the start of its piece and
    ends at or before the comma that closes the piece (the last one: before the trailing white space and line end) -/
def NsVSpans (b : Buf) : List (Nat × PFromBody) → Nat → Prop
  | [], _ => True
  | [x], o' => x.1 ≤ x.2.v.offs ∧ ∃ t, x.2.v.offs + x.2.v.len ≤ t ∧ t ≤ o' ∧ Run isLWSch b t o'
  | x :: y :: rest, o' =>
    x.1 ≤ x.2.v.offs ∧ x.2.v.offs + x.2.v.len ≤ y.1 - 1 ∧ x.1 < y.1 ∧ b[y.1 - 1]? = some 44 ∧ NsVSpans b (y :: rest) o'

theorem NsSegs.vspans {h : Nat} {b : Buf} {o o' : Nat} {L : List (Nat × PFromBody)} (H : NsSegs h b o L o')
    (hfit : b.size ≤ 65535) (ho : o ≤ b.size) : NsVSpans b L o' := by
  induction H with
  | last o o' r hp _ _ =>
    exact ⟨(parseNameAddrPVal_nest_new h b o hfit ho hp (Or.inl rfl)).2, (ns_value_vend h b o ho hp).2 rfl⟩
  | cons o j o' r rest hp hj ht _ hrest ih =>
    have hih := ih (get?_lt hj)
    obtain ⟨r2, rest2, rfl⟩ := hrest.head_start
    exact ⟨(parseNameAddrPVal_nest_new h b o hfit ho hp (Or.inr rfl)).2, (ns_value_vend h b o ho hp).1 rfl,
      Nat.lt_succ_of_le ht.1, by show b[j + 1 - 1]? = _; rw [Nat.add_sub_cancel]; exact hj, hih⟩

/-! ### H2. the reported value `V` of a piece starts at its first byte that is not white space -/

/-- `k` is the first position from `o` whose byte is not white space / a line-end byte -/
def NvFirst (b : Buf) (o k : Nat) : Prop := Run isLWSch b o k ∧ ∃ c, b[k]? = some c ∧ isLWSch c = false

/-- invariant: before the value has started only white space / line-end bytes were read; afterwards `V.Offs` stays at
    the first other byte -/
def NvInv (b : Buf) (o i : Nat) (pf : PFromBody) : Prop :=
  (pf.state = .init → Run isLWSch b o i) ∧ (pf.state ≠ .init → NvFirst b o pf.v.offs)

theorem nv_set {b : Buf} {o i i' : Nat} {pf st' : PFromBody} (h1 : st'.state ≠ .init) (h2 : st'.v.offs = pf.v.offs)
    (hni : pf.state ≠ .init) (hI : NvInv b o i pf) : NvInv b o i' st' :=
  ⟨fun h0 => absurd h0 h1, fun _ => by rw [h2]; exact hI.2 hni⟩

theorem nv_param (pf : PFromBody) (i : Nat) (hni : pf.state ≠ .init) :
    (naParamsOffs (naParamStart pf i) i).state ≠ .init ∧ (naParamsOffs (naParamStart pf i) i).v.offs = pf.v.offs :=
  ⟨naParam_ni pf i hni, by rw [naParam_v]⟩

theorem nv_sfp (b : Buf) (pf x : PFromBody) (h1 : x.state ≠ .init) (h2 : x.v = pf.v) :
    (setFromParamVal b x).state ≠ .init ∧ (setFromParamVal b x).v.offs = pf.v.offs := by
  rw [setFromParamVal_state, (setFromParamVal_vp b x).1, h2]
  exact ⟨h1, rfl⟩


set_option tactic.hygienic false in
/-- a continuing step keeps `NvInv`: before the value starts only white space is skipped (a kind with several values
    does not skip `,`), the first other byte sets `V.Offs` to its position, and afterwards `V.Offs` stays -/
theorem NaTr.nv {h : Nat} {b : Buf} {o i : Nat} {c : UInt8} {pf : PFromBody} (hmv : multipleValsOk h = true)
    (hb : b[i]? = some c) (hfit : i < 65536) (hI : NvInv b o i pf) {i' : Nat} {st' : PFromBody}
    (tr : NaTr h b i c pf (.cont i' st')) : NvInv b o i' st' := by
  by_cases h0 : pf.state = .init
  case neg => exact nv_set (tr.cont_voffs h0).1 (tr.cont_voffs h0).2 h0 hI
  have hr := hI.1 h0
  cases tr
  case a_lws =>
    obtain ⟨⟨crl, hk⟩, rfl⟩ := t.of_cont
    exact ⟨fun _ => Run.append hr (skipLWS_ok_run hk), fun h1 => absurd h0 h1⟩
  case lt_init | quote_init | star_init | tok_init =>
    all_goals
      refine ⟨fun hh => (by cases hh), fun _ => ?_⟩
      simp only [PFromBody.setV, PField.set]
      rw [trunc16_of_lt hfit]
      exact ⟨hr, c, hb, by first | exact hl | (rw [hc]; rfl)⟩
  case comma1 => rw [hmv] at hm; cases hm
  -- no other transition leaves the initial state
  all_goals (exfalso; revert hg; rw [h0]; decide)

def NvDone (b : Buf) (o : Nat) (e : Err) (st' : PFromBody) : Prop :=
  (e = .ok ∨ e = .moreValues) → NvFirst b o st'.v.offs

theorem nv_d_err {b : Buf} {o : Nat} {e : Err} {st' : PFromBody} (h1 : e ≠ .ok) (h2 : e ≠ .moreValues) : NvDone b o e st' := by
  intro hh; rcases hh with hh | hh
  · exact absurd hh h1
  · exact absurd hh h2

theorem naEOH_voffs_eq (h : Nat) (b : Buf) (pf : PFromBody) (e n crl : Nat) (r : Err) :
    (naEOH h b pf e n crl r).2.2.v.offs = pf.v.offs := by
  rcases naEOH_tr h b pf e n crl r with ⟨q, t, hq⟩ | hq <;> rw [hq]
  cases q with
  | none => rfl
  | some q => exact t.voffs.1

theorem naEOH_init {h : Nat} {b : Buf} {pf : PFromBody} (e n crl : Nat) (r : Err) (h0 : pf.state = .init) :
    (naEOH h b pf e n crl r).2.1 = .bad := by
  unfold naEOH; rw [h0]

theorem nv_d_eoh (h : Nat) {b : Buf} {o i : Nat} (pf : PFromBody) (e n crl : Nat) (r : Err) (hI : NvInv b o i pf) :
    NvDone b o (naEOH h b pf e n crl r).2.1 (naEOH h b pf e n crl r).2.2 := by
  intro hc
  rw [naEOH_voffs_eq]
  refine hI.2 fun h0 => ?_
  rw [naEOH_init e n crl r h0] at hc
  rcases hc with hc | hc <;> cases hc

theorem NaLws.nvDone {h : Nat} {b : Buf} {o i : Nat} {om : Nat → Nat} {pm : PFromBody} {pk : Nat → PFromBody}
    {pe : PFromBody} {o' : Nat} {e : Err} {st' : PFromBody} (t : NaLws h b i om pm pk pe (.done o' e st'))
    (hE : NvInv b o i pe) : NvDone b o e st' := by
  cases t
  case eoh n crl hk => exact nv_d_eoh h pe i n crl .ok hE
  all_goals exact nv_d_err (by decide) (by decide)

theorem NaTr.nvDone {h : Nat} {b : Buf} {o i : Nat} {c : UInt8} {pf : PFromBody} (hI : NvInv b o i pf)
    {o' : Nat} {e : Err} {st' : PFromBody} (tr : NaTr h b i c pf (.done o' e st')) : NvDone b o e st' := by
  cases tr
  case a_lwsURI hg _ t =>
    exact t.nvDone (nv_set (pf := pf) (fun hh => by cases hh) (PFromBody.extV_voffs _ _) (by rw [hg]; decide) hI)
  case a_lws _ _ t | q_lws _ _ t | uf_lws _ _ t => all_goals exact t.nvDone hI
  case p_lws hg _ t =>
    have hni : pf.state ≠ .init := fun h0 => by rw [h0] at hg; revert hg; decide
    exact t.nvDone (nv_set (naNameWS_ni pf i hni) (by rw [naNameWS_frame]) hni hI)
  case v_lws hg _ t =>
    have hni : pf.state ≠ .init := fun h0 => by rw [h0] at hg; revert hg; decide
    exact t.nvDone (nv_set (naValWS_ni pf i i false hni) (by rw [naValWS_frame]) hni hI)
  case comma => exact nv_d_eoh h pf i i 1 .moreValues hI
  case commaWS => exact nv_d_eoh h pf _ i 1 .moreValues hI
  all_goals exact nv_d_err (by decide) (by decide)

/-- **the reported value starts at the first byte of the piece that is not white space / a line-end byte** (header
    kinds with several values; buffers within the 65,535-byte limit) -/
theorem ns_value_first (h : Nat) (hmv : multipleValsOk h = true) (b : Buf) (o : Nat) (hfit : b.size ≤ 65535)
    {o' : Nat} {e : Err} {pf' : PFromBody} (hp : parseNameAddrPVal h b o {} = (o', e, pf'))
    (hc : e = .ok ∨ e = .moreValues) : NvFirst b o pf'.v.offs :=
  parseNameAddrPVal_rule h b o {} (by decide) (NvInv b o) (fun _ e st' => NvDone b o e st') (fun _ _ _ _ _ hq => hq)
    ⟨fun _ => Run.empty _ _ _, fun hh => absurd rfl hh⟩
    (fun i _ _ _ _ hb _ hP t => t.nv hmv hb (by have := get?_lt hb; omega) hP)
    (fun _ _ _ _ _ _ _ hP t => t.nvDone hP)
    (fun _ _ _ => nv_d_err (e := Err.moreBytes) (by decide) (by decide)) hp hc

/-- the bytes of the piece in front of the reported value are white space / line-end bytes -/
theorem ns_value_lead (h : Nat) (hmv : multipleValsOk h = true) (b : Buf) (o : Nat) (hfit : b.size ≤ 65535)
    {o' : Nat} {e : Err} {pf' : PFromBody} (hp : parseNameAddrPVal h b o {} = (o', e, pf'))
    (hc : e = .ok ∨ e = .moreValues) : Run isLWSch b o pf'.v.offs :=
  (ns_value_first h hmv b o hfit hp hc).1

theorem NsSegs.leads {h : Nat} {b : Buf} {o o' : Nat} {L : List (Nat × PFromBody)} (H : NsSegs h b o L o')
    (hmv : multipleValsOk h = true) (hfit : b.size ≤ 65535) : ∀ x ∈ L, Run isLWSch b x.1 x.2.v.offs := by
  induction H with
  | last o o' r hp _ _ => exact List.forall_mem_singleton.2 (ns_value_lead h hmv b o hfit hp (Or.inl rfl))
  | cons o j o' r rest hp _ _ _ _ ih =>
    exact List.forall_mem_cons.2 ⟨ns_value_lead h hmv b o hfit hp (Or.inr rfl), ih⟩

/-! ### I. one call on a new object: everything together -/

/-- **(2) ParseAllContactValues on a new object of ANY capacity `cap`, converse direction.**  If the call answers OK
    with offset `o'`, then there is a list `L` of pieces (start offset, reported value) such that
    * `NsSegs`: the pieces tile the text from `o`: each but the last is closed by the FIRST top-level comma after its
      start (the next piece starts right after it), the last has no top-level comma and is closed by the line end of the
      header, `o'` being the offset after it; the value of a piece is what the value parser reports at its start;
    * `NsVSpans`: each reported `V` lies inside its piece, before the closing comma; the bytes of the piece in front
      of it are white space / line-end bytes (that the byte at `V.Offs` is not one is `ns_value_first`);
    * `N` = number of pieces = 1 + number of top-level commas of the text `[o, o')` — also beyond the capacity;
    * the stored values are the values of the first `cap` pieces, in order;
    * max / min expires summarise ALL pieces. -/
theorem parseAllContactValues_new_converse (b : Buf) (o cap : Nat) (hfit : b.size ≤ 65535) (ho : o ≤ b.size)
    {o' : Nat} {c' : PContacts}
    (hp : parseAllContactValues b o { vals := Array.replicate cap {} } = (o', .ok, c')) :
    ∃ L : List (Nat × PFromBody), NsSegs HdrContact b o L o' ∧ NsVSpans b L o' ∧
      (∀ x ∈ L, Run isLWSch b x.1 x.2.v.offs) ∧
      c'.n = L.length ∧ c'.n = nsCommaCount b o o' + 1 ∧
      (∀ i (hi : i < L.length), i < cap → c'.vals[i]! = L[i].2) ∧
      c'.maxExpires = L.foldl (fun m x => max m x.2.expires) 0 ∧
      c'.minExpires = L.foldl (fun m x => min m x.2.expires) 4294967295 := by
  have hnew := ct_new_ok cap
  obtain ⟨L, hL, rfl⟩ := parseAllContactValues_segs b o _ hnew.1 hnew.2 hp
  refine ⟨L, hL, hL.vspans hfit ho, hL.leads nr_mv_contact hfit, ?_, ?_, ?_, ?_, ?_⟩
  · rw [ctAcceptAll_n, List.length_map]; exact Nat.zero_add _
  · rw [ctAcceptAll_n, List.length_map, hL.count.2]; exact Nat.zero_add _
  · intro i hi hcap
    have := ctAcceptAll_stored ({ vals := Array.replicate cap {} } : PContacts) (L.map Prod.snd) i
      (by rw [List.length_map]; exact hi) (by simp only [Array.size_replicate]; omega)
    simp only [Nat.zero_add, List.getElem_map] at this
    exact this
  · rw [ctAcceptAll_maxE, List.foldl_map]
  · rw [ctAcceptAll_minE _ _ (by intro hh; exact hL.ne_nil (List.map_eq_nil_iff.1 hh)), List.foldl_map]
    rfl

/-- **(2) ParseAllPAIValues on a new object, converse direction** (two slots; `N` counts all pieces) -/
theorem parseAllPAIValues_new_converse (b : Buf) (o : Nat) (hfit : b.size ≤ 65535) (ho : o ≤ b.size)
    {o' : Nat} {c' : PPAIs} (hp : parseAllPAIValues b o {} = (o', .ok, c')) :
    ∃ L : List (Nat × PFromBody), NsSegs HdrPAI b o L o' ∧ NsVSpans b L o' ∧
      (∀ x ∈ L, Run isLWSch b x.1 x.2.v.offs) ∧ (∀ x ∈ L, x.2.star = false) ∧
      c' = ({} : PPAIs).acceptAll (L.map Prod.snd) ∧ c'.n = L.length ∧ c'.n = nsCommaCount b o o' + 1 := by
  obtain ⟨L, hL, rfl, hs⟩ := parseAllPAIValues_segs b o _ pa_new_ok.1 pa_new_ok.2 hp
  refine ⟨L, hL, hL.vspans hfit ho, hL.leads ns_mv_pai hfit, hs, rfl, ?_, ?_⟩
  · rw [paAcceptAll_n, List.length_map]; exact Nat.zero_add _
  · rw [paAcceptAll_n, List.length_map, hL.count.2]; exact Nat.zero_add _

/-! ### J. non-vacuity and tests (closed computations on the model, labelled as such) -/

/-- test buffer: a comma inside the quoted display name, then the separating comma at offset 13 -/
def nsExA : Buf := "\"a,b\" <sip:x>,<sip:y>\r\nX".toUTF8.data

/-- test (evaluation): the model answers "more values" with offset 14 -/
theorem nsExA_parse : (parseNameAddrPVal HdrContact nsExA 0 {}).1 = 14 ∧
    (parseNameAddrPVal HdrContact nsExA 0 {}).2.1 = .moreValues := by decide +kernel

/-- non-vacuity of `ns_value_more`: its hypothesis holds for `nsExA`; the conclusion, spelled out: the comma at 13 is
    at top level and is the first such comma (the comma at offset 2 is inside the quoted string) -/
example : nsExA[13]? = some 44 ∧ NsTop nsExA 0 13 ∧ NsNoComma nsExA 0 13 := by
  have hp : parseNameAddrPVal HdrContact nsExA 0 {} = (14, .moreValues, (parseNameAddrPVal HdrContact nsExA 0 {}).2.2) := by
    have := nsExA_parse
    exact Prod.ext this.1 (Prod.ext this.2 rfl)
  have := ns_value_more HdrContact nsExA 0 hp
  exact ⟨this.2.2.1, this.2.2.2.1, this.2.2.2.2⟩

/-- test (evaluation of the scanner): the comma at offset 2 of `nsExA` is not at top level, the one at 13 is -/
example : ¬ NsTopComma nsExA 0 2 ∧ NsTopComma nsExA 0 13 := by decide +kernel

/-- tests (evaluation): where the automaton's notion of "top level" — hence `NsTop` — differs from the naive
    "outside double quotes and outside `<` … `>`" reading.  In each text the comma IS a separator for the model:
    (a) a `"` between `<` and `>` is an ordinary byte:        `<sip:"a>,b`   (naive reading: the comma is quoted)
    (b) a `"` after `>` (before any `;`) is an ordinary byte:  `<a>"x,y"`
    (c) a `<` after `>` is an ordinary byte:                    `<a><b,c>`
    (d) a `"` inside a parameter NAME is an ordinary byte:      `<a>;x"b,c"`
    whereas a `"` inside a bare URI / display-name token does open a quoted string:  `s:a"b,c" <x>, d` -/
example : (parseNameAddrPVal HdrContact "<sip:\"a>,b\r\nX".toUTF8.data 0 {}).1 = 9 ∧
    (parseNameAddrPVal HdrContact "<sip:\"a>,b\r\nX".toUTF8.data 0 {}).2.1 = .moreValues ∧
    NsTopComma "<sip:\"a>,b\r\nX".toUTF8.data 0 8 := by decide +kernel
example : (parseNameAddrPVal HdrContact "<a>\"x,y\"\r\nX".toUTF8.data 0 {}).1 = 6 ∧
    (parseNameAddrPVal HdrContact "<a>\"x,y\"\r\nX".toUTF8.data 0 {}).2.1 = .moreValues ∧
    NsTopComma "<a>\"x,y\"\r\nX".toUTF8.data 0 5 := by decide +kernel
example : (parseNameAddrPVal HdrContact "<a><b,c>\r\nX".toUTF8.data 0 {}).1 = 6 ∧
    (parseNameAddrPVal HdrContact "<a><b,c>\r\nX".toUTF8.data 0 {}).2.1 = .moreValues ∧
    NsTopComma "<a><b,c>\r\nX".toUTF8.data 0 5 := by decide +kernel
example : (parseNameAddrPVal HdrContact "<a>;x\"b,c\"\r\nX".toUTF8.data 0 {}).1 = 8 ∧
    (parseNameAddrPVal HdrContact "<a>;x\"b,c\"\r\nX".toUTF8.data 0 {}).2.1 = .moreValues ∧
    NsTopComma "<a>;x\"b,c\"\r\nX".toUTF8.data 0 7 := by decide +kernel
example : (parseNameAddrPVal HdrContact "s:a\"b,c\" <x>, d\r\nX".toUTF8.data 0 {}).1 = 13 ∧
    (parseNameAddrPVal HdrContact "s:a\"b,c\" <x>, d\r\nX".toUTF8.data 0 {}).2.1 = .moreValues ∧
    ¬ NsTopComma "s:a\"b,c\" <x>, d\r\nX".toUTF8.data 0 5 ∧
    NsTopComma "s:a\"b,c\" <x>, d\r\nX".toUTF8.data 0 12 := by decide +kernel

/-- tests (evaluation): backslash escapes inside quoted strings are honoured (`"a\",b" <c>` has no top-level comma;
    in `<a>;x="b\\",c` the quoted string ends after the escaped backslash, the comma at 11 separates) -/
example : (parseNameAddrPVal HdrContact "\"a\\\",b\" <c>\r\nX".toUTF8.data 0 {}).2.1 = .ok ∧
    nsCommaCount "\"a\\\",b\" <c>\r\nX".toUTF8.data 0 13 = 0 := by decide +kernel
example : (parseNameAddrPVal HdrContact "<a>;x=\"b\\\\\",c\r\nX".toUTF8.data 0 {}).1 = 12 ∧
    (parseNameAddrPVal HdrContact "<a>;x=\"b\\\\\",c\r\nX".toUTF8.data 0 {}).2.1 = .moreValues ∧
    NsTopComma "<a>;x=\"b\\\\\",c\r\nX".toUTF8.data 0 11 := by decide +kernel

/-- tests (evaluation): `*,` is rejected (bad character at the comma); a single-valued kind never splits -/
example : (parseNameAddrPVal HdrContact "*,\r\nX".toUTF8.data 0 {}).1 = 1 ∧
    (parseNameAddrPVal HdrContact "*,\r\nX".toUTF8.data 0 {}).2.1 = .badChar := by decide +kernel
example : (parseNameAddrPVal HdrFrom "<a>,<b>\r\nX".toUTF8.data 0 {}).2.1 = .ok := by decide +kernel
example : multipleValsOk HdrFrom = false ∧ multipleValsOk HdrTo = false := by decide

/-- test (evaluation): why `ns_value_first` is stated for kinds with several values only — From skips a leading comma -/
example : (parseNameAddrPVal HdrFrom ",<a>\r\nX".toUTF8.data 0 {}).2.1 = .ok ∧
    (parseNameAddrPVal HdrFrom ",<a>\r\nX".toUTF8.data 0 {}).2.2.v = ⟨1, 3⟩ := by decide +kernel

/-- tests (evaluation): `V` is not always trimmed at its end (bytes after `>` are not part of it; white space after
    `;name=` is) -/
example : (parseNameAddrPVal HdrContact "<a> jk ,c\r\nX".toUTF8.data 0 {}).1 = 8 ∧
    (parseNameAddrPVal HdrContact "<a> jk ,c\r\nX".toUTF8.data 0 {}).2.2.v = ⟨0, 3⟩ ∧
    (parseNameAddrPVal HdrContact "a:b;x= ,c\r\nX".toUTF8.data 0 {}).1 = 8 ∧
    (parseNameAddrPVal HdrContact "a:b;x= ,c\r\nX".toUTF8.data 0 {}).2.2.v = ⟨0, 7⟩ := by decide +kernel

/-- test buffer for the list level: three pieces; commas inside the quoted name, inside `<` … `>` and inside a quoted
    parameter value do not split; the second piece shows bytes (with an unbalanced quote) after `>` -/
def nsExL : Buf := "\"a,b\" <sip:x,y>;p=\"1,2\" , <sip:y> junk\"u , v\r\nX".toUTF8.data

/-- test (evaluation): capacity 1; OK, offset 46, three values counted, two top-level commas in `[0, 46)` -/
theorem nsExL_parse : (parseAllContactValues nsExL 0 { vals := Array.replicate 1 {} }).1 = 46 ∧
    (parseAllContactValues nsExL 0 { vals := Array.replicate 1 {} }).2.1 = .ok ∧
    (parseAllContactValues nsExL 0 { vals := Array.replicate 1 {} }).2.2.n = 3 ∧
    nsCommaCount nsExL 0 46 = 2 := by decide +kernel

/-- non-vacuity of `parseAllContactValues_new_converse`: its hypotheses hold for `nsExL` -/
example : ∃ L : List (Nat × PFromBody), NsSegs HdrContact nsExL 0 L 46 ∧ NsVSpans nsExL L 46 ∧ L.length = 3 := by
  have hp : parseAllContactValues nsExL 0 { vals := Array.replicate 1 {} } =
      (46, .ok, (parseAllContactValues nsExL 0 { vals := Array.replicate 1 {} }).2.2) := by
    have := nsExL_parse
    exact Prod.ext this.1 (Prod.ext this.2.1 rfl)
  obtain ⟨L, h1, h2, _, h3, _⟩ := parseAllContactValues_new_converse nsExL 0 1 (by decide) (by decide) hp
  exact ⟨L, h1, h2, by rw [← h3]; exact nsExL_parse.2.2.1⟩

end Sipsp

