/-
  Sipsp.Proofs.NaTrans — the transitions of the name-addr loop body (`naStep`, parse_from.go) in closed form.

  `naStep` is a cascade of tests on the state and on the byte. `NaTr h b i c pf r` lists its outcomes `r`: one
  constructor per assignment of the Go `switch` (a few shapes that occur in several case groups — the comma, a byte of
  the current token, a byte that cannot occur — are shared), with the tests that lead there as hypotheses.
  `naStep_tr` says that every outcome of `naStep` is one of them, so a property of the loop body is proved by `cases` on
  `NaTr`; `NaTr.eq` is the converse (`NaTr` is the graph of `naStep`), so a step over a byte whose class is known is a
  constructor of `NaTr`, and two runs in the same state at the same byte take the same transition. `NaLws` does the
  same for the white-space sites (the outcome is decided by `skipLWS`), `NaEoh` for the label `endOfHdr`. The last
  section states the constructors that come in pairs (a parameter state and its "possible" twin) once for both.
-/
import Sipsp.Proofs.Lex
import Sipsp.Model.NameAddr

namespace Sipsp

/-! ### projections of the field updates

  Stated as lemmas because `(pf.extParams e).v` and `pf.v` must not be identified by unification: a kernel check of
  `pf.extParams e =?= pf` compares `pf.params.extend e` with `pf.params` field by field and evaluates
  `(_ + 65536 - _) % 65536` on variables in unary. -/

theorem PFromBody.extParams_v (pf : PFromBody) (e : Nat) : (pf.extParams e).v = pf.v := by
  unfold PFromBody.extParams; rfl
theorem PFromBody.extV_voffs (pf : PFromBody) (e : Nat) : (pf.extV e).v.offs = pf.v.offs := by
  unfold PFromBody.extV; exact PField.extend_offs pf.v e

@[simp] theorem setURI_pend (pf : PFromBody) (a c : Nat) : (pf.setURI a c).pend = pf.pend := rfl
@[simp] theorem setURI_vend (pf : PFromBody) (a c : Nat) : (pf.setURI a c).vend = pf.vend := rfl
@[simp] theorem setName_pend (pf : PFromBody) (a c : Nat) : (pf.setName a c).pend = pf.pend := rfl
@[simp] theorem setName_vend (pf : PFromBody) (a c : Nat) : (pf.setName a c).vend = pf.vend := rfl
@[simp] theorem setV_pend (pf : PFromBody) (a c : Nat) : (pf.setV a c).pend = pf.pend := rfl
@[simp] theorem setV_vend (pf : PFromBody) (a c : Nat) : (pf.setV a c).vend = pf.vend := rfl
@[simp] theorem extV_pend (pf : PFromBody) (a : Nat) : (pf.extV a).pend = pf.pend := by unfold PFromBody.extV; rfl
@[simp] theorem extV_vend (pf : PFromBody) (a : Nat) : (pf.extV a).vend = pf.vend := by unfold PFromBody.extV; rfl
@[simp] theorem extParams_pend (pf : PFromBody) (a : Nat) : (pf.extParams a).pend = pf.pend := by
  unfold PFromBody.extParams; rfl
@[simp] theorem extParams_vend (pf : PFromBody) (a : Nat) : (pf.extParams a).vend = pf.vend := by
  unfold PFromBody.extParams; rfl
@[simp] theorem resetUPT_pend (pf : PFromBody) : pf.resetUPT.pend = pf.pend := rfl
@[simp] theorem resetUPT_vend (pf : PFromBody) : pf.resetUPT.vend = pf.vend := rfl
@[simp] theorem saveS_pend (pf : PFromBody) : pf.saveS.pend = pf.pend := rfl
@[simp] theorem saveS_vend (pf : PFromBody) : pf.saveS.vend = pf.vend := rfl

/-- `naEOH` by state: the index is the object that `naFinish` closes (`none`: the states in which the end of the
    header is an error) -/
inductive NaEoh (b : Buf) (pf : PFromBody) (i : Nat) : Option PFromBody → Prop
  | found (hg : pf.state = .uriFound ∨ pf.state = .nameOrURIEnd) : NaEoh b pf i (some pf)
  | nameOrURI (hg : pf.state = .nameOrURI) : NaEoh b pf i (some ((pf.setURI pf.s i).extV i))
  | paramName (hg : pf.state = .newParam ∨ pf.state = .paramNameEnd ∨ pf.state = .newPossibleParam ∨
      pf.state = .possibleParamNameEnd ∨ pf.state = .paramName ∨ pf.state = .possibleParamName) :
      NaEoh b pf i (some (naEOHParamName b pf i))
  | valEnd (hg : pf.state = .paramValEnd ∨ pf.state = .possibleValEnd) :
      NaEoh b pf i (some (((setFromParamVal b pf).extParams i).extV i))
  | newVal (hg : pf.state = .newParamVal ∨ pf.state = .newPossibleVal) :
      NaEoh b pf i (some (naEOHVal b { pf with vstart := i } i))
  | val (hg : pf.state = .paramVal ∨ pf.state = .possibleVal) : NaEoh b pf i (some (naEOHVal b pf i))
  | star (hg : pf.state = .star) : NaEoh b pf i (some { pf with star := true, uri := pf.v })
  | bad (hg : pf.state = .init ∨ pf.state = .name ∨ pf.state = .uri ∨ pf.state = .quoted ∨
      pf.state = .quotedVal ∨ pf.state = .quotedPossibleVal) : NaEoh b pf i none

/-- the value of `naEOH` for an outcome of `NaEoh`; the tag states and `fin` (never current at `endOfHdr`,
    Go's `default:` branch) are the `bug` alternative of `naEOH_tr` -/
def naEohRes (h : Nat) (pf : PFromBody) (n crl : Nat) (r : Err) : Option PFromBody → Nat × Err × PFromBody
  | some q => naFinish h q n crl r
  | none => (n + crl, .bad, pf)

theorem naEOH_tr (h : Nat) (b : Buf) (pf : PFromBody) (i n crl : Nat) (r : Err) :
    (∃ q, NaEoh b pf i q ∧ naEOH h b pf i n crl r = naEohRes h pf n crl r q) ∨
      naEOH h b pf i n crl r = (n + crl, .bug, pf) := by
  unfold naEOH
  split
  all_goals rename_i hst
  all_goals first
    | exact Or.inl ⟨_, .found (by rw [hst]; decide), rfl⟩
    | exact Or.inl ⟨_, .nameOrURI hst, rfl⟩
    | exact Or.inl ⟨_, .paramName (by rw [hst]; decide), rfl⟩
    | exact Or.inl ⟨_, .valEnd (by rw [hst]; decide), rfl⟩
    | exact Or.inl ⟨_, .newVal (by rw [hst]; decide), rfl⟩
    | exact Or.inl ⟨_, .val (by rw [hst]; decide), rfl⟩
    | exact Or.inl ⟨_, .star hst, rfl⟩
    | exact Or.inl ⟨none, .bad (by rw [hst]; decide), rfl⟩
    | exact Or.inr rfl

theorem NaEoh.eq {b : Buf} {pf : PFromBody} {i : Nat} {q : Option PFromBody} (t : NaEoh b pf i q) (h n crl : Nat)
    (r : Err) : naEOH h b pf i n crl r = naEohRes h pf n crl r q := by
  cases t with
  | found hg => rcases hg with hg | hg <;> simp only [naEOH, hg, naEohRes]
  | nameOrURI hg | star hg => simp only [naEOH, hg, naEohRes]
  | paramName hg => rcases hg with hg | hg | hg | hg | hg | hg <;> simp only [naEOH, hg, naEohRes]
  | valEnd hg | newVal hg | val hg => rcases hg with hg | hg <;> simp only [naEOH, hg, naEohRes]
  | bad hg => rcases hg with hg | hg | hg | hg | hg | hg <;> simp only [naEOH, hg, naEohRes]

/-- a white-space byte at `i`: `skipLWS b i 0` decides, with one of its three verdicts (`skipLWS_three_verdicts`: it
    never answers `noCR`, so the branch of the code that hands on any other error is not reached). `pm` is the object saved on
    MoreBytes, returned at `om n` (the parameter name and value sites return the position of the white space, the others
    where `skipLWS` stopped), `pk n` the object the loop goes on with at `n`, `pe` the object at the end of the header. -/
inductive NaLws (h : Nat) (b : Buf) (i : Nat) (om : Nat → Nat) (pm : PFromBody) (pk : Nat → PFromBody)
    (pe : PFromBody) : Step PFromBody → Prop
  | ok {n crl : Nat} (hk : skipLWS b i 0 = (n, crl, .ok)) : NaLws h b i om pm pk pe (.cont n (pk n))
  | eoh {n crl : Nat} (hk : skipLWS b i 0 = (n, crl, .eoh)) :
      NaLws h b i om pm pk pe
        (.done (naEOH h b pe i n crl .ok).1 (naEOH h b pe i n crl .ok).2.1 (naEOH h b pe i n crl .ok).2.2)
  | more {n crl : Nat} (hk : skipLWS b i 0 = (n, crl, .moreBytes)) :
      NaLws h b i om pm pk pe (.done (om n) .moreBytes pm.saveS)

theorem NaLws.of_cont {h : Nat} {b : Buf} {i : Nat} {om : Nat → Nat} {pm : PFromBody} {pk : Nat → PFromBody}
    {pe : PFromBody} {n : Nat} {st : PFromBody} (t : NaLws h b i om pm pk pe (.cont n st)) :
    (∃ crl, skipLWS b i 0 = (n, crl, .ok)) ∧ st = pk n := by
  cases t; exact ⟨⟨_, ‹_›⟩, rfl⟩

theorem naLWS_tr (h : Nat) (b : Buf) (i : Nat) (pf : PFromBody) :
    NaLws h b i id pf (fun _ => pf) pf (naLWS h b i pf) := by
  unfold naLWS lwsStd
  rcases hk : skipLWS b i 0 with ⟨n, crl, e⟩
  rcases skipLWS_three_verdicts b i 0 hk with rfl | rfl | rfl
  · exact .ok hk
  · exact .eoh hk
  · exact .more hk

theorem NaLws.eq_std {h : Nat} {b : Buf} {i : Nat} {pf : PFromBody} {r : Step PFromBody}
    (t : NaLws h b i id pf (fun _ => pf) pf r) : naLWS h b i pf = r := by
  unfold naLWS lwsStd
  cases t <;> rename_i hk <;> rw [hk] <;> rfl

/-- the states the loop can be in: not the tag states (never entered), not `fin` -/
def naInLoop : FBState → Bool
  | .tagT | .tagA | .tagG | .tagEq | .tagVal | .pTagT | .pTagA | .pTagG | .pTagEq | .pTagVal | .fin => false
  | _ => true

/-- the outcomes of the loop body at byte `c`, position `i`, object `pf`. Constructor names: inside a case group, the
    group (`a_` init / name / name-or-URI, `q_` quoted, `u_` URI, `uf_` URI found and `*`, `p_` / `pe_` parameter name /
    its end, `v_` / `ve_` parameter value / its end) and the byte; a transition of the first group that depends on the
    state, the byte and the state (`lt_name`, `lt_init`, `quote_init`, `quote_name`, `semi_uri`, `semi_uriEnd`,
    `star_init`, `tok_init`, `tok_uriEnd`); the shapes shared by several groups, `comma` / `commaWS` / `comma1`, `other`,
    `end_bad`, `star_bad`. A final `P` marks the twin for the "possible" parameter states of a bare URI -/
inductive NaTr (h : Nat) (b : Buf) (i : Nat) (c : UInt8) (pf : PFromBody) : Step PFromBody → Prop
  /- `case fbInit, fbName, fbNameOrURI, fbNameOrURIEnd:` -/
  | a_lwsURI {r} (hg : pf.state = .nameOrURI) (hl : isLWSch c = true)
      (t : NaLws h b i id { (pf.setURI pf.s i).extV i with state := .nameOrURIEnd }
        (fun _ => { (pf.setURI pf.s i).extV i with state := .nameOrURIEnd })
        { (pf.setURI pf.s i).extV i with state := .nameOrURIEnd } r) : NaTr h b i c pf r
  | a_lws {r} (hg : pf.state = .init ∨ pf.state = .name ∨ pf.state = .nameOrURIEnd) (hl : isLWSch c = true)
      (t : NaLws h b i id pf (fun _ => pf) pf r) : NaTr h b i c pf r
  | lt_name (hg : pf.state = .name ∨ pf.state = .nameOrURI ∨ pf.state = .nameOrURIEnd) (hc : c = 60) :
      NaTr h b i c pf (.cont (i + 1) { (pf.setName pf.s i).resetUPT with s := i + 1, state := .uri })
  | lt_init (hg : pf.state = .init) (hc : c = 60) :
      NaTr h b i c pf (.cont (i + 1) { pf.setV i i with s := i + 1, state := .uri })
  | quote_init (hg : pf.state = .init) (hc : c = 34) :
      NaTr h b i c pf (.cont (i + 1) { pf.setV i i with s := i, state := .quoted })
  | quote_name (hg : pf.state = .name ∨ pf.state = .nameOrURI ∨ pf.state = .nameOrURIEnd) (hc : c = 34) :
      NaTr h b i c pf (.cont (i + 1) { pf.resetUPT with state := .quoted })
  | semi_uri (hg : pf.state = .nameOrURI) (hc : c = 59) :
      NaTr h b i c pf
        (.cont (i + 1) { (pf.setURI pf.s i).extV (i + 1) with s := i + 1, state := .newPossibleParam })
  | semi_uriEnd (hg : pf.state = .nameOrURIEnd) (hc : c = 59) :
      NaTr h b i c pf (.cont (i + 1) { pf with state := .newPossibleParam })
  | star_init (hg : pf.state = .init) (hc : c = 42) :
      NaTr h b i c pf (.cont (i + 1) { pf.setV i (i + 1) with s := i, state := .star })
  | tok_init (hg : pf.state = .init) (hl : isLWSch c = false)
      (hc : c ≠ 44 ∧ c ≠ 60 ∧ c ≠ 34 ∧ c ≠ 59 ∧ c ≠ 62 ∧ c ≠ 42) :
      NaTr h b i c pf (.cont (i + 1) { pf.setV i i with s := i, state := .nameOrURI })
  | tok_uriEnd (hg : pf.state = .nameOrURIEnd) (hl : isLWSch c = false)
      (hc : c ≠ 44 ∧ c ≠ 60 ∧ c ≠ 34 ∧ c ≠ 59 ∧ c ≠ 62 ∧ c ≠ 42) :
      NaTr h b i c pf (.cont (i + 1) { pf.resetUPT with state := .name })
  /- `case fbQuoted, fbQuotedVal, fbQuotedPossibleVal:` -/
  | q_close (hg : pf.state = .quoted) (hc : c = 34) : NaTr h b i c pf (.cont (i + 1) { pf with state := .name })
  | q_closeVal (hg : pf.state = .quotedVal) (hc : c = 34) :
      NaTr h b i c pf (.cont (i + 1) { pf with state := .paramVal })
  | q_closePVal (hg : pf.state = .quotedPossibleVal) (hc : c = 34) :
      NaTr h b i c pf (.cont (i + 1) { pf with state := .possibleVal })
  | q_escCRLF {c1} (hg : pf.state = .quoted ∨ pf.state = .quotedVal ∨ pf.state = .quotedPossibleVal) (hc : c = 92)
      (h1 : b[i + 1]? = some c1) (hl1 : isCRLFch c1 = true) : NaTr h b i c pf (.done (i + 1) .badChar pf)
  | q_esc {c1} (hg : pf.state = .quoted ∨ pf.state = .quotedVal ∨ pf.state = .quotedPossibleVal) (hc : c = 92)
      (h1 : b[i + 1]? = some c1) (hl1 : isCRLFch c1 = false) : NaTr h b i c pf (.cont (i + 2) pf)
  | q_escMore (hg : pf.state = .quoted ∨ pf.state = .quotedVal ∨ pf.state = .quotedPossibleVal) (hc : c = 92)
      (h1 : b[i + 1]? = none) : NaTr h b i c pf (.done i .moreBytes pf.saveS)
  | q_lws {r} (hg : pf.state = .quoted ∨ pf.state = .quotedVal ∨ pf.state = .quotedPossibleVal)
      (hl : isLWSch c = true) (t : NaLws h b i id pf (fun _ => pf) pf r) : NaTr h b i c pf r
  /- `case fbURI:` -/
  | u_close (hg : pf.state = .uri) (hc : c = 62) :
      NaTr h b i c pf (.cont (i + 1) { (pf.setURI pf.s i).extV (i + 1) with state := .uriFound })
  | u_bad (hg : pf.state = .uri) (hc : c = 60 ∨ isLWSch c = true) : NaTr h b i c pf (.done i .badChar pf)
  /- `case fbURIFound:` and `case fbStar:` -/
  | uf_lws {r} (hg : pf.state = .uriFound ∨ pf.state = .star) (hl : isLWSch c = true)
      (t : NaLws h b i id pf (fun _ => pf) pf r) : NaTr h b i c pf r
  | uf_semi (hg : pf.state = .uriFound) (hc : c = 59) :
      NaTr h b i c pf (.cont (i + 1) { pf with state := .newParam, s := 0 })
  | star_bad (hg : pf.state = .star) (hl : isLWSch c = false) : NaTr h b i c pf (.done i .badChar pf)
  /- `case fbNewParam, fbNewPossibleParam, fbParamName, fbPossibleParamName:` -/
  | p_lws {r} (hg : pf.state = .newParam ∨ pf.state = .newPossibleParam ∨ pf.state = .paramName ∨
      pf.state = .possibleParamName) (hl : isLWSch c = true)
      (t : NaLws h b i (fun _ => i) pf (fun _ => naNameWS pf i) (naNameWS pf i) r) : NaTr h b i c pf r
  | p_eq (hg : pf.state = .paramName) (hc : c = 61) :
      NaTr h b i c pf (.cont (i + 1) { pf with state := .newParamVal, pend := i, vstart := i + 1 })
  | p_eqP (hg : pf.state = .possibleParamName) (hc : c = 61) :
      NaTr h b i c pf (.cont (i + 1) { pf with state := .newPossibleVal, pend := i, vstart := i + 1 })
  | p_semi (hg : pf.state = .paramName) (hc : c = 59) :
      NaTr h b i c pf (.cont (i + 1) (setFromParamVal b { pf with state := .newParam, pend := i }))
  | p_semiP (hg : pf.state = .possibleParamName) (hc : c = 59) :
      NaTr h b i c pf (.cont (i + 1) (setFromParamVal b { pf with state := .newPossibleParam, pend := i }))
  | p_tok (hg : pf.state = .newParam ∨ pf.state = .newPossibleParam ∨ pf.state = .paramName ∨
      pf.state = .possibleParamName) (hl : isLWSch c = false)
      (hc : c ≠ 44 ∧ c ≠ 61 ∧ c ≠ 60 ∧ c ≠ 62 ∧ c ≠ 59) :
      NaTr h b i c pf (.cont (i + 1) (naParamsOffs (naParamStart pf i) i))
  /- `case fbParamNameEnd, fbPossibleParamNameEnd:` -/
  | pe_eq (hg : pf.state = .paramNameEnd) (hc : c = 61) :
      NaTr h b i c pf (.cont (i + 1) { pf with state := .newParamVal, vstart := i + 1 })
  | pe_eqP (hg : pf.state = .possibleParamNameEnd) (hc : c = 61) :
      NaTr h b i c pf (.cont (i + 1) { pf with state := .newPossibleVal, vstart := i + 1 })
  | pe_semi (hg : pf.state = .paramNameEnd) (hc : c = 59) :
      NaTr h b i c pf (.cont (i + 1) (setFromParamVal b { pf with state := .newParam }))
  | pe_semiP (hg : pf.state = .possibleParamNameEnd) (hc : c = 59) :
      NaTr h b i c pf (.cont (i + 1) (setFromParamVal b { pf with state := .newPossibleParam }))
  /- `case fbNewParamVal, fbNewPossibleVal, fbParamVal, fbPossibleVal:` -/
  | v_lws {r} (hg : pf.state = .newParamVal ∨ pf.state = .newPossibleVal ∨ pf.state = .paramVal ∨
      pf.state = .possibleVal) (hl : isLWSch c = true)
      (t : NaLws h b i (fun _ => i) pf (fun n => naValWS pf i n true) (naValWS pf i i false) r) :
      NaTr h b i c pf r
  | v_semi (hg : pf.state = .newParamVal ∨ pf.state = .paramVal) (hc : c = 59) :
      NaTr h b i c pf (.cont (i + 1) (setFromParamVal b { pf with state := .newParam, vend := i }))
  | v_semiP (hg : pf.state = .newPossibleVal ∨ pf.state = .possibleVal) (hc : c = 59) :
      NaTr h b i c pf (.cont (i + 1) (setFromParamVal b { pf with state := .newPossibleParam, vend := i }))
  | v_quote (hg : pf.state = .paramVal) (hc : c = 34) :
      NaTr h b i c pf (.cont (i + 1) { pf with state := .quotedVal })
  | v_quoteNew (hg : pf.state = .newParamVal) (hc : c = 34) :
      NaTr h b i c pf (.cont (i + 1) { pf with state := .quotedVal, vstart := i })
  | v_quoteP (hg : pf.state = .possibleVal) (hc : c = 34) :
      NaTr h b i c pf (.cont (i + 1) { pf with state := .quotedPossibleVal })
  | v_quoteNewP (hg : pf.state = .newPossibleVal) (hc : c = 34) :
      NaTr h b i c pf (.cont (i + 1) { pf with state := .quotedPossibleVal, vstart := i })
  | v_tokNew (hg : pf.state = .newParamVal) (hl : isLWSch c = false)
      (hc : c ≠ 44 ∧ c ≠ 59 ∧ c ≠ 61 ∧ c ≠ 60 ∧ c ≠ 62 ∧ c ≠ 34) :
      NaTr h b i c pf (.cont (i + 1) { pf with state := .paramVal, vstart := i })
  | v_tokNewP (hg : pf.state = .newPossibleVal) (hl : isLWSch c = false)
      (hc : c ≠ 44 ∧ c ≠ 59 ∧ c ≠ 61 ∧ c ≠ 60 ∧ c ≠ 62 ∧ c ≠ 34) :
      NaTr h b i c pf (.cont (i + 1) { pf with state := .possibleVal, vstart := i })
  /- `case fbParamValEnd, fbPossibleValEnd:` -/
  | ve_semi (hg : pf.state = .paramValEnd) (hc : c = 59) :
      NaTr h b i c pf (.cont (i + 1) (setFromParamVal b { pf with state := .newParam }))
  | ve_semiP (hg : pf.state = .possibleValEnd) (hc : c = 59) :
      NaTr h b i c pf (.cont (i + 1) (setFromParamVal b { pf with state := .newPossibleParam }))
  /- shared shapes -/
  /-- `,` where the header may carry several values: the value ends here (`goto moreValues`); `hs` leaves out the
      tag states and `fin`, in which the loop body does nothing -/
  | comma (hs : naInLoop pf.state = true)
      (hg : pf.state ≠ .quoted ∧ pf.state ≠ .quotedVal ∧ pf.state ≠ .quotedPossibleVal ∧ pf.state ≠ .uri ∧
      pf.state ≠ .star ∧ pf.state ≠ .paramNameEnd ∧ pf.state ≠ .possibleParamNameEnd ∧ pf.state ≠ .paramValEnd ∧
      pf.state ≠ .possibleValEnd) (hc : c = 44) (hm : multipleValsOk h = true) :
      NaTr h b i c pf (.done (naEOH h b pf i i 1 .moreValues).1 (naEOH h b pf i i 1 .moreValues).2.1
        (naEOH h b pf i i 1 .moreValues).2.2)
  /-- `,` after the white space that followed a parameter name (`e = pf.pend`) or value (`e = pf.vend`) -/
  | commaWS {e} (hg : (pf.state = .paramNameEnd ∨ pf.state = .possibleParamNameEnd) ∧ e = pf.pend ∨
      (pf.state = .paramValEnd ∨ pf.state = .possibleValEnd) ∧ e = pf.vend) (hc : c = 44)
      (hm : multipleValsOk h = true) :
      NaTr h b i c pf (.done (naEOH h b pf e i 1 .moreValues).1 (naEOH h b pf e i 1 .moreValues).2.1
        (naEOH h b pf e i 1 .moreValues).2.2)
  /-- `,` in a header that carries one value only is an ordinary byte -/
  | comma1 (hg : pf.state ≠ .quoted ∧ pf.state ≠ .quotedVal ∧ pf.state ≠ .quotedPossibleVal ∧ pf.state ≠ .uri ∧
      pf.state ≠ .star ∧ pf.state ≠ .paramNameEnd ∧ pf.state ≠ .possibleParamNameEnd ∧ pf.state ≠ .paramValEnd ∧
      pf.state ≠ .possibleValEnd) (hc : c = 44) (hm : multipleValsOk h = false) : NaTr h b i c pf (.cont (i + 1) pf)
  /- bytes that are part of the current token: the object does not change -/
  | a_star (hg : pf.state = .name ∨ pf.state = .nameOrURI ∨ pf.state = .nameOrURIEnd) (hc : c = 42) :
      NaTr h b i c pf (.cont (i + 1) pf)
  | a_tok (hg : pf.state = .name ∨ pf.state = .nameOrURI) (hl : isLWSch c = false)
      (hc : c ≠ 44 ∧ c ≠ 60 ∧ c ≠ 34 ∧ c ≠ 59 ∧ c ≠ 62 ∧ c ≠ 42) : NaTr h b i c pf (.cont (i + 1) pf)
  | q_tok (hg : pf.state = .quoted ∨ pf.state = .quotedVal ∨ pf.state = .quotedPossibleVal) (hl : isLWSch c = false)
      (hc : c ≠ 34 ∧ c ≠ 92) : NaTr h b i c pf (.cont (i + 1) pf)
  | u_tok (hg : pf.state = .uri) (hl : isLWSch c = false) (hc : c ≠ 62 ∧ c ≠ 60) :
      NaTr h b i c pf (.cont (i + 1) pf)
  | uf_tok (hg : pf.state = .uriFound) (hl : isLWSch c = false) (hc : c ≠ 44 ∧ c ≠ 59) :
      NaTr h b i c pf (.cont (i + 1) pf)
  | p_semiNew (hg : pf.state = .newParam ∨ pf.state = .newPossibleParam) (hc : c = 59) :
      NaTr h b i c pf (.cont (i + 1) pf)
  | v_tok (hg : pf.state = .paramVal ∨ pf.state = .possibleVal) (hl : isLWSch c = false)
      (hc : c ≠ 44 ∧ c ≠ 59 ∧ c ≠ 61 ∧ c ≠ 60 ∧ c ≠ 62 ∧ c ≠ 34) : NaTr h b i c pf (.cont (i + 1) pf)
  /-- the tag states and `fin` are never current inside the loop (Go's `default:`) -/
  | other (hg : pf.state = .tagT ∨ pf.state = .tagA ∨ pf.state = .tagG ∨ pf.state = .tagEq ∨ pf.state = .tagVal ∨
      pf.state = .pTagT ∨ pf.state = .pTagA ∨ pf.state = .pTagG ∨ pf.state = .pTagEq ∨ pf.state = .pTagVal ∨
      pf.state = .fin) : NaTr h b i c pf (.cont (i + 1) pf)
  /- bytes that cannot occur in the current state -/
  | a_bad (hg : pf.state = .init ∨ pf.state = .name ∨ pf.state = .nameOrURI ∨ pf.state = .nameOrURIEnd)
      (hc : c = 62 ∨ c = 59 ∧ (pf.state = .init ∨ pf.state = .name)) : NaTr h b i c pf (.done i .badChar pf)
  | p_bad (hg : pf.state = .newParam ∨ pf.state = .newPossibleParam ∨ pf.state = .paramName ∨
      pf.state = .possibleParamName)
      (hc : c = 60 ∨ c = 62 ∨ c = 61 ∧ (pf.state = .newParam ∨ pf.state = .newPossibleParam)) :
      NaTr h b i c pf (.done i .badChar pf)
  | v_bad (hg : pf.state = .newParamVal ∨ pf.state = .newPossibleVal ∨ pf.state = .paramVal ∨
      pf.state = .possibleVal) (hc : c = 61 ∨ c = 60 ∨ c = 62) : NaTr h b i c pf (.done i .badChar pf)
  | end_bad (hg : pf.state = .paramNameEnd ∨ pf.state = .possibleParamNameEnd ∨ pf.state = .paramValEnd ∨
      pf.state = .possibleValEnd)
      (hc : c ≠ 59 ∧ (c = 44 → multipleValsOk h = false) ∧
        (c = 61 → pf.state = .paramValEnd ∨ pf.state = .possibleValEnd)) : NaTr h b i c pf (.done i .badChar pf)

/-- without the `ok` flag `naValWS` ignores where the white space ended: one object serves every exit of the value site -/
theorem naValWS_false (pf : PFromBody) (i n : Nat) : naValWS pf i n false = naValWS pf i i false := by
  unfold naValWS; cases pf.state <;> rfl

/-- the white-space code of the parameter states changes only the state and the saved positions: `rw` with these closes
    every goal about another field -/
theorem naNameWS_frame (pf : PFromBody) (i : Nat) :
    naNameWS pf i = { pf with state := (naNameWS pf i).state, pend := (naNameWS pf i).pend } := by
  unfold naNameWS; repeat' split
  all_goals rfl

theorem naValWS_frame (pf : PFromBody) (i n : Nat) (ok : Bool) :
    naValWS pf i n ok =
      { pf with state := (naValWS pf i n ok).state, vstart := (naValWS pf i n ok).vstart, vend := (naValWS pf i n ok).vend } := by
  unfold naValWS; repeat' split
  all_goals rfl

private theorem naStepA_tr (h : Nat) (b : Buf) (i : Nat) (c : UInt8) (pf : PFromBody)
    (hg : pf.state = .init ∨ pf.state = .name ∨ pf.state = .nameOrURI ∨ pf.state = .nameOrURIEnd) :
    NaTr h b i c pf (naStepA h b i c pf) := by
  have hn : pf.state ≠ .quoted ∧ pf.state ≠ .quotedVal ∧ pf.state ≠ .quotedPossibleVal ∧ pf.state ≠ .uri ∧
      pf.state ≠ .star ∧ pf.state ≠ .paramNameEnd ∧ pf.state ≠ .possibleParamNameEnd ∧ pf.state ≠ .paramValEnd ∧
      pf.state ≠ .possibleValEnd := by rcases hg with g | g | g | g <;> simp [g]
  unfold naStepA naMoreValues
  -- the cascade is walked by unification (`ite_ind`), which is much cheaper than `split` on these large terms
  repeat' (with_reducible apply ite_ind <;> intro _)
  all_goals first
    | ((with_reducible refine .a_lwsURI ?_ ?_ (naLWS_tr h b i _)) <;> simp_all <;> done)
    | ((with_reducible refine .a_lws ?_ ?_ (naLWS_tr h b i _)) <;> simp_all <;> done)
    | ((with_reducible refine .comma (by rcases hg with g | g | g | g <;> simp [g, naInLoop]) hn ?_ ?_) <;> simp_all <;> done)
    | ((with_reducible refine .comma1 hn ?_ ?_) <;> simp_all <;> done)
    | ((with_reducible refine .lt_name ?_ ?_) <;> simp_all <;> done)
    | ((with_reducible refine .lt_init ?_ ?_) <;> simp_all <;> done)
    | ((with_reducible refine .quote_init ?_ ?_) <;> simp_all <;> done)
    | ((with_reducible refine .quote_name ?_ ?_) <;> simp_all <;> done)
    | ((with_reducible refine .semi_uri ?_ ?_) <;> simp_all <;> done)
    | ((with_reducible refine .semi_uriEnd ?_ ?_) <;> simp_all <;> done)
    | ((with_reducible refine .a_bad hg ?_) <;> simp_all <;> done)
    | ((with_reducible refine .star_init ?_ ?_) <;> simp_all <;> done)
    | ((with_reducible refine .a_star ?_ ?_) <;> simp_all <;> done)
    | ((with_reducible refine .tok_init ?_ ?_ ?_) <;> simp_all <;> done)
    | ((with_reducible refine .tok_uriEnd ?_ ?_ ?_) <;> simp_all <;> done)
    | ((with_reducible refine .a_tok ?_ ?_ ?_) <;> simp_all <;> done)

private theorem naStepQ_tr (h : Nat) (b : Buf) (i : Nat) (c : UInt8) (pf : PFromBody)
    (hg : pf.state = .quoted ∨ pf.state = .quotedVal ∨ pf.state = .quotedPossibleVal) :
    NaTr h b i c pf (naStepQ h b i c pf) := by
  unfold naStepQ
  simp only [beq_iff_eq]
  repeat' split
  all_goals first
    | ((with_reducible refine .q_close ?_ ?_) <;> simp_all <;> done)
    | ((with_reducible refine .q_closeVal ?_ ?_) <;> simp_all <;> done)
    | ((with_reducible refine .q_closePVal ?_ ?_) <;> simp_all <;> done)
    | ((with_reducible refine .q_escCRLF hg ?_ (by assumption) ?_) <;> simp_all <;> done)
    | ((with_reducible refine .q_esc hg ?_ (by assumption) ?_) <;> simp_all <;> done)
    | ((with_reducible refine .q_escMore hg ?_ ?_) <;> simp_all <;> done)
    | ((with_reducible refine .q_lws hg ?_ (naLWS_tr h b i _)) <;> simp_all <;> done)
    | ((with_reducible refine .q_tok hg ?_ ?_) <;> simp_all <;> done)

private theorem naStepU_tr (h : Nat) (b : Buf) (i : Nat) (c : UInt8) (pf : PFromBody) (hg : pf.state = .uri) :
    NaTr h b i c pf (naStepU i c pf) := by
  unfold naStepU
  repeat' (with_reducible apply ite_ind <;> intro _)
  all_goals first
    | ((with_reducible refine .u_close hg ?_) <;> simp_all <;> done)
    | ((with_reducible refine .u_bad hg ?_) <;> simp_all <;> done)
    | ((with_reducible refine .u_tok hg ?_ ?_) <;> simp_all <;> done)

private theorem naStepUF_tr (h : Nat) (b : Buf) (i : Nat) (c : UInt8) (pf : PFromBody) (hg : pf.state = .uriFound) :
    NaTr h b i c pf (naStepUF h b i c pf) := by
  unfold naStepUF naMoreValues
  repeat' (with_reducible apply ite_ind <;> intro _)
  all_goals first
    | ((with_reducible refine .uf_lws (.inl hg) ?_ (naLWS_tr h b i _)) <;> simp_all <;> done)
    | ((with_reducible refine .comma (by simp [hg, naInLoop]) (by simp [hg]) ?_ ?_) <;> simp_all <;> done)
    | ((with_reducible refine .comma1 (by simp [hg]) ?_ ?_) <;> simp_all <;> done)
    | ((with_reducible refine .uf_semi hg ?_) <;> simp_all <;> done)
    | ((with_reducible refine .uf_tok hg ?_ ?_) <;> simp_all <;> done)

private theorem naStepStar_tr (h : Nat) (b : Buf) (i : Nat) (c : UInt8) (pf : PFromBody) (hg : pf.state = .star) :
    NaTr h b i c pf (naStepStar h b i c pf) := by
  unfold naStepStar
  split
  · exact .uf_lws (.inr hg) (by assumption) (naLWS_tr h b i _)
  · exact .star_bad hg (by simp_all)

private theorem naStepP_tr (h : Nat) (b : Buf) (i : Nat) (c : UInt8) (pf : PFromBody)
    (hg : pf.state = .newParam ∨ pf.state = .newPossibleParam ∨ pf.state = .paramName ∨
      pf.state = .possibleParamName) : NaTr h b i c pf (naStepP h b i c pf) := by
  have hn : pf.state ≠ .quoted ∧ pf.state ≠ .quotedVal ∧ pf.state ≠ .quotedPossibleVal ∧ pf.state ≠ .uri ∧
      pf.state ≠ .star ∧ pf.state ≠ .paramNameEnd ∧ pf.state ≠ .possibleParamNameEnd ∧ pf.state ≠ .paramValEnd ∧
      pf.state ≠ .possibleValEnd := by rcases hg with g | g | g | g <;> simp [g]
  unfold naStepP naMoreValues
  refine ite_ind (fun hl => ?_) (fun hl => ?_)
  · refine .p_lws hg hl ?_
    rcases hk : skipLWS b i 0 with ⟨n, crl, e⟩
    rcases skipLWS_three_verdicts b i 0 hk with rfl | rfl | rfl
    · exact .ok hk
    · exact .eoh hk
    · exact .more hk
  · repeat' (with_reducible apply ite_ind <;> intro _)
    all_goals first
      | ((with_reducible refine .comma (by rcases hg with g | g | g | g <;> simp [g, naInLoop]) hn ?_ ?_) <;> simp_all <;> done)
      | ((with_reducible refine .comma1 hn ?_ ?_) <;> simp_all <;> done)
      | ((with_reducible refine .p_eq ?_ ?_) <;> simp_all <;> done)
      | ((with_reducible refine .p_eqP ?_ ?_) <;> simp_all <;> done)
      | ((with_reducible refine .p_semi ?_ ?_) <;> simp_all <;> done)
      | ((with_reducible refine .p_semiP ?_ ?_) <;> simp_all <;> done)
      | ((with_reducible refine .p_semiNew ?_ ?_) <;> simp_all <;> done)
      | ((with_reducible refine .p_bad hg ?_) <;> simp_all <;> done)
      | ((with_reducible refine .p_tok hg ?_ ?_) <;> simp_all <;> done)

private theorem naStepV_tr (h : Nat) (b : Buf) (i : Nat) (c : UInt8) (pf : PFromBody)
    (hg : pf.state = .newParamVal ∨ pf.state = .newPossibleVal ∨ pf.state = .paramVal ∨ pf.state = .possibleVal) :
    NaTr h b i c pf (naStepV h b i c pf) := by
  have hn : pf.state ≠ .quoted ∧ pf.state ≠ .quotedVal ∧ pf.state ≠ .quotedPossibleVal ∧ pf.state ≠ .uri ∧
      pf.state ≠ .star ∧ pf.state ≠ .paramNameEnd ∧ pf.state ≠ .possibleParamNameEnd ∧ pf.state ≠ .paramValEnd ∧
      pf.state ≠ .possibleValEnd := by rcases hg with g | g | g | g <;> simp [g]
  unfold naStepV naMoreValues
  refine ite_ind (fun hl => ?_) (fun hl => ?_)
  · refine .v_lws hg hl ?_
    rcases hk : skipLWS b i 0 with ⟨n, crl, e⟩
    rcases skipLWS_three_verdicts b i 0 hk with rfl | rfl | rfl <;> simp only [naValWS_false pf i n]
    · exact .ok hk
    · exact .eoh hk
    · exact .more hk
  · repeat' (with_reducible apply ite_ind <;> intro _)
    all_goals first
      | ((with_reducible refine .comma (by rcases hg with g | g | g | g <;> simp [g, naInLoop]) hn ?_ ?_) <;> simp_all <;> done)
      | ((with_reducible refine .comma1 hn ?_ ?_) <;> simp_all <;> done)
      | ((with_reducible refine .v_semi ?_ ?_) <;> simp_all <;> done)
      | ((with_reducible refine .v_semiP ?_ ?_) <;> simp_all <;> done)
      | exact .v_bad hg (by simp_all [or_assoc])
      | ((with_reducible refine .v_quote ?_ ?_) <;> simp_all <;> done)
      | ((with_reducible refine .v_quoteNew ?_ ?_) <;> simp_all <;> done)
      | ((with_reducible refine .v_quoteP ?_ ?_) <;> simp_all <;> done)
      | ((with_reducible refine .v_quoteNewP ?_ ?_) <;> simp_all <;> done)
      | ((with_reducible refine .v_tokNew ?_ ?_ ?_) <;> simp_all <;> done)
      | ((with_reducible refine .v_tokNewP ?_ ?_ ?_) <;> simp_all <;> done)
      | ((with_reducible refine .v_tok ?_ ?_ ?_) <;> simp_all <;> done)

private theorem naStepPE_tr (h : Nat) (b : Buf) (i : Nat) (c : UInt8) (pf : PFromBody)
    (hg : pf.state = .paramNameEnd ∨ pf.state = .possibleParamNameEnd) :
    NaTr h b i c pf (naStepPE h b i c pf) := by
  unfold naStepPE naCommaAfterWS
  repeat' (with_reducible apply ite_ind <;> intro _)
  all_goals first
    | ((with_reducible refine .pe_eq ?_ ?_) <;> simp_all <;> done)
    | ((with_reducible refine .pe_eqP ?_ ?_) <;> simp_all <;> done)
    | ((with_reducible refine .pe_semi ?_ ?_) <;> simp_all <;> done)
    | ((with_reducible refine .pe_semiP ?_ ?_) <;> simp_all <;> done)
    | ((with_reducible refine .commaWS (.inl ⟨hg, rfl⟩) ?_ ?_) <;> simp_all <;> done)
    | (refine .end_bad (by rcases hg with g | g <;> simp [g]) ⟨?_, ?_, ?_⟩ <;> simp_all <;> done)

private theorem naStepVE_tr (h : Nat) (b : Buf) (i : Nat) (c : UInt8) (pf : PFromBody)
    (hg : pf.state = .paramValEnd ∨ pf.state = .possibleValEnd) :
    NaTr h b i c pf (naStepVE h b i c pf) := by
  unfold naStepVE naCommaAfterWS
  repeat' (with_reducible apply ite_ind <;> intro _)
  all_goals first
    | ((with_reducible refine .ve_semi ?_ ?_) <;> simp_all <;> done)
    | ((with_reducible refine .ve_semiP ?_ ?_) <;> simp_all <;> done)
    | ((with_reducible refine .commaWS (.inr ⟨hg, rfl⟩) ?_ ?_) <;> simp_all <;> done)
    | (refine .end_bad (by rcases hg with g | g <;> simp [g]) ⟨?_, ?_, ?_⟩ <;> simp_all <;> done)

theorem naStep_tr (h : Nat) (b : Buf) (i : Nat) (c : UInt8) (pf : PFromBody) :
    NaTr h b i c pf (naStep h b i c pf) := by
  unfold naStep
  split
  all_goals rename_i hst
  -- `with_reducible`: a group lemma that does not fit is rejected without unfolding the two group functions
  all_goals first
    | (with_reducible exact naStepU_tr h b i c pf hst)
    | (with_reducible exact naStepUF_tr h b i c pf hst)
    | (with_reducible exact naStepStar_tr h b i c pf hst)
    | ((with_reducible refine naStepA_tr h b i c pf ?_) <;> rw [hst] <;> decide)
    | ((with_reducible refine naStepQ_tr h b i c pf ?_) <;> rw [hst] <;> decide)
    | ((with_reducible refine naStepP_tr h b i c pf ?_) <;> rw [hst] <;> decide)
    | ((with_reducible refine naStepPE_tr h b i c pf ?_) <;> rw [hst] <;> decide)
    | ((with_reducible refine naStepV_tr h b i c pf ?_) <;> rw [hst] <;> decide)
    | ((with_reducible refine naStepVE_tr h b i c pf ?_) <;> rw [hst] <;> decide)
    | exact .other (by cases hs : pf.state <;> simp_all)

theorem isLWSch_cases {c : UInt8} (h : isLWSch c = true) : c = 32 ∨ c = 9 ∨ c = 13 ∨ c = 10 := by
  simp only [isLWSch, Bool.or_eq_true, beq_iff_eq] at h
  rcases h with ((h | h) | h) | h <;> simp [h]

/- `tactic.hygienic false`: the hypotheses of the constructors keep their names (`hg`, `hc`, `hl`, `hm`, `h1`, `hl1`, `t`,
   `hs`), so that one closing step serves all constructors of the same shape. -/
set_option tactic.hygienic false in
theorem NaTr.eq {h : Nat} {b : Buf} {i : Nat} {c : UInt8} {pf : PFromBody} {r : Step PFromBody}
    (tr : NaTr h b i c pf r) : naStep h b i c pf = r := by
  cases tr
  case a_lwsURI => simp only [naStep, hg, naStepA, hl, if_true, beq_self_eq_true]; exact t.eq_std
  case a_lws =>
    rcases hg with hg | hg | hg <;> simp only [naStep, hg, naStepA, hl, if_true] <;> exact t.eq_std
  case q_lws =>
    rcases isLWSch_cases hl with rfl | rfl | rfl | rfl <;> rcases hg with hg | hg | hg <;>
      simp +decide only [naStep, hg, naStepQ, if_true, if_false] <;> exact t.eq_std
  case uf_lws =>
    rcases hg with hg | hg <;> simp only [naStep, hg, naStepUF, naStepStar, hl, if_true] <;> exact t.eq_std
  case p_lws =>
    rcases hg with hg | hg | hg | hg <;> simp only [naStep, hg, naStepP, hl, if_true] <;> cases t <;> rw [hk]
  case v_lws =>
    rcases hg with hg | hg | hg | hg <;> simp only [naStep, hg, naStepV, hl, if_true] <;> cases t <;> rw [hk] <;>
      simp only [naValWS_false pf i]
  -- the comma: the state is only known by what it is not
  case comma | comma1 =>
    all_goals
      subst hc
      cases hst : pf.state <;> simp_all +decide [naStep, naStepA, naStepUF, naStepP, naStepV, naMoreValues, naInLoop]
  case end_bad =>
    by_cases h44 : c = 44 <;> rcases hg with hg | hg | hg | hg <;>
      simp_all +decide [naStep, naStepPE, naStepVE, naCommaAfterWS]
  case u_bad =>
    rcases hc with rfl | hc
    · simp +decide [naStep, hg, naStepU]
    · rcases isLWSch_cases hc with rfl | rfl | rfl | rfl <;> simp +decide [naStep, hg, naStepU]
  case star_bad => simp [naStep, hg, naStepStar, hl]
  -- the others: one state of the list `hg`, then the byte is a constant (`hc : c = k`), excluded from constants
  -- (`hc : c ≠ k ∧ …`, `hl`), or one of some constants
  all_goals
    repeat' (rcases hg with hg | hg)
  all_goals
    first
      | (subst hc
         simp +decide only [naStep, naStepA, naStepQ, naStepU, naStepUF, naStepP, naStepPE, naStepV, naStepVE,
           naMoreValues, naCommaAfterWS, if_true, if_false, *]
         done)
      | (simp [naStep, hg, naStepA, naStepQ, naStepU, naStepUF, naStepP, naStepV, hl, hc]
         done)
      | (simp only [naStep, hg]; done)
      | (repeat' (rcases hc with hc | hc)
         all_goals simp_all +decide [naStep, naStepA, naStepP, naStepV]
         done)

/-! ### the parameter states of either kind

  The parameter states come in two kinds (header parameters after `<uri>`, and the "possible" ones after a bare URI,
  `q = true`) that the loop treats alike: `stNP q` … `stQV q` name a state of either kind, and the twin constructors
  of `NaTr` are stated once for both. -/

def stNP (q : Bool) : FBState := match q with | true => .newPossibleParam | false => .newParam
def stPN (q : Bool) : FBState := match q with | true => .possibleParamName | false => .paramName
def stPNE (q : Bool) : FBState := match q with | true => .possibleParamNameEnd | false => .paramNameEnd
def stNV (q : Bool) : FBState := match q with | true => .newPossibleVal | false => .newParamVal
def stPV (q : Bool) : FBState := match q with | true => .possibleVal | false => .paramVal
def stPVE (q : Bool) : FBState := match q with | true => .possibleValEnd | false => .paramValEnd
def stQV (q : Bool) : FBState := match q with | true => .quotedPossibleVal | false => .quotedVal

section twins
variable {h : Nat} {b : Buf} {i : Nat} {c : UInt8} {pf : PFromBody} (q : Bool)

/- the lists of states by which the constructors of `NaTr` and `NaEoh` name a case group -/
theorem stNP_new : stNP q = .newParam ∨ stNP q = .newPossibleParam := by cases q <;> simp [stNP]
theorem stPN_nm : stPN q = .paramName ∨ stPN q = .possibleParamName := by cases q <;> simp [stPN]
theorem stNP_P : stNP q = .newParam ∨ stNP q = .newPossibleParam ∨ stNP q = .paramName ∨ stNP q = .possibleParamName := by
  cases q <;> simp [stNP]
theorem stPN_P : stPN q = .newParam ∨ stPN q = .newPossibleParam ∨ stPN q = .paramName ∨ stPN q = .possibleParamName :=
  .inr (.inr (stPN_nm q))
theorem stPNE_e : stPNE q = .paramNameEnd ∨ stPNE q = .possibleParamNameEnd := by cases q <;> simp [stPNE]
theorem stNV_new : stNV q = .newParamVal ∨ stNV q = .newPossibleVal := by cases q <;> simp [stNV]
theorem stPV_v : stPV q = .paramVal ∨ stPV q = .possibleVal := by cases q <;> simp [stPV]
theorem stNV_V : stNV q = .newParamVal ∨ stNV q = .newPossibleVal ∨ stNV q = .paramVal ∨ stNV q = .possibleVal := by
  cases q <;> simp [stNV]
theorem stPV_V : stPV q = .newParamVal ∨ stPV q = .newPossibleVal ∨ stPV q = .paramVal ∨ stPV q = .possibleVal :=
  .inr (.inr (stPV_v q))
theorem stPVE_e : stPVE q = .paramValEnd ∨ stPVE q = .possibleValEnd := by cases q <;> simp [stPVE]
theorem stQV_q : stQV q = .quoted ∨ stQV q = .quotedVal ∨ stQV q = .quotedPossibleVal := by cases q <;> simp [stQV]

theorem NaTr.pEq (hg : pf.state = stPN q) :
    NaTr h b i 61 pf (.cont (i + 1) { pf with state := stNV q, pend := i, vstart := i + 1 }) :=
  match q with | false => .p_eq hg rfl | true => .p_eqP hg rfl
theorem NaTr.pSemi (hg : pf.state = stPN q) :
    NaTr h b i 59 pf (.cont (i + 1) (setFromParamVal b { pf with state := stNP q, pend := i })) :=
  match q with | false => .p_semi hg rfl | true => .p_semiP hg rfl
theorem NaTr.peEq (hg : pf.state = stPNE q) :
    NaTr h b i 61 pf (.cont (i + 1) { pf with state := stNV q, vstart := i + 1 }) :=
  match q with | false => .pe_eq hg rfl | true => .pe_eqP hg rfl
theorem NaTr.peSemi (hg : pf.state = stPNE q) :
    NaTr h b i 59 pf (.cont (i + 1) (setFromParamVal b { pf with state := stNP q })) :=
  match q with | false => .pe_semi hg rfl | true => .pe_semiP hg rfl
theorem NaTr.vSemi (hg : pf.state = stNV q ∨ pf.state = stPV q) :
    NaTr h b i 59 pf (.cont (i + 1) (setFromParamVal b { pf with state := stNP q, vend := i })) :=
  match q with | false => .v_semi hg rfl | true => .v_semiP hg rfl
theorem NaTr.veSemi (hg : pf.state = stPVE q) :
    NaTr h b i 59 pf (.cont (i + 1) (setFromParamVal b { pf with state := stNP q })) :=
  match q with | false => .ve_semi hg rfl | true => .ve_semiP hg rfl
theorem NaTr.vQuote (hg : pf.state = stPV q) : NaTr h b i 34 pf (.cont (i + 1) { pf with state := stQV q }) :=
  match q with | false => .v_quote hg rfl | true => .v_quoteP hg rfl
theorem NaTr.vQuoteNew (hg : pf.state = stNV q) :
    NaTr h b i 34 pf (.cont (i + 1) { pf with state := stQV q, vstart := i }) :=
  match q with | false => .v_quoteNew hg rfl | true => .v_quoteNewP hg rfl
theorem NaTr.vTokNew (hg : pf.state = stNV q) (hl : isLWSch c = false)
    (hc : c ≠ 44 ∧ c ≠ 59 ∧ c ≠ 61 ∧ c ≠ 60 ∧ c ≠ 62 ∧ c ≠ 34) :
    NaTr h b i c pf (.cont (i + 1) { pf with state := stPV q, vstart := i }) :=
  match q with | false => .v_tokNew hg hl hc | true => .v_tokNewP hg hl hc
theorem NaTr.qCloseV (hg : pf.state = stQV q) : NaTr h b i 34 pf (.cont (i + 1) { pf with state := stPV q }) :=
  match q with | false => .q_closeVal hg rfl | true => .q_closePVal hg rfl

theorem naNameWS_NP (hg : pf.state = stNP q) (i : Nat) : naNameWS pf i = pf := by
  cases q <;> simp +decide only [naNameWS, hg, stNP, if_false]
theorem naNameWS_PN (hg : pf.state = stPN q) (i : Nat) : naNameWS pf i = { pf with state := stPNE q, pend := i } := by
  cases q <;> simp +decide only [naNameWS, hg, stPN, if_true, if_false] <;> rfl
theorem naParamStart_NP (hg : pf.state = stNP q) (i : Nat) :
    naParamStart pf i = { pf with state := stPN q, pstart := i } := by
  cases q <;> simp +decide only [naParamStart, hg, stNP, if_true, if_false] <;> rfl
theorem naParamStart_PN (hg : pf.state = stPN q) (i : Nat) : naParamStart pf i = pf := by
  cases q <;> simp +decide only [naParamStart, hg, stPN, if_false]
theorem naValWS_NV (hg : pf.state = stNV q) (i n : Nat) : naValWS pf i n true = { pf with vstart := n } := by
  cases q <;> simp only [naValWS, hg, stNV, if_true]
theorem naValWS_NV_end (hg : pf.state = stNV q) (i n : Nat) : naValWS pf i n false = pf := by
  cases q <;> simp only [naValWS, hg, stNV] <;> rfl
theorem naValWS_PV (hg : pf.state = stPV q) (i n : Nat) (ok : Bool) :
    naValWS pf i n ok = { pf with state := stPVE q, vend := i } := by
  cases q <;> simp only [naValWS, hg, stPV] <;> rfl

end twins

end Sipsp
