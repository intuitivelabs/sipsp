/-
  Sipsp.Proofs.NameAddrL1 — towards L1 (no premature verdict) for ParseNameAddrPVal: `setFromParamVal` and the
  label `endOfHdr` read the buffer only below the saved ends; the loop invariant `naInv` keeps these inside the
  part of the buffer already seen.
-/
import Sipsp.Proofs.NaTrans
import Sipsp.Proofs.SfpKind
import Sipsp.Proofs.RunLoop

namespace Sipsp

theorem slice?_app (b s : Buf) (lo hi : Nat) (h : hi ≤ b.size) : slice? (b ++ s) lo hi = slice? b lo hi := by
  unfold slice?
  have hs : (b ++ s).size = b.size + s.size := by simp
  by_cases h1 : lo ≤ hi
  · rw [if_pos ⟨h1, by omega⟩, if_pos ⟨h1, h⟩, extract_app b s lo hi h]
  · rw [if_neg (fun hh => h1 hh.1), if_neg (fun hh => h1 hh.1)]

theorem setFromParamVal_app (b s : Buf) (pf : PFromBody) (h1 : pf.pend ≤ b.size) (h2 : pf.vend ≤ b.size) :
    setFromParamVal (b ++ s) pf = setFromParamVal b pf := by
  unfold setFromParamVal
  rw [slice?_app b s _ _ h1, slice?_app b s _ _ h2]

theorem naEOHVal_app (b s : Buf) (pf : PFromBody) (i : Nat) (hi : i ≤ b.size) (h1 : pf.pend ≤ b.size) :
    naEOHVal (b ++ s) pf i = naEOHVal b pf i := by
  unfold naEOHVal; rw [setFromParamVal_app b s { pf with vend := i } h1 hi]

theorem naEOHParamName_app (b s : Buf) (pf : PFromBody) (i : Nat) (hi : i ≤ b.size) (h1 : pf.pend ≤ b.size)
    (h2 : pf.vend ≤ b.size) : naEOHParamName (b ++ s) pf i = naEOHParamName b pf i := by
  unfold naEOHParamName
  dsimp only
  rw [setFromParamVal_app b s _ (by split <;> assumption) (by split <;> assumption)]

theorem naEOH_app (h : Nat) (b s : Buf) (pf : PFromBody) (i n crl : Nat) (r : Err)
    (hi : i ≤ b.size) (h1 : pf.pend ≤ b.size) (h2 : pf.vend ≤ b.size) :
    naEOH h (b ++ s) pf i n crl r = naEOH h b pf i n crl r := by
  unfold naEOH
  rw [naEOHParamName_app b s pf i hi h1 h2, setFromParamVal_app b s pf h1 h2, naEOHVal_app b s pf i hi h1,
    naEOHVal_app b s { pf with vstart := i } i hi h1]

/-- `endOfHdr` returns the line end; its verdict is the one asked for, with the object final, or `bad` / `bug` -/
theorem naEOH_res (h : Nat) (b : Buf) (pf : PFromBody) (i n crl : Nat) (r : Err) :
    (naEOH h b pf i n crl r).1 = n + crl ∧
      ((naEOH h b pf i n crl r).2.1 = r ∧ (naEOH h b pf i n crl r).2.2.state = .fin ∨
        (naEOH h b pf i n crl r).2.1 = .bad ∨ (naEOH h b pf i n crl r).2.1 = .bug) := by
  rcases naEOH_tr h b pf i n crl r with ⟨q, -, hq⟩ | hq <;> rw [hq]
  · cases q
    · exact ⟨rfl, .inr (.inl rfl)⟩
    · exact ⟨rfl, .inl ⟨rfl, rfl⟩⟩
  · exact ⟨rfl, .inr (.inr rfl)⟩

theorem naEOH_fst (h : Nat) (b : Buf) (pf : PFromBody) (i n crl : Nat) (r : Err) :
    (naEOH h b pf i n crl r).1 = n + crl := (naEOH_res h b pf i n crl r).1

theorem naEOH_ne (h : Nat) (b : Buf) (pf : PFromBody) (i n crl : Nat) {r e : Err} (hr : r ≠ e) (h1 : .bad ≠ e)
    (h2 : .bug ≠ e) : (naEOH h b pf i n crl r).2.1 ≠ e := by
  rcases (naEOH_res h b pf i n crl r).2 with ⟨hv, _⟩ | hv | hv <;> rw [hv] <;> assumption

/-- loop invariant: the saved parameter name / value ends lie inside the part of the buffer already seen -/
def naInv (b : Buf) (i : Nat) (pf : PFromBody) : Prop := i ≤ b.size ∧ pf.pend ≤ i ∧ pf.vend ≤ i

theorem naInv.mono {b : Buf} {i j : Nat} {pf : PFromBody} (hI : naInv b i pf) (hij : i ≤ j) (hj : j ≤ b.size) :
    naInv b j pf := ⟨hj, Nat.le_trans hI.2.1 hij, Nat.le_trans hI.2.2 hij⟩

theorem naInv.lwsURI {b : Buf} {i : Nat} {pf : PFromBody} (hI : naInv b i pf) :
    naInv b i { (pf.setURI pf.s i).extV i with state := .nameOrURIEnd } := by
  simpa only [naInv, extV_pend, extV_vend, setURI_pend, setURI_vend] using hI

theorem naInv_sfp (b : Buf) (pf : PFromBody) (i : Nat) (hi : i ≤ b.size) : naInv b i (setFromParamVal b pf) :=
  ⟨hi, by rw [setFromParamVal_pend]; omega, by rw [setFromParamVal_vend]; omega⟩

theorem naInv.nameWS {b : Buf} {i : Nat} {pf : PFromBody} (hI : naInv b i pf) : naInv b i (naNameWS pf i) := by
  unfold naNameWS
  repeat' split
  all_goals first | exact hI | exact ⟨hI.1, Nat.le_refl i, hI.2.2⟩

theorem naInv.valWS {b : Buf} {i : Nat} {pf : PFromBody} (hI : naInv b i pf) (n : Nat) (ok : Bool) :
    naInv b i (naValWS pf i n ok) := by
  unfold naValWS
  repeat' split
  all_goals first | exact hI | exact ⟨hI.1, hI.2.1, Nat.le_refl i⟩

theorem naParam_frame (pf : PFromBody) (i : Nat) :
    (naParamsOffs (naParamStart pf i) i).pend = pf.pend ∧ (naParamsOffs (naParamStart pf i) i).vend = pf.vend ∧
      (naParamsOffs (naParamStart pf i) i).soffs = pf.soffs ∧
      (pf.state ≠ .fin → (naParamsOffs (naParamStart pf i) i).state ≠ .fin) := by
  unfold naParamsOffs naParamStart; repeat' split
  all_goals exact ⟨rfl, rfl, rfl, fun hnf => by first | exact hnf | (intro hh; cases hh)⟩

theorem NaLws.cont_inv {h : Nat} {b : Buf} {i : Nat} {om : Nat → Nat} {pm : PFromBody} {pk : Nat → PFromBody}
    {pe : PFromBody} {n : Nat} {st : PFromBody} (hI : ∀ n, naInv b i (pk n))
    (t : NaLws h b i om pm pk pe (.cont n st)) : naInv b n st := by
  obtain ⟨⟨crl, hk⟩, rfl⟩ := t.of_cont
  have hr := skipLWS_range b i 0 hk
  exact (hI n).mono hr.1 (hr.2 (hI n).1)

/-- a continuing step keeps the saved ends behind the position: they are left alone, cleared, or set to `i` -/
theorem NaTr.inv {h : Nat} {b : Buf} {i : Nat} {c : UInt8} {pf : PFromBody} (hb : b[i]? = some c)
    (hI : naInv b i pf) {i' : Nat} {st' : PFromBody} (t : NaTr h b i c pf (.cont i' st')) : naInv b i' st' := by
  have hlt : i + 1 ≤ b.size := get?_lt hb
  have ⟨h1, h2, h3⟩ := hI
  cases t
  case a_lwsURI hg hl t => exact t.cont_inv fun _ => hI.lwsURI
  case a_lws hg hl t | q_lws hg hl t | uf_lws hg hl t => all_goals exact t.cont_inv fun _ => hI
  case p_lws hg hl t => exact t.cont_inv fun _ => hI.nameWS
  case v_lws hg hl t => exact t.cont_inv fun n => hI.valWS n true
  case q_esc hg hc h1 hl1 => have := get?_lt h1; exact hI.mono (by omega) (by omega)
  case p_tok hg hl hc => have hp := naParam_frame pf i; exact ⟨hlt, by rw [hp.1]; omega, by rw [hp.2.1]; omega⟩
  case p_semi | p_semiP | pe_semi | pe_semiP | v_semi | v_semiP | ve_semi | ve_semiP =>
    all_goals exact naInv_sfp b _ _ hlt
  all_goals
    refine ⟨hlt, ?_, ?_⟩ <;>
      first
        | (simp only [extV_pend, extV_vend, setURI_pend, setURI_vend, setName_pend, setName_vend, setV_pend, setV_vend,
             resetUPT_pend, resetUPT_vend]; omega)
        | omega

theorem na_invCont (h : Nat) (b : Buf) : InvCont (naMachine h) b (naInv b) := by
  intro i c pf i' st' hb hI hs _
  have t := naStep_tr h b i c pf
  rw [show naStep h b i c pf = .cont i' st' from hs] at t
  exact t.inv hb hI

end Sipsp
