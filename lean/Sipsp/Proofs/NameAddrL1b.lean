/-
  Sipsp.Proofs.NameAddrL1b — step stability of the name-addr loop body, and L1 for ParseNameAddrPVal.

  A transition of the loop body on `b` is a transition on `b ++ s` unless it asked for more bytes (`NaTr.app`): the
  same constructor applies, since its tests read `b[i + 1]?` and `skipLWS b i 0` only, and its outcome reads the buffer
  below the saved ends only (`setFromParamVal`, `endOfHdr`). As `NaTr` is the graph of `naStep`, that is step stability.
-/
import Sipsp.Proofs.NameAddrL1

namespace Sipsp

theorem naInv.eoh_app {b : Buf} {i : Nat} {pf : PFromBody} (hI : naInv b i pf) (h : Nat) (s : Buf) (e n crl : Nat)
    (r : Err) (he : e ≤ i) : naEOH h (b ++ s) pf e n crl r = naEOH h b pf e n crl r :=
  naEOH_app h b s pf e n crl r (Nat.le_trans he hI.1) (Nat.le_trans hI.2.1 hI.1) (Nat.le_trans hI.2.2 hI.1)

/-- a white-space site on the longer buffer: `skipLWS` decides the same way unless it ran out of bytes -/
theorem NaLws.app {h : Nat} {b : Buf} {i : Nat} {om : Nat → Nat} {pm : PFromBody} {pk : Nat → PFromBody}
    {pe : PFromBody} {r : Step PFromBody} (t : NaLws h b i om pm pk pe r) (hpe : naInv b i pe)
    (hne : ∀ o st', r ≠ .done o .moreBytes st') (s : Buf) : NaLws h (b ++ s) i om pm pk pe r := by
  cases t with
  | ok hk => exact .ok (skipLWS_stable b s i 0 hk (by decide) (by decide))
  | eoh hk =>
    rw [← hpe.eoh_app h s i _ _ .ok (Nat.le_refl i)]
    exact .eoh (skipLWS_stable b s i 0 hk (by decide) (by decide))
  | more hk => exact absurd rfl (hne _ _)

theorem NaTr.app {h : Nat} {b : Buf} {i : Nat} {c : UInt8} {pf : PFromBody} {r : Step PFromBody}
    (tr : NaTr h b i c pf r) (hI : naInv b i pf) (hne : ∀ o st', r ≠ .done o .moreBytes st') (s : Buf) :
    NaTr h (b ++ s) i c pf r := by
  have hi := hI.1
  have hp := Nat.le_trans hI.2.1 hI.1
  have hv := Nat.le_trans hI.2.2 hI.1
  -- `setFromParamVal` reads the buffer below the saved ends (one of them possibly set to `i`)
  have sfp : ∀ (pf' : PFromBody) (j : Nat), pf'.pend ≤ b.size → pf'.vend ≤ b.size →
      NaTr h (b ++ s) i c pf (.cont j (setFromParamVal (b ++ s) pf')) →
      NaTr h (b ++ s) i c pf (.cont j (setFromParamVal b pf')) :=
    fun pf' j h1 h2 t => by rw [← setFromParamVal_app b s pf' h1 h2]; exact t
  cases tr with
  -- white space
  | a_lwsURI hg hl t => exact .a_lwsURI hg hl (t.app hI.lwsURI hne s)
  | a_lws hg hl t => exact .a_lws hg hl (t.app hI hne s)
  | q_lws hg hl t => exact .q_lws hg hl (t.app hI hne s)
  | uf_lws hg hl t => exact .uf_lws hg hl (t.app hI hne s)
  | p_lws hg hl t => exact .p_lws hg hl (t.app hI.nameWS hne s)
  | v_lws hg hl t => exact .v_lws hg hl (t.app (hI.valWS i false) hne s)
  -- the byte after a backslash
  | q_escCRLF hg hc h1 hl1 => exact .q_escCRLF hg hc (get?_app h1) hl1
  | q_esc hg hc h1 hl1 => exact .q_esc hg hc (get?_app h1) hl1
  | q_escMore hg hc h1 => exact absurd rfl (hne _ _)
  -- a parameter is stored
  | p_semi hg hc => exact sfp _ _ hi hv (.p_semi hg hc)
  | p_semiP hg hc => exact sfp _ _ hi hv (.p_semiP hg hc)
  | pe_semi hg hc => exact sfp _ _ hp hv (.pe_semi hg hc)
  | pe_semiP hg hc => exact sfp _ _ hp hv (.pe_semiP hg hc)
  | v_semi hg hc => exact sfp _ _ hp hi (.v_semi hg hc)
  | v_semiP hg hc => exact sfp _ _ hp hi (.v_semiP hg hc)
  | ve_semi hg hc => exact sfp _ _ hp hv (.ve_semi hg hc)
  | ve_semiP hg hc => exact sfp _ _ hp hv (.ve_semiP hg hc)
  -- the value ends at a comma
  | comma hs hg hc hm => rw [← hI.eoh_app h s i i 1 _ (Nat.le_refl i)]; exact .comma hs hg hc hm
  | @commaWS e hg hc hm =>
    have he : e ≤ i := by
      rcases hg with ⟨_, rfl⟩ | ⟨_, rfl⟩
      · exact hI.2.1
      · exact hI.2.2
    rw [← hI.eoh_app h s e i 1 _ he]; exact .commaWS hg hc hm
  -- the others do not read the buffer
  | comma1 hg hc hm => exact .comma1 hg hc hm
  | star_bad hg hl => exact .star_bad hg hl
  | other hg => exact .other hg
  | lt_name hg hc => exact .lt_name hg hc
  | lt_init hg hc => exact .lt_init hg hc
  | quote_init hg hc => exact .quote_init hg hc
  | quote_name hg hc => exact .quote_name hg hc
  | semi_uri hg hc => exact .semi_uri hg hc
  | semi_uriEnd hg hc => exact .semi_uriEnd hg hc
  | star_init hg hc => exact .star_init hg hc
  | q_close hg hc => exact .q_close hg hc
  | q_closeVal hg hc => exact .q_closeVal hg hc
  | q_closePVal hg hc => exact .q_closePVal hg hc
  | u_close hg hc => exact .u_close hg hc
  | u_bad hg hc => exact .u_bad hg hc
  | uf_semi hg hc => exact .uf_semi hg hc
  | p_eq hg hc => exact .p_eq hg hc
  | p_eqP hg hc => exact .p_eqP hg hc
  | pe_eq hg hc => exact .pe_eq hg hc
  | pe_eqP hg hc => exact .pe_eqP hg hc
  | v_quote hg hc => exact .v_quote hg hc
  | v_quoteNew hg hc => exact .v_quoteNew hg hc
  | v_quoteP hg hc => exact .v_quoteP hg hc
  | v_quoteNewP hg hc => exact .v_quoteNewP hg hc
  | a_star hg hc => exact .a_star hg hc
  | p_semiNew hg hc => exact .p_semiNew hg hc
  | a_bad hg hc => exact .a_bad hg hc
  | p_bad hg hc => exact .p_bad hg hc
  | v_bad hg hc => exact .v_bad hg hc
  | end_bad hg hc => exact .end_bad hg hc
  | tok_init hg hl hc => exact .tok_init hg hl hc
  | tok_uriEnd hg hl hc => exact .tok_uriEnd hg hl hc
  | p_tok hg hl hc => exact .p_tok hg hl hc
  | v_tokNew hg hl hc => exact .v_tokNew hg hl hc
  | v_tokNewP hg hl hc => exact .v_tokNewP hg hl hc
  | a_tok hg hl hc => exact .a_tok hg hl hc
  | q_tok hg hl hc => exact .q_tok hg hl hc
  | u_tok hg hl hc => exact .u_tok hg hl hc
  | uf_tok hg hl hc => exact .uf_tok hg hl hc
  | v_tok hg hl hc => exact .v_tok hg hl hc

theorem na_stepStable (h : Nat) (b s : Buf) : StepStableI (naMachine h) b s (naInv b) := by
  intro i c pf _ hI hne
  exact ((naStep_tr h b i c pf).app hI hne s).eq

theorem na_eobMore (h : Nat) (b : Buf) : EobMore (naMachine h) b := fun _ _ => rfl

/-- what a caller may legitimately pass to ParseNameAddrPVal: the offset lies inside the buffer and the
    saved parameter positions (if any) lie before it — true of a new object (all zero) and of every object
    returned by an earlier call on a prefix of this buffer -/
def naOK (b : Buf) (o : Nat) (pf : PFromBody) : Prop := pf.state = .fin ∨ naInv b o pf

/-- **L1 for ParseNameAddrPVal** (all header kinds) -/
theorem parseNameAddrPVal_stable (h : Nat) (b s : Buf) (o : Nat) (pf : PFromBody) (hok : naOK b o pf)
    {o' : Nat} {e : Err} {pf' : PFromBody}
    (hr : parseNameAddrPVal h b o pf = (o', e, pf')) (he : e ≠ .moreBytes) :
    parseNameAddrPVal h (b ++ s) o pf = (o', e, pf') := by
  unfold parseNameAddrPVal at hr ⊢
  split
  · rename_i hf; rw [if_pos hf] at hr; exact hr
  · rename_i hf; rw [if_neg hf] at hr
    rcases hok with hok | hok
    · exact absurd hok hf
    · simp only at hr ⊢
      rcases hrl : runLoop (naMachine h) b o { pf with s := pf.soffs, soffs := 0 } with ⟨o1, e1, p1⟩
      rw [hrl] at hr
      simp only [Prod.mk.injEq] at hr
      obtain ⟨rfl, rfl, rfl⟩ := hr
      rw [runLoop_stableI (naMachine h) b s (naInv b) (na_invCont h b) (na_stepStable h b s) (na_eobMore h b)
        o _ (by exact hok) hrl he]

end Sipsp
