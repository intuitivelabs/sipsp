/-
  Sipsp.Proofs.NameAddrL2 — L2 (resumption) for ParseNameAddrPVal.

  `parseNameAddrPVal_resume` is `runLoop_resumeR` (RunLoop.lean) with its four obligations for the name-addr loop and
  the invariant `naInv2` (the L1 invariant `naInv`, and the saved restart offset is clear): the invariant is kept by a
  continuing step (`na_invCont2`); a step that does not suspend is the same on `b ++ s` (`na_stepStable` of
  NameAddrL1b); a step that suspends, and the end of the buffer, restart on `b ++ s` from the saved object
  (`na_stepRestart`, by the classification `NaTr.suspend` of the ways to suspend; `na_eobRestart`).  `naOK`
  (NameAddrL1b) is what a caller may pass: a new object or one returned with MoreBytes on a prefix of the buffer.
-/
import Sipsp.Proofs.NameAddrL1b
import Sipsp.Proofs.LwsSite

namespace Sipsp

theorem NaTr.soffs {h : Nat} {b : Buf} {i : Nat} {c : UInt8} {pf : PFromBody} {i' : Nat} {st' : PFromBody}
    (t : NaTr h b i c pf (.cont i' st')) : st'.soffs = pf.soffs := by
  cases t
  case a_lwsURI hg hl t | a_lws hg hl t | q_lws hg hl t | uf_lws hg hl t =>
    all_goals obtain ⟨_, rfl⟩ := t.of_cont; rfl
  case p_lws hg hl t => obtain ⟨_, rfl⟩ := t.of_cont; rw [naNameWS_frame]
  case v_lws hg hl t => obtain ⟨_, rfl⟩ := t.of_cont; rw [naValWS_frame]
  case p_tok => exact (naParam_frame pf i).2.2.1
  case p_semi | p_semiP | pe_semi | pe_semiP | v_semi | v_semiP | ve_semi | ve_semiP =>
    all_goals rw [setFromParamVal_soffs]
  all_goals rfl

theorem naNameWS_nf (pf : PFromBody) (i : Nat) (hnf : pf.state ≠ .fin) : (naNameWS pf i).state ≠ .fin := by
  unfold naNameWS; repeat' split
  all_goals first | exact hnf | (intro hh; cases hh)

theorem naValWS_nf (pf : PFromBody) (i n : Nat) (ok : Bool) (hnf : pf.state ≠ .fin) :
    (naValWS pf i n ok).state ≠ .fin := by
  unfold naValWS; repeat' split
  all_goals first | exact hnf | (intro hh; cases hh)

theorem NaTr.notfin {h : Nat} {b : Buf} {i : Nat} {c : UInt8} {pf : PFromBody} (hnf : pf.state ≠ .fin) {i' : Nat}
    {st' : PFromBody} (t : NaTr h b i c pf (.cont i' st')) : st'.state ≠ .fin := by
  cases t
  case a_lwsURI hg hl t | a_lws hg hl t | q_lws hg hl t | uf_lws hg hl t =>
    all_goals obtain ⟨_, rfl⟩ := t.of_cont; first | exact hnf | (intro hh; cases hh)
  case p_lws hg hl t => obtain ⟨_, rfl⟩ := t.of_cont; exact naNameWS_nf pf i hnf
  case v_lws hg hl t => obtain ⟨_, rfl⟩ := t.of_cont; exact naValWS_nf pf i _ true hnf
  case p_tok => exact (naParam_frame pf i).2.2.2 hnf
  case p_semi | p_semiP | pe_semi | pe_semiP | v_semi | v_semiP | ve_semi | ve_semiP =>
    all_goals rw [setFromParamVal_state]; intro hh; cases hh
  all_goals first | exact hnf | (intro hh; cases hh)

/-- the states in which a white-space byte is handled by the plain `lwsStd` pattern -/
def naLwsState (st : FBState) : Prop :=
  st = .nameOrURIEnd ∨ st = .init ∨ st = .name ∨ st = .quoted ∨ st = .quotedVal ∨ st = .quotedPossibleVal ∨
  st = .uriFound ∨ st = .star

theorem naStep_lws (h : Nat) (b : Buf) (j : Nat) (c : UInt8) (pf : PFromBody) (hl : isLWSch c = true)
    (hs : naLwsState pf.state) : naStep h b j c pf = naLWS h b j pf := by
  have t := naLWS_tr h b j pf
  rcases hs with g | g | g | g | g | g | g | g
  · exact (NaTr.a_lws (.inr (.inr g)) hl t).eq
  · exact (NaTr.a_lws (.inl g) hl t).eq
  · exact (NaTr.a_lws (.inr (.inl g)) hl t).eq
  · exact (NaTr.q_lws (.inl g) hl t).eq
  · exact (NaTr.q_lws (.inr (.inl g)) hl t).eq
  · exact (NaTr.q_lws (.inr (.inr g)) hl t).eq
  · exact (NaTr.uf_lws (.inl g) hl t).eq
  · exact (NaTr.uf_lws (.inr g) hl t).eq

theorem naStep_lwsURI (h : Nat) (b : Buf) (j : Nat) (c : UInt8) (pf : PFromBody) (hl : isLWSch c = true)
    (hs : pf.state = .nameOrURI) :
    naStep h b j c pf = naLWS h b j { (pf.setURI pf.s j).extV j with state := .nameOrURIEnd } :=
  (NaTr.a_lwsURI hs hl (naLWS_tr h b j _)).eq

theorem naEOH_indep (h : Nat) (b : Buf) (pf : PFromBody) (hs : naLwsState pf.state) (j j' n crl : Nat) (r : Err) :
    naEOH h b pf j n crl r = naEOH h b pf j' n crl r := by
  unfold naEOH
  rcases hs with h1 | h1 | h1 | h1 | h1 | h1 | h1 | h1 <;> rw [h1]

theorem naEOH_ne_more (h : Nat) (b : Buf) (pf : PFromBody) (i n crl : Nat) (r : Err) (hr : r ≠ .moreBytes) :
    (naEOH h b pf i n crl r).2.1 ≠ Err.moreBytes := naEOH_ne h b pf i n crl hr (by decide) (by decide)

theorem saveS_clear (pf : PFromBody) (h0 : pf.soffs = 0) : ({ pf.saveS with soffs := 0 } : PFromBody) = pf := by
  cases pf; simp only [PFromBody.saveS] at h0 ⊢; simp_all

theorem naLWS_more_iff (h : Nat) (b : Buf) (i : Nat) (pf : PFromBody) {o : Nat} {st' : PFromBody} :
    naLWS h b i pf = .done o .moreBytes st' ↔ (∃ crl, skipLWS b i 0 = (o, crl, .moreBytes)) ∧ st' = pf.saveS := by
  unfold naLWS lwsStd
  rcases hsk : skipLWS b i 0 with ⟨n, crl, e⟩
  cases e
  case moreBytes => simp [eq_comm]
  case eoh =>
    have hne := naEOH_ne_more h b pf i n crl .ok (by decide)
    simp only [Step.done.injEq, Prod.mk.injEq, reduceCtorEq, and_false, exists_false, false_and, iff_false]
    exact fun hh => hne hh.2.1
  all_goals simp

theorem naLWS_restart (h : Nat) (b s : Buf) (i : Nat) (c : UInt8) (st1 : PFromBody) {o : Nat} {st' : PFromBody}
    (hb : b[i]? = some c) (hl : isLWSch c = true) (h0 : st1.soffs = 0) (hst : naLwsState st1.state)
    (hs : naLWS h b i st1 = .done o .moreBytes st') :
    runLoop (naMachine h) (b ++ s) o { st' with soffs := 0 } =
      runStep (naMachine h) (b ++ s) i (naLWS h (b ++ s) i st1) := by
  obtain ⟨⟨crl, hsk⟩, rfl⟩ := (naLWS_more_iff h b i st1).1 hs
  rw [saveS_clear st1 h0]
  unfold naLWS
  exact lwsStd_restart' (naMachine h) b s i o crl st1 _ PFromBody.saveS hb hl hsk
    (fun j c' _ hl' => naStep_lws h _ j c' st1 hl' hst)
    (fun j j' n' crl' => naEOH_indep h _ st1 hst j j' n' crl' .ok)
    (fun _ => rfl)

/-- how a step of the name-addr loop can suspend: either a pure restart (offset and object unchanged, only
    `soffs` saved) or through the plain white-space pattern in a state that handles white space that way -/
def NaSuspend (h : Nat) (b : Buf) (i : Nat) (c : UInt8) (pf : PFromBody) (step : Buf → Step PFromBody)
    (o : Nat) (st' : PFromBody) : Prop :=
  (o = i ∧ st' = pf.saveS) ∨
  (isLWSch c = true ∧ ∃ st1 : PFromBody, (st1.soffs = pf.soffs ∧ st1.pend = pf.pend ∧ st1.vend = pf.vend) ∧ naLwsState st1.state ∧
    naLWS h b i st1 = .done o .moreBytes st' ∧ ∀ B : Buf, step B = naLWS h B i st1)

theorem naMoreValues_ne_more (h : Nat) (b : Buf) (pf : PFromBody) (i : Nat) {o : Nat} {st' : PFromBody} :
    naMoreValues h b pf i ≠ .done o .moreBytes st' := by
  unfold naMoreValues
  intro hh
  simp only [Step.done.injEq] at hh
  exact naEOH_ne_more h b pf i i 1 .moreValues (by simp) hh.2.1

theorem NaLws.of_more {h : Nat} {b : Buf} {i : Nat} {om : Nat → Nat} {pm : PFromBody} {pk : Nat → PFromBody}
    {pe : PFromBody} {o : Nat} {e : Err} {st' : PFromBody} (t : NaLws h b i om pm pk pe (.done o e st'))
    (he : e = .moreBytes) : ∃ n crl, skipLWS b i 0 = (n, crl, .moreBytes) ∧ o = om n ∧ st' = pm.saveS := by
  cases t
  case eoh n crl hk => exact absurd he (naEOH_ne_more h b pe i n crl .ok (by decide))
  case more n crl hk => exact ⟨n, crl, hk, rfl, rfl⟩

theorem NaTr.suspend {h : Nat} {b : Buf} {i : Nat} {c : UInt8} {pf : PFromBody} {o : Nat} {e : Err}
    {st' : PFromBody} (t : NaTr h b i c pf (.done o e st')) (he : e = .moreBytes) :
    NaSuspend h b i c pf (fun B => naStep h B i c pf) o st' := by
  have plain : naLwsState pf.state → isLWSch c = true → NaLws h b i id pf (fun _ => pf) pf (.done o e st') →
      NaSuspend h b i c pf (fun B => naStep h B i c pf) o st' := by
    intro hst hl t
    obtain ⟨n, crl, hk, rfl, rfl⟩ := t.of_more he
    exact .inr ⟨hl, pf, ⟨rfl, rfl, rfl⟩, hst, (naLWS_more_iff h b i pf).2 ⟨⟨crl, hk⟩, rfl⟩,
      fun B => naStep_lws h B i c pf hl hst⟩
  cases t
  case a_lwsURI hg hl t =>
    obtain ⟨n, crl, hk, rfl, rfl⟩ := t.of_more he
    refine .inr ⟨hl, { (pf.setURI pf.s i).extV i with state := .nameOrURIEnd }, ⟨rfl, ?_, ?_⟩, .inl rfl,
      (naLWS_more_iff h b i _).2 ⟨⟨crl, hk⟩, rfl⟩,
      fun B => naStep_lwsURI h B i c pf hl hg⟩
    · simp only [extV_pend, setURI_pend]
    · simp only [extV_vend, setURI_vend]
  case a_lws hg hl t => exact plain (by unfold naLwsState; rcases hg with g | g | g <;> simp [g]) hl t
  case q_lws hg hl t => exact plain (by unfold naLwsState; rcases hg with g | g | g <;> simp [g]) hl t
  case uf_lws hg hl t => exact plain (by unfold naLwsState; rcases hg with g | g <;> simp [g]) hl t
  case p_lws hg hl t | v_lws hg hl t => all_goals obtain ⟨n, crl, hk, rfl, rfl⟩ := t.of_more he; exact .inl ⟨rfl, rfl⟩
  case q_escMore => exact .inl ⟨rfl, rfl⟩
  case comma => exact absurd he (naEOH_ne_more h b pf i i 1 .moreValues (by decide))
  case commaWS ev hg hc hm => exact absurd he (naEOH_ne_more h b pf ev i 1 .moreValues (by decide))
  all_goals cases he

theorem naStep_suspend (h : Nat) (b : Buf) (i : Nat) (c : UInt8) (pf : PFromBody) {o : Nat} {st' : PFromBody}
    (hs : naStep h b i c pf = .done o .moreBytes st') :
    NaSuspend h b i c pf (fun B => naStep h B i c pf) o st' := by
  have t := naStep_tr h b i c pf
  rw [hs] at t
  exact t.suspend rfl

/-- loop invariant for resumption: the L1 invariant, and the (write-only) saved offset is clear -/
def naInv2 (b : Buf) (i : Nat) (pf : PFromBody) : Prop := naInv b i pf ∧ pf.soffs = 0

theorem na_invCont2 (h : Nat) (b : Buf) : InvCont (naMachine h) b (naInv2 b) := by
  intro i c pf i' st' hb hI hs hlt
  have t := naStep_tr h b i c pf
  rw [show naStep h b i c pf = .cont i' st' from hs] at t
  exact ⟨t.inv hb hI.1, t.soffs.trans hI.2⟩

theorem na_stepStable2 (h : Nat) (b s : Buf) : StepStableI (naMachine h) b s (naInv2 b) :=
  fun i c pf hb hI hne => na_stepStable h b s i c pf hb hI.1 hne

theorem na_stepRestart (h : Nat) (b s : Buf) :
    ∀ i c pf o st', b[i]? = some c → naInv2 b i pf → (naMachine h).step b i c pf = .done o .moreBytes st' →
      runLoop (naMachine h) (b ++ s) o { st' with soffs := 0 } = runLoop (naMachine h) (b ++ s) i pf := by
  intro i c pf o st' hb hI hs
  change naStep h b i c pf = .done o .moreBytes st' at hs
  rcases naStep_suspend h b i c pf hs with ⟨rfl, rfl⟩ | ⟨hl, st1, h1, h2, h3, h4⟩
  · rw [saveS_clear pf hI.2]
  · rw [runLoop_eq_runStep (naMachine h) pf (get?_app hb)]
    show _ = runStep (naMachine h) (b ++ s) i (naStep h (b ++ s) i c pf)
    rw [show naStep h (b ++ s) i c pf = naLWS h (b ++ s) i st1 from h4 (b ++ s)]
    exact naLWS_restart h b s i c st1 hb hl (h1.1.trans hI.2) h2 h3

theorem na_eobRestart (h : Nat) (b s : Buf) :
    ∀ i pf o st', b[i]? = none → naInv2 b i pf → (naMachine h).eob b i pf = (o, Err.moreBytes, st') →
      runLoop (naMachine h) (b ++ s) o { st' with soffs := 0 } = runLoop (naMachine h) (b ++ s) i pf := by
  intro i pf o st' _ hI he
  simp only [naMachine, Prod.mk.injEq, true_and] at he
  obtain ⟨rfl, rfl⟩ := he
  rw [saveS_clear pf hI.2]

/-- a suspended run stops at or after its start, in a state that is not final, satisfies the invariant at the
    returned offset, and has its saved offset equal to the local `s` (it left through `moreBytes:`) -/
theorem na_more (h : Nat) (b : Buf) (i : Nat) (pf : PFromBody) (h0 : naInv2 b i pf) (hnf : pf.state ≠ .fin)
    {o : Nat} {st' : PFromBody} (hr : runLoop (naMachine h) b i pf = (o, Err.moreBytes, st')) :
    i ≤ o ∧ naInv b o st' ∧ st'.state ≠ .fin ∧ st'.soffs = st'.s := by
  refine runLoop_moreI (naMachine h) b (fun j pf => i ≤ j ∧ naInv2 b j pf ∧ pf.state ≠ .fin)
    (fun o st' => i ≤ o ∧ naInv b o st' ∧ st'.state ≠ .fin ∧ st'.soffs = st'.s) ?_ ?_ ?_ i pf
    ⟨Nat.le_refl i, h0, hnf⟩ hr
  · intro j c pf j' st' hb hI hs hlt
    have t := naStep_tr h b j c pf
    rw [show naStep h b j c pf = .cont j' st' from hs] at t
    exact ⟨by omega, na_invCont2 h b j c pf j' st' hb hI.2.1 hs hlt, t.notfin hI.2.2⟩
  · intro j c pf o st' hb hI hs
    rcases naStep_suspend h b j c pf hs with ⟨rfl, rfl⟩ | ⟨hl, st1, h1, h2, h3, h4⟩
    · exact ⟨hI.1, hI.2.1.1, hI.2.2, rfl⟩
    · -- the plain white-space pattern: the object carried is `st1`, saved; the offset is where `skipLWS` stopped
      obtain ⟨⟨crl, hsk⟩, rfl⟩ := (naLWS_more_iff h b j st1).1 h3
      have hrg := skipLWS_range b j 0 hsk
      obtain ⟨hi, hp, hv⟩ := hI.2.1.1
      refine ⟨by omega, ⟨hrg.2 hi, ?_, ?_⟩, ?_, rfl⟩
      · show st1.pend ≤ _; rw [h1.2.1]; omega
      · show st1.vend ≤ _; rw [h1.2.2]; omega
      · show st1.state ≠ .fin
        rcases h2 with h2 | h2 | h2 | h2 | h2 | h2 | h2 | h2 <;> rw [h2] <;> intro hh <;> cases hh
  · intro j pf o st' _ hI he
    simp only [naMachine, Prod.mk.injEq, true_and] at he
    obtain ⟨rfl, rfl⟩ := he
    exact ⟨hI.1, hI.2.1.1, hI.2.2, rfl⟩

/-- what a caller can read of a name-addr object: everything except the saved restart offset (unexported,
    consulted only by the parser itself when it is re-entered after MoreBytes) -/
def PFromBody.obs (p : PFromBody) : PFromBody := { p with soffs := 0 }

theorem naExit_obs (e1 e2 : Nat) (e : Err) (p : PFromBody) : (naExit e1 e p).obs = (naExit e2 e p).obs := by
  unfold naExit PFromBody.obs; split <;> rfl

theorem naExit_nonerr (e1 e2 : Nat) (e : Err) (p : PFromBody)
    (he : e = .ok ∨ e = .moreBytes ∨ e = .moreValues) : naExit e1 e p = naExit e2 e p := by
  unfold naExit; rcases he with rfl | rfl | rfl <;> rfl

theorem parseNameAddrPVal_more (h : Nat) (b : Buf) (o : Nat) (pf : PFromBody) (hok : naOK b o pf) {o' : Nat}
    {pf' : PFromBody} (hr : parseNameAddrPVal h b o pf = (o', Err.moreBytes, pf')) :
    pf.state ≠ .fin ∧ naInv2 b o { pf with s := pf.soffs, soffs := 0 } ∧
      ∃ p1, runLoop (naMachine h) b o { pf with s := pf.soffs, soffs := 0 } = (o', Err.moreBytes, p1) ∧
        pf' = naExit pf.soffs Err.moreBytes p1 := by
  unfold parseNameAddrPVal at hr
  split at hr
  · cases hr
  · rename_i hf
    rcases hok with hok | hok
    · exact absurd hok hf
    · simp only [Prod.mk.injEq] at hr
      obtain ⟨h1, h2, h3⟩ := hr
      refine ⟨hf, ⟨hok, rfl⟩, _, Prod.ext h1 (Prod.ext h2 rfl), ?_⟩
      rw [← h3, h2]

/-- **L2 for ParseNameAddrPVal** (all header kinds): after MoreBytes, the call on the extended buffer with the
    returned offset and the same object gives the offset and verdict of a fresh call, and the same object —
    exactly for the verdicts after which parsing goes on (OK, MoreBytes, MoreValues), and up to the saved
    restart offset after an error verdict. The legitimacy condition is re-established. -/
theorem parseNameAddrPVal_resume (h : Nat) (b s : Buf) (o : Nat) (pf : PFromBody) (hok : naOK b o pf)
    {o' : Nat} {pf' : PFromBody} (hr : parseNameAddrPVal h b o pf = (o', Err.moreBytes, pf')) :
    ∃ r : Nat × Err × PFromBody, ∃ k : Nat,
      parseNameAddrPVal h (b ++ s) o pf = (r.1, r.2.1, naExit pf.soffs r.2.1 r.2.2) ∧
      parseNameAddrPVal h (b ++ s) o' pf' = (r.1, r.2.1, naExit k r.2.1 r.2.2) ∧
      naOK (b ++ s) o' pf' := by
  obtain ⟨hf, hI2, p1, hrl, rfl⟩ := parseNameAddrPVal_more h b o pf hok hr
  have hm := (na_more h b o _ hI2 hf hrl).2
  have hres := runLoop_resumeR (naMachine h) b s (naInv2 b) (fun p => { p with soffs := 0 }) Eq
    (na_invCont2 h b) (na_stepStable2 h b s) (na_stepRestart h b s) (na_eobRestart h b s) o _ hI2 hrl
  refine ⟨runLoop (naMachine h) (b ++ s) o { pf with s := pf.soffs, soffs := 0 }, p1.s, ?_, ?_, ?_⟩
  · unfold parseNameAddrPVal; rw [if_neg hf]
  · have hf' : ¬ (naExit pf.soffs Err.moreBytes p1).state = .fin := hm.2.1
    unfold parseNameAddrPVal; rw [if_neg hf']
    have hst : ({ naExit pf.soffs Err.moreBytes p1 with
                   s := (naExit pf.soffs Err.moreBytes p1).soffs, soffs := 0 } : PFromBody) =
               { p1 with soffs := 0 } := by
      show ({ p1 with s := p1.soffs, soffs := 0 } : PFromBody) = { p1 with soffs := 0 }
      rw [hm.2.2]
    simp only [hst]
    rw [hres]
    have : (naExit pf.soffs Err.moreBytes p1).soffs = p1.s := hm.2.2
    rw [this]
  · right
    obtain ⟨h1, h2, h3⟩ := hm.1
    exact ⟨by rw [Array.size_append]; omega, h2, h3⟩

end Sipsp
