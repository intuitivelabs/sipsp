/-
  Sipsp.Proofs.NameAddrPost — post-conditions of ParseNameAddrPVal: a value that is complete (OK or
  MoreValues) leaves the object in the final state, and the returned offset lies strictly after the start
  and inside the buffer (so the callers' loops over values advance and stay inside the buffer).
-/
import Sipsp.Proofs.Verdicts
import Sipsp.Proofs.NameAddrL1

namespace Sipsp

/-- a complete value: the verdicts after which the object holds a finished value -/
def Err.complete (e : Err) : Prop := e = .ok ∨ e = .moreValues

def NaPost (b : Buf) (i o : Nat) (e : Err) (st' : PFromBody) : Prop :=
  Err.complete e → st'.state = .fin ∧ i < o ∧ o ≤ b.size

theorem NaPost.of_err {b : Buf} {i o : Nat} {e : Err} {st' : PFromBody} (h1 : e ≠ .ok) (h2 : e ≠ .moreValues) :
    NaPost b i o e st' := by
  intro hc
  rcases hc with hc | hc
  · exact absurd hc h1
  · exact absurd hc h2

theorem naEOH_post (h : Nat) (b : Buf) (pf : PFromBody) (i k n crl : Nat) (r : Err)
    (hi : i < n + crl) (hn : n + crl ≤ b.size) :
    NaPost b i (naEOH h b pf k n crl r).1 (naEOH h b pf k n crl r).2.1 (naEOH h b pf k n crl r).2.2 := by
  obtain ⟨h1, h2⟩ := naEOH_res h b pf k n crl r
  rw [h1]
  rcases h2 with ⟨hv, hf⟩ | hv | hv <;> rw [hv]
  · exact fun _ => ⟨hf, hi, hn⟩
  all_goals exact NaPost.of_err (by decide) (by decide)

theorem NaLws.post {h : Nat} {b : Buf} {i : Nat} {om : Nat → Nat} {pm : PFromBody} {pk : Nat → PFromBody}
    {pe : PFromBody} {o : Nat} {e : Err} {st' : PFromBody} (t : NaLws h b i om pm pk pe (.done o e st')) :
    NaPost b i o e st' := by
  cases t
  case eoh n crl hk =>
    have hrg := skipLWS_eoh_range b i 0 hk (by decide)
    exact naEOH_post h b pe i i n crl .ok (by omega) (by omega)
  all_goals exact NaPost.of_err (by decide) (by decide)

/-- a finishing step: a complete value only through `endOfHdr` (end of the header, or `,`), which leaves the
    final state and an offset after the current byte -/
theorem NaTr.post {h : Nat} {b : Buf} {i : Nat} {c : UInt8} {pf : PFromBody} (hb : b[i]? = some c) {o : Nat}
    {e : Err} {st' : PFromBody} (t : NaTr h b i c pf (.done o e st')) : NaPost b i o e st' := by
  have hlt := get?_lt hb
  cases t
  case a_lwsURI hg hl t | a_lws hg hl t | q_lws hg hl t | uf_lws hg hl t | p_lws hg hl t | v_lws hg hl t =>
    all_goals exact t.post
  case comma => exact naEOH_post h b pf i i i 1 .moreValues (by omega) (by omega)
  case commaWS ev hg hc hm => exact naEOH_post h b pf i ev i 1 .moreValues (by omega) (by omega)
  all_goals exact NaPost.of_err (by decide) (by decide)

theorem parseNameAddrPVal_post (h : Nat) (b : Buf) (o : Nat) (pf : PFromBody)
    {o' : Nat} {e : Err} {pf' : PFromBody} (hr : parseNameAddrPVal h b o pf = (o', e, pf'))
    (hc : Err.complete e) : pf'.state = .fin ∧ (pf.state ≠ .fin → o < o' ∧ o' ≤ b.size) := by
  by_cases hf : pf.state = .fin
  · unfold parseNameAddrPVal at hr; rw [if_pos hf] at hr; cases hr
    exact ⟨hf, fun hn => absurd hf hn⟩
  · have key := parseNameAddrPVal_rule h b o pf hf (fun i _ => o ≤ i)
      (fun o' e p => Err.complete e → p.state = .fin ∧ o < o' ∧ o' ≤ b.size) (fun _ _ _ _ _ hq => hq) (Nat.le_refl _)
      (fun _ _ _ _ _ _ hlt hP _ => by omega)
      (fun i c st o1 e1 st1 hb hP t hq => by have := t.post hb hq; exact ⟨this.1, by omega, this.2.2⟩)
      (fun _ _ _ hq => by rcases hq with hq | hq <;> cases hq) hr hc
    exact ⟨key.1, fun _ => key.2⟩

/-- the guard of the loops over the values of a Contact / P-Asserted-Identity header always holds -/
theorem parseNameAddrPVal_mv_range (t : Nat) (b : Buf) (offs next : Nat) (pf pf' : PFromBody)
    (hp : parseNameAddrPVal t b offs pf = (next, .moreValues, pf')) : offs < next ∧ next ≤ b.size := by
  by_cases hf : pf.state = .fin
  · unfold parseNameAddrPVal at hp; rw [if_pos hf] at hp; cases hp
  · exact (parseNameAddrPVal_post t b offs pf hp (Or.inr rfl)).2 hf

theorem parseNameAddrPVal_ne_empty (h : Nat) (b : Buf) (o : Nat) (pf : PFromBody) :
    (parseNameAddrPVal h b o pf).2.1 ≠ .empty :=
  ne_of_verdicts (parseNameAddrPVal_verdicts h b o pf) (by decide)

end Sipsp
