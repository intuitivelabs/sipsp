/-
  Sipsp.Proofs.NameAddrRR — the resumption law of ParseNameAddrPVal in the form used by its callers.
-/
import Sipsp.Proofs.NameAddrL2
import Sipsp.Proofs.NameAddrPost
import Sipsp.Proofs.Schedule

namespace Sipsp

/-- after MoreBytes the object is not final (the next call will really continue parsing) -/
theorem parseNameAddrPVal_more_notfin (h : Nat) (b : Buf) (o : Nat) (pf : PFromBody) (hok : naOK b o pf)
    {o' : Nat} {pf' : PFromBody} (hr : parseNameAddrPVal h b o pf = (o', Err.moreBytes, pf')) :
    pf'.state ≠ .fin := by
  obtain ⟨hf, hI2, p1, hrl, rfl⟩ := parseNameAddrPVal_more h b o pf hok hr
  exact (na_more h b o _ hI2 hf hrl).2.2.1

theorem parseNameAddrPVal_more_range (h : Nat) (b : Buf) (o : Nat) (pf : PFromBody) (hok : naOK b o pf)
    {o' : Nat} {pf' : PFromBody} (hr : parseNameAddrPVal h b o pf = (o', Err.moreBytes, pf')) :
    o ≤ o' ∧ o' ≤ b.size := by
  obtain ⟨hf, hI2, p1, hrl, rfl⟩ := parseNameAddrPVal_more h b o pf hok hr
  have hm := na_more h b o _ hI2 hf hrl
  exact ⟨hm.1, hm.2.1.1⟩

/-- **L2 for ParseNameAddrPVal, relational form** -/
theorem parseNameAddrPVal_resumeR (t : Nat) (b s : Buf) (o : Nat) (pf : PFromBody) (hok : naOK b o pf)
    {o' : Nat} {pf' : PFromBody} (hr : parseNameAddrPVal t b o pf = (o', Err.moreBytes, pf')) :
    RR PFromBody.obs (parseNameAddrPVal t (b ++ s) o' pf') (parseNameAddrPVal t (b ++ s) o pf) ∧
      naOK (b ++ s) o' pf' ∧ pf'.state ≠ .fin := by
  obtain ⟨r, k, h1, h2, h3⟩ := parseNameAddrPVal_resume t b s o pf hok hr
  refine ⟨?_, h3, parseNameAddrPVal_more_notfin t b o pf hok hr⟩
  have hne := parseNameAddrPVal_ne_empty t (b ++ s) o pf
  rw [h1] at hne
  rw [h1, h2]
  refine ⟨rfl, rfl, fun hg => ?_, naExit_obs _ _ _ _⟩
  rcases hg with hg | hg | hg | hg
  · exact naExit_nonerr _ _ _ _ (Or.inl hg)
  · exact naExit_nonerr _ _ _ _ (Or.inr (Or.inl hg))
  · exact naExit_nonerr _ _ _ _ (Or.inr (Or.inr hg))
  · exact absurd hg hne

end Sipsp
