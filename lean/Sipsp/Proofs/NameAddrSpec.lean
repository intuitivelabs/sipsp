/-
  Sipsp.Proofs.NameAddrSpec — a grammar of name-addr values (From / To / Contact / P-Asserted-Identity) as predicates
  over buffer positions, and the proof that ParseNameAddrPVal decomposes every value of that grammar exactly as
  written (property C09).

  The proofs are symbolic execution: one lemma per piece of the grammar walks `runLoop` over that piece, each step a
  constructor of `NaTr` (NaRun.lean).  A parameter touches only the fields collected in `PAcc`, and its effect on them is
  `paramEffect` (`setFromParamVal_eq`).  The whole-value theorems come in their general form first — any bytes skipped
  after `>` (`NqJunk`), parameter lists with empty parameters, empty values and a trailing `;` (`NqParams`) — and the
  plain forms `parseNameAddr_bracket[_params]`, `parseNameAddr_bare[_params]` are special cases.  Then: what each
  recognised parameter does (tag / expires / q / lr / other), and the comma-separated lists of Contact and
  P-Asserted-Identity with what the list object records (count, stored values, min / max expires).
  The prefixes `nq_`, `n2_`, `n3_`, `n4_` follow the four parts of NameAddrSpec2: the `q` texts; trailing `;`, empty
  parameters and values; rejections; bytes after `>` and the comma in the single-valued kinds.
-/
import Sipsp.Proofs.SafeNA
import Sipsp.Proofs.Num
import Sipsp.Proofs.CapacityPAI
import Sipsp.Proofs.NaRun

namespace Sipsp

/-! ### generic: a run of bytes over which the step does nothing but advance -/

/-- the bytes at `[i, j)` are present and all satisfy `P` -/
def Run (P : UInt8 → Bool) (b : Buf) (i j : Nat) : Prop := ∀ k, i ≤ k → k < j → ∃ c, b[k]? = some c ∧ P c = true

theorem Run.empty (P : UInt8 → Bool) (b : Buf) (i : Nat) : Run P b i i := Span.nil _ b i

theorem Run.append {P : UInt8 → Bool} {b : Buf} {i j k : Nat} (h1 : Run P b i j) (h2 : Run P b j k) : Run P b i k :=
  Span.append h1 h2

theorem Run.app {P : UInt8 → Bool} {b : Buf} {i j : Nat} (h : Run P b i j) (s : Buf) : Run P (b ++ s) i j :=
  Span.app h s

/-- everything `skipLWS` skips before it stops with Ok is white space or line-end bytes -/
theorem skipLWS_ok_run {b : Buf} {i flags n crl : Nat} (h : skipLWS b i flags = (n, crl, .ok)) : Run isLWSch b i n :=
  (skipLWS_ok_lws b i flags h).run

/-- … and so are the bytes up to and including an accepted end of header -/
theorem skipLWS_eoh_run {b : Buf} {i flags n crl : Nat} (h : skipLWS b i flags = (n, crl, .eoh))
    (hf : hasFlag flags POptInputEndF = false) : Run isLWSch b i (n + crl) := by
  cases skipLWS_out' h with
  | @eoh _ e c2 hl he _ _ =>
    rw [show n + (e - n) = e by have := he.gt; omega]; exact Run.append hl.run he.run
  | eohEnd _ _ _ _ hfl => rw [hf] at hfl; cases hfl

theorem runLoop_run {σ : Type} (m : Machine σ) (b : Buf) (P : UInt8 → Bool) (st : σ)
    (hstep : ∀ k c, b[k]? = some c → P c = true → m.step b k c st = .cont (k + 1) st) (i j : Nat) (hij : i ≤ j)
    (hr : Run P b i j) : runLoop m b i st = runLoop m b j st :=
  loop_span (runLoop m b) _ (runLoop_law m b) (fun _ => st) hij hr fun k c _ _ hc hp => hstep k c hc hp

/-! ### character classes of the name-addr automaton

  Each class is characterised by the tests of the constructor of `NaTr` for a byte of the current token. -/

/-- a byte of the URI between angle brackets: anything but `>` `<` SP HT CR LF -/
def isURIch (c : UInt8) : Bool := !(c == 62) && !(c == 60) && !(isLWSch c)

theorem isURIch_iff {c : UInt8} : isURIch c = true ↔ isLWSch c = false ∧ (c ≠ 62 ∧ c ≠ 60) := by
  simp [isURIch, and_comm, and_assoc]

/-- the whole call on a new object, from what the loop returns -/
theorem parse_of_loop (h : Nat) (b : Buf) (o : Nat) {o' : Nat} {e : Err} {st : PFromBody}
    (hr : runLoop (naMachine h) b o {} = (o', e, st)) (he : e = .ok ∨ e = .moreValues) :
    parseNameAddrPVal h b o {} = (o', e, { st with s := 0 }) := by
  unfold parseNameAddrPVal
  rw [if_neg (by decide)]
  show ((runLoop (naMachine h) b o {}).1, (runLoop (naMachine h) b o {}).2.1,
    naExit 0 (runLoop (naMachine h) b o {}).2.1 (runLoop (naMachine h) b o {}).2.2) = _
  rw [hr]
  unfold naExit
  rcases he with rfl | rfl <;> rfl

/-! ### `<uri>` -/

/-- from the byte after `<` (state `uri`) to the byte after `>` -/
theorem na_uri_run (h : Nat) (b : Buf) (a g : Nat) (pf : PFromBody) (hst : pf.state = .uri) (hag : a ≤ g)
    (hu : Run isURIch b a g) (hg : b[g]? = some 62) :
    runLoop (naMachine h) b a pf =
      runLoop (naMachine h) b (g + 1) { (pf.setURI pf.s g).extV (g + 1) with state := .uriFound } := by
  rw [runLoop_run (naMachine h) b isURIch pf
    (fun k c _ hc => (NaTr.u_tok hst (isURIch_iff.1 hc).1 (isURIch_iff.1 hc).2).eq) a g hag hu]
  exact na_tr hg (.u_close hst rfl)

/-! ### the parameter-dependent fields and the effect of one parameter -/

/-- the fields of the object that `setFromParamVal` may change (besides clearing the four work offsets) -/
structure PAcc where
  tag : PField := {}
  lr : Bool := false
  hasExpires : Bool := false
  expires : Nat := 0
  q : Nat := 0
  paramErr : Err := .ok
  errOffs : Nat := 0
  deriving DecidableEq, Repr, Inhabited

def PFromBody.acc (pf : PFromBody) : PAcc := ⟨pf.tag, pf.lr, pf.hasExpires, pf.expires, pf.q, pf.paramErr, pf.errOffs⟩

def PFromBody.withAcc (pf : PFromBody) (a : PAcc) : PFromBody :=
  { pf with tag := a.tag, lr := a.lr, hasExpires := a.hasExpires, expires := a.expires, q := a.q, paramErr := a.paramErr, errOffs := a.errOffs }

/-- what a parameter with name `[ps, pe)` and value `[vs, ve)` (`vs = ve`: no value) does to those fields: this is
    `setFromParamVal` itself, run on an otherwise empty object -/
def paramEffect (b : Buf) (ps pe vs ve : Nat) (a : PAcc) : PAcc :=
  (setFromParamVal b { (({} : PFromBody).withAcc a) with pstart := ps, pend := pe, vstart := vs, vend := ve }).acc

theorem setQ_congr (pf pf' : PFromBody) (val : List UInt8) (h1 : pf.q = pf'.q) (h2 : pf.paramErr = pf'.paramErr)
    (h3 : pf.errOffs = pf'.errOffs) (h4 : pf.vstart = pf'.vstart) (h5 : pf.vend = pf'.vend) :
    (setQ pf val).q = (setQ pf' val).q ∧ (setQ pf val).paramErr = (setQ pf' val).paramErr ∧
      (setQ pf val).errOffs = (setQ pf' val).errOffs := by
  rcases setQ_cases val with ⟨e, h⟩ | ⟨x, h⟩ | h <;> rw [h, h]
  · exact ⟨h1, rfl, congrArg trunc16 h4⟩
  · exact ⟨rfl, h2, h3⟩
  · exact ⟨h1, rfl, congrArg trunc16 h5⟩

theorem setQ_other (pf : PFromBody) (val : List UInt8) :
    (setQ pf val).tag = pf.tag ∧ (setQ pf val).lr = pf.lr ∧ (setQ pf val).hasExpires = pf.hasExpires ∧
      (setQ pf val).expires = pf.expires := by
  rw [setQ_frame]; exact ⟨rfl, rfl, rfl, rfl⟩

/-- `paramEffect` in closed form -/
theorem paramEffect_do (b : Buf) (ps pe vs ve : Nat) (a : PAcc) :
    paramEffect b ps pe vs ve a =
      (sfpDo { (({} : PFromBody).withAcc a) with pstart := ps, pend := pe, vstart := vs, vend := ve }
        (b.extract vs ve).toList (sfpKind b ps pe vs ve)).acc := by
  unfold paramEffect; rw [setFromParamVal_do]; rfl

/-- **frame**: `setFromParamVal` on any object = its effect on the parameter-dependent fields, the four work offsets
    cleared, everything else untouched (name and value inside the buffer, so that Go does not panic) -/
theorem setFromParamVal_eq (b : Buf) (pf : PFromBody) (h1 : pf.pend ≤ b.size) (h2 : pf.vend ≤ b.size) :
    setFromParamVal b pf = (pf.withAcc (paramEffect b pf.pstart pf.pend pf.vstart pf.vend pf.acc)).clearPV := by
  rw [setFromParamVal_do, paramEffect_do]
  cases hk : sfpKind b pf.pstart pf.pend pf.vstart pf.vend
  case panic => exact absurd hk (sfpKind_inside h1 h2)
  case q =>
    -- `setQ` reads and writes `q`, the error pair and the value positions only
    obtain ⟨e1, e2, e3⟩ := setQ_congr pf
      { (({} : PFromBody).withAcc pf.acc) with pstart := pf.pstart, pend := pf.pend, vstart := pf.vstart, vend := pf.vend }
      (b.extract pf.vstart pf.vend).toList rfl rfl rfl rfl rfl
    simp only [sfpDo]
    rw [setQ_frame pf, setQ_frame { (({} : PFromBody).withAcc pf.acc) with pstart := _, pend := _, vstart := _, vend := _ }]
    simp only [PFromBody.withAcc, PFromBody.acc, e1, e2, e3]
  all_goals rfl

/-- a parameter without value, or with an empty one: only `lr` (any letter case) is recognised -/
theorem paramEffect_empty (b : Buf) (ps pe v : Nat) (a : PAcc) (h1 : ps < pe) (h3 : pe ≤ b.size) :
    paramEffect b ps pe v v a = if cmpEqL (b.extract ps pe) sLr then { a with lr := true } else a := by
  rw [paramEffect_do, sfpKind_flag h1 h3]; unfold sfpFlag; split <;> rfl

/-! ### the parameter automaton -/

/-- a byte of a parameter name: anything but SP HT CR LF `,` `=` `<` `>` `;` -/
def isPNch (c : UInt8) : Bool := !(isLWSch c) && !(c == 44) && !(c == 61) && !(c == 60) && !(c == 62) && !(c == 59)

theorem isPNch_iff {c : UInt8} :
    isPNch c = true ↔ isLWSch c = false ∧ (c ≠ 44 ∧ c ≠ 61 ∧ c ≠ 60 ∧ c ≠ 62 ∧ c ≠ 59) := by
  simp [isPNch, and_assoc]

/-- a byte of a parameter value outside quotes: anything but SP HT CR LF `,` `;` `=` `<` `>` `"` -/
def isPVch (c : UInt8) : Bool :=
  !(isLWSch c) && !(c == 44) && !(c == 59) && !(c == 61) && !(c == 60) && !(c == 62) && !(c == 34)

theorem isPVch_iff {c : UInt8} :
    isPVch c = true ↔ isLWSch c = false ∧ (c ≠ 44 ∧ c ≠ 59 ∧ c ≠ 61 ∧ c ≠ 60 ∧ c ≠ 62 ∧ c ≠ 34) := by
  simp [isPVch, and_assoc]

/-- a byte inside a quoted string: anything but `"` `\` SP HT CR LF (those are covered by their own rules) -/
def isQch (c : UInt8) : Bool := !(c == 34) && !(c == 92) && !(isLWSch c)

theorem isQch_iff {c : UInt8} : isQch c = true ↔ isLWSch c = false ∧ (c ≠ 34 ∧ c ≠ 92) := by
  simp [isQch, and_comm, and_assoc]

/-! #### quoted strings (display name and parameter values) -/

def IsQState (s : FBState) : Prop := s = .quoted ∨ s = .quotedVal ∨ s = .quotedPossibleVal

/-- the inside of a quoted string from `i` up to the closing quote at `j`: ordinary bytes, `\x` pairs (`x` not CR / LF)
    and linear white space (folds included) -/
inductive NaQBody (b : Buf) : Nat → Nat → Prop
  | nil (i : Nat) : b[i]? = some 34 → NaQBody b i i
  | ch (i j : Nat) (c : UInt8) : b[i]? = some c → isQch c = true → NaQBody b (i + 1) j → NaQBody b i j
  | esc (i j : Nat) (c1 : UInt8) : b[i]? = some 92 → b[i + 1]? = some c1 → isCRLFch c1 = false → NaQBody b (i + 2) j →
      NaQBody b i j
  | lws (i n j : Nat) (c : UInt8) : Lws b i n → i < n → b[n]? = some c → isLWSch c = false → NaQBody b n j → NaQBody b i j

theorem NaQBody.le {b : Buf} {i j : Nat} (H : NaQBody b i j) : i ≤ j := by
  induction H with
  | nil i _ => exact Nat.le_refl _
  | ch i j c _ _ _ ih => omega
  | esc i j c1 _ _ _ _ ih => omega
  | lws i n j c _ hlt _ _ _ ih => omega

theorem NaQBody.close {b : Buf} {i j : Nat} (H : NaQBody b i j) : b[j]? = some 34 := by
  induction H with
  | nil i h => exact h
  | ch i j c _ _ _ ih => exact ih
  | esc i j c1 _ _ _ _ ih => exact ih
  | lws i n j c _ _ _ _ _ ih => exact ih

/-- one segment inside a quoted string: an ordinary byte, a `\x` pair, linear white space -/
theorem na_q_ch (h : Nat) {b : Buf} {i : Nat} {c : UInt8} (pf : PFromBody) (hst : IsQState pf.state) (hc : b[i]? = some c)
    (hq : isQch c = true) : runLoop (naMachine h) b i pf = runLoop (naMachine h) b (i + 1) pf :=
  na_tr hc (.q_tok hst (isQch_iff.1 hq).1 (isQch_iff.1 hq).2)

theorem na_q_esc (h : Nat) {b : Buf} {i : Nat} {c1 : UInt8} (pf : PFromBody) (hst : IsQState pf.state)
    (h0 : b[i]? = some 92) (h1 : b[i + 1]? = some c1) (hc1 : isCRLFch c1 = false) :
    runLoop (naMachine h) b i pf = runLoop (naMachine h) b (i + 2) pf :=
  na_tr h0 (.q_esc hst rfl h1 hc1)

theorem na_q_lws (h : Nat) {b : Buf} {i n : Nat} {c : UInt8} (pf : PFromBody) (hst : IsQState pf.state) (hl : Lws b i n)
    (hlt : i < n) (hn : b[n]? = some c) (hc : isLWSch c = false) :
    runLoop (naMachine h) b i pf = runLoop (naMachine h) b n pf :=
  na_lws (fun hl t => .q_lws hst hl t) hl hlt hn hc

/-- the loop walks over the inside of a quoted string without touching the object -/
theorem na_qbody_run (h : Nat) {b : Buf} {i j : Nat} (H : NaQBody b i j) (pf : PFromBody) (hst : IsQState pf.state) :
    runLoop (naMachine h) b i pf = runLoop (naMachine h) b j pf := by
  induction H with
  | nil i _ => rfl
  | ch i j c hc hq _ ih => exact (na_q_ch h pf hst hc hq).trans ih
  | esc i j c1 h0 h1 hc1 _ ih => exact (na_q_esc h pf hst h0 h1 hc1).trans ih
  | lws i n j c hl hlt hn hc _ ih => exact (na_q_lws h pf hst hl hlt hn hc).trans ih

theorem stQV_isQ (q : Bool) : IsQState (stQV q) := stQV_q q

/-! ### the object while a parameter list is being read -/

/-- `base` with the parameter-dependent fields `a`, automaton state `st`, start of the parameter span `po`, and the four
    work offsets -/
def pst (base : PFromBody) (st : FBState) (po ps pe vs ve : Nat) (a : PAcc) : PFromBody :=
  { base with tag := a.tag, lr := a.lr, hasExpires := a.hasExpires, expires := a.expires, q := a.q, paramErr := a.paramErr, errOffs := a.errOffs, state := st, params := ⟨po, base.params.len⟩, pstart := ps, pend := pe, vstart := vs, vend := ve }

theorem sfp_pst (b : Buf) (base : PFromBody) (st : FBState) (po ps pe vs ve : Nat) (a : PAcc) (h1 : pe ≤ b.size)
    (h2 : ve ≤ b.size) :
    setFromParamVal b (pst base st po ps pe vs ve a) = pst base st po 0 0 0 0 (paramEffect b ps pe vs ve a) := by
  rw [setFromParamVal_eq b _ h1 h2]; rfl

/-- the finished object: parameter span and value extended to `w` -/
def finP (h : Nat) (base : PFromBody) (po w : Nat) (a : PAcc) : PFromBody :=
  { ((pst base .fin po 0 0 0 0 a).extParams w).extV w with soffs := 0, type := h }

/-- `endOfHdr` after the last parameter was stored -/
theorem finP_eq (h : Nat) (b : Buf) (base : PFromBody) (st : FBState) (po ps pe vs ve w : Nat) (a : PAcc)
    (h1 : pe ≤ b.size) (h2 : ve ≤ b.size) :
    ({ ((setFromParamVal b (pst base st po ps pe vs ve a)).extParams w).extV w with
      state := .fin, soffs := 0, type := h } : PFromBody) = finP h base po w (paramEffect b ps pe vs ve a) := by
  rw [sfp_pst b base st po ps pe vs ve a h1 h2]; rfl

/-! ### grammar of parameters -/

/-- the rest of a parameter value: value bytes and quoted strings -/
inductive PValTail (b : Buf) : Nat → Nat → Prop
  | nil (i : Nat) : PValTail b i i
  | ch (i j : Nat) (c : UInt8) : b[i]? = some c → isPVch c = true → PValTail b (i + 1) j → PValTail b i j
  | q (i k j : Nat) : b[i]? = some 34 → NaQBody b (i + 1) k → PValTail b (k + 1) j → PValTail b i j

/-- a parameter value at `[vs, ve)`: a non-empty sequence of value bytes and quoted strings -/
def PVal (b : Buf) (vs ve : Nat) : Prop :=
  (∃ c, b[vs]? = some c ∧ isPVch c = true ∧ PValTail b (vs + 1) ve) ∨
  (∃ k, b[vs]? = some 34 ∧ NaQBody b (vs + 1) k ∧ PValTail b (k + 1) ve)

theorem PValTail.le {b : Buf} {i j : Nat} (H : PValTail b i j) : i ≤ j := by
  induction H with
  | nil i => exact Nat.le_refl _
  | ch i j c _ _ _ ih => omega
  | q i k j _ hq _ ih => have := hq.le; omega

theorem PVal.lt {b : Buf} {vs ve : Nat} (H : PVal b vs ve) : vs < ve := by
  rcases H with ⟨c, _, _, ht⟩ | ⟨k, _, hq, ht⟩
  · have := ht.le; omega
  · have := ht.le; have := hq.le; omega

theorem PVal.first {b : Buf} {vs ve : Nat} (H : PVal b vs ve) : ∃ c, b[vs]? = some c ∧ isLWSch c = false := by
  rcases H with ⟨c, hc, hp, _⟩ | ⟨k, hc, _, _⟩
  · exact ⟨c, hc, (isPVch_iff.1 hp).1⟩
  · exact ⟨34, hc, by decide⟩

/-- a quoted string in a parameter value, from the opening quote at `i` to the byte after the closing one at `k` -/
theorem na_pv_quoted (h : Nat) {b : Buf} {i k : Nat} (q : Bool) (pf : PFromBody) (hst : pf.state = stQV q)
    (hq : NaQBody b i k) : runLoop (naMachine h) b i pf = runLoop (naMachine h) b (k + 1) { pf with state := stPV q } := by
  rw [na_qbody_run h hq pf (hst ▸ stQV_isQ q)]
  exact na_tr hq.close (.qCloseV q hst)

theorem na_pvaltail_run (h : Nat) {b : Buf} {i j : Nat} (H : PValTail b i j) (q : Bool) (base : PFromBody)
    (po ps pe vs : Nat) (a : PAcc) :
    runLoop (naMachine h) b i (pst base (stPV q) po ps pe vs 0 a) =
      runLoop (naMachine h) b j (pst base (stPV q) po ps pe vs 0 a) := by
  induction H with
  | nil i => rfl
  | ch i j c hc hp _ ih => exact (na_tr hc (.v_tok (stPV_v q) (isPVch_iff.1 hp).1 (isPVch_iff.1 hp).2)).trans ih
  | q i k j hc hq _ ih => rw [na_tr hc (.vQuote q rfl), na_pv_quoted h q _ rfl hq]; exact ih

/-- from the first byte of a value (state "new value") to its end (state "in value", value start recorded) -/
theorem na_pval_run (h : Nat) {b : Buf} {vs ve : Nat} (H : PVal b vs ve) (q : Bool) (base : PFromBody)
    (po ps pe vs0 : Nat) (a : PAcc) :
    runLoop (naMachine h) b vs (pst base (stNV q) po ps pe vs0 0 a) =
      runLoop (naMachine h) b ve (pst base (stPV q) po ps pe vs 0 a) := by
  rcases H with ⟨c, hc, hp, ht⟩ | ⟨k, hc, hq, ht⟩
  · rw [na_tr hc (.vTokNew q rfl (isPVch_iff.1 hp).1 (isPVch_iff.1 hp).2)]
    exact na_pvaltail_run h ht q base po ps pe vs a
  · rw [na_tr hc (.vQuoteNew q rfl), na_pv_quoted h q _ rfl hq]
    exact na_pvaltail_run h ht q base po ps pe vs a

/-- start of the parameter span after a parameter that begins at `ps` -/
def poNext (po ps : Nat) : Nat := if po = 0 then ps else po

theorem naParamsOffs_pst (base : PFromBody) (st : FBState) (po ps : Nat) (a : PAcc) (hps : ps ≤ 65535) :
    naParamsOffs (pst base st po ps 0 0 0 a) ps = pst base st (poNext po ps) ps 0 0 0 a := by
  unfold naParamsOffs poNext
  by_cases h0 : po = 0
  · subst h0
    have : ((pst base st 0 ps 0 0 0 a).params.offs == 0) = true := rfl
    rw [if_pos this, if_pos rfl, trunc16_id hps]; rfl
  · have : ((pst base st po ps 0 0 0 a).params.offs == 0) = false := by
      show (po == 0) = false
      simpa using h0
    rw [this, if_neg h0]; rfl

/-- optional white space in front of a parameter name -/
theorem na_np_lws (h : Nat) {b : Buf} (q : Bool) (base : PFromBody) (po : Nat) (a : PAcc) {i n : Nat} {c : UInt8}
    (hl : Lws b i n) (hn : b[n]? = some c) (hc : isLWSch c = false) :
    runLoop (naMachine h) b i (pst base (stNP q) po 0 0 0 0 a) = runLoop (naMachine h) b n (pst base (stNP q) po 0 0 0 0 a) := by
  by_cases h1 : i < n
  · rw [na_lws (fun hl t => .p_lws (stNP_P q) hl t) hl h1 hn hc, naNameWS_NP q rfl]
  · rw [show i = n by have := hl.le; omega]

/-- optional white space in front of a parameter value: the value starts after it -/
theorem na_nv_lws (h : Nat) {b : Buf} (q : Bool) (base : PFromBody) (po ps pe : Nat) (a : PAcc) {i n : Nat} {c : UInt8}
    (hl : Lws b i n) (hn : b[n]? = some c) (hc : isLWSch c = false) :
    runLoop (naMachine h) b i (pst base (stNV q) po ps pe i 0 a) = runLoop (naMachine h) b n (pst base (stNV q) po ps pe n 0 a) := by
  by_cases h1 : i < n
  · rw [na_lws (fun hl t => .v_lws (stNV_V q) hl t) hl h1 hn hc, naValWS_NV q rfl]; rfl
  · rw [show i = n by have := hl.le; omega]

/-- optional white space, then the parameter name `[ps, pe)` -/
theorem na_pname_run (h : Nat) (b : Buf) (q : Bool) (base : PFromBody) (po : Nat) (a : PAcc) (i ps pe : Nat)
    (hl : Lws b i ps) (hn : Run isPNch b ps pe) (hlt : ps < pe) (h0 : 0 < ps) (hfit : b.size ≤ 65535) :
    runLoop (naMachine h) b i (pst base (stNP q) po 0 0 0 0 a) =
      runLoop (naMachine h) b pe (pst base (stPN q) (poNext po ps) ps 0 0 0 a) := by
  obtain ⟨c, hc, hp⟩ := hn ps (Nat.le_refl _) hlt
  have hsz := get?_lt hc
  rw [na_np_lws h q base po a hl hc (isPNch_iff.1 hp).1]
  -- the first byte of the name
  rw [na_tr hc (.p_tok (stNP_P q) (isPNch_iff.1 hp).1 (isPNch_iff.1 hp).2), naParamStart_NP q rfl]
  show runLoop _ b (ps + 1) (naParamsOffs (pst base (stPN q) po ps 0 0 0 a) ps) = _
  rw [naParamsOffs_pst base (stPN q) po ps a (by omega)]
  -- the rest of the name: the parameter span has begun
  have hpo : ((pst base (stPN q) (poNext po ps) ps 0 0 0 a).params.offs == 0) = false := by
    show (poNext po ps == 0) = false
    unfold poNext
    by_cases hz : po = 0
    · rw [if_pos hz]; simp; omega
    · rw [if_neg hz]; simpa using hz
  refine runLoop_run (naMachine h) b isPNch _ (fun k c' _ hc' => ?_) (ps + 1) pe (by omega) (Span.sub hn (by omega) (Nat.le_refl _))
  have t := NaTr.p_tok (h := h) (b := b) (i := k) (pf := pst base (stPN q) (poNext po ps) ps 0 0 0 a) (stPN_P q)
    (isPNch_iff.1 hc').1 (isPNch_iff.1 hc').2
  rw [naParamStart_PN q rfl, naParamsOffs, if_neg (by rw [hpo]; decide)] at t
  exact t.eq

/-- a parameter without value, then optional white space and `;` -/
theorem na_flag_sep (h : Nat) (b : Buf) (q : Bool) (base : PFromBody) (po ps pe m : Nat) (a : PAcc)
    (hl : Lws b pe m) (hm : b[m]? = some 59) :
    runLoop (naMachine h) b pe (pst base (stPN q) po ps 0 0 0 a) =
      runLoop (naMachine h) b (m + 1) (pst base (stNP q) po 0 0 0 0 (paramEffect b ps pe 0 0 a)) := by
  have hsz := get?_lt hm
  have hle := hl.le
  rw [← sfp_pst b base (stNP q) po ps pe 0 0 a (by omega) (by omega)]
  -- with or without white space in front of it, the `;` stores the parameter
  by_cases h1 : pe < m
  · rw [na_lws (fun hl t => .p_lws (stPN_P q) hl t) hl h1 hm (by decide), naNameWS_PN q rfl]
    exact na_tr hm (.peSemi q rfl)
  · cases (show pe = m by omega)
    exact na_tr hm (.pSemi q rfl)

/-- end of a parameter name, optional white space, `=`: up to the byte after the `=` -/
theorem n2_peq_run (h : Nat) (b : Buf) (q : Bool) (base : PFromBody) (po ps pe eq : Nat) (a : PAcc)
    (hl : Lws b pe eq) (heq : b[eq]? = some 61) :
    runLoop (naMachine h) b pe (pst base (stPN q) po ps 0 0 0 a) =
      runLoop (naMachine h) b (eq + 1) (pst base (stNV q) po ps pe (eq + 1) 0 a) := by
  by_cases h1 : pe < eq
  · rw [na_lws (fun hl t => .p_lws (stPN_P q) hl t) hl h1 heq (by decide), naNameWS_PN q rfl]
    exact na_tr heq (.peEq q rfl)
  · cases (show pe = eq by have := hl.le; omega)
    exact na_tr heq (.pEq q rfl)

/-- end of a parameter name, optional white space, `=`, optional white space, up to the first byte of the value -/
theorem na_peq_run (h : Nat) (b : Buf) (q : Bool) (base : PFromBody) (po ps pe eq vs : Nat) (a : PAcc)
    (hl : Lws b pe eq) (heq : b[eq]? = some 61) (hl2 : Lws b (eq + 1) vs) {c : UInt8} (hv : b[vs]? = some c)
    (hc : isLWSch c = false) :
    runLoop (naMachine h) b pe (pst base (stPN q) po ps 0 0 0 a) =
      runLoop (naMachine h) b vs (pst base (stNV q) po ps pe vs 0 a) := by
  rw [n2_peq_run h b q base po ps pe eq a hl heq]
  exact na_nv_lws h q base po ps pe a hl2 hv hc

/-- a parameter value, then optional white space and `;` -/
theorem na_val_sep (h : Nat) (b : Buf) (q : Bool) (base : PFromBody) (po ps pe vs ve m : Nat) (a : PAcc)
    (hpe : pe ≤ ve) (hl : Lws b ve m) (hm : b[m]? = some 59) :
    runLoop (naMachine h) b ve (pst base (stPV q) po ps pe vs 0 a) =
      runLoop (naMachine h) b (m + 1) (pst base (stNP q) po 0 0 0 0 (paramEffect b ps pe vs ve a)) := by
  have hsz := get?_lt hm
  have hle := hl.le
  rw [← sfp_pst b base (stNP q) po ps pe vs ve a (by omega) (by omega)]
  by_cases h1 : ve < m
  · rw [na_lws (fun hl t => .v_lws (stPV_V q) hl t) hl h1 hm (by decide), naValWS_PV q rfl]
    exact na_tr hm (.veSemi q rfl)
  · cases (show ve = m by omega)
    exact na_tr hm (.vSemi q (.inr rfl))

/-! ### how a value ends -/

/-- after the last byte of the value (at `w`): optional white space and a line end that is not a fold — verdict OK,
    offset after the line end — or, for the header kinds that take several values, optional white space and a comma —
    verdict "more values", offset after the comma -/
inductive Term (h : Nat) (b : Buf) (w : Nat) : Nat → Err → Prop
  | eol (p e : Nat) (c2 : UInt8) : Lws b w p → Eol b p e → b[e]? = some c2 → isWS c2 = false → Term h b w e .ok
  | comma (m : Nat) : Lws b w m → b[m]? = some 44 → multipleValsOk h = true → Term h b w (m + 1) .moreValues

theorem Term.range {h : Nat} {b : Buf} {w o : Nat} {e : Err} (T : Term h b w o e) : w < o ∧ o ≤ b.size := by
  rcases T with ⟨p, e, c2, hl, he, h2, _⟩ | ⟨m, hl, hm, _⟩
  · have := hl.le; have := he.gt; have := get?_lt h2; omega
  · have := hl.le; have := get?_lt hm; omega

theorem Term.complete {h : Nat} {b : Buf} {w o : Nat} {e : Err} (T : Term h b w o e) : e = .ok ∨ e = .moreValues := by
  cases T with
  | eol p e c2 _ _ _ _ => exact Or.inl rfl
  | comma m _ _ _ => exact Or.inr rfl

theorem naEOHParamName_end (b : Buf) (pf : PFromBody) (i : Nat) (h1 : pf.state ≠ .paramName)
    (h2 : pf.state ≠ .possibleParamName) (h3 : pf.pstart < pf.pend) (h4 : ((setFromParamVal b pf).params.offs != 0) = true) :
    naEOHParamName b pf i = ((setFromParamVal b pf).extParams i).extV i := by
  unfold naEOHParamName
  have e1 : (pf.state == .paramName) = false := by simpa using h1
  have e2 : (pf.state == .possibleParamName) = false := by simpa using h2
  simp only [e1, e2, Bool.or_self, Bool.false_eq_true, ↓reduceIte, h3, h4]

theorem naEOHParamName_name (b : Buf) (pf : PFromBody) (i : Nat) (q : Bool) (h1 : pf.state = stPN q)
    (h3 : pf.pstart < i) (h4 : ((setFromParamVal b { pf with pend := i }).params.offs != 0) = true) :
    naEOHParamName b pf i = ((setFromParamVal b { pf with pend := i }).extParams i).extV i := by
  unfold naEOHParamName
  have e1 : (pf.state == .paramName || pf.state == .possibleParamName) = true := by
    cases q <;> (simp only [stPN] at h1; rw [h1]; decide)
  simp only [e1, ↓reduceIte, h3, h4]

/-- a parameter without value at the end of the value -/
theorem na_flag_term (h : Nat) (b : Buf) (q : Bool) (base : PFromBody) (po ps pe : Nat) (a : PAcc) (hps : ps < pe)
    (hpo : po ≠ 0) {o' : Nat} {e' : Err} (T : Term h b pe o' e') :
    runLoop (naMachine h) b pe (pst base (stPN q) po ps 0 0 0 a) =
      (o', e', finP h base po pe (paramEffect b ps pe 0 0 a)) := by
  have hsz := T.range
  have site : ∀ {c r}, isLWSch c = true → NaLws h b pe _ _ _ _ r → NaTr h b pe c (pst base (stPN q) po ps 0 0 0 a) r :=
    fun hl t => .p_lws (stPN_P q) hl t
  have hpo' : ∀ st, ((pst base st po 0 0 0 0 (paramEffect b ps pe 0 0 a)).params.offs != 0) = true := by
    intro st; show (po != 0) = true; simpa using hpo
  have sfp := fun st => sfp_pst b base st po ps pe 0 0 a (by omega) (by omega)
  -- whichever way the value ends, `endOfHdr` stores the parameter and extends the two spans to `pe`
  have hE : naEOHParamName b (pst base (stPNE q) po ps pe 0 0 a) pe =
      ((pst base (stPNE q) po 0 0 0 0 (paramEffect b ps pe 0 0 a)).extParams pe).extV pe := by
    rw [naEOHParamName_end b _ pe (by cases q <;> simp [pst, stPNE]) (by cases q <;> simp [pst, stPNE]) hps
      (by rw [sfp]; exact hpo' _), sfp]
  have hN : naEOHParamName b (pst base (stPN q) po ps 0 0 0 a) pe =
      ((pst base (stPN q) po 0 0 0 0 (paramEffect b ps pe 0 0 a)).extParams pe).extV pe := by
    rw [naEOHParamName_name b _ pe q rfl hps (by
      show ((setFromParamVal b (pst base (stPN q) po ps pe 0 0 a)).params.offs != 0) = true
      rw [sfp]; exact hpo' _)]
    show ((setFromParamVal b (pst base (stPN q) po ps pe 0 0 a)).extParams pe).extV pe = _
    rw [sfp]
  have hEnd : NaEoh b (pst base (stPNE q) po ps pe 0 0 a) pe
      (some (naEOHParamName b (pst base (stPNE q) po ps pe 0 0 a) pe)) :=
    .paramName (.inr (by cases q <;> simp [pst, stPNE]))
  rcases T with ⟨p, e, c2, hl, he, h2, hw2⟩ | ⟨m, hl, hm, hmv⟩
  · rw [na_eol site hl he h2 hw2 (by rw [naNameWS_PN q rfl]; exact hEnd), hE]; rfl
  · by_cases h1 : pe < m
    · rw [na_lws site hl h1 hm (by decide), naNameWS_PN q rfl]
      exact (na_comma hm (.commaWS (.inl ⟨stPNE_e q, rfl⟩) rfl hmv) hEnd).trans (by rw [hE]; rfl)
    · cases (show pe = m by have := hl.le; omega)
      rw [na_comma hm (.commaAt (by cases q <;> rfl) hmv) (.paramName (by cases q <;> simp [pst, stPN])), hN]
      rfl

/-- a parameter with value at the end of the value -/
theorem na_val_term (h : Nat) (b : Buf) (q : Bool) (base : PFromBody) (po ps pe vs ve : Nat) (a : PAcc) (hpe : pe ≤ ve)
    {o' : Nat} {e' : Err} (T : Term h b ve o' e') :
    runLoop (naMachine h) b ve (pst base (stPV q) po ps pe vs 0 a) =
      (o', e', finP h base po ve (paramEffect b ps pe vs ve a)) := by
  have hsz := T.range
  have site : ∀ {c r}, isLWSch c = true → NaLws h b ve _ _ _ _ r → NaTr h b ve c (pst base (stPV q) po ps pe vs 0 a) r :=
    fun hl t => .v_lws (stPV_V q) hl t
  have fin := fun st => finP_eq h b base st po ps pe vs ve ve a (by omega) (by omega)
  rcases T with ⟨p, e, c2, hl, he, h2, hw2⟩ | ⟨m, hl, hm, hmv⟩
  · rw [na_eol site hl he h2 hw2 (by rw [naValWS_PV q rfl]; exact .valEnd (stPVE_e q))]
    exact congrArg (fun x => (_, _, x)) (fin _)
  · by_cases h1 : ve < m
    · rw [na_lws site hl h1 hm (by decide), naValWS_PV q rfl,
        na_comma hm (.commaWS (.inr ⟨stPVE_e q, rfl⟩) rfl hmv) (.valEnd (stPVE_e q))]
      exact congrArg (fun x => (_, _, x)) (fin _)
    · cases (show ve = m by have := hl.le; omega)
      rw [na_comma hm (.commaAt (by cases q <;> rfl) hmv) (.val (stPV_v q))]
      exact congrArg (fun x => (_, _, x)) (fin (stPV q))

/-! ### parameter lists -/

/-- name `[ps, pe)` and value `[vs, ve)` of a parameter (`vs = ve = 0`: no value) -/
structure PSpan where
  ps : Nat
  pe : Nat
  vs : Nat
  ve : Nat
  deriving DecidableEq, Repr

/-- one parameter, read from the byte after its `;` at `i`: optional white space, a name, and optionally white space,
    `=`, white space and a value; `w` is the offset after its last byte -/
inductive ParamAt (b : Buf) (i : Nat) : PSpan → Nat → Prop
  | flag (ps pe : Nat) : Lws b i ps → Run isPNch b ps pe → ps < pe → ParamAt b i ⟨ps, pe, 0, 0⟩ pe
  | val (ps pe eq vs ve : Nat) : Lws b i ps → Run isPNch b ps pe → ps < pe → Lws b pe eq → b[eq]? = some 61 →
      Lws b (eq + 1) vs → PVal b vs ve → ParamAt b i ⟨ps, pe, vs, ve⟩ ve

/-- parameters separated by `;` with optional white space around it; `w` is the offset after the last byte of the last one -/
inductive PList (b : Buf) : Nat → List PSpan → Nat → Prop
  | last (i w : Nat) (x : PSpan) : ParamAt b i x w → PList b i [x] w
  | cons (i w m w' : Nat) (x : PSpan) (L : List PSpan) : ParamAt b i x w → Lws b w m → b[m]? = some 59 →
      PList b (m + 1) L w' → PList b i (x :: L) w'

/-- the parameter-dependent fields after all parameters of the list, in order -/
def accAll (b : Buf) (L : List PSpan) (a : PAcc) : PAcc := L.foldl (fun a x => paramEffect b x.ps x.pe x.vs x.ve a) a

/-- start of the parameter span -/
def firstPs (po : Nat) : List PSpan → Nat
  | [] => po
  | x :: _ => poNext po x.ps

theorem ParamAt.bounds {b : Buf} {i w : Nat} {x : PSpan} (H : ParamAt b i x w) : i ≤ x.ps ∧ x.ps < x.pe ∧ x.pe ≤ w := by
  rcases H with ⟨ps, pe, h1, h2, h3⟩ | ⟨ps, pe, eq, vs, ve, h1, h2, h3, h4, h5, h6, h7⟩
  · exact ⟨h1.le, h3, Nat.le_refl _⟩
  · have := h1.le; have := h4.le; have := h6.le; have := h7.lt
    exact ⟨by omega, h3, by show pe ≤ w; omega⟩

theorem na_param_sep (h : Nat) (b : Buf) (q : Bool) (base : PFromBody) (po : Nat) (a : PAcc) {i w m : Nat} {x : PSpan}
    (H : ParamAt b i x w) (hl : Lws b w m) (hm : b[m]? = some 59) (h0 : 0 < i) (hfit : b.size ≤ 65535) :
    runLoop (naMachine h) b i (pst base (stNP q) po 0 0 0 0 a) =
      runLoop (naMachine h) b (m + 1) (pst base (stNP q) (poNext po x.ps) 0 0 0 0 (paramEffect b x.ps x.pe x.vs x.ve a)) := by
  rcases H with ⟨ps, pe, h1, h2, h3⟩ | ⟨ps, pe, eq, vs, ve, h1, h2, h3, h4, h5, h6, h7⟩
  · have := h1.le
    rw [na_pname_run h b q base po a i ps w h1 h2 h3 (by omega) hfit]
    exact na_flag_sep h b q base _ ps w m a hl hm
  · have := h1.le; have := h4.le; have := h6.le; have := h7.lt
    obtain ⟨c, hc, hcl⟩ := h7.first
    rw [na_pname_run h b q base po a i ps pe h1 h2 h3 (by omega) hfit]
    rw [na_peq_run h b q base _ ps pe eq vs a h4 h5 h6 hc hcl]
    rw [na_pval_run h h7 q base _ ps pe vs a]
    exact na_val_sep h b q base _ ps pe vs w m a (by omega) hl hm

theorem na_param_term (h : Nat) (b : Buf) (q : Bool) (base : PFromBody) (po : Nat) (a : PAcc) {i w : Nat} {x : PSpan}
    (H : ParamAt b i x w) {o' : Nat} {e' : Err} (T : Term h b w o' e') (h0 : 0 < i) (hfit : b.size ≤ 65535) :
    runLoop (naMachine h) b i (pst base (stNP q) po 0 0 0 0 a) =
      (o', e', finP h base (poNext po x.ps) w (paramEffect b x.ps x.pe x.vs x.ve a)) := by
  rcases H with ⟨ps, pe, h1, h2, h3⟩ | ⟨ps, pe, eq, vs, ve, h1, h2, h3, h4, h5, h6, h7⟩
  · have := h1.le
    rw [na_pname_run h b q base po a i ps w h1 h2 h3 (by omega) hfit]
    refine na_flag_term h b q base _ ps w a h3 ?_ T
    unfold poNext; split <;> omega
  · have := h1.le; have := h4.le; have := h6.le; have := h7.lt
    obtain ⟨c, hc, hcl⟩ := h7.first
    rw [na_pname_run h b q base po a i ps pe h1 h2 h3 (by omega) hfit]
    rw [na_peq_run h b q base _ ps pe eq vs a h4 h5 h6 hc hcl]
    rw [na_pval_run h h7 q base _ ps pe vs a]
    exact na_val_term h b q base _ ps pe vs w a (by omega) T

theorem n2_firstPs_idem (p : Nat) (L : List PSpan) (hp : p ≠ 0) : firstPs p L = p := by
  cases L with
  | nil => rfl
  | cons y L' => show poNext p y.ps = p; unfold poNext; rw [if_neg hp]

/-! ### after `>` -/

/-- `<uri>` and nothing else up to the end of the value -/
theorem na_uf_term (h : Nat) (b : Buf) (pf : PFromBody) (hst : pf.state = .uriFound) {w o' : Nat} {e' : Err}
    (T : Term h b w o' e') :
    runLoop (naMachine h) b w pf = (o', e', { pf with state := .fin, soffs := 0, type := h }) := by
  rcases T with ⟨p, e, c2, hl, he, h2, hw2⟩ | ⟨m, hl, hm, hmv⟩
  · exact na_eol (fun hl t => .uf_lws (.inl hst) hl t) hl he h2 hw2 (.found (.inl hst))
  · rw [na_lws_skip (fun hl t => .uf_lws (.inl hst) hl t) hl hm (by decide)]
    exact na_comma hm (.commaAt (by rw [hst]; rfl) hmv) (.found (.inl hst))

/-- `<uri>`, optional white space and `;` -/
theorem na_uf_sep (h : Nat) (b : Buf) (pf : PFromBody) (hst : pf.state = .uriFound) {w m : Nat} (hl : Lws b w m)
    (hm : b[m]? = some 59) :
    runLoop (naMachine h) b w pf = runLoop (naMachine h) b (m + 1) { pf with state := .newParam, s := 0 } := by
  rw [na_lws_skip (fun hl t => .uf_lws (.inl hst) hl t) hl hm (by decide)]
  exact na_tr hm (.uf_semi hst rfl)

/-! ### the forms with angle brackets -/

/-- the object right after `<` at `a` (value started at `o`, display name `nm`) -/
def uriSt (nm : PField) (o x a : Nat) : PFromBody := { name := nm, v := ⟨o, x⟩, s := a + 1, state := .uri }

/-- the object right after `>` at `g` -/
def ufBase (nm : PField) (o a g : Nat) : PFromBody :=
  { name := nm, uri := ⟨a + 1, g - (a + 1)⟩, v := ⟨o, g + 1 - o⟩, s := a + 1, state := .uriFound }

theorem na_uri_to_uf (h : Nat) (b : Buf) (nm : PField) (o x a g : Nat) (hoa : o ≤ a) (hag : a + 1 ≤ g)
    (hu : Run isURIch b (a + 1) g) (hg : b[g]? = some 62) (hfit : b.size ≤ 65535) :
    runLoop (naMachine h) b (a + 1) (uriSt nm o x a) = runLoop (naMachine h) b (g + 1) (ufBase nm o a g) := by
  have hsz := get?_lt hg
  have e1 := set_eq (a + 1) g hag (by omega)
  have e2 := extend_eq ⟨o, x⟩ (g + 1) (by show o ≤ g + 1; omega) (by omega)
  have e3 := setPanics_false (a + 1) g hag
  have e4 := extendPanics_false (⟨o, x⟩ : PField) (g + 1) (by show o ≤ g + 1; omega)
  rw [na_uri_run h b (a + 1) g (uriSt nm o x a) rfl hag hu hg]
  congr 1
  unfold uriSt ufBase PFromBody.setURI PFromBody.extV
  simp only [e1, e2, e3, e4, Bool.or_false]

/-! ### bytes of the first case group (`init`, `name`, `nameOrURI`, `nameOrURIEnd`) -/

/-- a byte of a display-name token or of a bare URI: anything but SP HT CR LF `,` `<` `"` `;` `>` -/
def isTokch (c : UInt8) : Bool := !(isLWSch c) && !(c == 44) && !(c == 60) && !(c == 34) && !(c == 59) && !(c == 62)

theorem isTokch_iff {c : UInt8} :
    isTokch c = true ↔ isLWSch c = false ∧ (c ≠ 44 ∧ c ≠ 60 ∧ c ≠ 34 ∧ c ≠ 59 ∧ c ≠ 62) := by
  simp [isTokch, and_assoc]

/-- … and not `*` (first byte of a token) -/
def isTok1 (c : UInt8) : Bool := isTokch c && !(c == 42)

theorem isTok1_iff {c : UInt8} : isTok1 c = true ↔ isTokch c = true ∧ (c == 42) = false := by
  unfold isTok1
  cases isTokch c <;> cases (c == 42) <;> simp

theorem isTok1_ne {c : UInt8} (h : isTok1 c = true) :
    isLWSch c = false ∧ (c ≠ 44 ∧ c ≠ 60 ∧ c ≠ 34 ∧ c ≠ 59 ∧ c ≠ 62 ∧ c ≠ 42) := by
  simpa [isTok1, isTokch, and_assoc] using h

/-- a token byte inside a display name or a first token (`*` included) -/
theorem NaTr.aTok {h : Nat} {b : Buf} {i : Nat} {c : UInt8} {pf : PFromBody}
    (hg : pf.state = .name ∨ pf.state = .nameOrURI) (ht : isTokch c = true) : NaTr h b i c pf (.cont (i + 1) pf) := by
  obtain ⟨hl, h1, h2, h3, h4, h5⟩ := isTokch_iff.1 ht
  by_cases h42 : c = 42
  · exact .a_star (hg.elim .inl fun g => .inr (.inl g)) h42
  · exact .a_tok hg hl ⟨h1, h2, h3, h4, h5, h42⟩

/-! ### display names -/

/-- the rest of a display name up to the `<` at `a`: token bytes, linear white space and quoted strings -/
inductive NameTail (b : Buf) : Nat → Nat → Prop
  | done (a : Nat) : b[a]? = some 60 → NameTail b a a
  | ch (i a : Nat) (c : UInt8) : b[i]? = some c → isTokch c = true → NameTail b (i + 1) a → NameTail b i a
  | lws (i n a : Nat) (c : UInt8) : Lws b i n → i < n → b[n]? = some c → isLWSch c = false → NameTail b n a →
      NameTail b i a
  | q (i k a : Nat) : b[i]? = some 34 → NaQBody b (i + 1) k → NameTail b (k + 1) a → NameTail b i a

theorem NameTail.le {b : Buf} {i a : Nat} (H : NameTail b i a) : i ≤ a := by
  induction H with
  | done a _ => exact Nat.le_refl _
  | ch i a c _ _ _ ih => omega
  | lws i n a c _ _ _ _ _ ih => omega
  | q i k a _ hq _ ih => have := hq.le; omega

theorem NameTail.lt {b : Buf} {i a : Nat} (H : NameTail b i a) : b[a]? = some 60 := by
  induction H with
  | done a h => exact h
  | ch i a c _ _ _ ih => exact ih
  | lws i n a c _ _ _ _ _ ih => exact ih
  | q i k a _ _ _ ih => exact ih

/-- the object inside a display name that started at `o` -/
def nmSt (o x : Nat) : PFromBody := { v := ⟨o, x⟩, s := o, state := .name }

/-- the object inside a quoted string of a display name that started at `o` -/
def nqQSt (o x : Nat) : PFromBody := { v := ⟨o, x⟩, s := o, state := .quoted }

/-- the first byte of the value is a quote -/
theorem na_init_q (h : Nat) {b : Buf} {o : Nat} (h0 : b[o]? = some 34) (hfit : b.size ≤ 65535) :
    runLoop (naMachine h) b o {} = runLoop (naMachine h) b (o + 1) (nqQSt o 0) := by
  have hsz := get?_lt h0
  rw [na_tr h0 (.quote_init rfl rfl)]
  unfold PFromBody.setV nqQSt
  simp only [set_eq o o (Nat.le_refl _) (by omega), setPanics_false o o (Nat.le_refl _), Nat.sub_self]
  rfl

/-- a quoted string inside a display name -/
theorem na_name_quoted (h : Nat) (b : Buf) (o x : Nat) {i k : Nat} (hq : NaQBody b i k) :
    runLoop (naMachine h) b i (nqQSt o x) = runLoop (naMachine h) b (k + 1) (nmSt o x) := by
  rw [na_qbody_run h hq _ (.inl rfl)]
  exact na_tr hq.close (.q_close rfl rfl)

/-- one segment of a display name: a token byte, white space followed by more name, a quoted string -/
theorem na_nm_ch (h : Nat) {b : Buf} (o x : Nat) {i : Nat} {c : UInt8} (hc : b[i]? = some c) (ht : isTokch c = true) :
    runLoop (naMachine h) b i (nmSt o x) = runLoop (naMachine h) b (i + 1) (nmSt o x) :=
  na_tr hc (.aTok (.inl rfl) ht)

theorem na_nm_lws (h : Nat) {b : Buf} (o x : Nat) {i n : Nat} {c : UInt8} (hl : Lws b i n) (hn : b[n]? = some c)
    (hcl : isLWSch c = false) : runLoop (naMachine h) b i (nmSt o x) = runLoop (naMachine h) b n (nmSt o x) :=
  na_lws_skip (fun hl t => .a_lws (.inr (.inl rfl)) hl t) hl hn hcl

theorem na_nm_q (h : Nat) {b : Buf} (o x : Nat) {i k : Nat} (hc : b[i]? = some 34) (hq : NaQBody b (i + 1) k) :
    runLoop (naMachine h) b i (nmSt o x) = runLoop (naMachine h) b (k + 1) (nmSt o x) := by
  rw [na_tr hc (.quote_name (.inl rfl) rfl)]; exact na_name_quoted h b o x hq

theorem na_nametail_run (h : Nat) (b : Buf) (o x : Nat) (hfit : b.size ≤ 65535) {i a : Nat} (H : NameTail b i a)
    (hoi : o ≤ i) :
    runLoop (naMachine h) b i (nmSt o x) = runLoop (naMachine h) b (a + 1) (uriSt ⟨o, a - o⟩ o x a) := by
  induction H with
  | done a ha =>
    have hsz := get?_lt ha
    rw [na_tr ha (.lt_name (.inl rfl) rfl)]
    unfold nmSt uriSt PFromBody.setName PFromBody.resetUPT
    simp only [set_eq o a hoi (by omega), setPanics_false o a hoi, Bool.or_false]
  | ch i a c hc ht _ ih => exact (na_nm_ch h o x hc ht).trans (ih (by omega))
  | lws i n a c hl hlt hn hcl _ ih => exact (na_nm_lws h o x hl hn hcl).trans (ih (by omega))
  | q i k a hc hq _ ih => have := hq.le; exact (na_nm_q h o x hc hq).trans (ih (by omega))

/-- the object after a first token `[o, t)` and white space (display name or bare URI still undecided) -/
def nueSt (o t : Nat) : PFromBody := { uri := ⟨o, t - o⟩, v := ⟨o, t - o⟩, s := o, state := .nameOrURIEnd }

/-- after a first token and white space: a second token begins, or a quoted string -/
theorem na_nue_tok (h : Nat) {b : Buf} (o t : Nat) {n : Nat} {c : UInt8} (hn : b[n]? = some c) (h1 : isTok1 c = true) :
    runLoop (naMachine h) b n (nueSt o t) = runLoop (naMachine h) b (n + 1) (nmSt o (t - o)) :=
  na_tr hn (.tok_uriEnd rfl (isTok1_ne h1).1 (isTok1_ne h1).2)

theorem na_nue_q (h : Nat) {b : Buf} (o t : Nat) {n k : Nat} (hc : b[n]? = some 34) (hq : NaQBody b (n + 1) k) :
    runLoop (naMachine h) b n (nueSt o t) = runLoop (naMachine h) b (k + 1) (nmSt o (t - o)) := by
  rw [na_tr hc (.quote_name (.inr (.inr rfl)) rfl)]; exact na_name_quoted h b o (t - o) hq

/-- after a first token and white space: the rest of the display name -/
theorem na_nue_nametail (h : Nat) (b : Buf) (o t : Nat) (hfit : b.size ≤ 65535) {n a : Nat} (H : NameTail b n a)
    (hon : o ≤ n) {c : UInt8} (hn : b[n]? = some c) (hcl : isLWSch c = false) (h42 : (c == 42) = false) :
    runLoop (naMachine h) b n (nueSt o t) = runLoop (naMachine h) b (a + 1) (uriSt ⟨o, a - o⟩ o (t - o) a) := by
  rcases H with ⟨_, ha⟩ | ⟨_, _, c', hc, ht, H'⟩ | ⟨_, n', _, c', hl, hlt, hn', hcl', H'⟩ | ⟨_, k, _, hc, hq, H'⟩
  · have hsz := get?_lt ha
    rw [na_tr ha (.lt_name (.inr (.inr rfl)) rfl)]
    unfold nueSt uriSt PFromBody.setName PFromBody.resetUPT
    simp only [set_eq o n hon (by omega), setPanics_false o n hon, Bool.or_false]
  · rw [hn] at hc; cases hc
    rw [na_nue_tok h o t hn (isTok1_iff.2 ⟨ht, h42⟩)]
    exact na_nametail_run h b o (t - o) hfit H' (by omega)
  · obtain ⟨c0, hc0, hl0⟩ := hl.first hlt
    rw [hn] at hc0; cases hc0
    rw [hcl] at hl0; cases hl0
  · have := hq.le
    rw [na_nue_q h o t hc hq]
    exact na_nametail_run h b o (t - o) hfit H' (by omega)

/-! ### the first token: display name or bare URI -/

/-- the object inside a first token that started at `o` -/
def nuSt (o : Nat) : PFromBody := { v := ⟨o, 0⟩, s := o, state := .nameOrURI }

/-- the first byte of a token at the start of the value -/
theorem na_tok1 (h : Nat) {b : Buf} {o : Nat} (hfit : b.size ≤ 65535) {c : UInt8} (hc : b[o]? = some c)
    (h1 : isTok1 c = true) : runLoop (naMachine h) b o {} = runLoop (naMachine h) b (o + 1) (nuSt o) := by
  have hsz := get?_lt hc
  rw [na_tr hc (.tok_init rfl (isTok1_ne h1).1 (isTok1_ne h1).2)]
  unfold nuSt PFromBody.setV
  simp only [set_eq o o (Nat.le_refl _) (by omega), setPanics_false o o (Nat.le_refl _), Nat.sub_self]
  rfl

theorem na_tok_run (h : Nat) (b : Buf) (o t : Nat) (hfit : b.size ≤ 65535) {c : UInt8} (hc : b[o]? = some c)
    (h1 : isTok1 c = true) (hr : Run isTokch b (o + 1) t) (hot : o + 1 ≤ t) :
    runLoop (naMachine h) b o {} = runLoop (naMachine h) b t (nuSt o) := by
  rw [na_tok1 h hfit hc h1]
  exact runLoop_run (naMachine h) b isTokch _ (fun k c' _ hc' => (NaTr.aTok (.inr rfl) hc').eq) (o + 1) t hot hr

theorem nu_to_nue (o t : Nat) (hot : o ≤ t) (ht : t ≤ 65535) :
    ({ ((nuSt o).setURI (nuSt o).s t).extV t with state := .nameOrURIEnd } : PFromBody) = nueSt o t := by
  unfold nuSt nueSt PFromBody.setURI PFromBody.extV
  simp only [set_eq o t hot ht, setPanics_false o t hot, extend_eq ⟨o, 0⟩ t hot ht,
    extendPanics_false (⟨o, 0⟩ : PField) t hot, Bool.or_false]

/-- first token, then `<` -/
theorem na_nu_lt (h : Nat) (b : Buf) (o t : Nat) (hfit : b.size ≤ 65535) (hot : o ≤ t) (ht : b[t]? = some 60) :
    runLoop (naMachine h) b t (nuSt o) = runLoop (naMachine h) b (t + 1) (uriSt ⟨o, t - o⟩ o 0 t) := by
  have hsz := get?_lt ht
  rw [na_tr ht (.lt_name (.inr (.inl rfl)) rfl)]
  unfold nuSt uriSt PFromBody.setName PFromBody.resetUPT
  simp only [set_eq o t hot (by omega), setPanics_false o t hot, Bool.or_false]

/-- white space after a first token `[o, t)`: the token is recorded as a URI, in case nothing follows -/
theorem na_nu_site (h : Nat) (b : Buf) (o t : Nat) (hfit : b.size ≤ 65535) (hot : o ≤ t) (ht : t < b.size) {c : UInt8}
    {r : Step PFromBody} (hl : isLWSch c = true) (s : NaLws h b t id (nueSt o t) (fun _ => nueSt o t) (nueSt o t) r) :
    NaTr h b t c (nuSt o) r := by
  rw [← nu_to_nue o t hot (by omega)] at s
  exact .a_lwsURI rfl hl s

/-- first token, then white space and another byte -/
theorem na_nu_lws (h : Nat) (b : Buf) (o t n : Nat) (hfit : b.size ≤ 65535) (hot : o ≤ t) (hl : Lws b t n) (hlt : t < n)
    {c : UInt8} (hn : b[n]? = some c) (hcl : isLWSch c = false) :
    runLoop (naMachine h) b t (nuSt o) = runLoop (naMachine h) b n (nueSt o t) :=
  na_lws (na_nu_site h b o t hfit hot (by have := get?_lt hn; omega)) hl hlt hn hcl

/-- the part of a name-addr value in front of `<` at `a`: nothing, a display name that starts with a quoted string, or
    a display name that starts with a token; `nm` is the display-name field that is reported -/
inductive AddrPrefix (b : Buf) (o : Nat) : PField → Nat → Prop
  | none : b[o]? = some 60 → AddrPrefix b o {} o
  | quoted (k a : Nat) : b[o]? = some 34 → NaQBody b (o + 1) k → NameTail b (k + 1) a → AddrPrefix b o ⟨o, a - o⟩ a
  | tokenLt (t : Nat) (c : UInt8) : b[o]? = some c → isTok1 c = true → Run isTokch b (o + 1) t → o + 1 ≤ t →
      b[t]? = some 60 → AddrPrefix b o ⟨o, t - o⟩ t
  | token (t n a : Nat) (c c' : UInt8) : b[o]? = some c → isTok1 c = true → Run isTokch b (o + 1) t → o + 1 ≤ t →
      Lws b t n → t < n → b[n]? = some c' → isLWSch c' = false → (c' == 42) = false → NameTail b n a →
      AddrPrefix b o ⟨o, a - o⟩ a

theorem AddrPrefix.run (h : Nat) {b : Buf} {o a : Nat} {nm : PField} (H : AddrPrefix b o nm a) (hfit : b.size ≤ 65535) :
    o ≤ a ∧ ∃ x, runLoop (naMachine h) b o {} = runLoop (naMachine h) b (a + 1) (uriSt nm o x a) := by
  rcases H with ⟨h0⟩ | ⟨k, _, h0, hq, ht⟩ | ⟨t, c, h0, h1, hr, hot, ht⟩ | ⟨t, n, _, c, c', h0, h1, hr, hot, hl, hlt, hn, hcl, h42, ht⟩
  · refine ⟨Nat.le_refl _, 0, ?_⟩
    have hsz := get?_lt h0
    rw [na_tr h0 (.lt_init rfl rfl)]
    unfold uriSt PFromBody.setV
    simp only [set_eq o o (Nat.le_refl _) (by omega), setPanics_false o o (Nat.le_refl _), Nat.sub_self]
    rfl
  · have := hq.le; have := ht.le
    refine ⟨by omega, 0, ?_⟩
    rw [na_init_q h h0 hfit, na_name_quoted h b o 0 hq]
    exact na_nametail_run h b o 0 hfit ht (by omega)
  · refine ⟨by omega, 0, ?_⟩
    rw [na_tok_run h b o a hfit h0 h1 hr hot]
    exact na_nu_lt h b o a hfit (by omega) ht
  · have := ht.le
    refine ⟨by omega, t - o, ?_⟩
    rw [na_tok_run h b o t hfit h0 h1 hr hot, na_nu_lws h b o t n hfit (by omega) hl hlt hn hcl]
    exact na_nue_nametail h b o t hfit ht (by omega) hn hcl h42

/-! ### the reported object -/

/-- the finished object: display name, URI, parameter span, whole value, header kind, and the parameter-dependent
    fields; everything else as in a new object -/
def naResult (h : Nat) (nm uri params v : PField) (a : PAcc) : PFromBody :=
  { name := nm, uri := uri, params := params, v := v, type := h, state := .fin, tag := a.tag, lr := a.lr, hasExpires := a.hasExpires, expires := a.expires, q := a.q, paramErr := a.paramErr, errOffs := a.errOffs }

theorem finP_result (h : Nat) (base : PFromBody) (po w : Nat) (a : PAcc) (hs : base.star = false) (hp : base.pnc = false)
    (hv : base.v.offs ≤ w) (hpo : po ≤ w) (hw : w ≤ 65535) :
    ({ finP h base po w a with s := 0 } : PFromBody) =
      naResult h base.name base.uri ⟨po, w - po⟩ ⟨base.v.offs, w - base.v.offs⟩ a := by
  unfold finP pst PFromBody.extParams PFromBody.extV naResult
  simp only [extend_eq ⟨po, base.params.len⟩ w hpo hw, extend_eq base.v w hv hw, hs, hp,
    extendPanics_false (⟨po, base.params.len⟩ : PField) w hpo, extendPanics_false base.v w hv, Bool.or_false]

theorem PList.bounds {b : Buf} {i w : Nat} {L : List PSpan} (H : PList b i L w) :
    i ≤ firstPs 0 L ∧ firstPs 0 L < w := by
  induction H with
  | last i w x hx =>
    have hb := hx.bounds
    exact ⟨hb.1, by show x.ps < w; omega⟩
  | cons i w m w' x L hx hl hm _ ih =>
    have hb := hx.bounds; have hle := hl.le
    exact ⟨hb.1, by show x.ps < w'; omega⟩

/-! ### the bare-URI forms -/

/-- bare URI `[o, t)` and the end of the value -/
theorem na_nu_term (h : Nat) (b : Buf) (o t : Nat) (hfit : b.size ≤ 65535) (hot : o ≤ t) {o' : Nat} {e' : Err}
    (T : Term h b t o' e') :
    runLoop (naMachine h) b t (nuSt o) = (o', e', { nueSt o t with state := .fin, soffs := 0, type := h }) := by
  have hsz := T.range
  rcases T with ⟨p, e, c2, hl, he, h2, hw2⟩ | ⟨m, hl, hm, hmv⟩
  · exact na_eol (na_nu_site h b o t hfit hot (by omega)) hl he h2 hw2 (.found (.inr rfl))
  · by_cases h1 : t < m
    · rw [na_nu_lws h b o t m hfit hot hl h1 hm (by decide)]
      exact na_comma hm (.commaAt rfl hmv) (.found (.inr rfl))
    · cases (show t = m by have := hl.le; omega)
      rw [na_comma hm (.commaAt rfl hmv) (.nameOrURI rfl)]
      have := congrArg (fun p : PFromBody => ({ p with state := .fin, soffs := 0, type := h } : PFromBody))
        (nu_to_nue o t hot (by omega))
      exact congrArg (fun x => (t + 1, Err.moreValues, x)) this

/-- the object after a bare URI `[o, t)` and `;` (the value extent and the ghost local differ with / without white
    space in front of the `;`; neither survives to the result) -/
def bareBase (o t x s' : Nat) : PFromBody := { uri := ⟨o, t - o⟩, v := ⟨o, x⟩, s := s' }

/-- bare URI `[o, t)`, optional white space and `;` -/
theorem na_nu_sep (h : Nat) (b : Buf) (o t m : Nat) (hfit : b.size ≤ 65535) (hot : o ≤ t) (hl : Lws b t m)
    (hm : b[m]? = some 59) :
    ∃ x s', runLoop (naMachine h) b t (nuSt o) =
      runLoop (naMachine h) b (m + 1) (pst (bareBase o t x s') (stNP true) 0 0 0 0 0 {}) := by
  have hsz := get?_lt hm
  have hle := hl.le
  by_cases h1 : t < m
  · refine ⟨t - o, o, ?_⟩
    rw [na_nu_lws h b o t m hfit hot hl h1 hm (by decide)]
    exact na_tr hm (.semi_uriEnd rfl rfl)
  · have : t = m := by omega
    subst this
    refine ⟨t + 1 - o, t + 1, ?_⟩
    rw [na_tr hm (.semi_uri rfl rfl)]
    unfold nuSt bareBase pst PFromBody.setURI PFromBody.extV
    simp only [set_eq o t hot (by omega), setPanics_false o t hot, extend_eq ⟨o, 0⟩ (t + 1) (by show o ≤ t + 1; omega) (by omega),
      extendPanics_false (⟨o, 0⟩ : PField) (t + 1) (by show o ≤ t + 1; omega), Bool.or_false]
    rfl

/-! ### trailing `;`, empty parameters, `name=` without a value: how a value ends after a `;` or after an `=` -/

/-- the end of a value right after a `;` or an `=` at `i - 1`: optional white space and a line end that is not a fold
    (verdict OK, offset after the line end; the reported spans end at `i`, i.e. they include the `;` / `=` but not the
    white space), or — header kinds with several values — optional white space and a comma (verdict "more values",
    offset after the comma; the reported spans end AT THE COMMA, i.e. they include the white space) -/
def NqEnd (h : Nat) (b : Buf) (i ve o' : Nat) (e' : Err) : Prop :=
  (∃ p c2, Lws b i p ∧ Eol b p o' ∧ b[o']? = some c2 ∧ isWS c2 = false ∧ e' = .ok ∧ ve = i) ∨
  (∃ m, Lws b i m ∧ b[m]? = some 44 ∧ multipleValsOk h = true ∧ o' = m + 1 ∧ e' = .moreValues ∧ ve = m)

theorem NqEnd.bounds {h : Nat} {b : Buf} {i ve o' : Nat} {e' : Err} (H : NqEnd h b i ve o' e') :
    i ≤ ve ∧ ve < o' ∧ o' ≤ b.size ∧ (e' = .ok ∨ e' = .moreValues) := by
  rcases H with ⟨p, c2, hl, he, h2, _, rfl, rfl⟩ | ⟨m, hl, hm, _, rfl, rfl, rfl⟩
  · have := hl.le; have := he.gt; have := get?_lt h2
    exact ⟨Nat.le_refl _, by omega, by omega, Or.inl rfl⟩
  · have := hl.le; have := get?_lt hm
    exact ⟨by omega, by omega, by omega, Or.inr rfl⟩

/-- the finished object when the parameter span may be absent (`po = 0`: no parameter was seen) -/
def nqFin (h : Nat) (base : PFromBody) (po ve : Nat) (a : PAcc) : PFromBody :=
  if po = 0 then { (pst base .fin 0 0 0 0 0 a).extV ve with soffs := 0, type := h } else finP h base po ve a

theorem n2_np_fin (h : Nat) (b : Buf) (q : Bool) (base : PFromBody) (po : Nat) (a : PAcc) (i : Nat) :
    ({ naEOHParamName b (pst base (stNP q) po 0 0 0 0 a) i with state := .fin, soffs := 0, type := h } : PFromBody) =
      nqFin h base po i a := by
  unfold naEOHParamName nqFin
  have e1 : ((pst base (stNP q) po 0 0 0 0 a).state == .paramName || (pst base (stNP q) po 0 0 0 0 a).state == .possibleParamName) = false := by
    cases q <;> rfl
  have e2 : ¬ ((pst base (stNP q) po 0 0 0 0 a).pstart < (pst base (stNP q) po 0 0 0 0 a).pend) := by
    show ¬ (0 < 0); omega
  simp only [e1, e2, Bool.false_eq_true, ↓reduceIte]
  by_cases hpo : po = 0
  · subst hpo
    have e3 : ((pst base (stNP q) 0 0 0 0 0 a).params.offs != 0) = false := rfl
    simp only [e3, Bool.false_eq_true, ↓reduceIte]
    rfl
  · have e3 : ((pst base (stNP q) po 0 0 0 0 a).params.offs != 0) = true := by
      show (po != 0) = true; simpa using hpo
    simp only [e3, ↓reduceIte, hpo]
    rfl

/-- after a `;` (no parameter name started): the end of the value -/
theorem n2_np_end (h : Nat) (b : Buf) (q : Bool) (base : PFromBody) (po : Nat) (a : PAcc) {i ve o' : Nat} {e' : Err}
    (H : NqEnd h b i ve o' e') :
    runLoop (naMachine h) b i (pst base (stNP q) po 0 0 0 0 a) = (o', e', nqFin h base po ve a) := by
  have hq : ∀ j, NaEoh b (pst base (stNP q) po 0 0 0 0 a) j (some (naEOHParamName b (pst base (stNP q) po 0 0 0 0 a) j)) :=
    fun j => .paramName (by cases q <;> simp [pst, stNP])
  rcases H with ⟨p, c2, hl, he, h2, hw2, rfl, rfl⟩ | ⟨m, hl, hm, hmv, rfl, rfl, rfl⟩
  · rw [na_eol (fun hl t => .p_lws (stNP_P q) hl t) hl he h2 hw2 (by rw [naNameWS_NP q rfl]; exact hq ve), n2_np_fin]
  · rw [na_np_lws h q base po a hl hm (by decide), na_comma hm (.commaAt (by cases q <;> rfl) hmv) (hq ve), n2_np_fin]

/-- an empty value acts like no value -/
theorem n2_paramEffect_vv (b : Buf) (ps pe v : Nat) (a : PAcc) (h1 : ps < pe) (h3 : pe ≤ b.size) :
    paramEffect b ps pe v v a = paramEffect b ps pe 0 0 a := by
  rw [paramEffect_empty b ps pe v a h1 h3, paramEffect_empty b ps pe 0 a h1 h3]

theorem n2_nv_fin (h : Nat) (b : Buf) (q : Bool) (base : PFromBody) (po ps pe vs0 i : Nat) (a : PAcc) (h1 : ps < pe)
    (h2 : pe ≤ i) (h3 : i ≤ b.size) :
    ({ naEOHVal b { pst base (stNV q) po ps pe vs0 0 a with vstart := i } i with state := .fin, soffs := 0, type := h } : PFromBody) =
      finP h base po i (paramEffect b ps pe 0 0 a) := by
  unfold naEOHVal
  have : ({ ({ pst base (stNV q) po ps pe vs0 0 a with vstart := i } : PFromBody) with vend := i } : PFromBody) =
      pst base (stNV q) po ps pe i i a := rfl
  rw [this, sfp_pst b base _ po ps pe i i a (by omega) h3, n2_paramEffect_vv b ps pe i a h1 (by omega)]
  rfl

/-- after `name =` (no value byte yet): the end of the value -/
theorem n2_nv_end (h : Nat) (b : Buf) (q : Bool) (base : PFromBody) (po ps pe : Nat) (a : PAcc) {i ve o' : Nat} {e' : Err}
    (h1 : ps < pe) (h2 : pe ≤ i) (H : NqEnd h b i ve o' e') :
    runLoop (naMachine h) b i (pst base (stNV q) po ps pe i 0 a) =
      (o', e', finP h base po ve (paramEffect b ps pe 0 0 a)) := by
  have hb := H.bounds
  have hq : ∀ j vs, NaEoh b (pst base (stNV q) po ps pe vs 0 a) j
      (some (naEOHVal b { pst base (stNV q) po ps pe vs 0 a with vstart := j } j)) := fun j vs => .newVal (stNV_new q)
  rcases H with ⟨p, c2, hl, he, h2', hw2, rfl, rfl⟩ | ⟨m, hl, hm, hmv, rfl, rfl, rfl⟩
  · rw [na_eol (fun hl t => .v_lws (stNV_V q) hl t) hl he h2' hw2 (by rw [naValWS_NV_end q rfl]; exact hq ve ve),
      n2_nv_fin h b q base po ps pe ve ve a h1 h2 (by omega)]
  · have hle := hl.le
    rw [na_nv_lws h q base po ps pe a hl hm (by decide), na_comma hm (.commaAt (by cases q <;> rfl) hmv) (hq ve ve),
      n2_nv_fin h b q base po ps pe ve ve a h1 (by omega) (by omega)]

/-- `name =` with an empty value, then optional white space and `;` -/
theorem n2_nv_sep (h : Nat) (b : Buf) (q : Bool) (base : PFromBody) (po ps pe i m : Nat) (a : PAcc) (h1 : ps < pe)
    (h2 : pe ≤ i) (hl : Lws b i m) (hm : b[m]? = some 59) :
    runLoop (naMachine h) b i (pst base (stNV q) po ps pe i 0 a) =
      runLoop (naMachine h) b (m + 1) (pst base (stNP q) po 0 0 0 0 (paramEffect b ps pe 0 0 a)) := by
  have hsz := get?_lt hm
  have hle := hl.le
  rw [na_nv_lws h q base po ps pe a hl hm (by decide), na_tr hm (.vSemi q (.inl rfl))]
  show runLoop _ b (m + 1) (setFromParamVal b (pst base (stNP q) po ps pe m m a)) = _
  rw [sfp_pst b base _ po ps pe m m a (by omega) (by omega), n2_paramEffect_vv b ps pe m a h1 (by omega)]

/-! ### the grammar of a parameter list with empty parameters, empty values and a trailing `;` -/

/-- everything after the first `;` of a value (read from the byte after it, at `i`), up to and including the end of the
    value: `L` = the parameters with a name (an empty value is recorded as "no value": `vs = ve = 0`), `ve` = the end of
    the reported parameter span and of the reported value, `o'` / `e'` = returned offset / verdict.
    * `done`: nothing but the end of the value (a trailing `;`);
    * `skip`: an empty parameter: optional white space and another `;`;
    * `last`: a parameter of the old grammar (`ParamAt`) and the end of the value (`Term`);
    * `lastEq`: `name [LWS] =` with an empty value, and the end of the value;
    * `cons`, `consEq`: the same two followed by optional white space, `;` and the rest. -/
inductive NqParams (h : Nat) (b : Buf) : Nat → List PSpan → Nat → Nat → Err → Prop
  | done (i ve o' : Nat) (e' : Err) : NqEnd h b i ve o' e' → NqParams h b i [] ve o' e'
  | skip (i m : Nat) (L : List PSpan) (ve o' : Nat) (e' : Err) : Lws b i m → b[m]? = some 59 →
      NqParams h b (m + 1) L ve o' e' → NqParams h b i L ve o' e'
  | last (i w : Nat) (x : PSpan) (o' : Nat) (e' : Err) : ParamAt b i x w → Term h b w o' e' → NqParams h b i [x] w o' e'
  | lastEq (i ps pe eq ve o' : Nat) (e' : Err) : Lws b i ps → Run isPNch b ps pe → ps < pe → Lws b pe eq →
      b[eq]? = some 61 → NqEnd h b (eq + 1) ve o' e' → NqParams h b i [⟨ps, pe, 0, 0⟩] ve o' e'
  | cons (i w m : Nat) (x : PSpan) (L : List PSpan) (ve o' : Nat) (e' : Err) : ParamAt b i x w → Lws b w m →
      b[m]? = some 59 → NqParams h b (m + 1) L ve o' e' → NqParams h b i (x :: L) ve o' e'
  | consEq (i ps pe eq m : Nat) (L : List PSpan) (ve o' : Nat) (e' : Err) : Lws b i ps → Run isPNch b ps pe → ps < pe →
      Lws b pe eq → b[eq]? = some 61 → Lws b (eq + 1) m → b[m]? = some 59 → NqParams h b (m + 1) L ve o' e' →
      NqParams h b i (⟨ps, pe, 0, 0⟩ :: L) ve o' e'

theorem n2_firstPs_ne (po : Nat) (x : PSpan) (L : List PSpan) (hx : x.ps ≠ 0) : firstPs po (x :: L) ≠ 0 := by
  show poNext po x.ps ≠ 0
  unfold poNext; split <;> omega

theorem n2_nqFin_ne (h : Nat) (base : PFromBody) (po ve : Nat) (a : PAcc) (hpo : po ≠ 0) :
    nqFin h base po ve a = finP h base po ve a := by
  unfold nqFin; rw [if_neg hpo]

/-- **the generalised parameter list**: from the byte after the first `;` to the end of the value -/
theorem n2_params_run (h : Nat) (b : Buf) (q : Bool) (base : PFromBody) (hfit : b.size ≤ 65535) {i ve o' : Nat}
    {e' : Err} {L : List PSpan} (H : NqParams h b i L ve o' e') :
    ∀ (po : Nat) (a : PAcc), 0 < i →
      runLoop (naMachine h) b i (pst base (stNP q) po 0 0 0 0 a) = (o', e', nqFin h base (firstPs po L) ve (accAll b L a)) := by
  induction H with
  | done i ve o' e' hend =>
    intro po a _
    exact n2_np_end h b q base po a hend
  | skip i m L ve o' e' hl hm _ ih =>
    intro po a h0
    rw [na_np_lws h q base po a hl hm (by decide), na_tr hm (.p_semiNew (stNP_new q) rfl)]
    exact ih po a (by omega)
  | last i w x o' e' hx T =>
    intro po a h0
    have hb := hx.bounds
    rw [na_param_term h b q base po a hx T h0 hfit, n2_nqFin_ne h base _ w _ (n2_firstPs_ne po x [] (by omega))]
    rfl
  | lastEq i ps pe eq ve o' e' hl hn hlt hl2 heq hend =>
    intro po a h0
    have := hl.le; have := hl2.le
    have hne : poNext po ps ≠ 0 := by unfold poNext; split <;> omega
    rw [na_pname_run h b q base po a i ps pe hl hn hlt (by omega) hfit, n2_peq_run h b q base _ ps pe eq a hl2 heq,
      n2_nv_end h b q base _ ps pe a hlt (by omega) hend, n2_nqFin_ne h base _ ve _ (by exact hne)]
    rfl
  | cons i w m x L ve o' e' hx hl hm _ ih =>
    intro po a h0
    have hb := hx.bounds
    have hne : poNext po x.ps ≠ 0 := by unfold poNext; split <;> omega
    rw [na_param_sep h b q base po a hx hl hm h0 hfit, ih _ _ (by omega), n2_firstPs_idem _ L hne]
    rfl
  | consEq i ps pe eq m L ve o' e' hl hn hlt hl2 heq hl3 hm _ ih =>
    intro po a h0
    have := hl.le; have := hl2.le
    have hne : poNext po ps ≠ 0 := by unfold poNext; split <;> omega
    rw [na_pname_run h b q base po a i ps pe hl hn hlt (by omega) hfit, n2_peq_run h b q base _ ps pe eq a hl2 heq,
      n2_nv_sep h b q base _ ps pe (eq + 1) m a hlt (by omega) hl3 hm, ih _ _ (by omega), n2_firstPs_idem _ L hne]
    rfl

theorem NqParams.bounds {h : Nat} {b : Buf} {i ve o' : Nat} {e' : Err} {L : List PSpan} (H : NqParams h b i L ve o' e') :
    i ≤ ve ∧ ve < o' ∧ o' ≤ b.size ∧ (e' = .ok ∨ e' = .moreValues) ∧ (L = [] ∨ (i ≤ firstPs 0 L ∧ firstPs 0 L < ve)) := by
  induction H with
  | done i ve o' e' hend =>
    obtain ⟨h1, h2, h3, h4⟩ := hend.bounds
    exact ⟨h1, h2, h3, h4, Or.inl rfl⟩
  | skip i m L ve o' e' hl hm _ ih =>
    obtain ⟨h1, h2, h3, h4, h5⟩ := ih
    have := hl.le
    refine ⟨by omega, h2, h3, h4, ?_⟩
    rcases h5 with h5 | h5
    · exact Or.inl h5
    · exact Or.inr ⟨by omega, h5.2⟩
  | last i w x o' e' hx T =>
    have hb := hx.bounds; have hr := T.range
    exact ⟨by omega, hr.1, hr.2, T.complete, Or.inr ⟨hb.1, by show x.ps < w; omega⟩⟩
  | lastEq i ps pe eq ve o' e' hl hn hlt hl2 heq hend =>
    obtain ⟨h1, h2, h3, h4⟩ := hend.bounds
    have := hl.le; have := hl2.le
    exact ⟨by omega, h2, h3, h4, Or.inr ⟨by show i ≤ ps; omega, by show ps < ve; omega⟩⟩
  | cons i w m x L ve o' e' hx hl hm _ ih =>
    obtain ⟨h1, h2, h3, h4, _⟩ := ih
    have hb := hx.bounds; have := hl.le
    exact ⟨by omega, h2, h3, h4, Or.inr ⟨hb.1, by show x.ps < ve; omega⟩⟩
  | consEq i ps pe eq m L ve o' e' hl hn hlt hl2 heq hl3 hm _ ih =>
    obtain ⟨h1, h2, h3, h4, _⟩ := ih
    have := hl.le; have := hl2.le; have := hl3.le
    exact ⟨by omega, h2, h3, h4, Or.inr ⟨by show i ≤ ps; omega, by show ps < ve; omega⟩⟩

/-- the reported parameter span: empty when no parameter with a name was seen -/
def nqSpan (po ve : Nat) : PField := if po = 0 then {} else ⟨po, ve - po⟩

theorem n2_nqFin_result (h : Nat) (base : PFromBody) (po w : Nat) (a : PAcc) (hs : base.star = false) (hp : base.pnc = false)
    (hpl : base.params.len = 0) (hv : base.v.offs ≤ w) (hpo : po ≤ w) (hw : w ≤ 65535) :
    ({ nqFin h base po w a with s := 0 } : PFromBody) =
      naResult h base.name base.uri (nqSpan po w) ⟨base.v.offs, w - base.v.offs⟩ a := by
  by_cases h0 : po = 0
  · subst h0
    unfold nqFin nqSpan
    rw [if_pos rfl, if_pos rfl]
    unfold pst PFromBody.extV naResult
    simp only [extend_eq base.v w hv hw, hs, hp, hpl, extendPanics_false base.v w hv, Bool.or_false]
  · unfold nqSpan
    rw [n2_nqFin_ne h base po w a h0, if_neg h0]
    exact finP_result h base po w a hs hp hv hpo hw


/-! ### bytes after `>` that are skipped -/

/-- after `>`: a byte other than `;`, white space and (in a kind with several values) `,` is skipped -/
theorem NaTr.ufOther {h : Nat} {b : Buf} {i : Nat} {c : UInt8} {pf : PFromBody} (hst : pf.state = .uriFound)
    (hc : isLWSch c = false) (h59 : (c == 59) = false) (h44 : c = 44 → multipleValsOk h = false) :
    NaTr h b i c pf (.cont (i + 1) pf) := by
  by_cases hcm : c = 44
  · exact .comma1 (by simp [hst]) hcm (h44 hcm)
  · exact .uf_tok hst hc ⟨hcm, by simpa using h59⟩

/-- bytes between `>` and the `;` / the end of the value that the parser skips without looking at them: any byte other
    than `;`, white space, line ends — and other than `,` for the header kinds that take several values — and linear
    white space in front of such a byte -/
inductive NqJunk (h : Nat) (b : Buf) : Nat → Nat → Prop
  | nil (i : Nat) : NqJunk h b i i
  | ch (i j : Nat) (c : UInt8) : b[i]? = some c → isLWSch c = false → (c == 59) = false →
      (c = 44 → multipleValsOk h = false) → NqJunk h b (i + 1) j → NqJunk h b i j
  | lws (i n j : Nat) (c : UInt8) : Lws b i n → i < n → b[n]? = some c → isLWSch c = false → NqJunk h b n j →
      NqJunk h b i j

theorem NqJunk.le {h : Nat} {b : Buf} {i j : Nat} (H : NqJunk h b i j) : i ≤ j := by
  induction H with
  | nil i => exact Nat.le_refl _
  | ch i j c _ _ _ _ _ ih => omega
  | lws i n j c _ _ _ _ _ ih => omega

theorem n4_junk_run (h : Nat) {b : Buf} {i j : Nat} (H : NqJunk h b i j) (pf : PFromBody) (hst : pf.state = .uriFound) :
    runLoop (naMachine h) b i pf = runLoop (naMachine h) b j pf := by
  induction H with
  | nil i => rfl
  | ch i j c hc hcl h59 h44 _ ih =>
    exact (na_tr hc (.ufOther hst hcl h59 h44)).trans ih
  | lws i n j c hl hlt hn hcl _ ih =>
    exact (na_lws_skip (fun hl t => .uf_lws (.inl hst) hl t) hl hn hcl).trans ih

/-! ### the whole value

  The general forms first: bytes that are skipped after `>`, and any generalised parameter list; the forms without
  those are special cases. -/

/-- **`[display-name] <uri>` followed by ignored bytes** and the end of the value: accepted exactly like `<uri>` alone;
    the ignored bytes are in no reported span (the value ends at the `>`). A second `<…>` after the first is such a
    run of ignored bytes. -/
theorem n4_bracket_junk (h : Nat) (b : Buf) (o a g w o' : Nat) (e' : Err) (nm : PField) (hfit : b.size ≤ 65535)
    (hp : AddrPrefix b o nm a) (hu : Run isURIch b (a + 1) g) (hag : a + 1 ≤ g) (hg : b[g]? = some 62)
    (hj : NqJunk h b (g + 1) w) (T : Term h b w o' e') :
    parseNameAddrPVal h b o {} = (o', e', naResult h nm ⟨a + 1, g - (a + 1)⟩ {} ⟨o, g + 1 - o⟩ {}) := by
  obtain ⟨hoa, x, hrun⟩ := hp.run h hfit
  have hloop : runLoop (naMachine h) b o {} =
      (o', e', { ufBase nm o a g with state := .fin, soffs := 0, type := h }) := by
    rw [hrun, na_uri_to_uf h b nm o x a g hoa hag hu hg hfit, n4_junk_run h hj _ rfl]
    exact na_uf_term h b _ rfl T
  rw [parse_of_loop h b o hloop T.complete]
  rfl

/-- … and then `;` and a (generalised) parameter list: the parameters are attached to the FIRST `<uri>`; the reported
    value then covers the ignored bytes -/
theorem n4_bracket_junk_params (h : Nat) (b : Buf) (o a g w m ve o' : Nat) (e' : Err) (nm : PField) (L : List PSpan)
    (hfit : b.size ≤ 65535) (hp : AddrPrefix b o nm a) (hu : Run isURIch b (a + 1) g) (hag : a + 1 ≤ g)
    (hg : b[g]? = some 62) (hj : NqJunk h b (g + 1) w) (hl : Lws b w m) (hm : b[m]? = some 59)
    (hL : NqParams h b (m + 1) L ve o' e') :
    parseNameAddrPVal h b o {} =
      (o', e', naResult h nm ⟨a + 1, g - (a + 1)⟩ (nqSpan (firstPs 0 L) ve) ⟨o, ve - o⟩ (accAll b L {})) := by
  obtain ⟨hoa, x, hrun⟩ := hp.run h hfit
  obtain ⟨hb1, hb2, hb3, hb4, hb5⟩ := hL.bounds
  have hle := hl.le; have hjl := hj.le
  have hpo : firstPs 0 L ≤ ve := by
    rcases hb5 with h5 | h5
    · rw [h5]; exact Nat.zero_le _
    · omega
  have hloop : runLoop (naMachine h) b o {} =
      (o', e', nqFin h { ufBase nm o a g with s := 0 } (firstPs 0 L) ve (accAll b L {})) := by
    rw [hrun, na_uri_to_uf h b nm o x a g hoa hag hu hg hfit, n4_junk_run h hj _ rfl, na_uf_sep h b _ rfl hl hm]
    exact n2_params_run h b false { ufBase nm o a g with s := 0 } hfit hL 0 {} (by omega)
  rw [parse_of_loop h b o hloop hb4]
  rw [n2_nqFin_result h _ (firstPs 0 L) ve _ rfl rfl rfl (by show o ≤ ve; omega) hpo (by omega)]
  rfl

/-- **`[display-name] <uri> [LWS] ;` and ANY generalised parameter list** (`NqParams`: parameters with / without value,
    empty values `name=`, empty parameters `;;`, trailing `;`): accepted; the parameter span runs from the first byte of
    the first parameter name to `ve` (empty if there is no named parameter), the value from its first byte to `ve` -/
theorem n2_bracket_params (h : Nat) (b : Buf) (o a g m ve o' : Nat) (e' : Err) (nm : PField) (L : List PSpan)
    (hfit : b.size ≤ 65535) (hp : AddrPrefix b o nm a) (hu : Run isURIch b (a + 1) g) (hag : a + 1 ≤ g)
    (hg : b[g]? = some 62) (hl : Lws b (g + 1) m) (hm : b[m]? = some 59) (hL : NqParams h b (m + 1) L ve o' e') :
    parseNameAddrPVal h b o {} =
      (o', e', naResult h nm ⟨a + 1, g - (a + 1)⟩ (nqSpan (firstPs 0 L) ve) ⟨o, ve - o⟩ (accAll b L {})) :=
  n4_bracket_junk_params h b o a g (g + 1) m ve o' e' nm L hfit hp hu hag hg (.nil _) hl hm hL

/-- **bare URI `[LWS] ;` and ANY generalised parameter list**: they are header parameters -/
theorem n2_bare_params (h : Nat) (b : Buf) (o t m ve o' : Nat) (e' : Err) (L : List PSpan)
    (hfit : b.size ≤ 65535) {c : UInt8} (hc : b[o]? = some c) (h1 : isTok1 c = true)
    (hr : Run isTokch b (o + 1) t) (hot : o + 1 ≤ t) (hl : Lws b t m) (hm : b[m]? = some 59)
    (hL : NqParams h b (m + 1) L ve o' e') :
    parseNameAddrPVal h b o {} =
      (o', e', naResult h {} ⟨o, t - o⟩ (nqSpan (firstPs 0 L) ve) ⟨o, ve - o⟩ (accAll b L {})) := by
  obtain ⟨hb1, hb2, hb3, hb4, hb5⟩ := hL.bounds
  have hle := hl.le
  have hpo : firstPs 0 L ≤ ve := by
    rcases hb5 with h5 | h5
    · rw [h5]; exact Nat.zero_le _
    · omega
  obtain ⟨x, s', hsep⟩ := na_nu_sep h b o t m hfit (by omega) hl hm
  have hloop : runLoop (naMachine h) b o {} =
      (o', e', nqFin h (bareBase o t x s') (firstPs 0 L) ve (accAll b L {})) := by
    rw [na_tok_run h b o t hfit hc h1 hr hot, hsep]
    exact n2_params_run h b true (bareBase o t x s') hfit hL 0 {} (by omega)
  rw [parse_of_loop h b o hloop hb4]
  rw [n2_nqFin_result h _ (firstPs 0 L) ve _ rfl rfl rfl (by show o ≤ ve; omega) hpo (by omega)]
  rfl

/-- the grammar without empty parameters is a special case: a `PList` followed by `Term` -/
theorem n2_of_plist {h : Nat} {b : Buf} {i w o' : Nat} {e' : Err} {L : List PSpan} (H : PList b i L w)
    (T : Term h b w o' e') : NqParams h b i L w o' e' := by
  induction H with
  | last i w x hx => exact .last i w x o' e' hx T
  | cons i w m w' x L hx hl hm _ ih => exact .cons i w m x L w' o' e' hx hl hm (ih T)

/-- a `PList`, optional white space, a trailing `;` and the end of the value -/
theorem n2_of_plist_semi {h : Nat} {b : Buf} {i w m ve o' : Nat} {e' : Err} {L : List PSpan} (H : PList b i L w)
    (hl : Lws b w m) (hm : b[m]? = some 59) (E : NqEnd h b (m + 1) ve o' e') : NqParams h b i L ve o' e' := by
  induction H with
  | last i w x hx => exact .cons i w m x [] ve o' e' hx hl hm (.done (m + 1) ve o' e' E)
  | cons i w m' w' x L hx hl' hm' _ ih => exact .cons i w m' x L ve o' e' hx hl' hm' (ih hl)

theorem nqSpan_plist {b : Buf} {i w : Nat} {L : List PSpan} (H : PList b i L w) (h0 : 0 < i) :
    nqSpan (firstPs 0 L) w = ⟨firstPs 0 L, w - firstPs 0 L⟩ := by
  have := H.bounds; unfold nqSpan; rw [if_neg (by omega)]

/-- **angle-bracket forms without parameters**: `[display-name] <uri>` and the end of the value -/
theorem parseNameAddr_bracket (h : Nat) (b : Buf) (o a g o' : Nat) (e' : Err) (nm : PField) (hfit : b.size ≤ 65535)
    (hp : AddrPrefix b o nm a) (hu : Run isURIch b (a + 1) g) (hag : a + 1 ≤ g) (hg : b[g]? = some 62)
    (T : Term h b (g + 1) o' e') :
    parseNameAddrPVal h b o {} = (o', e', naResult h nm ⟨a + 1, g - (a + 1)⟩ {} ⟨o, g + 1 - o⟩ {}) :=
  n4_bracket_junk h b o a g (g + 1) o' e' nm hfit hp hu hag hg (.nil _) T

/-- **angle-bracket forms with parameters**: `[display-name] <uri> ;p1[=v1] ;p2[=v2] …` and the end of the value -/
theorem parseNameAddr_bracket_params (h : Nat) (b : Buf) (o a g m w o' : Nat) (e' : Err) (nm : PField) (L : List PSpan)
    (hfit : b.size ≤ 65535) (hp : AddrPrefix b o nm a) (hu : Run isURIch b (a + 1) g) (hag : a + 1 ≤ g)
    (hg : b[g]? = some 62) (hl : Lws b (g + 1) m) (hm : b[m]? = some 59) (hL : PList b (m + 1) L w)
    (T : Term h b w o' e') :
    parseNameAddrPVal h b o {} =
      (o', e', naResult h nm ⟨a + 1, g - (a + 1)⟩ ⟨firstPs 0 L, w - firstPs 0 L⟩ ⟨o, w - o⟩ (accAll b L {})) := by
  rw [n2_bracket_params h b o a g m w o' e' nm L hfit hp hu hag hg hl hm (n2_of_plist hL T), nqSpan_plist hL (by omega)]

/-- **bare URI without parameters** -/
theorem parseNameAddr_bare (h : Nat) (b : Buf) (o t o' : Nat) (e' : Err) (hfit : b.size ≤ 65535) {c : UInt8}
    (hc : b[o]? = some c) (h1 : isTok1 c = true) (hr : Run isTokch b (o + 1) t) (hot : o + 1 ≤ t)
    (T : Term h b t o' e') :
    parseNameAddrPVal h b o {} = (o', e', naResult h {} ⟨o, t - o⟩ {} ⟨o, t - o⟩ {}) := by
  have hloop : runLoop (naMachine h) b o {} = (o', e', { nueSt o t with state := .fin, soffs := 0, type := h }) := by
    rw [na_tok_run h b o t hfit hc h1 hr hot]
    exact na_nu_term h b o t hfit (by omega) T
  rw [parse_of_loop h b o hloop T.complete]
  rfl

/-- **bare URI with parameters** (they are header parameters) -/
theorem parseNameAddr_bare_params (h : Nat) (b : Buf) (o t m w o' : Nat) (e' : Err) (L : List PSpan)
    (hfit : b.size ≤ 65535) {c : UInt8} (hc : b[o]? = some c) (h1 : isTok1 c = true)
    (hr : Run isTokch b (o + 1) t) (hot : o + 1 ≤ t) (hl : Lws b t m) (hm : b[m]? = some 59)
    (hL : PList b (m + 1) L w) (T : Term h b w o' e') :
    parseNameAddrPVal h b o {} =
      (o', e', naResult h {} ⟨o, t - o⟩ ⟨firstPs 0 L, w - firstPs 0 L⟩ ⟨o, w - o⟩ (accAll b L {})) := by
  rw [n2_bare_params h b o t m w o' e' L hfit hc h1 hr hot hl hm (n2_of_plist hL T), nqSpan_plist hL (by omega)]

/-! ### what the individual parameters do -/

theorem cmpEqL_len {nm : Buf} {l : List UInt8} (h : cmpEqL nm l = true) : nm.size = l.length := by
  unfold cmpEqL at h
  simp only [Bool.and_eq_true, beq_iff_eq] at h
  exact h.1

theorem cmpEqL_false_of_len {nm : Buf} {l : List UInt8} (h : nm.size ≠ l.length) : cmpEqL nm l = false := by
  cases hc : cmpEqL nm l with
  | false => rfl
  | true => exact absurd (cmpEqL_len hc) h

/-- a parameter with a value -/
theorem paramEffect_valued (b : Buf) (ps pe vs ve : Nat) (a : PAcc) (h1 : ps < pe) (h2 : vs < ve) (h3 : pe ≤ b.size)
    (h4 : ve ≤ b.size) :
    paramEffect b ps pe vs ve a =
      if cmpEqL (b.extract ps pe) sTag then { a with tag := PField.set vs ve }
      else if cmpEqL (b.extract ps pe) sExpires then
        (setExpires { (({} : PFromBody).withAcc a) with pstart := ps, pend := pe, vstart := vs, vend := ve }
          (b.extract vs ve).toList).acc
      else if cmpEqL (b.extract ps pe) sQ then
        (setQ { (({} : PFromBody).withAcc a) with pstart := ps, pend := pe, vstart := vs, vend := ve }
          (b.extract vs ve).toList).acc
      else if cmpEqL (b.extract ps pe) sLr then { a with lr := true }
      else a := by
  rw [paramEffect_do, sfpKind_valued h1 h2 h3 h4]; unfold sfpName
  simp only [apply_ite (sfpDo _ _), apply_ite PFromBody.acc]
  rfl

/-- `tag=value` (name in any letter case): the tag is the value as written -/
theorem paramEffect_tag (b : Buf) (ps pe vs ve : Nat) (a : PAcc) (h1 : ps < pe) (h2 : vs < ve) (h3 : pe ≤ b.size)
    (h4 : ve ≤ b.size) (hfit : b.size ≤ 65535) (hn : cmpEqL (b.extract ps pe) sTag = true) :
    paramEffect b ps pe vs ve a = { a with tag := ⟨vs, ve - vs⟩ } := by
  rw [paramEffect_valued b ps pe vs ve a h1 h2 h3 h4, if_pos hn, set_eq vs ve (by omega) (by omega)]

/-- `expires=` followed by ANY text: the decimal value of its leading digits, saturated at 2^32-1 -/
theorem paramEffect_expires_any (b : Buf) (ps pe vs ve : Nat) (a : PAcc) (h1 : ps < pe) (h2 : vs < ve) (h3 : pe ≤ b.size)
    (h4 : ve ≤ b.size) (hn : cmpEqL (b.extract ps pe) sExpires = true) :
    paramEffect b ps pe vs ve a =
      { a with hasExpires := true, expires := min (decOf (nrDigPre (b.extract vs ve).toList)) 4294967295 } := by
  have hl := cmpEqL_len hn
  have t1 : cmpEqL (b.extract ps pe) sTag = false := cmpEqL_false_of_len (by rw [hl]; decide)
  rw [paramEffect_valued b ps pe vs ve a h1 h2 h3 h4, t1, if_neg (by decide), if_pos hn, setExpires_frame,
    (nr_setExpires_any _ _).2]
  rfl

/-- `expires=digits` (any number of digits): the value, saturated at 2^32-1 -/
theorem paramEffect_expires (b : Buf) (ps pe vs ve : Nat) (a : PAcc) (h1 : ps < pe) (h2 : vs < ve) (h3 : pe ≤ b.size)
    (h4 : ve ≤ b.size) (hn : cmpEqL (b.extract ps pe) sExpires = true) (hd : AllDigits (b.extract vs ve).toList) :
    paramEffect b ps pe vs ve a =
      { a with hasExpires := true, expires := min (decOf (b.extract vs ve).toList) 4294967295 } := by
  rw [paramEffect_expires_any b ps pe vs ve a h1 h2 h3 h4 hn, nrDigPre_of_digits _ hd]

/-- `lr` with a value -/
theorem paramEffect_lr (b : Buf) (ps pe vs ve : Nat) (a : PAcc) (h1 : ps < pe) (h2 : vs < ve) (h3 : pe ≤ b.size)
    (h4 : ve ≤ b.size) (hn : cmpEqL (b.extract ps pe) sLr = true) :
    paramEffect b ps pe vs ve a = { a with lr := true } := by
  have hl := cmpEqL_len hn
  have t1 : cmpEqL (b.extract ps pe) sTag = false := cmpEqL_false_of_len (by rw [hl]; decide)
  have t2 : cmpEqL (b.extract ps pe) sExpires = false := cmpEqL_false_of_len (by rw [hl]; decide)
  have t3 : cmpEqL (b.extract ps pe) sQ = false := cmpEqL_false_of_len (by rw [hl]; decide)
  rw [paramEffect_valued b ps pe vs ve a h1 h2 h3 h4, t1, t2, t3, if_neg (by decide), if_neg (by decide),
    if_neg (by decide), if_pos hn]

/-- any other parameter with a value leaves the object alone -/
theorem paramEffect_other (b : Buf) (ps pe vs ve : Nat) (a : PAcc) (h1 : ps < pe) (h2 : vs < ve) (h3 : pe ≤ b.size)
    (h4 : ve ≤ b.size) (n1 : cmpEqL (b.extract ps pe) sTag = false) (n2 : cmpEqL (b.extract ps pe) sExpires = false)
    (n3 : cmpEqL (b.extract ps pe) sQ = false) (n4 : cmpEqL (b.extract ps pe) sLr = false) :
    paramEffect b ps pe vs ve a = a := by
  rw [paramEffect_valued b ps pe vs ve a h1 h2 h3 h4, n1, n2, n3, n4, if_neg (by decide), if_neg (by decide),
    if_neg (by decide), if_neg (by decide)]

/-! ### the `q` parameter -/

theorem nq_takeWhile_dot (ip fp : List UInt8) (hnd : ∀ c ∈ ip, c ≠ 46) :
    (ip ++ 46 :: fp).takeWhile (· != 46) = ip := by
  rw [List.takeWhile_append_of_pos (fun c hc => by simpa using hnd c hc), List.takeWhile_cons_of_neg (by decide),
    List.append_nil]

theorem nq_takeWhile_nodot (ip : List UInt8) (hnd : ∀ c ∈ ip, c ≠ 46) : ip.takeWhile (· != 46) = ip := by
  have := List.takeWhile_append_of_pos (p := (· != 46)) (l₁ := ip) (l₂ := []) (fun c hc => by simpa using hnd c hc)
  simpa using this

theorem nq_digits_nodot (ip : List UInt8) (hi : AllDigits ip) : ∀ c ∈ ip, c ≠ 46 := by
  intro c hc h
  subst h; have := (hi _ hc).1; simp at this

theorem decOf_le3 (l : List UInt8) (hd : AllDigits l) (hl : l.length ≤ 3) : decOf l ≤ 999 := by
  match l, hl with
  | [], _ => unfold decOf; rw [decFrom_nil]; omega
  | [a], _ =>
    have ha := dval_le a (hd a (by simp))
    unfold decOf; rw [decFrom_cons, decFrom_nil]; omega
  | [a, b], _ =>
    have ha := dval_le a (hd a (by simp)); have hb := dval_le b (hd b (by simp))
    unfold decOf; rw [decFrom_cons, decFrom_cons, decFrom_nil]; omega
  | [a, b, c], _ =>
    have ha := dval_le a (hd a (by simp)); have hb := dval_le b (hd b (by simp)); have hc := dval_le c (hd c (by simp))
    unfold decOf; rw [decFrom_cons, decFrom_cons, decFrom_cons, decFrom_nil]; omega

/-- the value of `int.frac` in thousandths -/
def qValue (ip fp : List UInt8) : Nat := decOf ip * 1000 + decOf fp * 10 ^ (3 - fp.length)

/-- what `setQ` computes on a text with a dot: integer part `ip` (no dot in it), the rest `fp` -/
theorem nq_setQ_dot (pf : PFromBody) (ip fp : List UInt8) (hnd : ∀ c ∈ ip, c ≠ 46) :
    setQ pf (ip ++ 46 :: fp) =
      if fp.length ≤ 3 then
        if ((if (pUInt64Val ip).2 == .ok then pUInt64Val fp else (0, (pUInt64Val ip).2)).2 == .ok) = true then
          if ((pUInt64Val ip).1 > 1 || (if (pUInt64Val ip).2 == .ok then pUInt64Val fp else (0, (pUInt64Val ip).2)).1 > 999 ||
              ((pUInt64Val ip).1 == 1 && (if (pUInt64Val ip).2 == .ok then pUInt64Val fp else (0, (pUInt64Val ip).2)).1 > 0)) = true then
            { pf with paramErr := .valBad, errOffs := trunc16 pf.vstart }
          else { pf with q := ((pUInt64Val ip).1 * 1000 +
              (if fp.length == 1 then (if (pUInt64Val ip).2 == .ok then pUInt64Val fp else (0, (pUInt64Val ip).2)).1 * 100
               else if fp.length == 2 then (if (pUInt64Val ip).2 == .ok then pUInt64Val fp else (0, (pUInt64Val ip).2)).1 * 10
               else (if (pUInt64Val ip).2 == .ok then pUInt64Val fp else (0, (pUInt64Val ip).2)).1)) % 65536 }
        else { pf with paramErr := (if (pUInt64Val ip).2 == .ok then pUInt64Val fp else (0, (pUInt64Val ip).2)).2,
                       errOffs := trunc16 pf.vstart }
      else { pf with paramErr := .valTooLong, errOffs := trunc16 pf.vend } := by
  unfold setQ
  simp only [nq_takeWhile_dot ip fp hnd, List.length_append, List.length_cons, List.take_left']
  have hdrop : List.drop (ip.length + 1) (ip ++ 46 :: fp) = fp := by
    rw [List.drop_append, List.drop_eq_nil_of_le (by omega)]
    simp
  have hlt : decide (ip.length < ip.length + (fp.length + 1)) = true := by simp
  have hnd' : ip.length + (fp.length + 1) - (ip.length + 1) = fp.length := by omega
  have hlen : (ip.length + (fp.length + 1) - ip.length ≤ 4) = (fp.length ≤ 3) := by
    apply propext; omega
  simp only [hdrop, hlt, hnd', hlen, Bool.and_true, Bool.true_and]

/-- what `setQ` computes on a text without a dot -/
theorem nq_setQ_nodot (pf : PFromBody) (ip : List UInt8) (hnd : ∀ c ∈ ip, c ≠ 46) :
    setQ pf ip =
      if ((pUInt64Val ip).2 == .ok) = true then
        if decide ((pUInt64Val ip).1 > 1) = true then { pf with paramErr := .valBad, errOffs := trunc16 pf.vstart }
        else { pf with q := ((pUInt64Val ip).1 * 1000) % 65536 }
      else { pf with paramErr := (pUInt64Val ip).2, errOffs := trunc16 pf.vstart } := by
  unfold setQ
  simp only [nq_takeWhile_nodot ip hnd, Nat.sub_self, Nat.zero_le, ↓reduceIte, List.take_length, Nat.lt_irrefl,
    decide_false, Bool.and_false, Bool.false_eq_true]
  cases h1 : ((pUInt64Val ip).2 == .ok)
  · simp only [Bool.false_eq_true, ↓reduceIte]
  · simp only [↓reduceIte, Nat.reduceGT, decide_false, Bool.or_false, Bool.false_and, Bool.false_eq_true, Nat.add_zero]

theorem setQ_frac (pf : PFromBody) (ip fp : List UInt8) (hi : AllDigits ip) (hf : AllDigits fp) (hl : fp.length ≤ 3)
    (hu : decOf ip ≤ 1) (h1 : decOf ip = 1 → decOf fp = 0) :
    setQ pf (ip ++ 46 :: fp) = { pf with q := qValue ip fp } := by
  have hd := decOf_le3 fp hf hl
  have hpi := (pUInt64Val_spec ip hi).1 (by unfold maxU64; omega)
  have hpf := (pUInt64Val_spec fp hf).1 (by unfold maxU64; omega)
  rw [nq_setQ_dot pf ip fp (nq_digits_nodot ip hi), if_pos hl, hpi]
  simp only [beq_self_eq_true, ↓reduceIte, hpf]
  have hbad : (decide (decOf ip > 1) || decide (decOf fp > 999) || decOf ip == 1 && decide (decOf fp > 0)) = false := by
    have a1 : decide (decOf ip > 1) = false := by simp; omega
    have a2 : decide (decOf fp > 999) = false := by simp; omega
    rw [a1, a2]
    by_cases hone : decOf ip = 1
    · have := h1 hone
      simp [this]
    · have : (decOf ip == 1) = false := by simpa using hone
      simp [this]
  simp only [hbad, Bool.false_eq_true, ↓reduceIte]
  have hq : (decOf ip * 1000 + if (fp.length == 1) = true then decOf fp * 100 else
      if (fp.length == 2) = true then decOf fp * 10 else decOf fp) % 65536 = qValue ip fp := by
    unfold qValue
    match fp, hf, hl with
    | [], _, _ =>
      simp [decOf_nil]; omega
    | [a], hf, _ =>
      have ha := dval_le a (hf a (by simp))
      have : decOf [a] = dval a := by unfold decOf; rw [decFrom_cons, decFrom_nil]; omega
      simp [this]; omega
    | [a, b], hf, _ =>
      have ha := dval_le a (hf a (by simp)); have hb := dval_le b (hf b (by simp))
      have : decOf [a, b] = dval a * 10 + dval b := by
        unfold decOf; rw [decFrom_cons, decFrom_cons, decFrom_nil]; omega
      simp [this]; omega
    | [a, b, c], hf, _ =>
      have ha := dval_le a (hf a (by simp)); have hb := dval_le b (hf b (by simp)); have hc := dval_le c (hf c (by simp))
      have : decOf [a, b, c] = (dval a * 10 + dval b) * 10 + dval c := by
        unfold decOf; rw [decFrom_cons, decFrom_cons, decFrom_cons, decFrom_nil]; omega
      simp [this]; omega
  rw [hq]

theorem setQ_int (pf : PFromBody) (ip : List UInt8) (hi : AllDigits ip) (hu : decOf ip ≤ 1) :
    setQ pf ip = { pf with q := decOf ip * 1000 } := by
  have hpi := (pUInt64Val_spec ip hi).1 (by unfold maxU64; omega)
  rw [nq_setQ_nodot pf ip (nq_digits_nodot ip hi), hpi]
  simp only [beq_self_eq_true, ↓reduceIte]
  rw [if_neg (by simp; omega), Nat.mod_eq_of_lt (by omega)]

/-- `q=int.frac` (at most three fraction digits, value at most 1): the value in thousandths -/
theorem paramEffect_q_frac (b : Buf) (ps pe vs ve : Nat) (a : PAcc) (h1 : ps < pe) (h2 : vs < ve) (h3 : pe ≤ b.size)
    (h4 : ve ≤ b.size) (hn : cmpEqL (b.extract ps pe) sQ = true) (ip fp : List UInt8)
    (hv : (b.extract vs ve).toList = ip ++ 46 :: fp) (hi : AllDigits ip) (hf : AllDigits fp) (hl : fp.length ≤ 3)
    (hu : decOf ip ≤ 1) (hone : decOf ip = 1 → decOf fp = 0) :
    paramEffect b ps pe vs ve a = { a with q := qValue ip fp } := by
  have hlen := cmpEqL_len hn
  have t1 : cmpEqL (b.extract ps pe) sTag = false := cmpEqL_false_of_len (by rw [hlen]; decide)
  have t2 : cmpEqL (b.extract ps pe) sExpires = false := cmpEqL_false_of_len (by rw [hlen]; decide)
  rw [paramEffect_valued b ps pe vs ve a h1 h2 h3 h4, t1, t2, if_neg (by decide), if_neg (by decide), if_pos hn, hv,
    setQ_frac _ ip fp hi hf hl hu hone]
  rfl

/-- `q=int` (0 or 1, any number of leading zeros) -/
theorem paramEffect_q_int (b : Buf) (ps pe vs ve : Nat) (a : PAcc) (h1 : ps < pe) (h2 : vs < ve) (h3 : pe ≤ b.size)
    (h4 : ve ≤ b.size) (hn : cmpEqL (b.extract ps pe) sQ = true) (hi : AllDigits (b.extract vs ve).toList)
    (hu : decOf (b.extract vs ve).toList ≤ 1) :
    paramEffect b ps pe vs ve a = { a with q := decOf (b.extract vs ve).toList * 1000 } := by
  have hlen := cmpEqL_len hn
  have t1 : cmpEqL (b.extract ps pe) sTag = false := cmpEqL_false_of_len (by rw [hlen]; decide)
  have t2 : cmpEqL (b.extract ps pe) sExpires = false := cmpEqL_false_of_len (by rw [hlen]; decide)
  rw [paramEffect_valued b ps pe vs ve a h1 h2 h3 h4, t1, t2, if_neg (by decide), if_neg (by decide), if_pos hn,
    setQ_int _ _ hi hu]
  rfl

/-! ### leading white space, `*` -/

/-- linear white space in front of the value is skipped -/
theorem parse_lead_lws (h : Nat) (b : Buf) {o0 o : Nat} (hl : Lws b o0 o) {c : UInt8} (hc : b[o]? = some c)
    (hcl : isLWSch c = false) (pf : PFromBody) (hst : pf.state = .init) :
    parseNameAddrPVal h b o0 pf = parseNameAddrPVal h b o pf := by
  have hrun : runLoop (naMachine h) b o0 { pf with s := pf.soffs, soffs := 0 } =
      runLoop (naMachine h) b o { pf with s := pf.soffs, soffs := 0 } :=
    na_lws_skip (pf := { pf with s := pf.soffs, soffs := 0 }) (fun hw t => .a_lws (.inl hst) hw t) hl hc hcl
  unfold parseNameAddrPVal
  have hnf : ¬ pf.state = .fin := by rw [hst]; decide
  rw [if_neg hnf, if_neg hnf]
  simp only [hrun]

/-- **`*`** (Contact: *), optional white space and the line end: the star indicator is set, URI = V = the `*` -/
theorem parseNameAddr_star (h : Nat) (b : Buf) (o p e : Nat) (hfit : b.size ≤ 65535) (h0 : b[o]? = some 42)
    (hl : Lws b (o + 1) p) (he : Eol b p e) {c2 : UInt8} (h2 : b[e]? = some c2) (hw2 : isWS c2 = false) :
    parseNameAddrPVal h b o {} =
      (e, .ok, { star := true, uri := ⟨o, 1⟩, v := ⟨o, 1⟩, type := h, state := .fin }) := by
  have hsz := get?_lt h0
  have hloop : runLoop (naMachine h) b o {} =
      (e, .ok, { star := true, uri := ⟨o, 1⟩, v := ⟨o, 1⟩, s := o, type := h, state := .fin }) := by
    have e1 : ({ ({} : PFromBody).setV o (o + 1) with s := o, state := .star } : PFromBody) =
        { v := ⟨o, 1⟩, s := o, state := .star } := by
      unfold PFromBody.setV
      simp only [set_eq o (o + 1) (by omega) (by omega), setPanics_false o (o + 1) (by omega), Nat.add_sub_cancel_left]
      rfl
    rw [na_tr h0 (.star_init rfl rfl), e1]
    exact na_eol (fun hl t => .uf_lws (.inr rfl) hl t) hl he h2 hw2 (.star rfl)
  rw [parse_of_loop h b o hloop (Or.inl rfl)]

/-- `*` followed by a comma is rejected -/
theorem parseNameAddr_star_comma (h : Nat) (b : Buf) (o : Nat) (h0 : b[o]? = some 42) (h1 : b[o + 1]? = some 44) :
    (parseNameAddrPVal h b o {}).2.1 = .badChar := by
  have hloop : (runLoop (naMachine h) b o {}).2.1 = .badChar := by
    rw [na_tr h0 (.star_init rfl rfl), na_tr_done h1 (.star_bad rfl (by decide))]
  unfold parseNameAddrPVal
  rw [if_neg (by decide)]
  exact hloop

/-! ### a value of the grammar, as one predicate -/

theorem AddrPrefix.first {b : Buf} {o a : Nat} {nm : PField} (H : AddrPrefix b o nm a) :
    ∃ c, b[o]? = some c ∧ isLWSch c = false := by
  rcases H with ⟨h0⟩ | ⟨k, _, h0, _, _⟩ | ⟨t, c, h0, h1, _, _, _⟩ | ⟨t, n, _, c, c', h0, h1, _, _, _, _, _, _, _, _⟩
  · exact ⟨60, h0, by decide⟩
  · exact ⟨34, h0, by decide⟩
  · exact ⟨c, h0, (isTokch_iff.1 (isTok1_iff.1 h1).1).1⟩
  · exact ⟨c, h0, (isTokch_iff.1 (isTok1_iff.1 h1).1).1⟩

/-- a well-formed name-addr value at `o0` (optional leading white space), the offset after it, the verdict, and the
    object it denotes: the four forms (angle brackets without / with parameters, bare URI without / with parameters) -/
def NAValue (h : Nat) (b : Buf) (o0 o' : Nat) (e' : Err) (r : PFromBody) : Prop :=
  (∃ o a g nm, Lws b o0 o ∧ AddrPrefix b o nm a ∧ Run isURIch b (a + 1) g ∧ a + 1 ≤ g ∧ b[g]? = some 62 ∧
    Term h b (g + 1) o' e' ∧ r = naResult h nm ⟨a + 1, g - (a + 1)⟩ {} ⟨o, g + 1 - o⟩ {}) ∨
  (∃ o a g m w nm L, Lws b o0 o ∧ AddrPrefix b o nm a ∧ Run isURIch b (a + 1) g ∧ a + 1 ≤ g ∧ b[g]? = some 62 ∧
    Lws b (g + 1) m ∧ b[m]? = some 59 ∧ PList b (m + 1) L w ∧ Term h b w o' e' ∧
    r = naResult h nm ⟨a + 1, g - (a + 1)⟩ ⟨firstPs 0 L, w - firstPs 0 L⟩ ⟨o, w - o⟩ (accAll b L {})) ∨
  (∃ o t c, Lws b o0 o ∧ b[o]? = some c ∧ isTok1 c = true ∧ Run isTokch b (o + 1) t ∧ o + 1 ≤ t ∧ Term h b t o' e' ∧
    r = naResult h {} ⟨o, t - o⟩ {} ⟨o, t - o⟩ {}) ∨
  (∃ o t m w c L, Lws b o0 o ∧ b[o]? = some c ∧ isTok1 c = true ∧ Run isTokch b (o + 1) t ∧ o + 1 ≤ t ∧ Lws b t m ∧
    b[m]? = some 59 ∧ PList b (m + 1) L w ∧ Term h b w o' e' ∧
    r = naResult h {} ⟨o, t - o⟩ ⟨firstPs 0 L, w - firstPs 0 L⟩ ⟨o, w - o⟩ (accAll b L {}))

/-- **every value of the grammar is decomposed as written** -/
theorem NAValue.parse {h : Nat} {b : Buf} {o0 o' : Nat} {e' : Err} {r : PFromBody} (H : NAValue h b o0 o' e' r)
    (hfit : b.size ≤ 65535) : parseNameAddrPVal h b o0 {} = (o', e', r) := by
  rcases H with ⟨o, a, g, nm, hl, hp, hu, hag, hg, T, rfl⟩ |
    ⟨o, a, g, m, w, nm, L, hl, hp, hu, hag, hg, hl2, hm, hL, T, rfl⟩ |
    ⟨o, t, c, hl, hc, h1, hr, hot, T, rfl⟩ | ⟨o, t, m, w, c, L, hl, hc, h1, hr, hot, hl2, hm, hL, T, rfl⟩
  · obtain ⟨c, hc, hcl⟩ := hp.first
    rw [parse_lead_lws h b hl hc hcl {} rfl]
    exact parseNameAddr_bracket h b o a g o' e' nm hfit hp hu hag hg T
  · obtain ⟨c, hc, hcl⟩ := hp.first
    rw [parse_lead_lws h b hl hc hcl {} rfl]
    exact parseNameAddr_bracket_params h b o a g m w o' e' nm L hfit hp hu hag hg hl2 hm hL T
  · rw [parse_lead_lws h b hl hc (isTokch_iff.1 (isTok1_iff.1 h1).1).1 {} rfl]
    exact parseNameAddr_bare h b o t o' e' hfit hc h1 hr hot T
  · rw [parse_lead_lws h b hl hc (isTokch_iff.1 (isTok1_iff.1 h1).1).1 {} rfl]
    exact parseNameAddr_bare_params h b o t m w o' e' L hfit hc h1 hr hot hl2 hm hL T

theorem AddrPrefix.le {b : Buf} {o a : Nat} {nm : PField} (H : AddrPrefix b o nm a) : o ≤ a := by
  rcases H with ⟨h0⟩ | ⟨k, _, h0, hq, ht⟩ | ⟨t, c, h0, h1, hr, hot, ht⟩ | ⟨t, n, _, c, c', h0, h1, hr, hot, hl, hlt, hn, hcl, h42, ht⟩
  · exact Nat.le_refl _
  · have := hq.le; have := ht.le; omega
  · omega
  · have := ht.le; omega

theorem NAValue.range {h : Nat} {b : Buf} {o0 o' : Nat} {e' : Err} {r : PFromBody} (H : NAValue h b o0 o' e' r) :
    o0 < o' ∧ o' ≤ b.size := by
  rcases H with ⟨o, a, g, nm, hl, hp, hu, hag, hg, T, rfl⟩ |
    ⟨o, a, g, m, w, nm, L, hl, hp, hu, hag, hg, hl2, hm, hL, T, rfl⟩ |
    ⟨o, t, c, hl, hc, h1, hr, hot, T, rfl⟩ | ⟨o, t, m, w, c, L, hl, hc, h1, hr, hot, hl2, hm, hL, T, rfl⟩
  · have := hl.le; have := T.range; have := hp.le; omega
  · have := hl.le; have := T.range; have := hL.bounds; have := hl2.le; have := hp.le; omega
  · have := hl.le; have := T.range; omega
  · have := hl.le; have := T.range; have := hL.bounds; have := hl2.le; omega

/-! ### a Contact header body: comma-separated values -/

/-- values separated by commas; the last one ends at the line end; `rs` are the objects they denote -/
inductive ValList (h : Nat) (b : Buf) : Nat → List PFromBody → Nat → Prop
  | last (o o' : Nat) (r : PFromBody) : NAValue h b o o' .ok r → ValList h b o [r] o'
  | cons (o o1 o' : Nat) (r : PFromBody) (rs : List PFromBody) : NAValue h b o o1 .moreValues r →
      ValList h b o1 rs o' → ValList h b o (r :: rs) o'

/-- what ParseAllContactValues does with the contacts object for the values `rs`, in order -/
def PContacts.acceptAll (c : PContacts) : List PFromBody → PContacts
  | [] => c
  | [r] => (c.setCur r).account r
  | r :: r2 :: rs => (c.next r).acceptAll (r2 :: rs)

theorem ValList.ne_nil {h : Nat} {b : Buf} {o o' : Nat} {rs : List PFromBody} (H : ValList h b o rs o') : rs ≠ [] := by
  cases H <;> simp

/-- **the value-list loop on a well-formed list of values**, over any one-value parser that reads a value of the grammar
    as ParseNameAddrPVal does -/
theorem valsLoop_list {one : Buf → Nat → PFromBody → Nat × Err × PFromBody} {ht : Nat} {b : Buf}
    (hone : ∀ {o o' : Nat} {e : Err} {r : PFromBody}, NAValue ht b o o' e r → one b o {} = (o', e, r))
    {o o' : Nat} {rs : List PFromBody} (H : ValList ht b o rs o') :
    ∀ c : PContacts, CtClean c → c.cur = {} → valsLoop one b o c = (o', .ok, c.acceptAll rs) := by
  induction H with
  | last o o' r hv =>
    intro c _ hcur
    rw [valsLoop_eq]
    simp only [valsStep, hcur, hone hv]
    rfl
  | cons o o1 o' r rs hv hrest ih =>
    intro c hcl hcur
    rw [valsLoop_eq]
    simp only [valsStep, hcur, hone hv]
    rw [if_pos hv.range]
    have hnext := next_clean c r hcl
    have hrs := hrest.ne_nil
    cases rs with
    | nil => exact absurd rfl hrs
    | cons r2 rs' => exact ih (c.next r) hnext.1 hnext.2

theorem contactsLoop_list (b : Buf) (hfit : b.size ≤ 65535) {o o' : Nat} {rs : List PFromBody}
    (H : ValList HdrContact b o rs o') :
    ∀ c : PContacts, CtClean c → c.cur = {} → contactsLoop b o c = (o', .ok, c.acceptAll rs) := fun c hc hcur => by
  rw [contactsLoop_eq_valsLoop]; exact valsLoop_list (fun hv => hv.parse hfit) H c hc hcur

/-! ### what the contacts object records for a sequence of values -/

theorem step_maxE (c : PContacts) (r : PFromBody) :
    ((c.setCur r).account r).maxExpires = max c.maxExpires r.expires := by
  rw [account_maxE, (setCur_scalars c r).2.1, Nat.max_def]
  split <;> split <;> omega

theorem step_minE (c : PContacts) (r : PFromBody) :
    ((c.setCur r).account r).minExpires = min (if c.n == 0 then 4294967295 else c.minExpires) r.expires := by
  rw [account_minE, (setCur_scalars c r).2.2.1, setCur_n]
  generalize (if c.n == 0 then 4294967295 else c.minExpires) = x
  rw [Nat.min_def]
  split <;> split <;> omega

theorem acceptAll_cons2 (c : PContacts) (r r2 : PFromBody) (rs : List PFromBody) :
    c.acceptAll (r :: r2 :: rs) = (c.next r).acceptAll (r2 :: rs) := rfl

/-- **the value count includes the values that did not fit the caller's array** -/
theorem ctAcceptAll_n (c : PContacts) (rs : List PFromBody) : (c.acceptAll rs).n = c.n + rs.length := by
  induction rs generalizing c with
  | nil => rfl
  | cons r rs ih =>
    cases rs with
    | nil => show ((c.setCur r).account r).n = _; rw [account_n, setCur_n]; rfl
    | cons r2 rs' => rw [acceptAll_cons2, ih, next_n]; simp only [List.length_cons]; omega

/-- **the maximum expires summarises all values** (also those beyond the array) -/
theorem ctAcceptAll_maxE (c : PContacts) (rs : List PFromBody) :
    (c.acceptAll rs).maxExpires = rs.foldl (fun m r => max m r.expires) c.maxExpires := by
  induction rs generalizing c with
  | nil => rfl
  | cons r rs ih =>
    cases rs with
    | nil => show ((c.setCur r).account r).maxExpires = _; rw [step_maxE]; rfl
    | cons r2 rs' => rw [acceptAll_cons2, ih, (ctNext_scalars c r).2.1, step_maxE]; rfl

/-- **the minimum expires summarises all values**, starting from 2^32-1 for the first value of the message -/
theorem ctAcceptAll_minE (c : PContacts) (rs : List PFromBody) (hne : rs ≠ []) :
    (c.acceptAll rs).minExpires =
      rs.foldl (fun m r => min m r.expires) (if c.n == 0 then 4294967295 else c.minExpires) := by
  induction rs generalizing c with
  | nil => exact absurd rfl hne
  | cons r rs ih =>
    cases rs with
    | nil => show ((c.setCur r).account r).minExpires = _; rw [step_minE]; rfl
    | cons r2 rs' =>
      rw [acceptAll_cons2, ih _ (by simp), (ctNext_scalars c r).2.2.1, step_minE, next_n]
      have : (c.n + 1 == 0) = false := by simp
      rw [this]
      rfl

theorem ctAcceptAll_size (c : PContacts) (rs : List PFromBody) : (c.acceptAll rs).vals.size = c.vals.size := by
  induction rs generalizing c with
  | nil => rfl
  | cons r rs ih =>
    cases rs with
    | nil => show ((c.setCur r).account r).vals.size = _; rw [account_vals, setCur_size]
    | cons r2 rs' => rw [acceptAll_cons2, ih, next_vals, setCur_size]

theorem ctAcceptAll_keep (c : PContacts) (rs : List PFromBody) (j : Nat) (hj : j < c.n) :
    (c.acceptAll rs).vals[j]! = c.vals[j]! := by
  induction rs generalizing c with
  | nil => rfl
  | cons r rs ih =>
    cases rs with
    | nil => show ((c.setCur r).account r).vals[j]! = _; rw [account_vals, setCur_vals_ne c r j (by omega)]
    | cons r2 rs' =>
      rw [acceptAll_cons2, ih _ (by rw [next_n]; omega), next_vals, setCur_vals_ne c r j (by omega)]

/-- **the stored values are the values of the header, in order** (those that fit the caller's array) -/
theorem ctAcceptAll_stored (c : PContacts) (rs : List PFromBody) (k : Nat) (hk : k < rs.length)
    (hin : c.n + k < c.vals.size) : (c.acceptAll rs).vals[c.n + k]! = rs[k] := by
  induction rs generalizing c k with
  | nil => cases hk
  | cons r rs ih =>
    cases rs with
    | nil =>
      have : k = 0 := by simpa using hk
      subst this
      show ((c.setCur r).account r).vals[c.n + 0]! = r
      rw [account_vals]; exact setCur_get_n c r (by omega)
    | cons r2 rs' =>
      rw [acceptAll_cons2]
      cases k with
      | zero =>
        show ((c.next r).acceptAll (r2 :: rs')).vals[c.n]! = r
        rw [ctAcceptAll_keep _ _ c.n (by rw [next_n]; omega), next_vals]
        exact setCur_get_n c r (by omega)
      | succ k =>
        have := ih (c.next r) k (by simpa using hk) (by rw [next_n, next_vals, setCur_size]; omega)
        rw [next_n] at this
        have e : c.n + (k + 1) = c.n + 1 + k := by omega
        rw [e, this]; rfl

/-- ParseAllContactValues itself (with its normalisation of the scratch slot) -/
theorem parseAllContactValues_list (b : Buf) (hfit : b.size ≤ 65535) {o o' : Nat} {rs : List PFromBody}
    (H : ValList HdrContact b o rs o') (c : PContacts) (hc : CtClean c) (hcur : c.cur = {}) :
    parseAllContactValues b o c = (o', .ok, c.acceptAll rs) := by
  rw [parseAllContactValues_eq_wrap, wrap_id_of_pending c (by rw [hcur]; exact fun h => by cases h)]
  exact contactsLoop_list b hfit H c hc hcur

/-- a new contacts object (any capacity) satisfies the hypotheses -/
theorem ct_new_ok (k : Nat) :
    CtClean ({ vals := Array.replicate k {} } : PContacts) ∧ ({ vals := Array.replicate k {} } : PContacts).cur = {} :=
  ⟨SlotArr.clean_replicate ({} : PFromBody) k, SlotArr.cur_replicate ({} : PFromBody) k⟩

/-! ### a P-Asserted-Identity header body -/

theorem naResult_star (h : Nat) (nm u p v : PField) (a : PAcc) : (naResult h nm u p v a).star = false := rfl

theorem NAValue.star {h : Nat} {b : Buf} {o0 o' : Nat} {e' : Err} {r : PFromBody} (H : NAValue h b o0 o' e' r) :
    r.star = false := by
  rcases H with ⟨o, a, g, nm, _, _, _, _, _, _, rfl⟩ | ⟨o, a, g, m, w, nm, L, _, _, _, _, _, _, _, _, _, rfl⟩ |
    ⟨o, t, c, _, _, _, _, _, _, rfl⟩ | ⟨o, t, m, w, c, L, _, _, _, _, _, _, _, _, _, rfl⟩ <;> rfl

def PPAIs.acceptAll (c : PPAIs) : List PFromBody → PPAIs
  | [] => c
  | [r] => (c.setCur r).account r
  | r :: r2 :: rs => (c.next r).acceptAll (r2 :: rs)

theorem PContacts.toPa_acceptAll (c : PContacts) (rs : List PFromBody) : (c.acceptAll rs).toPa = c.toPa.acceptAll rs := by
  induction rs generalizing c with
  | nil => rfl
  | cons r rs ih =>
    cases rs with
    | nil => show ((c.setCur r).account r).toPa = (c.toPa.setCur r).account r; rw [toPa_account, toPa_setCur]
    | cons r2 rs' => show ((c.next r).acceptAll (r2 :: rs')).toPa = (c.toPa.next r).acceptAll (r2 :: rs'); rw [ih, toPa_next]

theorem PPAIs.acceptAll_eq (c : PPAIs) (rs : List PFromBody) : c.acceptAll rs = (c.toCt.acceptAll rs).toPa :=
  (PContacts.toPa_acceptAll c.toCt rs).symm

/-- **ParseAllPAIValues on a well-formed list of values** -/
theorem paisLoop_list (b : Buf) (hfit : b.size ≤ 65535) {o o' : Nat} {rs : List PFromBody}
    (H : ValList HdrPAI b o rs o') :
    ∀ c : PPAIs, PaClean c → c.cur = {} → paisLoop b o c = (o', .ok, c.acceptAll rs) := fun c hc hcur => by
  have hone : ∀ {o o' : Nat} {e : Err} {r : PFromBody}, NAValue HdrPAI b o o' e r → parseOnePAI b o {} = (o', e, r) :=
    fun hv => by simp only [parseOnePAI, hv.parse hfit, hv.star, Bool.and_false, Bool.false_eq_true, ↓reduceIte]
  rw [paisLoop_eq_valsLoop, valsLoop_list hone H c.toCt hc hcur, PPAIs.acceptAll_eq]; rfl

theorem paAcceptAll_n (c : PPAIs) (rs : List PFromBody) : (c.acceptAll rs).n = c.n + rs.length := by
  rw [PPAIs.acceptAll_eq]; exact ctAcceptAll_n c.toCt rs

theorem parseAllPAIValues_list (b : Buf) (hfit : b.size ≤ 65535) {o o' : Nat} {rs : List PFromBody}
    (H : ValList HdrPAI b o rs o') (c : PPAIs) (hc : PaClean c) (hcur : c.cur = {}) :
    parseAllPAIValues b o c = (o', .ok, c.acceptAll rs) := by
  rw [parseAllPAIValues_eq_wrap, paWrap_id_of_pending c (by rw [hcur]; exact fun h => by cases h)]
  exact paisLoop_list b hfit H c hc hcur

/-- a new P-Asserted-Identity object satisfies the hypotheses -/
theorem pa_new_ok : PaClean ({} : PPAIs) ∧ ({} : PPAIs).cur = {} := by
  refine ⟨⟨fun k h1 h2 => ?_, fun _ => rfl⟩, rfl⟩
  have hk : k < 2 := h2
  have : k = 1 := by have : 0 < k := h1; omega
  subst this; rfl

/-! ### helpers for concrete instances -/


/-- executable version of `Run` -/
def runCheck (P : UInt8 → Bool) (b : Buf) (i j : Nat) : Bool :=
  (List.range' i (j - i)).all (fun k => match b[k]? with | some c => P c | none => false)

theorem run_of_check {P : UInt8 → Bool} {b : Buf} {i j : Nat} (h : runCheck P b i j = true) : Run P b i j := by
  intro k h1 h2
  unfold runCheck at h
  have hk := List.all_eq_true.1 h k (List.mem_range'_1.2 ⟨h1, by omega⟩)
  cases hb : b[k]? with
  | none => rw [hb] at hk; cases hk
  | some c => rw [hb] at hk; exact ⟨c, rfl, hk⟩

theorem accAll_nil (b : Buf) (a : PAcc) : accAll b [] a = a := rfl

theorem accAll_cons (b : Buf) (x : PSpan) (L : List PSpan) (a : PAcc) :
    accAll b (x :: L) a = accAll b L (paramEffect b x.ps x.pe x.vs x.ve a) := rfl

end Sipsp
