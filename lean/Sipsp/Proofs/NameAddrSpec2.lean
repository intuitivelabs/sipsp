/-
  Sipsp.Proofs.NameAddrSpec2 — property C09, the shapes that `NameAddrSpec` does not cover.  Everything is about
  `parseNameAddrPVal h b o {}` (a new object), ALL buffers within the 65,535-byte limit, ALL offsets, ALL header kinds
  `h` unless a hypothesis on `multipleValsOk h` says otherwise.  The grammar predicates and the general whole-value
  theorems (`n2_bracket_params`, `n2_bare_params`, `n4_bracket_junk`, `n4_bracket_junk_params`) are those of
  `NameAddrSpec`.

  (1) The `q` parameter, EVERY value text (`nq_setQ_total`, `nq_setQ_ok_iff`; for the parameter `q=value`,
      `nq_param_q_any`).  A `q` text (`NqQText`) is digits, optionally `.` and at most three digits, value at most 1; the
      integer part may be EMPTY (`.5`) and may have leading zeros (`001`, `00.5`): the code accepts those.  Q is set (to
      the value in thousandths) exactly for the `q` texts; otherwise Q is untouched and the error indication says: more
      than three bytes after the first dot -> "too long" at the END of the value; a non-digit (second dot, sign, letter)
      -> "not a number" at the start; integer part above 2^64-1 -> "too long" at the start; value above 1 -> "bad value"
      at the start.
  (2) Trailing `;`, empty parameters `;;`, `name=` with an empty value are ACCEPTED (verdict OK / "more values" as the
      end says).  An empty value acts like no value (`vs = ve = 0` in the span list: only `lr` is recognised, `tag=` /
      `q=` / `expires=` set nothing and raise no error); empty parameters are skipped; the reported parameter span runs
      from the first named parameter to `ve`, the reported value from its first byte to `ve`, where `ve` INCLUDES a
      trailing `;` / `=` (not the white space after it) when the line ends, and runs up to the comma (white space
      included) when a comma ends the value; no named parameter at all -> empty parameter span.
  (3) Rejections: verdict, offset, and that the offset lies inside the buffer after the start of the value.  SP / HT /
      CR / LF / `<` between `<` and `>`, `<` / `>` in a parameter name, `=` / `<` / `>` in a parameter value -> "bad
      character" at that byte.  A quoted string (of the display name or a parameter value) that is not closed before
      the line end, and a display name (two or more tokens / quoted strings) that is never followed by `<uri>` -> "bad
      header" (ErrHdrBad) with the offset AFTER the line end; backslash + CR / LF inside a quoted string -> "bad
      character" at the CR / LF.  `<>` is NOT rejected: accepted with an empty URI span.
  (4) After `>` every byte other than `;`, white space, line end (and `,` for the multi-valued kinds) is SKIPPED
      (`NqJunk`), e.g. a second `<uri>`; parameters that follow are attached to the first URI.  In the single-valued
      kinds (From, To) `<uri> , anything-without-";"` is accepted and reported exactly as `<uri>`; in a bare URI the
      comma is a URI byte; `;param[=value] LWS ,` -> "bad character" at the comma.
  NOT proved here: commas inside parameter names / values of the single-valued kinds in general (they are ordinary
  bytes, except as first byte, where they are dropped: only tests); the object left behind by the rejections inside a
  parameter (offset and verdict only); comma-separated lists (`ValList`) whose values use the shapes of (2) / (4);
  `HNo` and several header lines of one message.
-/
import Sipsp.Proofs.NameAddrSpec

namespace Sipsp

/-! ## (1) the `q` parameter: every value text -/

theorem nq_split (val : List UInt8) :
    ∃ ip tl, val = ip ++ tl ∧ (∀ c ∈ ip, c ≠ 46) ∧ (tl = [] ∨ ∃ fp, tl = 46 :: fp) := by
  induction val with
  | nil => exact ⟨[], [], rfl, (fun c hc => by cases hc), Or.inl rfl⟩
  | cons c cs ih =>
    by_cases hc : c = 46
    · subst hc
      exact ⟨[], 46 :: cs, rfl, (fun c hc => by cases hc), Or.inr ⟨cs, rfl⟩⟩
    · obtain ⟨ip, tl, h1, h2, h3⟩ := ih
      refine ⟨c :: ip, tl, by rw [h1]; rfl, ?_, h3⟩
      intro x hx
      rcases List.mem_cons.1 hx with h | h
      · rw [h]; exact hc
      · exact h2 x h

theorem nq_aux_nondigit (l : List UInt8) (n : Nat) (e : Err) (h : ¬ AllDigits l) :
    (pUInt64Aux l n e).2 = .valNotNumber := by
  induction l generalizing n e with
  | nil => exact absurd (fun c hc => by cases hc) h
  | cons c cs ih =>
    by_cases hc : IsDigitB c
    · have hcs : ¬ AllDigits cs := by
        intro hcs
        apply h
        intro x hx
        rcases List.mem_cons.1 hx with hx | hx
        · rw [hx]; exact hc
        · exact hcs x hx
      rw [pUInt64Aux_cons c cs n e hc]
      split
      · exact ih _ _ hcs
      · exact ih _ _ hcs
    · rw [pUInt64Aux_nondigit c cs n e hc]

/-- **accepted**: the value is a `q` text: digits, optionally a dot and at most three digits, value at most 1 -/
structure NqQText (val ip fp : List UInt8) : Prop where
  di : AllDigits ip
  df : AllDigits fp
  len : fp.length ≤ 3
  le1 : decOf ip ≤ 1
  one : decOf ip = 1 → decOf fp = 0
  shape : (val = ip ∧ fp = []) ∨ val = ip ++ 46 :: fp

theorem nq_setQ_accept (pf : PFromBody) (val ip fp : List UInt8) (H : NqQText val ip fp) :
    setQ pf val = { pf with q := qValue ip fp } := by
  rcases H.shape with ⟨h1, h2⟩ | h1
  · rw [h1, h2, setQ_int pf ip H.di H.le1]
    unfold qValue
    rw [decOf_nil]; simp
  · rw [h1]; exact setQ_frac pf ip fp H.di H.df H.len H.le1 H.one

/-- more than three bytes after the first dot (whatever they are): "value too long", reported at the END of the value -/
theorem nq_setQ_long (pf : PFromBody) (ip fp : List UInt8) (hnd : ∀ c ∈ ip, c ≠ 46) (hl : 3 < fp.length) :
    setQ pf (ip ++ 46 :: fp) = { pf with paramErr := .valTooLong, errOffs := trunc16 pf.vend } := by
  rw [nq_setQ_dot pf ip fp hnd, if_neg (by omega)]

theorem nq_pU_nondigit (l : List UInt8) (h : ¬ AllDigits l) : (pUInt64Val l).2 = .valNotNumber :=
  nq_aux_nondigit l 0 .ok h

/-- a byte other than a digit in front of the first dot (or no dot at all): "not a number", reported at the start -/
theorem nq_setQ_int_nondigit (pf : PFromBody) (ip fp : List UInt8) (hnd : ∀ c ∈ ip, c ≠ 46) (hi : ¬ AllDigits ip)
    (hl : fp.length ≤ 3) :
    setQ pf ip = { pf with paramErr := .valNotNumber, errOffs := trunc16 pf.vstart } ∧
    setQ pf (ip ++ 46 :: fp) = { pf with paramErr := .valNotNumber, errOffs := trunc16 pf.vstart } := by
  have h1 := nq_pU_nondigit ip hi
  constructor
  · rw [nq_setQ_nodot pf ip hnd, h1]; rfl
  · rw [nq_setQ_dot pf ip fp hnd, if_pos hl, h1]; rfl

/-- an integer part that does not fit in 64 bits: "value too long", reported at the start -/
theorem nq_setQ_int_huge (pf : PFromBody) (ip fp : List UInt8) (hi : AllDigits ip) (hbig : decOf ip > maxU64)
    (hl : fp.length ≤ 3) :
    setQ pf ip = { pf with paramErr := .valTooLong, errOffs := trunc16 pf.vstart } ∧
    setQ pf (ip ++ 46 :: fp) = { pf with paramErr := .valTooLong, errOffs := trunc16 pf.vstart } := by
  have h1 := (pUInt64Val_spec ip hi).2 hbig
  have hnd := nq_digits_nodot ip hi
  constructor
  · rw [nq_setQ_nodot pf ip hnd, h1]; rfl
  · rw [nq_setQ_dot pf ip fp hnd, if_pos hl, h1]; rfl

/-- a byte other than a digit after the first dot (a second dot included): "not a number", reported at the start -/
theorem nq_setQ_frac_nondigit (pf : PFromBody) (ip fp : List UInt8) (hi : AllDigits ip) (hfit : decOf ip ≤ maxU64)
    (hf : ¬ AllDigits fp) (hl : fp.length ≤ 3) :
    setQ pf (ip ++ 46 :: fp) = { pf with paramErr := .valNotNumber, errOffs := trunc16 pf.vstart } := by
  have h1 := (pUInt64Val_spec ip hi).1 hfit
  have h2 := nq_pU_nondigit fp hf
  rw [nq_setQ_dot pf ip fp (nq_digits_nodot ip hi), if_pos hl, h1]
  simp only [beq_self_eq_true, ↓reduceIte, h2]
  rfl

/-- a number above 1 (`2`, `1.5`, `1.001`, …): "bad value", reported at the start -/
theorem nq_setQ_range (pf : PFromBody) (ip fp : List UInt8) (hi : AllDigits ip) (hf : AllDigits fp) (hfit : decOf ip ≤ maxU64)
    (hl : fp.length ≤ 3) (hbad : decOf ip > 1 ∨ (decOf ip = 1 ∧ decOf fp > 0)) :
    (decOf ip > 1 → setQ pf ip = { pf with paramErr := .valBad, errOffs := trunc16 pf.vstart }) ∧
    setQ pf (ip ++ 46 :: fp) = { pf with paramErr := .valBad, errOffs := trunc16 pf.vstart } := by
  have h1 := (pUInt64Val_spec ip hi).1 hfit
  have hd := decOf_le3 fp hf hl
  have h2 := (pUInt64Val_spec fp hf).1 (by unfold maxU64; omega)
  have hnd := nq_digits_nodot ip hi
  constructor
  · intro hgt
    rw [nq_setQ_nodot pf ip hnd, h1]
    simp only [beq_self_eq_true, ↓reduceIte, hgt, decide_true]
  · rw [nq_setQ_dot pf ip fp hnd, if_pos hl, h1]
    simp only [beq_self_eq_true, ↓reduceIte, h2]
    have hb : (decide (decOf ip > 1) || decide (decOf fp > 999) || decOf ip == 1 && decide (decOf fp > 0)) = true := by
      rcases hbad with h | ⟨h, h'⟩
      · simp [h]
      · simp [h, h']
    simp only [hb, ↓reduceIte]

theorem nq_unique (val ip tl ip' fp' : List UInt8) (hv : val = ip ++ tl) (hnd : ∀ c ∈ ip, c ≠ 46)
    (htl : tl = [] ∨ ∃ fp, tl = 46 :: fp) (H : NqQText val ip' fp') :
    ip' = ip ∧ ((tl = [] ∧ fp' = []) ∨ tl = 46 :: fp') := by
  have hnd' := nq_digits_nodot ip' H.di
  have t1 : val.takeWhile (· != 46) = ip := by
    rcases htl with h | ⟨fp, h⟩
    · rw [hv, h, List.append_nil]; exact nq_takeWhile_nodot ip hnd
    · rw [hv, h]; exact nq_takeWhile_dot ip fp hnd
  have t2 : val.takeWhile (· != 46) = ip' := by
    rcases H.shape with ⟨h, _⟩ | h
    · rw [h]; exact nq_takeWhile_nodot ip' hnd'
    · rw [h]; exact nq_takeWhile_dot ip' fp' hnd'
  have hip : ip' = ip := by rw [← t2, t1]
  refine ⟨hip, ?_⟩
  rcases H.shape with ⟨h, h2⟩ | h
  · rw [hip, hv] at h
    have : tl = [] := by
      have := congrArg List.length h
      rw [List.length_append] at this
      exact List.eq_nil_of_length_eq_zero (by omega)
    exact Or.inl ⟨this, h2⟩
  · rw [hip, hv] at h
    exact Or.inr (List.append_cancel_left h)

/-- **the `q` value, every text**: either the text is a `q` text (`NqQText`: digits, optionally a dot and at most three
    digits, value at most 1 — the integer part may be empty or have leading zeros) and Q is set to its value in
    thousandths, nothing else changes; or it is not, Q is left alone and the parameter-error indication is set: one of
    "not a number", "too long", "bad value" with the offset of the START of the value — except for more than three bytes
    after the first dot: "too long" with the offset of the END of the value. -/
theorem nq_setQ_total (pf : PFromBody) (val : List UInt8) :
    (∃ ip fp, NqQText val ip fp ∧ setQ pf val = { pf with q := qValue ip fp }) ∨
    ((¬ ∃ ip fp, NqQText val ip fp) ∧
      ∃ e, (e = .valNotNumber ∨ e = .valTooLong ∨ e = .valBad) ∧
        (setQ pf val = { pf with paramErr := e, errOffs := trunc16 pf.vstart } ∨
         (e = .valTooLong ∧ setQ pf val = { pf with paramErr := e, errOffs := trunc16 pf.vend }))) := by
  obtain ⟨ip, tl, hv, hnd, htl⟩ := nq_split val
  have huniq := nq_unique val ip tl
  by_cases hi : AllDigits ip
  · by_cases hfit : decOf ip ≤ maxU64
    · rcases htl with h0 | ⟨fp, h0⟩
      · -- no dot
        have hval : val = ip := by rw [hv, h0, List.append_nil]
        by_cases h1 : decOf ip ≤ 1
        · have H : NqQText val ip [] :=
            ⟨hi, (fun c hc => by cases hc), by simp, h1, (fun _ => decOf_nil), Or.inl ⟨hval, rfl⟩⟩
          exact Or.inl ⟨ip, [], H, nq_setQ_accept pf val ip [] H⟩
        · refine Or.inr ⟨?_, .valBad, Or.inr (Or.inr rfl), Or.inl ?_⟩
          · rintro ⟨ip', fp', H⟩
            have := (huniq ip' fp' hv hnd (Or.inl h0) H).1
            have := H.le1
            subst ip'; omega
          · rw [hval]
            exact (nq_setQ_range pf ip [] hi (fun c hc => by cases hc) hfit (by simp) (Or.inl (by omega))).1 (by omega)
      · -- a dot
        have hval : val = ip ++ 46 :: fp := by rw [hv, h0]
        by_cases hl : fp.length ≤ 3
        · by_cases hf : AllDigits fp
          · by_cases hok : decOf ip ≤ 1 ∧ (decOf ip = 1 → decOf fp = 0)
            · have H : NqQText val ip fp := ⟨hi, hf, hl, hok.1, hok.2, Or.inr hval⟩
              exact Or.inl ⟨ip, fp, H, nq_setQ_accept pf val ip fp H⟩
            · refine Or.inr ⟨?_, .valBad, Or.inr (Or.inr rfl), Or.inl ?_⟩
              · rintro ⟨ip', fp', H⟩
                obtain ⟨e1, e2⟩ := huniq ip' fp' hv hnd (Or.inr ⟨fp, h0⟩) H
                rcases e2 with ⟨e2, _⟩ | e2
                · rw [h0] at e2; cases e2
                · rw [h0] at e2; cases e2
                  subst ip'
                  exact hok ⟨H.le1, H.one⟩
              · rw [hval]
                refine (nq_setQ_range pf ip fp hi hf hfit hl ?_).2
                by_cases h1 : decOf ip ≤ 1
                · have h2 : ¬ (decOf ip = 1 → decOf fp = 0) := fun h => hok ⟨h1, h⟩
                  by_cases h3 : decOf ip = 1
                  · exact Or.inr ⟨h3, by
                      rcases Nat.eq_zero_or_pos (decOf fp) with h4 | h4
                      · exact absurd (fun _ => h4) h2
                      · exact h4⟩
                  · exact absurd (fun h => absurd h h3) h2
                · exact Or.inl (by omega)
          · refine Or.inr ⟨?_, .valNotNumber, Or.inl rfl, Or.inl ?_⟩
            · rintro ⟨ip', fp', H⟩
              obtain ⟨e1, e2⟩ := huniq ip' fp' hv hnd (Or.inr ⟨fp, h0⟩) H
              rcases e2 with ⟨e2, _⟩ | e2
              · rw [h0] at e2; cases e2
              · rw [h0] at e2; cases e2
                exact hf H.df
            · rw [hval]; exact nq_setQ_frac_nondigit pf ip fp hi hfit hf hl
        · refine Or.inr ⟨?_, .valTooLong, Or.inr (Or.inl rfl), Or.inr ⟨rfl, ?_⟩⟩
          · rintro ⟨ip', fp', H⟩
            obtain ⟨e1, e2⟩ := huniq ip' fp' hv hnd (Or.inr ⟨fp, h0⟩) H
            rcases e2 with ⟨e2, _⟩ | e2
            · rw [h0] at e2; cases e2
            · rw [h0] at e2; cases e2
              exact hl H.len
          · rw [hval]; exact nq_setQ_long pf ip fp hnd (by omega)
    · -- integer part too big for 64 bits
      have hno : ¬ ∃ ip' fp', NqQText val ip' fp' := by
        rintro ⟨ip', fp', H⟩
        have := (huniq ip' fp' hv hnd htl H).1
        have := H.le1
        subst ip'; unfold maxU64 at hfit; omega
      rcases htl with h0 | ⟨fp, h0⟩
      · refine Or.inr ⟨hno, .valTooLong, Or.inr (Or.inl rfl), Or.inl ?_⟩
        rw [hv, h0, List.append_nil]
        exact (nq_setQ_int_huge pf ip [] hi (by omega) (by simp)).1
      · by_cases hl : fp.length ≤ 3
        · refine Or.inr ⟨hno, .valTooLong, Or.inr (Or.inl rfl), Or.inl ?_⟩
          rw [hv, h0]
          exact (nq_setQ_int_huge pf ip fp hi (by omega) hl).2
        · refine Or.inr ⟨hno, .valTooLong, Or.inr (Or.inl rfl), Or.inr ⟨rfl, ?_⟩⟩
          rw [hv, h0]; exact nq_setQ_long pf ip fp hnd (by omega)
  · have hno : ¬ ∃ ip' fp', NqQText val ip' fp' := by
      rintro ⟨ip', fp', H⟩
      have := (huniq ip' fp' hv hnd htl H).1
      subst ip'; exact hi H.di
    rcases htl with h0 | ⟨fp, h0⟩
    · refine Or.inr ⟨hno, .valNotNumber, Or.inl rfl, Or.inl ?_⟩
      rw [hv, h0, List.append_nil]
      exact (nq_setQ_int_nondigit pf ip [] hnd hi (by simp)).1
    · by_cases hl : fp.length ≤ 3
      · refine Or.inr ⟨hno, .valNotNumber, Or.inl rfl, Or.inl ?_⟩
        rw [hv, h0]
        exact (nq_setQ_int_nondigit pf ip fp hnd hi hl).2
      · refine Or.inr ⟨hno, .valTooLong, Or.inr (Or.inl rfl), Or.inr ⟨rfl, ?_⟩⟩
        rw [hv, h0]; exact nq_setQ_long pf ip fp hnd (by omega)


/-- **iff**: on an object without a pending parameter error, `setQ` leaves the error indication clear exactly for the
    `q` texts -/
theorem nq_setQ_ok_iff (pf : PFromBody) (val : List UInt8) (hok : pf.paramErr = .ok) :
    (setQ pf val).paramErr = .ok ↔ ∃ ip fp, NqQText val ip fp := by
  rcases nq_setQ_total pf val with ⟨ip, fp, H, _⟩ | ⟨hno, e, he, hs | ⟨_, hs⟩⟩
  · exact ⟨fun _ => ⟨ip, fp, H⟩, fun _ => by rw [nq_setQ_accept pf val ip fp H]; exact hok⟩
  · refine ⟨fun h => ?_, fun h => absurd h hno⟩
    rw [hs] at h
    rcases he with he | he | he <;> (rw [he] at h; cases h)
  · refine ⟨fun h => ?_, fun h => absurd h hno⟩
    rw [hs] at h
    rcases he with he | he | he <;> (rw [he] at h; cases h)

/-- non-vacuity: `0`, `1`, `0.`, `0.5`, `1.000` are `q` texts — and so are `.5` (empty integer part) and `001` (leading
    zeros): the code accepts them -/
theorem nq_qtext_examples :
    NqQText [48] [48] [] ∧ NqQText [49] [49] [] ∧ NqQText [48, 46] [48] [] ∧ NqQText [48, 46, 53] [48] [53] ∧
    NqQText [49, 46, 48, 48, 48] [49] [48, 48, 48] ∧ NqQText [46, 53] [] [53] ∧ NqQText [48, 48, 49] [48, 48, 49] [] := by
  have d0 : IsDigitB 48 := by unfold IsDigitB; decide
  have d1 : IsDigitB 49 := by unfold IsDigitB; decide
  have d5 : IsDigitB 53 := by unfold IsDigitB; decide
  have hd : ∀ l : List UInt8, (∀ c ∈ l, c = 48 ∨ c = 49 ∨ c = 53) → AllDigits l := by
    intro l hl c hc
    rcases hl c hc with h | h | h <;> (rw [h]; assumption)
  refine ⟨⟨hd _ (by simp), hd _ (by simp), by simp, ?_, ?_, Or.inl ⟨rfl, rfl⟩⟩,
    ⟨hd _ (by simp), hd _ (by simp), by simp, ?_, ?_, Or.inl ⟨rfl, rfl⟩⟩,
    ⟨hd _ (by simp), hd _ (by simp), by simp, ?_, ?_, Or.inr rfl⟩,
    ⟨hd _ (by simp), hd _ (by simp), by simp, ?_, ?_, Or.inr rfl⟩,
    ⟨hd _ (by simp), hd _ (by simp), by simp, ?_, ?_, Or.inr rfl⟩,
    ⟨hd _ (by simp), hd _ (by simp), by simp, ?_, ?_, Or.inr rfl⟩,
    ⟨hd _ (by simp), hd _ (by simp), by simp, ?_, ?_, Or.inl ⟨rfl, rfl⟩⟩⟩ <;>
  simp [decOf, decFrom, dval_def]

/-- **`q=value`, every value**: lifted to the effect of the parameter on the object -/
theorem nq_param_q_any (b : Buf) (ps pe vs ve : Nat) (a : PAcc) (h1 : ps < pe) (h2 : vs < ve) (h3 : pe ≤ b.size)
    (h4 : ve ≤ b.size) (hfit : b.size ≤ 65535) (hn : cmpEqL (b.extract ps pe) sQ = true) :
    (∃ ip fp, NqQText (b.extract vs ve).toList ip fp ∧ paramEffect b ps pe vs ve a = { a with q := qValue ip fp }) ∨
    ((¬ ∃ ip fp, NqQText (b.extract vs ve).toList ip fp) ∧
      ∃ e, (e = .valNotNumber ∨ e = .valTooLong ∨ e = .valBad) ∧
        (paramEffect b ps pe vs ve a = { a with paramErr := e, errOffs := vs } ∨
         (e = .valTooLong ∧ paramEffect b ps pe vs ve a = { a with paramErr := e, errOffs := ve }))) := by
  have hlen := cmpEqL_len hn
  have t1 : cmpEqL (b.extract ps pe) sTag = false := cmpEqL_false_of_len (by rw [hlen]; decide)
  have t2 : cmpEqL (b.extract ps pe) sExpires = false := cmpEqL_false_of_len (by rw [hlen]; decide)
  have hpe : paramEffect b ps pe vs ve a =
      (setQ { (({} : PFromBody).withAcc a) with pstart := ps, pend := pe, vstart := vs, vend := ve }
          (b.extract vs ve).toList).acc := by
    rw [paramEffect_valued b ps pe vs ve a h1 h2 h3 h4, t1, t2, if_neg (by decide), if_neg (by decide), if_pos hn]
  rw [hpe]
  rcases nq_setQ_total { (({} : PFromBody).withAcc a) with pstart := ps, pend := pe, vstart := vs, vend := ve }
    (b.extract vs ve).toList with ⟨ip, fp, H, hs⟩ | ⟨hno, e, he, hs | ⟨he2, hs⟩⟩
  · exact Or.inl ⟨ip, fp, H, by rw [hs]; rfl⟩
  · refine Or.inr ⟨hno, e, he, Or.inl ?_⟩
    rw [hs]
    show ({ a with paramErr := e, errOffs := trunc16 vs } : PAcc) = _
    rw [trunc16_id (by omega)]
  · refine Or.inr ⟨hno, e, he, Or.inr ⟨he2, ?_⟩⟩
    rw [hs]
    show ({ a with paramErr := e, errOffs := trunc16 ve } : PAcc) = _
    rw [trunc16_id (by omega)]


/-- the hypotheses of `nq_param_q_any` are satisfiable: `Q=.5` (name in upper case, empty integer part) -/
example : paramEffect "Q=.5".toUTF8.data 0 1 2 4 {} = { q := 500 } := by
  have hv : ("Q=.5".toUTF8.data.extract 2 4).toList = [46, 53] := by decide +kernel
  have hq : NqQText [46, 53] [] [53] := nq_qtext_examples.2.2.2.2.2.1
  rcases nq_param_q_any "Q=.5".toUTF8.data 0 1 2 4 {} (by decide) (by decide) (by decide) (by decide) (by decide)
    (by decide +kernel) with ⟨ip, fp, H, he⟩ | ⟨hno, _⟩
  · rw [hv] at H
    obtain ⟨e1, e2⟩ := nq_unique [46, 53] [] [46, 53] ip fp rfl (fun c hc => by cases hc) (Or.inr ⟨[53], rfl⟩) H
    rcases e2 with ⟨e2, _⟩ | e2
    · cases e2
    · cases e2; subst e1
      rw [he]
      simp [qValue, decOf, decFrom, dval_def]
  · rw [hv] at hno
    exact absurd ⟨[], [53], hq⟩ hno

/-- tests (evaluation on concrete texts): `0.5000` -> too long, reported at the end of the value; `2`, `1.001` -> bad
    value; `0.a`, `-1`, `0..` -> not a number; `.5` -> 500 -/
example : (setQ { vstart := 10, vend := 16 } [48, 46, 53, 48, 48, 48]) =
    { vstart := 10, vend := 16, paramErr := .valTooLong, errOffs := 16 } := by decide +kernel
example : (setQ { vstart := 10, vend := 11 } [50]) = { vstart := 10, vend := 11, paramErr := .valBad, errOffs := 10 } := by
  decide +kernel
example : (setQ { vstart := 10, vend := 15 } [49, 46, 48, 48, 49]) =
    { vstart := 10, vend := 15, paramErr := .valBad, errOffs := 10 } := by decide +kernel
example : (setQ { vstart := 10, vend := 13 } [48, 46, 97]) =
    { vstart := 10, vend := 13, paramErr := .valNotNumber, errOffs := 10 } := by decide +kernel
example : (setQ { vstart := 10, vend := 13 } [48, 46, 46]) =
    { vstart := 10, vend := 13, paramErr := .valNotNumber, errOffs := 10 } := by decide +kernel
example : (setQ { vstart := 10, vend := 12 } [46, 53]) = { vstart := 10, vend := 12, q := 500 } := by decide +kernel

/-! ## (2) trailing `;`, empty parameters, `name=` without a value -/

/-- `<uri> ;` and the line end: accepted, no parameters; the reported value INCLUDES the `;` -/
theorem n2_uri_trailing_semi (h : Nat) (b : Buf) (o g m p e : Nat) (hfit : b.size ≤ 65535) (h0 : b[o]? = some 60)
    (hu : Run isURIch b (o + 1) g) (hog : o + 1 ≤ g) (hg : b[g]? = some 62) (hl : Lws b (g + 1) m) (hm : b[m]? = some 59)
    (hl2 : Lws b (m + 1) p) (he : Eol b p e) {c2 : UInt8} (h2 : b[e]? = some c2) (hw2 : isWS c2 = false) :
    parseNameAddrPVal h b o {} =
      (e, .ok, { uri := ⟨o + 1, g - (o + 1)⟩, v := ⟨o, m + 1 - o⟩, type := h, state := .fin }) :=
  n2_bracket_params h b o o g m (m + 1) e .ok {} [] hfit (.none h0) hu hog hg hl hm
    (.done (m + 1) (m + 1) e .ok (Or.inl ⟨p, c2, hl2, he, h2, hw2, rfl, rfl⟩))

/-- `<uri> ;params ;` and the line end: accepted; the reported parameter span and value INCLUDE the trailing `;` (and
    the white space in front of it) -/
theorem n2_params_trailing_semi (h : Nat) (b : Buf) (o a g m w m2 p e : Nat) (nm : PField) (L : List PSpan)
    (hfit : b.size ≤ 65535) (hp : AddrPrefix b o nm a) (hu : Run isURIch b (a + 1) g) (hag : a + 1 ≤ g)
    (hg : b[g]? = some 62) (hl : Lws b (g + 1) m) (hm : b[m]? = some 59) (hL : PList b (m + 1) L w)
    (hl2 : Lws b w m2) (hm2 : b[m2]? = some 59) (hl3 : Lws b (m2 + 1) p) (he : Eol b p e) {c2 : UInt8}
    (h2 : b[e]? = some c2) (hw2 : isWS c2 = false) :
    parseNameAddrPVal h b o {} =
      (e, .ok, naResult h nm ⟨a + 1, g - (a + 1)⟩ ⟨firstPs 0 L, m2 + 1 - firstPs 0 L⟩ ⟨o, m2 + 1 - o⟩ (accAll b L {})) := by
  have hN := n2_of_plist_semi (h := h) hL hl2 hm2 (Or.inl ⟨p, c2, hl3, he, h2, hw2, rfl, rfl⟩)
  rw [n2_bracket_params h b o a g m (m2 + 1) e .ok nm L hfit hp hu hag hg hl hm hN]
  have hb := hL.bounds
  have : firstPs 0 L ≠ 0 := by omega
  unfold nqSpan; rw [if_neg this]

/-- `<uri> ;name=` and the line end (an `=` without a value as the only parameter): accepted; the parameter acts like
    `;name` (only `lr` is recognised: `tag=`, `q=`, `expires=` set nothing and raise no error); the reported spans
    INCLUDE the `=` -/
theorem n2_empty_value (h : Nat) (b : Buf) (o a g m ps pe eq p e : Nat) (nm : PField)
    (hfit : b.size ≤ 65535) (hp : AddrPrefix b o nm a) (hu : Run isURIch b (a + 1) g) (hag : a + 1 ≤ g)
    (hg : b[g]? = some 62) (hl : Lws b (g + 1) m) (hm : b[m]? = some 59) (hl1 : Lws b (m + 1) ps)
    (hn : Run isPNch b ps pe) (hlt : ps < pe) (hl2 : Lws b pe eq) (heq : b[eq]? = some 61)
    (hl3 : Lws b (eq + 1) p) (he : Eol b p e) {c2 : UInt8} (h2 : b[e]? = some c2) (hw2 : isWS c2 = false) :
    parseNameAddrPVal h b o {} =
      (e, .ok, naResult h nm ⟨a + 1, g - (a + 1)⟩ ⟨ps, eq + 1 - ps⟩ ⟨o, eq + 1 - o⟩
        (if cmpEqL (b.extract ps pe) sLr then { lr := true } else {})) := by
  have hN : NqParams h b (m + 1) [⟨ps, pe, 0, 0⟩] (eq + 1) e .ok :=
    .lastEq (m + 1) ps pe eq (eq + 1) e .ok hl1 hn hlt hl2 heq (Or.inl ⟨p, c2, hl3, he, h2, hw2, rfl, rfl⟩)
  rw [n2_bracket_params h b o a g m (eq + 1) e .ok nm _ hfit hp hu hag hg hl hm hN]
  have := hl1.le; have := hl2.le; have := get?_lt heq
  have hps : ps ≠ 0 := by omega
  have e1 : nqSpan (firstPs 0 [(⟨ps, pe, 0, 0⟩ : PSpan)]) (eq + 1) = ⟨ps, eq + 1 - ps⟩ := by
    show nqSpan (poNext 0 ps) (eq + 1) = _
    unfold nqSpan poNext; rw [if_pos rfl, if_neg hps]
  rw [e1, accAll_cons, accAll_nil, paramEffect_empty b ps pe 0 {} hlt (by omega)]

/-- the hypotheses of `n2_bracket_params` are satisfiable: `<a>;x;;y= ;` and CR LF — a parameter, an empty parameter, a
    parameter with `=` and no value, a trailing `;` -/
example : parseNameAddrPVal HdrFrom "<a>;x;;y= ;\r\nX".toUTF8.data 0 {} =
    (13, .ok, naResult HdrFrom {} ⟨1, 1⟩ ⟨4, 7⟩ ⟨0, 11⟩ {}) := by
  have hx : ParamAt "<a>;x;;y= ;\r\nX".toUTF8.data (3 + 1) ⟨4, 5, 0, 0⟩ 5 :=
    .flag 4 5 (.nil 4) (run_of_check (by decide)) (by decide)
  have hN : NqParams HdrFrom "<a>;x;;y= ;\r\nX".toUTF8.data (3 + 1) [⟨4, 5, 0, 0⟩, ⟨7, 8, 0, 0⟩] 11 13 .ok :=
    .cons 4 5 5 _ _ 11 13 .ok hx (.nil 5) (by decide)
      (.skip 6 6 _ 11 13 .ok (.nil 6) (by decide)
        (.consEq 7 7 8 8 10 [] 11 13 .ok (.nil 7) (run_of_check (by decide)) (by decide) (.nil 8) (by decide)
          (.ws 9 10 32 (by decide) (by decide) (.nil 10)) (by decide)
          (.done 11 11 13 .ok (Or.inl ⟨11, 88, .nil 11, .crlf 11 (by decide) (by decide), by decide, by decide, rfl, rfl⟩))))
  have := n2_bracket_params HdrFrom _ 0 0 2 3 11 13 .ok {} _ (by decide) (.none (by decide)) (run_of_check (by decide))
    (by decide) (by decide) (.nil 3) (by decide) hN
  rw [this]
  decide +kernel

/-- tests (evaluation): trailing `;` before a comma — the reported value includes the white space before the comma -/
example : (parseNameAddrPVal HdrContact "<a>;lr; ,<x>\r\nX".toUTF8.data 0 {}) =
    (9, .moreValues, { uri := ⟨1, 1⟩, params := ⟨4, 4⟩, v := ⟨0, 8⟩, lr := true, type := HdrContact, state := .fin }) := by
  decide +kernel

example : (parseNameAddrPVal HdrContact "<a>;tag=\r\nX".toUTF8.data 0 {}) =
    (10, .ok, { uri := ⟨1, 1⟩, params := ⟨4, 4⟩, v := ⟨0, 8⟩, type := HdrContact, state := .fin }) := by
  decide +kernel


/-! ## (3) rejection of ill-formed values: verdict and offset -/

theorem n3_parse_of_loop_err (h : Nat) (b : Buf) (o : Nat) {o' : Nat} {e : Err} {st : PFromBody}
    (hr : runLoop (naMachine h) b o {} = (o', e, st)) (he : e = .badChar ∨ e = .bad) :
    parseNameAddrPVal h b o {} = (o', e, { st with s := 0, soffs := 0 }) := by
  unfold parseNameAddrPVal
  rw [if_neg (by decide)]
  show ((runLoop (naMachine h) b o {}).1, (runLoop (naMachine h) b o {}).2.1,
    naExit 0 (runLoop (naMachine h) b o {}).2.1 (runLoop (naMachine h) b o {}).2.2) = _
  rw [hr]
  unfold naExit
  rcases he with rfl | rfl <;> rfl

/-- **unterminated `<` / a second `<`**: `[display-name] <` followed by URI bytes and then — instead of `>` — a space,
    a tab, a CR, a LF (the line end) or another `<`: verdict "bad character", the offset is that of the offending byte
    (inside the value), the object is left in the "inside the URI" state with only the display name recorded -/
theorem n3_uri_unterminated (h : Nat) (b : Buf) (o a g : Nat) (nm : PField) (hfit : b.size ≤ 65535)
    (hp : AddrPrefix b o nm a) (hu : Run isURIch b (a + 1) g) (hag : a + 1 ≤ g) {c : UInt8} (hg : b[g]? = some c)
    (hc : c = 60 ∨ isLWSch c = true) :
    (∃ x, parseNameAddrPVal h b o {} = (g, .badChar, { name := nm, v := ⟨o, x⟩, state := .uri })) ∧ o < g ∧ g < b.size := by
  obtain ⟨hoa, x, hrun⟩ := hp.run h hfit
  refine ⟨⟨x, ?_⟩, by omega, get?_lt hg⟩
  have hloop : runLoop (naMachine h) b o {} = (g, .badChar, uriSt nm o x a) := by
    rw [hrun, runLoop_run (naMachine h) b isURIch (uriSt nm o x a) (fun k c' _ hc' => (NaTr.u_tok (h := h) (b := b) (i := k) (pf := uriSt nm o x a) rfl (isURIch_iff.1 hc').1 (isURIch_iff.1 hc').2).eq) (a + 1) g hag hu]
    exact na_tr_done hg (.u_bad rfl hc)
  rw [n3_parse_of_loop_err h b o hloop (Or.inl rfl)]
  rfl

/-- **empty URI `<>`**: NOT rejected — the value is accepted with an empty URI span (instance of the bracket form) -/
theorem n3_empty_uri (h : Nat) (b : Buf) (o a o' : Nat) (e' : Err) (nm : PField) (hfit : b.size ≤ 65535)
    (hp : AddrPrefix b o nm a) (hg : b[a + 1]? = some 62) (T : Term h b (a + 2) o' e') :
    parseNameAddrPVal h b o {} = (o', e', naResult h nm ⟨a + 1, 0⟩ {} ⟨o, a + 2 - o⟩ {}) := by
  have := parseNameAddr_bracket h b o a (a + 1) o' e' nm hfit hp (fun k h1 h2 => by omega) (Nat.le_refl _) hg T
  rw [this, Nat.sub_self]

/-- the inside of a quoted string from `i` up to `w`, where it is NOT closed: ordinary bytes, `\x` pairs and linear white
    space followed by a byte that is not white space (as in `NaQBody`, without the closing quote) -/
inductive NqQOpen (b : Buf) : Nat → Nat → Prop
  | nil (w : Nat) : NqQOpen b w w
  | ch (i j : Nat) (c : UInt8) : b[i]? = some c → isQch c = true → NqQOpen b (i + 1) j → NqQOpen b i j
  | esc (i j : Nat) (c1 : UInt8) : b[i]? = some 92 → b[i + 1]? = some c1 → isCRLFch c1 = false → NqQOpen b (i + 2) j →
      NqQOpen b i j
  | lws (i n j : Nat) (c : UInt8) : Lws b i n → i < n → b[n]? = some c → isLWSch c = false → NqQOpen b n j → NqQOpen b i j

theorem NqQOpen.le {b : Buf} {i j : Nat} (H : NqQOpen b i j) : i ≤ j := by
  induction H with
  | nil i => exact Nat.le_refl _
  | ch i j c _ _ _ ih => omega
  | esc i j c1 _ _ _ _ ih => omega
  | lws i n j c _ hlt _ _ _ ih => omega

theorem n3_qopen_run (h : Nat) {b : Buf} {i j : Nat} (H : NqQOpen b i j) (pf : PFromBody) (hst : IsQState pf.state) :
    runLoop (naMachine h) b i pf = runLoop (naMachine h) b j pf := by
  induction H with
  | nil i => rfl
  | ch i j c hc hq _ ih => exact (na_q_ch h pf hst hc hq).trans ih
  | esc i j c1 h0 h1 hc1 _ ih => exact (na_q_esc h pf hst h0 h1 hc1).trans ih
  | lws i n j c hl hlt hn hc _ ih => exact (na_q_lws h pf hst hl hlt hn hc).trans ih

/-- inside a quoted string (display name or parameter value): the line end -> verdict "bad header", offset after the line
    end, object untouched -/
theorem n3_q_eol (h : Nat) (b : Buf) (pf : PFromBody) (hst : IsQState pf.state) {w p e : Nat} (hl : Lws b w p)
    (he : Eol b p e) {c2 : UInt8} (h2 : b[e]? = some c2) (hw2 : isWS c2 = false) :
    runLoop (naMachine h) b w pf = (e, .bad, pf) :=
  na_eol_bad (fun hl t => .q_lws hst hl t) hl he h2 hw2 (.bad (.inr (.inr (.inr hst))))

/-- inside a quoted string: a backslash in front of CR / LF -> "bad character" at the CR / LF -/
theorem n3_q_esc_crlf (h : Nat) (b : Buf) (pf : PFromBody) (hst : IsQState pf.state) {w : Nat} (h0 : b[w]? = some 92)
    {c1 : UInt8} (h1 : b[w + 1]? = some c1) (hc1 : isCRLFch c1 = true) :
    runLoop (naMachine h) b w pf = (w + 1, .badChar, pf) :=
  na_tr_done h0 (.q_escCRLF hst rfl h1 hc1)


/-- the rest of a display name from `i` up to an opening quote at `k` (token bytes, white space, closed quoted strings) -/
inductive NqTailQ (b : Buf) : Nat → Nat → Prop
  | opn (k : Nat) : b[k]? = some 34 → NqTailQ b k k
  | ch (i k : Nat) (c : UInt8) : b[i]? = some c → isTokch c = true → NqTailQ b (i + 1) k → NqTailQ b i k
  | lws (i n k : Nat) (c : UInt8) : Lws b i n → i < n → b[n]? = some c → isLWSch c = false → NqTailQ b n k → NqTailQ b i k
  | q (i k1 k : Nat) : b[i]? = some 34 → NaQBody b (i + 1) k1 → NqTailQ b (k1 + 1) k → NqTailQ b i k

theorem NqTailQ.le {b : Buf} {i k : Nat} (H : NqTailQ b i k) : i ≤ k := by
  induction H with
  | opn k _ => exact Nat.le_refl _
  | ch i k c _ _ _ ih => omega
  | lws i n k c _ _ _ _ _ ih => omega
  | q i k1 k _ hq _ ih => have := hq.le; omega

theorem n3_tailq_run (h : Nat) (b : Buf) (o x : Nat) {i k : Nat} (H : NqTailQ b i k) :
    runLoop (naMachine h) b i (nmSt o x) = runLoop (naMachine h) b (k + 1) (nqQSt o x) := by
  induction H with
  | opn k hk =>
    exact na_tr hk (.quote_name (.inl rfl) rfl)
  | ch i k c hc ht _ ih => exact (na_nm_ch h o x hc ht).trans ih
  | lws i n k c hl hlt hn hcl _ ih => exact (na_nm_lws h o x hl hn hcl).trans ih
  | q i k1 k hc hq _ ih => exact (na_nm_q h o x hc hq).trans ih

/-- after a first token and white space: the rest of the display name up to the opening quote -/
theorem n3_nue_tailq (h : Nat) (b : Buf) (o t : Nat) {n k : Nat} (H : NqTailQ b n k) {c' : UInt8} (hn : b[n]? = some c')
    (hcl : isLWSch c' = false) (h42 : (c' == 42) = false) :
    runLoop (naMachine h) b n (nueSt o t) = runLoop (naMachine h) b (k + 1) (nqQSt o (t - o)) := by
  rcases H with ⟨_, hk⟩ | ⟨_, _, c'', hc, htk, H'⟩ | ⟨_, n', _, c'', hl', hlt', hn', hcl', H'⟩ | ⟨_, k1, _, hc, hq, H'⟩
  · exact na_tr hk (.quote_name (.inr (.inr rfl)) rfl)
  · rw [hn] at hc; cases hc
    rw [na_nue_tok h o t hn (isTok1_iff.2 ⟨htk, h42⟩)]
    exact n3_tailq_run h b o (t - o) H'
  · obtain ⟨c0, hc0, hl0⟩ := hl'.first hlt'
    rw [hn] at hc0; cases hc0
    rw [hcl] at hl0; cases hl0
  · rw [na_nue_q h o t hc hq]
    exact n3_tailq_run h b o (t - o) H'

/-- the part of a value in front of a quoted string of the display name that opens at `k`: nothing; a closed quoted string
    and more name; a token immediately followed by the quote; a token, white space and more name -/
inductive NqNameOpen (b : Buf) (o : Nat) : Nat → Prop
  | first : b[o]? = some 34 → NqNameOpen b o o
  | afterQ (k1 k : Nat) : b[o]? = some 34 → NaQBody b (o + 1) k1 → NqTailQ b (k1 + 1) k → NqNameOpen b o k
  | tokQ (t : Nat) (c : UInt8) : b[o]? = some c → isTok1 c = true → Run isTokch b (o + 1) t → o + 1 ≤ t →
      b[t]? = some 34 → NqNameOpen b o t
  | tok (t n k : Nat) (c c' : UInt8) : b[o]? = some c → isTok1 c = true → Run isTokch b (o + 1) t → o + 1 ≤ t →
      Lws b t n → t < n → b[n]? = some c' → isLWSch c' = false → (c' == 42) = false → NqTailQ b n k → NqNameOpen b o k

theorem NqNameOpen.run (h : Nat) {b : Buf} {o k : Nat} (H : NqNameOpen b o k) (hfit : b.size ≤ 65535) :
    o ≤ k ∧ ∃ x, runLoop (naMachine h) b o {} = runLoop (naMachine h) b (k + 1) (nqQSt o x) := by
  rcases H with h0 | ⟨k1, _, h0, hq, ht⟩ | ⟨t, c, h0, h1, hr, hot, ht⟩ | ⟨t, n, _, c, c', h0, h1, hr, hot, hl, hlt, hn, hcl, h42, ht⟩
  · refine ⟨Nat.le_refl _, 0, ?_⟩
    exact na_init_q h h0 hfit
  · have := hq.le; have := ht.le
    refine ⟨by omega, 0, ?_⟩
    rw [na_init_q h h0 hfit, na_name_quoted h b o 0 hq]
    exact n3_tailq_run h b o 0 ht
  · refine ⟨by omega, 0, ?_⟩
    rw [na_tok_run h b o k hfit h0 h1 hr hot]
    exact na_tr ht (.quote_name (.inr (.inl rfl)) rfl)
  · have := ht.le
    refine ⟨by omega, t - o, ?_⟩
    rw [na_tok_run h b o t hfit h0 h1 hr hot, na_nu_lws h b o t n hfit (by omega) hl hlt hn hcl]
    exact n3_nue_tailq h b o t ht hn hcl h42

theorem n3_isQ_nqQSt (o x : Nat) : IsQState (nqQSt o x).state := Or.inl rfl

/-- **unterminated quoted string in the display name**: a quote opens at `k` (at the start of the value or after name
    tokens / closed quoted strings) and the line ends before it is closed: verdict "bad header" (ErrHdrBad), the
    returned offset is the one after the line end (it is NOT the offset of the quote), nothing but the start of the
    value is recorded -/
theorem n3_name_quote_unterminated (h : Nat) (b : Buf) (o k w p e : Nat) (hfit : b.size ≤ 65535)
    (hpre : NqNameOpen b o k) (hq : NqQOpen b (k + 1) w) (hl : Lws b w p) (he : Eol b p e) {c2 : UInt8}
    (h2 : b[e]? = some c2) (hw2 : isWS c2 = false) :
    (∃ x, parseNameAddrPVal h b o {} = (e, .bad, { v := ⟨o, x⟩, state := .quoted })) ∧ o < e ∧ e ≤ b.size := by
  obtain ⟨hok, x, hrun⟩ := hpre.run h hfit
  have := hq.le; have := hl.le; have := he.gt; have := get?_lt h2
  refine ⟨⟨x, ?_⟩, by omega, by omega⟩
  have hloop : runLoop (naMachine h) b o {} = (e, .bad, nqQSt o x) := by
    rw [hrun, n3_qopen_run h hq _ (n3_isQ_nqQSt o x)]
    exact n3_q_eol h b _ (n3_isQ_nqQSt o x) hl he h2 hw2
  rw [n3_parse_of_loop_err h b o hloop (Or.inr rfl)]
  rfl

/-- … and a backslash in front of the CR / LF inside it: "bad character" at the CR / LF -/
theorem n3_name_quote_esc_crlf (h : Nat) (b : Buf) (o k w : Nat) (hfit : b.size ≤ 65535)
    (hpre : NqNameOpen b o k) (hq : NqQOpen b (k + 1) w) (h0 : b[w]? = some 92) {c1 : UInt8} (h1 : b[w + 1]? = some c1)
    (hc1 : isCRLFch c1 = true) :
    (∃ x, parseNameAddrPVal h b o {} = (w + 1, .badChar, { v := ⟨o, x⟩, state := .quoted })) ∧ o < w + 1 ∧ w + 1 < b.size := by
  obtain ⟨hok, x, hrun⟩ := hpre.run h hfit
  have := hq.le; have := get?_lt h1
  refine ⟨⟨x, ?_⟩, by omega, by omega⟩
  have hloop : runLoop (naMachine h) b o {} = (w + 1, .badChar, nqQSt o x) := by
    rw [hrun, n3_qopen_run h hq _ (n3_isQ_nqQSt o x)]
    exact n3_q_esc_crlf h b _ (n3_isQ_nqQSt o x) h0 h1 hc1
  rw [n3_parse_of_loop_err h b o hloop (Or.inl rfl)]
  rfl


/-- the front part of a value up to its first `;` at `m`: `[display-name] <uri> [LWS] ;` or `bare-uri [LWS] ;` -/
inductive NqHeadP (b : Buf) (o : Nat) : Nat → Prop
  | bracket (a g m : Nat) (nm : PField) : AddrPrefix b o nm a → Run isURIch b (a + 1) g → a + 1 ≤ g → b[g]? = some 62 →
      Lws b (g + 1) m → b[m]? = some 59 → NqHeadP b o m
  | bare (t m : Nat) (c : UInt8) : b[o]? = some c → isTok1 c = true → Run isTokch b (o + 1) t → o + 1 ≤ t → Lws b t m →
      b[m]? = some 59 → NqHeadP b o m

theorem NqHeadP.run (h : Nat) {b : Buf} {o m : Nat} (H : NqHeadP b o m) (hfit : b.size ≤ 65535) :
    o < m ∧ ∃ q base, runLoop (naMachine h) b o {} = runLoop (naMachine h) b (m + 1) (pst base (stNP q) 0 0 0 0 0 {}) := by
  rcases H with ⟨a, g, _, nm, hp, hu, hag, hg, hl, hm⟩ | ⟨t, _, c, hc, h1, hr, hot, hl, hm⟩
  · obtain ⟨hoa, x, hrun⟩ := hp.run h hfit
    have := hl.le
    refine ⟨by omega, false, { ufBase nm o a g with s := 0 }, ?_⟩
    rw [hrun, na_uri_to_uf h b nm o x a g hoa hag hu hg hfit, na_uf_sep h b _ rfl hl hm]
    rfl
  · have := hl.le
    obtain ⟨x, s', hsep⟩ := na_nu_sep h b o t m hfit (by omega) hl hm
    refine ⟨by omega, true, bareBase o t x s', ?_⟩
    rw [na_tok_run h b o t hfit hc h1 hr hot, hsep]

/-- zero or more well-formed parameters (`ParamAt`), each followed by optional white space and `;`; `j` = the byte
    after the last `;` -/
inductive NqSeps (b : Buf) : Nat → List PSpan → Nat → Prop
  | nil (i : Nat) : NqSeps b i [] i
  | cons (i w m j : Nat) (x : PSpan) (L : List PSpan) : ParamAt b i x w → Lws b w m → b[m]? = some 59 →
      NqSeps b (m + 1) L j → NqSeps b i (x :: L) j

theorem NqSeps.le {b : Buf} {i j : Nat} {L : List PSpan} (H : NqSeps b i L j) : i ≤ j := by
  induction H with
  | nil i => exact Nat.le_refl _
  | cons i w m j x L hx hl _ _ ih => have := hx.bounds; have := hl.le; omega

theorem n3_seps_run (h : Nat) (b : Buf) (q : Bool) (base : PFromBody) (hfit : b.size ≤ 65535) {i j : Nat}
    {L : List PSpan} (H : NqSeps b i L j) :
    ∀ (po : Nat) (a : PAcc), 0 < i →
      runLoop (naMachine h) b i (pst base (stNP q) po 0 0 0 0 a) =
        runLoop (naMachine h) b j (pst base (stNP q) (firstPs po L) 0 0 0 0 (accAll b L a)) := by
  induction H with
  | nil i => intro po a _; rfl
  | cons i w m j x L hx hl hm _ ih =>
    intro po a h0
    have hb := hx.bounds
    have hne : poNext po x.ps ≠ 0 := by unfold poNext; split <;> omega
    rw [na_param_sep h b q base po a hx hl hm h0 hfit, ih _ _ (by omega), n2_firstPs_idem _ L hne]
    rfl

theorem n3_parse_fst_snd (h : Nat) (b : Buf) (o : Nat) {o' : Nat} {e : Err} {st : PFromBody}
    (hr : runLoop (naMachine h) b o {} = (o', e, st)) :
    (parseNameAddrPVal h b o {}).1 = o' ∧ (parseNameAddrPVal h b o {}).2.1 = e := by
  unfold parseNameAddrPVal
  rw [if_neg (by decide)]
  show (runLoop (naMachine h) b o {}).1 = o' ∧ (runLoop (naMachine h) b o {}).2.1 = e
  rw [hr]; exact ⟨rfl, rfl⟩

/-- **`<` or `>` where a parameter name is expected or inside a parameter name** (after any number of well-formed
    parameters): "bad character" at that byte -/
theorem n3_param_name_bad (h : Nat) (b : Buf) (o m j ps k : Nat) (L : List PSpan) (hfit : b.size ≤ 65535)
    (hh : NqHeadP b o m) (hs : NqSeps b (m + 1) L j) (hl : Lws b j ps) (hn : Run isPNch b ps k) (hpk : ps ≤ k)
    {c : UInt8} (hk : b[k]? = some c) (hc : c = 60 ∨ c = 62) :
    (parseNameAddrPVal h b o {}).1 = k ∧ (parseNameAddrPVal h b o {}).2.1 = .badChar ∧ o < k ∧ k < b.size := by
  obtain ⟨hom, q, base, hrun⟩ := hh.run h hfit
  have := hs.le; have := hl.le
  have hcl : isLWSch c = false := by rcases hc with rfl | rfl <;> decide
  have hloop : ∃ st, runLoop (naMachine h) b o {} = (k, .badChar, st) := by
    rw [hrun, n3_seps_run h b q base hfit hs 0 {} (by omega)]
    by_cases hlt : ps < k
    · rw [na_pname_run h b q base _ _ j ps k hl hn hlt (by omega) hfit]
      exact ⟨_, na_tr_done hk (.p_bad (stPN_P q) (hc.elim .inl fun g => .inr (.inl g)))⟩
    · have hpk' : ps = k := by omega
      subst hpk'
      rw [na_np_lws h q base _ _ hl hk hcl]
      exact ⟨_, na_tr_done hk (.p_bad (stNP_P q) (hc.elim .inl fun g => .inr (.inl g)))⟩
  obtain ⟨st, hloop⟩ := hloop
  obtain ⟨r1, r2⟩ := n3_parse_fst_snd h b o hloop
  exact ⟨r1, r2, by omega, get?_lt hk⟩

/-- the parameter `name [LWS] = [LWS]` and the beginning of its value up to `k` (nothing, or a well-formed value) -/
def NqValPre (b : Buf) (i ps pe vs k : Nat) : Prop :=
  ∃ eq, Lws b i ps ∧ Run isPNch b ps pe ∧ ps < pe ∧ Lws b pe eq ∧ b[eq]? = some 61 ∧ Lws b (eq + 1) vs ∧
    (vs = k ∨ PVal b vs k)

/-- the run up to `k`: the automaton is at the start of the value or inside it -/
theorem n3_valpre_run (h : Nat) (b : Buf) (q : Bool) (base : PFromBody) (po : Nat) (a : PAcc) (hfit : b.size ≤ 65535)
    {i ps pe vs k : Nat} (H : NqValPre b i ps pe vs k) (h0 : 0 < i) {c : UInt8} (hk : b[k]? = some c)
    (hcl : isLWSch c = false) :
    i ≤ k ∧ ∃ st vs', (st = stNV q ∨ st = stPV q) ∧
      runLoop (naMachine h) b i (pst base (stNP q) po 0 0 0 0 a) =
        runLoop (naMachine h) b k (pst base st (poNext po ps) ps pe vs' 0 a) ∧ (st = stNV q → vs = k) := by
  obtain ⟨eq, hl, hn, hlt, hl2, heq, hl3, hv⟩ := H
  have := hl.le; have := hl2.le; have := hl3.le
  rcases hv with rfl | hv
  · refine ⟨by omega, stNV q, vs, Or.inl rfl, ?_, fun _ => rfl⟩
    rw [na_pname_run h b q base po a i ps pe hl hn hlt (by omega) hfit,
      na_peq_run h b q base _ ps pe eq vs a hl2 heq hl3 hk hcl]
  · obtain ⟨c1, hc1, hcl1⟩ := hv.first
    have := hv.lt
    refine ⟨by omega, stPV q, vs, Or.inr rfl, ?_, fun hst => ?_⟩
    · rw [na_pname_run h b q base po a i ps pe hl hn hlt (by omega) hfit,
        na_peq_run h b q base _ ps pe eq vs a hl2 heq hl3 hc1 hcl1, na_pval_run h hv q base _ ps pe vs a]
    · cases q <;> cases hst

/-- **`=`, `<` or `>` inside (or in place of) a parameter value**: "bad character" at that byte -/
theorem n3_param_value_bad (h : Nat) (b : Buf) (o m j ps pe vs k : Nat) (L : List PSpan) (hfit : b.size ≤ 65535)
    (hh : NqHeadP b o m) (hs : NqSeps b (m + 1) L j) (hv : NqValPre b j ps pe vs k)
    {c : UInt8} (hk : b[k]? = some c) (hc : c = 61 ∨ c = 60 ∨ c = 62) :
    (parseNameAddrPVal h b o {}).1 = k ∧ (parseNameAddrPVal h b o {}).2.1 = .badChar ∧ o < k ∧ k < b.size := by
  obtain ⟨hom, q, base, hrun⟩ := hh.run h hfit
  have := hs.le
  have hcl : isLWSch c = false := by rcases hc with rfl | rfl | rfl <;> decide
  obtain ⟨hjk, st, vs', hst, hrun2, _⟩ := n3_valpre_run h b q base (firstPs 0 L) (accAll b L {}) hfit hv (by omega) hk hcl
  have hloop : ∃ st', runLoop (naMachine h) b o {} = (k, .badChar, st') := by
    rw [hrun, n3_seps_run h b q base hfit hs 0 {} (by omega), hrun2]
    exact ⟨_, na_tr_done hk (.v_bad (hst.elim (fun g => g ▸ stNV_V q) fun g => g ▸ stPV_V q) hc)⟩
  obtain ⟨st', hloop⟩ := hloop
  obtain ⟨r1, r2⟩ := n3_parse_fst_snd h b o hloop
  exact ⟨r1, r2, by omega, get?_lt hk⟩

/-- **unterminated quoted string in a parameter value** (the quote opens at `k`, at the start of the value or after
    well-formed value text): verdict "bad header" (ErrHdrBad), offset after the line end -/
theorem n3_param_quote_unterminated (h : Nat) (b : Buf) (o m j ps pe vs k w p e : Nat) (L : List PSpan)
    (hfit : b.size ≤ 65535) (hh : NqHeadP b o m) (hs : NqSeps b (m + 1) L j) (hv : NqValPre b j ps pe vs k)
    (hk : b[k]? = some 34) (hq : NqQOpen b (k + 1) w) (hl : Lws b w p) (he : Eol b p e) {c2 : UInt8}
    (h2 : b[e]? = some c2) (hw2 : isWS c2 = false) :
    (parseNameAddrPVal h b o {}).1 = e ∧ (parseNameAddrPVal h b o {}).2.1 = .bad ∧ o < e ∧ e ≤ b.size := by
  obtain ⟨hom, q, base, hrun⟩ := hh.run h hfit
  have := hs.le; have := hq.le; have := hl.le; have := he.gt; have := get?_lt h2
  obtain ⟨hjk, st, vs', hst, hrun2, _⟩ :=
    n3_valpre_run h b q base (firstPs 0 L) (accAll b L {}) hfit hv (by omega) hk (by decide)
  have hloop : ∃ st', runLoop (naMachine h) b o {} = (e, .bad, st') := by
    rw [hrun, n3_seps_run h b q base hfit hs 0 {} (by omega), hrun2]
    rcases hst with rfl | rfl
    · rw [na_tr hk (.vQuoteNew q rfl), n3_qopen_run h hq _ (stQV_isQ q)]
      exact ⟨_, n3_q_eol h b _ (stQV_isQ q) hl he h2 hw2⟩
    · rw [na_tr hk (.vQuote q rfl), n3_qopen_run h hq _ (stQV_isQ q)]
      exact ⟨_, n3_q_eol h b _ (stQV_isQ q) hl he h2 hw2⟩
  obtain ⟨st', hloop⟩ := hloop
  obtain ⟨r1, r2⟩ := n3_parse_fst_snd h b o hloop
  exact ⟨r1, r2, by omega, by omega⟩


/-- `Bob <sip:a` CR LF: the hypotheses of `n3_uri_unterminated` are satisfiable; "bad character" at the CR (offset 10) -/
example : ∃ x, parseNameAddrPVal HdrFrom "Bob <sip:a\r\nX".toUTF8.data 0 {} =
    (10, .badChar, { name := ⟨0, 4⟩, v := ⟨0, x⟩, state := .uri }) :=
  (n3_uri_unterminated HdrFrom "Bob <sip:a\r\nX".toUTF8.data 0 4 10 ⟨0, 4 - 0⟩ (by decide)
    (.token 3 4 4 66 60 (by decide) (by decide) (run_of_check (by decide)) (by decide)
      (.ws 3 4 32 (by decide) (by decide) (.nil 4)) (by decide) (by decide) (by decide) (by decide) (.done 4 (by decide)))
    (run_of_check (by decide)) (by decide) (c := 13) (by decide) (Or.inr (by decide))).1

/-- `A "B c` CR LF: the hypotheses of `n3_name_quote_unterminated` are satisfiable; "bad header", offset 8 (after CR LF) -/
example : ∃ x, parseNameAddrPVal HdrFrom "A \"B c\r\nX".toUTF8.data 0 {} = (8, .bad, { v := ⟨0, x⟩, state := .quoted }) :=
  (n3_name_quote_unterminated HdrFrom "A \"B c\r\nX".toUTF8.data 0 2 6 6 8 (by decide)
    (.tok 1 2 2 65 34 (by decide) (by decide) (run_of_check (by decide)) (by decide)
      (.ws 1 2 32 (by decide) (by decide) (.nil 2)) (by decide) (by decide) (by decide) (by decide) (.opn 2 (by decide)))
    (.ch 3 6 66 (by decide) (by decide)
      (.lws 4 5 6 99 (.ws 4 5 32 (by decide) (by decide) (.nil 5)) (by decide) (by decide) (by decide)
        (.ch 5 6 99 (by decide) (by decide) (.nil 6))))
    (.nil 6) (.crlf 6 (by decide) (by decide)) (c2 := 88) (by decide) (by decide)).1

/-- `<a>;x;y<` : the hypotheses of `n3_param_name_bad` are satisfiable; "bad character" at offset 7 -/
example : (parseNameAddrPVal HdrFrom "<a>;x;y<\r\nX".toUTF8.data 0 {}).1 = 7 ∧
    (parseNameAddrPVal HdrFrom "<a>;x;y<\r\nX".toUTF8.data 0 {}).2.1 = .badChar ∧ 0 < 7 ∧
    7 < "<a>;x;y<\r\nX".toUTF8.data.size :=
  n3_param_name_bad HdrFrom "<a>;x;y<\r\nX".toUTF8.data 0 3 6 6 7 [⟨4, 5, 0, 0⟩] (by decide)
    (.bracket 0 2 3 {} (.none (by decide)) (run_of_check (by decide)) (by decide) (by decide) (.nil 3) (by decide))
    (.cons 4 5 5 6 _ _ (.flag 4 5 (.nil 4) (run_of_check (by decide)) (by decide)) (.nil 5) (by decide) (.nil 6))
    (.nil 6) (run_of_check (by decide)) (by decide) (c := 60) (by decide) (Or.inl rfl)

/-- `a:b;t=x=` : the hypotheses of `n3_param_value_bad` are satisfiable (bare URI); "bad character" at offset 7 -/
example : (parseNameAddrPVal HdrTo "a:b;t=x=\r\nX".toUTF8.data 0 {}).1 = 7 ∧
    (parseNameAddrPVal HdrTo "a:b;t=x=\r\nX".toUTF8.data 0 {}).2.1 = .badChar ∧ 0 < 7 ∧
    7 < "a:b;t=x=\r\nX".toUTF8.data.size :=
  n3_param_value_bad HdrTo "a:b;t=x=\r\nX".toUTF8.data 0 3 4 4 5 6 7 [] (by decide)
    (.bare 3 3 97 (by decide) (by decide) (run_of_check (by decide)) (by decide) (.nil 3) (by decide))
    (.nil 4)
    ⟨5, .nil 4, run_of_check (by decide), by decide, .nil 5, by decide, .nil 6, Or.inr (Or.inl ⟨120, by decide, by decide, .nil 7⟩)⟩
    (c := 61) (by decide) (Or.inl rfl)

/-- `<a>;t="x` CR LF: the hypotheses of `n3_param_quote_unterminated` are satisfiable; "bad header", offset 10 -/
example : (parseNameAddrPVal HdrContact "<a>;t=\"x\r\nX".toUTF8.data 0 {}).1 = 10 ∧
    (parseNameAddrPVal HdrContact "<a>;t=\"x\r\nX".toUTF8.data 0 {}).2.1 = .bad ∧ 0 < 10 ∧
    10 ≤ "<a>;t=\"x\r\nX".toUTF8.data.size :=
  n3_param_quote_unterminated HdrContact "<a>;t=\"x\r\nX".toUTF8.data 0 3 4 4 5 6 6 8 8 10 [] (by decide)
    (.bracket 0 2 3 {} (.none (by decide)) (run_of_check (by decide)) (by decide) (by decide) (.nil 3) (by decide))
    (.nil 4) ⟨5, .nil 4, run_of_check (by decide), by decide, .nil 5, by decide, .nil 6, Or.inl rfl⟩
    (by decide) (.ch 7 8 120 (by decide) (by decide) (.nil 8)) (.nil 8) (.crlf 8 (by decide) (by decide)) (c2 := 88)
    (by decide) (by decide)

/-- test (evaluation): `<>` is accepted with an empty URI -/
example : parseNameAddrPVal HdrFrom "<>\r\nX".toUTF8.data 0 {} =
    (4, .ok, { uri := ⟨1, 0⟩, v := ⟨0, 2⟩, type := HdrFrom, state := .fin }) := by decide +kernel


/-- more display name from `i` up to `w` (token bytes, white space followed by more name, closed quoted strings) -/
inductive NqTailE (b : Buf) : Nat → Nat → Prop
  | stop (w : Nat) : NqTailE b w w
  | ch (i w : Nat) (c : UInt8) : b[i]? = some c → isTokch c = true → NqTailE b (i + 1) w → NqTailE b i w
  | lws (i n w : Nat) (c : UInt8) : Lws b i n → i < n → b[n]? = some c → isLWSch c = false → NqTailE b n w → NqTailE b i w
  | q (i k1 w : Nat) : b[i]? = some 34 → NaQBody b (i + 1) k1 → NqTailE b (k1 + 1) w → NqTailE b i w

theorem NqTailE.le {b : Buf} {i w : Nat} (H : NqTailE b i w) : i ≤ w := by
  induction H with
  | stop w => exact Nat.le_refl _
  | ch i w c _ _ _ ih => omega
  | lws i n w c _ _ _ _ _ ih => omega
  | q i k1 w _ hq _ ih => have := hq.le; omega

theorem n3_taile_run (h : Nat) (b : Buf) (o x : Nat) {i w : Nat} (H : NqTailE b i w) :
    runLoop (naMachine h) b i (nmSt o x) = runLoop (naMachine h) b w (nmSt o x) := by
  induction H with
  | stop w => rfl
  | ch i w c hc ht _ ih => exact (na_nm_ch h o x hc ht).trans ih
  | lws i n w c hl hlt hn hcl _ ih => exact (na_nm_lws h o x hl hn hcl).trans ih
  | q i k1 w hc hq _ ih => exact (na_nm_q h o x hc hq).trans ih

/-- a value that is a display name and nothing else, up to `w`: a quoted string and more name; or a token, white space,
    and then a token byte or a quoted string and more name -/
inductive NqNameOnly (b : Buf) (o : Nat) : Nat → Prop
  | afterQ (k1 w : Nat) : b[o]? = some 34 → NaQBody b (o + 1) k1 → NqTailE b (k1 + 1) w → NqNameOnly b o w
  | tokTok (t n w : Nat) (c c' : UInt8) : b[o]? = some c → isTok1 c = true → Run isTokch b (o + 1) t → o + 1 ≤ t →
      Lws b t n → t < n → b[n]? = some c' → isTok1 c' = true → NqTailE b (n + 1) w → NqNameOnly b o w
  | tokQ (t n k1 w : Nat) (c : UInt8) : b[o]? = some c → isTok1 c = true → Run isTokch b (o + 1) t → o + 1 ≤ t →
      Lws b t n → t < n → b[n]? = some 34 → NaQBody b (n + 1) k1 → NqTailE b (k1 + 1) w → NqNameOnly b o w

theorem NqNameOnly.run (h : Nat) {b : Buf} {o w : Nat} (H : NqNameOnly b o w) (hfit : b.size ≤ 65535) :
    o < w ∧ ∃ x, runLoop (naMachine h) b o {} = runLoop (naMachine h) b w (nmSt o x) := by
  rcases H with ⟨k1, _, h0, hq, ht⟩ | ⟨t, n, _, c, c', h0, h1, hr, hot, hl, hlt, hn, h1', ht⟩ |
    ⟨t, n, k1, _, c, h0, h1, hr, hot, hl, hlt, hn, hq, ht⟩
  · have := hq.le; have := ht.le
    refine ⟨by omega, 0, ?_⟩
    rw [na_init_q h h0 hfit, na_name_quoted h b o 0 hq]
    exact n3_taile_run h b o 0 ht
  · have := ht.le
    have hcl : isLWSch c' = false := (isTokch_iff.1 (isTok1_iff.1 h1').1).1
    refine ⟨by omega, t - o, ?_⟩
    rw [na_tok_run h b o t hfit h0 h1 hr hot, na_nu_lws h b o t n hfit (by omega) hl hlt hn hcl]
    rw [na_nue_tok h o t hn h1']
    exact n3_taile_run h b o (t - o) ht
  · have := ht.le; have := hq.le
    refine ⟨by omega, t - o, ?_⟩
    rw [na_tok_run h b o t hfit h0 h1 hr hot, na_nu_lws h b o t n hfit (by omega) hl hlt hn (by decide)]
    rw [na_nue_q h o t hn hq]
    exact n3_taile_run h b o (t - o) ht

/-- **a display name that is never followed by `<uri>`** (`Bob sip:a@b`, `"Bob" sip:a@b`, … — two or more tokens /
    quoted strings and then the line end): verdict "bad header" (ErrHdrBad), offset after the line end -/
theorem n3_name_without_uri (h : Nat) (b : Buf) (o w p e : Nat) (hfit : b.size ≤ 65535) (hn : NqNameOnly b o w)
    (hl : Lws b w p) (he : Eol b p e) {c2 : UInt8} (h2 : b[e]? = some c2) (hw2 : isWS c2 = false) :
    (∃ x, parseNameAddrPVal h b o {} = (e, .bad, { v := ⟨o, x⟩, state := .name })) ∧ o < e ∧ e ≤ b.size := by
  obtain ⟨how, x, hrun⟩ := hn.run h hfit
  have := hl.le; have hgt := he.gt; have := get?_lt h2
  refine ⟨⟨x, ?_⟩, by omega, by omega⟩
  have hloop : runLoop (naMachine h) b o {} = (e, .bad, nmSt o x) := by
    rw [hrun]
    exact na_eol_bad (fun hl t => .a_lws (.inr (.inl rfl)) hl t) hl he h2 hw2 (.bad (.inr (.inl rfl)))
  rw [n3_parse_of_loop_err h b o hloop (Or.inr rfl)]
  rfl

/-- `Bob sip:a` CR LF: the hypotheses of `n3_name_without_uri` are satisfiable; "bad header", offset 11 -/
example : ∃ x, parseNameAddrPVal HdrFrom "Bob sip:a\r\nX".toUTF8.data 0 {} = (11, .bad, { v := ⟨0, x⟩, state := .name }) :=
  (n3_name_without_uri HdrFrom "Bob sip:a\r\nX".toUTF8.data 0 9 9 11 (by decide)
    (.tokTok 3 4 9 66 115 (by decide) (by decide) (run_of_check (by decide)) (by decide)
      (.ws 3 4 32 (by decide) (by decide) (.nil 4)) (by decide) (by decide) (by decide)
      (.ch 5 9 105 (by decide) (by decide) (.ch 6 9 112 (by decide) (by decide) (.ch 7 9 58 (by decide) (by decide)
        (.ch 8 9 97 (by decide) (by decide) (.stop 9))))))
    (.nil 9) (.crlf 9 (by decide) (by decide)) (c2 := 88) (by decide) (by decide)).1


/-! ## (4) bytes after `>` that are ignored; the comma in the single-valued header kinds (From / To) -/

theorem n4_single_from_to : multipleValsOk HdrFrom = false ∧ multipleValsOk HdrTo = false := by decide

/-- **From / To: a comma after `<uri>` is NOT a separator and NOT an error**: `<uri> [LWS] , anything-without-";"` up to
    the line end is accepted and reported exactly as `<uri>` alone — the second value is silently ignored
    (e.g. `From: <sip:a@b>, <sip:c@d>`) -/
theorem n4_single_comma_ignored (h : Nat) (b : Buf) (o a g m w p e : Nat) (nm : PField) (hfit : b.size ≤ 65535)
    (hmv : multipleValsOk h = false) (hp : AddrPrefix b o nm a) (hu : Run isURIch b (a + 1) g) (hag : a + 1 ≤ g)
    (hg : b[g]? = some 62) (hl : Lws b (g + 1) m) (hm : b[m]? = some 44) (hj : NqJunk h b (m + 1) w)
    (hl2 : Lws b w p) (he : Eol b p e) {c2 : UInt8} (h2 : b[e]? = some c2) (hw2 : isWS c2 = false) :
    parseNameAddrPVal h b o {} = (e, .ok, naResult h nm ⟨a + 1, g - (a + 1)⟩ {} ⟨o, g + 1 - o⟩ {}) := by
  have hle := hl.le
  have hj' : NqJunk h b (g + 1) w := by
    have hc : NqJunk h b m w := .ch m w 44 hm (by decide) (by decide) (fun _ => hmv) hj
    by_cases h1 : g + 1 < m
    · exact .lws (g + 1) m w 44 hl h1 hm (by decide) hc
    · have : g + 1 = m := by omega
      rw [this]; exact hc
  exact n4_bracket_junk h b o a g w e .ok nm hfit hp hu hag hg hj' (.eol p e c2 hl2 he h2 hw2)

/-- a byte of a bare URI for the single-valued header kinds: a token byte or a comma -/
def isTokchS (c : UInt8) : Bool := isTokch c || c == 44

theorem NaTr.nuTokS {h : Nat} {b : Buf} {i : Nat} {c : UInt8} {pf : PFromBody} (hst : pf.state = .nameOrURI)
    (hmv : multipleValsOk h = false) (hc : isTokchS c = true) : NaTr h b i c pf (.cont (i + 1) pf) := by
  by_cases hcm : c = 44
  · exact .comma1 (by simp [hst]) hcm hmv
  · refine .aTok (.inr hst) ?_
    simpa [isTokchS, hcm] using hc

/-- **From / To with a bare URI: commas inside it belong to the URI** (`From: sip:a@b,sip:c@d` reports the one URI
    `sip:a@b,sip:c@d`) -/
theorem n4_bare_comma (h : Nat) (b : Buf) (o t o' : Nat) (e' : Err) (hfit : b.size ≤ 65535)
    (hmv : multipleValsOk h = false) {c : UInt8} (hc : b[o]? = some c) (h1 : isTok1 c = true)
    (hr : Run isTokchS b (o + 1) t) (hot : o + 1 ≤ t) (T : Term h b t o' e') :
    parseNameAddrPVal h b o {} = (o', e', naResult h {} ⟨o, t - o⟩ {} ⟨o, t - o⟩ {}) := by
  have hloop : runLoop (naMachine h) b o {} = (o', e', { nueSt o t with state := .fin, soffs := 0, type := h }) := by
    rw [na_tok1 h hfit hc h1,
      runLoop_run (naMachine h) b isTokchS (nuSt o) (fun k c' _ hc' => (NaTr.nuTokS (b := b) (i := k) (pf := nuSt o) rfl hmv hc').eq) (o + 1) t hot hr]
    exact na_nu_term h b o t hfit (by omega) T
  rw [parse_of_loop h b o hloop T.complete]
  rfl

/-- `From: <a>, <b>` CR LF: the hypotheses of `n4_single_comma_ignored` are satisfiable -/
example : parseNameAddrPVal HdrFrom "<a>, <b>\r\nX".toUTF8.data 0 {} =
    (10, .ok, naResult HdrFrom {} ⟨1, 1⟩ {} ⟨0, 3⟩ {}) :=
  n4_single_comma_ignored HdrFrom "<a>, <b>\r\nX".toUTF8.data 0 0 2 3 8 8 10 {} (by decide) (by decide)
    (.none (by decide)) (run_of_check (by decide)) (by decide) (by decide) (.nil 3) (by decide)
    (.lws 4 5 8 60 (.ws 4 5 32 (by decide) (by decide) (.nil 5)) (by decide) (by decide) (by decide)
      (.ch 5 8 60 (by decide) (by decide) (by decide) (fun hc => by cases hc)
        (.ch 6 8 98 (by decide) (by decide) (by decide) (fun hc => by cases hc)
          (.ch 7 8 62 (by decide) (by decide) (by decide) (fun hc => by cases hc) (.nil 8)))))
    (.nil 8) (.crlf 8 (by decide) (by decide)) (c2 := 88) (by decide) (by decide)

/-- test (evaluation): To with two values — the tag of the SECOND value is reported with the URI of the FIRST -/
example : parseNameAddrPVal HdrTo "<a>, <b>;tag=x\r\nX".toUTF8.data 0 {} =
    (16, .ok, { uri := ⟨1, 1⟩, params := ⟨9, 5⟩, tag := ⟨13, 1⟩, v := ⟨0, 14⟩, type := HdrTo, state := .fin }) := by
  decide +kernel

/-- tests (evaluation): From with a bare URI: `a:b,c:d` is one URI; `a:b, c:d` is rejected ("bad header") -/
example : parseNameAddrPVal HdrFrom "a:b,c:d\r\nX".toUTF8.data 0 {} =
    (9, .ok, { uri := ⟨0, 7⟩, v := ⟨0, 7⟩, type := HdrFrom, state := .fin }) := by decide +kernel
example : (parseNameAddrPVal HdrFrom "a:b, c:d\r\nX".toUTF8.data 0 {}).2.1 = .bad := by decide +kernel


/-- the hypotheses of `n4_bare_comma` are satisfiable: `a:b,c:d` CR LF as a From value -/
example : parseNameAddrPVal HdrFrom "a:b,c:d\r\nX".toUTF8.data 0 {} =
    (9, .ok, naResult HdrFrom {} ⟨0, 7⟩ {} ⟨0, 7⟩ {}) :=
  n4_bare_comma HdrFrom "a:b,c:d\r\nX".toUTF8.data 0 7 9 .ok (by decide) (by decide) (c := 97) (by decide) (by decide)
    (run_of_check (by decide)) (by decide) (.eol 7 9 88 (.nil 7) (.crlf 7 (by decide) (by decide)) (by decide) (by decide))

/-- **From / To: `… ;param [=value] LWS ,`** (a well-formed parameter, at least one byte of white space, a comma):
    "bad character" at the comma — whereas the same comma WITHOUT white space in front of it is taken as a byte of the
    parameter name / value -/
theorem n4_single_comma_after_ws (h : Nat) (b : Buf) (o m j w k : Nat) (L : List PSpan) (x : PSpan)
    (hfit : b.size ≤ 65535) (hmv : multipleValsOk h = false) (hh : NqHeadP b o m) (hs : NqSeps b (m + 1) L j)
    (hx : ParamAt b j x w) (hl : Lws b w k) (hwk : w < k) (hk : b[k]? = some 44) :
    (parseNameAddrPVal h b o {}).1 = k ∧ (parseNameAddrPVal h b o {}).2.1 = .badChar ∧ o < k ∧ k < b.size := by
  obtain ⟨hom, q, base, hrun⟩ := hh.run h hfit
  have := hs.le
  have hbx := hx.bounds
  have hbad : ∀ P : Prop, (44 : UInt8) ≠ 59 ∧ ((44 : UInt8) = 44 → multipleValsOk h = false) ∧ ((44 : UInt8) = 61 → P) :=
    fun _ => ⟨by decide, fun _ => hmv, fun hh => absurd hh (by decide)⟩
  have hloop : ∃ st, runLoop (naMachine h) b o {} = (k, .badChar, st) := by
    rw [hrun, n3_seps_run h b q base hfit hs 0 {} (by omega)]
    rcases hx with ⟨ps, pe, h1, h2, h3⟩ | ⟨ps, pe, eq, vs, ve, h1, h2, h3, h4, h5, h6, h7⟩
    · have := h1.le
      rw [na_pname_run h b q base _ _ j ps w h1 h2 h3 (by omega) hfit,
        na_lws (fun hl t => .p_lws (stPN_P q) hl t) hl hwk hk (by decide), naNameWS_PN q rfl]
      exact ⟨_, na_tr_done hk (.end_bad (by cases q <;> simp [stPNE]) (hbad _))⟩
    · have := h1.le; have := h4.le; have := h6.le; have := h7.lt
      obtain ⟨c, hc, hcl⟩ := h7.first
      rw [na_pname_run h b q base _ _ j ps pe h1 h2 h3 (by omega) hfit,
        na_peq_run h b q base _ ps pe eq vs _ h4 h5 h6 hc hcl, na_pval_run h h7 q base _ ps pe vs _,
        na_lws (fun hl t => .v_lws (stPV_V q) hl t) hl hwk hk (by decide), naValWS_PV q rfl]
      exact ⟨_, na_tr_done hk (.end_bad (by cases q <;> simp [stPVE]) (hbad _))⟩
  obtain ⟨st, hloop⟩ := hloop
  obtain ⟨r1, r2⟩ := n3_parse_fst_snd h b o hloop
  exact ⟨r1, r2, by omega, get?_lt hk⟩

/-- `From: <a>;tag=x ,` : the hypotheses of `n4_single_comma_after_ws` are satisfiable; "bad character" at offset 10 -/
example : (parseNameAddrPVal HdrFrom "<a>;tag=x ,<b>\r\nX".toUTF8.data 0 {}).1 = 10 ∧
    (parseNameAddrPVal HdrFrom "<a>;tag=x ,<b>\r\nX".toUTF8.data 0 {}).2.1 = .badChar ∧ 0 < 10 ∧
    10 < "<a>;tag=x ,<b>\r\nX".toUTF8.data.size :=
  n4_single_comma_after_ws HdrFrom "<a>;tag=x ,<b>\r\nX".toUTF8.data 0 3 4 9 10 [] ⟨4, 7, 8, 9⟩ (by decide) (by decide)
    (.bracket 0 2 3 {} (.none (by decide)) (run_of_check (by decide)) (by decide) (by decide) (.nil 3) (by decide))
    (.nil 4)
    (.val 4 7 7 8 9 (.nil 4) (run_of_check (by decide)) (by decide) (.nil 7) (by decide) (.nil 8)
      (Or.inl ⟨120, by decide, by decide, .nil 9⟩))
    (.ws 9 10 32 (by decide) (by decide) (.nil 10)) (by decide) (by decide)

/-- test (evaluation): without the white space the comma is a byte of the value: `From: <a>;tag=x,y` has tag `x,y` -/
example : parseNameAddrPVal HdrFrom "<a>;tag=x,y\r\nX".toUTF8.data 0 {} =
    (13, .ok, { uri := ⟨1, 1⟩, params := ⟨4, 7⟩, tag := ⟨8, 3⟩, v := ⟨0, 11⟩, type := HdrFrom, state := .fin }) := by
  decide +kernel


end Sipsp
