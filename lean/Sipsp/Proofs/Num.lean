/-
  Sipsp.Proofs.Num — decimal accumulators: exact or rejected / saturated, never wrapped; `expires` with any value
  text (`nr_setExpires_any`: the leading digits count).
-/
import Sipsp.Model.NameAddr
import Sipsp.Model.URI

namespace Sipsp

/-- digit value of a byte (irreducible: defeq checks must not try to evaluate `c.toNat - 48`) -/
@[irreducible] def dval (c : UInt8) : Nat := c.toNat - 48

theorem dval_def (c : UInt8) : dval c = c.toNat - 48 := by unfold dval; rfl

def IsDigitB (c : UInt8) : Prop := 48 ≤ c.toNat ∧ c.toNat ≤ 57

def AllDigits (l : List UInt8) : Prop := ∀ c ∈ l, IsDigitB c

theorem isDigit_iff (c : UInt8) : isDigit c = true ↔ IsDigitB c := by
  unfold isDigit IsDigitB
  simp only [Bool.and_eq_true, decide_eq_true_eq]
  constructor
  · intro h; exact ⟨by have := UInt8.le_iff_toNat_le.1 h.1; simpa using this, by have := UInt8.le_iff_toNat_le.1 h.2; simpa using this⟩
  · intro h; exact ⟨UInt8.le_iff_toNat_le.2 (by simpa using h.1), UInt8.le_iff_toNat_le.2 (by simpa using h.2)⟩

theorem AllDigits.snoc {l : List UInt8} {c : UInt8} (h : AllDigits l) (hc : IsDigitB c) : AllDigits (l ++ [c]) := by
  intro x hx
  rcases List.mem_append.mp hx with hx | hx
  · exact h x hx
  · rw [List.mem_singleton.mp hx]
    exact hc

/-- the (unbounded) decimal value of `l` continuing from the value `n` -/
def decFrom (n : Nat) : List UInt8 → Nat
  | [] => n
  | c :: cs => decFrom (n * 10 + dval c) cs

def decOf (l : List UInt8) : Nat := decFrom 0 l

theorem decFrom_nil (n : Nat) : decFrom n [] = n := by rw [decFrom]
theorem decOf_nil : decOf [] = 0 := decFrom_nil 0
theorem decFrom_cons (n : Nat) (c : UInt8) (cs : List UInt8) :
    decFrom n (c :: cs) = decFrom (n * 10 + dval c) cs := by rw [decFrom]

theorem decFrom_ge (n : Nat) (l : List UInt8) : n ≤ decFrom n l := by
  induction l generalizing n with
  | nil => rw [decFrom_nil]; exact Nat.le_refl _
  | cons c cs ih => rw [decFrom_cons]; exact Nat.le_trans (by omega) (ih (n * 10 + dval c))

theorem decFrom_mono (n m : Nat) (l : List UInt8) (h : n ≤ m) : decFrom n l ≤ decFrom m l := by
  induction l generalizing n m with
  | nil => rw [decFrom_nil, decFrom_nil]; exact h
  | cons c cs ih => rw [decFrom_cons, decFrom_cons]; exact ih _ _ (by omega)

theorem decFrom_append (n : Nat) (l1 l2 : List UInt8) : decFrom n (l1 ++ l2) = decFrom (decFrom n l1) l2 := by
  induction l1 generalizing n with
  | nil => rw [List.nil_append, decFrom_nil]
  | cons c cs ih => rw [List.cons_append, decFrom_cons, decFrom_cons, ih]

theorem decFrom_snoc (n : Nat) (l : List UInt8) (c : UInt8) : decFrom n (l ++ [c]) = decFrom n l * 10 + dval c := by
  rw [decFrom_append, decFrom_cons, decFrom_nil]

theorem decOf_snoc (l : List UInt8) (c : UInt8) : decOf (l ++ [c]) = decOf l * 10 + dval c := decFrom_snoc 0 l c

theorem digit_cond (c : UInt8) (h : IsDigitB c) : (c < 48 || c > 57) = false := by
  have h1 : ¬ c < 48 := by rw [UInt8.lt_iff_toNat_lt]; have := h.1; simp; omega
  have h2 : ¬ c > 57 := by rw [gt_iff_lt, UInt8.lt_iff_toNat_lt]; have := h.2; simp; omega
  simp [h1, h2]

theorem dval_le (c : UInt8) (h : IsDigitB c) : dval c ≤ 9 := by rw [dval_def]; have := h.2; omega

theorem pUInt64Aux_cons (c : UInt8) (cs : List UInt8) (n : Nat) (e : Err) (hc : IsDigitB c) :
    pUInt64Aux (c :: cs) n e =
      if n > (maxU64 - dval c) / 10 then pUInt64Aux cs maxU64 Err.valTooLong
      else pUInt64Aux cs (n * 10 + dval c) e := by
  rw [pUInt64Aux, digit_cond c hc]
  simp only [Bool.false_eq_true, if_false, dval_def]

/-- the overflow test is exact: `n > (M - d)/10  ↔  n*10 + d > M` -/
theorem ovf_iff (n d : Nat) (hd : d ≤ 9) :
    n > (18446744073709551615 - d) / 10 ↔ n * 10 + d > 18446744073709551615 := by
  omega

/-- **pUInt64Val**: on a digit string the result is the exact value, or — when it does not fit in 64
    bits — the saturated value together with an error; never a wrapped value. (Any length.) -/
theorem pUInt64Aux_spec (l : List UInt8) (n : Nat) (e : Err) (hd : AllDigits l) (hn : n ≤ maxU64) :
    (decFrom n l ≤ maxU64 → pUInt64Aux l n e = (decFrom n l, e)) ∧
    (decFrom n l > maxU64 → pUInt64Aux l n e = (maxU64, Err.valTooLong)) := by
  induction l generalizing n e with
  | nil =>
    rw [decFrom_nil]
    exact ⟨fun _ => by rw [pUInt64Aux], fun h => absurd hn (by omega)⟩
  | cons c cs ih =>
    have hc : IsDigitB c := hd c List.mem_cons_self
    have hcs : AllDigits cs := fun x hx => hd x (List.mem_cons_of_mem _ hx)
    rw [pUInt64Aux_cons c cs n e hc]
    rw [decFrom_cons]
    have h9 := dval_le c hc
    have hge := decFrom_ge (n * 10 + dval c) cs
    by_cases hov : n > (maxU64 - dval c) / 10
    · rw [if_pos hov]
      have hbig : n * 10 + dval c > maxU64 := (ovf_iff n (dval c) h9).1 hov
      have ihm := ih maxU64 Err.valTooLong hcs (Nat.le_refl _)
      have hgm := decFrom_ge maxU64 cs
      constructor
      · intro h; omega
      · intro _
        by_cases hq : decFrom maxU64 cs ≤ maxU64
        · have : decFrom maxU64 cs = maxU64 := by omega
          rw [ihm.1 hq, this]
        · exact ihm.2 (by omega)
    · rw [if_neg hov]
      have hfit : n * 10 + dval c ≤ maxU64 := by
        have h := ovf_iff n (dval c) h9
        unfold maxU64 at hov ⊢
        rcases Nat.lt_or_ge 18446744073709551615 (n * 10 + dval c) with h' | h'
        · exact absurd (h.2 h') hov
        · exact h'
      exact ih _ _ hcs hfit

theorem pUInt64Val_spec (l : List UInt8) (hd : AllDigits l) :
    (decOf l ≤ maxU64 → pUInt64Val l = (decOf l, Err.ok)) ∧
    (decOf l > maxU64 → pUInt64Val l = (maxU64, Err.valTooLong)) :=
  pUInt64Aux_spec l 0 .ok hd (Nat.zero_le _)

/-- **Contact `expires` parameter saturates at 2^32-1**, exact below that, for digit strings of any length -/
theorem setExpires_spec (pf : PFromBody) (val : List UInt8) (hd : AllDigits val) :
    (setExpires pf val).expires = min (decOf val) 4294967295 ∧ (setExpires pf val).hasExpires = true := by
  unfold setExpires
  have hs := pUInt64Val_spec val hd
  by_cases hfit : decOf val ≤ maxU64
  · rw [hs.1 hfit]
    simp only
    refine ⟨?_, trivial⟩
    split <;> omega
  · rw [hs.2 (by omega)]
    simp only
    refine ⟨?_, trivial⟩
    have h1 : ¬ (maxU64 < 4294967295) := by unfold maxU64; omega
    rw [if_neg h1]
    unfold maxU64 at hfit; omega

/-- the 32-bit header accumulator (`v := uint64(old)*10 + digit; if v > 2^32-1 → reject`), as a function of
    the digits consumed so far: `none` = rejected -/
def accU32 (n : Nat) : List UInt8 → Option Nat
  | [] => some n
  | c :: cs => let v := n * 10 + dval c; if v > 4294967295 then none else accU32 v cs

/-- **exact or rejected**: the accumulator holds the exact decimal value as long as it fits in 32 bits and
    rejects as soon as it does not (digit strings of any length) -/
theorem accU32_spec (l : List UInt8) (n : Nat) (hn : n ≤ 4294967295) :
    (decFrom n l ≤ 4294967295 → accU32 n l = some (decFrom n l)) ∧
    (decFrom n l > 4294967295 → accU32 n l = none) := by
  induction l generalizing n with
  | nil => rw [decFrom_nil]; exact ⟨fun _ => by rw [accU32], fun h => absurd hn (by omega)⟩
  | cons c cs ih =>
    rw [decFrom_cons, accU32]
    have hge := decFrom_ge (n * 10 + dval c) cs
    by_cases hv : n * 10 + dval c > 4294967295
    · rw [if_pos hv]
      exact ⟨fun h => by omega, fun _ => rfl⟩
    · rw [if_neg hv]
      exact ih _ (by omega)

/-- the URI port accumulator: exact while ≤ 65535, and once above it stays above (so it is rejected) -/
theorem accPort_spec (p : Nat) (c : UInt8) :
    (p ≤ 65535 → accPort p c = p * 10 + dval c) ∧ (p > 65535 → accPort p c = p) := by
  unfold accPort
  rw [dval_def]
  constructor
  · intro h; rw [if_pos h]
  · intro h; rw [if_neg (by omega)]

def accPortL (p : Nat) : List UInt8 → Nat
  | [] => p
  | c :: cs => accPortL (accPort p c) cs

theorem accPortL_spec (l : List UInt8) (p : Nat) :
    (decFrom p l ≤ 65535 → accPortL p l = decFrom p l) ∧ (decFrom p l > 65535 → accPortL p l > 65535) := by
  induction l generalizing p with
  | nil => rw [decFrom_nil, accPortL]; exact ⟨fun _ => rfl, fun h => h⟩
  | cons c cs ih =>
    rw [decFrom_cons, accPortL]
    have hs := accPort_spec p c
    by_cases hp : p ≤ 65535
    · rw [hs.1 hp]; exact ih _
    · rw [hs.2 (by omega)]
      have h1 := decFrom_ge (p * 10 + dval c) cs
      have h2 := decFrom_ge p cs
      constructor
      · intro h; omega
      · intro _
        have := (ih p).2
        by_cases hq : decFrom p cs > 65535
        · exact this hq
        · omega

/-- is the byte a decimal digit (the test of `pUInt64Val`) -/
def nrIsDig (c : UInt8) : Bool := !(c < 48 || c > 57)

def nrDigPre (l : List UInt8) : List UInt8 := l.takeWhile nrIsDig

theorem nrIsDig_eq (c : UInt8) : nrIsDig c = isDigit c := by
  unfold nrIsDig isDigit
  simp only [Bool.not_or, ← decide_not, UInt8.not_lt, gt_iff_lt]

theorem nrIsDig_iff (c : UInt8) : nrIsDig c = true ↔ IsDigitB c := by rw [nrIsDig_eq]; exact isDigit_iff c

theorem nrDigPre_digits (l : List UInt8) : AllDigits (nrDigPre l) := by
  induction l with
  | nil => intro c hc; cases hc
  | cons a as ih =>
    unfold nrDigPre at ih ⊢
    rw [List.takeWhile_cons]
    split
    · rename_i ha
      intro c hc
      rcases List.mem_cons.1 hc with h | h
      · rw [h]; exact (nrIsDig_iff a).1 ha
      · exact ih c h
    · intro c hc; cases hc

theorem nrDigPre_of_digits (l : List UInt8) (h : AllDigits l) : nrDigPre l = l := by
  induction l with
  | nil => rfl
  | cons a as ih =>
    unfold nrDigPre at ih ⊢
    rw [List.takeWhile_cons, if_pos ((nrIsDig_iff a).2 (h a List.mem_cons_self)),
      ih (fun x hx => h x (List.mem_cons_of_mem _ hx))]

/-- a byte that is not a digit ends the number with "not a number" -/
theorem pUInt64Aux_nondigit (c : UInt8) (cs : List UInt8) (n : Nat) (e : Err) (hc : ¬ IsDigitB c) :
    pUInt64Aux (c :: cs) n e = (n, .valNotNumber) := by
  have hc' : (c < 48 || c > 57) = true := by
    cases hx : (c < 48 || c > 57) with
    | true => rfl
    | false => exact absurd ((nrIsDig_iff c).1 (by unfold nrIsDig; rw [hx]; rfl)) hc
  rw [pUInt64Aux, if_pos hc']

theorem nr_pUInt64Aux_pre (l : List UInt8) (n : Nat) (e : Err) :
    (pUInt64Aux l n e).1 = (pUInt64Aux (nrDigPre l) n e).1 := by
  induction l generalizing n e with
  | nil => rfl
  | cons c cs ih =>
    by_cases hc : nrIsDig c = true
    · have hp : nrDigPre (c :: cs) = c :: nrDigPre cs := by
        unfold nrDigPre; rw [List.takeWhile_cons, if_pos hc]
      have hd := (nrIsDig_iff c).1 hc
      rw [hp, pUInt64Aux_cons c cs n e hd, pUInt64Aux_cons c (nrDigPre cs) n e hd]
      split
      · exact ih _ _
      · exact ih _ _
    · have hp : nrDigPre (c :: cs) = [] := by
        unfold nrDigPre; rw [List.takeWhile_cons, if_neg hc]
      rw [hp, pUInt64Aux_nondigit c cs n e fun hd => hc ((nrIsDig_iff c).2 hd)]
      rfl

/-- **`expires` with ANY value text**: the has-expires flag is set and the number is the decimal value of the leading
    digits of the text (all of it when it is a digit string; the empty string counts 0), saturated at 2^32-1.  No
    length bound; never a wrapped value. -/
theorem nr_setExpires_any (pf : PFromBody) (val : List UInt8) :
    (setExpires pf val).hasExpires = true ∧ (setExpires pf val).expires = min (decOf (nrDigPre val)) 4294967295 := by
  have hs := setExpires_spec pf (nrDigPre val) (nrDigPre_digits val)
  refine ⟨rfl, ?_⟩
  rw [← hs.1]
  unfold setExpires pUInt64Val
  simp only
  rw [nr_pUInt64Aux_pre val 0 .ok]

theorem nr_setExpires_digits (pf : PFromBody) (val : List UInt8) (hd : AllDigits val) :
    (setExpires pf val).expires = min (decOf val) 4294967295 := (setExpires_spec pf val hd).1

end Sipsp
