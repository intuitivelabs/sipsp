/-
  Sipsp.Proofs.NumRun — run-level exactness of the numeric header values: when ParseUIntVal / ParseCLenVal /
  ParseCSeqVal succeed, the reported number is the decimal value of the digit string the reported field points to.
-/
import Sipsp.Proofs.Num
import Sipsp.Proofs.SafeVals

namespace Sipsp

def digitsOf (b : Buf) (s e : Nat) : List UInt8 := (b.extract s e).toList

theorem digitsOf_snoc (b : Buf) (s i : Nat) (c : UInt8) (hs : s ≤ i) (hb : b[i]? = some c) :
    digitsOf b s (i + 1) = digitsOf b s i ++ [c] := by
  have hlt := get?_lt hb
  unfold digitsOf
  rw [Array.extract_succ_right (by omega) hlt, Array.toList_push]
  congr 2
  have := Array.getElem?_eq_getElem hlt
  rw [this] at hb; exact Option.some.inj hb

theorem digitsOf_self (b : Buf) (i : Nat) : digitsOf b i i = [] := by
  unfold digitsOf; simp

theorem digitsOf_cons (b : Buf) (i e : Nat) (c : UInt8) (hb : b[i]? = some c) (hie : i < e) :
    digitsOf b i e = c :: digitsOf b (i + 1) e := by
  have hlt := get?_lt hb
  have hc : b[i] = c := by
    have := Array.getElem?_eq_getElem hlt
    rw [this] at hb; exact Option.some.inj hb
  unfold digitsOf
  simp only [Array.toList_extract, List.extract_eq_take_drop]
  rw [List.drop_eq_getElem_cons (by simpa using hlt)]
  have : e - i = (e - (i + 1)) + 1 := by omega
  rw [this, List.take_succ_cons]
  simp [hc]

theorem digitsOf_split (b : Buf) (x i e : Nat) (h1 : x ≤ i) (h2 : i ≤ e) :
    digitsOf b x e = digitsOf b x i ++ digitsOf b i e := by
  unfold digitsOf
  rw [← Array.toList_append, Array.extract_append_extract, Nat.min_eq_left h1, Nat.max_eq_right h2]

theorem digitsOf_app (b s : Buf) (x e : Nat) (he : e ≤ b.size) : digitsOf (b ++ s) x e = digitsOf b x e := by
  unfold digitsOf
  rw [Array.extract_append]
  have : s.extract (x - b.size) (e - b.size) = #[] := by
    apply Array.eq_empty_of_size_eq_zero
    rw [Array.size_extract]; omega
  rw [this, Array.append_empty]

theorem isDigit_B {c : UInt8} (h : isDigit c = true) : IsDigitB c := (isDigit_iff c).1 h

theorem isDigit_not_lws {c : UInt8} (h : isDigit c = true) : isLWSch c = false := by
  obtain ⟨h1, h2⟩ := (isDigit_iff c).1 h
  simp only [isLWSch, Bool.or_eq_false_iff, beq_eq_false_iff_ne, ne_eq]
  refine ⟨⟨⟨?_, ?_⟩, ?_⟩, ?_⟩ <;> (intro hh; rw [hh] at h1 h2; simp at h1 h2)

/-- one more digit: the digit run `[s, i)` of value `v`, extended by the digit `c` at `i` -/
theorem digitsOf_digit {b : Buf} {s i v : Nat} {c : UInt8} (hs : s ≤ i) (hb : b[i]? = some c) (hd : isDigit c = true)
    (h2 : AllDigits (digitsOf b s i)) (h3 : v = decOf (digitsOf b s i)) :
    AllDigits (digitsOf b s (i + 1)) ∧ v * 10 + (c.toNat - 48) = decOf (digitsOf b s (i + 1)) := by
  rw [digitsOf_snoc b s i c hs hb, decOf, decFrom_snoc, ← decOf, ← h3, dval_def]
  exact ⟨h2.snoc (isDigit_B hd), rfl⟩

theorem digitsOf_first {b : Buf} {i : Nat} {c : UInt8} (hb : b[i]? = some c) (hd : isDigit c = true) :
    AllDigits (digitsOf b i (i + 1)) ∧ c.toNat - 48 = decOf (digitsOf b i (i + 1)) := by
  have h := digitsOf_digit (v := 0) (Nat.le_refl i) hb hd (by rw [digitsOf_self]; exact nofun) (by rw [digitsOf_self]; rfl)
  rw [Nat.zero_mul, Nat.zero_add] at h
  exact h

/-- a finished (or value-complete) object: its field is a non-empty digit string and the number is its value -/
def NumDone (b : Buf) (fld : PField) (v : Nat) : Prop :=
  ∃ s e, fld = ⟨s, e - s⟩ ∧ s < e ∧ e ≤ b.size ∧ AllDigits (digitsOf b s e) ∧ v = decOf (digitsOf b s e)

/-- the run invariant of ParseUIntVal at position `i`: inside the number the digits read so far are `[st.soffs, i)` and
    the value held is their decimal value; once the number is closed the reported field and value are final -/
structure ClNum (b : Buf) (i : Nat) (st : PUIntBody) : Prop where
  found : st.state = .found →
    st.soffs < i ∧ AllDigits (digitsOf b st.soffs i) ∧ st.uiVal = decOf (digitsOf b st.soffs i)
  done : (st.state = .fend ∨ st.state = .fin) → NumDone b st.sVal st.uiVal

/-- what an exit of the number loop guarantees: after OK the reported field holds the digits of the number; after
    MoreBytes the invariant holds at the returned offset and the object is not finished -/
def ClExit (b : Buf) (n : Nat) (e : Err) (s : PUIntBody) : Prop :=
  (e = .ok → NumDone b s.sVal s.uiVal) ∧ (e = .moreBytes → n ≤ b.size ∧ ClNum b n s ∧ s.state ≠ .fin)

theorem ClExit.err {b : Buf} {n : Nat} {e : Err} {s : PUIntBody} (h1 : e ≠ .ok) (h2 : e ≠ .moreBytes) :
    ClExit b n e s := ⟨fun h => absurd h h1, fun h => absurd h h2⟩

theorem clStep_num (b : Buf) (i : Nat) (c : UInt8) (st : PUIntBody) (hfit : b.size ≤ 65535) (hb : b[i]? = some c)
    (hi : i ≤ b.size) (h : ClNum b i st) (hnf : st.state ≠ .fin) :
    StepAll2 (fun n s => n ≤ b.size ∧ ClNum b n s ∧ s.state ≠ .fin) (ClExit b) (clStep b i c st) := by
  have hlt := get?_lt hb
  have key : ∀ s1 : PUIntBody, s1.state ≠ .found → s1.state ≠ .fin → ClNum b i s1 →
      StepAll2 (fun n s => n ≤ b.size ∧ ClNum b n s ∧ s.state ≠ .fin) (ClExit b) (lwsStd b i s1 clEOH id) := by
    intro s1 hnf hnn h1
    have hany : ∀ n, ClNum b n s1 := fun n => ⟨(fun hh => absurd hh hnf), h1.done⟩
    refine lwsStd_all2 b i s1 clEOH id _ _ hi (fun n _ a2 => ⟨a2, hany n, hnn⟩)
      (fun n _ a2 => ⟨(fun hh => by cases hh), fun _ => ⟨a2, hany n, hnn⟩⟩) (fun n crl _ _ _ => ?_)
    unfold clEOH
    cases hst : s1.state <;> simp only
    case fend => exact ⟨fun _ => h1.done (Or.inl hst), (fun hh => by cases hh)⟩
    case found => exact absurd hst hnf
    all_goals exact ClExit.err (by decide) (by decide)
  have t := clStep_tr b i c st
  generalize clStep b i c st = r at t ⊢
  cases t with
  | lws _ hg => exact key st (by rcases hg with g | g <;> rw [g] <;> decide) hnf h
  | lwsNum _ hst =>
    obtain ⟨h1, h2, h3⟩ := h.found hst
    refine key _ (fun hh => by cases hh) (fun hh => by cases hh) ⟨(fun hh => by cases hh), fun _ => ?_⟩
    show NumDone b (PField.set st.soffs i) st.uiVal
    exact ⟨st.soffs, i, set_eq _ _ (by omega) (by omega), h1, hi, h2, h3⟩
  | digit0 _ hd =>
    exact ⟨by omega, ⟨(fun _ => ⟨Nat.lt_succ_self i, digitsOf_first hb hd⟩),
      (fun hh => by rcases hh with hh | hh <;> cases hh)⟩, (fun hh => by cases hh)⟩
  | digit _ hd hst =>
    obtain ⟨h1, h2, h3⟩ := h.found hst
    exact ⟨by omega, ⟨(fun _ => ⟨Nat.lt_succ_of_lt h1, digitsOf_digit (Nat.le_of_lt h1) hb hd h2 h3⟩),
      (fun hh => by rw [hst] at hh; rcases hh with hh | hh <;> cases hh)⟩, (fun hh => by rw [hst] at hh; cases hh)⟩
  | tooBig | bad => exact ClExit.err (by decide) (by decide)
  | skip hg => exact absurd hg hnf

theorem parseUIntVal_exit (b : Buf) (o : Nat) (st : PUIntBody) (hfit : b.size ≤ 65535) (ho : o ≤ b.size)
    (h : ClNum b o st) (hnf : st.state ≠ .fin) :
    ClExit b (runLoop clMachine b o st).1 (runLoop clMachine b o st).2.1 (runLoop clMachine b o st).2.2 :=
  runLoop_safe2 clMachine b (fun n s => n ≤ b.size ∧ ClNum b n s ∧ s.state ≠ .fin) (ClExit b) cl_progress
    (fun i c s hb hs => clStep_num b i c s hfit hb hs.1 hs.2.1 hs.2.2)
    (fun i s hs => ⟨(fun hh => by cases hh), fun _ => hs⟩) o st ⟨ho, h, hnf⟩

/-- **ParseUIntVal (= ParseExpiresVal): on success the number is the decimal value of the reported digit string** -/
theorem parseUIntVal_exact (b : Buf) (o : Nat) (st : PUIntBody) (hfit : b.size ≤ 65535) (ho : o ≤ b.size)
    (h : ClNum b o st) {o' : Nat} {st' : PUIntBody} (hr : parseUIntVal b o st = (o', .ok, st')) :
    NumDone b st'.sVal st'.uiVal := by
  unfold parseUIntVal at hr
  split at hr
  · rename_i hf; cases hr; exact h.done (Or.inr hf)
  · rename_i hnf
    have := parseUIntVal_exit b o st hfit ho h hnf
    rw [hr] at this
    exact this.1 rfl

theorem ClNum_new (b : Buf) (o : Nat) : ClNum b o {} :=
  ⟨(fun hh => by cases hh), (fun hh => by rcases hh with hh | hh <;> cases hh)⟩

theorem parseCLenVal_exact (b : Buf) (o : Nat) (st : PUIntBody) (hfit : b.size ≤ 65535) (ho : o ≤ b.size)
    (h : ClNum b o st) {o' : Nat} {st' : PUIntBody} (hr : parseCLenVal b o st = (o', .ok, st')) :
    NumDone b st'.sVal st'.uiVal :=
  parseUIntVal_exact b o st hfit ho h (parseCLenVal_under' b o st hr (fun hh => by cases hh))

/-- the reported field really holds those digits -/
theorem NumDone.get {b : Buf} {fld : PField} {v : Nat} (h : NumDone b fld v) (hfit : b.size ≤ 65535) :
    ∃ d, fld.get? b = some d ∧ d.size ≥ 1 ∧ AllDigits d.toList ∧ v = decOf d.toList := by
  obtain ⟨s, e, rfl, h1, h2, h3, h4⟩ := h
  have := field_get?_some b ⟨s, e - s⟩ (by unfold PField.inside; simp only; omega) hfit
  obtain ⟨d, hd⟩ := this
  have hd' : d = b.extract s e := by
    unfold PField.get? PField.endT trunc16 at hd
    simp only at hd
    rw [Nat.mod_eq_of_lt (by omega)] at hd
    rw [if_pos ⟨by omega, by omega⟩] at hd
    have : s + (e - s) = e := by omega
    rw [this] at hd
    exact (Option.some.inj hd).symm
  subst hd'
  refine ⟨_, hd, by simp [Array.size_extract]; omega, h3, h4⟩

/-- the same for the number part of ParseCSeqVal (every state behind the number counts as closed) -/
structure CsNum (b : Buf) (i : Nat) (st : PCSeqBody) : Prop where
  found : st.state = .foundDigit →
    st.soffs < i ∧ AllDigits (digitsOf b st.soffs i) ∧ st.cseqNo = decOf (digitsOf b st.soffs i)
  done : (st.state ≠ .init ∧ st.state ≠ .foundDigit) → NumDone b st.cseq st.cseqNo

theorem csFinish_num (b : Buf) (st : PCSeqBody) (n crl : Nat) (h : NumDone b st.cseq st.cseqNo) :
    NumDone b (csFinish st b n crl).2.2.cseq (csFinish st b n crl).2.2.cseqNo := by
  unfold csFinish
  simp only
  split
  · exact h
  · split <;> exact h

/-- as `ClExit`, for the CSeq loop -/
def CsExit (b : Buf) (n : Nat) (e : Err) (s : PCSeqBody) : Prop :=
  (e = .ok → NumDone b s.cseq s.cseqNo) ∧ (e = .moreBytes → n ≤ b.size ∧ CsNum b n s ∧ s.state ≠ .fin)

theorem CsExit.err {b : Buf} {n : Nat} {e : Err} {s : PCSeqBody} (h1 : e ≠ .ok) (h2 : e ≠ .moreBytes) :
    CsExit b n e s := ⟨fun h => absurd h h1, fun h => absurd h h2⟩

theorem csFinish_ne_more (st : PCSeqBody) (b : Buf) (n crl : Nat) : (csFinish st b n crl).2.1 ≠ .moreBytes := by
  unfold csFinish
  simp only
  split
  · simp
  · split <;> simp

theorem csStep_num (b : Buf) (i : Nat) (c : UInt8) (st : PCSeqBody) (hfit : b.size ≤ 65535) (hb : b[i]? = some c)
    (hi : i ≤ b.size) (h : CsNum b i st) (hnf : st.state ≠ .fin) :
    StepAll2 (fun n s => n ≤ b.size ∧ CsNum b n s ∧ s.state ≠ .fin) (CsExit b) (csStep b i c st) := by
  -- outside the digits the invariant does not mention the position, and it speaks of `cseq` / `cseqNo` only
  have keep : ∀ {n n'} {s x : PCSeqBody}, CsNum b n s → x.cseq = s.cseq → x.cseqNo = s.cseqNo → x.state ≠ .init →
      x.state ≠ .foundDigit → (s.state ≠ .init ∧ s.state ≠ .foundDigit) → CsNum b n' x :=
    fun h e1 e2 _ e4 hs => ⟨fun hh => absurd hh e4, fun _ => by rw [e1, e2]; exact h.done hs⟩
  refine csStep_ind b (S := fun n s => n ≤ b.size ∧ CsNum b n s ∧ s.state ≠ .fin) (T := CsExit b)
    (mono := fun _ _ s h hnd _ hj => ⟨hj, ⟨fun hh => absurd hh hnd, h.2.1.done⟩, h.2.2⟩)
    (closeNum := fun i _ s _ _ h hst => ?closeNum)
    (closeMeth := fun i s _ h hst => ⟨h.1, keep h.2.1 rfl rfl nofun nofun ⟨by rw [hst]; nofun, by rw [hst]; nofun⟩, nofun⟩)
    (digit0 := fun i c s hb hd h _ =>
      ⟨get?_lt hb, ⟨fun _ => ⟨Nat.lt_succ_self i, digitsOf_first hb hd⟩, fun hh => absurd rfl hh.2⟩, nofun⟩)
    (digit := fun i c s hb hd h hst _ => ?digit)
    (meth0 := fun i _ s hb _ h hst =>
      ⟨get?_lt hb, keep h.2.1 rfl rfl nofun nofun ⟨by rw [hst]; nofun, by rw [hst]; nofun⟩, nofun⟩)
    (eoh := fun i n crl s h hg _ _ _ => ?eoh) (more := fun _ _ h => ⟨nofun, fun _ => h⟩)
    (err := fun _ _ _ _ he => CsExit.err (by rcases he with rfl | rfl <;> nofun) (by rcases he with rfl | rfl <;> nofun))
    i c st hb ⟨hi, h, hnf⟩
  case closeNum =>
    obtain ⟨h1, h2, h3⟩ := h.2.1.found hst
    refine ⟨h.1, ⟨nofun, fun _ => ?_⟩, nofun⟩
    show NumDone b (PField.set s.soffs i) s.cseqNo
    exact ⟨s.soffs, i, set_eq _ _ (by omega) (by omega), h1, h.1, h2, h3⟩
  case digit =>
    obtain ⟨h1, h2, h3⟩ := h.2.1.found hst
    exact ⟨get?_lt hb, ⟨fun _ => ⟨Nat.lt_succ_of_lt h1, digitsOf_digit (Nat.le_of_lt h1) hb hd h2 h3⟩,
      fun hh => absurd hst hh.2⟩, fun hh => by rw [hst] at hh; cases hh⟩
  case eoh =>
    unfold csEOH
    rcases hg with g | g | g <;> rw [g] <;> simp only
    · exact CsExit.err nofun nofun
    · exact CsExit.err nofun nofun
    · exact ⟨fun _ => csFinish_num b s n crl (h.2.1.done ⟨by rw [g]; nofun, by rw [g]; nofun⟩),
        fun hh => absurd hh (csFinish_ne_more _ _ _ _)⟩

theorem parseCSeqVal_exit (b : Buf) (o : Nat) (st : PCSeqBody) (hfit : b.size ≤ 65535) (ho : o ≤ b.size)
    (h : CsNum b o st) (hnf : st.state ≠ .fin) :
    CsExit b (runLoop csMachine b o st).1 (runLoop csMachine b o st).2.1 (runLoop csMachine b o st).2.2 :=
  runLoop_safe2 csMachine b (fun n s => n ≤ b.size ∧ CsNum b n s ∧ s.state ≠ .fin) (CsExit b) cs_progress
    (fun i c s hb hs => csStep_num b i c s hfit hb hs.1 hs.2.1 hs.2.2)
    (fun i s hs => ⟨(fun hh => by cases hh), fun _ => hs⟩) o st ⟨ho, h, hnf⟩

/-- **ParseCSeqVal: on success the CSeq number is the decimal value of the reported digit string** -/
theorem parseCSeqVal_exact (b : Buf) (o : Nat) (st : PCSeqBody) (hfit : b.size ≤ 65535) (ho : o ≤ b.size)
    (h : CsNum b o st) (hni : st.state = .fin → NumDone b st.cseq st.cseqNo)
    {o' : Nat} {st' : PCSeqBody} (hr : parseCSeqVal b o st = (o', .ok, st')) :
    NumDone b st'.cseq st'.cseqNo := by
  unfold parseCSeqVal at hr
  split at hr
  · rename_i hf; cases hr; exact hni hf
  · rename_i hnf
    have := parseCSeqVal_exit b o st hfit ho h hnf
    rw [hr] at this
    exact this.1 rfl

theorem CsNum_new (b : Buf) (o : Nat) : CsNum b o {} :=
  ⟨(fun hh => by cases hh), (fun hh => absurd rfl hh.1)⟩

end Sipsp
