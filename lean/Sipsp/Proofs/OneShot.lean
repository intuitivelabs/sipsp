/-
  Sipsp.Proofs.OneShot — one ParseSIPMsg call from the initial state, and the chains of resumed calls from Init.

  A successful call from the initial state is the first line, the header block and the body, each once; a chain of
  resumed calls from Init that ends with OK returns what ONE call on one of the buffers returns (the one-shot
  equivalence `C01.schedule_msg_init`). Statements about "every schedule from Init, verdict OK" are proved for one
  call and transported by these two.
-/
import Sipsp.Properties.C01
import Sipsp.Proofs.MsgPhases

namespace Sipsp

theorem flo_msgBody_keeps (b : Buf) (o : Nat) (m : PSIPMsg) (flags : Nat) :
    (msgBody b o m flags).2.2.fl = m.fl ∧ (msgBody b o m flags).2.2.hl = m.hl ∧ (msgBody b o m flags).2.2.pv = m.pv :=
  msgBody_cases (P := fun r => r.2.2.fl = m.fl ∧ r.2.2.hl = m.hl ∧ r.2.2.pv = m.pv) b o m flags
    (noclen := ⟨rfl, rfl, rfl⟩) (more := ⟨rfl, rfl, rfl⟩) (fin := fun _ _ _ _ => ⟨rfl, rfl, rfl⟩)

theorem flo_msgBody_body (b : Buf) (o : Nat) (m : PSIPMsg) (flags : Nat) :
    (msgBody b o m flags).2.2.body.offs = trunc16 o :=
  msgBody_cases (P := fun r => r.2.2.body.offs = trunc16 o) b o m flags
    (noclen := rfl) (more := rfl) (fin := fun _ _ _ _ => rfl)

theorem msgBody_keeps {b : Buf} {o : Nat} {m : PSIPMsg} {flags : Nat} {o' : Nat} {e : Err} {m' : PSIPMsg}
    (h : msgBody b o m flags = (o', e, m')) : m'.fl = m.fl ∧ m'.hl = m.hl ∧ m'.pv = m.pv ∧ m'.body.offs = trunc16 o := by
  have k := flo_msgBody_keeps b o m flags
  have k4 := flo_msgBody_body b o m flags
  rw [h] at k k4
  exact ⟨k.1, k.2.1, k.2.2, k4⟩

/-- the object with which `case SIPMsgBody:` is entered after the first line (`fl`) and the header block
    (`hl`, values `hv`) were parsed in this call, started at `o` -/
def afaBodyEntry (m : PSIPMsg) (o : Nat) (fl : PFLine) (hl : HdrLst) (hv : PHdrVals) : PSIPMsg :=
  { m with offs := o, fl := fl, hl := hl, pv := hv, state := .body }

/-- ParseHeaders called with a values object returns a values object (never nil) -/
theorem afa_parseHeaders_some (b : Buf) (o : Nat) (hl : HdrLst) (pv : PHdrVals) {h : Nat} {e : Err} {hl' : HdrLst}
    {hb : Option PHdrVals} (hh : parseHeaders b o hl (some pv) = (h, e, hl', hb)) : ∃ hv, hb = some hv := by
  have := parseHeaders_isSome b o hl pv
  rw [hh] at this
  cases hb with
  | none => cases this
  | some hv => exact ⟨hv, rfl⟩

/-- an OK verdict of ParseSIPMsg on a state-`init` object: the first line and the header block were parsed in this call,
    both with verdict OK, and the result is the body section's, entered with the parsed parts -/
theorem parseSIPMsg_ok_path (b : Buf) (o : Nat) (m : PSIPMsg) (flags : Nat) (hst : m.state = .init)
    {o' : Nat} {m' : PSIPMsg} (hr : parseSIPMsg b o m flags = (o', .ok, m')) :
    ∃ o1 fl h hl hv, parseFLine b o m.fl = (o1, .ok, fl) ∧
      parseHeaders b o1 m.hl (some m.pv) = (h, .ok, hl, some hv) ∧
      msgBody b h (afaBodyEntry m o fl hl hv) flags = (o', .ok, m') := by
  have key := parseSIPMsg_cases (P := fun r => r.2.1 = .ok → ∃ o1 fl h hl hv, parseFLine b o m.fl = (o1, .ok, fl) ∧
      parseHeaders b o1 m.hl (some m.pv) = (h, .ok, hl, some hv) ∧ msgBody b h (afaBodyEntry m o fl hl hv) flags = r)
    b o m flags (fun _ hq => by cases hq) (fun _ _ he hq => absurd hq (msgErr_not_ok _ _ _ _ he))
    (fun _ _ he hq => absurd hq (msgErr_not_ok _ _ _ _ he)) ?_
  · rw [hr] at key; exact key rfl
  · -- from state `init` the body phase is reached through the first line and the header block, in this call
    intro o2 m2 h _
    cases h with
    | resume h' _ => rw [hst] at h'; cases h'
    | headers h1 hp2 =>
      cases h1 with
      | resume h' _ => rw [hst] at h'; cases h'
      | fline h0 hp1 =>
        cases h0 with
        | resume h' _ => rw [hst] at h'; cases h'
        | enter _ =>
          obtain ⟨hv, rfl⟩ := afa_parseHeaders_some b _ m.hl m.pv hp2
          exact ⟨_, _, _, _, hv, hp1, hp2, rfl⟩

/-- **a successful one-shot ParseSIPMsg taken apart**: the first line was parsed from `o`, the header block from where
    the first line ended, both with verdict OK; the body step keeps what they reported and puts the body where the
    header block ended -/
theorem parseSIPMsg_ok_init (b : Buf) (o : Nat) (m : PSIPMsg) (flags : Nat) (hst : m.state = .init)
    {o' : Nat} {m' : PSIPMsg} (hr : parseSIPMsg b o m flags = (o', .ok, m')) :
    ∃ o1 fl1 o2 hl2 pv2, parseFLine b o m.fl = (o1, .ok, fl1) ∧
      parseHeaders b o1 m.hl (some m.pv) = (o2, .ok, hl2, some pv2) ∧
      m'.fl = fl1 ∧ m'.hl = hl2 ∧ m'.pv = pv2 ∧ m'.body.offs = trunc16 o2 := by
  obtain ⟨o1, fl, h, hl, hv, h1, h2, h3⟩ := parseSIPMsg_ok_path b o m flags hst hr
  obtain ⟨k1, k2, k3, k4⟩ := msgBody_keeps h3
  exact ⟨o1, fl, h, hl, hv, h1, h2, k1, k2, k3, k4⟩

/-- a chain of resumed calls from Init that ends with OK ends with what ONE call on one of the buffers returns
    (`C01.schedule_msg_init`) -/
theorem flo_schedule_init (flags : Nat) (o : Nat) (m0 : PSIPMsg) (len kh kc : Nat) (hdrs cts : Option Unit)
    (l : List Buf) (hg : Growing l) (hfit : ∀ x ∈ l, x.size ≤ 65535) (hne : l ≠ []) (ho : ∀ b ∈ l, o ≤ b.size)
    {o' : Nat} {m' : PSIPMsg}
    (hr : resumeRun (C01.msgP flags) o
      (m0.init len (hdrs.map fun _ => Array.replicate kh {}) (cts.map fun _ => Array.replicate kc {})) l = (o', .ok, m')) :
    ∃ b ∈ l, parseSIPMsg b o
      (m0.init len (hdrs.map fun _ => Array.replicate kh {}) (cts.map fun _ => Array.replicate kc {})) flags = (o', .ok, m') := by
  have h0 : ∀ b ∈ l.head?, o ≤ b.size := by
    intro b hb
    cases l with
    | nil => cases hb
    | cons x xs => simp at hb; subst hb; exact ho _ List.mem_cons_self
  have hrr := C01.schedule_msg_init flags o m0 len kh kc hdrs cts l hg hfit h0
  simp only at hrr
  have hv : (oneShotRun (C01.msgP flags) o
      (m0.init len (hdrs.map fun _ => Array.replicate kh {}) (cts.map fun _ => Array.replicate kc {})) l).2.1 = .ok := by
    rw [← hrr.2.1, hr]
  have heq := hrr.eq (Or.inl hv)
  obtain ⟨b, hb, hone⟩ := flo_oneShotRun_mem (C01.msgP flags) o
    (m0.init len (hdrs.map fun _ => Array.replicate kh {}) (cts.map fun _ => Array.replicate kc {})) l hne
  rw [heq, hone] at hr
  exact ⟨b, hb, hr⟩

end Sipsp
