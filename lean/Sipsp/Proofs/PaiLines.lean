/-
  Sipsp.Proofs.PaiLines — the P-Asserted-Identity value list over several header lines, and what ONE header line does
  to the two value lists.
  (1) [C09] `PPAIs.htLines` (the identity list after any number of P-Asserted-Identity lines, each a `ValList` of the C09
      grammar): the stored identities are the values of ALL lines in order, as far as they fit the array (the Go type
      has a fixed array of two), with `N`, `HNo`, `More()`, `GetPAI(k)`; for any lists of values and any object the lines
      are parsed into.  The identity list is read as a projection of the contact list (`PPAIs.htLines_eq`), so these
      are the Contact statements `ht_htLines_*` of HdrTyped.lean.
  (2) [C05] every input within the 65,535-byte limit, no grammar assumption: a value ParseNameAddrPVal completes from a
      new object is never empty (`pn_value_nonempty`: loop invariant `PnI` over the transitions `NaTr`), so the exception
      "values with an empty `V`" of `svc_contact_line` / `svc_pai_line` never applies; and one header line parsed from a
      new header object either leaves a value list alone, or the accepted header has the type of the list and every
      value stored from the line lies inside the header's `val` (`pl_parseHdrLine`, `PlEff2`).
  Which header line each stored value belongs to, at the message level, is ValAssoc.lean.
  Min / max expires over several P-Asserted-Identity lines do not exist in the Go type (no such fields).
-/
import Sipsp.Proofs.HdrTyped
import Sipsp.Proofs.SigCovered

namespace Sipsp

/-! ### (1) several P-Asserted-Identity lines: the stored values -/

theorem pl_lines_size (c : PPAIs) (rss : List (List PFromBody)) : (c.htLines rss).vals.size = c.vals.size := by
  rw [PPAIs.htLines_eq]; exact ht_htLines_size c.toCt rss

/-- [C09 `pai_lines_stored`] for any object the lines are parsed into, whatever it already holds -/
theorem pl_lines_stored (c : PPAIs) (rss : List (List PFromBody)) (k : Nat) (hk : k < rss.flatten.length)
    (hin : c.n + k < c.vals.size) : (c.htLines rss).vals[c.n + k]! = rss.flatten[k] := by
  rw [PPAIs.htLines_eq]; exact ht_htLines_stored c.toCt rss k hk hin

theorem pl_lines_ready (c : PPAIs) (rss : List (List PFromBody)) (hr : HtPaReady c)
    (hne : ∀ rs ∈ rss, rs ≠ []) (hfin : ∀ rs ∈ rss, ∀ r ∈ rs, r.state = .fin) : HtPaReady (c.htLines rss) := by
  rw [PPAIs.htLines_eq]
  exact (ht_htLines_ready c.toCt rss hr.toCt hne hfin).toPa

/-- [C09 `pai_lines_more`] `More()` -/
theorem pl_lines_more (c : PPAIs) (rss : List (List PFromBody)) :
    (c.htLines rss).more = true ↔ c.n + rss.flatten.length > c.vals.size := by
  unfold PPAIs.more
  rw [ht_paLines_n, pl_lines_size]
  simp

/-- [C09 `pai_lines_get`] `GetPAI(k)` on an object that held no value before; nil from `min (N, capacity)` on -/
theorem pl_lines_getPAI (c : PPAIs) (hn : c.n = 0) (rss : List (List PFromBody)) (k : Nat) :
    (c.htLines rss).getPAI k =
      if h : k < rss.flatten.length ∧ k < c.vals.size then some (rss.flatten[k]'h.1) else none := by
  unfold PPAIs.getPAI PPAIs.vNo
  rw [ht_paLines_n, pl_lines_size, hn, Nat.zero_add]
  by_cases h : k < rss.flatten.length ∧ k < c.vals.size
  · rw [dif_pos h]
    have hv : (if rss.flatten.length > c.vals.size then c.vals.size else rss.flatten.length) > k := by
      split <;> omega
    rw [if_pos hv]
    have hsz : k < (c.htLines rss).vals.size := by rw [pl_lines_size]; exact h.2
    have := pl_lines_stored c rss k h.1 (by rw [hn]; omega)
    rw [hn, Nat.zero_add] at this
    rw [← this, getElem!_pos _ k hsz]
    exact Array.getElem?_eq_getElem hsz
  · rw [dif_neg h]
    have hv : ¬ (if rss.flatten.length > c.vals.size then c.vals.size else rss.flatten.length) > k := by
      split <;> omega
    rw [if_neg hv]

/-! #### the Go object: a fixed array of two -/

/-- [C09 `pai_new_lines`] the object as Go allocates it: two slots -/
theorem pl_new_lines (rss : List (List PFromBody)) :
    (({} : PPAIs).htLines rss).n = rss.flatten.length ∧
    (({} : PPAIs).htLines rss).hNo = rss.length ∧
    ((({} : PPAIs).htLines rss).more = true ↔ rss.flatten.length > 2) ∧
    (∀ k, (({} : PPAIs).htLines rss).getPAI k =
      if h : k < rss.flatten.length ∧ k < 2 then some (rss.flatten[k]'h.1) else none) := by
  refine ⟨by rw [ht_paLines_n]; exact Nat.zero_add _, by rw [ht_paLines_hNo]; exact Nat.zero_add _, ?_, fun k => ?_⟩
  · rw [pl_lines_more]; show 0 + _ > 2 ↔ _; omega
  · exact pl_lines_getPAI {} rfl rss k

theorem pl_new_getPAI0 (rss : List (List PFromBody)) (h : 0 < rss.flatten.length) :
    (({} : PPAIs).htLines rss).getPAI 0 = some rss.flatten[0] := by
  rw [(pl_new_lines rss).2.2.2 0, dif_pos ⟨h, by omega⟩]

/-- the second value, whether it stands on the first line or on a later one -/
theorem pl_new_getPAI1 (rss : List (List PFromBody)) (h : 1 < rss.flatten.length) :
    (({} : PPAIs).htLines rss).getPAI 1 = some rss.flatten[1] := by
  rw [(pl_new_lines rss).2.2.2 1, dif_pos ⟨h, by omega⟩]

theorem pl_new_getPAI_none (rss : List (List PFromBody)) (k : Nat) (hk : 2 ≤ k) :
    (({} : PPAIs).htLines rss).getPAI k = none := by
  rw [(pl_new_lines rss).2.2.2 k, dif_neg (by omega)]

theorem HtBlock.pl_pa_ne {b : Buf} {o e : Nat} {hv hv' : PHdrVals} {hs : List Hdr} {evs : List HtEv}
    (H : HtBlock b o hv hs evs e hv') : (∀ rs ∈ htPaOf evs, rs ≠ []) ∧ ∀ rs ∈ htPaOf evs, ∀ r ∈ rs, r.state = .fin := by
  induction H with
  | nil o e hv _ => exact ⟨(fun rs hrs => by cases hrs), (fun rs hrs => by cases hrs)⟩
  | cons o e1 e hv hv1 hv' h hs ev evs hline _ ih =>
    cases hline with
    | pai n c _ rs' hn ht hval =>
      refine ⟨fun rs hrs => ?_, fun rs hrs => ?_⟩
      · rcases List.mem_cons.1 hrs with h1 | h1
        · rw [h1]; exact hval.ne_nil
        · exact ih.1 rs h1
      · rcases List.mem_cons.1 hrs with h1 | h1
        · rw [h1]; exact ht_vallist_fin hval
        · exact ih.2 rs h1
    | _ => exact ih

/-- [C09 `block_pais`] a whole header block parsed by ParseHeaders with a new identity list: the four facts of
    `pl_new_lines`, whatever other headers stand between the P-Asserted-Identity lines -/
theorem HtBlock.pl_pais {b : Buf} {o e : Nat} {hv hv' : PHdrVals} {hs : List Hdr} {evs : List HtEv}
    (H : HtBlock b o hv hs evs e hv') (hnew : hv.pais = {}) :
    hv'.pais.n = (htPaOf evs).flatten.length ∧ hv'.pais.hNo = (htPaOf evs).length ∧
    (hv'.pais.more = true ↔ (htPaOf evs).flatten.length > 2) ∧
    (∀ k, hv'.pais.getPAI k =
      if h : k < (htPaOf evs).flatten.length ∧ k < 2 then some ((htPaOf evs).flatten[k]'h.1) else none) := by
  rw [H.contacts.2, hnew]
  exact pl_new_lines (htPaOf evs)

/-- any identity list object: the values of earlier blocks / lines are kept -/
theorem HtBlock.pl_pais_stored {b : Buf} {o e : Nat} {hv hv' : PHdrVals} {hs : List Hdr} {evs : List HtEv}
    (H : HtBlock b o hv hs evs e hv') (k : Nat) (hk : k < (htPaOf evs).flatten.length)
    (hin : hv.pais.n + k < hv.pais.vals.size) :
    hv'.pais.vals[hv.pais.n + k]! = (htPaOf evs).flatten[k] ∧ hv'.pais.vals.size = hv.pais.vals.size ∧
    (hv'.pais.more = true ↔ hv.pais.n + (htPaOf evs).flatten.length > hv.pais.vals.size) := by
  rw [H.contacts.2]
  exact ⟨pl_lines_stored hv.pais _ k hk hin, pl_lines_size _ _, pl_lines_more _ _⟩

/-! ### (2) [C05] one header line: every value stored from it lies inside the `val` of its header -/

/-! #### a completed name-addr value is never empty -/

/-- the states in which the reported value `V` is the one already in the object -/
abbrev PnFixed (s : FBState) : Prop := s = .uriFound ∨ s = .nameOrURIEnd ∨ s = .star

/-- loop invariant: the value field `V` in the course of a parse at position `i` — it started before `i`; in the three
    states where it is final it is not empty; a pending end position lies behind its start -/
structure PnI (i : Nat) (pf : PFromBody) : Prop where
  lt : pf.state ≠ .init → pf.v.offs < i
  ne : PnFixed pf.state → 0 < pf.v.len
  endP : (pf.state = .paramNameEnd ∨ pf.state = .possibleParamNameEnd) → pf.v.offs < pf.pend ∧ pf.pend < 65536
  endV : (pf.state = .paramValEnd ∨ pf.state = .possibleValEnd) → pf.v.offs < pf.vend ∧ pf.vend < 65536

theorem PnI.mono {i j : Nat} {pf : PFromBody} (h : PnI i pf) (hij : i ≤ j) : PnI j pf :=
  ⟨fun hh => by have := h.lt hh; omega, h.ne, h.endP, h.endV⟩

theorem pn_extend_pos {v : PField} {e : Nat} (hv : v.offs < e) (he : e < 65536) : 0 < (v.extend e).len := by
  rw [PField.extend_len]; unfold trunc16; omega

theorem pn_nameWS {i : Nat} {pf : PFromBody} (hI : PnI i pf) (hfit : i < 65535) : PnI i (naNameWS pf i) := by
  have ⟨h1, h2, h3, h4⟩ := hI
  have h16 : i < 65536 := by omega
  unfold naNameWS
  split
  · rename_i hs
    have hv := h1 (fun h0 => by rw [h0] at hs; cases hs)
    exact ⟨fun _ => hv, nofun, fun _ => ⟨hv, h16⟩, nofun⟩
  · split
    · rename_i hs
      have hv := h1 (fun h0 => by rw [h0] at hs; cases hs)
      exact ⟨fun _ => hv, nofun, fun _ => ⟨hv, h16⟩, nofun⟩
    · exact hI

theorem pn_valWS {i n : Nat} {pf : PFromBody} (ok : Bool) (hI : PnI i pf) (hfit : i < 65535) :
    PnI i (naValWS pf i n ok) := by
  have ⟨h1, h2, h3, h4⟩ := hI
  have h16 : i < 65536 := by omega
  unfold naValWS
  split
  · split
    · exact ⟨h1, h2, h3, h4⟩
    · exact hI
  · split
    · exact ⟨h1, h2, h3, h4⟩
    · exact hI
  · rename_i hs
    have hv := h1 (by rw [hs]; decide)
    exact ⟨fun _ => hv, nofun, nofun, fun _ => ⟨hv, h16⟩⟩
  · rename_i hs
    have hv := h1 (by rw [hs]; decide)
    exact ⟨fun _ => hv, nofun, nofun, fun _ => ⟨hv, h16⟩⟩
  · exact hI

theorem pn_param {i : Nat} {pf : PFromBody} (hI : PnI i pf) (hni : pf.state ≠ .init) :
    PnI (i + 1) (naParamsOffs (naParamStart pf i) i) := by
  have hv : pf.v.offs < i + 1 := Nat.lt_succ_of_lt (hI.lt hni)
  have hP : PnI (i + 1) (naParamStart pf i) := by
    unfold naParamStart
    split
    · exact ⟨fun _ => hv, nofun, nofun, nofun⟩
    · split
      · exact ⟨fun _ => hv, nofun, nofun, nofun⟩
      · exact hI.mono (Nat.le_succ i)
  unfold naParamsOffs
  split
  · exact ⟨hP.lt, hP.ne, hP.endP, hP.endV⟩
  · exact hP

theorem PnI.lwsURI {i : Nat} {pf : PFromBody} (hI : PnI i pf) (hfit : i < 65535) (hg : pf.state = .nameOrURI) :
    PnI i { (pf.setURI pf.s i).extV i with state := .nameOrURIEnd } := by
  have hv := hI.lt (by rw [hg]; decide)
  refine ⟨fun _ => ?_, fun _ => ?_, nofun, nofun⟩
  · show (pf.v.extend i).offs < i
    rw [PField.extend_offs]; exact hv
  · exact pn_extend_pos hv (by omega)

theorem PnI.stored {i : Nat} {pf : PFromBody} (b : Buf) (hv : pf.v.offs < i)
    (hs : pf.state = .newParam ∨ pf.state = .newPossibleParam) : PnI i (setFromParamVal b pf) := by
  refine ⟨fun _ => by rw [setFromParamVal_v]; exact hv, fun hh => ?_, fun hh => ?_, fun hh => ?_⟩ <;>
    (exfalso; rw [setFromParamVal_state] at hh; rcases hs with g | g <;> rw [g] at hh <;> revert hh <;> decide)

theorem NaTr.pn {h : Nat} {b : Buf} {i : Nat} {c : UInt8} {pf : PFromBody} (hfit : i < 65535) (hI : PnI i pf)
    {i' : Nat} {st' : PFromBody} (t : NaTr h b i c pf (.cont i' st')) : PnI i' st' := by
  have ⟨h1, h2, h3, h4⟩ := hI
  cases t
  case a_lwsURI hg hl t =>
    obtain ⟨⟨crl, hk⟩, rfl⟩ := t.of_cont
    exact (hI.lwsURI hfit hg).mono (skipLWS_range b i 0 hk).1
  case a_lws hg hl t | q_lws hg hl t | uf_lws hg hl t =>
    all_goals
      obtain ⟨⟨crl, hk⟩, rfl⟩ := t.of_cont
      exact hI.mono (skipLWS_range b i 0 hk).1
  case p_lws hg hl t =>
    obtain ⟨⟨crl, hk⟩, rfl⟩ := t.of_cont
    exact (pn_nameWS hI hfit).mono (skipLWS_range b i 0 hk).1
  case v_lws hg hl t =>
    obtain ⟨⟨crl, hk⟩, rfl⟩ := t.of_cont
    exact (pn_valWS true hI hfit).mono (skipLWS_range b i 0 hk).1
  case q_esc => exact hI.mono (by omega)
  case comma1 | a_star | a_tok | q_tok | u_tok | uf_tok | p_semiNew | v_tok | other =>
    all_goals exact hI.mono (Nat.le_succ i)
  case p_tok hg hl hc => exact pn_param hI (by rcases hg with g | g | g | g <;> rw [g] <;> decide)
  case p_semi hg hc | p_semiP hg hc | pe_semi hg hc | pe_semiP hg hc | v_semi hg hc | v_semiP hg hc | ve_semi hg hc |
      ve_semiP hg hc =>
    all_goals
      refine PnI.stored b (Nat.lt_succ_of_lt (h1 fun h0 => ?_)) ?_
      · revert hg; rw [h0]; decide
      · first | exact Or.inl rfl | exact Or.inr rfl
  -- the value starts at this byte
  case lt_init | quote_init | tok_init =>
    all_goals
      refine ⟨fun _ => ?_, nofun, nofun, nofun⟩
      show i % 65536 < i + 1
      have := Nat.mod_le i 65536; omega
  case star_init =>
    refine ⟨fun _ => ?_, fun _ => ?_, nofun, nofun⟩
    · show i % 65536 < i + 1
      have := Nat.mod_le i 65536; omega
    · show 0 < (i + 1 - i) % 65536
      omega
  -- the value ends with this byte (`>`)
  case u_close hg hc =>
    have hv := h1 (by rw [hg]; decide)
    refine ⟨fun _ => ?_, fun _ => pn_extend_pos (Nat.lt_succ_of_lt hv) (by omega), nofun, nofun⟩
    show (pf.v.extend (i + 1)).offs < i + 1
    rw [PField.extend_offs]; omega
  case semi_uri hg hc =>
    have hv := h1 (by rw [hg]; decide)
    refine ⟨fun _ => ?_, nofun, nofun, nofun⟩
    show (pf.v.extend (i + 1)).offs < i + 1
    rw [PField.extend_offs]; omega
  -- every other step leaves `V` alone and enters a state of which the invariant asks nothing more
  case lt_name hg _ | quote_name hg _ | semi_uriEnd hg _ | tok_uriEnd hg _ _ | q_close hg _ | q_closeVal hg _ |
      q_closePVal hg _ | uf_semi hg _ | p_eq hg _ | p_eqP hg _ | pe_eq hg _ | pe_eqP hg _ | v_quote hg _ |
      v_quoteNew hg _ | v_quoteP hg _ | v_quoteNewP hg _ | v_tokNew hg _ _ | v_tokNewP hg _ _ =>
    all_goals
      refine ⟨fun _ => Nat.lt_succ_of_lt (h1 fun h0 => ?_), nofun, nofun, nofun⟩
      revert hg; rw [h0]; decide

/-- what is shown of every exit of the loop: a completed value (OK / "more values") has at least one byte -/
def PnDone (e : Err) (st' : PFromBody) : Prop := (e = .ok ∨ e = .moreValues) → 0 < st'.v.len

theorem pn_d_err {e : Err} {st' : PFromBody} (h1 : e ≠ .ok) (h2 : e ≠ .moreValues) : PnDone e st' := by
  intro hh; rcases hh with hh | hh
  · exact absurd hh h1
  · exact absurd hh h2

theorem pn_eohPN (b : Buf) (pf : PFromBody) (i : Nat) : (naEOHParamName b pf i).v = pf.v.extend i := by
  unfold naEOHParamName
  simp only [PFromBody.extV, PFromBody.extParams]
  repeat' split
  all_goals first | rfl | (rw [setFromParamVal_v])

theorem pn_eohV (b : Buf) (pf : PFromBody) (i : Nat) : (naEOHVal b pf i).v = pf.v.extend i := by
  unfold naEOHVal PFromBody.extV
  rw [PFromBody.extParams_v, setFromParamVal_v]

/-- the states in which `endOfHdr` extends the value to the end position, grouped as in `NaEoh` -/
def PnExt (s : FBState) : Prop :=
  s = .nameOrURI ∨
  (s = .newParam ∨ s = .paramNameEnd ∨ s = .newPossibleParam ∨ s = .possibleParamNameEnd ∨ s = .paramName ∨
    s = .possibleParamName) ∨
  (s = .paramValEnd ∨ s = .possibleValEnd) ∨ (s = .newParamVal ∨ s = .newPossibleVal) ∨ (s = .paramVal ∨ s = .possibleVal)

/-- `endOfHdr` with OK or "more values": the verdict is the one it was asked to give; the value is the one in the object
    (the three states where nothing is added) or that one extended to the end position `e` -/
theorem pn_eoh (h : Nat) (b : Buf) (pf : PFromBody) (e n crl : Nat) (r : Err)
    (hc : (naEOH h b pf e n crl r).2.1 = .ok ∨ (naEOH h b pf e n crl r).2.1 = .moreValues) :
    (naEOH h b pf e n crl r).2.1 = r ∧
    ((PnFixed pf.state ∧ (naEOH h b pf e n crl r).2.2.v = pf.v) ∨
      (PnExt pf.state ∧ (naEOH h b pf e n crl r).2.2.v = pf.v.extend e)) := by
  rcases naEOH_tr h b pf e n crl r with ⟨q, t, hq⟩ | hq <;> rw [hq] at hc ⊢
  · cases t
    case found hg => exact ⟨rfl, .inl ⟨hg.elim .inl fun g => .inr (.inl g), rfl⟩⟩
    case nameOrURI hg => exact ⟨rfl, .inr ⟨.inl hg, rfl⟩⟩
    case paramName hg => exact ⟨rfl, .inr ⟨.inr (.inl hg), pn_eohPN b pf e⟩⟩
    case valEnd hg =>
      refine ⟨rfl, .inr ⟨.inr (.inr (.inl hg)), ?_⟩⟩
      show (((setFromParamVal b pf).extParams e).extV e).v = pf.v.extend e
      unfold PFromBody.extV
      rw [PFromBody.extParams_v, setFromParamVal_v]
    case newVal hg => exact ⟨rfl, .inr ⟨.inr (.inr (.inr (.inl hg))), pn_eohV b _ e⟩⟩
    case val hg => exact ⟨rfl, .inr ⟨.inr (.inr (.inr (.inr hg))), pn_eohV b pf e⟩⟩
    case star hg => exact ⟨rfl, .inl ⟨.inr (.inr hg), rfl⟩⟩
    case bad hg => rcases hc with hc | hc <;> cases hc
  · rcases hc with hc | hc <;> cases hc

theorem pn_d_eoh (h : Nat) {b : Buf} {i : Nat} (pf : PFromBody) (e n crl : Nat) (r : Err) (hI : PnI i pf)
    (hpre : pf.state ≠ .init → pf.v.offs < e) (he : e < 65536) :
    PnDone (naEOH h b pf e n crl r).2.1 (naEOH h b pf e n crl r).2.2 := by
  intro hc
  rcases (pn_eoh h b pf e n crl r hc).2 with ⟨hs, hv⟩ | ⟨hs, hv⟩ <;> rw [hv]
  · exact hI.ne hs
  · exact pn_extend_pos (hpre fun h0 => by rw [h0] at hs; revert hs; unfold PnExt; decide) he

/-- `pe` is the object that reaches the end of the header -/
theorem NaLws.pnDone {h : Nat} {b : Buf} {i : Nat} {om : Nat → Nat} {pm : PFromBody} {pk : Nat → PFromBody}
    {pe : PFromBody} {o : Nat} {e : Err} {st' : PFromBody} (t : NaLws h b i om pm pk pe (.done o e st'))
    (hfit : i < 65536) (hE : PnI i pe) : PnDone e st' := by
  cases t
  case eoh n crl hk => exact pn_d_eoh h pe i n crl .ok hE hE.lt hfit
  all_goals exact pn_d_err (by decide) (by decide)

theorem NaTr.pnDone {h : Nat} {b : Buf} {i : Nat} {c : UInt8} {pf : PFromBody} (hfit : i < 65535) (hI : PnI i pf)
    {o : Nat} {e : Err} {st' : PFromBody} (t : NaTr h b i c pf (.done o e st')) : PnDone e st' := by
  have h16 : i < 65536 := by omega
  cases t
  case a_lwsURI hg hl t => exact t.pnDone h16 (hI.lwsURI hfit hg)
  case a_lws hg hl t | q_lws hg hl t | uf_lws hg hl t => all_goals exact t.pnDone h16 hI
  case p_lws hg hl t => exact t.pnDone h16 (pn_nameWS hI hfit)
  case v_lws hg hl t => exact t.pnDone h16 (pn_valWS false hI hfit)
  case comma hg hc hm => exact pn_d_eoh h pf i i 1 .moreValues hI hI.lt h16
  case commaWS ev hg hc hm =>
    rcases hg with ⟨hg, rfl⟩ | ⟨hg, rfl⟩
    · exact pn_d_eoh h pf pf.pend i 1 .moreValues hI (fun _ => (hI.endP hg).1) (hI.endP hg).2
    · exact pn_d_eoh h pf pf.vend i 1 .moreValues hI (fun _ => (hI.endV hg).1) (hI.endV hg).2
  all_goals exact pn_d_err (by decide) (by decide)

/-- [C05 `value_nonempty`, C09] every header kind, every input within the 65,535-byte limit -/
theorem pn_value_nonempty (h : Nat) (b : Buf) (o : Nat) (hfit : b.size ≤ 65535)
    {o' : Nat} {e : Err} {pf' : PFromBody} (hp : parseNameAddrPVal h b o {} = (o', e, pf'))
    (hc : e = .ok ∨ e = .moreValues) : 0 < pf'.v.len := by
  unfold parseNameAddrPVal at hp
  rw [if_neg (by decide)] at hp
  simp only [Prod.mk.injEq] at hp
  obtain ⟨rfl, rfl, rfl⟩ := hp
  have h0 : PnI o { ({} : PFromBody) with s := ({} : PFromBody).soffs, soffs := 0 } :=
    ⟨fun hh => absurd rfl hh, nofun, nofun, nofun⟩
  have key := runLoop_inv (naMachine h) b (fun i st => PnI i st)
    (fun r => PnDone r.2.1 r.2.2)
    (by
      intro i c st i' st' hb hP hs
      have hlt := get?_lt hb
      have t := naStep_tr h b i c st
      rw [show naStep h b i c st = .cont i' st' from hs] at t
      exact ⟨fun _ => t.pn (by omega) hP, fun _ => pn_d_err (e := Err.lbug) (by decide) (by decide)⟩)
    (by
      intro i c st o1 e1 st1 hb hP hs
      have hlt := get?_lt hb
      have t := naStep_tr h b i c st
      rw [show naStep h b i c st = .done o1 e1 st1 from hs] at t
      exact t.pnDone (by omega) hP)
    (by
      intro i st _ _
      exact pn_d_err (e := Err.moreBytes) (by decide) (by decide))
    o _ h0
  rcases hrl : runLoop (naMachine h) b o { ({} : PFromBody) with s := ({} : PFromBody).soffs, soffs := 0 } with ⟨o1, e1, p1⟩
  rw [hrl] at key hc
  have := key hc
  unfold naExit
  split <;> exact this


theorem pn_nonempty_prop (b : Buf) (hfit : b.size ≤ 65535) : HxValProp2 b fun _ pf => 0 < pf.v.len :=
  fun h o _ _ _ hp hc => pn_value_nonempty h b o hfit hp hc

/-- `v` is not empty and lies inside the span `L` -/
def PlIn (L v : PField) : Prop := 0 < v.len ∧ svInside L v

/-- what one header line did to a value list of the header type `ty` (`vals`, `n` before, `vals'`, `n'` after; `t`, `V` =
    type and value of the header of that line): nothing; or the header has type `ty`, the old values are untouched and
    every value stored from the line lies inside `V` -/
def PlEff (ty : Nat) (vals : Array PFromBody) (n : Nat) (vals' : Array PFromBody) (n' : Nat) (t : Nat) (V : PField) : Prop :=
  (vals' = vals ∧ n' = n) ∨
  (t = ty ∧ PlKeep vals n vals' n' ∧ ∀ j, n ≤ j → j < n' → j < vals'.size → PlIn V vals'[j]!.v)

/-- `PlEff` for the Contact list and for the P-Asserted-Identity list of a values object (`hv` before, `hv'` after the line) -/
def PlEff2 (hv hv' : PHdrVals) (t : Nat) (V : PField) : Prop :=
  PlEff HdrContact hv.contacts.vals hv.contacts.n hv'.contacts.vals hv'.contacts.n t V ∧
  PlEff HdrPAI hv.pais.vals hv.pais.n hv'.pais.vals hv'.pais.n t V

theorem PlEff2.same (hv : PHdrVals) (t : Nat) (V : PField) : PlEff2 hv hv t V :=
  ⟨Or.inl ⟨rfl, rfl⟩, Or.inl ⟨rfl, rfl⟩⟩

theorem pl_parseBody (b : Buf) (o : Nat) (h : Hdr) (hv : PHdrVals) (hfit : b.size ≤ 65535) (ho : o ≤ b.size)
    (hst : h.state = .bodyStart) (hct : CtIdle b hv.contacts) (hpa : PaIdle b hv.pais)
    {n : Nat} {e : Err} {h2 : Hdr} {hb2 : Option PHdrVals} (hr : parseBody b o h (some hv) = (n, e, h2, hb2)) :
    ∃ hv2, hb2 = some hv2 ∧ h2.type = h.type ∧ (e = .ok → PlEff2 hv hv2 h2.type h2.val) := by
  by_cases htc : h.type = HdrContact
  · obtain ⟨c1, hq, rfl, rfl⟩ := parseBody_contact_new htc (by rw [hst]; decide) hr
    have hk := (pl_contact_line_keep b o hv.contacts (hv.contacts.hNo + 1)).1
    rw [hq] at hk
    refine ⟨_, rfl, rfl, fun he => ?_⟩
    subst he
    have hin := (svc_contact_line b o hv.contacts _ hfit ho hct.clean hct.cur hq).2
    have hne := hx_contact_line_all b o hv.contacts _ (pn_nonempty_prop b hfit) hct.clean hct.cur hq
    refine ⟨Or.inr ⟨htc, hk, fun j h1 h2 h3 => ?_⟩, Or.inl ⟨rfl, rfl⟩⟩
    have hp := hne j h1 h2 h3
    rcases hin j h1 h2 h3 with h0 | h0
    · omega
    · exact ⟨hp, h0⟩
  by_cases htp : h.type = HdrPAI
  · obtain ⟨c1, hq, rfl, rfl⟩ := parseBody_pai_new htp (by rw [hst]; decide) hr
    have hk := (pl_pai_line_keep b o hv.pais (hv.pais.hNo + 1)).1
    rw [hq] at hk
    refine ⟨_, rfl, rfl, fun he => ?_⟩
    subst he
    have hin := (svc_pai_line b o hv.pais _ hfit ho hpa.clean hpa.cur hq).2
    have hne := hx_pai_line_all b o hv.pais _ (pn_nonempty_prop b hfit) hpa.clean hpa.cur hq
    refine ⟨Or.inl ⟨rfl, rfl⟩, Or.inr ⟨htp, hk, fun j h1 h2 h3 => ?_⟩⟩
    have hp := hne j h1 h2 h3
    rcases hin j h1 h2 h3 with h0 | h0
    · omega
    · exact ⟨hp, h0⟩
  -- any other type: the two lists are not touched
  rw [parseBody_eq] at hr
  cases hk : valKind h hv with
  | none => rw [hk] at hr; cases hr; exact ⟨hv, rfl, rfl, fun _ => PlEff2.same hv _ _⟩
  | some S =>
    rw [hk] at hr
    obtain ⟨i1, i2, -⟩ := pl_valKind_inv hk
    obtain ⟨f1, f2, -⟩ := pl_valCall_frame S h.state b o hv
    cases hr
    have e1 := f1 fun hs => htc (i1 hs)
    have e2 := f2 fun hs => htp (i2 hs)
    exact ⟨_, rfl, rfl, fun _ => ⟨.inl ⟨by rw [e1], by rw [e1]⟩, .inl ⟨by rw [e2], by rw [e2]⟩⟩⟩

/-- the states of a header object without a value parser in progress -/
def PlGen (s : HState) : Prop :=
  s = .init ∨ s = .name ∨ s = .nameEnd ∨ s = .bodyStart ∨ s = .val ∨ s = .valEnd

/-- the header object has no value parser in progress (in particular a new one); both value lists idle -/
theorem pl_parseHdrLine (b : Buf) (o : Nat) (h : Hdr) (hv : PHdrVals) (hfit : b.size ≤ 65535) (hst : PlGen h.state)
    (hct : CtIdle b hv.contacts) (hpa : PaIdle b hv.pais)
    {o' : Nat} {e : Err} {h' : Hdr} {hb' : Option PHdrVals} (hr : parseHdrLine b o h (some hv) = (o', e, h', hb')) :
    ∃ hv', hb' = some hv' ∧ (e = .empty → hv' = hv) ∧ (e = .ok → PlEff2 hv hv' h'.type h'.val) := by
  have hst' : HxPre h.state ∨ (svG3 h.state ∧ True) := by
    rcases hst with g | g | g | g | g | g
    · exact .inl (.inl g)
    · exact .inl (.inr (.inl g))
    · exact .inl (.inr (.inr g))
    · exact .inr ⟨.inl g, trivial⟩
    · exact .inr ⟨.inr (.inl g), trivial⟩
    · exact .inr ⟨.inr (.inr g), trivial⟩
  obtain ⟨hv', hb, hcase⟩ := hx_parseHdrLine_splitG (G := fun _ => True) b o h hv (fun _ _ _ => trivial) hst' hr
  simp only at hb hcase
  subst hb
  refine ⟨hv', rfl, ?_⟩
  rcases hcase with ⟨rfl, _⟩ | ⟨i, h1, h2, hi, hs1, hp, _, hne, hh'⟩
  · exact ⟨fun _ => rfl, fun _ => PlEff2.same _ _ _⟩
  · obtain ⟨hv2, hq, _, hok⟩ := pl_parseBody b i h1 hv hfit hi hs1 hct hpa hp
    cases hq
    refine ⟨fun he => absurd he hne, fun he => ?_⟩
    subst he
    rw [hh']
    simp only [flo_beq_ok, ↓reduceIte]
    exact hok rfl

/-! ### non-vacuity and tests (closed computations: examples, not the general claims) -/

theorem pl_nameRun_of_check {b : Buf} {i j : Nat}
    (h : runCheck (fun c => !isLWSch c && c != 58) b i j = true) : NameRun b i j := by
  intro k h1 h2
  obtain ⟨c, hc, hp⟩ := run_of_check h k h1 h2
  simp only [Bool.and_eq_true, Bool.not_eq_true', bne_iff_ne, ne_eq] at hp
  exact ⟨c, hc, hp.1, hp.2⟩

/-- the block used below: two P-Asserted-Identity lines with a Via line (compact `v`) between them; three values -/
abbrev plExB : Buf := "P-Asserted-Identity:<a>\r\nv:x\r\nP-Asserted-Identity:<b>,<c>\r\n\r\n".toUTF8.data

/-- `<x>` at `[o, o + 3)` as a name-addr value -/
theorem plEx_angle (h : Nat) (o o' : Nat) (e' : Err) (h0 : plExB[o]? = some 60)
    (h1 : runCheck isURIch plExB (o + 1) (o + 2) = true) (h2 : plExB[o + 2]? = some 62) (T : Term h plExB (o + 2 + 1) o' e') :
    NAValue h plExB o o' e' (naResult h {} ⟨o + 1, o + 2 - (o + 1)⟩ {} ⟨o, o + 2 + 1 - o⟩ {}) :=
  Or.inl ⟨o, o, o + 2, {}, .nil o, .none h0, run_of_check h1, by omega, h2, T, rfl⟩

/-- **the hypotheses of `HtBlock.pl_pais` are satisfiable** (non-vacuity): the block above is an `HtBlock` with a
    P-Asserted-Identity line of one value, a generic line, and a P-Asserted-Identity line of two values -/
theorem plEx_block : ∃ hs hv', HtBlock plExB 0 htExHv hs [.pai
      [naResult HdrPAI {} ⟨21, 1⟩ {} ⟨20, 3⟩ {}], .other,
      .pai [naResult HdrPAI {} ⟨51, 1⟩ {} ⟨50, 3⟩ {}, naResult HdrPAI {} ⟨55, 1⟩ {} ⟨54, 3⟩ {}]] 61 hv' ∧
    hs.length = 3 := by
  have nm : ∀ o : Nat, runCheck (fun c => !isLWSch c && c != 58) plExB o (o + 19) = true → plExB[o + 19]? = some 58 →
      HtName plExB o (o + 19) (o + 19) := by
    intro o h1 h2
    exact ⟨pl_nameRun_of_check h1, by omega, fun k hk1 hk2 => by omega, Nat.le_refl _, h2⟩
  have l1 : HtLine plExB 0 htExHv 25 _ _ (.pai [naResult HdrPAI {} ⟨21, 1⟩ {} ⟨20, 3⟩ {}]) :=
    .pai 19 19 25 _ (nm 0 (by decide) (by decide)) (by decide +kernel)
      (.last 20 25 _ (plEx_angle HdrPAI 20 25 .ok (by decide) (by decide) (by decide)
        (.eol 23 25 118 (.nil 23) (.crlf 23 (by decide) (by decide)) (by decide) (by decide))))
  have l2 : ∀ hv, HtLine plExB 25 hv 30 (hdrAt (getHdrType (plExB.extract 25 26)) 25 26 ⟨27, 28 - 27⟩ .fin) hv .other := by
    intro hv
    refine .generic 30 _ (Or.inl ⟨26, 26, 27, 28, 28, 80, ?_, by decide, fun k h1 h2 => by omega, by decide, by decide,
      .nil 27, ?_, .crlf 28 (by decide) (by decide), by decide, by decide, rfl⟩) (Or.inl ?_)
    · exact pl_nameRun_of_check (by decide)
    · refine .last 27 28 28 (fun k h1 h2 => ?_) (by decide) (.nil 28)
      have : k = 27 := by omega
      subst this; exact ⟨120, by decide, by decide⟩
    · show IsOther (getHdrType (plExB.extract 25 26))
      have ht : getHdrType (plExB.extract 25 26) = HdrVia := by decide +kernel
      rw [ht]; unfold IsOther; decide
  have l3 : ∀ hv : PHdrVals, HtLine plExB 30 hv 59
      (hdrAt HdrPAI 30 49 (htSpan [naResult HdrPAI {} ⟨51, 1⟩ {} ⟨50, 3⟩ {}, naResult HdrPAI {} ⟨55, 1⟩ {} ⟨54, 3⟩ {}]) .fin)
      { hv with pais := hv.pais.htLine [naResult HdrPAI {} ⟨51, 1⟩ {} ⟨50, 3⟩ {}, naResult HdrPAI {} ⟨55, 1⟩ {} ⟨54, 3⟩ {}] }
      (.pai [naResult HdrPAI {} ⟨51, 1⟩ {} ⟨50, 3⟩ {}, naResult HdrPAI {} ⟨55, 1⟩ {} ⟨54, 3⟩ {}]) := by
    intro hv
    exact .pai 49 49 59 _ (nm 30 (by decide) (by decide)) (by decide +kernel)
      (.cons 50 54 59 _ _ (plEx_angle HdrPAI 50 54 .moreValues (by decide) (by decide) (by decide)
          (.comma 53 (.nil 53) (by decide) (by decide)))
        (.last 54 59 _ (plEx_angle HdrPAI 54 59 .ok (by decide) (by decide) (by decide)
          (.eol 57 59 13 (.nil 57) (.crlf 57 (by decide) (by decide)) (by decide) (by decide)))))
  exact ⟨_, _, .cons 0 25 61 _ _ _ _ _ _ _ l1 (.cons 25 30 61 _ _ _ _ _ _ _ (l2 _) (.cons 30 59 61 _ _ _ _ _ _ _ (l3 _)
    (.nil 59 61 _ (.crlf 59 (by decide) (by decide))))), rfl⟩

/-- what the theorems say about the block `plExB`: ParseHeaders returns OK at offset 61; the identity list has seen two
    P-Asserted-Identity lines and three values; `GetPAI 0` is the value of the first line, `GetPAI 1` the FIRST value of
    the second line, the third value is counted but not stored: `More()` is true and `GetPAI 2` is nil -/
example : ∃ hl' hv', parseHeaders plExB 0 { hdrs := Array.replicate 4 {} } (some htExHv) = (61, .ok, hl', some hv') ∧
    hv'.pais.hNo = 2 ∧ hv'.pais.n = 3 ∧ hv'.pais.more = true ∧
    hv'.pais.getPAI 0 = some (naResult HdrPAI {} ⟨21, 1⟩ {} ⟨20, 3⟩ {}) ∧
    hv'.pais.getPAI 1 = some (naResult HdrPAI {} ⟨51, 1⟩ {} ⟨50, 3⟩ {}) ∧
    hv'.pais.getPAI 2 = none := by
  obtain ⟨hs, hv', hb, hlen⟩ := plEx_block
  have hnew := ht_new_list_ok 4
  obtain ⟨hp, _⟩ := ht_parseHeaders_block plExB (by decide) hb _ hnew.1 hnew.2 htExHv_ready
  have hn : (({ hdrs := Array.replicate 4 {} } : HdrLst).acceptAll hs).n = 3 := by rw [acceptAll_n, hlen]
  obtain ⟨q1, q2, q3, q4⟩ := hb.pl_pais rfl
  refine ⟨_, hv', by rw [hp, hn]; rfl, by rw [q2]; rfl, by rw [q1]; rfl, q3.2 (by decide), ?_, ?_, ?_⟩
  · rw [q4 0]; rfl
  · rw [q4 1]; rfl
  · rw [q4 2]; rfl

/-- tests for `pn_value_nonempty`: the texts that would give a value without a single byte are rejected (leading comma,
    two commas in a row, comma before the line end: verdict "bad"); `<>` is accepted with `V` = the two brackets -/
example :
    (parseAllContactValues ",<a>\r\n\r\n".toUTF8.data 0 { vals := Array.replicate 3 {} }).2.1 = .bad ∧
    (parseAllContactValues "<a>,,<b>\r\n\r\n".toUTF8.data 0 { vals := Array.replicate 3 {} }).2.1 = .bad ∧
    (parseAllContactValues "<a>,\r\n\r\n".toUTF8.data 0 { vals := Array.replicate 3 {} }).2.1 = .bad ∧
    (parseAllContactValues "<>\r\n\r\n".toUTF8.data 0 { vals := Array.replicate 3 {} }).2.1 = .ok ∧
    (parseAllContactValues "<>\r\n\r\n".toUTF8.data 0 { vals := Array.replicate 3 {} }).2.2.vals[0]!.v = ⟨0, 2⟩ := by
  decide +kernel

end Sipsp
