/-
  Sipsp.Proofs.ParamAt — the text ParseTokenParam has read so far.  `PVAt b flags o i st`: the text `[o, i)` is the
  beginning of a parameter and the automaton is in state `st` after it.  It is an invariant of the loop, and a final
  iteration taken from such a position is described by what it returns: `BadChar` / `MoreBytes` with a description of
  the rejected / suspended text (`PVBad`, `PVMore`, `PVMoreAt`), an accepting verdict with a parameter of the grammar
  that the text holds.  `pv_run` is the statement for the whole loop; the verdict theorems of `ParamVerdicts`, the
  soundness theorem of `ParamSound` and the exact description of a suspended call (`afc_moreBytes_iff`) are read off it.
  The notions used come from below: the grammar of `ParamSpec` (`PChar`, `PRun`, `Pad`, `AfterSep`, `Ending`, `PSEnd`,
  `PSClose`, `PSValue`, `PSParam`, the rejected bytes `BadCh` / `PVRej`), the white space of `Lex` (`Lws`, `Eol`,
  `EndTail`), the inside of a quoted string of `SkipQuoted` (`QBody`, `PVQPre`, `PVQBad`).
-/
import Sipsp.Proofs.ParamSpec
import Sipsp.Proofs.TokParamTrans

namespace Sipsp

/-! ### what `skipLWS` skips, in the terms of the grammar -/

theorem pv_skipLWS_eoh (b : Buf) (i flags : Nat) {n crl : Nat} (h : skipLWS b i flags = (n, crl, .eoh)) :
    ∃ q, Lws b i q ∧ PSEnd b flags q n crl := by
  cases skipLWS_out' h with
  | eoh hl he h2 hw => exact ⟨n, hl, .eoh n _ _ he h2 hw⟩
  | @eohEnd q hl h0 h1 h2 hf => exact ⟨q, hl, .inputEnd q hf (.crlf q h0 h1 h2)⟩

/-- where `skipLWS` asks for more bytes (any option word): linear white space up to a point where the input ends
    (nothing left, a lone CR / LF as the last byte, or CR LF as the last two bytes) -/
theorem pv_skipLWS_more (b : Buf) (i flags : Nat) {n crl : Nat} (h : skipLWS b i flags = (n, crl, .moreBytes)) :
    ∃ q, Lws b i q ∧ EndTail b q := by
  cases skipLWS_out' h with
  | more hl he _ => exact ⟨n, hl, he⟩

/-- the verdicts with which ParseTokenParam reports a parameter -/
def PSAcc (e : Err) : Prop := e = .ok ∨ e = .moreValues ∨ e = .eoh

theorem PSAcc.pv_excl {e : Err} (h : PSAcc e) : e ≠ .moreBytes ∧ e ≠ .badChar := by
  rcases h with h | h | h <;> (subst h; exact ⟨by decide, by decide⟩)

/-! ### the text read so far, by state: partial parameters -/

/-- after skipped empty items and linear white space, a complete NAME `[n0, n1)`: its first byte is an allowed byte
    other than the separator (at the start of a call the terminator is not special), the others are `PChar`s -/
def PVHead (b : Buf) (flags o n0 n1 : Nat) : Prop :=
  ∃ t c0, Pad b (tpSep flags) o t ∧ Lws b t n0 ∧ b[n0]? = some c0 ∧ tokAllowedChar c0 flags = true ∧
    c0 ≠ tpSep flags ∧ PRun b flags (n0 + 1) n1 ∧ n0 < n1

/-- `name [LWS] =`, the `=` at `q` -/
def PVEq (b : Buf) (flags o q : Nat) : Prop :=
  ∃ n0 n1, PVHead b flags o n0 n1 ∧ Lws b n1 q ∧ b[q]? = some 61

/-- a complete item `name`, `name =`, `name = token`, `name = "quoted"` ends at `j` -/
inductive PVDone (b : Buf) (flags o : Nat) : Nat → Prop
  | name (n0 n1 : Nat) : PVHead b flags o n0 n1 → PVDone b flags o n1
  | empty (q : Nat) : PVEq b flags o q → PVDone b flags o (q + 1)
  | tok (q v0 v1 : Nat) : PVEq b flags o q → Lws b (q + 1) v0 → PRun b flags v0 v1 → v0 < v1 → PVDone b flags o v1
  | quo (q v0 qe : Nat) : PVEq b flags o q → Lws b (q + 1) v0 → b[v0]? = some 34 → QBody b (v0 + 1) qe →
      PVDone b flags o qe

/-- **the text `[o, i)` is the beginning of a parameter**, and the automaton is in state `st` after it:
    `init` nothing but empty items and white space; `name` inside / right after a name; `fEq` after `name LWS`;
    `fVal` after `name [LWS] = [LWS]`; `val` inside / right after a token value; `quotedVal` right after the opening
    quote; `fSep` after `token LWS` or after a complete quoted string `[LWS]`; `fNxt` after a complete item, the
    separator, further empty items and white space. -/
inductive PVAt (b : Buf) (flags o : Nat) : Nat → TPState → Prop
  | init (t i : Nat) : Pad b (tpSep flags) o t → Lws b t i → PVAt b flags o i .init
  | name (n0 i : Nat) : PVHead b flags o n0 i → PVAt b flags o i .name
  | fEq (n0 n1 i : Nat) : PVHead b flags o n0 n1 → Lws b n1 i → n1 < i → PVAt b flags o i .fEq
  | fVal (q i : Nat) : PVEq b flags o q → Lws b (q + 1) i → PVAt b flags o i .fVal
  | val (q v0 i : Nat) : PVEq b flags o q → Lws b (q + 1) v0 → PRun b flags v0 i → v0 < i → PVAt b flags o i .val
  | quotedVal (q v0 : Nat) : PVEq b flags o q → Lws b (q + 1) v0 → b[v0]? = some 34 →
      PVAt b flags o (v0 + 1) .quotedVal
  | fSepTok (q v0 v1 i : Nat) : PVEq b flags o q → Lws b (q + 1) v0 → PRun b flags v0 v1 → v0 < v1 → Lws b v1 i →
      v1 < i → PVAt b flags o i .fSep
  | fSepQuo (q v0 qe i : Nat) : PVEq b flags o q → Lws b (q + 1) v0 → b[v0]? = some 34 → QBody b (v0 + 1) qe →
      Lws b qe i → PVAt b flags o i .fSep
  | fNxt (j s t i : Nat) : PVDone b flags o j → Lws b j s → b[s]? = some (tpSep flags) →
      Pad b (tpSep flags) (s + 1) t → Lws b t i → PVAt b flags o i .fNxt

/-- **`BadChar` at `p`**: the text `[o, p)` is the beginning of a parameter and the byte at `p` is one of those rejected
    after it — outside quotes (`byte`), a byte that may not stand in a quoted string (`quoted`), or a CR / LF after a
    backslash (`quotedEsc`: the error offset is that of the CR / LF, not of the backslash) -/
inductive PVBad (b : Buf) (flags o p : Nat) : Prop
  | byte (st : TPState) (c : UInt8) : PVAt b flags o p st → b[p]? = some c → PVRej flags st c → PVBad b flags o p
  | quoted (q v0 : Nat) (c : UInt8) : PVEq b flags o q → Lws b (q + 1) v0 → b[v0]? = some 34 →
      PVQPre b (v0 + 1) p → b[p]? = some c → PVQBad c → PVBad b flags o p
  | quotedEsc (q v0 m : Nat) (c : UInt8) : PVEq b flags o q → Lws b (q + 1) v0 → b[v0]? = some 34 →
      PVQPre b (v0 + 1) m → b[m]? = some 92 → p = m + 1 → b[p]? = some c → isCRLFch c = true → PVBad b flags o p

/-- **`MoreBytes` at `r`**: the text `[o, r)` is the beginning of a parameter and the rest of the buffer is linear white
    space cut short by the end of the buffer (`lws`), or `r` is the end of the buffer / a backslash that is the last
    byte, inside an open quoted string (`quoted`, `quotedEsc`).  This is what a `MoreBytes` verdict implies and what the
    verdict theorems state; it does not determine `r` (white space may go on before `r`): `PVMoreAt` does -/
inductive PVMore (b : Buf) (flags o r : Nat) : Prop
  | lws (st : TPState) (q : Nat) : PVAt b flags o r st → st ≠ .quotedVal → Lws b r q → EndTail b q → PVMore b flags o r
  | quoted (q v0 : Nat) : PVEq b flags o q → Lws b (q + 1) v0 → b[v0]? = some 34 → PVQPre b (v0 + 1) r →
      b[r]? = none → PVMore b flags o r
  | quotedEsc (q v0 : Nat) : PVEq b flags o q → Lws b (q + 1) v0 → b[v0]? = some 34 → PVQPre b (v0 + 1) r →
      b[r]? = some 92 → b[r + 1]? = none → PVMore b flags o r

/-- `r` is where unfinished white space STARTS: the start offset of the call, or a position whose preceding byte is not
    SP / HT / CR / LF (the prefix `Afc` of this name and of `AfcPin` is that of `AuditFixC`, where the equivalence
    `afc_moreBytes_iff` built on them is stated) -/
def AfcWsStart (b : Buf) (o r : Nat) : Prop :=
  r = o ∨ ∃ c, 0 < r ∧ b[r - 1]? = some c ∧ isLWSch c = false

/-- **`MoreBytes` at `r`, exactly**: `PVMore` with what determines `r`, so that it is equivalent to the verdict
    (`afc_moreBytes_iff`); to read off what a suspended call has seen `PVMore` is enough, to say where a text suspends
    this one is needed.
    * `lws`: the end-of-input option is OFF, and `r` is the START of the unfinished white space (`AfcWsStart`);
    * `quoted` / `quotedEsc` (any option word): as in `PVMore`, where `r` is determined already. -/
inductive PVMoreAt (b : Buf) (flags o r : Nat) : Prop
  | lws (st : TPState) (q : Nat) : hasFlag flags POptInputEndF = false → PVAt b flags o r st → st ≠ .quotedVal →
      AfcWsStart b o r → Lws b r q → EndTail b q → PVMoreAt b flags o r
  | quoted (q v0 : Nat) : PVEq b flags o q → Lws b (q + 1) v0 → b[v0]? = some 34 → PVQPre b (v0 + 1) r →
      b[r]? = none → PVMoreAt b flags o r
  | quotedEsc (q v0 : Nat) : PVEq b flags o q → Lws b (q + 1) v0 → b[v0]? = some 34 → PVQPre b (v0 + 1) r →
      b[r]? = some 92 → b[r + 1]? = none → PVMoreAt b flags o r

theorem PVMoreAt.pvMore {b : Buf} {flags o r : Nat} (h : PVMoreAt b flags o r) : PVMore b flags o r := by
  cases h with
  | lws st q _ hP hne _ hl he => exact PVMore.lws st q hP hne hl he
  | quoted q v0 he hl h34 hpre hn => exact PVMore.quoted q v0 he hl h34 hpre hn
  | quotedEsc q v0 he hl h34 hpre h92 hn => exact PVMore.quotedEsc q v0 he hl h34 hpre h92 hn

/-- the positions at which the loop of ParseTokenParam stands: the start offset, a position after a byte that is not
    white space, or a position AT such a byte; `pv_run` carries it beside `PVAt`, so that white space cut short by the end
    of the buffer is known to START where the loop stands -/
def AfcPin (b : Buf) (o i : Nat) : Prop :=
  AfcWsStart b o i ∨ ∃ c, b[i]? = some c ∧ isLWSch c = false

theorem AfcPin.start_of_lws {b : Buf} {o i : Nat} (h : AfcPin b o i) (hc : ∀ c, b[i]? = some c → isLWSch c = true) :
    AfcWsStart b o i := by
  rcases h with h | ⟨c, h1, h2⟩
  · exact h
  · rw [hc c h1] at h2; cases h2

theorem Pad.pv_snoc {b : Buf} {sep : UInt8} {i t s : Nat} (h : Pad b sep i t) (hl : Lws b t s)
    (hs : b[s]? = some sep) : Pad b sep i (s + 1) := by
  induction h with
  | nil i => exact Pad.item i s (s + 1) hl hs (Pad.nil _)
  | item i s' n hl' hs' _ ih => exact Pad.item i s' (s + 1) hl' hs' (ih hl)

theorem PRun.pv_snoc {b : Buf} {flags i j : Nat} {c : UInt8} (h : PRun b flags i j) (hb : b[j]? = some c)
    (hc : PChar flags c) : PRun b flags i (j + 1) := by
  intro k h1 h2
  by_cases hk : k = j
  · subst hk; exact ⟨c, hb, hc⟩
  · exact h k h1 (by omega)

theorem PVHead.pv_snoc {b : Buf} {flags o n0 n1 : Nat} {c : UInt8} (h : PVHead b flags o n0 n1) (hb : b[n1]? = some c)
    (hc : PChar flags c) : PVHead b flags o n0 (n1 + 1) := by
  obtain ⟨t, c0, h1, h2, h3, h4, h5, h6, h7⟩ := h
  exact ⟨t, c0, h1, h2, h3, h4, h5, h6.pv_snoc hb hc, by omega⟩

theorem PVAt.inv_init {b : Buf} {flags o i : Nat} (h : PVAt b flags o i .init) :
    ∃ t, Pad b (tpSep flags) o t ∧ Lws b t i := by
  cases h; exact ⟨_, by assumption, by assumption⟩

theorem PVAt.inv_quotedVal {b : Buf} {flags o i : Nat} (h : PVAt b flags o i .quotedVal) :
    ∃ q v0, PVEq b flags o q ∧ Lws b (q + 1) v0 ∧ b[v0]? = some 34 ∧ i = v0 + 1 := by
  cases h; exact ⟨_, _, by assumption, by assumption, by assumption, rfl⟩

theorem PVAt.lws_next {b : Buf} {flags o i n : Nat} {st : TPState} (h : PVAt b flags o i st) (hl : Lws b i n)
    (hlt : i < n) (hnq : st ≠ .quotedVal) :
    PVAt b flags o n (pvNext st) := by
  cases h with
  | init t i hp hl' => exact PVAt.init t n hp (hl'.trans hl)
  | name n0 i hh => exact PVAt.fEq n0 i n hh hl hlt
  | fEq n0 n1 i hh hl' hlt' => exact PVAt.fEq n0 n1 n hh (hl'.trans hl) (by omega)
  | fVal q i he hl' => exact PVAt.fVal q n he (hl'.trans hl)
  | val q v0 i he hl' hr hv => exact PVAt.fSepTok q v0 i n he hl' hr hv hl hlt
  | quotedVal q v0 he hl' h34 => exact absurd rfl hnq
  | fSepTok q v0 v1 i he hl' hr hv hl2 hlt2 => exact PVAt.fSepTok q v0 v1 n he hl' hr hv (hl2.trans hl) (by omega)
  | fSepQuo q v0 qe i he hl' h34 hq hl2 => exact PVAt.fSepQuo q v0 qe n he hl' h34 hq (hl2.trans hl)
  | fNxt j s t i hd hl1 hs hp hl2 => exact PVAt.fNxt j s t n hd hl1 hs hp (hl2.trans hl)

/-! ### one iteration keeps the description -/

/-- what a result means: an accepting verdict, or `MoreBytes` / `BadChar` with their descriptions; nothing else (the form
    of the verdict theorems; the loop proves `PVQA`) -/
def PVQ (b : Buf) (flags o r : Nat) (e : Err) : Prop :=
  e = .ok ∨ e = .eoh ∨ e = .moreValues ∨ (e = .moreBytes ∧ PVMore b flags o r) ∨ (e = .badChar ∧ PVBad b flags o r)

theorem PVQ.ok {b : Buf} {flags o r : Nat} : PVQ b flags o r .ok := Or.inl rfl
theorem PVQ.eoh {b : Buf} {flags o r : Nat} : PVQ b flags o r .eoh := Or.inr (Or.inl rfl)
theorem PVQ.mv {b : Buf} {flags o r : Nat} : PVQ b flags o r .moreValues := Or.inr (Or.inr (Or.inl rfl))
theorem PVQ.more {b : Buf} {flags o r : Nat} (h : PVMore b flags o r) : PVQ b flags o r .moreBytes :=
  Or.inr (Or.inr (Or.inr (Or.inl ⟨rfl, h⟩)))
theorem PVQ.bad {b : Buf} {flags o r : Nat} (h : PVBad b flags o r) : PVQ b flags o r .badChar :=
  Or.inr (Or.inr (Or.inr (Or.inr ⟨rfl, h⟩)))

/-- `PVQ`, and `MoreBytes` comes with the exact description `PVMoreAt`: what one iteration and the whole loop establish -/
def PVQA (b : Buf) (flags o r : Nat) (e : Err) : Prop := PVQ b flags o r e ∧ (e = .moreBytes → PVMoreAt b flags o r)

theorem PVQA.ok {b : Buf} {flags o r : Nat} : PVQA b flags o r .ok := ⟨PVQ.ok, nofun⟩
theorem PVQA.mv {b : Buf} {flags o r : Nat} : PVQA b flags o r .moreValues := ⟨PVQ.mv, nofun⟩
theorem PVQA.eoh {b : Buf} {flags o r : Nat} {e : Err} (h : e = .eoh) : PVQA b flags o r e := by
  subst h; exact ⟨PVQ.eoh, nofun⟩
theorem PVQA.more {b : Buf} {flags o r : Nat} (h : PVMoreAt b flags o r) : PVQA b flags o r .moreBytes :=
  ⟨PVQ.more h.pvMore, fun _ => h⟩
theorem PVQA.bad {b : Buf} {flags o r : Nat} (h : PVBad b flags o r) : PVQA b flags o r .badChar := ⟨PVQ.bad h, nofun⟩

def PVStepOK (b : Buf) (flags o : Nat) : Step PTokParam → Prop
  | .cont i' p' => PVAt b flags o i' p'.state ∧ AfcPin b o i'
  | .done o' e _ => PVQA b flags o o' e

theorem PVAt.live {b : Buf} {flags o i : Nat} {st : TPState} (h : PVAt b flags o i st) :
    st ≠ .err ∧ st ≠ .fin ∧ st ≠ .initNxtVal := by
  cases h <;> decide

theorem pv_tpEOH_eoh (p : PTokParam) (n crl : Nat) (h : p.state ≠ .quotedVal ∧ p.state ≠ .err ∧ p.state ≠ .fin) :
    (tpEOH p n crl).2.1 = .eoh := by
  unfold tpEOH
  cases hst : p.state with
  | quotedVal => exact absurd hst h.1
  | err => exact absurd hst h.2.1
  | fin => exact absurd hst h.2.2
  | _ => rfl

theorem pv_tpMoreBytes (b : Buf) (flags : Nat) (p : PTokParam) (i : Nat)
    (h : p.state ≠ .quotedVal ∧ p.state ≠ .err ∧ p.state ≠ .fin) :
    (tpMoreBytes b flags p i).2.1 = .eoh ∨
      (hasFlag flags POptInputEndF = false ∧ tpMoreBytes b flags p i = (i, .moreBytes, p)) := by
  cases hf : hasFlag flags POptInputEndF
  · exact Or.inr ⟨rfl, by unfold tpMoreBytes; rw [hf]; rfl⟩
  · left
    have e1 : ((p.extName i).extAll i).state = p.state := by cases p; rfl
    have e2 : ((p.extVal i).extAll i).state = p.state := by cases p; rfl
    unfold tpMoreBytes
    rw [hf, if_pos rfl]
    cases hst : p.state with
    | quotedVal => exact absurd hst h.1
    | err => exact absurd hst h.2.1
    | fin => exact absurd hst h.2.2
    | name => exact pv_tpEOH_eoh _ _ _ (e1 ▸ h)
    | val => exact pv_tpEOH_eoh _ _ _ (e2 ▸ h)
    | _ => exact pv_tpEOH_eoh _ _ _ h

theorem pv_spTermSep_ok (b : Buf) (offs i : Nat) (p : PTokParam) :
    ∃ o' p', tpSpTermSep b offs i p = .done o' .ok p' := by
  unfold tpSpTermSep
  simp only
  repeat' split
  all_goals exact ⟨_, _, rfl⟩

theorem pv_spTermEq_ok (offs i : Nat) (p : PTokParam) : ∃ o' p', tpSpTermEq offs i p = .done o' .ok p' := by
  unfold tpSpTermEq
  split <;> exact ⟨_, _, rfl⟩

/-- the white-space pattern keeps the description: the loop continues after linear white space, or stops with
    `EOH` / `MoreBytes`; never with `NoCR` -/
theorem pv_lws_step {b : Buf} {flags o i : Nat} {c : UInt8} {p : PTokParam} (upd : PTokParam → PTokParam)
    (hb : b[i]? = some c) (hl : isLWSch c = true) (hP : PVAt b flags o i p.state) (hpin : AfcPin b o i)
    (hne : p.state ≠ .quotedVal ∧ p.state ≠ .err ∧ p.state ≠ .fin)
    (hupd : (upd p).state = pvNext p.state) :
    PVStepOK b flags o (tpLWS b flags i p upd) := by
  have hupd_ne : (upd p).state ≠ .quotedVal ∧ (upd p).state ≠ .err ∧ (upd p).state ≠ .fin := by
    obtain ⟨h1, h2, h3⟩ := hne
    rw [hupd]
    cases hst : p.state <;> first
      | exact absurd hst h1
      | exact absurd hst h2
      | exact absurd hst h3
      | decide
  rcases hsk : skipLWS b i flags with ⟨n, crl, r⟩
  rcases skipLWS_three_verdicts b i flags hsk with rfl | rfl | rfl
  · rw [tpLWS_ok p upd hsk]
    show PVAt b flags o n (upd p).state ∧ AfcPin b o n
    rw [hupd]
    have hlw := skipLWS_ok_lws b i flags hsk
    obtain ⟨_, c', hc', hl'⟩ := skipLWS_ok b i flags hsk
    have hlt : i < n := by
      have := hlw.le
      rcases Nat.lt_or_ge i n with h | h
      · exact h
      · have : i = n := by omega
        subst this
        rw [hb] at hc'; cases hc'
        rw [hl] at hl'; cases hl'
    exact ⟨hP.lws_next hlw hlt hne.1, Or.inr ⟨c', hc', hl'⟩⟩
  · rw [tpLWS_eoh p upd hsk]
    exact PVQA.eoh (pv_tpEOH_eoh _ _ _ hupd_ne)
  · rw [tpLWS_more p upd hsk]
    rcases pv_tpMoreBytes b flags p i hne with h | ⟨hf, h⟩
    · exact PVQA.eoh h
    · rw [h]
      obtain ⟨q, hq, hend⟩ := pv_skipLWS_more b i flags hsk
      exact PVQA.more (.lws p.state q hf hP hne.1
        (hpin.start_of_lws fun c' hc' => by rw [hb] at hc'; cases hc'; exact hl) hq hend)

/-- what the choice of an action says about the byte (the actions not listed leave the byte to `skipLWS` /
    `SkipQuoted`) -/
def PVAct (flags : Nat) (c : UInt8) (s : TPState) : TpAct → Prop
  | .stay => (s = .init ∨ s = .fNxt → c = tpSep flags) ∧ (s = .name ∨ s = .val → PChar flags c)
  | .first => tokAllowedChar c flags = true ∧ c ≠ tpSep flags
  | .startVal => PChar flags c
  | .eqName | .eqF => c = 61
  | .quote => c = 34
  | .sep | .sepV => c = tpSep flags
  | .bad => s = .initNxtVal ∨ PVRej flags s c
  | .term | .termV => c = tpTerm flags ∧ tpTerm flags ≠ 0
  | .next => PChar flags c
  | .spEq | .spSep => PChar flags c ∧ hasFlag flags POptTokSpTermF = true
  | _ => True

theorem pv_pchar_iff {flags : Nat} {c : UInt8} :
    PChar flags c ↔ tokAllowedChar c flags = true ∧ c ≠ tpSep flags ∧ (c = tpTerm flags → tpTerm flags = 0) := by
  refine ⟨fun h => ⟨h.1, h.2.1, fun hc => absurd hc h.2.2⟩, fun h => ps_pchar h.1 (by simpa using h.2.1) ?_⟩
  cases hc : c == tpTerm flags with
  | false => rfl
  | true => rw [beq_iff_eq] at hc; rw [h.2.2 hc]; rfl

theorem pv_act (flags : Nat) (c : UInt8) (s : TPState) : PVAct flags c s (tpAct flags c s) := by
  cases s <;> simp only [tpAct] <;> repeat' split
  all_goals simp_all [PVAct, PVRej, BadCh, pv_pchar_iff]

/-- a complete item ends before the white space that leads to `i` -/
theorem PVAt.done {b : Buf} {flags o i : Nat} {st : TPState} (h : PVAt b flags o i st)
    (hst : st = .name ∨ st = .fEq ∨ st = .fVal ∨ st = .val ∨ st = .fSep) : ∃ j, PVDone b flags o j ∧ Lws b j i := by
  cases h with
  | name n0 i hh => exact ⟨i, .name n0 i hh, Lws.nil i⟩
  | fEq n0 n1 i hh hl _ => exact ⟨n1, .name n0 n1 hh, hl⟩
  | fVal q i he hl => exact ⟨q + 1, .empty q he, hl⟩
  | val q v0 i he hl hr hv => exact ⟨i, .tok q v0 i he hl hr hv, Lws.nil i⟩
  | fSepTok q v0 v1 i he hl hr hv hl2 _ => exact ⟨v1, .tok q v0 v1 he hl hr hv, hl2⟩
  | fSepQuo q v0 qe i he hl h34 hq hl2 => exact ⟨qe, .quo q v0 qe he hl h34 hq, hl2⟩
  | _ => rcases hst with h | h | h | h | h <;> cases h

/-- **one iteration of ParseTokenParam keeps the description of the text read so far**, and when it stops with
    `BadChar` / `MoreBytes` the description of the rejected / suspended text holds at the returned offset -/
theorem pv_step {b : Buf} {flags o offs i : Nat} {c : UInt8} {p : PTokParam} (hb : b[i]? = some c)
    (hP : PVAt b flags o i p.state) (hpin : AfcPin b o i) : PVStepOK b flags o (tpStep flags offs b i c p) := by
  rw [tpStep_eq]
  have hw := tpAct_when flags c p.state
  have hc := pv_act flags c p.state
  generalize ha : tpAct flags c p.state = a at hw hc
  have pin : a ≠ .lws → a ≠ .quoted → AfcPin b o (i + 1) := fun h1 h2 => Or.inl (Or.inr ⟨c, Nat.succ_pos i, hb, by
    cases hl : isLWSch c
    · rfl
    · exact absurd (ha.symm.trans (tpAct_of_lws hl ⟨hw.ne_quoted h2, hP.live.1, hP.live.2.1⟩)) h1⟩)
  cases a
  case lws => exact pv_lws_step _ hb hw.1 hP hpin hw.2 (by rw [tpLwsUpd_eq])
  case stay =>
    refine ⟨?_, pin nofun nofun⟩
    show PVAt b flags o (i + 1) p.state
    generalize p.state = st at hP hw hc
    cases hP with
    | init t i hp hl => rw [hc.1 (Or.inl rfl)] at hb; exact .init (i + 1) (i + 1) (hp.pv_snoc hl hb) (Lws.nil _)
    | name n0 i hh => exact .name n0 (i + 1) (hh.pv_snoc hb (hc.2 (Or.inl rfl)))
    | val q v0 i he hl hr hv => exact .val q v0 (i + 1) he hl (hr.pv_snoc hb (hc.2 (Or.inr rfl))) (by omega)
    | fNxt j s t i hd hl1 hs hp hl2 =>
      rw [hc.1 (Or.inr rfl)] at hb; exact .fNxt j s (i + 1) (i + 1) hd hl1 hs (hp.pv_snoc hl2 hb) (Lws.nil _)
    | fEq => exact absurd rfl hw.1
    | fVal => exact absurd rfl hw.2.2.1
    | quotedVal => exact absurd rfl hw.2.2.2
    | fSepTok => exact absurd rfl hw.2.1
    | fSepQuo => exact absurd rfl hw.2.1
  case first =>
    have hi : p.state = .init := hw.resolve_right hP.live.2.2
    rw [hi] at hP
    obtain ⟨t, hp, hl⟩ := hP.inv_init
    exact ⟨.name i (i + 1) ⟨t, c, hp, hl, hb, hc.1, hc.2, (fun k h1 h2 => by omega), by omega⟩, pin nofun nofun⟩
  case eqName =>
    rw [show p.state = .name from hw] at hP
    cases hP with
    | name n0 _ hh =>
      exact ⟨.fVal i (i + 1) ⟨n0, i, hh, Lws.nil i, (show c = 61 from hc) ▸ hb⟩ (Lws.nil _), pin nofun nofun⟩
  case eqF =>
    rw [show p.state = .fEq from hw] at hP
    cases hP with
    | fEq n0 n1 _ hh hl _ =>
      exact ⟨.fVal i (i + 1) ⟨n0, n1, hh, hl, (show c = 61 from hc) ▸ hb⟩ (Lws.nil _), pin nofun nofun⟩
  case sep =>
    obtain ⟨j, hd, hl⟩ := hP.done (by
      have hw' : p.state = .name ∨ p.state = .fEq ∨ p.state = .val ∨ p.state = .fSep := hw
      rcases hw' with h | h | h | h <;> simp [h])
    exact ⟨.fNxt j i (i + 1) (i + 1) hd hl ((show c = tpSep flags from hc) ▸ hb) (Pad.nil _) (Lws.nil _),
      pin nofun nofun⟩
  case sepV =>
    obtain ⟨j, hd, hl⟩ := hP.done (Or.inr (Or.inr (Or.inl hw)))
    exact ⟨.fNxt j i (i + 1) (i + 1) hd hl ((show c = tpSep flags from hc) ▸ hb) (Pad.nil _) (Lws.nil _),
      pin nofun nofun⟩
  case quote =>
    rw [show p.state = .fVal from hw] at hP
    cases hP with
    | fVal q _ he hl => exact ⟨.quotedVal q i he hl ((show c = 34 from hc) ▸ hb), pin nofun nofun⟩
  case startVal =>
    rw [show p.state = .fVal from hw] at hP
    cases hP with
    | fVal q _ he hl =>
      refine ⟨.val q i (i + 1) he hl (fun k h1 h2 => ?_) (by omega), pin nofun nofun⟩
      rw [show k = i by omega]
      exact ⟨c, hb, hc⟩
  case bad => exact PVQA.bad (.byte p.state c hP hb (hc.resolve_left hP.live.2.2))
  case spEq =>
    obtain ⟨o', p', h⟩ := pv_spTermEq_ok offs i p
    show PVStepOK b flags o (tpSpTermEq offs i p)
    rw [h]; exact PVQA.ok
  case spSep =>
    obtain ⟨o', p', h⟩ := pv_spTermSep_ok b offs i p
    show PVStepOK b flags o (tpSpTermSep b offs i p)
    rw [h]; exact PVQA.ok
  case quoted =>
    have hst : p.state = .quotedVal := hw
    rw [hst] at hP
    obtain ⟨q, v0, he, hlw, h34, hi⟩ := hP.inv_quotedVal
    have hsq := pv_skipQuoted b i
    rw [hi] at hsq
    rcases tpDo_quoted flags offs b i p hst with ⟨n, hq, h⟩ | ⟨n, hq, h⟩ | ⟨n, hq, h⟩ <;> rw [h] <;> rw [hi] at hq <;>
      rw [hq] at hsq
    · cases hsq with
      | more n' hpre hn => exact PVQA.more (.quoted q v0 he hlw h34 hpre hn)
      | moreEsc n' hpre h92 hn => exact PVQA.more (.quotedEsc q v0 he hlw h34 hpre h92 hn)
    · cases hsq with
      | ok n' hqb =>
        exact ⟨PVAt.fSepQuo q v0 n n he hlw h34 hqb (Lws.nil n),
          Or.inl (Or.inr ⟨34, by have := hqb.lt; omega, hqb.last, by decide⟩)⟩
    · cases hsq with
      | bad n' c' hpre hc hbad => exact PVQA.bad (.quoted q v0 c' he hlw h34 hpre hc hbad)
      | badEsc m c' hpre h92 hc hcr => exact PVQA.bad (.quotedEsc q v0 m c' he hlw h34 hpre h92 rfl hc hcr)
  case next => exact PVQA.mv
  all_goals exact PVQA.ok

/-! ### an accepting final iteration completes the text to a parameter -/

section
variable {b : Buf} {flags o : Nat}

theorem PVHead.psParam {n0 n1 o' : Nat} {e : Err} {st : TPState} (p : PTokParam) (hh : PVHead b flags o n0 n1)
    (hC : PSClose b flags n1 o' e st) : ∃ p', PSParam b flags p o o' e p' := by
  obtain ⟨t, c0, h1, h2, h3, h4, h5, h6, h7⟩ := hh
  exact ⟨_, .named o t n0 n1 o' c0 e _ h1 h2 h3 h4 h5 h6 h7 (.close n1 o' e st hC)⟩

theorem PVEq.psParam {q o' : Nat} {e : Err} (p : PTokParam) (he : PVEq b flags o q)
    (hV : ∀ p, ∃ p', PSValue b flags p (q + 1) o' e p') : ∃ p', PSParam b flags p o o' e p' := by
  obtain ⟨n0, n1, ⟨t, c0, h1, h2, h3, h4, h5, h6, h7⟩, hlq, h61⟩ := he
  obtain ⟨p', hV⟩ := hV (psAfterEq (psNamed p n0) n1 q)
  exact ⟨p', .named o t n0 n1 o' c0 e p' h1 h2 h3 h4 h5 h6 h7 (.value n1 q o' e p' hlq h61 hV)⟩

/-- a complete item followed by one of the endings of the grammar, from any object -/
theorem PVDone.psParam_from {j o' : Nat} {e : Err} {st : TPState} (p : PTokParam) (hd : PVDone b flags o j)
    (hE : Ending b flags j o' e st) : ∃ p', PSParam b flags p o o' e p' := by
  cases hd with
  | name n0 n1 hh => exact hh.psParam p (.ending _ _ _ _ hE)
  | tok q v0 v1 he hl hr hv => exact he.psParam p fun _ => ⟨_, .token (q + 1) v0 j o' e st hl hr hv (.ending _ _ _ _ hE)⟩
  | quo q v0 qe he hl h34 hqb =>
    exact he.psParam p fun _ => ⟨_, .quoted (q + 1) v0 j o' e st hl h34 hqb (.ending _ _ _ _ hE)⟩
  | empty q he =>
    refine he.psParam p fun p1 => ?_
    cases hE with
    | sep s o'' e' st' hl hs hA => exact ⟨_, .emptySep (q + 1) s o' e st hl hs hA⟩
    | term u hl hu hne => exact ⟨_, .emptyTerm (q + 1) o' hl hu hne⟩
    | eoh x e2 c2 hl he2 h2 hw =>
      have h := PSValue.noValue (p := p1) (q + 1) x x (o' - x) hl (PSEnd.eoh (flags := flags) x o' c2 he2 h2 hw)
      rw [Nat.add_sub_cancel' (Nat.le_of_lt he2.gt.1)] at h
      exact ⟨_, h⟩
    | inputEnd x hf hl hend => exact ⟨_, .noValue (q + 1) x b.size 0 hl (.inputEnd x hf hend)⟩

/-- [EXPORT C17] **a complete item followed by one of the endings of the grammar is a parameter of the grammar** (`PSParam`; the
    object reported is the one `PSParam` fixes) -/
theorem PVDone.psParam {b : Buf} {flags o j o' : Nat} {e : Err} {st : TPState} (hd : PVDone b flags o j)
    (hE : Ending b flags j o' e st) : ∃ p', PSParam b flags {} o o' e p' :=
  hd.psParam_from {} hE

/-- the text from `o` holds some parameter of `PSParam` for a call on the object `p` -/
def PVSome (b : Buf) (flags : Nat) (p : PTokParam) (o : Nat) : Prop := ∃ o' e p', PSParam b flags p o o' e p'

/-- from a position after which a parameter can end: whatever ends it after a complete item (`hE`) or after a
    separator (`hA`) completes the text -/
theorem PVAt.accept {i o' : Nat} {e : Err} {st st' : TPState} (p : PTokParam) (h : PVAt b flags o i st)
    (hst : st ≠ .init ∧ st ≠ .quotedVal) (hE : ∀ j, Lws b j i → Ending b flags j o' e st')
    (hA : ∀ s t, Pad b (tpSep flags) (s + 1) t → Lws b t i → AfterSep b flags (s + 1) o' e st') :
    PVSome b flags p o := by
  by_cases hs : st = .name ∨ st = .fEq ∨ st = .fVal ∨ st = .val ∨ st = .fSep
  · obtain ⟨j, hd, hlj⟩ := h.done hs
    exact ⟨_, _, hd.psParam_from p (hE j hlj)⟩
  · cases h with
    | fNxt j s t i hd hl1 hs' hp hl2 => exact ⟨_, _, hd.psParam_from p (.sep j s o' e st' hl1 hs' (hA s t hp hl2))⟩
    | init => exact absurd rfl hst.1
    | quotedVal => exact absurd rfl hst.2
    | _ => exact absurd (by simp) hs

/-- the end of the header / input after white space completes the text read so far -/
theorem PVAt.accept_end {i q n crl : Nat} {st : TPState} (p : PTokParam) (h : PVAt b flags o i st)
    (hq : st ≠ .quotedVal) (hl : Lws b i q) (hend : PSEnd b flags q n crl) : PVSome b flags p o := by
  by_cases hi : st = .init
  · subst hi
    obtain ⟨t, hp, hl'⟩ := h.inv_init
    exact ⟨_, _, _, .empty o t q n crl hp (hl'.trans hl) hend⟩
  · exact h.accept p ⟨hi, hq⟩ (fun j hl' => hend.ending (hl'.trans hl))
      (fun s t hp hl' => hend.afterSep hp (hl'.trans hl))

/-- **a final iteration with an accepting verdict, taken where the text read so far is the beginning of a parameter,
    completes that text to a parameter of the grammar** (which one is then settled by `PSParam.run`: the call returns
    one thing only) -/
theorem pv_accept_step {offs i : Nat} {c : UInt8} {p : PTokParam} (p0 : PTokParam) (hb : b[i]? = some c)
    (hP : PVAt b flags o i p.state) {o' : Nat} {e : Err} {p' : PTokParam}
    (hs : tpStep flags offs b i c p = .done o' e p') (ha : PSAcc e) : PVSome b flags p0 o := by
  rw [tpStep_eq] at hs
  have hw := tpAct_when flags c p.state
  have hc := pv_act flags c p.state
  generalize tpAct flags c p.state = a at hw hc hs
  cases a
  case lws =>
    change tpLWS b flags i p _ = _ at hs
    rcases tpLWS_cases b flags i p (tpLwsUpd i p.state) with ⟨n, crl, hsk, h⟩ | ⟨n, crl, hsk, h⟩ | ⟨n, crl, hsk, h⟩ <;>
      rw [h] at hs <;> cases hs
    · by_cases hf : hasFlag flags POptInputEndF = true
      · obtain ⟨q, hq, hend⟩ := pv_skipLWS_more b i flags hsk
        exact hP.accept_end p0 hw.2.1 hq (.inputEnd q hf hend)
      · rw [tpMoreBytes_noEnd b flags p i (eq_false_of_ne_true hf)] at ha
        exact absurd rfl ha.pv_excl.1
    · obtain ⟨q, hq, hend⟩ := pv_skipLWS_eoh b i flags hsk
      exact hP.accept_end p0 hw.2.1 hq hend
  case quoted =>
    rcases tpDo_quoted flags offs b i p hw with ⟨n, hq, h⟩ | ⟨n, hq, h⟩ | ⟨n, hq, h⟩ <;> rw [h] at hs <;> cases hs
    · exact absurd rfl ha.pv_excl.1
    · exact absurd rfl ha.pv_excl.2
  case term =>
    have hw' : p.state = .fNxt ∨ p.state = .name ∨ p.state = .fEq ∨ p.state = .val ∨ p.state = .fSep := hw
    have hb' : b[i]? = some (tpTerm flags) := hc.1 ▸ hb
    exact hP.accept (st' := .fin) p0 (by rcases hw' with h | h | h | h | h <;> simp [h])
      (fun j hl => .term j i hl hb' hc.2) (fun s t hp hl => .term (s + 1) t i hp hl hb' hc.2)
  case termV =>
    have hw' : p.state = .fVal := hw
    have hb' : b[i]? = some (tpTerm flags) := hc.1 ▸ hb
    exact hP.accept (st' := .fin) p0 (by simp [hw'])
      (fun j hl => .term j i hl hb' hc.2) (fun s t hp hl => .term (s + 1) t i hp hl hb' hc.2)
  case next =>
    rw [show p.state = .fNxt from hw] at hP
    cases hP with
    | fNxt j s t _ hd hl1 hs' hp hl2 =>
      exact ⟨_, _, hd.psParam_from p0 (.sep j s i .moreValues .initNxtVal hl1 hs'
        (.more (s + 1) t i c hp hl2 hb hc.1 hc.2.1 hc.2.2))⟩
  case spEq =>
    rw [show p.state = .fEq from hw] at hP
    cases hP with
    | fEq n0 n1 _ hh hl hlt => exact ⟨_, _, hh.psParam p0 (.spterm n1 i c hc.2 hl hlt hb hc.1)⟩
  case spSep =>
    rw [show p.state = .fSep from hw] at hP
    cases hP with
    | fSepTok q v0 v1 _ he hl hr hv hl2 hlt2 =>
      exact ⟨_, _, he.psParam p0 fun _ =>
        ⟨_, .token (q + 1) v0 v1 (i - 1) .ok .fin hl hr hv (.spterm v1 i c hc.2 hl2 hlt2 hb hc.1)⟩⟩
    | fSepQuo q v0 qe _ he hl h34 hqb hl2 =>
      by_cases hlt : qe < i
      · exact ⟨_, _, he.psParam p0 fun _ =>
          ⟨_, .quoted (q + 1) v0 qe (i - 1) .ok .fin hl h34 hqb (.spterm qe i c hc.2 hl2 hlt hb hc.1)⟩⟩
      · have : qe = i := by have := hl2.le; omega
        subst this
        exact ⟨_, _, he.psParam p0 fun _ =>
          ⟨_, .quoted (q + 1) v0 qe qe .ok .fin hl h34 hqb (.sptermQ qe c hc.2 hqb.last hb hc.1)⟩⟩
  case bad => cases hs; exact absurd rfl ha.pv_excl.2
  all_goals cases hs

/-- the end of the buffer accepts only with the end-of-input option, and then the input ends the text read so far -/
theorem pv_accept_eob {i : Nat} {p : PTokParam} (p0 : PTokParam) (hb : b[i]? = none) (hP : PVAt b flags o i p.state)
    (ha : PSAcc (tpMoreBytes b flags p i).2.1) : PVSome b flags p0 o := by
  by_cases hf : hasFlag flags POptInputEndF = true
  · by_cases hq : p.state = .quotedVal
    · rw [tpMoreBytes_quoted b flags p i hq] at ha
      exact absurd rfl ha.pv_excl.1
    · exact hP.accept_end p0 hq (Lws.nil i) (.inputEnd i hf (.none i hb))
  · rw [tpMoreBytes_noEnd b flags p i (eq_false_of_ne_true hf)] at ha
    exact absurd rfl ha.pv_excl.1

end

/-- **the whole loop**: from a point where the text read so far is the beginning of a parameter, the result is an
    accepting verdict, `MoreBytes` with `PVMoreAt` (hence `PVMore`) at the returned offset, or `BadChar` with `PVBad` at
    the returned offset — nothing else (no `NoCR`, no `Bug`, no loop artefact); and with an accepting verdict the text
    from `o` holds a parameter of `PSParam` (for a call on any object `p0`) -/
theorem pv_run (flags offs : Nat) (b : Buf) (o i : Nat) (p p0 : PTokParam) (hP : PVAt b flags o i p.state)
    (hpin : AfcPin b o i) :
    PVQA b flags o (runLoop (tpMachine flags offs) b i p).1 (runLoop (tpMachine flags offs) b i p).2.1 ∧
    (PSAcc (runLoop (tpMachine flags offs) b i p).2.1 → PVSome b flags p0 o) := by
  apply runLoop_inv (tpMachine flags offs) b (fun i p => PVAt b flags o i p.state ∧ AfcPin b o i)
    (fun r => PVQA b flags o r.1 r.2.1 ∧ (PSAcc r.2.1 → PVSome b flags p0 o))
  case hcont =>
    intro i c p i' p' hb hP hs
    have hlt := tp_progress flags offs b i c p i' p' hb hs
    refine ⟨fun _ => ?_, fun hn => absurd hlt hn⟩
    have h := pv_step (offs := offs) hb hP.1 hP.2
    rw [show tpStep flags offs b i c p = .cont i' p' from hs] at h
    exact h
  case hdone =>
    intro i c p o' e p' hb hP hs
    have h := pv_step (offs := offs) hb hP.1 hP.2
    rw [show tpStep flags offs b i c p = .done o' e p' from hs] at h
    exact ⟨h, pv_accept_step p0 hb hP.1 hs⟩
  case heob =>
    intro i p hb hP
    refine ⟨?_, pv_accept_eob p0 hb hP.1⟩
    show PVQA b flags o (tpMoreBytes b flags p i).1 (tpMoreBytes b flags p i).2.1
    by_cases hq : p.state = .quotedVal
    · rw [tpMoreBytes_quoted b flags p i hq]
      have hP' := hP.1
      rw [hq] at hP'
      obtain ⟨q, v0, he, hlw, h34, hi⟩ := hP'.inv_quotedVal
      refine PVQA.more (.quoted q v0 he hlw h34 ?_ hb)
      rw [hi]
      exact PVQPre.nil _
    · have hne : p.state ≠ .quotedVal ∧ p.state ≠ .err ∧ p.state ≠ .fin := ⟨hq, hP.1.live.1, hP.1.live.2.1⟩
      rcases pv_tpMoreBytes b flags p i hne with h | ⟨hf, h⟩
      · exact PVQA.eoh h
      · rw [h]
        exact PVQA.more (.lws p.state i hf hP.1 hq
          (hP.2.start_of_lws fun c' hc' => by rw [hb] at hc'; cases hc') (Lws.nil i) (EndTail.none i hb))
  case hP => exact ⟨hP, hpin⟩

end Sipsp
