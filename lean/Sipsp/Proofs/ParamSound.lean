/-
  Sipsp.Proofs.ParamSound — property C17, SOUNDNESS of ParseTokenParam and of the list wrappers ParseAllURIParams /
  ParseAllURIHdrs (the converse of `Sipsp.Proofs.ParamSpec`), for EVERY buffer within the 65,535-byte limit, EVERY
  start offset and EVERY option word (the end-of-input option `POptInputEndF` included), on a new object / a list
  object in its reset state. A call returns OK / MoreValues / EOH iff the text is a `PSParam` of `ParamSpec`, and then
  offset, verdict and the COMPLETE object are the ones the description states (`tokparam_ok_iff`); the fields of an
  accepted parameter and the property's `charset` clause follow (`tokparam_fields`, `tokparam_charset`). The wrappers
  return OK / EOH iff the text is a list of such parameters (`PSList`), and then every item is counted and stored, in
  order (`parseAllURIParams_ok_iff`, `parseAllURIHdrs_ok_iff`, both from `slotLoop_ok_iff`).
  Soundness is read off the loop invariant of `Sipsp.Proofs.ParamAt` (`pv_run`: an accepting run leaves a text that
  holds SOME `PSParam`), completeness (`PSParam.run`) and the fact that a call returns one thing.

  Two observations about the Go code. "Accepted iff `GParam`" (the grammar of `ParamSpec`) is FALSE: four shapes are
  accepted beyond it (`PSParam.ps_gparam_or_extra`; witnesses in the tests at the end). An EMPTY list (only empty
  items / white space up to the end of the header or input) is reported as ONE phantom item with an untouched object
  (N = 1, empty name), verdict `EOH`; this is the only place where an item has an empty name
  (`PSList.ps_named_or_empty`).

  NOT proved here: calls on objects that are not new (resumed calls: C02 / `ShiftParams`); list objects that are not
  in their reset state. Which verdict a text that is not accepted gets: `Sipsp.Proofs.ParamVerdicts`.
-/
import Sipsp.Proofs.ParamAt
import Sipsp.Proofs.UriListsL

namespace Sipsp

/-- an accepting run from an object in its initial state: the invariant `pv_run` gives SOME parameter of `PSParam` in the
    text; `PSParam.run` says what the loop returns on it; the loop returns one thing -/
theorem PSParam.of_run {b : Buf} {flags offs o o' : Nat} {e : Err} {p p' : PTokParam} (hfit : b.size ≤ 65535)
    (hst : p.state = .init) (hoff : offs ≤ o) (h : runLoop (tpMachine flags offs) b o p = (o', e, p')) (ha : PSAcc e) :
    PSParam b flags p o o' e p' := by
  obtain ⟨o2, e2, p2, H⟩ := (pv_run flags offs b o o p p (hst ▸ PVAt.init o o (Pad.nil o) (Lws.nil o)) (Or.inl (Or.inl rfl))).2
    (by rw [h]; exact ha)
  have h2 := PSParam.run flags offs b hfit (Or.inl hst) hoff H
  rw [h] at h2
  cases h2
  exact H

/-- **SOUNDNESS of ParseTokenParam** (every buffer within the 65,535-byte limit, every offset, every option word —
    the end-of-input option included —, a new object): a result with verdict OK / MoreValues / EOH is one of the
    parameters described by `PSParam` -/
theorem parseTokenParam_sound {b : Buf} {flags o o' : Nat} {e : Err} {p' : PTokParam} (hfit : b.size ≤ 65535)
    (h : parseTokenParam b o {} flags = (o', e, p')) (ha : PSAcc e) : PSParam b flags {} o o' e p' := by
  rw [parseTokenParam_run flags b o {} (by decide)] at h
  exact PSParam.of_run hfit rfl (Nat.le_refl _) h ha

/-- **COMPLETENESS for the same description**: ParseTokenParam reports every `PSParam` exactly as described -/
theorem parseTokenParam_complete {b : Buf} {flags o o' : Nat} {e : Err} {p' : PTokParam} (hfit : b.size ≤ 65535)
    (H : PSParam b flags {} o o' e p') : parseTokenParam b o {} flags = (o', e, p') := by
  rw [parseTokenParam_run flags b o {} (by decide)]
  exact PSParam.run flags o b hfit (Or.inl rfl) (Nat.le_refl _) H

/-! ### the verdicts of the description; the equivalence -/

theorem AfterSep.ps_acc {b : Buf} {flags i o : Nat} {e : Err} {st : TPState} (h : AfterSep b flags i o e st) :
    PSAcc e := by
  cases h with
  | more => exact Or.inr (Or.inl rfl)
  | term => exact Or.inl rfl
  | eoh => exact Or.inr (Or.inr rfl)
  | inputEnd => exact Or.inr (Or.inr rfl)

theorem Ending.ps_acc {b : Buf} {flags i o : Nat} {e : Err} {st : TPState} (h : Ending b flags i o e st) :
    PSAcc e := by
  cases h with
  | sep s o' e' st' _ _ hA => exact hA.ps_acc
  | term => exact Or.inl rfl
  | eoh => exact Or.inr (Or.inr rfl)
  | inputEnd => exact Or.inr (Or.inr rfl)

theorem PSClose.ps_acc {b : Buf} {flags i o : Nat} {e : Err} {st : TPState} (h : PSClose b flags i o e st) :
    PSAcc e := by
  cases h with
  | ending o' e' st' hE => exact hE.ps_acc
  | spterm => exact Or.inl rfl
  | sptermQ => exact Or.inl rfl

theorem PSValue.ps_acc {b : Buf} {flags i o : Nat} {e : Err} {p p' : PTokParam} (h : PSValue b flags p i o e p') :
    PSAcc e := by
  cases h with
  | token v0 v1 o' e' st _ _ _ hC => exact hC.ps_acc
  | quoted v0 qe o' e' st _ _ _ hC => exact hC.ps_acc
  | emptySep s o' e' st _ _ hA => exact hA.ps_acc
  | emptyTerm => exact Or.inl rfl
  | noValue => exact Or.inr (Or.inr rfl)

theorem PSAfterName.ps_acc {b : Buf} {flags i o : Nat} {e : Err} {p p' : PTokParam}
    (h : PSAfterName b flags p i o e p') : PSAcc e := by
  cases h with
  | close o' e' st hC => exact hC.ps_acc
  | value q o' e' p'' _ _ hV => exact hV.ps_acc

theorem PSParam.ps_acc {b : Buf} {flags i o : Nat} {e : Err} {p p' : PTokParam} (h : PSParam b flags p i o e p') :
    PSAcc e := by
  cases h with
  | empty => exact Or.inr (Or.inr rfl)
  | named t n0 n1 o2 c0 e2 p2 _ _ _ _ _ _ _ hA => exact hA.ps_acc

/-- **ParseTokenParam accepts exactly the parameters of `PSParam`, and reports them exactly as described**: for every
    buffer within the 65,535-byte limit, every offset and every option word (end-of-input option included), on a
    new object -/
theorem tokparam_ok_iff {b : Buf} {flags o o' : Nat} {e : Err} {p' : PTokParam} (hfit : b.size ≤ 65535) :
    (parseTokenParam b o {} flags = (o', e, p') ∧ PSAcc e) ↔ PSParam b flags {} o o' e p' :=
  ⟨fun h => parseTokenParam_sound hfit h.1 h.2, fun H => ⟨parseTokenParam_complete hfit H, H.ps_acc⟩⟩

theorem GParam.psParam {b : Buf} {flags o o' : Nat} {e : Err} {tp : PTokParam} (hfit : b.size ≤ 65535)
    (H : GParam b flags o o' e tp) : PSParam b flags {} o o' e tp := by
  refine parseTokenParam_sound hfit (H.parse hfit) ?_
  cases H with
  | noValue t n0 n1 o'' e' st _ _ _ _ hE => exact hE.ps_acc
  | token t n0 n1 q v0 v1 o'' e' st _ _ _ _ _ _ _ _ _ hE => exact hE.ps_acc
  | quoted t n0 n1 q v0 qe o'' e' st _ _ _ _ _ _ _ _ _ hE => exact hE.ps_acc
  | emptyVal t n0 n1 q s o'' e' st _ _ _ _ _ _ _ _ hA => exact hA.ps_acc

/-! ### the character set of an accepted parameter -/

/-- what a value field can be: empty, an unquoted run of name / value bytes, or a complete quoted string (opening
    quote, body in which every quote is escaped, closing quote) -/
def PSValDesc (b : Buf) (flags : Nat) (v : PField) : Prop :=
  v.len = 0 ∨ (0 < v.len ∧ PRun b flags v.offs (v.offs + v.len)) ∨
    (b[v.offs]? = some 34 ∧ QBody b (v.offs + 1) (v.offs + v.len))

theorem PSValue.ps_fields {b : Buf} {flags i o : Nat} {e : Err} {p p' : PTokParam} (h : PSValue b flags p i o e p')
    (hv : p.val.len = 0) (ha : p.all.offs + p.all.len ≤ i) :
    p'.name = p.name ∧ p'.pnc = p.pnc ∧ p'.all.offs = p.all.offs ∧ p.all.len ≤ p'.all.len ∧
      PSValDesc b flags p'.val := by
  cases h with
  | token v0 v1 o' e' st hl hr hlt hC =>
    have := hl.le
    refine ⟨rfl, rfl, rfl, by show p.all.len ≤ v1 - p.all.offs; omega, Or.inr (Or.inl ⟨by show 0 < v1 - v0; omega, ?_⟩)⟩
    show PRun b flags v0 (v0 + (v1 - v0))
    have e1 : v0 + (v1 - v0) = v1 := by omega
    rw [e1]; exact hr
  | quoted v0 qe o' e' st hl h34 hq hC =>
    have := hl.le
    have := hq.lt
    refine ⟨rfl, rfl, rfl, by show p.all.len ≤ qe - p.all.offs; omega, Or.inr (Or.inr ⟨h34, ?_⟩)⟩
    show QBody b (v0 + 1) (v0 + (qe - v0))
    have e1 : v0 + (qe - v0) = qe := by omega
    rw [e1]; exact hq
  | emptySep s o' e' st hl hs hA =>
    have := hl.le
    exact ⟨rfl, rfl, rfl, by show p.all.len ≤ s - p.all.offs; omega, Or.inl rfl⟩
  | emptyTerm u hl hu hne => exact ⟨rfl, rfl, rfl, Nat.le_refl _, Or.inl rfl⟩
  | noValue q n crl hl hend => exact ⟨rfl, rfl, rfl, Nat.le_refl _, Or.inl hv⟩

theorem PSAfterName.ps_fields {b : Buf} {flags n0 n1 o : Nat} {e : Err} {p' : PTokParam}
    (h : PSAfterName b flags (psNamed {} n0) n1 o e p') (hlt : n0 < n1) :
    p'.name = ⟨n0, n1 - n0⟩ ∧ p'.pnc = false ∧ p'.all.offs = n0 ∧ n1 - n0 ≤ p'.all.len ∧ PSValDesc b flags p'.val := by
  cases h with
  | close o' e' st hC => exact ⟨rfl, rfl, rfl, Nat.le_refl _, Or.inl rfl⟩
  | value q o' e' p'' hl h61 hV =>
    have hle := hl.le
    obtain ⟨h1, h2, h3, h4, h5⟩ := hV.ps_fields rfl (by
      show n0 + ((if n1 = q then q + 1 else n1) - n0) ≤ q + 1
      split <;> omega)
    refine ⟨h1, h2, h3, Nat.le_trans ?_ h4, h5⟩
    show n1 - n0 ≤ (if n1 = q then q + 1 else n1) - n0
    split <;> omega

/-- **the fields of an accepted parameter**: nothing was parsed (`EOH`, the object is untouched: the empty list
    item at the end of the header / input), or the name is a non-empty run of allowed bytes inside the buffer at or
    after the start offset, `all` starts with the name and covers it, and the value is empty, an unquoted run of
    allowed bytes (none of them separator or terminator), or a complete quoted string -/
theorem tokparam_fields {b : Buf} {flags o o' : Nat} {e : Err} {p' : PTokParam} (hfit : b.size ≤ 65535)
    (h : parseTokenParam b o {} flags = (o', e, p')) (ha : PSAcc e) :
    (p' = {} ∧ e = .eoh) ∨
    (0 < p'.name.len ∧ o ≤ p'.name.offs ∧ p'.name.offs + p'.name.len ≤ b.size ∧
      (∀ k, p'.name.offs ≤ k → k < p'.name.offs + p'.name.len → ∃ c, b[k]? = some c ∧ tokAllowedChar c flags = true) ∧
      p'.all.offs = p'.name.offs ∧ p'.name.len ≤ p'.all.len ∧ p'.pnc = false ∧ PSValDesc b flags p'.val) := by
  have H := parseTokenParam_sound hfit h ha
  cases H with
  | empty t q n crl hp hl hend => exact Or.inl ⟨rfl, rfl⟩
  | named t n0 n1 o2 c0 e2 p2 hp hl hb hal hs hrun hlt hA =>
    right
    obtain ⟨h1, h2, h3, h4, h5⟩ := hA.ps_fields hlt
    have hple := hp.le
    have hlle := hl.le
    have hsz : n1 ≤ b.size := by
      by_cases h : n0 + 1 < n1
      · exact hrun.le_size h
      · have := get?_lt hb; omega
    rw [h1, h3]
    refine ⟨by show 0 < n1 - n0; omega, by show o ≤ n0; omega, by show n0 + (n1 - n0) ≤ b.size; omega, ?_, rfl, h4,
      h2, h5⟩
    intro k hk1 hk2
    have hk1' : n0 ≤ k := hk1
    have hk2' : k < n0 + (n1 - n0) := hk2
    by_cases hk : k = n0
    · rw [hk]; exact ⟨c0, hb, hal⟩
    · obtain ⟨c, hc, hpc⟩ := hrun k (by omega) (by omega)
      exact ⟨c, hc, hpc.1⟩

/-- **charset**: an accepted parameter never contains a byte outside the documented set (`docAllowed`: letters,
    digits, `-_.!~*'()`, `%`, `[]/:+$`, plus `&` in URI-parameter mode and `?` otherwise) in its name or — outside
    quotes — in its value -/
theorem tokparam_charset {b : Buf} {flags o o' : Nat} {e : Err} {p' : PTokParam} (hfit : b.size ≤ 65535)
    (h : parseTokenParam b o {} flags = (o', e, p')) (ha : PSAcc e) :
    (∀ k, p'.name.offs ≤ k → k < p'.name.offs + p'.name.len →
      ∃ c, b[k]? = some c ∧ docAllowed c (hasFlag flags POptTokURIParamF) = true) ∧
    ((∀ k, p'.val.offs ≤ k → k < p'.val.offs + p'.val.len →
      ∃ c, b[k]? = some c ∧ docAllowed c (hasFlag flags POptTokURIParamF) = true) ∨
     (b[p'.val.offs]? = some 34 ∧ QBody b (p'.val.offs + 1) (p'.val.offs + p'.val.len))) := by
  rcases tokparam_fields hfit h ha with ⟨h1, _⟩ | ⟨_, _, _, h4, _, _, _, h8⟩
  · subst h1
    refine ⟨fun k h1 h2 => ?_, Or.inl (fun k h1 h2 => ?_)⟩
    · have h1' : 0 ≤ k := h1
      have h2' : k < 0 + 0 := h2
      omega
    · have h1' : 0 ≤ k := h1
      have h2' : k < 0 + 0 := h2
      omega
  · refine ⟨fun k h1 h2 => ?_, ?_⟩
    · obtain ⟨c, hc, hal⟩ := h4 k h1 h2
      exact ⟨c, hc, by rw [← tokAllowedChar_doc]; exact hal⟩
    · rcases h8 with h8 | ⟨_, h8⟩ | h8
      · exact Or.inl (fun k h1 h2 => by omega)
      · refine Or.inl (fun k h1 h2 => ?_)
        obtain ⟨c, hc, hpc⟩ := h8 k h1 h2
        exact ⟨c, hc, by rw [← tokAllowedChar_doc]; exact hpc.1⟩
      · exact Or.inr h8

/-! ### `MoreValues` moves forward -/

theorem PSClose.ps_more_range {b : Buf} {flags j o : Nat} {st : TPState} (H : PSClose b flags j o .moreValues st) :
    j < o ∧ o < b.size := by
  cases H with
  | ending o' e' st' hE => exact hE.more_range

theorem PSValue.ps_more_range {b : Buf} {flags i o : Nat} {p p' : PTokParam}
    (H : PSValue b flags p i o .moreValues p') : i < o ∧ o < b.size := by
  cases H with
  | token v0 v1 o' e' st hl hr hlt hC =>
    have := hl.le; have := hC.ps_more_range; omega
  | quoted v0 qe o' e' st hl h34 hq hC =>
    have := hl.le; have := hq.lt; have := hC.ps_more_range; omega
  | emptySep s o' e' st hl hs hA =>
    have := hl.le; have := hA.more_range; omega

theorem PSParam.ps_more_range {b : Buf} {flags o o' : Nat} {p p' : PTokParam}
    (H : PSParam b flags p o o' .moreValues p') : o < o' ∧ o' < b.size := by
  cases H with
  | named t n0 n1 o2 c0 e2 p2 hp hl hb hal hs hrun hlt hA =>
    have := hp.le
    have := hl.le
    cases hA with
    | close o3 e3 st hC => have := hC.ps_more_range; omega
    | value q o3 e3 p3 hlq h61 hV => have := hlq.le; have := hV.ps_more_range; omega

/-! ### the list wrappers, inverted -/

/-- a list of parameters as the list wrappers accept it: every item but the last is a `PSParam` reported with
    `MoreValues`, the last one is reported with `OK` or `EOH` -/
inductive PSList (b : Buf) (flags : Nat) : Nat → List PTokParam → Nat → Err → Prop
  | last (o o' : Nat) (e : Err) (tp : PTokParam) : PSParam b flags {} o o' e tp → (e = .ok ∨ e = .eoh) →
      PSList b flags o [tp] o' e
  | cons (o next : Nat) (tp : PTokParam) (rest : List PTokParam) (o' : Nat) (e : Err) :
      PSParam b flags {} o next .moreValues tp → PSList b flags next rest o' e → PSList b flags o (tp :: rest) o' e

theorem ps_name_get {b : Buf} {flags o o' : Nat} {e : Err} {tp : PTokParam} (hfit : b.size ≤ 65535)
    (h : parseTokenParam b o {} flags = (o', e, tp)) (ha : PSAcc e) : tp.name.get? b = some (nameOf b tp) := by
  have hin : tp.name.offs + tp.name.len ≤ b.size := by
    rcases tokparam_fields hfit h ha with ⟨h1, _⟩ | ⟨_, _, h3, _⟩
    · subst h1
      show 0 + 0 ≤ b.size
      omega
    · exact h3
  exact field_get? b tp.name.offs tp.name.len hin hfit

/-- the items BEFORE the one at which a list wrapper stops: parameters of the grammar reported with `MoreValues`, one
    after the other from `o` to `o1` (possibly none) -/
inductive PVItems (b : Buf) (flags : Nat) : Nat → List PTokParam → Nat → Prop
  | nil (o : Nat) : PVItems b flags o [] o
  | cons (o next : Nat) (tp : PTokParam) (rest : List PTokParam) (o1 : Nat) :
      PSParam b flags {} o next .moreValues tp → PVItems b flags next rest o1 → PVItems b flags o (tp :: rest) o1

/-- every text decomposes: items reported with `MoreValues`, then a call that returns something else -/
theorem pv_items_exist (b : Buf) (flags : Nat) (hfit : b.size ≤ 65535) :
    ∀ (k o : Nat), b.size - o = k →
      ∃ tps o1, PVItems b flags o tps o1 ∧ (parseTokenParam b o1 {} flags).2.1 ≠ .moreValues := by
  intro k
  induction k using Nat.strongRecOn with
  | _ k ih =>
    intro o hk
    rcases hp : parseTokenParam b o {} flags with ⟨next, e, tp⟩
    by_cases he : e = .moreValues
    · subst he
      have hP := parseTokenParam_sound hfit hp (Or.inr (Or.inl rfl))
      obtain ⟨hlt, hle⟩ := hP.ps_more_range
      obtain ⟨tps, o1, h1, h2⟩ := ih (b.size - next) (by omega) next rfl
      exact ⟨tp :: tps, o1, PVItems.cons o next tp tps o1 hP h1, h2⟩
    · exact ⟨[], o, PVItems.nil o, by rw [hp]; exact he⟩

section
variable {L ε : Type} {O : SlotOps L ε}

/-- the element loop at the item where it stops (a verdict other than `OK` / `MoreValues` / `EOH`): nothing more is
    counted; on `MoreBytes` the unfinished parameter is kept in the current slot, on an error the slot is reset -/
theorem slotLoop_stop (hL : SlotLaws O) {b : Buf} {flags o vNo next : Nat} {l : L} {e : Err} {tp : PTokParam}
    (hz : O.cur l = O.zero) (hp : parseTokenParam b o {} flags = (next, e, tp)) (hna : ¬ PSAcc e) :
    slotLoop O b o l flags vNo =
      (next, vNo, e, if e = .moreBytes then O.setCur l (O.withTok O.zero tp) else l) := by
  have hp' : parseTokenParam b o (O.tok (O.cur l)) flags = (next, e, tp) := by rw [hz, hL.tok_zero]; exact hp
  by_cases hm : e = .moreBytes
  · subst hm; rw [slotLoop_eq_more hp', if_pos rfl, hz]
  · rw [slotLoop_other hp' hna hm, if_neg hm, ← hz, hL.setCur_cur]

/-- the element loop walks over the items before the stop: each is counted and stored (`elt` = the element `fin`
    makes of an accepted object); the object it arrives with is again clean with a zero current slot -/
theorem slotLoop_items (hL : SlotLaws O) (elt : PTokParam → ε) {b : Buf} {flags : Nat} (hfit : b.size ≤ 65535)
    (hfin : ∀ {o o' e tp}, parseTokenParam b o {} flags = (o', e, tp) → PSAcc e → O.fin b tp = some (elt tp))
    {o o1 : Nat} {tps : List PTokParam} (H : PVItems b flags o tps o1) :
    ∀ (l : L) (vNo : Nat), hL.clean l → O.cur l = O.zero →
      slotLoop O b o l flags vNo = slotLoop O b o1 ((tps.map elt).foldl O.next l) flags (vNo + tps.length) ∧
      hL.clean ((tps.map elt).foldl O.next l) ∧ O.cur ((tps.map elt).foldl O.next l) = O.zero := by
  induction H with
  | nil o => intro l vNo hcl hz; exact ⟨rfl, hcl, hz⟩
  | cons o next tp rest o1 hg _ ih =>
    intro l vNo hcl hz
    have hp := parseTokenParam_complete hfit hg
    obtain ⟨hlt, hle⟩ := hg.ps_more_range
    have hcn := hL.clean_next l (elt tp) hcl
    obtain ⟨h1, h2⟩ := ih _ (vNo + 1) hcn.1 hcn.2
    refine ⟨?_, h2⟩
    rw [slotLoop_mv_clean hL hcl (by omega) (by rw [hz, hL.tok_zero]; exact hp) (hfin hp hg.ps_acc), h1]
    simp only [List.length_cons, List.map_cons, List.foldl_cons]
    rw [show vNo + 1 + rest.length = vNo + (rest.length + 1) by omega]

end

theorem PSList.split {b : Buf} {flags o o' : Nat} {e : Err} {tps : List PTokParam} (H : PSList b flags o tps o' e) :
    ∃ init o1 tp, tps = init ++ [tp] ∧ PVItems b flags o init o1 ∧ PSParam b flags {} o1 o' e tp ∧ (e = .ok ∨ e = .eoh) := by
  induction H with
  | last o o' e tp hg he => exact ⟨[], o, tp, rfl, .nil o, hg, he⟩
  | cons o next tp rest o' e hg _ ih =>
    obtain ⟨init, o1, tp1, rfl, h1, h2, h3⟩ := ih
    exact ⟨tp :: init, o1, tp1, rfl, .cons o next tp init o1 hg h1, h2, h3⟩

theorem PVItems.psList {b : Buf} {flags o o1 o' : Nat} {e : Err} {init : List PTokParam} {tp : PTokParam}
    (H : PVItems b flags o init o1) (hg : PSParam b flags {} o1 o' e tp) (he : e = .ok ∨ e = .eoh) :
    PSList b flags o (init ++ [tp]) o' e := by
  induction H with
  | nil o => exact .last o o' e tp hg he
  | cons o next tp0 rest o1 hg0 _ ih => exact .cons o next tp0 _ o' e hg0 (ih hg)

/-- **the element loop accepts exactly the lists of `PSList`**: a run from a clean object whose current slot is a zero
    value ends with `OK` / `EOH` iff the text is such a list, and then the offset and verdict are those of the list end
    and every item is counted and stored, in order (`elt` = the element `fin` makes of an accepted object) -/
theorem slotLoop_ok_iff {L ε : Type} {O : SlotOps L ε} (hL : SlotLaws O) (elt : PTokParam → ε) {b : Buf} {flags : Nat}
    (hfit : b.size ≤ 65535)
    (hfin : ∀ {o o' e tp}, parseTokenParam b o {} flags = (o', e, tp) → PSAcc e → O.fin b tp = some (elt tp))
    {o' n : Nat} {e : Err} {r : L} (o : Nat) (l : L) (vNo : Nat) (hcl : hL.clean l) (hz : O.cur l = O.zero) :
    (slotLoop O b o l flags vNo = (o', n, e, r) ∧ (e = .ok ∨ e = .eoh)) ↔
      ∃ tps, PSList b flags o tps o' e ∧ n = vNo + tps.length ∧ r = (tps.map elt).foldl O.next l := by
  -- the last call: an accepted item is counted and stored
  have last : ∀ {init : List PTokParam} {o1 o2 : Nat} {tp : PTokParam} {e : Err}, PVItems b flags o init o1 →
      parseTokenParam b o1 {} flags = (o2, e, tp) → (e = .ok ∨ e = .eoh) →
      slotLoop O b o l flags vNo = (o2, vNo + (init ++ [tp]).length, e, ((init ++ [tp]).map elt).foldl O.next l) := by
    intro init o1 o2 tp e H hp he
    obtain ⟨hit, _, hz2⟩ := slotLoop_items hL elt hfit hfin H l vNo hcl hz
    rw [hit, slotLoop_eq_last (by rw [hz2, hL.tok_zero]; exact hp) he
      (hfin hp (he.elim Or.inl fun h => Or.inr (Or.inr h)))]
    simp only [List.length_append, List.length_singleton, List.map_append, List.foldl_append, List.map_cons,
      List.map_nil, List.foldl_cons, List.foldl_nil, Nat.add_assoc]
  constructor
  · rintro ⟨h, he⟩
    obtain ⟨init, o1, H, hmv⟩ := pv_items_exist b flags hfit _ o rfl
    rcases hp : parseTokenParam b o1 {} flags with ⟨o2, e2, tp2⟩
    rw [hp] at hmv
    by_cases ha : PSAcc e2
    · have he2 : e2 = .ok ∨ e2 = .eoh := (acc_split ha).elim (fun h1 => absurd h1 hmv) id
      rw [last H hp he2] at h
      cases h
      exact ⟨init ++ [tp2], H.psList (parseTokenParam_sound hfit hp ha) he2, rfl, rfl⟩
    · obtain ⟨hit, _, hz2⟩ := slotLoop_items hL elt hfit hfin H l vNo hcl hz
      rw [hit, slotLoop_stop hL hz2 hp ha] at h
      cases h
      exact absurd (he.elim Or.inl fun h => Or.inr (Or.inr h)) ha
  · rintro ⟨tps, H, rfl, rfl⟩
    obtain ⟨init, o1, tp, rfl, H1, hg, he⟩ := H.split
    exact ⟨last H1 (parseTokenParam_complete hfit hg) he, he⟩

/-- **ParseAllURIParams accepts exactly the lists of `PSList`** (on a list object in its reset state; separator ';'
    added by the wrapper): it returns `OK` / `EOH` iff the text is such a list, and then the offset and verdict are
    those of the list end, every item is counted and pushed, in order, with the type of its name -/
theorem parseAllURIParams_ok_iff {b : Buf} {flags o o' n : Nat} {e : Err} {r : URIParamsLst} (hfit : b.size ≤ 65535)
    (l : URIParamsLst) (hl : l.Fresh) :
    (parseAllURIParams b o l flags = (o', n, e, r) ∧ (e = .ok ∨ e = .eoh)) ↔
      ∃ tps, PSList b (flags ||| POptParamSemiSepF) o tps o' e ∧ n = tps.length ∧
        r = (tps.map (typed b)).foldl URIParamsLst.push l := by
  unfold parseAllURIParams
  rw [uriParamsLoop_slot, ← pOps_next]
  have hf := (l.fresh_iff).1 hl
  have := slotLoop_ok_iff pLaws (typed b) (flags := flags ||| POptParamSemiSepF) hfit
    (fun hp ha => pOps_fin_some (ps_name_get hfit hp ha)) (o' := o') (n := n) (e := e) (r := r) o l 0 hf.1 hf.2
  simp only [Nat.zero_add] at this
  exact this

/-- **ParseAllURIHdrs accepts exactly the lists of `PSList`** (separator '&') -/
theorem parseAllURIHdrs_ok_iff {b : Buf} {flags o o' n : Nat} {e : Err} {r : URIHdrsLst} (hfit : b.size ≤ 65535)
    (l : URIHdrsLst) (hl : l.Fresh) :
    (parseAllURIHdrs b o l flags = (o', n, e, r) ∧ (e = .ok ∨ e = .eoh)) ↔
      ∃ tps, PSList b (flags ||| POptParamAmpSepF ||| POptTokURIHdrF) o tps o' e ∧ n = tps.length ∧
        r = tps.foldl URIHdrsLst.push l := by
  unfold parseAllURIHdrs
  rw [uriHdrsLoop_slot, ← hOps_next]
  have hf := (l.fresh_iff).1 hl
  have := slotLoop_ok_iff hLaws id (flags := flags ||| POptParamAmpSepF ||| POptTokURIHdrF) hfit (fun _ _ => rfl)
    (o' := o') (n := n) (e := e) (r := r) o l 0 hf.1 hf.2
  simp only [Nat.zero_add, List.map_id] at this
  exact this

/-! ### the empty list: one phantom parameter, and only there -/

theorem AfterSep.ps_more_char {b : Buf} {flags i o : Nat} {st : TPState} (H : AfterSep b flags i o .moreValues st) :
    ∃ c, b[o]? = some c ∧ PChar flags c := by
  cases H with
  | more t u c hp hl hc ha hs ht => exact ⟨c, hc, ha, hs, ht⟩

theorem PSClose.ps_more_char {b : Buf} {flags j o : Nat} {st : TPState} (H : PSClose b flags j o .moreValues st) :
    ∃ c, b[o]? = some c ∧ PChar flags c := by
  cases H with
  | ending o' e' st' hE =>
    cases hE with
    | sep s o'' e'' st'' hl hs hA => exact hA.ps_more_char

theorem PSParam.ps_more_char {b : Buf} {flags o o' : Nat} {p p' : PTokParam}
    (H : PSParam b flags p o o' .moreValues p') : ∃ c, b[o']? = some c ∧ PChar flags c := by
  cases H with
  | named t n0 n1 o2 c0 e2 p2 hp hl hb hal hs hrun hlt hA =>
    cases hA with
    | close o3 e3 st hC => exact hC.ps_more_char
    | value q o3 e3 p3 hlq h61 hV =>
      cases hV with
      | token v0 v1 o4 e4 st _ _ _ hC => exact hC.ps_more_char
      | quoted v0 qe o4 e4 st _ _ _ hC => exact hC.ps_more_char
      | emptySep s o4 e4 st _ _ hA => exact hA.ps_more_char

/-- a parameter is either named (non-empty name) or the phantom of the empty list: nothing but empty items and
    white space up to the end of the header / input, reported `EOH` with an untouched object -/
theorem PSParam.ps_named_or_empty {b : Buf} {flags o o' : Nat} {e : Err} {tp : PTokParam}
    (H : PSParam b flags {} o o' e tp) :
    0 < tp.name.len ∨ (tp = {} ∧ e = .eoh ∧ ∃ t q n crl, Pad b (tpSep flags) o t ∧ Lws b t q ∧
      PSEnd b flags q n crl ∧ o' = n + crl) := by
  cases H with
  | empty t q n crl hp hl hend => exact Or.inr ⟨rfl, rfl, t, q, n, crl, hp, hl, hend, rfl⟩
  | named t n0 n1 o2 c0 e2 p2 hp hl hb hal hs hrun hlt hA =>
    left
    rw [(hA.ps_fields hlt).1]
    show 0 < n1 - n0
    omega

theorem PSParam.ps_named_at {b : Buf} {flags o o' : Nat} {e : Err} {tp : PTokParam} {c : UInt8}
    (H : PSParam b flags {} o o' e tp) (hb : b[o]? = some c) (hc : PChar flags c) : 0 < tp.name.len := by
  rcases H.ps_named_or_empty with h | ⟨_, _, t, q, n, crl, hp, hl, hend, _⟩
  · exact h
  · exfalso
    have hcl := hc.facts.hl
    have key : ∀ s, Lws b o s → s = o := by
      intro s hls
      by_cases hlt : o < s
      · obtain ⟨c1, h1, h2⟩ := hls.first hlt
        rw [hb] at h1; cases h1
        rw [hcl] at h2; cases h2
      · have := hls.le; omega
    cases hp with
    | nil =>
      have := key q hl
      subst this
      cases hend with
      | eoh e2 c2 he h2 hw =>
        obtain ⟨c1, h1, _, _, h4⟩ := he.first
        rw [hb] at h1; cases h1
        rw [hcl] at h4; cases h4
      | inputEnd hf he =>
        have := he.first hb
        rw [hcl] at this; cases this
    | item i' s n' hls hs rest =>
      have := key s hls
      subst this
      rw [hb] at hs
      cases hs
      exact hc.2.1 rfl

theorem PSList.ps_named_at {b : Buf} {flags o o' : Nat} {e : Err} {tps : List PTokParam}
    (H : PSList b flags o tps o' e) : (∃ c, b[o]? = some c ∧ PChar flags c) → ∀ tp ∈ tps, 0 < tp.name.len := by
  induction H with
  | last o o' e tp hg he =>
    rintro ⟨c, hb, hc⟩ tp' hmem
    simp only [List.mem_singleton] at hmem
    subst hmem
    exact hg.ps_named_at hb hc
  | cons o next tp rest o' e hg _ ih =>
    rintro ⟨c, hb, hc⟩ tp' hmem
    simp only [List.mem_cons] at hmem
    rcases hmem with hmem | hmem
    · subst hmem; exact hg.ps_named_at hb hc
    · exact ih hg.ps_more_char tp' hmem

/-- **the phantom parameter of the empty list**: in a list accepted by the wrappers every item has a non-empty
    name — except that an EMPTY list (only empty items / white space up to the end of the header or input) is
    reported as ONE item with an untouched object (empty name), verdict `EOH` -/
theorem PSList.ps_named_or_empty {b : Buf} {flags o o' : Nat} {e : Err} {tps : List PTokParam}
    (H : PSList b flags o tps o' e) :
    (∀ tp ∈ tps, 0 < tp.name.len) ∨
    (tps = [{}] ∧ e = .eoh ∧ ∃ t q n crl, Pad b (tpSep flags) o t ∧ Lws b t q ∧ PSEnd b flags q n crl ∧
      o' = n + crl) := by
  induction H with
  | last o o' e tp hg he =>
    rcases hg.ps_named_or_empty with h | ⟨h1, h2, h3⟩
    · left
      intro tp' hmem
      simp only [List.mem_singleton] at hmem
      subst hmem; exact h
    · right
      subst h1
      exact ⟨rfl, h2, h3⟩
  | cons o next tp rest o' e hg hrest _ =>
    left
    intro tp' hmem
    simp only [List.mem_cons] at hmem
    rcases hmem with hmem | hmem
    · subst hmem
      rcases hg.ps_named_or_empty with h | ⟨_, h2, _⟩
      · exact h
      · cases h2
    · exact hrest.ps_named_at hg.ps_more_char tp' hmem

/-! ### what is accepted beyond the grammar `GParam` of `ParamSpec` -/

/-- **an accepted parameter is a `GParam` or one of four documented shapes outside that grammar**:
    (a) nothing parsed: the empty item at the end of the header / input (`EOH`, untouched object);
    (b) a name whose FIRST byte is the terminator — possible only when the terminator is an allowed byte, i.e. `?`
        with `POptTokQmTermF` outside URI-parameter mode (at the start of a call the terminator is not special);
    (c) the white-space terminator `POptTokSpTermF` ended the parameter (`OK`);
    (d) `name =` followed by the terminator (empty value recorded there, `OK`) or by the end of the header / input
        (no value recorded, `EOH`). -/
theorem PSParam.ps_gparam_or_extra {b : Buf} {flags o o' : Nat} {e : Err} {p' : PTokParam}
    (H : PSParam b flags {} o o' e p') :
    GParam b flags o o' e p' ∨
    (p' = {} ∧ e = .eoh) ∨
    (tokAllowedChar (tpTerm flags) flags = true ∧ b[p'.name.offs]? = some (tpTerm flags) ∧ 0 < p'.name.len) ∨
    (hasFlag flags POptTokSpTermF = true ∧ e = .ok) ∨
    (p'.val.len = 0 ∧ (e = .ok ∨ e = .eoh) ∧ ∃ q, b[q]? = some 61 ∧ p'.name.offs + p'.name.len ≤ q ∧ q < o') := by
  cases H with
  | empty t q n crl hp hl hend => exact Or.inr (Or.inl ⟨rfl, rfl⟩)
  | named t n0 n1 o2 c0 e2 p2 hp hl hb hal hs hrun hlt hA =>
    by_cases hct : c0 = tpTerm flags
    · subst hct
      refine Or.inr (Or.inr (Or.inl ⟨hal, ?_, ?_⟩))
      · rw [(hA.ps_fields hlt).1]; exact hb
      · rw [(hA.ps_fields hlt).1]
        show 0 < n1 - n0
        omega
    · have hrun' : PRun b flags n0 n1 := (Span.one hb ⟨hal, hs, hct⟩).append hrun
      cases hA with
      | close o3 e3 st hC =>
        cases hC with
        | ending o4 e4 st4 hE => exact Or.inl (GParam.noValue o t n0 n1 o' e st hp hl hrun' hlt hE)
        | spterm u c hsp _ _ _ _ => exact Or.inr (Or.inr (Or.inr (Or.inl ⟨hsp, rfl⟩)))
        | sptermQ c hsp _ _ _ => exact Or.inr (Or.inr (Or.inr (Or.inl ⟨hsp, rfl⟩)))
      | value q o3 e3 p3 hlq h61 hV =>
        have hq := hlq.le
        cases hV with
        | token v0 v1 o4 e4 st hlv hrv hv hC =>
          cases hC with
          | ending o5 e5 st5 hE =>
            exact Or.inl (GParam.token o t n0 n1 q v0 v1 o' e st hp hl hrun' hlt hlq h61 hlv hrv hv hE)
          | spterm u c hsp _ _ _ _ => exact Or.inr (Or.inr (Or.inr (Or.inl ⟨hsp, rfl⟩)))
          | sptermQ c hsp _ _ _ => exact Or.inr (Or.inr (Or.inr (Or.inl ⟨hsp, rfl⟩)))
        | quoted v0 qe o4 e4 st hlv h34 hqb hC =>
          cases hC with
          | ending o5 e5 st5 hE =>
            exact Or.inl (GParam.quoted o t n0 n1 q v0 qe o' e st hp hl hrun' hlt hlq h61 hlv h34 hqb hE)
          | spterm u c hsp _ _ _ _ => exact Or.inr (Or.inr (Or.inr (Or.inl ⟨hsp, rfl⟩)))
          | sptermQ c hsp _ _ _ => exact Or.inr (Or.inr (Or.inr (Or.inl ⟨hsp, rfl⟩)))
        | emptySep s o4 e4 st hlv hs' hA' =>
          exact Or.inl (GParam.emptyVal o t n0 n1 q s o' e st hp hl hrun' hlt hlq h61 hlv hs' hA')
        | emptyTerm u hlv hu hne =>
          have := hlv.le
          refine Or.inr (Or.inr (Or.inr (Or.inr ⟨rfl, Or.inl rfl, q, h61, ?_, by omega⟩)))
          show n0 + (n1 - n0) ≤ q
          omega
        | noValue q' n crl hlv hend =>
          have := hlv.le
          refine Or.inr (Or.inr (Or.inr (Or.inr ⟨rfl, Or.inr rfl, q, h61, ?_, ?_⟩)))
          · show n0 + (n1 - n0) ≤ q
            omega
          · cases hend with
            | eoh e6 c6 he _ _ => have := he.gt; omega
            | inputEnd hf he => have := get?_lt h61; omega

/-! ### tests on concrete inputs / the hypotheses are satisfiable -/

/-- non-vacuity of `parseTokenParam_complete` / `tokparam_ok_iff` (right to left): `a;b` is a `PSParam` built by
    hand, and the theorem gives the result of the call -/
example : parseTokenParam "a;b".toUTF8.data 0 {} 0 =
    (2, .moreValues, { name := ⟨0, 1⟩, all := ⟨0, 1⟩, state := .initNxtVal }) := by
  refine parseTokenParam_complete (by decide) ?_
  refine PSParam.named 0 0 0 1 2 97 .moreValues _ (Pad.nil 0) (Lws.nil 0) (by decide) (by decide) (by decide)
    (fun k h1 h2 => by omega) (by decide) ?_
  refine PSAfterName.close 1 2 .moreValues .initNxtVal (PSClose.ending _ _ _ _ ?_)
  exact Ending.sep 1 1 2 .moreValues .initNxtVal (Lws.nil 1) (by decide)
    (AfterSep.more 2 2 2 98 (Pad.nil 2) (Lws.nil 2) (by decide) (by decide) (by decide) (by decide))

/-- test (evaluation of the model) / non-vacuity of `parseTokenParam_sound` and `tokparam_ok_iff` (left to right):
    the result of a call on a text with empty items, folds, a quoted value with an escape and the terminator is a
    `PSParam` -/
example : PSParam ";; Tag \r\n = \"x\\\"y\" ?z".toUTF8.data 88 {} 0 19 .ok
    { name := ⟨3, 3⟩, val := ⟨12, 6⟩, all := ⟨3, 15⟩, state := .fin } :=
  (tokparam_ok_iff (by decide)).1 ⟨by decide +kernel, Or.inl rfl⟩

/-- tests: the four shapes accepted outside the grammar `GParam` (see `PSParam.ps_gparam_or_extra`).
    (a) nothing but a line end: `EOH`, untouched object -/
example : parseTokenParam "\r\nX".toUTF8.data 0 {} 0 = (2, .eoh, {}) := by decide +kernel
/-- (b) option word 2 = `POptTokQmTermF`: the leading `?` (the terminator) starts a name -/
example : parseTokenParam "?a;b".toUTF8.data 0 {} 2 =
    (3, .moreValues, { name := ⟨0, 2⟩, all := ⟨0, 2⟩, state := .initNxtVal }) := by decide +kernel
/-- (c) option word 4 = `POptTokSpTermF`: a token after white space ends the parameter at the last white-space
    byte; a token directly after a closing quote ends it at the token -/
example : parseTokenParam "a=b c".toUTF8.data 0 {} 4 =
    (3, .ok, { name := ⟨0, 1⟩, val := ⟨2, 1⟩, all := ⟨0, 3⟩, state := .fin }) := by decide +kernel
example : parseTokenParam "a=\"b\"c".toUTF8.data 0 {} 4 =
    (5, .ok, { name := ⟨0, 1⟩, val := ⟨2, 3⟩, all := ⟨0, 5⟩, state := .fin }) := by decide +kernel
/-- (d) `name=` and the terminator: an empty value at the terminator; `name =` and the end of the header: no
    value, and `all` does not include the `=` that follows white space -/
example : parseTokenParam "a=?x".toUTF8.data 0 {} 2 =
    (2, .ok, { name := ⟨0, 1⟩, val := ⟨2, 0⟩, all := ⟨0, 2⟩, state := .fin }) := by decide +kernel
example : parseTokenParam "a =\r\nX".toUTF8.data 0 {} 0 =
    (5, .eoh, { name := ⟨0, 1⟩, all := ⟨0, 1⟩, state := .fin }) := by decide +kernel

/-- test: the phantom parameter of the empty list (`PSList.ps_named_or_empty`): option word 72 = URI-parameter
    mode + end-of-input option, empty input: ONE value is counted, verdict `EOH` -/
example : (parseAllURIParams "".toUTF8.data 0 { params := Array.replicate 4 {} } 72).2.1 = 1 ∧
    (parseAllURIParams "".toUTF8.data 0 { params := Array.replicate 4 {} } 72).2.2.1 = .eoh := by decide +kernel

/-- non-vacuity of `parseAllURIParams_ok_iff` (left to right): the accepted text `a=b;lr` is a `PSList` -/
example : ∃ tps, PSList "a=b;lr".toUTF8.data (72 ||| POptParamSemiSepF) 0 tps 6 .eoh ∧ tps.length = 2 := by
  have hfresh := URIParamsLst.fresh_new 4
  rcases hr : parseAllURIParams "a=b;lr".toUTF8.data 0 { params := Array.replicate 4 {} } 72 with ⟨o', n, e, r⟩
  have h1 : o' = 6 := by
    have : (parseAllURIParams "a=b;lr".toUTF8.data 0 { params := Array.replicate 4 {} } 72).1 = 6 := by
      decide +kernel
    rw [hr] at this; exact this
  have h2 : n = 2 := by
    have : (parseAllURIParams "a=b;lr".toUTF8.data 0 { params := Array.replicate 4 {} } 72).2.1 = 2 := by
      decide +kernel
    rw [hr] at this; exact this
  have h3 : e = .eoh := by
    have : (parseAllURIParams "a=b;lr".toUTF8.data 0 { params := Array.replicate 4 {} } 72).2.2.1 = .eoh := by
      decide +kernel
    rw [hr] at this; exact this
  subst h1 h2 h3
  obtain ⟨tps, hL, hn, _⟩ := (parseAllURIParams_ok_iff (by decide) _ hfresh).1 ⟨hr, Or.inr rfl⟩
  exact ⟨tps, hL, hn.symm⟩

end Sipsp
