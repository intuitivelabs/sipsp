/-
  Sipsp.Proofs.ParamSpec — property C17, the direction "what the grammar says is what is reported": a grammar of
  parameter lists (`name[=value]` items, optional linear white space around names, `=` and separators, token / quoted /
  empty / missing values, the ways a parameter can end) and the proof that ParseTokenParam decomposes every parameter
  of that grammar exactly as written; rejection of bytes outside the allowed set; the allowed set and the separator /
  terminator selection, equal to the documented ones; quoted strings; the white-space terminator; the list wrappers
  ParseAllURIParams / ParseAllURIHdrs on parameter lists of the grammar. Beside the grammar stands the description `PSParam` of EVERYTHING ParseTokenParam accepts (the
  grammar, the white-space terminator, `name =` before the terminator or the end, nothing at all) with the proof
  `PSParam.run` that each such text is reported exactly as described; the theorems about the shapes of the grammar
  are instances of it, and `Sipsp.Proofs.ParamSound` proves that nothing else is accepted.
  Only calls on objects in their initial state are treated (no suspension / resumption).
-/
import Sipsp.Proofs.SkipQuoted
import Sipsp.Proofs.TokParamTrans
import Sipsp.Proofs.UriListsL
import Sipsp.Proofs.Bytes

namespace Sipsp

/-! ### character classes of ParseTokenParam -/

theorem tokAllowedChar_range {c : UInt8} {f : Nat} (h : tokAllowedChar c f = true) : ¬ (c ≤ 32) ∧ ¬ (c ≥ 127) := by
  unfold tokAllowedChar at h
  by_cases h1 : (decide (c ≤ 32) || decide (c ≥ 127)) = true
  · simp only [h1, if_true] at h; cases h
  · simp only [Bool.or_eq_true, decide_eq_true_eq, not_or] at h1; exact h1

theorem allowed_not_lws {c : UInt8} {f : Nat} (h : tokAllowedChar c f = true) : isLWSch c = false := by
  have h1 := (tokAllowedChar_range h).1
  cases hl : isLWSch c with
  | false => rfl
  | true =>
    unfold isLWSch at hl
    simp only [Bool.or_eq_true, beq_iff_eq] at hl
    rcases hl with ((hl | hl) | hl) | hl <;> (subst hl; exact absurd (by decide) h1)

/-- a byte that continues a name or a token value: allowed, not the separator, not the terminator -/
def PChar (flags : Nat) (c : UInt8) : Prop :=
  tokAllowedChar c flags = true ∧ c ≠ tpSep flags ∧ c ≠ tpTerm flags

theorem PChar.facts {flags : Nat} {c : UInt8} (h : PChar flags c) : ChFacts flags c false false false false false := by
  obtain ⟨ha, hs, ht⟩ := h
  refine ⟨allowed_not_lws ha, ?_, ?_, ?_, ?_⟩
  · cases h : c == 61 with
    | false => rfl
    | true => rw [beq_iff_eq] at h; subst h; rw [not_allowed_61] at ha; cases ha
  · cases h : c == 34 with
    | false => rfl
    | true => rw [beq_iff_eq] at h; subst h; rw [not_allowed_34] at ha; cases ha
  · have : (c == tpTerm flags) = false := by simpa using ht
    rw [this]; rfl
  · simpa using hs

/-- a byte that is neither allowed in a name / token value nor has a role of its own: not white space or a line
    end, not the separator, not the (configured) terminator -/
def BadCh (flags : Nat) (c : UInt8) : Prop :=
  tokAllowedChar c flags = false ∧ isLWSch c = false ∧ c ≠ tpSep flags ∧ (c = tpTerm flags → tpTerm flags = 0)

theorem PChar.cls {flags : Nat} {c : UInt8} (h : PChar flags c) : chClass flags c = .tok := by
  have hf := h.facts
  unfold chClass
  rw [hf.hl, hf.ht, hf.hs, hf.h61, hf.h34, h.1]; rfl

theorem ps_pchar {flags : Nat} {c : UInt8} (ha : tokAllowedChar c flags = true) (hs : (c == tpSep flags) = false)
    (ht : (c == tpTerm flags && tpTerm flags != 0) = false) : PChar flags c := by
  refine ⟨ha, by simpa using hs, ?_⟩
  intro hc
  have h0 : c = 0 := by
    rw [← hc] at ht
    simpa using ht
  rw [h0] at ha
  unfold tokAllowedChar at ha
  simp at ha

/-- the bytes at `[i, j)` are present and continue a name / token value -/
def PRun (b : Buf) (flags i j : Nat) : Prop := ∀ k, i ≤ k → k < j → ∃ c, b[k]? = some c ∧ PChar flags c

/-! ### the white-space pattern -/

/-- the states in which a parameter has not started yet -/
def TPState.isStart (s : TPState) : Prop := s = .init ∨ s = .initNxtVal ∨ s = .fNxt

theorem tpStep_quoted_ok {flags offs : Nat} {b : Buf} {i : Nat} {c : UInt8} {p : PTokParam} (hst : p.state = .quotedVal)
    {n : Nat} (hq : skipQuoted b i = (n, .ok)) :
    tpStep flags offs b i c p = .cont n { (p.extVal n).extAll n with state := .fSep } := by
  rw [tpStep_eq, hst]; simp only [tpAct, tpDo, hq]

/-! ### the grammar: empty items, what follows a separator, how a parameter ends -/

/-- empty list items: any number of separators, each optionally preceded by linear white space -/
inductive Pad (b : Buf) (sep : UInt8) : Nat → Nat → Prop
  | nil (i : Nat) : Pad b sep i i
  | item (i s n : Nat) : Lws b i s → b[s]? = some sep → Pad b sep (s + 1) n → Pad b sep i n

theorem Pad.le {b : Buf} {sep : UInt8} {i n : Nat} (h : Pad b sep i n) : i ≤ n := by
  induction h with
  | nil i => exact Nat.le_refl _
  | item i s n hl _ _ ih => have := hl.le; omega

/-- what follows a separator (`i` is the offset after it): more empty items and white space, then either the first
    byte of the next parameter (`MoreValues`, offset of that byte; that byte is not the terminator), the terminator
    (`OK`, offset of the terminator: the empty item before it is skipped), the end of the header, or the end of the
    input (end-of-input option). The last three arguments are the offset, verdict and final state reported. -/
inductive AfterSep (b : Buf) (flags : Nat) : Nat → Nat → Err → TPState → Prop
  | more (i t u : Nat) (c : UInt8) : Pad b (tpSep flags) i t → Lws b t u → b[u]? = some c →
      tokAllowedChar c flags = true → c ≠ tpSep flags → c ≠ tpTerm flags →
      AfterSep b flags i u .moreValues .initNxtVal
  | term (i t u : Nat) : Pad b (tpSep flags) i t → Lws b t u → b[u]? = some (tpTerm flags) → tpTerm flags ≠ 0 →
      AfterSep b flags i u .ok .fin
  | eoh (i t p e : Nat) (c2 : UInt8) : Pad b (tpSep flags) i t → Lws b t p → Eol b p e → b[e]? = some c2 →
      isWS c2 = false → AfterSep b flags i e .eoh .fin
  | inputEnd (i t p : Nat) : hasFlag flags POptInputEndF = true → Pad b (tpSep flags) i t → Lws b t p →
      EndTail b p → AfterSep b flags i b.size .eoh .fin

/-- the ways a parameter can end after its name or value (`i` is the end of the name / value): optional linear
    white space, then the separator (and what follows it), the configured terminator (`OK`, offset of the
    terminator), the end of the header (`EOH`, offset after the line end) or the end of the input. -/
inductive Ending (b : Buf) (flags : Nat) : Nat → Nat → Err → TPState → Prop
  | sep (i s o : Nat) (e : Err) (st : TPState) : Lws b i s → b[s]? = some (tpSep flags) →
      AfterSep b flags (s + 1) o e st → Ending b flags i o e st
  | term (i t : Nat) : Lws b i t → b[t]? = some (tpTerm flags) → tpTerm flags ≠ 0 → Ending b flags i t .ok .fin
  | eoh (i p e : Nat) (c2 : UInt8) : Lws b i p → Eol b p e → b[e]? = some c2 → isWS c2 = false →
      Ending b flags i e .eoh .fin
  | inputEnd (i p : Nat) : hasFlag flags POptInputEndF = true → Lws b i p → EndTail b p →
      Ending b flags i b.size .eoh .fin

/-- the end of the header / of the input at `q`, with the two numbers `endOfHdr` is called with: a line end that is
    not a fold (`n = q`, `crl` = its length), or — end-of-input option — the end of the input (`n = len(buf)`,
    `crl = 0`) -/
inductive PSEnd (b : Buf) (flags : Nat) : Nat → Nat → Nat → Prop
  | eoh (q e : Nat) (c2 : UInt8) : Eol b q e → b[e]? = some c2 → isWS c2 = false → PSEnd b flags q q (e - q)
  | inputEnd (q : Nat) : hasFlag flags POptInputEndF = true → EndTail b q → PSEnd b flags q b.size 0

theorem PSEnd.ending {b : Buf} {flags i q n crl : Nat} (hl : Lws b i q) (h : PSEnd b flags q n crl) :
    Ending b flags i (n + crl) .eoh .fin := by
  cases h with
  | eoh e c2 he h2 hw =>
    have := he.gt
    have e1 : q + (e - q) = e := by omega
    rw [e1]
    exact Ending.eoh i q e c2 hl he h2 hw
  | inputEnd hf he => exact Ending.inputEnd i q hf hl he

theorem PSEnd.afterSep {b : Buf} {flags i t q n crl : Nat} (hp : Pad b (tpSep flags) i t) (hl : Lws b t q)
    (h : PSEnd b flags q n crl) : AfterSep b flags i (n + crl) .eoh .fin := by
  cases h with
  | eoh e c2 he h2 hw =>
    have := he.gt
    have e1 : q + (e - q) = e := by omega
    rw [e1]
    exact AfterSep.eoh i t q e c2 hp hl he h2 hw
  | inputEnd hf he => exact AfterSep.inputEnd i t q hf hp hl he

/-- how a parameter ends after its name / value at `j`, as ParseTokenParam sees it: one of the `Ending`s of the
    grammar (separator, terminator, end of the header / input), or — with the white-space terminator
    `POptTokSpTermF` — linear white space and the first byte of a new token (`OK`, offset of the LAST white-space
    byte), or — same option — a new token directly after the closing quote of a quoted value (`OK`, offset of the
    token) -/
inductive PSClose (b : Buf) (flags : Nat) : Nat → Nat → Err → TPState → Prop
  | ending (j o : Nat) (e : Err) (st : TPState) : Ending b flags j o e st → PSClose b flags j o e st
  | spterm (j u : Nat) (c : UInt8) : hasFlag flags POptTokSpTermF = true → Lws b j u → j < u → b[u]? = some c →
      PChar flags c → PSClose b flags j (u - 1) .ok .fin
  | sptermQ (j : Nat) (c : UInt8) : hasFlag flags POptTokSpTermF = true → b[j - 1]? = some 34 → b[j]? = some c →
      PChar flags c → PSClose b flags j j .ok .fin

/-- what follows the `=` of a parameter (`i` is the offset after the `=`, `p` the object at that point; the last
    three arguments are the offset, verdict and object reported): optional linear white space and then
    * a token value `[v0, v1)` and the end of the parameter,
    * a quoted value: opening quote at `v0`, body and closing quote up to `qe`, and the end of the parameter,
    * the separator: an EMPTY value recorded at the separator, and what follows the separator,
    * the terminator: an EMPTY value recorded at the terminator; `all` keeps the end it had,
    * the end of the header / input: NO value recorded. -/
inductive PSValue (b : Buf) (flags : Nat) (p : PTokParam) : Nat → Nat → Err → PTokParam → Prop
  | token (i v0 v1 o : Nat) (e : Err) (st : TPState) : Lws b i v0 → PRun b flags v0 v1 → v0 < v1 →
      PSClose b flags v1 o e st →
      PSValue b flags p i o e { p with val := ⟨v0, v1 - v0⟩, all := ⟨p.all.offs, v1 - p.all.offs⟩, state := st }
  | quoted (i v0 qe o : Nat) (e : Err) (st : TPState) : Lws b i v0 → b[v0]? = some 34 → QBody b (v0 + 1) qe →
      PSClose b flags qe o e st →
      PSValue b flags p i o e { p with val := ⟨v0, qe - v0⟩, all := ⟨p.all.offs, qe - p.all.offs⟩, state := st }
  | emptySep (i s o : Nat) (e : Err) (st : TPState) : Lws b i s → b[s]? = some (tpSep flags) →
      AfterSep b flags (s + 1) o e st →
      PSValue b flags p i o e { p with val := ⟨s, 0⟩, all := ⟨p.all.offs, s - p.all.offs⟩, state := st }
  | emptyTerm (i u : Nat) : Lws b i u → b[u]? = some (tpTerm flags) → tpTerm flags ≠ 0 →
      PSValue b flags p i u .ok { p with val := ⟨u, 0⟩, state := .fin }
  | noValue (i q n crl : Nat) : Lws b i q → PSEnd b flags q n crl →
      PSValue b flags p i (n + crl) .eoh { p with state := .fin }

/-- the object after `name [LWS] =` (`n1` end of the name, `q` offset of the `=`): `all` ends after the `=` when it
    follows the name directly, and at the end of the name otherwise -/
def psAfterEq (p : PTokParam) (n1 q : Nat) : PTokParam :=
  { p with name := ⟨p.name.offs, n1 - p.name.offs⟩, all := ⟨p.all.offs, (if n1 = q then q + 1 else n1) - p.all.offs⟩, state := .fVal }

/-- what follows the name that ends at `n1` (`p` is the object while the name is being read): the parameter ends
    there (no value), or optional linear white space, `=` and what follows it -/
inductive PSAfterName (b : Buf) (flags : Nat) (p : PTokParam) : Nat → Nat → Err → PTokParam → Prop
  | close (n1 o : Nat) (e : Err) (st : TPState) : PSClose b flags n1 o e st →
      PSAfterName b flags p n1 o e
        { p with name := ⟨p.name.offs, n1 - p.name.offs⟩, all := ⟨p.all.offs, n1 - p.all.offs⟩, state := st }
  | value (n1 q o : Nat) (e : Err) (p' : PTokParam) : Lws b n1 q → b[q]? = some 61 →
      PSValue b flags (psAfterEq p n1 q) (q + 1) o e p' → PSAfterName b flags p n1 o e p'

/-- the object once the first byte of the name has been read at `n0` -/
def psNamed (p : PTokParam) (n0 : Nat) : PTokParam := { p with state := .name, name := ⟨n0, 0⟩, all := ⟨n0, 0⟩ }

/-- **everything ParseTokenParam accepts** from offset `o` with an object `p` in its initial state (the last three
    arguments are the offset, verdict and object reported): after skipped empty items and linear white space
    * `empty`: the end of the header / input — `EOH`, the object is returned as it was (nothing parsed);
    * `named`: a name `[n0, n1)` — its first byte any allowed byte but the separator (at the start of a call the
      terminator is not special), the others allowed bytes other than separator and terminator — and what follows
      it (`PSAfterName`). -/
inductive PSParam (b : Buf) (flags : Nat) (p : PTokParam) : Nat → Nat → Err → PTokParam → Prop
  | empty (o t q n crl : Nat) : Pad b (tpSep flags) o t → Lws b t q → PSEnd b flags q n crl →
      PSParam b flags p o (n + crl) .eoh p
  | named (o t n0 n1 o' : Nat) (c0 : UInt8) (e : Err) (p' : PTokParam) : Pad b (tpSep flags) o t → Lws b t n0 →
      b[n0]? = some c0 → tokAllowedChar c0 flags = true → c0 ≠ tpSep flags → PRun b flags (n0 + 1) n1 → n0 < n1 →
      PSAfterName b flags (psNamed p n0) n1 o' e p' → PSParam b flags p o o' e p'

/-! ### walking the loop -/

/-- the states in which `endOfHdr` finishes the parameter -/
def TPState.isOpen (s : TPState) : Prop := s = .fNxt ∨ s = .name ∨ s = .fEq ∨ s = .fVal ∨ s = .val ∨ s = .fSep

theorem tpEOH_open {p : PTokParam} (h : p.state.isOpen) (n crl : Nat) :
    tpEOH p n crl = (n + crl, .eoh, { p with state := .fin }) := by
  unfold tpEOH
  rcases h with h | h | h | h | h | h <;> simp only [h]

theorem EndTail.first {b : Buf} {p : Nat} (h : EndTail b p) {c : UInt8} (hc : b[p]? = some c) : isLWSch c = true := by
  cases h with
  | none h0 => rw [h0] at hc; cases hc
  | one c' h0 hcr _ =>
    rw [h0] at hc; cases hc
    unfold isCRLFch at hcr; unfold isLWSch
    simp only [Bool.or_eq_true] at hcr ⊢
    rcases hcr with h | h
    · exact Or.inl (Or.inr h)
    · exact Or.inr h
  | crlf h0 _ _ => rw [h0] at hc; cases hc; decide

section phases
variable (flags offs : Nat) (b : Buf)

theorem tp_cont {i i' : Nat} {c : UInt8} {p p1 : PTokParam} (hb : b[i]? = some c)
    (hs : tpStep flags offs b i c p = .cont i' p1) (hlt : i < i') :
    runLoop (tpMachine flags offs) b i p = runLoop (tpMachine flags offs) b i' p1 :=
  runLoop_cont_lt (tpMachine flags offs) hb hs hlt

theorem tp_done {i o : Nat} {c : UInt8} {e : Err} {p p1 : PTokParam} (hb : b[i]? = some c)
    (hs : tpStep flags offs b i c p = .done o e p1) : runLoop (tpMachine flags offs) b i p = (o, e, p1) :=
  runLoop_done (tpMachine flags offs) hb hs

theorem tp_lws_ok {i n : Nat} (hl : Lws b i n) (hin : i < n) {c : UInt8} (hn : b[n]? = some c)
    (hc : isLWSch c = false) (p : PTokParam) (upd : PTokParam → PTokParam)
    (hstep : ∀ c, isLWSch c = true → tpStep flags offs b i c p = tpLWS b flags i p upd) :
    runLoop (tpMachine flags offs) b i p = runLoop (tpMachine flags offs) b n (upd p) :=
  runLoop_lws _ hl hin hn hc p (upd p) fun c0 h0 _ =>
    (hstep c0 h0).trans (tpLWS_ok p upd (skipLWS_of_out (.ok hl hn hc)))

theorem tp_lws_id {i n : Nat} (hl : Lws b i n) {c : UInt8} (hn : b[n]? = some c) (hc : isLWSch c = false)
    (p : PTokParam) (hstep : ∀ c, isLWSch c = true → tpStep flags offs b i c p = tpLWS b flags i p id) :
    runLoop (tpMachine flags offs) b i p = runLoop (tpMachine flags offs) b n p := by
  by_cases hlt : i < n
  · exact tp_lws_ok flags offs b hl hlt hn hc p id hstep
  · have := hl.le
    have : i = n := by omega
    subst this; rfl

/-- linear white space up to the end of the header / input: `endOfHdr`; `hmb` says that the end-of-buffer exit
    does the same in this state (it is taken when the white space is empty or `skipLWS` asks for more bytes) -/
theorem tp_lws_end {i q n crl : Nat} (hl : Lws b i q) (he : PSEnd b flags q n crl) (p : PTokParam)
    (upd : PTokParam → PTokParam)
    (hstep : ∀ c, isLWSch c = true → tpStep flags offs b i c p = tpLWS b flags i p upd)
    (hmb : hasFlag flags POptInputEndF = true → tpMoreBytes b flags p i = tpEOH (upd p) b.size 0) :
    runLoop (tpMachine flags offs) b i p = tpEOH (upd p) n crl := by
  have hiq : ¬ i < q → i = q := fun h => by have := hl.le; omega
  cases he with
  | eoh e c2 he h2 hw2 =>
    have hfirst : ∃ c0, b[i]? = some c0 ∧ isLWSch c0 = true := by
      by_cases h1 : i < q
      · exact hl.first h1
      · obtain ⟨c0, h0, _, _, h4⟩ := he.first
        rw [hiq h1]; exact ⟨c0, h0, h4⟩
    obtain ⟨c0, h0, hl0⟩ := hfirst
    exact tp_done flags offs b h0 ((hstep c0 hl0).trans (tpLWS_eoh p upd (skipLWS_of_out (.eoh hl he h2 hw2))))
  | inputEnd hf he =>
    cases hb : b[i]? with
    | none => rw [runLoop_none (tpMachine flags offs) p hb]; exact hmb hf
    | some c0 =>
      have hl0 : isLWSch c0 = true := by
        by_cases h1 : i < q
        · obtain ⟨c1, h1', h2⟩ := hl.first h1
          rw [hb] at h1'; cases h1'; exact h2
        · rw [hiq h1] at hb; exact he.first hb
      rcases skipLWS_at_end flags hl he with hm | hm
      · have := (hstep c0 hl0).trans (tpLWS_more p upd hm)
        rw [hmb hf] at this
        exact tp_done flags offs b hb this
      · exact tp_done flags offs b hb ((hstep c0 hl0).trans (tpLWS_eoh p upd hm))

theorem tp_pad {i t : Nat} (H : Pad b (tpSep flags) i t) (p : PTokParam) (hst : p.state.isStart) :
    runLoop (tpMachine flags offs) b i p = runLoop (tpMachine flags offs) b t p := by
  induction H with
  | nil i => rfl
  | item i s n hl hs _ ih =>
    have hstep : ∀ {j : Nat} (c : UInt8), isLWSch c = true → tpStep flags offs b j c p = tpLWS b flags j p id :=
      fun c hc => by rcases hst with h | h | h <;> exact tpStep_lws h hc (by decide)
    have hsep : tpStep flags offs b s (tpSep flags) p = .cont (s + 1) p := by
      rcases hst with h | h | h <;> exact tpStep_at h (chClass_sep flags)
    rw [tp_lws_id flags offs b hl hs (sep_facts flags).hl p hstep, tp_cont flags offs b hs hsep (Nat.lt_succ_self s)]
    exact ih

theorem tp_afterSep {i o : Nat} {e : Err} {st : TPState} (H : AfterSep b flags i o e st) (p : PTokParam)
    (hst : p.state = .fNxt) :
    runLoop (tpMachine flags offs) b i p = (o, e, { p with state := st }) := by
  have hstart : p.state.isStart := Or.inr (Or.inr hst)
  have hlws : ∀ {t : Nat} (c : UInt8), isLWSch c = true → tpStep flags offs b t c p = tpLWS b flags t p id :=
    fun c hc => tpStep_lws hst hc (by decide)
  have hend : ∀ {t q n crl : Nat}, Lws b t q → PSEnd b flags q n crl →
      runLoop (tpMachine flags offs) b t p = (n + crl, .eoh, { p with state := .fin }) := fun hl he => by
    rw [tp_lws_end flags offs b hl he p id hlws (fun hf => by rw [tpMoreBytes_end hf (by rw [hst]; decide), hst]; rfl)]
    exact tpEOH_open (Or.inl hst) _ _
  cases H with
  | term t u hp hl hc hne0 =>
    rw [tp_pad flags offs b hp p hstart, tp_lws_id flags offs b hl hc (term_facts flags hne0).hl p hlws,
      tp_done flags offs b hc (tpStep_at hst (chClass_term hne0))]
    show (o, Err.ok, { p.closeAt o with state := .fin }) = _
    rw [p.closeAt_other o (by rw [hst]; decide) (by rw [hst]; decide)]
  | more t u c hp hl hc ha hne hnt =>
    have hpc : PChar flags c := ⟨ha, hne, hnt⟩
    rw [tp_pad flags offs b hp p hstart, tp_lws_id flags offs b hl hc hpc.facts.hl p hlws,
      tp_done flags offs b hc (tpStep_at hst hpc.cls)]
  | eoh t q e' c2 hp hl he h2 hw2 =>
    rw [tp_pad flags offs b hp p hstart, hend hl (.eoh q o c2 he h2 hw2), Nat.add_sub_cancel' (Nat.le_of_lt he.gt.1)]
  | inputEnd t q hf hp hl he => rw [tp_pad flags offs b hp p hstart, hend hl (.inputEnd q hf he)]; rfl

/-- the four states in which a parameter can end: inside / after its name, inside / after its value -/
def TPState.canEnd (s : TPState) : Prop := s = .name ∨ s = .fEq ∨ s = .val ∨ s = .fSep

theorem tpStep_end_sep {p : PTokParam} (hst : p.state.canEnd) (i : Nat) :
    tpStep flags offs b i (tpSep flags) p = .cont (i + 1) { p.closeAt i with state := .fNxt } := by
  rcases hst with h | h | h | h <;> exact tpStep_at h (chClass_sep flags)

theorem tpStep_end_term {p : PTokParam} (hst : p.state.canEnd) (hne : tpTerm flags ≠ 0) (i : Nat) :
    tpStep flags offs b i (tpTerm flags) p = .done i .ok { p.closeAt i with state := .fin } := by
  rcases hst with h | h | h | h <;> exact tpStep_at h (chClass_term hne)

theorem TPState.canEnd.next {s : TPState} (h : s.canEnd) : pvNext s = .fEq ∨ pvNext s = .fSep := by
  rcases h with h | h | h | h <;> simp [h, pvNext]

theorem TPState.canEnd.live {s : TPState} (h : s.canEnd) : s ≠ .quotedVal ∧ s ≠ .err ∧ s ≠ .fin := by
  rcases h with h | h | h | h <;> simp [h]

/-- optional white space after the end `j` of a name / value, up to a byte of another kind at `s`: the loop stands
    there in one of the four states, and what it closes there is what was to be closed at `j` -/
theorem tp_lws_close {j s : Nat} {c : UInt8} (p : PTokParam) (hst : p.state.canEnd) (hl : Lws b j s)
    (hs : b[s]? = some c) (hc : isLWSch c = false) :
    ∃ p1 : PTokParam, runLoop (tpMachine flags offs) b j p = runLoop (tpMachine flags offs) b s p1 ∧ p1.state.canEnd ∧
      (j < s → p1.state = .fEq ∨ p1.state = .fSep) ∧
      ∀ st, ({ p1.closeAt s with state := st } : PTokParam) = { p.closeAt j with state := st } := by
  by_cases hlt : j < s
  · refine ⟨{ p.closeAt j with state := pvNext p.state }, ?_, ?_, fun _ => hst.next, fun st => ?_⟩
    · rw [tp_lws_ok flags offs b hl hlt hs hc p _ (fun c hc => tpStep_lws rfl hc hst.live), tpLwsUpd_eq]
    · rcases hst.next with h | h
      · exact Or.inr (Or.inl h)
      · exact Or.inr (Or.inr (Or.inr h))
    · rw [PTokParam.closeAt_other _ s (by show pvNext p.state ≠ _; rcases hst.next with h | h <;> simp [h])
        (by show pvNext p.state ≠ _; rcases hst.next with h | h <;> simp [h])]
  · have : j = s := by have := hl.le; omega
    subst this
    exact ⟨p, rfl, hst, fun h => absurd h hlt, fun _ => rfl⟩

theorem tp_to_sep {j s : Nat} (p : PTokParam) (hst : p.state.canEnd) (hl : Lws b j s) (hs : b[s]? = some (tpSep flags)) :
    runLoop (tpMachine flags offs) b j p =
      runLoop (tpMachine flags offs) b (s + 1) { p.closeAt j with state := .fNxt } := by
  obtain ⟨p1, h1, h2, _, h3⟩ := tp_lws_close flags offs b p hst hl hs (sep_facts flags).hl
  rw [h1, tp_cont flags offs b hs (tpStep_end_sep flags offs b h2 s) (Nat.lt_succ_self s), h3]

/-- **the end of a parameter**, in any of the four states the loop can be in at the end `j` of the name / value: the
    name / value in progress is closed at `j` (`closeAt`), whatever white space follows -/
theorem tp_ending (j : Nat) (p : PTokParam) (hst : p.state.canEnd) {o : Nat} {e : Err} {st : TPState}
    (H : Ending b flags j o e st) :
    runLoop (tpMachine flags offs) b j p = (o, e, { p.closeAt j with state := st }) := by
  have hend : ∀ {q n crl : Nat}, Lws b j q → PSEnd b flags q n crl →
      runLoop (tpMachine flags offs) b j p = (n + crl, .eoh, { p.closeAt j with state := .fin }) := fun hl he => by
    rw [tp_lws_end flags offs b hl he p _ (fun c hc => tpStep_lws rfl hc hst.live)
      (fun hf => tpMoreBytes_end hf hst.live j), tpLwsUpd_eq, tpEOH_open]
    show (pvNext p.state).isOpen
    rcases hst.next with h | h <;> simp [h, TPState.isOpen]
  cases H with
  | sep s o' e' st' hl hs ha => rw [tp_to_sep flags offs b p hst hl hs, tp_afterSep flags offs b ha _ rfl]
  | term t hl ht hne =>
    obtain ⟨p1, h1, h2, _, h3⟩ := tp_lws_close flags offs b p hst hl ht (term_facts flags hne).hl
    rw [h1, tp_done flags offs b ht (tpStep_end_term flags offs b h2 hne o), h3]
  | eoh q e' c2 hl he h2 hw2 => rw [hend hl (.eoh q o c2 he h2 hw2), Nat.add_sub_cancel' (Nat.le_of_lt he.gt.1)]
  | inputEnd q hf hl he => rw [hend hl (.inputEnd q hf he)]; rfl

end phases

/-! ### the object: extensions without wrap-around -/

/- The object is taken apart first: for a variable `p` the kernel would compare `(p.extName i).all` with `p.all`
   by comparing `p.extName i` with `p` field by field, which unrolls the `+ 65536` of `PField.extend` in unary. -/
theorem extName_extAll (p : PTokParam) (i j : Nat) (h1 : p.name.offs ≤ i) (h2 : p.all.offs ≤ j) (hi : i ≤ 65535)
    (hj : j ≤ 65535) :
    (p.extName i).extAll j =
      { p with name := ⟨p.name.offs, i - p.name.offs⟩, all := ⟨p.all.offs, j - p.all.offs⟩ } := by
  obtain ⟨all, name, val, state, pnc⟩ := p
  dsimp only [PTokParam.extName, PTokParam.extAll, PField.extendPanics] at h1 h2 ⊢
  rw [extend_eq name i h1 hi, extend_eq all j h2 hj, decide_eq_false (Nat.not_lt.mpr h1),
    decide_eq_false (Nat.not_lt.mpr h2), Bool.or_false, Bool.or_false]

theorem extVal_extAll (p : PTokParam) (j : Nat) (h1 : p.val.offs ≤ j) (h2 : p.all.offs ≤ j) (hj : j ≤ 65535) :
    (p.extVal j).extAll j =
      { p with val := ⟨p.val.offs, j - p.val.offs⟩, all := ⟨p.all.offs, j - p.all.offs⟩ } := by
  obtain ⟨all, name, val, state, pnc⟩ := p
  dsimp only [PTokParam.extVal, PTokParam.extAll, PField.extendPanics] at h1 h2 ⊢
  rw [extend_eq val j h1 hj, extend_eq all j h2 hj, decide_eq_false (Nat.not_lt.mpr h1),
    decide_eq_false (Nat.not_lt.mpr h2), Bool.or_false, Bool.or_false]

theorem extAll_eq (p : PTokParam) (j : Nat) (h : p.all.offs ≤ j) (hj : j ≤ 65535) :
    p.extAll j = { p with all := ⟨p.all.offs, j - p.all.offs⟩ } := by
  unfold PTokParam.extAll PField.extendPanics
  rw [extend_eq p.all j h hj, decide_eq_false (Nat.not_lt.mpr h), Bool.or_false]

theorem PField.set_self (i : Nat) (hi : i ≤ 65535) : PField.set i i = ⟨i, 0⟩ := by
  rw [set_eq i i (Nat.le_refl _) hi, Nat.sub_self]

/-! ### the phases of one parameter -/

/-- the offset reported by the white-space terminator in the state after a value -/
def psSpOff (b : Buf) (n : Nat) : Nat :=
  match b[n - 1]? with
  | some c => if isLWSch c then n - 1 else n
  | none => n

section spoff
variable {offs : Nat} {b : Buf}

theorem ps_spTermSep {n : Nat} (p : PTokParam) (hoff : offs + 1 ≤ n) :
    tpSpTermSep b offs n p = .done (psSpOff b n) .ok { p with state := .fin } := by
  unfold tpSpTermSep psSpOff
  simp only
  rw [if_pos hoff]
  cases b[n - 1]? with
  | none => rfl
  | some c =>
    simp only
    split <;> rfl

theorem ps_spOff_ws {n : Nat} {c : UInt8} (h : b[n - 1]? = some c) (hw : isWS c = true) : psSpOff b n = n - 1 := by
  unfold psSpOff
  rw [h]
  simp only [isWS_lws hw, if_true]

theorem ps_spOff_quote {n : Nat} (h : b[n - 1]? = some 34) : psSpOff b n = n := by
  unfold psSpOff
  rw [h]
  rfl

end spoff

section main
variable (flags offs : Nat) (b : Buf)

/-- a run of name / value bytes is walked over; the object is extended only at its end -/
theorem tp_run {i j : Nat} (hij : i ≤ j) (hr : PRun b flags i j) (p : PTokParam)
    (hst : p.state = .name ∨ p.state = .val) :
    runLoop (tpMachine flags offs) b i p = runLoop (tpMachine flags offs) b j p :=
  loop_span (runLoop (tpMachine flags offs) b) _ (runLoop_law _ b) (fun _ => p) hij hr fun _ _ _ _ _ hp =>
    hst.elim (fun h => tpStep_at h hp.cls) (fun h => tpStep_at h hp.cls)

theorem PRun.le_size {b : Buf} {flags i j : Nat} (hr : PRun b flags i j) (hij : i < j) : j ≤ b.size :=
  Span.le_size hr hij

/-- the first byte of a name: an allowed byte other than the separator (the terminator, where it is an allowed byte,
    is not special at the start of a call) -/
theorem chClass_first {flags : Nat} {c : UInt8} (hal : tokAllowedChar c flags = true) (hs : c ≠ tpSep flags) :
    chClass flags c = .tok ∨ chClass flags c = .term true := by
  by_cases ht : (c == tpTerm flags && tpTerm flags != 0) = true
  · obtain ⟨rfl, hne⟩ : c = tpTerm flags ∧ tpTerm flags ≠ 0 := by simpa using ht
    right; rw [chClass_term hne, hal]
  · exact Or.inl (ps_pchar hal (by simpa using hs) (eq_false_of_ne_true ht)).cls

/-- **start of a parameter** (any buffer): empty items and white space are skipped, the name starts at its first byte
    `n0` and the loop walks to its end `n1` -/
theorem tp_start0 {o t n0 n1 : Nat} {c0 : UInt8} (hp : Pad b (tpSep flags) o t)
    (hl : Lws b t n0) (hb : b[n0]? = some c0) (hal : tokAllowedChar c0 flags = true) (hs : c0 ≠ tpSep flags)
    (hr : PRun b flags (n0 + 1) n1) (hn : n0 < n1) (p : PTokParam) (hst : p.state = .init ∨ p.state = .initNxtVal) :
    runLoop (tpMachine flags offs) b o p =
      runLoop (tpMachine flags offs) b n1 { p with state := .name, name := PField.set n0 n0, all := PField.set n0 n0 } := by
  have hstart : p.state.isStart := hst.elim Or.inl (fun h => Or.inr (Or.inl h))
  have hstep : tpStep flags offs b n0 c0 p =
      .cont (n0 + 1) { p with state := .name, name := PField.set n0 n0, all := PField.set n0 n0 } := by
    rcases chClass_first hal hs with hk | hk <;> rcases hst with h | h <;> exact tpStep_at h hk
  rw [tp_pad flags offs b hp p hstart,
    tp_lws_id flags offs b hl hb (allowed_not_lws hal) p
      (fun c hc => by rcases hst with h | h <;> exact tpStep_lws h hc (by decide)),
    tp_cont flags offs b hb hstep (Nat.lt_succ_self n0)]
  exact tp_run flags offs b (by omega) hr _ (Or.inl rfl)

/-- within the 65,535-byte limit the object after the first byte is `psNamed` -/
theorem tp_start {o t n0 n1 : Nat} {c0 : UInt8} (hfit : b.size ≤ 65535) (hp : Pad b (tpSep flags) o t)
    (hl : Lws b t n0) (hb : b[n0]? = some c0) (hal : tokAllowedChar c0 flags = true) (hs : c0 ≠ tpSep flags)
    (hr : PRun b flags (n0 + 1) n1) (hn : n0 < n1) (p : PTokParam) (hst : p.state = .init ∨ p.state = .initNxtVal) :
    runLoop (tpMachine flags offs) b o p = runLoop (tpMachine flags offs) b n1 (psNamed p n0) := by
  have hn0 := get?_lt hb
  rw [tp_start0 flags offs b hp hl hb hal hs hr hn p hst, PField.set_self n0 (by omega)]
  rfl

/-! the white-space terminator (`POptTokSpTermF`) -/

theorem Lws.last {b : Buf} {i u : Nat} (h : Lws b i u) (hlt : i < u) : ∃ c, b[u - 1]? = some c ∧ isWS c = true := by
  induction h with
  | nil i => omega
  | ws i n c hc hw hrest ih =>
    by_cases h1 : i + 1 < n
    · exact ih h1
    · have := hrest.le
      have : n - 1 = i := by omega
      rw [this]; exact ⟨c, hc, hw⟩
  | fold i e n c2 he h2 hw2 hrest ih =>
    by_cases h1 : e + 1 < n
    · exact ih h1
    · have := hrest.le
      have : n - 1 = e := by omega
      rw [this]; exact ⟨c2, h2, hw2⟩

/-- white space and then a new token end the parameter when `POptTokSpTermF` is set: `OK`, and the offset
    returned is the one of the last white-space byte before the token -/
theorem tp_spterm (j u : Nat) {c : UInt8} (p : PTokParam) (upd : PTokParam → PTokParam)
    (hu : (upd p).state = .fEq ∨ (upd p).state = .fSep)
    (hlws : ∀ c, isLWSch c = true → tpStep flags offs b j c p = tpLWS b flags j p upd)
    (hf : hasFlag flags POptTokSpTermF = true) (hl : Lws b j u) (hju : j < u) (hoff : offs + 1 ≤ u)
    (hc : b[u]? = some c) (hpc : PChar flags c) :
    runLoop (tpMachine flags offs) b j p = (u - 1, .ok, { upd p with state := .fin }) := by
  have hfc := hpc.facts
  obtain ⟨cl, hcl, hwl⟩ := hl.last hju
  rw [tp_lws_ok flags offs b hl hju hc hfc.hl p upd hlws]
  refine runLoop_done (tpMachine flags offs) hc ?_
  show tpStep flags offs b u c (upd p) = _
  rcases hu with h | h
  · rw [tpStep_at h hpc.cls, hf]
    show tpSpTermEq offs u (upd p) = _
    rw [tpSpTermEq, if_pos hoff]
  · rw [tpStep_at h hpc.cls, hf]
    show tpSpTermSep b offs u (upd p) = _
    rw [ps_spTermSep _ hoff, ps_spOff_ws hcl hwl]

/-! the end of a parameter, white-space terminator included (`PSClose`) -/

/-- **the end of a parameter** at the end `j` of its name / token value, or after the closing quote of a quoted value
    (`hprev`: a token directly after the end can only follow a closing quote) -/
theorem tp_close {j o : Nat} {e : Err} {st : TPState} (p : PTokParam)
    (hst : p.state = .name ∨ p.state = .val ∨ p.state = .fSep) (hoff : offs + 1 ≤ j)
    (hprev : p.state = .fSep ∨ ∃ c, b[j - 1]? = some c ∧ tokAllowedChar c flags = true)
    (H : PSClose b flags j o e st) :
    runLoop (tpMachine flags offs) b j p = (o, e, { p.closeAt j with state := st }) := by
  cases H with
  | ending o' e' st' hE =>
    exact tp_ending flags offs b j p (by rcases hst with h | h | h <;> simp [h, TPState.canEnd]) hE
  | spterm u c hsp hl hlt hc hpc =>
    rw [tp_spterm flags offs b j u p (tpLwsUpd j p.state)
        (by rw [tpLwsUpd_eq]; show pvNext p.state = _ ∨ pvNext p.state = _; rcases hst with h | h | h <;> simp [h, pvNext])
        (fun c hc => tpStep_lws rfl hc (by rcases hst with h | h | h <;> simp [h])) hsp hl hlt (by omega) hc hpc,
      tpLwsUpd_eq]
  | sptermQ c hsp hq hc hpc =>
    rcases hprev with hf | ⟨c0, h0, ha0⟩
    · refine tp_done flags offs b hc ?_
      rw [tpStep_at hf hpc.cls, hsp]
      show tpSpTermSep b offs j p = _
      rw [ps_spTermSep p hoff, ps_spOff_quote hq, p.closeAt_other j (by rw [hf]; decide) (by rw [hf]; decide)]
    · rw [hq] at h0
      cases h0
      rw [not_allowed_34] at ha0
      cases ha0

/-- **from the end of the name over `=`** (any buffer): optional white space, the `=` at `q`; `all` then ends after the
    `=` when it follows the name directly, and at the end of the name otherwise -/
theorem tp_name_eq0 {n1 q : Nat} (p : PTokParam) (hst : p.state = .name) (hl : Lws b n1 q) (h61 : b[q]? = some 61) :
    runLoop (tpMachine flags offs) b n1 p = runLoop (tpMachine flags offs) b (q + 1)
      { (p.extName n1).extAll (if n1 = q then q + 1 else n1) with state := .fVal } := by
  have hle := hl.le
  by_cases hlt : n1 < q
  · rw [tp_lws_ok flags offs b hl hlt h61 (by decide) p _ (fun c hc => tpStep_lws hst hc (by decide)),
      tp_cont flags offs b h61 (tpStep_at rfl (chClass_eq flags)) (Nat.lt_succ_self q), if_neg (by omega)]
    rfl
  · have : n1 = q := by omega
    subst this
    rw [tp_cont flags offs b h61 (tpStep_at hst (chClass_eq flags)) (Nat.lt_succ_self n1), if_pos rfl]

/-- within the 65,535-byte limit the object after the `=` is `psAfterEq` -/
theorem tp_name_eq {n1 q : Nat} (p : PTokParam) (hst : p.state = .name) (h1 : p.name.offs ≤ n1)
    (h2 : p.all.offs ≤ n1) (hq : q + 1 ≤ 65535) (hl : Lws b n1 q) (h61 : b[q]? = some 61) :
    runLoop (tpMachine flags offs) b n1 p = runLoop (tpMachine flags offs) b (q + 1) (psAfterEq p n1 q) := by
  have hle := hl.le
  rw [tp_name_eq0 flags offs b p hst hl h61,
    extName_extAll p n1 _ h1 (by split <;> omega) (by omega) (by split <;> omega)]
  rfl

theorem tp_head_eq {o t n0 n1 q : Nat} (hfit : b.size ≤ 65535) (p : PTokParam)
    (hst : p.state = .init ∨ p.state = .initNxtVal) (hpad : Pad b (tpSep flags) o t) (hl : Lws b t n0)
    (hr : PRun b flags n0 n1) (hn : n0 < n1) (hlq : Lws b n1 q) (h61 : b[q]? = some 61) :
    runLoop (tpMachine flags offs) b o p =
      runLoop (tpMachine flags offs) b (q + 1) (psAfterEq (psNamed p n0) n1 q) := by
  have hsz := hr.le_size hn
  have hq := get?_lt h61
  obtain ⟨c0, hc0, hp0⟩ := hr n0 (Nat.le_refl _) hn
  rw [tp_start flags offs b hfit hpad hl hc0 hp0.1 hp0.2.1 (fun k h1 h2 => hr k (by omega) h2) hn p hst,
    tp_name_eq flags offs b _ rfl (by show n0 ≤ n1; omega) (by show n0 ≤ n1; omega) (by omega) hlq h61]

theorem tp_fVal_lws {i v0 : Nat} {c : UInt8} (hl : Lws b i v0) (hc : b[v0]? = some c) (hcl : isLWSch c = false)
    (p : PTokParam) (hst : p.state = .fVal) :
    runLoop (tpMachine flags offs) b i p = runLoop (tpMachine flags offs) b v0 p :=
  tp_lws_id flags offs b hl hc hcl p (fun c hc => tpStep_lws hst hc (by decide))

/-! after `=` (any buffer): a token value is walked to its end; the opening quote; a quoted value; the separator -/

theorem tp_tok0 {v0 v1 : Nat} (p : PTokParam) (hst : p.state = .fVal) (hr : PRun b flags v0 v1) (hv : v0 < v1) :
    runLoop (tpMachine flags offs) b v0 p = runLoop (tpMachine flags offs) b v1 { p.valAt v0 with state := .val } := by
  obtain ⟨c, hc, hpc⟩ := hr v0 (Nat.le_refl _) hv
  rw [tp_cont flags offs b hc (tpStep_at hst hpc.cls) (Nat.lt_succ_self v0)]
  exact tp_run flags offs b (by omega) (fun k h1 h2 => hr k (by omega) h2) _ (Or.inr rfl)

theorem tp_quote0 {v0 : Nat} (p : PTokParam) (hst : p.state = .fVal) (h34 : b[v0]? = some 34) :
    runLoop (tpMachine flags offs) b v0 p =
      runLoop (tpMachine flags offs) b (v0 + 1) { p.valAt v0 with state := .quotedVal } :=
  tp_cont flags offs b h34 (tpStep_at hst (chClass_quote flags)) (Nat.lt_succ_self v0)

theorem tp_quo0 {v0 qe : Nat} (p : PTokParam) (hst : p.state = .fVal) (h34 : b[v0]? = some 34)
    (hq : skipQuoted b (v0 + 1) = (qe, .ok)) :
    runLoop (tpMachine flags offs) b v0 p = runLoop (tpMachine flags offs) b qe
      { (({ p.valAt v0 with state := .quotedVal } : PTokParam).extVal qe).extAll qe with state := .fSep } := by
  obtain ⟨c1, hc1⟩ := skipQuoted_ok_first b (v0 + 1) hq
  rw [tp_quote0 flags offs b p hst h34, tp_cont flags offs b hc1 (tpStep_quoted_ok rfl hq) (skipQuoted_ok_gt b (v0 + 1) hq)]

theorem tp_sepV0 {s : Nat} (p : PTokParam) (hst : p.state = .fVal) (hs : b[s]? = some (tpSep flags)) :
    runLoop (tpMachine flags offs) b s p = runLoop (tpMachine flags offs) b (s + 1) { p.valAt s with state := .fNxt } :=
  tp_cont flags offs b hs (tpStep_at hst (chClass_sep flags)) (Nat.lt_succ_self s)

/-- the object once a value (possibly empty, or the opening quote of a quoted one) has been started at `n` -/
theorem ps_fVal_obj (p : PTokParam) (n : Nat) (h : p.all.offs ≤ n) (hn : n ≤ 65535) :
    p.valAt n = { p with val := ⟨n, 0⟩, all := ⟨p.all.offs, n - p.all.offs⟩ } := by
  unfold PTokParam.valAt
  rw [PField.set_self n hn, extAll_eq _ n (by exact h) hn]

theorem tp_token_val {v0 v1 o : Nat} {e : Err} {st : TPState} (p : PTokParam) (hst : p.state = .fVal)
    (ha : p.all.offs ≤ v0) (hoff : offs + 1 ≤ v0) (hr : PRun b flags v0 v1) (hv : v0 < v1) (hv1 : v1 ≤ 65535)
    (H : PSClose b flags v1 o e st) :
    runLoop (tpMachine flags offs) b v0 p =
      (o, e, { p with val := ⟨v0, v1 - v0⟩, all := ⟨p.all.offs, v1 - p.all.offs⟩, state := st }) := by
  obtain ⟨cl, hcl, hpl⟩ := hr (v1 - 1) (by omega) (by omega)
  rw [tp_tok0 flags offs b p hst hr hv, ps_fVal_obj p v0 ha (by omega),
    tp_close flags offs b _ (Or.inr (Or.inl rfl)) (by omega) (Or.inr ⟨cl, hcl, hpl.1⟩) H,
    PTokParam.closeAt_of_val rfl, extVal_extAll _ v1 (by show v0 ≤ v1; omega) (by show p.all.offs ≤ v1; omega) hv1]

theorem tp_quoted_val {v0 qe o : Nat} {e : Err} {st : TPState} (hfit : b.size ≤ 65535) (p : PTokParam)
    (hst : p.state = .fVal) (ha : p.all.offs ≤ v0) (hoff : offs ≤ v0) (h34 : b[v0]? = some 34)
    (hq : skipQuoted b (v0 + 1) = (qe, .ok)) (H : PSClose b flags qe o e st) :
    runLoop (tpMachine flags offs) b v0 p =
      (o, e, { p with val := ⟨v0, qe - v0⟩, all := ⟨p.all.offs, qe - p.all.offs⟩, state := st }) := by
  have hgt := skipQuoted_ok_gt b (v0 + 1) hq
  have hle := skipQuoted_ok_le b (v0 + 1) hq
  rw [tp_quo0 flags offs b p hst h34 hq, ps_fVal_obj p v0 ha (by omega),
    extVal_extAll _ qe (by show v0 ≤ qe; omega) (by show p.all.offs ≤ qe; omega) (by omega),
    tp_close flags offs b _ (Or.inr (Or.inr rfl)) (by omega) (Or.inl rfl) H,
    PTokParam.closeAt_other _ qe (by intro h; cases h) (by intro h; cases h)]

theorem tp_empty_sep {s o : Nat} {e : Err} {st : TPState} (hfit : b.size ≤ 65535) (p : PTokParam)
    (hst : p.state = .fVal) (ha : p.all.offs ≤ s) (hs : b[s]? = some (tpSep flags))
    (H : AfterSep b flags (s + 1) o e st) :
    runLoop (tpMachine flags offs) b s p =
      (o, e, { p with val := ⟨s, 0⟩, all := ⟨p.all.offs, s - p.all.offs⟩, state := st }) := by
  have hlt := get?_lt hs
  rw [tp_sepV0 flags offs b p hst hs, ps_fVal_obj p s ha (by omega), tp_afterSep flags offs b H _ rfl]

theorem tp_empty_term {t : Nat} (hfit : b.size ≤ 65535) (p : PTokParam) (hst : p.state = .fVal)
    (ht : b[t]? = some (tpTerm flags)) (hne : tpTerm flags ≠ 0) :
    runLoop (tpMachine flags offs) b t p = (t, .ok, { p with val := ⟨t, 0⟩, state := .fin }) := by
  have hlt := get?_lt ht
  rw [tp_done flags offs b ht (tpStep_at hst (chClass_term hne)), PField.set_self t (by omega)]

theorem tp_empty_end {i q n crl : Nat} (p : PTokParam) (hst : p.state = .fVal) (hl : Lws b i q)
    (he : PSEnd b flags q n crl) :
    runLoop (tpMachine flags offs) b i p = (n + crl, .eoh, { p with state := .fin }) := by
  rw [tp_lws_end flags offs b hl he p id (fun c hc => tpStep_lws hst hc (by decide))
    (fun hf => by rw [tpMoreBytes_end hf (by rw [hst]; decide), hst]; rfl)]
  exact tpEOH_open (Or.inr (Or.inr (Or.inr (Or.inl hst)))) n crl

/-! every `PSParam` is reported exactly as described -/

theorem PSValue.run (hfit : b.size ≤ 65535) {p p' : PTokParam} {i o : Nat} {e : Err} (hst : p.state = .fVal)
    (ha : p.all.offs ≤ i) (hoff : offs + 1 ≤ i) (H : PSValue b flags p i o e p') :
    runLoop (tpMachine flags offs) b i p = (o, e, p') := by
  cases H with
  | token v0 v1 o' e' st hl hr hv hC =>
    have hle := hl.le
    have hsz := hr.le_size hv
    obtain ⟨c, hc, hpc⟩ := hr v0 (Nat.le_refl _) hv
    rw [tp_fVal_lws flags offs b hl hc hpc.facts.hl p hst,
      tp_token_val flags offs b p hst (by omega) (by omega) hr hv (by omega) hC]
  | quoted v0 qe o' e' st hl h34 hqb hC =>
    have hle := hl.le
    rw [tp_fVal_lws flags offs b hl h34 (by decide) p hst,
      tp_quoted_val flags offs b hfit p hst (by omega) (by omega) h34 (skipQuoted_of_qbody hqb) hC]
  | emptySep s o' e' st hl hs hA =>
    have hle := hl.le
    rw [tp_fVal_lws flags offs b hl hs (sep_facts flags).hl p hst,
      tp_empty_sep flags offs b hfit p hst (by omega) hs hA]
  | emptyTerm u hl hu hne =>
    rw [tp_fVal_lws flags offs b hl hu (term_facts flags hne).hl p hst, tp_empty_term flags offs b hfit p hst hu hne]
  | noValue q n crl hl hend => exact tp_empty_end flags offs b p hst hl hend

theorem PSAfterName.run (hfit : b.size ≤ 65535) {p p' : PTokParam} {n1 o : Nat} {e : Err} (hst : p.state = .name)
    (h1 : p.name.offs ≤ n1) (h2 : p.all.offs ≤ n1) (hoff : offs + 1 ≤ n1)
    (hprev : ∃ c, b[n1 - 1]? = some c ∧ tokAllowedChar c flags = true) (H : PSAfterName b flags p n1 o e p') :
    runLoop (tpMachine flags offs) b n1 p = (o, e, p') := by
  have hj : n1 - 1 < b.size := let ⟨_, hc, _⟩ := hprev; get?_lt hc
  cases H with
  | close o' e' st hC =>
    rw [tp_close flags offs b p (Or.inl hst) hoff (Or.inr hprev) hC, PTokParam.closeAt_of_name hst,
      extName_extAll p n1 n1 h1 h2 (by omega) (by omega)]
  | value q o' e' p'' hl h61 hV =>
    have hq := get?_lt h61
    have hle := hl.le
    rw [tp_name_eq flags offs b p hst h1 h2 (by omega) hl h61]
    exact PSValue.run flags offs b hfit (p := psAfterEq p n1 q) rfl (by show p.all.offs ≤ q + 1; omega) (by omega) hV

theorem PSParam.run (hfit : b.size ≤ 65535) {p p' : PTokParam} {o o' : Nat} {e : Err}
    (hst : p.state = .init ∨ p.state = .initNxtVal) (hoff : offs ≤ o) (H : PSParam b flags p o o' e p') :
    runLoop (tpMachine flags offs) b o p = (o', e, p') := by
  have hstart : p.state.isStart := hst.elim Or.inl (fun h => Or.inr (Or.inl h))
  cases H with
  | empty t q n crl hp hl hend =>
    rw [tp_pad flags offs b hp p hstart, tp_lws_end flags offs b hl hend p id
      (fun c hc => by rcases hst with h | h <;> exact tpStep_lws h hc (by decide))
      (fun hf => by rcases hst with h | h <;> (rw [tpMoreBytes_end hf (by rw [h]; decide), h]; rfl))]
    show tpEOH p n crl = _
    unfold tpEOH
    rcases hst with h | h <;> simp only [h]
  | named t n0 n1 o2 c0 e2 p2 hp hl hb hal hs hrun hlt hA =>
    have hn0 := get?_lt hb
    have hple := hp.le
    have hlle := hl.le
    have hprev : ∃ c, b[n1 - 1]? = some c ∧ tokAllowedChar c flags = true := by
      by_cases h : n0 + 1 < n1
      · obtain ⟨c, hc, hpc⟩ := hrun (n1 - 1) (by omega) (by omega)
        exact ⟨c, hc, hpc.1⟩
      · have : n1 - 1 = n0 := by omega
        rw [this]; exact ⟨c0, hb, hal⟩
    rw [tp_start flags offs b hfit hp hl hb hal hs hrun hlt p hst]
    exact PSAfterName.run flags offs b hfit (p := psNamed p n0) rfl (by show n0 ≤ n1; omega) (by show n0 ≤ n1; omega)
      (by omega) hprev hA

theorem tp_named {o t n0 n1 o' : Nat} {e : Err} {p p' : PTokParam} (hfit : b.size ≤ 65535) (hst : p.state = .init)
    (hpad : Pad b (tpSep flags) o t) (hl : Lws b t n0) (hr : PRun b flags n0 n1) (hn : n0 < n1)
    (H : PSAfterName b flags (psNamed p n0) n1 o' e p') : parseTokenParam b o p flags = (o', e, p') := by
  obtain ⟨c0, hc0, hp0⟩ := hr n0 (Nat.le_refl _) hn
  rw [parseTokenParam_run flags b o p (by rw [hst]; decide)]
  exact PSParam.run flags o b hfit (Or.inl hst) (Nat.le_refl _)
    (.named o t n0 n1 o' c0 e p' hpad hl hc0 hp0.1 hp0.2.1 (fun k h1 h2 => hr k (by omega) h2) hn H)

/-- **a parameter without a value**: `name` then one of the endings -/
theorem parseTokenParam_no_value {o t n0 n1 o' : Nat} {e : Err} {st : TPState} (hfit : b.size ≤ 65535)
    (p : PTokParam) (hst : p.state = .init) (hpad : Pad b (tpSep flags) o t) (hl : Lws b t n0)
    (hr : PRun b flags n0 n1) (hn : n0 < n1) (H : Ending b flags n1 o' e st) :
    parseTokenParam b o p flags =
      (o', e, { p with name := ⟨n0, n1 - n0⟩, all := ⟨n0, n1 - n0⟩, state := st }) :=
  tp_named flags b hfit hst hpad hl hr hn (.close n1 o' e st (.ending _ _ _ _ H))

/-- **`name = token`** with optional linear white space around the name, the `=` and the value -/
theorem parseTokenParam_token_value {o t n0 n1 q v0 v1 o' : Nat} {e : Err} {st : TPState} (hfit : b.size ≤ 65535)
    (p : PTokParam) (hst : p.state = .init) (hpad : Pad b (tpSep flags) o t) (hl : Lws b t n0)
    (hr : PRun b flags n0 n1) (hn : n0 < n1) (hlq : Lws b n1 q) (h61 : b[q]? = some 61)
    (hlv : Lws b (q + 1) v0) (hrv : PRun b flags v0 v1) (hv : v0 < v1) (H : Ending b flags v1 o' e st) :
    parseTokenParam b o p flags =
      (o', e, { p with name := ⟨n0, n1 - n0⟩, val := ⟨v0, v1 - v0⟩, all := ⟨n0, v1 - n0⟩, state := st }) :=
  tp_named flags b hfit hst hpad hl hr hn
    (.value n1 q o' e _ hlq h61 (.token (q + 1) v0 v1 o' e st hlv hrv hv (.ending _ _ _ _ H)))

/-- **`name = "quoted"`**: the value is the quoted string found by `SkipQuoted`, quotes included -/
theorem parseTokenParam_quoted_value {o t n0 n1 q v0 qe o' : Nat} {e : Err} {st : TPState} (hfit : b.size ≤ 65535)
    (p : PTokParam) (hst : p.state = .init) (hpad : Pad b (tpSep flags) o t) (hl : Lws b t n0)
    (hr : PRun b flags n0 n1) (hn : n0 < n1) (hlq : Lws b n1 q) (h61 : b[q]? = some 61)
    (hlv : Lws b (q + 1) v0) (h34 : b[v0]? = some 34) (hq : skipQuoted b (v0 + 1) = (qe, .ok))
    (H : Ending b flags qe o' e st) :
    parseTokenParam b o p flags =
      (o', e, { p with name := ⟨n0, n1 - n0⟩, val := ⟨v0, qe - v0⟩, all := ⟨n0, qe - n0⟩, state := st }) :=
  tp_named flags b hfit hst hpad hl hr hn
    (.value n1 q o' e _ hlq h61 (.quoted (q + 1) v0 qe o' e st hlv h34 (skipQuoted_ok_qbody hq) (.ending _ _ _ _ H)))

/-- **`name =` and the separator**: an empty value at the separator -/
theorem parseTokenParam_empty_value_sep {o t n0 n1 q s o' : Nat} {e : Err} {st : TPState} (hfit : b.size ≤ 65535)
    (p : PTokParam) (hst : p.state = .init) (hpad : Pad b (tpSep flags) o t) (hl : Lws b t n0)
    (hr : PRun b flags n0 n1) (hn : n0 < n1) (hlq : Lws b n1 q) (h61 : b[q]? = some 61)
    (hlv : Lws b (q + 1) s) (hs : b[s]? = some (tpSep flags)) (H : AfterSep b flags (s + 1) o' e st) :
    parseTokenParam b o p flags =
      (o', e, { p with name := ⟨n0, n1 - n0⟩, val := ⟨s, 0⟩, all := ⟨n0, s - n0⟩, state := st }) :=
  tp_named flags b hfit hst hpad hl hr hn (.value n1 q o' e _ hlq h61 (.emptySep (q + 1) s o' e st hlv hs H))

/-- **`name =` and the terminator**: an empty value at the terminator; `all` is what `psAfterEq` left -/
theorem parseTokenParam_empty_value_term {o t n0 n1 q u : Nat} (hfit : b.size ≤ 65535)
    (p : PTokParam) (hst : p.state = .init) (hpad : Pad b (tpSep flags) o t) (hl : Lws b t n0)
    (hr : PRun b flags n0 n1) (hn : n0 < n1) (hlq : Lws b n1 q) (h61 : b[q]? = some 61)
    (hlv : Lws b (q + 1) u) (hu : b[u]? = some (tpTerm flags)) (hne : tpTerm flags ≠ 0) :
    parseTokenParam b o p flags =
      (u, .ok, { p with name := ⟨n0, n1 - n0⟩, val := ⟨u, 0⟩,
                        all := ⟨n0, (if n1 = q then q + 1 else n1) - n0⟩, state := .fin }) :=
  tp_named flags b hfit hst hpad hl hr hn (.value n1 q u .ok _ hlq h61 (.emptyTerm (q + 1) u hlv hu hne))

/-- **`name =` and the end of the header**: no value is recorded -/
theorem parseTokenParam_empty_value_eoh {o t n0 n1 q x e : Nat} {c2 : UInt8} (hfit : b.size ≤ 65535)
    (p : PTokParam) (hst : p.state = .init) (hpad : Pad b (tpSep flags) o t) (hl : Lws b t n0)
    (hr : PRun b flags n0 n1) (hn : n0 < n1) (hlq : Lws b n1 q) (h61 : b[q]? = some 61)
    (hlv : Lws b (q + 1) x) (he : Eol b x e) (h2 : b[e]? = some c2) (hw2 : isWS c2 = false) :
    parseTokenParam b o p flags =
      (e, .eoh, { p with name := ⟨n0, n1 - n0⟩,
                         all := ⟨n0, (if n1 = q then q + 1 else n1) - n0⟩, state := .fin }) := by
  have h := tp_named flags b hfit hst hpad hl hr hn
    (.value n1 q _ .eoh _ hlq h61 (.noValue (q + 1) x x (e - x) hlv (.eoh x e c2 he h2 hw2)))
  rwa [Nat.add_sub_cancel' (Nat.le_of_lt he.gt.1)] at h

/-- **`name =` and the end of the input** (end-of-input option): no value is recorded -/
theorem parseTokenParam_empty_value_end {o t n0 n1 q x : Nat} (hfit : b.size ≤ 65535)
    (p : PTokParam) (hst : p.state = .init) (hpad : Pad b (tpSep flags) o t) (hl : Lws b t n0)
    (hr : PRun b flags n0 n1) (hn : n0 < n1) (hlq : Lws b n1 q) (h61 : b[q]? = some 61)
    (hf : hasFlag flags POptInputEndF = true) (hlv : Lws b (q + 1) x) (he : EndTail b x) :
    parseTokenParam b o p flags =
      (b.size, .eoh, { p with name := ⟨n0, n1 - n0⟩,
                              all := ⟨n0, (if n1 = q then q + 1 else n1) - n0⟩, state := .fin }) :=
  tp_named flags b hfit hst hpad hl hr hn
    (.value n1 q _ .eoh _ hlq h61 (.noValue (q + 1) x b.size 0 hlv (.inputEnd x hf he)))

/-- `name LWS token` with the white-space terminator -/
theorem parseTokenParam_no_value_spterm {o t n0 n1 u : Nat} {c : UInt8} (hfit : b.size ≤ 65535)
    (p : PTokParam) (hst : p.state = .init) (hpad : Pad b (tpSep flags) o t) (hl : Lws b t n0)
    (hr : PRun b flags n0 n1) (hn : n0 < n1) (hf : hasFlag flags POptTokSpTermF = true)
    (hlu : Lws b n1 u) (hnu : n1 < u) (hc : b[u]? = some c) (hpc : PChar flags c) :
    parseTokenParam b o p flags =
      (u - 1, .ok, { p with name := ⟨n0, n1 - n0⟩, all := ⟨n0, n1 - n0⟩, state := .fin }) :=
  tp_named flags b hfit hst hpad hl hr hn (.close n1 (u - 1) .ok .fin (.spterm n1 u c hf hlu hnu hc hpc))

/-- `name = token LWS token` with the white-space terminator -/
theorem parseTokenParam_token_value_spterm {o t n0 n1 q v0 v1 u : Nat} {c : UInt8} (hfit : b.size ≤ 65535)
    (p : PTokParam) (hst : p.state = .init) (hpad : Pad b (tpSep flags) o t) (hl : Lws b t n0)
    (hr : PRun b flags n0 n1) (hn : n0 < n1) (hlq : Lws b n1 q) (h61 : b[q]? = some 61)
    (hlv : Lws b (q + 1) v0) (hrv : PRun b flags v0 v1) (hv : v0 < v1)
    (hf : hasFlag flags POptTokSpTermF = true)
    (hlu : Lws b v1 u) (hvu : v1 < u) (hc : b[u]? = some c) (hpc : PChar flags c) :
    parseTokenParam b o p flags =
      (u - 1, .ok, { p with name := ⟨n0, n1 - n0⟩, val := ⟨v0, v1 - v0⟩, all := ⟨n0, v1 - n0⟩, state := .fin }) :=
  tp_named flags b hfit hst hpad hl hr hn
    (.value n1 q _ .ok _ hlq h61 (.token (q + 1) v0 v1 (u - 1) .ok .fin hlv hrv hv (.spterm v1 u c hf hlu hvu hc hpc)))

/-! ### rejection -/

/-- **the bytes that are rejected in each state** (explicit sets):
    * `init`: not allowed, not white space / line end, not the separator;
    * `name`: `BadCh` (not allowed, not white space, not separator, not terminator) and not `=`;
    * `fEq` (after `name LWS`): not white space, not `=`, not separator, not terminator, and — unless the white-space
      terminator `POptTokSpTermF` is set — ANY other byte, allowed or not (a second token);
    * `fVal`: `BadCh` and not `"` (so: a second `=`, …);
    * `val`, `fNxt`: `BadCh`;
    * `fSep` (after a value): like `fEq` without the `=` clause. -/
def PVRej (flags : Nat) (st : TPState) (c : UInt8) : Prop :=
  match st with
  | .init => tokAllowedChar c flags = false ∧ isLWSch c = false ∧ c ≠ tpSep flags
  | .name => BadCh flags c ∧ c ≠ 61
  | .fEq => isLWSch c = false ∧ c ≠ 61 ∧ c ≠ tpSep flags ∧ (c = tpTerm flags → tpTerm flags = 0) ∧
      (tokAllowedChar c flags = true → hasFlag flags POptTokSpTermF = false)
  | .fVal => BadCh flags c ∧ c ≠ 34
  | .val => BadCh flags c
  | .fSep => isLWSch c = false ∧ c ≠ tpSep flags ∧ (c = tpTerm flags → tpTerm flags = 0) ∧
      (tokAllowedChar c flags = true → hasFlag flags POptTokSpTermF = false)
  | .fNxt => BadCh flags c
  | _ => False

theorem pv_term_false {flags : Nat} {c : UInt8} (h : c = tpTerm flags → tpTerm flags = 0) :
    (c == tpTerm flags && tpTerm flags != 0) = false := by
  cases hc : c == tpTerm flags with
  | false => rfl
  | true =>
    rw [beq_iff_eq] at hc
    rw [h hc]; rfl

theorem pv_rej_act {flags : Nat} {st : TPState} {c : UInt8} (h : PVRej flags st c) : tpAct flags c st = .bad := by
  cases st <;> simp_all [tpAct, PVRej, BadCh, pv_term_false]

theorem pv_rej_step {flags offs : Nat} {b : Buf} {i : Nat} {c : UInt8} {p : PTokParam} {st : TPState}
    (hst : p.state = st) (h : PVRej flags st c) :
    tpStep flags offs b i c p = .done i .badChar { p with state := .err } := by
  rw [tpStep_eq, hst, pv_rej_act h]; rfl

/-- a byte that cannot start a parameter is rejected where it stands -/
theorem parseTokenParam_bad_start {o t n0 : Nat} {c : UInt8} (p : PTokParam) (hst : p.state = .init)
    (hpad : Pad b (tpSep flags) o t) (hl : Lws b t n0) (hc : b[n0]? = some c)
    (ha : tokAllowedChar c flags = false) (hcl : isLWSch c = false) (hcs : c ≠ tpSep flags) :
    parseTokenParam b o p flags = (n0, .badChar, { p with state := .err }) := by
  have hstart : p.state.isStart := Or.inl hst
  rw [parseTokenParam_run flags b o p (by rw [hst]; decide), tp_pad flags o b hpad p hstart,
    tp_lws_id flags o b hl hc hcl p (fun c hc => tpStep_lws hst hc (by decide)),
    tp_done flags o b hc (pv_rej_step hst ⟨ha, hcl, hcs⟩)]

/-- a bad byte inside or right after a name is rejected at its position (`=` is not bad there) -/
theorem parseTokenParam_bad_name {o t n0 j : Nat} {c : UInt8} (hfit : b.size ≤ 65535) (p : PTokParam)
    (hst : p.state = .init) (hpad : Pad b (tpSep flags) o t) (hl : Lws b t n0) (hr : PRun b flags n0 j)
    (hn : n0 < j) (hc : b[j]? = some c) (hbad : BadCh flags c) (h61 : c ≠ 61) :
    parseTokenParam b o p flags =
      (j, .badChar, { p with name := ⟨n0, 0⟩, all := ⟨n0, 0⟩, state := .err }) := by
  obtain ⟨c0, hc0, hp0⟩ := hr n0 (Nat.le_refl _) hn
  rw [parseTokenParam_run flags b o p (by rw [hst]; decide),
    tp_start flags o b hfit hpad hl hc0 hp0.1 hp0.2.1 (fun k h1 h2 => hr k (by omega) h2) hn p (Or.inl hst),
    tp_done flags o b hc (pv_rej_step (st := .name) rfl ⟨hbad, h61⟩)]
  rfl

/-- a bad byte where a value should start is rejected at its position (`"` is not bad there) -/
theorem parseTokenParam_bad_value_start {o t n0 n1 q v0 : Nat} {c : UInt8} (hfit : b.size ≤ 65535)
    (p : PTokParam) (hst : p.state = .init) (hpad : Pad b (tpSep flags) o t) (hl : Lws b t n0)
    (hr : PRun b flags n0 n1) (hn : n0 < n1) (hlq : Lws b n1 q) (h61 : b[q]? = some 61)
    (hlv : Lws b (q + 1) v0) (hc : b[v0]? = some c) (hbad : BadCh flags c) (h34 : c ≠ 34) :
    parseTokenParam b o p flags =
      (v0, .badChar, { p with name := ⟨n0, n1 - n0⟩, all := ⟨n0, (if n1 = q then q + 1 else n1) - n0⟩,
                              state := .err }) := by
  rw [parseTokenParam_run flags b o p (by rw [hst]; decide),
    tp_head_eq flags o b hfit p (Or.inl hst) hpad hl hr hn hlq h61,
    tp_fVal_lws flags o b hlv hc hbad.2.1 _ rfl,
    tp_done flags o b hc (pv_rej_step (st := .fVal) rfl ⟨hbad, h34⟩)]
  rfl

/-- a bad byte inside or right after a token value is rejected at its position -/
theorem parseTokenParam_bad_value {o t n0 n1 q v0 j : Nat} {c : UInt8} (hfit : b.size ≤ 65535)
    (p : PTokParam) (hst : p.state = .init) (hpad : Pad b (tpSep flags) o t) (hl : Lws b t n0)
    (hr : PRun b flags n0 n1) (hn : n0 < n1) (hlq : Lws b n1 q) (h61 : b[q]? = some 61)
    (hlv : Lws b (q + 1) v0) (hrv : PRun b flags v0 j) (hv : v0 < j) (hc : b[j]? = some c)
    (hbad : BadCh flags c) :
    parseTokenParam b o p flags =
      (j, .badChar, { p with name := ⟨n0, n1 - n0⟩, val := ⟨v0, 0⟩, all := ⟨n0, v0 - n0⟩, state := .err }) := by
  have hsz := hrv.le_size hv
  have h1 := hlq.le
  have h2 := hlv.le
  obtain ⟨c0, hc0, hpc⟩ := hrv v0 (Nat.le_refl _) hv
  rw [parseTokenParam_run flags b o p (by rw [hst]; decide),
    tp_head_eq flags o b hfit p (Or.inl hst) hpad hl hr hn hlq h61,
    tp_fVal_lws flags o b hlv hc0 hpc.facts.hl _ rfl, tp_tok0 flags o b _ rfl hrv hv,
    ps_fVal_obj _ v0 (by show n0 ≤ v0; omega) (by omega),
    tp_done flags o b hc (pv_rej_step (st := .val) rfl hbad)]
  rfl

end main

/-! ### the option flags: which separator, which terminator, which bytes -/

theorem hasFlag_or (f a c : Nat) : hasFlag f (a ||| c) = (hasFlag f a || hasFlag f c) := by
  unfold hasFlag
  rw [Nat.and_or_distrib_left]
  cases h1 : (f &&& a) != 0 <;> cases h2 : (f &&& c) != 0 <;> simp_all

theorem tpSep_semi {flags : Nat} (h1 : hasFlag flags POptParamAmpSepF = false)
    (h2 : hasFlag flags POptTokURIHdrF = false) : tpSep flags = 59 := by
  unfold tpSep; rw [hasFlag_or, h1, h2]; rfl

theorem tpSep_amp {flags : Nat} (h : hasFlag flags POptParamAmpSepF = true ∨ hasFlag flags POptTokURIHdrF = true) :
    tpSep flags = 38 := by
  unfold tpSep; rw [hasFlag_or]
  rcases h with h | h <;> simp [h]

theorem tpTerm_qm {flags : Nat} (h : hasFlag flags POptTokQmTermF = true ∨ hasFlag flags POptTokURIParamF = true) :
    tpTerm flags = 63 := by
  unfold tpTerm; rw [hasFlag_or]
  rcases h with h | h <;> simp [h]

theorem tpTerm_comma {flags : Nat} (h1 : hasFlag flags POptTokQmTermF = false)
    (h2 : hasFlag flags POptTokURIParamF = false) (h3 : hasFlag flags POptTokCommaTermF = true) :
    tpTerm flags = 44 := by
  unfold tpTerm; rw [hasFlag_or, h1, h2, h3]; rfl

theorem tpTerm_none {flags : Nat} (h1 : hasFlag flags POptTokQmTermF = false)
    (h2 : hasFlag flags POptTokURIParamF = false) (h3 : hasFlag flags POptTokCommaTermF = false) :
    tpTerm flags = 0 := by
  unfold tpTerm; rw [hasFlag_or, h1, h2, h3]; rfl

/-- the documented character set of names and token values: letters, digits, the marks `-_.!~*'()`, `%`,
    `[]/:+$`, plus `&` in URI-parameter mode (`u = true`) and `?` otherwise -/
def docAllowed (c : UInt8) (u : Bool) : Bool :=
  ("abcdefghijklmnopqrstuvwxyzABCDEFGHIJKLMNOPQRSTUVWXYZ0123456789-_.!~*'()%[]/:+$".toUTF8.data.contains c) ||
  (u && c == 38) || (!u && c == 63)

/-- `tokAllowedChar` with the only flag it looks at made explicit -/
def tokAllowedB (c : UInt8) (u : Bool) : Bool :=
  if c ≤ 32 || c ≥ 127 then false
  else if (48 ≤ c && c ≤ 57) || (65 ≤ c && c ≤ 90) || (97 ≤ c && c ≤ 122) then true
  else if c == 45 || c == 95 || c == 46 || c == 33 || c == 126 || c == 42 || c == 39 ||
          c == 40 || c == 41 || c == 37 then true
  else if c == 91 || c == 93 || c == 47 || c == 58 || c == 43 || c == 36 then true
  else if c == 38 then u
  else if c == 63 then !u
  else false

/-- every documented byte is allowed in both modes (one pass over the documented string) -/
theorem docBytes_allowed :
    ("abcdefghijklmnopqrstuvwxyzABCDEFGHIJKLMNOPQRSTUVWXYZ0123456789-_.!~*'()%[]/:+$".toUTF8.data.toList.all
      fun c => tokAllowedB c true && tokAllowedB c false) = true := by
  decide +kernel

/-- every allowed byte is documented: the documented string is searched for the allowed bytes only (searching it
    for all 256 bytes in both modes costs three times as much) -/
theorem allowed_doc : ∀ (i : Fin 256) (u : Bool),
    tokAllowedB (UInt8.ofNat i.val) u = true → docAllowed (UInt8.ofNat i.val) u = true := by
  decide +kernel

theorem tokAllowedB_doc (c : UInt8) (u : Bool) : tokAllowedB c u = docAllowed c u := by
  rw [Bool.eq_iff_iff]
  constructor
  · have h := allowed_doc ⟨c.toNat, UInt8.toNat_lt c⟩ u
    rwa [UInt8.ofNat_toNat] at h
  · intro h
    unfold docAllowed at h
    simp only [Bool.or_eq_true, Bool.and_eq_true, Array.contains_iff_mem, beq_iff_eq, Bool.not_eq_true'] at h
    rcases h with (h | ⟨rfl, rfl⟩) | ⟨rfl, rfl⟩
    · have := List.all_eq_true.1 docBytes_allowed c (Array.mem_toList_iff.2 h)
      rw [Bool.and_eq_true] at this
      cases u
      · exact this.2
      · exact this.1
    · decide
    · decide

/-- **the allowed bytes are exactly the documented ones**, for every byte and every option word -/
theorem tokAllowedChar_doc (c : UInt8) (flags : Nat) :
    tokAllowedChar c flags = docAllowed c (hasFlag flags POptTokURIParamF) :=
  tokAllowedB_doc c (hasFlag flags POptTokURIParamF)

/-! ### the list wrapper ParseAllURIParams -/

/-- what the wrapper does with one parsed parameter: store it in the current slot (or drop it when the array is
    full), accumulate its type flag, count it -/
def URIParamsLst.push (l : URIParamsLst) (x : URIParam) : URIParamsLst :=
  if l.n < l.params.size then { l with params := l.params.set! l.n x, types := l.types ||| x.t, n := l.n + 1 }
  else { l with tmp := {}, types := l.types ||| x.t, n := l.n + 1 }

/-- the slots the wrapper uses next are in their reset state -/
def URIParamsLst.Fresh (l : URIParamsLst) : Prop :=
  (∀ i x, l.n ≤ i → l.params[i]? = some x → x = {}) ∧ l.tmp = {}

/-! `push` is the loop's "store and advance" (`URIParamsLst.next`, `SlotArr.push` on the slots), `Fresh` is "clean, and the
    current slot is a zero value" -/

theorem URIParamsLst.push_eq_next (l : URIParamsLst) (x : URIParam) : l.push x = l.next x.param x.t := by
  unfold URIParamsLst.push URIParamsLst.next URIParamsLst.setCur
  by_cases hin : l.n < l.params.size <;> simp only [hin, ↓reduceIte]

theorem pOps_next : pOps.next = URIParamsLst.push := funext fun l => funext fun x => (l.push_eq_next x).symm

theorem URIParamsLst.fresh_iff (l : URIParamsLst) : l.Fresh ↔ plClean l ∧ l.cur = {} :=
  (SlotArr.clean_cur_iff ({} : URIParam) l.slots).symm

theorem URIParamsLst.Fresh.cur {l : URIParamsLst} (h : l.Fresh) : l.cur = {} := (l.fresh_iff.1 h).2

theorem URIParamsLst.fresh_new (k : Nat) : ({ params := Array.replicate k {} } : URIParamsLst).Fresh :=
  (SlotArr.clean_cur_iff _ _).1 ⟨SlotArr.clean_replicate ({} : URIParam) k, SlotArr.cur_replicate _ k⟩

theorem URIParamsLst.foldl_push_slots (items : List URIParam) (l : URIParamsLst) :
    (items.foldl URIParamsLst.push l).slots = items.foldl (SlotArr.push {}) l.slots :=
  (List.foldl_hom URIParamsLst.slots (fun l x => by rw [l.push_eq_next, pSlots_next])).symm

/-- a list of parameters as ParseTokenParam sees it: every item but the last is reported with `MoreValues` (and
    the offset moves forward, inside the buffer), the last one with `OK` or `EOH`; each name lies inside the buffer.
    The list collects the parsed parameters with the type of their names. -/
def ParamSeq (b : Buf) (flags : Nat) : Nat → List URIParam → Nat → Err → Prop := SlotSeq pOps b flags

theorem ParamSeq.last {b : Buf} {flags : Nat} (o next : Nat) (e : Err) (tp : PTokParam) (nm : Buf)
    (hp : parseTokenParam b o {} flags = (next, e, tp)) (he : e = .ok ∨ e = .eoh) (hnm : tp.name.get? b = some nm) :
    ParamSeq b flags o [{ param := tp, t := uriParamResolve nm }] next e :=
  SlotSeq.last o next e tp _ hp he (pOps_fin_some hnm)

theorem ParamSeq.cons {b : Buf} {flags : Nat} (o next : Nat) (tp : PTokParam) (nm : Buf) (rest : List URIParam)
    (o' : Nat) (e : Err) (hp : parseTokenParam b o {} flags = (next, .moreValues, tp))
    (hnm : tp.name.get? b = some nm) (hlt : o < next) (hle : next ≤ b.size) (H : ParamSeq b flags next rest o' e) :
    ParamSeq b flags o ({ param := tp, t := uriParamResolve nm } :: rest) o' e :=
  SlotSeq.cons o next tp _ rest o' e hp (pOps_fin_some hnm) hlt hle H

/-- **the wrapper loop on a parameter list**: offset and verdict of the last parameter, one more value counted per
    parameter, every parameter pushed in order -/
theorem uriParamsLoop_seq {b : Buf} {flags o o' : Nat} {e : Err} {items : List URIParam}
    (H : ParamSeq b flags o items o' e) :
    ∀ (l : URIParamsLst) (vNo : Nat), l.Fresh →
      uriParamsLoop b o l flags vNo = (o', vNo + items.length, e, items.foldl URIParamsLst.push l) := fun l vNo hf => by
  rw [uriParamsLoop_slot, slotLoop_seq pLaws H l vNo (l.fresh_iff.1 hf).1 (l.fresh_iff.1 hf).2, pOps_next]

/-! what the pushed list looks like -/

theorem foldl_push_n (items : List URIParam) (l : URIParamsLst) :
    (items.foldl URIParamsLst.push l).n = l.n + items.length := by
  show (items.foldl URIParamsLst.push l).slots.n = _
  rw [l.foldl_push_slots, SlotArr.foldl_push_n]; rfl

theorem foldl_push_types (items : List URIParam) (l : URIParamsLst) :
    (items.foldl URIParamsLst.push l).types = items.foldl (fun a x => a ||| x.t) l.types := by
  induction items generalizing l with
  | nil => rfl
  | cons x xs ih => simp only [List.foldl_cons, ih, l.push_eq_next, pNext_types]

theorem foldl_push_size (items : List URIParam) (l : URIParamsLst) :
    (items.foldl URIParamsLst.push l).params.size = l.params.size := by
  show (items.foldl URIParamsLst.push l).slots.arr.size = _
  rw [l.foldl_push_slots, SlotArr.foldl_push_size]; rfl

theorem foldl_push_pnc (items : List URIParam) (l : URIParamsLst) :
    (items.foldl URIParamsLst.push l).pnc = l.pnc := by
  induction items generalizing l with
  | nil => rfl
  | cons x xs ih => simp only [List.foldl_cons, ih, l.push_eq_next, pNext_pnc]

theorem foldl_push_get_lt (items : List URIParam) (l : URIParamsLst) (j : Nat) (h : j < l.n) :
    (items.foldl URIParamsLst.push l).params[j]? = l.params[j]? := by
  have := SlotArr.foldl_push_get_lt {} items l.slots j h
  rw [← l.foldl_push_slots] at this
  exact this

theorem foldl_push_get (items : List URIParam) (l : URIParamsLst) (i : Nat) (x : URIParam)
    (hi : items[i]? = some x) (hcap : l.n + i < l.params.size) :
    (items.foldl URIParamsLst.push l).params[l.n + i]? = some x := by
  have := SlotArr.foldl_push_get {} items l.slots i x hi hcap
  rw [← l.foldl_push_slots] at this
  exact this

/-! ### URIParamResolve is a case-insensitive table look-up -/

/-- the table, on lower-cased names -/
def uriParamOfLower (s : List UInt8) : Nat :=
  if s = sTransport then URIParamTransportF
  else if s = sLr then URIParamLRF
  else if s = sMaddr then URIParamMaddrF
  else if s = sUser then URIParamUserF
  else if s = sMethod then URIParamMethodF
  else if s = sTtl then URIParamTTLF
  else URIParamOtherF

theorem cmpEqL_lower (nm : Buf) (s : List UInt8) (hs : lowerL s = s) :
    cmpEqL nm s = decide (lowerL nm.toList = s) := by
  cases h : cmpEqL nm s with
  | true => rw [cmpEqL_iff, hs] at h; simp [h]
  | false =>
    have : ¬ lowerL nm.toList = s := by
      intro h'
      have := (cmpEqL_iff nm s).2 (by rw [hs]; exact h')
      rw [h] at this; cases this
    simp [this]

/-- **classification ignores letter case**: the type of a name is the table entry of its lower-cased form -/
theorem uriParamResolve_lower (nm : Buf) : uriParamResolve nm = uriParamOfLower (lowerL nm.toList) := by
  unfold uriParamResolve uriParamOfLower
  rw [cmpEqL_lower nm sTransport (by decide), cmpEqL_lower nm sLr (by decide), cmpEqL_lower nm sMaddr (by decide),
    cmpEqL_lower nm sUser (by decide), cmpEqL_lower nm sMethod (by decide), cmpEqL_lower nm sTtl (by decide)]
  simp only [decide_eq_true_eq]

theorem AfterSep.more_range {b : Buf} {flags i o : Nat} {st : TPState} (H : AfterSep b flags i o .moreValues st) :
    i ≤ o ∧ o < b.size := by
  cases H with
  | more t u c hp hl2 hc _ _ _ =>
    have h2 := hp.le
    have h3 := hl2.le
    have h4 := get?_lt hc
    omega

theorem Ending.more_range {b : Buf} {flags j o : Nat} {st : TPState} (H : Ending b flags j o .moreValues st) :
    j < o ∧ o < b.size := by
  cases H with
  | sep s o' e' st' hl hs ha => have := ha.more_range; have := hl.le; omega

/-! ### the list wrapper ParseAllURIHdrs -/

/-- what the header-list wrapper does with one parsed header: store it in the current slot (or drop it when the
    array is full) and count it -/
def URIHdrsLst.push (l : URIHdrsLst) (x : PTokParam) : URIHdrsLst :=
  if l.n < l.hdrs.size then { l with hdrs := l.hdrs.set! l.n x, n := l.n + 1 }
  else { l with tmp := {}, n := l.n + 1 }

/-- the slots the wrapper uses next are in their reset state -/
def URIHdrsLst.Fresh (l : URIHdrsLst) : Prop :=
  (∀ i x, l.n ≤ i → l.hdrs[i]? = some x → x = {}) ∧ l.tmp = {}

theorem URIHdrsLst.push_eq_next (l : URIHdrsLst) (x : PTokParam) : l.push x = l.next x := by
  unfold URIHdrsLst.push URIHdrsLst.next URIHdrsLst.setCur
  by_cases hin : l.n < l.hdrs.size <;> simp only [hin, ↓reduceIte]

theorem hOps_next : hOps.next = URIHdrsLst.push := funext fun l => funext fun x => (l.push_eq_next x).symm

theorem URIHdrsLst.fresh_iff (l : URIHdrsLst) : l.Fresh ↔ hlClean l ∧ l.cur = {} :=
  (SlotArr.clean_cur_iff ({} : PTokParam) l.slots).symm

theorem URIHdrsLst.Fresh.cur {l : URIHdrsLst} (h : l.Fresh) : l.cur = {} := (l.fresh_iff.1 h).2

theorem URIHdrsLst.fresh_new (k : Nat) : ({ hdrs := Array.replicate k {} } : URIHdrsLst).Fresh :=
  (SlotArr.clean_cur_iff _ _).1 ⟨SlotArr.clean_replicate ({} : PTokParam) k, SlotArr.cur_replicate _ k⟩

theorem URIHdrsLst.foldl_push_slots (items : List PTokParam) (l : URIHdrsLst) :
    (items.foldl URIHdrsLst.push l).slots = items.foldl (SlotArr.push {}) l.slots :=
  (List.foldl_hom URIHdrsLst.slots (fun l x => by rw [l.push_eq_next, hSlots_next])).symm

/-- a list of URI headers as ParseTokenParam sees it (see `ParamSeq`) -/
def HdrSeq (b : Buf) (flags : Nat) : Nat → List PTokParam → Nat → Err → Prop := SlotSeq hOps b flags

theorem HdrSeq.last {b : Buf} {flags : Nat} (o next : Nat) (e : Err) (tp : PTokParam)
    (hp : parseTokenParam b o {} flags = (next, e, tp)) (he : e = .ok ∨ e = .eoh) : HdrSeq b flags o [tp] next e :=
  SlotSeq.last o next e tp tp hp he rfl

theorem HdrSeq.cons {b : Buf} {flags : Nat} (o next : Nat) (tp : PTokParam) (rest : List PTokParam) (o' : Nat) (e : Err)
    (hp : parseTokenParam b o {} flags = (next, .moreValues, tp)) (hlt : o < next) (hle : next ≤ b.size)
    (H : HdrSeq b flags next rest o' e) : HdrSeq b flags o (tp :: rest) o' e :=
  SlotSeq.cons o next tp tp rest o' e hp rfl hlt hle H

theorem uriHdrsLoop_seq {b : Buf} {flags o o' : Nat} {e : Err} {items : List PTokParam}
    (H : HdrSeq b flags o items o' e) :
    ∀ (l : URIHdrsLst) (vNo : Nat), l.Fresh →
      uriHdrsLoop b o l flags vNo = (o', vNo + items.length, e, items.foldl URIHdrsLst.push l) := fun l vNo hf => by
  rw [uriHdrsLoop_slot, slotLoop_seq hLaws H l vNo (l.fresh_iff.1 hf).1 (l.fresh_iff.1 hf).2, hOps_next]

theorem foldl_hpush_n (items : List PTokParam) (l : URIHdrsLst) :
    (items.foldl URIHdrsLst.push l).n = l.n + items.length := by
  show (items.foldl URIHdrsLst.push l).slots.n = _
  rw [l.foldl_push_slots, SlotArr.foldl_push_n]; rfl

theorem foldl_hpush_size (items : List PTokParam) (l : URIHdrsLst) :
    (items.foldl URIHdrsLst.push l).hdrs.size = l.hdrs.size := by
  show (items.foldl URIHdrsLst.push l).slots.arr.size = _
  rw [l.foldl_push_slots, SlotArr.foldl_push_size]; rfl

theorem foldl_hpush_get_lt (items : List PTokParam) (l : URIHdrsLst) (j : Nat) (h : j < l.n) :
    (items.foldl URIHdrsLst.push l).hdrs[j]? = l.hdrs[j]? := by
  have := SlotArr.foldl_push_get_lt {} items l.slots j h
  rw [← l.foldl_push_slots] at this
  exact this

theorem foldl_hpush_get (items : List PTokParam) (l : URIHdrsLst) (i : Nat) (x : PTokParam)
    (hi : items[i]? = some x) (hcap : l.n + i < l.hdrs.size) :
    (items.foldl URIHdrsLst.push l).hdrs[l.n + i]? = some x := by
  have := SlotArr.foldl_push_get {} items l.slots i x hi hcap
  rw [← l.foldl_push_slots] at this
  exact this

/-! ### parameter lists of the grammar -/

/-- one parameter of the grammar starting at `o` (skipped empty items and white space included), with what
    ParseTokenParam reports for it: offset, verdict, object. Four shapes: no value, token value, quoted value,
    empty value before a separator. -/
inductive GParam (b : Buf) (flags : Nat) : Nat → Nat → Err → PTokParam → Prop
  | noValue (o t n0 n1 o' : Nat) (e : Err) (st : TPState) : Pad b (tpSep flags) o t → Lws b t n0 →
      PRun b flags n0 n1 → n0 < n1 → Ending b flags n1 o' e st →
      GParam b flags o o' e { name := ⟨n0, n1 - n0⟩, all := ⟨n0, n1 - n0⟩, state := st }
  | token (o t n0 n1 q v0 v1 o' : Nat) (e : Err) (st : TPState) : Pad b (tpSep flags) o t → Lws b t n0 →
      PRun b flags n0 n1 → n0 < n1 → Lws b n1 q → b[q]? = some 61 → Lws b (q + 1) v0 → PRun b flags v0 v1 →
      v0 < v1 → Ending b flags v1 o' e st →
      GParam b flags o o' e { name := ⟨n0, n1 - n0⟩, val := ⟨v0, v1 - v0⟩, all := ⟨n0, v1 - n0⟩, state := st }
  | quoted (o t n0 n1 q v0 qe o' : Nat) (e : Err) (st : TPState) : Pad b (tpSep flags) o t → Lws b t n0 →
      PRun b flags n0 n1 → n0 < n1 → Lws b n1 q → b[q]? = some 61 → Lws b (q + 1) v0 → b[v0]? = some 34 →
      QBody b (v0 + 1) qe → Ending b flags qe o' e st →
      GParam b flags o o' e { name := ⟨n0, n1 - n0⟩, val := ⟨v0, qe - v0⟩, all := ⟨n0, qe - n0⟩, state := st }
  | emptyVal (o t n0 n1 q s o' : Nat) (e : Err) (st : TPState) : Pad b (tpSep flags) o t → Lws b t n0 →
      PRun b flags n0 n1 → n0 < n1 → Lws b n1 q → b[q]? = some 61 → Lws b (q + 1) s →
      b[s]? = some (tpSep flags) → AfterSep b flags (s + 1) o' e st →
      GParam b flags o o' e { name := ⟨n0, n1 - n0⟩, val := ⟨s, 0⟩, all := ⟨n0, s - n0⟩, state := st }

theorem GParam.parse {b : Buf} {flags o o' : Nat} {e : Err} {tp : PTokParam} (hfit : b.size ≤ 65535)
    (H : GParam b flags o o' e tp) : parseTokenParam b o {} flags = (o', e, tp) := by
  cases H with
  | noValue t n0 n1 o'' e' st hpad hl hr hn hE =>
    exact parseTokenParam_no_value flags b hfit {} rfl hpad hl hr hn hE
  | token t n0 n1 q v0 v1 o'' e' st hpad hl hr hn hlq h61 hlv hrv hv hE =>
    exact parseTokenParam_token_value flags b hfit {} rfl hpad hl hr hn hlq h61 hlv hrv hv hE
  | quoted t n0 n1 q v0 qe o'' e' st hpad hl hr hn hlq h61 hlv h34 hq hE =>
    exact parseTokenParam_quoted_value flags b hfit {} rfl hpad hl hr hn hlq h61 hlv h34 (skipQuoted_of_qbody hq) hE
  | emptyVal t n0 n1 q s o'' e' st hpad hl hr hn hlq h61 hlv hs hA =>
    exact parseTokenParam_empty_value_sep flags b hfit {} rfl hpad hl hr hn hlq h61 hlv hs hA

/-- the text of the name of a parsed parameter -/
def nameOf (b : Buf) (tp : PTokParam) : Buf := b.extract tp.name.offs (tp.name.offs + tp.name.len)

theorem GParam.name_get {b : Buf} {flags o o' : Nat} {e : Err} {tp : PTokParam} (hfit : b.size ≤ 65535)
    (H : GParam b flags o o' e tp) : tp.name.get? b = some (nameOf b tp) := by
  have key : ∀ n0 n1, PRun b flags n0 n1 → n0 < n1 →
      PField.get? b ⟨n0, n1 - n0⟩ = some (b.extract n0 (n0 + (n1 - n0))) := by
    intro n0 n1 hr hn
    have := hr.le_size hn
    exact field_get? b n0 (n1 - n0) (by omega) hfit
  cases H with
  | noValue t n0 n1 o'' e' st hpad hl hr hn hE => exact key n0 n1 hr hn
  | token t n0 n1 q v0 v1 o'' e' st hpad hl hr hn hlq h61 hlv hrv hv hE => exact key n0 n1 hr hn
  | quoted t n0 n1 q v0 qe o'' e' st hpad hl hr hn hlq h61 hlv h34 hq hE => exact key n0 n1 hr hn
  | emptyVal t n0 n1 q s o'' e' st hpad hl hr hn hlq h61 hlv hs hA => exact key n0 n1 hr hn

theorem GParam.more_range {b : Buf} {flags o o' : Nat} {tp : PTokParam} (H : GParam b flags o o' .moreValues tp) :
    o < o' ∧ o' ≤ b.size := by
  cases H with
  | noValue t n0 n1 o'' e' st hpad hl hr hn hE =>
    have := hE.more_range; have := hpad.le; have := hl.le; omega
  | token t n0 n1 q v0 v1 o'' e' st hpad hl hr hn hlq h61 hlv hrv hv hE =>
    have := hE.more_range; have := hpad.le; have := hl.le; have := hlq.le; have := hlv.le; omega
  | quoted t n0 n1 q v0 qe o'' e' st hpad hl hr hn hlq h61 hlv h34 hq hE =>
    have := hE.more_range; have := hpad.le; have := hl.le; have := hlq.le; have := hlv.le; have := hq.lt; omega
  | emptyVal t n0 n1 q s o'' e' st hpad hl hr hn hlq h61 hlv hs hA =>
    have := hA.more_range; have := hpad.le; have := hl.le; have := hlq.le; have := hlv.le; omega

/-- a parameter list of the grammar: parameters that end with a separator followed by the next parameter, and a
    last one that ends with the terminator (`OK`) or the end of the header / input (`EOH`) -/
inductive GList (b : Buf) (flags : Nat) : Nat → List PTokParam → Nat → Err → Prop
  | last (o o' : Nat) (e : Err) (tp : PTokParam) : GParam b flags o o' e tp → (e = .ok ∨ e = .eoh) →
      GList b flags o [tp] o' e
  | cons (o next : Nat) (tp : PTokParam) (rest : List PTokParam) (o' : Nat) (e : Err) :
      GParam b flags o next .moreValues tp → GList b flags next rest o' e → GList b flags o (tp :: rest) o' e

/-- a parsed parameter with the type of its name -/
def typed (b : Buf) (tp : PTokParam) : URIParam := { param := tp, t := uriParamResolve (nameOf b tp) }

theorem GList.paramSeq {b : Buf} {flags o o' : Nat} {e : Err} {tps : List PTokParam} (hfit : b.size ≤ 65535)
    (H : GList b flags o tps o' e) : ParamSeq b flags o (tps.map (typed b)) o' e := by
  induction H with
  | last o o' e tp hg he => exact ParamSeq.last o o' e tp _ (hg.parse hfit) he (hg.name_get hfit)
  | cons o next tp rest o' e hg _ ih =>
    exact ParamSeq.cons o next tp _ _ o' e (hg.parse hfit) (hg.name_get hfit) hg.more_range.1 hg.more_range.2 ih

theorem GList.hdrSeq {b : Buf} {flags o o' : Nat} {e : Err} {tps : List PTokParam} (hfit : b.size ≤ 65535)
    (H : GList b flags o tps o' e) : HdrSeq b flags o tps o' e := by
  induction H with
  | last o o' e tp hg he => exact HdrSeq.last o o' e tp (hg.parse hfit) he
  | cons o next tp rest o' e hg _ ih =>
    exact HdrSeq.cons o next tp _ o' e (hg.parse hfit) hg.more_range.1 hg.more_range.2 ih

end Sipsp
