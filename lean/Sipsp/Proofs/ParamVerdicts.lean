/-
  Sipsp.Proofs.ParamVerdicts — property C17, the REJECTED and the SUSPENDED texts of ParseTokenParam and of the list
  wrappers ParseAllURIParams / ParseAllURIHdrs: which verdicts exist, where the returned offset points, and what the
  text before it is. Calls on a NEW object / a list object in its reset state (`Fresh`), EVERY buffer, EVERY start
  offset, EVERY option word unless a hypothesis says otherwise (the 65,535-byte limit only where `ParamSound` is used).

  The description is in `Sipsp.Proofs.ParamAt`, with the loop invariant `pv_step` / `pv_run` it serves:
  `PVAt b flags o i st` (the text `[o, i)` is the beginning of a parameter after which the automaton is in state `st`);
  `PVBad b flags o p`
  (`PVAt … p st` and at `p` a byte of the EXPLICIT reject set `PVRej flags st`, or an open quoted string up to `p` and
  there a byte rejected inside quotes, or CR / LF after a backslash); `PVMore b flags o r` (`PVAt … r st` and then linear
  white space cut by the end of the buffer, or an open quoted string up to the end of the buffer).
  (1) The only verdicts are OK, EOH, MoreValues, MoreBytes, BadChar (`tokparam_verdicts`), and BadChar with offset `p` ⇔
      `PVBad b flags o p` (`tokparam_badChar_iff`). The text before the offset really is a proper prefix of a parameter
      (`tokparam_badChar_prefix_extends`, `tokparam_moreBytes_extends`: an explicit continuation of at most five / six
      bytes), and every buffer with the same bytes up to and including `p` is rejected at `p` (`tokparam_badChar_local`):
      the error offset is that of the first byte that cannot continue any parameter.
  (2) Accepted (then `PSParam`, which fixes offset, verdict, object) / MoreBytes (then `PVMore`) / BadChar (then `PVBad`),
      told apart by the verdict (`tokparam_trichotomy`).
  (3) The wrappers stop with a verdict other than OK / MoreValues / EOH exactly when one of the items does: offset and
      verdict are that item's, exactly the items before it are counted and stored (`uriParamsLoop_stop_iff`,
      `uriHdrsLoop_stop_iff`, from `slotLoop_stop_iff`; on MoreBytes the unfinished parameter is kept in the current slot).
  (4) A rejection (offset, verdict, count, list object) is unchanged by appended bytes and by every chunk schedule
      (composition with the C03 / C02 theorems; without the end-of-input option).

  NOT proved here: the object returned with BadChar / MoreBytes (only offset and verdict are characterised; for
  MoreBytes the resumption theorems of C02 say what the object is good for); calls on objects that are not new; an
  equivalence for MoreBytes (here only: MoreBytes ⇒ `PVMore` ⇒ continuation exists; the equivalence, for the sharper
  description `PVMoreAt`, is `afc_moreBytes_iff` of `Sipsp.Proofs.AuditFixC`); the continuations are parameters of
  `PSParam` (what ParseTokenParam accepts: `GParam` widened by the four shapes documented in `ParamSound`), not always
  of the narrower `GParam` — e.g. after `name =` the continuation CR LF x gives `name = <end of header>`.
  Behaviour worth knowing (no violation of the property was found; each point is fixed by a theorem / test of this file):
  * after `name LWS` and after a complete value, without `POptTokSpTermF`, the first byte of a second token is rejected
    although it is an allowed byte (`PVRej … fEq / fSep`): it is the first byte that cannot continue the parameter;
  * at the very start of a call the terminator is not special (`PVRej … init`): `?x` in URI-parameter mode and `,x` with
    the comma terminator are rejected at offset 0 (known, see C17);
  * inside a quoted string the error is reported by SkipQuoted: the object keeps the state "inside quotes" (it is not
    put into its error state), and `\` + CR / LF is reported at the CR / LF;
  * MoreBytes is reported at the START of the unfinished white space (not at the end of the buffer), and at the
    backslash when a backslash is the last byte.
-/
import Sipsp.Proofs.ParamSound
import Sipsp.Proofs.ShiftParams

namespace Sipsp

/-- [C17] (1) **the complete list of verdicts of ParseTokenParam on a new object, every buffer, offset and option word**:
    `OK`, `EOH`, `MoreValues`, `MoreBytes`, `BadChar` and nothing else; `MoreBytes` comes with `PVMore` and `BadChar`
    with `PVBad` at the returned offset -/
theorem tokparam_verdicts_desc (b : Buf) (o flags : Nat) :
    PVQ b flags o (parseTokenParam b o {} flags).1 (parseTokenParam b o {} flags).2.1 := by
  rw [parseTokenParam_run flags b o {} (by decide)]
  exact (pv_run flags o b o o {} {} (PVAt.init o o (Pad.nil o) (Lws.nil o)) (Or.inl (Or.inl rfl))).1.1

/-- [C17] (1) the verdict list alone -/
theorem tokparam_verdicts (b : Buf) (o flags : Nat) :
    (parseTokenParam b o {} flags).2.1 = .ok ∨ (parseTokenParam b o {} flags).2.1 = .eoh ∨
    (parseTokenParam b o {} flags).2.1 = .moreValues ∨ (parseTokenParam b o {} flags).2.1 = .moreBytes ∨
    (parseTokenParam b o {} flags).2.1 = .badChar := by
  rcases tokparam_verdicts_desc b o flags with h | h | h | h | h
  · exact Or.inl h
  · exact Or.inr (Or.inl h)
  · exact Or.inr (Or.inr (Or.inl h))
  · exact Or.inr (Or.inr (Or.inr (Or.inl h.1)))
  · exact Or.inr (Or.inr (Or.inr (Or.inr h.1)))

/-- [C17] (1) **a rejection points at a rejectable byte**: `BadChar` at `p` ⇒ the text `[o, p)` is the beginning of a
    parameter and the byte at `p` is one of those rejected in the state reached (`PVBad`) -/
theorem tokparam_badChar_sound {b : Buf} {o flags p : Nat} {p' : PTokParam}
    (h : parseTokenParam b o {} flags = (p, .badChar, p')) : PVBad b flags o p := by
  have := tokparam_verdicts_desc b o flags
  rw [h] at this
  rcases this with h | h | h | h | h
  · cases h
  · cases h
  · cases h
  · cases h.1
  · exact h.2

/-- [C17] (2) `MoreBytes` at `r` ⇒ the text `[o, r)` is the beginning of a parameter and the rest of the buffer is unfinished
    white space or an open quoted string (`PVMore`) -/
theorem tokparam_moreBytes_sound {b : Buf} {o flags r : Nat} {p' : PTokParam}
    (h : parseTokenParam b o {} flags = (r, .moreBytes, p')) : PVMore b flags o r := by
  have := tokparam_verdicts_desc b o flags
  rw [h] at this
  rcases this with h | h | h | h | h
  · cases h
  · cases h
  · cases h
  · exact h.2
  · cases h.1

/-! ### the converse: every text of the description is rejected at that very byte -/

section conv
variable (flags offs : Nat) (b : Buf) (o : Nat) (p0 : PTokParam)

/-- the loop started at `o` with `p0` comes to position `i` in state `st` (with some object) -/
def PVReach (i : Nat) (st : TPState) : Prop :=
  ∃ p, p.state = st ∧ runLoop (tpMachine flags offs) b o p0 = runLoop (tpMachine flags offs) b i p

variable {flags offs b o p0}

theorem pv_lws_of_state {i : Nat} {p : PTokParam}
    (hne : p.state ≠ .quotedVal ∧ p.state ≠ .err ∧ p.state ≠ .fin) :
    ∃ upd : PTokParam → PTokParam, (upd p).state = pvNext p.state ∧
      ∀ c, isLWSch c = true → tpStep flags offs b i c p = tpLWS b flags i p upd :=
  ⟨tpLwsUpd i p.state, by rw [tpLwsUpd_eq], fun _ hc => tpStep_lws rfl hc hne⟩

theorem PVReach.lws {i n : Nat} {st : TPState} {c : UInt8} (h : PVReach flags offs b o p0 i st) (hl : Lws b i n)
    (hlt : i < n) (hn : b[n]? = some c) (hc : isLWSch c = false)
    (hne : st ≠ .quotedVal ∧ st ≠ .err ∧ st ≠ .fin) : PVReach flags offs b o p0 n (pvNext st) := by
  obtain ⟨p, rfl, hr⟩ := h
  exact ⟨tpLwsUpd i p.state p, by rw [tpLwsUpd_eq],
    by rw [hr, tp_lws_ok flags offs b hl hlt hn hc p _ (fun _ hc => tpStep_lws rfl hc hne)]⟩

theorem PVReach.lws_id {i n : Nat} {st : TPState} {c : UInt8} (h : PVReach flags offs b o p0 i st) (hl : Lws b i n)
    (hn : b[n]? = some c) (hc : isLWSch c = false)
    (hne : st ≠ .quotedVal ∧ st ≠ .err ∧ st ≠ .fin) (hid : pvNext st = st) : PVReach flags offs b o p0 n st := by
  by_cases hlt : i < n
  · have := h.lws hl hlt hn hc hne
    rw [hid] at this
    exact this
  · have := hl.le
    have : i = n := by omega
    subst this
    exact h

/-! the positions of the description are those the walk of `ParamSpec` comes to -/

theorem pv_reach_head {n0 n1 : Nat} (hst0 : p0.state = .init) (h : PVHead b flags o n0 n1) :
    PVReach flags offs b o p0 n1 .name := by
  obtain ⟨t, c0, hp, hl, hb, hal, hs, hr, hlt⟩ := h
  exact ⟨_, rfl, tp_start0 flags offs b hp hl hb hal hs hr hlt p0 (Or.inl hst0)⟩

theorem pv_reach_eq {q : Nat} (hst0 : p0.state = .init) (h : PVEq b flags o q) :
    PVReach flags offs b o p0 (q + 1) .fVal := by
  obtain ⟨n0, n1, hh, hl, h61⟩ := h
  obtain ⟨p, hp, hr⟩ := pv_reach_head (offs := offs) hst0 hh
  exact ⟨_, rfl, by rw [hr, tp_name_eq0 flags offs b p hp hl h61]⟩

theorem pv_reach_fVal {q i : Nat} {c : UInt8} (hst0 : p0.state = .init) (h : PVEq b flags o q) (hl : Lws b (q + 1) i)
    (hb : b[i]? = some c) (hc : isLWSch c = false) : PVReach flags offs b o p0 i .fVal :=
  (pv_reach_eq hst0 h).lws_id hl hb hc (by decide) rfl

theorem pv_reach_tok {q v0 v1 : Nat} (hst0 : p0.state = .init) (h : PVEq b flags o q) (hl : Lws b (q + 1) v0)
    (hr : PRun b flags v0 v1) (hv : v0 < v1) : PVReach flags offs b o p0 v1 .val := by
  obtain ⟨c, hc, hpc⟩ := hr v0 (Nat.le_refl _) hv
  obtain ⟨p, hp, hr'⟩ := pv_reach_fVal (offs := offs) hst0 h hl hc hpc.facts.hl
  exact ⟨_, rfl, by rw [hr', tp_tok0 flags offs b p hp hr hv]⟩

theorem pv_reach_quote {q v0 : Nat} (hst0 : p0.state = .init) (h : PVEq b flags o q) (hl : Lws b (q + 1) v0)
    (h34 : b[v0]? = some 34) : PVReach flags offs b o p0 (v0 + 1) .quotedVal := by
  obtain ⟨p, hp, hr⟩ := pv_reach_fVal (offs := offs) hst0 h hl h34 (by decide)
  exact ⟨_, rfl, by rw [hr, tp_quote0 flags offs b p hp h34]⟩

theorem pv_reach_quo {q v0 qe : Nat} (hst0 : p0.state = .init) (h : PVEq b flags o q) (hl : Lws b (q + 1) v0)
    (h34 : b[v0]? = some 34) (hqb : QBody b (v0 + 1) qe) : PVReach flags offs b o p0 qe .fSep := by
  obtain ⟨p, hp, hr⟩ := pv_reach_fVal (offs := offs) hst0 h hl h34 (by decide)
  exact ⟨_, rfl, by rw [hr, tp_quo0 flags offs b p hp h34 (skipQuoted_of_qbody hqb)]⟩

theorem pv_reach_sep {j s : Nat} (hst0 : p0.state = .init) (hd : PVDone b flags o j) (hl : Lws b j s)
    (hs : b[s]? = some (tpSep flags)) : PVReach flags offs b o p0 (s + 1) .fNxt := by
  have close : ∀ {st : TPState}, st.canEnd → PVReach flags offs b o p0 j st → PVReach flags offs b o p0 (s + 1) .fNxt :=
    fun hce ⟨p, hp, hr⟩ => ⟨_, rfl, by rw [hr, tp_to_sep flags offs b p (hp ▸ hce) hl hs]⟩
  cases hd with
  | name n0 n1 hh => exact close (Or.inl rfl) (pv_reach_head hst0 hh)
  | tok q v0 v1 he hl0 hr hv => exact close (Or.inr (Or.inr (Or.inl rfl))) (pv_reach_tok hst0 he hl0 hr hv)
  | quo q v0 qe he hl0 h34 hqb => exact close (Or.inr (Or.inr (Or.inr rfl))) (pv_reach_quo hst0 he hl0 h34 hqb)
  | empty q he =>
    obtain ⟨p, hp, hr⟩ := pv_reach_fVal (offs := offs) hst0 he hl hs (sep_facts flags).hl
    exact ⟨_, rfl, by rw [hr, tp_sepV0 flags offs b p hp hs]⟩

/-- **every position of the description is reached by the loop** (the byte at `i` is not white space: the loop jumps
    over white space in one step) -/
theorem pv_reach_at {i : Nat} {st : TPState} {c : UInt8} (hst0 : p0.state = .init) (h : PVAt b flags o i st)
    (hb : b[i]? = some c) (hc : st ≠ .quotedVal → isLWSch c = false) : PVReach flags offs b o p0 i st := by
  cases h with
  | init t i hp hl =>
    have r1 : PVReach flags offs b o p0 t .init := ⟨p0, hst0, tp_pad flags offs b hp p0 (Or.inl hst0)⟩
    exact r1.lws_id hl hb (hc (by decide)) (by decide) rfl
  | name n0 i hh => exact pv_reach_head hst0 hh
  | fEq n0 n1 i hh hl hlt =>
    exact (pv_reach_head (offs := offs) hst0 hh).lws hl hlt hb (hc (by decide)) (by decide)
  | fVal q i he hl => exact pv_reach_fVal hst0 he hl hb (hc (by decide))
  | val q v0 i he hl hr hv => exact pv_reach_tok hst0 he hl hr hv
  | quotedVal q v0 he hl h34 => exact pv_reach_quote hst0 he hl h34
  | fSepTok q v0 v1 i he hl hr hv hl2 hlt2 =>
    exact (pv_reach_tok (offs := offs) hst0 he hl hr hv).lws hl2 hlt2 hb (hc (by decide)) (by decide)
  | fSepQuo q v0 qe i he hl h34 hqb hl2 =>
    exact (pv_reach_quo (offs := offs) hst0 he hl h34 hqb).lws_id hl2 hb (hc (by decide)) (by decide) rfl
  | fNxt j s t i hd hl1 hs hp hl2 =>
    obtain ⟨p, hp', hr⟩ := pv_reach_sep (offs := offs) hst0 hd hl1 hs
    have r2 : PVReach flags offs b o p0 t .fNxt :=
      ⟨p, hp', by rw [hr, tp_pad flags offs b hp p (Or.inr (Or.inr hp'))]⟩
    exact r2.lws_id hl2 hb (hc (by decide)) (by decide) rfl

end conv

theorem pv_rej_not_lws {flags : Nat} {st : TPState} {c : UInt8} (h : PVRej flags st c) : isLWSch c = false := by
  cases st with
  | init => exact h.2.1
  | name => exact h.1.2.1
  | fEq => exact h.1
  | fVal => exact h.1.2.1
  | val => exact h.2.1
  | fSep => exact h.1
  | fNxt => exact h.2.1
  | initNxtVal => exact h.elim
  | quotedVal => exact h.elim
  | err => exact h.elim
  | fin => exact h.elim

theorem PVQPre.first {b : Buf} {i e : Nat} {c : UInt8} (h : PVQPre b i e) (he : b[e]? = some c) :
    ∃ c1, b[i]? = some c1 := by
  cases h with
  | nil => exact ⟨c, he⟩
  | plain i' e' c0 h0 _ _ => exact ⟨c0, h0⟩
  | esc i' e' c1 h0 _ _ _ => exact ⟨92, h0⟩

theorem pv_quoted_bad {b : Buf} {o flags q v0 p : Nat} (he : PVEq b flags o q) (hl : Lws b (q + 1) v0)
    (h34 : b[v0]? = some 34) (h1 : ∃ c1, b[v0 + 1]? = some c1) (hq : skipQuoted b (v0 + 1) = (p, .badChar)) :
    (runLoop (tpMachine flags o) b o {}).1 = p ∧ (runLoop (tpMachine flags o) b o {}).2.1 = .badChar := by
  obtain ⟨p1, hp1, hr⟩ := pv_reach_quote (offs := o) (p0 := {}) rfl he hl h34
  obtain ⟨c1, hc1⟩ := h1
  have hstep : (tpMachine flags o).step b (v0 + 1) c1 p1 = .done p .badChar p1 := by
    show tpStep flags o b (v0 + 1) c1 p1 = _
    rw [tpStep_quoted flags o b (v0 + 1) c1 p1 hp1]; unfold tpDo; rw [hq]
  rw [hr, runLoop_done (tpMachine flags o) hc1 hstep]
  exact ⟨rfl, rfl⟩

/-- [C17] (1) **completeness of the description**: every text of the shape `PVBad … p` is rejected with `BadChar` at `p` -/
theorem tokparam_badChar_complete {b : Buf} {o flags p : Nat} (h : PVBad b flags o p) :
    (parseTokenParam b o {} flags).1 = p ∧ (parseTokenParam b o {} flags).2.1 = .badChar := by
  rw [parseTokenParam_run flags b o {} (by decide)]
  cases h with
  | byte st c hP hb hrej =>
    obtain ⟨p1, hp1, hr⟩ := pv_reach_at (offs := o) (p0 := {}) rfl hP hb (fun _ => pv_rej_not_lws hrej)
    rw [hr, runLoop_done (tpMachine flags o) hb (pv_rej_step (offs := o) (b := b) (i := p) hp1 hrej)]
    exact ⟨rfl, rfl⟩
  | quoted q v0 c he hl h34 hpre hc hbad =>
    exact pv_quoted_bad he hl h34 (hpre.first hc) (skipQuoted_of_out (.bad _ c hpre hc hbad))
  | quotedEsc q v0 m c he hl h34 hpre h92 hpm hc hcr =>
    subst hpm
    exact pv_quoted_bad he hl h34 (hpre.first h92) (skipQuoted_of_out (.badEsc m c hpre h92 hc hcr))

/-- [C17] (1) **`BadChar` at `p`, exactly**: for every buffer, offset and option word, ParseTokenParam on a new object returns
    `BadChar` with offset `p` IFF the text `[o, p)` is the beginning of a parameter (`PVAt` / an open quoted string) and
    the byte at `p` belongs to the explicit reject set of the state reached (`PVRej`, `PVQBad`, CR / LF after a
    backslash): the error offset always points at the first byte that cannot continue -/
theorem tokparam_badChar_iff (b : Buf) (o flags p : Nat) :
    ((parseTokenParam b o {} flags).1 = p ∧ (parseTokenParam b o {} flags).2.1 = .badChar) ↔ PVBad b flags o p := by
  constructor
  · rintro ⟨h1, h2⟩
    rcases hr : parseTokenParam b o {} flags with ⟨p1, e, p'⟩
    rw [hr] at h1 h2
    simp only at h1 h2
    subst h1 h2
    exact tokparam_badChar_sound hr
  · exact tokparam_badChar_complete

/-! ### (2) accepted / suspended / rejected -/

/-- [C17] (2) **trichotomy**: for every buffer within the 65,535-byte limit, every offset and every option word, a call on a new
    object ends in exactly one of three ways (they are told apart by the verdict):
    * accepted — `OK` / `MoreValues` / `EOH`, and then the text is a parameter of the grammar `PSParam` of
      `ParamSpec`, which fixes offset, verdict and the whole object;
    * suspended — `MoreBytes` at `r`, and then `[o, r)` is the beginning of a parameter and the rest of the buffer is
      white space cut by the end of the buffer or an open quoted string (`PVMore`);
    * rejected — `BadChar` at `p`, and then `[o, p)` is the beginning of a parameter and the byte at `p` belongs to the
      reject set of the state reached (`PVBad`; by `tokparam_badChar_iff` this is an equivalence). -/
theorem tokparam_trichotomy (b : Buf) (o flags : Nat) (hfit : b.size ≤ 65535) :
    (PSAcc (parseTokenParam b o {} flags).2.1 ∧
      PSParam b flags {} o (parseTokenParam b o {} flags).1 (parseTokenParam b o {} flags).2.1
        (parseTokenParam b o {} flags).2.2) ∨
    ((parseTokenParam b o {} flags).2.1 = .moreBytes ∧ PVMore b flags o (parseTokenParam b o {} flags).1) ∨
    ((parseTokenParam b o {} flags).2.1 = .badChar ∧ PVBad b flags o (parseTokenParam b o {} flags).1) := by
  rcases hr : parseTokenParam b o {} flags with ⟨o', e, p'⟩
  have hd := tokparam_verdicts_desc b o flags
  rw [hr] at hd
  simp only at hd ⊢
  rcases hd with h | h | h | h | h
  · exact Or.inl ⟨Or.inl h, parseTokenParam_sound hfit hr (Or.inl h)⟩
  · exact Or.inl ⟨Or.inr (Or.inr h), parseTokenParam_sound hfit hr (Or.inr (Or.inr h))⟩
  · exact Or.inl ⟨Or.inr (Or.inl h), parseTokenParam_sound hfit hr (Or.inr (Or.inl h))⟩
  · exact Or.inr (Or.inl h)
  · exact Or.inr (Or.inr h)

/-- [C17] (2) without the end-of-input option, `MoreBytes` means that **no byte so far is rejectable and nothing is complete**:
    every shorter buffer (every prefix of `b`) also gives `MoreBytes` -/
theorem tokparam_moreBytes_prefixes {b1 s : Buf} {o flags : Nat} (hf : hasFlag flags POptInputEndF = false)
    (h : (parseTokenParam (b1 ++ s) o {} flags).2.1 = .moreBytes) :
    (parseTokenParam b1 o {} flags).2.1 = .moreBytes := by
  rcases hr : parseTokenParam b1 o {} flags with ⟨o', e, p'⟩
  by_cases he : e = .moreBytes
  · exact he
  · have := parseTokenParam_stable b1 s o {} flags hf hr he
    rw [this] at h
    exact absurd h he

/-! ### (3) the list wrappers: where and how they stop -/

section
variable {L ε : Type} {O : SlotOps L ε}

/-- **the element loop stops with a verdict other than OK / MoreValues / EOH exactly when one of the items does**: the
    items before it are parameters of the grammar reported with `MoreValues`; offset and verdict are those of that
    item; the items before it — and only they — are counted and stored -/
theorem slotLoop_stop_iff (hL : SlotLaws O) (elt : PTokParam → ε) {b : Buf} {flags : Nat} (hfit : b.size ≤ 65535)
    (hfin : ∀ {o o' e tp}, parseTokenParam b o {} flags = (o', e, tp) → PSAcc e → O.fin b tp = some (elt tp))
    {o o' n vNo : Nat} {e : Err} {r : L} (l : L) (hcl : hL.clean l) (hz : O.cur l = O.zero) (hna : ¬ PSAcc e) :
    slotLoop O b o l flags vNo = (o', n, e, r) ↔
      ∃ tps o1 tp, PVItems b flags o tps o1 ∧ parseTokenParam b o1 {} flags = (o', e, tp) ∧
        n = vNo + tps.length ∧
        r = if e = .moreBytes then O.setCur ((tps.map elt).foldl O.next l) (O.withTok O.zero tp)
            else (tps.map elt).foldl O.next l := by
  constructor
  · intro h
    obtain ⟨tps, o1, H, hmv⟩ := pv_items_exist b flags hfit _ o rfl
    rcases hp : parseTokenParam b o1 {} flags with ⟨o2, e2, tp2⟩
    rw [hp] at hmv
    obtain ⟨hit, hcl2, hz2⟩ := slotLoop_items hL elt hfit hfin H l vNo hcl hz
    rw [hit] at h
    by_cases ha : PSAcc e2
    · exfalso
      have he2 : e2 = .ok ∨ e2 = .eoh := (acc_split ha).elim (fun h1 => absurd h1 hmv) id
      rw [slotLoop_eq_last (by rw [hz2, hL.tok_zero]; exact hp) he2 (hfin hp ha)] at h
      simp only [Prod.mk.injEq] at h
      rw [← h.2.2.1] at hna
      exact hna ha
    · rw [slotLoop_stop hL hz2 hp ha] at h
      simp only [Prod.mk.injEq] at h
      obtain ⟨h1, h2, h3, h4⟩ := h
      subst h1 h2 h3
      exact ⟨tps, o1, tp2, H, hp, rfl, h4.symm⟩
  · rintro ⟨tps, o1, tp, H, hp, hn, hr⟩
    obtain ⟨hit, _, hz2⟩ := slotLoop_items hL elt hfit hfin H l vNo hcl hz
    rw [hit, slotLoop_stop hL hz2 hp hna, hn, hr]

/-- **the complete list of verdicts of the element loop** from a clean object with a zero current slot: the verdict
    and the offset are those of the first item that is not reported with `MoreValues` -/
theorem slotLoop_outcome (hL : SlotLaws O) (elt : PTokParam → ε) {b : Buf} {flags : Nat} (hfit : b.size ≤ 65535)
    (hfin : ∀ {o o' e tp}, parseTokenParam b o {} flags = (o', e, tp) → PSAcc e → O.fin b tp = some (elt tp))
    (o : Nat) (l : L) (hcl : hL.clean l) (hz : O.cur l = O.zero) (vNo : Nat) :
    ∃ tps o1, PVItems b flags o tps o1 ∧ (parseTokenParam b o1 {} flags).2.1 ≠ .moreValues ∧
      (slotLoop O b o l flags vNo).1 = (parseTokenParam b o1 {} flags).1 ∧
      (slotLoop O b o l flags vNo).2.2.1 = (parseTokenParam b o1 {} flags).2.1 ∧
      (slotLoop O b o l flags vNo).2.1 =
        vNo + tps.length + (if (parseTokenParam b o1 {} flags).2.1 = .ok ∨ (parseTokenParam b o1 {} flags).2.1 = .eoh
          then 1 else 0) := by
  obtain ⟨tps, o1, H, hmv⟩ := pv_items_exist b flags hfit _ o rfl
  refine ⟨tps, o1, H, hmv, ?_⟩
  rcases hp : parseTokenParam b o1 {} flags with ⟨o2, e2, tp2⟩
  rw [hp] at hmv
  obtain ⟨hit, _, hz2⟩ := slotLoop_items hL elt hfit hfin H l vNo hcl hz
  rw [hit]
  by_cases ha : PSAcc e2
  · have he2 : e2 = .ok ∨ e2 = .eoh := (acc_split ha).elim (fun h1 => absurd h1 hmv) id
    rw [slotLoop_eq_last (by rw [hz2, hL.tok_zero]; exact hp) he2 (hfin hp ha)]
    exact ⟨rfl, rfl, by simp only [if_pos he2]⟩
  · rw [slotLoop_stop hL hz2 hp ha]
    have : ¬ (e2 = .ok ∨ e2 = .eoh) := fun h => ha (h.elim Or.inl fun h => Or.inr (Or.inr h))
    exact ⟨rfl, rfl, by simp only [if_neg this, Nat.add_zero]⟩

end

/-- the list object after the items `tps`, the wrapper having stopped with verdict `e` at a parameter `tp` -/
def pvParamsAfter (b : Buf) (l : URIParamsLst) (tps : List PTokParam) (e : Err) (tp : PTokParam) : URIParamsLst :=
  if e = .moreBytes then ((tps.map (typed b)).foldl URIParamsLst.push l).setCur { param := tp }
  else (tps.map (typed b)).foldl URIParamsLst.push l

def pvHdrsAfter (l : URIHdrsLst) (tps : List PTokParam) (e : Err) (tp : PTokParam) : URIHdrsLst :=
  if e = .moreBytes then (tps.foldl URIHdrsLst.push l).setCur tp else tps.foldl URIHdrsLst.push l

/-- [C17] (3) **the loop of ParseAllURIParams stops with a verdict other than OK / MoreValues / EOH exactly when one of the
    items does**: the items before it are parameters of the grammar reported with `MoreValues`; offset and verdict are
    those of that item; the items before it — and only they — are counted and pushed with the type of their names -/
theorem uriParamsLoop_stop_iff {b : Buf} {flags o o' n vNo : Nat} {e : Err} {r : URIParamsLst} (hfit : b.size ≤ 65535)
    (l : URIParamsLst) (hl : l.Fresh) (hna : ¬ PSAcc e) :
    uriParamsLoop b o l flags vNo = (o', n, e, r) ↔
      ∃ tps o1 tp, PVItems b flags o tps o1 ∧ parseTokenParam b o1 {} flags = (o', e, tp) ∧
        n = vNo + tps.length ∧ r = pvParamsAfter b l tps e tp := by
  have hf := (l.fresh_iff).1 hl
  rw [uriParamsLoop_slot]
  unfold pvParamsAfter
  rw [← pOps_next]
  exact slotLoop_stop_iff pLaws (typed b) hfit (fun hp ha => pOps_fin_some (ps_name_get hfit hp ha)) l hf.1 hf.2 hna

/-- [C17] (3) the same for the loop of ParseAllURIHdrs -/
theorem uriHdrsLoop_stop_iff {b : Buf} {flags o o' n vNo : Nat} {e : Err} {r : URIHdrsLst} (hfit : b.size ≤ 65535)
    (l : URIHdrsLst) (hl : l.Fresh) (hna : ¬ PSAcc e) :
    uriHdrsLoop b o l flags vNo = (o', n, e, r) ↔
      ∃ tps o1 tp, PVItems b flags o tps o1 ∧ parseTokenParam b o1 {} flags = (o', e, tp) ∧
        n = vNo + tps.length ∧ r = pvHdrsAfter l tps e tp := by
  have hf := (l.fresh_iff).1 hl
  rw [uriHdrsLoop_slot]
  unfold pvHdrsAfter
  rw [← hOps_next]
  have := slotLoop_stop_iff hLaws id (flags := flags) (o := o) (o' := o') (n := n) (vNo := vNo) (r := r) hfit (fun _ _ => rfl) l hf.1
    hf.2 hna
  simp only [List.map_id] at this
  exact this

/-- [C17] (3) **ParseAllURIParams returns `BadChar` iff one of the items is rejected**: the items before it are parameters of
    the grammar (separator ';' added by the wrapper), the error offset is that of the rejected item (`PVBad`: it points
    at the first byte that cannot continue), N counts exactly the items before it, and the list object is the one an
    accepted list of those items leaves (each pushed with the type of its name; N, Types, slots as in `uri_param_list`) -/
theorem parseAllURIParams_badChar_iff {b : Buf} {flags o o' n : Nat} {r : URIParamsLst} (hfit : b.size ≤ 65535)
    (l : URIParamsLst) (hl : l.Fresh) :
    parseAllURIParams b o l flags = (o', n, .badChar, r) ↔
      ∃ tps o1, PVItems b (flags ||| POptParamSemiSepF) o tps o1 ∧ PVBad b (flags ||| POptParamSemiSepF) o1 o' ∧
        n = tps.length ∧ r = (tps.map (typed b)).foldl URIParamsLst.push l := by
  unfold parseAllURIParams
  rw [uriParamsLoop_stop_iff hfit l hl (by intro h; rcases h with h | h | h <;> cases h)]
  constructor
  · rintro ⟨tps, o1, tp, H, hp, hn, hr⟩
    refine ⟨tps, o1, H, tokparam_badChar_sound hp, by omega, ?_⟩
    rw [hr]; unfold pvParamsAfter; rw [if_neg (by decide)]
  · rintro ⟨tps, o1, H, hbad, hn, hr⟩
    obtain ⟨h1, h2⟩ := tokparam_badChar_complete hbad
    rcases hp : parseTokenParam b o1 {} (flags ||| POptParamSemiSepF) with ⟨o2, e2, tp2⟩
    rw [hp] at h1 h2
    simp only at h1 h2
    subst h1 h2
    refine ⟨tps, o1, tp2, H, hp, by omega, ?_⟩
    rw [hr]; unfold pvParamsAfter; rw [if_neg (by decide)]

/-- [C17] (3) the same for ParseAllURIHdrs (separator '&') -/
theorem parseAllURIHdrs_badChar_iff {b : Buf} {flags o o' n : Nat} {r : URIHdrsLst} (hfit : b.size ≤ 65535)
    (l : URIHdrsLst) (hl : l.Fresh) :
    parseAllURIHdrs b o l flags = (o', n, .badChar, r) ↔
      ∃ tps o1, PVItems b (flags ||| POptParamAmpSepF ||| POptTokURIHdrF) o tps o1 ∧
        PVBad b (flags ||| POptParamAmpSepF ||| POptTokURIHdrF) o1 o' ∧
        n = tps.length ∧ r = tps.foldl URIHdrsLst.push l := by
  unfold parseAllURIHdrs
  rw [uriHdrsLoop_stop_iff hfit l hl (by intro h; rcases h with h | h | h <;> cases h)]
  constructor
  · rintro ⟨tps, o1, tp, H, hp, hn, hr⟩
    refine ⟨tps, o1, H, tokparam_badChar_sound hp, by omega, ?_⟩
    rw [hr]; unfold pvHdrsAfter; rw [if_neg (by decide)]
  · rintro ⟨tps, o1, H, hbad, hn, hr⟩
    obtain ⟨h1, h2⟩ := tokparam_badChar_complete hbad
    rcases hp : parseTokenParam b o1 {} (flags ||| POptParamAmpSepF ||| POptTokURIHdrF) with ⟨o2, e2, tp2⟩
    rw [hp] at h1 h2
    simp only at h1 h2
    subst h1 h2
    refine ⟨tps, o1, tp2, H, hp, by omega, ?_⟩
    rw [hr]; unfold pvHdrsAfter; rw [if_neg (by decide)]

/-- [C17] (3) **the complete list of verdicts of the wrappers** on a list object in its reset state: `OK`, `EOH`, `MoreBytes`,
    `BadChar`; and the verdict and the offset are those of the first item that is not reported with `MoreValues` -/
theorem uriParamsLoop_outcome {b : Buf} {flags : Nat} (hfit : b.size ≤ 65535) (o : Nat) (l : URIParamsLst)
    (hl : l.Fresh) (vNo : Nat) :
    ∃ tps o1, PVItems b flags o tps o1 ∧ (parseTokenParam b o1 {} flags).2.1 ≠ .moreValues ∧
      (uriParamsLoop b o l flags vNo).1 = (parseTokenParam b o1 {} flags).1 ∧
      (uriParamsLoop b o l flags vNo).2.2.1 = (parseTokenParam b o1 {} flags).2.1 ∧
      (uriParamsLoop b o l flags vNo).2.1 =
        vNo + tps.length + (if (parseTokenParam b o1 {} flags).2.1 = .ok ∨ (parseTokenParam b o1 {} flags).2.1 = .eoh
          then 1 else 0) := by
  have hf := (l.fresh_iff).1 hl
  rw [uriParamsLoop_slot]
  exact slotLoop_outcome pLaws (typed b) hfit (fun hp ha => pOps_fin_some (ps_name_get hfit hp ha)) o l hf.1 hf.2 vNo

/-- [C17] (3) the same for the loop of ParseAllURIHdrs -/
theorem uriHdrsLoop_outcome {b : Buf} {flags : Nat} (hfit : b.size ≤ 65535) (o : Nat) (l : URIHdrsLst)
    (hl : l.Fresh) (vNo : Nat) :
    ∃ tps o1, PVItems b flags o tps o1 ∧ (parseTokenParam b o1 {} flags).2.1 ≠ .moreValues ∧
      (uriHdrsLoop b o l flags vNo).1 = (parseTokenParam b o1 {} flags).1 ∧
      (uriHdrsLoop b o l flags vNo).2.2.1 = (parseTokenParam b o1 {} flags).2.1 ∧
      (uriHdrsLoop b o l flags vNo).2.1 =
        vNo + tps.length + (if (parseTokenParam b o1 {} flags).2.1 = .ok ∨ (parseTokenParam b o1 {} flags).2.1 = .eoh
          then 1 else 0) := by
  have hf := (l.fresh_iff).1 hl
  rw [uriHdrsLoop_slot]
  exact slotLoop_outcome hLaws id hfit (fun _ _ => rfl) o l hf.1 hf.2 vNo

/-- [C17] (3) ParseAllURIParams on a list object in its reset state returns `OK`, `EOH`, `MoreBytes` or `BadChar`, nothing else -/
theorem parseAllURIParams_verdicts {b : Buf} (hfit : b.size ≤ 65535) (o : Nat) (l : URIParamsLst) (hl : l.Fresh)
    (flags : Nat) :
    (parseAllURIParams b o l flags).2.2.1 = .ok ∨ (parseAllURIParams b o l flags).2.2.1 = .eoh ∨
    (parseAllURIParams b o l flags).2.2.1 = .moreBytes ∨ (parseAllURIParams b o l flags).2.2.1 = .badChar := by
  unfold parseAllURIParams
  obtain ⟨tps, o1, _, hmv, _, h2, _⟩ := uriParamsLoop_outcome (flags := flags ||| POptParamSemiSepF) hfit o l hl 0
  rw [h2]
  rcases tokparam_verdicts b o1 (flags ||| POptParamSemiSepF) with h | h | h | h | h
  · exact Or.inl h
  · exact Or.inr (Or.inl h)
  · exact absurd h hmv
  · exact Or.inr (Or.inr (Or.inl h))
  · exact Or.inr (Or.inr (Or.inr h))

/-- [C17] (3) ParseAllURIHdrs on a list object in its reset state returns `OK`, `EOH`, `MoreBytes` or `BadChar`, nothing else -/
theorem parseAllURIHdrs_verdicts {b : Buf} (hfit : b.size ≤ 65535) (o : Nat) (l : URIHdrsLst) (hl : l.Fresh)
    (flags : Nat) :
    (parseAllURIHdrs b o l flags).2.2.1 = .ok ∨ (parseAllURIHdrs b o l flags).2.2.1 = .eoh ∨
    (parseAllURIHdrs b o l flags).2.2.1 = .moreBytes ∨ (parseAllURIHdrs b o l flags).2.2.1 = .badChar := by
  unfold parseAllURIHdrs
  obtain ⟨tps, o1, _, hmv, _, h2, _⟩ :=
    uriHdrsLoop_outcome (flags := flags ||| POptParamAmpSepF ||| POptTokURIHdrF) hfit o l hl 0
  rw [h2]
  rcases tokparam_verdicts b o1 (flags ||| POptParamAmpSepF ||| POptTokURIHdrF) with h | h | h | h | h
  · exact Or.inl h
  · exact Or.inr (Or.inl h)
  · exact absurd h hmv
  · exact Or.inr (Or.inr (Or.inl h))
  · exact Or.inr (Or.inr (Or.inr h))

/-! ### (4) a rejection is final: appended bytes, chunk schedules -/

/-- [C17] (4) a rejected text stays rejected, at the same byte, whatever is appended (no end-of-input option: that option is a
    statement about where the input ends) — composition with C03 (`stable_tokparam`) -/
theorem tokparam_badChar_append {b : Buf} {o flags p : Nat} (hf : hasFlag flags POptInputEndF = false)
    (h : PVBad b flags o p) (s : Buf) :
    (parseTokenParam (b ++ s) o {} flags).1 = p ∧ (parseTokenParam (b ++ s) o {} flags).2.1 = .badChar ∧
      PVBad (b ++ s) flags o p := by
  obtain ⟨h1, h2⟩ := tokparam_badChar_complete h
  rcases hr : parseTokenParam b o {} flags with ⟨p1, e, p'⟩
  rw [hr] at h1 h2
  simp only at h1 h2
  subst h1 h2
  have := parseTokenParam_stable b s o {} flags hf hr (by decide)
  rw [this]
  exact ⟨rfl, rfl, tokparam_badChar_sound this⟩

/-- [C17] (4) **a rejection under every chunk schedule** — composition with C02 (`schedule_tokparam`): the complete buffer `B`
    (the last of the growing prefixes) holds a text rejected at `p`; the chain of resumed calls, however the input was
    cut, returns `BadChar` at `p` with the very object of the one-shot call -/
theorem tokparam_badChar_any_schedule (flags : Nat) (hf : hasFlag flags POptInputEndF = false) (o p : Nat)
    (bs : List Buf) (hne : bs ≠ []) (hg : Growing bs) (h : PVBad (bs.getLast hne) flags o p) :
    resumeRun (fun b o p => parseTokenParam b o p flags) o {} bs =
      (p, .badChar, (parseTokenParam (bs.getLast hne) o {} flags).2.2) := by
  obtain ⟨h1, h2⟩ := tokparam_badChar_complete h
  rcases hr : parseTokenParam (bs.getLast hne) o {} flags with ⟨p1, e, p'⟩
  rw [hr] at h1 h2
  simp only at h1 h2
  subst h1 h2
  exact tokparam_any_schedule flags hf o {} bs hne hg hr

/-- [C17] (4) **a rejected list under every chunk schedule and with appended bytes**: the complete buffer holds `tps` items of
    the grammar followed by an item rejected at `o'`; however the input is cut, the chain of resumed ParseAllURIParams
    calls returns `BadChar` at `o'`, the values counted over all calls add up to the number of items before the
    rejected one, and the list object holds exactly those items -/
theorem uriparams_badChar_any_schedule (flags o o1 o' : Nat) (tps : List PTokParam) (bs : List Buf) (hne : bs ≠ [])
    (hg : Growing bs) (hf : hasFlag flags POptInputEndF = false) (hfit : (bs.getLast hne).size ≤ 65535)
    (ho : ∀ b ∈ bs.head?, o ≤ b.size) (l : URIParamsLst) (hl : l.Fresh)
    (H : PVItems (bs.getLast hne) (flags ||| POptParamSemiSepF) o tps o1)
    (hbad : PVBad (bs.getLast hne) (flags ||| POptParamSemiSepF) o1 o') :
    resumeRun (uriParamsParser flags) o (0, l) bs =
      (o', .badChar, (tps.length, (tps.map (typed (bs.getLast hne))).foldl URIParamsLst.push l)) :=
  uriparams_any_schedule flags o bs hne hg hf ho l hl
    ((parseAllURIParams_badChar_iff hfit l hl).2 ⟨tps, o1, H, hbad, rfl, rfl⟩)

/-- [C17] (4) the same for ParseAllURIHdrs -/
theorem urihdrs_badChar_any_schedule (flags o o1 o' : Nat) (tps : List PTokParam) (bs : List Buf) (hne : bs ≠ [])
    (hg : Growing bs) (hf : hasFlag flags POptInputEndF = false) (hfit : (bs.getLast hne).size ≤ 65535)
    (ho : ∀ b ∈ bs.head?, o ≤ b.size) (l : URIHdrsLst) (hl : l.Fresh)
    (H : PVItems (bs.getLast hne) (flags ||| POptParamAmpSepF ||| POptTokURIHdrF) o tps o1)
    (hbad : PVBad (bs.getLast hne) (flags ||| POptParamAmpSepF ||| POptTokURIHdrF) o1 o') :
    resumeRun (uriHdrsParser flags) o (0, l) bs = (o', .badChar, (tps.length, tps.foldl URIHdrsLst.push l)) :=
  urihdrs_any_schedule flags o bs hne hg hf ho l hl
    ((parseAllURIHdrs_badChar_iff hfit l hl).2 ⟨tps, o1, H, hbad, rfl, rfl⟩)

/-- [C17] (4) a rejected list stays rejected whatever is appended (C03: `stable_uriparams`) -/
theorem uriparams_badChar_append {b : Buf} {flags o o' n : Nat} {r : URIParamsLst}
    (hf : hasFlag flags POptInputEndF = false) (l : URIParamsLst) (hl : l.Fresh) (ho : o ≤ b.size)
    (h : parseAllURIParams b o l flags = (o', n, .badChar, r)) (s : Buf) :
    parseAllURIParams (b ++ s) o l flags = (o', n, .badChar, r) :=
  parseAllURIParams_stable b s o l flags hf (hl.sp_plOK b) ho h (by decide)

/-- [C17] (4) the same for ParseAllURIHdrs (C03: `stable_urihdrs`) -/
theorem urihdrs_badChar_append {b : Buf} {flags o o' n : Nat} {r : URIHdrsLst}
    (hf : hasFlag flags POptInputEndF = false) (l : URIHdrsLst) (hl : l.Fresh) (ho : o ≤ b.size)
    (h : parseAllURIHdrs b o l flags = (o', n, .badChar, r)) (s : Buf) :
    parseAllURIHdrs (b ++ s) o l flags = (o', n, .badChar, r) :=
  parseAllURIHdrs_stable b s o l flags hf hl.sp_hlClean ho h (by decide)

/-! ### the text read so far really is the beginning of a parameter: explicit continuations -/

/-- the buffers `b` and `b'` hold the same bytes below `n` -/
def PVAgree (b b' : Buf) (n : Nat) : Prop := ∀ k, k < n → b'[k]? = b[k]?

theorem PVAgree.mono {b b' : Buf} {n m : Nat} (h : PVAgree b b' n) (hm : m ≤ n) : PVAgree b b' m :=
  fun k hk => h k (by omega)

theorem PVAgree.get {b b' : Buf} {n k : Nat} {c : UInt8} (h : PVAgree b b' n) (hk : k < n) (hb : b[k]? = some c) :
    b'[k]? = some c := by rw [h k hk]; exact hb

theorem PVAgree.append (b s : Buf) : PVAgree b (b ++ s) b.size :=
  fun _ hk => Array.getElem?_append_left hk

theorem Eol.pv_agree {b b' : Buf} {p e : Nat} (h : Eol b p e) (ha : PVAgree b b' (e + 1)) : Eol b' p e := by
  cases h with
  | crlf h0 h1 => exact Eol.crlf p (ha.get (by omega) h0) (ha.get (by omega) h1)
  | cr c h0 h1 hc => exact Eol.cr p c (ha.get (by omega) h0) (ha.get (by omega) h1) hc
  | lf c h0 h1 => exact Eol.lf p c (ha.get (by omega) h0) (ha.get (by omega) h1)

theorem Lws.pv_agree {b b' : Buf} {i n : Nat} (h : Lws b i n) (ha : PVAgree b b' n) : Lws b' i n := by
  induction h with
  | nil i => exact Lws.nil i
  | ws i n c hc hw hrest ih =>
    have := hrest.le
    exact Lws.ws i n c (ha.get (by omega) hc) hw (ih ha)
  | fold i e n c2 he hc hw hrest ih =>
    have := hrest.le
    exact Lws.fold i e n c2 (he.pv_agree (ha.mono (by omega))) (ha.get (by omega) hc) hw (ih ha)

theorem Pad.pv_agree {b b' : Buf} {sep : UInt8} {i n : Nat} (h : Pad b sep i n) (ha : PVAgree b b' n) :
    Pad b' sep i n := by
  induction h with
  | nil i => exact Pad.nil i
  | item i s n hl hs hrest ih =>
    have := hrest.le
    exact Pad.item i s n (hl.pv_agree (ha.mono (by omega))) (ha.get (by omega) hs) (ih ha)

theorem PRun.pv_agree {b b' : Buf} {flags i j : Nat} (h : PRun b flags i j) (ha : PVAgree b b' j) :
    PRun b' flags i j := by
  intro k h1 h2
  obtain ⟨c, hc, hp⟩ := h k h1 h2
  exact ⟨c, ha.get h2 hc, hp⟩

theorem QBody.pv_agree {b b' : Buf} {i e : Nat} (h : QBody b i e) (ha : PVAgree b b' e) : QBody b' i e := by
  induction h with
  | close i h0 => exact QBody.close i (ha.get (by omega) h0)
  | plain i e c h0 hq hrest ih =>
    have := hrest.lt
    exact QBody.plain i e c (ha.get (by omega) h0) hq (ih ha)
  | esc i e c1 h0 h1 hcr hrest ih =>
    have := hrest.lt
    exact QBody.esc i e c1 (ha.get (by omega) h0) (ha.get (by omega) h1) hcr (ih ha)

theorem PVQPre.pv_agree {b b' : Buf} {i e : Nat} (h : PVQPre b i e) (ha : PVAgree b b' e) : PVQPre b' i e := by
  induction h with
  | nil i => exact PVQPre.nil i
  | plain i e c h0 hq hrest ih =>
    have := hrest.le
    exact PVQPre.plain i e c (ha.get (by omega) h0) hq (ih ha)
  | esc i e c1 h0 h1 hcr hrest ih =>
    have := hrest.le
    exact PVQPre.esc i e c1 (ha.get (by omega) h0) (ha.get (by omega) h1) hcr (ih ha)

theorem PVHead.pv_agree {b b' : Buf} {flags o n0 n1 : Nat} (h : PVHead b flags o n0 n1) (ha : PVAgree b b' n1) :
    PVHead b' flags o n0 n1 := by
  obtain ⟨t, c0, h1, h2, h3, h4, h5, h6, h7⟩ := h
  have := h2.le
  exact ⟨t, c0, h1.pv_agree (ha.mono (by omega)), h2.pv_agree (ha.mono (by omega)), ha.get h7 h3, h4, h5,
    h6.pv_agree ha, h7⟩

theorem PVHead.lt {b : Buf} {flags o n0 n1 : Nat} (h : PVHead b flags o n0 n1) : o ≤ n0 ∧ n0 < n1 := by
  obtain ⟨t, c0, h1, h2, _, _, _, _, h7⟩ := h
  have := h1.le
  have := h2.le
  exact ⟨by omega, h7⟩

theorem PVEq.pv_agree {b b' : Buf} {flags o q : Nat} (h : PVEq b flags o q) (ha : PVAgree b b' (q + 1)) :
    PVEq b' flags o q := by
  obtain ⟨n0, n1, h1, h2, h3⟩ := h
  have := h2.le
  exact ⟨n0, n1, h1.pv_agree (ha.mono (by omega)), h2.pv_agree (ha.mono (by omega)), ha.get (by omega) h3⟩

theorem PVDone.pv_agree {b b' : Buf} {flags o j : Nat} (h : PVDone b flags o j) (ha : PVAgree b b' j) :
    PVDone b' flags o j := by
  cases h with
  | name n0 n1 hh => exact PVDone.name n0 j (hh.pv_agree ha)
  | empty q he => exact PVDone.empty q (he.pv_agree ha)
  | tok q v0 v1 he hl hr hv =>
    have := hl.le
    exact PVDone.tok q v0 j (he.pv_agree (ha.mono (by omega))) (hl.pv_agree (ha.mono (by omega))) (hr.pv_agree ha) hv
  | quo q v0 qe he hl h34 hqb =>
    have := hl.le
    have := hqb.lt
    exact PVDone.quo q v0 j (he.pv_agree (ha.mono (by omega))) (hl.pv_agree (ha.mono (by omega)))
      (ha.get (by omega) h34) (hqb.pv_agree ha)

theorem PVAt.pv_agree {b b' : Buf} {flags o i : Nat} {st : TPState} (h : PVAt b flags o i st) (ha : PVAgree b b' i) :
    PVAt b' flags o i st := by
  cases h with
  | init t i hp hl =>
    have := hl.le
    exact PVAt.init t i (hp.pv_agree (ha.mono (by omega))) (hl.pv_agree ha)
  | name n0 i hh => exact PVAt.name n0 i (hh.pv_agree ha)
  | fEq n0 n1 i hh hl hlt => exact PVAt.fEq n0 n1 i (hh.pv_agree (ha.mono (by omega))) (hl.pv_agree ha) hlt
  | fVal q i he hl =>
    have := hl.le
    exact PVAt.fVal q i (he.pv_agree (ha.mono (by omega))) (hl.pv_agree ha)
  | val q v0 i he hl hr hv =>
    have := hl.le
    exact PVAt.val q v0 i (he.pv_agree (ha.mono (by omega))) (hl.pv_agree (ha.mono (by omega))) (hr.pv_agree ha) hv
  | quotedVal q v0 he hl h34 =>
    have := hl.le
    exact PVAt.quotedVal q v0 (he.pv_agree (ha.mono (by omega))) (hl.pv_agree (ha.mono (by omega)))
      (ha.get (by omega) h34)
  | fSepTok q v0 v1 i he hl hr hv hl2 hlt2 =>
    have := hl.le
    exact PVAt.fSepTok q v0 v1 i (he.pv_agree (ha.mono (by omega))) (hl.pv_agree (ha.mono (by omega)))
      (hr.pv_agree (ha.mono (by omega))) hv (hl2.pv_agree ha) hlt2
  | fSepQuo q v0 qe i he hl h34 hqb hl2 =>
    have := hl.le
    have := hqb.lt
    have := hl2.le
    exact PVAt.fSepQuo q v0 qe i (he.pv_agree (ha.mono (by omega))) (hl.pv_agree (ha.mono (by omega)))
      (ha.get (by omega) h34) (hqb.pv_agree (ha.mono (by omega))) (hl2.pv_agree ha)
  | fNxt j s t i hd hl1 hs hp hl2 =>
    have := hl1.le
    have := hp.le
    have := hl2.le
    exact PVAt.fNxt j s t i (hd.pv_agree (ha.mono (by omega))) (hl1.pv_agree (ha.mono (by omega)))
      (ha.get (by omega) hs) (hp.pv_agree (ha.mono (by omega))) (hl2.pv_agree ha)

/-- CR LF and a byte that is not white space, at `m`: the end of the header -/
def PVTail (B : Buf) (m : Nat) : Prop := B[m]? = some 13 ∧ B[m + 1]? = some 10 ∧ B[m + 2]? = some 120

theorem PVTail.ending {B : Buf} {flags j m : Nat} (hl : Lws B j m) (ht : PVTail B m) :
    Ending B flags j (m + 2) .eoh .fin :=
  Ending.eoh j m (m + 2) 120 hl (Eol.crlf m ht.1 ht.2.1) ht.2.2 (by decide)

/-- in every state but the two that need one more byte first, the end of the header completes the parameter -/
theorem pv_complete_eol {B : Buf} {flags o m : Nat} {st : TPState} (h : PVAt B flags o m st)
    (hst : st ≠ .init ∧ st ≠ .quotedVal) (ht : PVTail B m) : ∃ p', PSParam B flags {} o (m + 2) .eoh p' := by
  cases h with
  | init t i hp hl => exact absurd rfl hst.1
  | name n0 i hh => exact (PVDone.name n0 m hh).psParam (ht.ending (Lws.nil m))
  | fEq n0 n1 i hh hl hlt => exact (PVDone.name n0 n1 hh).psParam (ht.ending hl)
  | fVal q i he hl => exact (PVDone.empty q he).psParam (ht.ending hl)
  | val q v0 i he hl hr hv => exact (PVDone.tok q v0 m he hl hr hv).psParam (ht.ending (Lws.nil m))
  | quotedVal q v0 he hl h34 => exact absurd rfl hst.2
  | fSepTok q v0 v1 i he hl hr hv hl2 hlt2 => exact (PVDone.tok q v0 v1 he hl hr hv).psParam (ht.ending hl2)
  | fSepQuo q v0 qe i he hl h34 hqb hl2 => exact (PVDone.quo q v0 qe he hl h34 hqb).psParam (ht.ending hl2)
  | fNxt j s t i hd hl1 hs hp hl2 =>
    exact hd.psParam (Ending.sep j s (m + 2) .eoh .fin hl1 hs
      (AfterSep.eoh (s + 1) t m (m + 2) 120 hp hl2 (Eol.crlf m ht.1 ht.2.1) ht.2.2 (by decide)))

theorem pv_allowed_a (flags : Nat) : tokAllowedChar 97 flags = true := by
  unfold tokAllowedChar; simp

theorem pv_a_ne_sep (flags : Nat) : (97 : UInt8) ≠ tpSep flags := by
  rcases tpSep_cases flags with h | h <;> (rw [h]; decide)

theorem pv_complete_init {B : Buf} {flags o m : Nat} (h : PVAt B flags o m .init) (ha : B[m]? = some 97)
    (ht : PVTail B (m + 1)) : ∃ p', PSParam B flags {} o (m + 3) .eoh p' := by
  obtain ⟨t, hp, hl⟩ := h.inv_init
  have hh : PVHead B flags o m (m + 1) :=
    ⟨t, 97, hp, hl, ha, pv_allowed_a flags, pv_a_ne_sep flags, (fun k h1 h2 => by omega), by omega⟩
  exact pv_complete_eol (PVAt.name m (m + 1) hh) (by decide) ht

theorem PVQPre.pv_close {b : Buf} {i r : Nat} (h : PVQPre b i r) (hq : b[r]? = some 34) : QBody b i (r + 1) := by
  induction h with
  | nil i => exact QBody.close i hq
  | plain i e c h0 hp _ ih => exact QBody.plain i (e + 1) c h0 hp (ih hq)
  | esc i e c1 h0 h1 hcr _ ih => exact QBody.esc i (e + 1) c1 h0 h1 hcr (ih hq)

theorem PVQPre.pv_snoc_esc {b : Buf} {i m : Nat} {c1 : UInt8} (h : PVQPre b i m) (h92 : b[m]? = some 92)
    (h1 : b[m + 1]? = some c1) (hcr : isCRLFch c1 = false) : PVQPre b i (m + 2) := by
  induction h with
  | nil i => exact PVQPre.esc i (i + 2) c1 h92 h1 hcr (PVQPre.nil _)
  | plain i e c h0 hp _ ih => exact PVQPre.plain i (e + 2) c h0 hp (ih h92 h1)
  | esc i e c2 h0 h2 hcr2 _ ih => exact PVQPre.esc i (e + 2) c2 h0 h2 hcr2 (ih h92 h1)

theorem pv_complete_quoted {B : Buf} {flags o q v0 r : Nat} (he : PVEq B flags o q) (hl : Lws B (q + 1) v0)
    (h34 : B[v0]? = some 34) (hpre : PVQPre B (v0 + 1) r) (hq : B[r]? = some 34) (ht : PVTail B (r + 1)) :
    ∃ p', PSParam B flags {} o (r + 3) .eoh p' :=
  (PVDone.quo q v0 (r + 1) he hl h34 (hpre.pv_close hq)).psParam (ht.ending (Lws.nil _))

/-- the bytes appended to a text that stops in state `st` to complete it: `a CR LF x` before a name, `" CR LF x` right
    after an opening quote, `CR LF x` everywhere else -/
def pvExt (st : TPState) : Buf :=
  match st with
  | .init => #[97, 13, 10, 120]
  | .quotedVal => #[34, 13, 10, 120]
  | _ => #[13, 10, 120]

theorem pv_complete_end_eol {b : Buf} {flags o : Nat} {st : TPState} (h : PVAt b flags o b.size st)
    (hst : st ≠ .init ∧ st ≠ .quotedVal) : ∃ o' p', PSParam (b ++ #[13, 10, 120]) flags {} o o' .eoh p' := by
  have hB := h.pv_agree (PVAgree.append b #[13, 10, 120])
  refine ⟨_, pv_complete_eol hB hst ⟨?_, ?_, ?_⟩⟩
  · exact get?_shift b _ 0
  · exact get?_shift b _ 1
  · exact get?_shift b _ 2

/-- **a text that stops at the end of the buffer in state `st` becomes a parameter of the grammar when `pvExt st` is
    appended** (end of the header: verdict `EOH`) -/
theorem pv_complete_at_end {b : Buf} {flags o : Nat} {st : TPState} (h : PVAt b flags o b.size st) :
    ∃ o' p', PSParam (b ++ pvExt st) flags {} o o' .eoh p' := by
  cases st with
  | init =>
    have hB := h.pv_agree (PVAgree.append b (pvExt .init))
    exact ⟨_, pv_complete_init hB (get?_shift b _ 0) ⟨get?_shift b _ 1, get?_shift b _ 2, get?_shift b _ 3⟩⟩
  | quotedVal =>
    have hB := h.pv_agree (PVAgree.append b (pvExt .quotedVal))
    obtain ⟨q, v0, he, hl, h34, hi⟩ := hB.inv_quotedVal
    have hpre : PVQPre (b ++ pvExt .quotedVal) (v0 + 1) b.size := by rw [hi]; exact PVQPre.nil _
    exact ⟨_, pv_complete_quoted he hl h34 hpre (get?_shift b _ 0)
      ⟨get?_shift b _ 1, get?_shift b _ 2, get?_shift b _ 3⟩⟩
  | name => exact pv_complete_end_eol h (by decide)
  | fEq => exact pv_complete_end_eol h (by decide)
  | fVal => exact pv_complete_end_eol h (by decide)
  | val => exact pv_complete_end_eol h (by decide)
  | fSep => exact pv_complete_end_eol h (by decide)
  | fNxt => exact pv_complete_end_eol h (by decide)
  | initNxtVal => exact absurd rfl h.live.2.2
  | err => exact absurd rfl h.live.1
  | fin => exact absurd rfl h.live.2.1

theorem PVAgree.trans {b b1 b2 : Buf} {n : Nat} (h1 : PVAgree b b1 n) (h2 : PVAgree b1 b2 n) : PVAgree b b2 n :=
  fun k hk => (h2 k hk).trans (h1 k hk)

theorem pv_agree_extract (b : Buf) (p : Nat) (hp : p ≤ b.size) :
    (b.extract 0 p).size = p ∧ PVAgree b (b.extract 0 p) p := by
  have hsz : (b.extract 0 p).size = p := by rw [Array.size_extract]; omega
  refine ⟨hsz, fun k hk => ?_⟩
  rw [Array.getElem?_extract, if_pos (by omega), Nat.zero_add]

theorem pvExt_size (st : TPState) : (pvExt st).size ≤ 4 := by
  cases st <;> decide

theorem tokparam_badChar_prefix_witness {b : Buf} {flags o p : Nat} (h : PVBad b flags o p) :
    ∃ s o' p', s.size ≤ 5 ∧ p < b.size ∧ PVAgree b (b.extract 0 p ++ s) p ∧
      PSParam (b.extract 0 p ++ s) flags {} o o' .eoh p' := by
  cases h with
  | byte st c hP hb hrej =>
    have hlt := get?_lt hb
    obtain ⟨hsz, hag⟩ := pv_agree_extract b p (by omega)
    have hP1 : PVAt (b.extract 0 p) flags o (b.extract 0 p).size st := by
      rw [hsz]; exact hP.pv_agree hag
    obtain ⟨o', p', H⟩ := pv_complete_at_end hP1
    refine ⟨pvExt st, o', p', by have := pvExt_size st; omega, hlt, hag.trans ?_, H⟩
    have := PVAgree.append (b.extract 0 p) (pvExt st)
    rw [hsz] at this
    exact this
  | quoted q v0 c he hl h34 hpre hc hbad =>
    have hlt := get?_lt hc
    obtain ⟨hsz, hag⟩ := pv_agree_extract b p (by omega)
    have hag2 : PVAgree b (b.extract 0 p ++ #[34, 13, 10, 120]) p := by
      refine hag.trans ?_
      have := PVAgree.append (b.extract 0 p) #[34, 13, 10, 120]
      rw [hsz] at this
      exact this
    have hle := hpre.le
    have hl1 := hl.le
    have g : ∀ k, (b.extract 0 p ++ #[34, 13, 10, 120])[p + k]? = (#[34, 13, 10, 120] : Buf)[k]? := by
      intro k
      have := get?_shift (b.extract 0 p) #[34, 13, 10, 120] k
      rw [hsz] at this
      exact this
    exact ⟨#[34, 13, 10, 120], _, _, by decide, hlt, hag2,
      (pv_complete_quoted (he.pv_agree (hag2.mono (by omega))) (hl.pv_agree (hag2.mono (by omega)))
        (hag2.get (by omega) h34) (hpre.pv_agree hag2) (g 0) ⟨g 1, g 2, g 3⟩).choose_spec⟩
  | quotedEsc q v0 m c he hl h34 hpre h92 hpm hc hcr =>
    subst hpm
    have hlt := get?_lt hc
    obtain ⟨hsz, hag⟩ := pv_agree_extract b (m + 1) (by omega)
    have hag2 : PVAgree b (b.extract 0 (m + 1) ++ #[97, 34, 13, 10, 120]) (m + 1) := by
      refine hag.trans ?_
      have := PVAgree.append (b.extract 0 (m + 1)) #[97, 34, 13, 10, 120]
      rw [hsz] at this
      exact this
    have hle := hpre.le
    have hl1 := hl.le
    have g : ∀ k, (b.extract 0 (m + 1) ++ #[97, 34, 13, 10, 120])[m + 1 + k]? =
        (#[97, 34, 13, 10, 120] : Buf)[k]? := by
      intro k
      have := get?_shift (b.extract 0 (m + 1)) #[97, 34, 13, 10, 120] k
      rw [hsz] at this
      exact this
    have hpre2 := (hpre.pv_agree (hag2.mono (by omega))).pv_snoc_esc (hag2.get (by omega) h92) (g 0) (by decide)
    exact ⟨#[97, 34, 13, 10, 120], _, _, by decide, hlt, hag2,
      (pv_complete_quoted (he.pv_agree (hag2.mono (by omega)))
        (hl.pv_agree (hag2.mono (by omega))) (hag2.get (by omega) h34) hpre2 (g 1) ⟨g 2, g 3, g 4⟩).choose_spec⟩

/-- [C17] (1) **the text before a rejected byte is a proper prefix of a parameter of the grammar**: if `BadChar` is reported at
    `p`, there is a buffer `B` with the same bytes below `p` that holds a parameter of the grammar `PSParam` at `o`
    (accepted with `EOH`). The witness — `b[0:p]` followed by at most five bytes (`a`, `"`, CR LF `x`) — is stated by
    `tokparam_badChar_prefix_witness` -/
theorem tokparam_badChar_prefix_extends {b : Buf} {flags o p : Nat} (h : PVBad b flags o p) :
    ∃ B o' p', PVAgree b B p ∧ PSParam B flags {} o o' .eoh p' :=
  let ⟨_, o', p', _, _, hag, H⟩ := tokparam_badChar_prefix_witness h
  ⟨_, o', p', hag, H⟩

theorem PVBad.pv_agree {b b' : Buf} {flags o p : Nat} (h : PVBad b flags o p) (ha : PVAgree b b' (p + 1)) :
    PVBad b' flags o p := by
  cases h with
  | byte st c hP hb hrej =>
    exact PVBad.byte st c (hP.pv_agree (ha.mono (by omega))) (ha.get (by omega) hb) hrej
  | quoted q v0 c he hl h34 hpre hc hbad =>
    have := hpre.le
    have := hl.le
    exact PVBad.quoted q v0 c (he.pv_agree (ha.mono (by omega))) (hl.pv_agree (ha.mono (by omega)))
      (ha.get (by omega) h34) (hpre.pv_agree (ha.mono (by omega))) (ha.get (by omega) hc) hbad
  | quotedEsc q v0 m c he hl h34 hpre h92 hpm hc hcr =>
    subst hpm
    have := hpre.le
    have := hl.le
    exact PVBad.quotedEsc q v0 m c (he.pv_agree (ha.mono (by omega))) (hl.pv_agree (ha.mono (by omega)))
      (ha.get (by omega) h34) (hpre.pv_agree (ha.mono (by omega))) (ha.get (by omega) h92) rfl
      (ha.get (by omega) hc) hcr

/-- [C17] (1) **the rejected byte cannot continue ANY parameter**: if `BadChar` is reported at `p` on `b`, then EVERY buffer
    with the same bytes up to and including `p` — whatever follows — is rejected with `BadChar` at `p` (so none of them is
    accepted or suspended). With `tokparam_badChar_prefix_extends` (the bytes before `p` CAN be continued to a parameter):
    the error offset is that of the first byte that cannot continue a parameter of the grammar. -/
theorem tokparam_badChar_local {b b' : Buf} {flags o p : Nat} (h : PVBad b flags o p) (ha : PVAgree b b' (p + 1)) :
    (parseTokenParam b' o {} flags).1 = p ∧ (parseTokenParam b' o {} flags).2.1 = .badChar :=
  tokparam_badChar_complete (h.pv_agree ha)

/-- the rest of the buffer of a suspended call — white space cut by the end of the buffer — becomes complete linear
    white space when one space is appended -/
theorem pv_endTail_space {b : Buf} {q : Nat} (hq : q ≤ b.size) (hend : EndTail b q) :
    Lws (b ++ #[32]) q (b.size + 1) := by
  have hag := PVAgree.append b #[32]
  have g0 : (b ++ #[32])[b.size]? = some 32 := get?_shift b #[32] 0
  cases hend with
  | none h0 =>
    have := get?_none_ge h0
    have e : q = b.size := by omega
    subst e
    exact Lws.ws _ _ 32 g0 (by decide) (Lws.nil _)
  | one c h0 hcr h1 =>
    have h2 := get?_lt h0
    have h3 := get?_none_ge h1
    have e : b.size = q + 1 := by omega
    rw [e] at g0 hag ⊢
    have hq0 := hag.get (by omega) h0
    unfold isCRLFch at hcr
    simp only [Bool.or_eq_true, beq_iff_eq] at hcr
    rcases hcr with rfl | rfl
    · exact Lws.fold q (q + 1) (q + 1 + 1) 32 (Eol.cr q 32 hq0 g0 (by decide)) g0 (by decide) (Lws.nil _)
    · exact Lws.fold q (q + 1) (q + 1 + 1) 32 (Eol.lf q 32 hq0 g0) g0 (by decide) (Lws.nil _)
  | crlf h0 h1 h2 =>
    have h3 := get?_lt h1
    have h4 := get?_none_ge h2
    have e : b.size = q + 2 := by omega
    rw [e] at g0 hag ⊢
    exact Lws.fold q (q + 2) (q + 2 + 1) 32 (Eol.crlf q (hag.get (by omega) h0) (hag.get (by omega) h1)) g0
      (by decide) (Lws.nil _)

theorem tokparam_moreBytes_witness {b : Buf} {flags o r : Nat} {p' : PTokParam} (ho : o ≤ b.size)
    (h : parseTokenParam b o {} flags = (r, .moreBytes, p')) :
    ∃ s o' p'', s.size ≤ 6 ∧ PSParam (b ++ s) flags {} o o' .eoh p'' := by
  have hr := ((parseTokenParam_facts b o {} flags h).2 ho).2.1
  cases tokparam_moreBytes_sound h with
  | lws st q hP hnq hlw hend =>
    have hq := hlw.le_size hr
    have hrq := hlw.le
    have hag := PVAgree.append b #[32]
    have hsz : (b ++ #[32]).size = b.size + 1 := by rw [Array.size_append]; rfl
    have hlw0 : Lws (b ++ #[32]) r (b ++ #[32]).size := by
      rw [hsz]
      exact (hlw.pv_agree (hag.mono hq)).trans (pv_endTail_space hq hend)
    have hP0 : PVAt (b ++ #[32]) flags o (b ++ #[32]).size (pvNext st) :=
      (hP.pv_agree (hag.mono hr)).lws_next hlw0 (by omega) hnq
    obtain ⟨o', p'', H⟩ := pv_complete_at_end hP0
    refine ⟨#[32] ++ pvExt (pvNext st), o', p'', ?_, by rw [← Array.append_assoc]; exact H⟩
    have := pvExt_size (pvNext st)
    rw [Array.size_append]
    show 1 + _ ≤ 6
    omega
  | quoted q v0 he hl h34 hpre hn =>
    have h1 := get?_none_ge hn
    have e : r = b.size := by omega
    subst e
    have hag := PVAgree.append b #[34, 13, 10, 120]
    have hle := hpre.le
    have hl1 := hl.le
    exact ⟨#[34, 13, 10, 120], _, _, by decide, (pv_complete_quoted (he.pv_agree (hag.mono (by omega)))
      (hl.pv_agree (hag.mono (by omega))) (hag.get (by omega) h34) (hpre.pv_agree hag) (get?_shift b _ 0)
      ⟨get?_shift b _ 1, get?_shift b _ 2, get?_shift b _ 3⟩).choose_spec⟩
  | quotedEsc q v0 he hl h34 hpre h92 hn =>
    have h1 := get?_none_ge hn
    have h2 := get?_lt h92
    have e : b.size = r + 1 := by omega
    have hag := PVAgree.append b #[97, 34, 13, 10, 120]
    have hle := hpre.le
    have hl1 := hl.le
    have g : ∀ k, (b ++ #[97, 34, 13, 10, 120])[r + 1 + k]? = (#[97, 34, 13, 10, 120] : Buf)[k]? := by
      intro k
      have := get?_shift b #[97, 34, 13, 10, 120] k
      rw [e] at this
      exact this
    have hpre2 := (hpre.pv_agree (hag.mono (by omega))).pv_snoc_esc (hag.get (by omega) h92) (g 0) (by decide)
    exact ⟨#[97, 34, 13, 10, 120], _, _, by decide, (pv_complete_quoted (he.pv_agree (hag.mono (by omega)))
      (hl.pv_agree (hag.mono (by omega))) (hag.get (by omega) h34) hpre2 (g 1) ⟨g 2, g 3, g 4⟩).choose_spec⟩

-- `hf` is not needed by the proof; the statement stands as the property files export it
set_option linter.unusedVariables false in
/-- [C17] (2) **a suspended text is a proper prefix of a parameter of the grammar** (no end-of-input option, start offset inside
    the buffer): if the call returns `MoreBytes`, there are bytes `s` such that `b ++ s` holds a parameter of the grammar
    `PSParam` at `o`, accepted with `EOH`. That at most six bytes (a space, `a`, `"`, CR LF `x`) are needed is stated by
    `tokparam_moreBytes_witness` -/
theorem tokparam_moreBytes_extends {b : Buf} {flags o r : Nat} {p' : PTokParam} (ho : o ≤ b.size)
    (hf : hasFlag flags POptInputEndF = false) (h : parseTokenParam b o {} flags = (r, .moreBytes, p')) :
    ∃ s o' p'', PSParam (b ++ s) flags {} o o' .eoh p'' :=
  let ⟨s, o', p'', _, H⟩ := tokparam_moreBytes_witness ho h
  ⟨s, o', p'', H⟩

/-! ### tests on concrete inputs (evaluation of the model) / the hypotheses are satisfiable -/

/-- test: a second token after `name SP` without the white-space terminator is rejected AT its first byte, although that
    byte is an allowed byte -/
example : (parseTokenParam "a b".toUTF8.data 0 {} 0).1 = 2 ∧ (parseTokenParam "a b".toUTF8.data 0 {} 0).2.1 = .badChar := by
  decide +kernel

/-- non-vacuity of `tokparam_badChar_complete` / `tokparam_badChar_iff`: the same text meets `PVBad` (state `fEq`) -/
example : PVBad "a b".toUTF8.data 0 0 2 := by
  have hsep : tpSep 0 = 59 := by decide
  have hterm : tpTerm 0 = 0 := by decide
  refine PVBad.byte .fEq 98
    (PVAt.fEq 0 1 2
      ⟨0, 97, Pad.nil 0, Lws.nil 0, by decide, by decide, by rw [hsep]; decide, (fun k h1 h2 => by omega), by omega⟩
      (Lws.ws 1 2 32 (by decide) (by decide) (Lws.nil 2)) (by omega)) (by decide) ?_
  exact ⟨by decide, by decide, by rw [hsep]; decide, fun _ => hterm, fun _ => by decide⟩

/-- test: a CR after a backslash inside a quoted string: the error offset is that of the CR (5), not of the backslash -/
example : (parseTokenParam "a=\"x\\\rz".toUTF8.data 0 {} 0).1 = 5 ∧
    (parseTokenParam "a=\"x\\\rz".toUTF8.data 0 {} 0).2.1 = .badChar := by decide +kernel

/-- non-vacuity of the `quotedEsc` shape -/
example : PVBad "a=\"x\\\rz".toUTF8.data 0 0 5 := by
  have hsep : tpSep 0 = 59 := by decide
  refine PVBad.quotedEsc 1 2 4 13
    ⟨0, 1, ⟨0, 97, Pad.nil 0, Lws.nil 0, by decide, by decide, by rw [hsep]; decide, (fun k h1 h2 => by omega),
      by omega⟩, Lws.nil 1, by decide⟩
    (Lws.nil 2) (by decide) ?_ (by decide) rfl (by decide) (by decide)
  exact PVQPre.plain 3 4 120 (by decide) (by unfold QPlain; decide) (PVQPre.nil 4)

/-- tests: a control byte inside quotes; a second `=`; a bad byte after a separator and white space with a fold -/
example : (parseTokenParam "a=\"x\ny\"".toUTF8.data 0 {} 0).1 = 4 ∧
    (parseTokenParam "a=\"x\ny\"".toUTF8.data 0 {} 0).2.1 = .badChar := by decide +kernel
example : (parseTokenParam "a==b".toUTF8.data 0 {} 0).1 = 2 ∧
    (parseTokenParam "a==b".toUTF8.data 0 {} 0).2.1 = .badChar := by decide +kernel
example : (parseTokenParam "a; \r\n {".toUTF8.data 0 {} 0).1 = 6 ∧
    (parseTokenParam "a; \r\n {".toUTF8.data 0 {} 0).2.1 = .badChar := by decide +kernel

/-- tests: `MoreBytes` is reported at the START of unfinished white space, and at a backslash that is the last byte -/
example : (parseTokenParam "a = b \r\n".toUTF8.data 0 {} 0).1 = 5 ∧
    (parseTokenParam "a = b \r\n".toUTF8.data 0 {} 0).2.1 = .moreBytes := by decide +kernel
example : (parseTokenParam "a=\"bc\\".toUTF8.data 0 {} 0).1 = 5 ∧
    (parseTokenParam "a=\"bc\\".toUTF8.data 0 {} 0).2.1 = .moreBytes := by decide +kernel

/-- non-vacuity of `tokparam_moreBytes_extends` -/
example : ∃ s o' p'', PSParam ("a = b \r\n".toUTF8.data ++ s) 0 {} 0 o' .eoh p'' := by
  have h1 : (parseTokenParam "a = b \r\n".toUTF8.data 0 {} 0).2.1 = .moreBytes := by decide +kernel
  rcases hr : parseTokenParam "a = b \r\n".toUTF8.data 0 {} 0 with ⟨r, e, p'⟩
  rw [hr] at h1
  simp only at h1
  subst h1
  exact tokparam_moreBytes_extends (by decide) (by decide) hr

/-- test / non-vacuity of `parseAllURIParams_badChar_iff` (URI-parameter mode, end-of-input option: flags 72): the
    second item of `a;b{` is rejected at offset 3, one item is counted -/
example : ∃ tps o1, PVItems "a;b{".toUTF8.data (72 ||| POptParamSemiSepF) 0 tps o1 ∧
    PVBad "a;b{".toUTF8.data (72 ||| POptParamSemiSepF) o1 3 ∧ tps.length = 1 := by
  have hl := URIParamsLst.fresh_new 4
  have h1 : (parseAllURIParams "a;b{".toUTF8.data 0 { params := Array.replicate 4 {} } 72).1 = 3 := by decide +kernel
  have h2 : (parseAllURIParams "a;b{".toUTF8.data 0 { params := Array.replicate 4 {} } 72).2.1 = 1 := by decide +kernel
  have h3 : (parseAllURIParams "a;b{".toUTF8.data 0 { params := Array.replicate 4 {} } 72).2.2.1 = .badChar := by
    decide +kernel
  rcases hr : parseAllURIParams "a;b{".toUTF8.data 0 { params := Array.replicate 4 {} } 72 with ⟨a, n, e, r⟩
  rw [hr] at h1 h2 h3
  simp only at h1 h2 h3
  subst h1 h2 h3
  obtain ⟨tps, o1, H, hbad, hn, _⟩ := (parseAllURIParams_badChar_iff (by decide) _ hl).1 hr
  exact ⟨tps, o1, H, hbad, hn.symm⟩

end Sipsp
