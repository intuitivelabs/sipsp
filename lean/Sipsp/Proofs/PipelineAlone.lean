/-
  Sipsp.Proofs.PipelineAlone — property C06, the pipelining clause: messages laid back to back in one buffer, parsed
  one after another from each returned offset with a Reset object, give the same results as each message parsed alone,
  moved by its start offset (`shMsg`).  Put together from C03 (`parseSIPMsg_stable`), C11
  (`pipeline_second_message_ok`), "Reset after any history is an Init object" (`sc_reset_after_history`) and C01x
  (`parseSIPMsg_flags_switch`: a definitive result does not depend on the no-more-data flag).

  "Framing-definite" (`paFramed flags obj`) is read off the C06 body table: the no-more-data flag is NOT set, and the
  end of the message does not depend on where the buffer ends, i.e. the skip-body flag is set, or Content-Length is
  required, or a Content-Length header was parsed (`paFramed_iff`: exactly `¬ bodyToEnd` + no no-more-data flag, the
  condition under which C03 applies without its exemption).  Both parts are necessary: `pa_alone_needs_framing` and
  the tests at the end.

  For all buffers / flags / capacities, within the documented 65,535-byte limit:
  (1) `msg_alone_then_followed`: a text that parses alone to `(x.size, OK, obj)` in a framing-definite mode parses to
      exactly the same triple when any bytes follow it (Buf / RawMsg are recorded as lengths);
  (2) `pipeline_each_message_as_alone` (`pipeline_each_message_after_reset`, `pipeline_each_message_as_alone_nomore`):
      in the buffer that holds the texts `l` one after the other, the call at the start of text `i` returns OK, the
      start of text `i+1` and the stand-alone object of text `i` moved; only text `i` has to be a complete
      framing-definite message;
  (3) `paParseAll`, the caller's loop "Reset, ParseSIPMsg, continue at the returned offset", and `parseAll_pipeline`
      (`parseAll_pipeline_nomore`, `parseAll_pipeline_get`): on the concatenation of complete framing-definite
      messages, from an object of any history (`ScReach`), it returns exactly the stand-alone objects, message `i`
      moved by the size of the messages before it.

  NOT proved here:
  * a pipeline in which some text is NOT a complete framing-definite message: only `pipeline_nth_message` (ShiftMsg:
    the call at its start behaves as the call on the rest of the buffer) and, for a LAST text with a truncated body,
    TruncPipeline;
  * in (3) the stand-alone objects are those of an Init object with the capacities of the caller's object (the result
    depends on the capacities: headers / contacts beyond the capacity are only counted); caller arrays handed to Init
    are assumed cleared, as everywhere (`ScReach.init`).
-/
import Sipsp.Proofs.ShiftMsg
import Sipsp.Proofs.SigCompose
import Sipsp.Proofs.MsgL1Body
import Sipsp.Proofs.MsgLastFlags
import Sipsp.Proofs.AuditFixB

namespace Sipsp

/-! ### framing-definite modes -/

/-- the end of the message does not depend on where the buffer ends: no-more-data flag not set, and skip-body, or
    Content-Length required, or a Content-Length header was parsed (`m` is the parsed object) -/
def paFramed (flags : Nat) (m : PSIPMsg) : Prop :=
  hasFlag flags SIPMsgNoMoreDataF = false ∧
    (hasFlag flags SIPMsgSkipBodyF = true ∨ hasFlag flags SIPMsgCLenReqF = true ∨ m.pv.clen.parsed = true)

theorem paFramed_iff (flags : Nat) (m : PSIPMsg) :
    paFramed flags m ↔ hasFlag flags SIPMsgNoMoreDataF = false ∧ ¬ bodyToEnd flags m := by
  unfold paFramed bodyToEnd
  constructor
  · rintro ⟨h0, h⟩
    refine ⟨h0, fun ⟨h1, h2, h3⟩ => ?_⟩
    rcases h with h | h | h
    · rw [h1] at h; cases h
    · rw [h3] at h; cases h
    · rw [h2] at h; cases h
  · rintro ⟨h0, h⟩
    refine ⟨h0, ?_⟩
    by_cases h1 : hasFlag flags SIPMsgSkipBodyF = true
    · exact Or.inl h1
    · by_cases h3 : hasFlag flags SIPMsgCLenReqF = true
      · exact Or.inr (Or.inl h3)
      · by_cases h2 : m.pv.clen.parsed = true
        · exact Or.inr (Or.inr h2)
        · exact absurd ⟨by simpa using h1, by simpa using h2, by simpa using h3⟩ h

theorem paFramed_shMsg (flags k : Nat) (m : PSIPMsg) : paFramed flags (shMsg k m) ↔ paFramed flags m := by
  unfold paFramed
  have : (shMsg k m).pv.clen.parsed = m.pv.clen.parsed := by
    show (shHv k m.pv).clen.parsed = _
    rw [shHv_clen, smCl_parsed]
  rw [this]

/-! ### (1) alone, then followed by anything -/

/-- general form: any start offset inside the text, any Init object, any definitive verdict offset -/
theorem pa_alone_then_followed_at (x rest : Buf) (o : Nat) (ho : o ≤ x.size) (flags : Nat) (m0 : PSIPMsg)
    (len kh kc : Nat) (hdrs cts : Option Unit) (hfit : x.size ≤ 65535) {o' : Nat} {obj : PSIPMsg}
    (h : parseSIPMsg x o (m0.init len (hdrs.map fun _ => Array.replicate kh {}) (cts.map fun _ => Array.replicate kc {}))
      flags = (o', .ok, obj))
    (hF : paFramed flags obj) :
    parseSIPMsg (x ++ rest) o
      (m0.init len (hdrs.map fun _ => Array.replicate kh {}) (cts.map fun _ => Array.replicate kc {})) flags =
      (o', .ok, obj) :=
  parseSIPMsg_stable x rest o _ flags (msgOK_init x o ho m0 len kh kc hdrs cts) hfit hF.1 h (by decide)
    ((paFramed_iff flags obj).1 hF).2

/-- [C06] a message that parses alone parses identically when followed by anything: no bookkeeping field differs -/
theorem msg_alone_then_followed (x rest : Buf) (flags : Nat) (m0 : PSIPMsg)
    (len kh kc : Nat) (hdrs cts : Option Unit) (hfit : x.size ≤ 65535) {obj : PSIPMsg}
    (h : parseSIPMsg x 0 (m0.init len (hdrs.map fun _ => Array.replicate kh {}) (cts.map fun _ => Array.replicate kc {}))
      flags = (x.size, .ok, obj))
    (hF : paFramed flags obj) :
    parseSIPMsg (x ++ rest) 0
      (m0.init len (hdrs.map fun _ => Array.replicate kh {}) (cts.map fun _ => Array.replicate kc {})) flags =
      (x.size, .ok, obj) :=
  pa_alone_then_followed_at x rest 0 (Nat.zero_le _) flags m0 len kh kc hdrs cts hfit h hF

/-- [C06] the framing condition is necessary: if the body is "the rest of the buffer" (no Content-Length, neither
    flag), any non-empty continuation changes the result -/
theorem pa_alone_needs_framing (x rest : Buf) (flags : Nat) (m0 : PSIPMsg)
    (len kh kc : Nat) (hdrs cts : Option Unit) (hfit : (x ++ rest).size ≤ 65535)
    (hnf : hasFlag flags SIPMsgNoMoreDataF = false) {o' : Nat} {obj : PSIPMsg}
    (h : parseSIPMsg x 0 (m0.init len (hdrs.map fun _ => Array.replicate kh {}) (cts.map fun _ => Array.replicate kc {}))
      flags = (o', .ok, obj))
    (hx : ¬ paFramed flags obj) (hne : 0 < rest.size) :
    o' = x.size ∧
    (parseSIPMsg (x ++ rest) 0
      (m0.init len (hdrs.map fun _ => Array.replicate kh {}) (cts.map fun _ => Array.replicate kc {})) flags).1 =
        x.size + rest.size := by
  have hb : bodyToEnd flags obj := by
    by_cases hb : bodyToEnd flags obj
    · exact hb
    · exact absurd ((paFramed_iff flags obj).2 ⟨hnf, hb⟩) hx
  have hok := msgOK_init x 0 (Nat.zero_le _) m0 len kh kc hdrs cts
  have hst : (m0.init len (hdrs.map fun _ => Array.replicate kh {}) (cts.map fun _ => Array.replicate kc {})).state
      = .init := rfl
  have h1 := parseSIPMsg_bodyToEnd_grows x rest 0 _ flags hok hfit hnf h hb (Or.inl hst)
  have h2 := parseSIPMsg_bodyToEnd_changes x rest 0 _ flags hok hfit hnf h hb (Or.inl hst) hne
  exact ⟨h1.1, by rw [h2.1, h1.1]⟩

/-! ### (2) message `i` of a pipeline -/

theorem pa_smCat_cons (x : Buf) (xs : List Buf) : smCat (x :: xs) = x ++ smCat xs := by
  have := smCat_append [x] xs
  have h1 : smCat [x] = x := by unfold smCat; simp
  rw [h1] at this
  exact this

theorem pa_smCat_split (l : List Buf) (i : Nat) (hi : i < l.length) :
    smCat l = smCat (l.take i) ++ (l[i] ++ smCat (l.drop (i + 1))) := by
  have h1 : l = l.take i ++ l.drop i := (List.take_append_drop i l).symm
  have h2 : l.drop i = l[i] :: l.drop (i + 1) := List.drop_eq_getElem_cons hi
  conv => lhs; rw [h1, h2]
  rw [smCat_append, pa_smCat_cons]

theorem pa_smCat_take_succ (l : List Buf) (i : Nat) (hi : i < l.length) :
    (smCat (l.take (i + 1))).size = (smCat (l.take i)).size + l[i].size := by
  have : l.take (i + 1) = l.take i ++ [l[i]] := by
    rw [List.take_add_one]; simp [List.getElem?_eq_getElem hi]
  rw [this, smCat_append, Array.size_append]
  have h1 : smCat [l[i]] = l[i] := by unfold smCat; simp
  rw [h1]

/-- [C06] message `i` of a pipeline parses as it would alone, moved by its start offset; nothing is assumed about the
    other texts -/
theorem pipeline_each_message_as_alone (l : List Buf) (i : Nat) (hi : i < l.length) (flags : Nat) (m0 : PSIPMsg)
    (len kh kc : Nat) (hdrs cts : Option Unit) (hfit : (smCat l).size ≤ 65535) {obj : PSIPMsg}
    (h : parseSIPMsg l[i] 0
      (m0.init len (hdrs.map fun _ => Array.replicate kh {}) (cts.map fun _ => Array.replicate kc {})) flags =
        (l[i].size, .ok, obj))
    (hF : paFramed flags obj) :
    parseSIPMsg (smCat l) (smCat (l.take i)).size
      (m0.init len (hdrs.map fun _ => Array.replicate kh {}) (cts.map fun _ => Array.replicate kc {})) flags =
      ((smCat (l.take (i + 1))).size, .ok, shMsg (smCat (l.take i)).size obj) := by
  have hs := pa_smCat_split l i hi
  rw [hs, Array.size_append, Array.size_append] at hfit
  have h1 := msg_alone_then_followed l[i] (smCat (l.drop (i + 1))) flags m0 len kh kc hdrs cts (by omega) h hF
  have h2 := pipeline_second_message_ok (smCat (l.take i)) (l[i] ++ smCat (l.drop (i + 1))) flags m0 len kh kc hdrs cts
    (by rw [Array.size_append]; omega) h1
  rw [pa_smCat_take_succ l i hi]
  conv => lhs; rw [hs]
  exact h2

/-- [C06] message `i` of a pipeline with the caller's actual object: any history (`ScReach`), Reset before the call; the stand-alone parse is
    the one from an Init object with the capacities of that object -/
theorem pipeline_each_message_after_reset (l : List Buf) (i : Nat) (hi : i < l.length) (flags : Nat) {m : PSIPMsg}
    (hR : ScReach m) (hfit : (smCat l).size ≤ 65535) {obj : PSIPMsg}
    (h : parseSIPMsg l[i] 0 m.reset flags = (l[i].size, .ok, obj))
    (hF : paFramed flags obj) :
    parseSIPMsg (smCat l) (smCat (l.take i)).size m.reset flags =
      ((smCat (l.take (i + 1))).size, .ok, shMsg (smCat (l.take i)).size obj) := by
  rw [sc_reset_after_history hR] at h ⊢
  exact pipeline_each_message_as_alone l i hi flags {} _ _ _ (some ()) (some ()) hfit h hF

/-! ### (3a) what Init recorded as `len(Buf)` does not influence a successful call -/

/-- a successful call does not depend on the `len(Buf)` the object carried in (it is overwritten at the end) -/
theorem pa_ok_bufLen (b : Buf) (o : Nat) (m : PSIPMsg) (flags x : Nat) {o' : Nat} {m' : PSIPMsg}
    (h : parseSIPMsg b o m flags = (o', .ok, m')) : parseSIPMsg b o { m with bufLen := x } flags = (o', .ok, m') := by
  obtain ⟨h1, h2, _, h3⟩ := afb_parseSIPMsg_bufLen b o m flags x
  rw [h] at h1 h2 h3
  exact Prod.ext h1 (Prod.ext h2 (h3 rfl))

theorem pa_init_bufLen (m0 : PSIPMsg) (len x : Nat) (hdrs : Option (Array Hdr)) (cts : Option (Array PFromBody)) :
    ({ m0.init len hdrs cts with bufLen := x } : PSIPMsg) = m0.init x hdrs cts := rfl

/-! ### (3b) a message parsed OK from a new object has at least 14 bytes -/

theorem pa_ok_size_ge (b : Buf) (o : Nat) (m : PSIPMsg) (flags : Nat) (hst : m.state = .init)
    (hfl : m.fl.state = .init) {o' : Nat} {m' : PSIPMsg} (h : parseSIPMsg b o m flags = (o', .ok, m')) :
    o + 14 ≤ b.size := by
  by_cases hlt : b.size - o < 14
  · exfalso
    unfold parseSIPMsg at h
    rw [hst] at h
    simp only at h
    unfold msgFLine at h
    simp only [parseFLine_short b o m.fl hfl hlt] at h
    exact msgErr_not_ok _ _ _ _ (by decide) (congrArg (·.2.1) h)
  · omega

/-- ParseSIPMsg never changes the capacity of the contact array (for the header array: `sc_size_parseSIPMsg`) -/
theorem pa_cap_parseSIPMsg (b : Buf) (o : Nat) (m : PSIPMsg) (flags : Nat) :
    (parseSIPMsg b o m flags).2.2.pv.contacts.vals.size = m.pv.contacts.vals.size :=
  sc_hb_parseSIPMsg (Q := fun c => c.vals.size = m.pv.contacts.vals.size) (fun _ _ _ h => h)
    (fun b o c h => sc_slots_parseAll (P := fun a _ => a.size = m.pv.contacts.vals.size) (by simp) (fun _ _ h => h) b o c h)
    b o m flags rfl

/-- a call that succeeds without the no-more-data flag gives exactly the same result with it: the flag only turns
    "more bytes needed" into a verdict -/
theorem pa_ok_any_nomore (b : Buf) (o : Nat) (m : PSIPMsg) (flags flags' : Nat)
    (hs : hasFlag flags' SIPMsgSkipBodyF = hasFlag flags SIPMsgSkipBodyF)
    (hr : hasFlag flags' SIPMsgCLenReqF = hasFlag flags SIPMsgCLenReqF)
    (hn : hasFlag flags SIPMsgNoMoreDataF = false) {o' : Nat} {m' : PSIPMsg}
    (h : parseSIPMsg b o m flags = (o', .ok, m')) : parseSIPMsg b o m flags' = (o', .ok, m') := by
  rw [parseSIPMsg_flags_switch b o m flags flags' hn hs hr (by rw [h]; nofun), h]

/-- [C06] (2) when the pipelined call sets the no-more-data flag (e.g. the whole datagram is in the buffer) -/
theorem pipeline_each_message_as_alone_nomore (l : List Buf) (i : Nat) (hi : i < l.length) (flags flags' : Nat)
    (hs : hasFlag flags' SIPMsgSkipBodyF = hasFlag flags SIPMsgSkipBodyF)
    (hr : hasFlag flags' SIPMsgCLenReqF = hasFlag flags SIPMsgCLenReqF)
    (m0 : PSIPMsg) (len kh kc : Nat) (hdrs cts : Option Unit) (hfit : (smCat l).size ≤ 65535) {obj : PSIPMsg}
    (h : parseSIPMsg l[i] 0
      (m0.init len (hdrs.map fun _ => Array.replicate kh {}) (cts.map fun _ => Array.replicate kc {})) flags =
        (l[i].size, .ok, obj))
    (hF : paFramed flags obj) :
    parseSIPMsg (smCat l) (smCat (l.take i)).size
      (m0.init len (hdrs.map fun _ => Array.replicate kh {}) (cts.map fun _ => Array.replicate kc {})) flags' =
      ((smCat (l.take (i + 1))).size, .ok, shMsg (smCat (l.take i)).size obj) :=
  pa_ok_any_nomore _ _ _ flags flags' hs hr hF.1
    (pipeline_each_message_as_alone l i hi flags m0 len kh kc hdrs cts hfit h hF)

/-! ### (3) the loop a caller runs over a buffer of pipelined messages -/

def paCons (m : PSIPMsg) (r : List PSIPMsg × Nat × Err) : List PSIPMsg × Nat × Err := (m :: r.1, r.2)

/-- the caller's loop: while bytes remain, Reset the object, call ParseSIPMsg at the current offset, keep the parsed
    message and continue at the returned offset with the same object. Returns the parsed messages, the final offset
    and the final verdict: OK = the buffer is exhausted; anything else is the verdict of the call that stopped the
    loop (`lbug`, a model artefact, if an OK call made no progress or went past the buffer; never happens). -/
def paParseAll (b : Buf) (flags : Nat) (o : Nat) (m : PSIPMsg) : List PSIPMsg × Nat × Err :=
  if o < b.size then
    if (parseSIPMsg b o m.reset flags).2.1 = .ok then
      if _h : o < (parseSIPMsg b o m.reset flags).1 ∧ (parseSIPMsg b o m.reset flags).1 ≤ b.size then
        paCons (parseSIPMsg b o m.reset flags).2.2
          (paParseAll b flags (parseSIPMsg b o m.reset flags).1 (parseSIPMsg b o m.reset flags).2.2)
      else ([], (parseSIPMsg b o m.reset flags).1, .lbug)
    else ([], (parseSIPMsg b o m.reset flags).1, (parseSIPMsg b o m.reset flags).2.1)
  else ([], o, .ok)
termination_by b.size - o
decreasing_by omega

theorem pa_parseAll_end (b : Buf) (flags : Nat) (m : PSIPMsg) : paParseAll b flags b.size m = ([], b.size, .ok) := by
  rw [paParseAll, if_neg (Nat.lt_irrefl _)]

theorem pa_parseAll_ok (b : Buf) (flags o : Nat) (m : PSIPMsg) {o' : Nat} {obj : PSIPMsg}
    (h : parseSIPMsg b o m.reset flags = (o', .ok, obj)) (ho : o < o') (ho' : o' ≤ b.size) :
    paParseAll b flags o m = paCons obj (paParseAll b flags o' obj) := by
  rw [paParseAll, if_pos (by omega), h]
  simp only [↓reduceIte]
  rw [dif_pos ⟨ho, ho'⟩]

theorem pa_parseAll_stop (b : Buf) (flags o : Nat) (m : PSIPMsg) (ho : o < b.size)
    (hne : (parseSIPMsg b o m.reset flags).2.1 ≠ .ok) :
    paParseAll b flags o m = ([], (parseSIPMsg b o m.reset flags).1, (parseSIPMsg b o m.reset flags).2.1) := by
  rw [paParseAll, if_pos ho, if_neg hne]

/-- the Init object with caller arrays of capacities `kh` (headers) and `kc` (contacts) -/
def paInit (kh kc : Nat) : PSIPMsg :=
  ({} : PSIPMsg).init 0 ((some ()).map fun _ => Array.replicate kh {}) ((some ()).map fun _ => Array.replicate kc {})

/-- the text `x` is a complete message on its own in a framing-definite mode: parsed alone from an Init object (with
    capacities `kh`, `kc`) it gives OK exactly at its end -/
def paAloneOK (flags kh kc : Nat) (x : Buf) : Prop :=
  (parseSIPMsg x 0 (paInit kh kc) flags).1 = x.size ∧ (parseSIPMsg x 0 (paInit kh kc) flags).2.1 = .ok ∧
    paFramed flags (parseSIPMsg x 0 (paInit kh kc) flags).2.2

def paAlone (flags kh kc : Nat) (x : Buf) : PSIPMsg := (parseSIPMsg x 0 (paInit kh kc) flags).2.2

/-- the stand-alone objects, each moved by the total size of the texts before it (`k` = what precedes the list) -/
def paMoved (flags kh kc : Nat) : Nat → List Buf → List PSIPMsg
  | _, [] => []
  | k, x :: xs => shMsg k (paAlone flags kh kc x) :: paMoved flags kh kc (k + x.size) xs

theorem paMoved_length (flags kh kc k : Nat) (l : List Buf) : (paMoved flags kh kc k l).length = l.length := by
  induction l generalizing k with
  | nil => rfl
  | cons x xs ih => simp [paMoved, ih]

theorem paMoved_get (flags kh kc k : Nat) (l : List Buf) (i : Nat) (hi : i < l.length) :
    (paMoved flags kh kc k l)[i]? = some (shMsg (k + (smCat (l.take i)).size) (paAlone flags kh kc l[i])) := by
  induction l generalizing k i with
  | nil => cases hi
  | cons x xs ih =>
    cases i with
    | zero =>
      have : smCat ([] : List Buf) = #[] := rfl
      simp [paMoved, this]
    | succ j =>
      have hj : j < xs.length := by simpa using hi
      have h1 := ih (k + x.size) j hj
      simp only [paMoved, List.getElem?_cons_succ, List.take_succ_cons, List.getElem_cons_succ]
      rw [h1, pa_smCat_cons, Array.size_append, Nat.add_assoc]

theorem pa_alone_eq {flags kh kc : Nat} {x : Buf} (h : paAloneOK flags kh kc x) :
    parseSIPMsg x 0 (paInit kh kc) flags = (x.size, .ok, paAlone flags kh kc x) :=
  Prod.ext h.1 (Prod.ext h.2.1 rfl)

/-- Reset after any history, then ParseSIPMsg at the start of a text `y` that is preceded by `pre` and ends the
    buffer: when `y` alone parses OK, that result moved by `pre.size` -/
theorem pa_turn_any (pre y : Buf) (f : Nat) {m : PSIPMsg} (hR : ScReach m) (hfit : (pre ++ y).size ≤ 65535)
    {o' : Nat} {obj : PSIPMsg}
    (hy : parseSIPMsg y 0 (paInit m.hl.hdrs.size m.pv.contacts.vals.size) f = (o', .ok, obj)) :
    parseSIPMsg (pre ++ y) pre.size m.reset f = (pre.size + o', .ok, shMsg pre.size obj) := by
  rw [sc_reset_after_history hR]
  rw [Array.size_append] at hfit
  exact pipeline_second_message_ok pre y f {} m.bufLen _ _ (some ()) (some ()) hfit (pa_ok_bufLen y 0 _ f m.bufLen hy)

/-- one turn of the loop: after any history, Reset + ParseSIPMsg at the start of a complete framing-definite message
    `x` that is preceded by `pre` and followed by `rest` -/
theorem pa_turn (pre x rest : Buf) (flags flags' : Nat)
    (hs : hasFlag flags' SIPMsgSkipBodyF = hasFlag flags SIPMsgSkipBodyF)
    (hr : hasFlag flags' SIPMsgCLenReqF = hasFlag flags SIPMsgCLenReqF) {m : PSIPMsg} (hR : ScReach m)
    (hfit : (pre ++ (x ++ rest)).size ≤ 65535)
    (hx : paAloneOK flags m.hl.hdrs.size m.pv.contacts.vals.size x) :
    parseSIPMsg (pre ++ (x ++ rest)) pre.size m.reset flags' =
      (pre.size + x.size, .ok, shMsg pre.size (paAlone flags m.hl.hdrs.size m.pv.contacts.vals.size x)) := by
  apply pa_ok_any_nomore _ _ _ flags flags' hs hr hx.2.2.1
  refine pa_turn_any pre (x ++ rest) flags hR hfit ?_
  rw [Array.size_append, Array.size_append] at hfit
  exact msg_alone_then_followed x rest flags {} 0 _ _ (some ()) (some ()) (by omega) (pa_alone_eq hx) hx.2.2

/-- what the loop knows after that turn: the returned object has some history and the capacities of `m` -/
theorem pa_turn_reach (pre x rest : Buf) (flags : Nat) {m : PSIPMsg} (hR : ScReach m)
    (hfit : (pre ++ (x ++ rest)).size ≤ 65535)
    (hx : paAloneOK flags m.hl.hdrs.size m.pv.contacts.vals.size x) :
    ScReach (shMsg pre.size (paAlone flags m.hl.hdrs.size m.pv.contacts.vals.size x)) ∧
    (shMsg pre.size (paAlone flags m.hl.hdrs.size m.pv.contacts.vals.size x)).hl.hdrs.size = m.hl.hdrs.size ∧
    (shMsg pre.size (paAlone flags m.hl.hdrs.size m.pv.contacts.vals.size x)).pv.contacts.vals.size =
      m.pv.contacts.vals.size := by
  have ht := pa_turn pre x rest flags flags rfl rfl hR hfit hx
  refine ⟨?_, ?_, ?_⟩
  · have := ScReach.parse (pre ++ (x ++ rest)) pre.size flags (ScReach.reset hR)
    rw [ht] at this; exact this
  · have := sc_size_parseSIPMsg (pre ++ (x ++ rest)) pre.size m.reset flags
    rw [ht] at this
    rw [this]
    show (m.hl.reset.hdrs).size = _
    unfold HdrLst.reset; simp
  · have := pa_cap_parseSIPMsg (pre ++ (x ++ rest)) pre.size m.reset flags
    rw [ht] at this
    rw [this, sc_reset_after_history hR]
    show (Array.replicate m.pv.contacts.vals.size ({} : PFromBody)).size = _
    simp

/-- the messages found so far, put in front of what the rest of the loop returns -/
def tpPre (ms : List PSIPMsg) (r : List PSIPMsg × Nat × Err) : List PSIPMsg × Nat × Err := (ms ++ r.1, r.2)

theorem tpPre_nil (r : List PSIPMsg × Nat × Err) : tpPre [] r = r := rfl

theorem tpPre_cons (x : PSIPMsg) (ms : List PSIPMsg) (r : List PSIPMsg × Nat × Err) :
    paCons x (tpPre ms r) = tpPre (x :: ms) r := rfl

/-- the loop consumes the complete framing-definite messages whatever follows them (`tail` is arbitrary) and goes on
    at the start of `tail` with an object of some history and the same capacities; `flags'` may carry the
    no-more-data flag (`flags` is the same word without it) -/
theorem pa_parseAll_prefix (l : List Buf) (tail : Buf) (flags flags' kh kc : Nat)
    (hs : hasFlag flags' SIPMsgSkipBodyF = hasFlag flags SIPMsgSkipBodyF)
    (hr : hasFlag flags' SIPMsgCLenReqF = hasFlag flags SIPMsgCLenReqF)
    (hall : ∀ x ∈ l, paAloneOK flags kh kc x) :
    ∀ (pre : Buf) (m : PSIPMsg), ScReach m → m.hl.hdrs.size = kh → m.pv.contacts.vals.size = kc →
      (pre ++ (smCat l ++ tail)).size ≤ 65535 →
      ∃ m', ScReach m' ∧ m'.hl.hdrs.size = kh ∧ m'.pv.contacts.vals.size = kc ∧
        paParseAll (pre ++ (smCat l ++ tail)) flags' pre.size m =
          tpPre (paMoved flags kh kc pre.size l)
            (paParseAll (pre ++ (smCat l ++ tail)) flags' (pre.size + (smCat l).size) m') := by
  induction l with
  | nil =>
    intro pre m hR hkh hkc _
    exact ⟨m, hR, hkh, hkc, rfl⟩
  | cons x xs ih =>
    intro pre m hR hkh hkc hfit
    have hx : paAloneOK flags m.hl.hdrs.size m.pv.contacts.vals.size x := by
      rw [hkh, hkc]; exact hall x (List.mem_cons_self ..)
    rw [pa_smCat_cons, Array.append_assoc] at hfit ⊢
    have ht := pa_turn pre x (smCat xs ++ tail) flags flags' hs hr hR hfit hx
    obtain ⟨hR', hkh', hkc'⟩ := pa_turn_reach pre x (smCat xs ++ tail) flags hR hfit hx
    rw [hkh, hkc] at ht hR' hkh' hkc'
    have hsz := pa_ok_size_ge x 0 (paInit kh kc) flags rfl rfl (pa_alone_eq (hall x (List.mem_cons_self ..)))
    have hassoc : pre ++ (x ++ (smCat xs ++ tail)) = (pre ++ x) ++ (smCat xs ++ tail) := (Array.append_assoc ..).symm
    obtain ⟨m', hR2, hkh2, hkc2, hrec⟩ := ih (fun y hy => hall y (List.mem_cons_of_mem _ hy)) (pre ++ x) _ hR' hkh' hkc'
      (by rw [← hassoc]; exact hfit)
    rw [Array.size_append] at hrec
    refine ⟨m', hR2, hkh2, hkc2, ?_⟩
    have hle : pre.size + x.size ≤ (pre ++ (x ++ (smCat xs ++ tail))).size := by
      rw [Array.size_append, Array.size_append]; omega
    rw [pa_parseAll_ok _ _ _ _ ht (by omega) hle, hassoc, hrec, tpPre_cons, Array.size_append, Nat.add_assoc]
    rfl

/-- `pa_parseAll_prefix` for the loop started at offset 0 -/
theorem pa_parseAll_prefix0 (l : List Buf) (tail : Buf) (flags flags' : Nat)
    (hs : hasFlag flags' SIPMsgSkipBodyF = hasFlag flags SIPMsgSkipBodyF)
    (hr : hasFlag flags' SIPMsgCLenReqF = hasFlag flags SIPMsgCLenReqF) {m : PSIPMsg} (hR : ScReach m)
    (hfit : (smCat l ++ tail).size ≤ 65535)
    (hall : ∀ x ∈ l, paAloneOK flags m.hl.hdrs.size m.pv.contacts.vals.size x) :
    ∃ m', ScReach m' ∧ m'.hl.hdrs.size = m.hl.hdrs.size ∧ m'.pv.contacts.vals.size = m.pv.contacts.vals.size ∧
      paParseAll (smCat l ++ tail) flags' 0 m =
        tpPre (paMoved flags m.hl.hdrs.size m.pv.contacts.vals.size 0 l)
          (paParseAll (smCat l ++ tail) flags' (smCat l).size m') := by
  have := pa_parseAll_prefix l tail flags flags' _ _ hs hr hall #[] m hR rfl rfl (by simpa using hfit)
  simpa only [Array.empty_append, Array.size_empty, Nat.zero_add] using this

/-- [C06] (3) the caller's loop over a buffer of pipelined messages returns exactly the stand-alone objects, message `i`
    moved by the total size of the messages before it, and stops with OK at the end of the buffer; it may be run with
    or without the no-more-data flag -/
theorem parseAll_pipeline_nomore (l : List Buf) (flags flags' : Nat)
    (hs : hasFlag flags' SIPMsgSkipBodyF = hasFlag flags SIPMsgSkipBodyF)
    (hr : hasFlag flags' SIPMsgCLenReqF = hasFlag flags SIPMsgCLenReqF) {m : PSIPMsg} (hR : ScReach m)
    (hfit : (smCat l).size ≤ 65535)
    (hall : ∀ x ∈ l, paAloneOK flags m.hl.hdrs.size m.pv.contacts.vals.size x) :
    paParseAll (smCat l) flags' 0 m =
      (paMoved flags m.hl.hdrs.size m.pv.contacts.vals.size 0 l, (smCat l).size, .ok) := by
  obtain ⟨m', _, _, _, h⟩ := pa_parseAll_prefix0 l #[] flags flags' hs hr hR (by simpa using hfit) hall
  rw [Array.append_empty] at h
  rw [h, pa_parseAll_end]
  simp [tpPre]

/-- [C06] the caller's loop run with the flag word under which the messages are complete -/
theorem parseAll_pipeline (l : List Buf) (flags : Nat) {m : PSIPMsg} (hR : ScReach m)
    (hfit : (smCat l).size ≤ 65535)
    (hall : ∀ x ∈ l, paAloneOK flags m.hl.hdrs.size m.pv.contacts.vals.size x) :
    paParseAll (smCat l) flags 0 m =
      (paMoved flags m.hl.hdrs.size m.pv.contacts.vals.size 0 l, (smCat l).size, .ok) :=
  parseAll_pipeline_nomore l flags flags rfl rfl hR hfit hall

/-- [C06] the result of the caller's loop, read per message -/
theorem parseAll_pipeline_get (l : List Buf) (flags flags' : Nat)
    (hs : hasFlag flags' SIPMsgSkipBodyF = hasFlag flags SIPMsgSkipBodyF)
    (hr : hasFlag flags' SIPMsgCLenReqF = hasFlag flags SIPMsgCLenReqF) {m : PSIPMsg} (hR : ScReach m)
    (hfit : (smCat l).size ≤ 65535)
    (hall : ∀ x ∈ l, paAloneOK flags m.hl.hdrs.size m.pv.contacts.vals.size x) :
    (paParseAll (smCat l) flags' 0 m).1.length = l.length ∧
    ∀ (i : Nat) (hi : i < l.length), (paParseAll (smCat l) flags' 0 m).1[i]? =
      some (shMsg (smCat (l.take i)).size (paAlone flags m.hl.hdrs.size m.pv.contacts.vals.size l[i])) := by
  rw [parseAll_pipeline_nomore l flags flags' hs hr hR hfit hall]
  refine ⟨paMoved_length .., fun i hi => ?_⟩
  have := paMoved_get flags m.hl.hdrs.size m.pv.contacts.vals.size 0 l i hi
  rw [Nat.zero_add] at this
  exact this

/-! ### tests / non-vacuity (closed computations by `decide +kernel`; examples, not the general claims) -/

/-- test: a request with a 2-byte body announced by Content-Length -/
def paExReq : Buf :=
  "OPTIONS sip:a@b SIP/2.0\r\nFrom: <sip:x@y>;tag=1\r\nCSeq: 7 OPTIONS\r\nContact: <sip:c@d>\r\nContent-Length: 2\r\n\r\nhi".toUTF8.data

/-- test: a reply with an empty body (compact Content-Length) -/
def paExRpl : Buf := "SIP/2.0 200 OK\r\nCall-ID: q@w\r\nl: 0\r\n\r\n".toUTF8.data

/-- test: a request without Content-Length -/
def paExNoCLen : Buf := "OPTIONS sip:a@b SIP/2.0\r\nCSeq: 7 OPTIONS\r\n\r\n".toUTF8.data

instance (flags : Nat) (m : PSIPMsg) : Decidable (paFramed flags m) := by unfold paFramed; infer_instance
instance (flags kh kc : Nat) (x : Buf) : Decidable (paAloneOK flags kh kc x) := by unfold paAloneOK; infer_instance

-- the hypotheses of (1)–(3) are satisfiable: Content-Length present, no flags
theorem paExReq_aloneOK : paAloneOK 0 10 10 paExReq := by decide +kernel
theorem paExRpl_aloneOK : paAloneOK 0 10 10 paExRpl := by decide +kernel
example : paAloneOK 0 10 10 paExReq := paExReq_aloneOK
example : paAloneOK 0 10 10 paExRpl := paExRpl_aloneOK
-- … require-Content-Length mode without a Content-Length header (body empty), and skip-body mode
example : paAloneOK 2 10 10 paExNoCLen := by decide +kernel
example : paAloneOK 1 10 10 paExNoCLen := by decide +kernel
-- … but not the mode where the body is the rest of the buffer, nor the no-more-data mode
example : ¬ paAloneOK 0 10 10 paExNoCLen := by decide +kernel
example : ¬ paAloneOK 4 10 10 paExReq := fun h => absurd h.2.2.1 (by decide)

-- an instance of (3): three messages back to back, object fresh from Init
example : paParseAll (smCat [paExReq, paExRpl, paExReq]) 0 0 (paInit 10 10) =
    (paMoved 0 10 10 0 [paExReq, paExRpl, paExReq], (smCat [paExReq, paExRpl, paExReq]).size, .ok) :=
  parseAll_pipeline [paExReq, paExRpl, paExReq] 0 (ScReach.init {} 0 10 10 (some ()) (some ()))
    -- the size of the concatenation is slow to evaluate, the sum of the sizes is not
    (by simp only [pa_smCat_cons, Array.size_append]; decide +kernel)
    (by intro x hx; simp only [List.mem_cons, List.not_mem_nil, or_false] at hx
        rcases hx with rfl | rfl | rfl
        · exact paExReq_aloneOK
        · exact paExRpl_aloneOK
        · exact paExReq_aloneOK)

-- a run computed directly (test of the loop definition): 2 messages, stops with OK at the end of the buffer, the
-- second message starts where the first ended
example :
    (paParseAll (paExReq ++ paExRpl) 0 0 (paInit 10 10)).2 = (paExReq.size + paExRpl.size, Err.ok) ∧
    ((paParseAll (paExReq ++ paExRpl) 0 0 (paInit 10 10)).1.map (fun m => (m.rawOffs, m.rawLen, m.body.len))) =
      [(0, paExReq.size, 2), (paExReq.size, paExRpl.size, 0)] := by
  decide +kernel

-- the loop stops with the verdict of the failing call: an incomplete last message gives MoreBytes at its start
example :
    (paParseAll (paExReq ++ paExReq.extract 0 40) 0 0 (paInit 10 10)).2.2 = Err.moreBytes ∧
    (paParseAll (paExReq ++ paExReq.extract 0 40) 0 0 (paInit 10 10)).1.length = 1 := by
  decide +kernel

-- why "framing-definite" is needed. (a) no Content-Length, no flags: alone the body is empty, followed by another
-- message the body swallows it
example :
    (parseSIPMsg paExNoCLen 0 (paInit 10 10) 0).1 = paExNoCLen.size ∧
    (parseSIPMsg paExNoCLen 0 (paInit 10 10) 0).2.1 = Err.ok ∧
    (parseSIPMsg (paExNoCLen ++ paExRpl) 0 (paInit 10 10) 0).1 = paExNoCLen.size + paExRpl.size := by
  decide +kernel

/-- test: Content-Length announces 5 bytes, only 2 are there -/
def paExShort : Buf := "OPTIONS sip:a@b SIP/2.0\r\nCSeq: 7 OPTIONS\r\nContent-Length: 5\r\n\r\nhi".toUTF8.data

-- (b) the no-more-data flag: alone the truncated body is accepted at the end of the text; followed by another message
-- the 5 announced bytes are taken from it
example :
    (parseSIPMsg paExShort 0 (paInit 10 10) 4).1 = paExShort.size ∧
    (parseSIPMsg paExShort 0 (paInit 10 10) 4).2.1 = Err.ok ∧
    (parseSIPMsg paExShort 0 (paInit 10 10) 4).2.2.pv.clen.parsed = true ∧
    (parseSIPMsg (paExShort ++ paExRpl) 0 (paInit 10 10) 4).1 = paExShort.size + 3 ∧
    (parseSIPMsg (paExShort ++ paExRpl) 0 (paInit 10 10) 4).2.1 = Err.ok := by
  decide +kernel

end Sipsp
