/-
  Sipsp.Proofs.Post — post-conditions of the header value parsers on an OK verdict: the returned offset lies
  in [start, len(buf)] and the object is final (so it can be carried along as "legitimate" by the callers).
-/
import Sipsp.Proofs.VerdictsMsg

namespace Sipsp

variable {σ : Type}

theorem csFinish_ok (st : PCSeqBody) (b : Buf) (n crl : Nat) {o : Nat} {s' : PCSeqBody}
    (h : csFinish st b n crl = (o, .ok, s')) : o = n + crl ∧ s'.state = .fin := by
  unfold csFinish at h
  simp only at h
  split at h
  · simp only [Prod.mk.injEq] at h; exact absurd h.2.1 (by decide)
  · split at h <;> (simp only [Prod.mk.injEq] at h; obtain ⟨rfl, _, rfl⟩ := h; exact ⟨rfl, rfl⟩)

theorem csEOH_ok (b : Buf) (s : PCSeqBody) (j n crl : Nat) {o : Nat} {s' : PCSeqBody}
    (h : csEOH b s j n crl = (o, .ok, s')) : o = n + crl ∧ s'.state = .fin := by
  unfold csEOH at h
  cases hst : s.state <;> rw [hst] at h <;> simp only at h
  all_goals first
    | exact csFinish_ok _ b n crl h
    | (simp only [Prod.mk.injEq] at h; exact absurd h.2.1 (by decide))

theorem parseCallIDVal_post (b : Buf) (o : Nat) (st : PCallIDBody) (ho : o ≤ b.size)
    {o' : Nat} {st' : PCallIDBody} (hr : parseCallIDVal b o st = (o', .ok, st')) :
    o ≤ o' ∧ o' ≤ b.size ∧ st'.state = .fin ∧ (st.state ≠ .fin → o < o') := by
  have := parseCallIDVal_ind b (S := fun i _ => o ≤ i)
    (T := fun o' e st' => e = .ok → o ≤ o' ∧ o' ≤ b.size ∧ st'.state = .fin ∧ (st.state ≠ .fin → o < o'))
    (mono := fun _ _ _ h a1 _ => Nat.le_trans h a1) (close := fun _ _ _ h _ => h)
    (start := fun _ _ _ h _ => Nat.le_succ_of_le h)
    (done := fun _ _ _ h _ a1 a2 _ => ⟨by omega, a2, rfl, fun _ => by omega⟩) (more := fun _ _ _ => nofun)
    (err := fun _ _ _ _ h1 _ hok => absurd hok h1)
    o st (Nat.le_refl _) fun hf _ => ⟨Nat.le_refl _, ho, hf, fun hn => absurd hf hn⟩
  rw [hr] at this; exact this rfl

theorem parseUIntVal_post (b : Buf) (o : Nat) (st : PUIntBody) (ho : o ≤ b.size)
    {o' : Nat} {st' : PUIntBody} (hr : parseUIntVal b o st = (o', .ok, st')) :
    o ≤ o' ∧ o' ≤ b.size ∧ st'.state = .fin ∧ (st.state ≠ .fin → o < o') := by
  have := parseUIntVal_ind b (S := fun i _ => o ≤ i)
    (T := fun o' e st' => e = .ok → o ≤ o' ∧ o' ≤ b.size ∧ st'.state = .fin ∧ (st.state ≠ .fin → o < o'))
    (mono := fun _ _ _ h a1 _ => Nat.le_trans h a1) (close := fun _ _ _ h _ => h)
    (start := fun _ _ _ _ h _ => Nat.le_succ_of_le h) (digit := fun _ _ _ _ h _ => Nat.le_succ_of_le h)
    (done := fun _ _ _ h _ a1 a2 _ => ⟨by omega, a2, rfl, fun _ => by omega⟩) (more := fun _ _ _ => nofun)
    (err := fun _ _ _ _ h1 _ hok => absurd hok h1)
    o st (Nat.le_refl _) fun hf _ => ⟨Nat.le_refl _, ho, hf, fun hn => absurd hf hn⟩
  rw [hr] at this; exact this rfl

theorem parseCLenVal_post (b : Buf) (o : Nat) (st : PUIntBody) (ho : o ≤ b.size)
    {o' : Nat} {st' : PUIntBody} (hr : parseCLenVal b o st = (o', .ok, st')) :
    o ≤ o' ∧ o' ≤ b.size ∧ st'.state = .fin ∧ (st.state ≠ .fin → o < o') :=
  parseUIntVal_post b o st ho (parseCLenVal_under' b o st hr (fun hh => by cases hh))

theorem parseCSeqVal_post (b : Buf) (o : Nat) (st : PCSeqBody) (ho : o ≤ b.size)
    {o' : Nat} {st' : PCSeqBody} (hr : parseCSeqVal b o st = (o', .ok, st')) :
    o ≤ o' ∧ o' ≤ b.size ∧ st'.state = .fin ∧ (st.state ≠ .fin → o < o') := by
  have := parseCSeqVal_ind b (S := fun j _ => o ≤ j ∧ j ≤ b.size)
    (T := fun n e s => e = .ok → o ≤ n ∧ n ≤ b.size ∧ s.state = .fin ∧ (st.state ≠ .fin → o < n))
    (mono := fun _ _ _ h _ hij hj => ⟨by omega, hj⟩) (closeNum := fun _ _ _ _ _ h _ => h)
    (closeMeth := fun _ _ _ h _ => h) (digit0 := fun _ _ _ hb _ h _ => ⟨by omega, get?_lt hb⟩)
    (digit := fun _ _ _ hb _ h _ _ => ⟨by omega, get?_lt hb⟩) (meth0 := fun _ _ _ hb _ h _ => ⟨by omega, get?_lt hb⟩)
    (eoh := fun i n crl s h _ hin hn hc he => by
      obtain ⟨h1, h4⟩ := csEOH_ok b s i n crl (o := (csEOH b s i n crl).1) (s' := (csEOH b s i n crl).2.2)
        (Prod.ext rfl (Prod.ext he rfl))
      have := h.1
      exact ⟨by omega, by omega, h4, fun _ => by omega⟩)
    (more := fun _ _ _ he => by cases he) (err := fun _ _ _ _ he hq => by subst hq; rcases he with h | h <;> cases h)
    o st ⟨Nat.le_refl _, ho⟩ (fun hf _ => ⟨Nat.le_refl _, ho, hf, fun hn => absurd hf hn⟩)
  rw [hr] at this
  exact this rfl

/-! ### the "empty line" verdict belongs to ParseHdrLine alone -/

theorem parseCallIDVal_ne_empty (b : Buf) (o : Nat) (st : PCallIDBody) : (parseCallIDVal b o st).2.1 ≠ .empty :=
  ne_of_verdicts (parseCallIDVal_verdicts b o st) (by decide)

theorem parseUIntVal_ne_empty (b : Buf) (o : Nat) (st : PUIntBody) : (parseUIntVal b o st).2.1 ≠ .empty :=
  ne_of_verdicts (parseUIntVal_verdicts b o st) (by decide)

theorem parseCLenVal_ne_empty (b : Buf) (o : Nat) (st : PUIntBody) : (parseCLenVal b o st).2.1 ≠ .empty :=
  ne_of_verdicts (parseCLenVal_verdicts b o st) (by decide)

theorem parseCSeqVal_ne_empty (b : Buf) (o : Nat) (st : PCSeqBody) : (parseCSeqVal b o st).2.1 ≠ .empty :=
  ne_of_verdicts (parseCSeqVal_verdicts b o st) (by decide)

theorem naPVal_ok_range (t : Nat) (b : Buf) (o : Nat) (pf : PFromBody) (ho : o ≤ b.size)
    {o' : Nat} {e : Err} {pf' : PFromBody} (hr : parseNameAddrPVal t b o pf = (o', e, pf'))
    (hc : Err.complete e) : pf'.state = .fin ∧ o ≤ o' ∧ o' ≤ b.size := by
  have hp := parseNameAddrPVal_post t b o pf hr hc
  refine ⟨hp.1, ?_⟩
  by_cases hf : pf.state = .fin
  · unfold parseNameAddrPVal at hr; rw [if_pos hf] at hr; cases hr; exact ⟨Nat.le_refl _, ho⟩
  · have := hp.2 hf; omega

/-- the object after the last value of the line (verdict OK) -/
theorem ctOK_done {b : Buf} {o o' : Nat} {c : PContacts} (pf : PFromBody) (h : ctOK b o c) (hf : pf.state = .fin)
    (h1 : o ≤ o') (h2 : o' ≤ b.size) : ctOK b o' ((c.setCur pf).account pf) := by
  refine ⟨fun k hk hk' => ?_, ?_⟩
  · rw [account_n, setCur_n] at hk
    rw [account_vals, setCur_size] at hk'
    rw [account_vals, setCur_vals_ne c pf k (by omega)]
    exact naOK_mono (h.1 k (by omega) hk') h1 h2
  · rw [account_last]
    by_cases hin : c.n < c.vals.size
    · rw [setCur_last_in c pf hin]; exact naOK_mono h.2 h1 h2
    · rw [setCur_last_out c pf hin]; exact Or.inl hf

/-- a completed value: finished, ends inside the buffer, and behind `o` unless it was finished already -/
theorem NaOne.ok_range {one : Buf → Nat → PFromBody → Nat × Err × PFromBody} (hone : NaOne one) {b : Buf} {o : Nat}
    {pf : PFromBody} (ho : o ≤ b.size) {o' : Nat} {e : Err} {pf' : PFromBody} (hr : one b o pf = (o', e, pf'))
    (hc : Err.complete e) : pf'.state = .fin ∧ o ≤ o' ∧ o' ≤ b.size ∧ (pf.state ≠ .fin → o < o') := by
  obtain ⟨ht, e0, h0, hok0, hmv0, _⟩ := hone hr
  have hc0 : Err.complete e0 := hc.imp (fun h => hok0 h) (fun h => hmv0 h)
  have h := naPVal_ok_range ht b o pf ho h0 hc0
  exact ⟨h.1, h.2.1, h.2.2, fun hnf => ((parseNameAddrPVal_post ht b o pf h0 hc0).2 hnf).1⟩

theorem valsLoop_post {one : Buf → Nat → PFromBody → Nat × Err × PFromBody} (hone : NaOne one) (b : Buf)
    (offs : Nat) (c : PContacts) (hok : ctOK b offs c) (ho : offs ≤ b.size) (hr : (valsLoop one b offs c).2.1 = .ok) :
    offs ≤ (valsLoop one b offs c).1 ∧ (valsLoop one b offs c).1 ≤ b.size ∧
      ctOK b (valsLoop one b offs c).1 (valsLoop one b offs c).2.2 := by
  refine valsLoop_inv one b (fun o d => ctOK b o d ∧ offs ≤ o ∧ o ≤ b.size)
    (fun r => r.2.1 = .ok → offs ≤ r.1 ∧ r.1 ≤ b.size ∧ ctOK b r.1 r.2.2) (fun o d ⟨hok, hlo, ho⟩ => ?_) offs c
    ⟨hok, Nat.le_refl _, ho⟩ hr
  unfold valsStep
  rcases hp : one b o d.cur with ⟨next, e1, pf⟩
  cases e1 <;> simp only
  case ok =>
    obtain ⟨hf, h1, h2, _⟩ := hone.ok_range ho hp (Or.inl rfl)
    exact fun _ => ⟨by omega, h2, ctOK_done pf hok hf h1 h2⟩
  case moreValues =>
    obtain ⟨hf, h1, h2, _⟩ := hone.ok_range ho hp (Or.inr rfl)
    by_cases hg : o < next ∧ next ≤ b.size
    · rw [if_pos hg]; exact ⟨ctOK_next pf hok h1 h2, by omega, h2⟩
    · rw [if_neg hg]; exact fun h => by cases h
  all_goals exact fun h => by cases h

/-- a value list whose current element is not finished: OK means the offset has moved -/
theorem valsLoop_ok_gt {one : Buf → Nat → PFromBody → Nat × Err × PFromBody} (hone : NaOne one) (b : Buf)
    (offs : Nat) (c : PContacts) (hok : ctOK b offs c) (ho : offs ≤ b.size) (hnf : c.cur.state ≠ .fin)
    (hr : (valsLoop one b offs c).2.1 = .ok) : offs < (valsLoop one b offs c).1 := by
  rw [valsLoop_eq] at hr ⊢
  unfold valsStep at hr ⊢
  rcases hp : one b offs c.cur with ⟨next, e1, pf⟩
  rw [hp] at hr
  cases e1 <;> simp only at hr ⊢ <;> try (cases hr; done)
  case ok => exact (hone.ok_range ho hp (Or.inl rfl)).2.2.2 hnf
  case moreValues =>
    obtain ⟨hf, h1, h2, h3⟩ := hone.ok_range ho hp (Or.inr rfl)
    by_cases hg : offs < next ∧ next ≤ b.size
    · rw [if_pos hg] at hr ⊢
      have h4 : next ≤ (valsLoop one b next (c.next pf)).1 :=
        (valsLoop_post hone b next (c.next pf) (ctOK_next pf hok h1 h2) h2 hr).1
      exact Nat.lt_of_lt_of_le (h3 hnf) h4
    · rw [if_neg hg] at hr; cases hr

theorem valsAll_post {one : Buf → Nat → PFromBody → Nat × Err × PFromBody} (hone : NaOne one) (b : Buf)
    (offs : Nat) (c : PContacts) (hok : ctOK b offs c) (ho : offs ≤ b.size) {o' : Nat} {c' : PContacts}
    (hr : valsAll one b offs c = (o', .ok, c')) : offs ≤ o' ∧ o' ≤ b.size ∧ ctOK b o' c' := by
  have := valsLoop_post hone b offs c.wrap (ctOK_entry hok ho) ho (by rw [show valsLoop one b offs c.wrap = _ from hr])
  rwa [show valsLoop one b offs c.wrap = _ from hr] at this

theorem valsAll_ok_gt {one : Buf → Nat → PFromBody → Nat × Err × PFromBody} (hone : NaOne one) (b : Buf)
    (offs : Nat) (c : PContacts) (hok : ctOK b offs c) (ho : offs ≤ b.size) (hnf : c.cur.state ≠ .fin) {o' : Nat}
    {c' : PContacts} (hr : valsAll one b offs c = (o', .ok, c')) : offs < o' := by
  have := valsLoop_ok_gt hone b offs c.wrap (ctOK_entry hok ho) ho (by rw [wrap_id_of_pending c hnf]; exact hnf)
    (by rw [show valsLoop one b offs c.wrap = _ from hr])
  rwa [show valsLoop one b offs c.wrap = _ from hr] at this

theorem parseAllContactValues_post (b : Buf) (offs : Nat) (c : PContacts) (hok : ctOK b offs c)
    (ho : offs ≤ b.size) {o' : Nat} {c' : PContacts}
    (hr : parseAllContactValues b offs c = (o', .ok, c')) : offs ≤ o' ∧ o' ≤ b.size ∧ ctOK b o' c' := by
  rw [parseAllContactValues_eq_valsAll] at hr
  exact valsAll_post naOne_contact b offs c hok ho hr

theorem parseAllPAIValues_post (b : Buf) (offs : Nat) (c : PPAIs) (hok : paOK b offs c)
    (ho : offs ≤ b.size) {o' : Nat} {c' : PPAIs}
    (hr : parseAllPAIValues b offs c = (o', .ok, c')) : offs ≤ o' ∧ o' ≤ b.size ∧ paOK b o' c' := by
  rw [parseAllPAIValues_eq_valsAll] at hr
  rcases hv : valsAll parseOnePAI b offs c.toCt with ⟨n, e, d⟩
  rw [hv] at hr
  obtain ⟨rfl, rfl, rfl⟩ : n = o' ∧ e = Err.ok ∧ d.toPa = c' := by simpa [toPaR, Prod.ext_iff] using hr
  exact valsAll_post naOne_pai b offs c.toCt hok ho hv

theorem parseAllContactValues_ne_empty (b : Buf) (offs : Nat) (c : PContacts) :
    (parseAllContactValues b offs c).2.1 ≠ .empty :=
  ne_of_verdicts (parseAllContactValues_verdicts b offs c) (by decide)

theorem parseAllPAIValues_ne_empty (b : Buf) (offs : Nat) (c : PPAIs) :
    (parseAllPAIValues b offs c).2.1 ≠ .empty :=
  ne_of_verdicts (parseAllPAIValues_verdicts b offs c) (by decide)

theorem parseAllContactValues_ok_gt (b : Buf) (offs : Nat) (c : PContacts) (hok : ctOK b offs c)
    (ho : offs ≤ b.size) (hnf : c.cur.state ≠ .fin) {o' : Nat} {c' : PContacts}
    (hr : parseAllContactValues b offs c = (o', .ok, c')) : offs < o' := by
  rw [parseAllContactValues_eq_valsAll] at hr
  exact valsAll_ok_gt naOne_contact b offs c hok ho hnf hr

theorem parseAllPAIValues_ok_gt (b : Buf) (offs : Nat) (c : PPAIs) (hok : paOK b offs c)
    (ho : offs ≤ b.size) (hnf : c.cur.state ≠ .fin) {o' : Nat} {c' : PPAIs}
    (hr : parseAllPAIValues b offs c = (o', .ok, c')) : offs < o' := by
  rw [parseAllPAIValues_eq_valsAll] at hr
  rcases hv : valsAll parseOnePAI b offs c.toCt with ⟨n, e, d⟩
  rw [hv] at hr
  obtain ⟨rfl, rfl, rfl⟩ : n = o' ∧ e = Err.ok ∧ d.toPa = c' := by simpa [toPaR, Prod.ext_iff] using hr
  exact valsAll_ok_gt naOne_pai b offs c.toCt hok ho hnf hv

end Sipsp
