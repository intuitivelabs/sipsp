/-
  Sipsp.Proofs.Range — where the scalar header-value parsers stop: Call-ID and unsigned values return an offset in
  [start, len(buf)] whatever the verdict (`LwsCases.range` of LwsSite.lean), Content-Length and CSeq on MoreBytes (what
  their callers need); after MoreBytes the object is not final.
-/
import Sipsp.Proofs.CallID
import Sipsp.Proofs.UInt
import Sipsp.Proofs.CSeq

namespace Sipsp

theorem ciEOH_fst (s : PCallIDBody) (j n crl : Nat) : (ciEOH s j n crl).1 = n + crl := by
  unfold ciEOH; cases s.state <;> rfl
theorem clEOH_fst (s : PUIntBody) (j n crl : Nat) : (clEOH s j n crl).1 = n + crl := by
  unfold clEOH; cases s.state <;> rfl

theorem parseCallIDVal_range (b : Buf) (o : Nat) (st : PCallIDBody) (ho : o ≤ b.size) :
    o ≤ (parseCallIDVal b o st).1 ∧ (parseCallIDVal b o st).1 ≤ b.size := by
  unfold parseCallIDVal
  split
  · exact ⟨Nat.le_refl _, ho⟩
  · exact ciCases.range ciEOH_fst (fun _ _ _ => rfl) b o st ho

theorem parseUIntVal_range (b : Buf) (o : Nat) (st : PUIntBody) (ho : o ≤ b.size) :
    o ≤ (parseUIntVal b o st).1 ∧ (parseUIntVal b o st).1 ≤ b.size := by
  unfold parseUIntVal
  split
  · exact ⟨Nat.le_refl _, ho⟩
  · exact clCases.range clEOH_fst (fun _ _ _ => rfl) b o st ho

/-- ParseCLenVal: on MoreBytes (the only case its callers need) the offset is that of ParseUIntVal -/
theorem parseCLenVal_more_range (b : Buf) (o : Nat) (st : PUIntBody) (ho : o ≤ b.size)
    {o' : Nat} {st' : PUIntBody} (h : parseCLenVal b o st = (o', Err.moreBytes, st')) :
    o ≤ o' ∧ o' ≤ b.size := by
  have hr := parseUIntVal_range b o st ho
  rw [parseCLenVal_under' b o st h (fun hh => by cases hh)] at hr
  exact hr

theorem parseCSeqVal_more_range (b : Buf) (o : Nat) (st : PCSeqBody) (hok : csOK b o st)
    {o' : Nat} {st' : PCSeqBody} (h : parseCSeqVal b o st = (o', Err.moreBytes, st')) :
    o ≤ o' ∧ o' ≤ b.size := by
  rcases hok with hf | hI
  · unfold parseCSeqVal at h; rw [if_pos hf] at h; cases h
  · have := parseCSeqVal_ind b (S := fun j _ => o ≤ j ∧ j ≤ b.size) (T := fun n e _ => e = .moreBytes → o ≤ n ∧ n ≤ b.size)
      (mono := fun _ _ _ h _ hij hj => ⟨by omega, hj⟩) (closeNum := fun _ _ _ _ _ h _ => h)
      (closeMeth := fun _ _ _ h _ => h) (digit0 := fun _ _ _ hb _ h _ => ⟨by omega, get?_lt hb⟩)
      (digit := fun _ _ _ hb _ h _ _ => ⟨by omega, get?_lt hb⟩) (meth0 := fun _ _ _ hb _ h _ => ⟨by omega, get?_lt hb⟩)
      (eoh := fun i n crl s _ _ _ _ _ he => absurd he (csEOH_ne_more b s i n crl)) (more := fun _ _ h _ => h)
      (err := fun _ _ _ _ he hq => by subst hq; rcases he with h | h <;> cases h)
      o st ⟨Nat.le_refl _, hI.1⟩ (fun _ hq => by cases hq)
    rw [h] at this
    exact this rfl

theorem parseCallIDVal_more_notfin (b : Buf) (o : Nat) (st : PCallIDBody)
    {o' : Nat} {st' : PCallIDBody} (h : parseCallIDVal b o st = (o', Err.moreBytes, st')) :
    st'.state ≠ .fin := by
  unfold parseCallIDVal at h
  split at h
  · cases h
  · rename_i hf
    have := ci_more_not_fin b o st hf
    rw [h] at this; exact this rfl

theorem parseUIntVal_more_notfin (b : Buf) (o : Nat) (st : PUIntBody)
    {o' : Nat} {st' : PUIntBody} (h : parseUIntVal b o st = (o', Err.moreBytes, st')) :
    st'.state ≠ .fin := by
  unfold parseUIntVal at h
  split at h
  · cases h
  · rename_i hf
    have := cl_more_not_fin b o st hf
    rw [h] at this; exact this rfl

theorem parseCLenVal_more_notfin (b : Buf) (o : Nat) (st : PUIntBody)
    {o' : Nat} {st' : PUIntBody} (h : parseCLenVal b o st = (o', Err.moreBytes, st')) :
    st'.state ≠ .fin :=
  parseUIntVal_more_notfin b o st (parseCLenVal_under' b o st h (fun hh => by cases hh))

theorem parseCSeqVal_more_notfin (b : Buf) (o : Nat) (st : PCSeqBody) (hok : csOK b o st)
    {o' : Nat} {st' : PCSeqBody} (h : parseCSeqVal b o st = (o', Err.moreBytes, st')) :
    st'.state ≠ .fin := by
  unfold parseCSeqVal at h
  split at h
  · cases h
  · rename_i hf
    rcases hok with hok | hok
    · exact absurd hok hf
    · exact (cs_more_inv b o st hok hf h).2

end Sipsp
