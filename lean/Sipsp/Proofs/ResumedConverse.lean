/-
  Sipsp.Proofs.ResumedConverse — the ONE-CALL converse / soundness theorems of C09 (name-addr values, value lists) and
  C07 (header lines, header blocks) carried over to chains of RESUMED calls: EVERY chunk schedule.

  Setting.  `l : List Buf` with `Growing l` = the prefixes of the input the caller had in hand at the successive calls
  (any number of cuts, anywhere); `B` = the last one (`l.getLast? = some B`), the whole input; `resumeRun P o st l` = the
  caller's loop (call, on "more bytes" call again on the next prefix with the returned offset and object).  The start
  offset lies inside the first chunk (`∀ b ∈ l.head?, o ≤ b.size`); only `B` has to be within the 65,535-byte limit.
  Method (no new automaton proof): the schedule theorems of C02 (`RR`: the chain returns the offset and verdict of the
  fresh calls and, unless the verdict is an error, the very same object) + the L1 stability theorems (a definitive result
  on a prefix is the result on every extension) give `resumeRun_last` (Sipsp.Proofs.Schedule): the chain is `RR`-related
  to ONE call on the whole buffer `B` — same offset and verdict, and after OK / "more values" / "empty" / "more bytes"
  EXACTLY the same triple (`RR.iff`: the chain answers `r` iff ONE call on `B` does) — and the one-call theorems speak
  about that triple.

  C09: ParseNameAddrPVal of every kind from a new object (where a value ends: at the first top-level comma of `B`, or
  at a line end with no top-level comma before it); ParseAllContactValues / ParseAllPAIValues from a new object (the
  value text of `B` is cut at exactly its top-level commas, `NsSegs`; N, stored values, max / min expires over ALL
  pieces); header lines, blocks and messages: what every accepted line did to the two value lists (`RcLine`, `RcBlock`;
  one call first — these one-call theorems are proved here by composition —, then every schedule; for ParseSIPMsg from
  Init stated in the buffer of the call that finished and in the whole buffer `B`, with or without the first line).
  C07: line soundness, the line iff, the verdict list; block soundness, the block iff, what a block reports (under
  `HsGeneric B o hb`, and under `AfcGenericIn B o e hb` which assumes nothing about the bytes from the end `e` of the
  block on); the eight typed kinds with a values object, the value suspended ANYWHERE (the chain returns the verdict and
  offset of the value parser run on `B` after the colon with the ORIGINAL component, the values object changed in that
  one component only).
  The `_from` forms take any values object `hb` with `hbOK x o hb` on every chunk `x` (each component new, finished, or
  suspended before `o`: what ParseHeaders passes on between lines); the others a new values object whose contact array
  has any capacity, or none (`rcHb nil kc`).

  NOT proved here: chains whose FIRST call already starts inside a line / value (objects other than new ones at the
  start; C02 `resume_*` covers single steps); error verdicts at the end of a chain beyond offset, verdict and observable
  object; the message-level statement for schedules whose chunks exceed 65,535 bytes; which header index a Contact line
  has in the header list (`RcBlock` lists the lines in order with their events, `evs.length = hs.length`); soundness
  of the VALUE part of From / To / Call-ID / CSeq / Content-Length / Expires lines beyond what their value parsers'
  own theorems say (`rc_typed_*` reduce the chain to the value parser on `B`).
  Non-vacuity / tests (closed computations): a Contact list cut INSIDE a quoted string (`rcExACuts`), a From value cut
  INSIDE the tag (`rcExFCuts`), a header block cut in the Contact value, the Via line and the From tag (`rcExHCuts`), a
  whole message (`rcExMCuts`): every hypothesis of the schedule theorems holds of them.
-/
import Sipsp.Proofs.AuditFixB
import Sipsp.Proofs.NaSplit
import Sipsp.Proofs.HdrSound
import Sipsp.Proofs.HdrTyped

namespace Sipsp

/-- every buffer of a growing list is at least as long as the first one -/
theorem rc_size_all {l : List Buf} (hg : Growing l) {o : Nat} (h0 : ∀ b ∈ l.head?, o ≤ b.size) : ∀ x ∈ l, o ≤ x.size :=
  growing_all hg (H := fun b => o ≤ b.size) (fun b s h => by rw [Array.size_append]; omega) h0

/-! ### ParseNameAddrPVal (every header kind) over a chunk schedule, from a new object -/

theorem rc_nameaddr_resumableR (t : Nat) : ResumableR (parseNameAddrPVal t) naOK PFromBody.obs := by
  intro b s o st o' st' hI hr
  obtain ⟨h1, h2, _⟩ := parseNameAddrPVal_resumeR t b s o st hI hr
  exact ⟨h1, h2⟩

/-- every chunk schedule, ParseNameAddrPVal, from a new object: offset and verdict of the fresh calls, the very same
    object unless the verdict is an error (C02 `schedule_nameaddr` in the relational form) -/
theorem rc_nameaddr_schedule (t o : Nat) (l : List Buf) (hg : Growing l) (h0 : ∀ b ∈ l.head?, o ≤ b.size) :
    RR PFromBody.obs (resumeRun (parseNameAddrPVal t) o {} l) (oneShotRun (parseNameAddrPVal t) o {} l) :=
  resumeRun_eq_oneShotR (parseNameAddrPVal t) naOK PFromBody.obs (rc_nameaddr_resumableR t) o {} l hg
    (fun b hb => naOK_new b o (h0 b hb))

/-- **the chain of resumed calls ends in the triple of ONE call on the whole buffer** (verdicts OK, "more values",
    "more bytes") -/
theorem rc_nameaddr_last (t o : Nat) (l : List Buf) (hg : Growing l) (B : Buf) (hB : l.getLast? = some B)
    (h0 : ∀ b ∈ l.head?, o ≤ b.size) {o' : Nat} {e : Err} {pf' : PFromBody}
    (hr : resumeRun (parseNameAddrPVal t) o {} l = (o', e, pf')) (hgo : Err.goesOn e) :
    parseNameAddrPVal t B o {} = (o', e, pf') :=
  ((resumeRun_last (parseNameAddrPVal t) PFromBody.obs o {} l hg B hB (rc_nameaddr_schedule t o l hg h0)
    fun x hx s _ _ _ hp he =>
      parseNameAddrPVal_stable t x s o {} (naOK_new x o (rc_size_all hg h0 x hx)) hp he).iff (r := (o', e, pf')) hgo).1 hr

/-- **`value_ends_at_first_top_comma` over EVERY chunk schedule**: if the chain of resumed calls of
    ParseNameAddrPVal (new object; the buffers `l` are growing prefixes, the last one is `B`) ends with "more values" at
    `o'`, then in the WHOLE buffer `B`: the kind has several values, the byte before `o'` is a comma at top level of the
    text that starts at `o`, and no top-level comma occurs before it; the object is the one ONE call on `B` reports -/
theorem rc_value_more_schedule (h o : Nat) (l : List Buf) (hg : Growing l) (B : Buf) (hB : l.getLast? = some B)
    (h0 : ∀ b ∈ l.head?, o ≤ b.size) {o' : Nat} {pf' : PFromBody}
    (hr : resumeRun (parseNameAddrPVal h) o {} l = (o', .moreValues, pf')) :
    parseNameAddrPVal h B o {} = (o', .moreValues, pf') ∧
    multipleValsOk h = true ∧ o < o' ∧ B[o' - 1]? = some 44 ∧ NsTop B o (o' - 1) ∧ NsNoComma B o (o' - 1) := by
  have h1 := rc_nameaddr_last h o l hg B hB h0 hr (Or.inr (Or.inr (Or.inl rfl)))
  exact ⟨h1, ns_value_more h B o h1⟩

/-- **`value_ok_no_top_comma` over EVERY chunk schedule**: the chain ends with OK at `o'` ⇒ in the whole buffer
    `o'` follows a line end not followed by SP / HT and (kinds with several values) no top-level comma occurs in
    `[o, o')`; the object is the one ONE call on `B` reports -/
theorem rc_value_ok_schedule (h o : Nat) (l : List Buf) (hg : Growing l) (B : Buf) (hB : l.getLast? = some B)
    (h0 : ∀ b ∈ l.head?, o ≤ b.size) {o' : Nat} {pf' : PFromBody}
    (hr : resumeRun (parseNameAddrPVal h) o {} l = (o', .ok, pf')) :
    parseNameAddrPVal h B o {} = (o', .ok, pf') ∧ NsEol B o o' ∧ (multipleValsOk h = true → NsNoComma B o o') := by
  have h1 := rc_nameaddr_last h o l hg B hB h0 hr (Or.inl rfl)
  exact ⟨h1, ns_value_ok h B o h1⟩

/-- a kind with a single value never answers "more values", also at the end of a chain of resumed calls -/
theorem rc_single_never_more_schedule (h : Nat) (hmv : multipleValsOk h = false) (o : Nat) (l : List Buf)
    (hg : Growing l) (hne : l ≠ []) (h0 : ∀ b ∈ l.head?, o ≤ b.size) :
    (resumeRun (parseNameAddrPVal h) o {} l).2.1 ≠ .moreValues := by
  intro hm
  rcases hp : resumeRun (parseNameAddrPVal h) o {} l with ⟨o', e, pf'⟩
  rw [hp] at hm
  have hm' : e = .moreValues := hm
  subst hm'
  have h1 := rc_nameaddr_last h o l hg _ (List.getLast?_eq_some_getLast hne) h0 hp (.inr (.inr (.inl rfl)))
  exact ns_single_never_more h hmv _ o {} (by rw [h1])

/-! ### ParseAllContactValues / ParseAllPAIValues over a chunk schedule, from a new list object -/

theorem rc_contacts_last (o cap : Nat) (l : List Buf) (hg : Growing l) (B : Buf) (hB : l.getLast? = some B)
    (h0 : ∀ b ∈ l.head?, o ≤ b.size) {o' : Nat} {e : Err} {c' : PContacts}
    (hr : resumeRun parseAllContactValues o { vals := Array.replicate cap {} } l = (o', e, c')) (hgo : Err.goesOn e) :
    parseAllContactValues B o { vals := Array.replicate cap {} } = (o', e, c') :=
  ((resumeRun_last parseAllContactValues PContacts.obs o _ l hg B hB (afb_contacts_schedule o cap l hg h0)
    fun x hx s _ _ _ hp he =>
      parseAllContactValues_stable x s o _ (afb_ctOK_new x o (rc_size_all hg h0 x hx) cap)
        (rc_size_all hg h0 x hx) hp he).iff (r := (o', e, c')) hgo).1 hr

theorem rc_pais_last (o : Nat) (l : List Buf) (hg : Growing l) (B : Buf) (hB : l.getLast? = some B)
    (h0 : ∀ b ∈ l.head?, o ≤ b.size) {o' : Nat} {e : Err} {c' : PPAIs}
    (hr : resumeRun parseAllPAIValues o {} l = (o', e, c')) (hgo : Err.goesOn e) :
    parseAllPAIValues B o {} = (o', e, c') :=
  ((resumeRun_last parseAllPAIValues PPAIs.obs o _ l hg B hB (afb_pais_schedule o l hg h0)
    fun x hx s _ _ _ hp he =>
      parseAllPAIValues_stable x s o _ (afb_paOK_new x o (rc_size_all hg h0 x hx))
        (rc_size_all hg h0 x hx) hp he).iff (r := (o', e, c')) hgo).1 hr

/-- **`contact_list_converse` over EVERY chunk schedule.**  `l` = growing prefixes of the buffer `B` (its last
    element), `B` within the 65,535-byte limit, a new contacts object over a cleared array of ANY capacity `cap`, start
    offset inside the first chunk.  If the LAST call of the chain of resumed calls answers OK at `o'` with object `c'`,
    then `c'` is the object of ONE call on `B`, and in `B` there is a list `L` of pieces (start, reported value):
    the value text is cut at exactly its top-level commas (`NsSegs`), every reported `V` lies inside its piece and starts
    at its first non-white-space byte, `N` = number of pieces = 1 + number of top-level commas of `[o, o')`, the stored
    values are the reports for the first `cap` pieces in order, max / min expires range over ALL pieces. -/
theorem rc_contact_list_converse_schedule (o cap : Nat) (l : List Buf) (hg : Growing l) (B : Buf)
    (hB : l.getLast? = some B) (hfit : B.size ≤ 65535) (h0 : ∀ b ∈ l.head?, o ≤ b.size)
    {o' : Nat} {c' : PContacts}
    (hr : resumeRun parseAllContactValues o { vals := Array.replicate cap {} } l = (o', .ok, c')) :
    parseAllContactValues B o { vals := Array.replicate cap {} } = (o', .ok, c') ∧
    ∃ L : List (Nat × PFromBody), NsSegs HdrContact B o L o' ∧ NsVSpans B L o' ∧
      (∀ x ∈ L, Run isLWSch B x.1 x.2.v.offs) ∧
      c'.n = L.length ∧ c'.n = nsCommaCount B o o' + 1 ∧
      (∀ i (hi : i < L.length), i < cap → c'.vals[i]! = L[i].2) ∧
      c'.maxExpires = L.foldl (fun m x => max m x.2.expires) 0 ∧
      c'.minExpires = L.foldl (fun m x => min m x.2.expires) 4294967295 := by
  have h1 := rc_contacts_last o cap l hg B hB h0 hr (Or.inl rfl)
  have hoB : o ≤ B.size := rc_size_all hg h0 B (List.mem_of_getLast? hB)
  exact ⟨h1, parseAllContactValues_new_converse B o cap hfit hoB h1⟩

/-- **`pai_list_converse` over EVERY chunk schedule** (two slots; `N` counts all pieces; no accepted value is `*`) -/
theorem rc_pai_list_converse_schedule (o : Nat) (l : List Buf) (hg : Growing l) (B : Buf)
    (hB : l.getLast? = some B) (hfit : B.size ≤ 65535) (h0 : ∀ b ∈ l.head?, o ≤ b.size)
    {o' : Nat} {c' : PPAIs} (hr : resumeRun parseAllPAIValues o {} l = (o', .ok, c')) :
    parseAllPAIValues B o {} = (o', .ok, c') ∧
    ∃ L : List (Nat × PFromBody), NsSegs HdrPAI B o L o' ∧ NsVSpans B L o' ∧
      (∀ x ∈ L, Run isLWSch B x.1 x.2.v.offs) ∧ (∀ x ∈ L, x.2.star = false) ∧
      c' = ({} : PPAIs).acceptAll (L.map Prod.snd) ∧ c'.n = L.length ∧ c'.n = nsCommaCount B o o' + 1 := by
  have h1 := rc_pais_last o l hg B hB h0 hr (Or.inl rfl)
  have hoB : o ≤ B.size := rc_size_all hg h0 B (List.mem_of_getLast? hB)
  exact ⟨h1, parseAllPAIValues_new_converse B o hfit hoB h1⟩

/-- the segments and the count alone (no size limit on the buffer) -/
theorem rc_contact_list_segments_schedule (o cap : Nat) (l : List Buf) (hg : Growing l) (B : Buf)
    (hB : l.getLast? = some B) (h0 : ∀ b ∈ l.head?, o ≤ b.size) {o' : Nat} {c' : PContacts}
    (hr : resumeRun parseAllContactValues o { vals := Array.replicate cap {} } l = (o', .ok, c')) :
    (∃ L, NsSegs HdrContact B o L o' ∧
      c' = ({ vals := Array.replicate cap {} } : PContacts).acceptAll (L.map Prod.snd)) ∧
    c'.n = 1 + nsCommaCount B o o' := by
  have h1 := rc_contacts_last o cap l hg B hB h0 hr (Or.inl rfl)
  have hnew := ct_new_ok cap
  refine ⟨parseAllContactValues_segs B o _ hnew.1 hnew.2 h1, ?_⟩
  have := parseAllContactValues_count B o _ hnew.1 hnew.2 h1
  rw [this]

theorem rc_pai_list_segments_schedule (o : Nat) (l : List Buf) (hg : Growing l) (B : Buf)
    (hB : l.getLast? = some B) (h0 : ∀ b ∈ l.head?, o ≤ b.size) {o' : Nat} {c' : PPAIs}
    (hr : resumeRun parseAllPAIValues o {} l = (o', .ok, c')) :
    (∃ L, NsSegs HdrPAI B o L o' ∧ c' = ({} : PPAIs).acceptAll (L.map Prod.snd) ∧ ∀ x ∈ L, x.2.star = false) ∧
    c'.n = 1 + nsCommaCount B o o' := by
  have h1 := rc_pais_last o l hg B hB h0 hr (Or.inl rfl)
  refine ⟨parseAllPAIValues_segs B o _ pa_new_ok.1 pa_new_ok.2 h1, ?_⟩
  have := parseAllPAIValues_count B o _ pa_new_ok.1 pa_new_ok.2 h1
  rw [this]

/-! ### ParseHdrLine / ParseHeaders over a chunk schedule (C07)

  `afbHdrLineP` / `afbHeadersP` are ParseHdrLine / ParseHeaders as streaming parsers over the pair (header or header
  list, values object or none).  `rcHb nil kc` = no values object (`nil = true`) or a new one whose contact array has
  capacity `kc`; the `_from` forms take ANY values object that is legitimate at the start offset (`hbOK`: every
  component new, finished, or suspended before the offset — what ParseHeaders hands to ParseHdrLine between lines). -/

/-- no values object, or a new one over a cleared contact array of capacity `kc` -/
def rcHb (nil : Bool) (kc : Nat) : Option PHdrVals := if nil then none else some (afbNewHv kc)

/-- **ParseHdrLine, every chunk schedule, new header object, any legitimate values object**: the chain of resumed calls
    against ONE call on the whole buffer — same offset and verdict; after OK / "empty" / "more bytes" EXACTLY the same
    header and values object, also when a typed value (From, CSeq, Contact list, …) was suspended in its middle -/
theorem rc_hdrline_rr (o : Nat) (hb : Option PHdrVals) (l : List Buf) (hg : Growing l) (B : Buf)
    (hB : l.getLast? = some B) (hok : ∀ x ∈ l, o ≤ x.size ∧ hbOK x o hb) :
    RR hlObs (resumeRun afbHdrLineP o ({}, hb) l) (afbHdrLineP B o ({}, hb)) :=
  resumeRun_last afbHdrLineP hlObs o ({}, hb) l hg B hB
    (afb_hdrline_schedule_from o {} hb l hg fun b hbm =>
      ⟨⟨(hok b (List.mem_of_mem_head? hbm)).1, hdrOK_new b, (hok b (List.mem_of_mem_head? hbm)).2⟩,
       hlPending_of_not_isVal (by simp [HState.isVal])⟩)
    fun x hx s _ _ st' hp he =>
      parseHdrLine_stable x s o {} hb ⟨(hok x hx).1, hdrOK_new x, (hok x hx).2⟩ (h' := st'.1) (hb' := st'.2) hp he

/-- **the chain answers `r` iff ONE call on the whole buffer answers `r`**, for a verdict that is not an error -/
theorem rc_hdrline_iff (o : Nat) (hb : Option PHdrVals) (l : List Buf) (hg : Growing l) (B : Buf)
    (hB : l.getLast? = some B) (hok : ∀ x ∈ l, o ≤ x.size ∧ hbOK x o hb) {e : Nat} {er : Err} {h : Hdr}
    {hb' : Option PHdrVals} (hgo : Err.goesOn er) :
    resumeRun afbHdrLineP o ({}, hb) l = (e, er, h, hb') ↔ parseHdrLine B o {} hb = (e, er, h, hb') :=
  (rc_hdrline_rr o hb l hg B hB hok).iff (r := (e, er, h, hb')) hgo

theorem rc_hbOK_all (o kc : Nat) (nil : Bool) {l : List Buf} (hg : Growing l) (h0 : ∀ b ∈ l.head?, o ≤ b.size) :
    ∀ x ∈ l, o ≤ x.size ∧ hbOK x o (rcHb nil kc) :=
  fun x hx => ⟨rc_size_all hg h0 x hx, afb_hbOK_new x o (rc_size_all hg h0 x hx) kc nil⟩

/-- **`line_sound` over EVERY chunk schedule** (generic treatment: no values object, or the name at `o` in the whole
    buffer is not one of the eight typed kinds): the chain ends with OK at `e` ⇒ the text at `o` of the WHOLE buffer is
    a header line of the grammar ending at `e`, the reported header is the one it denotes, the values object is
    untouched -/
theorem rc_line_sound_schedule_from (o : Nat) (hb : Option PHdrVals) (l : List Buf) (hg : Growing l) (B : Buf)
    (hB : l.getLast? = some B) (hfit : B.size ≤ 65535) (hok : ∀ x ∈ l, o ≤ x.size ∧ hbOK x o hb)
    (hgen : hb = none ∨ IsOther (getHdrType (B.extract o (skipTokenDelim B o 58))))
    {e : Nat} {h : Hdr} {hb' : Option PHdrVals} (hr : resumeRun afbHdrLineP o ({}, hb) l = (e, .ok, h, hb')) :
    HdrLineAt B o e h ∧ hb' = hb := by
  have h1 := (rc_hdrline_iff o hb l hg B hB hok (Or.inl rfl)).mp hr
  exact hs_line_sound B o hb hfit hgen h1

theorem rc_line_sound_schedule (o kc : Nat) (nil : Bool) (l : List Buf) (hg : Growing l) (B : Buf)
    (hB : l.getLast? = some B) (hfit : B.size ≤ 65535) (h0 : ∀ b ∈ l.head?, o ≤ b.size)
    (hgen : nil = true ∨ IsOther (getHdrType (B.extract o (skipTokenDelim B o 58))))
    {e : Nat} {h : Hdr} {hb' : Option PHdrVals}
    (hr : resumeRun afbHdrLineP o ({}, rcHb nil kc) l = (e, .ok, h, hb')) :
    HdrLineAt B o e h ∧ hb' = rcHb nil kc :=
  rc_line_sound_schedule_from o _ l hg B hB hfit (rc_hbOK_all o kc nil hg h0)
    (hgen.imp (fun hn => by rw [hn]; rfl) id) hr

/-- the same with the positions spelled out (`line_sound_explicit`) -/
theorem rc_line_sound_explicit_schedule (o kc : Nat) (nil : Bool) (l : List Buf) (hg : Growing l) (B : Buf)
    (hB : l.getLast? = some B) (hfit : B.size ≤ 65535) (h0 : ∀ b ∈ l.head?, o ≤ b.size)
    (hgen : nil = true ∨ IsOther (getHdrType (B.extract o (skipTokenDelim B o 58))))
    {e : Nat} {h : Hdr} {hb' : Option PHdrVals}
    (hr : resumeRun afbHdrLineP o ({}, rcHb nil kc) l = (e, .ok, h, hb')) :
    ∃ n c p, ∃ c2 : UInt8, NameRun B o n ∧ o < n ∧ WsRun B n c ∧ n ≤ c ∧ B[c]? = some 58 ∧ Eol B p e ∧
      B[e]? = some c2 ∧ isWS c2 = false ∧
      h.name = ⟨o, n - o⟩ ∧ h.type = getHdrType (B.extract o n) ∧ h.state = .fin ∧ h.pnc = false ∧
      hb' = rcHb nil kc ∧
      ((∃ v ve, Lws B (c + 1) v ∧ ValRun B v ve p ∧ h.val = ⟨v, ve - v⟩) ∨ (Lws B (c + 1) p ∧ h.val = {})) := by
  have h1 := (rc_hdrline_iff o _ l hg B hB (rc_hbOK_all o kc nil hg h0) (Or.inl rfl)).mp hr
  exact hs_line_sound_explicit B o _ hfit (hgen.imp (fun hn => by rw [hn]; rfl) id) h1

/-- **accepted by the chain iff a line of the grammar in the whole buffer** (`line_ok_iff` over every schedule) -/
theorem rc_line_ok_iff_schedule (o kc : Nat) (nil : Bool) (l : List Buf) (hg : Growing l) (B : Buf)
    (hB : l.getLast? = some B) (hfit : B.size ≤ 65535) (h0 : ∀ b ∈ l.head?, o ≤ b.size)
    (hgen : nil = true ∨ IsOther (getHdrType (B.extract o (skipTokenDelim B o 58))))
    (e : Nat) (h : Hdr) (hb' : Option PHdrVals) :
    resumeRun afbHdrLineP o ({}, rcHb nil kc) l = (e, .ok, h, hb') ↔ HdrLineAt B o e h ∧ hb' = rcHb nil kc := by
  constructor
  · exact rc_line_sound_schedule o kc nil l hg B hB hfit h0 hgen
  · intro H
    have hp := (hs_line_ok_iff B o (rcHb nil kc) hfit (hgen.imp (fun hn => by rw [hn]; rfl) id) e h hb').mpr H
    exact (rc_hdrline_iff o _ l hg B hB (rc_hbOK_all o kc nil hg h0) (.inl rfl)).mpr hp

/-- the "empty" verdict at the end of a chain: exactly the empty line of the whole buffer (ANY values object) -/
theorem rc_line_empty_schedule_from (o : Nat) (hb : Option PHdrVals) (l : List Buf) (hg : Growing l) (B : Buf)
    (hB : l.getLast? = some B) (hfit : B.size ≤ 65535) (hok : ∀ x ∈ l, o ≤ x.size ∧ hbOK x o hb)
    {e : Nat} {h : Hdr} {hb' : Option PHdrVals} (hr : resumeRun afbHdrLineP o ({}, hb) l = (e, .empty, h, hb')) :
    EmptyLine B o e ∧ h = { state := .fin } ∧ hb' = hb := by
  have h1 := (rc_hdrline_iff o hb l hg B hB hok (Or.inr (Or.inr (Or.inr rfl)))).mp hr
  exact hs_line_empty_all B o hb hfit h1

/-- the verdicts of a chain (generic treatment): OK, "empty", "more bytes" or the error "bad character" -/
theorem rc_line_verdicts_schedule (o kc : Nat) (nil : Bool) (l : List Buf) (hg : Growing l) (B : Buf)
    (hB : l.getLast? = some B) (hfit : B.size ≤ 65535) (h0 : ∀ b ∈ l.head?, o ≤ b.size)
    (hgen : nil = true ∨ IsOther (getHdrType (B.extract o (skipTokenDelim B o 58)))) :
    (resumeRun afbHdrLineP o ({}, rcHb nil kc) l).2.1 = .ok ∨ (resumeRun afbHdrLineP o ({}, rcHb nil kc) l).2.1 = .empty ∨
    (resumeRun afbHdrLineP o ({}, rcHb nil kc) l).2.1 = .moreBytes ∨
    (resumeRun afbHdrLineP o ({}, rcHb nil kc) l).2.1 = .badChar := by
  have hv : _ = (parseHdrLine B o {} (rcHb nil kc)).2.1 := (rc_hdrline_rr o _ l hg B hB (rc_hbOK_all o kc nil hg h0)).2.1
  rw [hv]
  rcases hp : parseHdrLine B o {} (rcHb nil kc) with ⟨e, er, h, hb'⟩
  exact hs_line_verdicts B o _ hfit (hgen.imp (fun hn => by rw [hn]; rfl) id) hp

/-- **name and type of ANY line accepted by a chain** (with or without a values object, typed or not, the value
    suspended anywhere): non-empty name, SP / HT, colon in the whole buffer; reported name = that text, reported type =
    its classification, header finished -/
theorem rc_line_name_type_schedule_from (o : Nat) (hb : Option PHdrVals) (l : List Buf) (hg : Growing l) (B : Buf)
    (hB : l.getLast? = some B) (hfit : B.size ≤ 65535) (hok : ∀ x ∈ l, o ≤ x.size ∧ hbOK x o hb)
    {e : Nat} {h : Hdr} {hb' : Option PHdrVals} (hr : resumeRun afbHdrLineP o ({}, hb) l = (e, .ok, h, hb')) :
    ∃ n c, NameRun B o n ∧ o < n ∧ WsRun B n c ∧ n ≤ c ∧ B[c]? = some 58 ∧ h.name = ⟨o, n - o⟩ ∧
      h.type = getHdrType (B.extract o n) ∧ h.state = .fin := by
  have h1 := (rc_hdrline_iff o hb l hg B hB hok (Or.inl rfl)).mp hr
  exact hs_line_name_type_sound B o hb hfit h1

/-- … and if the REPORTED type is not one of the eight typed kinds, the whole line is a line of the grammar -/
theorem rc_line_sound_reported_schedule_from (o : Nat) (hb : Option PHdrVals) (l : List Buf) (hg : Growing l)
    (B : Buf) (hB : l.getLast? = some B) (hfit : B.size ≤ 65535) (hok : ∀ x ∈ l, o ≤ x.size ∧ hbOK x o hb)
    {e : Nat} {h : Hdr} {hb' : Option PHdrVals} (hr : resumeRun afbHdrLineP o ({}, hb) l = (e, .ok, h, hb'))
    (ht : IsOther h.type) : HdrLineAt B o e h ∧ hb' = hb := by
  have h1 := (rc_hdrline_iff o hb l hg B hB hok (Or.inl rfl)).mp hr
  exact hs_line_sound_reported B o hb hfit h1 ht

/-! #### the eight typed kinds, values object supplied, the value suspended ANYWHERE (`typed_*` of C07 over a schedule)

  For a line `name [SP/HT] ":" …` of the whole buffer `B` whose name classifies as the type, a new header object and a
  legitimate values object whose component is not yet parsed: whenever the value parser, started after the colon on the
  WHOLE buffer with the ORIGINAL component, returns a verdict that is not an error, the chain of resumed ParseHdrLine
  calls over ANY chunk schedule returns exactly that verdict and offset, the header `htHdr` (name as written, type,
  `val` = the value parser's span and finished iff OK), and the values object changed in that one component only —
  the component being the one the value parser reports for the whole buffer. (The From parser is named by its model
  definition `parseFromVal` = `parseNameAddrPVal HdrFrom`; the model has no such abbreviation for To.) -/

theorem rc_typed_from_schedule (o n c : Nat) (hv : PHdrVals) (l : List Buf) (hg : Growing l) (B : Buf)
    (hB : l.getLast? = some B) (hfit : B.size ≤ 65535) (hok : ∀ x ∈ l, o ≤ x.size ∧ hvOK x o hv)
    (hname : NameRun B o n) (hon : o < n) (hws : WsRun B n c) (hnc : n ≤ c) (hcolon : B[c]? = some 58)
    (ht : getHdrType (B.extract o n) = HdrFrom) (hnp : hv.from_.parsed = false) {n' : Nat} {e : Err} {f : PFromBody}
    (hp : parseFromVal B (c + 1) hv.from_ = (n', e, f)) (hgo : Err.goesOn e) :
    resumeRun afbHdrLineP o ({}, some hv) l = (n', e, htHdr HdrFrom o n .hFrom e f.v, some { hv with from_ := f }) :=
  (rc_hdrline_iff o (some hv) l hg B hB hok hgo).mpr
    (ht_line_from B o n c hv hfit hname hon hws hnc hcolon ht hnp hp)

theorem rc_typed_to_schedule (o n c : Nat) (hv : PHdrVals) (l : List Buf) (hg : Growing l) (B : Buf)
    (hB : l.getLast? = some B) (hfit : B.size ≤ 65535) (hok : ∀ x ∈ l, o ≤ x.size ∧ hvOK x o hv)
    (hname : NameRun B o n) (hon : o < n) (hws : WsRun B n c) (hnc : n ≤ c) (hcolon : B[c]? = some 58)
    (ht : getHdrType (B.extract o n) = HdrTo) (hnp : hv.to.parsed = false) {n' : Nat} {e : Err} {f : PFromBody}
    (hp : parseNameAddrPVal HdrTo B (c + 1) hv.to = (n', e, f)) (hgo : Err.goesOn e) :
    resumeRun afbHdrLineP o ({}, some hv) l = (n', e, htHdr HdrTo o n .hTo e f.v, some { hv with to := f }) :=
  (rc_hdrline_iff o (some hv) l hg B hB hok hgo).mpr
    (ht_line_to B o n c hv hfit hname hon hws hnc hcolon ht hnp hp)

theorem rc_typed_callid_schedule (o n c : Nat) (hv : PHdrVals) (l : List Buf) (hg : Growing l) (B : Buf)
    (hB : l.getLast? = some B) (hfit : B.size ≤ 65535) (hok : ∀ x ∈ l, o ≤ x.size ∧ hvOK x o hv)
    (hname : NameRun B o n) (hon : o < n) (hws : WsRun B n c) (hnc : n ≤ c) (hcolon : B[c]? = some 58)
    (ht : getHdrType (B.extract o n) = HdrCallID) (hnp : hv.callid.parsed = false) {n' : Nat} {e : Err} {f : PCallIDBody}
    (hp : parseCallIDVal B (c + 1) hv.callid = (n', e, f)) (hgo : Err.goesOn e) :
    resumeRun afbHdrLineP o ({}, some hv) l = (n', e, htHdr HdrCallID o n .hCallID e f.callID, some { hv with callid := f }) :=
  (rc_hdrline_iff o (some hv) l hg B hB hok hgo).mpr
    (ht_line_callid B o n c hv hfit hname hon hws hnc hcolon ht hnp hp)

theorem rc_typed_cseq_schedule (o n c : Nat) (hv : PHdrVals) (l : List Buf) (hg : Growing l) (B : Buf)
    (hB : l.getLast? = some B) (hfit : B.size ≤ 65535) (hok : ∀ x ∈ l, o ≤ x.size ∧ hvOK x o hv)
    (hname : NameRun B o n) (hon : o < n) (hws : WsRun B n c) (hnc : n ≤ c) (hcolon : B[c]? = some 58)
    (ht : getHdrType (B.extract o n) = HdrCSeq) (hnp : hv.cseq.parsed = false) {n' : Nat} {e : Err} {f : PCSeqBody}
    (hp : parseCSeqVal B (c + 1) hv.cseq = (n', e, f)) (hgo : Err.goesOn e) :
    resumeRun afbHdrLineP o ({}, some hv) l = (n', e, htHdr HdrCSeq o n .hCSeq e f.v, some { hv with cseq := f }) :=
  (rc_hdrline_iff o (some hv) l hg B hB hok hgo).mpr
    (ht_line_cseq B o n c hv hfit hname hon hws hnc hcolon ht hnp hp)

theorem rc_typed_clen_schedule (o n c : Nat) (hv : PHdrVals) (l : List Buf) (hg : Growing l) (B : Buf)
    (hB : l.getLast? = some B) (hfit : B.size ≤ 65535) (hok : ∀ x ∈ l, o ≤ x.size ∧ hvOK x o hv)
    (hname : NameRun B o n) (hon : o < n) (hws : WsRun B n c) (hnc : n ≤ c) (hcolon : B[c]? = some 58)
    (ht : getHdrType (B.extract o n) = HdrCLen) (hnp : hv.clen.parsed = false) {n' : Nat} {e : Err} {f : PUIntBody}
    (hp : parseCLenVal B (c + 1) hv.clen = (n', e, f)) (hgo : Err.goesOn e) :
    resumeRun afbHdrLineP o ({}, some hv) l = (n', e, htHdr HdrCLen o n .hCLen e f.sVal, some { hv with clen := f }) :=
  (rc_hdrline_iff o (some hv) l hg B hB hok hgo).mpr
    (ht_line_clen B o n c hv hfit hname hon hws hnc hcolon ht hnp hp)

theorem rc_typed_expires_schedule (o n c : Nat) (hv : PHdrVals) (l : List Buf) (hg : Growing l) (B : Buf)
    (hB : l.getLast? = some B) (hfit : B.size ≤ 65535) (hok : ∀ x ∈ l, o ≤ x.size ∧ hvOK x o hv)
    (hname : NameRun B o n) (hon : o < n) (hws : WsRun B n c) (hnc : n ≤ c) (hcolon : B[c]? = some 58)
    (ht : getHdrType (B.extract o n) = HdrExpires) (hnp : hv.expires.parsed = false) {n' : Nat} {e : Err} {f : PUIntBody}
    (hp : parseUIntVal B (c + 1) hv.expires = (n', e, f)) (hgo : Err.goesOn e) :
    resumeRun afbHdrLineP o ({}, some hv) l = (n', e, htHdr HdrExpires o n .hExpires e f.sVal, some { hv with expires := f }) :=
  (rc_hdrline_iff o (some hv) l hg B hB hok hgo).mpr
    (ht_line_expires B o n c hv hfit hname hon hws hnc hcolon ht hnp hp)

theorem rc_typed_contact_schedule (o n c : Nat) (hv : PHdrVals) (l : List Buf) (hg : Growing l) (B : Buf)
    (hB : l.getLast? = some B) (hfit : B.size ≤ 65535) (hok : ∀ x ∈ l, o ≤ x.size ∧ hvOK x o hv)
    (hname : NameRun B o n) (hon : o < n) (hws : WsRun B n c) (hnc : n ≤ c) (hcolon : B[c]? = some 58)
    (ht : getHdrType (B.extract o n) = HdrContact) {n' : Nat} {e : Err} {f : PContacts}
    (hp : parseAllContactValues B (c + 1) hv.contacts.htBump = (n', e, f)) (hgo : Err.goesOn e) :
    resumeRun afbHdrLineP o ({}, some hv) l = (n', e, htHdr HdrContact o n .hContact e f.lastHVal, some { hv with contacts := f }) :=
  (rc_hdrline_iff o (some hv) l hg B hB hok hgo).mpr
    (ht_line_contact B o n c hv hfit hname hon hws hnc hcolon ht hp)

theorem rc_typed_pai_schedule (o n c : Nat) (hv : PHdrVals) (l : List Buf) (hg : Growing l) (B : Buf)
    (hB : l.getLast? = some B) (hfit : B.size ≤ 65535) (hok : ∀ x ∈ l, o ≤ x.size ∧ hvOK x o hv)
    (hname : NameRun B o n) (hon : o < n) (hws : WsRun B n c) (hnc : n ≤ c) (hcolon : B[c]? = some 58)
    (ht : getHdrType (B.extract o n) = HdrPAI) {n' : Nat} {e : Err} {f : PPAIs}
    (hp : parseAllPAIValues B (c + 1) hv.pais.htBump = (n', e, f)) (hgo : Err.goesOn e) :
    resumeRun afbHdrLineP o ({}, some hv) l = (n', e, htHdr HdrPAI o n .hPAI e f.lastHVal, some { hv with pais := f }) :=
  (rc_hdrline_iff o (some hv) l hg B hB hok hgo).mpr
    (ht_line_pai B o n c hv hfit hname hon hws hnc hcolon ht hp)

/-! #### … instantiated with the C09 value grammars (`from_value`, `to_value`, `contact_values_line`, `pai_values_line`
  of C07 / C09 over a schedule): a well-formed value is reported the same however the line is cut -/

theorem rc_from_value_schedule (o n c o' : Nat) (r : PFromBody) (hv : PHdrVals) (l : List Buf) (hg : Growing l)
    (B : Buf) (hB : l.getLast? = some B) (hfit : B.size ≤ 65535) (hok : ∀ x ∈ l, o ≤ x.size ∧ hvOK x o hv)
    (hname : NameRun B o n) (hon : o < n) (hws : WsRun B n c) (hnc : n ≤ c) (hcolon : B[c]? = some 58)
    (ht : getHdrType (B.extract o n) = HdrFrom) (hnew : hv.from_ = {}) (H : NAValue HdrFrom B (c + 1) o' .ok r) :
    resumeRun afbHdrLineP o ({}, some hv) l =
      (o', .ok, hdrAt HdrFrom o n r.v .fin, some { hv with from_ := r }) :=
  (rc_hdrline_iff o (some hv) l hg B hB hok (Or.inl rfl)).mpr
    (ht_from_value B o n c o' r hv hfit hname hon hws hnc hcolon ht hnew H)

theorem rc_to_value_schedule (o n c o' : Nat) (r : PFromBody) (hv : PHdrVals) (l : List Buf) (hg : Growing l)
    (B : Buf) (hB : l.getLast? = some B) (hfit : B.size ≤ 65535) (hok : ∀ x ∈ l, o ≤ x.size ∧ hvOK x o hv)
    (hname : NameRun B o n) (hon : o < n) (hws : WsRun B n c) (hnc : n ≤ c) (hcolon : B[c]? = some 58)
    (ht : getHdrType (B.extract o n) = HdrTo) (hnew : hv.to = {}) (H : NAValue HdrTo B (c + 1) o' .ok r) :
    resumeRun afbHdrLineP o ({}, some hv) l =
      (o', .ok, hdrAt HdrTo o n r.v .fin, some { hv with to := r }) :=
  (rc_hdrline_iff o (some hv) l hg B hB hok (Or.inl rfl)).mpr
    (ht_to_value B o n c o' r hv hfit hname hon hws hnc hcolon ht hnew H)

theorem rc_contact_values_schedule (o n c o' : Nat) (rs : List PFromBody) (hv : PHdrVals) (l : List Buf)
    (hg : Growing l) (B : Buf) (hB : l.getLast? = some B) (hfit : B.size ≤ 65535)
    (hok : ∀ x ∈ l, o ≤ x.size ∧ hvOK x o hv)
    (hname : NameRun B o n) (hon : o < n) (hws : WsRun B n c) (hnc : n ≤ c) (hcolon : B[c]? = some 58)
    (ht : getHdrType (B.extract o n) = HdrContact) (hr : HtCtReady hv.contacts)
    (H : ValList HdrContact B (c + 1) rs o') :
    resumeRun afbHdrLineP o ({}, some hv) l =
      (o', .ok, hdrAt HdrContact o n (htSpan rs) .fin, some { hv with contacts := hv.contacts.htLine rs }) :=
  (rc_hdrline_iff o (some hv) l hg B hB hok (Or.inl rfl)).mpr
    (ht_contact_values B o n c o' rs hv hfit hname hon hws hnc hcolon ht hr H)

theorem rc_pai_values_schedule (o n c o' : Nat) (rs : List PFromBody) (hv : PHdrVals) (l : List Buf)
    (hg : Growing l) (B : Buf) (hB : l.getLast? = some B) (hfit : B.size ≤ 65535)
    (hok : ∀ x ∈ l, o ≤ x.size ∧ hvOK x o hv)
    (hname : NameRun B o n) (hon : o < n) (hws : WsRun B n c) (hnc : n ≤ c) (hcolon : B[c]? = some 58)
    (ht : getHdrType (B.extract o n) = HdrPAI) (hr : HtPaReady hv.pais) (H : ValList HdrPAI B (c + 1) rs o') :
    resumeRun afbHdrLineP o ({}, some hv) l =
      (o', .ok, hdrAt HdrPAI o n (htSpan rs) .fin, some { hv with pais := hv.pais.htLine rs }) :=
  (rc_hdrline_iff o (some hv) l hg B hB hok (Or.inl rfl)).mpr
    (ht_pai_values B o n c o' rs hv hfit hname hon hws hnc hcolon ht hr H)

/-! #### ParseHeaders over a chunk schedule, new header list of any capacity (`hsNew kh`) -/

/-- **ParseHeaders, every chunk schedule, new list of any capacity, any legitimate values object**: the chain of resumed
    calls against ONE call on the whole buffer -/
theorem rc_headers_rr (o kh : Nat) (hb : Option PHdrVals) (l : List Buf) (hg : Growing l) (B : Buf)
    (hB : l.getLast? = some B) (hok : ∀ x ∈ l, o ≤ x.size ∧ hbOK x o hb) :
    RR hdrsObs (resumeRun afbHeadersP o (hsNew kh, hb) l) (afbHeadersP B o (hsNew kh, hb)) :=
  resumeRun_last afbHeadersP hdrsObs o (hsNew kh, hb) l hg B hB
    (afb_headers_schedule_from o _ hb l hg fun b hbm =>
      afb_headersInv_new_from b o (hok b (List.mem_of_mem_head? hbm)).1 kh hb (hok b (List.mem_of_mem_head? hbm)).2)
    fun x hx s _ _ st' hp he =>
      parseHeaders_stable x s o (hsNew kh) hb (afb_headersInv_new_from x o (hok x hx).1 kh hb (hok x hx).2).1 (hok x hx).2
        (hl' := st'.1) (hb' := st'.2) hp he

theorem rc_headers_iff (o kh : Nat) (hb : Option PHdrVals) (l : List Buf) (hg : Growing l) (B : Buf)
    (hB : l.getLast? = some B) (hok : ∀ x ∈ l, o ≤ x.size ∧ hbOK x o hb) {e : Nat} {er : Err} {hl' : HdrLst}
    {hb' : Option PHdrVals} (hgo : Err.goesOn er) :
    resumeRun afbHeadersP o (hsNew kh, hb) l = (e, er, hl', hb') ↔ parseHeaders B o (hsNew kh) hb = (e, er, hl', hb') :=
  (rc_headers_rr o kh hb l hg B hB hok).iff (r := (e, er, hl', hb')) hgo

theorem rc_headers_verdict_from (o kh : Nat) (hb : Option PHdrVals) (l : List Buf) (hg : Growing l) (B : Buf)
    (hB : l.getLast? = some B) (hok : ∀ x ∈ l, o ≤ x.size ∧ hbOK x o hb) :
    (resumeRun afbHeadersP o (hsNew kh, hb) l).1 = (parseHeaders B o (hsNew kh) hb).1 ∧
    (resumeRun afbHeadersP o (hsNew kh, hb) l).2.1 = (parseHeaders B o (hsNew kh) hb).2.1 :=
  ⟨(rc_headers_rr o kh hb l hg B hB hok).1, (rc_headers_rr o kh hb l hg B hB hok).2.1⟩

/-- **`block_sound` over EVERY chunk schedule, hypothesis restricted to the accepted block** of the whole buffer `B` -/
theorem afc_block_sound_schedule_from (o kh : Nat) (hb : Option PHdrVals) (l : List Buf) (hg : Growing l) (B : Buf)
    (hB : l.getLast? = some B) (hfit : B.size ≤ 65535) (hok : ∀ x ∈ l, o ≤ x.size ∧ hbOK x o hb)
    {e : Nat} {er : Err} {hl' : HdrLst} {hb' : Option PHdrVals}
    (hr : resumeRun afbHeadersP o (hsNew kh, hb) l = (e, er, hl', hb')) (her : er = .ok ∨ er = .empty)
    (hgen : AfcGenericIn B o e hb) :
    ∃ hs, HdrBlock B o hs e ∧ hl' = ((hsNew kh).acceptAll hs).setCur { state := .fin } ∧ hb' = hb ∧
      er = (if ((hsNew kh).acceptAll hs).n > 0 then Err.ok else Err.empty) := by
  have h1 := (rc_headers_iff o kh hb l hg B hB hok (her.imp_right fun h => Or.inr (Or.inr h))).mp hr
  exact afc_block_sound_in B o (hsNew kh) hb hfit (hsNew_ok kh).1 (hsNew_ok kh).2 h1 her hgen

theorem afc_block_sound_schedule (o kh kc : Nat) (nil : Bool) (l : List Buf) (hg : Growing l) (B : Buf)
    (hB : l.getLast? = some B) (hfit : B.size ≤ 65535) (h0 : ∀ b ∈ l.head?, o ≤ b.size)
    {e : Nat} {er : Err} {hl' : HdrLst} {hb' : Option PHdrVals}
    (hr : resumeRun afbHeadersP o (hsNew kh, rcHb nil kc) l = (e, er, hl', hb')) (her : er = .ok ∨ er = .empty)
    (hgen : AfcGenericIn B o e (rcHb nil kc)) :
    ∃ hs, HdrBlock B o hs e ∧ hl' = ((hsNew kh).acceptAll hs).setCur { state := .fin } ∧ hb' = rcHb nil kc ∧
      er = (if ((hsNew kh).acceptAll hs).n > 0 then Err.ok else Err.empty) :=
  afc_block_sound_schedule_from o kh _ l hg B hB hfit (rc_hbOK_all o kc nil hg h0) hr her hgen

/-- **the chain accepts at `e` iff `[o, e)` of the whole buffer is a non-empty block of the grammar**, for every `e` such
    that no line start of `[o, e)` carries a typed name -/
theorem afc_block_ok_iff_schedule (o kh kc : Nat) (nil : Bool) (l : List Buf) (hg : Growing l) (B : Buf)
    (hB : l.getLast? = some B) (hfit : B.size ≤ 65535) (h0 : ∀ b ∈ l.head?, o ≤ b.size)
    (e : Nat) (hgen : AfcGenericIn B o e (rcHb nil kc)) (hl' : HdrLst) (hb' : Option PHdrVals) :
    resumeRun afbHeadersP o (hsNew kh, rcHb nil kc) l = (e, .ok, hl', hb') ↔
      ∃ hs, hs ≠ [] ∧ HdrBlock B o hs e ∧ hl' = ((hsNew kh).acceptAll hs).setCur { state := .fin } ∧
        hb' = rcHb nil kc :=
  (rc_headers_iff o kh _ l hg B hB (rc_hbOK_all o kc nil hg h0) (Or.inl rfl)).trans
    (afc_block_ok_iff_in B o kh _ hfit e hgen hl' hb')

/-- **what a block accepted by a chain reports**, hypothesis restricted to the accepted block -/
theorem afc_block_report_schedule (o kh kc : Nat) (nil : Bool) (l : List Buf) (hg : Growing l) (B : Buf)
    (hB : l.getLast? = some B) (hfit : B.size ≤ 65535) (h0 : ∀ b ∈ l.head?, o ≤ b.size)
    {e : Nat} {hl' : HdrLst} {hb' : Option PHdrVals}
    (hr : resumeRun afbHeadersP o (hsNew kh, rcHb nil kc) l = (e, .ok, hl', hb'))
    (hgen : AfcGenericIn B o e (rcHb nil kc)) :
    ∃ hs, hs ≠ [] ∧ HdrBlock B o hs e ∧ hb' = rcHb nil kc ∧ hl'.n = hs.length ∧ hl'.hdrs.size = kh ∧
      (∀ j (hj : j < hs.length), j < kh → hl'.hdrs[j]! = hs[j]) ∧
      (∀ t, t < 16 → hl'.pflags.testBit t = hs.any (fun h => h.type == t)) ∧
      (∀ j, j < 13 → hl'.h[j]! = (match hs.find? (fun h => h.type == j + 1) with | some h => h | none => {})) := by
  obtain ⟨hs, hne, H, rfl, rfl⟩ := (afc_block_ok_iff_schedule o kh kc nil l hg B hB hfit h0 e hgen hl' hb').mp hr
  obtain ⟨r1, r2, r3, r4, r5⟩ := hs_new_report kh hs
  exact ⟨hs, hne, H, rfl, r1, r2, r3, r4, r5⟩

/-- **`block_sound` over EVERY chunk schedule** (generic treatment `HsGeneric` of the whole buffer: no values
    object, or no line start carries one of the eight typed names): the chain ends with OK or "empty" at `e` ⇒ `[o, e)`
    of the WHOLE buffer is a block of the grammar, the list object is exactly what accepting its headers in order
    produces, the values object is untouched -/
theorem rc_block_sound_schedule_from (o kh : Nat) (hb : Option PHdrVals) (l : List Buf) (hg : Growing l) (B : Buf)
    (hB : l.getLast? = some B) (hfit : B.size ≤ 65535) (hok : ∀ x ∈ l, o ≤ x.size ∧ hbOK x o hb)
    (hgen : HsGeneric B o hb) {e : Nat} {er : Err} {hl' : HdrLst} {hb' : Option PHdrVals}
    (hr : resumeRun afbHeadersP o (hsNew kh, hb) l = (e, er, hl', hb')) (her : er = .ok ∨ er = .empty) :
    ∃ hs, HdrBlock B o hs e ∧ hl' = ((hsNew kh).acceptAll hs).setCur { state := .fin } ∧ hb' = hb ∧
      er = (if ((hsNew kh).acceptAll hs).n > 0 then Err.ok else Err.empty) :=
  afc_block_sound_schedule_from o kh hb l hg B hB hfit hok hr her (hgen.afc_in e)

theorem rc_block_sound_schedule (o kh kc : Nat) (nil : Bool) (l : List Buf) (hg : Growing l) (B : Buf)
    (hB : l.getLast? = some B) (hfit : B.size ≤ 65535) (h0 : ∀ b ∈ l.head?, o ≤ b.size)
    (hgen : HsGeneric B o (rcHb nil kc)) {e : Nat} {er : Err} {hl' : HdrLst} {hb' : Option PHdrVals}
    (hr : resumeRun afbHeadersP o (hsNew kh, rcHb nil kc) l = (e, er, hl', hb')) (her : er = .ok ∨ er = .empty) :
    ∃ hs, HdrBlock B o hs e ∧ hl' = ((hsNew kh).acceptAll hs).setCur { state := .fin } ∧ hb' = rcHb nil kc ∧
      er = (if ((hsNew kh).acceptAll hs).n > 0 then Err.ok else Err.empty) :=
  rc_block_sound_schedule_from o kh _ l hg B hB hfit (rc_hbOK_all o kc nil hg h0) hgen hr her

/-- **the chain accepts iff the text of the whole buffer is a non-empty block of the grammar** (`block_ok_iff`) -/
theorem rc_block_ok_iff_schedule (o kh kc : Nat) (nil : Bool) (l : List Buf) (hg : Growing l) (B : Buf)
    (hB : l.getLast? = some B) (hfit : B.size ≤ 65535) (h0 : ∀ b ∈ l.head?, o ≤ b.size)
    (hgen : HsGeneric B o (rcHb nil kc)) (e : Nat) (hl' : HdrLst) (hb' : Option PHdrVals) :
    resumeRun afbHeadersP o (hsNew kh, rcHb nil kc) l = (e, .ok, hl', hb') ↔
      ∃ hs, hs ≠ [] ∧ HdrBlock B o hs e ∧ hl' = ((hsNew kh).acceptAll hs).setCur { state := .fin } ∧
        hb' = rcHb nil kc :=
  afc_block_ok_iff_schedule o kh kc nil l hg B hB hfit h0 e (hgen.afc_in e) hl' hb'

/-- **what a block accepted by a chain reports** (`block_report`): count = number of lines, stored headers = the first
    `kh` lines in order, type flags, first-of-type table -/
theorem rc_block_report_schedule (o kh kc : Nat) (nil : Bool) (l : List Buf) (hg : Growing l) (B : Buf)
    (hB : l.getLast? = some B) (hfit : B.size ≤ 65535) (h0 : ∀ b ∈ l.head?, o ≤ b.size)
    (hgen : HsGeneric B o (rcHb nil kc)) {e : Nat} {hl' : HdrLst} {hb' : Option PHdrVals}
    (hr : resumeRun afbHeadersP o (hsNew kh, rcHb nil kc) l = (e, .ok, hl', hb')) :
    ∃ hs, hs ≠ [] ∧ HdrBlock B o hs e ∧ hb' = rcHb nil kc ∧ hl'.n = hs.length ∧ hl'.hdrs.size = kh ∧
      (∀ j (hj : j < hs.length), j < kh → hl'.hdrs[j]! = hs[j]) ∧
      (∀ t, t < 16 → hl'.pflags.testBit t = hs.any (fun h => h.type == t)) ∧
      (∀ j, j < 13 → hl'.h[j]! = (match hs.find? (fun h => h.type == j + 1) with | some h => h | none => {})) :=
  afc_block_report_schedule o kh kc nil l hg B hB hfit h0 hr (hgen.afc_in e)

/-- **what ANY block accepted by a chain reports** (`block_all_report`; with or without a values object, typed lines
    included, suspended anywhere — also in the middle of a typed value): a chain of lines of the whole buffer whose
    reported names and types are right, counted / stored / flagged / indexed -/
theorem rc_block_all_report_schedule_from (o kh : Nat) (hb : Option PHdrVals) (l : List Buf) (hg : Growing l)
    (B : Buf) (hB : l.getLast? = some B) (hfit : B.size ≤ 65535) (hok : ∀ x ∈ l, o ≤ x.size ∧ hbOK x o hb)
    {e : Nat} {hl' : HdrLst} {hb' : Option PHdrVals}
    (hr : resumeRun afbHeadersP o (hsNew kh, hb) l = (e, .ok, hl', hb')) :
    ∃ hs, hs ≠ [] ∧ HsChain B o hs e ∧ hl'.n = hs.length ∧ hl'.hdrs.size = kh ∧
      (∀ j (hj : j < hs.length), j < kh → hl'.hdrs[j]! = hs[j]) ∧
      (∀ t, t < 16 → hl'.pflags.testBit t = hs.any (fun h => h.type == t)) ∧
      (∀ j, j < 13 → hl'.h[j]! = (match hs.find? (fun h => h.type == j + 1) with | some h => h | none => {})) := by
  have h1 := (rc_headers_iff o kh hb l hg B hB hok (Or.inl rfl)).mp hr
  exact hs_block_all_report B o kh hb hfit h1

/-- the verdicts of a chain of ParseHeaders calls (generic treatment) -/
theorem rc_block_verdicts_schedule (o kh kc : Nat) (nil : Bool) (l : List Buf) (hg : Growing l) (B : Buf)
    (hB : l.getLast? = some B) (hfit : B.size ≤ 65535) (h0 : ∀ b ∈ l.head?, o ≤ b.size)
    (hgen : HsGeneric B o (rcHb nil kc)) :
    (resumeRun afbHeadersP o (hsNew kh, rcHb nil kc) l).2.1 = .ok ∨
    (resumeRun afbHeadersP o (hsNew kh, rcHb nil kc) l).2.1 = .empty ∨
    (resumeRun afbHeadersP o (hsNew kh, rcHb nil kc) l).2.1 = .moreBytes ∨
    (resumeRun afbHeadersP o (hsNew kh, rcHb nil kc) l).2.1 = .badChar := by
  rw [(rc_headers_verdict_from o kh _ l hg B hB (rc_hbOK_all o kc nil hg h0)).2]
  rcases hp : parseHeaders B o (hsNew kh) (rcHb nil kc) with ⟨e, er, hl', hb'⟩
  exact hs_block_verdicts B o (hsNew kh) _ hfit (hsNew_ok kh).1 (hsNew_ok kh).2 hgen hp

/-- **every chunk schedule** (restricted form of `rc_block_verdicts_schedule`; `B` the last buffer) -/
theorem lo2_block_verdicts_schedule_in (o kh kc : Nat) (nil : Bool) (l : List Buf) (hg : Growing l) (B : Buf)
    (hB : l.getLast? = some B) (hfit : B.size ≤ 65535) (h0 : ∀ b ∈ l.head?, o ≤ b.size) (e' : Nat)
    (hgen : AfcGenericIn B o e' (rcHb nil kc)) :
    ((resumeRun afbHeadersP o (hsNew kh, rcHb nil kc) l).2.1 = .ok ∨
      (resumeRun afbHeadersP o (hsNew kh, rcHb nil kc) l).2.1 = .empty ∨
      (resumeRun afbHeadersP o (hsNew kh, rcHb nil kc) l).2.1 = .moreBytes ∨
      (resumeRun afbHeadersP o (hsNew kh, rcHb nil kc) l).2.1 = .badChar) ∨
    (∃ hs o', lo2Lines B o hs o' ∧ e' ≤ o') := by
  rw [(rc_headers_verdict_from o kh _ l hg B hB (rc_hbOK_all o kc nil hg h0)).2]
  exact lo2_block_verdicts_in B o (hsNew kh) _ hfit (hsNew_ok kh).1 (hsNew_ok kh).2 e' hgen

/-- **a well-formed block with typed lines** (`typed_block` of C07: generic and typed lines mixed, every typed value
    meeting its grammar) is reported the same by EVERY chunk schedule: one header per line, in order, the values object
    threaded through the typed lines -/
theorem rc_typed_block_schedule (o kh : Nat) (hv hv' : PHdrVals) (l : List Buf) (hg : Growing l) (B : Buf)
    (hB : l.getLast? = some B) (hfit : B.size ≤ 65535) (hok : ∀ x ∈ l, o ≤ x.size ∧ hvOK x o hv)
    {e : Nat} {hs : List Hdr} {evs : List HtEv} (H : HtBlock B o hv hs evs e hv') (hr : HtReady hv) :
    resumeRun afbHeadersP o (hsNew kh, some hv) l =
      (e, (if ((hsNew kh).acceptAll hs).n > 0 then Err.ok else Err.empty),
        ((hsNew kh).acceptAll hs).setCur { state := .fin }, some hv') := by
  have hp := (ht_parseHeaders_block B hfit H (hsNew kh) (hsNew_ok kh).1 (hsNew_ok kh).2 hr).1
  refine (rc_headers_iff o kh (some hv) l hg B hB hok ?_).mpr hp
  split
  · exact Or.inl rfl
  · exact Or.inr (Or.inr (Or.inr rfl))

/-! ### the Contact / P-Asserted-Identity values of header LINES, BLOCKS and MESSAGES are the pieces of the lines' values

  One call first (composition of `hs_line_name_type_sound`, `ht_line_contact` / `ht_line_pai`, the splitting converse
  `contactsLoop_segs` / `paisLoop_segs` of NaSplit and the frame of the value parsers), then every schedule. -/

/-- ParseAllContactValues on a contacts object as it stands BETWEEN two header lines (new, or after the values of
    earlier lines), entered the way ParseHdrLine enters it (header counter bumped): OK ⇒ the text is cut at exactly its
    top-level commas and the object is `htLine` of the old one with the values of the pieces -/
theorem rc_contacts_segs_ready (b : Buf) (o : Nat) (c : PContacts) (hr : HtCtReady c) {o' : Nat} {c' : PContacts}
    (hp : parseAllContactValues b o c.htBump = (o', .ok, c')) :
    ∃ L, NsSegs HdrContact b o L o' ∧ c' = c.htLine (L.map Prod.snd) := by
  rw [parseAllContactValues_eq_wrap, ht_bump_wrap] at hp
  obtain ⟨L, hL, hc⟩ := contactsLoop_segs b o' c' o c.wrap.htBump hr.1 hr.2 hp
  exact ⟨L, hL, by rw [hc, ht_htLine_eq]⟩

theorem rc_pais_segs_ready (b : Buf) (o : Nat) (c : PPAIs) (hr : HtPaReady c) {o' : Nat} {c' : PPAIs}
    (hp : parseAllPAIValues b o c.htBump = (o', .ok, c')) :
    ∃ L, NsSegs HdrPAI b o L o' ∧ c' = c.htLine (L.map Prod.snd) ∧ ∀ x ∈ L, x.2.star = false := by
  rw [parseAllPAIValues_eq_wrap, ht_paBump_wrap] at hp
  obtain ⟨L, hL, hc, hs⟩ := paisLoop_segs b o' c' o c.wrap.htBump hr.1 hr.2 hp
  exact ⟨L, hL, by rw [hc, ht_paLine_eq], hs⟩

/-- the values of the pieces are completed values -/
theorem rc_segs_fin {h : Nat} {b : Buf} {o o' : Nat} {L : List (Nat × PFromBody)} (H : NsSegs h b o L o') :
    ∀ r ∈ L.map Prod.snd, r.state = .fin := by
  induction H with
  | last o o' r hp _ _ =>
    intro x hx
    simp only [List.map_cons, List.map_nil, List.mem_singleton] at hx
    rw [hx]; exact (parseNameAddrPVal_post h b o {} hp (Or.inl rfl)).1
  | cons o j o' r rest hp _ _ _ _ ih =>
    intro x hx
    simp only [List.map_cons, List.mem_cons] at hx
    rcases hx with hx | hx
    · rw [hx]; exact (parseNameAddrPVal_post h b o {} hp (Or.inr rfl)).1
    · exact ih x hx

theorem rc_segs_map_ne {h : Nat} {b : Buf} {o o' : Nat} {L : List (Nat × PFromBody)} (H : NsSegs h b o L o') :
    L.map Prod.snd ≠ [] := fun hh => H.ne_nil (List.map_eq_nil_iff.1 hh)

/-- what an accepted header line was for the two value lists -/
inductive RcEv where
  /-- a line that is neither Contact nor P-Asserted-Identity -/
  | other
  /-- a Contact line: colon at `c`, pieces `L` (start offset, reported value) of the text after the colon -/
  | contact (c : Nat) (L : List (Nat × PFromBody))
  /-- a P-Asserted-Identity line -/
  | pai (c : Nat) (L : List (Nat × PFromBody))

/-- **what ONE accepted header line `[o, e)` with reported header `h` did to the two value lists** (`hv` before, `hv'`
    after):
    * a line of another type: both lists EXACTLY as before;
    * a Contact line with the colon at `c`: the text after the colon up to the end `e` of the line is cut at exactly
      its top-level commas into the pieces `L` (`NsSegs`: each piece's value is what the value parser reports at its
      start), the contacts object is `htLine` of the old one with the values of the pieces in order (header counter + 1,
      `N` + number of pieces, stored values, min / max expires: `ht_htLine_*`), nothing else in the values object
      changes, and the header's `val` is the running extent of the line;
    * a P-Asserted-Identity line: the same, and no piece is `*`. -/
def RcLine (b : Buf) (o : Nat) (hv : PHdrVals) (e : Nat) (h : Hdr) (hv' : PHdrVals) : RcEv → Prop
  | .other => h.type ≠ HdrContact ∧ h.type ≠ HdrPAI ∧ hv'.contacts = hv.contacts ∧ hv'.pais = hv.pais
  | .contact c L => h.type = HdrContact ∧ o < c + 1 ∧ b[c]? = some 58 ∧ NsSegs HdrContact b (c + 1) L e ∧
      hv' = { hv with contacts := hv.contacts.htLine (L.map Prod.snd) } ∧
      h.val = (hv.contacts.htLine (L.map Prod.snd)).lastHVal
  | .pai c L => h.type = HdrPAI ∧ o < c + 1 ∧ b[c]? = some 58 ∧ NsSegs HdrPAI b (c + 1) L e ∧
      (∀ x ∈ L, x.2.star = false) ∧ hv' = { hv with pais := hv.pais.htLine (L.map Prod.snd) } ∧
      h.val = (hv.pais.htLine (L.map Prod.snd)).lastHVal

/-- the value lists stay ready for the next line -/
theorem RcLine.ready {b : Buf} {o e : Nat} {hv hv' : PHdrVals} {h : Hdr} {ev : RcEv} (H : RcLine b o hv e h hv' ev)
    (hr : HtReady hv) : HtReady hv' := by
  cases ev with
  | other =>
    obtain ⟨_, _, h1, h2⟩ := H
    exact ⟨by rw [h1]; exact hr.1, by rw [h2]; exact hr.2⟩
  | contact c L =>
    obtain ⟨_, _, _, hL, rfl, _⟩ := H
    exact ⟨ht_htLine_ready _ _ hr.1 (rc_segs_map_ne hL) (rc_segs_fin hL), hr.2⟩
  | pai c L =>
    obtain ⟨_, _, _, hL, _, rfl, _⟩ := H
    exact ⟨hr.1, ht_paLine_ready _ _ hr.2 (rc_segs_map_ne hL) (rc_segs_fin hL)⟩

/-- **ONE call of ParseHdrLine, new header object, values object whose two lists are between lines (`HtReady`; a new
    values object qualifies), EVERY input within the 65,535-byte limit**: an accepted line has a name and type that are
    right (`HsNameAt`) and did to the two value lists what `RcLine` says -/
theorem rc_line_lists (b : Buf) (o : Nat) (hv : PHdrVals) (hfit : b.size ≤ 65535) (hrdy : HtReady hv)
    {e : Nat} {h : Hdr} {hb' : Option PHdrVals} (hp : parseHdrLine b o {} (some hv) = (e, .ok, h, hb')) :
    ∃ hv' ev, hb' = some hv' ∧ HsNameAt b o h ∧ RcLine b o hv e h hv' ev := by
  obtain ⟨n, c, hname, hon, hws, hnc, hcolon, hnm, hty, hfin⟩ := hs_line_name_type_sound b o (some hv) hfit hp
  have hNA : HsNameAt b o h := ⟨n, c, hname, hon, hws, hnc, hcolon, hnm, hty, hfin⟩
  have hcl := get?_lt hcolon
  by_cases hC : getHdrType (b.extract o n) = HdrContact
  · rcases hq : parseAllContactValues b (c + 1) hv.contacts.htBump with ⟨n', e', f⟩
    have h1 := ht_line_contact b o n c hv hfit hname hon hws hnc hcolon hC hq
    rw [hp] at h1
    simp only [Prod.mk.injEq] at h1
    obtain ⟨rfl, rfl, rfl, rfl⟩ := h1
    obtain ⟨L, hL, rfl⟩ := rc_contacts_segs_ready b (c + 1) hv.contacts hrdy.1 hq
    exact ⟨_, .contact c L, rfl, hNA, rfl, by omega, hcolon, hL, rfl, rfl⟩
  by_cases hP : getHdrType (b.extract o n) = HdrPAI
  · rcases hq : parseAllPAIValues b (c + 1) hv.pais.htBump with ⟨n', e', f⟩
    have h1 := ht_line_pai b o n c hv hfit hname hon hws hnc hcolon hP hq
    rw [hp] at h1
    simp only [Prod.mk.injEq] at h1
    obtain ⟨rfl, rfl, rfl, rfl⟩ := h1
    obtain ⟨L, hL, rfl, hs⟩ := rc_pais_segs_ready b (c + 1) hv.pais hrdy.2 hq
    exact ⟨_, .pai c L, rfl, hNA, rfl, by omega, hcolon, hL, hs, rfl, rfl⟩
  -- another type: a generic outcome leaves the values object alone, a value parser writes its own component only
  have htc : h.type ≠ HdrContact := by rw [hty]; exact hC
  have htp : h.type ≠ HdrPAI := by rw [hty]; exact hP
  obtain ⟨hv', hhb, hx⟩ := hx_parseHdrLine_split b o {} hv (.inl rfl) hp
  cases hhb
  rcases hx with ⟨rfl, _⟩ | ⟨i, h1, h2, _, _, hpb, _, _, hh⟩
  · exact ⟨_, .other, rfl, hNA, htc, htp, rfl, rfl⟩
  · obtain ⟨ht, hfc, hfp, _⟩ := hx_parseBody_frame b i h1 hv hpb
    have ht1 : h.type = h1.type := by rw [show h = { h2 with state := .fin } from hh]; exact ht
    exact ⟨_, .other, rfl, hNA, htc, htp, hfc (ht1 ▸ htc), hfp (ht1 ▸ htp)⟩

/-- **ParseHdrLine over EVERY chunk schedule** (new header object; a values object that is legitimate at `o` and
    whose two lists are between lines — a new one of any capacity qualifies: `rc_newHv_ok`): if the chain of resumed
    calls ends OK at `e`, then in the WHOLE buffer `B` the line has a name and a type that are right, and
    * if it is a Contact (P-Asserted-Identity) line, the text after the colon is cut at exactly its top-level commas and
      the values handed to the list object are the value parser's reports for the pieces, in order (`RcLine`),
    * otherwise both lists are exactly as before —
    wherever the calls were suspended: inside the name, a quoted string, a URI, a parameter, the line end. -/
theorem rc_line_lists_schedule (o : Nat) (hv : PHdrVals) (l : List Buf) (hg : Growing l) (B : Buf)
    (hB : l.getLast? = some B) (hfit : B.size ≤ 65535) (hok : ∀ x ∈ l, o ≤ x.size ∧ hvOK x o hv) (hrdy : HtReady hv)
    {e : Nat} {h : Hdr} {hb' : Option PHdrVals} (hr : resumeRun afbHdrLineP o ({}, some hv) l = (e, .ok, h, hb')) :
    parseHdrLine B o {} (some hv) = (e, .ok, h, hb') ∧
    ∃ hv' ev, hb' = some hv' ∧ HsNameAt B o h ∧ RcLine B o hv e h hv' ev := by
  have h1 := (rc_hdrline_iff o (some hv) l hg B hB hok (Or.inl rfl)).mp hr
  exact ⟨h1, rc_line_lists B o hv hfit hrdy h1⟩

/-- a new values object (contact array of any capacity) meets the hypotheses of `rc_line_lists_schedule` -/
theorem rc_newHv_ok (o kc : Nat) {l : List Buf} (hg : Growing l) (h0 : ∀ b ∈ l.head?, o ≤ b.size) :
    (∀ x ∈ l, o ≤ x.size ∧ hvOK x o (afbNewHv kc)) ∧ HtReady (afbNewHv kc) :=
  ⟨fun x hx => ⟨rc_size_all hg h0 x hx, afb_hvOK_new x o (rc_size_all hg h0 x hx) kc⟩,
   ⟨ht_ready_new kc, ht_paReady_new⟩⟩

/-! #### header blocks -/

/-- accepted lines one after the other, each with what it did to the two value lists, then the empty line -/
inductive RcBlock (b : Buf) : Nat → PHdrVals → List Hdr → List RcEv → Nat → PHdrVals → Prop
  | nil (o e : Nat) (hv : PHdrVals) : EmptyLine b o e → RcBlock b o hv [] [] e hv
  | cons (o e1 e : Nat) (hv hv1 hv' : PHdrVals) (h : Hdr) (hs : List Hdr) (ev : RcEv) (evs : List RcEv) :
      HsNameAt b o h → o < e1 → RcLine b o hv e1 h hv1 ev → RcBlock b e1 hv1 hs evs e hv' →
      RcBlock b o hv (h :: hs) (ev :: evs) e hv'

/-- the value lists (one list of piece values per Contact line) of the Contact lines of a block, in order -/
def rcCtOf : List RcEv → List (List PFromBody)
  | [] => []
  | .contact _ L :: evs => L.map Prod.snd :: rcCtOf evs
  | _ :: evs => rcCtOf evs

/-- … of the P-Asserted-Identity lines -/
def rcPaOf : List RcEv → List (List PFromBody)
  | [] => []
  | .pai _ L :: evs => L.map Prod.snd :: rcPaOf evs
  | _ :: evs => rcPaOf evs

/-- the contacts / identities objects after the block are the old ones after the Contact / P-Asserted-Identity lines
    of the block, in order, whatever stands between them — so `ht_htLines_hNo`, `ht_htLines_n`, `ht_htLines_stored`,
    `ht_htLines_maxE`, `ht_htLines_minE`, `pl_lines_stored`, `pl_lines_getPAI` … apply with the PIECES of the lines -/
theorem RcBlock.lists {b : Buf} {o e : Nat} {hv hv' : PHdrVals} {hs : List Hdr} {evs : List RcEv}
    (H : RcBlock b o hv hs evs e hv') :
    hv'.contacts = hv.contacts.htLines (rcCtOf evs) ∧ hv'.pais = hv.pais.htLines (rcPaOf evs) := by
  induction H with
  | nil o e hv _ => exact ⟨rfl, rfl⟩
  | cons o e1 e hv hv1 hv' h hs ev evs _ _ hline _ ih =>
    cases ev with
    | other =>
      obtain ⟨_, _, h1, h2⟩ := hline
      rw [← h1, ← h2]; exact ih
    | contact c L =>
      obtain ⟨_, _, _, _, rfl, _⟩ := hline
      exact ⟨by rw [ih.1]; rfl, ih.2⟩
    | pai c L =>
      obtain ⟨_, _, _, _, _, rfl, _⟩ := hline
      exact ⟨ih.1, by rw [ih.2]; rfl⟩

/-- the underlying chain of names and types (`HsChain` of C07) -/
theorem RcBlock.chain {b : Buf} {o e : Nat} {hv hv' : PHdrVals} {hs : List Hdr} {evs : List RcEv}
    (H : RcBlock b o hv hs evs e hv') : HsChain b o hs e := by
  induction H with
  | nil o e hv he => exact .nil o e he
  | cons o e1 e hv hv1 hv' h hs ev evs hn hlt _ _ ih => exact .cons o e1 e h hs hn hlt ih

theorem RcBlock.length {b : Buf} {o e : Nat} {hv hv' : PHdrVals} {hs : List Hdr} {evs : List RcEv}
    (H : RcBlock b o hv hs evs e hv') : evs.length = hs.length := by
  induction H with
  | nil => rfl
  | cons _ _ _ _ _ _ _ _ _ _ _ _ _ _ ih => simp [ih]

/-- **ONE call of ParseHeaders, a values object whose two lists are between lines, EVERY input ≤ 65,535 bytes**: if
    the verdict is OK (or "empty") the accepted text is a chain of lines, each with the right name and type, and for
    every Contact / P-Asserted-Identity line the values handed to the list object are exactly the value parser's
    reports for the pieces of that line's value (cut at its top-level commas); the other lines leave both lists alone -/
theorem rc_block_lists (b : Buf) (hfit : b.size ≤ 65535) :
    ∀ (k o : Nat) (hl : HdrLst) (hv : PHdrVals), b.size - o = k → HlsClean hl → hl.cur = {} → HtReady hv →
      ∀ {e : Nat} {er : Err} {hl' : HdrLst} {hb' : Option PHdrVals},
        parseHeaders b o hl (some hv) = (e, er, hl', hb') → (er = .ok ∨ er = .empty) →
        ∃ hs evs hv', RcBlock b o hv hs evs e hv' ∧ hl' = (hl.acceptAll hs).setCur { state := .fin } ∧
          hb' = some hv' ∧ er = (if (hl.acceptAll hs).n > 0 then Err.ok else Err.empty) := by
  intro _ o hl hv _
  have key := parseHeaders_rec b (M := fun o hl hb r => ∀ hv, hb = some hv → HlsClean hl → hl.cur = {} → HtReady hv →
      (r.2.1 = .ok ∨ r.2.1 = .empty) →
      ∃ hs evs hv', RcBlock b o hv hs evs r.1 hv' ∧ r.2.2.1 = (hl.acceptAll hs).setCur { state := .fin } ∧
        r.2.2.2 = some hv' ∧ r.2.1 = (if (hl.acceptAll hs).n > 0 then Err.ok else Err.empty)) ?_ ?_ ?_ ?_ ?_ o hl (some hv)
  · intro hc hcur hrdy e er hl' hb' hr her
    rw [hr] at key
    exact key hv rfl hc hcur hrdy her
  · rintro o hl _ n g hb' r _ hp hgt ih hv rfl hc hcur hrdy her
    rw [hcur] at hp
    obtain ⟨hv1, ev, rfl, hname, hline⟩ := rc_line_lists b o hv hfit hrdy hp
    have hcl := accept_clean hl g hc
    obtain ⟨hs, evs, hv', H, h1, h2, h3⟩ := ih hv1 rfl hcl.1 hcl.2 (hline.ready hrdy) her
    exact ⟨g :: hs, ev :: evs, hv', RcBlock.cons o n _ hv hv1 hv' g hs ev evs hname hgt hline H, h1, h2, h3⟩
  · intro _ _ _ _ _ _ _ _ _ _ _ _ _ _ her; rcases her with h | h <;> cases h
  · rintro o hl _ n g hb' _ hp hv rfl _ hcur _ _
    rw [hcur] at hp
    obtain ⟨hem, rfl, rfl⟩ := hs_line_empty_all b o (some hv) hfit hp
    exact ⟨[], [], hv, RcBlock.nil o _ hv hem, rfl, rfl, rfl⟩
  · intro _ _ _ _ e _ _ _ _ hne hne' _ _ _ _ _ her
    rcases her with h | h
    · exact absurd h hne
    · exact absurd h hne'
  · intro _ _ _ _ _ _ _ _ _ her; rcases her with h | h <;> cases h

theorem rc_newHv_ready (kc : Nat) : HtReady (afbNewHv kc) := ⟨ht_ready_new kc, ht_paReady_new⟩

/-- **ParseHeaders over EVERY chunk schedule, new header list of any capacity `kh`, new values object with a
    contact array of any capacity `kc`**: if the chain of resumed calls ends OK at `e`, then in the WHOLE buffer `B` the
    accepted text is a chain of lines (`RcBlock`): for each Contact / P-Asserted-Identity line the values handed to the
    list are exactly the value parser's reports for the pieces of the line's value (cut at its top-level commas, in
    order), all other lines leave the lists alone; hence (`RcBlock.lists`) the final contacts / identities objects are
    the new ones after exactly these lines; the header list is what accepting the reported headers produces. -/
theorem rc_block_lists_schedule (o kh kc : Nat) (l : List Buf) (hg : Growing l) (B : Buf)
    (hB : l.getLast? = some B) (hfit : B.size ≤ 65535) (h0 : ∀ b ∈ l.head?, o ≤ b.size)
    {e : Nat} {hl' : HdrLst} {hb' : Option PHdrVals}
    (hr : resumeRun afbHeadersP o (hsNew kh, some (afbNewHv kc)) l = (e, .ok, hl', hb')) :
    ∃ hs evs hv', hs ≠ [] ∧ RcBlock B o (afbNewHv kc) hs evs e hv' ∧ hb' = some hv' ∧
      hl' = ((hsNew kh).acceptAll hs).setCur { state := .fin } ∧
      hv'.contacts = ({ vals := Array.replicate kc {} } : PContacts).htLines (rcCtOf evs) ∧
      hv'.pais = ({} : PPAIs).htLines (rcPaOf evs) := by
  have hok : ∀ x ∈ l, o ≤ x.size ∧ hbOK x o (some (afbNewHv kc)) := rc_hbOK_all o kc false hg h0
  have h1 := (rc_headers_iff o kh _ l hg B hB hok (Or.inl rfl)).mp hr
  obtain ⟨hs, evs, hv', H, q1, q2, q3⟩ := rc_block_lists B hfit (B.size - o) o (hsNew kh) (afbNewHv kc) rfl
    (hsNew_ok kh).1 (hsNew_ok kh).2 (rc_newHv_ready kc) h1 (Or.inl rfl)
  refine ⟨hs, evs, hv', ?_, H, q2, q1, H.lists.1, H.lists.2⟩
  intro hnil
  subst hnil
  have : ((hsNew kh).acceptAll []).n = 0 := hs_new_count kh []
  rw [this] at q3
  simp at q3

/-! #### the message -/

/-- **ONE call of ParseSIPMsg from the initial state** (header list in the state of a new one, nothing counted yet, the two value
    lists between lines; EVERY input ≤ 65,535 bytes): if the call ends OK, the first line ended at `o1` and the header block
    `[o1, e)` is a chain of accepted lines in which every Contact / P-Asserted-Identity line handed exactly the pieces of
    its value to the list objects found in the final message object -/
theorem rc_msg_lists (b : Buf) (o : Nat) (m : PSIPMsg) (flags : Nat) (hfit : b.size ≤ 65535)
    (hst : m.state = .init) (hc : HlsClean m.hl) (hcur : m.hl.cur = {}) (hn0 : m.hl.n = 0) (hrdy : HtReady m.pv)
    {o' : Nat} {m' : PSIPMsg} (hr : parseSIPMsg b o m flags = (o', .ok, m')) :
    ∃ o1 e hs evs, (parseFLine b o m.fl).1 = o1 ∧ (parseFLine b o m.fl).2.1 = .ok ∧ hs ≠ [] ∧
      RcBlock b o1 m.pv hs evs e m'.pv ∧ m'.hl = (m.hl.acceptAll hs).setCur { state := .fin } := by
  obtain ⟨o1, fl1, o2, hl2, pv2, hp, hp2, _, k2, k3, _⟩ := parseSIPMsg_ok_init b o m flags hst hr
  obtain ⟨hs, evs, hv', H, q1, q2, q3⟩ :=
    rc_block_lists b hfit (b.size - o1) o1 m.hl m.pv rfl hc hcur hrdy hp2 (Or.inl rfl)
  cases q2
  refine ⟨o1, o2, hs, evs, by rw [hp], by rw [hp], ?_, by rw [k3]; exact H, by rw [k2]; exact q1⟩
  rintro rfl
  have hE : (if (m.hl.acceptAll []).n > 0 then Err.ok else Err.empty) = Err.ok := q3.symm
  rw [show (m.hl.acceptAll []).n = 0 from hn0] at hE
  simp at hE

/-- the capacity `Init` uses: that of the caller's array, or 10 (the private array) for `nil` -/
def rcCap (x : Option Unit) (k : Nat) : Nat :=
  match x with
  | none => 10
  | some _ => k

/-- what `Init` leaves in the list objects: new ones, of the capacities supplied (10 for `nil`) -/
theorem rc_init_lists (m0 : PSIPMsg) (len kh kc : Nat) (hdrs cts : Option Unit) :
    let m := m0.init len (hdrs.map fun _ => Array.replicate kh {}) (cts.map fun _ => Array.replicate kc {})
    m.state = .init ∧ m.hl = hsNew (rcCap hdrs kh) ∧
      m.pv = afbNewHv (rcCap cts kc) := by
  cases hdrs <;> cases cts <;> exact ⟨rfl, rfl, rfl⟩

theorem afc_init_fl (m0 : PSIPMsg) (len kh kc : Nat) (hdrs cts : Option Unit) :
    (m0.init len (hdrs.map fun _ => Array.replicate kh {}) (cts.map fun _ => Array.replicate kc {})).fl = {} := by
  cases hdrs <;> cases cts <;> rfl

/-- **ONE call of ParseSIPMsg on an object produced by Init, with the first line**: the statement of `rc_msg_lists_init`,
    and `o1` — where the header block starts — is the offset ParseFLine (run on a new first-line object at `o`)
    returns with the verdict OK -/
theorem afc_msg_lists_init (b : Buf) (o : Nat) (m0 : PSIPMsg) (len kh kc : Nat) (hdrs cts : Option Unit)
    (flags : Nat) (hfit : b.size ≤ 65535) {o' : Nat} {m' : PSIPMsg}
    (hr : parseSIPMsg b o (m0.init len (hdrs.map fun _ => Array.replicate kh {}) (cts.map fun _ => Array.replicate kc {}))
      flags = (o', .ok, m')) :
    ∃ o1 e hs evs, (parseFLine b o {}).1 = o1 ∧ (parseFLine b o {}).2.1 = .ok ∧ hs ≠ [] ∧
      RcBlock b o1 (afbNewHv (rcCap cts kc)) hs evs e m'.pv ∧
      m'.hl = ((hsNew (rcCap hdrs kh)).acceptAll hs).setCur { state := .fin } ∧
      m'.pv.contacts =
        ({ vals := Array.replicate (rcCap cts kc) {} } : PContacts).htLines (rcCtOf evs) ∧
      m'.pv.pais = ({} : PPAIs).htLines (rcPaOf evs) := by
  obtain ⟨q1, q2, q3⟩ := rc_init_lists m0 len kh kc hdrs cts
  obtain ⟨o1, e, hs, evs, f1, f2, hne, H, hl⟩ := rc_msg_lists b o _ flags hfit q1
    (by rw [q2]; exact (hsNew_ok _).1) (by rw [q2]; exact (hsNew_ok _).2) (by rw [q2]; rfl)
    (by rw [q3]; exact rc_newHv_ready _) hr
  rw [q3] at H
  rw [q2] at hl
  rw [afc_init_fl] at f1 f2
  exact ⟨o1, e, hs, evs, f1, f2, hne, H, hl, H.lists.1, H.lists.2⟩

/-- **ONE call of ParseSIPMsg on an object produced by Init** (any previous contents, caller arrays of any capacity
    or none), EVERY input ≤ 65,535 bytes: if the call ends OK there are the end `o1` of the first line, the end `e` of the
    header block, the reported headers `hs` (at least one) and for every header line what it was for the value lists
    (`RcBlock`): every Contact / P-Asserted-Identity line handed to the list exactly the value parser's reports for the
    pieces of its value, cut at the top-level commas; the final contacts / identities objects are the NEW ones after
    exactly these lines, in order (`htLines`; so `ht_htLines_n`, `ht_htLines_stored`, `ht_htLines_maxE / _minE`,
    `pl_lines_stored`, `pl_lines_getPAI` read them off) -/
theorem rc_msg_lists_init (b : Buf) (o : Nat) (m0 : PSIPMsg) (len kh kc : Nat) (hdrs cts : Option Unit)
    (flags : Nat) (hfit : b.size ≤ 65535) {o' : Nat} {m' : PSIPMsg}
    (hr : parseSIPMsg b o (m0.init len (hdrs.map fun _ => Array.replicate kh {}) (cts.map fun _ => Array.replicate kc {}))
      flags = (o', .ok, m')) :
    ∃ o1 e hs evs, hs ≠ [] ∧
      RcBlock b o1 (afbNewHv (rcCap cts kc)) hs evs e m'.pv ∧
      m'.hl = ((hsNew (rcCap hdrs kh)).acceptAll hs).setCur { state := .fin } ∧
      m'.pv.contacts =
        ({ vals := Array.replicate (rcCap cts kc) {} } : PContacts).htLines (rcCtOf evs) ∧
      m'.pv.pais = ({} : PPAIs).htLines (rcPaOf evs) := by
  obtain ⟨o1, e, hs, evs, _, _, h⟩ := afc_msg_lists_init b o m0 len kh kc hdrs cts flags hfit hr
  exact ⟨o1, e, hs, evs, h⟩

/-- … and the same stated in any extension `b ++ t` of the buffer of the call, from the end of the first line of `b`: a
    definitive header block on `b` is the header block on `b ++ t` (`parseHeaders_stable`) -/
theorem rc_msg_lists_init_ext (b t : Buf) (o : Nat) (ho : o ≤ b.size) (m0 : PSIPMsg) (len kh kc : Nat)
    (hdrs cts : Option Unit) (flags : Nat) (hfit : (b ++ t).size ≤ 65535) {o' : Nat} {m' : PSIPMsg}
    (hr : parseSIPMsg b o (m0.init len (hdrs.map fun _ => Array.replicate kh {}) (cts.map fun _ => Array.replicate kc {}))
      flags = (o', .ok, m')) :
    ∃ e hs evs, hs ≠ [] ∧
      RcBlock (b ++ t) (parseFLine b o {}).1 (afbNewHv (rcCap cts kc)) hs evs e m'.pv ∧
      m'.hl = ((hsNew (rcCap hdrs kh)).acceptAll hs).setCur { state := .fin } ∧
      m'.pv.contacts = ({ vals := Array.replicate (rcCap cts kc) {} } : PContacts).htLines (rcCtOf evs) ∧
      m'.pv.pais = ({} : PPAIs).htLines (rcPaOf evs) := by
  obtain ⟨q1, q2, q3⟩ := rc_init_lists m0 len kh kc hdrs cts
  obtain ⟨o1, fl1, o2, hl2, pv2, hp, hp2, _, k2, k3, _⟩ := parseSIPMsg_ok_init b o _ flags q1 hr
  rw [afc_init_fl] at hp
  rw [q2, q3] at hp2
  have ho1 : o1 ≤ b.size := by
    have := (parseFLine_pos b o {}).2
    rw [hp] at this; exact this rfl ho
  have hInv := afb_headersInv_new_from b o1 ho1 (rcCap hdrs kh) (some (afbNewHv (rcCap cts kc)))
    (afb_hbOK_new b o1 ho1 (rcCap cts kc) false)
  have hp3 := parseHeaders_stable b t o1 _ _ hInv.1 hInv.2.1 hp2 (by decide)
  obtain ⟨hs, evs, hv', H, h1, h2, h3⟩ :=
    rc_block_lists (b ++ t) hfit _ o1 _ _ rfl (hsNew_ok _).1 (hsNew_ok _).2 (rc_newHv_ready _) hp3 (Or.inl rfl)
  cases h2
  refine ⟨o2, hs, evs, ?_, by rw [hp, k3]; exact H, by rw [k2]; exact h1, by rw [k3]; exact H.lists.1,
    by rw [k3]; exact H.lists.2⟩
  rintro rfl
  rw [show ((hsNew (rcCap hdrs kh)).acceptAll []).n = 0 from rfl] at h3
  simp at h3

/-- **ParseSIPMsg from Init over EVERY chunk schedule, with the first line** (in the buffer `b` of the call that
    finished, a prefix of the last buffer `B`) -/
theorem afc_msg_lists_schedule_init (flags : Nat) (o : Nat) (m0 : PSIPMsg) (len kh kc : Nat)
    (hdrs cts : Option Unit) (l : List Buf) (hg : Growing l) (hfit : ∀ x ∈ l, x.size ≤ 65535) (B : Buf)
    (hB : l.getLast? = some B) (ho : ∀ b ∈ l, o ≤ b.size) {o' : Nat} {m' : PSIPMsg}
    (hr : resumeRun (C01.msgP flags) o
      (m0.init len (hdrs.map fun _ => Array.replicate kh {}) (cts.map fun _ => Array.replicate kc {})) l = (o', .ok, m')) :
    ∃ b ∈ l, (∃ t, B = b ++ t) ∧ ∃ o1 e hs evs, (parseFLine b o {}).1 = o1 ∧ (parseFLine b o {}).2.1 = .ok ∧ hs ≠ [] ∧
      RcBlock b o1 (afbNewHv (rcCap cts kc)) hs evs e m'.pv ∧
      m'.hl = ((hsNew (rcCap hdrs kh)).acceptAll hs).setCur { state := .fin } ∧
      m'.pv.contacts =
        ({ vals := Array.replicate (rcCap cts kc) {} } : PContacts).htLines (rcCtOf evs) ∧
      m'.pv.pais = ({} : PPAIs).htLines (rcPaOf evs) := by
  have hne : l ≠ [] := by intro h; rw [h] at hB; cases hB
  obtain ⟨b, hb, h⟩ := flo_schedule_init flags o m0 len kh kc hdrs cts l hg hfit hne ho hr
  exact ⟨b, hb, mlf_growing_last hg hB b hb, afc_msg_lists_init b o m0 len kh kc hdrs cts flags (hfit b hb) h⟩

/-- **ParseSIPMsg from Init over EVERY chunk schedule** (growing prefixes within the 65,535-byte limit, every flag
    word, every capacity): if the chain of resumed calls ends OK, the statement of `rc_msg_lists_init` holds for the final
    message object, in the buffer `b` of the call that finished — a prefix of the whole buffer `B`, so every byte and
    every span of `b` is one of `B` -/
theorem rc_msg_lists_schedule_init (flags : Nat) (o : Nat) (m0 : PSIPMsg) (len kh kc : Nat)
    (hdrs cts : Option Unit) (l : List Buf) (hg : Growing l) (hfit : ∀ x ∈ l, x.size ≤ 65535) (B : Buf)
    (hB : l.getLast? = some B) (ho : ∀ b ∈ l, o ≤ b.size) {o' : Nat} {m' : PSIPMsg}
    (hr : resumeRun (C01.msgP flags) o
      (m0.init len (hdrs.map fun _ => Array.replicate kh {}) (cts.map fun _ => Array.replicate kc {})) l = (o', .ok, m')) :
    ∃ b ∈ l, (∃ t, B = b ++ t) ∧ ∃ o1 e hs evs, hs ≠ [] ∧
      RcBlock b o1 (afbNewHv (rcCap cts kc)) hs evs e m'.pv ∧
      m'.hl = ((hsNew (rcCap hdrs kh)).acceptAll hs).setCur { state := .fin } ∧
      m'.pv.contacts =
        ({ vals := Array.replicate (rcCap cts kc) {} } : PContacts).htLines (rcCtOf evs) ∧
      m'.pv.pais = ({} : PPAIs).htLines (rcPaOf evs) := by
  obtain ⟨b, hb, ht, o1, e, hs, evs, _, _, h⟩ :=
    afc_msg_lists_schedule_init flags o m0 len kh kc hdrs cts l hg hfit B hB ho hr
  exact ⟨b, hb, ht, o1, e, hs, evs, h⟩

/-! #### the statement in the WHOLE buffer -/

/-- **… stated in the WHOLE buffer `B`, with the first line**: ParseFLine on `B` itself (new first-line object, offset
    `o`) says OK at `o1`, and `RcBlock B o1 …` -/
theorem afc_msg_lists_schedule_whole (flags : Nat) (o : Nat) (m0 : PSIPMsg) (len kh kc : Nat)
    (hdrs cts : Option Unit) (l : List Buf) (hg : Growing l) (hfit : ∀ x ∈ l, x.size ≤ 65535) (B : Buf)
    (hB : l.getLast? = some B) (ho : ∀ b ∈ l, o ≤ b.size) {o' : Nat} {m' : PSIPMsg}
    (hr : resumeRun (C01.msgP flags) o
      (m0.init len (hdrs.map fun _ => Array.replicate kh {}) (cts.map fun _ => Array.replicate kc {})) l = (o', .ok, m')) :
    ∃ o1 e hs evs, (parseFLine B o {}).1 = o1 ∧ (parseFLine B o {}).2.1 = .ok ∧ hs ≠ [] ∧
      RcBlock B o1 (afbNewHv (rcCap cts kc)) hs evs e m'.pv ∧
      m'.hl = ((hsNew (rcCap hdrs kh)).acceptAll hs).setCur { state := .fin } ∧
      m'.pv.contacts = ({ vals := Array.replicate (rcCap cts kc) {} } : PContacts).htLines (rcCtOf evs) ∧
      m'.pv.pais = ({} : PPAIs).htLines (rcPaOf evs) := by
  have hne : l ≠ [] := by intro h; rw [h] at hB; cases hB
  obtain ⟨b, hb, h⟩ := flo_schedule_init flags o m0 len kh kc hdrs cts l hg hfit hne ho hr
  obtain ⟨t, rfl⟩ := mlf_growing_last hg hB b hb
  obtain ⟨_, _, _, _, -, f2, -⟩ := afc_msg_lists_init b o m0 len kh kc hdrs cts flags (hfit b hb) h
  obtain ⟨e, hs, evs, q⟩ := rc_msg_lists_init_ext b t o (ho b hb) m0 len kh kc hdrs cts flags
    (hfit _ (List.mem_of_getLast? hB)) h
  rcases hp : parseFLine b o {} with ⟨a1, a2, a3⟩
  rw [hp] at f2 q
  simp only at f2 q
  subst f2
  have hst := parseFLine_stable b t o {} (by unfold flOK; decide) (hfit b hb) hp (by decide)
  exact ⟨_, e, hs, evs, by rw [hst], by rw [hst], q⟩

/-- **ParseSIPMsg from Init over EVERY chunk schedule, stated in the WHOLE buffer `B`** (the last element of the
    growing list `l`; every chunk within the 65,535-byte limit, every flag word, caller arrays of any capacity or none):
    if the chain of resumed calls ends OK with the object `m'`, there are the reported headers `hs` (at least one) and,
    line by line, what each accepted header line of `B` was for the value lists (`RcBlock B …`): every Contact /
    P-Asserted-Identity line handed to its list exactly the value parser's reports for the pieces of its value, cut at
    its top-level commas, in order; every other line left both lists alone; the contacts / identities of `m'` are the
    NEW objects after exactly these lines (`htLines` of the piece values), and the header list of `m'` is what accepting
    `hs` produces. -/
theorem rc_msg_lists_schedule_whole (flags : Nat) (o : Nat) (m0 : PSIPMsg) (len kh kc : Nat)
    (hdrs cts : Option Unit) (l : List Buf) (hg : Growing l) (hfit : ∀ x ∈ l, x.size ≤ 65535) (B : Buf)
    (hB : l.getLast? = some B) (ho : ∀ b ∈ l, o ≤ b.size) {o' : Nat} {m' : PSIPMsg}
    (hr : resumeRun (C01.msgP flags) o
      (m0.init len (hdrs.map fun _ => Array.replicate kh {}) (cts.map fun _ => Array.replicate kc {})) l = (o', .ok, m')) :
    ∃ o1 e hs evs, hs ≠ [] ∧ RcBlock B o1 (afbNewHv (rcCap cts kc)) hs evs e m'.pv ∧
      m'.hl = ((hsNew (rcCap hdrs kh)).acceptAll hs).setCur { state := .fin } ∧
      m'.pv.contacts = ({ vals := Array.replicate (rcCap cts kc) {} } : PContacts).htLines (rcCtOf evs) ∧
      m'.pv.pais = ({} : PPAIs).htLines (rcPaOf evs) := by
  obtain ⟨o1, e, hs, evs, _, _, h⟩ := afc_msg_lists_schedule_whole flags o m0 len kh kc hdrs cts l hg hfit B hB ho hr
  exact ⟨o1, e, hs, evs, h⟩

/-! ### non-vacuity and tests (closed computations on the model by `decide +kernel`: examples, NOT the general claims) -/

/-- test buffer: a Contact value list; a comma inside the quoted display name, the separating comma at offset 13 -/
def rcExA : Buf := "\"a,b\" <sip:x>,<sip:y>\r\nX".toUTF8.data

/-- a 3-chunk schedule: the first cut is INSIDE the quoted string (after `"a,`), the second inside the second value -/
def rcExACuts : List Buf := [rcExA.extract 0 3, rcExA.extract 0 15, rcExA]

theorem rcExACuts_growing : Growing rcExACuts :=
  ⟨prefix_grows _ (by decide +kernel), prefix_whole _ _, trivial⟩

/-- test (evaluation): the first two calls are suspended — the first one in the middle of the quoted string —, the chain
    of resumed calls ends OK at 23 with two values counted (capacity 1) -/
theorem rcExA_run :
    (parseAllContactValues (rcExA.extract 0 3) 0 { vals := Array.replicate 1 {} }).2.1 = .moreBytes ∧
    (parseAllContactValues (rcExA.extract 0 3) 0 { vals := Array.replicate 1 {} }).2.2.cur.state = .quoted ∧
    (parseAllContactValues (rcExA.extract 0 15) 0 { vals := Array.replicate 1 {} }).2.1 = .moreBytes ∧
    (resumeRun parseAllContactValues 0 { vals := Array.replicate 1 {} } rcExACuts).1 = 23 ∧
    (resumeRun parseAllContactValues 0 { vals := Array.replicate 1 {} } rcExACuts).2.1 = .ok ∧
    (resumeRun parseAllContactValues 0 { vals := Array.replicate 1 {} } rcExACuts).2.2.n = 2 := by decide +kernel

/-- non-vacuity of `rc_contact_list_converse_schedule`: ALL its hypotheses hold of that schedule; the conclusion
    instantiates to: two pieces, one top-level comma in `[0, 23)` (the comma inside the quotes does not count) -/
example : ∃ L : List (Nat × PFromBody), NsSegs HdrContact rcExA 0 L 23 ∧ NsVSpans rcExA L 23 ∧ L.length = 2 ∧
    nsCommaCount rcExA 0 23 + 1 = 2 := by
  have hr := mlf_triple_eta _ rcExA_run.2.2.2.1 rcExA_run.2.2.2.2.1
  obtain ⟨_, L, h1, h2, _, h3, h4, _⟩ := rc_contact_list_converse_schedule 0 1 rcExACuts rcExACuts_growing rcExA rfl
    (by decide +kernel) (by intro b hb; simp [rcExACuts] at hb; subst hb; exact Nat.zero_le _) hr
  exact ⟨L, h1, h2, by rw [← h3]; exact rcExA_run.2.2.2.2.2, by rw [← h4]; exact rcExA_run.2.2.2.2.2⟩

/-- test: the same cuts at value level (ParseNameAddrPVal for Contact): the chain ends with "more values" at 14, and
    `rc_value_more_schedule` applies: the comma at 13 is the first top-level comma of the whole buffer -/
example : rcExA[13]? = some 44 ∧ NsTop rcExA 0 13 ∧ NsNoComma rcExA 0 13 := by
  have hrun : (resumeRun (parseNameAddrPVal HdrContact) 0 {} rcExACuts).1 = 14 ∧
      (resumeRun (parseNameAddrPVal HdrContact) 0 {} rcExACuts).2.1 = .moreValues := by decide +kernel
  have hr := mlf_triple_eta _ hrun.1 hrun.2
  have := rc_value_more_schedule HdrContact 0 rcExACuts rcExACuts_growing rcExA rfl
    (by intro b hb; simp [rcExACuts] at hb; subst hb; exact Nat.zero_le _) hr
  exact ⟨this.2.2.2.1, this.2.2.2.2.1, this.2.2.2.2.2⟩

/-- test buffer: a From value; the schedule cuts it INSIDE the tag (`…;tag=a|bc`) and inside the CR LF -/
def rcExF : Buf := "<sip:a@b>;tag=abc\r\nX".toUTF8.data
def rcExFCuts : List Buf := [rcExF.extract 0 15, rcExF.extract 0 18, rcExF]

theorem rcExFCuts_growing : Growing rcExFCuts :=
  ⟨prefix_grows _ (by decide +kernel), prefix_whole _ _, trivial⟩

/-- test (evaluation): the first call stops in the middle of the tag value, the second inside the line end; the chain
    ends OK at 19 with the tag `abc` as written -/
theorem rcExF_run :
    (parseNameAddrPVal HdrFrom (rcExF.extract 0 15) 0 {}).2.1 = .moreBytes ∧
    (parseNameAddrPVal HdrFrom (rcExF.extract 0 15) 0 {}).2.2.state = .paramVal ∧
    (parseNameAddrPVal HdrFrom (rcExF.extract 0 18) 0 {}).2.1 = .moreBytes ∧
    (resumeRun (parseNameAddrPVal HdrFrom) 0 {} rcExFCuts).1 = 19 ∧
    (resumeRun (parseNameAddrPVal HdrFrom) 0 {} rcExFCuts).2.1 = .ok ∧
    (resumeRun (parseNameAddrPVal HdrFrom) 0 {} rcExFCuts).2.2.tag = ⟨14, 3⟩ := by decide +kernel

/-- non-vacuity of `rc_value_ok_schedule`: the chain's object is the one ONE call on the whole buffer reports -/
example : (parseNameAddrPVal HdrFrom rcExF 0 {}).2.2.tag = ⟨14, 3⟩ ∧ NsEol rcExF 0 19 := by
  have hr := mlf_triple_eta _ rcExF_run.2.2.2.1 rcExF_run.2.2.2.2.1
  obtain ⟨h1, h2, _⟩ := rc_value_ok_schedule HdrFrom 0 rcExFCuts rcExFCuts_growing rcExF rfl
    (by intro b hb; simp [rcExFCuts] at hb; subst hb; exact Nat.zero_le _) hr
  exact ⟨by rw [h1]; exact rcExF_run.2.2.2.2.2, h2⟩

/-- test buffer: a header block — a Contact line (compact name `m`) with two values, a Via line, a From line -/
def rcExH : Buf := "m:\"a,b\" <sip:x>,<sip:y>\r\nv:x\r\nf:<sip:q>;tag=zz\r\n\r\n".toUTF8.data

/-- cuts: inside the quoted string of the first Contact value, inside the Via line, inside the From tag -/
def rcExHCuts : List Buf := [rcExH.extract 0 5, rcExH.extract 0 28, rcExH.extract 0 44, rcExH]

theorem rcExHCuts_growing : Growing rcExHCuts :=
  ⟨prefix_grows _ (by decide +kernel), prefix_grows _ (by decide +kernel), prefix_whole _ _, trivial⟩

/-- test (evaluation): ParseHeaders (2 header slots, 1 contact slot) is suspended three times — in the Contact value,
    in the Via line, in the From value — and ends OK at 50 with 3 headers, 2 contacts, 1 Contact line -/
theorem rcExH_run :
    (afbHeadersP (rcExH.extract 0 5) 0 (hsNew 2, some (afbNewHv 1))).2.1 = .moreBytes ∧
    (afbHeadersP (rcExH.extract 0 28) 0 (hsNew 2, some (afbNewHv 1))).2.1 = .moreBytes ∧
    (afbHeadersP (rcExH.extract 0 44) 0 (hsNew 2, some (afbNewHv 1))).2.1 = .moreBytes ∧
    (resumeRun afbHeadersP 0 (hsNew 2, some (afbNewHv 1)) rcExHCuts).1 = 50 ∧
    (resumeRun afbHeadersP 0 (hsNew 2, some (afbNewHv 1)) rcExHCuts).2.1 = .ok ∧
    (resumeRun afbHeadersP 0 (hsNew 2, some (afbNewHv 1)) rcExHCuts).2.2.1.n = 3 := by decide +kernel

/-- non-vacuity of `rc_block_lists_schedule` and `rc_block_all_report_schedule_from`: all hypotheses hold of that schedule -/
example : ∃ hs evs hv', hs.length = 3 ∧ RcBlock rcExH 0 (afbNewHv 1) hs evs 50 hv' ∧
    hv'.contacts = ({ vals := Array.replicate 1 {} } : PContacts).htLines (rcCtOf evs) := by
  have hr := mlf_triple_eta _ rcExH_run.2.2.2.1 rcExH_run.2.2.2.2.1
  have h0 : ∀ b ∈ rcExHCuts.head?, 0 ≤ b.size := fun _ _ => Nat.zero_le _
  obtain ⟨hs, evs, hv', _, H, _, hl, hc, _⟩ :=
    rc_block_lists_schedule 0 2 1 rcExHCuts rcExHCuts_growing rcExH rfl (by decide +kernel) h0 hr
  refine ⟨hs, evs, hv', ?_, H, hc⟩
  have hn := rcExH_run.2.2.2.2.2
  rw [hl, (hs_new_report 2 hs).1] at hn
  exact hn

/-- test message: a Contact line with two values (comma inside the quoted name), From, Call-ID, CSeq -/
def rcExM : Buf :=
  "REGISTER sip:a SIP/2.0\r\nm:\"a,b\" <sip:x>,<sip:y>\r\nf:<sip:q>;tag=zz\r\nCall-ID: x\r\nCSeq: 1 REGISTER\r\n\r\n".toUTF8.data

/-- the message object after Init with a 3-slot header array and a 1-slot contact array -/
def rcExM0 : PSIPMsg :=
  ({} : PSIPMsg).init 0 ((some ()).map fun _ => Array.replicate 3 {}) ((some ()).map fun _ => Array.replicate 1 {})

/-- cuts: inside the quoted string of the first Contact value (`m:"a,|b"`), inside the From tag (`tag=z|z`) -/
def rcExMCuts : List Buf := [rcExM.extract 0 29, rcExM.extract 0 64, rcExM]

theorem rcExMCuts_growing : Growing rcExMCuts :=
  ⟨prefix_grows _ (by decide +kernel), prefix_whole _ _, trivial⟩

/-- test (evaluation): two suspensions, then OK at 99 with two contacts counted -/
theorem rcExM_run :
    (parseSIPMsg (rcExM.extract 0 29) 0 rcExM0 0).2.1 = .moreBytes ∧
    (parseSIPMsg (rcExM.extract 0 64) 0 rcExM0 0).2.1 = .moreBytes ∧
    (resumeRun (C01.msgP 0) 0 rcExM0 rcExMCuts).1 = 99 ∧
    (resumeRun (C01.msgP 0) 0 rcExM0 rcExMCuts).2.1 = .ok ∧
    (resumeRun (C01.msgP 0) 0 rcExM0 rcExMCuts).2.2.pv.contacts.n = 2 := by decide +kernel

/-- non-vacuity of `rc_msg_lists_schedule_init`: all its hypotheses hold of that schedule; the two contacts of the final
    object are the pieces of the one Contact line -/
example : ∃ b ∈ rcExMCuts, ∃ o1 e hs evs hv', RcBlock b o1 (afbNewHv 1) hs evs e hv' ∧
    hv'.contacts = ({ vals := Array.replicate 1 {} } : PContacts).htLines (rcCtOf evs) ∧
    (rcCtOf evs).flatten.length = 2 := by
  have hr := mlf_triple_eta _ rcExM_run.2.2.1 rcExM_run.2.2.2.1
  obtain ⟨b, hb, _, o1, e, hs, evs, _, H, _, hc, _⟩ :=
    rc_msg_lists_schedule_init 0 0 {} 0 3 1 (some ()) (some ()) rcExMCuts rcExMCuts_growing
      (fun x hx => Nat.le_trans (mlf_growing_size_le rcExMCuts_growing rfl x hx) (by decide +kernel)) rcExM rfl
      (fun _ _ => Nat.zero_le _) hr
  refine ⟨b, hb, o1, e, hs, evs, _, H, hc, ?_⟩
  have hn := rcExM_run.2.2.2.2
  rw [hc, ht_htLines_n] at hn
  have h0 : ({ vals := Array.replicate (rcCap (some ()) 1) {} } : PContacts).n = 0 := rfl
  rw [h0] at hn
  omega

/-- cuts of the demo text `Q :z CR LF W: CR LF CR LF X` of HdrSound: inside the first name / white space, inside the
    second line, inside the final empty line -/
def rcExGCuts : List Buf := [hsDemo.extract 0 2, hsDemo.extract 0 7, hsDemo.extract 0 11, hsDemo]

theorem rcExGCuts_growing : Growing rcExGCuts :=
  ⟨prefix_grows _ (by decide +kernel), prefix_grows _ (by decide +kernel), prefix_whole _ _, trivial⟩

/-- non-vacuity of `rc_block_ok_iff_schedule` / `rc_block_sound_schedule` (no values object, capacity 1): the chain ends
    OK at 12, hence `[0, 12)` of the whole text is a non-empty block of the grammar -/
example : ∃ hs, hs ≠ [] ∧ HdrBlock hsDemo 0 hs 12 := by
  have hrun : (resumeRun afbHeadersP 0 (hsNew 1, rcHb true 0) rcExGCuts).1 = 12 ∧
      (resumeRun afbHeadersP 0 (hsNew 1, rcHb true 0) rcExGCuts).2.1 = .ok := by decide +kernel
  have hr := mlf_triple_eta _ hrun.1 hrun.2
  obtain ⟨hs, h1, h2, _⟩ := (rc_block_ok_iff_schedule 0 1 0 true rcExGCuts rcExGCuts_growing hsDemo rfl
    (by decide +kernel) (fun _ _ => Nat.zero_le _) (Or.inl rfl) 12 _ _).mp hr
  exact ⟨hs, h1, h2⟩

/-- test buffer: a From line (compact name `f`); the cut is INSIDE the tag, i.e. in the middle of a typed value -/
def rcExL : Buf := "f:<sip:q>;tag=zz\r\nX".toUTF8.data
def rcExLCuts : List Buf := [rcExL.extract 0 15, rcExL]

theorem rcExLCuts_growing : Growing rcExLCuts := ⟨prefix_whole _ _, trivial⟩

/-- test (evaluation): the first ParseHdrLine call is suspended inside the From value (header state `hFrom`) -/
theorem rcExL_run :
    (afbHdrLineP (rcExL.extract 0 15) 0 ({}, some (afbNewHv 1))).2.1 = .moreBytes ∧
    (afbHdrLineP (rcExL.extract 0 15) 0 ({}, some (afbNewHv 1))).2.2.1.state = .hFrom ∧
    (parseFromVal rcExL 2 {}).1 = 18 ∧ (parseFromVal rcExL 2 {}).2.1 = .ok ∧
    (parseFromVal rcExL 2 {}).2.2.tag = ⟨14, 2⟩ := by decide +kernel

/-- non-vacuity of `rc_typed_from_schedule`: all its hypotheses hold; the chain suspended in the middle of the tag returns
    the From object ONE call of ParseFromVal on the whole buffer reports (tag `zz` as written) -/
example : (resumeRun afbHdrLineP 0 ({}, some (afbNewHv 1)) rcExLCuts).1 = 18 ∧
    (resumeRun afbHdrLineP 0 ({}, some (afbNewHv 1)) rcExLCuts).2.1 = .ok ∧
    ∃ hv', (resumeRun afbHdrLineP 0 ({}, some (afbNewHv 1)) rcExLCuts).2.2.2 = some hv' ∧ hv'.from_.tag = ⟨14, 2⟩ := by
  have hok := (rc_newHv_ok 0 1 rcExLCuts_growing (fun _ _ => Nat.zero_le _)).1
  have hp := mlf_triple_eta _ rcExL_run.2.2.1 rcExL_run.2.2.2.1
  have := rc_typed_from_schedule 0 1 1 (afbNewHv 1) rcExLCuts rcExLCuts_growing rcExL rfl (by decide +kernel) hok
    (fun k h1 h2 => by
      have : k = 0 := by omega
      subst this
      exact ⟨102, by decide +kernel, by decide +kernel, by decide +kernel⟩)
    (by decide +kernel) (fun k h1 h2 => by omega) (Nat.le_refl _) (by decide +kernel) (by decide +kernel) rfl hp (Or.inl rfl)
  rw [this]
  exact ⟨rfl, rfl, _, rfl, rcExL_run.2.2.2.2⟩

/-- non-vacuity of `rc_line_lists_schedule` on the Contact line of `rcExH` cut inside the quoted string: the line is
    reported as a Contact line with two pieces -/
example : ∃ c L hv', RcLine rcExH 0 (afbNewHv 1) 25 (resumeRun afbHdrLineP 0 ({}, some (afbNewHv 1))
    [rcExH.extract 0 5, rcExH]).2.2.1 hv' (.contact c L) ∧ L.length = 2 := by
  have hg : Growing [rcExH.extract 0 5, rcExH] := ⟨prefix_whole _ _, trivial⟩
  have hrun : (resumeRun afbHdrLineP 0 ({}, some (afbNewHv 1)) [rcExH.extract 0 5, rcExH]).1 = 25 ∧
      (resumeRun afbHdrLineP 0 ({}, some (afbNewHv 1)) [rcExH.extract 0 5, rcExH]).2.1 = .ok ∧
      (resumeRun afbHdrLineP 0 ({}, some (afbNewHv 1)) [rcExH.extract 0 5, rcExH]).2.2.1.type = HdrContact ∧
      ((resumeRun afbHdrLineP 0 ({}, some (afbNewHv 1)) [rcExH.extract 0 5, rcExH]).2.2.2.map
        (fun hv => hv.contacts.n)) = some 2 := by decide +kernel
  have hr := mlf_triple_eta _ hrun.1 hrun.2.1
  have hnew := rc_newHv_ok 0 1 hg (fun _ _ => Nat.zero_le _)
  obtain ⟨_, hv', ev, hb, _, hline⟩ := rc_line_lists_schedule 0 (afbNewHv 1) _ hg rcExH rfl (by decide +kernel) hnew.1 hnew.2 hr
  cases ev with
  | other => exact absurd hrun.2.2.1 hline.1
  | pai c L => have := hline.1; rw [hrun.2.2.1] at this; exact absurd this (by decide +kernel)
  | contact c L =>
    refine ⟨c, L, hv', hline, ?_⟩
    have hn := hrun.2.2.2
    rw [hb] at hn
    simp only [Option.map_some, Option.some.injEq] at hn
    obtain ⟨_, _, _, _, rfl, _⟩ := hline
    rw [ht_htLine_n, List.length_map] at hn
    have h0 : (afbNewHv 1).contacts.n = 0 := rfl
    rw [h0] at hn
    omega

/-! #### the block theorems under the restricted hypothesis `AfcGenericIn`; the message lists with the first line -/

/-- cuts of that text: inside the first name / white space, inside the second line, inside the final empty line -/
def afcExGCuts : List Buf := [afcExG.extract 0 2, afcExG.extract 0 7, afcExG.extract 0 11, afcExG]

/-- non-vacuity of `afc_block_sound_schedule` / `afc_block_ok_iff_schedule` (values object present: `rcHb false 0`) -/
example : ∃ hs, hs ≠ [] ∧ HdrBlock afcExG 0 hs 12 := by
  have hg : Growing afcExGCuts :=
    ⟨prefix_grows _ (by decide), prefix_grows _ (by decide), prefix_whole _ _, trivial⟩
  have hrun : (resumeRun afbHeadersP 0 (hsNew 1, rcHb false 0) afcExGCuts).1 = 12 ∧
      (resumeRun afbHeadersP 0 (hsNew 1, rcHb false 0) afcExGCuts).2.1 = .ok := by decide +kernel
  have hr := mlf_triple_eta _ hrun.1 hrun.2
  obtain ⟨hs, hne, H, _⟩ := (afc_block_ok_iff_schedule 0 1 0 false afcExGCuts hg afcExG rfl (by decide +kernel)
    (fun _ _ => Nat.zero_le _) 12 (afcExG_generic_in _) _ _).mp hr
  exact ⟨hs, hne, H⟩

/-- non-vacuity of `lo2_block_verdicts_schedule_in`: the text `afcExG` of HdrSound (a block `[0, 12)` followed by a body
    line that starts with `From`, so `HsGeneric` FAILS: `afcExG_not_generic`), values object present, four chunks, with
    the hypothesis for the line starts below 12 only -/
example : ((resumeRun afbHeadersP 0 (hsNew 1, rcHb false 0) afcExGCuts).2.1 = .ok ∨
      (resumeRun afbHeadersP 0 (hsNew 1, rcHb false 0) afcExGCuts).2.1 = .empty ∨
      (resumeRun afbHeadersP 0 (hsNew 1, rcHb false 0) afcExGCuts).2.1 = .moreBytes ∨
      (resumeRun afbHeadersP 0 (hsNew 1, rcHb false 0) afcExGCuts).2.1 = .badChar) ∨
    (∃ hs o', lo2Lines afcExG 0 hs o' ∧ 12 ≤ o') := by
  have hg : Growing afcExGCuts :=
    ⟨prefix_grows _ (by decide), prefix_grows _ (by decide), prefix_whole _ _, trivial⟩
  exact lo2_block_verdicts_schedule_in 0 1 0 false afcExGCuts hg afcExG rfl (by decide +kernel)
    (fun _ _ => Nat.zero_le _) 12 (afcExG_generic_in _)
-- test: here the first alternative is the one that holds
example : (resumeRun afbHeadersP 0 (hsNew 1, rcHb false 0) afcExGCuts).2.1 = .ok := by decide +kernel

/-- non-vacuity of `afc_msg_lists_schedule_whole`: the schedule of ResumedConverse (message cut inside a quoted string
    and inside the From tag); the first line of the whole message ends at 24 -/
example : ∃ e hs evs hv', (parseFLine rcExM 0 {}).1 = 24 ∧ (parseFLine rcExM 0 {}).2.1 = .ok ∧
    RcBlock rcExM 24 (afbNewHv 1) hs evs e hv' := by
  have hr := mlf_triple_eta _ rcExM_run.2.2.1 rcExM_run.2.2.2.1
  obtain ⟨o1, e, hs, evs, f1, f2, _, H, _⟩ :=
    afc_msg_lists_schedule_whole 0 0 {} 0 3 1 (some ()) (some ()) rcExMCuts rcExMCuts_growing
      (afc_fit_of_last rcExMCuts_growing rfl (by decide +kernel)) rcExM rfl (fun _ _ => Nat.zero_le _) hr
  have h24 : (parseFLine rcExM 0 {}).1 = 24 := by decide +kernel
  rw [h24] at f1
  subst f1
  exact ⟨e, hs, evs, _, h24, f2, H⟩

end Sipsp
