/-
  Sipsp.Proofs.RunLoop — the loop driver `runLoop`: all induction over buffer positions is done here once; the
  per-parser obligations are about the non-recursive `step`. Three rules: an invariant of one run (for machines that
  make progress one obligation, `StepAll2`, covers both kinds of step); the run on `b` against the run on `b ++ s`
  (stability of a definitive result and resumption after MoreBytes are its two instances); two runs in lockstep (two
  machines, two buffers, two state types).
-/
import Sipsp.Proofs.Buf

namespace Sipsp

variable {σ τ : Type}

theorem runLoop_none (m : Machine σ) {b : Buf} {i : Nat} (st : σ) (h : b[i]? = none) :
    runLoop m b i st = m.eob b i st := by
  rw [runLoop]; split
  · rfl
  · rename_i c hc; rw [h] at hc; cases hc

theorem runLoop_done (m : Machine σ) {b : Buf} {i : Nat} {c : UInt8} {st st' : σ} {o : Nat} {e : Err}
    (h : b[i]? = some c) (hs : m.step b i c st = .done o e st') : runLoop m b i st = (o, e, st') := by
  rw [runLoop]; split
  · rename_i hc; rw [h] at hc; cases hc
  · rename_i c' hc; rw [h] at hc; cases hc; rw [hs]

theorem runLoop_cont (m : Machine σ) {b : Buf} {i i' : Nat} {c : UInt8} {st st' : σ}
    (h : b[i]? = some c) (hs : m.step b i c st = .cont i' st') :
    runLoop m b i st = if i < i' then runLoop m b i' st' else (i, Err.lbug, st') := by
  rw [runLoop]; split
  · rename_i hc; rw [h] at hc; cases hc
  · rename_i c' hc; rw [h] at hc; cases hc; rw [hs]

theorem runLoop_cont_lt (m : Machine σ) {b : Buf} {i i' : Nat} {c : UInt8} {st st' : σ}
    (h : b[i]? = some c) (hs : m.step b i c st = .cont i' st') (hlt : i < i') :
    runLoop m b i st = runLoop m b i' st' :=
  (runLoop_cont m h hs).trans (if_pos hlt)

/-- the one-step law of `runLoop`, as `loop_scan` / `loop_span` take it -/
theorem runLoop_law (m : Machine σ) (b : Buf) :
    ∀ k c st st', b[k]? = some c → m.step b k c st = .cont (k + 1) st' → runLoop m b k st = runLoop m b (k + 1) st' :=
  fun k _ _ _ hc hs => runLoop_cont_lt m hc hs (Nat.lt_succ_self k)

/-- what `runLoop` does after a step result obtained at position `i` -/
def runStep (m : Machine σ) (b : Buf) (i : Nat) : Step σ → Nat × Err × σ
  | .cont i' st' => if i < i' then runLoop m b i' st' else (i, Err.lbug, st')
  | .done o e st' => (o, e, st')

theorem runLoop_eq_runStep (m : Machine σ) {b : Buf} {i : Nat} {c : UInt8} (st : σ) (h : b[i]? = some c) :
    runLoop m b i st = runStep m b i (m.step b i c st) := by
  cases hs : m.step b i c st with
  | cont i' st' => rw [runLoop_cont m h hs]; rfl
  | done o e st' => rw [runLoop_done m h hs]; rfl

/-- invariant principle: `P` is a loop invariant (on entry of an iteration), `Q` a post-condition. -/
theorem runLoop_inv (m : Machine σ) (b : Buf) (P : Nat → σ → Prop) (Q : Nat × Err × σ → Prop)
    (hcont : ∀ i c st i' st', b[i]? = some c → P i st → m.step b i c st = .cont i' st' →
      (i < i' → P i' st') ∧ (¬ i < i' → Q (i, Err.lbug, st')))
    (hdone : ∀ i c st o e st', b[i]? = some c → P i st → m.step b i c st = .done o e st' → Q (o, e, st'))
    (heob : ∀ i st, b[i]? = none → P i st → Q (m.eob b i st))
    (i : Nat) (st : σ) (hP : P i st) : Q (runLoop m b i st) := by
  induction hk : b.size - i using Nat.strongRecOn generalizing i st with
  | _ k ih =>
    cases hb : b[i]? with
    | none => rw [runLoop_none m st hb]; exact heob i st hb hP
    | some c =>
      cases hs : m.step b i c st with
      | done o e st' => rw [runLoop_done m hb hs]; exact hdone i c st o e st' hb hP hs
      | cont i' st' =>
        rw [runLoop_cont m hb hs]
        have hc := hcont i c st i' st' hb hP hs
        split
        · rename_i hlt
          have := get?_lt hb
          exact ih (b.size - i') (by omega) i' st' (hc.1 hlt) rfl
        · rename_i hnl; exact hc.2 hnl

/-- a machine makes progress: every `cont` moves forward -/
def Progress (m : Machine σ) : Prop :=
  ∀ b i c st i' st', b[i]? = some c → m.step b i c st = .cont i' st' → i < i'

/-- with progress, the loop artefact `lbug` never shows up -/
theorem runLoop_no_lbug (m : Machine σ) (hp : Progress m) (b : Buf) (i : Nat) (st : σ)
    (hd : ∀ i c st o e st', m.step b i c st = .done o e st' → e ≠ Err.lbug)
    (he : ∀ i st, (m.eob b i st).2.1 ≠ Err.lbug) : (runLoop m b i st).2.1 ≠ Err.lbug := by
  apply runLoop_inv m b (fun _ _ => True) (fun r => r.2.1 ≠ Err.lbug)
  · intro i c st i' st' hb _ hs
    exact ⟨fun _ => trivial, fun hn => absurd (hp b i c st i' st' hb hs) hn⟩
  · intro i c st o e st' _ _ hs; exact hd i c st o e st' hs
  · intro i st _ _; exact he i st
  · trivial

/-- a claim about a step in two predicates (the `2`): `S` at the position a continuing step moves to, where the loop
    goes on; `T` of what a finishing step returns, where it stops -/
def StepAll2 (S : Nat → σ → Prop) (T : Nat → Err → σ → Prop) : Step σ → Prop
  | .cont i' st' => S i' st'
  | .done o e st' => T o e st'

theorem StepAll2.cont {S : Nat → σ → Prop} {T : Nat → Err → σ → Prop} {x : Step σ} {i' : Nat} {st' : σ}
    (h : StepAll2 S T x) (hx : x = .cont i' st') : S i' st' := by subst hx; exact h

/-- a stronger claim about the continuing step, given the step that continues -/
theorem StepAll2.cont_imp {S S' : Nat → σ → Prop} {T : Nat → Err → σ → Prop} {x : Step σ} (h : StepAll2 S T x)
    (hc : ∀ i' st', x = .cont i' st' → S i' st' → S' i' st') : StepAll2 S' T x := by
  cases x
  · exact hc _ _ rfl h
  · exact h

theorem StepAll2.ite {S : Nat → σ → Prop} {T : Nat → Err → σ → Prop} {c : Prop} [Decidable c] {x y : Step σ}
    (hx : StepAll2 S T x) (hy : StepAll2 S T y) : StepAll2 S T (if c then x else y) := by
  split
  · exact hx
  · exact hy

theorem StepAll2.ite_pos {S : Nat → σ → Prop} {T : Nat → Err → σ → Prop} {c : Prop} [Decidable c]
    {x y : Step σ} (hx : c → StepAll2 S T x) (hy : StepAll2 S T y) : StepAll2 S T (if c then x else y) := by
  split
  · rename_i hc; exact hx hc
  · exact hy

/-- `runLoop_inv` for a machine that makes progress: `S` on entry of an iteration, `T` of the result -/
theorem runLoop_safe2 (m : Machine σ) (b : Buf) (S : Nat → σ → Prop) (T : Nat → Err → σ → Prop) (hp : Progress m)
    (hstep : ∀ i c st, b[i]? = some c → S i st → StepAll2 S T (m.step b i c st))
    (heob : ∀ i st, S i st → T (m.eob b i st).1 (m.eob b i st).2.1 (m.eob b i st).2.2)
    (i : Nat) (st : σ) (h : S i st) : T (runLoop m b i st).1 (runLoop m b i st).2.1 (runLoop m b i st).2.2 :=
  runLoop_inv m b S (fun r => T r.1 r.2.1 r.2.2)
    (by
      intro j c s j' s' hb hP hs
      have := hstep j c s hb hP
      rw [hs] at this
      exact ⟨fun _ => this, fun hn => absurd (hp b j c s j' s' hb hs) hn⟩)
    (by
      intro j c s o e s' hb hP hs
      have := hstep j c s hb hP
      rw [hs] at this
      exact this)
    (by intro j s _ hP; exact heob j s hP)
    i st h

/-! ### verdicts: what a run can return -/

/-- if `s` ends the loop, its verdict satisfies `V` -/
abbrev Step.Verd (V : Err → Prop) : Step σ → Prop := StepAll2 (fun _ _ => True) (fun _ e _ => V e)

theorem Step.Verd.ite {V : Err → Prop} {c : Prop} [Decidable c] {s t : Step σ} (hs : s.Verd V) (ht : t.Verd V) :
    (if c then s else t).Verd V := StepAll2.ite hs ht

theorem verd_ite {V : Err → Prop} {α : Type} {c : Prop} [Decidable c] {x y : Nat × Err × α} (hx : V x.2.1)
    (hy : V y.2.1) : V (if c then x else y).2.1 := by
  split <;> assumption

/-- the verdicts of a loop that makes progress are those of its steps and of its end-of-buffer exit (the model-only
    `lbug` of the driver's progress guard is never taken) -/
theorem runLoop_verd (m : Machine σ) (b : Buf) (V : Err → Prop) (hp : Progress m)
    (hd : ∀ i c st, b[i]? = some c → (m.step b i c st).Verd V)
    (he : ∀ i st, V (m.eob b i st).2.1) (i : Nat) (st : σ) : V (runLoop m b i st).2.1 :=
  runLoop_safe2 m b (fun _ _ => True) (fun _ e _ => V e) hp (fun i c st hb _ => hd i c st hb) (fun i st _ => he i st)
    i st trivial

/-- closes `c ∈ S` for a constructor `c` (possibly still under the projections of a result triple) and a concrete `S` -/
theorem verd_mem {S : List Err} {e : Err} (h : S.contains e = true) : e ∈ S := by simpa using h

theorem verd_mono {S T : List Err} {e : Err} (h : e ∈ S) (hs : ∀ x ∈ S, x ∈ T) : e ∈ T := hs e h

theorem ne_of_verdicts {S : List Err} {e x : Err} (h : e ∈ S) (hx : x ∉ S) : e ≠ x :=
  fun he => hx (he ▸ h)

theorem bad_or_big_ne_more : ∀ e : Err, e = .badChar ∨ e = .numTooBig → e ≠ .moreBytes := by
  rintro e (rfl | rfl) <;> nofun

/-! ### the run on `b` against the run on `b ++ s` -/

/-- the step at `(i, c, st)` gives the same result on every extension of the buffer, unless it asked for
    more bytes -/
def StepStable (m : Machine σ) (b s : Buf) : Prop :=
  ∀ i c st, b[i]? = some c → (∀ o st', m.step b i c st ≠ .done o .moreBytes st') →
    m.step (b ++ s) i c st = m.step b i c st

/-- the end-of-buffer exit always asks for more bytes -/
def EobMore (m : Machine σ) (b : Buf) : Prop := ∀ i st, (m.eob b i st).2.1 = Err.moreBytes

/-- `Inv` is preserved by the continuing steps of `m` on buffer `b` -/
def InvCont (m : Machine σ) (b : Buf) (Inv : Nat → σ → Prop) : Prop :=
  ∀ i c st i' st', b[i]? = some c → Inv i st → m.step b i c st = .cont i' st' → i < i' → Inv i' st'

/-- step stability relative to an invariant -/
def StepStableI (m : Machine σ) (b s : Buf) (Inv : Nat → σ → Prop) : Prop :=
  ∀ i c st, b[i]? = some c → Inv i st → (∀ o st', m.step b i c st ≠ .done o .moreBytes st') →
    m.step (b ++ s) i c st = m.step b i c st

/-- **the run on `b` against the run on `b ++ s`**: as long as the steps continue, the two runs are in the same
    configuration; so a relation `R` between the two results holds as soon as it holds where the run on `b`
    stops (the run on `b ++ s` taken from that configuration), and of the loop artefact `lbug` with itself. -/
theorem runLoop_sim (m : Machine σ) (b s : Buf) (Inv : Nat → σ → Prop) (R : Nat × Err × σ → Nat × Err × σ → Prop)
    (hic : InvCont m b Inv) (hst : StepStableI m b s Inv)
    (hdone : ∀ i c st o e st', b[i]? = some c → Inv i st → m.step b i c st = .done o e st' →
      R (o, e, st') (runLoop m (b ++ s) i st))
    (heob : ∀ i st, b[i]? = none → Inv i st → R (m.eob b i st) (runLoop m (b ++ s) i st))
    (hlbug : ∀ i st, R (i, Err.lbug, st) (i, Err.lbug, st))
    (i : Nat) (st : σ) (h0 : Inv i st) : R (runLoop m b i st) (runLoop m (b ++ s) i st) := by
  refine runLoop_inv m b (fun j sj => Inv j sj ∧ runLoop m (b ++ s) j sj = runLoop m (b ++ s) i st)
    (fun r => R r (runLoop m (b ++ s) i st)) ?_ ?_ ?_ i st ⟨h0, rfl⟩
  · intro j c sj j' sj' hb ⟨hI, heq⟩ hs
    have hsB := (hst j c sj hb hI (by intro o' s' hh; rw [hs] at hh; cases hh)).trans hs
    rw [runLoop_cont m (get?_app hb) hsB] at heq
    constructor
    · intro hlt; rw [if_pos hlt] at heq; exact ⟨hic j c sj j' sj' hb hI hs hlt, heq⟩
    · intro hnl; rw [if_neg hnl] at heq; rw [← heq]; exact hlbug j sj'
  · intro j c sj o e sj' hb ⟨hI, heq⟩ hs; rw [← heq]; exact hdone j c sj o e sj' hb hI hs
  · intro j sj hb ⟨hI, heq⟩; rw [← heq]; exact heob j sj hb hI

/-- **L1 (generic, with invariant)** -/
theorem runLoop_stableI (m : Machine σ) (b s : Buf) (Inv : Nat → σ → Prop) (hic : InvCont m b Inv)
    (hst : StepStableI m b s Inv) (heob : EobMore m b) (i : Nat) (st : σ) (h0 : Inv i st)
    {o : Nat} {e : Err} {st' : σ}
    (h : runLoop m b i st = (o, e, st')) (he : e ≠ .moreBytes) : runLoop m (b ++ s) i st = (o, e, st') := by
  have key := runLoop_sim m b s Inv (fun r r' => r.2.1 ≠ .moreBytes → r' = r) hic hst
    (fun j c sj o1 e1 s1 hb hI hs hne =>
      runLoop_done m (get?_app hb)
        ((hst j c sj hb hI (by intro o' s' hh; rw [hs] at hh; cases hh; exact hne rfl)).trans hs))
    (fun j sj _ _ hne => absurd (heob j sj) hne) (fun _ _ _ => rfl) i st h0
  rw [h] at key; exact key he

/-- **L1 (generic)**: a definitive result does not change when more bytes arrive. -/
theorem runLoop_stable (m : Machine σ) (b s : Buf) (hst : StepStable m b s) (heob : EobMore m b)
    (i : Nat) (st : σ) {o : Nat} {e : Err} {st' : σ}
    (h : runLoop m b i st = (o, e, st')) (he : e ≠ .moreBytes) : runLoop m (b ++ s) i st = (o, e, st') :=
  runLoop_stableI m b s (fun _ _ => True) (fun _ _ _ _ _ _ _ _ _ => trivial) (fun i c st hb _ => hst i c st hb) heob
    i st trivial h he

/-- a step that asked for more bytes restarts correctly on the extended buffer: the run from the returned offset with
    the returned state is the run from where the step was taken -/
def StepRestart (m : Machine σ) (b s : Buf) : Prop :=
  ∀ i c st o st', b[i]? = some c → m.step b i c st = .done o .moreBytes st' →
    runLoop m (b ++ s) o st' = runLoop m (b ++ s) i st

/-- the same for the end-of-buffer exit -/
def EobRestart (m : Machine σ) (b s : Buf) : Prop :=
  ∀ i st o st', b[i]? = none → m.eob b i st = (o, Err.moreBytes, st') →
    runLoop m (b ++ s) o st' = runLoop m (b ++ s) i st

/-- **L2 (generic, relational)**: the caller re-enters with `g st'` (e.g. a write-only bookkeeping field
    cleared); `R` relates the resumed and the fresh result (e.g. equality up to write-only bookkeeping of a
    nested parser on error verdicts). -/
theorem runLoop_resumeR (m : Machine σ) (b s : Buf) (Inv : Nat → σ → Prop) (g : σ → σ)
    (R : Nat × Err × σ → Nat × Err × σ → Prop)
    (hic : InvCont m b Inv) (hst : StepStableI m b s Inv)
    (hre : ∀ i c st o st', b[i]? = some c → Inv i st → m.step b i c st = .done o .moreBytes st' →
      R (runLoop m (b ++ s) o (g st')) (runLoop m (b ++ s) i st))
    (hee : ∀ i st o st', b[i]? = none → Inv i st → m.eob b i st = (o, Err.moreBytes, st') →
      R (runLoop m (b ++ s) o (g st')) (runLoop m (b ++ s) i st))
    (i : Nat) (st : σ) (h0 : Inv i st) {o : Nat} {st' : σ}
    (h : runLoop m b i st = (o, Err.moreBytes, st')) :
    R (runLoop m (b ++ s) o (g st')) (runLoop m (b ++ s) i st) := by
  have key := runLoop_sim m b s Inv
    (fun r r' => r.2.1 = .moreBytes → R (runLoop m (b ++ s) r.1 (g r.2.2)) r') hic hst
    (fun j c sj o1 e1 s1 hb hI hs (he : e1 = _) => hre j c sj o1 s1 hb hI (he ▸ hs))
    (fun j sj hb hI he => hee j sj _ _ hb hI (by rw [← he]))
    (fun _ _ he => by cases he) i st h0
  rw [h] at key; exact key rfl

/-- **L2 (generic)**: resuming from the returned offset with the saved state, on the extended buffer, gives
    what a fresh run on the extended buffer gives. -/
theorem runLoop_resume (m : Machine σ) (b s : Buf) (hst : StepStable m b s) (hre : StepRestart m b s)
    (hee : EobRestart m b s) (i : Nat) (st : σ) {o : Nat} {st' : σ}
    (h : runLoop m b i st = (o, Err.moreBytes, st')) :
    runLoop m (b ++ s) o st' = runLoop m (b ++ s) i st :=
  runLoop_resumeR m b s (fun _ _ => True) id Eq (fun _ _ _ _ _ _ _ _ _ => trivial) (fun i c st hb _ => hst i c st hb)
    (fun i c st o st' hb _ => hre i c st o st' hb) (fun i st o st' hb _ => hee i st o st' hb) i st trivial h

/-- an invariant holds at every suspension: the state returned with `MoreBytes` satisfies `J` -/
theorem runLoop_moreI (m : Machine σ) (b : Buf) (Inv : Nat → σ → Prop) (J : Nat → σ → Prop)
    (hic : InvCont m b Inv)
    (hd : ∀ i c st o st', b[i]? = some c → Inv i st → m.step b i c st = .done o .moreBytes st' → J o st')
    (he : ∀ i st o st', b[i]? = none → Inv i st → m.eob b i st = (o, Err.moreBytes, st') → J o st')
    (i : Nat) (st : σ) (h0 : Inv i st) {o : Nat} {st' : σ}
    (h : runLoop m b i st = (o, Err.moreBytes, st')) : J o st' := by
  have key := runLoop_inv m b Inv (fun r => r.2.1 = .moreBytes → J r.1 r.2.2)
    (fun j c sj j' sj' hb hI hs => ⟨hic j c sj j' sj' hb hI hs, fun _ hh => by cases hh⟩)
    (fun j c sj o1 e1 s1 hb hI hs (hh : e1 = _) => hd j c sj o1 s1 hb hI (hh ▸ hs))
    (fun j sj hb hI hh => he j sj _ _ hb hI (by rw [← hh])) i st h0
  rw [h] at key; exact key rfl

/-- two steps taken at `i1` / `i2` keep the runs in lockstep: both continue (both forward, into configurations related
    by `C`, or both not, which ends both runs with the loop artefact `lbug`), or both finish with results related by `R` -/
def StepLock (C : Nat → σ → Nat → τ → Prop) (R : Nat × Err × σ → Nat × Err × τ → Prop) (i1 i2 : Nat) :
    Step σ → Step τ → Prop
  | .cont j1 s1, .cont j2 s2 =>
    (i1 < j1 ↔ i2 < j2) ∧ (i2 < j2 → C j1 s1 j2 s2) ∧ (¬ i2 < j2 → R (i1, .lbug, s1) (i2, .lbug, s2))
  | .done o1 e1 s1, .done o2 e2 s2 => R (o1, e1, s1) (o2, e2, s2)
  | _, _ => False

/-- **two runs in lockstep**: if in related configurations both buffers end or both have a byte, the end-of-buffer
    exits are related by `R` and the steps keep the lockstep, then the results are related by `R` -/
theorem runLoop_rel (m1 : Machine σ) (m2 : Machine τ) (b1 b2 : Buf) (C : Nat → σ → Nat → τ → Prop)
    (R : Nat × Err × σ → Nat × Err × τ → Prop)
    (hnone : ∀ i1 s1 i2 s2, C i1 s1 i2 s2 → b2[i2]? = none →
      b1[i1]? = none ∧ R (m1.eob b1 i1 s1) (m2.eob b2 i2 s2))
    (hsome : ∀ i1 s1 i2 s2 c2, C i1 s1 i2 s2 → b2[i2]? = some c2 →
      ∃ c1, b1[i1]? = some c1 ∧ StepLock C R i1 i2 (m1.step b1 i1 c1 s1) (m2.step b2 i2 c2 s2))
    {i1 : Nat} {s1 : σ} {i2 : Nat} {s2 : τ} (h : C i1 s1 i2 s2) :
    R (runLoop m1 b1 i1 s1) (runLoop m2 b2 i2 s2) := by
  -- invariant of the second run: some related configuration of the first run still yields its result
  refine runLoop_inv m2 b2 (fun j2 t2 => ∃ j1 t1, C j1 t1 j2 t2 ∧ runLoop m1 b1 j1 t1 = runLoop m1 b1 i1 s1)
    (fun r => R (runLoop m1 b1 i1 s1) r) ?_ ?_ ?_ i2 s2 ⟨i1, s1, h, rfl⟩
  · intro j2 c2 t2 j2' t2' hb ⟨j1, t1, hC, heq⟩ hs
    obtain ⟨c1, hb1, hl⟩ := hsome j1 t1 j2 t2 c2 hC hb
    rw [hs] at hl
    cases hq : m1.step b1 j1 c1 t1 with
    | done o1 e1 u1 => rw [hq] at hl; exact hl.elim
    | cont j1' t1' =>
      rw [hq] at hl
      obtain ⟨hiff, hgo, hstop⟩ := hl
      rw [runLoop_cont m1 hb1 hq] at heq
      constructor
      · intro hlt; rw [if_pos (hiff.mpr hlt)] at heq; exact ⟨j1', t1', hgo hlt, heq⟩
      · intro hnl; rw [if_neg (fun hh => hnl (hiff.mp hh))] at heq; rw [← heq]; exact hstop hnl
  · intro j2 c2 t2 o e t2' hb ⟨j1, t1, hC, heq⟩ hs
    obtain ⟨c1, hb1, hl⟩ := hsome j1 t1 j2 t2 c2 hC hb
    rw [hs] at hl
    cases hq : m1.step b1 j1 c1 t1 with
    | cont j1' t1' => rw [hq] at hl; exact hl.elim
    | done o1 e1 u1 => rw [hq] at hl; rw [← heq, runLoop_done m1 hb1 hq]; exact hl
  · intro j2 t2 hb ⟨j1, t1, hC, heq⟩
    obtain ⟨hb1, hr⟩ := hnone j1 t1 j2 t2 hC hb
    rw [← heq, runLoop_none m1 t1 hb1]
    exact hr

/-! ### one run against another: two machines -/

/-- **L1 (generic, two machines)**: the earlier call runs `m1` on `b`, the later call `m2` on `b ++ s` -/
theorem runLoop_stable2 {σ : Type} (m1 m2 : Machine σ) (b s : Buf)
    (hst : ∀ i c st, b[i]? = some c → (∀ o st', m1.step b i c st ≠ .done o .moreBytes st') →
      m2.step (b ++ s) i c st = m1.step b i c st)
    (heob : EobMore m1 b) (i : Nat) (st : σ) {o : Nat} {e : Err} {st' : σ}
    (h : runLoop m1 b i st = (o, e, st')) (he : e ≠ .moreBytes) : runLoop m2 (b ++ s) i st = (o, e, st') := by
  induction hk : b.size - i using Nat.strongRecOn generalizing i st with
  | _ k ih =>
    cases hb : b[i]? with
    | none =>
      rw [runLoop_none m1 st hb] at h
      have := heob i st; rw [h] at this; exact absurd this he
    | some c =>
      cases hs : m1.step b i c st with
      | done o1 e1 st1 =>
        rw [runLoop_done m1 hb hs] at h; cases h
        have := hst i c st hb (by intro o' s' hh; rw [hs] at hh; cases hh; exact he rfl)
        exact runLoop_done m2 (get?_app hb) (this.trans hs)
      | cont i' st1 =>
        rw [runLoop_cont m1 hb hs] at h
        have hsB := (hst i c st hb (by intro o' s' hh; rw [hs] at hh; cases hh)).trans hs
        rw [runLoop_cont m2 (get?_app hb) hsB]
        split at h
        · rename_i hlt
          rw [if_pos hlt]
          have := get?_lt hb
          exact ih (b.size - i') (by omega) i' st1 h rfl
        · rename_i hnl; rw [if_neg hnl]; exact h

/-- **L2 (generic, two machines)**: the earlier call runs `m1` on `b`, the later call `m2` on `b ++ s` -/
theorem runLoop_resume2 {σ : Type} (m1 m2 : Machine σ) (b s : Buf)
    (hst : ∀ i c st, b[i]? = some c → (∀ o st', m1.step b i c st ≠ .done o .moreBytes st') →
      m2.step (b ++ s) i c st = m1.step b i c st)
    (hre : ∀ i c st o st', b[i]? = some c → m1.step b i c st = .done o .moreBytes st' →
      runLoop m2 (b ++ s) o st' = runLoop m2 (b ++ s) i st)
    (hee : ∀ i st o st', b[i]? = none → m1.eob b i st = (o, Err.moreBytes, st') →
      runLoop m2 (b ++ s) o st' = runLoop m2 (b ++ s) i st)
    (i : Nat) (st : σ) {o : Nat} {st' : σ}
    (h : runLoop m1 b i st = (o, Err.moreBytes, st')) :
    runLoop m2 (b ++ s) o st' = runLoop m2 (b ++ s) i st := by
  have key := runLoop_inv m1 b (fun j sj => runLoop m2 (b ++ s) j sj = runLoop m2 (b ++ s) i st)
    (fun r => r.2.1 = .moreBytes → runLoop m2 (b ++ s) r.1 r.2.2 = runLoop m2 (b ++ s) i st)
    (fun j c sj j' sj' hb hP hs => ⟨fun hlt => by
        rw [← hP, runLoop_cont_lt m2 (get?_app hb)
          ((hst j c sj hb (by intro o' s' hh; rw [hs] at hh; cases hh)).trans hs) hlt], fun _ => nofun⟩)
    (fun j c sj o1 e1 s1 hb hP hs he => by subst he; exact (hre j c sj o1 s1 hb hs).trans hP)
    (fun j sj hb hP he => (hee j sj _ _ hb (Prod.ext rfl (Prod.ext he rfl))).trans hP) i st rfl
  rw [h] at key
  exact key rfl

/-- two machines, each over its own buffer: if from `i0` on both buffers end at the same place and the machines take
    the same steps and the same end-of-buffer exits, the two runs give the same result -/
theorem runLoop_congr {σ : Type} (m1 m2 : Machine σ) (b1 b2 : Buf) (i0 : Nat)
    (hn : ∀ j st, i0 ≤ j → b2[j]? = none → b1[j]? = none ∧ m1.eob b1 j st = m2.eob b2 j st)
    (hs : ∀ j c st, i0 ≤ j → b2[j]? = some c → ∃ c', b1[j]? = some c' ∧ m1.step b1 j c' st = m2.step b2 j c st)
    (i : Nat) (hi : i0 ≤ i) (st : σ) : runLoop m1 b1 i st = runLoop m2 b2 i st :=
  runLoop_rel m1 m2 b1 b2 (fun j1 s1 j2 s2 => j1 = j2 ∧ s1 = s2 ∧ i0 ≤ j2) Eq
    (fun _ _ _ _ ⟨h1, h2, h3⟩ hb => by subst h1 h2; exact hn _ _ h3 hb)
    (fun j s _ _ c ⟨h1, h2, h3⟩ hb => by
      subst h1 h2
      obtain ⟨c', hb', e⟩ := hs j c s h3 hb
      refine ⟨c', hb', ?_⟩
      rw [e]
      cases m2.step b2 j c s with
      | cont j' s' => exact ⟨Iff.rfl, fun hlt => ⟨rfl, rfl, by omega⟩, fun _ => rfl⟩
      | done o e s' => exact rfl)
    ⟨rfl, rfl, hi⟩

/-! ### an OK result -/

/-- what holds of every OK exit of the loop body holds of an OK result of the loop -/
theorem runLoop_okPost (m : Machine σ) (b : Buf) (R : σ → Prop)
    (hd : ∀ i c st o e st', b[i]? = some c → m.step b i c st = .done o e st' → e = .ok →
      i < o ∧ o ≤ b.size ∧ R st')
    (he : ∀ i st, (m.eob b i st).2.1 ≠ .ok) (i : Nat) (st : σ)
    (hok : (runLoop m b i st).2.1 = .ok) :
    i < (runLoop m b i st).1 ∧ (runLoop m b i st).1 ≤ b.size ∧ R (runLoop m b i st).2.2 := by
  have key := runLoop_inv m b (fun j _ => i ≤ j)
    (fun r => r.2.1 = .ok → i < r.1 ∧ r.1 ≤ b.size ∧ R r.2.2)
    (by
      intro j c s j' s' _ hP _
      exact ⟨fun hlt => by omega, fun _ hq => by cases hq⟩)
    (by
      intro j c s o e s' hb hP hs hq
      have := hd j c s o e s' hb hs hq
      exact ⟨by omega, this.2.1, this.2.2⟩)
    (by
      intro j s _ _ hq
      exact absurd hq (he j s))
    i st (Nat.le_refl _)
  exact key hok

end Sipsp
