/-
  Sipsp.Proofs.SafeContacts — ParseAllContactValues never panics (buffers within the 65,535-byte limit) and keeps
  every stored value dereferenceable; in particular the running extent of the header value (`LastHVal`) is always
  extended forwards.
-/
import Sipsp.Proofs.SafeNALo
import Sipsp.Proofs.Capacity
import Sipsp.Proofs.SafeNA
import Sipsp.Proofs.NameAddrRR
import Sipsp.Proofs.Post

namespace Sipsp

/-- a name-addr value whose fields can all be dereferenced against `b` and that did not panic -/
abbrev NaFine (b : Buf) (pf : PFromBody) : Prop := NaOut b b.size pf

theorem NaOut.fine {b : Buf} {o : Nat} {pf : PFromBody} (h : NaOut b o pf) : NaFine b pf := h.mono h.ho (Nat.le_refl _)

theorem NaEntry.fine {b : Buf} {o : Nat} {pf : PFromBody} (h : NaEntry b o pf) : NaFine b pf := h.naOut.fine

theorem NaFine.grow {b b' : Buf} {pf : PFromBody} (h : NaFine b pf) (hs : b.size ≤ b'.size) : NaFine b' pf :=
  ⟨Nat.le_refl _, PField.inside_mono h.name hs, PField.inside_mono h.uri hs, PField.inside_mono h.tag hs,
   PField.inside_mono h.params hs, PField.inside_mono h.v hs, h.pnc⟩

theorem NaFine_new (b : Buf) : NaFine b {} := by
  refine ⟨Nat.le_refl _, ?_, ?_, ?_, ?_, ?_, rfl⟩ <;> (unfold PField.inside; simp)

/-- every reported field of the list lies before the offset `o` (the part of C05: "inside the consumed region") -/
structure CtIn (b : Buf) (o : Nat) (c : PContacts) : Prop where
  lhv : c.lastHVal.inside o
  stored : ∀ k, k < c.n → k < c.vals.size → NaOut b o c.vals[k]!
  lastI : NaOut b o c.last
  firstI : NaOut b o c.first

theorem CtIn.mono {b : Buf} {o o' : Nat} {c : PContacts} (h : CtIn b o c) (h1 : o ≤ o') (h2 : o' ≤ b.size) :
    CtIn b o' c :=
  ⟨PField.inside_mono h.lhv h1, fun k a1 a2 => (h.stored k a1 a2).mono h1 h2, h.lastI.mono h1 h2, h.firstI.mono h1 h2⟩

theorem NaOut_new (b : Buf) (o : Nat) (ho : o ≤ b.size) : NaOut b o {} :=
  ⟨ho, PField.inside_zero _, PField.inside_zero _, PField.inside_zero _, PField.inside_zero _, PField.inside_zero _, rfl⟩

/-- loop invariant of the contact-values loop at offset `offs` -/
structure CtSafe (b : Buf) (offs : Nat) (c : PContacts) : Prop where
  ho : offs ≤ b.size
  cur : NaEntry b offs c.cur
  clean : CtClean c
  lo : ∃ lo, c.lastHVal.inside lo ∧ lo ≤ offs ∧ VLo lo c.cur
  stored : ∀ k, k < c.n → k < c.vals.size → NaFine b c.vals[k]!
  lastF : NaFine b c.last
  firstF : NaFine b c.first
  pnc : c.pnc = false
  inn : CtIn b offs c

theorem CtSafe.mono {b : Buf} {o o' : Nat} {c : PContacts} (h : CtSafe b o c) (h1 : o ≤ o') (h2 : o' ≤ b.size) :
    CtSafe b o' c := by
  obtain ⟨lo, a1, a2, a3⟩ := h.lo
  exact ⟨h2, h.cur.mono h1 h2, h.clean, ⟨lo, a1, by omega, a3⟩, h.stored, h.lastF, h.firstF, h.pnc, h.inn.mono h1 h2⟩

/-- what holds of a contacts object whatever the verdict -/
structure CtOut (b : Buf) (c : PContacts) : Prop where
  lhv : c.lastHVal.inside b.size
  stored : ∀ k, k < c.n → k < c.vals.size → NaFine b c.vals[k]!
  lastF : NaFine b c.last
  firstF : NaFine b c.first
  pnc : c.pnc = false

theorem endT_eq (f : PField) (n : Nat) (h : f.inside n) (hn : n ≤ 65535) : f.endT = f.offs + f.len := by
  unfold PField.endT; unfold PField.inside at h; exact trunc16_of_lt (by omega)

/-- the bookkeeping after a completed value (`account`): no panic, the running extent still ends before `o'` -/
theorem account_safe (b : Buf) (c : PContacts) (pf : PFromBody) (lo o' : Nat) (hfit : b.size ≤ 65535)
    (hpf : NaOut b o' pf) (hl : c.lastHVal.inside lo) (hv : lo ≤ pf.v.offs) (hp : c.pnc = false) :
    (c.account pf).pnc = false ∧ (c.account pf).lastHVal.inside o' := by
  rw [account_pnc, account_lhv]
  have hend := endT_eq pf.v o' hpf.v (Nat.le_trans hpf.ho hfit)
  have hle : c.lastHVal.offs ≤ pf.v.endT := by have := hpf.v; unfold PField.inside at this hl; omega
  split
  · exact ⟨hp, hpf.v⟩
  · exact ⟨by rw [hp, extendPanics_false _ _ hle]; rfl, extend_inside _ _ _ hle (by rw [hend]; exact hpf.v)⟩

theorem CtIn.out {b : Buf} {o : Nat} {c : PContacts} (h : CtIn b o c) (ho : o ≤ b.size) (hp : c.pnc = false) : CtOut b c :=
  ⟨PField.inside_mono h.lhv ho, fun k a1 a2 => (h.stored k a1 a2).fine, h.lastI.fine, h.firstI.fine, hp⟩

theorem step_in (b : Buf) (c : PContacts) (pf : PFromBody) (lo o o' : Nat) (hfit : b.size ≤ 65535)
    (hin : CtIn b o c) (hoo : o ≤ o') (hpf : NaOut b o' pf) (hl : c.lastHVal.inside lo) (hv : lo ≤ pf.v.offs)
    (hp : c.pnc = false) : CtIn b o' ((c.setCur pf).account pf) ∧ ((c.setCur pf).account pf).pnc = false := by
  have s1 := setCur_scalars c pf
  have ha := account_safe b (c.setCur pf) pf lo o' hfit hpf (by rw [s1.2.2.2.1]; exact hl) hv (by rw [s1.2.2.2.2]; exact hp)
  have hm := hin.mono hoo hpf.ho
  refine ⟨⟨ha.2, ?_, ?_, ?_⟩, ha.1⟩
  · intro k hk hs
    rw [account_n, setCur_n] at hk
    rw [account_vals, setCur_size] at hs
    rw [account_vals]
    exact setCur_storedP (NaOut b o') c pf hm.stored hpf k hk hs
  · rw [account_last]; exact setCur_lastP (NaOut b o') c pf hm.lastI hpf
  · rw [account_first, setCur_first]
    split
    · exact hpf
    · exact hm.firstI

/-- between header lines: the object is sane and the next value will be parsed into a zero element -/
structure CtIdle (b : Buf) (c : PContacts) : Prop where
  out : CtOut b c
  clean : CtClean c.wrap
  cur : c.wrap.cur = {}

theorem CtOut.wrap {b : Buf} {c : PContacts} (h : CtOut b c) : CtOut b c.wrap := by
  obtain ⟨a1, a2, a3, a4, a5, a6, a7⟩ := wrap_scalars c
  refine ⟨by rw [a6]; exact h.lhv, fun k hk hs => ?_, ?_, ?_, by rw [a7]; exact h.pnc⟩
  · rw [a1] at hk; rw [a2] at hs ⊢; exact h.stored k hk hs
  · unfold PContacts.wrap; split
    · exact NaFine_new b
    · exact h.lastF
  · unfold PContacts.wrap; split <;> exact h.firstF

theorem CtIn.wrap {b : Buf} {o : Nat} {c : PContacts} (h : CtIn b o c) (ho : o ≤ b.size) : CtIn b o c.wrap := by
  obtain ⟨a1, a2, a3, a4, a5, a6, a7⟩ := wrap_scalars c
  refine ⟨by rw [a6]; exact h.lhv, fun k hk hs => ?_, ?_, ?_⟩
  · rw [a1] at hk; rw [a2] at hs ⊢; exact h.stored k hk hs
  · unfold PContacts.wrap; split
    · exact NaOut_new b o ho
    · exact h.lastI
  · unfold PContacts.wrap; split <;> exact h.firstI

theorem CtIdle.start {b : Buf} {c : PContacts} (h : CtIdle b c) (o : Nat) (ho : o ≤ b.size) (k : Nat)
    (hin : CtIn b o c) : CtSafe b o { c.wrap with hNo := k, lastHVal := {} } := by
  have hw := h.out.wrap
  have hiw := hin.wrap ho
  refine ⟨ho, ?_, h.clean, ⟨o, PField.inside_zero o, Nat.le_refl _, ?_⟩, hw.stored, hw.lastF, hw.firstF, hw.pnc,
    ⟨PField.inside_zero o, hiw.stored, hiw.lastI, hiw.firstI⟩⟩
  · show NaEntry b o c.wrap.cur
    rw [h.cur]; exact NaEntry_new b o ho
  · show VLo o c.wrap.cur
    rw [h.cur]; exact Or.inl rfl

/-- `parseNameAddrPVal_vlo` also for a value that is already finished (it is returned as it is) -/
theorem naPVal_vdone (ht : Nat) (b : Buf) (offs lo : Nat) (cur : PFromBody) (hfit : b.size ≤ 65535) (hlo : lo ≤ offs)
    (hv : VLo lo cur) {next : Nat} {e : Err} {pf : PFromBody} (hp : parseNameAddrPVal ht b offs cur = (next, e, pf)) :
    VDone lo e pf := by
  by_cases hf : cur.state = .fin
  · have : parseNameAddrPVal ht b offs cur = (offs, .ok, cur) := by unfold parseNameAddrPVal; rw [if_pos hf]
    rw [this] at hp
    simp only [Prod.mk.injEq] at hp
    obtain ⟨rfl, rfl, rfl⟩ := hp
    refine ⟨fun _ => ?_, (fun hh => by cases hh)⟩
    rcases hv with h0 | h0
    · rw [hf] at h0; cases h0
    · exact h0
  · exact parseNameAddrPVal_vlo ht b offs lo cur hfit hlo hf hv hp

/-- what the value-list loop guarantees about its result `r`: the object is sane whatever the verdict; after MoreBytes
    it is legitimate again at the returned offset; after OK it is idle and every field lies before the returned offset -/
def CtT (b : Buf) (r : Nat × Err × PContacts) : Prop :=
  CtOut b r.2.2 ∧ (r.2.1 = .moreBytes → CtSafe b r.1 r.2.2) ∧
    (r.2.1 = .ok → CtIdle b r.2.2 ∧ r.1 ≤ b.size ∧ CtIn b r.1 r.2.2) ∧ r.1 ≤ b.size

theorem valsLoop_safe {one : Buf → Nat → PFromBody → Nat × Err × PFromBody} (hone : NaOne one) (b : Buf) (offs : Nat)
    (c : PContacts) (hfit : b.size ≤ 65535) (h : CtSafe b offs c) : CtT b (valsLoop one b offs c) := by
  refine valsLoop_inv one b (CtSafe b) (CtT b) (fun offs c h => ?_) offs c h
  unfold valsStep
  obtain ⟨lo, hl1, hl2, hl3⟩ := h.lo
  rcases hp : one b offs c.cur with ⟨next, e1, pf⟩
  obtain ⟨ht, e0, hp0, hok0, hmv0, hmb0⟩ := hone hp
  have hsafe := parseNameAddrPVal_safe ht b offs c.cur h.cur hp0
  have hvd : VDone lo e0 pf := naPVal_vdone ht b offs lo c.cur hfit hl2 hl3 hp0
  have hout : ∀ x : PContacts, x.lastHVal = c.lastHVal → x.pnc = c.pnc → x.n ≤ c.n + 1 → x.vals.size = c.vals.size →
      (∀ k, k < x.n → k < c.vals.size → NaFine b x.vals[k]!) → NaFine b x.last → NaFine b x.first → CtOut b x := by
    intro x e1 e2 _ e4 e5 e6 e7
    have hho := h.ho
    exact ⟨by rw [e1]; exact PField.inside_mono hl1 (by omega), fun k hk hs => e5 k hk (by rw [← e4]; exact hs), e6, e7,
      by rw [e2]; exact h.pnc⟩
  -- one value has been parsed from the current slot: it is sane (`hsafe`) and starts at or after `lo` (`hvd`).  By its
  -- verdict: OK ends the list and MoreValues goes on to the next slot, both after storing the value and accounting it
  -- to the running extent (`step_in`); MoreBytes keeps it in the current slot for the resumed call (`hcs`); every other
  -- verdict leaves a list whose fields are those of `c`, with at most the current slot overwritten (`hout`)
  cases e1 <;> simp only [CtT]
  case ok =>
    obtain rfl := hok0 rfl
    have hf := (parseNameAddrPVal_post ht b offs c.cur hp0 (Or.inl rfl)).1
    have d := done_facts c pf h.clean hf
    have hge : offs ≤ next := (naPVal_ok_range ht b offs c.cur h.ho hp0 (Or.inl rfl)).2.1
    obtain ⟨hin, hpn⟩ := step_in b c pf lo offs next hfit h.inn hge hsafe.1 hl1 (hvd.1 (Or.inl rfl)) h.pnc
    have hso := hin.out hsafe.1.ho hpn
    exact ⟨hso, (fun hh => by cases hh), (fun _ => ⟨⟨hso, d.2.1, d.1⟩, hsafe.1.ho, hin⟩), hsafe.1.ho⟩
  case moreValues =>
    obtain rfl := hmv0 rfl
    have hge : offs ≤ next := (naPVal_ok_range ht b offs c.cur h.ho hp0 (Or.inr rfl)).2.1
    obtain ⟨hin, hpn⟩ := step_in b c pf lo offs next hfit h.inn hge hsafe.1 hl1 (hvd.1 (Or.inr rfl)) h.pnc
    have hso := hin.out hsafe.1.ho hpn
    have hcl := next_clean c pf h.clean
    have hlh : (c.next pf).lastHVal.inside next := by unfold PContacts.next; split <;> exact hin.lhv
    have hnsafe : CtSafe b next (c.next pf) := by
      refine ⟨hsafe.1.ho, by rw [hcl.2]; exact NaEntry_new b next hsafe.1.ho, hcl.1,
        ⟨next, hlh, Nat.le_refl _, by rw [hcl.2]; exact Or.inl rfl⟩, ?_, ?_, ?_, ?_, ?_⟩
      · intro k hk hs
        rw [next_n] at hk
        rw [next_vals, setCur_size] at hs
        rw [next_vals]
        exact setCur_storedP (NaFine b) c pf h.stored hsafe.1.fine k hk hs
      · unfold PContacts.next; split
        · exact hso.lastF
        · exact NaFine_new b
      · unfold PContacts.next; split <;> exact hso.firstF
      · unfold PContacts.next; split <;> exact hso.pnc
      · refine ⟨hlh, fun k hk hs => ?_, ?_, ?_⟩
        · rw [next_n] at hk
          rw [next_vals, setCur_size] at hs
          rw [next_vals]
          have := hin.stored k (by rw [account_n, setCur_n]; exact hk) (by rw [account_vals, setCur_size]; exact hs)
          rw [account_vals] at this; exact this
        · unfold PContacts.next; split
          · exact hin.lastI
          · exact NaOut_new b next hsafe.1.ho
        · unfold PContacts.next; split <;> exact hin.firstI
    by_cases hg : offs < next ∧ next ≤ b.size
    · rw [if_pos hg]
      exact hnsafe
    · rw [if_neg hg]
      exact ⟨⟨PField.inside_mono hlh hsafe.1.ho, hnsafe.stored,
        hnsafe.lastF, hnsafe.firstF, hnsafe.pnc⟩, (fun hh => by cases hh), (fun hh => by cases hh), hsafe.1.ho⟩
  case moreBytes =>
    obtain rfl := hmb0 rfl
    have s1 := setCur_scalars c pf
    have hE := hsafe.2 rfl
    have hcs : CtSafe b next (c.setCur pf) := by
      have hgeM : offs ≤ next := by
        have := parseNameAddrPVal_more_range ht b offs c.cur h.cur.naOK hp0
        omega
      have hmI := h.inn.mono hgeM hsafe.1.ho
      refine ⟨hsafe.1.ho, by rw [setCur_cur]; exact hE, ?_, ⟨lo, by rw [s1.2.2.2.1]; exact hl1, ?_, by rw [setCur_cur]; exact hvd.2 rfl⟩,
        ?_, setCur_lastP (NaFine b) c pf h.lastF hsafe.1.fine, by rw [setCur_first]; exact h.firstF, by rw [s1.2.2.2.2]; exact h.pnc,
        ⟨by rw [s1.2.2.2.1]; exact hmI.lhv,
         (fun k hk hs => by
            rw [setCur_n] at hk; rw [setCur_size] at hs
            rw [setCur_vals_ne c pf k (by omega)]; exact hmI.stored k hk hs),
         setCur_lastP (NaOut b next) c pf hmI.lastI hsafe.1, by rw [setCur_first]; exact hmI.firstI⟩⟩
      · refine ⟨fun k h1 h2 => ?_, fun h1 => ?_⟩
        · rw [setCur_n] at h1; rw [setCur_size] at h2
          rw [setCur_vals_ne c pf k (by omega)]; exact h.clean.1 k h1 h2
        · rw [setCur_n, setCur_size] at h1
          rw [setCur_last_in c pf h1]; exact h.clean.2 h1
      · have := parseNameAddrPVal_more_range ht b offs c.cur h.cur.naOK hp0
        omega
      · intro k hk hs
        rw [setCur_n] at hk; rw [setCur_size] at hs
        rw [setCur_vals_ne c pf k (by omega)]; exact h.stored k hk hs
    have hho := h.ho
    exact ⟨⟨by rw [s1.2.2.2.1]; exact PField.inside_mono hl1 (by omega), hcs.stored,
      hcs.lastF, hcs.firstF, hcs.pnc⟩, (fun _ => hcs), (fun hh => by cases hh), hsafe.1.ho⟩
  all_goals
    refine ⟨?_, (fun hh => by cases hh), (fun hh => by cases hh), hsafe.1.ho⟩
    split
    · have s1 := setCur_scalars c pf
      exact hout _ s1.2.2.2.1 s1.2.2.2.2 (by rw [setCur_n]; omega) (setCur_size c pf)
        (fun k hk hs => by rw [setCur_n] at hk; exact setCur_storedP (NaFine b) c pf h.stored hsafe.1.fine k (by omega) hs)
        (setCur_lastP (NaFine b) c pf h.lastF hsafe.1.fine) (by rw [setCur_first]; exact h.firstF)
    · exact hout _ rfl rfl (Nat.le_succ _) rfl (fun k hk hs => h.stored k hk hs) (NaFine_new b) h.firstF

theorem contactsLoop_safe (b : Buf) (offs : Nat) (c : PContacts) (hfit : b.size ≤ 65535) (h : CtSafe b offs c) :
    CtT b (contactsLoop b offs c) := by
  rw [contactsLoop_eq_valsLoop]
  exact valsLoop_safe naOne_contact b offs c hfit h

theorem CtSafe.wrap {b : Buf} {o : Nat} {c : PContacts} (h : CtSafe b o c) : CtSafe b o c.wrap := by
  unfold PContacts.wrap
  split
  · rename_i hc
    simp only [Bool.and_eq_true, decide_eq_true_eq] at hc
    have hcur : ({ c with last := {} } : PContacts).cur = {} := by
      unfold PContacts.cur; rw [if_neg (by show ¬ c.n < c.vals.size; omega)]
    obtain ⟨lo, hl1, hl2, _⟩ := h.lo
    exact ⟨h.ho, by rw [hcur]; exact NaEntry_new b o h.ho, ⟨h.clean.1, fun _ => rfl⟩,
      ⟨lo, hl1, hl2, by rw [hcur]; exact Or.inl rfl⟩, h.stored, NaFine_new b, h.firstF, h.pnc,
      ⟨h.inn.lhv, h.inn.stored, NaOut_new b o h.ho, h.inn.firstI⟩⟩
  · exact h

/-- **ParseAllContactValues never panics** (65,535-byte limit), for an object whose normalised form (`wrap`) is
    legitimate: a suspended value list, or (`CtIdle.start`) the object with which a new header line starts -/
theorem parseAllContactValues_safe_wrap (b : Buf) (o : Nat) (c : PContacts) (hfit : b.size ≤ 65535) (h : CtSafe b o c.wrap) :
    CtT b (parseAllContactValues b o c) := by
  rw [parseAllContactValues_eq_wrap]
  exact contactsLoop_safe b o c.wrap hfit h

theorem parseAllContactValues_safe (b : Buf) (o : Nat) (c : PContacts) (hfit : b.size ≤ 65535) (h : CtSafe b o c) :
    CtT b (parseAllContactValues b o c) :=
  parseAllContactValues_safe_wrap b o c hfit h.wrap

theorem CtIdle_new (b : Buf) (k : Nat) : CtIdle b ({ vals := Array.replicate k {} } : PContacts) := by
  have hw : (({ vals := Array.replicate k {} } : PContacts)).wrap = { vals := Array.replicate k {} } := by
    unfold PContacts.wrap; simp [PFromBody.parsed]
  exact ⟨⟨PField.inside_zero _, (fun j hj => by cases hj), NaFine_new b, NaFine_new b, rfl⟩,
    by rw [hw]; exact SlotArr.clean_replicate ({} : PFromBody) k, by rw [hw]; exact SlotArr.cur_replicate ({} : PFromBody) k⟩

theorem CtIn_new (b : Buf) (o : Nat) (ho : o ≤ b.size) (k : Nat) : CtIn b o ({ vals := Array.replicate k {} } : PContacts) :=
  ⟨PField.inside_zero _, (fun j hj => by cases hj), NaOut_new b o ho, NaOut_new b o ho⟩

theorem CtSafe.idleOut {b : Buf} {o : Nat} {c : PContacts} (h : CtSafe b o c) : CtOut b c := by
  obtain ⟨lo, hl1, hl2, _⟩ := h.lo
  have := h.ho
  exact ⟨PField.inside_mono hl1 (by omega), h.stored, h.lastF, h.firstF, h.pnc⟩

end Sipsp
