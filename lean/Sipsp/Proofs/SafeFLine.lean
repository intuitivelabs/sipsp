/-
  Sipsp.Proofs.SafeFLine — ParseFLine never panics (65,535-byte limit) and every field it reports lies before the
  returned offset.
-/
import Sipsp.Proofs.SafeVals
import Sipsp.Proofs.FLine

namespace Sipsp

structure FlSafe (b : Buf) (o : Nat) (pl : PFLine) : Prop where
  ho : o ≤ b.size
  method : pl.method.inside o
  uri : pl.uri.inside o
  version : pl.version.inside o
  statusCode : pl.statusCode.inside o
  reason : pl.reason.inside o
  pnc : pl.pnc = false

theorem FlSafe.mono {b : Buf} {i j : Nat} {pl : PFLine} (h : FlSafe b i pl) (hij : i ≤ j) (hj : j ≤ b.size) :
    FlSafe b j pl :=
  ⟨hj, PField.inside_mono h.method hij, PField.inside_mono h.uri hij, PField.inside_mono h.version hij,
   PField.inside_mono h.statusCode hij, PField.inside_mono h.reason hij, h.pnc⟩

theorem FlSafe.st {b : Buf} {o : Nat} {pl : PFLine} (h : FlSafe b o pl) (x : FLState) :
    FlSafe b o { pl with state := x } :=
  ⟨h.ho, h.method, h.uri, h.version, h.statusCode, h.reason, h.pnc⟩

theorem PField.inside_offs {f : PField} {n : Nat} (h : f.inside n) : f.offs ≤ n := by
  unfold PField.inside at h; omega

theorem flCRLF_safe (b : Buf) (i : Nat) (pl : PFLine) (h : FlSafe b i pl) :
    FlSafe b (flCRLF b i pl).1 (flCRLF b i pl).2.2 := by
  unfold flCRLF
  rcases hs : skipCRLF b i with ⟨n, crl, e⟩
  have hr := skipCRLF_range hs
  cases e <;> simp only
  case ok => exact (h.mono hr.1 (hr.2.2.1 rfl).1).st .fin
  all_goals
    (have := hr.2.2.2 (by decide)
     rw [this.1]; exact h)

theorem skipToEOL_le (b : Buf) (i : Nat) (hi : i ≤ b.size) : skipToEOL b i ≤ b.size := by
  rw [skipToEOL_eq]; exact scanTo_le _ b i hi

theorem flRplReason_safe (b : Buf) (i : Nat) (pl : PFLine) (h : FlSafe b i pl) :
    FlSafe b (flRplReason b i pl).1 (flRplReason b i pl).2.2 := by
  unfold flRplReason skipLine
  have hge := skipToEOL_ge b i
  rcases hs : skipCRLF b (skipToEOL b i) with ⟨n, crl, e⟩
  have hr := skipCRLF_range hs
  cases e <;> simp only
  case ok =>
    have h3 := hr.2.2.1 rfl
    have hec : n - crl = skipToEOL b i := by omega
    have hv : pl.reason.offs ≤ n - crl := by have := PField.inside_offs h.reason; omega
    have h' := h.mono (by omega : i ≤ n) h3.1
    exact ⟨h'.ho, h'.method, h'.uri, h'.version, h'.statusCode, extend_inside _ _ _ hv (by omega),
      by show (pl.pnc || _) = false; rw [h.pnc, extendPanics_false _ _ hv]; rfl⟩
  all_goals
    (have h4 := hr.2.2.2 (by decide)
     rw [h4.1]
     exact h.mono hge (skipToEOL_le b i h.ho))

/-- recording a token that ends at `j` keeps the object safe at `j` (the object is taken apart first: the kernel must not
    compare it with the object whose field is extended, see `PField.extend_offs`) -/
theorem FlSafe.ext {b : Buf} {j : Nat} {p : PFLine} (k : FlTok) (h : FlSafe b j p) : FlSafe b j (k.ext p j) := by
  obtain ⟨ho, hm, hu, hv, hs, hr, hp⟩ := h
  obtain ⟨st0, mn, m, u, v, sc, rs, state, pn⟩ := p
  dsimp only at hm hu hv hs hr hp
  have hpn : ∀ f : PField, f.inside j → (pn || f.extendPanics j) = false := fun f hf => by
    rw [hp, extendPanics_false _ _ (PField.inside_offs hf)]; rfl
  cases k <;> dsimp only [FlTok.ext]
  · exact ⟨ho, extend_inside _ _ _ (PField.inside_offs hm) (Nat.le_refl _), hu, hv, hs, hr, hpn _ hm⟩
  · exact ⟨ho, hm, extend_inside _ _ _ (PField.inside_offs hu) (Nat.le_refl _), hv, hs, hr, hpn _ hu⟩
  · exact ⟨ho, hm, hu, extend_inside _ _ _ (PField.inside_offs hv) (Nat.le_refl _), hs, hr, hpn _ hv⟩

theorem FlSafe.after {b : Buf} {j : Nat} {p : PFLine} {k : FlTok} {i' : Nat} {p' : PFLine} (h : FlSafe b j p)
    (hj : j < b.size) (ha : k.after b j p = some (i', p')) : FlSafe b i' p' := by
  have h2 := h.mono (Nat.le_succ j) hj
  have hs : (PField.set (j + 1) (j + 1)).inside (j + 1) := set_inside _ _ _ (Nat.le_refl _) (Nat.le_refl _)
  cases FlTok.after_some ha with
  | method _ => exact ⟨h2.ho, h2.method, hs, h2.version, h2.statusCode, h2.reason, h2.pnc⟩
  | uri => exact ⟨h2.ho, h2.method, h2.uri, hs, h2.statusCode, h2.reason, h2.pnc⟩
  | version => exact h.st .crlf

theorem FlAt.safe {b : Buf} {o : Nat} {pl : PFLine} {s : FLState} {i : Nat} {p : PFLine} (H : FlSafe b o pl)
    (h : FlAt b o pl s i p) : FlSafe b i p := by
  induction h with
  | resume _ _ => exact H
  | request _ _ _ =>
    exact ⟨H.ho, set_inside _ _ _ (Nat.le_refl _) (Nat.le_refl _), H.uri, H.version, H.statusCode, H.reason, H.pnc⟩
  | reply _ hlen _ _ _ _ _ _ =>
    have h2 := H.mono (by omega : o ≤ o + 12) (by omega)
    exact ⟨h2.ho, h2.method, h2.uri, set_inside _ _ _ (by omega) (by omega), set_inside _ _ _ (by omega) (by omega),
      set_inside _ _ _ (Nat.le_refl _) (Nat.le_refl _), h2.pnc⟩
  | @tok k i p c i' p' _ hj _ _ ha ih =>
    exact ((ih.mono (skipToken_ge b i) (Nat.le_of_lt (get?_lt hj))).ext k).after (get?_lt hj) ha

/-- **ParseFLine never panics (65,535-byte limit); every field lies before the returned offset** — whatever the
    verdict, so the returned object is again a legitimate argument -/
theorem parseFLine_safe (b : Buf) (o : Nat) (pl : PFLine) (hfit : b.size ≤ 65535) (h : FlSafe b o pl) :
    FlSafe b (parseFLine b o pl).1 (parseFLine b o pl).2.2 := by
  have tk : ∀ {s i p}, FlAt b o pl s i p → FlSafe b (skipToken b i) p :=
    fun h' => (h'.safe h).mono (skipToken_ge b _) (skipToken_le b _ (h'.safe h).ho)
  refine parseFLine_cases (P := fun r => FlSafe b r.1 r.2.2) b o pl (short := fun _ _ => h)
    (status := fun _ hlen _ _ _ _ _ _ _ _ _ _ => ?_)
    (more := fun _ _ _ h' _ => tk h') (bad := fun _ _ _ _ h' _ _ => tk h')
    (empty := fun k _ _ _ h' _ _ _ => (tk h').ext k) (unread := fun h' _ _ _ hg => ?_)
    (crlf := fun h' => flCRLF_safe b _ _ (h'.safe h)) (reason := fun h' => flRplReason_safe b _ _ (h'.safe h))
    (dead := fun _ => h.st .fin)
  · have h1 := h.mono (by omega : o ≤ o + 8) (by omega)
    exact ⟨h1.ho, h1.method, h1.uri, set_inside _ _ _ (by omega) (by omega), h1.statusCode, h1.reason, h1.pnc⟩
  · -- a recorded method inside the buffer can be read back
    have hS := (tk h').ext .method
    obtain ⟨x, hx⟩ := field_get?_some b _ (PField.inside_mono hS.method hS.ho) hfit
    rw [hx] at hg; cases hg

theorem FlSafe_new (b : Buf) (o : Nat) (ho : o ≤ b.size) : FlSafe b o {} :=
  ⟨ho, PField.inside_zero o, PField.inside_zero o, PField.inside_zero o, PField.inside_zero o, PField.inside_zero o, rfl⟩

end Sipsp
