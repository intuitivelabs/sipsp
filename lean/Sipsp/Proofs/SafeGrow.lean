/-
  Sipsp.Proofs.SafeGrow — the safety invariants mention the buffer only through its length: they survive the arrival
  of more bytes.
-/
import Sipsp.Proofs.SafeHeaders
import Sipsp.Proofs.SafeFLine

namespace Sipsp

variable {b b' : Buf}

theorem CiSafe.grow {o : Nat} {st : PCallIDBody} (h : CiSafe b o st) (hs : b.size ≤ b'.size) : CiSafe b' o st :=
  ⟨by have := h.hi; omega, h.soffs, h.fld, h.pnc⟩

theorem ClSafe.grow {o : Nat} {st : PUIntBody} (h : ClSafe b o st) (hs : b.size ≤ b'.size) : ClSafe b' o st :=
  ⟨by have := h.hi; omega, h.soffs, h.fld, h.pnc⟩

theorem ClOut.grow {st : PUIntBody} (h : ClOut b st) (hs : b.size ≤ b'.size) : ClOut b' st :=
  ⟨PField.inside_mono h.1 hs, h.2⟩

theorem CsSafe.grow {o : Nat} {st : PCSeqBody} (h : CsSafe b o st) (hs : b.size ≤ b'.size) : CsSafe b' o st :=
  ⟨by have := h.hi; omega, h.soffs, h.cseq, h.method, h.v, h.pnc⟩

theorem CsOut.grow {st : PCSeqBody} (h : CsOut b st) (hs : b.size ≤ b'.size) : CsOut b' st :=
  ⟨PField.inside_mono h.1 hs, PField.inside_mono h.2.1 hs, PField.inside_mono h.2.2.1 hs, h.2.2.2⟩

theorem CtOut.grow {c : PContacts} (h : CtOut b c) (hs : b.size ≤ b'.size) : CtOut b' c :=
  ⟨PField.inside_mono h.lhv hs, fun k h1 h2 => (h.stored k h1 h2).grow hs, h.lastF.grow hs, h.firstF.grow hs, h.pnc⟩

theorem CtIdle.grow {c : PContacts} (h : CtIdle b c) (hs : b.size ≤ b'.size) : CtIdle b' c :=
  ⟨h.out.grow hs, h.clean, h.cur⟩

theorem CtIn.grow {o : Nat} {c : PContacts} (h : CtIn b o c) (hs : b.size ≤ b'.size) : CtIn b' o c :=
  ⟨h.lhv, fun k h1 h2 => (h.stored k h1 h2).grow hs, h.lastI.grow hs, h.firstI.grow hs⟩

theorem PaIn.grow {o : Nat} {c : PPAIs} (h : PaIn b o c) (hs : b.size ≤ b'.size) : PaIn b' o c :=
  ⟨h.lhv, fun k h1 h2 => (h.stored k h1 h2).grow hs, h.lastI.grow hs⟩

theorem CtSafe.grow {o : Nat} {c : PContacts} (h : CtSafe b o c) (hs : b.size ≤ b'.size) : CtSafe b' o c :=
  ⟨by have := h.ho; omega, h.cur.grow hs, h.clean, h.lo, fun k h1 h2 => (h.stored k h1 h2).grow hs, h.lastF.grow hs,
   h.firstF.grow hs, h.pnc, h.inn.grow hs⟩

theorem PaOut.grow {c : PPAIs} (h : PaOut b c) (hs : b.size ≤ b'.size) : PaOut b' c :=
  ⟨PField.inside_mono h.lhv hs, fun k h1 h2 => (h.stored k h1 h2).grow hs, h.lastF.grow hs, h.pnc⟩

theorem PaIdle.grow {c : PPAIs} (h : PaIdle b c) (hs : b.size ≤ b'.size) : PaIdle b' c :=
  ⟨h.out.grow hs, h.clean, h.cur⟩

theorem PaSafe.grow {o : Nat} {c : PPAIs} (h : PaSafe b o c) (hs : b.size ≤ b'.size) : PaSafe b' o c :=
  ⟨by have := h.ho; omega, h.cur.grow hs, h.clean, h.lo, fun k h1 h2 => (h.stored k h1 h2).grow hs, h.lastF.grow hs,
   h.pnc, h.inn.grow hs⟩

theorem HvSafe.grow {o : Nat} {st : HState} {hv : PHdrVals} (h : HvSafe b o st hv) (hs : b.size ≤ b'.size) :
    HvSafe b' o st hv :=
  ⟨h.from_.grow hs, h.to.grow hs, h.callid.grow hs, h.cseq.grow hs, h.clen.grow hs, h.expires.grow hs,
   fun hh => (h.ctS hh).grow hs, fun hh => (h.ctI hh).grow hs, fun hh => (h.paS hh).grow hs,
   fun hh => (h.paI hh).grow hs, h.ctIn.grow hs, h.paIn.grow hs⟩

theorem HvFine.grow {hv : PHdrVals} (h : HvFine b hv) (hs : b.size ≤ b'.size) : HvFine b' hv :=
  ⟨h.from_.grow hs, h.to.grow hs, ⟨PField.inside_mono h.callid.1 hs, h.callid.2⟩, h.cseq.grow hs, h.clen.grow hs,
   h.expires.grow hs, h.contacts.grow hs, h.pais.grow hs⟩

theorem HlSafe.grow {o : Nat} {st : HLσ} (h : HlSafe b o st) (hs : b.size ≤ b'.size) : HlSafe b' o st :=
  ⟨by have := h.hi; omega, h.pnc, PField.inside_mono h.nameF hs, h.nameI, PField.inside_mono h.valF hs, h.valI, h.nn,
   fun hv hh => (h.hv hv hh).grow hs, h.nameIn, h.valIn⟩

theorem HdrFine.grow {h : Hdr} (hf : HdrFine b h) (hs : b.size ≤ b'.size) : HdrFine b' h :=
  ⟨hf.1, PField.inside_mono hf.2.1 hs, PField.inside_mono hf.2.2 hs⟩

theorem HlsOut.grow {hl : HdrLst} (h : HlsOut b hl) (hs : b.size ≤ b'.size) : HlsOut b' hl :=
  ⟨fun k hk => (h.all k hk).grow hs, h.hdr.grow hs, fun j hj => (h.hF j hj).grow hs⟩

theorem HlsSafe.grow {o : Nat} {hl : HdrLst} {hb : Option PHdrVals} (h : HlsSafe b o hl hb) (hs : b.size ≤ b'.size) :
    HlsSafe b' o hl hb :=
  ⟨h.cur.grow hs, h.clean, fun k h1 h2 => (h.stored k h1 h2).grow hs, fun j hj => (h.hF j hj).grow hs, h.inn⟩

theorem FlSafe.grow {o : Nat} {pl : PFLine} (h : FlSafe b o pl) (hs : b.size ≤ b'.size) : FlSafe b' o pl :=
  ⟨by have := h.ho; omega, h.method, h.uri, h.version, h.statusCode, h.reason, h.pnc⟩

end Sipsp
