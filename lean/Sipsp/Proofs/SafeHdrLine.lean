/-
  Sipsp.Proofs.SafeHdrLine — ParseHdrLine never panics (65,535-byte limit); every field it reports — in the header
  and in the header-values object — can be dereferenced.
-/
import Sipsp.Proofs.SafePAIs
import Sipsp.Proofs.ValCall
import Sipsp.Proofs.HlLex
import Sipsp.Proofs.SafeVals
import Sipsp.Proofs.HdrLineL2

namespace Sipsp

/-- legitimacy (for panic-freedom) of the header-values object at offset `o`, while the header being parsed is in
    state `st` -/
structure HvSafe (b : Buf) (o : Nat) (st : HState) (hv : PHdrVals) : Prop where
  from_ : NaEntry b o hv.from_
  to : NaEntry b o hv.to
  callid : CiSafe b o hv.callid
  cseq : CsSafe b o hv.cseq
  clen : ClSafe b o hv.clen
  expires : ClSafe b o hv.expires
  ctS : st = .hContact → CtSafe b o hv.contacts
  ctI : st ≠ .hContact → CtIdle b hv.contacts
  paS : st = .hPAI → PaSafe b o hv.pais
  paI : st ≠ .hPAI → PaIdle b hv.pais
  ctIn : CtIn b o hv.contacts
  paIn : PaIn b o hv.pais

/-- every field of the values object can be dereferenced, nothing panicked -/
structure HvFine (b : Buf) (hv : PHdrVals) : Prop where
  from_ : NaFine b hv.from_
  to : NaFine b hv.to
  callid : hv.callid.callID.inside b.size ∧ hv.callid.pnc = false
  cseq : CsOut b hv.cseq
  clen : ClOut b hv.clen
  expires : ClOut b hv.expires
  contacts : CtOut b hv.contacts
  pais : PaOut b hv.pais

theorem HvSafe.fine {b : Buf} {o : Nat} {st : HState} {hv : PHdrVals} (h : HvSafe b o st hv) : HvFine b hv := by
  refine ⟨h.from_.fine, h.to.fine, ⟨PField.inside_mono h.callid.fld h.callid.hi, h.callid.pnc⟩, h.cseq.out, h.clen.out,
    h.expires.out, ?_, ?_⟩
  · by_cases hs : st = .hContact
    · exact (h.ctS hs).idleOut
    · exact (h.ctI hs).out
  · by_cases hs : st = .hPAI
    · exact (h.paS hs).idleOut
    · exact (h.paI hs).out

theorem HvSafe.mono {b : Buf} {o o' : Nat} {st : HState} {hv : PHdrVals} (h : HvSafe b o st hv) (h1 : o ≤ o')
    (h2 : o' ≤ b.size) : HvSafe b o' st hv :=
  ⟨h.from_.mono h1 h2, h.to.mono h1 h2, h.callid.mono h1 h2, h.cseq.mono h1 h2, h.clen.mono h1 h2, h.expires.mono h1 h2,
   fun hs => (h.ctS hs).mono h1 h2, h.ctI, fun hs => (h.paS hs).mono h1 h2, h.paI, h.ctIn.mono h1 h2, h.paIn.mono h1 h2⟩

/-- the header state changes between states that are not "inside the Contact / PAI value list" -/
theorem HvSafe.restate {b : Buf} {o : Nat} {st st' : HState} {hv : PHdrVals} (h : HvSafe b o st hv)
    (h1 : st ≠ .hContact) (h2 : st ≠ .hPAI) (h3 : st' ≠ .hContact) (h4 : st' ≠ .hPAI) : HvSafe b o st' hv :=
  ⟨h.from_, h.to, h.callid, h.cseq, h.clen, h.expires, fun hs => absurd hs h3, fun _ => h.ctI h1,
   fun hs => absurd hs h4, fun _ => h.paI h2, h.ctIn, h.paIn⟩

/-- the list object the Contact parser is entered with (`ctArg`) is legitimate once normalised: on a continued line it
    is the suspended one, on a new line the idle one with the header number advanced -/
theorem HvSafe.ctStart {b : Buf} {o : Nat} {st : HState} {hv : PHdrVals} (H : HvSafe b o st hv) (ho : o ≤ b.size) :
    CtSafe b o (ctArg st hv.contacts).wrap := by
  unfold ctArg
  split
  · rename_i hs; rw [bump_wrap]; exact (H.ctI (by simpa using hs)).start o ho _ H.ctIn
  · rename_i hs; exact (H.ctS (by simpa using hs)).wrap

theorem HvSafe.paStart {b : Buf} {o : Nat} {st : HState} {hv : PHdrVals} (H : HvSafe b o st hv) (ho : o ≤ b.size) :
    PaSafe b o (paArg st hv.pais).wrap := by
  unfold paArg
  split
  · rename_i hs; rw [paBump_wrap]; exact (H.paI (by simpa using hs)).start o ho _ H.paIn
  · rename_i hs; exact (H.paS (by simpa using hs)).wrap

/-- **the typed value parsers never panic**, all eight kinds, called on a new header line (`st` outside the two value
    lists) or continued (`st = S`): every value object stays dereferenceable; the value reported with OK ends at the
    returned offset; after OK / MoreBytes the values object is legitimate at the returned offset (`hrg`: its range, which
    the callers have from their post-conditions) -/
theorem valCall_safe (S st : HState) (b : Buf) (o : Nat) (hv : PHdrVals) (ho : o ≤ b.size) (hfit : b.size ≤ 65535)
    (hisv : S.isVal) (hst : st = S ∨ (st ≠ .hContact ∧ st ≠ .hPAI)) (H : HvSafe b o st hv)
    {n : Nat} {e : Err} {V : PField} {hv2 : PHdrVals} (hr : valCall S st b o hv = (n, e, V, hv2))
    (hrg : e = .ok ∨ e = .moreBytes → o ≤ n ∧ n ≤ b.size) :
    HvFine b hv2 ∧ n ≤ b.size ∧ (e = .ok → V.inside n) ∧ (e = .ok → HvSafe b n .fin hv2) ∧
      (e = .moreBytes → HvSafe b n S hv2) := by
  have HF := H.fine
  -- a scalar value: the other objects at the returned offset, in the final state and in the state of the parser
  have Hs : ∀ {n : Nat} {e : Err}, (e = .ok ∨ e = .moreBytes → o ≤ n ∧ n ≤ b.size) → S ≠ .hContact → S ≠ .hPAI →
      e = .ok ∨ e = .moreBytes → HvSafe b n .fin hv ∧ HvSafe b n S hv := fun hrg a1 a2 he =>
    have hn : st ≠ .hContact ∧ st ≠ .hPAI := hst.elim (fun e => e ▸ ⟨a1, a2⟩) id
    have Hm := H.mono (hrg he).1 (hrg he).2
    ⟨Hm.restate hn.1 hn.2 (by decide) (by decide), Hm.restate hn.1 hn.2 a1 a2⟩
  have hnb : ∀ {e : Err}, e = .ok ∨ e = .moreBytes → e ≠ .numTooBig := by rintro _ (rfl | rfl) <;> decide
  refine valCall_cases
    (M := fun n e V hv2 => (e = .ok ∨ e = .moreBytes → o ≤ n ∧ n ≤ b.size) → HvFine b hv2 ∧ n ≤ b.size ∧
      (e = .ok → V.inside n) ∧ (e = .ok → HvSafe b n .fin hv2) ∧ (e = .moreBytes → HvSafe b n S hv2))
    (from_ := fun hS n e f hq hrg => ?from_) (to := fun hS n e f hq hrg => ?to)
    (callID := fun hS n e f hq hrg => ?callID) (cseq := fun hS n e f hq hrg => ?cseq)
    (clen := fun hS n e f hq hrg => ?clen) (contact := fun hS n e c hq hrg => ?contact)
    (expires := fun hS n e f hq hrg => ?expires) (pai := fun hS n e c hq hrg => ?pai)
    (other := fun h => absurd hisv h) hr hrg
  all_goals
    subst hS
    have Hm := fun he => H.mono (hrg he).1 (hrg he).2
  case from_ =>
    have hS := parseNameAddrPVal_safe HdrFrom b o hv.from_ H.from_ hq
    exact ⟨{ HF with from_ := hS.1.fine }, hS.1.ho, fun _ => hS.1.v,
      fun he => { (Hs hrg (by decide) (by decide) (Or.inl he)).1 with
        from_ := Or.inl ⟨(naPVal_ok_range HdrFrom b o hv.from_ ho hq (Or.inl he)).1, hS.1⟩ },
      fun he => { (Hs hrg (by decide) (by decide) (Or.inr he)).2 with from_ := hS.2 he }⟩
  case to =>
    have hS := parseNameAddrPVal_safe HdrTo b o hv.to H.to hq
    exact ⟨{ HF with to := hS.1.fine }, hS.1.ho, fun _ => hS.1.v,
      fun he => { (Hs hrg (by decide) (by decide) (Or.inl he)).1 with
        to := Or.inl ⟨(naPVal_ok_range HdrTo b o hv.to ho hq (Or.inl he)).1, hS.1⟩ },
      fun he => { (Hs hrg (by decide) (by decide) (Or.inr he)).2 with to := hS.2 he }⟩
  case callID =>
    have hS := parseCallIDVal_safe b o hv.callid H.callid
    rw [hq] at hS
    exact ⟨{ HF with callid := ⟨PField.inside_mono hS.fld hS.hi, hS.pnc⟩ }, hS.hi, fun _ => hS.fld,
      fun he => { (Hs hrg (by decide) (by decide) (Or.inl he)).1 with callid := hS },
      fun he => { (Hs hrg (by decide) (by decide) (Or.inr he)).2 with callid := hS }⟩
  case cseq =>
    have hS := parseCSeqVal_safe b o hv.cseq hfit H.cseq
    rw [hq] at hS
    exact ⟨{ HF with cseq := hS.1 }, hS.2.1, fun he => (hS.2.2 (hnb (Or.inl he))).v,
      fun he => { (Hs hrg (by decide) (by decide) (Or.inl he)).1 with cseq := hS.2.2 (hnb (Or.inl he)) },
      fun he => { (Hs hrg (by decide) (by decide) (Or.inr he)).2 with cseq := hS.2.2 (hnb (Or.inr he)) }⟩
  case clen =>
    have hS := parseCLenVal_safe b o hv.clen H.clen
    rw [hq] at hS
    exact ⟨{ HF with clen := hS.1 }, hS.2.2, fun he => (hS.2.1 (hnb (Or.inl he))).fld,
      fun he => { (Hs hrg (by decide) (by decide) (Or.inl he)).1 with clen := hS.2.1 (hnb (Or.inl he)) },
      fun he => { (Hs hrg (by decide) (by decide) (Or.inr he)).2 with clen := hS.2.1 (hnb (Or.inr he)) }⟩
  case expires =>
    have hS := parseUIntVal_safe b o hv.expires H.expires
    rw [hq] at hS
    exact ⟨{ HF with expires := hS.out }, hS.hi, fun _ => hS.fld,
      fun he => { (Hs hrg (by decide) (by decide) (Or.inl he)).1 with expires := hS },
      fun he => { (Hs hrg (by decide) (by decide) (Or.inr he)).2 with expires := hS }⟩
  case contact =>
    have hn2 : st ≠ .hPAI := hst.elim (fun e => by rw [e]; decide) (·.2)
    have hS := parseAllContactValues_safe_wrap b o _ hfit (H.ctStart ho)
    rw [hq] at hS
    exact ⟨{ HF with contacts := hS.1 }, hS.2.2.2, fun he => (hS.2.2.1 he).2.2.lhv,
      fun he => { Hm (Or.inl he) with
        ctS := (fun hh => by cases hh), ctI := fun _ => (hS.2.2.1 he).1, paS := (fun hh => by cases hh),
        paI := fun _ => (Hm (Or.inl he)).paI hn2, ctIn := (hS.2.2.1 he).2.2 },
      fun he => { Hm (Or.inr he) with
        ctS := fun _ => hS.2.1 he, ctI := fun hh => absurd rfl hh, paS := (fun hh => by cases hh),
        paI := fun _ => (Hm (Or.inr he)).paI hn2, ctIn := (hS.2.1 he).inn }⟩
  case pai =>
    have hn1 : st ≠ .hContact := hst.elim (fun e => by rw [e]; decide) (·.1)
    have hS := parseAllPAIValues_safe_wrap b o _ hfit (H.paStart ho)
    rw [hq] at hS
    exact ⟨{ HF with pais := hS.1 }, hS.2.2.2, fun he => (hS.2.2.1 he).2.2.lhv,
      fun he => { Hm (Or.inl he) with
        ctS := (fun hh => by cases hh), ctI := fun _ => (Hm (Or.inl he)).ctI hn1, paS := (fun hh => by cases hh),
        paI := fun _ => (hS.2.2.1 he).1, paIn := (hS.2.2.1 he).2.2 },
      fun he => { Hm (Or.inr he) with
        ctS := (fun hh => by cases hh), ctI := fun _ => (Hm (Or.inr he)).ctI hn1, paS := fun _ => hS.2.1 he,
        paI := fun hh => absurd rfl hh, paIn := (hS.2.1 he).inn }⟩

/-! ### the header-line loop -/

/-- loop invariant of ParseHdrLine for panic-freedom -/
structure HlSafe (b : Buf) (i : Nat) (st : HLσ) : Prop where
  hi : i ≤ b.size
  pnc : st.1.pnc = false
  nameF : st.1.name.inside b.size
  nameI : st.1.state = .name → st.1.name.offs ≤ i
  valF : st.1.val.inside b.size
  valI : st.1.state = .val ∨ st.1.state = .valEnd → st.1.val.offs ≤ i
  nn : st.1.state.isVal → st.2 ≠ none
  hv : ∀ hv, st.2 = some hv → HvSafe b i st.1.state hv
  nameIn : st.1.name.inside i
  valIn : st.1.val.inside i

/-- what holds of the header and the values object whatever the verdict: nothing panicked, every field can be
    dereferenced -/
structure HlOut (b : Buf) (st : HLσ) : Prop where
  pnc : st.1.pnc = false
  nameF : st.1.name.inside b.size
  valF : st.1.val.inside b.size
  hv : ∀ hv, st.2 = some hv → HvFine b hv

/-- what a header line leaves behind when it returns `e` at `n`: nothing panicked and everything reported lies inside
    the buffer, whatever `e`; after OK, MoreBytes and "empty line" the pair is a legitimate argument at `n` (after OK
    with the header finished) -/
def HlT (b : Buf) (n : Nat) (e : Err) (st : HLσ) : Prop :=
  HlOut b st ∧ ((e = .ok ∨ e = .moreBytes) → HlSafe b n st) ∧ (e = .ok → st.1.state = .fin) ∧ n ≤ b.size ∧
    (e = .empty → HlSafe b n st)

theorem HlSafe.out {b : Buf} {i : Nat} {st : HLσ} (h : HlSafe b i st) : HlOut b st :=
  ⟨h.pnc, h.nameF, h.valF, fun hv hh => (h.hv hv hh).fine⟩

theorem HlSafe.mono {b : Buf} {i j : Nat} {st : HLσ} (h : HlSafe b i st) (hij : i ≤ j) (hj : j ≤ b.size) :
    HlSafe b j st :=
  ⟨hj, h.pnc, h.nameF, fun hs => by have := h.nameI hs; omega, h.valF, fun hs => by have := h.valI hs; omega, h.nn,
   fun hv hh => (h.hv hv hh).mono hij hj, PField.inside_mono h.nameIn hij, PField.inside_mono h.valIn hij⟩

theorem isVal_hContact {st : HState} (h : ¬ st.isVal) : st ≠ .hContact := by
  intro hh; exact h (by unfold HState.isVal; simp [hh])
theorem isVal_hPAI {st : HState} (h : ¬ st.isVal) : st ≠ .hPAI := by
  intro hh; exact h (by unfold HState.isVal; simp [hh])

/-- replacing the header by another one in a state that is not "inside a value parser" -/
theorem HlSafe.upd {b : Buf} {i j : Nat} {h h' : Hdr} {hb : Option PHdrVals} (H : HlSafe b i (h, hb)) (hij : i ≤ j)
    (hj : j ≤ b.size) (hp : h'.pnc = false) (hn : h'.name.inside b.size) (hnI : h'.state = .name → h'.name.offs ≤ j)
    (hvF : h'.val.inside b.size) (hvI : h'.state = .val ∨ h'.state = .valEnd → h'.val.offs ≤ j)
    (hs1 : ¬ h.state.isVal) (hs2 : ¬ h'.state.isVal) (hnIn : h'.name.inside j) (hvIn : h'.val.inside j) :
    HlSafe b j (h', hb) :=
  ⟨hj, hp, hn, hnI, hvF, hvI, fun hh => absurd hh hs2,
   fun hv hh => ((H.hv hv hh).mono hij hj).restate (isVal_hContact hs1) (isVal_hPAI hs1) (isVal_hContact hs2)
     (isVal_hPAI hs2), hnIn, hvIn⟩

theorem hlAfterColon_ne_empty (b : Buf) (i : Nat) (h : Hdr) (hb : Option PHdrVals) {n : Nat} {st' : HLσ} :
    hlAfterColon b i h hb ≠ .done n .empty st' := by
  unfold hlAfterColon
  split
  · intro hh; cases hh
  · rename_i nm _
    simp only
    have := parseBody_ne_empty b i { h with type := getHdrType nm } hb
    rcases hp : parseBody b i { h with type := getHdrType nm } hb with ⟨n1, e1, h2, hb2⟩
    rw [hp] at this
    simp only
    split
    · intro hh; simp only [Step.done.injEq] at hh; exact this hh.2.1
    · intro hh; cases hh

theorem hlCont_ne_empty (b : Buf) (i : Nat) (h : Hdr) (hb : Option PHdrVals) {n : Nat} {st' : HLσ} :
    hlCont b i h hb ≠ .done n .empty st' := by
  cases hb with
  | none => intro hh; cases hh
  | some hv =>
    rw [hlCont_nf]
    intro hh
    simp only [valSite, Step.done.injEq] at hh
    exact valCall_ne_empty _ _ b i hv hh.2.1

theorem HlSafe.retype {b : Buf} {j : Nat} {h : Hdr} {hb : Option PHdrVals} (H : HlSafe b j (h, hb)) (t : Nat) :
    HlSafe b j ({ h with type := t }, hb) :=
  ⟨H.hi, H.pnc, H.nameF, H.nameI, H.valF, H.valI, H.nn, H.hv, H.nameIn, H.valIn⟩

/-- the invariant holds of every header an iteration makes of `h` (`HlMid`), at every position from where the scan
    stands by then -/
theorem HlSafe.mid {b : Buf} {i p j : Nat} {h h1 : Hdr} {hb : Option PHdrVals} (H : HlSafe b i (h, hb))
    (hm : HlMid b i h p h1) (hpj : p ≤ j) (hj : j ≤ b.size) : HlSafe b j (h1, hb) := by
  have hp := hm.range H.hi
  have hij : i ≤ j := Nat.le_trans hp.1 hpj
  have hset : (PField.set i i).offs ≤ i := by unfold PField.set trunc16; exact Nat.mod_le _ _
  cases hm with
  | same => exact H.mono hpj hj
  | named hst =>
    exact H.upd hpj hj H.pnc (set_inside i i b.size (Nat.le_refl _) H.hi) (fun _ => Nat.le_trans hset hpj) H.valF
      (fun hh => by rcases hh with hh | hh <;> cases hh) (not_isVal_of (Or.inl hst)) (not_isVal_of (by simp))
      (set_inside i i j (Nat.le_refl _) hpj) (PField.inside_mono H.valIn hpj)
  | @nameExt h0 st h0h hs =>
    have hnv : ¬ h.state.isVal := not_isVal_of (h0h.elim (fun a => Or.inr (Or.inl a.2)) (fun a => Or.inl a.2))
    obtain ⟨hoffs, hpnc, hval⟩ : h0.name.offs ≤ skipTokenDelim b i 58 ∧ h0.pnc = false ∧ h0.val = h.val := by
      rcases h0h with ⟨rfl, hst⟩ | ⟨rfl, hst⟩
      · exact ⟨Nat.le_trans (H.nameI hst) hp.1, H.pnc, rfl⟩
      · exact ⟨Nat.le_trans hset hp.1, H.pnc, rfl⟩
    refine H.upd hij hj (by show (h0.pnc || _) = false; rw [hpnc, extendPanics_false _ _ hoffs]; rfl)
      (extend_inside _ _ _ hoffs hp.2) (fun hh => by rcases hs with rfl | rfl <;> cases hh)
      (by show h0.val.inside _; rw [hval]; exact H.valF)
      (fun hh => by rcases hs with rfl | rfl <;> rcases hh with hh | hh <;> cases hh) hnv
      (not_isVal_of (by rcases hs with rfl | rfl <;> simp)) (extend_inside _ _ _ hoffs hpj)
      (by show h0.val.inside _; rw [hval]; exact PField.inside_mono H.valIn hij)
  | colon hst =>
    exact H.upd hij hj H.pnc H.nameF (fun hh => by cases hh) H.valF (fun hh => by rcases hh with hh | hh <;> cases hh)
      (not_isVal_of (by simp [hst])) (not_isVal_of (by simp)) (PField.inside_mono H.nameIn hij)
      (PField.inside_mono H.valIn hij)
  | valExt hst =>
    have hoffs : h.val.offs ≤ skipToken b i := Nat.le_trans (H.valI (Or.inl hst)) hp.1
    exact H.upd hij hj (by rw [H.pnc, extendPanics_false h.val _ hoffs]; rfl) H.nameF (fun hh => by cases hh)
      (extend_inside h.val _ _ hoffs hp.2) (fun _ => by rw [PField.extend_offs]; exact Nat.le_trans hoffs hpj)
      (not_isVal_of (by simp [hst])) (not_isVal_of (by simp)) (PField.inside_mono H.nameIn hij)
      (extend_inside h.val _ _ hoffs hpj)

/-- **the call of a typed value parser never panics**: after the ':' (`h.state` outside the value states) or continued
    (`h.state = K`) -/
theorem valSite_safe (K : HState) (b : Buf) (j : Nat) (h : Hdr) (hv : PHdrVals) (hfit : b.size ≤ 65535) (hK : K.isVal)
    (hst : h.state = K ∨ ¬ h.state.isVal) (H : HlSafe b j (h, some hv)) (hok : hvOK b j hv) :
    StepAll2 (HlSafe b) (HlT b) (valSite K b j h hv) := by
  rcases hq : valCall K h.state b j hv with ⟨n, e, V, hv2⟩
  have hrg := fun he => valCall_range K h.state b j hv H.hi hok hq he
  obtain ⟨c1, c2, c3, c4, c5⟩ := valCall_safe K h.state b j hv H.hi hfit hK
    (hst.imp id fun hn => ⟨isVal_hContact hn, isVal_hPAI hn⟩) (H.hv hv rfl) hq hrg
  have hne : e ≠ .empty := by have := valCall_ne_empty K h.state b j hv; rwa [hq] at this
  have hnK : ∀ {x : HState}, ¬ x.isVal → K ≠ x := fun hx hh => hx (hh ▸ hK)
  simp only [valSite, hlWrap, hq, StepAll2]
  by_cases he : e = .ok
  · subst he
    obtain ⟨r1, r2⟩ := hrg (Or.inl rfl)
    have Hf : HlSafe b n ({ h with val := V, state := .fin }, some hv2) :=
      ⟨r2, H.pnc, H.nameF, (fun hh => by cases hh), PField.inside_mono (c3 rfl) c2,
        (fun hh => by rcases hh with hh | hh <;> cases hh), (fun _ hh => by cases hh),
        (fun hv' hh => by cases hh; exact c4 rfl), PField.inside_mono H.nameIn r1, c3 rfl⟩
    exact ⟨Hf.out, fun _ => Hf, fun _ => rfl, c2, fun hh => by cases hh⟩
  · have hbeq : (e == Err.ok) = false := by cases e <;> first | rfl | exact absurd rfl he
    simp only [hbeq]
    refine ⟨⟨H.pnc, H.nameF, H.valF, fun hv' hh => by cases hh; exact c1⟩, fun hh => ?_, fun hh => absurd hh he, c2,
      fun hh => absurd hh hne⟩
    obtain rfl : e = .moreBytes := hh.resolve_left he
    obtain ⟨r1, r2⟩ := hrg (Or.inr rfl)
    exact ⟨r2, H.pnc, H.nameF, (fun hh => absurd hh (hnK (not_isVal_of (by simp)))), H.valF,
      (fun hh => by rcases hh with hh | hh <;> exact absurd hh (hnK (not_isVal_of (by simp)))),
      (fun _ hh => by cases hh), (fun hv' hh => by cases hh; exact c5 rfl), PField.inside_mono H.nameIn r1,
      PField.inside_mono H.valIn r1⟩

/-- **every iteration of the ParseHdrLine loop keeps the invariant**: by the action the loop body decides on
    (`hlLex`), the header it hands out being an `HlMid` header of `h` -/
theorem hlStep_safe (b : Buf) (i : Nat) (c : UInt8) (st : HLσ) (hfit : b.size ≤ 65535) (hb : b[i]? = some c)
    (H : HlSafe b i st) (hI : hlInv b i st) : StepAll2 (HlSafe b) (HlT b) (hlStep b i c st) := by
  obtain ⟨h, hv⟩ := st
  have hok : hbOK b i hv := hI.2.2
  -- a finished header: a header the invariant holds of, outside the value states, with the state set to `fin`
  have hfin : ∀ {j : Nat} {h1 : Hdr}, HlSafe b j (h1, hv) → ¬ h1.state.isVal → HlSafe b j ({ h1 with state := .fin }, hv) :=
    fun {j h1} Hm hn => Hm.upd (Nat.le_refl _) Hm.hi Hm.pnc Hm.nameF (fun hh => by cases hh) Hm.valF
      (fun hh => by rcases hh with hh | hh <;> cases hh) hn (not_isVal_of (by simp)) Hm.nameIn Hm.valIn
  have sp := hlLex_spec b i c h hb
  rw [hlStep_eq]
  cases ha : hlLex b i c h with
  | exit o e h' =>
    rw [ha] at sp
    obtain ⟨p, h1, sx⟩ := sp
    have Hm := H.mid sx.mid sx.pos_le sx.le_size
    show HlT b o e (h', hv)
    cases sx.kind with
    | kept he =>
      exact ⟨Hm.out, fun _ => Hm, (fun hh => by subst hh; simp at he), sx.le_size, (fun hh => by subst hh; simp at he)⟩
    | fin =>
      have Hf := hfin Hm (sx.mid.not_isVal sx.not_isVal)
      exact ⟨Hf.out, fun _ => Hf, fun _ => rfl, sx.le_size, fun _ => Hf⟩
  | go i' h' =>
    rw [ha] at sp
    obtain ⟨p, h1, sg⟩ := sp
    show HlSafe b i' (h', hv)
    have hi' := sg.le_size
    have Hm := H.mid sg.mid (Nat.le_of_lt sg.pos_lt) hi'
    have hnv1 := sg.mid.not_isVal sg.not_isVal
    cases sg.kind with
    | nameEnd => exact Hm
    | first n =>
      have hoff : (PField.set n n).offs ≤ n + 1 := by
        unfold PField.set trunc16; have := Nat.mod_le n 65536; simp only; omega
      exact Hm.upd (Nat.le_refl _) Hm.hi Hm.pnc Hm.nameF (fun hh => by cases hh)
        (set_inside n n b.size (Nat.le_refl _) (by omega)) (fun _ => hoff) hnv1 (not_isVal_of (by simp)) Hm.nameIn
        (set_inside n n (n + 1) (Nat.le_refl _) (by omega))
    | next n crl hsk hs =>
      exact Hm.upd (Nat.le_refl _) Hm.hi Hm.pnc Hm.nameF (fun hh => by cases hh) Hm.valF (fun _ => Hm.valI (Or.inr hs))
        hnv1 (not_isVal_of (by simp)) Hm.nameIn Hm.valIn
  | colon j h' =>
    rw [ha] at sp
    obtain ⟨p, sc⟩ := sp
    obtain rfl := sc.pos
    have Hm := H.mid sc.mid (Nat.le_succ p) sc.pos_lt_size
    have hnv1 : ¬ h'.state.isVal := sc.mid.not_isVal sc.not_isVal
    obtain ⟨nm, hnm⟩ := field_get?_some b h'.name Hm.nameF hfit
    show StepAll2 _ _ (hlAfterColon b (p + 1) h' hv)
    rw [hlAfterColon_nf _ _ _ _ sc.state]
    cases hv with
    | none => rw [colonDo_nil hnm]; exact Hm.retype _
    | some hv0 =>
      cases hk : valKind { h' with type := getHdrType nm } hv0 with
      | none => rw [colonDo_untyped hnm hk]; exact Hm.retype _
      | some K =>
        rw [colonDo_typed hnm hk]
        exact valSite_safe K b (p + 1) _ hv0 hfit (valKind_isVal hk) (Or.inr hnv1) (Hm.retype _)
          (hvOK_mono hok (Nat.le_trans (sc.mid.range H.hi).1 (Nat.le_succ p)) sc.pos_lt_size)
  | value =>
    rw [ha] at sp
    cases hv with
    | none => exact absurd rfl (H.nn sp)
    | some hv0 =>
      show StepAll2 _ _ (hlCont b i h (some hv0))
      rw [hlCont_nf]
      exact valSite_safe h.state b i h hv0 hfit sp (Or.inl rfl) H hok

/-- **ParseHdrLine never panics** (buffers up to the documented 65,535-byte limit): whatever the verdict the header's
    name and value and every field of the values object can be dereferenced; after OK / MoreBytes the pair is again
    legitimate at the returned offset -/
theorem parseHdrLine_safe (b : Buf) (o : Nat) (h : Hdr) (hb : Option PHdrVals) (hfit : b.size ≤ 65535)
    (H : HlSafe b o (h, hb)) (hI : hlOK b o h hb) {o' : Nat} {e : Err} {h' : Hdr} {hb' : Option PHdrVals}
    (hr : parseHdrLine b o h hb = (o', e, h', hb')) :
    HlOut b (h', hb') ∧ ((e = .ok ∨ e = .moreBytes) → HlSafe b o' (h', hb')) ∧ (e = .ok → h'.state = .fin) ∧
      o' ≤ b.size ∧ (e = .empty → HlSafe b o' (h', hb')) := by
  have hrl := parseHdrLine_run.1 hr
  have := runLoop_safe2 hlMachine b (fun i st => HlSafe b i st ∧ hlInv b i st) (HlT b) hl_progress
    (fun i c st hb' hS => (hlStep_safe b i c st hfit hb' hS.1 hS.2).cont_imp fun i' st' hc h' =>
      ⟨h', hl_invCont b i c st i' st' hb' hS.2 hc (hl_progress b i c st i' st' hb' hc)⟩)
    (fun i st hS => ⟨hS.1.out, (fun _ => hS.1), (fun hh => by cases hh), hS.1.hi, (fun hh => by cases hh)⟩) o (h, hb) ⟨H, hI⟩
  rw [hrl] at this
  exact this

theorem HlSafe_new (b : Buf) (o : Nat) (hb : Option PHdrVals) (ho : o ≤ b.size)
    (hv : ∀ hv, hb = some hv → HvSafe b o .init hv) : HlSafe b o ({}, hb) :=
  ⟨ho, rfl, PField.inside_zero _, (fun hh => by cases hh), PField.inside_zero _,
   (fun hh => by rcases hh with hh | hh <;> cases hh), (fun hh => by unfold HState.isVal at hh; simp at hh), hv,
   PField.inside_zero _, PField.inside_zero _⟩

theorem HvSafe_new (b : Buf) (o : Nat) (ho : o ≤ b.size) (k : Nat) :
    HvSafe b o .init ({ contacts := { vals := Array.replicate k {} } } : PHdrVals) :=
  ⟨NaEntry_new b o ho, NaEntry_new b o ho, ⟨ho, Nat.zero_le _, PField.inside_zero _, rfl⟩,
   ⟨ho, Nat.zero_le _, PField.inside_zero _, PField.inside_zero _, PField.inside_zero _, rfl⟩,
   ⟨ho, Nat.zero_le _, PField.inside_zero _, rfl⟩, ⟨ho, Nat.zero_le _, PField.inside_zero _, rfl⟩,
   (fun hh => by cases hh), (fun _ => CtIdle_new b k), (fun hh => by cases hh), (fun _ => PaIdle_new b), CtIn_new b o ho k, PaIn_new b o ho⟩

end Sipsp
