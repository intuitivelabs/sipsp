/-
  Sipsp.Proofs.SafeHeaders — ParseHeaders never panics (65,535-byte limit); every stored header (array slots, scratch
  slot, first-of-type shortcuts) and every field of the values object can be dereferenced.
-/
import Sipsp.Proofs.SafeHdrLine
import Sipsp.Proofs.CapacityMsg
import Sipsp.Proofs.MsgPhases

namespace Sipsp

/-- a header whose name and value can be dereferenced; no panic was recorded on it -/
def HdrFine (b : Buf) (h : Hdr) : Prop := h.pnc = false ∧ h.name.inside b.size ∧ h.val.inside b.size

theorem HdrFine_new (b : Buf) : HdrFine b {} := ⟨rfl, PField.inside_zero _, PField.inside_zero _⟩

theorem HlOut.hdr {b : Buf} {h : Hdr} {hb : Option PHdrVals} (h' : HlOut b (h, hb)) : HdrFine b h :=
  ⟨h'.pnc, h'.nameF, h'.valF⟩

/-- name and value of the header end at or before `o` (what a resumed call at `o` may rely on; `HdrFine` only says
    "inside the buffer") -/
def HdrBefore (o : Nat) (h : Hdr) : Prop := h.name.inside o ∧ h.val.inside o

theorem HdrBefore.mono {o o' : Nat} {h : Hdr} (hh : HdrBefore o h) (h1 : o ≤ o') : HdrBefore o' h :=
  ⟨PField.inside_mono hh.1 h1, PField.inside_mono hh.2 h1⟩

theorem HdrBefore_new (o : Nat) : HdrBefore o {} := ⟨PField.inside_zero _, PField.inside_zero _⟩

/-- every stored header and every first-of-type shortcut lies before `o` -/
structure HlsIn (o : Nat) (hl : HdrLst) : Prop where
  stored : ∀ k, k < hl.n → k < hl.hdrs.size → HdrBefore o hl.hdrs[k]!
  hI : ∀ j, j < hl.h.size → HdrBefore o hl.h[j]!

theorem HlsIn.mono {o o' : Nat} {hl : HdrLst} (h : HlsIn o hl) (h1 : o ≤ o') : HlsIn o' hl :=
  ⟨fun k a1 a2 => (h.stored k a1 a2).mono h1, fun j hj => (h.hI j hj).mono h1⟩

/-- legitimacy of the header list between two header lines, at offset `o`: the current slot with the values object is
    a legitimate argument of ParseHdrLine, the slots still to be filled are zero, everything stored can be
    dereferenced and ends at or before `o` -/
structure HlsSafe (b : Buf) (o : Nat) (hl : HdrLst) (hb : Option PHdrVals) : Prop where
  cur : HlSafe b o (hl.cur, hb)
  clean : HlsClean hl
  stored : ∀ k, k < hl.n → k < hl.hdrs.size → HdrFine b hl.hdrs[k]!
  hF : ∀ j, j < hl.h.size → HdrFine b hl.h[j]!
  inn : HlsIn o hl

theorem HlsSafe.mono {b : Buf} {o o' : Nat} {hl : HdrLst} {hb : Option PHdrVals} (h : HlsSafe b o hl hb)
    (h1 : o ≤ o') (h2 : o' ≤ b.size) : HlsSafe b o' hl hb :=
  ⟨h.cur.mono h1 h2, h.clean, h.stored, h.hF, h.inn.mono h1⟩

/-- whatever the verdict: every slot of the caller's array, the scratch slot and every shortcut is dereferenceable -/
structure HlsOut (b : Buf) (hl : HdrLst) : Prop where
  all : ∀ k, k < hl.hdrs.size → HdrFine b hl.hdrs[k]!
  hdr : HdrFine b hl.hdr
  hF : ∀ j, j < hl.h.size → HdrFine b hl.h[j]!

theorem HlsSafe.out {b : Buf} {o : Nat} {hl : HdrLst} {hb : Option PHdrVals} (H : HlsSafe b o hl hb) : HlsOut b hl := by
  have hc : HdrFine b hl.cur := H.cur.out.hdr
  refine ⟨fun k hk => ?_, ?_, H.hF⟩
  · rcases Nat.lt_trichotomy k hl.n with h1 | h1 | h1
    · exact H.stored k h1 hk
    · subst h1
      unfold HdrLst.cur at hc; rw [if_pos hk] at hc; exact hc
    · rw [H.clean.1 k h1 hk]; exact HdrFine_new b
  · by_cases hin : hl.n < hl.hdrs.size
    · rw [H.clean.2 hin]; exact HdrFine_new b
    · unfold HdrLst.cur at hc; rw [if_neg hin] at hc; exact hc

theorem HlsOut.setCur {b : Buf} {hl : HdrLst} (H : HlsOut b hl) (g : Hdr) (hg : HdrFine b g) : HlsOut b (hl.setCur g) := by
  refine ⟨fun k hk => ?_, ?_, ?_⟩
  · rw [hlSetCur_size] at hk
    by_cases hkn : hl.n = k
    · subst hkn; rw [hlSetCur_get_n hl g hk]; exact hg
    · rw [hlSetCur_ne hl g k hkn]; exact H.all k hk
  · by_cases hin : hl.n < hl.hdrs.size
    · rw [hlSetCur_hdr_in hl g hin]; exact H.hdr
    · rw [hlSetCur_hdr_out hl g hin]; exact hg
  · rw [(hlSetCur_scalars hl g).2]; exact H.hF

theorem HlsSafe.setCur {b : Buf} {o n : Nat} {hl : HdrLst} {hb v : Option PHdrVals} (H : HlsSafe b o hl hb) (g : Hdr)
    (hg : HlSafe b n (g, v)) (hon : o ≤ n) : HlsSafe b n (hl.setCur g) v := by
  have hm := H.inn.mono hon
  refine ⟨by rw [hlSetCur_cur]; exact hg, ⟨fun k h1 h2 => ?_, fun h1 => ?_⟩, stored_setCur g H.stored, ?_,
    ⟨stored_setCur g hm.stored, by rw [(hlSetCur_scalars hl g).2]; exact hm.hI⟩⟩
  · rw [hlSetCur_n] at h1; rw [hlSetCur_size] at h2
    rw [hlSetCur_ne hl g k (by omega)]; exact H.clean.1 k h1 h2
  · rw [hlSetCur_n, hlSetCur_size] at h1
    rw [hlSetCur_hdr_in hl g h1]; exact H.clean.2 h1
  · rw [(hlSetCur_scalars hl g).2]; exact H.hF

theorem flo_next_cur (hl : HdrLst) (g : Hdr) (hc : HlsClean hl) : ((hl.setCur g).accept g).cur = {} := (hc.accept g).2

theorem HlsSafe.next {b : Buf} {o n : Nat} {hl : HdrLst} {hb v : Option PHdrVals} (H : HlsSafe b o hl hb) (g : Hdr)
    (hg : HlSafe b n (g, v)) (hfin : g.state = .fin) (hon : o ≤ n) : HlsSafe b n ((hl.setCur g).accept g) v := by
  obtain ⟨hcl, hcur⟩ := H.clean.accept g
  have hm := H.inn.mono hon
  refine ⟨?_, hcl, stored_next g hg.out.hdr H.stored,
    accept_allP (HdrFine b) _ g hg.out.hdr (by rw [(hlSetCur_scalars hl g).2]; exact H.hF),
    stored_next g ⟨hg.nameIn, hg.valIn⟩ hm.stored,
    accept_allP (HdrBefore n) _ g ⟨hg.nameIn, hg.valIn⟩ (by rw [(hlSetCur_scalars hl g).2]; exact hm.hI)⟩
  rw [hcur]
  refine HlSafe_new b n v hg.hi (fun hv hvv => ?_)
  have := hg.hv hv hvv
  exact this.restate (by rw [hfin]; decide) (by rw [hfin]; decide) (by decide) (by decide)

/-! ### the "empty line" verdict comes from the first byte of a header line only -/

theorem hlStep_empty_ge (b : Buf) (i : Nat) (c : UInt8) (st : HLσ) (hc : b[i]? = some c) {n : Nat} {st' : HLσ}
    (hs : hlStep b i c st = .done n .empty st') : i ≤ n := by
  obtain ⟨h, hv⟩ := st
  have sp := hlLex_spec b i c h hc
  rw [hlStep_eq] at hs
  cases ha : hlLex b i c h <;> rw [ha] at hs sp
  · cases hs; exact (sp.exit_range (Nat.le_of_lt (get?_lt hc))).1
  · cases hs
  · exact absurd hs (hlAfterColon_ne_empty b _ _ hv)
  · exact absurd hs (hlCont_ne_empty b i h hv)

theorem parseHdrLine_empty_ge (b : Buf) (o : Nat) (h : Hdr) (hb : Option PHdrVals) {o' : Nat} {h' : Hdr}
    {hb' : Option PHdrVals} (hr : parseHdrLine b o h hb = (o', .empty, h', hb')) : o ≤ o' := by
  have hrl := parseHdrLine_run.1 hr
  have key := runLoop_inv hlMachine b (fun i _ => o ≤ i) (fun r => r.2.1 = .empty → o ≤ r.1)
    (by
      intro i c st i' st' hb hP hs
      exact ⟨fun hlt => by omega, fun hn => absurd (hl_progress b i c st i' st' hb hs) hn⟩)
    (by
      intro i c st o2 e2 st2 hb hP hs hq
      subst hq
      have := hlStep_empty_ge b i c st hb hs
      omega)
    (by intro i st _ _ hq; simp only [hlMachine] at hq; cases hq)
    o (h, hb) (Nat.le_refl _)
  rw [hrl] at key
  exact key rfl

/-! ### the legitimate header list -/

/-- everything the resumable developments know of the header list and the values object between two header lines -/
structure HlsLegit (b : Buf) (offs : Nat) (hl : HdrLst) (hb : Option PHdrVals) : Prop where
  ok : hlsOK b hl
  vals : hbOK b offs hb
  pend : hlsPend hl hb
  ho : offs ≤ b.size
  safe : HlsSafe b offs hl hb

theorem HlsLegit.hlOK {b : Buf} {offs : Nat} {hl : HdrLst} {hb : Option PHdrVals} (L : HlsLegit b offs hl hb) :
    hlOK b offs hl.cur hb := ⟨L.ho, hlsOK_cur L.ok, L.vals⟩

/-- while the current slot is new both value lists are idle -/
theorem HlsSafe.idle {b : Buf} {offs : Nat} {hl : HdrLst} {hv : PHdrVals} (H : HlsSafe b offs hl (some hv))
    (hcur : hl.cur = {}) : CtIdle b hv.contacts ∧ PaIdle b hv.pais := by
  have Hv := H.cur.hv hv rfl
  rw [hcur] at Hv
  exact ⟨Hv.ctI (fun hq => by cases hq), Hv.paI (fun hq => by cases hq)⟩

/-- **one header line from a legitimate list**: nothing panicked and the offset is inside the buffer, whatever the
    verdict; after OK the line is not empty and the list with the header appended is legitimate; after "empty line" and
    MoreBytes the list with the header stored in the current slot is safe at the returned offset -/
theorem HlsLegit.line {b : Buf} {offs : Nat} {hl : HdrLst} {hb : Option PHdrVals} (hfit : b.size ≤ 65535)
    (L : HlsLegit b offs hl hb) {n : Nat} {e : Err} {g : Hdr} {hb' : Option PHdrVals}
    (hp : parseHdrLine b offs hl.cur hb = (n, e, g, hb')) :
    HlOut b (g, hb') ∧ n ≤ b.size ∧
    (e = .ok → offs < n ∧ HlsLegit b n ((hl.setCur g).accept g) hb') ∧
    (e = .empty → offs ≤ n ∧ HlsSafe b n (hl.setCur g) hb') ∧
    (e = .moreBytes → offs ≤ n ∧ HlsSafe b n (hl.setCur g) hb') := by
  obtain ⟨hO, hS, hF, hN, hE⟩ := parseHdrLine_safe b offs hl.cur hb hfit L.safe.cur L.hlOK hp
  refine ⟨hO, hN, fun he => ?_, fun he => ?_, fun he => ?_⟩
  · subst he
    have hpost := parseHdrLine_post b offs hl.cur hb L.hlOK hp (Or.inl rfl)
    have hg := parseHdrLine_ok_gt b offs hl.cur hb L.hlOK L.pend.1 hp
    exact ⟨hg, hlsOK_next g L.ok, hpost.2, hlsPend_next g hb' L.pend, hpost.1,
      L.safe.next g (hS (Or.inl rfl)) (hF rfl) (by omega)⟩
  · subst he
    have hge := parseHdrLine_empty_ge b offs hl.cur hb hp
    exact ⟨hge, L.safe.setCur g (hE rfl) hge⟩
  · subst he
    obtain ⟨_, _, _, r1, _⟩ := parseHdrLine_resume b #[] offs hl.cur hb L.hlOK L.pend.1 hp
    exact ⟨r1, L.safe.setCur g (hS (Or.inr rfl)) r1⟩

theorem parseHeaders_safe (b : Buf) (offs : Nat) (hl : HdrLst) (hb : Option PHdrVals) (hfit : b.size ≤ 65535)
    (hok1 : hlsOK b hl) (hok2 : hbOK b offs hb) (hpe : hlsPend hl hb) (ho : offs ≤ b.size)
    (H : HlsSafe b offs hl hb) :
    HlsOut b (parseHeaders b offs hl hb).2.2.1 ∧
    (∀ hv, (parseHeaders b offs hl hb).2.2.2 = some hv → HvFine b hv) ∧
    ((parseHeaders b offs hl hb).2.1 = .moreBytes ∨ (parseHeaders b offs hl hb).2.1 = .ok →
      HlsSafe b (parseHeaders b offs hl hb).1 (parseHeaders b offs hl hb).2.2.1 (parseHeaders b offs hl hb).2.2.2) ∧
    ((parseHeaders b offs hl hb).2.1 = .ok ∨ (parseHeaders b offs hl hb).2.1 = .moreBytes →
      offs ≤ (parseHeaders b offs hl hb).1 ∧ (parseHeaders b offs hl hb).1 ≤ b.size) ∧
    (parseHeaders b offs hl hb).1 ≤ b.size := by
  -- whatever a line returns, the list with the header stored is dereferenceable
  have hout : ∀ {o : Nat} {hl : HdrLst} {hb : Option PHdrVals} {n : Nat} {e : Err} {g : Hdr} {hb' : Option PHdrVals},
      HlsLegit b o hl hb → parseHdrLine b o hl.cur hb = (n, e, g, hb') →
      HlsOut b (hl.setCur g) ∧ (∀ hv, hb' = some hv → HvFine b hv) ∧ n ≤ b.size :=
    fun L hp => ⟨L.safe.out.setCur _ (L.line hfit hp).1.hdr, (L.line hfit hp).1.hv, (L.line hfit hp).2.1⟩
  refine parseHeaders_ind b (J := fun o hl hb => offs ≤ o ∧ HlsLegit b o hl hb)
    (R := fun r => HlsOut b r.2.2.1 ∧ (∀ hv, r.2.2.2 = some hv → HvFine b hv) ∧
      (r.2.1 = .moreBytes ∨ r.2.1 = .ok → HlsSafe b r.1 r.2.2.1 r.2.2.2) ∧
      (r.2.1 = .ok ∨ r.2.1 = .moreBytes → offs ≤ r.1 ∧ r.1 ≤ b.size) ∧ r.1 ≤ b.size)
    (line := ?line) (bug := ?bug) (endOk := ?endOk) (endEmpty := ?endEmpty) (stop := ?stop) (eob := ?eob)
    offs hl hb ⟨Nat.le_refl _, hok1, hok2, hpe, ho, H⟩
  case line =>
    intro o hl hb n g hb' ⟨hoo, L⟩ _ hp hg
    exact ⟨by omega, ((L.line hfit hp).2.2.1 rfl).2⟩
  case bug =>
    intro o hl hb n g hb' ⟨_, L⟩ hp hn
    exact absurd ((L.line hfit hp).2.2.1 rfl).1 hn
  case endOk =>
    intro o hl hb n g hb' ⟨hoo, L⟩ _ hp _
    obtain ⟨h1, h2, h3⟩ := hout L hp
    obtain ⟨hge, hS⟩ := (L.line hfit hp).2.2.2.1 rfl
    exact ⟨h1, h2, fun _ => hS, fun _ => ⟨by omega, h3⟩, h3⟩
  case endEmpty =>
    intro o hl hb n g hb' ⟨_, L⟩ _ hp _
    obtain ⟨h1, h2, h3⟩ := hout L hp
    exact ⟨h1, h2, (fun hh => by rcases hh with hh | hh <;> cases hh), (fun hh => by rcases hh with hh | hh <;> cases hh), h3⟩
  case stop =>
    intro o hl hb n e g hb' ⟨hoo, L⟩ _ hp h1 h2
    obtain ⟨k1, k2, k3⟩ := hout L hp
    refine ⟨k1, k2, fun hh => ?_, fun hh => ?_, k3⟩
    · exact ((L.line hfit hp).2.2.2.2 (hh.resolve_right h1)).2
    · exact ⟨by have := ((L.line hfit hp).2.2.2.2 (hh.resolve_left h1)).1; omega, k3⟩
  case eob =>
    intro o hl hb ⟨hoo, L⟩ _
    exact ⟨L.safe.out, fun hv hh => (L.safe.cur.hv hv hh).fine, fun _ => L.safe, fun _ => ⟨hoo, L.ho⟩, L.ho⟩

end Sipsp
