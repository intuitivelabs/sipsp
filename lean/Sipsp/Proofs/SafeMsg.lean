/-
  Sipsp.Proofs.SafeMsg — ParseSIPMsg never panics (65,535-byte limit), returns offsets inside the buffer (not before
  the offset passed in on OK / MoreBytes), and every field it reports — first line, stored headers, shortcuts, header
  values, contacts, body — can be dereferenced, whatever the verdict; after MoreBytes the object is again legitimate.
-/
import Sipsp.Proofs.SafeGrow
import Sipsp.Proofs.MsgL2
import Sipsp.Proofs.MsgPhases

namespace Sipsp

/-- nothing panicked (`setBufs` records a panic when the raw-message view does not lie inside `Buf`, so this covers
    the view); every reported field lies inside the buffer -/
structure MsgFine (b : Buf) (m : PSIPMsg) : Prop where
  pnc : m.pnc = false
  fl : FlSafe b b.size m.fl
  hl : HlsOut b m.hl
  pv : HvFine b m.pv
  body : m.body.inside b.size

/-- every field of the header values lies before the offset `o` -/
structure HvIn (b : Buf) (o : Nat) (hv : PHdrVals) : Prop where
  from_ : NaOut b o hv.from_
  to : NaOut b o hv.to
  callid : hv.callid.callID.inside o
  cseq : hv.cseq.cseq.inside o ∧ hv.cseq.method.inside o ∧ hv.cseq.v.inside o
  clen : hv.clen.sVal.inside o
  expires : hv.expires.sVal.inside o
  contacts : CtIn b o hv.contacts
  pais : PaIn b o hv.pais

theorem HvSafe.inn {b : Buf} {o : Nat} {st : HState} {hv : PHdrVals} (h : HvSafe b o st hv) : HvIn b o hv :=
  ⟨h.from_.naOut, h.to.naOut, h.callid.fld, ⟨h.cseq.cseq, h.cseq.method, h.cseq.v⟩, h.clen.fld, h.expires.fld,
   h.ctIn, h.paIn⟩

theorem HvIn.mono {b : Buf} {o o' : Nat} {hv : PHdrVals} (h : HvIn b o hv) (h1 : o ≤ o') (h2 : o' ≤ b.size) :
    HvIn b o' hv :=
  ⟨h.from_.mono h1 h2, h.to.mono h1 h2, PField.inside_mono h.callid h1,
   ⟨PField.inside_mono h.cseq.1 h1, PField.inside_mono h.cseq.2.1 h1, PField.inside_mono h.cseq.2.2 h1⟩,
   PField.inside_mono h.clen h1, PField.inside_mono h.expires h1, h.contacts.mono h1 h2, h.pais.mono h1 h2⟩

theorem HvIn.grow {b b' : Buf} {o : Nat} {hv : PHdrVals} (h : HvIn b o hv) (hs : b.size ≤ b'.size) : HvIn b' o hv :=
  ⟨h.from_.grow hs, h.to.grow hs, h.callid, h.cseq, h.clen, h.expires, h.contacts.grow hs, h.pais.grow hs⟩

/-- **every reported field lies before the offset `o`** (first line, stored headers, shortcuts, header values) -/
structure MsgRelIn (b : Buf) (o : Nat) (m : PSIPMsg) : Prop where
  fl : FlSafe b o m.fl
  hl : HlsIn o m.hl
  pv : HvIn b o m.pv

theorem MsgRelIn.mono {b : Buf} {o o' : Nat} {m : PSIPMsg} (h : MsgRelIn b o m) (h1 : o ≤ o') (h2 : o' ≤ b.size) :
    MsgRelIn b o' m := ⟨h.fl.mono h1 h2, h.hl.mono h1, h.pv.mono h1 h2⟩

theorem MsgRelIn.grow {b b' : Buf} {o : Nat} {m : PSIPMsg} (h : MsgRelIn b o m) (hs : b.size ≤ b'.size) :
    MsgRelIn b' o m := ⟨h.fl.grow hs, h.hl, h.pv.grow hs⟩

/-- legitimacy of a message object for panic-freedom -/
structure MsgSafe (b : Buf) (o : Nat) (m : PSIPMsg) : Prop extends MsgFine b m where
  ho : o ≤ b.size
  offs : m.state ≠ .init → m.offs ≤ o
  flS : (m.state = .init ∨ m.state = .fline) → FlSafe b o m.fl
  hls : (m.state = .init ∨ m.state = .fline ∨ m.state = .headers) → HlsSafe b o m.hl (some m.pv)
  inn : MsgRelIn b o m

theorem MsgFine.grow {b b' : Buf} {m : PSIPMsg} (h : MsgFine b m) (hs : b.size ≤ b'.size) : MsgFine b' m :=
  ⟨h.pnc, (h.fl.grow hs).mono hs (Nat.le_refl _), h.hl.grow hs, h.pv.grow hs, PField.inside_mono h.body hs⟩

theorem MsgSafe.grow {b b' : Buf} {o : Nat} {m : PSIPMsg} (h : MsgSafe b o m) (hs : b.size ≤ b'.size) :
    MsgSafe b' o m :=
  ⟨h.toMsgFine.grow hs, by have := h.ho; omega, h.offs, fun hh => (h.flS hh).grow hs, fun hh => (h.hls hh).grow hs,
   h.inn.grow hs⟩

/-- what a call guarantees about its result -/
structure MsgT (b : Buf) (o : Nat) (r : Nat × Err × PSIPMsg) : Prop where
  out : MsgFine b r.2.2
  le : r.1 ≤ b.size
  ge : r.2.1 = .ok ∨ r.2.1 = .moreBytes → o ≤ r.1
  more : r.2.1 = .moreBytes → MsgSafe b r.1 r.2.2
  inn : r.2.1 = .ok → MsgRelIn b r.1 r.2.2 ∧ r.2.2.body.inside r.1

/-- `MsgT` of a result given by its components: its fields then speak of the record itself, not of `(_, _, m).2.2`
    (which the kernel would compare with `m` field by field, see `PField.extend_offs`) -/
theorem MsgT.triple {b : Buf} {o n : Nat} {e : Err} {m : PSIPMsg} (out : MsgFine b m) (le : n ≤ b.size)
    (ge : e = .ok ∨ e = .moreBytes → o ≤ n) (more : e = .moreBytes → MsgSafe b n m)
    (inn : e = .ok → MsgRelIn b n m ∧ m.body.inside n) : MsgT b o (n, e, m) :=
  ⟨out, le, ge, more, inn⟩

theorem msgErr_T (b : Buf) (o o' : Nat) (m : PSIPMsg) (e : Err) (flags : Nat) (hO : MsgFine b m) (hle : o' ≤ b.size)
    (hne : e ≠ .ok) (hge : e = .moreBytes → o ≤ o') (hS : e = .moreBytes → MsgSafe b o' m) :
    MsgT b o (msgErr m o' e flags) := by
  unfold msgErr
  have hO' : MsgFine b { m with state := .err } := ⟨hO.pnc, hO.fl, hO.hl, hO.pv, hO.body⟩
  split
  · rename_i h1
    have : e ≠ .moreBytes := by simpa using h1
    exact ⟨hO', hle, (fun hh => by rcases hh with hh | hh; exact absurd hh hne; exact absurd hh this),
      (fun hh => absurd hh this), (fun hh => absurd hh hne)⟩
  · rename_i h1
    have he : e = .moreBytes := by simpa using h1
    split
    · exact ⟨hO', hle, (fun hh => by rcases hh with hh | hh <;> cases hh), (fun hh => by cases hh),
        (fun hh => by cases hh)⟩
    · exact ⟨hO, hle, (fun _ => hge he), (fun _ => hS he), (fun hh => absurd hh hne)⟩

theorem msgEnd_T (b : Buf) (o o' : Nat) (m : PSIPMsg) (hO : MsgFine b m) (hoo : o ≤ o') (hle : o' ≤ b.size)
    (hb : m.body.offs ≤ o') (hoffs : m.offs ≤ o') (hI : MsgRelIn b o' m) : MsgT b o (msgEnd m b o') := by
  unfold msgEnd PSIPMsg.setBufs
  refine .triple ⟨?_, hO.fl, hO.hl, hO.pv, extend_inside m.body o' b.size hb hle⟩ hle (fun _ => hoo)
    (fun hh => by cases hh) (fun _ => ⟨⟨hI.fl, hI.hl, hI.pv⟩, extend_inside m.body o' o' hb (Nat.le_refl _)⟩)
  show (((m.pnc || m.body.extendPanics o') || decide (o' > b.size)) || decide (m.offs > o')) = false
  rw [hO.pnc, extendPanics_false m.body o' hb]
  simp only [Bool.or_self, Bool.false_or, Bool.or_eq_false_iff, decide_eq_false_iff_not, Nat.not_lt, gt_iff_lt]
  exact ⟨hle, hoffs⟩

theorem msgBody_T (b : Buf) (o : Nat) (m : PSIPMsg) (flags : Nat) (hO : MsgFine b m) (ho : o ≤ b.size)
    (hoffs : m.offs ≤ o) (hst : m.state = .body) (hI : MsgRelIn b o m) : MsgT b o (msgBody b o m flags) := by
  have hset : (PField.set o o).offs ≤ o := by unfold PField.set trunc16; exact Nat.mod_le _ _
  have hins : (PField.set o o).inside b.size := set_inside o o b.size (Nat.le_refl _) ho
  have hO1 : MsgFine b { m with body := PField.set o o } := ⟨hO.pnc, hO.fl, hO.hl, hO.pv, hins⟩
  refine msgBody_cases (P := MsgT b o) b o m flags ?_ ?_ fun s e _ he => ?_
  · refine ⟨⟨?_, hO.fl, hO.hl, hO.pv, hins⟩, ho, (fun hh => by rcases hh with hh | hh <;> cases hh),
      (fun hh => by cases hh), (fun hh => by cases hh)⟩
    show ((m.pnc || decide (o > b.size)) || decide (m.offs > o)) = false
    rw [hO.pnc]
    simp only [Bool.false_or, Bool.or_eq_false_iff, decide_eq_false_iff_not, Nat.not_lt, gt_iff_lt]
    exact ⟨ho, hoffs⟩
  · exact ⟨hO1, ho, (fun _ => Nat.le_refl _), fun _ =>
      ⟨hO1, ho, (fun _ => hoffs), (fun hh => by rcases hh with hh | hh <;> (rw [hst] at hh; cases hh)),
       (fun hh => by rcases hh with hh | hh | hh <;> (rw [hst] at hh; cases hh)),
       ⟨hI.fl, hI.hl, hI.pv⟩⟩, (fun hh => by cases hh)⟩
  · obtain ⟨h1, h2⟩ := he ho
    exact msgEnd_T b o e _ ⟨hO.pnc, hO.fl, hO.hl, hO.pv, hins⟩ h1 h2 (Nat.le_trans hset h1) (Nat.le_trans hoffs h1)
      ⟨hI.fl.mono h1 h2, hI.hl.mono h1, hI.pv.mono h1 h2⟩

theorem MsgT.weaken {b : Buf} {o o1 : Nat} {r : Nat × Err × PSIPMsg} (h : MsgT b o1 r) (h1 : o ≤ o1) : MsgT b o r :=
  ⟨h.out, h.le, (fun hh => by have := h.ge hh; omega), h.more, h.inn⟩

/-! ### the phases of a legitimate call -/

theorem MsgSafe.fline {b : Buf} {o1 : Nat} {m1 : PSIPMsg} (hfit : b.size ≤ 65535) (H1 : MsgSafe b o1 m1) (hst : m1.state = .fline) {o2 : Nat} {e : Err}
    {fl : PFLine} (hp : parseFLine b o1 m1.fl = (o2, e, fl)) (s' : MsgState) :
    o1 ≤ o2 ∧ MsgSafe b o2 { m1 with fl := fl, state := s' } := by
  have hoffs : m1.offs ≤ o1 := H1.offs (by rw [hst]; decide)
  have hF := parseFLine_safe b o1 m1.fl hfit (H1.flS (Or.inr hst))
  have hge := parseFLine_ge b o1 m1.fl
  rw [hp] at hF hge
  simp only at hF hge
  exact ⟨hge, ⟨H1.pnc, hF.mono hF.ho (Nat.le_refl _), H1.hl, H1.pv, H1.body⟩, hF.ho,
    (fun _ => by show m1.offs ≤ o2; omega), (fun _ => hF), (fun _ => (H1.hls (Or.inr (Or.inl hst))).mono hge hF.ho),
    ⟨hF, H1.inn.hl.mono hge, H1.inn.pv.mono hge hF.ho⟩⟩

/-- the header block: what it returns can always be dereferenced; after OK and after MoreBytes the object is safe at
    the returned offset -/
theorem MsgSafe.headers {b : Buf} {o1 : Nat} {m1 : PSIPMsg} (hfit : b.size ≤ 65535) (hok1 : msgOK2 b o1 m1) (H1 : MsgSafe b o1 m1)
    (hst : m1.state = .headers) {o2 : Nat} {e : Err} {hl : HdrLst} {hb : Option PHdrVals}
    (hp : parseHeaders b o1 m1.hl (some m1.pv) = (o2, e, hl, hb)) :
    MsgFine b { m1 with hl := hl, pv := hb.getD m1.pv } ∧ o2 ≤ b.size ∧
    (e = .ok ∨ e = .moreBytes → o1 ≤ o2 ∧ ∀ s', MsgSafe b o2 { m1 with hl := hl, pv := hb.getD m1.pv, state := s' }) := by
  obtain ⟨ho, _, hrest⟩ := hok1
  obtain ⟨hls, hvs, hpe⟩ := hrest (by rw [hst]; decide)
  have hoffs : m1.offs ≤ o1 := H1.offs (by rw [hst]; decide)
  have hS := parseHeaders_safe b o1 m1.hl (some m1.pv) hfit hls hvs hpe ho (H1.hls (Or.inr (Or.inr hst)))
  have hsome := parseHeaders_isSome b o1 m1.hl m1.pv
  rw [hp] at hS hsome
  cases hb with
  | none => cases hsome
  | some pv1 =>
    obtain ⟨hO, hV, hM, hR, hN⟩ := hS
    simp only [Option.getD_some]
    refine ⟨⟨H1.pnc, H1.fl, hO, hV pv1 rfl, H1.body⟩, hN, fun he => ?_⟩
    have h1 := hR he
    have hHS := hM he.symm
    exact ⟨h1.1, fun s' => ⟨⟨H1.pnc, H1.fl, hO, hV pv1 rfl, H1.body⟩, hN, (fun _ => by show m1.offs ≤ o2; omega),
      (fun _ => H1.inn.fl.mono h1.1 hN), (fun _ => hHS), ⟨H1.inn.fl.mono h1.1 hN, hHS.inn, (hHS.cur.hv pv1 rfl).inn⟩⟩⟩

/-- a legitimate call is legitimate at every phase it reaches -/
theorem MsgAt.legit {b : Buf} {o : Nat} {m : PSIPMsg} {o1 : Nat} {m1 : PSIPMsg} {s : MsgState} (hfit : b.size ≤ 65535) (hok : msgOK2 b o m) (H : MsgSafe b o m)
    (h : MsgAt b o m s o1 m1) : o ≤ o1 ∧ msgOK2 b o1 m1 ∧ MsgSafe b o1 m1 := by
  induction h with
  | enter hst =>
    exact ⟨Nat.le_refl _, ⟨hok.1, fun _ => hok.2.1 (Or.inl hst), fun _ => hok.2.2 (by rw [hst]; decide)⟩,
      ⟨⟨H.pnc, H.fl, H.hl, H.pv, H.body⟩, H.ho, (fun _ => Nat.le_refl _), (fun _ => H.flS (Or.inl hst)),
        (fun _ => H.hls (Or.inl hst)), ⟨H.inn.fl, H.inn.hl, H.inn.pv⟩⟩⟩
  | resume _ _ => exact ⟨Nat.le_refl _, hok, H⟩
  | @fline o1 m1 o2 fl h hp ih =>
    obtain ⟨hle, hok1, H1⟩ := ih
    obtain ⟨hge, H2⟩ := H1.fline hfit h.state hp .headers
    obtain ⟨hls, hvs, hpe⟩ := hok1.2.2 (by rw [h.state]; decide)
    exact ⟨by omega, ⟨H2.ho, (fun hh => by rcases hh with hh | hh <;> cases hh),
      fun _ => ⟨hls, hvOK_mono hvs hge H2.ho, hpe⟩⟩, H2⟩
  | @headers o1 m1 o2 hl hb h hp ih =>
    obtain ⟨hle, hok1, H1⟩ := ih
    obtain ⟨_, hN, hS⟩ := H1.headers hfit hok1 h.state hp
    obtain ⟨hge, H2⟩ := hS (Or.inl rfl)
    exact ⟨by omega, ⟨hN, (fun hh => by rcases hh with hh | hh <;> cases hh), fun hh => absurd rfl hh⟩, H2 .body⟩

/-- a legitimate object in the header-block phase holds a legitimate header list -/
theorem MsgSafe.hdrsLegit {b : Buf} {o : Nat} {m : PSIPMsg} (H : MsgSafe b o m) (hok : msgOK2 b o m)
    (hst : m.state = .headers) : HlsLegit b o m.hl (some m.pv) := by
  obtain ⟨hls, hvs, hpe⟩ := hok.2.2 (by rw [hst]; decide)
  exact ⟨hls, hvs, hpe, hok.1, H.hls (Or.inr (Or.inr hst))⟩

/-- … and so does the object of a call from the initial state once the first line is parsed, where it ended -/
theorem MsgSafe.afterFLine {b : Buf} {o : Nat} {m : PSIPMsg} (hfit : b.size ≤ 65535) (hok : msgOK2 b o m)
    (H : MsgSafe b o m) (hst : m.state = .init) {o1 : Nat} {fl1 : PFLine} (hp : parseFLine b o m.fl = (o1, .ok, fl1)) :
    o ≤ o1 ∧ FlSafe b o1 fl1 ∧ HlsLegit b o1 m.hl (some m.pv) := by
  obtain ⟨hge, hok1, H1⟩ := (MsgAt.fline (.enter hst) hp).legit hfit hok H
  exact ⟨hge, H1.inn.fl, H1.hdrsLegit hok1 rfl⟩

/-- **ParseSIPMsg never panics** (buffers up to the documented 65,535-byte limit; every flag combination; any
    legitimate message object): the returned offset lies inside the buffer — and not before the offset passed in when
    the verdict is OK or MoreBytes —, no panic was recorded and every reported field can be dereferenced whatever the
    verdict; after MoreBytes the object is again legitimate at the returned offset. -/
theorem parseSIPMsg_safe (b : Buf) (o : Nat) (m : PSIPMsg) (flags : Nat) (hfit : b.size ≤ 65535)
    (hok : msgOK2 b o m) (H : MsgSafe b o m) : MsgT b o (parseSIPMsg b o m flags) := by
  refine parseSIPMsg_cases (P := MsgT b o) b o m flags (fun _ => ?_) ?_ ?_ ?_
  · have := msgErr_T b o o m .bug flags H.toMsgFine H.ho (by decide) (fun hh => by cases hh) (fun hh => by cases hh)
    unfold msgErr at this
    exact this
  · intro o1 m1 o2 e fl h hp he
    obtain ⟨hle, _, H1⟩ := h.legit hfit hok H
    obtain ⟨hge, H2⟩ := H1.fline hfit h.state hp m1.state
    exact (msgErr_T b o1 o2 _ e flags H2.toMsgFine H2.ho he (fun _ => hge) (fun _ => H2)).weaken hle
  · intro o1 m1 o2 e hl hb h hp he
    obtain ⟨hle, hok1, H1⟩ := h.legit hfit hok H
    obtain ⟨hF, hN, hS⟩ := H1.headers hfit hok1 h.state hp
    exact (msgErr_T b o1 o2 _ e flags hF hN he (fun hh => (hS (Or.inr hh)).1)
      (fun hh => (hS (Or.inr hh)).2 m1.state)).weaken hle
  · intro o1 m1 h
    obtain ⟨hle, _, H1⟩ := h.legit hfit hok H
    exact (msgBody_T b o1 m1 flags H1.toMsgFine H1.ho (H1.offs (by rw [h.state]; decide)) h.state H1.inn).weaken hle

/-! ### objects produced by Init -/

theorem HlsSafe_new (b : Buf) (o : Nat) (ho : o ≤ b.size) (k kc : Nat) :
    HlsSafe b o ({ hdrs := Array.replicate k {} } : HdrLst)
      (some ({ contacts := { vals := Array.replicate kc {} } } : PHdrVals)) := by
  have hcur : (({ hdrs := Array.replicate k {} } : HdrLst)).cur = {} := SlotArr.cur_replicate ({} : Hdr) k
  refine ⟨?_, SlotArr.clean_replicate ({} : Hdr) k, (fun j hj _ => by cases hj), (fun j hj => ?_),
    ⟨(fun j hj _ => by cases hj), fun j hj => ?_⟩⟩
  · rw [hcur]
    exact HlSafe_new b o _ ho (fun hv hh => by cases hh; exact HvSafe_new b o ho kc)
  · have hj' : j < 13 := by simpa using hj
    have : (Array.replicate 13 ({} : Hdr))[j]! = {} := by simp [hj']
    show HdrFine b (Array.replicate 13 ({} : Hdr))[j]!
    rw [this]; exact HdrFine_new b
  · have hj' : j < 13 := by simpa using hj
    have : (Array.replicate 13 ({} : Hdr))[j]! = {} := by simp [hj']
    show HdrBefore o (Array.replicate 13 ({} : Hdr))[j]!
    rw [this]; exact HdrBefore_new o

/-- what `Init` builds (header array of capacity `k`, contact array of capacity `k'`) -/
def initObj (len k k' : Nat) : PSIPMsg :=
  { hl := { hdrs := Array.replicate k {} }, pv := { contacts := { vals := Array.replicate k' {} } }, bufLen := len }

/-- every object produced by `Init` (caller arrays of any capacity, or none: then capacity 10) is an `initObj` -/
theorem init_eq_initObj (m : PSIPMsg) (len kh kc : Nat) (hdrs cts : Option Unit) :
    ∃ k k', m.init len (hdrs.map fun _ => Array.replicate kh {}) (cts.map fun _ => Array.replicate kc {}) =
      initObj len k k' := by
  cases hdrs <;> cases cts <;> exact ⟨_, _, rfl⟩

theorem MsgSafe_init (b : Buf) (o : Nat) (ho : o ≤ b.size) (m : PSIPMsg) (len kh kc : Nat)
    (hdrs : Option Unit) (cts : Option Unit) :
    MsgSafe b o (m.init len (hdrs.map fun _ => Array.replicate kh {}) (cts.map fun _ => Array.replicate kc {})) := by
  obtain ⟨k, k', e⟩ := init_eq_initObj m len kh kc hdrs cts
  rw [e]
  have hS := HlsSafe_new b o ho k k'
  exact ⟨⟨rfl, FlSafe_new b b.size (Nat.le_refl _), hS.out, (HvSafe_new b o ho k').fine, PField.inside_zero _⟩, ho,
    (fun hh => absurd rfl hh), (fun _ => FlSafe_new b o ho), (fun _ => hS),
    ⟨FlSafe_new b o ho, hS.inn, (HvSafe_new b o ho k').inn⟩⟩

/-! ### every chunk schedule -/

/-- a post-condition established by every single call (from a legitimate state) holds of the caller's loop over any
    growing sequence of buffers: the result satisfies it relative to the buffer of the call that produced it and to
    the offset the loop started from -/
theorem resumeRun_post {σ : Type} (P : Parser σ) (Inv : Buf → Nat → σ → Prop)
    (Q : Buf → Nat → Nat × Err × σ → Prop) (C : Buf → Prop)
    (hP : ∀ b o st, C b → Inv b o st → Q b o (P b o st) ∧
      ((P b o st).2.1 = .moreBytes → o ≤ (P b o st).1 ∧ ∀ s, Inv (b ++ s) (P b o st).1 (P b o st).2.2))
    (hQ : ∀ b o o' r, o ≤ o' → Q b o' r → Q b o r)
    (o : Nat) (st : σ) (l : List Buf) (hg : Growing l) (hC : ∀ x ∈ l, C x) (hne : l ≠ [])
    (h0 : ∀ b ∈ l.head?, Inv b o st) : ∃ b ∈ l, Q b o (resumeRun P o st l) := by
  -- the chain beside itself: the configuration is the same on both sides, reached at an offset not before `o`
  exact resumeRun_two P P (fun b o1 s1 o2 s2 => o2 = o1 ∧ s2 = s1 ∧ o ≤ o1 ∧ Inv b o1 s1) (fun b r _ => Q b o r) C
    (fun b o1 s1 o2 s2 hc ⟨e1, e2, hoo, hI⟩ => by
      subst e1 e2
      obtain ⟨hq, hm⟩ := hP b o2 s2 hc hI
      exact ⟨hQ b o o2 _ hoo hq, rfl, fun he s => ⟨rfl, rfl, Nat.le_trans hoo (hm he).1, (hm he).2 s⟩⟩)
    o st o st l hg hC hne (fun b hb => ⟨rfl, rfl, Nat.le_refl _, h0 b hb⟩)

/-- the caller-visible guarantee of one ParseSIPMsg call / of a whole chain of resumed calls -/
structure MsgQ (b : Buf) (o : Nat) (r : Nat × Err × PSIPMsg) : Prop where
  fine : MsgFine b r.2.2
  le : r.1 ≤ b.size
  ge : r.2.1 = .ok ∨ r.2.1 = .moreBytes → o ≤ r.1

/-- a suspended call: the offset has not moved back, and on every extension of the buffer the object is legitimate for
    the call that resumes it -/
theorem parseSIPMsg_more_legit (b : Buf) (o : Nat) (m : PSIPMsg) (flags : Nat) (hfit : b.size ≤ 65535)
    (hok : msgOK2 b o m) (H : MsgSafe b o m) (hmb : (parseSIPMsg b o m flags).2.1 = .moreBytes) :
    o ≤ (parseSIPMsg b o m flags).1 ∧ ∀ s, msgOK2 (b ++ s) (parseSIPMsg b o m flags).1 (parseSIPMsg b o m flags).2.2 ∧
      MsgSafe (b ++ s) (parseSIPMsg b o m flags).1 (parseSIPMsg b o m flags).2.2 := by
  have hT := parseSIPMsg_safe b o m flags hfit hok H
  refine ⟨hT.ge (Or.inr hmb), fun s => ?_⟩
  rcases hp : parseSIPMsg b o m flags with ⟨o1, e1, m1⟩
  rw [hp] at hmb hT
  simp only at hmb
  subst hmb
  exact ⟨(parseSIPMsg_resume b s o m flags flags hok hfit hp).2.1, (hT.more rfl).grow (by rw [Array.size_append]; omega)⟩

/-- **ParseSIPMsg under every chunk schedule** (each buffer within the 65,535-byte limit, flags fixed per run): the
    chain of resumed calls never panics, the final offset lies inside the buffer of the last call made — not before the
    offset the first call was given when the verdict is OK or MoreBytes — and every field of the final object can be
    dereferenced against that buffer, whatever the verdict. -/
theorem parseSIPMsg_schedule_safe (flags : Nat) (o : Nat) (m : PSIPMsg) (l : List Buf) (hg : Growing l)
    (hfit : ∀ x ∈ l, x.size ≤ 65535) (hne : l ≠ [])
    (h0 : ∀ b ∈ l.head?, msgOK2 b o m ∧ MsgSafe b o m) :
    ∃ b ∈ l, MsgQ b o (resumeRun (fun b o m => parseSIPMsg b o m flags) o m l) := by
  refine resumeRun_post (fun b o m => parseSIPMsg b o m flags) (fun b o m => msgOK2 b o m ∧ MsgSafe b o m) MsgQ
    (fun b => b.size ≤ 65535) ?_ (fun b o o' r h q => ⟨q.fine, q.le, fun hh => by have := q.ge hh; omega⟩)
    o m l hg hfit hne h0
  intro b o m hfit hI
  have hT := parseSIPMsg_safe b o m flags hfit hI.1 hI.2
  exact ⟨⟨hT.out, hT.le, hT.ge⟩, parseSIPMsg_more_legit b o m flags hfit hI.1 hI.2⟩

end Sipsp
