/-
  Sipsp.Proofs.SafeNA — ParseNameAddrPVal never panics and every field it reports can be dereferenced: the loop
  invariant `NaSafe` (saved positions and all reported fields lie before the current position, no panic so far)
  is preserved by every step.
-/
import Sipsp.Proofs.NaTrans
import Sipsp.Proofs.NaRun
import Sipsp.Proofs.NameAddrPost
import Sipsp.Proofs.NameAddrL2

namespace Sipsp

/-- the field ends at or before position `n` (so it can be sliced out of any buffer of at least `n` bytes) -/
def PField.inside (f : PField) (n : Nat) : Prop := f.offs + f.len ≤ n

theorem PField.inside_mono {f : PField} {n m : Nat} (h : f.inside n) (hnm : n ≤ m) : f.inside m := by
  unfold PField.inside at *; omega

theorem set_inside (s e n : Nat) (h1 : s ≤ e) (h2 : e ≤ n) : (PField.set s e).inside n := by
  unfold PField.inside PField.set trunc16
  simp only
  have := Nat.mod_le s 65536
  have := Nat.mod_le (e - s) 65536
  omega

theorem extend_inside (p : PField) (e n : Nat) (h1 : p.offs ≤ e) (h2 : e ≤ n) : (p.extend e).inside n := by
  unfold PField.inside PField.extend trunc16
  simp only
  omega

theorem extendPanics_false (p : PField) (e : Nat) (h : p.offs ≤ e) : p.extendPanics e = false := by
  unfold PField.extendPanics; simp; omega

theorem PField.inside_zero (n : Nat) : ({} : PField).inside n := by unfold PField.inside; simp

/-- loop invariant: saved positions and reported fields lie at or before the current position; no panic so far -/
structure NaCore (b : Buf) (i : Nat) (pf : PFromBody) : Prop where
  hi : i ≤ b.size
  pend : pf.pend ≤ i
  vend : pf.vend ≤ i
  s : pf.s ≤ i
  name : pf.name.inside i
  uri : pf.uri.inside i
  tag : pf.tag.inside i
  /-- while a value is scanned only the start of the parameters is recorded (`naParamsOffs`); the length is set when
      the value ends (`extParams`) -/
  params : pf.params.offs ≤ i ∧ pf.params.len = 0
  v : pf.v.inside i
  pnc : pf.pnc = false

structure NaSafe (b : Buf) (i : Nat) (pf : PFromBody) : Prop extends NaCore b i pf where
  /-- after white space following a parameter name / value, the value and parameter starts lie before the saved end -/
  endP : (pf.state = .paramNameEnd ∨ pf.state = .possibleParamNameEnd) → pf.v.offs ≤ pf.pend ∧ pf.params.offs ≤ pf.pend
  endV : (pf.state = .paramValEnd ∨ pf.state = .possibleValEnd) → pf.v.offs ≤ pf.vend ∧ pf.params.offs ≤ pf.vend

theorem NaCore.mono {b : Buf} {i j : Nat} {pf : PFromBody} (h : NaCore b i pf) (hij : i ≤ j) (hj : j ≤ b.size) :
    NaCore b j pf :=
  ⟨hj, by have := h.pend; omega, by have := h.vend; omega, by have := h.s; omega, PField.inside_mono h.name hij,
   PField.inside_mono h.uri hij, PField.inside_mono h.tag hij, ⟨by have := h.params.1; omega, h.params.2⟩,
   PField.inside_mono h.v hij, h.pnc⟩

theorem NaSafe.mono {b : Buf} {i j : Nat} {pf : PFromBody} (h : NaSafe b i pf) (hij : i ≤ j) (hj : j ≤ b.size) :
    NaSafe b j pf := ⟨h.toNaCore.mono hij hj, h.endP, h.endV⟩

theorem NaCore.voffs {b : Buf} {i : Nat} {pf : PFromBody} (h : NaCore b i pf) : pf.v.offs ≤ i := by
  have := h.v; unfold PField.inside at this; omega

/-- closes one field of `NaCore` / `NaSafe` for an explicitly updated object: the field is untouched (a hypothesis),
    or the update is unfolded in the goal and the inequalities go to `omega` -/
macro "na_fld" : tactic =>
  `(tactic| first
      | assumption
      | omega
      | (simp only [PFromBody.setURI, PFromBody.setName, PFromBody.setV, PFromBody.extV, PFromBody.extParams,
           PFromBody.resetUPT, PFromBody.saveS, PField.inside, PField.set, PField.extend, PField.setPanics,
           PField.extendPanics, trunc16, Bool.or_eq_false_iff, decide_eq_false_iff_not, Nat.not_lt, reduceCtorEq,
           or_self, false_implies, true_and, and_true, Nat.zero_le] <;>
         first | omega | ((repeat' apply And.intro) <;> first | assumption | omega | (apply decide_eq_false; omega))))

/-- the object after `name-or-URI` text ended at white space: the URI is set to that text -/
theorem NaSafe.lwsURI {b : Buf} {i : Nat} {pf : PFromBody} (hI : NaSafe b i pf) :
    NaSafe b i { (pf.setURI pf.s i).extV i with state := .nameOrURIEnd } := by
  obtain ⟨⟨g1, g2, g3, g4, g5, g6, g7, g8, g9, g10⟩, g11, g12⟩ := hI
  simp only [PField.inside] at g5 g6 g7 g9
  refine ⟨⟨?_, ?_, ?_, ?_, ?_, ?_, ?_, ?_, ?_, ?_⟩, ?_, ?_⟩ <;> na_fld

theorem slice?_some (b : Buf) (lo hi : Nat) (h1 : lo ≤ hi) (h2 : hi ≤ b.size) :
    slice? b lo hi = some (b.extract lo hi) := by
  unfold slice?; rw [if_pos ⟨h1, h2⟩]

/-- storing a parameter value keeps the invariant: the name and value ranges lie inside the buffer, so slicing
    them cannot panic; the saved ends are cleared, and among the reported fields only the tag changes (to the value range) -/
theorem setFromParamVal_safe (b : Buf) (i : Nat) (pf : PFromBody) (h : NaCore b i pf) :
    NaCore b i (setFromParamVal b pf) := by
  obtain ⟨h1, h2, h3, h4, h5, h6, h7, h8, h9, h10⟩ := h
  have hk := sfpKind_inside (b := b) (ps := pf.pstart) (vs := pf.vstart) (show pf.pend ≤ b.size by omega)
    (show pf.vend ≤ b.size by omega)
  refine ⟨h1, by rw [setFromParamVal_pend]; omega, by rw [setFromParamVal_vend]; omega, by rw [setFromParamVal_s]; exact h4,
    by rw [setFromParamVal_name]; exact h5, by rw [setFromParamVal_uri]; exact h6, ?_,
    by rw [setFromParamVal_params]; exact h8, by rw [setFromParamVal_v]; exact h9, ?_⟩
  -- the tag and the panic flag, by the parameter recognised
  all_goals
    rw [setFromParamVal_do]
    cases hkk : sfpKind b pf.pstart pf.pend pf.vstart pf.vend
    case panic => exact absurd hkk hk
    case tag =>
      first
        | exact h10
        | (have := sfpKind_lt (.inl hkk); exact set_inside _ _ _ (by omega) (by omega))
    case expires => simp only [sfpDo]; rw [setExpires_frame]; first | exact h7 | exact h10
    case q => simp only [sfpDo]; rw [setQ_frame]; first | exact h7 | exact h10
    all_goals first | exact h7 | exact h10

theorem naNameWS_safe (b : Buf) (i n : Nat) (pf : PFromBody) (hI : NaSafe b i pf) (hin : i ≤ n) (hn : n ≤ b.size) :
    NaSafe b n (naNameWS pf i) := by
  obtain ⟨⟨h1, h2, h3, h4, h5, h6, h7, h8, h9, h10⟩, h11, h12⟩ := hI.mono hin hn
  -- the step saves the end `pend := i` and enters an `…End` state, where `endP` asks for `v.offs`, `params.offs` ≤ `pend`:
  -- both stand at or before `i` (`g9`, `g8`)
  have g8 := hI.params.1
  have g9 := hI.toNaCore.voffs
  unfold naNameWS
  repeat' split
  all_goals
    refine ⟨⟨?_, ?_, ?_, ?_, ?_, ?_, ?_, ?_, ?_, ?_⟩, ?_, ?_⟩ <;> first | assumption | omega | simp_all

theorem naValWS_safe (b : Buf) (i n : Nat) (pf : PFromBody) (ok : Bool) (hI : NaSafe b i pf) (hin : i ≤ n)
    (hn : n ≤ b.size) : NaSafe b n (naValWS pf i n ok) := by
  obtain ⟨⟨h1, h2, h3, h4, h5, h6, h7, h8, h9, h10⟩, h11, h12⟩ := hI.mono hin hn
  -- as in `naNameWS_safe`, with `vend := i` and `endV`
  have g8 := hI.params.1
  have g9 := hI.toNaCore.voffs
  unfold naValWS
  repeat' split
  all_goals
    refine ⟨⟨?_, ?_, ?_, ?_, ?_, ?_, ?_, ?_, ?_, ?_⟩, ?_, ?_⟩ <;> first | assumption | omega | simp_all

theorem naParam_state (pf : PFromBody) (i : Nat)
    (hg : pf.state = .newParam ∨ pf.state = .newPossibleParam ∨ pf.state = .paramName ∨ pf.state = .possibleParamName) :
    (naParamsOffs (naParamStart pf i) i).state = .paramName ∨ (naParamsOffs (naParamStart pf i) i).state = .possibleParamName := by
  unfold naParamsOffs naParamStart
  rcases hg with g | g | g | g <;> simp only [g] <;> (repeat' split) <;> simp_all

theorem naParam_safe (b : Buf) (i : Nat) (pf : PFromBody) (hI : NaSafe b i pf) (hlt : i < b.size)
    (hg : pf.state = .newParam ∨ pf.state = .newPossibleParam ∨ pf.state = .paramName ∨ pf.state = .possibleParamName) :
    NaSafe b (i + 1) (naParamsOffs (naParamStart pf i) i) := by
  have hst := naParam_state pf i hg
  refine ⟨?_, ?_, ?_⟩
  · obtain ⟨⟨h1, h2, h3, h4, h5, h6, h7, h8, h9, h10⟩, h11, h12⟩ := hI.mono (Nat.le_succ i) hlt
    unfold naParamsOffs naParamStart
    have hm := Nat.mod_le i 65536
    repeat' split
    all_goals
      refine ⟨?_, ?_, ?_, ?_, ?_, ?_, ?_, ?_, ?_, ?_⟩ <;> first | assumption | (simp only [trunc16]; omega)
  · intro hh; rcases hst with g | g <;> rw [g] at hh <;> rcases hh with hh | hh <;> cases hh
  · intro hh; rcases hst with g | g <;> rw [g] at hh <;> rcases hh with hh | hh <;> cases hh

theorem NaTr.safe {h : Nat} {b : Buf} {i : Nat} {c : UInt8} {pf : PFromBody} (hb : b[i]? = some c)
    (hI : NaSafe b i pf) {i' : Nat} {st' : PFromBody} (t : NaTr h b i c pf (.cont i' st')) : NaSafe b i' st' := by
  have hlt := get?_lt hb
  have ⟨⟨g1, g2, g3, g4, g5, g6, g7, g8, g9, g10⟩, g11, g12⟩ := hI
  obtain ⟨⟨h1, h2, h3, h4, h5, h6, h7, h8, h9, h10⟩, h11, h12⟩ := hI.mono (Nat.le_succ i) hlt
  simp only [PField.inside] at h5 h6 h7 h9 g5 g6 g7 g9
  cases t
  -- white space: the loop goes on after it, with the object unchanged or the end of the pending token recorded
  case a_lwsURI hg hl t =>
    obtain ⟨⟨crl, hk⟩, rfl⟩ := t.of_cont
    have hr := skipLWS_range b i 0 hk
    exact hI.lwsURI.mono hr.1 (hr.2 g1)
  case a_lws hg hl t | q_lws hg hl t | uf_lws hg hl t =>
    all_goals
      obtain ⟨⟨crl, hk⟩, rfl⟩ := t.of_cont
      have hr := skipLWS_range b i 0 hk
      exact hI.mono hr.1 (hr.2 g1)
  case p_lws hg hl t =>
    obtain ⟨⟨crl, hk⟩, rfl⟩ := t.of_cont
    have hr := skipLWS_range b i 0 hk
    exact naNameWS_safe b i _ pf hI hr.1 (hr.2 g1)
  case v_lws hg hl t =>
    obtain ⟨⟨crl, hk⟩, rfl⟩ := t.of_cont
    have hr := skipLWS_range b i 0 hk
    exact naValWS_safe b i _ pf true hI hr.1 (hr.2 g1)
  case q_esc hg hc h1 hl1 => have := get?_lt h1; exact hI.mono (by omega) (by omega)
  case p_tok hg hl hc => exact naParam_safe b i pf hI hlt hg
  -- a parameter is complete: it is stored, and the new state carries no pending end
  case p_semi | p_semiP | pe_semi | pe_semiP | v_semi | v_semiP | ve_semi | ve_semiP =>
    all_goals
      refine ⟨setFromParamVal_safe b _ _ ⟨?_, ?_, ?_, ?_, ?_, ?_, ?_, ?_, ?_, ?_⟩, ?_, ?_⟩
      all_goals first
        | assumption
        | omega
        | (dsimp only; omega)
        | (rw [setFromParamVal_state]; intro hh; rcases hh with hh | hh <;> cases hh)
  -- every other step: an explicit update of a few fields
  all_goals
    refine ⟨⟨?_, ?_, ?_, ?_, ?_, ?_, ?_, ?_, ?_, ?_⟩, ?_, ?_⟩ <;> na_fld

theorem na_safeCont (h : Nat) (b : Buf) : InvCont (naMachine h) b (NaSafe b) := by
  intro i c pf i' st' hb hI hs _
  have t := naStep_tr h b i c pf
  rw [show naStep h b i c pf = .cont i' st' from hs] at t
  exact t.safe hb hI

/-- every reported field ends at or before `o`, which lies inside the buffer; no panic happened -/
structure NaOut (b : Buf) (o : Nat) (pf : PFromBody) : Prop where
  ho : o ≤ b.size
  name : pf.name.inside o
  uri : pf.uri.inside o
  tag : pf.tag.inside o
  params : pf.params.inside o
  v : pf.v.inside o
  pnc : pf.pnc = false

theorem NaCore.out {b : Buf} {i : Nat} {pf : PFromBody} (h : NaCore b i pf) : NaOut b i pf :=
  ⟨h.hi, h.name, h.uri, h.tag, by have := h.params; unfold PField.inside; omega, h.v, h.pnc⟩

theorem NaSafe.out {b : Buf} {i : Nat} {pf : PFromBody} (h : NaSafe b i pf) : NaOut b i pf := h.toNaCore.out

theorem NaOut.mono {b : Buf} {i j : Nat} {pf : PFromBody} (h : NaOut b i pf) (hij : i ≤ j) (hj : j ≤ b.size) :
    NaOut b j pf :=
  ⟨hj, PField.inside_mono h.name hij, PField.inside_mono h.uri hij, PField.inside_mono h.tag hij,
   PField.inside_mono h.params hij, PField.inside_mono h.v hij, h.pnc⟩

theorem NaOut.extV {b : Buf} {i : Nat} {pf : PFromBody} (h : NaOut b i pf) (e : Nat) (he : e ≤ i)
    (hv : pf.v.offs ≤ e) : NaOut b i (pf.extV e) := by
  unfold PFromBody.extV
  obtain ⟨h1, h2, h3, h4, h5, h6, h7⟩ := h
  exact ⟨h1, h2, h3, h4, h5, extend_inside _ _ _ hv he,
    by show (pf.pnc || pf.v.extendPanics e) = false; rw [h7, extendPanics_false _ _ hv]; rfl⟩

theorem NaOut.extParams {b : Buf} {i : Nat} {pf : PFromBody} (h : NaOut b i pf) (e : Nat) (he : e ≤ i)
    (hp : pf.params.offs ≤ e) : NaOut b i (pf.extParams e) := by
  unfold PFromBody.extParams
  obtain ⟨h1, h2, h3, h4, h5, h6, h7⟩ := h
  exact ⟨h1, h2, h3, h4, extend_inside _ _ _ hp he, h6,
    by show (pf.pnc || pf.params.extendPanics e) = false; rw [h7, extendPanics_false _ _ hp]; rfl⟩

theorem NaOut.setURI {b : Buf} {i : Nat} {pf : PFromBody} (h : NaOut b i pf) (s e : Nat) (hs : s ≤ e) (he : e ≤ i) :
    NaOut b i (pf.setURI s e) := by
  obtain ⟨h1, h2, h3, h4, h5, h6, h7⟩ := h
  exact ⟨h1, h2, set_inside _ _ _ hs he, h4, h5, h6,
    by show (pf.pnc || PField.setPanics s e) = false; rw [h7, setPanics_false _ _ hs]; rfl⟩

theorem setFromParamVal_vp (b : Buf) (pf : PFromBody) :
    (setFromParamVal b pf).v = pf.v ∧ (setFromParamVal b pf).params = pf.params :=
  ⟨setFromParamVal_v b pf, setFromParamVal_params b pf⟩

/-- the end-of-value code, run with the value end `e` (the current position, or the position before trailing
    white space): every field of the result ends at or before the current position `i` -/
theorem naEOHParamName_out (b : Buf) (pf : PFromBody) (i e : Nat) (hI : NaCore b i pf) (he : e ≤ i)
    (hv : pf.v.offs ≤ e) (hp : pf.params.offs ≤ e) : NaOut b i (naEOHParamName b pf e) := by
  unfold naEOHParamName
  have h1 : NaCore b i (if pf.state == .paramName || pf.state == .possibleParamName then { pf with pend := e } else pf) ∧
      (if pf.state == .paramName || pf.state == .possibleParamName then { pf with pend := e } else pf).v = pf.v ∧
      (if pf.state == .paramName || pf.state == .possibleParamName then { pf with pend := e } else pf).params = pf.params := by
    split
    · obtain ⟨h1, h2, h3, h4, h5, h6, h7, h8, h9, h10⟩ := hI
      exact ⟨by refine ⟨?_, ?_, ?_, ?_, ?_, ?_, ?_, ?_, ?_, ?_⟩ <;> na_fld, rfl, rfl⟩
    · exact ⟨hI, rfl, rfl⟩
  simp only
  generalize (if pf.state == .paramName || pf.state == .possibleParamName then { pf with pend := e } else pf) = pf1 at h1 ⊢
  obtain ⟨h1, h1v, h1p⟩ := h1
  have h2 : NaCore b i (if pf1.pstart < pf1.pend then setFromParamVal b pf1 else pf1) ∧
      (if pf1.pstart < pf1.pend then setFromParamVal b pf1 else pf1).v = pf.v ∧
      (if pf1.pstart < pf1.pend then setFromParamVal b pf1 else pf1).params = pf.params := by
    split
    · have := setFromParamVal_vp b pf1
      exact ⟨setFromParamVal_safe b i pf1 h1, by rw [this.1, h1v], by rw [this.2, h1p]⟩
    · exact ⟨h1, h1v, h1p⟩
  generalize (if pf1.pstart < pf1.pend then setFromParamVal b pf1 else pf1) = pf2 at h2 ⊢
  obtain ⟨h2, h2v, h2p⟩ := h2
  split
  · exact (h2.out.extParams e he (by rw [h2p]; exact hp)).extV e he (by rw [PFromBody.extParams_v, h2v]; exact hv)
  · exact h2.out.extV e he (by rw [h2v]; exact hv)

theorem naEOHVal_out (b : Buf) (pf : PFromBody) (i e : Nat) (hI : NaCore b i pf) (he : e ≤ i)
    (hv : pf.v.offs ≤ e) (hp : pf.params.offs ≤ e) : NaOut b i (naEOHVal b pf e) := by
  unfold naEOHVal
  have sfp := setFromParamVal_vp b { pf with vend := e }
  have hc : NaCore b i { pf with vend := e } := by
    obtain ⟨h1, h2, h3, h4, h5, h6, h7, h8, h9, h10⟩ := hI
    refine ⟨?_, ?_, ?_, ?_, ?_, ?_, ?_, ?_, ?_, ?_⟩ <;> na_fld
  exact ((setFromParamVal_safe b i _ hc).out.extParams e he (by rw [sfp.2]; exact hp)).extV e he
    (by rw [PFromBody.extParams_v, sfp.1]; exact hv)

/-- the object the end-of-header code closes (`NaEoh`), run with the value end `e`: every field ends at or before the
    current position `i` -/
theorem NaEoh.out {b : Buf} {pf q : PFromBody} {i e : Nat} (t : NaEoh b pf e (some q)) (hI : NaCore b i pf) (he : e ≤ i)
    (hv : pf.v.offs ≤ e) (hp : pf.params.offs ≤ e) (hs : pf.state = .nameOrURI → pf.s ≤ e) : NaOut b i q := by
  have sfp := setFromParamVal_vp b pf
  cases t with
  | found => exact hI.out
  | nameOrURI hg => exact (hI.out.setURI pf.s e (hs hg) he).extV e he hv
  | paramName => exact naEOHParamName_out b pf i e hI he hv hp
  | valEnd =>
    exact ((setFromParamVal_safe b i pf hI).out.extParams e he (by rw [sfp.2]; exact hp)).extV e he
      (by rw [PFromBody.extParams_v, sfp.1]; exact hv)
  | newVal =>
    refine naEOHVal_out b _ i e ?_ he hv hp
    obtain ⟨h1, h2, h3, h4, h5, h6, h7, h8, h9, h10⟩ := hI
    refine ⟨?_, ?_, ?_, ?_, ?_, ?_, ?_, ?_, ?_, ?_⟩ <;> na_fld
  | val => exact naEOHVal_out b pf i e hI he hv hp
  | star => exact ⟨hI.out.ho, hI.out.name, hI.out.v, hI.out.tag, hI.out.params, hI.out.v, hI.out.pnc⟩

/-- the object `endOfHdr` returns, at the current position `i` (wherever the line end lies) -/
theorem naEOH_out_at (h : Nat) (b : Buf) (pf : PFromBody) (i e n crl : Nat) (r : Err) (hI : NaCore b i pf) (he : e ≤ i)
    (hv : pf.v.offs ≤ e) (hp : pf.params.offs ≤ e) (hs : pf.state = .nameOrURI → pf.s ≤ e) :
    NaOut b i (naEOH h b pf e n crl r).2.2 := by
  rcases naEOH_tr h b pf e n crl r with ⟨q, t, hq⟩ | hq <;> rw [hq]
  · cases q with
    | none => exact hI.out
    | some q =>
      have := t.out hI he hv hp hs
      exact ⟨this.ho, this.name, this.uri, this.tag, this.params, this.v, this.pnc⟩
  · exact hI.out

theorem naEOH_out (h : Nat) (b : Buf) (pf : PFromBody) (i e n crl : Nat) (r : Err) (hI : NaCore b i pf) (he : e ≤ i)
    (hv : pf.v.offs ≤ e) (hp : pf.params.offs ≤ e) (hs : pf.state = .nameOrURI → pf.s ≤ e)
    (hin : i ≤ n + crl) (hn : n + crl ≤ b.size) :
    NaOut b (naEOH h b pf e n crl r).1 (naEOH h b pf e n crl r).2.2 := by
  rw [naEOH_fst]; exact (naEOH_out_at h b pf i e n crl r hI he hv hp hs).mono hin hn

/-- what holds of a step that finishes at position `i`: the returned object is sane at the returned offset — after a
    complete value already at `i` —, and after MoreBytes it satisfies the loop invariant there (so the next call starts
    from a legitimate object) -/
structure NaDone (b : Buf) (i o : Nat) (e : Err) (st' : PFromBody) : Prop where
  out : NaOut b o st'
  here : Err.complete e → NaOut b i st'
  more : e = .moreBytes → NaSafe b o st' ∧ st'.soffs = st'.s

/-- The invariants do not mention `soffs`, and `s` only through the component `s`: an object that differs from `pf` in
    these two fields only (`saveS`, the normalised object of `NaEntry`) satisfies them by the same components, which
    is why such proofs re-assemble the record.  The re-assembly in `naEOH_out_at` is of another kind: there the object
    is a projection of a result, and with the components given each field reduces on its own instead of the whole
    record being compared (see `PField.extend_offs`). -/
theorem NaSafe.saveS {b : Buf} {i : Nat} {pf : PFromBody} (h : NaSafe b i pf) : NaSafe b i pf.saveS :=
  ⟨⟨h.hi, h.pend, h.vend, h.s, h.name, h.uri, h.tag, h.params, h.v, h.pnc⟩, h.endP, h.endV⟩

theorem NaDone.err {b : Buf} {i o : Nat} {e : Err} {pf : PFromBody} (h : NaSafe b o pf) (he : e ≠ .moreBytes)
    (hc : e ≠ .ok ∧ e ≠ .moreValues) : NaDone b i o e pf :=
  ⟨h.out, fun hh => hh.elim (fun g => absurd g hc.1) fun g => absurd g hc.2, fun hh => absurd hh he⟩

theorem naEOH_done (h : Nat) (b : Buf) (pf : PFromBody) (i e n crl : Nat) (r : Err) (hr : r ≠ .moreBytes)
    (hI : NaCore b i pf) (he : e ≤ i) (hv : pf.v.offs ≤ e) (hp : pf.params.offs ≤ e)
    (hs : pf.state = .nameOrURI → pf.s ≤ e) (hin : i ≤ n + crl) (hn : n + crl ≤ b.size) :
    NaDone b i (naEOH h b pf e n crl r).1 (naEOH h b pf e n crl r).2.1 (naEOH h b pf e n crl r).2.2 :=
  ⟨naEOH_out h b pf i e n crl r hI he hv hp hs hin hn, fun _ => naEOH_out_at h b pf i e n crl r hI he hv hp hs,
    fun hh => absurd hh (naEOH_ne_more h b pf e n crl r hr)⟩

/-- the exits of a white-space site; `pe` is the object that reaches the end of the header, `pm` the one saved
    when the white space is not yet complete -/
theorem NaLws.done {h : Nat} {b : Buf} {i : Nat} {om : Nat → Nat} {pm : PFromBody} {pk : Nat → PFromBody}
    {pe : PFromBody} {o : Nat} {e : Err} {st' : PFromBody} (t : NaLws h b i om pm pk pe (.done o e st'))
    (hE : NaSafe b i pe) (hM : ∀ n, i ≤ n → n ≤ b.size → NaSafe b (om n) pm) : NaDone b i o e st' := by
  cases t
  case eoh n crl hk =>
    have hr := skipLWS_range b i 0 hk
    have hrg := skipLWS_eoh_range b i 0 hk (by decide)
    exact naEOH_done h b pe i i n crl .ok (by decide) hE.toNaCore (Nat.le_refl _) hE.toNaCore.voffs hE.params.1
      (fun _ => hE.s) (by omega) (by omega)
  case more n crl hk =>
    have hr := skipLWS_range b i 0 hk
    have := (hM n hr.1 (hr.2 hE.hi)).saveS
    exact ⟨this.out, (fun hh => by rcases hh with hh | hh <;> cases hh), fun _ => ⟨this, rfl⟩⟩

theorem NaTr.done {h : Nat} {b : Buf} {i : Nat} {c : UInt8} {pf : PFromBody} (hb : b[i]? = some c)
    (hI : NaSafe b i pf) {o : Nat} {e : Err} {st' : PFromBody} (t : NaTr h b i c pf (.done o e st')) :
    NaDone b i o e st' := by
  have hlt := get?_lt hb
  cases t
  case a_lwsURI hg hl t =>
    exact t.done hI.lwsURI fun n h1 h2 => hI.lwsURI.mono h1 h2
  case a_lws hg hl t | q_lws hg hl t | uf_lws hg hl t => all_goals exact t.done hI fun n h1 h2 => hI.mono h1 h2
  case p_lws hg hl t => exact t.done (naNameWS_safe b i i pf hI (Nat.le_refl _) hI.hi) fun _ _ _ => hI
  case v_lws hg hl t => exact t.done (naValWS_safe b i i pf false hI (Nat.le_refl _) hI.hi) fun _ _ _ => hI
  case comma hg hc hm =>
    exact naEOH_done h b pf i i i 1 .moreValues (by decide) hI.toNaCore (Nat.le_refl _) hI.toNaCore.voffs hI.params.1
      (fun _ => hI.s) (by omega) (by omega)
  case commaWS ev hg hc hm =>
    rcases hg with ⟨hg, rfl⟩ | ⟨hg, rfl⟩
    · have hE := hI.endP hg
      exact naEOH_done h b pf i pf.pend i 1 .moreValues (by decide) hI.toNaCore hI.pend hE.1 hE.2
        (fun hh => by rcases hg with g | g <;> rw [g] at hh <;> cases hh) (by omega) (by omega)
    · have hE := hI.endV hg
      exact naEOH_done h b pf i pf.vend i 1 .moreValues (by decide) hI.toNaCore hI.vend hE.1 hE.2
        (fun hh => by rcases hg with g | g <;> rw [g] at hh <;> cases hh) (by omega) (by omega)
  case q_escCRLF c1 hg hc h1 hl1 => exact NaDone.err (hI.mono (Nat.le_succ i) hlt) (by decide) (by decide)
  case q_escMore hg hc h1 =>
    exact ⟨hI.saveS.out, (fun hh => by rcases hh with hh | hh <;> cases hh), fun _ => ⟨hI.saveS, rfl⟩⟩
  all_goals exact NaDone.err hI (by decide) (by decide)

theorem naStep_done (h : Nat) (b : Buf) (i : Nat) (c : UInt8) (pf : PFromBody) (hb : b[i]? = some c)
    (hI : NaSafe b i pf) {o : Nat} {e : Err} {st' : PFromBody} (hs : naStep h b i c pf = .done o e st') :
    NaDone b i o e st' := by
  have t := naStep_tr h b i c pf
  rw [hs] at t
  exact t.done hb hI

/-- what a caller may pass: a finished object whose fields lie before the offset, or an object (new, or returned
    with MoreBytes by an earlier call) that satisfies the loop invariant once the saved restart offset is loaded -/
def NaEntry (b : Buf) (o : Nat) (pf : PFromBody) : Prop :=
  (pf.state = .fin ∧ NaOut b o pf) ∨ (pf.state ≠ .fin ∧ NaSafe b o { pf with s := pf.soffs, soffs := 0 })

theorem NaEntry.mono {b : Buf} {o o' : Nat} {pf : PFromBody} (h : NaEntry b o pf) (h1 : o ≤ o') (h2 : o' ≤ b.size) :
    NaEntry b o' pf := by
  rcases h with h | h
  · exact Or.inl ⟨h.1, h.2.mono h1 h2⟩
  · exact Or.inr ⟨h.1, h.2.mono h1 h2⟩

theorem NaEntry.naOut {b : Buf} {o : Nat} {pf : PFromBody} (h : NaEntry b o pf) : NaOut b o pf := by
  rcases h with h | h
  · exact h.2
  · have := h.2.out
    exact ⟨this.ho, this.name, this.uri, this.tag, this.params, this.v, this.pnc⟩

theorem NaEntry.naOK {b : Buf} {o : Nat} {pf : PFromBody} (h : NaEntry b o pf) : naOK b o pf := by
  rcases h with h | h
  · exact Or.inl h.1
  · exact Or.inr ⟨h.2.hi, h.2.pend, h.2.vend⟩

theorem NaEntry_new (b : Buf) (o : Nat) (ho : o ≤ b.size) : NaEntry b o {} := by
  right
  refine ⟨by decide, ⟨⟨ho, Nat.zero_le _, Nat.zero_le _, Nat.zero_le _, ?_, ?_, ?_, ⟨Nat.zero_le _, rfl⟩, ?_, rfl⟩, ?_, ?_⟩⟩
  all_goals first
    | (unfold PField.inside; simp)
    | (intro hh; rcases hh with hh | hh <;> cases hh)

/-- **ParseNameAddrPVal never panics; every field it reports can be sliced out of the buffer; after MoreBytes the
    object is again a legitimate argument** (any header kind, any buffer, any offset inside it) -/
theorem parseNameAddrPVal_safe (h : Nat) (b : Buf) (o : Nat) (pf : PFromBody) (hE : NaEntry b o pf)
    {o' : Nat} {e : Err} {pf' : PFromBody} (hr : parseNameAddrPVal h b o pf = (o', e, pf')) :
    NaOut b o' pf' ∧ (e = .moreBytes → NaEntry b o' pf') := by
  by_cases hf : pf.state = .fin
  · unfold parseNameAddrPVal at hr
    rw [if_pos hf] at hr
    cases hr
    exact ⟨(hE.resolve_right fun a => a.1 hf).2, fun hh => by cases hh⟩
  · have hS := (hE.resolve_left fun a => hf a.1).2
    obtain ⟨p1, hrl, rfl⟩ := parseNameAddrPVal_run hf hr
    have key := na_runLoop_tr h b (NaSafe b) (fun r => NaOut b r.1 r.2.2 ∧ (r.2.1 = .moreBytes → NaSafe b r.1 r.2.2))
      (fun i c st i' st' hb _ hP t => t.safe hb hP)
      (fun i c st o1 e1 st1 hb hP t => ⟨(t.done hb hP).out, fun hm => ((t.done hb hP).more hm).1⟩)
      (fun i st hP => ⟨hP.saveS.out, fun _ => hP.saveS⟩) o _ hS
    rw [hrl] at key
    simp only at key
    have hout : NaOut b o' (naExit pf.soffs e p1) := by
      unfold naExit
      split <;> exact ⟨key.1.ho, key.1.name, key.1.uri, key.1.tag, key.1.params, key.1.v, key.1.pnc⟩
    refine ⟨hout, fun hm => ?_⟩
    subst hm
    have hS1 := key.2 rfl
    have hI2 : naInv2 b o { pf with s := pf.soffs, soffs := 0 } := ⟨⟨hS.hi, hS.pend, hS.vend⟩, rfl⟩
    have hm := (na_more h b o _ hI2 hf hrl).2
    right
    refine ⟨hm.2.1, ?_⟩
    show NaSafe b o' { naExit pf.soffs Err.moreBytes p1 with s := (naExit pf.soffs Err.moreBytes p1).soffs, soffs := 0 }
    have : ({ naExit pf.soffs Err.moreBytes p1 with s := (naExit pf.soffs Err.moreBytes p1).soffs, soffs := 0 } : PFromBody) =
        { p1 with soffs := 0 } := by
      show ({ p1 with s := p1.soffs, soffs := 0 } : PFromBody) = { p1 with soffs := 0 }
      rw [hm.2.2]
    rw [this]
    exact ⟨⟨hS1.hi, hS1.pend, hS1.vend, hS1.s, hS1.name, hS1.uri, hS1.tag, hS1.params, hS1.v, hS1.pnc⟩, hS1.endP, hS1.endV⟩

/-! ### the invariants mention the buffer only through its length -/

theorem NaOut.grow {b b' : Buf} {o : Nat} {pf : PFromBody} (h : NaOut b o pf) (hs : b.size ≤ b'.size) : NaOut b' o pf :=
  ⟨by have := h.ho; omega, h.name, h.uri, h.tag, h.params, h.v, h.pnc⟩

theorem NaSafe.grow {b b' : Buf} {o : Nat} {pf : PFromBody} (h : NaSafe b o pf) (hs : b.size ≤ b'.size) :
    NaSafe b' o pf :=
  ⟨⟨by have := h.hi; omega, h.pend, h.vend, h.s, h.name, h.uri, h.tag, h.params, h.v, h.pnc⟩, h.endP, h.endV⟩

theorem NaEntry.grow {b b' : Buf} {o : Nat} {pf : PFromBody} (h : NaEntry b o pf) (hs : b.size ≤ b'.size) :
    NaEntry b' o pf := by
  rcases h with h | h
  · exact Or.inl ⟨h.1, h.2.grow hs⟩
  · exact Or.inr ⟨h.1, h.2.grow hs⟩

end Sipsp
