/-
  Sipsp.Proofs.SafeNALo — a lower bound for the value field of a name-addr object: once the parser has left the
  initial state, the value starts at or after the offset at which the parse of this value began.
-/
import Sipsp.Proofs.NameAddrPost
import Sipsp.Proofs.NameAddrL2

namespace Sipsp

def VLo (lo : Nat) (pf : PFromBody) : Prop := pf.state = .init ∨ lo ≤ pf.v.offs

/-- closes `VLo lo X` for an updated object `X`, given `hI : VLo lo pf`, `hlo : lo ≤ i`, `hfit : i < 65536` -/
macro "vlo_tac" hI:ident : tactic =>
  `(tactic| (have hm : ∀ x : Nat, x < 65536 → x % 65536 = x := fun x hx => Nat.mod_eq_of_lt hx
             unfold VLo at *
             simp only [PFromBody.setURI, PFromBody.setName, PFromBody.setV, PFromBody.extV, PFromBody.extParams,
               PFromBody.resetUPT, PFromBody.saveS, PField.set, PField.extend, trunc16, setFromParamVal_v,
               setFromParamVal_state] at *
             rcases $hI:ident with hh | hh
             · first
                 | (left; exact hh)
                 | (exfalso; simp_all; done)
                 | (right; rw [hm _ (by omega)]; omega)
                 | (right; omega)
             · first
                 | (right; exact hh)
                 | (right; rw [hm _ (by omega)]; omega)
                 | (right; omega)))

theorem VLo.of_eq {lo : Nat} {pf q : PFromBody} (h : VLo lo pf) (hni : pf.state ≠ .init)
    (hq : q.v.offs = pf.v.offs) : VLo lo q := Or.inr (hq ▸ h.resolve_left hni)

theorem VLo.saveS {lo : Nat} {pf : PFromBody} (h : VLo lo pf) : VLo lo pf.saveS := h

theorem naParam_v (pf : PFromBody) (i : Nat) : (naParamsOffs (naParamStart pf i) i).v = pf.v := by
  unfold naParamsOffs naParamStart; repeat' split
  all_goals rfl

theorem naEOHParamName_voffs (b : Buf) (pf : PFromBody) (e : Nat) : (naEOHParamName b pf e).v.offs = pf.v.offs := by
  unfold naEOHParamName
  simp only [PFromBody.extV_voffs, apply_ite PFromBody.v, PFromBody.extParams_v, setFromParamVal_v, ite_self]

theorem naEOHVal_voffs (b : Buf) (pf : PFromBody) (e : Nat) : (naEOHVal b pf e).v.offs = pf.v.offs := by
  unfold naEOHVal; rw [PFromBody.extV_voffs, PFromBody.extParams_v, setFromParamVal_v]

theorem naNameWS_ni (pf : PFromBody) (i : Nat) (hni : pf.state ≠ .init) : (naNameWS pf i).state ≠ .init := by
  unfold naNameWS; repeat' split
  all_goals first | exact hni | nofun

theorem naValWS_ni (pf : PFromBody) (i n : Nat) (ok : Bool) (hni : pf.state ≠ .init) :
    (naValWS pf i n ok).state ≠ .init := by
  unfold naValWS; repeat' split
  all_goals first | exact hni | nofun

theorem naParam_ni (pf : PFromBody) (i : Nat) (hni : pf.state ≠ .init) :
    (naParamsOffs (naParamStart pf i) i).state ≠ .init := by
  unfold naParamsOffs naParamStart; repeat' split
  all_goals first | exact hni | nofun

theorem NaTr.cont_voffs {h : Nat} {b : Buf} {i : Nat} {c : UInt8} {pf : PFromBody} {i' : Nat} {st' : PFromBody}
    (tr : NaTr h b i c pf (.cont i' st')) (hni : pf.state ≠ .init) :
    st'.state ≠ .init ∧ st'.v.offs = pf.v.offs := by
  cases tr
  case lt_init hg _ | quote_init hg _ | star_init hg _ | tok_init hg _ _ => all_goals exact absurd hg hni
  case a_lwsURI _ _ t => obtain ⟨_, rfl⟩ := t.of_cont; exact ⟨nofun, PFromBody.extV_voffs _ _⟩
  case a_lws _ _ t | q_lws _ _ t | uf_lws _ _ t => all_goals (obtain ⟨_, rfl⟩ := t.of_cont; exact ⟨hni, rfl⟩)
  case p_lws _ _ t => obtain ⟨_, rfl⟩ := t.of_cont; exact ⟨naNameWS_ni pf i hni, by rw [naNameWS_frame]⟩
  case v_lws _ _ t => obtain ⟨_, rfl⟩ := t.of_cont; exact ⟨naValWS_ni pf i _ true hni, by rw [naValWS_frame]⟩
  case p_tok => exact ⟨naParam_ni pf i hni, by rw [naParam_v]⟩
  case p_semi | p_semiP | pe_semi | pe_semiP | v_semi | v_semiP | ve_semi | ve_semiP =>
    all_goals exact ⟨by rw [setFromParamVal_state]; nofun, by rw [setFromParamVal_v]⟩
  case semi_uri | u_close => all_goals exact ⟨nofun, PFromBody.extV_voffs _ _⟩
  all_goals exact ⟨by first | exact hni | nofun, rfl⟩

set_option tactic.hygienic false in
/-- **the lower bound is preserved by every continuing step** (positions within the 16-bit range): a step out of
    the initial state sets the start of the value to the current position, every other step keeps it -/
theorem NaTr.vlo {h : Nat} {b : Buf} {i lo : Nat} {c : UInt8} {pf : PFromBody} (hlo : lo ≤ i) (hfit : i < 65536)
    (hI : VLo lo pf) {i' : Nat} {st' : PFromBody} (tr : NaTr h b i c pf (.cont i' st')) : VLo lo st' := by
  by_cases h0 : pf.state = .init
  case neg => exact hI.of_eq h0 (tr.cont_voffs h0).2
  have hm : lo ≤ trunc16 i := by rw [trunc16_of_lt hfit]; exact hlo
  cases tr
  case lt_init | quote_init | star_init | tok_init => all_goals exact Or.inr hm
  case a_lws => obtain ⟨-, rfl⟩ := t.of_cont; exact hI
  case comma1 => exact hI
  -- no other transition leaves the initial state
  all_goals (exfalso; revert hg; rw [h0]; decide)

theorem NaEoh.voffs {b : Buf} {pf : PFromBody} {i : Nat} {q : PFromBody} (t : NaEoh b pf i (some q)) :
    q.v.offs = pf.v.offs ∧ pf.state ≠ .init := by
  cases t
  case found hg => exact ⟨rfl, fun h0 => absurd hg (by rw [h0]; decide)⟩
  case nameOrURI hg => exact ⟨PFromBody.extV_voffs _ i, by rw [hg]; decide⟩
  case paramName hg => exact ⟨naEOHParamName_voffs b pf i, fun h0 => absurd hg (by rw [h0]; decide)⟩
  case valEnd hg =>
    exact ⟨by rw [PFromBody.extV_voffs, PFromBody.extParams_v, setFromParamVal_v],
      fun h0 => absurd hg (by rw [h0]; decide)⟩
  case newVal hg => exact ⟨naEOHVal_voffs b _ i, fun h0 => absurd hg (by rw [h0]; decide)⟩
  case val hg => exact ⟨naEOHVal_voffs b pf i, fun h0 => absurd hg (by rw [h0]; decide)⟩
  case star hg => exact ⟨rfl, by rw [hg]; decide⟩

theorem naEohRes_v (h : Nat) (pf : PFromBody) (n crl : Nat) (r : Err) (q : PFromBody) :
    (naEohRes h pf n crl r (some q)).2.2.v = q.v := rfl

def VDone (lo : Nat) (e : Err) (st' : PFromBody) : Prop :=
  (Err.complete e → lo ≤ st'.v.offs) ∧ (e = .moreBytes → VLo lo st')

theorem VDone.err {lo : Nat} {e : Err} {st' : PFromBody} (h1 : e ≠ .ok) (h2 : e ≠ .moreValues) (h3 : e ≠ .moreBytes) :
    VDone lo e st' :=
  ⟨(fun hc => by rcases hc with hc | hc; exact absurd hc h1; exact absurd hc h2), fun hh => absurd hh h3⟩

theorem VDone.more {lo : Nat} {st' : PFromBody} (h : VLo lo st') : VDone lo .moreBytes st' :=
  ⟨(fun hc => by rcases hc with hc | hc <;> cases hc), fun _ => h⟩

theorem naEOH_vdone (h : Nat) (b : Buf) (lo : Nat) (pf : PFromBody) (e n crl : Nat) (r : Err) (hr : r ≠ .moreBytes)
    (hI : VLo lo pf) : VDone lo (naEOH h b pf e n crl r).2.1 (naEOH h b pf e n crl r).2.2 := by
  refine ⟨fun hc => ?_, fun hh => absurd hh (naEOH_ne_more h b pf e n crl r hr)⟩
  rcases naEOH_tr h b pf e n crl r with ⟨q, t, hq⟩ | hq <;> rw [hq] at hc ⊢
  · cases q with
    | none => rcases hc with hc | hc <;> cases hc
    | some q => rw [naEohRes_v, t.voffs.1]; exact hI.resolve_left t.voffs.2
  · rcases hc with hc | hc <;> cases hc

theorem NaLws.vdone {h : Nat} {b : Buf} {i lo : Nat} {om : Nat → Nat} {pm : PFromBody} {pk : Nat → PFromBody}
    {pe : PFromBody} {o : Nat} {e : Err} {st' : PFromBody} (t : NaLws h b i om pm pk pe (.done o e st'))
    (hE : VLo lo pe) (hM : VLo lo pm) : VDone lo e st' := by
  cases t
  case eoh n crl hk => exact naEOH_vdone h b lo pe i n crl .ok (by decide) hE
  case more => exact VDone.more hM.saveS

theorem NaTr.vdone {h : Nat} {b : Buf} {i lo : Nat} {c : UInt8} {pf : PFromBody} (hI : VLo lo pf)
    {o : Nat} {e : Err} {st' : PFromBody} (t : NaTr h b i c pf (.done o e st')) : VDone lo e st' := by
  cases t
  case a_lwsURI hg _ t =>
    have := hI.of_eq (q := { (pf.setURI pf.s i).extV i with state := .nameOrURIEnd }) (by rw [hg]; decide)
      (PFromBody.extV_voffs _ i)
    exact t.vdone this this
  case a_lws _ _ t | q_lws _ _ t | uf_lws _ _ t => all_goals exact t.vdone hI hI
  case p_lws hg _ t =>
    exact t.vdone (hI.of_eq (fun h0 => absurd hg (by rw [h0]; decide)) (by rw [naNameWS_frame])) hI
  case v_lws hg _ t =>
    exact t.vdone (hI.of_eq (fun h0 => absurd hg (by rw [h0]; decide)) (by rw [naValWS_frame])) hI
  case comma => exact naEOH_vdone h b lo pf i i 1 .moreValues (by decide) hI
  case commaWS ev _ _ _ => exact naEOH_vdone h b lo pf ev i 1 .moreValues (by decide) hI
  case q_escMore => exact VDone.more hI.saveS
  all_goals exact VDone.err (by decide) (by decide) (by decide)

/-- **lower bound for ParseNameAddrPVal** (buffers within the 65,535-byte limit): after OK / MoreValues the value
    field starts at or after `lo`, the offset at which the parse of this value began; after MoreBytes the
    bound is carried on -/
theorem parseNameAddrPVal_vlo (h : Nat) (b : Buf) (o lo : Nat) (pf : PFromBody) (hfit : b.size ≤ 65535)
    (hlo : lo ≤ o) (hnf : pf.state ≠ .fin) (hI : VLo lo pf)
    {o' : Nat} {e : Err} {pf' : PFromBody} (hr : parseNameAddrPVal h b o pf = (o', e, pf')) : VDone lo e pf' :=
  parseNameAddrPVal_rule h b o pf hnf (fun i st => lo ≤ i ∧ VLo lo st) (fun _ e st' => VDone lo e st')
    (fun _ _ _ _ _ hq => hq) ⟨hlo, hI⟩
    (fun i c st i' st' hb hlt hP t =>
      ⟨Nat.le_trans hP.1 (Nat.le_of_lt hlt), t.vlo hP.1 (by have := get?_lt hb; omega) hP.2⟩)
    (fun i c st o1 e1 st1 _ hP t => t.vdone hP.2) (fun i st hP => VDone.more hP.2.saveS) hr

end Sipsp
