/-
  Sipsp.Proofs.SafePAIs — ParseAllPAIValues never panics, from SafeContacts: the invariants of an identity list are
  those of the contact list it corresponds to (`toCt` / `toPa` of ValList), in both directions.
-/
import Sipsp.Proofs.SafeContacts
import Sipsp.Proofs.CapacityPAI

namespace Sipsp

structure PaIn (b : Buf) (o : Nat) (c : PPAIs) : Prop where
  lhv : c.lastHVal.inside o
  stored : ∀ k, k < c.n → k < c.vals.size → NaOut b o c.vals[k]!
  lastI : NaOut b o c.last

theorem PaIn.mono {b : Buf} {o o' : Nat} {c : PPAIs} (h : PaIn b o c) (h1 : o ≤ o') (h2 : o' ≤ b.size) : PaIn b o' c :=
  ⟨PField.inside_mono h.lhv h1, fun k a1 a2 => (h.stored k a1 a2).mono h1 h2, h.lastI.mono h1 h2⟩

structure PaSafe (b : Buf) (offs : Nat) (c : PPAIs) : Prop where
  ho : offs ≤ b.size
  cur : NaEntry b offs c.cur
  clean : PaClean c
  lo : ∃ lo, c.lastHVal.inside lo ∧ lo ≤ offs ∧ VLo lo c.cur
  stored : ∀ k, k < c.n → k < c.vals.size → NaFine b c.vals[k]!
  lastF : NaFine b c.last
  pnc : c.pnc = false
  inn : PaIn b offs c

theorem PaSafe.mono {b : Buf} {o o' : Nat} {c : PPAIs} (h : PaSafe b o c) (h1 : o ≤ o') (h2 : o' ≤ b.size) :
    PaSafe b o' c := by
  obtain ⟨lo, a1, a2, a3⟩ := h.lo
  exact ⟨h2, h.cur.mono h1 h2, h.clean, ⟨lo, a1, by omega, a3⟩, h.stored, h.lastF, h.pnc, h.inn.mono h1 h2⟩

structure PaOut (b : Buf) (c : PPAIs) : Prop where
  lhv : c.lastHVal.inside b.size
  stored : ∀ k, k < c.n → k < c.vals.size → NaFine b c.vals[k]!
  lastF : NaFine b c.last
  pnc : c.pnc = false

/-! ### an identity list is sane exactly when the contact list it is the projection of is -/

theorem PaIn.toCt {b : Buf} {o : Nat} {c : PPAIs} (h : PaIn b o c) (ho : o ≤ b.size) : CtIn b o c.toCt :=
  ⟨h.lhv, h.stored, h.lastI, NaOut_new b o ho⟩

theorem CtIn.toPa {b : Buf} {o : Nat} {c : PContacts} (h : CtIn b o c) : PaIn b o c.toPa := ⟨h.lhv, h.stored, h.lastI⟩

theorem PaOut.toCt {b : Buf} {c : PPAIs} (h : PaOut b c) : CtOut b c.toCt :=
  ⟨h.lhv, h.stored, h.lastF, NaFine_new b, h.pnc⟩

theorem CtOut.toPa {b : Buf} {c : PContacts} (h : CtOut b c) : PaOut b c.toPa := ⟨h.lhv, h.stored, h.lastF, h.pnc⟩

theorem PaSafe.toCt {b : Buf} {o : Nat} {c : PPAIs} (h : PaSafe b o c) : CtSafe b o c.toCt :=
  ⟨h.ho, h.cur, h.clean, h.lo, h.stored, h.lastF, NaFine_new b, h.pnc, h.inn.toCt h.ho⟩

theorem CtSafe.toPa {b : Buf} {o : Nat} {c : PContacts} (h : CtSafe b o c) : PaSafe b o c.toPa :=
  ⟨h.ho, h.cur, h.clean, h.lo, h.stored, h.lastF, h.pnc, h.inn.toPa⟩

theorem PaIn.out {b : Buf} {o : Nat} {c : PPAIs} (h : PaIn b o c) (ho : o ≤ b.size) (hp : c.pnc = false) : PaOut b c :=
  ((h.toCt ho).out ho hp).toPa

structure PaIdle (b : Buf) (c : PPAIs) : Prop where
  out : PaOut b c
  clean : PaClean c.wrap
  cur : c.wrap.cur = {}

theorem CtIdle.toPa {b : Buf} {c : PContacts} (h : CtIdle b c) : PaIdle b c.toPa :=
  ⟨h.out.toPa, by rw [← PContacts.toPa_wrap]; exact h.clean, by rw [← PContacts.toPa_wrap]; exact h.cur⟩

theorem PaOut.wrap {b : Buf} {c : PPAIs} (h : PaOut b c) : PaOut b c.wrap := by
  rw [PPAIs.wrap_eq]; exact h.toCt.wrap.toPa

theorem PaIn.wrap {b : Buf} {o : Nat} {c : PPAIs} (h : PaIn b o c) (ho : o ≤ b.size) : PaIn b o c.wrap := by
  rw [PPAIs.wrap_eq]; exact ((h.toCt ho).wrap ho).toPa

theorem PaIdle.start {b : Buf} {c : PPAIs} (h : PaIdle b c) (o : Nat) (ho : o ≤ b.size) (k : Nat)
    (hin : PaIn b o c) : PaSafe b o { c.wrap with hNo := k, lastHVal := {} } := by
  have hw := h.out.wrap
  have hiw := hin.wrap ho
  refine ⟨ho, ?_, h.clean, ⟨o, PField.inside_zero o, Nat.le_refl _, ?_⟩, hw.stored, hw.lastF, hw.pnc,
    ⟨PField.inside_zero o, hiw.stored, hiw.lastI⟩⟩
  · show NaEntry b o c.wrap.cur
    rw [h.cur]; exact NaEntry_new b o ho
  · show VLo o c.wrap.cur
    rw [h.cur]; exact Or.inl rfl

/-- as `CtT` -/
def PaT (b : Buf) (r : Nat × Err × PPAIs) : Prop :=
  PaOut b r.2.2 ∧ (r.2.1 = .moreBytes → PaSafe b r.1 r.2.2) ∧
    (r.2.1 = .ok → PaIdle b r.2.2 ∧ r.1 ≤ b.size ∧ PaIn b r.1 r.2.2) ∧ r.1 ≤ b.size

theorem CtT.toPa {b : Buf} {r : Nat × Err × PContacts} (h : CtT b r) : PaT b (toPaR r) :=
  ⟨h.1.toPa, fun e => (h.2.1 e).toPa, fun e => ⟨(h.2.2.1 e).1.toPa, (h.2.2.1 e).2.1, (h.2.2.1 e).2.2.toPa⟩, h.2.2.2⟩

theorem paisLoop_safe (b : Buf) (offs : Nat) (c : PPAIs) (hfit : b.size ≤ 65535) (h : PaSafe b offs c) :
    PaT b (paisLoop b offs c) := by
  rw [paisLoop_eq_valsLoop]
  exact (valsLoop_safe naOne_pai b offs c.toCt hfit h.toCt).toPa

theorem PaSafe.wrap {b : Buf} {o : Nat} {c : PPAIs} (h : PaSafe b o c) : PaSafe b o c.wrap := by
  rw [PPAIs.wrap_eq]; exact h.toCt.wrap.toPa

/-- **ParseAllPAIValues never panics** (65,535-byte limit), for an object whose normalised form (`wrap`) is
    legitimate: a suspended value list, or (`PaIdle.start`) the object with which a new header line starts -/
theorem parseAllPAIValues_safe_wrap (b : Buf) (o : Nat) (c : PPAIs) (hfit : b.size ≤ 65535) (h : PaSafe b o c.wrap) :
    PaT b (parseAllPAIValues b o c) := by
  rw [parseAllPAIValues_eq_wrap]
  exact paisLoop_safe b o c.wrap hfit h

theorem parseAllPAIValues_safe (b : Buf) (o : Nat) (c : PPAIs) (hfit : b.size ≤ 65535) (h : PaSafe b o c) :
    PaT b (parseAllPAIValues b o c) :=
  parseAllPAIValues_safe_wrap b o c hfit h.wrap

theorem PaIdle_new (b : Buf) : PaIdle b ({} : PPAIs) := by
  have hw : (({} : PPAIs)).wrap = {} := by unfold PPAIs.wrap; simp [PFromBody.parsed]
  refine ⟨⟨PField.inside_zero _, (fun j hj => by cases hj), NaFine_new b, rfl⟩, ?_, ?_⟩
  · rw [hw]
    refine ⟨fun j _ hj => ?_, fun _ => rfl⟩
    have : j < 2 := hj
    have : j = 0 ∨ j = 1 := by omega
    rcases this with rfl | rfl <;> rfl
  · rw [hw]; rfl

theorem PaIn_new (b : Buf) (o : Nat) (ho : o ≤ b.size) : PaIn b o ({} : PPAIs) :=
  ⟨PField.inside_zero _, (fun j hj => by cases hj), NaOut_new b o ho⟩

theorem PaSafe.idleOut {b : Buf} {o : Nat} {c : PPAIs} (h : PaSafe b o c) : PaOut b c := by
  obtain ⟨lo, hl1, hl2, _⟩ := h.lo
  have := h.ho
  exact ⟨PField.inside_mono hl1 (by omega), h.stored, h.lastF, h.pnc⟩

end Sipsp
