/-
  Sipsp.Proofs.SafeRest — property C04 (no panic, offsets inside the buffer, dereferenceable fields) for the
  stand-alone functions the message parser does not call.  All theorems are for ALL inputs they quantify over;
  `hfit : b.size ≤ 65535` is the documented size limit (needed wherever a field is read back with `Get`).

  (1) ParseTokenParam — EVERY flag combination (`POptInputEndF`, `POptTokSpTermF` included), every offset inside the
      buffer, every legitimate object (`SrTpIn o p`: the three fields end at or before the offset, no panic recorded;
      new objects are legitimate at every offset): the result satisfies `SrTpT` — offset in `[o, len]`, `pnc = false`,
      the fields inside the buffer, and ending at or before the returned offset unless the call ended on the
      `POptTokSpTermF` exit; in particular the object is again legitimate after MoreBytes / MoreValues.
  (2) ParseAllURIParams / ParseAllURIHdrs — every flag combination, lists of any capacity, new, after Reset or
      suspended (`SrPlIn o l` / `SrHlIn o l`): offset in `[offs, len]`, no panic in the list or in any slot, the fields
      of every slot inside the buffer; after every verdict except OK (so after MoreBytes) the list is legitimate at the
      returned offset.
  (3) the comparison functions never return `none` (= never panic): URIParamsEq / URIHdrsEq on any two buffers within
      the limit; URICmpShort / URICmp on URI objects whose seven fields are readable (`SrUriGet`; every URI accepted
      by ParseURI is one); URIParseCmp on any two raw byte strings within the limit.
  (4) signatures: the IPv6 scanner never indexes outside its 8-word arrays (invariant `SrIp6Inv`: the word index is
      tied to the colon count); GetCallIDSig and GetViaBrSig never panic; GetMsgSig's panic flag is false when Call-ID,
      From tag and the value of every header slot of type Via lie inside `msg.Buf` (`getMsgSig_safe`), which holds
      after a successful ParseSIPMsg call given that the unfilled header slots hold no Via header
      (`getMsgSig_after_parse`).  (`getStrCharsSig`, `getHdrSigId`, `ip4Prefix` are total functions without a panic
      site: nothing to prove.)

  NOT proved here: that ParseSIPMsg leaves the header slots it did not fill zero (hypothesis `hun` of
  `getMsgSig_after_parse`; GetMsgSig ranges over the whole array) — Sipsp.Proofs.SigCompose proves it and drops the
  hypothesis (`sc_getMsgSig_safe`); panic-freedom of URICmp for hand-made URI objects (only `SrUriGet` objects);
  AdjustOffs / Flat / Long / Short (relocation and views are in UriLink / UriSeq); the lookups are total functions.
-/
import Sipsp.Proofs.SafeVals
import Sipsp.Proofs.UriListsL
import Sipsp.Proofs.UriSpec
import Sipsp.Proofs.SigSpec
import Sipsp.Proofs.SafeMsg
import Sipsp.Proofs.IP4
import Sipsp.Proofs.Layout

namespace Sipsp

/-! ### ParseTokenParam -/

/-- the three reported fields of a token-parameter object end at or before `o`; no panic recorded -/
structure SrTpIn (o : Nat) (p : PTokParam) : Prop where
  all : p.all.inside o
  name : p.name.inside o
  val : p.val.inside o
  pnc : p.pnc = false

theorem SrTpIn.mono {o o' : Nat} {p : PTokParam} (h : SrTpIn o p) (hle : o ≤ o') : SrTpIn o' p :=
  ⟨PField.inside_mono h.all hle, PField.inside_mono h.name hle, PField.inside_mono h.val hle, h.pnc⟩

theorem SrTpIn.new (o : Nat) : SrTpIn o {} :=
  ⟨PField.inside_zero o, PField.inside_zero o, PField.inside_zero o, rfl⟩

theorem SrTpIn.st {o : Nat} {p : PTokParam} (h : SrTpIn o p) (x : TPState) : SrTpIn o { p with state := x } :=
  ⟨h.all, h.name, h.val, h.pnc⟩

theorem SrTpIn.en {i e : Nat} {p : PTokParam} (h : SrTpIn i p) (hle : i ≤ e) : SrTpIn e (p.extName e) := by
  have hn : p.name.offs ≤ e := Nat.le_trans (PField.inside_offs h.name) hle
  unfold PTokParam.extName
  exact ⟨PField.inside_mono h.all hle, extend_inside _ _ _ hn (Nat.le_refl _), PField.inside_mono h.val hle,
    by show (p.pnc || p.name.extendPanics e) = false; rw [h.pnc, extendPanics_false _ _ hn]; rfl⟩

theorem SrTpIn.ea {i e : Nat} {p : PTokParam} (h : SrTpIn i p) (hle : i ≤ e) : SrTpIn e (p.extAll e) := by
  have hn : p.all.offs ≤ e := Nat.le_trans (PField.inside_offs h.all) hle
  unfold PTokParam.extAll
  exact ⟨extend_inside _ _ _ hn (Nat.le_refl _), PField.inside_mono h.name hle, PField.inside_mono h.val hle,
    by show (p.pnc || p.all.extendPanics e) = false; rw [h.pnc, extendPanics_false _ _ hn]; rfl⟩

theorem SrTpIn.ev {i e : Nat} {p : PTokParam} (h : SrTpIn i p) (hle : i ≤ e) : SrTpIn e (p.extVal e) := by
  have hn : p.val.offs ≤ e := Nat.le_trans (PField.inside_offs h.val) hle
  unfold PTokParam.extVal
  exact ⟨PField.inside_mono h.all hle, PField.inside_mono h.name hle, extend_inside _ _ _ hn (Nat.le_refl _),
    by show (p.pnc || p.val.extendPanics e) = false; rw [h.pnc, extendPanics_false _ _ hn]; rfl⟩

theorem SrTpIn.sv {i : Nat} {p : PTokParam} (h : SrTpIn i p) : SrTpIn i { p with val := PField.set i i } :=
  ⟨h.all, h.name, set_inside _ _ _ (Nat.le_refl _) (Nat.le_refl _), h.pnc⟩

theorem SrTpIn.sna {i : Nat} {p : PTokParam} (h : SrTpIn i p) (x : TPState) :
    SrTpIn i { p with state := x, name := PField.set i i, all := PField.set i i } :=
  ⟨set_inside _ _ _ (Nat.le_refl _) (Nat.le_refl _), set_inside _ _ _ (Nat.le_refl _) (Nat.le_refl _), h.val, h.pnc⟩

/-- loop invariant of ParseTokenParam (call started at `o0`): the position lies in `[o0, len]`, the reported
    fields end at or before it, no panic so far.  This is also the legitimacy condition for the object passed in:
    new objects satisfy it at every offset, and it holds again at the offset returned with MoreBytes / MoreValues. -/
structure SrTpSafe (b : Buf) (o0 i : Nat) (p : PTokParam) : Prop where
  lo : o0 ≤ i
  hi : i ≤ b.size
  fl : SrTpIn i p

/-- what ParseTokenParam guarantees on return, whatever the verdict: the offset lies in `[o0, len]`, no panic, the
    reported fields lie inside the buffer; unless the call ended on the `POptTokSpTermF` exit (verdict OK, the
    offset may then point at the white space before the next token) the fields even end at or before the offset. -/
structure SrTpT (b : Buf) (flags o0 o : Nat) (e : Err) (p : PTokParam) : Prop where
  lo : o0 ≤ o
  hi : o ≤ b.size
  out : SrTpIn b.size p
  tight : e ≠ .ok ∨ hasFlag flags POptTokSpTermF = false → SrTpIn o p

theorem SrTpT.of_in {b : Buf} {flags o0 o : Nat} {e : Err} {p : PTokParam} (h1 : o0 ≤ o) (h2 : o ≤ b.size)
    (h : SrTpIn o p) : SrTpT b flags o0 o e p := ⟨h1, h2, h.mono h2, fun _ => h⟩

theorem SrTpT.of_safe {b : Buf} {flags o0 o : Nat} {e : Err} {p : PTokParam} (h : SrTpSafe b o0 o p) :
    SrTpT b flags o0 o e p := SrTpT.of_in h.lo h.hi h.fl

theorem srTpEOH_T (b : Buf) (flags o0 : Nat) (p : PTokParam) (n crl : Nat) (h1 : o0 ≤ n + crl)
    (h2 : n + crl ≤ b.size) (h : SrTpIn (n + crl) p) :
    SrTpT b flags o0 (tpEOH p n crl).1 (tpEOH p n crl).2.1 (tpEOH p n crl).2.2 := by
  unfold tpEOH
  split <;> first | exact SrTpT.of_in h1 h2 h | exact SrTpT.of_in h1 h2 (h.st _)

theorem srTpMoreBytes_T (b : Buf) (flags o0 i : Nat) (p : PTokParam) (h : SrTpSafe b o0 i p) :
    SrTpT b flags o0 (tpMoreBytes b flags p i).1 (tpMoreBytes b flags p i).2.1 (tpMoreBytes b flags p i).2.2 := by
  have hlo := h.lo
  have hhi := h.hi
  unfold tpMoreBytes
  split
  · split
    all_goals first
      | exact srTpEOH_T b flags o0 p b.size 0 (by omega) (by omega) (h.fl.mono (by omega))
      | exact srTpEOH_T b flags o0 _ b.size 0 (by omega) (by omega)
          (((h.fl.en (Nat.le_refl _)).ea (Nat.le_refl _)).mono (by omega))
      | exact srTpEOH_T b flags o0 _ b.size 0 (by omega) (by omega)
          (((h.fl.ev (Nat.le_refl _)).ea (Nat.le_refl _)).mono (by omega))
      | exact SrTpT.of_safe h
  · exact SrTpT.of_safe h

/-- the white-space pattern of ParseTokenParam -/
theorem srTpLWS_all (b : Buf) (flags o0 i : Nat) (p : PTokParam) (upd : PTokParam → PTokParam)
    (h : SrTpSafe b o0 i p) (hu : SrTpIn i (upd p)) :
    StepAll2 (SrTpSafe b o0) (SrTpT b flags o0) (tpLWS b flags i p upd) := by
  have hlo := h.lo
  have hhi := h.hi
  unfold tpLWS
  rcases hsk : skipLWS b i flags with ⟨n, crl, e⟩
  have hr := skipLWS_range b i flags hsk
  have hrn := hr.2 hhi
  cases e <;> simp only [stepOfRes]
  case moreBytes => exact srTpMoreBytes_T b flags o0 i p h
  case ok => exact ⟨by omega, hrn, hu.mono hr.1⟩
  case eoh =>
    have he := skipLWS_eoh_le b i flags hsk
    exact srTpEOH_T b flags o0 (upd p) n crl (by omega) he (hu.mono (by omega))
  all_goals exact SrTpT.of_in (by omega) hrn (hu.mono hr.1)

theorem srTpSpTerm_T (b : Buf) (flags o0 i j : Nat) (p : PTokParam) (h : SrTpSafe b o0 i p) (h1 : o0 ≤ j) (h2 : j ≤ i)
    (hsp : hasFlag flags POptTokSpTermF = true) : SrTpT b flags o0 j .ok { p with state := .fin } :=
  ⟨h1, by have := h.hi; omega, (h.fl.mono h.hi).st _,
    fun hh => hh.elim (fun h3 => absurd rfl h3) (fun h3 => by rw [hsp] at h3; cases h3)⟩

theorem SrTpIn.close {i : Nat} {p : PTokParam} (h : SrTpIn i p) : SrTpIn i (p.closeAt i) := by
  unfold PTokParam.closeAt
  split
  · exact (h.en (Nat.le_refl i)).ea (Nat.le_refl i)
  · exact (h.ev (Nat.le_refl i)).ea (Nat.le_refl i)
  · exact h

theorem srTpStep_safe (flags o0 : Nat) (b : Buf) (i : Nat) (c : UInt8) (p : PTokParam) (hb : b[i]? = some c)
    (h : SrTpSafe b o0 i p) : StepAll2 (SrTpSafe b o0) (SrTpT b flags o0) (tpStep flags o0 b i c p) := by
  have hlt := get?_lt hb
  have hlo := h.lo
  have hf := h.fl
  have hii : i ≤ i := Nat.le_refl i
  have his : i ≤ i + 1 := Nat.le_succ i
  -- the two ways an iteration ends without looking further: go on at `i + 1` with `p'`, or stop at `i` with `p'`
  have hC : ∀ p', SrTpIn (i + 1) p' → SrTpSafe b o0 (i + 1) p' := fun p' h' => ⟨by omega, by omega, h'⟩
  have hD : ∀ (e : Err) p', SrTpIn i p' → SrTpT b flags o0 i e p' := fun e p' h' => SrTpT.of_in hlo (by omega) h'
  have hv : SrTpIn i (p.valAt i) := hf.sv.ea hii
  rw [tpStep_eq]
  have hw := tpAct_when flags c p.state
  have hsp := tpAct_sp (flags := flags) (c := c) (s := p.state)
  generalize tpAct flags c p.state = a at hw hsp
  cases a
  case lws => exact srTpLWS_all b flags o0 i p _ h (by rw [tpLwsUpd_eq]; exact hf.close.st _)
  case stay => exact hC _ (hf.mono his)
  case first => exact hC _ ((hf.sna _).mono his)
  case next => exact hD _ _ (hf.st _)
  case eqName => exact hC _ (((hf.en hii).ea his).st _)
  case eqF => exact hC _ ((hf.st _).mono his)
  case sep => exact hC _ ((hf.close.st _).mono his)
  case sepV => exact hC _ ((hv.st _).mono his)
  case quote => exact hC _ ((hv.st _).mono his)
  case startVal => exact hC _ ((hv.st _).mono his)
  case term => exact hD _ _ (hf.close.st _)
  case termV => exact hD _ _ (hf.sv.st _)
  case bad => exact hD _ _ (hf.st _)
  case spEq =>
    have hs := hsp (Or.inl rfl)
    exact .ite_pos (fun hge => srTpSpTerm_T b flags o0 i (i - 1) p h (by omega) (by omega) hs)
      (srTpSpTerm_T b flags o0 i i p h hlo hii hs)
  case spSep =>
    have hi := srTpSpTerm_T b flags o0 i i p h hlo hii (hsp (Or.inr rfl))
    show StepAll2 _ _ (tpSpTermSep b o0 i p)
    unfold tpSpTermSep
    simp only
    refine .ite_pos (fun hge => ?_) hi
    split
    · exact .ite (srTpSpTerm_T b flags o0 i (i - 1) p h (by omega) (by omega) (hsp (Or.inr rfl))) hi
    · exact hi
  case quoted =>
    show StepAll2 _ _ (match skipQuoted b i with
      | (n, .moreBytes) => stepOfRes (tpMoreBytes b flags p n)
      | (n, .ok) => .cont n { (p.extVal n).extAll n with state := .fSep }
      | (n, .eoh) => stepOfRes (tpEOH p n 0)
      | (n, e) => .done n e p)
    rcases hq : skipQuoted b i with ⟨n, e⟩
    have h2 := skipQuoted_range b i (by omega) hq
    cases e <;> simp only [stepOfRes]
    case moreBytes => exact srTpMoreBytes_T b flags o0 n p ⟨by omega, h2.2, hf.mono h2.1⟩
    case ok => exact ⟨by omega, h2.2, ((hf.ev h2.1).ea (Nat.le_refl _)).st _⟩
    case eoh => exact srTpEOH_T b flags o0 p n 0 (by omega) h2.2 (hf.mono h2.1)
    all_goals exact SrTpIn.mono hf h2.1 |> SrTpT.of_in (by omega) h2.2

/-- **ParseTokenParam, every flag combination, every legitimate object, every offset inside the buffer**: the
    returned offset lies in `[o, len]`, no panic is recorded, the fields `all` / `name` / `val` lie inside the buffer
    (and end at or before the returned offset, unless the call ended on the `POptTokSpTermF` exit). -/
theorem parseTokenParam_safe (b : Buf) (o : Nat) (p : PTokParam) (flags : Nat) (ho : o ≤ b.size) (h : SrTpIn o p) :
    SrTpT b flags o (parseTokenParam b o p flags).1 (parseTokenParam b o p flags).2.1
      (parseTokenParam b o p flags).2.2 := by
  unfold parseTokenParam
  split
  · exact SrTpT.of_in (Nat.le_refl _) ho h
  · exact runLoop_safe2 (tpMachine flags o) b (SrTpSafe b o) (SrTpT b flags o) (tp_progress flags o)
      (fun i c st hb hs => srTpStep_safe flags o b i c st hb hs)
      (fun i st hs => srTpMoreBytes_T b flags o i st hs) o p ⟨Nat.le_refl _, ho, h⟩

/-- the same spelled out for a caller: within the documented 65,535-byte limit `Get` on the three fields returns a
    slice; after MoreBytes / MoreValues (in fact after every verdict except OK) the returned object is a legitimate
    argument at the returned offset -/
theorem parseTokenParam_never_panics (b : Buf) (o : Nat) (p : PTokParam) (flags : Nat) (hfit : b.size ≤ 65535)
    (ho : o ≤ b.size) (h : SrTpIn o p) :
    (parseTokenParam b o p flags).2.2.pnc = false ∧
    o ≤ (parseTokenParam b o p flags).1 ∧ (parseTokenParam b o p flags).1 ≤ b.size ∧
    (∃ x, (parseTokenParam b o p flags).2.2.all.get? b = some x) ∧
    (∃ x, (parseTokenParam b o p flags).2.2.name.get? b = some x) ∧
    (∃ x, (parseTokenParam b o p flags).2.2.val.get? b = some x) ∧
    ((parseTokenParam b o p flags).2.1 ≠ .ok →
      SrTpIn (parseTokenParam b o p flags).1 (parseTokenParam b o p flags).2.2) := by
  have hT := parseTokenParam_safe b o p flags ho h
  exact ⟨hT.out.pnc, hT.lo, hT.hi, field_get?_some b _ hT.out.all hfit, field_get?_some b _ hT.out.name hfit,
    field_get?_some b _ hT.out.val hfit, fun hne => hT.tight (Or.inl hne)⟩

/-- non-vacuity: new objects are legitimate at every offset -/
example (o : Nat) : SrTpIn o {} := SrTpIn.new o
/-- test: a parameter with a value, end of input flagged -/
example : (parseTokenParam "a=b;c".toUTF8.toList.toArray 0 {} POptInputEndF).2.1 = .moreValues := by decide +kernel

/-! ### the element loop of the two URI lists -/

/-- what the safety of the element loop needs of a list type: `In o l` — every slot holds a token parameter that is
    legitimate at `o` (and the list recorded no panic) -/
structure SrSlots {L ε : Type} (O : SlotOps L ε) (In : Nat → L → Prop) : Prop where
  mono : ∀ {o o' l}, In o l → o ≤ o' → In o' l
  cur : ∀ {o l}, In o l → SrTpIn o (O.tok (O.cur l))
  setCur : ∀ {o l} {p : ε}, In o l → SrTpIn o (O.tok p) → In o (O.setCur l p)
  next : ∀ {o l} {x : ε}, In o l → SrTpIn o (O.tok x) → In o (O.next l x)
  tok_withTok : ∀ p tp, O.tok (O.withTok p tp) = tp
  tok_zero : O.tok O.zero = {}
  tok_fin : ∀ {b tp x}, O.fin b tp = some x → O.tok x = tp

/-- the element loop, either list: the offset lies in `[offs, len]`, every slot lies inside the buffer, and after every
    verdict except OK the list is a legitimate argument at the returned offset; `hfin`: an element inside the buffer can
    be finished (for the parameters: its name can be read, within the 65,535-byte limit) -/
theorem slotLoop_safe {L ε : Type} {O : SlotOps L ε} {In : Nat → L → Prop} (hS : SrSlots O In) (b : Buf) (flags : Nat)
    (hfin : ∀ tp, SrTpIn b.size tp → O.fin b tp ≠ none) (offs : Nat) (l : L) (vNo : Nat) :
    offs ≤ b.size → In offs l →
      offs ≤ (slotLoop O b offs l flags vNo).1 ∧ (slotLoop O b offs l flags vNo).1 ≤ b.size ∧
      In b.size (slotLoop O b offs l flags vNo).2.2.2 ∧
      ((slotLoop O b offs l flags vNo).2.2.1 ≠ .ok → In (slotLoop O b offs l flags vNo).1 (slotLoop O b offs l flags vNo).2.2.2) := by
  -- one call of ParseTokenParam on the current element
  have tp_of : ∀ {offs l next e tp}, offs ≤ b.size → In offs l →
      parseTokenParam b offs (O.tok (O.cur l)) flags = (next, e, tp) →
      offs ≤ next ∧ next ≤ b.size ∧ SrTpIn b.size tp ∧ (e ≠ .ok → SrTpIn next tp) := fun ho h hp => by
    have hT := parseTokenParam_safe b _ _ flags ho (hS.cur h)
    rw [hp] at hT
    exact ⟨hT.lo, hT.hi, hT.out, fun hne => hT.tight (Or.inl hne)⟩
  refine slotLoop_cases O b flags (fun offs l _ r => offs ≤ b.size → In offs l →
    offs ≤ r.1 ∧ r.1 ≤ b.size ∧ In b.size r.2.2.2 ∧ (r.2.2.1 ≠ .ok → In r.1 r.2.2.2)) ?_ ?_ ?_ ?_ ?_ ?_ offs l vNo
  · intro offs l _ next tp hp ho h
    obtain ⟨hlo, hhi, _, ht⟩ := tp_of ho h hp
    have := hS.setCur (p := O.withTok (O.cur l) tp) (hS.mono h hlo) (by rw [hS.tok_withTok]; exact ht (by decide))
    exact ⟨hlo, hhi, hS.mono this hhi, fun _ => this⟩
  · intro offs l _ next e tp hp _ _ ho h
    obtain ⟨hlo, hhi, _, _⟩ := tp_of ho h hp
    have := hS.setCur (p := O.zero) (hS.mono h hlo) (by rw [hS.tok_zero]; exact SrTpIn.new next)
    exact ⟨hlo, hhi, hS.mono this hhi, fun _ => this⟩
  · intro offs l _ next e tp hp _ hg ho h
    exact absurd hg (hfin tp (tp_of ho h hp).2.2.1)
  · intro offs l _ next e tp x hp he hg ho h
    obtain ⟨hlo, hhi, hout, ht⟩ := tp_of ho h hp
    exact ⟨hlo, hhi, hS.next (hS.mono h ho) (by rw [hS.tok_fin hg]; exact hout),
      fun hne => hS.next (hS.mono h hlo) (by rw [hS.tok_fin hg]; exact ht hne)⟩
  · intro offs l _ next tp x hp hg _ ho h
    obtain ⟨hlo, hhi, _, ht⟩ := tp_of ho h hp
    have := hS.next (x := x) (hS.mono h hlo) (by rw [hS.tok_fin hg]; exact ht (by decide))
    exact ⟨hlo, hhi, hS.mono this hhi, fun _ => this⟩
  · intro offs l _ next tp x r hp hg _ ih ho h
    obtain ⟨hlo, hhi, _, ht⟩ := tp_of ho h hp
    have := ih hhi (hS.next (hS.mono h hlo) (by rw [hS.tok_fin hg]; exact ht (by decide)))
    exact ⟨Nat.le_trans hlo this.1, this.2⟩

/-- `Reset()` zeroes the slots up to `n`: a property of the zero element and of the slots above `n` holds of all -/
theorem clearUpToP_all {α : Type} [Inhabited α] (P : α → Prop) (a : Array α) (z : α) (n : Nat) (hz : P z)
    (ha : ∀ k, n < k → k < a.size → P a[k]!) : ∀ k, k < (clearUpToP a z n).size → P (clearUpToP a z n)[k]! := by
  intro k hk
  rw [clearUpToP_size] at hk
  rw [clearUpToP_get _ _ _ _ hk]
  split
  · exact hz
  · exact ha k (by omega) hk

/-! ### ParseAllURIParams -/

/-- every element slot of a URI-parameter list (used or not) and its scratch element hold token parameters whose
    fields end at or before `o` and that recorded no panic; the list recorded no panic.  New lists of any capacity
    satisfy it at every offset; `Reset()` keeps it. -/
structure SrPlIn (o : Nat) (l : URIParamsLst) : Prop where
  pnc : l.pnc = false
  arr : ∀ k, k < l.params.size → SrTpIn o l.params[k]!.param
  tmp : SrTpIn o l.tmp.param

theorem srPlIn_iff {o : Nat} {l : URIParamsLst} :
    SrPlIn o l ↔ l.pnc = false ∧ SlotArr.All (fun p : URIParam => SrTpIn o p.param) l.slots :=
  ⟨fun h => ⟨h.pnc, h.arr, h.tmp⟩, fun h => ⟨h.1, h.2.1, h.2.2⟩⟩

theorem SrPlIn.mono {o o' : Nat} {l : URIParamsLst} (h : SrPlIn o l) (hle : o ≤ o') : SrPlIn o' l :=
  ⟨h.pnc, fun k hk => (h.arr k hk).mono hle, h.tmp.mono hle⟩

theorem SrPlIn.cur {o : Nat} {l : URIParamsLst} (h : SrPlIn o l) : SrTpIn o l.cur.param :=
  (srPlIn_iff.1 h).2.cur

theorem SrPlIn.setCur {o : Nat} {l : URIParamsLst} (h : SrPlIn o l) (p : URIParam) (hp : SrTpIn o p.param) :
    SrPlIn o (l.setCur p) :=
  srPlIn_iff.2 ⟨by rw [pSetCur_pnc]; exact h.pnc, by rw [pSlots_setCur]; exact (srPlIn_iff.1 h).2.setCur hp⟩

theorem SrPlIn.next {o : Nat} {l : URIParamsLst} (h : SrPlIn o l) (tp : PTokParam) (t : Nat) (hp : SrTpIn o tp) :
    SrPlIn o (l.next tp t) :=
  srPlIn_iff.2 ⟨by rw [pNext_pnc]; exact h.pnc,
    by rw [pSlots_next]; exact (srPlIn_iff.1 h).2.push (x := { param := tp, t := t }) hp (SrTpIn.new o)⟩

theorem SrPlIn.setPnc {o : Nat} {l : URIParamsLst} (h : SrPlIn o l) : SrPlIn o { l with pnc := false } :=
  ⟨rfl, h.arr, h.tmp⟩

theorem srPlIn_new (o k : Nat) : SrPlIn o ({ params := Array.replicate k {} } : URIParamsLst) :=
  srPlIn_iff.2 ⟨rfl, SlotArr.all_replicate (P := fun p : URIParam => SrTpIn o p.param) (SrTpIn.new o) k 0⟩

/-- `Reset()` keeps the condition (used slots are zeroed, the others are untouched) -/
theorem SrPlIn.reset {o : Nat} {l : URIParamsLst} (h : SrPlIn o l) : SrPlIn o l.reset :=
  ⟨rfl, clearUpToP_all (fun p : URIParam => SrTpIn o p.param) l.params {} l.n (SrTpIn.new o) (fun k _ hk => h.arr k hk), SrTpIn.new o⟩

/-- `Reset()` of a clean list (unused slots zero, whatever the used slots hold, e.g. fields of another buffer)
    satisfies the condition at every offset -/
theorem srPlIn_reset_clean (o : Nat) {l : URIParamsLst} (h : plClean l) : SrPlIn o l.reset :=
  ⟨rfl, clearUpToP_all (fun p : URIParam => SrTpIn o p.param) l.params {} l.n (SrTpIn.new o)
    (fun k hn hk => by rw [h.1 k (by omega) hk]; exact SrTpIn.new o), SrTpIn.new o⟩

theorem srPlSlots : SrSlots pOps SrPlIn where
  mono := SrPlIn.mono
  cur := SrPlIn.cur
  setCur := fun h hp => h.setCur _ hp
  next := fun h hx => h.next _ _ hx
  tok_withTok := fun _ _ => rfl
  tok_zero := rfl
  tok_fin := fun h => by obtain ⟨nm, _, rfl⟩ := pOps_fin_eq_some h; rfl

/-- what the URI-parameter loop guarantees on return (call started at `o0`) -/
structure SrPlT (b : Buf) (o0 : Nat) (r : Nat × Nat × Err × URIParamsLst) : Prop where
  lo : o0 ≤ r.1
  hi : r.1 ≤ b.size
  out : SrPlIn b.size r.2.2.2
  tight : r.2.2.1 ≠ .ok → SrPlIn r.1 r.2.2.2

theorem uriParamsLoop_safe (b : Buf) (flags : Nat) (hfit : b.size ≤ 65535) (offs : Nat) (l : URIParamsLst) (vNo : Nat)
    (ho : offs ≤ b.size) (h : SrPlIn offs l) : SrPlT b offs (uriParamsLoop b offs l flags vNo) := by
  rw [uriParamsLoop_slot]
  obtain ⟨h1, h2, h3, h4⟩ := slotLoop_safe srPlSlots b flags (fun tp htp => by
    obtain ⟨nm, hnm⟩ := field_get?_some b tp.name htp.name hfit
    rw [pOps_fin_some hnm]; exact fun hh => nomatch hh) offs l vNo ho h
  exact ⟨h1, h2, h3, h4⟩

/-- **ParseAllURIParams, every flag combination, new / reset / suspended lists of any capacity**: the offset lies
    in `[offs, len]`, neither the list nor any element recorded a panic, the fields of every slot lie inside the
    buffer; after every verdict except OK the list is a legitimate argument at the returned offset (MoreBytes). -/
theorem parseAllURIParams_safe (b : Buf) (offs : Nat) (l : URIParamsLst) (flags : Nat) (hfit : b.size ≤ 65535)
    (ho : offs ≤ b.size) (h : SrPlIn offs l) : SrPlT b offs (parseAllURIParams b offs l flags) :=
  uriParamsLoop_safe b _ hfit offs l 0 ho h

/-! ### ParseAllURIHdrs -/

structure SrHlIn (o : Nat) (l : URIHdrsLst) : Prop where
  arr : ∀ k, k < l.hdrs.size → SrTpIn o l.hdrs[k]!
  tmp : SrTpIn o l.tmp

theorem srHlIn_iff {o : Nat} {l : URIHdrsLst} : SrHlIn o l ↔ SlotArr.All (SrTpIn o) l.slots :=
  ⟨fun h => ⟨h.arr, h.tmp⟩, fun h => ⟨h.1, h.2⟩⟩

theorem SrHlIn.mono {o o' : Nat} {l : URIHdrsLst} (h : SrHlIn o l) (hle : o ≤ o') : SrHlIn o' l :=
  ⟨fun k hk => (h.arr k hk).mono hle, h.tmp.mono hle⟩

theorem SrHlIn.cur {o : Nat} {l : URIHdrsLst} (h : SrHlIn o l) : SrTpIn o l.cur := (srHlIn_iff.1 h).cur

theorem SrHlIn.setCur {o : Nat} {l : URIHdrsLst} (h : SrHlIn o l) (p : PTokParam) (hp : SrTpIn o p) :
    SrHlIn o (l.setCur p) :=
  srHlIn_iff.2 (by rw [hSlots_setCur]; exact (srHlIn_iff.1 h).setCur hp)

theorem SrHlIn.next {o : Nat} {l : URIHdrsLst} (h : SrHlIn o l) (tp : PTokParam) (hp : SrTpIn o tp) :
    SrHlIn o (l.next tp) :=
  srHlIn_iff.2 (by rw [hSlots_next]; exact (srHlIn_iff.1 h).push hp (SrTpIn.new o))

theorem srHlIn_new (o k : Nat) : SrHlIn o ({ hdrs := Array.replicate k {} } : URIHdrsLst) :=
  srHlIn_iff.2 (SlotArr.all_replicate (SrTpIn.new o) k 0)

theorem SrHlIn.reset {o : Nat} {l : URIHdrsLst} (h : SrHlIn o l) : SrHlIn o l.reset :=
  ⟨clearUpToP_all (SrTpIn o) l.hdrs {} l.n (SrTpIn.new o) (fun k _ hk => h.arr k hk), SrTpIn.new o⟩

theorem srHlIn_reset_clean (o : Nat) {l : URIHdrsLst} (h : hlClean l) : SrHlIn o l.reset :=
  ⟨clearUpToP_all (SrTpIn o) l.hdrs {} l.n (SrTpIn.new o) (fun k hn hk => by rw [h.1 k (by omega) hk]; exact SrTpIn.new o),
    SrTpIn.new o⟩

theorem srHlSlots : SrSlots hOps SrHlIn where
  mono := SrHlIn.mono
  cur := SrHlIn.cur
  setCur := fun h hp => h.setCur _ hp
  next := fun h hx => h.next _ hx
  tok_withTok := fun _ _ => rfl
  tok_zero := rfl
  tok_fin := fun h => by cases h; rfl

structure SrHlT (b : Buf) (o0 : Nat) (r : Nat × Nat × Err × URIHdrsLst) : Prop where
  lo : o0 ≤ r.1
  hi : r.1 ≤ b.size
  out : SrHlIn b.size r.2.2.2
  tight : r.2.2.1 ≠ .ok → SrHlIn r.1 r.2.2.2

theorem uriHdrsLoop_safe (b : Buf) (flags : Nat) (offs : Nat) (l : URIHdrsLst) (vNo : Nat)
    (ho : offs ≤ b.size) (h : SrHlIn offs l) : SrHlT b offs (uriHdrsLoop b offs l flags vNo) := by
  rw [uriHdrsLoop_slot]
  obtain ⟨h1, h2, h3, h4⟩ := slotLoop_safe srHlSlots b flags (fun _ _ hh => nomatch hh) offs l vNo ho h
  exact ⟨h1, h2, h3, h4⟩

/-- **ParseAllURIHdrs, every flag combination, new / reset / suspended lists of any capacity** -/
theorem parseAllURIHdrs_safe (b : Buf) (offs : Nat) (l : URIHdrsLst) (flags : Nat)
    (ho : offs ≤ b.size) (h : SrHlIn offs l) : SrHlT b offs (parseAllURIHdrs b offs l flags) :=
  uriHdrsLoop_safe b _ offs l 0 ho h

/-! ### comparison functions: URIParamsEq, URIHdrsEq, URICmpShort, URICmp, URIParseCmp never panic -/

/-- both fields the comparison functions read from a stored token parameter can be dereferenced -/
def SrTpGet (b : Buf) (p : PTokParam) : Prop := (∃ x, p.name.get? b = some x) ∧ (∃ x, p.val.get? b = some x)

theorem SrTpIn.get {b : Buf} {p : PTokParam} (h : SrTpIn b.size p) (hfit : b.size ≤ 65535) :
    p.name.get? b = some (useg b p.name) ∧ p.val.get? b = some (useg b p.val) :=
  ⟨field_get? b _ _ h.name hfit, field_get? b _ _ h.val hfit⟩

theorem SrTpIn.toGet {b : Buf} {p : PTokParam} (h : SrTpIn b.size p) (hfit : b.size ≤ 65535) : SrTpGet b p :=
  ⟨⟨_, (h.get hfit).1⟩, ⟨_, (h.get hfit).2⟩⟩

theorem srParamsEqInner_some (p1 : URIParam) (b1 b2 : Buf) (h1 : SrTpGet b1 p1.param) (l : List URIParam)
    (hl : ∀ p2 ∈ l, SrTpGet b2 p2.param) : ∃ r, paramsEqInner p1 b1 b2 l = some r := by
  induction l with
  | nil => exact ⟨true, rfl⟩
  | cons p2 rest ih =>
    have ih' := ih (fun q hq => hl q (List.mem_cons_of_mem _ hq))
    obtain ⟨⟨n1, hn1⟩, ⟨v1, hv1⟩⟩ := h1
    obtain ⟨⟨n2, hn2⟩, ⟨v2, hv2⟩⟩ := hl p2 List.mem_cons_self
    unfold paramsEqInner
    simp only [hn1, hn2, hv1, hv2]
    split
    · split
      · rename_i hh; split at hh <;> cases hh
      · exact ⟨_, rfl⟩
      · exact ih'
    · exact ih'

theorem srParamsEqOuter_some (b1 b2 : Buf) (l2 : List URIParam) (h2 : ∀ p2 ∈ l2, SrTpGet b2 p2.param)
    (l1 : List URIParam) (h1 : ∀ p1 ∈ l1, SrTpGet b1 p1.param) : ∃ r, paramsEqOuter b1 b2 l2 l1 = some r := by
  induction l1 with
  | nil => exact ⟨true, rfl⟩
  | cons p1 rest ih =>
    obtain ⟨r, hr⟩ := srParamsEqInner_some p1 b1 b2 (h1 p1 List.mem_cons_self) l2 h2
    unfold paramsEqOuter
    rw [hr]
    cases r
    · exact ⟨_, rfl⟩
    · exact ih (fun q hq => h1 q (List.mem_cons_of_mem _ hq))

/-- a property of every slot of an array holds of every member of a prefix of its list -/
theorem srTake_all {α : Type} [Inhabited α] {a : Array α} {P : α → Prop} (h : ∀ k, k < a.size → P a[k]!) (m : Nat) :
    ∀ p ∈ a.toList.take m, P p := by
  intro p hp
  obtain ⟨k, hk, rfl⟩ := Array.mem_iff_getElem.mp (Array.mem_toList_iff.mp (List.mem_of_mem_take hp))
  have := h k hk
  rwa [getElem!_pos a k hk] at this

theorem SrPlIn.mem_get {b : Buf} {l : URIParamsLst} (h : SrPlIn b.size l) (hfit : b.size ≤ 65535) (m : Nat) :
    ∀ p ∈ (l.params.toList).take m, SrTpGet b p.param :=
  srTake_all (P := fun p => SrTpGet b p.param) (fun k hk => (h.arr k hk).toGet hfit) m

/-- `URIParamsLstEq` on lists whose slots lie inside their buffers never panics -/
theorem uriParamsLstEq_some (l1 : URIParamsLst) (b1 : Buf) (l2 : URIParamsLst) (b2 : Buf)
    (hf1 : b1.size ≤ 65535) (hf2 : b2.size ≤ 65535) (h1 : SrPlIn b1.size l1) (h2 : SrPlIn b2.size l2) :
    ∃ r, uriParamsLstEq l1 b1 l2 b2 = some r := by
  unfold uriParamsLstEq
  simp only
  split
  · exact ⟨_, rfl⟩
  · exact srParamsEqOuter_some b1 b2 _ (h2.mem_get hf2 _) _ (h1.mem_get hf1 _)

/-- **URIParamsEq never panics**: any two buffers within the 65,535-byte limit, any offsets inside them -/
theorem uriParamsEq_some (b1 : Buf) (o1 : Nat) (b2 : Buf) (o2 : Nat) (hf1 : b1.size ≤ 65535) (hf2 : b2.size ≤ 65535)
    (ho1 : o1 ≤ b1.size) (ho2 : o2 ≤ b2.size) : ∃ r, uriParamsEq b1 o1 b2 o2 = some r := by
  unfold uriParamsEq
  simp only
  have hT1 := parseAllURIParams_safe b1 o1 { params := Array.replicate 100 {} } (POptTokURIParamF ||| POptInputEndF) hf1
    ho1 (srPlIn_new o1 100)
  have hT2 := parseAllURIParams_safe b2 o2 { params := Array.replicate 100 {} } (POptTokURIParamF ||| POptInputEndF) hf2
    ho2 (srPlIn_new o2 100)
  rcases hp1 : parseAllURIParams b1 o1 { params := Array.replicate 100 {} } (POptTokURIParamF ||| POptInputEndF) with
    ⟨n1, v1, e1, l1⟩
  rcases hp2 : parseAllURIParams b2 o2 { params := Array.replicate 100 {} } (POptTokURIParamF ||| POptInputEndF) with
    ⟨n2, v2, e2, l2⟩
  rw [hp1] at hT1
  rw [hp2] at hT2
  have hl1 : SrPlIn b1.size l1 := hT1.out
  have hl2 : SrPlIn b2.size l2 := hT2.out
  simp only [hl1.pnc, hl2.pnc, Bool.false_eq_true, ↓reduceIte]
  split
  · exact ⟨_, rfl⟩
  · split
    · exact ⟨_, rfl⟩
    · obtain ⟨r, hr⟩ := uriParamsLstEq_some l1 b1 l2 b2 hf1 hf2 hl1 hl2
      rw [hr]; exact ⟨_, rfl⟩

theorem srHdrsEqInner_some (h1 : PTokParam) (b1 b2 : Buf) (hg1 : SrTpGet b1 h1) (l : List PTokParam)
    (hl : ∀ h2 ∈ l, SrTpGet b2 h2) : ∃ r, hdrsEqInner h1 b1 b2 l = some r := by
  induction l with
  | nil => exact ⟨false, rfl⟩
  | cons h2 rest ih =>
    have ih' := ih (fun q hq => hl q (List.mem_cons_of_mem _ hq))
    obtain ⟨⟨n1, hn1⟩, ⟨v1, hv1⟩⟩ := hg1
    obtain ⟨⟨n2, hn2⟩, ⟨v2, hv2⟩⟩ := hl h2 List.mem_cons_self
    unfold hdrsEqInner
    simp only [hn1, hn2, hv1, hv2]
    split
    · exact ⟨_, rfl⟩
    · exact ih'

theorem srHdrsEqOuter_some (b1 b2 : Buf) (l2 : List PTokParam) (h2 : ∀ p2 ∈ l2, SrTpGet b2 p2)
    (l1 : List PTokParam) (h1 : ∀ p1 ∈ l1, SrTpGet b1 p1) : ∃ r, hdrsEqOuter b1 b2 l2 l1 = some r := by
  induction l1 with
  | nil => exact ⟨true, rfl⟩
  | cons p1 rest ih =>
    obtain ⟨r, hr⟩ := srHdrsEqInner_some p1 b1 b2 (h1 p1 List.mem_cons_self) l2 h2
    unfold hdrsEqOuter
    rw [hr]
    cases r
    · exact ⟨_, rfl⟩
    · exact ih (fun q hq => h1 q (List.mem_cons_of_mem _ hq))

theorem SrHlIn.mem_get {b : Buf} {l : URIHdrsLst} (h : SrHlIn b.size l) (hfit : b.size ≤ 65535) (m : Nat) :
    ∀ p ∈ (l.hdrs.toList).take m, SrTpGet b p :=
  srTake_all (fun k hk => (h.arr k hk).toGet hfit) m

/-- `URIHdrsLstEq` on lists whose slots lie inside their buffers never panics -/
theorem uriHdrsLstEq_some (l1 : URIHdrsLst) (b1 : Buf) (l2 : URIHdrsLst) (b2 : Buf)
    (hf1 : b1.size ≤ 65535) (hf2 : b2.size ≤ 65535) (h1 : SrHlIn b1.size l1) (h2 : SrHlIn b2.size l2) :
    ∃ r, uriHdrsLstEq l1 b1 l2 b2 = some r := by
  unfold uriHdrsLstEq
  split
  · exact ⟨_, rfl⟩
  · exact srHdrsEqOuter_some b1 b2 _ (h2.mem_get hf2 _) _ (h1.mem_get hf1 _)

/-- **URIHdrsEq never panics** -/
theorem uriHdrsEq_some (b1 : Buf) (o1 : Nat) (b2 : Buf) (o2 : Nat) (hf1 : b1.size ≤ 65535) (hf2 : b2.size ≤ 65535)
    (ho1 : o1 ≤ b1.size) (ho2 : o2 ≤ b2.size) : ∃ r, uriHdrsEq b1 o1 b2 o2 = some r := by
  unfold uriHdrsEq
  simp only
  have hT1 := parseAllURIHdrs_safe b1 o1 { hdrs := Array.replicate 100 {} } (POptTokURIHdrF ||| POptInputEndF)
    ho1 (srHlIn_new o1 100)
  have hT2 := parseAllURIHdrs_safe b2 o2 { hdrs := Array.replicate 100 {} } (POptTokURIHdrF ||| POptInputEndF)
    ho2 (srHlIn_new o2 100)
  rcases hp1 : parseAllURIHdrs b1 o1 { hdrs := Array.replicate 100 {} } (POptTokURIHdrF ||| POptInputEndF) with
    ⟨n1, v1, e1, l1⟩
  rcases hp2 : parseAllURIHdrs b2 o2 { hdrs := Array.replicate 100 {} } (POptTokURIHdrF ||| POptInputEndF) with
    ⟨n2, v2, e2, l2⟩
  rw [hp1] at hT1
  rw [hp2] at hT2
  have hl1 : SrHlIn b1.size l1 := hT1.out
  have hl2 : SrHlIn b2.size l2 := hT2.out
  simp only
  split
  · exact ⟨_, rfl⟩
  · split
    · exact ⟨_, rfl⟩
    · obtain ⟨r, hr⟩ := uriHdrsLstEq_some l1 b1 l2 b2 hf1 hf2 hl1 hl2
      rw [hr]; exact ⟨_, rfl⟩

/-- `Get` works on all seven fields of the URI object -/
def SrUriGet (b : Buf) (u : PsipURI) : Prop :=
  ∀ f ∈ [u.scheme, u.user, u.pass, u.host, u.port, u.params, u.headers], ∃ x, f.get? b = some x

theorem srUriGet_parse (b : Buf) (hfit : b.size ≤ 65535) (hacc : (parseURI b {}).1 = .none) :
    SrUriGet b (parseURI b {}).2.2.1 := fun f hf => ⟨_, parseURI_get b hfit hacc f hf⟩

/-- **URICmpShort never panics** on URI objects whose fields are readable (any flags) -/
theorem uriCmpShort_some (u1 : PsipURI) (b1 : Buf) (u2 : PsipURI) (b2 : Buf) (flags : Nat)
    (h1 : SrUriGet b1 u1) (h2 : SrUriGet b2 u2) : ∃ r, uriCmpShort u1 b1 u2 b2 flags = some r := by
  obtain ⟨x1, hx1⟩ := h1 u1.user (by simp)
  obtain ⟨y1, hy1⟩ := h1 u1.pass (by simp)
  obtain ⟨z1, hz1⟩ := h1 u1.host (by simp)
  obtain ⟨x2, hx2⟩ := h2 u2.user (by simp)
  obtain ⟨y2, hy2⟩ := h2 u2.pass (by simp)
  obtain ⟨z2, hz2⟩ := h2 u2.host (by simp)
  unfold uriCmpShort
  simp only [hx1, hy1, hz1, hx2, hy2, hz2]
  repeat' split
  all_goals first
    | exact ⟨_, rfl⟩
    | (rename_i hh; repeat' (split at hh)
       all_goals cases hh)

theorem srGet?_size_le {b x : Buf} {f : PField} (h : f.get? b = some x) : x.size ≤ b.size := by
  unfold PField.get? at h
  split at h
  · cases h; simp only [Array.size_extract]; omega
  · cases h

/-- **URICmp never panics** on URI objects whose fields are readable, buffers within the 65,535-byte limit -/
theorem uriCmp_some (u1 : PsipURI) (b1 : Buf) (u2 : PsipURI) (b2 : Buf) (flags : Nat)
    (hf1 : b1.size ≤ 65535) (hf2 : b2.size ≤ 65535)
    (h1 : SrUriGet b1 u1) (h2 : SrUriGet b2 u2) : ∃ r, uriCmp u1 b1 u2 b2 flags = some r := by
  obtain ⟨r0, hr0⟩ := uriCmpShort_some u1 b1 u2 b2 flags h1 h2
  obtain ⟨p1, hp1⟩ := h1 u1.params (by simp)
  obtain ⟨q1, hq1⟩ := h1 u1.headers (by simp)
  obtain ⟨p2, hp2⟩ := h2 u2.params (by simp)
  obtain ⟨q2, hq2⟩ := h2 u2.headers (by simp)
  obtain ⟨rp, hrp⟩ := uriParamsEq_some p1 0 p2 0 (by have := srGet?_size_le hp1; omega)
    (by have := srGet?_size_le hp2; omega) (Nat.zero_le _) (Nat.zero_le _)
  obtain ⟨rh, hrh⟩ := uriHdrsEq_some q1 0 q2 0 (by have := srGet?_size_le hq1; omega)
    (by have := srGet?_size_le hq2; omega) (Nat.zero_le _) (Nat.zero_le _)
  unfold uriCmp
  simp only [hr0, hp1, hp2, hq1, hq2, hrp, hrh, Option.map_some]
  repeat' split
  all_goals first
    | exact ⟨_, rfl⟩
    | (rename_i hh; repeat' (split at hh)
       all_goals cases hh)

/-- **URIParseCmp never panics**: any two raw URIs within the 65,535-byte limit, any flags -/
theorem uriParseCmp_some (raw1 raw2 : Buf) (flags : Nat) (hf1 : raw1.size ≤ 65535) (hf2 : raw2.size ≤ 65535) :
    ∃ r, uriParseCmp raw1 raw2 flags = some r := by
  have hk1 := parseURI_ok raw1 hf1
  have hk2 := parseURI_ok raw2 hf2
  have hg1 := srUriGet_parse raw1 hf1
  have hg2 := srUriGet_parse raw2 hf2
  unfold uriParseCmp
  rcases hp1 : parseURI raw1 {} with ⟨e1, n1, u1, c1⟩
  rcases hp2 : parseURI raw2 {} with ⟨e2, n2, u2, c2⟩
  rw [hp1] at hk1 hg1
  rw [hp2] at hk2 hg2
  have hc1 : c1 = false := hk1.2.1
  have hc2 : c2 = false := hk2.2.1
  subst hc1; subst hc2
  simp only [Bool.false_eq_true, ↓reduceIte]
  split
  · exact ⟨_, rfl⟩
  · rename_i he1
    split
    · exact ⟨_, rfl⟩
    · rename_i he2
      have e1n : e1 = .none := by simpa using he1
      have e2n : e2 = .none := by simpa using he2
      obtain ⟨r, hr⟩ := uriCmp_some u1 raw1 u2 raw2 flags hf1 hf2 (hg1 e1n) (hg2 e2n)
      rw [hr]; exact ⟨_, rfl⟩

/-! ### signatures: the IPv6 scanner never indexes outside its 8-word buffers -/

/-- loop invariant of `IP6Prefix`: the word index is tied to the number of colons seen -/
structure SrIp6Inv (st : IP6St) : Prop where
  pnc : st.pnc = false
  one : st.use2 = false → st.i = st.colonsNo ∧ st.colonsNo ≤ 7
  two : st.use2 = true → st.i + 1 ≤ st.colonsNo ∧ st.colonsNo ≤ 8

/-- what holds of the state handed to the code after the loop -/
structure SrIp6End (st : IP6St) : Prop where
  pnc : st.pnc = false
  two : st.use2 = true → st.i ≤ 7

def SrIp6Exit : IP6Exit → Prop
  | .loopEnd _ st => SrIp6End st
  | .gotoEnd _ st => SrIp6End st
  | .ret _ _ => True

theorem SrIp6Inv.toEnd {st : IP6St} (h : SrIp6Inv st) : SrIp6End st :=
  ⟨h.pnc, fun h2 => by have := h.two h2; omega⟩

theorem ip6Loop_safe (b : Buf) (o : Nat) (st : IP6St) (h : SrIp6Inv st) : SrIp6Exit (ip6Loop b o st) := by
  fun_induction ip6Loop b o st with
  | case1 o st hb => exact h.toEnd
  | case2 o st c hb hc st1 hg =>
    exact ⟨h.pnc, fun hu => by have := h.two hu; simp only [st1]; omega⟩
  | case3 => trivial
  | case4 o st c hb hc st1 hg hfc hu ih =>
    apply ih
    have hu' : st.use2 = false := by simpa [st1] using hu
    have h1 := h.one hu'
    refine ⟨h.pnc, (fun hh => by cases hh), fun _ => ?_⟩
    simp only [st1, hu', Bool.and_eq_true, Bool.or_eq_true, decide_eq_true_eq, not_and, not_or] at hg hfc ⊢
    simp only [hfc] at hg
    simp at hg
    omega
  | case5 o st c hb hc st1 hg hfc ih =>
    apply ih
    have hfc' : st.foundColon = false := by simpa [st1] using hfc
    refine ⟨h.pnc, fun hu => ?_, fun hu => ?_⟩
    · have hu' : st.use2 = false := hu
      have h1 := h.one hu'
      simp only [st1, hu', hfc'] at hg ⊢
      simp at hg
      omega
    · have hu' : st.use2 = true := hu
      have h2 := h.two hu'
      simp only [st1, hu', hfc'] at hg ⊢
      simp at hg
      omega
  | case6 o st c hb hc v hv st1 hd => exact ⟨h.pnc, fun hu => by have := h.two hu; simp only [st1]; omega⟩
  | case7 o st c hb hc v hv st1 hd hi =>
    exfalso
    have hi' : st.i ≥ 8 := hi
    cases hu : st.use2
    · have := h.one hu; omega
    · have := h.two hu; omega
  | case8 o st c hb hc v hv st1 hd hi hu ih => exact ih ⟨h.pnc, h.one, h.two⟩
  | case9 o st c hb hc v hv st1 hd hi hu ih => exact ih ⟨h.pnc, h.one, h.two⟩
  | case10 o st c hb hc v hv hbr => exact ⟨h.pnc, h.toEnd.two⟩
  | case11 o st c hb hc v hv hbr => exact ⟨h.pnc, h.toEnd.two⟩

theorem ite_snd4 {α β γ δ : Type} (c : Prop) [Decidable c] (x y : α × β × γ × δ × Bool) :
    (if c then x else y).2.2.2.2 = if c then x.2.2.2.2 else y.2.2.2.2 := by split <;> rfl

theorem ip6End_safe (b : Buf) (start o : Nat) (st : IP6St) (hp : st.pnc = false) (hi : st.use2 = true → st.i ≤ 8) :
    (ip6End b start o st).2.2.2.2 = false := by
  have hq : (st.use2 && decide (st.i > 8)) = false := by
    cases hu : st.use2
    · rfl
    · have := hi hu; simp; omega
  unfold ip6End
  simp only [hq, hp, Bool.or_false]
  -- every exit now carries `false`; which result and verdict the first test chose does not matter
  generalize (if (st.digits == 0 && !st.foundColon) = true then (false, _) else (true, st.err) : Bool × Err) = re
  obtain ⟨res, err⟩ := re
  by_cases hc : (!st.use2 && (decide (st.colonsNo < 7) || st.digits == 0)) = true
  · by_cases hd : (err != Err.ok || st.bracketEnd) = true <;> simp only [hc, hd, ↓reduceIte, Bool.false_eq_true]
  · simp only [hc, Bool.false_eq_true, ↓reduceIte, ite_snd4, ite_self]

theorem srIp6Core (b : Buf) (start : Nat) (br : Bool) :
    (match ip6Loop b (if br then start + 1 else start) ({ bracketSt := br } : IP6St) with
      | .ret o e => (false, o - start, e, ({ bracketSt := br } : IP6St).a1, false)
      | .gotoEnd o st => ip6End b start o st
      | .loopEnd o st => ip6End b start o (if !st.foundColon then { st with i := st.i + 1 } else st)).2.2.2.2
      = false := by
  have h0 : SrIp6Inv ({ bracketSt := br } : IP6St) :=
    ⟨rfl, fun _ => ⟨rfl, Nat.zero_le _⟩, fun hh => by cases hh⟩
  have hs := ip6Loop_safe b (if br then start + 1 else start) { bracketSt := br } h0
  cases hl : ip6Loop b (if br then start + 1 else start) { bracketSt := br } with
  | ret o e => rfl
  | gotoEnd o st =>
    rw [hl] at hs
    exact ip6End_safe b start o st hs.pnc (fun hu => by have := hs.two hu; omega)
  | loopEnd o st =>
    rw [hl] at hs
    simp only
    split
    · exact ip6End_safe b start o _ hs.pnc (fun hu => by have := hs.two hu; show st.i + 1 ≤ 8; omega)
    · exact ip6End_safe b start o st hs.pnc (fun hu => by have := hs.two hu; omega)

/-- **IP6Prefix never panics** (any buffer, any start position) -/
theorem ip6PrefixAt_safe (b : Buf) (start : Nat) : (ip6PrefixAt b start).2.2.2.2 = false := by
  unfold ip6PrefixAt
  exact srIp6Core b start _

theorem containsIP6Try_safe (b : Buf) (o dOffs : Nat) :
    ∀ r, containsIP6Try b o dOffs = some r → r.2.2.2 = false := by
  fun_induction containsIP6Try b o dOffs with
  | case1 o hlt nxt e a p hp =>
    intro r hr; cases hr
    have := ip6PrefixAt_safe b o; rw [hp] at this; exact this
  | case2 o hlt x1 x2 x3 hp =>
    intro r hr
    have := ip6PrefixAt_safe b o; rw [hp] at this; cases this
  | case3 o hlt hn1 hn2 ih => exact ih
  | case4 o hlt => intro r hr; cases hr

theorem containsIP6Loop_safe (b : Buf) (i : Nat) :
    ∀ r, containsIP6Loop b i = some r → r.2.2.2 = false := by
  fun_induction containsIP6Loop b i with
  | case1 => intro r hr; cases hr
  | case2 i hlt dOffs hidx offs r0 htry => intro r hr; cases hr; exact containsIP6Try_safe b _ _ _ htry
  | case3 i hlt dOffs hidx offs htry hlt2 ih => exact ih
  | case4 => intro r hr; cases hr
  | case5 => intro r hr; cases hr

/-- **ContainsIP6 never panics** -/
theorem containsIP6_safe (b : Buf) : ∀ r, containsIP6 b = some r → r.2.2.2 = false :=
  containsIP6Loop_safe b 0

/-- **GetCallIDSig never panics**, whatever the Call-ID bytes -/
theorem getCallIDSig_safe (cid : Buf) : (getCallIDSig cid).2.2 = false := by
  unfold getCallIDSig
  cases h4 : containsIP4 cid with
  | some r => rfl
  | none =>
    cases h6 : containsIP6 cid with
    | none => rfl
    | some r =>
      have := containsIP6_safe cid r h6
      obtain ⟨o, l, a, p⟩ := r
      simp only at this
      subst this
      rfl

theorem viaBrLoop_safe (b : Buf) (hfit : b.size ≤ 65535) (offs : Nat) (ho : offs ≤ b.size) :
    (viaBrLoop b offs).2.2 = false := by
  fun_induction viaBrLoop b offs with
  | case1 offs next e p hp hpnc =>
    have := (parseTokenParam_never_panics b offs {} viaBrFlags hfit ho (SrTpIn.new offs)).1
    rw [hp] at this
    rw [this] at hpnc; cases hpnc
  | case2 offs next e p hp hpnc he isBranch hbr =>
    exfalso
    have := (parseTokenParam_never_panics b offs {} viaBrFlags hfit ho (SrTpIn.new offs)).2.2.2.2.1
    rw [hp] at this
    obtain ⟨x, hx⟩ := this
    simp only [isBranch, hx] at hbr
    split at hbr <;> cases hbr
  | case3 offs next e p hp hpnc he isBranch hbr hlen hv =>
    exfalso
    have := (parseTokenParam_never_panics b offs {} viaBrFlags hfit ho (SrTpIn.new offs)).2.2.2.2.2.1
    rw [hp] at this
    obtain ⟨x, hx⟩ := this
    rw [hx] at hv; cases hv
  | case4 => rfl
  | case5 => rfl
  | case6 => rfl
  | case7 offs next e p hp hpnc he isBranch hbr hmv hg ih => exact ih hg.2
  | case8 => rfl
  | case9 => rfl
  | case10 => rfl

/-- **GetViaBrSig never panics** (Via values within the 65,535-byte limit) -/
theorem getViaBrSig_safe (b : Buf) (hfit : b.size ≤ 65535) : (getViaBrSig b).2.2 = false := by
  unfold getViaBrSig
  cases h : indexByteFrom b 0 59 with
  | none => rfl
  | some o =>
    have := (indexByteFrom_some b 0 59 h).2.1
    exact viaBrLoop_safe b hfit (o + 1) (by have := get?_lt this; omega)

theorem srViaPnc_false (mbuf : Buf) (hfit : mbuf.size ≤ 65535) (h : Hdr)
    (hv : h.type = HdrVia → h.val.inside mbuf.size) : (hdrKey mbuf h).viaPnc = false := by
  unfold SigKey.viaPnc hdrKey
  simp only
  split
  · rename_i hvia
    obtain ⟨v, hget⟩ := field_get?_some mbuf h.val (hv (by simpa using hvia)) hfit
    rw [hget]
    exact getViaBrSig_safe v (by have := srGet?_size_le hget; omega)
  · rfl

/-- the header loop of GetMsgSig records no panic when the value of every header slot of type Via lies inside
    `msg.Buf` -/
theorem msgSigLoop_safe (mbuf : Buf) (hfit : mbuf.size ≤ 65535) (pflags : Nat) (hs : List Hdr)
    (hv : ∀ h ∈ hs, h.type = HdrVia → h.val.inside mbuf.size) (st : SigLoopSt) (hp : st.pnc = false) :
    (msgSigLoop mbuf pflags hs st).1.pnc = false :=
  msgSigLoop_inv mbuf pflags (J := fun st => st.pnc = false) hs (fun h hh st hp => by
    show (st.pnc || (hdrKey mbuf h).viaPnc) = false
    rw [hp, srViaPnc_false mbuf hfit h (hv h hh)]; rfl) st hp

/-- **GetMsgSig never panics** when the Call-ID, the From tag and the value of every header slot of type Via lie
    inside `msg.Buf` (= the first `bufLen` bytes of the buffer), within the 65,535-byte limit -/
theorem getMsgSig_safe (m : PSIPMsg) (b : Buf) (hfit : b.size ≤ 65535) (hlen : m.bufLen ≤ b.size)
    (hcid : m.pv.callid.callID.inside m.bufLen) (htag : m.pv.from_.tag.inside m.bufLen)
    (hvia : ∀ k, k < m.hl.hdrs.size → m.hl.hdrs[k]!.type = HdrVia → m.hl.hdrs[k]!.val.inside m.bufLen) :
    (getMsgSigCore m b).2.2 = false := by
  cases hreq : m.request
  · rw [getMsgSig_reply m b hreq]
  · have hsz : (b.extract 0 m.bufLen).size = m.bufLen := by simp only [Array.size_extract]; omega
    have hfit' : (b.extract 0 m.bufLen).size ≤ 65535 := by omega
    obtain ⟨cid, hc⟩ := field_get?_some (b.extract 0 m.bufLen) _ (by rw [hsz]; exact hcid) hfit'
    obtain ⟨tag, ht⟩ := field_get?_some (b.extract 0 m.bufLen) _ (by rw [hsz]; exact htag) hfit'
    rw [getMsgSig_request m b hreq cid tag hc ht]
    show (msgSigLoop (b.extract 0 m.bufLen) m.hl.pflags m.hl.hdrs.toList (sigInit m.fl.methodNo cid tag)).1.pnc = false
    apply msgSigLoop_safe _ hfit'
    · intro h hh hty
      have hh' : h ∈ m.hl.hdrs := Array.mem_toList_iff.mp hh
      obtain ⟨k, hk, rfl⟩ := Array.mem_iff_getElem.mp hh'
      have := hvia k hk
      rw [getElem!_pos m.hl.hdrs k hk] at this
      rw [hsz]; exact this hty
    · exact getCallIDSig_safe cid

/-- the same on an object that a parse completed at `o'`: its fields lie inside the consumed bytes, and the unfilled
    header slots hold no Via header -/
theorem getMsgSig_safe_done {b : Buf} {o' : Nat} {m' : PSIPMsg} (hfit : b.size ≤ 65535) (hle : o' ≤ b.size)
    (hbl : m'.bufLen = o') (hin : MsgRelIn b o' m')
    (hun : ∀ k, m'.hl.n ≤ k → k < m'.hl.hdrs.size → m'.hl.hdrs[k]!.type ≠ HdrVia) :
    (getMsgSigCore m' b).2.2 = false := by
  subst hbl
  refine getMsgSig_safe m' b hfit hle hin.pv.callid hin.pv.from_.tag fun k hk hty => ?_
  rcases Nat.lt_or_ge k m'.hl.n with hkn | hkn
  · exact (hin.hl.stored k hkn hk).2
  · exact absurd hty (hun k hkn hk)

/-- **GetMsgSig after a successful ParseSIPMsg** (one call on any legitimate object): no panic, provided the
    header slots the parser did not fill hold no Via header (they are zero in every object produced by Init /
    Reset; that the parser leaves them zero is `sc_getMsgSig_safe` of SigCompose). -/
theorem getMsgSig_after_parse (b : Buf) (o : Nat) (m : PSIPMsg) (flags : Nat) (hfit : b.size ≤ 65535)
    (hok : msgOK2 b o m) (H : MsgSafe b o m) {o' : Nat} {m' : PSIPMsg}
    (hr : parseSIPMsg b o m flags = (o', .ok, m'))
    (hun : ∀ k, m'.hl.n ≤ k → k < m'.hl.hdrs.size → m'.hl.hdrs[k]!.type ≠ HdrVia) :
    (getMsgSigCore m' b).2.2 = false := by
  obtain ⟨_, _, _, hle, hL⟩ := parseSIPMsg_layout b o m flags hfit hok H hr
  have hT := parseSIPMsg_safe b o m flags hfit hok H
  rw [hr] at hT
  exact getMsgSig_safe_done hfit hle hL.bufLen (hT.inn rfl).1 hun

/-! ### tests / non-vacuity (closed computations, `decide +kernel`) -/

/-- test message for the examples below -/
def srTestMsg : Buf :=
  "INVITE sip:a SIP/2.0\r\nVia: x;branch=z9hG4bKabcdefgh\r\nCall-ID: 1@1.2.3.4\r\nFrom: <sip:a>;tag=1\r\n\r\n".toUTF8.data

/-- non-vacuity of `getMsgSig_after_parse`: all its hypotheses hold for a concrete request parsed into an object
    produced by Init (the last hypothesis — unused slots hold no Via — checked by computation) -/
example : (getMsgSigCore (parseSIPMsg srTestMsg 0 (({} : PSIPMsg).init 0 none none) 0).2.2 srTestMsg).2.2 = false := by
  -- one evaluation of the parse: verdict, no Via in the unused slots, capacity
  obtain ⟨he, hun, hsz⟩ : (parseSIPMsg srTestMsg 0 (({} : PSIPMsg).init 0 none none) 0).2.1 = .ok ∧
      (∀ k, k < 10 → ((parseSIPMsg srTestMsg 0 (({} : PSIPMsg).init 0 none none) 0).2.2.hl.n ≤ k →
        (parseSIPMsg srTestMsg 0 (({} : PSIPMsg).init 0 none none) 0).2.2.hl.hdrs[k]!.type ≠ HdrVia)) ∧
      (parseSIPMsg srTestMsg 0 (({} : PSIPMsg).init 0 none none) 0).2.2.hl.hdrs.size = 10 := by decide +kernel
  exact getMsgSig_after_parse srTestMsg 0 _ 0 (by decide +kernel)
    (msgOK2_init srTestMsg 0 (Nat.zero_le _) {} 0 0 0 none none)
    (MsgSafe_init srTestMsg 0 (Nat.zero_le _) {} 0 0 0 none none) (mlf_triple_eta _ rfl he)
    (fun k h1 h2 => hun k (by omega) h1)
/-- test: the message above is a request with a Via branch, a Call-ID containing an IPv4 address and a From tag -/
example : (getMsgSigCore (parseSIPMsg srTestMsg 0 (({} : PSIPMsg).init 0 none none) 0).2.2 srTestMsg).2.1 = .ok := by
  decide +kernel
/-- tests: comparison of two URIs with parameters and headers; a list with less room than parameters -/
example : (uriParseCmp "sip:u@h;a=b?x=y".toUTF8.data "sip:u@H;A=b?X=y".toUTF8.data 0).map (·.1) = some true := by
  decide +kernel
example : (parseAllURIParams "a=b;c=d;e".toUTF8.data 0 { params := Array.replicate 1 {} } POptInputEndF).2.2.1 = .eoh := by
  decide +kernel

end Sipsp
