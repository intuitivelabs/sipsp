/-
  Sipsp.Proofs.SafeVals — ParseCallIDVal, ParseUIntVal / ParseCLenVal, ParseCSeqVal never panic, and the fields
  they report can be dereferenced (the CSeq method lookup needs the documented 65,535-byte limit).
-/
import Sipsp.Proofs.SafeNA

namespace Sipsp

/-! ### Call-ID -/

structure CiSafe (b : Buf) (i : Nat) (st : PCallIDBody) : Prop where
  hi : i ≤ b.size
  soffs : st.soffs ≤ i
  fld : st.callID.inside i
  pnc : st.pnc = false

theorem CiSafe.mono {b : Buf} {i j : Nat} {st : PCallIDBody} (h : CiSafe b i st) (hij : i ≤ j) (hj : j ≤ b.size) :
    CiSafe b j st := ⟨hj, by have := h.soffs; omega, PField.inside_mono h.fld hij, h.pnc⟩

theorem ciSetCallID_safe {b : Buf} {i : Nat} {st : PCallIDBody} (h : CiSafe b i st) (x : CIState) :
    CiSafe b i { ciSetCallID st i with state := x } :=
  ⟨h.hi, h.soffs, set_inside _ _ _ h.soffs (Nat.le_refl _),
   by show (st.pnc || PField.setPanics st.soffs i) = false; rw [h.pnc, setPanics_false _ _ h.soffs]; rfl⟩

theorem ciStep_safe (b : Buf) (i : Nat) (c : UInt8) (st : PCallIDBody) (hb : b[i]? = some c) (h : CiSafe b i st) :
    StepAll2 (CiSafe b) (fun o _ => CiSafe b o) (ciStep b i c st) :=
  ciStep_ind b (S := CiSafe b) (T := fun o _ => CiSafe b o) (mono := fun _ _ _ h => h.mono)
    (close := fun _ _ _ h _ => ciSetCallID_safe h .fend)
    (start := fun i _ _ h _ => ⟨by omega, by simp, PField.inside_mono h.fld (by omega), h.pnc⟩)
    (done := fun _ _ _ h _ a1 a2 => ⟨a2, Nat.zero_le _, PField.inside_mono h.fld (by omega), h.pnc⟩)
    (more := fun _ _ h => h) (err := fun _ _ _ h _ _ => h) i c st hb h

/-- **ParseCallIDVal never panics; the reported field lies before the returned offset, inside the buffer; the
    returned object is again a legitimate argument** -/
theorem parseCallIDVal_safe (b : Buf) (o : Nat) (st : PCallIDBody) (h : CiSafe b o st) :
    CiSafe b (parseCallIDVal b o st).1 (parseCallIDVal b o st).2.2 := by
  unfold parseCallIDVal
  split
  · exact h
  · exact runLoop_safe2 ciMachine b (CiSafe b) (fun o _ => CiSafe b o) ci_progress
      (fun i c s hb hs => ciStep_safe b i c s hb hs) (fun i st hs => hs) o st h

/-! ### unsigned values (Expires, Content-Length) -/

structure ClSafe (b : Buf) (i : Nat) (st : PUIntBody) : Prop where
  hi : i ≤ b.size
  soffs : st.soffs ≤ i
  fld : st.sVal.inside i
  pnc : st.pnc = false

theorem ClSafe.mono {b : Buf} {i j : Nat} {st : PUIntBody} (h : ClSafe b i st) (hij : i ≤ j) (hj : j ≤ b.size) :
    ClSafe b j st := ⟨hj, by have := h.soffs; omega, PField.inside_mono h.fld hij, h.pnc⟩

theorem clSetSVal_safe {b : Buf} {i : Nat} {st : PUIntBody} (h : ClSafe b i st) (x : CLState) :
    ClSafe b i { clSetSVal st i with state := x } :=
  ⟨h.hi, h.soffs, set_inside _ _ _ h.soffs (Nat.le_refl _),
   by show (st.pnc || PField.setPanics st.soffs i) = false; rw [h.pnc, setPanics_false _ _ h.soffs]; rfl⟩

theorem clStep_safe (b : Buf) (i : Nat) (c : UInt8) (st : PUIntBody) (hb : b[i]? = some c) (h : ClSafe b i st) :
    StepAll2 (ClSafe b) (fun o _ => ClSafe b o) (clStep b i c st) :=
  clStep_ind b (S := ClSafe b) (T := fun o _ => ClSafe b o) (mono := fun _ _ _ h => h.mono)
    (close := fun _ _ _ h _ => clSetSVal_safe h .fend)
    (start := fun i _ _ _ h _ => ⟨by omega, by simp, PField.inside_mono h.fld (by omega), h.pnc⟩)
    (digit := fun i _ _ _ h _ => ⟨by omega, by have := h.soffs; simp; omega, PField.inside_mono h.fld (by omega), h.pnc⟩)
    (done := fun _ _ _ h _ a1 a2 => ⟨a2, Nat.zero_le _, PField.inside_mono h.fld (by omega), h.pnc⟩)
    (more := fun _ _ h => h) (err := fun _ _ _ h _ _ => h) i c st hb h

theorem parseUIntVal_safe (b : Buf) (o : Nat) (st : PUIntBody) (h : ClSafe b o st) :
    ClSafe b (parseUIntVal b o st).1 (parseUIntVal b o st).2.2 := by
  unfold parseUIntVal
  split
  · exact h
  · exact runLoop_safe2 clMachine b (ClSafe b) (fun o _ => ClSafe b o) cl_progress
      (fun i c s hb hs => clStep_safe b i c s hb hs) (fun i st hs => hs) o st h

/-- what a caller can rely on whatever the verdict: the field can be dereferenced, nothing panicked -/
def ClOut (b : Buf) (st : PUIntBody) : Prop := st.sVal.inside b.size ∧ st.pnc = false

theorem ClSafe.out {b : Buf} {i : Nat} {st : PUIntBody} (h : ClSafe b i st) : ClOut b st :=
  ⟨PField.inside_mono h.fld h.hi, h.pnc⟩

/-- ParseCLenVal: on its own "number too big" exit the offset points back at the value; otherwise as ParseUIntVal -/
theorem parseCLenVal_safe (b : Buf) (o : Nat) (st : PUIntBody) (h : ClSafe b o st) :
    ClOut b (parseCLenVal b o st).2.2 ∧
    ((parseCLenVal b o st).2.1 ≠ .numTooBig → ClSafe b (parseCLenVal b o st).1 (parseCLenVal b o st).2.2) ∧
    (parseCLenVal b o st).1 ≤ b.size := by
  have hs := parseUIntVal_safe b o st h
  unfold parseCLenVal
  rcases hp : parseUIntVal b o st with ⟨o1, e1, s1⟩
  rw [hp] at hs
  cases e1 <;> simp only
  case ok =>
    split
    · exact ⟨hs.out, (fun hh => absurd rfl hh),
        (by have h0 : s1.sVal.offs + s1.sVal.len ≤ b.size := hs.out.1; show s1.sVal.offs ≤ b.size; omega)⟩
    · exact ⟨hs.out, (fun _ => hs), hs.hi⟩
  all_goals exact ⟨hs.out, (fun _ => hs), hs.hi⟩

/-! ### CSeq -/

structure CsSafe (b : Buf) (i : Nat) (st : PCSeqBody) : Prop where
  hi : i ≤ b.size
  soffs : st.soffs ≤ i
  cseq : st.cseq.inside i
  method : st.method.inside i
  v : st.v.inside i
  pnc : st.pnc = false

theorem CsSafe.mono {b : Buf} {i j : Nat} {st : PCSeqBody} (h : CsSafe b i st) (hij : i ≤ j) (hj : j ≤ b.size) :
    CsSafe b j st :=
  ⟨hj, by have := h.soffs; omega, PField.inside_mono h.cseq hij, PField.inside_mono h.method hij,
   PField.inside_mono h.v hij, h.pnc⟩

def CsOut (b : Buf) (st : PCSeqBody) : Prop :=
  st.cseq.inside b.size ∧ st.method.inside b.size ∧ st.v.inside b.size ∧ st.pnc = false

theorem CsSafe.out {b : Buf} {i : Nat} {st : PCSeqBody} (h : CsSafe b i st) : CsOut b st :=
  ⟨PField.inside_mono h.cseq h.hi, PField.inside_mono h.method h.hi, PField.inside_mono h.v h.hi, h.pnc⟩

/-- what a finishing step guarantees: the object is sane, and — unless the offset points back at a number that
    is too big — the invariant holds at the returned offset -/
def CsT (b : Buf) (o : Nat) (e : Err) (st : PCSeqBody) : Prop :=
  CsOut b st ∧ o ≤ b.size ∧ (e ≠ .numTooBig → CsSafe b o st)

theorem CsT.of_safe {b : Buf} {o : Nat} {e : Err} {st : PCSeqBody} (h : CsSafe b o st) : CsT b o e st :=
  ⟨h.out, h.hi, fun _ => h⟩

theorem csSetMethod_safe {b : Buf} {i : Nat} {st : PCSeqBody} (h : CsSafe b i st) (x : CSState) :
    CsSafe b i { csSetMethod st i with state := x } := by
  have hv : st.v.offs ≤ i := by have := h.v; unfold PField.inside at this; omega
  exact ⟨h.hi, h.soffs, h.cseq, set_inside _ _ _ h.soffs (Nat.le_refl _), extend_inside _ _ _ hv (Nat.le_refl _),
    by show ((st.pnc || PField.setPanics st.soffs i) || st.v.extendPanics i) = false
       rw [h.pnc, setPanics_false _ _ h.soffs, extendPanics_false _ _ hv]; rfl⟩

theorem field_get?_some (b : Buf) (f : PField) (h : f.inside b.size) (hfit : b.size ≤ 65535) :
    ∃ x, f.get? b = some x :=
  ⟨_, field_get? b f.offs f.len h hfit⟩

theorem csFinish_safe (b : Buf) (st : PCSeqBody) (i n crl : Nat) (hfit : b.size ≤ 65535) (h : CsSafe b i st)
    (hin : i ≤ n + crl) (hn : n + crl ≤ b.size) :
    CsT b (csFinish st b n crl).1 (csFinish st b n crl).2.1 (csFinish st b n crl).2.2 := by
  unfold csFinish
  have h' := h.mono hin hn
  simp only
  split
  · exact ⟨⟨h'.out.1, h'.out.2.1, h'.out.2.2.1, h.pnc⟩,
      (by have h0 : st.cseq.offs + st.cseq.len ≤ b.size := h'.out.1; show st.cseq.offs ≤ b.size; omega), fun hh => absurd rfl hh⟩
  · obtain ⟨x, hx⟩ := field_get?_some b st.method (PField.inside_mono h.method h.hi) hfit
    rw [hx]
    exact CsT.of_safe ⟨h'.hi, Nat.zero_le _, h'.cseq, h'.method, h'.v, h'.pnc⟩

theorem csEOH_safe (b : Buf) (st : PCSeqBody) (i n crl : Nat) (hfit : b.size ≤ 65535) (h : CsSafe b i st)
    (hin : i ≤ n + crl) (hn : n + crl ≤ b.size) :
    CsT b (csEOH b st i n crl).1 (csEOH b st i n crl).2.1 (csEOH b st i n crl).2.2 := by
  unfold csEOH
  cases st.state <;> simp only
  case fend => exact csFinish_safe b st i n crl hfit h hin hn
  case foundMethod => exact csFinish_safe b _ i n crl hfit (csSetMethod_safe h st.state) hin hn
  all_goals exact CsT.of_safe (h.mono hin hn)

theorem csStep_safe (b : Buf) (i : Nat) (c : UInt8) (st : PCSeqBody) (hfit : b.size ≤ 65535) (hb : b[i]? = some c)
    (h : CsSafe b i st) : StepAll2 (CsSafe b) (CsT b) (csStep b i c st) := by
  have hlt := get?_lt hb
  have key : ∀ s1 : PCSeqBody, CsSafe b i s1 → StepAll2 (CsSafe b) (CsT b) (lwsStd b i s1 (csEOH b) id) := by
    intro s1 h1
    exact lwsStd_all2 b i s1 (csEOH b) id (CsSafe b) (CsT b) h1.hi (fun n a1 a2 => h1.mono a1 a2)
      (fun n a1 a2 => CsT.of_safe (h1.mono a1 a2))
      (fun n crl a1 a2 a4 => csEOH_safe b s1 i n crl hfit h1 (by omega) a2)
  have hstepi : ∀ x : PCSeqBody, x.cseq = st.cseq → x.method = st.method → x.v = st.v → x.pnc = st.pnc →
      x.soffs ≤ i + 1 → CsSafe b (i + 1) x := by
    intro x e1 e2 e3 e4 e5
    exact ⟨by omega, e5, by rw [e1]; exact PField.inside_mono h.cseq (by omega),
      by rw [e2]; exact PField.inside_mono h.method (by omega), by rw [e3]; exact PField.inside_mono h.v (by omega),
      by rw [e4]; exact h.pnc⟩
  have t := csStep_tr b i c st
  generalize csStep b i c st = r at t ⊢
  cases t with
  | lws => exact key _ h
  | lwsNum =>
    refine key _ ⟨h.hi, h.soffs, set_inside _ _ _ h.soffs (Nat.le_refl _), h.method,
      set_inside _ _ _ h.soffs (Nat.le_refl _), ?_⟩
    show (st.pnc || PField.setPanics st.soffs i) = false
    rw [h.pnc, setPanics_false _ _ h.soffs]; rfl
  | lwsMeth => exact key _ (csSetMethod_safe h .fend)
  | digit0 | meth0 => exact hstepi _ rfl rfl rfl rfl (by simp)
  | digit => exact hstepi _ rfl rfl rfl rfl (by have := h.soffs; simp; omega)
  | tooBig | bad => exact CsT.of_safe h
  | skip => exact h.mono (by omega) (by omega)

/-- **ParseCSeqVal never panics (buffers within the 65,535-byte limit); all reported fields can be dereferenced;
    unless it rejected an oversized number, the returned object is a legitimate argument at the returned offset** -/
theorem parseCSeqVal_safe (b : Buf) (o : Nat) (st : PCSeqBody) (hfit : b.size ≤ 65535) (h : CsSafe b o st) :
    CsT b (parseCSeqVal b o st).1 (parseCSeqVal b o st).2.1 (parseCSeqVal b o st).2.2 := by
  unfold parseCSeqVal
  split
  · exact CsT.of_safe h
  · exact runLoop_safe2 csMachine b (CsSafe b) (CsT b) cs_progress
      (fun i c s hb hs => csStep_safe b i c s hfit hb hs) (fun i st hs => CsT.of_safe hs) o st h

end Sipsp
