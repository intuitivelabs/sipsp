/-
  Sipsp.Proofs.Scan — the four single-byte scanners skipToken, skipToEOL, skipTokenDelim and skipWS as instances of
  `scanTo`: equations, stop byte, stability under extension, restart, bounds.
-/
import Sipsp.Proofs.Lex

namespace Sipsp

theorem skipToken_eq : skipToken = scanTo isLWSch := by
  funext b i
  fun_induction skipToken b i with
  | case1 i hb => exact (scanTo_none hb).symm
  | case2 i c hb hl => exact (scanTo_eq_self hb hl).symm
  | case3 i c hb hl ih => rw [ih]; exact (scanTo_step hb (by simpa using hl)).symm

theorem skipToEOL_eq : skipToEOL = scanTo isCRLFch := by
  funext b i
  fun_induction skipToEOL b i with
  | case1 i hb => exact (scanTo_none hb).symm
  | case2 i c hb hl => exact (scanTo_eq_self hb hl).symm
  | case3 i c hb hl ih => rw [ih]; exact (scanTo_step hb (by simpa using hl)).symm

theorem skipToken_eq_self {b : Buf} {i : Nat} {c : UInt8} (hb : b[i]? = some c) (hl : isLWSch c = true) :
    skipToken b i = i := by
  rw [skipToken_eq]; exact scanTo_eq_self hb hl

theorem skipToken_step {b : Buf} {i : Nat} {c : UInt8} (hb : b[i]? = some c) (hl : isLWSch c = false) :
    skipToken b i = skipToken b (i + 1) := by
  rw [skipToken_eq]; exact scanTo_step hb hl

theorem skipToken_none {b : Buf} {i : Nat} (hb : b[i]? = none) : skipToken b i = i := by
  rw [skipToken_eq]; exact scanTo_none hb

theorem skipToEOL_eq_self {b : Buf} {i : Nat} {c : UInt8} (hb : b[i]? = some c) (hl : isCRLFch c = true) :
    skipToEOL b i = i := by
  rw [skipToEOL_eq]; exact scanTo_eq_self hb hl

theorem skipToEOL_step {b : Buf} {i : Nat} {c : UInt8} (hb : b[i]? = some c) (hl : isCRLFch c = false) :
    skipToEOL b i = skipToEOL b (i + 1) := by
  rw [skipToEOL_eq]; exact scanTo_step hb hl

theorem skipToEOL_none {b : Buf} {i : Nat} (hb : b[i]? = none) : skipToEOL b i = i := by
  rw [skipToEOL_eq]; exact scanTo_none hb

theorem skipToken_stop (b : Buf) (i : Nat) :
    ∀ c, b[skipToken b i]? = some c → isLWSch c = true := by
  rw [skipToken_eq]; exact scanTo_stop isLWSch b i

theorem skipToken_stable (b s : Buf) (i : Nat) {c : UInt8} (h : b[skipToken b i]? = some c) :
    skipToken (b ++ s) i = skipToken b i := by
  rw [skipToken_eq] at h ⊢; exact scanTo_stable b s i h

theorem skipToken_restart (b s : Buf) (i : Nat) : skipToken (b ++ s) (skipToken b i) = skipToken (b ++ s) i := by
  rw [skipToken_eq]; exact scanTo_restart b s i

theorem skipToEOL_stop (b : Buf) (i : Nat) : ∀ c, b[skipToEOL b i]? = some c → isCRLFch c = true := by
  rw [skipToEOL_eq]; exact scanTo_stop isCRLFch b i

theorem skipToEOL_stable (b s : Buf) (i : Nat) {c : UInt8} (h : b[skipToEOL b i]? = some c) :
    skipToEOL (b ++ s) i = skipToEOL b i := by
  rw [skipToEOL_eq] at h ⊢; exact scanTo_stable b s i h

theorem skipToEOL_restart (b s : Buf) (i : Nat) : skipToEOL (b ++ s) (skipToEOL b i) = skipToEOL (b ++ s) i := by
  rw [skipToEOL_eq]; exact scanTo_restart b s i

theorem skipToEOL_end (b : Buf) (i : Nat) (h : b[skipToEOL b i]? = none) (hi : i ≤ b.size) : skipToEOL b i = b.size := by
  rw [skipToEOL_eq] at h ⊢; exact scanTo_end _ b i h hi

theorem skipTokenDelim_eq (b : Buf) (i : Nat) (d : UInt8) :
    skipTokenDelim b i d = scanTo (fun c => isLWSch c || c == d) b i := by
  fun_induction skipTokenDelim b i d with
  | case1 i hb => exact (scanTo_none hb).symm
  | case2 i c hb hl => exact (scanTo_eq_self hb hl).symm
  | case3 i c hb hl ih => rw [ih]; exact (scanTo_step hb (by simpa using hl)).symm

theorem skipWS_eq : skipWS = scanTo (fun c => !isWS c) := by
  funext b i
  fun_induction skipWS b i with
  | case1 i hb => exact (scanTo_none hb).symm
  | case2 i c hb hl ih => rw [ih]; exact (scanTo_step hb (by rw [hl]; rfl)).symm
  | case3 i c hb hl => exact (scanTo_eq_self hb (by simpa using hl)).symm

theorem skipTokenDelim_eq_self {b : Buf} {i : Nat} {c d : UInt8} (hb : b[i]? = some c)
    (hl : (isLWSch c || c == d) = true) : skipTokenDelim b i d = i := by
  rw [skipTokenDelim_eq]; exact scanTo_eq_self hb hl

theorem skipTokenDelim_step {b : Buf} {i : Nat} {c d : UInt8} (hb : b[i]? = some c)
    (hl : (isLWSch c || c == d) = false) : skipTokenDelim b i d = skipTokenDelim b (i + 1) d := by
  rw [skipTokenDelim_eq, skipTokenDelim_eq]; exact scanTo_step hb hl

theorem skipTokenDelim_none {b : Buf} {i : Nat} {d : UInt8} (hb : b[i]? = none) : skipTokenDelim b i d = i := by
  rw [skipTokenDelim_eq]; exact scanTo_none hb

theorem skipTokenDelim_stop (b : Buf) (i : Nat) (d : UInt8) :
    ∀ c, b[skipTokenDelim b i d]? = some c → (isLWSch c || c == d) = true := by
  rw [skipTokenDelim_eq]; exact scanTo_stop _ b i

theorem skipTokenDelim_stable (b s : Buf) (i : Nat) (d : UInt8) {c : UInt8}
    (h : b[skipTokenDelim b i d]? = some c) : skipTokenDelim (b ++ s) i d = skipTokenDelim b i d := by
  simp only [skipTokenDelim_eq] at h ⊢; exact scanTo_stable b s i h

theorem skipTokenDelim_restart (b s : Buf) (i : Nat) (d : UInt8) :
    skipTokenDelim (b ++ s) (skipTokenDelim b i d) d = skipTokenDelim (b ++ s) i d := by
  simp only [skipTokenDelim_eq]; exact scanTo_restart b s i

theorem skipTokenDelim_le (b : Buf) (i : Nat) (d : UInt8) (hi : i ≤ b.size) : skipTokenDelim b i d ≤ b.size := by
  rw [skipTokenDelim_eq]; exact scanTo_le _ b i hi

theorem skipWS_eq_self {b : Buf} {i : Nat} {c : UInt8} (hb : b[i]? = some c) (hl : isWS c = false) :
    skipWS b i = i := by
  rw [skipWS_eq]; exact scanTo_eq_self hb (by rw [hl]; rfl)

theorem skipWS_step {b : Buf} {i : Nat} {c : UInt8} (hb : b[i]? = some c) (hl : isWS c = true) :
    skipWS b i = skipWS b (i + 1) := by
  rw [skipWS_eq]; exact scanTo_step hb (by rw [hl]; rfl)

theorem skipWS_stable (b s : Buf) (i : Nat) {c : UInt8} (h : b[skipWS b i]? = some c) :
    skipWS (b ++ s) i = skipWS b i := by
  rw [skipWS_eq] at h ⊢; exact scanTo_stable b s i h

theorem skipWS_restart (b s : Buf) (i : Nat) : skipWS (b ++ s) (skipWS b i) = skipWS (b ++ s) i := by
  rw [skipWS_eq]; exact scanTo_restart b s i

theorem skipWS_le (b : Buf) (i : Nat) (hi : i ≤ b.size) : skipWS b i ≤ b.size := by
  rw [skipWS_eq]; exact scanTo_le _ b i hi

theorem skipToken_le (b : Buf) (i : Nat) (hi : i ≤ b.size) : skipToken b i ≤ b.size := by
  rw [skipToken_eq]; exact scanTo_le _ b i hi

theorem skipToken_ge (b : Buf) (i : Nat) : i ≤ skipToken b i := by
  rw [skipToken_eq]; exact scanTo_ge _ b i

theorem skipTokenDelim_ge (b : Buf) (i : Nat) (d : UInt8) : i ≤ skipTokenDelim b i d := by
  rw [skipTokenDelim_eq]; exact scanTo_ge _ b i

theorem skipWS_ge (b : Buf) (i : Nat) : i ≤ skipWS b i := by
  rw [skipWS_eq]; exact scanTo_ge _ b i

theorem skipToEOL_ge (b : Buf) (i : Nat) : i ≤ skipToEOL b i := by
  rw [skipToEOL_eq]; exact scanTo_ge _ b i

/-! ### over a run of bytes that do not stop the scan, up to a byte that does (`TokenRun`, `LineRun`, `NameRun`, `WsRun`
      are such runs by unfolding) -/

theorem skipToken_run (b : Buf) (i j : Nat) (hij : i ≤ j) (hr : Span (fun c => isLWSch c = false) b i j) {c : UInt8}
    (hj : b[j]? = some c) (hc : isLWSch c = true) : skipToken b i = j := by
  rw [skipToken_eq]; exact scanTo_run hij hr hj hc

theorem skipToEOL_run (b : Buf) (i j : Nat) (hij : i ≤ j) (hr : Span (fun c => isCRLFch c = false) b i j) {c : UInt8}
    (hj : b[j]? = some c) (hc : isCRLFch c = true) : skipToEOL b i = j := by
  rw [skipToEOL_eq]; exact scanTo_run hij hr hj hc

theorem skipTokenDelim_run (b : Buf) (i j : Nat) (hij : i ≤ j) (hr : Span (fun c => isLWSch c = false ∧ c ≠ 58) b i j)
    {c : UInt8} (hj : b[j]? = some c) (hc : isLWSch c = true ∨ c = 58) : skipTokenDelim b i 58 = j := by
  rw [skipTokenDelim_eq]
  exact scanTo_run hij (Span.mono hr fun c1 h => by simp [h.1, h.2]) hj (by rcases hc with hc | hc <;> simp [hc])

theorem skipWS_run (b : Buf) (i j : Nat) (hij : i ≤ j) (hr : Span (fun c => isWS c = true) b i j) {c : UInt8}
    (hj : b[j]? = some c) (hc : isWS c = false) : skipWS b i = j := by
  rw [skipWS_eq]
  exact scanTo_run hij (Span.mono hr fun c1 h2 => by rw [h2]; rfl) hj (by rw [hc]; rfl)

end Sipsp
