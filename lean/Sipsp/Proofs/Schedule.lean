/-
  Sipsp.Proofs.Schedule — from the one-step resumption law (L2) to arbitrary chunk schedules.
-/
import Sipsp.Model.Basic

namespace Sipsp

variable {σ τ α : Type}

/-- a streaming parser: buffer, start/continuation offset, object ↦ (offset, verdict, object) -/
abbrev Parser (σ : Type) := Buf → Nat → σ → Nat × Err × σ

/-- the resumption law of a parser (L2): a call that suspended may be continued on ANY extension of its buffer, from
    the offset and the object it returned, and gives what the call from the original offset and object gives there -/
def Resumable (P : Parser σ) : Prop :=
  ∀ b s o st o' st', P b o st = (o', Err.moreBytes, st') → P (b ++ s) o' st' = P (b ++ s) o st

/-- each buffer of the list is the previous one followed by some more bytes -/
def Growing : List Buf → Prop
  | [] => True
  | [_] => True
  | b :: b' :: rest => (∃ s, b' = b ++ s) ∧ Growing (b' :: rest)

/-- the caller's loop: call on the first prefix; while the verdict is "more bytes" call again on the
    next prefix with the returned offset and the same object; stop at the first definitive verdict. -/
def resumeRun (P : Parser σ) (o : Nat) (st : σ) : List Buf → Nat × Err × σ
  | [] => (o, Err.moreBytes, st)
  | [b] => P b o st
  | b :: b' :: rest =>
    match P b o st with
    | (o', Err.moreBytes, st') => resumeRun P o' st' (b' :: rest)
    | r => r

/-- what fresh one-shot calls on the same prefixes give: the result on the first prefix whose verdict is
    definitive (or on the last prefix). -/
def oneShotRun (P : Parser σ) (o : Nat) (st : σ) : List Buf → Nat × Err × σ
  | [] => (o, Err.moreBytes, st)
  | [b] => P b o st
  | b :: b' :: rest =>
    match P b o st with
    | (_, Err.moreBytes, _) => oneShotRun P o st (b' :: rest)
    | r => r

theorem growing_ext {b : Buf} {l : List Buf} (h : Growing (b :: l)) : ∀ x ∈ l, ∃ s, x = b ++ s := by
  induction l generalizing b with
  | nil => intro x hx; cases hx
  | cons y ys ih =>
    obtain ⟨⟨s, hs⟩, hg⟩ := h
    intro x hx
    rcases List.mem_cons.1 hx with rfl | hx
    · exact ⟨s, hs⟩
    · obtain ⟨t, ht⟩ := ih hg x hx
      exact ⟨s ++ t, by rw [ht, hs, Array.append_assoc]⟩

theorem growing_tail {b : Buf} {l : List Buf} (h : Growing (b :: l)) : Growing l := by
  cases l with
  | nil => trivial
  | cons y ys => exact h.2

/-- **one chain of resumed calls**: what every call says of its result (`Q`) from a configuration with `I`, which it
    re-establishes when it suspends, holds of the result of every chain — any buffers, in any order: the buffers need
    not grow -/
theorem resumeRun_inv (P : Parser σ) (I : Nat → σ → Prop) (Q : Nat × Err × σ → Prop)
    (hP : ∀ b o st, I o st → Q (P b o st) ∧ ((P b o st).2.1 = .moreBytes → I (P b o st).1 (P b o st).2.2))
    (o : Nat) (st : σ) (l : List Buf) (hnil : l = [] → Q (o, Err.moreBytes, st)) (h0 : I o st) :
    Q (resumeRun P o st l) := by
  induction l generalizing o st with
  | nil => exact hnil rfl
  | cons b rest ih =>
    have h1 := hP b o st h0
    cases rest with
    | nil => exact h1.1
    | cons b' rest' =>
      simp only [resumeRun]
      rcases hp : P b o st with ⟨o1, e1, s1⟩
      rw [hp] at h1
      cases e1 <;> simp only <;> first | exact h1.1 | exact ih o1 s1 nofun (h1.2 rfl)

/-- **two chains of resumed calls side by side** (two parsers, two objects, the same buffers): a relation `J` between
    the two configurations that every pair of calls re-establishes on every extension of the buffer when they
    suspend — they suspend together —, and `S b` between their results on `b`: `S` holds of the results of the two
    chains, on the buffer where they end. With `P' = P` and the same start it is the rule for ONE chain whose
    invariant depends on the buffer. -/
theorem resumeRun_two (P : Parser σ) (P' : Parser τ) (J : Buf → Nat → σ → Nat → τ → Prop)
    (S : Buf → Nat × Err × σ → Nat × Err × τ → Prop) (C : Buf → Prop)
    (hcall : ∀ b o1 s1 o2 s2, C b → J b o1 s1 o2 s2 →
      S b (P b o1 s1) (P' b o2 s2) ∧ (P b o1 s1).2.1 = (P' b o2 s2).2.1 ∧
      ((P b o1 s1).2.1 = .moreBytes →
        ∀ s, J (b ++ s) (P b o1 s1).1 (P b o1 s1).2.2 (P' b o2 s2).1 (P' b o2 s2).2.2))
    (o1 : Nat) (s1 : σ) (o2 : Nat) (s2 : τ) (l : List Buf) (hg : Growing l) (hC : ∀ x ∈ l, C x)
    (hne : l ≠ []) (h0 : ∀ b ∈ l.head?, J b o1 s1 o2 s2) :
    ∃ b ∈ l, S b (resumeRun P o1 s1 l) (resumeRun P' o2 s2 l) := by
  induction l generalizing o1 s1 o2 s2 with
  | nil => exact absurd rfl hne
  | cons b rest ih =>
    have hb := hcall b o1 s1 o2 s2 (hC b List.mem_cons_self) (h0 b (by simp))
    cases rest with
    | nil => exact ⟨b, List.mem_cons_self, hb.1⟩
    | cons b' rest' =>
      simp only [resumeRun]
      rcases hp : P b o1 s1 with ⟨a1, e1, t1⟩
      rcases hp' : P' b o2 s2 with ⟨a2, e2, t2⟩
      rw [hp, hp'] at hb
      obtain ⟨hS, he, hJ⟩ := hb
      simp only at he hJ
      subst he
      by_cases hm : e1 = .moreBytes
      · subst hm
        simp only
        obtain ⟨s', hs'⟩ := growing_ext hg b' List.mem_cons_self
        obtain ⟨x, hx, hq⟩ := ih a1 t1 a2 t2 (growing_tail hg) (fun x hx => hC x (List.mem_cons_of_mem _ hx)) (by simp)
          (by intro x hx; simp at hx; subst hx; rw [hs']; exact hJ rfl s')
        exact ⟨x, List.mem_cons_of_mem _ hx, hq⟩
      · refine ⟨b, List.mem_cons_self, ?_⟩
        cases e1 <;> first | exact absurd rfl hm | exact hS

/-- a post-condition of every single call from a legitimate state, the legitimacy being re-established at every
    suspension, holds of the caller's loop over any growing sequence of buffers, relative to the buffer of the call
    that produced the result -/
theorem afb_resumeRun_post (P : Parser σ) (Inv : Buf → Nat → σ → Prop)
    (Q : Buf → Nat × Err × σ → Prop) (C : Buf → Prop)
    (hP : ∀ b o st, C b → Inv b o st → Q b (P b o st) ∧
      ((P b o st).2.1 = .moreBytes → ∀ s, Inv (b ++ s) (P b o st).1 (P b o st).2.2))
    (o : Nat) (st : σ) (l : List Buf) (hg : Growing l) (hC : ∀ x ∈ l, C x) (hne : l ≠ [])
    (h0 : ∀ b ∈ l.head?, Inv b o st) : ∃ b ∈ l, Q b (resumeRun P o st l) :=
  resumeRun_two P P (fun b o1 s1 o2 s2 => o2 = o1 ∧ s2 = s1 ∧ Inv b o1 s1) (fun b r1 _ => Q b r1) C
    (fun b _ _ _ _ hC hJ => by
      obtain ⟨rfl, rfl, hI⟩ := hJ
      exact ⟨(hP b _ _ hC hI).1, rfl, fun he s => ⟨rfl, rfl, (hP b _ _ hC hI).2 he s⟩⟩)
    o st o st l hg hC hne (fun b hb => ⟨rfl, rfl, h0 b hb⟩)

/-! ### the schedule theorem

Stated once, for a relation `R` between the resumed and the fresh result that is reflexive, transitive and
determines the verdict, a one-step law that holds under an invariant `Inv` of (buffer, offset, object) and a
side condition `C` on the buffer; the forms below are its instances. -/

/-- the caller's loop over (parser index, buffer) pairs -/
def resumeRunW (P : α → Parser σ) (o : Nat) (st : σ) : List (α × Buf) → Nat × Err × σ
  | [] => (o, Err.moreBytes, st)
  | [x] => P x.1 x.2 o st
  | x :: y :: rest =>
    match P x.1 x.2 o st with
    | (o', Err.moreBytes, st') => resumeRunW P o' st' (y :: rest)
    | r => r

/-- fresh calls from the original (offset, object) on the same pairs: the first definitive verdict wins -/
def oneShotRunW (P : α → Parser σ) (o : Nat) (st : σ) : List (α × Buf) → Nat × Err × σ
  | [] => (o, Err.moreBytes, st)
  | [x] => P x.1 x.2 o st
  | x :: y :: rest =>
    match P x.1 x.2 o st with
    | (_, Err.moreBytes, _) => oneShotRunW P o st (y :: rest)
    | r => r

theorem oneShotRunW_rel (P : α → Parser σ) (R : Nat × Err × σ → Nat × Err × σ → Prop)
    (hverd : ∀ r1 r2, R r1 r2 → r1.2.1 = r2.2.1) (o o' : Nat) (st st' : σ) (l : List (α × Buf)) (hl : l ≠ [])
    (h : ∀ x ∈ l, R (P x.1 x.2 o' st') (P x.1 x.2 o st)) : R (oneShotRunW P o' st' l) (oneShotRunW P o st l) := by
  induction l with
  | nil => exact absurd rfl hl
  | cons x rest ih =>
    cases rest with
    | nil => exact h x List.mem_cons_self
    | cons y rest' =>
      simp only [oneShotRunW]
      have hb := h x List.mem_cons_self
      have he := hverd _ _ hb
      have ih' := ih (by simp) (fun z hz => h z (List.mem_cons_of_mem _ hz))
      rcases hp : P x.1 x.2 o st with ⟨o1, e1, s1⟩
      rcases hp' : P x.1 x.2 o' st' with ⟨o2, e2, s2⟩
      rw [hp, hp'] at hb he
      cases he
      cases e1 <;> first | exact hb | exact ih'

/-- **schedule theorem, a parser of its own at every call**: the one-step law `hP` speaks of a call `a` that suspended
    and ANY later call `a'` resumed from it; it is asked of the calls `a` with `S a` only, which all calls but the last
    have to be (a last call made with an end-of-input option need not be resumable) -/
theorem resumeRunW_rel (P : α → Parser σ) (S : α → Prop) (Inv : Buf → Nat → σ → Prop) (C : Buf → Prop)
    (R : Nat × Err × σ → Nat × Err × σ → Prop) (hrefl : ∀ r, R r r)
    (htrans : ∀ r1 r2 r3, R r1 r2 → R r2 r3 → R r1 r3) (hverd : ∀ r1 r2, R r1 r2 → r1.2.1 = r2.2.1)
    (hP : ∀ a a' b s o st o' st', S a → C b → Inv b o st → P a b o st = (o', Err.moreBytes, st') →
      R (P a' (b ++ s) o' st') (P a' (b ++ s) o st) ∧ Inv (b ++ s) o' st')
    (o : Nat) (st : σ) (l : List (α × Buf)) (hg : Growing (l.map Prod.snd)) (hC : ∀ x ∈ l, C x.2)
    (hS : ∀ x ∈ l.dropLast, S x.1) (h0 : ∀ x ∈ l.head?, Inv x.2 o st) :
    R (resumeRunW P o st l) (oneShotRunW P o st l) := by
  induction l generalizing o st with
  | nil => exact hrefl _
  | cons x rest ih =>
    cases rest with
    | nil => exact hrefl _
    | cons y rest' =>
      simp only [resumeRunW, oneShotRunW]
      have hI : Inv x.2 o st := h0 x (by simp)
      have hCb : C x.2 := hC x List.mem_cons_self
      have hd : (x :: y :: rest').dropLast = x :: (y :: rest').dropLast := rfl
      have hSx : S x.1 := hS x (by rw [hd]; exact List.mem_cons_self)
      rcases hp : P x.1 x.2 o st with ⟨o1, e1, s1⟩
      cases e1 <;> simp only <;> try exact hrefl _
      have hext := growing_ext (b := x.2) (l := (y :: rest').map Prod.snd) hg
      obtain ⟨s', hs'⟩ := hext y.2 (by simp)
      have hI' : Inv y.2 o1 s1 := by rw [hs']; exact (hP x.1 x.1 x.2 s' o st o1 s1 hSx hCb hI hp).2
      refine htrans _ _ _ (ih o1 s1 (growing_tail (b := x.2) hg) (fun z hz => hC z (List.mem_cons_of_mem _ hz))
        (fun z hz => hS z (by rw [hd]; exact List.mem_cons_of_mem _ hz))
        (by intro z hz; simp at hz; subst hz; exact hI')) ?_
      apply oneShotRunW_rel P R hverd o o1 st s1 (y :: rest') (by simp)
      intro z hz
      obtain ⟨s, hs⟩ := hext z.2 (List.mem_map_of_mem hz)
      rw [hs]
      exact (hP x.1 z.1 x.2 s o st o1 s1 hSx hCb hI hp).1

/-- with the same parser at every call `resumeRunW` is `resumeRun` -/
theorem resumeRunW_const (P : Parser σ) (o : Nat) (st : σ) (l : List Buf) :
    resumeRunW (fun _ : Unit => P) o st (l.map ((), ·)) = resumeRun P o st l ∧
    oneShotRunW (fun _ : Unit => P) o st (l.map ((), ·)) = oneShotRun P o st l := by
  induction l generalizing o st with
  | nil => exact ⟨rfl, rfl⟩
  | cons b rest ih =>
    cases rest with
    | nil => exact ⟨rfl, rfl⟩
    | cons b' rest' =>
      simp only [List.map, resumeRunW, oneShotRunW, resumeRun, oneShotRun]
      rcases P b o st with ⟨o1, e1, s1⟩
      cases e1 <;> first | exact ⟨rfl, rfl⟩ | exact ⟨(ih o1 s1).1, (ih o st).2⟩

theorem resumeRun_rel (P : Parser σ) (Inv : Buf → Nat → σ → Prop) (C : Buf → Prop)
    (R : Nat × Err × σ → Nat × Err × σ → Prop) (hrefl : ∀ r, R r r)
    (htrans : ∀ r1 r2 r3, R r1 r2 → R r2 r3 → R r1 r3) (hverd : ∀ r1 r2, R r1 r2 → r1.2.1 = r2.2.1)
    (hP : ∀ b s o st o' st', C b → Inv b o st → P b o st = (o', Err.moreBytes, st') →
      R (P (b ++ s) o' st') (P (b ++ s) o st) ∧ Inv (b ++ s) o' st')
    (o : Nat) (st : σ) (l : List Buf) (hg : Growing l) (hC : ∀ x ∈ l, C x) (h0 : ∀ b ∈ l.head?, Inv b o st) :
    R (resumeRun P o st l) (oneShotRun P o st l) := by
  have hm : (l.map ((), ·)).map Prod.snd = l := by simp [Function.comp_def]
  have := resumeRunW_rel (fun _ : Unit => P) (fun _ => True) Inv C R hrefl htrans hverd
    (fun _ _ b s o st o' st' _ => hP b s o st o' st') o st (l.map ((), ·))
    (by rw [hm]; exact hg) (fun x hx => hC x.2 (by rw [← hm]; exact List.mem_map_of_mem hx)) (fun _ _ => trivial)
    (fun x hx => h0 x.2 (by
      cases l with
      | nil => cases hx
      | cons b r => simp only [List.map_cons, List.head?_cons, Option.mem_def, Option.some.injEq] at hx; subst hx; simp))
  rwa [(resumeRunW_const P o st l).1, (resumeRunW_const P o st l).2] at this

/-- **schedule theorem**: for every growing sequence of prefixes (every way of cutting the stream), the
    chain of resumed calls returns exactly what fresh one-shot calls return — same verdict, same offset,
    same object. -/
theorem resumeRun_eq_oneShot (P : Parser σ) (hP : Resumable P) (o : Nat) (st : σ) (l : List Buf)
    (hg : Growing l) : resumeRun P o st l = oneShotRun P o st l :=
  resumeRun_rel P (fun _ _ _ => True) (fun _ => True) Eq (fun _ => rfl) (fun _ _ _ => Eq.trans)
    (fun _ _ h => h ▸ rfl) (fun b s o st o' st' _ _ hp => ⟨hP b s o st o' st' hp, trivial⟩) o st l hg
    (fun _ _ => trivial) (fun _ _ => trivial)

/-- one-step resumption law relative to an invariant of legitimately reachable (buffer, offset, object)
    triples; the invariant is re-established at every suspension, on the extended buffer -/
def ResumableI (P : Parser σ) (Inv : Buf → Nat → σ → Prop) : Prop :=
  ∀ b s o st o' st', Inv b o st → P b o st = (o', Err.moreBytes, st') →
    P (b ++ s) o' st' = P (b ++ s) o st ∧ Inv (b ++ s) o' st'

/-- **schedule theorem with invariant**: as `resumeRun_eq_oneShot`, for parsers whose resumption law
    needs the object to be legitimately reachable (e.g. fields pointing inside the buffer). -/
theorem resumeRun_eq_oneShotI (P : Parser σ) (Inv : Buf → Nat → σ → Prop) (hP : ResumableI P Inv)
    (o : Nat) (st : σ) (l : List Buf) (hg : Growing l)
    (h0 : ∀ b ∈ l.head?, Inv b o st) : resumeRun P o st l = oneShotRun P o st l :=
  resumeRun_rel P Inv (fun _ => True) Eq (fun _ => rfl) (fun _ _ _ => Eq.trans) (fun _ _ h => h ▸ rfl)
    (fun b s o st o' st' _ => hP b s o st o' st') o st l hg (fun _ _ => trivial) h0

/-! ### schedules up to an observation of the object

Some parsers keep write-only bookkeeping (e.g. the saved restart offset of the name-addr parser) whose final
value after an ERROR verdict depends on the chunking; everything a caller can read is the same. `obs` is
the projection onto what can be read. -/


/-- same offset, same verdict, same observable object -/
def ResEq (obs : σ → τ) (r1 r2 : Nat × Err × σ) : Prop :=
  r1.1 = r2.1 ∧ r1.2.1 = r2.2.1 ∧ obs r1.2.2 = obs r2.2.2

theorem ResEq.refl (obs : σ → τ) (r : Nat × Err × σ) : ResEq obs r r := ⟨rfl, rfl, rfl⟩

theorem ResEq.trans {obs : σ → τ} {r1 r2 r3 : Nat × Err × σ} (h1 : ResEq obs r1 r2) (h2 : ResEq obs r2 r3) :
    ResEq obs r1 r3 := ⟨h1.1.trans h2.1, h1.2.1.trans h2.2.1, h1.2.2.trans h2.2.2⟩

/-- the resumption law under an invariant, the two results compared up to `obs` -/
def ResumableO (P : Parser σ) (Inv : Buf → Nat → σ → Prop) (obs : σ → τ) : Prop :=
  ∀ b s o st o' st', Inv b o st → P b o st = (o', Err.moreBytes, st') →
    ResEq obs (P (b ++ s) o' st') (P (b ++ s) o st) ∧ Inv (b ++ s) o' st'

/-- **schedule theorem up to observation**: for every growing sequence of prefixes, the chain of resumed
    calls returns the offset, the verdict and the observable object of fresh one-shot calls. -/
theorem resumeRun_eq_oneShotO (P : Parser σ) (Inv : Buf → Nat → σ → Prop) (obs : σ → τ)
    (hP : ResumableO P Inv obs) (o : Nat) (st : σ) (l : List Buf) (hg : Growing l)
    (h0 : ∀ b ∈ l.head?, Inv b o st) : ResEq obs (resumeRun P o st l) (oneShotRun P o st l) :=
  resumeRun_rel P Inv (fun _ => True) (ResEq obs) (ResEq.refl obs) (fun _ _ _ => ResEq.trans) (fun _ _ h => h.2.1)
    (fun b s o st o' st' _ => hP b s o st o' st') o st l hg (fun _ _ => trivial) h0

/-! ### exact on the verdicts after which parsing goes on, up to observation on error verdicts -/

/-- the verdicts after which the caller goes on using the object (everything else is an error) -/
def Err.goesOn (e : Err) : Prop := e = .ok ∨ e = .moreBytes ∨ e = .moreValues ∨ e = .empty

/-- same offset, same verdict; the same object whenever the verdict is not an error, and the same observable
    object in any case -/
def RR (obs : σ → τ) (r1 r2 : Nat × Err × σ) : Prop :=
  r1.1 = r2.1 ∧ r1.2.1 = r2.2.1 ∧ (Err.goesOn r2.2.1 → r1.2.2 = r2.2.2) ∧ obs r1.2.2 = obs r2.2.2

theorem RR.refl (obs : σ → τ) (r : Nat × Err × σ) : RR obs r r := ⟨rfl, rfl, fun _ => rfl, rfl⟩

theorem RR.of_eq {obs : σ → τ} {r1 r2 : Nat × Err × σ} (h : r1 = r2) : RR obs r1 r2 := by
  subst h; exact RR.refl _ _

theorem RR.trans {obs : σ → τ} {r1 r2 r3 : Nat × Err × σ} (h1 : RR obs r1 r2) (h2 : RR obs r2 r3) :
    RR obs r1 r3 :=
  ⟨h1.1.trans h2.1, h1.2.1.trans h2.2.1,
   fun hg => (h1.2.2.1 (by rw [h2.2.1]; exact hg)).trans (h2.2.2.1 hg), h1.2.2.2.trans h2.2.2.2⟩

/-- exact equality when the fresh result's verdict is not an error -/
theorem RR.eq {obs : σ → τ} {r1 r2 : Nat × Err × σ} (h : RR obs r1 r2) (hg : Err.goesOn r2.2.1) : r1 = r2 := by
  obtain ⟨a1, e1, s1⟩ := r1
  obtain ⟨a2, e2, s2⟩ := r2
  obtain ⟨h1, h2, h3, _⟩ := h
  simp only at h1 h2 h3 hg
  rw [h1, h2, h3 hg]

/-- the resumption law under an invariant, the two results related by `RR` -/
def ResumableR (P : Parser σ) (Inv : Buf → Nat → σ → Prop) (obs : σ → τ) : Prop :=
  ∀ b s o st o' st', Inv b o st → P b o st = (o', Err.moreBytes, st') →
    RR obs (P (b ++ s) o' st') (P (b ++ s) o st) ∧ Inv (b ++ s) o' st'

/-- as `ResumableR`, for parsers whose resumption law needs a side condition on the buffer that was parsed
    (e.g. the documented 65,535-byte limit) -/
def ResumableRC (P : Parser σ) (Inv : Buf → Nat → σ → Prop) (obs : σ → τ) (C : Buf → Prop) : Prop :=
  ∀ b s o st o' st', C b → Inv b o st → P b o st = (o', Err.moreBytes, st') →
    RR obs (P (b ++ s) o' st') (P (b ++ s) o st) ∧ Inv (b ++ s) o' st'

/-- **schedule theorem (exact / up to observation)**: for every growing sequence of prefixes the chain of resumed
    calls returns the offset and the verdict of fresh one-shot calls, the very same object whenever that verdict is
    not an error, and the same observable object after an error. -/
theorem resumeRun_eq_oneShotRC (P : Parser σ) (Inv : Buf → Nat → σ → Prop) (obs : σ → τ) (C : Buf → Prop)
    (hP : ResumableRC P Inv obs C) (o : Nat) (st : σ) (l : List Buf) (hg : Growing l)
    (hC : ∀ x ∈ l, C x) (h0 : ∀ b ∈ l.head?, Inv b o st) :
    RR obs (resumeRun P o st l) (oneShotRun P o st l) :=
  resumeRun_rel P Inv C (RR obs) (RR.refl obs) (fun _ _ _ => RR.trans) (fun _ _ h => h.2.1) hP o st l hg hC h0

theorem resumeRun_eq_oneShotR (P : Parser σ) (Inv : Buf → Nat → σ → Prop) (obs : σ → τ)
    (hP : ResumableR P Inv obs) (o : Nat) (st : σ) (l : List Buf) (hg : Growing l)
    (h0 : ∀ b ∈ l.head?, Inv b o st) : RR obs (resumeRun P o st l) (oneShotRun P o st l) :=
  resumeRun_eq_oneShotRC P Inv obs (fun _ => True) (fun b s o st o' st' _ => hP b s o st o' st') o st l hg
    (fun _ _ => trivial) h0

/-! ### fresh calls when the last call uses another parser, and when only the last buffer matters -/

/-- the caller's loop when the end of the input is known at the last call: `P` (the parser without the option) on
    every prefix but the last, while the verdict is "more bytes"; `Pe` (the parser with the option) on the last
    buffer (the whole input); stop at the first definitive verdict. -/
def resumeRunEnd {σ : Type} (P Pe : Parser σ) (o : Nat) (st : σ) : List Buf → Nat × Err × σ
  | [] => (o, Err.moreBytes, st)
  | [b] => Pe b o st
  | b :: b' :: rest =>
    match P b o st with
    | (o', Err.moreBytes, st') => resumeRunEnd P Pe o' st' (b' :: rest)
    | r => r

/-- what FRESH calls on the same prefixes give: `P` on every prefix but the last — the first definitive verdict
    wins —, `Pe` on the last buffer -/
def mlfOneShotEnd (P Pe : Parser σ) (o : Nat) (st : σ) : List Buf → Nat × Err × σ
  | [] => (o, Err.moreBytes, st)
  | [b] => Pe b o st
  | b :: b' :: rest =>
    match P b o st with
    | (_, Err.moreBytes, _) => mlfOneShotEnd P Pe o st (b' :: rest)
    | r => r

theorem mlfOneShotEnd_same (P : Parser σ) (o : Nat) (st : σ) (l : List Buf) :
    mlfOneShotEnd P P o st l = oneShotRun P o st l := by
  induction l with
  | nil => rfl
  | cons b rest ih =>
    cases rest with
    | nil => rfl
    | cons b' rest' =>
      simp only [mlfOneShotEnd, oneShotRun]
      rcases hp : P b o st with ⟨o1, e1, s1⟩
      cases e1 <;> simp only [ih]

/-- the fresh calls reduce to ONE call of `Pe` on the last buffer when every definitive verdict of `P` on an
    earlier prefix is what `Pe` returns on the last buffer (in particular when `P` says MoreBytes on all of them) -/
theorem mlfOneShotEnd_last (P Pe : Parser σ) (o : Nat) (st : σ) (l : List Buf) (B : Buf)
    (hB : l.getLast? = some B)
    (hst : ∀ x ∈ l.dropLast, (P x o st).2.1 ≠ .moreBytes → P x o st = Pe B o st) :
    mlfOneShotEnd P Pe o st l = Pe B o st := by
  induction l with
  | nil => cases hB
  | cons b rest ih =>
    cases rest with
    | nil =>
      simp only [List.getLast?_singleton, Option.some.injEq] at hB
      subst hB; rfl
    | cons b' rest' =>
      have hB' : (b' :: rest').getLast? = some B := by
        rw [List.getLast?_cons_cons] at hB; exact hB
      have hd : (b :: b' :: rest').dropLast = b :: (b' :: rest').dropLast := rfl
      have ih' := ih hB' (fun x hx => hst x (by rw [hd]; exact List.mem_cons_of_mem _ hx))
      have hb := hst b (by rw [hd]; exact List.mem_cons_self)
      simp only [mlfOneShotEnd]
      rcases hp : P b o st with ⟨o1, e1, s1⟩
      rw [hp] at hb
      cases e1 <;> first | exact ih' | exact hb (fun h => by cases h)

/-- a buffer cut at `i`: the two pieces make it up again -/
theorem extract_cut (b : Buf) (i : Nat) : b.extract 0 i ++ b.extract i b.size = b := by
  rw [Array.extract_append_extract, Nat.zero_min, Array.extract_eq_self_of_le (Nat.le_max_right ..)]

/-- in a growing list every buffer is a prefix of the last one -/
theorem mlf_growing_last {l : List Buf} (hg : Growing l) {B : Buf} (hB : l.getLast? = some B) :
    ∀ x ∈ l, ∃ t, B = x ++ t := by
  induction l with
  | nil => cases hB
  | cons b rest ih =>
    cases rest with
    | nil =>
      simp only [List.getLast?_singleton, Option.some.injEq] at hB
      subst hB
      intro x hx
      simp only [List.mem_singleton] at hx
      subst hx
      exact ⟨#[], by simp⟩
    | cons b' rest' =>
      have hB' : (b' :: rest').getLast? = some B := by
        rw [List.getLast?_cons_cons] at hB; exact hB
      intro x hx
      rcases List.mem_cons.1 hx with rfl | hx
      · exact growing_ext hg B (List.mem_of_getLast? hB')
      · exact ih (growing_tail hg) hB' x hx

theorem mlf_growing_size_le {l : List Buf} (hg : Growing l) {B : Buf} (hB : l.getLast? = some B) :
    ∀ x ∈ l, x.size ≤ B.size := by
  intro x hx
  obtain ⟨t, ht⟩ := mlf_growing_last hg hB x hx
  rw [ht, Array.size_append]; omega

/-- a growing schedule fits the addressing range as soon as its last buffer does -/
theorem afc_fit_of_last {l : List Buf} (hg : Growing l) {B : Buf} (hB : l.getLast? = some B) (h : B.size ≤ 65535) :
    ∀ x ∈ l, x.size ≤ 65535 :=
  fun x hx => Nat.le_trans (mlf_growing_size_le hg hB x hx) h

theorem mlf_resumeRunEnd_same (P : Parser σ) (o : Nat) (st : σ) (l : List Buf) :
    resumeRunEnd P P o st l = resumeRun P o st l := by
  induction l generalizing o st with
  | nil => rfl
  | cons b rest ih =>
    cases rest with
    | nil => rfl
    | cons b' rest' =>
      simp only [resumeRunEnd, resumeRun]
      rcases hp : P b o st with ⟨o1, e1, s1⟩
      cases e1 <;> simp only [ih]

/-- index `a` for all calls but the last, `a'` for the last: the lists of `resumeRunEnd` -/
def markLast (a a' : α) : List Buf → List (α × Buf)
  | [] => []
  | [b] => [(a', b)]
  | b :: x :: rest => (a, b) :: markLast a a' (x :: rest)

theorem markLast_snd (a a' : α) (l : List Buf) : (markLast a a' l).map Prod.snd = l := by
  induction l with
  | nil => rfl
  | cons b rest ih =>
    cases rest with
    | nil => rfl
    | cons x rest' => simp only [markLast, List.map_cons, ih]

theorem resumeRunW_end (P : α → Parser σ) (a a' : α) (o : Nat) (st : σ) (l : List Buf) :
    resumeRunW P o st (markLast a a' l) = resumeRunEnd (P a) (P a') o st l ∧
    oneShotRunW P o st (markLast a a' l) = mlfOneShotEnd (P a) (P a') o st l := by
  induction l generalizing o st with
  | nil => exact ⟨rfl, rfl⟩
  | cons b rest ih =>
    cases rest with
    | nil => exact ⟨rfl, rfl⟩
    | cons b' rest' =>
      cases hm : markLast a a' (b' :: rest') with
      | nil => cases rest' <;> cases hm
      | cons y ys =>
        have ih1 := fun o st => (ih o st).1
        have ih2 := fun o st => (ih o st).2
        rw [hm] at ih1 ih2
        simp only [markLast, hm, resumeRunW, oneShotRunW, resumeRunEnd, mlfOneShotEnd]
        rcases P a b o st with ⟨o1, e1, s1⟩
        cases e1 <;> first | exact ⟨rfl, rfl⟩ | exact ⟨ih1 o1 s1, ih2 o st⟩

/-- the fresh calls over a non-empty sequence end with the call on one of its buffers -/
theorem flo_oneShotRun_mem {σ : Type} (P : Parser σ) (o : Nat) (st : σ) (l : List Buf) (hne : l ≠ []) :
    ∃ b ∈ l, oneShotRun P o st l = P b o st := by
  induction l with
  | nil => exact absurd rfl hne
  | cons b rest ih =>
    cases rest with
    | nil => exact ⟨b, List.mem_cons_self, rfl⟩
    | cons b' rest' =>
      simp only [oneShotRun]
      rcases hp : P b o st with ⟨o1, e1, s1⟩
      have hdone : e1 ≠ .moreBytes → ∃ x ∈ b :: b' :: rest', (o1, e1, s1) = P x o st :=
        fun _ => ⟨b, List.mem_cons_self, hp.symm⟩
      cases e1 <;> simp only <;> try exact hdone (by decide)
      obtain ⟨x, hx, hq⟩ := ih (by simp)
      exact ⟨x, List.mem_cons_of_mem _ hx, hq⟩

/-- fresh calls with one parser reduce to the call on the last buffer when every definitive result on an earlier
    prefix is the result on the last buffer -/
theorem oneShotRun_last (P : Parser σ) (o : Nat) (st : σ) (l : List Buf) (B : Buf) (hB : l.getLast? = some B)
    (hst : ∀ x ∈ l.dropLast, (P x o st).2.1 ≠ .moreBytes → P x o st = P B o st) :
    oneShotRun P o st l = P B o st := by
  rw [← mlfOneShotEnd_same]; exact mlfOneShotEnd_last P P o st l B hB hst

/-- **the chain against ONE call on the last buffer**: a schedule theorem (`hrr`) and stability of definitive results
    under extension (`hst`) relate the chain of resumed calls to the call on the whole input -/
theorem resumeRun_last (P : Parser σ) (obs : σ → τ) (o : Nat) (st : σ) (l : List Buf) (hg : Growing l) (B : Buf)
    (hB : l.getLast? = some B) (hrr : RR obs (resumeRun P o st l) (oneShotRun P o st l))
    (hst : ∀ x ∈ l, ∀ s o' e st', P x o st = (o', e, st') → e ≠ .moreBytes → P (x ++ s) o st = (o', e, st')) :
    RR obs (resumeRun P o st l) (P B o st) := by
  rw [← oneShotRun_last P o st l B hB fun x hx hne => ?_]
  · exact hrr
  · obtain ⟨t, rfl⟩ := mlf_growing_last hg hB x (List.dropLast_subset l hx)
    exact (hst x (List.dropLast_subset l hx) t _ _ _ rfl hne).symm

/-- a result whose verdict is not an error is the one side's iff it is the other's -/
theorem RR.iff {obs : σ → τ} {r1 r2 r : Nat × Err × σ} (h : RR obs r1 r2) (hgo : Err.goesOn r.2.1) :
    r1 = r ↔ r2 = r := by
  constructor
  · rintro rfl; exact (h.eq (by rw [← h.2.1]; exact hgo)).symm
  · rintro rfl; exact h.eq hgo

/-- what holds of the first buffer of a growing list and survives appending bytes holds of every buffer of the list -/
theorem growing_all {l : List Buf} (hg : Growing l) {H : Buf → Prop} (happ : ∀ b s, H b → H (b ++ s))
    (h0 : ∀ b ∈ l.head?, H b) : ∀ x ∈ l, H x := by
  cases l with
  | nil => nofun
  | cons b rest =>
    intro x hx
    rcases List.mem_cons.1 hx with rfl | hx
    · exact h0 _ rfl
    · obtain ⟨s, rfl⟩ := growing_ext hg x hx
      exact happ b s (h0 b rfl)

theorem mlf_triple_eta {α β γ : Type} (r : α × β × γ) {a : α} {b : β} (h1 : r.1 = a) (h2 : r.2.1 = b) :
    r = (a, b, r.2.2) := by
  subst h1 h2; rfl

end Sipsp
