/-
  Sipsp.Proofs.SfpKind — `setFromParamVal` (parse_from.go) in closed form.

  `setFromParamVal b pf` first decides which parameter it has in hand — that depends only on the buffer and the four
  saved positions (`sfpKind`) — then does one thing to the object (`sfpDo`) and clears the positions
  (`setFromParamVal_do`).  A property of `setFromParamVal` is proved by `rw [setFromParamVal_do]` and `cases` on the
  kind; `sfpKind_valued` / `sfpKind_flag` say which kind it is when the positions lie inside the buffer.
-/
import Sipsp.Model.NameAddr

namespace Sipsp

/-- **what `setQ` does to the object**: one of three record updates; which one, and with which verdict or value, is
    decided by the value text alone -/
theorem setQ_cases (val : List UInt8) :
    (∃ e, ∀ pf, setQ pf val = { pf with paramErr := e, errOffs := trunc16 pf.vstart }) ∨
    (∃ x, ∀ pf, setQ pf val = { pf with q := x }) ∨
    (∀ pf, setQ pf val = { pf with paramErr := .valTooLong, errOffs := trunc16 pf.vend }) := by
  by_cases c1 : val.length - (val.takeWhile (· != 46)).length ≤ 4
  · rcases hu : pUInt64Val (val.take (val.takeWhile (· != 46)).length) with ⟨u, e1⟩
    rcases hd : (if (e1 == Err.ok && decide ((val.takeWhile (· != 46)).length < val.length)) = true
      then pUInt64Val (val.drop ((val.takeWhile (· != 46)).length + 1)) else (0, e1)) with ⟨d, e2⟩
    by_cases c2 : (e2 == .ok) = true
    · by_cases c3 : (decide (u > 1) || decide (d > 999) || (u == 1 && decide (d > 0))) = true
      · exact .inl ⟨_, fun pf => by unfold setQ; simp only [if_pos c1, hu, hd, if_pos c2, if_pos c3]; rfl⟩
      · exact .inr (.inl ⟨_, fun pf => by unfold setQ; simp only [if_pos c1, hu, hd, if_pos c2, if_neg c3]; rfl⟩)
    · exact .inl ⟨_, fun pf => by unfold setQ; simp only [if_pos c1, hu, hd, if_neg c2]; rfl⟩
  · exact .inr (.inr fun pf => by unfold setQ; simp only [if_neg c1])

/-- `setQ` writes `q` or the error pair, nothing else -/
theorem setQ_frame (pf : PFromBody) (val : List UInt8) :
    setQ pf val = { pf with q := (setQ pf val).q, paramErr := (setQ pf val).paramErr, errOffs := (setQ pf val).errOffs } := by
  rcases setQ_cases val with ⟨e, h⟩ | ⟨x, h⟩ | h <;> rw [h]

/-- `setExpires` writes the two expiry fields, nothing else -/
theorem setExpires_frame (pf : PFromBody) (val : List UInt8) :
    setExpires pf val = { pf with hasExpires := true, expires := (setExpires pf val).expires } := by
  unfold setExpires; rcases pUInt64Val val with ⟨e, _⟩; rfl

/-- the parameter that `setFromParamVal` recognises -/
inductive SfpKind where
  | tag | expires | q | lr | other
  /-- a position outside the buffer: Go panics -/
  | panic
  /-- no name, or a value that ends before it starts -/
  | bad
  deriving DecidableEq, Repr

/-- the name of a parameter with a value, looked up -/
def sfpName (nm : Buf) : SfpKind :=
  if cmpEqL nm sTag then .tag else if cmpEqL nm sExpires then .expires else if cmpEqL nm sQ then .q
  else if cmpEqL nm sLr then .lr else .other

/-- a name without value: only `lr` is looked for -/
def sfpFlag (nm : Buf) : SfpKind := if cmpEqL nm sLr then .lr else .other

def sfpKind (b : Buf) (ps pe vs ve : Nat) : SfpKind :=
  if ps < pe && vs < ve then
    match slice? b ps pe, slice? b vs ve with
    | some nm, some _ => sfpName nm
    | _, _ => .panic
  else if ps < pe && vs == ve then
    match slice? b ps pe with
    | some nm => sfpFlag nm
    | none => .panic
  else .bad

/-- what is done to the object before the four saved positions are cleared; `val` = the value text -/
def sfpDo (pf : PFromBody) (val : List UInt8) : SfpKind → PFromBody
  | .tag => { pf with tag := PField.set pf.vstart pf.vend }
  | .expires => setExpires pf val
  | .q => setQ pf val
  | .lr => { pf with lr := true }
  | .other => pf
  | .panic => { pf with pnc := true }
  | .bad => { pf with paramErr := .valBad, errOffs := trunc16 pf.vstart }

/-- **`setFromParamVal` = look the parameter up, do its one update, clear the saved positions** -/
theorem setFromParamVal_do (b : Buf) (pf : PFromBody) :
    setFromParamVal b pf =
      (sfpDo pf (b.extract pf.vstart pf.vend).toList (sfpKind b pf.pstart pf.pend pf.vstart pf.vend)).clearPV := by
  have hval : ∀ val, slice? b pf.vstart pf.vend = some val → val = b.extract pf.vstart pf.vend := by
    intro val hv; unfold slice? at hv; split at hv <;> cases hv; rfl
  unfold setFromParamVal sfpKind sfpName sfpFlag
  rcases hn : slice? b pf.pstart pf.pend with _ | nm <;> rcases hv : slice? b pf.vstart pf.vend with _ | val
  all_goals (try cases hval val hv)
  -- both sides are the same cascade of tests: `sfpDo pf _` and `clearPV` are pushed to its leaves
  all_goals
    simp only [apply_ite (sfpDo pf (b.extract pf.vstart pf.vend).toList), apply_ite PFromBody.clearPV]
    rfl

/-- a name with a value, both inside the buffer: the name is looked up -/
theorem sfpKind_valued {b : Buf} {ps pe vs ve : Nat} (h1 : ps < pe) (h2 : vs < ve) (h3 : pe ≤ b.size) (h4 : ve ≤ b.size) :
    sfpKind b ps pe vs ve = sfpName (b.extract ps pe) := by
  unfold sfpKind slice?
  simp only [h1, h2, decide_true, Bool.and_self, if_true]
  rw [if_pos ⟨by omega, h3⟩, if_pos ⟨by omega, h4⟩]

/-- a name without value (wherever the empty value stands) -/
theorem sfpKind_flag {b : Buf} {ps pe v : Nat} (h1 : ps < pe) (h3 : pe ≤ b.size) :
    sfpKind b ps pe v v = sfpFlag (b.extract ps pe) := by
  unfold sfpKind slice?
  simp only [h1, Nat.lt_irrefl, decide_true, decide_false, Bool.and_false, Bool.false_eq_true, if_false, beq_self_eq_true,
    Bool.and_self, if_true]
  rw [if_pos ⟨by omega, h3⟩]

/-- a parameter recognised by its name with a value (`tag`, `expires`, `q`) has a name and a value that are not empty -/
theorem sfpKind_lt {b : Buf} {ps pe vs ve : Nat}
    (h : sfpKind b ps pe vs ve = .tag ∨ sfpKind b ps pe vs ve = .expires ∨ sfpKind b ps pe vs ve = .q) :
    ps < pe ∧ vs < ve := by
  unfold sfpKind sfpFlag at h
  split at h
  · rename_i hc; simpa using hc
  · exfalso
    repeat' split at h
    all_goals (rcases h with h | h | h <;> cases h)

/-- no name, or a value that ends before it starts -/
theorem sfpKind_bad {b : Buf} {ps pe vs ve : Nat} (h1 : ¬ (ps < pe ∧ vs < ve)) (h2 : ¬ (ps < pe ∧ vs = ve)) :
    sfpKind b ps pe vs ve = .bad := by
  unfold sfpKind
  rw [if_neg (by simpa using h1), if_neg (by simpa using h2)]

/-- among the reported fields only the tag can change, and only to the pending value span -/
theorem setFromParamVal_tag (b : Buf) (pf : PFromBody) :
    (setFromParamVal b pf).tag = pf.tag ∨
      (pf.vstart < pf.vend ∧ (setFromParamVal b pf).tag = PField.set pf.vstart pf.vend) := by
  rw [setFromParamVal_do]
  cases hk : sfpKind b pf.pstart pf.pend pf.vstart pf.vend
  case tag => exact Or.inr ⟨(sfpKind_lt (Or.inl hk)).2, rfl⟩
  case q => exact Or.inl (by show (setQ pf _).tag = pf.tag; rw [setQ_frame])
  all_goals exact Or.inl rfl

theorem sfpName_ne_panic (nm : Buf) : sfpName nm ≠ .panic ∧ sfpFlag nm ≠ .panic := by
  unfold sfpName sfpFlag
  constructor <;> repeat' split
  all_goals (intro hh; cases hh)

/-- with name and value inside the buffer Go does not panic -/
theorem sfpKind_inside {b : Buf} {ps pe vs ve : Nat} (h1 : pe ≤ b.size) (h2 : ve ≤ b.size) :
    sfpKind b ps pe vs ve ≠ .panic := by
  unfold sfpKind slice?
  split
  · rename_i hc; simp only [Bool.and_eq_true, decide_eq_true_eq] at hc
    rw [if_pos ⟨by omega, h1⟩, if_pos ⟨by omega, h2⟩]; exact (sfpName_ne_panic _).1
  · split
    · rename_i hc; simp only [Bool.and_eq_true, decide_eq_true_eq] at hc
      rw [if_pos ⟨by omega, h1⟩]; exact (sfpName_ne_panic _).2
    · intro hh; cases hh

/-- `setFromParamVal` stores the parameter (tag, expires, q, lr, or an error) and clears the four saved
    positions; name, URI, parameter and value ranges, state and restart offset stay -/
theorem setFromParamVal_frame (b : Buf) (pf : PFromBody) :
    (setFromParamVal b pf).name = pf.name ∧ (setFromParamVal b pf).uri = pf.uri ∧
    (setFromParamVal b pf).params = pf.params ∧ (setFromParamVal b pf).v = pf.v ∧
    (setFromParamVal b pf).s = pf.s ∧ (setFromParamVal b pf).state = pf.state ∧
    (setFromParamVal b pf).soffs = pf.soffs ∧ (setFromParamVal b pf).star = pf.star ∧
    (setFromParamVal b pf).pstart = 0 ∧ (setFromParamVal b pf).pend = 0 ∧
    (setFromParamVal b pf).vstart = 0 ∧ (setFromParamVal b pf).vend = 0 := by
  rw [setFromParamVal_do]
  cases sfpKind b pf.pstart pf.pend pf.vstart pf.vend <;> simp only [sfpDo] <;> (try rw [setQ_frame]) <;>
    exact ⟨rfl, rfl, rfl, rfl, rfl, rfl, rfl, rfl, rfl, rfl, rfl, rfl⟩

theorem setFromParamVal_name (b : Buf) (pf : PFromBody) : (setFromParamVal b pf).name = pf.name :=
  (setFromParamVal_frame b pf).1
theorem setFromParamVal_uri (b : Buf) (pf : PFromBody) : (setFromParamVal b pf).uri = pf.uri :=
  (setFromParamVal_frame b pf).2.1
theorem setFromParamVal_params (b : Buf) (pf : PFromBody) : (setFromParamVal b pf).params = pf.params :=
  (setFromParamVal_frame b pf).2.2.1
theorem setFromParamVal_v (b : Buf) (pf : PFromBody) : (setFromParamVal b pf).v = pf.v :=
  (setFromParamVal_frame b pf).2.2.2.1
theorem setFromParamVal_state (b : Buf) (pf : PFromBody) : (setFromParamVal b pf).state = pf.state :=
  (setFromParamVal_frame b pf).2.2.2.2.2.1
theorem setFromParamVal_soffs (b : Buf) (pf : PFromBody) : (setFromParamVal b pf).soffs = pf.soffs :=
  (setFromParamVal_frame b pf).2.2.2.2.2.2.1
theorem setFromParamVal_pend (b : Buf) (pf : PFromBody) : (setFromParamVal b pf).pend = 0 :=
  (setFromParamVal_frame b pf).2.2.2.2.2.2.2.2.2.1
theorem setFromParamVal_vend (b : Buf) (pf : PFromBody) : (setFromParamVal b pf).vend = 0 :=
  (setFromParamVal_frame b pf).2.2.2.2.2.2.2.2.2.2.2
theorem setFromParamVal_s (b : Buf) (pf : PFromBody) : (setFromParamVal b pf).s = pf.s :=
  (setFromParamVal_frame b pf).2.2.2.2.1
theorem setFromParamVal_pstart (b : Buf) (pf : PFromBody) : (setFromParamVal b pf).pstart = 0 :=
  (setFromParamVal_frame b pf).2.2.2.2.2.2.2.2.1
theorem setFromParamVal_vstart (b : Buf) (pf : PFromBody) : (setFromParamVal b pf).vstart = 0 :=
  (setFromParamVal_frame b pf).2.2.2.2.2.2.2.2.2.2.1

end Sipsp
