/-
  Sipsp.Proofs.Shift — position independence (L3, property C11): parsing the text `t` placed after `k = pre.size` junk
  bytes gives the result of parsing `t` at 0 shifted by `k`. The generic theorem for loop parsers (`runLoop_shift`, and
  `runLoop_shift2` for results that agree up to a relation), the lexical layer, fields, and the value parsers of
  Call-ID, unsigned integers and CSeq.
-/
import Sipsp.Proofs.SafeVals
import Sipsp.Proofs.Post

namespace Sipsp

variable {σ : Type}

theorem skipCRLF_shift (pre t : Buf) (i : Nat) :
    skipCRLF (pre ++ t) (pre.size + i) =
      (pre.size + (skipCRLF t i).1, (skipCRLF t i).2.1, (skipCRLF t i).2.2) := by
  unfold skipCRLF
  rw [get?_shift1, get?_shift]
  cases h1 : t[i + 1]? <;> cases h0 : t[i]? <;> simp only
  · split <;> rfl
  · rename_i c1 c0
    split
    · split
      · exact Prod.ext (by simp only; omega) rfl
      · exact Prod.ext (by simp only; omega) rfl
    · split
      · exact Prod.ext (by simp only; omega) rfl
      · rfl

theorem skipToken_shift (pre t : Buf) (i : Nat) : skipToken (pre ++ t) (pre.size + i) = pre.size + skipToken t i := by
  rw [skipToken_eq]; exact scanTo_shift _ pre t i

theorem skipTokenDelim_shift (pre t : Buf) (i : Nat) (d : UInt8) :
    skipTokenDelim (pre ++ t) (pre.size + i) d = pre.size + skipTokenDelim t i d := by
  rw [skipTokenDelim_eq, skipTokenDelim_eq]; exact scanTo_shift _ pre t i

theorem skipWS_shift (pre t : Buf) (i : Nat) : skipWS (pre ++ t) (pre.size + i) = pre.size + skipWS t i := by
  rw [skipWS_eq]; exact scanTo_shift _ pre t i

theorem lexMap_shift (pre t : Buf) : LexMap t (pre ++ t) pre.size :=
  ⟨fun h => ⟨_, by rw [Nat.add_comm, get?_shift]; exact h, .refl _⟩, fun h => by rw [Nat.add_comm, get?_shift]; exact h,
    by rw [Array.size_append, Nat.add_comm]⟩

theorem skipLWS_shift (pre t : Buf) (i flags : Nat) :
    skipLWS (pre ++ t) (pre.size + i) flags =
      (pre.size + (skipLWS t i flags).1, (skipLWS t i flags).2.1, (skipLWS t i flags).2.2) := by
  rw [Nat.add_comm pre.size i, Nat.add_comm pre.size]; exact skipLWS_map (lexMap_shift pre t) i flags

/-- the shifted image of a step / of a result, for a state translation `sh` -/
def shStep (k : Nat) (sh : σ → σ) : Step σ → Step σ
  | .cont i st => .cont (k + i) (sh st)
  | .done o e st => .done (k + o) e (sh st)

def shRes (k : Nat) (sh : σ → σ) (r : Nat × Err × σ) : Nat × Err × σ := (k + r.1, r.2.1, sh r.2.2)

/-! #### the relational form: finishing steps agree up to a relation `R` on the returned states -/

/-- the step `X` on the moved buffer is the moved step `Y`: continuing steps exactly, finishing steps up to `R` -/
def smStepRel (k : Nat) (sh : σ → σ) (R : Err → σ → σ → Prop) : Step σ → Step σ → Prop
  | .cont i1 s1, .cont i s => i1 = k + i ∧ s1 = sh s
  | .done o1 e1 s1, .done o e s => o1 = k + o ∧ e1 = e ∧ R e s1 s
  | _, _ => False

def smResRel (k : Nat) (R : Err → σ → σ → Prop) (r1 r : Nat × Err × σ) : Prop :=
  r1.1 = k + r.1 ∧ r1.2.1 = r.2.1 ∧ R r.2.1 r1.2.2 r.2.2

theorem smStepRel_of_eq {k : Nat} {sh : σ → σ} {R : Err → σ → σ → Prop} {X Y : Step σ}
    (hrefl : ∀ e s, R e (sh s) s) (h : X = shStep k sh Y) : smStepRel k sh R X Y := by
  subst h
  cases Y with
  | cont i s => exact ⟨rfl, rfl⟩
  | done o e s => exact ⟨rfl, rfl, hrefl e s⟩

theorem smResRel_of_eq {k : Nat} {sh : σ → σ} {R : Err → σ → σ → Prop} {r1 r : Nat × Err × σ}
    (hrefl : ∀ e s, R e (sh s) s) (h : r1 = shRes k sh r) : smResRel k R r1 r := by
  subst h
  exact ⟨rfl, rfl, hrefl _ _⟩

/-- the run of `m'` on `pre ++ t` from the moved configuration against the run of `m` on `t` (two machines: the
    token-parameter machine depends on the start offset of the call): continuing steps agree exactly (`sh`), finishing
    steps and the end-of-buffer exit up to `R`; `hlb` is about the loop artefact `lbug` -/
theorem runLoop_shift2 (m m' : Machine σ) (pre t : Buf) (sh : σ → σ) (R : Err → σ → σ → Prop) (Inv : Nat → σ → Prop)
    (hinv : ∀ i c st i' st', t[i]? = some c → Inv i st → m.step t i c st = .cont i' st' → i < i' → Inv i' st')
    (hstep : ∀ i c st, t[i]? = some c → Inv i st →
      smStepRel pre.size sh R (m'.step (pre ++ t) (pre.size + i) c (sh st)) (m.step t i c st))
    (heob : ∀ i st, t[i]? = none → Inv i st →
      smResRel pre.size R (m'.eob (pre ++ t) (pre.size + i) (sh st)) (m.eob t i st))
    (hlb : ∀ i c st i' st', t[i]? = some c → Inv i st → m.step t i c st = .cont i' st' → ¬ i < i' →
      R .lbug (sh st') st')
    (i : Nat) (st : σ) (hI : Inv i st) :
    smResRel pre.size R (runLoop m' (pre ++ t) (pre.size + i) (sh st)) (runLoop m t i st) :=
  runLoop_rel m' m (pre ++ t) t (fun i1 s1 i2 s2 => i1 = pre.size + i2 ∧ s1 = sh s2 ∧ Inv i2 s2) (smResRel pre.size R)
    (fun _ _ j sj ⟨h1, h2, hJ⟩ hb => by subst h1 h2; exact ⟨by rw [get?_shift]; exact hb, heob j sj hb hJ⟩)
    (fun _ _ j sj c ⟨h1, h2, hJ⟩ hb => by
      subst h1 h2
      refine ⟨c, by rw [get?_shift]; exact hb, ?_⟩
      have h := hstep j c sj hb hJ
      cases hq : m.step t j c sj with
      | cont j' sj' =>
        cases hq' : m'.step (pre ++ t) (pre.size + j) c (sh sj) with
        | done o1 e1 s1 => rw [hq, hq'] at h; exact h.elim
        | cont i1 s1 =>
          rw [hq, hq'] at h
          obtain ⟨rfl, rfl⟩ := h
          exact ⟨by omega, fun hlt => ⟨rfl, rfl, hinv j c sj j' sj' hb hJ hq hlt⟩,
            fun hnl => ⟨rfl, rfl, hlb j c sj j' sj' hb hJ hq hnl⟩⟩
      | done o e sj' =>
        cases hq' : m'.step (pre ++ t) (pre.size + j) c (sh sj) with
        | cont i1 s1 => rw [hq, hq'] at h; exact h.elim
        | done o1 e1 s1 => rw [hq, hq'] at h; exact h)
    ⟨rfl, rfl, hI⟩

/-- [C11] L3, generic: if every step on the shifted buffer, from the translated state, is the translated step (for
    states satisfying an invariant that continuing steps preserve), then the whole loop commutes with the shift -/
theorem runLoop_shift (m : Machine σ) (pre t : Buf) (sh : σ → σ) (Inv : Nat → σ → Prop)
    (hinv : ∀ i c st i' st', t[i]? = some c → Inv i st → m.step t i c st = .cont i' st' → i < i' → Inv i' st')
    (hstep : ∀ i c st, t[i]? = some c → Inv i st →
      m.step (pre ++ t) (pre.size + i) c (sh st) = shStep pre.size sh (m.step t i c st))
    (heob : ∀ i st, t[i]? = none → Inv i st →
      m.eob (pre ++ t) (pre.size + i) (sh st) = shRes pre.size sh (m.eob t i st))
    (i : Nat) (st : σ) (hI : Inv i st) :
    runLoop m (pre ++ t) (pre.size + i) (sh st) = shRes pre.size sh (runLoop m t i st) := by
  have h := runLoop_shift2 m m pre t sh (fun _ s1 s => s1 = sh s) Inv hinv
    (fun i c st hb hI => smStepRel_of_eq (fun _ _ => rfl) (hstep i c st hb hI))
    (fun i st hb hI => smResRel_of_eq (fun _ _ => rfl) (heob i st hb hI)) (fun _ _ _ _ _ _ _ _ _ => rfl) i st hI
  exact Prod.ext h.1 (Prod.ext h.2.1 h.2.2)

theorem lwsStd_shift (pre t : Buf) (i : Nat) (st : σ) (sh : σ → σ)
    (eoh eohB : σ → Nat → Nat → Nat → Nat × Err × σ) (mb : σ → σ)
    (heoh : ∀ n crl, eohB (sh st) (pre.size + i) (pre.size + n) crl = shRes pre.size sh (eoh st i n crl))
    (hmb : mb (sh st) = sh (mb st)) :
    lwsStd (pre ++ t) (pre.size + i) (sh st) eohB mb = shStep pre.size sh (lwsStd t i st eoh mb) := by
  unfold lwsStd
  rw [skipLWS_shift]
  rcases hq : skipLWS t i 0 with ⟨n, crl, e⟩
  cases e <;> simp only [shStep]
  case eoh => rw [heoh]; rfl
  case moreBytes => rw [hmb]

def shF (k : Nat) (f : PField) : PField := ⟨f.offs + k, f.len⟩

theorem set_shift (k s e : Nat) (h : k + s ≤ 65535) : PField.set (k + s) (k + e) = shF k (PField.set s e) := by
  unfold PField.set shF trunc16
  have h1 : (k + s) % 65536 = s % 65536 + k := by
    rw [Nat.mod_eq_of_lt (by omega), Nat.mod_eq_of_lt (by omega)]; omega
  have h2 : k + e - (k + s) = e - s := by omega
  rw [h1, h2]

theorem setPanics_shift (k s e : Nat) : PField.setPanics (k + s) (k + e) = PField.setPanics s e := by
  unfold PField.setPanics
  exact decide_eq_decide.mpr ⟨fun h => by omega, fun h => by omega⟩

theorem extend_shift (k : Nat) (f : PField) (e : Nat) (h : k + e ≤ 65535) :
    (shF k f).extend (k + e) = shF k (f.extend e) := by
  unfold PField.extend shF trunc16
  simp only
  congr 1
  rw [Nat.mod_eq_of_lt (a := k + e) (by omega), Nat.mod_eq_of_lt (a := e) (by omega)]
  congr 1
  omega

theorem extendPanics_shift (k : Nat) (f : PField) (e : Nat) :
    (shF k f).extendPanics (k + e) = f.extendPanics e := by
  unfold PField.extendPanics shF
  exact decide_eq_decide.mpr ⟨fun h => by simp only at h; omega, fun h => by simp only; omega⟩

theorem get?_shiftF (pre t : Buf) (f : PField) (hin : f.inside t.size) (hfit : pre.size + t.size ≤ 65535) :
    (shF pre.size f).get? (pre ++ t) = f.get? t := by
  unfold PField.inside at hin
  unfold PField.get? PField.endT shF trunc16
  simp only
  rw [Nat.mod_eq_of_lt (a := f.offs + pre.size + f.len) (by omega), Nat.mod_eq_of_lt (a := f.offs + f.len) (by omega)]
  rw [if_pos ⟨by omega, by rw [Array.size_append]; omega⟩, if_pos ⟨by omega, hin⟩]
  congr 1
  apply Array.ext
  · simp [Array.size_extract, Array.size_append]; omega
  · intro j h1 h2
    simp only [Array.getElem_extract]
    rw [Array.getElem_append_right (by omega)]
    congr 1
    omega

def shCi (k : Nat) (st : PCallIDBody) : PCallIDBody :=
  match st.state with
  | .init => st
  | .found => { st with soffs := st.soffs + k }
  | .fend => { st with callID := shF k st.callID, soffs := st.soffs + k }
  | .fin => { st with callID := shF k st.callID }

theorem shCi_state (k : Nat) (st : PCallIDBody) : (shCi k st).state = st.state := by
  unfold shCi; split <;> rfl

theorem ciEOH_shift (k : Nat) (st : PCallIDBody) (i n crl : Nat) (h : k + st.soffs ≤ 65535) :
    ciEOH (shCi k st) (k + i) (k + n) crl = shRes k (shCi k) (ciEOH st i n crl) := by
  unfold ciEOH shRes
  rw [shCi_state]
  cases hst : st.state <;> simp only
  case init => exact Prod.ext (by simp only; omega) (by simp [shCi, hst])
  case fin => exact Prod.ext (by simp only; omega) (by simp [shCi, hst])
  case fend => exact Prod.ext (by simp only; omega) (by simp [shCi, hst])
  case found =>
    refine Prod.ext (by simp only; omega) ?_
    simp only [shCi, hst, ciSetCallID]
    rw [Nat.add_comm st.soffs k, set_shift k st.soffs i h, setPanics_shift]

theorem ciStep_shift (pre t : Buf) (i : Nat) (c : UInt8) (st : PCallIDBody) (hS : CiSafe t i st)
    (hfit : pre.size + t.size ≤ 65535) :
    ciStep (pre ++ t) (pre.size + i) c (shCi pre.size st) = shStep pre.size (shCi pre.size) (ciStep t i c st) := by
  have hso : pre.size + st.soffs ≤ 65535 := by have := hS.soffs; have := hS.hi; omega
  have hs := shCi_state pre.size st
  have tr := ciStep_tr t i c st
  generalize ciStep t i c st = r at tr ⊢
  cases tr with
  | lws hl hg =>
    rw [(CiTr.lws hl (by rw [hs]; exact hg)).eq]
    exact lwsStd_shift pre t i _ (shCi pre.size) ciEOH ciEOH id (fun n crl => ciEOH_shift pre.size _ i n crl hso) rfl
  | lwsId hl hst =>
    have e1 : ({ ciSetCallID (shCi pre.size st) (pre.size + i) with state := CIState.fend } : PCallIDBody) =
        shCi pre.size { ciSetCallID st i with state := .fend } := by
      simp only [shCi, hst, ciSetCallID]
      rw [Nat.add_comm st.soffs pre.size, set_shift pre.size st.soffs i hso, setPanics_shift]
    rw [(CiTr.lwsId hl (hs.trans hst)).eq, e1]
    exact lwsStd_shift pre t i _ (shCi pre.size) ciEOH ciEOH id
      (fun n crl => ciEOH_shift pre.size _ i n crl (by show pre.size + st.soffs ≤ 65535; exact hso)) rfl
  | start hl hst =>
    rw [(CiTr.start hl (hs.trans hst)).eq]; simp only [shStep]; rw [Nat.add_assoc]; simp [shCi, hst]; omega
  | skip hg => rw [(CiTr.skip (by rw [hs]; exact hg)).eq]; simp only [shStep]; rw [Nat.add_assoc]
  | bad hl hg => rw [(CiTr.bad hl (hs.trans hg)).eq]; rfl

/-- [C11] ParseCallIDVal is position independent -/
theorem parseCallIDVal_shift (pre t : Buf) (o : Nat) (st : PCallIDBody) (hS : CiSafe t o st)
    (hfit : pre.size + t.size ≤ 65535) :
    parseCallIDVal (pre ++ t) (pre.size + o) (shCi pre.size st) =
      shRes pre.size (shCi pre.size) (parseCallIDVal t o st) := by
  unfold parseCallIDVal
  rw [shCi_state]
  split
  · rfl
  · exact runLoop_shift ciMachine pre t (shCi pre.size) (CiSafe t)
      (fun i c s i' s' hb hI hs _ => (ciStep_safe t i c s hb hI).cont hs)
      (fun i c s hb hI => ciStep_shift pre t i c s hI hfit)
      (fun i s _ _ => rfl) o st hS

def shCl (k : Nat) (st : PUIntBody) : PUIntBody :=
  match st.state with
  | .init => st
  | .found => { st with soffs := st.soffs + k }
  | .fend => { st with sVal := shF k st.sVal, soffs := st.soffs + k }
  | .fin => { st with sVal := shF k st.sVal }

theorem shCl_state (k : Nat) (st : PUIntBody) : (shCl k st).state = st.state := by
  unfold shCl; split <;> rfl

theorem shCl_uiVal (k : Nat) (st : PUIntBody) : (shCl k st).uiVal = st.uiVal := by
  unfold shCl; split <;> rfl

theorem clEOH_shift (k : Nat) (st : PUIntBody) (i n crl : Nat) (h : k + st.soffs ≤ 65535) :
    clEOH (shCl k st) (k + i) (k + n) crl = shRes k (shCl k) (clEOH st i n crl) := by
  unfold clEOH shRes
  rw [shCl_state]
  cases hst : st.state <;> simp only
  case init => exact Prod.ext (by simp only; omega) (by simp [shCl, hst])
  case fin => exact Prod.ext (by simp only; omega) (by simp [shCl, hst])
  case fend => exact Prod.ext (by simp only; omega) (by simp [shCl, hst])
  case found =>
    refine Prod.ext (by simp only; omega) ?_
    simp only [shCl, hst, clSetSVal]
    rw [Nat.add_comm st.soffs k, set_shift k st.soffs i h, setPanics_shift]

theorem clStep_shift (pre t : Buf) (i : Nat) (c : UInt8) (st : PUIntBody) (hS : ClSafe t i st)
    (hfit : pre.size + t.size ≤ 65535) :
    clStep (pre ++ t) (pre.size + i) c (shCl pre.size st) = shStep pre.size (shCl pre.size) (clStep t i c st) := by
  have hso : pre.size + st.soffs ≤ 65535 := by have := hS.soffs; have := hS.hi; omega
  have hs := shCl_state pre.size st
  have tr := clStep_tr t i c st
  generalize clStep t i c st = r at tr ⊢
  cases tr with
  | lws hl hg =>
    rw [(ClTr.lws hl (by rw [hs]; exact hg)).eq]
    exact lwsStd_shift pre t i _ (shCl pre.size) clEOH clEOH id (fun n crl => clEOH_shift pre.size _ i n crl hso) rfl
  | lwsNum hl hst =>
    have e1 : ({ clSetSVal (shCl pre.size st) (pre.size + i) with state := CLState.fend } : PUIntBody) =
        shCl pre.size { clSetSVal st i with state := .fend } := by
      simp only [shCl, hst, clSetSVal]
      rw [Nat.add_comm st.soffs pre.size, set_shift pre.size st.soffs i hso, setPanics_shift]
    rw [(ClTr.lwsNum hl (hs.trans hst)).eq, e1]
    exact lwsStd_shift pre t i _ (shCl pre.size) clEOH clEOH id
      (fun n crl => clEOH_shift pre.size _ i n crl (by show pre.size + st.soffs ≤ 65535; exact hso)) rfl
  | digit0 hl hd hst =>
    rw [(ClTr.digit0 hl hd (hs.trans hst)).eq]; simp only [shStep]; rw [Nat.add_assoc]; simp [shCl, hst]; omega
  | digit hl hd hst hv =>
    rw [(ClTr.digit hl hd (hs.trans hst) (by rw [shCl_uiVal]; exact hv)).eq]
    simp only [shStep]; rw [Nat.add_assoc]; simp [shCl, hst]
  | tooBig hl hd hst hv => rw [(ClTr.tooBig hl hd (hs.trans hst) (by rw [shCl_uiVal]; exact hv)).eq]; rfl
  | skip hg hc => rw [(ClTr.skip (hs.trans hg) hc).eq]; simp only [shStep]; rw [Nat.add_assoc]
  | bad hl hg => rw [(ClTr.bad hl (by rw [hs]; exact hg)).eq]; rfl

/-- [C11] ParseUIntVal (= ParseExpiresVal) is position independent -/
theorem parseUIntVal_shift (pre t : Buf) (o : Nat) (st : PUIntBody) (hS : ClSafe t o st)
    (hfit : pre.size + t.size ≤ 65535) :
    parseUIntVal (pre ++ t) (pre.size + o) (shCl pre.size st) =
      shRes pre.size (shCl pre.size) (parseUIntVal t o st) := by
  unfold parseUIntVal
  rw [shCl_state]
  split
  · rfl
  · exact runLoop_shift clMachine pre t (shCl pre.size) (ClSafe t)
      (fun i c s i' s' hb hI hs _ => (clStep_safe t i c s hb hI).cont hs)
      (fun i c s hb hI => clStep_shift pre t i c s hI hfit)
      (fun i s _ _ => rfl) o st hS

/-- [C11] ParseCLenVal is position independent (its "number too big" exit points back at the value: also moved) -/
theorem parseCLenVal_shift (pre t : Buf) (o : Nat) (st : PUIntBody) (hS : ClSafe t o st)
    (hfit : pre.size + t.size ≤ 65535) :
    parseCLenVal (pre ++ t) (pre.size + o) (shCl pre.size st) =
      shRes pre.size (shCl pre.size) (parseCLenVal t o st) := by
  unfold parseCLenVal
  rw [parseUIntVal_shift pre t o st hS hfit]
  rcases hp : parseUIntVal t o st with ⟨o1, e1, s1⟩
  cases e1 <;> simp only [shRes]
  case ok =>
    have hf : s1.state = .fin := (parseUIntVal_post t o st hS.hi hp).2.2.1
    have h1 : (shCl pre.size s1).sVal = shF pre.size s1.sVal := by simp [shCl, hf]
    rw [h1, shCl_uiVal]
    show (if (decide (s1.sVal.len > MaxCLenValueSize) || decide (s1.uiVal > MaxClenValue)) = true then _ else _) = _
    split
    · exact Prod.ext (by simp only [shF]; omega) rfl
    · rfl

/-- the saved restart offset of a finished object is 0 after success and stale after the "number too big" error -/
def shSoffsFin (k s : Nat) : Nat := if s = 0 then 0 else s + k

def shCs (k : Nat) (st : PCSeqBody) : PCSeqBody :=
  match st.state with
  | .init => st
  | .foundDigit => { st with soffs := st.soffs + k }
  | .endDigit => { st with cseq := shF k st.cseq, v := shF k st.v, soffs := st.soffs + k }
  | .foundMethod => { st with cseq := shF k st.cseq, v := shF k st.v, soffs := st.soffs + k }
  | .fend => { st with cseq := shF k st.cseq, v := shF k st.v, method := shF k st.method, soffs := st.soffs + k }
  | .fin => { st with cseq := shF k st.cseq, v := shF k st.v, method := shF k st.method,
                      soffs := shSoffsFin k st.soffs }

theorem shCs_state (k : Nat) (st : PCSeqBody) : (shCs k st).state = st.state := by
  unfold shCs; split <;> rfl

theorem shCs_cseqNo (k : Nat) (st : PCSeqBody) : (shCs k st).cseqNo = st.cseqNo := by
  unfold shCs; split <;> rfl

/-- positions known to be at least 1 (so that "0 = not set" means the same in both runs) -/
def CsPos (i : Nat) (st : PCSeqBody) : Prop :=
  (st.state ≠ .init → 1 ≤ i) ∧ ((st.state = .foundMethod ∨ st.state = .fend) → 1 ≤ st.soffs)

theorem csFinish_shift (pre t : Buf) (st st' : PCSeqBody) (n crl : Nat) (hfit : pre.size + t.size ≤ 65535)
    (h1 : st'.cseq = shF pre.size st.cseq) (h2 : st'.v = shF pre.size st.v)
    (h3 : st'.method = shF pre.size st.method) (h4 : st'.soffs = st.soffs + pre.size)
    (h5 : st'.cseqNo = st.cseqNo) (h6 : st'.methodNo = st.methodNo) (h7 : st'.pnc = st.pnc)
    (hs : 1 ≤ st.soffs) (hm : st.method.inside t.size) :
    csFinish st' (pre ++ t) (pre.size + n) crl = shRes pre.size (shCs pre.size) (csFinish st t n crl) := by
  unfold csFinish shRes
  simp only
  rw [h1, h3, h5, get?_shiftF pre t st.method hm hfit]
  have hlen : (shF pre.size st.cseq).len = st.cseq.len := rfl
  rw [hlen]
  have hfinS : ∀ x : PCSeqBody, x.state = .fin → shCs pre.size x =
      { x with cseq := shF pre.size x.cseq, v := shF pre.size x.v, method := shF pre.size x.method,
               soffs := shSoffsFin pre.size x.soffs } := by
    intro x hx; unfold shCs; rw [hx]
  split
  · refine Prod.ext (by simp only [shF]; omega) (Prod.ext rfl ?_)
    simp only
    rw [hfinS _ rfl]
    have : shSoffsFin pre.size st.soffs = st.soffs + pre.size := by unfold shSoffsFin; rw [if_neg (by omega)]
    simp only [this]
    cases st; cases st'; simp_all
  · cases hg : st.method.get? t with
    | none =>
      simp only
      refine Prod.ext (by simp only; omega) (Prod.ext rfl ?_)
      simp only
      rw [hfinS _ rfl]
      simp only [shSoffsFin, ↓reduceIte]
      cases st; cases st'; simp_all
    | some nm =>
      simp only
      refine Prod.ext (by simp only; omega) (Prod.ext rfl ?_)
      simp only
      rw [hfinS _ rfl]
      simp only [shSoffsFin, ↓reduceIte]
      cases st; cases st'; simp_all

theorem csSetMethod_shift (k : Nat) (st : PCSeqBody) (i : Nat) (hst : st.state = .foundMethod)
    (h1 : k + st.soffs ≤ 65535) (h2 : k + i ≤ 65535) :
    csSetMethod (shCs k st) (k + i) =
      { csSetMethod st i with cseq := shF k st.cseq, v := shF k (st.v.extend i),
                              method := shF k (PField.set st.soffs i), soffs := st.soffs + k } := by
  simp only [shCs, hst, csSetMethod]
  rw [Nat.add_comm st.soffs k, set_shift k st.soffs i h1, setPanics_shift, extend_shift k st.v i h2,
    extendPanics_shift]

theorem csEOH_shift (pre t : Buf) (st : PCSeqBody) (i n crl : Nat) (hfit : pre.size + t.size ≤ 65535)
    (hi : i ≤ t.size) (hso : st.soffs ≤ i) (hm : st.method.inside i) (hP : CsPos i st) :
    csEOH (pre ++ t) (shCs pre.size st) (pre.size + i) (pre.size + n) crl =
      shRes pre.size (shCs pre.size) (csEOH t st i n crl) := by
  unfold csEOH
  rw [shCs_state]
  cases hst : st.state <;> simp only
  case init => exact Prod.ext (by simp only [shRes]; omega) (by simp [shRes, shCs, hst])
  case foundDigit => exact Prod.ext (by simp only [shRes]; omega) (by simp [shRes, shCs, hst])
  case endDigit => exact Prod.ext (by simp only [shRes]; omega) (by simp [shRes, shCs, hst])
  case fin => exact Prod.ext (by simp only [shRes]; omega) (by simp [shRes, shCs, hst])
  case fend =>
    exact csFinish_shift pre t st (shCs pre.size st) n crl hfit (by simp [shCs, hst]) (by simp [shCs, hst])
      (by simp [shCs, hst]) (by simp [shCs, hst]) (by simp [shCs, hst]) (by simp [shCs, hst]) (by simp [shCs, hst])
      (hP.2 (Or.inr hst)) (PField.inside_mono hm hi)
  case foundMethod =>
    rw [csSetMethod_shift pre.size st i hst (by omega) (by omega)]
    exact csFinish_shift pre t (csSetMethod st i) _ n crl hfit rfl rfl rfl rfl rfl rfl rfl
      (by show 1 ≤ st.soffs; exact hP.2 (Or.inl hst))
      (by show (PField.set st.soffs i).inside t.size; exact set_inside _ _ _ hso hi)

theorem CsPos.mono {o o' : Nat} {st : PCSeqBody} (h : CsPos o st) (h1 : o ≤ o') : CsPos o' st :=
  ⟨fun hh => by have := h.1 hh; omega, h.2⟩

theorem csStep_pos (t : Buf) (i : Nat) (c : UInt8) (st : PCSeqBody) (hb : t[i]? = some c) (hP : CsPos i st) :
    StepAll2 CsPos (fun n e s => e = .moreBytes → CsPos n s) (csStep t i c st) := by
  have hlt := get?_lt hb
  have key : ∀ s1 : PCSeqBody, CsPos i s1 →
      StepAll2 CsPos (fun n e s => e = .moreBytes → CsPos n s) (lwsStd t i s1 (csEOH t) id) := fun s1 h1 =>
    lwsStd_all2 t i s1 (csEOH t) id _ _ (by omega) (fun n a _ => h1.mono a)
      (fun n a _ _ => h1.mono a) (fun n crl _ _ _ hh => absurd hh (csEOH_ne_more t s1 i n crl))
  have h1i : st.state ≠ .init → 1 ≤ i := hP.1
  have t' := csStep_tr t i c st
  generalize csStep t i c st = r at t' ⊢
  cases t' with
  | lws => exact key st hP
  | lwsNum _ hst =>
    exact key _ ⟨fun _ => h1i (by rw [hst]; decide), fun hh => by rcases hh with hh | hh <;> cases hh⟩
  | lwsMeth _ hst => exact key _ ⟨fun _ => h1i (by rw [hst]; decide), fun _ => hP.2 (Or.inl hst)⟩
  | digit0 => exact ⟨fun _ => by omega, fun hh => by rcases hh with hh | hh <;> cases hh⟩
  | digit _ _ hst => exact ⟨fun _ => by omega, fun hh => by rw [hst] at hh; rcases hh with hh | hh <;> cases hh⟩
  | tooBig | bad => exact fun hh => by cases hh
  | meth0 _ hst => exact ⟨fun _ => by omega, fun _ => h1i (by rw [hst]; decide)⟩
  | skip => exact hP.mono (by omega)

/-- the update of `case csFoundDigit` on white space -/
def csEndDigit (st : PCSeqBody) (i : Nat) : PCSeqBody :=
  { st with cseq := PField.set st.soffs i, v := PField.set st.soffs i, state := .endDigit, pnc := st.pnc || PField.setPanics st.soffs i }

theorem csStep_shift (pre t : Buf) (i : Nat) (c : UInt8) (st : PCSeqBody) (hS : CsSafe t i st) (hP : CsPos i st)
    (hfit : pre.size + t.size ≤ 65535) :
    csStep (pre ++ t) (pre.size + i) c (shCs pre.size st) = shStep pre.size (shCs pre.size) (csStep t i c st) := by
  have hi := hS.hi
  have hso := hS.soffs
  have hlws : ∀ s1 : PCSeqBody, s1.soffs ≤ i → s1.method.inside i → CsPos i s1 →
      lwsStd (pre ++ t) (pre.size + i) (shCs pre.size s1) (csEOH (pre ++ t)) id =
        shStep pre.size (shCs pre.size) (lwsStd t i s1 (csEOH t) id) := by
    intro s1 hso1 hm1 hP1
    exact lwsStd_shift pre t i s1 (shCs pre.size) (csEOH t) (csEOH (pre ++ t)) id
      (fun n crl => csEOH_shift pre t s1 i n crl hfit hi hso1 hm1 hP1) rfl
  -- the moved run takes the transition of the run on `t`: same tests, the moved object
  have hs := shCs_state pre.size st
  have tr := csStep_tr t i c st
  generalize csStep t i c st = r at tr ⊢
  cases tr with
  | lws hl hg => rw [(CsTr.lws hl (by rw [hs]; exact hg)).eq]; exact hlws st hso hS.method hP
  | lwsNum hl hst =>
    have e1 : csEndDigit (shCs pre.size st) (pre.size + i) = shCs pre.size (csEndDigit st i) := by
      simp only [shCs, hst, csEndDigit]
      rw [Nat.add_comm st.soffs pre.size, set_shift pre.size st.soffs i (by omega), setPanics_shift]
    rw [(CsTr.lwsNum hl (hs.trans hst)).eq]
    show lwsStd (pre ++ t) (pre.size + i) (csEndDigit (shCs pre.size st) (pre.size + i)) _ _ =
      shStep _ _ (lwsStd t i (csEndDigit st i) _ _)
    rw [e1]
    exact hlws _ hso hS.method ⟨fun _ => hP.1 (by rw [hst]; decide), fun hh => by rcases hh with hh | hh <;> cases hh⟩
  | lwsMeth hl hst =>
    have e1 : ({ csSetMethod (shCs pre.size st) (pre.size + i) with state := CSState.fend } : PCSeqBody) =
        shCs pre.size { csSetMethod st i with state := .fend } := by
      rw [csSetMethod_shift pre.size st i hst (by omega) (by omega)]
      simp only [shCs, csSetMethod]
    rw [(CsTr.lwsMeth hl (hs.trans hst)).eq, e1]
    exact hlws _ hso (set_inside _ _ _ hso (Nat.le_refl _)) ⟨fun _ => hP.1 (by rw [hst]; decide), fun _ => by
      show 1 ≤ st.soffs; exact hP.2 (Or.inl hst)⟩
  | digit0 hl hd hst =>
    rw [(CsTr.digit0 hl hd (hs.trans hst)).eq]; simp only [shStep]; rw [Nat.add_assoc]; simp [shCs, hst]; omega
  | digit hl hd hst hv =>
    rw [(CsTr.digit hl hd (hs.trans hst) (by rw [shCs_cseqNo]; exact hv)).eq]
    simp only [shStep]; rw [Nat.add_assoc]; simp [shCs, hst]
  | tooBig hl hd hst hv => rw [(CsTr.tooBig hl hd (hs.trans hst) (by rw [shCs_cseqNo]; exact hv)).eq]; rfl
  | meth0 hl hst =>
    rw [(CsTr.meth0 hl (hs.trans hst)).eq]; simp only [shStep]; rw [Nat.add_assoc]; simp [shCs, hst]; omega
  | skip hg => rw [(CsTr.skip (by rw [hs]; exact hg)).eq]; simp only [shStep]; rw [Nat.add_assoc]
  | bad hl hg => rw [(CsTr.bad hl (by rw [hs]; exact hg)).eq]; rfl

/-- [C11] ParseCSeqVal is position independent (number, method number and verdict unchanged; the three fields and the
    returned offset — also the one pointing back at an oversized number — moved by exactly `k`) -/
theorem parseCSeqVal_shift (pre t : Buf) (o : Nat) (st : PCSeqBody) (hS : CsSafe t o st) (hP : CsPos o st)
    (hfit : pre.size + t.size ≤ 65535) :
    parseCSeqVal (pre ++ t) (pre.size + o) (shCs pre.size st) =
      shRes pre.size (shCs pre.size) (parseCSeqVal t o st) := by
  unfold parseCSeqVal
  rw [shCs_state]
  split
  · rfl
  · exact runLoop_shift csMachine pre t (shCs pre.size) (fun i s => CsSafe t i s ∧ CsPos i s)
      (fun i c s i' s' hb hI hs _ =>
        ⟨(csStep_safe t i c s (by omega) hb hI.1).cont hs, (csStep_pos t i c s hb hI.2).cont hs⟩)
      (fun i c s hb hI => csStep_shift pre t i c s hI.1 hI.2 hfit)
      (fun i s _ _ => rfl) o st ⟨hS, hP⟩

end Sipsp
