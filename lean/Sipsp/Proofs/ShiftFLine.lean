/-
  Sipsp.Proofs.ShiftFLine — position independence (C11) of ParseFLine. Which fields of the first-line object are set
  depends on the path taken, so there are two translations, `shReq` (request line) and `shRpl` (status line); ShiftMsg
  joins them into one (`shFl`).
-/
import Sipsp.Proofs.Shift
import Sipsp.Proofs.SafeFLine

namespace Sipsp

theorem skipToEOL_shift (pre t : Buf) (i : Nat) : skipToEOL (pre ++ t) (pre.size + i) = pre.size + skipToEOL t i := by
  rw [skipToEOL_eq]; exact scanTo_shift _ pre t i

theorem skipLine_shift (pre t : Buf) (i : Nat) :
    skipLine (pre ++ t) (pre.size + i) = (pre.size + (skipLine t i).1, (skipLine t i).2.1, (skipLine t i).2.2) := by
  unfold skipLine
  rw [skipToEOL_shift, skipCRLF_shift]

/-- translation of a first-line object on the request path: the fields set so far are moved -/
def shReq (k : Nat) (pl : PFLine) : PFLine :=
  match pl.state with
  | .reqMethod => { pl with method := shF k pl.method }
  | .reqURI => { pl with method := shF k pl.method, uri := shF k pl.uri }
  | .reqVer => { pl with method := shF k pl.method, uri := shF k pl.uri, version := shF k pl.version }
  | .crlf => { pl with method := shF k pl.method, uri := shF k pl.uri, version := shF k pl.version }
  | .fin => { pl with method := shF k pl.method, uri := shF k pl.uri, version := shF k pl.version }
  | _ => pl

/-- translation of a first-line object on the reply path -/
def shRpl (k : Nat) (pl : PFLine) : PFLine :=
  match pl.state with
  | .rplStatus => { pl with version := shF k pl.version }
  | .rplReason => { pl with version := shF k pl.version, statusCode := shF k pl.statusCode, reason := shF k pl.reason }
  | .fin => { pl with version := shF k pl.version, statusCode := shF k pl.statusCode, reason := shF k pl.reason }
  | _ => pl

theorem shReq_state (k : Nat) (pl : PFLine) : (shReq k pl).state = pl.state := by unfold shReq; split <;> rfl
theorem shRpl_state (k : Nat) (pl : PFLine) : (shRpl k pl).state = pl.state := by unfold shRpl; split <;> rfl

theorem flCRLF_shift (pre t : Buf) (i : Nat) (pl : PFLine) (hst : pl.state = .crlf) :
    flCRLF (pre ++ t) (pre.size + i) (shReq pre.size pl) = shRes pre.size (shReq pre.size) (flCRLF t i pl) := by
  unfold flCRLF
  rw [skipCRLF_shift]
  rcases hq : skipCRLF t i with ⟨n, crl, e⟩
  cases e <;> simp only [shRes]
  case ok => simp [shReq, hst]

theorem flReqVer_shift (pre t : Buf) (i : Nat) (pl : PFLine) (hst : pl.state = .reqVer) (ho : i ≤ t.size)
    (hfit : pre.size + t.size ≤ 65535) :
    flReqVer (pre ++ t) (pre.size + i) (shReq pre.size pl) = shRes pre.size (shReq pre.size) (flReqVer t i pl) := by
  have hge := skipToken_ge t i
  have hle := skipToken_le t i ho
  unfold flReqVer
  simp only
  rw [skipToken_shift, get?_shift]
  cases hj : t[skipToken t i]? with
  | none => rfl
  | some c =>
    simp only
    by_cases hc : (c != 13 && c != 10) = true
    · simp only [hc, ↓reduceIte]; rfl
    · simp only [hc, Bool.false_eq_true, ↓reduceIte]
      have hv : (shReq pre.size pl).version = shF pre.size pl.version := by simp [shReq, hst]
      have hp : (shReq pre.size pl).pnc = pl.pnc := by simp [shReq, hst]
      rw [hv, hp, extend_shift pre.size pl.version _ (by omega), extendPanics_shift]
      have hemp : (shF pre.size (pl.version.extend (skipToken t i))).isEmpty = (pl.version.extend (skipToken t i)).isEmpty := rfl
      rw [hemp]
      by_cases he : (pl.version.extend (skipToken t i)).isEmpty = true
      · simp only [he, ↓reduceIte, shRes]
        refine Prod.ext rfl (Prod.ext rfl ?_)
        simp [shReq, hst]
      · simp only [he, Bool.false_eq_true, ↓reduceIte]
        have := flCRLF_shift pre t (skipToken t i)
          { pl with version := pl.version.extend (skipToken t i),
                    pnc := pl.pnc || pl.version.extendPanics (skipToken t i), state := .crlf } rfl
        rw [← this]
        congr 1
        simp [shReq, hst]

theorem flReqURI_shift (pre t : Buf) (i : Nat) (pl : PFLine) (hst : pl.state = .reqURI) (ho : i ≤ t.size)
    (hfit : pre.size + t.size ≤ 65535) :
    flReqURI (pre ++ t) (pre.size + i) (shReq pre.size pl) = shRes pre.size (shReq pre.size) (flReqURI t i pl) := by
  have hge := skipToken_ge t i
  have hle := skipToken_le t i ho
  unfold flReqURI
  simp only
  rw [skipToken_shift, get?_shift]
  cases hj : t[skipToken t i]? with
  | none => rfl
  | some c =>
    have hjl := get?_lt hj
    simp only
    by_cases hc : (c != 32) = true
    · simp only [hc, ↓reduceIte]; rfl
    · simp only [hc, Bool.false_eq_true, ↓reduceIte]
      have hv : (shReq pre.size pl).uri = shF pre.size pl.uri := by simp [shReq, hst]
      have hp : (shReq pre.size pl).pnc = pl.pnc := by simp [shReq, hst]
      rw [hv, hp, extend_shift pre.size pl.uri _ (by omega), extendPanics_shift]
      have hemp : (shF pre.size (pl.uri.extend (skipToken t i))).isEmpty = (pl.uri.extend (skipToken t i)).isEmpty := rfl
      rw [hemp]
      by_cases he : (pl.uri.extend (skipToken t i)).isEmpty = true
      · simp only [he, ↓reduceIte, shRes]
        refine Prod.ext rfl (Prod.ext rfl ?_)
        simp [shReq, hst]
      · simp only [he, Bool.false_eq_true, ↓reduceIte]
        have := flReqVer_shift pre t (skipToken t i + 1)
          { pl with uri := pl.uri.extend (skipToken t i), pnc := pl.pnc || pl.uri.extendPanics (skipToken t i),
                    state := .reqVer, version := PField.set (skipToken t i + 1) (skipToken t i + 1) } rfl (by omega) hfit
        rw [← this]
        rw [Nat.add_assoc]
        congr 1
        simp only [shReq, hst]
        rw [set_shift pre.size _ _ (by omega)]

theorem flReqMethod_shift (pre t : Buf) (i : Nat) (pl : PFLine) (hst : pl.state = .reqMethod) (ho : i ≤ t.size)
    (hm : pl.method.inside i) (hfit : pre.size + t.size ≤ 65535) :
    flReqMethod (pre ++ t) (pre.size + i) (shReq pre.size pl) = shRes pre.size (shReq pre.size) (flReqMethod t i pl) := by
  have hge := skipToken_ge t i
  have hle := skipToken_le t i ho
  have hvo : pl.method.offs ≤ skipToken t i := by have h0 : pl.method.offs + pl.method.len ≤ i := hm; omega
  unfold flReqMethod
  simp only
  rw [skipToken_shift, get?_shift]
  cases hj : t[skipToken t i]? with
  | none => rfl
  | some c =>
    have hjl := get?_lt hj
    simp only
    by_cases hc : (c != 32) = true
    · simp only [hc, ↓reduceIte]; rfl
    · simp only [hc, Bool.false_eq_true, ↓reduceIte]
      have hv : (shReq pre.size pl).method = shF pre.size pl.method := by simp [shReq, hst]
      have hp : (shReq pre.size pl).pnc = pl.pnc := by simp [shReq, hst]
      rw [hv, hp, extend_shift pre.size pl.method _ (by omega), extendPanics_shift]
      have hemp : (shF pre.size (pl.method.extend (skipToken t i))).isEmpty = (pl.method.extend (skipToken t i)).isEmpty := rfl
      rw [hemp]
      by_cases he : (pl.method.extend (skipToken t i)).isEmpty = true
      · simp only [he, ↓reduceIte, shRes]
        refine Prod.ext rfl (Prod.ext rfl ?_)
        simp [shReq, hst]
      · simp only [he, Bool.false_eq_true, ↓reduceIte]
        have hin : (pl.method.extend (skipToken t i)).inside t.size :=
          extend_inside pl.method _ _ hvo hle
        rw [get?_shiftF pre t _ hin hfit]
        cases hg : (pl.method.extend (skipToken t i)).get? t with
        | none =>
          simp only [shRes]
          refine Prod.ext rfl (Prod.ext rfl ?_)
          simp [shReq, hst]
        | some nm =>
          simp only
          have := flReqURI_shift pre t (skipToken t i + 1)
            { pl with method := pl.method.extend (skipToken t i),
                      pnc := pl.pnc || pl.method.extendPanics (skipToken t i), methodNo := getMethodNo nm,
                      state := .reqURI, uri := PField.set (skipToken t i + 1) (skipToken t i + 1) } rfl (by omega) hfit
          rw [← this]
          rw [Nat.add_assoc]
          congr 1
          simp only [shReq, hst]
          rw [set_shift pre.size _ _ (by omega)]

theorem flRplReason_shift (pre t : Buf) (i : Nat) (pl : PFLine) (hst : pl.state = .rplReason) (ho : i ≤ t.size)
    (hfit : pre.size + t.size ≤ 65535) :
    flRplReason (pre ++ t) (pre.size + i) (shRpl pre.size pl) = shRes pre.size (shRpl pre.size) (flRplReason t i pl) := by
  have hge := skipToEOL_ge t i
  have hle := skipToEOL_le t i ho
  unfold flRplReason
  rw [skipLine_shift]
  unfold skipLine
  rcases hq : skipCRLF t (skipToEOL t i) with ⟨e, crl, err⟩
  have hr := skipCRLF_range hq
  cases err <;> simp only [shRes]
  case ok =>
    obtain ⟨h1, h2, h3⟩ := hr.2.2.1 rfl
    have hv : (shRpl pre.size pl).reason = shF pre.size pl.reason := by simp [shRpl, hst]
    have hp : (shRpl pre.size pl).pnc = pl.pnc := by simp [shRpl, hst]
    have he : pre.size + e - crl = pre.size + (e - crl) := by omega
    rw [hv, hp, he, extend_shift pre.size pl.reason _ (by omega), extendPanics_shift]
    refine Prod.ext rfl (Prod.ext rfl ?_)
    simp [shRpl, hst]

/-- the reply branch of the initial state (the object is new: no field set yet) -/
theorem flReply_shift (pre t : Buf) (i0 l : Nat) (pl : PFLine) (hl : 1 ≤ l) (hlen : i0 + l + 4 ≤ t.size)
    (hfit : pre.size + t.size ≤ 65535) :
    flReply (pre ++ t) (pre.size + i0) l pl = shRes pre.size (shRpl pre.size) (flReply t i0 l pl) := by
  unfold flReply
  simp only
  have e0 : pre.size + i0 + l = pre.size + (i0 + l) := by omega
  have e1 : pre.size + (i0 + l) + 1 = pre.size + (i0 + l + 1) := by omega
  have e2 : pre.size + (i0 + l) + 2 = pre.size + (i0 + l + 2) := by omega
  have e3 : pre.size + (i0 + l) + 3 = pre.size + (i0 + l + 3) := by omega
  rw [e0, e1, e2, e3, get?_shift, get?_shift, get?_shift, get?_shift]
  have g0 : ∃ d0, t[i0 + l]? = some d0 := ⟨_, Array.getElem?_eq_getElem (by omega)⟩
  have g1 : ∃ d1, t[i0 + l + 1]? = some d1 := ⟨_, Array.getElem?_eq_getElem (by omega)⟩
  have g2 : ∃ d2, t[i0 + l + 2]? = some d2 := ⟨_, Array.getElem?_eq_getElem (by omega)⟩
  have g3 : ∃ d3, t[i0 + l + 3]? = some d3 := ⟨_, Array.getElem?_eq_getElem (by omega)⟩
  obtain ⟨d0, h0⟩ := g0; obtain ⟨d1, h1⟩ := g1; obtain ⟨d2, h2⟩ := g2; obtain ⟨d3, h3⟩ := g3
  rw [h0, h1, h2, h3]
  simp only
  have hver : PField.set (pre.size + i0) (pre.size + (i0 + l) - 1) = shF pre.size (PField.set i0 (i0 + l - 1)) := by
    have : pre.size + (i0 + l) - 1 = pre.size + (i0 + l - 1) := by omega
    rw [this, set_shift pre.size _ _ (by omega)]
  by_cases hc : (d3 != 32 || !(isDigit d0 && isDigit d1 && isDigit d2)) = true
  · simp only [hc, ↓reduceIte, shRes]
    refine Prod.ext rfl (Prod.ext rfl ?_)
    simp only [shRpl]
    rw [hver]
  · simp only [hc, Bool.false_eq_true, ↓reduceIte]
    have := flRplReason_shift pre t (i0 + l + 4)
      { pl with version := PField.set i0 (i0 + l - 1), statusCode := PField.set (i0 + l) (i0 + l + 3),
                status := (d0.toNat - 48) * 100 + (d1.toNat - 48) * 10 + (d2.toNat - 48),
                reason := PField.set (i0 + l + 4) (i0 + l + 4), state := .rplReason } rfl hlen hfit
    have e4 : pre.size + (i0 + l) + 4 = pre.size + (i0 + l + 4) := by omega
    rw [e4, ← this]
    congr 1
    simp only [shRpl]
    rw [hver, set_shift pre.size _ _ (by omega), set_shift pre.size _ _ (by omega)]

/-- [C11] ParseFLine is position independent (from a new object; the translation moves the fields of the request line,
    resp. of the status line) -/
theorem parseFLine_shift_new (pre t : Buf) (o : Nat) (ho : o ≤ t.size) (hfit : pre.size + t.size ≤ 65535) :
    parseFLine (pre ++ t) (pre.size + o) {} =
      shRes pre.size (if (bcPrefix sipVerSP (t.extract o (o + 8)).toList).2 then shRpl pre.size else shReq pre.size)
        (parseFLine t o {}) := by
  unfold parseFLine
  simp only
  have hsz : (pre ++ t).size - (pre.size + o) = t.size - o := by rw [Array.size_append]; omega
  rw [hsz]
  by_cases hlen : t.size - o < 14
  · simp only [hlen, ↓reduceIte, shRes]
    split <;> rfl
  · simp only [hlen, ↓reduceIte]
    have e8 : pre.size + o + 8 = pre.size + (o + 8) := by omega
    rw [e8, extract_shift]
    rcases hp : bcPrefix sipVerSP (t.extract o (o + 8)).toList with ⟨l, ok⟩
    cases ok <;> simp only
    · -- request
      have := flReqMethod_shift pre t o { ({} : PFLine) with state := .reqMethod, method := PField.set o o } rfl ho
        (set_inside _ _ _ (Nat.le_refl _) (Nat.le_refl _)) hfit
      simp only [Bool.false_eq_true, ↓reduceIte]
      rw [← this]
      congr 1
      simp only [shReq]
      rw [set_shift pre.size o o (by omega)]
    · -- reply
      obtain rfl := sipVer_prefix_len hp
      simp only [↓reduceIte]
      exact flReply_shift pre t o 8 {} (by decide) (by omega) hfit

/-- [C11] ParseFLine is position independent from an object suspended on the request path / in the reason phrase -/
theorem parseFLine_shift_req (pre t : Buf) (o : Nat) (pl : PFLine)
    (hst : pl.state = .reqMethod ∨ pl.state = .reqURI ∨ pl.state = .reqVer ∨ pl.state = .crlf)
    (hS : FlSafe t o pl) (hfit : pre.size + t.size ≤ 65535) :
    parseFLine (pre ++ t) (pre.size + o) (shReq pre.size pl) = shRes pre.size (shReq pre.size) (parseFLine t o pl) := by
  unfold parseFLine
  rw [shReq_state]
  rcases hst with h | h | h | h <;> simp only [h]
  · exact flReqMethod_shift pre t o pl h hS.ho hS.method hfit
  · exact flReqURI_shift pre t o pl h hS.ho hfit
  · exact flReqVer_shift pre t o pl h hS.ho hfit
  · exact flCRLF_shift pre t o pl h

theorem parseFLine_shift_rpl (pre t : Buf) (o : Nat) (pl : PFLine) (hst : pl.state = .rplReason)
    (hS : FlSafe t o pl) (hfit : pre.size + t.size ≤ 65535) :
    parseFLine (pre ++ t) (pre.size + o) (shRpl pre.size pl) = shRes pre.size (shRpl pre.size) (parseFLine t o pl) := by
  unfold parseFLine
  rw [shRpl_state]
  simp only [hst]
  exact flRplReason_shift pre t o pl hst hS.ho hfit

end Sipsp
