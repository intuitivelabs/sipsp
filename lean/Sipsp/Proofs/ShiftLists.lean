/-
  Sipsp.Proofs.ShiftLists — position independence (property C11) of the value-list wrappers ParseAllContactValues
  (Contact) and ParseAllPAIValues (P-Asserted-Identity): the call on `pre ++ t` at `pre.size + o` from the moved
  object (`shCt k` / `shPa k`: every element moved with `shNa k`; the running extent `lastHVal` moved unless it is the
  zero field, Go's "zero value = not set") returns the moved result, for every legitimate object (`CtShift` /
  `PaShift`: new objects, objects returned with MoreBytes, objects between two header lines). Exactly after OK /
  MoreBytes; after any other verdict up to the saved restart offset `soffs` of the element in progress, which
  ParseNameAddrPVal does not write on error exits (stale, never reported; a test below shows that the plain form is
  false there).
  What makes "zero = not set" unambiguous for `lastHVal` when the text starts at buffer offset 0: a value completed
  by ParseNameAddrPVal is never the zero field (`parseNameAddrPVal_slNz`, invariant `SlNz`).
  The header-line level (ParseHdrLine / ParseHeaders / ParseSIPMsg) is in ShiftMsg.
-/
import Sipsp.Proofs.ShiftNA
import Sipsp.Proofs.SafeContacts
import Sipsp.Proofs.SafePAIs

namespace Sipsp

def shCt (k : Nat) (c : PContacts) : PContacts :=
  { c with vals := c.vals.map (shNa k), last := shNa k c.last, first := shNa k c.first, lastHVal := shO k c.lastHVal }

theorem shCt_new (k m : Nat) : shCt k ({ vals := Array.replicate m {} } : PContacts) = { vals := Array.replicate m {} } := by
  unfold shCt
  simp only [Array.map_replicate, shNa_new, shO_zero]

theorem shCt_cur (k : Nat) (c : PContacts) : (shCt k c).cur = shNa k c.cur := slot_map (shNa k) c.vals c.n c.last

theorem shCt_setCur (k : Nat) (c : PContacts) (pf : PFromBody) :
    shCt k (c.setCur pf) = (shCt k c).setCur (shNa k pf) := by
  unfold PContacts.setCur shCt
  simp only [Array.size_map]
  split
  · simp only [Array.set!_eq_setIfInBounds, Array.map_setIfInBounds]
  · rfl

theorem PContacts.slExt {a b : PContacts} (h1 : a.vals = b.vals) (h2 : a.n = b.n) (h3 : a.hNo = b.hNo)
    (h4 : a.maxExpires = b.maxExpires) (h5 : a.minExpires = b.minExpires) (h6 : a.lastHVal = b.lastHVal)
    (h7 : a.last = b.last) (h8 : a.first = b.first) (h9 : a.pnc = b.pnc) : a = b := by
  cases a; cases b; simp_all

theorem sl_shO_isEmpty (k : Nat) (f : PField) : (shO k f).isEmpty = f.isEmpty := by
  unfold shO; split <;> rfl

theorem sl_shO_of_pos (k : Nat) (f : PField) (h : 1 ≤ f.offs + f.len) : shO k f = shF k f := by
  unfold shO; rw [if_neg (by omega)]

theorem sl_shF_endT (k : Nat) (v : PField) (o' : Nat) (hv : v.inside o') (hfit : k + o' ≤ 65535) :
    (shF k v).endT = k + v.endT := by
  unfold PField.inside at hv
  unfold PField.endT shF trunc16
  simp only
  rw [Nat.mod_eq_of_lt (by omega), Nat.mod_eq_of_lt (by omega)]
  omega

/-- the bookkeeping of `lastHVal` after a completed value whose extent `v` is not the zero field: nothing wraps, the
    new extent is the moved one -/
theorem sl_lhv (k : Nat) (L v : PField) (o' : Nat) (hv : v.inside o') (hfit : k + o' ≤ 65535)
    (hnz : 1 ≤ v.offs + v.len) :
    (if (shO k L).isEmpty then shF k v else (shO k L).extend (shF k v).endT) =
        shO k (if L.isEmpty then v else L.extend v.endT) ∧
      (shO k L).extendPanics (shF k v).endT = L.extendPanics v.endT := by
  have hend : v.endT = v.offs + v.len := by
    unfold PField.inside at hv; unfold PField.endT; exact trunc16_of_lt (by omega)
  have hv' : v.offs + v.len ≤ o' := hv
  rw [sl_shO_isEmpty, sl_shF_endT k v o' hv hfit]
  refine ⟨?_, ?_⟩
  · by_cases he : L.isEmpty = true
    · rw [if_pos he, if_pos he, sl_shO_of_pos k v hnz]
    · rw [if_neg he, if_neg he]
      have hlen : L.len ≠ 0 := by
        intro h0; apply he; unfold PField.isEmpty; rw [h0]; rfl
      rw [sl_shO_of_pos k L (by omega), extend_shift k L v.endT (by omega)]
      rw [sl_shO_of_pos]
      rw [PField.extend_offs, PField.extend_len]
      unfold trunc16
      omega
  · unfold shO
    split
    · rename_i hz
      unfold PField.extendPanics
      rw [hz.1]
      exact decide_eq_decide.mpr ⟨fun h => by omega, fun h => by omega⟩
    · exact extendPanics_shift k L v.endT

theorem sl_shNa_fin_v (k : Nat) (pf : PFromBody) (hf : pf.state = .fin) : (shNa k pf).v = shF k pf.v := by
  rw [shNa_fin k pf hf]

theorem sl_shNa_expires (k : Nat) (pf : PFromBody) : (shNa k pf).expires = pf.expires := rfl

theorem shCt_account (k : Nat) (c : PContacts) (pf : PFromBody) (o' : Nat) (hf : pf.state = .fin)
    (hv : pf.v.inside o') (hfit : k + o' ≤ 65535) (hnz : 1 ≤ pf.v.offs + pf.v.len) :
    (shCt k c).account (shNa k pf) = shCt k (c.account pf) := by
  have key := sl_lhv k c.lastHVal pf.v o' hv hfit hnz
  rw [sl_shO_isEmpty] at key
  apply PContacts.slExt <;>
    simp only [shCt, account_vals, account_n, account_hNo, account_maxE, account_minE, account_lhv, account_last,
      account_first, account_pnc, sl_shNa_fin_v k pf hf, sl_shNa_expires, sl_shO_isEmpty, Array.size_map, key.1, key.2]
  · rfl
  · split <;> rfl

/-! ### the value of a completed element is not the zero field -/

/-- states in which the end-of-header code reports the value field as it is (without extending it) -/
def slS : FBState → Bool
  | .nameOrURIEnd | .uriFound | .star | .fin => true
  | _ => false

/-- in those states the value field is not the zero field (so "zero = not set" is unambiguous for `lastHVal`) -/
def SlNz (pf : PFromBody) : Prop := slS pf.state = true → 1 ≤ pf.v.offs + pf.v.len

theorem SlNz_new : SlNz {} := by intro h; cases h

theorem sl_ext (f : PField) (e : Nat) (h2 : 1 ≤ e) (h3 : e ≤ 65535) :
    1 ≤ (f.extend e).offs + (f.extend e).len := by
  unfold PField.extend trunc16; simp only; omega

/-- what a step has to establish -/
def SlStepOK : Step PFromBody → Prop
  | .cont _ st => SlNz st
  | .done _ e st => (Err.complete e → 1 ≤ st.v.offs + st.v.len) ∧ (e = .moreBytes → SlNz st)

theorem SlNz.ofState {pf : PFromBody} (h : slS pf.state = false) : SlNz pf := fun hh => by rw [h] at hh; cases hh

theorem SlStepOK.err {o : Nat} {e : Err} {st : PFromBody} (h1 : e ≠ .ok) (h2 : e ≠ .moreValues) (h3 : e ≠ .moreBytes) :
    SlStepOK (.done o e st) :=
  ⟨(fun hc => by rcases hc with hc | hc; exact absurd hc h1; exact absurd hc h2), fun hh => absurd hh h3⟩

theorem SlStepOK.more {o : Nat} {st : PFromBody} (h : SlNz st) : SlStepOK (.done o .moreBytes st) :=
  ⟨(fun hc => by rcases hc with hc | hc <;> cases hc), fun _ => h⟩

theorem sl_naEOHParamName_v (b : Buf) (pf : PFromBody) (e : Nat) : (naEOHParamName b pf e).v = pf.v.extend e := by
  unfold naEOHParamName
  simp only
  show PField.extend _ e = _
  congr 1
  repeat' split
  all_goals first
    | rfl
    | (simp only [PFromBody.extParams, setFromParamVal_v])

theorem naEOH_slnz (h : Nat) (b : Buf) (pf : PFromBody) (e n crl : Nat) (r : Err) (hN : SlNz pf)
    (he1 : pf.state ≠ .init → 1 ≤ e) (he : e ≤ 65535)
    (hc : Err.complete (naEOH h b pf e n crl r).2.1) :
    1 ≤ (naEOH h b pf e n crl r).2.2.v.offs + (naEOH h b pf e n crl r).2.2.v.len := by
  have hx := sl_ext pf.v e
  unfold naEOH at hc ⊢
  cases hst : pf.state <;> simp only [hst, naFinish] at hc ⊢
  all_goals first
    | (rcases hc with hc | hc <;> (cases hc; done))
    | exact hN (by rw [hst]; rfl)
    | (rw [sl_naEOHParamName_v]; exact hx (he1 (by rw [hst]; decide)) he)
    | (simp only [naEOHVal, PFromBody.extV, PFromBody.extParams, PFromBody.setURI, setFromParamVal_v]
       exact hx (he1 (by rw [hst]; decide)) he)

theorem sl_naNameWS_sv (pf : PFromBody) (i : Nat) (hs : slS pf.state = false) :
    slS (naNameWS pf i).state = false := by
  unfold naNameWS
  repeat' split
  all_goals first
    | exact hs
    | rfl

theorem sl_naValWS_sv (pf : PFromBody) (i n : Nat) (ok : Bool) (hs : slS pf.state = false) :
    slS (naValWS pf i n ok).state = false := by
  unfold naValWS
  repeat' split
  all_goals first
    | exact hs
    | rfl

theorem sl_naParam_sv (pf : PFromBody) (i : Nat) (hs : slS pf.state = false) :
    slS (naParamsOffs (naParamStart pf i) i).state = false := by
  unfold naParamsOffs naParamStart
  repeat' split
  all_goals first
    | exact hs
    | rfl

theorem naEOH_slStep (h : Nat) (b : Buf) (pf : PFromBody) (e n crl : Nat) (r : Err) (hr : r ≠ .moreBytes) (hN : SlNz pf)
    (he1 : pf.state ≠ .init → 1 ≤ e) (he : e ≤ 65535) :
    SlStepOK (.done (naEOH h b pf e n crl r).1 (naEOH h b pf e n crl r).2.1 (naEOH h b pf e n crl r).2.2) :=
  ⟨naEOH_slnz h b pf e n crl r hN he1 he, fun hh => absurd hh (naEOH_ne_more h b pf e n crl r hr)⟩

/-- a white-space site; `pe` reaches the end of the header, `pm` is saved when the white space is not yet complete -/
theorem NaLws.slnz {h : Nat} {b : Buf} {i : Nat} {om : Nat → Nat} {pm : PFromBody} {pk : Nat → PFromBody}
    {pe : PFromBody} {r : Step PFromBody} (t : NaLws h b i om pm pk pe r) (hi : i ≤ 65535) (hM : SlNz pm)
    (hK : ∀ n, SlNz (pk n)) (hE : SlNz pe) (he1 : pe.state ≠ .init → 1 ≤ i) : SlStepOK r := by
  cases t
  case ok => exact hK _
  case eoh n crl hk => exact naEOH_slStep h b pe i n crl .ok (by decide) hE he1 hi
  case more => exact SlStepOK.more hM

theorem NaTr.slnz {h : Nat} {b : Buf} {i : Nat} {c : UInt8} {pf : PFromBody} {r : Step PFromBody}
    (t : NaTr h b i c pf r) (hb : b[i]? = some c) (hfit : b.size ≤ 65535) (hS : NaSafe b i pf) (hP : NaPos i pf)
    (hN : SlNz pf) : SlStepOK r := by
  have hlt := get?_lt hb
  have h1 := hP.pos
  have hx := sl_ext pf.v
  cases t
  case a_lwsURI hg hl t =>
    have hX : SlNz { (pf.setURI pf.s i).extV i with state := .nameOrURIEnd } :=
      fun _ => hx i (h1 (by rw [hg]; decide)) (by omega)
    exact t.slnz (by omega) hX (fun _ => hX) hX (fun _ => h1 (by rw [hg]; decide))
  case a_lws hg hl t | q_lws hg hl t | uf_lws hg hl t =>
    all_goals exact t.slnz (by omega) hN (fun _ => hN) hN h1
  case p_lws hg hl t =>
    have hs : slS pf.state = false := by rcases hg with g | g | g | g <;> rw [g] <;> rfl
    have hi1 : 1 ≤ i := h1 (by rcases hg with g | g | g | g <;> rw [g] <;> decide)
    have hw := SlNz.ofState (sl_naNameWS_sv pf i hs)
    exact t.slnz (by omega) hN (fun _ => hw) hw (fun _ => hi1)
  case v_lws hg hl t =>
    have hs : slS pf.state = false := by rcases hg with g | g | g | g <;> rw [g] <;> rfl
    have hi1 : 1 ≤ i := h1 (by rcases hg with g | g | g | g <;> rw [g] <;> decide)
    exact t.slnz (by omega) hN (fun n => SlNz.ofState (sl_naValWS_sv pf i n true hs))
      (SlNz.ofState (sl_naValWS_sv pf i i false hs)) (fun _ => hi1)
  case comma => exact naEOH_slStep h b pf i i 1 .moreValues (by decide) hN h1 (by omega)
  case commaWS e hg hc hm =>
    have hp0 := fun hh => (hP.started hh).1
    rcases hg with ⟨hg, rfl⟩ | ⟨hg, rfl⟩
    · have hE := hS.endP hg
      have := hS.pend
      have := hp0 (by rcases hg with g | g <;> rw [g] <;> rfl)
      exact naEOH_slStep h b pf pf.pend i 1 .moreValues (by decide) hN (fun _ => by omega) (by omega)
    · have hE := hS.endV hg
      have := hS.vend
      have := hp0 (by rcases hg with g | g <;> rw [g] <;> rfl)
      exact naEOH_slStep h b pf pf.vend i 1 .moreValues (by decide) hN (fun _ => by omega) (by omega)
  case q_escMore => exact SlStepOK.more hN
  case star_init =>
    intro _
    show 1 ≤ (PField.set i (i + 1)).offs + (PField.set i (i + 1)).len
    unfold PField.set trunc16
    simp only
    omega
  case u_close => exact fun _ => hx (i + 1) (by omega) (by omega)
  case p_tok hg _ _ =>
    exact SlNz.ofState (sl_naParam_sv pf i (by rcases hg with g | g | g | g <;> rw [g] <;> rfl))
  case p_semi | p_semiP | pe_semi | pe_semiP | v_semi | v_semiP | ve_semi | ve_semiP =>
    all_goals exact SlNz.ofState (by rw [setFromParamVal_state]; rfl)
  -- every other outcome: the unchanged object, an error, or a state in which the value is still open
  all_goals first
    | exact hN
    | exact SlStepOK.err (by decide) (by decide) (by decide)
    | exact SlNz.ofState rfl

theorem naStep_slnz (h : Nat) (b : Buf) (i : Nat) (c : UInt8) (pf : PFromBody) (hb : b[i]? = some c)
    (hfit : b.size ≤ 65535) (hS : NaSafe b i pf) (hP : NaPos i pf) (hN : SlNz pf) : SlStepOK (naStep h b i c pf) :=
  (naStep_tr h b i c pf).slnz hb hfit hS hP hN

/-- **a completed value is never the zero field** (65,535-byte limit), and after MoreBytes the invariant holds again -/
theorem parseNameAddrPVal_slNz (h : Nat) (t : Buf) (o : Nat) (pf : PFromBody) (hfit : t.size ≤ 65535)
    (hE : NaEntry t o pf) (hpos : pf.state ≠ .fin → NaPos o (naLoad pf)) (hN : SlNz pf)
    {o' : Nat} {e : Err} {pf' : PFromBody} (hr : parseNameAddrPVal h t o pf = (o', e, pf')) :
    (Err.complete e → 1 ≤ pf'.v.offs + pf'.v.len) ∧ (e = .moreBytes → SlNz pf') := by
  by_cases hf : pf.state = .fin
  · unfold parseNameAddrPVal at hr
    rw [if_pos hf] at hr
    cases hr
    exact ⟨fun _ => hN (by rw [hf]; rfl), fun hh => by cases hh⟩
  · rcases hE with hE | hE
    · exact absurd hE.1 hf
    · rw [parseNameAddrPVal_notfin h t o pf hf] at hr
      have key := runLoop_inv (naMachine h) t (fun i st => NaSafe t i st ∧ NaPos i st ∧ SlNz st)
        (fun r => (Err.complete r.2.1 → 1 ≤ r.2.2.v.offs + r.2.2.v.len) ∧ (r.2.1 = .moreBytes → SlNz r.2.2))
        (by
          intro i c st i' st' hb hI hs
          refine ⟨fun hlt => ⟨na_safeCont h t i c st i' st' hb hI.1 hs hlt, na_posCont h t i c st hb hfit hI.2.1 hs, ?_⟩,
            fun _ => ⟨(fun hc => by rcases hc with hc | hc <;> cases hc), fun hh => by cases hh⟩⟩
          have := naStep_slnz h t i c st hb hfit hI.1 hI.2.1 hI.2.2
          rw [show naStep h t i c st = _ from hs] at this
          exact this)
        (by
          intro i c st o1 e1 st1 hb hI hs
          have := naStep_slnz h t i c st hb hfit hI.1 hI.2.1 hI.2.2
          rw [show naStep h t i c st = _ from hs] at this
          exact this)
        (by
          intro i st _ hI
          exact ⟨(fun hc => by rcases hc with hc | hc <;> cases hc), fun _ => hI.2.2⟩)
        o (naLoad pf) ⟨hE.2, hpos hf, hN⟩
      rcases hl : runLoop (naMachine h) t o (naLoad pf) with ⟨o1, e1, p1⟩
      rw [hl] at key hr
      simp only [naWrap, Prod.mk.injEq] at hr
      obtain ⟨rfl, rfl, rfl⟩ := hr
      have ev : ∀ s e p, (naExit s e p).v = p.v := by
        intro s e p; unfold naExit; split <;> rfl
      refine ⟨fun hc => by rw [ev]; exact key.1 hc, fun hm hh => ?_⟩
      rw [ev]
      rw [naExit_state] at hh
      exact key.2 hm hh

/-- what the list theorems need of the element in progress, at offset `o`, with `lo` a lower bound of its value -/
structure SlEl (t : Buf) (o lo : Nat) (pf : PFromBody) : Prop where
  ho : o ≤ t.size
  entry : NaEntry t o pf
  pos : pf.state ≠ .fin → NaPos o (naLoad pf)
  nz : SlNz pf
  le : lo ≤ o
  vlo : VLo lo pf

theorem SlEl_new (t : Buf) (o lo : Nat) (ho : o ≤ t.size) (hlo : lo ≤ o) : SlEl t o lo {} := by
  refine ⟨ho, NaEntry_new t o ho, fun _ => ?_, SlNz_new, hlo, Or.inl rfl⟩
  rcases NaShiftEntry_new t o ho with hh | hh
  · cases hh
  · exact hh.2

theorem SlEl.shiftEntry {t : Buf} {o lo : Nat} {pf : PFromBody} (h : SlEl t o lo pf) : NaShiftEntry t o pf := by
  by_cases hf : pf.state = .fin
  · exact Or.inl hf
  · rcases h.entry with he | he
    · exact absurd he.1 hf
    · exact Or.inr ⟨he.2, h.pos hf⟩

/-- what one call of ParseNameAddrPVal on a legitimate element (`SlEl t o lo`) leaves: the object lies before the returned
    offset; a completed value is finished, not the zero field and starts at `lo` or later; after MoreBytes the element is
    legitimate again at the returned offset -/
structure SlOne (t : Buf) (o lo next : Nat) (e : Err) (pf : PFromBody) : Prop where
  out : NaOut t next pf
  fin : Err.complete e → pf.state = .fin ∧ o ≤ next ∧ lo ≤ pf.v.offs ∧ 1 ≤ pf.v.offs + pf.v.len
  more : e = .moreBytes → SlEl t next lo pf ∧ o ≤ next

theorem sl_one (h : Nat) (t : Buf) (o lo : Nat) (pf : PFromBody) (hfit : t.size ≤ 65535)
    (hel : SlEl t o lo pf) {next : Nat} {e : Err} {pf' : PFromBody}
    (hr : parseNameAddrPVal h t o pf = (next, e, pf')) : SlOne t o lo next e pf' := by
  have hsafe := parseNameAddrPVal_safe h t o pf hel.entry hr
  have hnz := parseNameAddrPVal_slNz h t o pf hfit hel.entry hel.pos hel.nz hr
  have hvd := naPVal_vdone h t o lo pf hfit hel.le hel.vlo hr
  refine ⟨hsafe.1, fun hc => ?_, fun hm => ?_⟩
  · have hrg := naPVal_ok_range h t o pf hel.ho hr hc
    exact ⟨hrg.1, hrg.2.1, hvd.1 hc, hnz.1 hc⟩
  · subst hm
    have hrg := parseNameAddrPVal_more_range h t o pf hel.entry.naOK hr
    have hE := parseNameAddrPVal_shiftEntry h t o pf hfit hel.shiftEntry hr
    refine ⟨⟨hrg.2, hsafe.2 rfl, fun hf => ?_, hnz.2 rfl, by have := hel.le; omega, hvd.2 rfl⟩, hrg.1⟩
    rcases hE with hE | hE
    · exact absurd hE hf
    · exact hE.2

theorem sl_shResNa_wrote (k : Nat) (pf0 : PFromBody) (n : Nat) (e : Err) (p : PFromBody) (hw : naWrote e = true) :
    shResNa k pf0 (n, e, p) = (k + n, e, shNa k p) := by
  unfold shResNa; simp only [hw, ↓reduceIte]

theorem sl_shResNa_stale (k : Nat) (pf0 : PFromBody) (n : Nat) (e : Err) (p : PFromBody) (hw : naWrote e = false) :
    shResNa k pf0 (n, e, p) = (k + n, e, { shNa k p with soffs := shS k pf0.state pf0.soffs }) := by
  unfold shResNa; simp only [hw, Bool.false_eq_true, ↓reduceIte]

/-- the observation after an error verdict: everything but the (never reported, stale) saved restart offset of the
    element in progress -/
def ctObsCur (c : PContacts) : PContacts := c.setCur c.cur.obs

theorem ctObsCur_setCur (c : PContacts) (p : PFromBody) : ctObsCur (c.setCur p) = c.setCur p.obs := by
  unfold ctObsCur; rw [setCur_cur, setCur_setCur]

/-- the result `r'` is the result `r` moved by `k`: offset moved, same verdict; the object is the moved object
    after OK / MoreBytes, and the moved object up to the restart offset of the element in progress in any case -/
def slCtRes (k : Nat) (r' r : Nat × Err × PContacts) : Prop :=
  r'.1 = k + r.1 ∧ r'.2.1 = r.2.1 ∧ ((r.2.1 = .ok ∨ r.2.1 = .moreBytes) → r'.2.2 = shCt k r.2.2) ∧
    ctObsCur r'.2.2 = ctObsCur (shCt k r.2.2)

/-- **a legitimate contacts object** for the loop at offset `o` of `t`: unused slots are zero, the running extent
    `lastHVal` ends before the value of the element in progress begins, and the element in progress is a legitimate
    argument of ParseNameAddrPVal (`SlEl`) -/
structure CtShift (t : Buf) (o : Nat) (c : PContacts) : Prop where
  clean : CtClean c
  el : ∃ lo, c.lastHVal.inside lo ∧ SlEl t o lo c.cur

theorem sl_err_case (k : Nat) (c : PContacts) (pf X : PFromBody) (hX : X.obs = (shNa k pf).obs) :
    ctObsCur (if (shCt k c).n < (shCt k c).vals.size then (shCt k c).setCur X else { shCt k c with last := {} }) =
      ctObsCur (shCt k (if c.n < c.vals.size then c.setCur pf else { c with last := {} })) := by
  have hsz : (shCt k c).n < (shCt k c).vals.size ↔ c.n < c.vals.size := by
    show c.n < (c.vals.map _).size ↔ _; rw [Array.size_map]
  by_cases hin : c.n < c.vals.size
  · rw [if_pos (hsz.mpr hin), if_pos hin, shCt_setCur, ctObsCur_setCur, ctObsCur_setCur, hX]
  · rw [if_neg (fun hh => hin (hsz.mp hh)), if_neg hin]
    rfl

/-- the one-value parser is position independent: offset moved, same verdict, the object moved up to the stale restart
    offset (exactly after OK / MoreValues / MoreBytes) -/
def OneShifts (one : Buf → Nat → PFromBody → Nat × Err × PFromBody) : Prop :=
  ∀ (pre t : Buf) (o : Nat) (pf : PFromBody), pre.size + t.size ≤ 65535 → NaShiftEntry t o pf →
    ∀ {next : Nat} {e : Err} {pf' : PFromBody}, one t o pf = (next, e, pf') →
      ∃ X, one (pre ++ t) (pre.size + o) (shNa pre.size pf) = (pre.size + next, e, X) ∧
        X.obs = (shNa pre.size pf').obs ∧ (naWrote e = true → X = shNa pre.size pf')

theorem parseOneContact_shiftX : OneShifts parseOneContact := fun pre t o pf hfit hE next e pf' hp => by
  unfold parseOneContact at hp ⊢
  rw [parseNameAddrPVal_shift HdrContact pre t o pf hfit hE, hp]
  by_cases hw : naWrote e = true
  · rw [sl_shResNa_wrote _ _ _ _ _ hw]; exact ⟨_, rfl, rfl, fun _ => rfl⟩
  · rw [sl_shResNa_stale _ _ _ _ _ (by simpa using hw)]; exact ⟨_, rfl, rfl, fun hh => absurd hh hw⟩

/-- **the value-list loop is position independent**, over any one-value parser that is (`OneShifts`) and that leaves
    what `sl_one` says of ParseNameAddrPVal -/
theorem valsLoop_shift' {one : Buf → Nat → PFromBody → Nat × Err × PFromBody} (hsh : OneShifts one)
    (hpo : ∀ (t : Buf) (o lo : Nat) (pf : PFromBody), t.size ≤ 65535 → SlEl t o lo pf →
      ∀ {next : Nat} {e : Err} {pf' : PFromBody}, one t o pf = (next, e, pf') → SlOne t o lo next e pf')
    (pre t : Buf) (o : Nat) (c : PContacts) (hfit : pre.size + t.size ≤ 65535) (h : CtShift t o c) :
    slCtRes pre.size (valsLoop one (pre ++ t) (pre.size + o) (shCt pre.size c)) (valsLoop one t o c) ∧
    ((valsLoop one t o c).2.1 = .moreBytes → CtShift t (valsLoop one t o c).1 (valsLoop one t o c).2.2) := by
  refine valsLoop_rel one one (pre ++ t) t
    (fun o1 c1 o2 c2 => o1 = pre.size + o2 ∧ c1 = shCt pre.size c2 ∧ CtShift t o2 c2)
    (fun r' r => slCtRes pre.size r' r ∧ (r.2.1 = .moreBytes → CtShift t r.1 r.2.2))
    (fun o1 c1 o c ⟨ho1, hc1, h⟩ => ?_) ⟨rfl, rfl, h⟩
  subst ho1 hc1
  obtain ⟨lo, hL, hel⟩ := h.el
  unfold valsStep
  rw [shCt_cur]
  rcases hp : one t o c.cur with ⟨next, e1, pf⟩
  obtain ⟨X, hX1, hX2, hX3⟩ := hsh pre t o c.cur hfit hel.shiftEntry hp
  rw [hX1]
  have so := hpo t o lo c.cur (by omega) hel hp
  have hnb := so.out.ho
  have hsz : (shCt pre.size c).n < (shCt pre.size c).vals.size ↔ c.n < c.vals.size := by
    show c.n < (c.vals.map _).size ↔ _; rw [Array.size_map]
  have hacc : Err.complete e1 → ((shCt pre.size c).setCur (shNa pre.size pf)).account (shNa pre.size pf) =
      shCt pre.size ((c.setCur pf).account pf) := by
    intro hc
    obtain ⟨f1, _, _, f4⟩ := so.fin hc
    rw [← shCt_setCur]
    exact shCt_account pre.size (c.setCur pf) pf next f1 so.out.v (by omega) f4
  cases e1
  case ok =>
    obtain rfl := hX3 (by rfl)
    simp only
    rw [hacc (Or.inl rfl)]
    exact ⟨⟨rfl, rfl, fun _ => rfl, rfl⟩, fun hh => by cases hh⟩
  case moreValues =>
    obtain rfl := hX3 (by rfl)
    have hnx' : (shCt pre.size c).next (shNa pre.size pf) = shCt pre.size (c.next pf) := by
      unfold PContacts.next
      rw [hacc (Or.inr rfl)]
      by_cases hin : c.n < c.vals.size
      · rw [if_pos (hsz.mpr hin), if_pos hin]
      · rw [if_neg (fun hh => hin (hsz.mp hh)), if_neg hin]; rfl
    simp only [hnx']
    by_cases hg : o < next ∧ next ≤ t.size
    · rw [if_pos hg, if_pos (by rw [Array.size_append]; omega)]
      obtain ⟨f1, f2, f3, f4⟩ := so.fin (Or.inr rfl)
      have hcl := next_clean c pf h.clean
      have hlh : (c.next pf).lastHVal.inside next := by
        have s1 := setCur_scalars c pf
        have : ((c.setCur pf).account pf).lastHVal.inside next := by
          rw [account_lhv, s1.2.2.2.1]
          have hend := endT_eq pf.v next so.out.v (by omega)
          have hvi : pf.v.offs + pf.v.len ≤ next := so.out.v
          have hL' : c.lastHVal.offs + c.lastHVal.len ≤ lo := hL
          split
          · exact so.out.v
          · exact extend_inside _ _ _ (by rw [hend]; omega) (by rw [hend]; exact hvi)
        unfold PContacts.next; split <;> exact this
      exact ⟨rfl, rfl, hcl.1, ⟨next, hlh, by rw [hcl.2]; exact SlEl_new t next next hg.2 (Nat.le_refl _)⟩⟩
    · rw [if_neg hg, if_neg (by rw [Array.size_append]; omega)]
      exact ⟨⟨rfl, rfl, (fun hh => by rcases hh with hh | hh <;> cases hh), rfl⟩, fun hh => by cases hh⟩
  case moreBytes =>
    obtain rfl := hX3 (by rfl)
    simp only
    rw [← shCt_setCur]
    refine ⟨⟨rfl, rfl, fun _ => rfl, rfl⟩, fun _ => ?_⟩
    obtain ⟨m1, m2⟩ := so.more rfl
    exact ⟨h.clean.setCur pf, ⟨lo, by rw [(setCur_scalars c pf).2.2.2.1]; exact hL, by rw [setCur_cur]; exact m1⟩⟩
  all_goals
    simp only
    exact ⟨⟨rfl, rfl, (fun hh => by rcases hh with hh | hh <;> cases hh), sl_err_case pre.size c pf X hX2⟩,
      fun hh => by cases hh⟩

theorem contactsLoop_shift' (pre t : Buf) (o : Nat) (c : PContacts)
    (hfit : pre.size + t.size ≤ 65535) (h : CtShift t o c) :
    slCtRes pre.size (contactsLoop (pre ++ t) (pre.size + o) (shCt pre.size c)) (contactsLoop t o c) ∧
    ((contactsLoop t o c).2.1 = .moreBytes → CtShift t (contactsLoop t o c).1 (contactsLoop t o c).2.2) := by
  simp only [contactsLoop_eq_valsLoop]
  exact valsLoop_shift' parseOneContact_shiftX (sl_one HdrContact) pre t o c hfit h

theorem shCt_wrap (k : Nat) (c : PContacts) : (shCt k c).wrap = shCt k c.wrap := by
  unfold PContacts.wrap
  have h1 : (decide ((shCt k c).n ≥ (shCt k c).vals.size) && (shCt k c).last.parsed) =
      (decide (c.n ≥ c.vals.size) && c.last.parsed) := by
    show (decide (c.n ≥ (c.vals.map _).size) && _) = _
    rw [Array.size_map]; rfl
  rw [h1]
  split <;> rfl

theorem CtShift.wrap {t : Buf} {o : Nat} {c : PContacts} (h : CtShift t o c) : CtShift t o c.wrap := by
  unfold PContacts.wrap
  split
  · rename_i hc
    simp only [Bool.and_eq_true, decide_eq_true_eq] at hc
    have hcur : ({ c with last := {} } : PContacts).cur = {} := by
      unfold PContacts.cur; rw [if_neg (by show ¬ c.n < c.vals.size; omega)]
    obtain ⟨lo, hL, hel⟩ := h.el
    exact ⟨⟨h.clean.1, fun _ => rfl⟩, ⟨lo, hL, by rw [hcur]; exact SlEl_new t o lo hel.ho hel.le⟩⟩
  · exact h

theorem CtShift_new (t : Buf) (o : Nat) (ho : o ≤ t.size) (m : Nat) :
    CtShift t o ({ vals := Array.replicate m {} } : PContacts) := by
  have hcur : (({ vals := Array.replicate m {} } : PContacts)).cur = {} := by
    unfold PContacts.cur; split
    · rename_i h; simp at h; simp [h]
    · rfl
  refine ⟨⟨fun j _ hj => ?_, fun _ => rfl⟩, ⟨o, PField.inside_zero o, by rw [hcur]; exact SlEl_new t o o ho (Nat.le_refl _)⟩⟩
  simp at hj; simp [hj]

/-- the invariant of SafeContacts (which ParseAllContactValues maintains) gives a legitimate object as soon as the
    element in progress satisfies the two invariants on set positions -/
theorem CtShift.ofSafe {t : Buf} {o : Nat} {c : PContacts} (h : CtSafe t o c)
    (hpos : c.cur.state ≠ .fin → NaPos o (naLoad c.cur)) (hnz : SlNz c.cur) : CtShift t o c := by
  obtain ⟨lo, h1, h2, h3⟩ := h.lo
  exact ⟨h.clean, ⟨lo, h1, ⟨h.ho, h.cur, hpos, hnz, h2, h3⟩⟩⟩

/-- between header lines (`CtIdle`: the next value goes into a zero element): the object with which the value list
    of a new Contact header line is parsed (header counter set, running extent cleared) is legitimate -/
theorem CtShift.start {t : Buf} {c : PContacts} (h : CtIdle t c) (o : Nat) (ho : o ≤ t.size) (m : Nat) :
    CtShift t o { c.wrap with hNo := m, lastHVal := {} } := by
  refine ⟨h.clean, ⟨o, PField.inside_zero o, ?_⟩⟩
  show SlEl t o o c.wrap.cur
  rw [h.cur]; exact SlEl_new t o o ho (Nat.le_refl _)

theorem parseAllContactValues_shift' (pre t : Buf) (o : Nat) (c : PContacts)
    (hfit : pre.size + t.size ≤ 65535) (h : CtShift t o c) :
    slCtRes pre.size (parseAllContactValues (pre ++ t) (pre.size + o) (shCt pre.size c)) (parseAllContactValues t o c) ∧
    ((parseAllContactValues t o c).2.1 = .moreBytes →
      CtShift t (parseAllContactValues t o c).1 (parseAllContactValues t o c).2.2) := by
  rw [parseAllContactValues_eq_wrap, parseAllContactValues_eq_wrap, shCt_wrap]
  exact contactsLoop_shift' pre t o c.wrap hfit h.wrap

def shPa (k : Nat) (c : PPAIs) : PPAIs :=
  { c with vals := c.vals.map (shNa k), last := shNa k c.last, lastHVal := shO k c.lastHVal }

theorem shPa_new (k : Nat) : shPa k {} = {} := by
  unfold shPa
  simp [shNa_new, shO_zero]

theorem parseOnePAI_shiftX : OneShifts parseOnePAI := fun pre t o pf hfit hE next e pf' hp => by
  unfold parseOnePAI at hp ⊢
  rw [parseNameAddrPVal_shift HdrPAI pre t o pf hfit hE]
  rcases hq : parseNameAddrPVal HdrPAI t o pf with ⟨n, e0, p⟩
  rw [hq] at hp
  simp only at hp
  by_cases hc : ((e0 == .ok || e0 == .moreValues) && p.star) = true
  · have hA : (e0 == .ok || e0 == .moreValues) = true := by
      simp only [Bool.and_eq_true] at hc; exact hc.1
    have hw : naWrote e0 = true := by
      cases e0 <;> first | rfl | (exfalso; revert hA; decide)
    rw [sl_shResNa_wrote _ _ _ _ _ hw]
    simp only
    have hc' : ((e0 == .ok || e0 == .moreValues) && (shNa pre.size p).star) = true := hc
    rw [if_pos hc']
    rw [if_pos hc] at hp
    cases hp
    exact ⟨_, rfl, rfl, fun _ => rfl⟩
  · rw [if_neg hc] at hp
    cases hp
    by_cases hw : naWrote e = true
    · rw [sl_shResNa_wrote _ _ _ _ _ hw]
      simp only
      have hc' : ¬ ((e == .ok || e == .moreValues) && (shNa pre.size pf').star) = true := hc
      rw [if_neg hc']
      exact ⟨_, rfl, rfl, fun _ => rfl⟩
    · have hw' : naWrote e = false := by simpa using hw
      rw [sl_shResNa_stale _ _ _ _ _ hw']
      simp only
      have hc' : ¬ ((e == .ok || e == .moreValues) &&
          ({ shNa pre.size pf' with soffs := shS pre.size pf.state pf.soffs } : PFromBody).star) = true := hc
      rw [if_neg hc']
      exact ⟨_, rfl, rfl, fun hh => absurd hh hw⟩

theorem sl_onePAI (t : Buf) (o lo : Nat) (pf : PFromBody) (hfit : t.size ≤ 65535)
    (hel : SlEl t o lo pf) {next : Nat} {e : Err} {pf' : PFromBody}
    (hr : parseOnePAI t o pf = (next, e, pf')) : SlOne t o lo next e pf' := by
  obtain ⟨e0, h0, a1, a2, a3⟩ := parseOnePAI_under t o pf hr
  have one := sl_one HdrPAI t o lo pf hfit hel h0
  refine ⟨one.out, fun hc => one.fin ?_, fun hm => one.more (a3 hm)⟩
  rcases hc with hc | hc
  · exact Or.inl (a1 hc)
  · exact Or.inr (a2 hc)

def paObsCur (c : PPAIs) : PPAIs := c.setCur c.cur.obs

/-- as `slCtRes` -/
def slPaRes (k : Nat) (r' r : Nat × Err × PPAIs) : Prop :=
  r'.1 = k + r.1 ∧ r'.2.1 = r.2.1 ∧ ((r.2.1 = .ok ∨ r.2.1 = .moreBytes) → r'.2.2 = shPa k r.2.2) ∧
    paObsCur r'.2.2 = paObsCur (shPa k r.2.2)

/-- **a legitimate identity-list object** for the loop at offset `o` of `t` (as `CtShift`) -/
structure PaShift (t : Buf) (o : Nat) (c : PPAIs) : Prop where
  clean : PaClean c
  el : ∃ lo, c.lastHVal.inside lo ∧ SlEl t o lo c.cur

theorem CtShift.toPa {t : Buf} {o : Nat} {c : PContacts} (h : CtShift t o c) : PaShift t o c.toPa := ⟨h.clean, h.el⟩

theorem PaShift.toCt {t : Buf} {o : Nat} {c : PPAIs} (h : PaShift t o c) : CtShift t o c.toCt := ⟨h.clean, h.el⟩

theorem slCtRes.toPa {k : Nat} {r' r : Nat × Err × PContacts} (h : slCtRes k r' r) : slPaRes k (toPaR r') (toPaR r) :=
  ⟨h.1, h.2.1, fun e => congrArg PContacts.toPa (h.2.2.1 e), by
    have := congrArg PContacts.toPa h.2.2.2
    unfold ctObsCur at this
    rw [PContacts.toPa_setCur, PContacts.toPa_setCur] at this
    exact this⟩

theorem paisLoop_shift' (pre t : Buf) (o : Nat) (c : PPAIs)
    (hfit : pre.size + t.size ≤ 65535) (h : PaShift t o c) :
    slPaRes pre.size (paisLoop (pre ++ t) (pre.size + o) (shPa pre.size c)) (paisLoop t o c) ∧
    ((paisLoop t o c).2.1 = .moreBytes → PaShift t (paisLoop t o c).1 (paisLoop t o c).2.2) := by
  have := valsLoop_shift' parseOnePAI_shiftX sl_onePAI pre t o c.toCt hfit h.toCt
  rw [paisLoop_eq_valsLoop t o c, show shPa pre.size c = (shCt pre.size c.toCt).toPa from rfl, paisLoop_toPa]
  exact ⟨this.1.toPa, fun e => (this.2 e).toPa⟩

theorem shPa_wrap (k : Nat) (c : PPAIs) : (shPa k c).wrap = shPa k c.wrap := by
  rw [show shPa k c = (shCt k c.toCt).toPa from rfl, ← PContacts.toPa_wrap, shCt_wrap, PPAIs.wrap_eq]; rfl

theorem PaShift.wrap {t : Buf} {o : Nat} {c : PPAIs} (h : PaShift t o c) : PaShift t o c.wrap := by
  rw [PPAIs.wrap_eq]; exact h.toCt.wrap.toPa

theorem PaShift_new (t : Buf) (o : Nat) (ho : o ≤ t.size) : PaShift t o ({} : PPAIs) := by
  have hi := PaIdle_new t
  have hw : (({} : PPAIs)).wrap = {} := by unfold PPAIs.wrap; simp [PFromBody.parsed]
  have hc := hi.clean
  have hcur := hi.cur
  rw [hw] at hc hcur
  exact ⟨hc, ⟨o, PField.inside_zero o, by rw [hcur]; exact SlEl_new t o o ho (Nat.le_refl _)⟩⟩

theorem PaShift.ofSafe {t : Buf} {o : Nat} {c : PPAIs} (h : PaSafe t o c)
    (hpos : c.cur.state ≠ .fin → NaPos o (naLoad c.cur)) (hnz : SlNz c.cur) : PaShift t o c := by
  obtain ⟨lo, h1, h2, h3⟩ := h.lo
  exact ⟨h.clean, ⟨lo, h1, ⟨h.ho, h.cur, hpos, hnz, h2, h3⟩⟩⟩

theorem PaShift.start {t : Buf} {c : PPAIs} (h : PaIdle t c) (o : Nat) (ho : o ≤ t.size) (m : Nat) :
    PaShift t o { c.wrap with hNo := m, lastHVal := {} } := by
  refine ⟨h.clean, ⟨o, PField.inside_zero o, ?_⟩⟩
  show SlEl t o o c.wrap.cur
  rw [h.cur]; exact SlEl_new t o o ho (Nat.le_refl _)

theorem parseAllPAIValues_shift' (pre t : Buf) (o : Nat) (c : PPAIs)
    (hfit : pre.size + t.size ≤ 65535) (h : PaShift t o c) :
    slPaRes pre.size (parseAllPAIValues (pre ++ t) (pre.size + o) (shPa pre.size c)) (parseAllPAIValues t o c) ∧
    ((parseAllPAIValues t o c).2.1 = .moreBytes →
      PaShift t (parseAllPAIValues t o c).1 (parseAllPAIValues t o c).2.2) := by
  rw [parseAllPAIValues_eq_wrap, parseAllPAIValues_eq_wrap, shPa_wrap]
  exact paisLoop_shift' pre t o c.wrap hfit h.wrap

theorem slCtRes_exact {k : Nat} {r' r : Nat × Err × PContacts} (h : slCtRes k r' r)
    (hv : r.2.1 = .ok ∨ r.2.1 = .moreBytes) : r' = shRes k (shCt k) r :=
  Prod.ext h.1 (Prod.ext h.2.1 (h.2.2.1 hv))

theorem slPaRes_exact {k : Nat} {r' r : Nat × Err × PPAIs} (h : slPaRes k r' r)
    (hv : r.2.1 = .ok ∨ r.2.1 = .moreBytes) : r' = shRes k (shPa k) r :=
  Prod.ext h.1 (Prod.ext h.2.1 (h.2.2.1 hv))

/-- the contact-values loop is position independent (result form `slCtRes`) -/
theorem contactsLoop_shift (pre t : Buf) (o : Nat) (c : PContacts) (hfit : pre.size + t.size ≤ 65535)
    (h : CtShift t o c) :
    slCtRes pre.size (contactsLoop (pre ++ t) (pre.size + o) (shCt pre.size c)) (contactsLoop t o c) :=
  (contactsLoop_shift' pre t o c hfit h).1

theorem contactsLoop_shiftEntry (t : Buf) (o : Nat) (c : PContacts) (hfit : t.size ≤ 65535) (h : CtShift t o c)
    (hm : (contactsLoop t o c).2.1 = .moreBytes) : CtShift t (contactsLoop t o c).1 (contactsLoop t o c).2.2 :=
  (contactsLoop_shift' #[] t o c (by simpa using hfit) h).2 hm

/-- [C11 `shift_contacts`] ParseAllContactValues is position independent -/
theorem parseAllContactValues_shift (pre t : Buf) (o : Nat) (c : PContacts) (hfit : pre.size + t.size ≤ 65535)
    (h : CtShift t o c) :
    slCtRes pre.size (parseAllContactValues (pre ++ t) (pre.size + o) (shCt pre.size c)) (parseAllContactValues t o c) :=
  (parseAllContactValues_shift' pre t o c hfit h).1

theorem parseAllContactValues_shiftEntry (t : Buf) (o : Nat) (c : PContacts) (hfit : t.size ≤ 65535)
    (h : CtShift t o c) (hm : (parseAllContactValues t o c).2.1 = .moreBytes) :
    CtShift t (parseAllContactValues t o c).1 (parseAllContactValues t o c).2.2 :=
  (parseAllContactValues_shift' #[] t o c (by simpa using hfit) h).2 hm

/-- [C11] ParseAllContactValues is position independent, in the plain form after OK / MoreBytes -/
theorem parseAllContactValues_shift_exact (pre t : Buf) (o : Nat) (c : PContacts) (hfit : pre.size + t.size ≤ 65535)
    (h : CtShift t o c)
    (hv : (parseAllContactValues t o c).2.1 = .ok ∨ (parseAllContactValues t o c).2.1 = .moreBytes) :
    parseAllContactValues (pre ++ t) (pre.size + o) (shCt pre.size c) =
      shRes pre.size (shCt pre.size) (parseAllContactValues t o c) :=
  slCtRes_exact (parseAllContactValues_shift pre t o c hfit h) hv

/-- [C11] ParseAllContactValues is position independent from a new object of any capacity, at any start offset -/
theorem parseAllContactValues_shift_new (pre t : Buf) (o : Nat) (ho : o ≤ t.size) (m : Nat)
    (hfit : pre.size + t.size ≤ 65535) :
    slCtRes pre.size (parseAllContactValues (pre ++ t) (pre.size + o) { vals := Array.replicate m {} })
      (parseAllContactValues t o { vals := Array.replicate m {} }) := by
  have := parseAllContactValues_shift pre t o { vals := Array.replicate m {} } hfit (CtShift_new t o ho m)
  rw [shCt_new] at this
  exact this

theorem SlEl.append {t : Buf} {o lo : Nat} {pf : PFromBody} (h : SlEl t o lo pf) (s : Buf) : SlEl (t ++ s) o lo pf := by
  refine ⟨by have := h.ho; rw [Array.size_append]; omega, ?_, h.pos, h.nz, h.le, h.vlo⟩
  rcases h.entry with he | he
  · exact Or.inl ⟨he.1, he.2.grow (by rw [Array.size_append]; omega)⟩
  · exact Or.inr ⟨he.1, he.2.append s⟩

theorem CtShift.append {t : Buf} {o : Nat} {c : PContacts} (h : CtShift t o c) (s : Buf) : CtShift (t ++ s) o c := by
  obtain ⟨lo, hL, hel⟩ := h.el
  exact ⟨h.clean, ⟨lo, hL, hel.append s⟩⟩

theorem PaShift.append {t : Buf} {o : Nat} {c : PPAIs} (h : PaShift t o c) (s : Buf) : PaShift (t ++ s) o c := by
  obtain ⟨lo, hL, hel⟩ := h.el
  exact ⟨h.clean, ⟨lo, hL, hel.append s⟩⟩

/-- [C11] the resumed call is position independent too: a value list that ran out of bytes in `t` (parsed from a
    new object), resumed at the returned offset with the returned object once more bytes `s` have arrived -/
theorem parseAllContactValues_shift_resume (pre t s : Buf) (o : Nat) (ho : o ≤ t.size) (m : Nat)
    (hfit : pre.size + (t ++ s).size ≤ 65535) {o1 : Nat} {c1 : PContacts}
    (hr : parseAllContactValues t o { vals := Array.replicate m {} } = (o1, Err.moreBytes, c1)) :
    slCtRes pre.size (parseAllContactValues (pre ++ (t ++ s)) (pre.size + o1) (shCt pre.size c1))
      (parseAllContactValues (t ++ s) o1 c1) := by
  have hE := parseAllContactValues_shiftEntry t o { vals := Array.replicate m {} }
    (by rw [Array.size_append] at hfit; omega) (CtShift_new t o ho m) (by rw [hr])
  rw [hr] at hE
  exact parseAllContactValues_shift pre (t ++ s) o1 c1 hfit (hE.append s)

/-- [C11] what a caller reads from the moved object: the same counts and numbers … -/
theorem shCt_scalars (k : Nat) (c : PContacts) :
    (shCt k c).n = c.n ∧ (shCt k c).hNo = c.hNo ∧ (shCt k c).maxExpires = c.maxExpires ∧
    (shCt k c).minExpires = c.minExpires ∧ (shCt k c).pnc = c.pnc ∧ (shCt k c).vals.size = c.vals.size ∧
    (shCt k c).vNo = c.vNo ∧ (shCt k c).more = c.more ∧ (shCt k c).lastHVal = shO k c.lastHVal := by
  refine ⟨rfl, rfl, rfl, rfl, rfl, Array.size_map .., ?_, ?_, rfl⟩
  · unfold PContacts.vNo shCt; simp only [Array.size_map]
  · unfold PContacts.more shCt; simp only [Array.size_map]

/-- [C11] `GetContact(j)` of the moved object is the moved `GetContact(j)` -/
theorem shCt_getContact (k : Nat) (c : PContacts) (j : Nat) :
    (shCt k c).getContact j = (c.getContact j).map (shNa k) := by
  unfold PContacts.getContact
  rw [(shCt_scalars k c).2.2.2.2.2.2.1]
  have h1 : (shCt k c).isEmpty = c.isEmpty := rfl
  have h2 : (shCt k c).n = c.n := rfl
  rw [h1, h2]
  split
  · show (c.vals.map (shNa k))[j]? = _
    rw [Array.getElem?_map]
  · repeat' split
    all_goals rfl

theorem paisLoop_shift (pre t : Buf) (o : Nat) (c : PPAIs) (hfit : pre.size + t.size ≤ 65535) (h : PaShift t o c) :
    slPaRes pre.size (paisLoop (pre ++ t) (pre.size + o) (shPa pre.size c)) (paisLoop t o c) :=
  (paisLoop_shift' pre t o c hfit h).1

theorem paisLoop_shiftEntry (t : Buf) (o : Nat) (c : PPAIs) (hfit : t.size ≤ 65535) (h : PaShift t o c)
    (hm : (paisLoop t o c).2.1 = .moreBytes) : PaShift t (paisLoop t o c).1 (paisLoop t o c).2.2 :=
  (paisLoop_shift' #[] t o c (by simpa using hfit) h).2 hm

/-- [C11 `shift_pais`] ParseAllPAIValues is position independent -/
theorem parseAllPAIValues_shift (pre t : Buf) (o : Nat) (c : PPAIs) (hfit : pre.size + t.size ≤ 65535)
    (h : PaShift t o c) :
    slPaRes pre.size (parseAllPAIValues (pre ++ t) (pre.size + o) (shPa pre.size c)) (parseAllPAIValues t o c) :=
  (parseAllPAIValues_shift' pre t o c hfit h).1

theorem parseAllPAIValues_shiftEntry (t : Buf) (o : Nat) (c : PPAIs) (hfit : t.size ≤ 65535)
    (h : PaShift t o c) (hm : (parseAllPAIValues t o c).2.1 = .moreBytes) :
    PaShift t (parseAllPAIValues t o c).1 (parseAllPAIValues t o c).2.2 :=
  (parseAllPAIValues_shift' #[] t o c (by simpa using hfit) h).2 hm

theorem parseAllPAIValues_shift_exact (pre t : Buf) (o : Nat) (c : PPAIs) (hfit : pre.size + t.size ≤ 65535)
    (h : PaShift t o c)
    (hv : (parseAllPAIValues t o c).2.1 = .ok ∨ (parseAllPAIValues t o c).2.1 = .moreBytes) :
    parseAllPAIValues (pre ++ t) (pre.size + o) (shPa pre.size c) =
      shRes pre.size (shPa pre.size) (parseAllPAIValues t o c) :=
  slPaRes_exact (parseAllPAIValues_shift pre t o c hfit h) hv

theorem parseAllPAIValues_shift_new (pre t : Buf) (o : Nat) (ho : o ≤ t.size) (hfit : pre.size + t.size ≤ 65535) :
    slPaRes pre.size (parseAllPAIValues (pre ++ t) (pre.size + o) {}) (parseAllPAIValues t o {}) := by
  have := parseAllPAIValues_shift pre t o {} hfit (PaShift_new t o ho)
  rw [shPa_new] at this
  exact this

theorem parseAllPAIValues_shift_resume (pre t s : Buf) (o : Nat) (ho : o ≤ t.size)
    (hfit : pre.size + (t ++ s).size ≤ 65535) {o1 : Nat} {c1 : PPAIs}
    (hr : parseAllPAIValues t o {} = (o1, Err.moreBytes, c1)) :
    slPaRes pre.size (parseAllPAIValues (pre ++ (t ++ s)) (pre.size + o1) (shPa pre.size c1))
      (parseAllPAIValues (t ++ s) o1 c1) := by
  have hE := parseAllPAIValues_shiftEntry t o {} (by rw [Array.size_append] at hfit; omega) (PaShift_new t o ho)
    (by rw [hr])
  rw [hr] at hE
  exact parseAllPAIValues_shift pre (t ++ s) o1 c1 hfit (hE.append s)

theorem shPa_scalars (k : Nat) (c : PPAIs) :
    (shPa k c).n = c.n ∧ (shPa k c).hNo = c.hNo ∧ (shPa k c).pnc = c.pnc ∧ (shPa k c).vals.size = c.vals.size ∧
    (shPa k c).vNo = c.vNo ∧ (shPa k c).more = c.more ∧ (shPa k c).lastHVal = shO k c.lastHVal := by
  refine ⟨rfl, rfl, rfl, Array.size_map .., ?_, ?_, rfl⟩
  · unfold PPAIs.vNo shPa; simp only [Array.size_map]
  · unfold PPAIs.more shPa; simp only [Array.size_map]

theorem shPa_getPAI (k : Nat) (c : PPAIs) (j : Nat) : (shPa k c).getPAI j = (c.getPAI j).map (shNa k) := by
  unfold PPAIs.getPAI
  rw [(shPa_scalars k c).2.2.2.2.1]
  split
  · show (c.vals.map (shNa k))[j]? = _
    rw [Array.getElem?_map]
  · rfl

/-! ### non-vacuity (tests, `decide +kernel` on concrete inputs; the general claims are the theorems above) -/

/-- field-wise equality of two contacts objects (the structure has no `DecidableEq` instance) -/
def slCtEq (a b : PContacts) : Prop :=
  a.vals = b.vals ∧ a.n = b.n ∧ a.hNo = b.hNo ∧ a.maxExpires = b.maxExpires ∧ a.minExpires = b.minExpires ∧
    a.lastHVal = b.lastHVal ∧ a.last = b.last ∧ a.first = b.first ∧ a.pnc = b.pnc

instance (a b : PContacts) : Decidable (slCtEq a b) := by unfold slCtEq; infer_instance

def slPaEq (a b : PPAIs) : Prop :=
  a.vals = b.vals ∧ a.n = b.n ∧ a.hNo = b.hNo ∧ a.lastHVal = b.lastHVal ∧ a.last = b.last ∧ a.pnc = b.pnc

instance (a b : PPAIs) : Decidable (slPaEq a b) := by unfold slPaEq; infer_instance

-- two contacts (capacity 1: the second one goes to `last`), the text starts at buffer offset 0: after 3 junk bytes
-- the same verdict and counts, offset + 3, every element and the running extent (`lastHVal`, offset 0 → 3) moved
example :
    let t := "<sip:a@b>;expires=5, \"B\" <sip:c@d>;q=0.5\r\nX".toUTF8.data
    let r := parseAllContactValues t 0 { vals := Array.replicate 1 {} }
    let r' := parseAllContactValues ("xyz".toUTF8.data ++ t) 3 { vals := Array.replicate 1 {} }
    r.2.1 = Err.ok ∧ r.2.2.n = 2 ∧ r.2.2.lastHVal = ⟨0, 40⟩ ∧ r'.1 = 3 + r.1 ∧ r'.2.1 = r.2.1 ∧
      slCtEq r'.2.2 (shCt 3 r.2.2) ∧ r'.2.2.lastHVal = ⟨3, 40⟩ ∧ r'.2.2.maxExpires = 5 := by decide +kernel

-- an error verdict: the stale restart offset of the element in progress is not moved, everything else is
example :
    let t := "a <b<".toUTF8.data
    let r := parseAllContactValues t 0 { vals := Array.replicate 1 {} }
    let r' := parseAllContactValues ("xyz".toUTF8.data ++ t) 3 { vals := Array.replicate 1 {} }
    r.2.1 = Err.badChar ∧ r'.1 = 3 + r.1 ∧ r'.2.1 = r.2.1 ∧ ¬ slCtEq r'.2.2 (shCt 3 r.2.2) ∧
      slCtEq (ctObsCur r'.2.2) (ctObsCur (shCt 3 r.2.2)) := by decide +kernel

-- a list that runs out of bytes inside the second value (capacity 1: element in progress is `last`) and is
-- resumed after 3 junk bytes with the moved object
example :
    let t := "<sip:a@b>, <sip:c".toUTF8.data
    let ts := "<sip:a@b>, <sip:c@d>\r\nX".toUTF8.data
    let r1 := parseAllContactValues t 0 { vals := Array.replicate 1 {} }
    let r := parseAllContactValues ts r1.1 r1.2.2
    let r' := parseAllContactValues ("xyz".toUTF8.data ++ ts) (3 + r1.1) (shCt 3 r1.2.2)
    r1.2.1 = Err.moreBytes ∧ r1.2.2.last.soffs = 12 ∧ (shCt 3 r1.2.2).last.soffs = 15 ∧ r.2.1 = Err.ok ∧ r.2.2.n = 2 ∧
      r'.1 = 3 + r.1 ∧ r'.2.1 = r.2.1 ∧ slCtEq r'.2.2 (shCt 3 r.2.2) := by decide +kernel

-- P-Asserted-Identity: two identities; and the `*` value, which ParseOnePAI turns into ErrHdrValBad
example :
    let t := "<sip:a@b>, <tel:1>\r\nX".toUTF8.data
    let r := parseAllPAIValues t 0 {}
    let r' := parseAllPAIValues ("xyz".toUTF8.data ++ t) 3 {}
    r.2.1 = Err.ok ∧ r.2.2.n = 2 ∧ r'.1 = 3 + r.1 ∧ r'.2.1 = r.2.1 ∧ slPaEq r'.2.2 (shPa 3 r.2.2) ∧
      r'.2.2.lastHVal = ⟨3, 18⟩ := by decide +kernel

example :
    let t := "<sip:a@b>, *\r\nX".toUTF8.data
    let r := parseAllPAIValues t 0 {}
    let r' := parseAllPAIValues ("xyz".toUTF8.data ++ t) 3 {}
    r.2.1 = Err.valBad ∧ r'.1 = 3 + r.1 ∧ r'.2.1 = r.2.1 ∧ slPaEq r'.2.2 (shPa 3 r.2.2) := by decide +kernel

end Sipsp
