/-
  Sipsp.Proofs.ShiftMsg — position independence (C11) of ParseHdrLine, ParseHeaders and ParseSIPMsg, in the setting of
  Sipsp.Proofs.Shift, and its pipelining corollary (C06). The call on `pre ++ t` at `k + o` with the moved objects
  (`shHdr`, `shHv`, `shHls`, `shFl`, `shMsg`) returns the returned offset + `k`, the same verdict and the moved objects:
  exactly after OK / MoreBytes / Empty (whenever ParseSIPMsg does not end in the error state), and after an error
  verdict up to the saved restart offset of the name-addr value that was being parsed — that field is never reported
  and is stale after an error (see ShiftNA; the plain form is false there, a test below exhibits it).

  The hypotheses (`HlAll`, `HlsAll`, `MsgAll`) are the panic-freedom invariants plus `HlSh` / `HvSh`: positions that
  are set are ≥ 1, so that "zero = not set" means the same in both runs. They hold of new objects and of every object
  produced by Init, and are re-established after OK and after MoreBytes at the returned offset, also on a grown buffer.
  Not covered: message objects that have already terminated (Err / NoCLen / Fin) and objects returned with an error.
-/
import Sipsp.Proofs.ShiftLists
import Sipsp.Proofs.ValCall
import Sipsp.Proofs.SafeMsg
import Sipsp.Proofs.FieldsLo
import Sipsp.Proofs.HlLex
import Sipsp.Proofs.Layout
import Sipsp.Proofs.ShiftFLine

namespace Sipsp

/-- **the header-values object moved by `k`**: every typed value object through its own translation -/
def shHv (k : Nat) (hv : PHdrVals) : PHdrVals :=
  { from_ := shNa k hv.from_, to := shNa k hv.to, callid := shCi k hv.callid, cseq := shCs k hv.cseq,
    clen := shCl k hv.clen, contacts := shCt k hv.contacts, pais := shPa k hv.pais, expires := shCl k hv.expires }

/-- the name of a header: set (and moved) in every state but the initial one; in the final state the zero field
    means "not set" (the empty line that ends the header block) -/
def shHn (k : Nat) (st : HState) (f : PField) : PField :=
  match st with
  | .init | .fin => shO k f
  | _ => shF k f

/-- **a header moved by `k`**: name and value moved when set (value: zero field = not set); type, state and the
    panic flag unchanged -/
def shHdr (k : Nat) (h : Hdr) : Hdr := { h with name := shHn k h.state h.name, val := shO k h.val }

/-- the loop state of ParseHdrLine -/
def shHL (k : Nat) (st : HLσ) : HLσ := (shHdr k st.1, st.2.map (shHv k))

/-- **the header list moved by `k`**: every stored header, the first-of-type shortcuts and the header in progress;
    count and type flags unchanged -/
def shHls (k : Nat) (hl : HdrLst) : HdrLst :=
  { hl with hdrs := hl.hdrs.map (shHdr k), h := hl.h.map (shHdr k), hdr := shHdr k hl.hdr }

theorem shHv_new (k m : Nat) :
    shHv k ({ contacts := { vals := Array.replicate m {} } } : PHdrVals) = { contacts := { vals := Array.replicate m {} } } := by
  unfold shHv
  simp only [shNa_new, shCt_new, shPa_new]
  rfl

theorem shHdr_new (k : Nat) : shHdr k {} = {} := rfl

theorem shHdr_type (k : Nat) (h : Hdr) : (shHdr k h).type = h.type := rfl
theorem shHdr_state (k : Nat) (h : Hdr) : (shHdr k h).state = h.state := rfl
theorem shHdr_pnc (k : Nat) (h : Hdr) : (shHdr k h).pnc = h.pnc := rfl

theorem shHls_new (k m : Nat) : shHls k ({ hdrs := Array.replicate m {} } : HdrLst) = { hdrs := Array.replicate m {} } := by
  unfold shHls
  simp only [Array.map_replicate, shHdr_new]

/-- what a caller can read of the header-values object after an error verdict: everything but the (never reported,
    stale) saved restart offset of the name-addr value that was being parsed -/
def smHvObs (hv : PHdrVals) : PHdrVals :=
  { hv with from_ := hv.from_.obs, to := hv.to.obs, contacts := ctObsCur hv.contacts, pais := paObsCur hv.pais }

def smHLObs (st : HLσ) : HLσ := (st.1, st.2.map smHvObs)

/-- verdicts after which the result is the moved result exactly -/
def smExact (e : Err) : Prop := e = .ok ∨ e = .moreBytes ∨ e = .empty

/-- the state `x` returned with verdict `e` is the moved state `y`: exactly after OK / MoreBytes / Empty, up to the
    stale restart offset otherwise -/
def smRelHL (k : Nat) (e : Err) (x y : HLσ) : Prop := smHLObs x = smHLObs (shHL k y) ∧ (smExact e → x = shHL k y)

theorem smRelHL_refl (k : Nat) (e : Err) (y : HLσ) : smRelHL k e (shHL k y) y := ⟨rfl, fun _ => rfl⟩

theorem smCs_posMore (t : Buf) (o : Nat) (st : PCSeqBody) (hP : CsPos o st)
    {o' : Nat} {st' : PCSeqBody} (hr : parseCSeqVal t o st = (o', .moreBytes, st')) : CsPos o' st' := by
  unfold parseCSeqVal at hr
  split at hr
  · cases hr
  · have := runLoop_safe2 csMachine t CsPos (fun n e s => e = .moreBytes → CsPos n s) cs_progress
      (fun i c s hb hs => csStep_pos t i c s hb hs) (fun i s hs _ => hs) o st hP
    rw [hr] at this
    exact this rfl

theorem smSlEl_fin {t : Buf} {n : Nat} {f : PFromBody} (hf : f.state = .fin) (hout : NaOut t n f)
    (hnz : 1 ≤ f.v.offs + f.v.len) : SlEl t n 0 f :=
  ⟨hout.ho, Or.inl ⟨hf, hout⟩, fun hh => absurd hf hh, fun _ => hnz, Nat.zero_le _, Or.inr (Nat.zero_le _)⟩

theorem smSlEl_mono {t : Buf} {o o' : Nat} {pf : PFromBody} (h : SlEl t o 0 pf) (h1 : o ≤ o') (h2 : o' ≤ t.size) :
    SlEl t o' 0 pf :=
  ⟨h2, h.entry.mono h1 h2, fun hf => (h.pos hf).mono h1, h.nz, Nat.zero_le _, h.vlo⟩

theorem smNa_call (h : Nat) (pre t : Buf) (o : Nat) (pf : PFromBody) (hfit : pre.size + t.size ≤ 65535)
    (hel : SlEl t o 0 pf) {n : Nat} {e : Err} {f : PFromBody} (hp : parseNameAddrPVal h t o pf = (n, e, f)) :
    ∃ f', parseNameAddrPVal h (pre ++ t) (pre.size + o) (shNa pre.size pf) = (pre.size + n, e, f') ∧
      f'.obs = (shNa pre.size f).obs ∧ (smExact e → f' = shNa pre.size f) ∧
      (e = .ok → f'.v = shO pre.size f.v) ∧ ((e = .ok ∨ e = .moreBytes) → SlEl t n 0 f) := by
  have one := sl_one h t o 0 pf (by omega) hel hp
  have hne : (parseNameAddrPVal h t o pf).2.1 ≠ .empty :=
    ne_of_verdicts (parseNameAddrPVal_verdicts h t o pf) (by decide)
  rw [hp] at hne
  have hs := parseNameAddrPVal_shift h pre t o pf hfit hel.shiftEntry
  rw [hp] at hs
  by_cases hw : naWrote e = true
  · rw [sl_shResNa_wrote _ _ _ _ _ hw] at hs
    refine ⟨_, hs, rfl, fun _ => rfl, fun he => ?_, fun he => ?_⟩
    · subst he
      obtain ⟨f1, f2, f3, f4⟩ := one.fin (Or.inl rfl)
      rw [sl_shNa_fin_v _ _ f1, sl_shO_of_pos _ _ f4]
    · rcases he with rfl | rfl
      · obtain ⟨f1, _, _, f4⟩ := one.fin (Or.inl rfl)
        exact smSlEl_fin f1 one.out f4
      · exact (one.more rfl).1
  · have hw' : naWrote e = false := by simpa using hw
    rw [sl_shResNa_stale _ _ _ _ _ hw'] at hs
    refine ⟨_, hs, rfl, fun hx => ?_, fun he => ?_, fun he => ?_⟩
    · rcases hx with rfl | rfl | rfl
      · cases hw'
      · cases hw'
      · exact absurd rfl hne
    · subst he; cases hw'
    · rcases he with rfl | rfl <;> cases hw'

theorem smCi_call (pre t : Buf) (o : Nat) (st : PCallIDBody) (hfit : pre.size + t.size ≤ 65535) (h1 : 1 ≤ o)
    (hS : CiSafe t o st) (hL : CiLoI 1 o st) {n : Nat} {e : Err} {f : PCallIDBody}
    (hp : parseCallIDVal t o st = (n, e, f)) :
    parseCallIDVal (pre ++ t) (pre.size + o) (shCi pre.size st) = (pre.size + n, e, shCi pre.size f) ∧
      (e = .ok → (shCi pre.size f).callID = shO pre.size f.callID) ∧
      ((e = .ok ∨ e = .moreBytes) → CiLoI 1 n f) := by
  refine ⟨by rw [parseCallIDVal_shift pre t o st hS hfit, hp]; rfl, fun he => ?_, fun he => ?_⟩
  · subst he
    have hf := (parseCallIDVal_post t o st hS.hi hp).2.2.1
    have hlo := parseCallIDVal_lo t o 1 st (by omega) h1 hL hp
    rw [sl_shO_of_pos _ _ (by omega)]
    simp [shCi, hf]
  · rcases he with rfl | rfl
    · have hf := (parseCallIDVal_post t o st hS.hi hp).2.2.1
      have hlo := parseCallIDVal_lo t o 1 st (by omega) h1 hL hp
      exact ⟨(fun hh => by rw [hf] at hh; cases hh), fun _ => hlo⟩
    · exact parseCallIDVal_more t o 1 st (by omega) h1 hL hp

theorem smUInt_call (pre t : Buf) (o : Nat) (st : PUIntBody) (hfit : pre.size + t.size ≤ 65535) (h1 : 1 ≤ o)
    (hS : ClSafe t o st) (hL : ClLoI 1 o st) {n : Nat} {e : Err} {f : PUIntBody}
    (hp : parseUIntVal t o st = (n, e, f)) :
    parseUIntVal (pre ++ t) (pre.size + o) (shCl pre.size st) = (pre.size + n, e, shCl pre.size f) ∧
      (e = .ok → (shCl pre.size f).sVal = shO pre.size f.sVal) ∧
      ((e = .ok ∨ e = .moreBytes) → ClLoI 1 n f) := by
  refine ⟨by rw [parseUIntVal_shift pre t o st hS hfit, hp]; rfl, fun he => ?_, fun he => ?_⟩
  · subst he
    have hf := (parseUIntVal_post t o st hS.hi hp).2.2.1
    have hlo := parseUIntVal_lo t o 1 st (by omega) h1 hL hp
    rw [sl_shO_of_pos _ _ (by omega)]
    simp [shCl, hf]
  · rcases he with rfl | rfl
    · have hf := (parseUIntVal_post t o st hS.hi hp).2.2.1
      have hlo := parseUIntVal_lo t o 1 st (by omega) h1 hL hp
      exact ⟨(fun hh => by rw [hf] at hh; cases hh), fun _ => hlo⟩
    · exact parseUIntVal_more t o 1 st (by omega) h1 hL hp

theorem smClen_call (pre t : Buf) (o : Nat) (st : PUIntBody) (hfit : pre.size + t.size ≤ 65535) (h1 : 1 ≤ o)
    (hS : ClSafe t o st) (hL : ClLoI 1 o st) {n : Nat} {e : Err} {f : PUIntBody}
    (hp : parseCLenVal t o st = (n, e, f)) :
    parseCLenVal (pre ++ t) (pre.size + o) (shCl pre.size st) = (pre.size + n, e, shCl pre.size f) ∧
      (e = .ok → (shCl pre.size f).sVal = shO pre.size f.sVal) ∧
      ((e = .ok ∨ e = .moreBytes) → ClLoI 1 n f) := by
  -- after OK / MoreBytes the call is ParseUIntVal
  have hu : e = .ok ∨ e = .moreBytes → parseUIntVal t o st = (n, e, f) := fun he =>
    parseCLenVal_under' t o st hp (by rcases he with rfl | rfl <;> exact fun hh => by cases hh)
  exact ⟨by rw [parseCLenVal_shift pre t o st hS hfit, hp]; rfl,
    fun he => (smUInt_call pre t o st hfit h1 hS hL (hu (Or.inl he))).2.1 he,
    fun he => (smUInt_call pre t o st hfit h1 hS hL (hu he)).2.2 he⟩

theorem smCs_call (pre t : Buf) (o : Nat) (st : PCSeqBody) (hfit : pre.size + t.size ≤ 65535) (h1 : 1 ≤ o)
    (hS : CsSafe t o st) (hP : CsPos o st) (hL : CsLoI 1 o st) {n : Nat} {e : Err} {f : PCSeqBody}
    (hp : parseCSeqVal t o st = (n, e, f)) :
    parseCSeqVal (pre ++ t) (pre.size + o) (shCs pre.size st) = (pre.size + n, e, shCs pre.size f) ∧
      (e = .ok → (shCs pre.size f).v = shO pre.size f.v) ∧
      ((e = .ok ∨ e = .moreBytes) → CsPos n f ∧ CsLoI 1 n f) := by
  refine ⟨by rw [parseCSeqVal_shift pre t o st hS hP hfit, hp]; rfl, fun he => ?_, fun he => ?_⟩
  · subst he
    have hf := (parseCSeqVal_post t o st hS.hi hp).2.2.1
    have hlo := (parseCSeqVal_lo t o 1 st (by omega) h1 hL hp).lo
    rw [sl_shO_of_pos _ _ (by omega)]
    simp [shCs, hf]
  · rcases he with rfl | rfl
    · have hq := parseCSeqVal_post t o st hS.hi hp
      have hn := parseCSeqVal_lo t o 1 st (by omega) h1 hL hp
      refine ⟨⟨fun _ => by omega, fun hh => ?_⟩, ⟨fun hh => ?_, fun hh => ?_, fun hh => ?_, fun _ => hn⟩⟩
      · rcases hh with hh | hh <;> (rw [hq.2.2.1] at hh; cases hh)
      · rw [hq.2.2.1] at hh; cases hh
      · rw [hq.2.2.1] at hh; cases hh
      · rw [hq.2.2.1] at hh; cases hh
    · exact ⟨smCs_posMore t o st hP hp, parseCSeqVal_more t o 1 st (by omega) h1 hL hp⟩

/-- **what the shift theorems need of the header-values object** at offset `o`, in addition to the panic-freedom
    invariant `HvSafe` (which bounds every position from above): the name-addr objects satisfy the entry conditions of
    ShiftNA / ShiftLists (`SlEl`: set positions are not zero, a completed value is not the zero field), the typed
    values lie at positions `≥ 1` (`CiLoI 1` …: a header value never starts at buffer offset 0, so "zero field = not
    set" is unambiguous for the value of the header), and a value list in progress is legitimate (`CtShift`) -/
structure HvSh (t : Buf) (o : Nat) (st : HState) (hv : PHdrVals) : Prop where
  from_ : SlEl t o 0 hv.from_
  to : SlEl t o 0 hv.to
  callid : CiLoI 1 o hv.callid
  cseqP : CsPos o hv.cseq
  cseqL : CsLoI 1 o hv.cseq
  clen : ClLoI 1 o hv.clen
  expires : ClLoI 1 o hv.expires
  ct : st = .hContact → CtShift t o hv.contacts
  pa : st = .hPAI → PaShift t o hv.pais

/-- moving on, in a header state that is not "inside a value list" -/
theorem HvSh.monoNV {t : Buf} {o o' : Nat} {st st' : HState} {hv : PHdrVals} (h : HvSh t o st hv) (h1 : o ≤ o')
    (h2 : o' ≤ t.size) (n1 : st' ≠ .hContact) (n2 : st' ≠ .hPAI) : HvSh t o' st' hv :=
  ⟨smSlEl_mono h.from_ h1 h2, smSlEl_mono h.to h1 h2, h.callid.mono h1, h.cseqP.mono h1, h.cseqL.mono h1,
   h.clen.mono h1, h.expires.mono h1, fun hh => absurd hh n1, fun hh => absurd hh n2⟩

theorem smCsPos_new (o : Nat) : CsPos o {} :=
  ⟨fun hh => absurd rfl hh, fun hh => by rcases hh with hh | hh <;> cases hh⟩

theorem HvSh_new (t : Buf) (o : Nat) (ho : o ≤ t.size) (st : HState) (m : Nat) :
    HvSh t o st ({ contacts := { vals := Array.replicate m {} } } : PHdrVals) :=
  ⟨SlEl_new t o 0 ho (Nat.zero_le _), SlEl_new t o 0 ho (Nat.zero_le _), CiLoI_init 1 o _ rfl, smCsPos_new o,
   CsLoI_init 1 o _ rfl, ClLoI_init 1 o _ rfl, ClLoI_init 1 o _ rfl, fun _ => CtShift_new t o ho m,
   fun _ => PaShift_new t o ho⟩

theorem shHv_from (k : Nat) (hv : PHdrVals) : (shHv k hv).from_ = shNa k hv.from_ := rfl
theorem shHv_to (k : Nat) (hv : PHdrVals) : (shHv k hv).to = shNa k hv.to := rfl
theorem shHv_callid (k : Nat) (hv : PHdrVals) : (shHv k hv).callid = shCi k hv.callid := rfl
theorem shHv_cseq (k : Nat) (hv : PHdrVals) : (shHv k hv).cseq = shCs k hv.cseq := rfl
theorem shHv_clen (k : Nat) (hv : PHdrVals) : (shHv k hv).clen = shCl k hv.clen := rfl
theorem shHv_contacts (k : Nat) (hv : PHdrVals) : (shHv k hv).contacts = shCt k hv.contacts := rfl
theorem shHv_pais (k : Nat) (hv : PHdrVals) : (shHv k hv).pais = shPa k hv.pais := rfl
theorem shHv_expires (k : Nat) (hv : PHdrVals) : (shHv k hv).expires = shCl k hv.expires := rfl

theorem smNa_parsed (k : Nat) (pf : PFromBody) : (shNa k pf).parsed = pf.parsed := rfl
theorem smCi_parsed (k : Nat) (st : PCallIDBody) : (shCi k st).parsed = st.parsed := by
  unfold PCallIDBody.parsed; rw [shCi_state]
theorem smCl_parsed (k : Nat) (st : PUIntBody) : (shCl k st).parsed = st.parsed := by
  unfold PUIntBody.parsed; rw [shCl_state]
theorem smCs_parsed (k : Nat) (st : PCSeqBody) : (shCs k st).parsed = st.parsed := by
  unfold PCSeqBody.parsed; rw [shCs_state]

theorem smHn_mid (k : Nat) (S S' : HState) (f : PField) (h1 : S ≠ .init) (h2 : S ≠ .fin) (h3 : S' ≠ .init) (h4 : S' ≠ .fin) :
    shHn k S f = shHn k S' f := by
  have : ∀ X : HState, X ≠ .init → X ≠ .fin → shHn k X f = shF k f := by
    intro X a b; cases X <;> first | rfl | exact absurd rfl a | exact absurd rfl b
  rw [this S h1 h2, this S' h3 h4]

theorem smExact_ok_or {e : Err} (h : smExact e) (hne : e ≠ .empty) : e = .ok ∨ e = .moreBytes := by
  rcases h with h | h | h
  · exact Or.inl h
  · exact Or.inr h
  · exact absurd h hne

theorem smKind_shift (k : Nat) (h : Hdr) (hv : PHdrVals) : valKind (shHdr k h) (shHv k hv) = valKind h hv := by
  unfold valKind
  simp only [shHdr_type, shHv_from, shHv_to, shHv_callid, shHv_cseq, shHv_clen, shHv_expires, smNa_parsed, smCi_parsed,
    smCl_parsed, smCs_parsed]
  rfl

theorem smCtArg_shift (k : Nat) (st : HState) (c : PContacts) : ctArg st (shCt k c) = shCt k (ctArg st c) := by
  unfold ctArg; split <;> rfl

theorem smPaArg_shift (k : Nat) (st : HState) (c : PPAIs) : paArg st (shPa k c) = shPa k (paArg st c) := by
  unfold paArg; split <;> rfl

/-- the Contact value list, on a new header line (the object is idle between header lines) or resumed -/
theorem smCt_call (pre t : Buf) (o : Nat) (st : HState) (hv : PHdrVals) (hfit : pre.size + t.size ≤ 65535)
    (ho : o ≤ t.size) (hS : HvSafe t o st hv) (hX : HvSh t o st hv) :
    slCtRes pre.size (parseAllContactValues (pre ++ t) (pre.size + o) (shCt pre.size (ctArg st hv.contacts)))
        (parseAllContactValues t o (ctArg st hv.contacts)) ∧
      ((parseAllContactValues t o (ctArg st hv.contacts)).2.1 = .moreBytes →
        CtShift t (parseAllContactValues t o (ctArg st hv.contacts)).1
          (parseAllContactValues t o (ctArg st hv.contacts)).2.2) := by
  unfold ctArg
  by_cases hst : st = .hContact
  · subst hst
    exact parseAllContactValues_shift' pre t o hv.contacts hfit (hX.ct rfl)
  · rw [if_pos (by simpa using hst), parseAllContactValues_eq_wrap, parseAllContactValues_eq_wrap, shCt_wrap, bump_wrap]
    exact contactsLoop_shift' pre t o _ hfit (CtShift.start (hS.ctI hst) o ho _)

theorem smPa_call (pre t : Buf) (o : Nat) (st : HState) (hv : PHdrVals) (hfit : pre.size + t.size ≤ 65535)
    (ho : o ≤ t.size) (hS : HvSafe t o st hv) (hX : HvSh t o st hv) :
    slPaRes pre.size (parseAllPAIValues (pre ++ t) (pre.size + o) (shPa pre.size (paArg st hv.pais)))
        (parseAllPAIValues t o (paArg st hv.pais)) ∧
      ((parseAllPAIValues t o (paArg st hv.pais)).2.1 = .moreBytes →
        PaShift t (parseAllPAIValues t o (paArg st hv.pais)).1 (parseAllPAIValues t o (paArg st hv.pais)).2.2) := by
  unfold paArg
  by_cases hst : st = .hPAI
  · subst hst
    exact parseAllPAIValues_shift' pre t o hv.pais hfit (hX.pa rfl)
  · rw [if_pos (by simpa using hst), parseAllPAIValues_eq_wrap, parseAllPAIValues_eq_wrap, shPa_wrap, paBump_wrap]
    exact paisLoop_shift' pre t o _ hfit (PaShift.start (hS.paI hst) o ho _)

/-- **the typed value parsers are position independent**, all eight kinds (`hrg`: the range of the returned offset,
    which the callers have from their own post-conditions) -/
theorem smValCall_shift (pre t : Buf) (o : Nat) (S st : HState) (hv : PHdrVals) (hfit : pre.size + t.size ≤ 65535)
    (h1 : 1 ≤ o) (ho : o ≤ t.size) (hisv : S.isVal) (hS : HvSafe t o st hv) (hX : HvSh t o st hv)
    {n : Nat} {e : Err} {V : PField} {hv2 : PHdrVals} (hr : valCall S st t o hv = (n, e, V, hv2))
    (hrg : e = .ok ∨ e = .moreBytes → o ≤ n ∧ n ≤ t.size) :
    ∃ V' hv2', valCall S st (pre ++ t) (pre.size + o) (shHv pre.size hv) = (pre.size + n, e, V', hv2') ∧
      (e = .ok → V' = shO pre.size V) ∧ smHvObs hv2' = smHvObs (shHv pre.size hv2) ∧
      (smExact e → hv2' = shHv pre.size hv2) ∧ (e = .ok → HvSh t n .fin hv2) ∧ (e = .moreBytes → HvSh t n S hv2) := by
  have hfin : ∀ {n : Nat} {e : Err}, (e = .ok ∨ e = .moreBytes → o ≤ n ∧ n ≤ t.size) → e = .ok → HvSh t n .fin hv :=
    fun hrg he => hX.monoNV (hrg (Or.inl he)).1 (hrg (Or.inl he)).2 (by decide) (by decide)
  have hmore : ∀ {n : Nat} {e : Err}, (e = .ok ∨ e = .moreBytes → o ≤ n ∧ n ≤ t.size) → ∀ S' : HState,
      S' ≠ .hContact → S' ≠ .hPAI → e = .moreBytes → HvSh t n S' hv :=
    fun hrg S' a1 a2 he => hX.monoNV (hrg (Or.inr he)).1 (hrg (Or.inr he)).2 a1 a2
  -- per kind: the value's own shift lemma gives the moved call; the returned object differs from `hv` in that one
  -- component, so the invariant is `hfin` / `hmore` with that component replaced
  refine valCall_cases (M := fun n e V hv2 => (e = .ok ∨ e = .moreBytes → o ≤ n ∧ n ≤ t.size) →
      ∃ V' hv2', valCall S st (pre ++ t) (pre.size + o) (shHv pre.size hv) = (pre.size + n, e, V', hv2') ∧
        (e = .ok → V' = shO pre.size V) ∧ smHvObs hv2' = smHvObs (shHv pre.size hv2) ∧
        (smExact e → hv2' = shHv pre.size hv2) ∧ (e = .ok → HvSh t n .fin hv2) ∧ (e = .moreBytes → HvSh t n S hv2))
    (from_ := fun hk n e f hq hrg => ?from_) (to := fun hk n e f hq hrg => ?to)
    (callID := fun hk n e f hq hrg => ?callID) (cseq := fun hk n e f hq hrg => ?cseq)
    (clen := fun hk n e f hq hrg => ?clen) (contact := fun hk n e c hq hrg => ?contact)
    (expires := fun hk n e f hq hrg => ?expires) (pai := fun hk n e c hq hrg => ?pai)
    (other := fun hk _ => absurd hisv hk) hr hrg
  all_goals subst hk; simp only [valCall]
  case from_ =>
    obtain ⟨f', c1, c2, c3, c4, c5⟩ := smNa_call HdrFrom pre t o hv.from_ hfit hX.from_ hq
    simp only [shHv_from, c1]
    exact ⟨_, _, rfl, c4, by unfold smHvObs shHv; simp only [c2], fun hx => by rw [c3 hx]; rfl,
      fun he => { hfin hrg he with from_ := c5 (Or.inl he) },
      fun he => { hmore hrg .hFrom (by decide) (by decide) he with from_ := c5 (Or.inr he) }⟩
  case to =>
    obtain ⟨f', c1, c2, c3, c4, c5⟩ := smNa_call HdrTo pre t o hv.to hfit hX.to hq
    simp only [shHv_to, c1]
    exact ⟨_, _, rfl, c4, by unfold smHvObs shHv; simp only [c2], fun hx => by rw [c3 hx]; rfl,
      fun he => { hfin hrg he with to := c5 (Or.inl he) },
      fun he => { hmore hrg .hTo (by decide) (by decide) he with to := c5 (Or.inr he) }⟩
  case callID =>
    obtain ⟨c1, c4, c5⟩ := smCi_call pre t o hv.callid hfit h1 hS.callid hX.callid hq
    simp only [shHv_callid, c1]
    exact ⟨_, shHv pre.size { hv with callid := f }, rfl, c4, rfl, fun _ => rfl,
      fun he => { hfin hrg he with callid := c5 (Or.inl he) },
      fun he => { hmore hrg .hCallID (by decide) (by decide) he with callid := c5 (Or.inr he) }⟩
  case cseq =>
    obtain ⟨c1, c4, c5⟩ := smCs_call pre t o hv.cseq hfit h1 hS.cseq hX.cseqP hX.cseqL hq
    simp only [shHv_cseq, c1]
    exact ⟨_, shHv pre.size { hv with cseq := f }, rfl, c4, rfl, fun _ => rfl,
      fun he => { hfin hrg he with cseqP := (c5 (Or.inl he)).1, cseqL := (c5 (Or.inl he)).2 },
      fun he => { hmore hrg .hCSeq (by decide) (by decide) he with
        cseqP := (c5 (Or.inr he)).1, cseqL := (c5 (Or.inr he)).2 }⟩
  case clen =>
    obtain ⟨c1, c4, c5⟩ := smClen_call pre t o hv.clen hfit h1 hS.clen hX.clen hq
    simp only [shHv_clen, c1]
    exact ⟨_, shHv pre.size { hv with clen := f }, rfl, c4, rfl, fun _ => rfl,
      fun he => { hfin hrg he with clen := c5 (Or.inl he) },
      fun he => { hmore hrg .hCLen (by decide) (by decide) he with clen := c5 (Or.inr he) }⟩
  case expires =>
    obtain ⟨c1, c4, c5⟩ := smUInt_call pre t o hv.expires hfit h1 hS.expires hX.expires hq
    simp only [shHv_expires, c1]
    exact ⟨_, shHv pre.size { hv with expires := f }, rfl, c4, rfl, fun _ => rfl,
      fun he => { hfin hrg he with expires := c5 (Or.inl he) },
      fun he => { hmore hrg .hExpires (by decide) (by decide) he with expires := c5 (Or.inr he) }⟩
  case contact =>
    obtain ⟨R, M⟩ := smCt_call pre t o st hv hfit ho hS hX
    rw [hq] at R M
    rcases hq' : parseAllContactValues (pre ++ t) (pre.size + o) (shCt pre.size (ctArg st hv.contacts)) with ⟨n', e', f'⟩
    rw [hq'] at R
    obtain ⟨r1, r2, r3, r4⟩ := R
    simp only at r1 r2 r3 r4 M
    subst r1 r2
    have hne : e' ≠ .empty := by
      have := ne_of_verdicts (x := .empty) (parseAllContactValues_verdicts t o (ctArg st hv.contacts)) (by decide)
      rw [hq] at this; exact this
    simp only [shHv_contacts, smCtArg_shift, hq']
    exact ⟨_, { shHv pre.size hv with contacts := f' }, rfl, fun he => by rw [r3 (Or.inl he)]; rfl,
      by unfold smHvObs shHv; simp only [r4], fun hx => by rw [r3 (smExact_ok_or hx hne)]; rfl,
      fun he => { hfin hrg he with ct := (fun hh => by cases hh) },
      fun he => { hmore hrg .fin (by decide) (by decide) he with ct := fun _ => M he, pa := fun hh => by cases hh }⟩
  case pai =>
    obtain ⟨R, M⟩ := smPa_call pre t o st hv hfit ho hS hX
    rw [hq] at R M
    rcases hq' : parseAllPAIValues (pre ++ t) (pre.size + o) (shPa pre.size (paArg st hv.pais)) with ⟨n', e', f'⟩
    rw [hq'] at R
    obtain ⟨r1, r2, r3, r4⟩ := R
    simp only at r1 r2 r3 r4 M
    subst r1 r2
    have hne : e' ≠ .empty := by
      have := ne_of_verdicts (x := .empty) (parseAllPAIValues_verdicts t o (paArg st hv.pais)) (by decide)
      rw [hq] at this; exact this
    simp only [shHv_pais, smPaArg_shift, hq']
    exact ⟨_, { shHv pre.size hv with pais := f' }, rfl, fun he => by rw [r3 (Or.inl he)]; rfl,
      by unfold smHvObs shHv; simp only [r4], fun hx => by rw [r3 (smExact_ok_or hx hne)]; rfl,
      fun he => { hfin hrg he with pa := fun hh => by cases hh },
      fun he => { hmore hrg .fin (by decide) (by decide) he with ct := (fun hh => by cases hh), pa := fun _ => M he }⟩

/-- **what the shift theorems need of the (header, values) pair** at loop position `i`, in addition to the
    panic-freedom invariant `HlSafe` and `hlInv`: outside the initial state the position is `≥ 1`; a value being
    scanned starts at a position `≥ 1`; a complete name is not the zero field; the values object is legitimate
    (`HvSh`). Holds for a new header with new / idle values at any offset (`HlSh_new`), and again after OK and
    after MoreBytes at the returned offset (`parseHdrLine_shift`). -/
structure HlSh (t : Buf) (i : Nat) (st : HLσ) : Prop where
  pos : st.1.state ≠ .init → 1 ≤ i
  valNz : st.1.state = .val ∨ st.1.state = .valEnd → 1 ≤ st.1.val.offs
  nameNz : st.1.state ≠ .init → st.1.state ≠ .name → st.1.state ≠ .fin → 1 ≤ st.1.name.offs + st.1.name.len
  hv : ∀ hv, st.2 = some hv → HvSh t i st.1.state hv

/-- what a step establishes: the invariant after a continuing step, and at the returned offset after OK / MoreBytes -/
def smPost (t : Buf) : Step HLσ → Prop :=
  StepAll2 (HlSh t) (fun n e st => (e = .ok ∨ e = .moreBytes) → HlSh t n st)

/-- the invariant for another header, not inside a value parser, at a later position -/
theorem HlSh.upd {t : Buf} {i j : Nat} {S : HState} {hb : Option PHdrVals} (g : Hdr)
    (hX : ∀ hv, hb = some hv → HvSh t i S hv) (hij : i ≤ j) (hj : j ≤ t.size) (h1 : 1 ≤ j)
    (n1 : g.state ≠ .hContact) (n2 : g.state ≠ .hPAI) (hval : g.state = .val ∨ g.state = .valEnd → 1 ≤ g.val.offs)
    (hname : g.state ≠ .init → g.state ≠ .name → g.state ≠ .fin → 1 ≤ g.name.offs + g.name.len) : HlSh t j (g, hb) :=
  ⟨fun _ => h1, hval, hname, fun hv hh => (hX hv hh).monoNV hij hj n1 n2⟩

theorem HlSh.monoNV {t : Buf} {i j : Nat} {st : HLσ} (h : HlSh t i st) (hij : i ≤ j) (hj : j ≤ t.size)
    (hnv : ¬ st.1.state.isVal) : HlSh t j st :=
  ⟨fun hh => by have := h.pos hh; omega, h.valNz, h.nameNz,
   fun hv hh => (h.hv hv hh).monoNV hij hj (isVal_hContact hnv) (isVal_hPAI hnv)⟩

theorem smRelHL_mk (k : Nat) (e : Err) (H' H : Hdr) (a' a : PHdrVals) (h1 : H' = shHdr k H)
    (h2 : smHvObs a' = smHvObs (shHv k a)) (h3 : smExact e → a' = shHv k a) :
    smRelHL k e (H', some a') (H, some a) := by
  subst h1
  refine ⟨?_, fun hx => by rw [h3 hx]; rfl⟩
  unfold smHLObs shHL
  simp only [Option.map_some, h2]

/-- the header returned by a finished value parser -/
theorem smHdr_fin (k : Nat) (h : Hdr) (e : Err) (V V' : PField)
    (hs : shHn k .fin h.name = shHn k h.state h.name) (hV : e = .ok → V' = shO k V) :
    (if e == .ok then ({ shHdr k h with val := V', state := .fin } : Hdr) else shHdr k h) =
      shHdr k (if e == .ok then { h with val := V, state := .fin } else h) := by
  by_cases he : e = .ok
  · subst he
    simp only [beq_self_eq_true, ↓reduceIte]
    unfold shHdr
    simp only [hs, hV rfl]
  · have : (e == Err.ok) = false := by simpa using he
    simp only [this, Bool.false_eq_true, ↓reduceIte]

/-- the pair returned by a finished / suspended value parser satisfies the invariant again -/
theorem smPost_val (t : Buf) (i n : Nat) (h : Hdr) (e : Err) (V : PField) (hv2 : PHdrVals) (h1 : 1 ≤ i) (hin : e = .ok ∨ e = .moreBytes → i ≤ n)
    (hisv : h.state.isVal) (hnz : 1 ≤ h.name.offs + h.name.len)
    (hok : e = .ok → HvSh t n .fin hv2) (hmore : e = .moreBytes → HvSh t n h.state hv2) :
    (e = .ok ∨ e = .moreBytes) →
      HlSh t n ((if e == .ok then ({ h with val := V, state := .fin } : Hdr) else h), some hv2) := by
  intro he
  have hn := hin he
  rcases he with rfl | rfl
  · exact ⟨fun _ => by omega, (fun hh => by rcases hh with hh | hh <;> cases hh), fun _ _ hh => absurd rfl hh,
      fun hv' hh => by cases hh; exact hok rfl⟩
  · refine ⟨fun _ => by omega, fun hh => ?_, fun _ _ _ => hnz, fun hv' hh => by cases hh; exact hmore rfl⟩
    exfalso
    change h.state = .val ∨ h.state = .valEnd at hh
    rcases hisv with g | g | g | g | g | g | g | g <;> rw [g] at hh <;> rcases hh with hh | hh <;> cases hh

theorem smHdr_restate (k : Nat) (h : Hdr) (S : HState) (hs : shHn k S h.name = shHn k h.state h.name) :
    ({ shHdr k h with state := S } : Hdr) = shHdr k { h with state := S } := by
  unfold shHdr; simp only [hs]

theorem smHn_toFin (k : Nat) (S : HState) (f : PField) (h1 : S ≠ .init) (hnz : 1 ≤ f.offs + f.len) :
    shHn k .fin f = shHn k S f := by
  by_cases h2 : S = .fin
  · rw [h2]
  · rw [smHn_mid k S .name f h1 h2 (by decide) (by decide)]; exact sl_shO_of_pos k f hnz

/-- **the loop invariant of the shift theorem for ParseHdrLine**: the panic-freedom invariants of SafeHdrLine /
    HdrLineL1 plus `HlSh` -/
def HlAll (t : Buf) (i : Nat) (st : HLσ) : Prop := HlSafe t i st ∧ hlInv t i st ∧ HlSh t i st

theorem smHdr_startName (k : Nat) (h : Hdr) (i : Nat) (hk : k + i ≤ 65535) :
    ({ shHdr k h with state := .name, name := PField.set (k + i) (k + i) } : Hdr) =
      shHdr k { h with state := .name, name := PField.set i i } := by
  unfold shHdr
  simp only [shHn, set_shift k i i hk]

theorem smHdr_startVal (k : Nat) (h : Hdr) (n : Nat) (hst : h.state = .bodyStart) (hn : 1 ≤ n) (hk : k + n ≤ 65535) :
    ({ shHdr k h with state := .val, val := PField.set (k + n) (k + n) } : Hdr) =
      shHdr k { h with state := .val, val := PField.set n n } := by
  have e1 : shO k (PField.set n n) = PField.set (k + n) (k + n) := by
    rw [set_shift k n n hk, sl_shO_of_pos]
    have : (PField.set n n).offs = n := flo_set_offs n n (by omega)
    omega
  unfold shHdr
  simp only [e1, hst, shHn]

theorem smHdr_extVal (k : Nat) (h : Hdr) (j : Nat) (hst : h.state = .val) (hvn : 1 ≤ h.val.offs) (hk : k + j ≤ 65535) :
    ({ shHdr k h with val := (shHdr k h).val.extend (k + j), pnc := (shHdr k h).pnc || (shHdr k h).val.extendPanics (k + j),
                      state := .valEnd } : Hdr) =
      shHdr k { h with val := h.val.extend j, pnc := h.pnc || h.val.extendPanics j, state := .valEnd } := by
  have e0 : (shHdr k h).val = shF k h.val := by
    show shO k h.val = _; exact sl_shO_of_pos k h.val (by omega)
  have e1 : shO k (h.val.extend j) = shF k (h.val.extend j) := by
    apply sl_shO_of_pos
    rw [PField.extend_offs]
    omega
  rw [e0, extend_shift k h.val j hk, extendPanics_shift]
  unfold shHdr
  simp only [e1, hst, shHn]

/-- the call of a typed value parser (`valSite`: resumed, or after the ':') is position independent, and the pair
    it returns satisfies the invariant again -/
theorem smValSite (pre t : Buf) (j : Nat) (S : HState) (h : Hdr) (hv : PHdrVals) (hfit : pre.size + t.size ≤ 65535)
    (h1 : 1 ≤ j) (hj : j ≤ t.size) (hisv : S.isVal) (hok : hvOK t j hv) (hS : HvSafe t j h.state hv)
    (hXv : HvSh t j h.state hv) (hnz : 1 ≤ h.name.offs + h.name.len)
    (hsn : shHn pre.size S h.name = shHn pre.size h.state h.name) :
    smStepRel pre.size (shHL pre.size) (smRelHL pre.size)
        (valSite S (pre ++ t) (pre.size + j) (shHdr pre.size h) (shHv pre.size hv)) (valSite S t j h hv) ∧
      smPost t (valSite S t j h hv) := by
  unfold valSite hlWrap
  rw [shHdr_state]
  rcases hq : valCall S h.state t j hv with ⟨n1, e1, V, hv1⟩
  have hr : e1 = .ok ∨ e1 = .moreBytes → j ≤ n1 ∧ n1 ≤ t.size := valCall_range S _ t j hv hj hok hq
  obtain ⟨V', hv2', c1, c2, c3, c4, c5, c6⟩ := smValCall_shift pre t j S h.state hv hfit h1 hj hisv hS hXv hq hr
  rw [c1]
  have hH : (if e1 == .ok then ({ ({ shHdr pre.size h with state := S } : Hdr) with val := V', state := .fin } : Hdr)
      else { shHdr pre.size h with state := S }) =
      shHdr pre.size (if e1 == .ok then { ({ h with state := S } : Hdr) with val := V, state := .fin }
        else { h with state := S }) := by
    rw [smHdr_restate pre.size h S hsn]
    exact smHdr_fin pre.size { h with state := S } e1 V V'
      (smHn_toFin pre.size S h.name (fun hh => by rw [hh] at hisv; simp [HState.isVal] at hisv) hnz) c2
  exact ⟨⟨rfl, rfl, smRelHL_mk _ _ _ _ hv2' hv1 hH c3 c4⟩,
    smPost_val t j n1 { h with state := S } e1 V hv1 h1 (fun he => (hr he).1) hisv hnz c5 c6⟩

/-- the code after the ':' (`colonDo`): name lookup, selection of the value parser, the call -/
theorem smColonDo (pre t : Buf) (j : Nat) (h : Hdr) (hb : Option PHdrVals) (hfit : pre.size + t.size ≤ 65535)
    (hj : j ≤ t.size) (h1 : 1 ≤ j) (hst : h.state = .bodyStart) (hnF : h.name.inside t.size)
    (hnz : 1 ≤ h.name.offs + h.name.len) (hok : hbOK t j hb) (hS : ∀ hv, hb = some hv → HvSafe t j .bodyStart hv)
    (hXv : ∀ hv, hb = some hv → HvSh t j .bodyStart hv) :
    smStepRel pre.size (shHL pre.size) (smRelHL pre.size)
        (colonDo (pre ++ t) (pre.size + j) (shHdr pre.size h) (hb.map (shHv pre.size))) (colonDo t j h hb) ∧
      smPost t (colonDo t j h hb) := by
  have hgB : (shHdr pre.size h).name.get? (pre ++ t) = h.name.get? t := by
    have hnm : (shHdr pre.size h).name = shF pre.size h.name := by
      show shHn pre.size h.state h.name = _; rw [hst]; rfl
    rw [hnm, get?_shiftF pre t h.name hnF hfit]
  cases hg : h.name.get? t with
  | none =>
    rw [hg] at hgB
    rw [colonDo_noname hgB, colonDo_noname hg]
    exact ⟨⟨rfl, rfl, smRelHL_refl _ _ ({ h with pnc := true }, hb)⟩, fun hh => by rcases hh with hh | hh <;> cases hh⟩
  | some nm =>
    rw [hg] at hgB
    have hX0 : HlSh t j ({ h with type := getHdrType nm }, hb) :=
      HlSh.upd _ hXv (Nat.le_refl _) hj h1 (by rw [hst]; decide) (by rw [hst]; decide)
        (fun hh => by rw [hst] at hh; rcases hh with hh | hh <;> cases hh) (fun _ _ _ => hnz)
    cases hb with
    | none =>
      rw [Option.map_none, colonDo_nil hgB, colonDo_nil hg]
      exact ⟨⟨rfl, rfl⟩, hX0⟩
    | some hv =>
      rw [Option.map_some]
      have hkB : valKind { shHdr pre.size h with type := getHdrType nm } (shHv pre.size hv) =
          valKind { h with type := getHdrType nm } hv := smKind_shift pre.size { h with type := getHdrType nm } hv
      cases hk : valKind { h with type := getHdrType nm } hv with
      | none =>
        rw [colonDo_untyped hgB (hkB.trans hk), colonDo_untyped hg hk]
        exact ⟨⟨rfl, rfl⟩, hX0⟩
      | some S =>
        have hisv : S.isVal := valKind_isVal hk
        rw [colonDo_typed hgB (hkB.trans hk), colonDo_typed hg hk]
        exact smValSite pre t j S { h with type := getHdrType nm } hv hfit h1 hj hisv hok
          (by show HvSafe t j h.state hv; rw [hst]; exact hS hv rfl)
          (by show HvSh t j h.state hv; rw [hst]; exact hXv hv rfl) hnz
          (by
            show shHn pre.size S h.name = shHn pre.size h.state h.name
            rw [hst]
            exact smHn_mid _ _ _ _ (fun hh => by rw [hh] at hisv; simp [HState.isVal] at hisv)
              (fun hh => by rw [hh] at hisv; simp [HState.isVal] at hisv) (by decide) (by decide))

def HlAct.shift (k : Nat) : HlAct → HlAct
  | .exit o e h => .exit (k + o) e (shHdr k h)
  | .go i h => .go (k + i) (shHdr k h)
  | .colon j h => .colon (k + j) (shHdr k h)
  | .value => .value

/-- what a decision establishes (one run): the invariant `HlSh` where the iteration goes on and where it returns with
    OK / MoreBytes; for the code after the ':' what `smColonDo` asks for -/
def smLexPost (t : Buf) (hb : Option PHdrVals) : HlAct → Prop
  | .exit o e h' => (e = .ok ∨ e = .moreBytes) → HlSh t o (h', hb)
  | .go i' h' => HlSh t i' (h', hb)
  | .colon j h' => j ≤ t.size ∧ 1 ≤ j ∧ h'.state = .bodyStart ∧ h'.name.inside t.size ∧
      1 ≤ h'.name.offs + h'.name.len ∧ hbOK t j hb ∧ (∀ hv, hb = some hv → HvSafe t j .bodyStart hv) ∧
      (∀ hv, hb = some hv → HvSh t j .bodyStart hv)
  | .value => True

theorem smHdr_nameDone (k : Nat) (h : Hdr) (S : HState) (j : Nat) (hst : h.state = .name)
    (hS : S = .nameEnd ∨ S = .bodyStart) (hk : k + j ≤ 65535) :
    ({ shHdr k h with state := S, name := (shHdr k h).name.extend (k + j),
                      pnc := (shHdr k h).pnc || (shHdr k h).name.extendPanics (k + j) } : Hdr) =
      shHdr k { h with state := S, name := h.name.extend j, pnc := h.pnc || h.name.extendPanics j } := by
  have hnm : (shHdr k h).name = shF k h.name := by
    show shHn k h.state h.name = _; rw [hst]; rfl
  rw [hnm, extend_shift k h.name j hk, extendPanics_shift]
  rcases hS with rfl | rfl <;> rfl

/-- `case hName:` -/
theorem smHlNameLex (pre t : Buf) (i : Nat) (h : Hdr) (hb : Option PHdrVals) (hfit : pre.size + t.size ≤ 65535)
    (hlt : i < t.size) (hst : h.state = .name) (hno : h.name.offs ≤ i) (hok : hbOK t i hb)
    (hS : ∀ hv, hb = some hv → HvSafe t i .name hv) (hXv : ∀ hv, hb = some hv → HvSh t i .name hv) :
    hlNameLex (pre ++ t) (pre.size + i) (shHdr pre.size h) = (hlNameLex t i h).shift pre.size ∧
      smLexPost t hb (hlNameLex t i h) := by
  have hge := skipTokenDelim_ge t i 58
  have hle := skipTokenDelim_le t i 58 (Nat.le_of_lt hlt)
  unfold hlNameLex
  dsimp only
  rw [skipTokenDelim_shift, get?_shift]
  cases hg : t[skipTokenDelim t i 58]? with
  | none =>
    refine ⟨rfl, fun _ => ?_⟩
    have hj := get?_none_ge hg
    exact HlSh.upd _ hXv hge hle (by omega) (by rw [hst]; decide) (by rw [hst]; decide)
      (fun hh => by rw [hst] at hh; rcases hh with hh | hh <;> cases hh) (fun _ hh _ => absurd hst hh)
  | some c =>
    have hjl := get?_lt hg
    dsimp only
    have hemp : ((shHdr pre.size h).name.extend (pre.size + skipTokenDelim t i 58)).isEmpty =
        (h.name.extend (skipTokenDelim t i 58)).isEmpty := by
      have hnm : (shHdr pre.size h).name = shF pre.size h.name := by
        show shHn pre.size h.state h.name = _; rw [hst]; rfl
      rw [hnm, extend_shift pre.size h.name _ (by omega)]; rfl
    by_cases hw : isWS c = true
    · simp only [hw, ↓reduceIte]
      simp only [smHdr_nameDone pre.size h .nameEnd (skipTokenDelim t i 58) hst (Or.inl rfl) (by omega)]
      simp only [hemp]
      by_cases he : (h.name.extend (skipTokenDelim t i 58)).isEmpty = true
      · rw [if_pos he, if_pos he]
        exact ⟨rfl, fun hh => by rcases hh with hh | hh <;> cases hh⟩
      · rw [if_neg he, if_neg he]
        refine ⟨by show HlAct.go _ _ = HlAct.go _ _; rw [Nat.add_assoc], ?_⟩
        have := flo_isEmpty_pos he
        exact HlSh.upd _ hXv (by omega) (by omega) (by omega) (fun hh => by cases hh)
          (fun hh => by cases hh) (fun hh => by rcases hh with hh | hh <;> cases hh)
          (fun _ _ _ => by show 1 ≤ (h.name.extend _).offs + (h.name.extend _).len; omega)
    · have hw' : isWS c = false := by simpa using hw
      simp only [hw', Bool.false_eq_true, ↓reduceIte]
      by_cases hc : (c == 58) = true
      · simp only [hc, ↓reduceIte]
        simp only [smHdr_nameDone pre.size h .bodyStart (skipTokenDelim t i 58) hst (Or.inr rfl) (by omega)]
        simp only [hemp]
        by_cases he : (h.name.extend (skipTokenDelim t i 58)).isEmpty = true
        · rw [if_pos he, if_pos he]
          exact ⟨rfl, fun hh => by rcases hh with hh | hh <;> cases hh⟩
        · rw [if_neg he, if_neg he]
          have := flo_isEmpty_pos he
          exact ⟨by show HlAct.colon _ _ = HlAct.colon _ _; rw [Nat.add_assoc], by omega, by omega, rfl,
            extend_inside h.name _ _ (by omega) hle,
            by show 1 ≤ (h.name.extend _).offs + (h.name.extend _).len; omega, hbOK_mono hok (by omega) (by omega),
            fun hv hh => ((hS hv hh).mono (by omega) (by omega)).restate (by decide) (by decide) (by decide) (by decide),
            fun hv hh => (hXv hv hh).monoNV (by omega) (by omega) (by decide) (by decide)⟩
      · have hc' : (c == 58) = false := by simpa using hc
        simp only [hc', Bool.false_eq_true, ↓reduceIte]
        exact ⟨rfl, fun hh => by rcases hh with hh | hh <;> cases hh⟩

/-- `case hValEnd:` -/
theorem smHlValEndLex (pre t : Buf) (i : Nat) (h : Hdr) (hb : Option PHdrVals)
    (hi : i ≤ t.size) (h1 : 1 ≤ i) (hst : h.state = .valEnd) (hnz : 1 ≤ h.name.offs + h.name.len)
    (hvn : 1 ≤ h.val.offs) (hXv : ∀ hv, hb = some hv → HvSh t i .valEnd hv) :
    hlValEndLex (pre ++ t) (pre.size + i) (shHdr pre.size h) = (hlValEndLex t i h).shift pre.size ∧
      smLexPost t hb (hlValEndLex t i h) := by
  unfold hlValEndLex
  rw [skipLWS_shift]
  rcases hsk : skipLWS t i 0 with ⟨n, crl, e⟩
  have hr := skipLWS_range t i 0 hsk
  have hn := hr.2 hi
  rcases skipLWS_three_verdicts t i 0 hsk with rfl | rfl | rfl <;> dsimp only
  · obtain ⟨_, c, hc, _⟩ := skipLWS_ok t i 0 hsk
    have hlt := get?_lt hc
    rw [smHdr_restate pre.size h .val (by rw [hst]; rfl)]
    refine ⟨by show HlAct.go _ _ = HlAct.go _ _; rw [Nat.add_assoc], ?_⟩
    exact HlSh.upd _ hXv (by omega) (by omega) (by omega) (by simp) (by simp) (fun _ => hvn) (fun _ _ _ => hnz)
  · have hrg := skipLWS_eoh_range t i 0 hsk (by decide)
    rw [smHdr_restate pre.size h .fin (smHn_toFin pre.size h.state h.name (by rw [hst]; decide) hnz)]
    refine ⟨by show HlAct.exit _ _ _ = HlAct.exit _ _ _; rw [Nat.add_assoc], fun _ => ?_⟩
    exact HlSh.upd _ hXv (by omega) (by omega) (by omega) (by simp) (by simp)
      (fun hh => by rcases hh with hh | hh <;> cases hh) (fun _ _ hh => absurd rfl hh)
  · refine ⟨rfl, fun _ => ?_⟩
    exact HlSh.upd _ hXv (by omega) (by omega) (by omega) (by rw [hst]; decide) (by rw [hst]; decide) (fun _ => hvn)
      (fun _ _ _ => hnz)

/-- **the lexical decision of one iteration is position independent**: on `pre ++ t`, from the moved header, the
    iteration decides the moved action; and what the action establishes of the invariant -/
theorem smHlLex (pre t : Buf) (i : Nat) (c : UInt8) (h : Hdr) (hbv : Option PHdrVals)
    (hfit : pre.size + t.size ≤ 65535) (hb : t[i]? = some c) (hA : HlAll t i (h, hbv)) :
    hlLex (pre ++ t) (pre.size + i) c (shHdr pre.size h) = (hlLex t i c h).shift pre.size ∧
      smLexPost t hbv (hlLex t i c h) := by
  obtain ⟨H, hI, hX⟩ := hA
  have hlt := get?_lt hb
  have hi : i ≤ t.size := H.hi
  have hok : hbOK t i hbv := hI.2.2
  have hXv : ∀ hv, hbv = some hv → HvSh t i h.state hv := fun hv hh => hX.hv hv hh
  have hXm : ∀ (j : Nat) (S : HState), ¬ h.state.isVal → i ≤ j → j ≤ t.size → S ≠ .hContact → S ≠ .hPAI →
      ∀ hv, hbv = some hv → HvSh t j S hv := fun j S _ a1 a2 a3 a4 hv hh => (hXv hv hh).monoNV a1 a2 a3 a4
  have hSm : ∀ (j : Nat) (S : HState), ¬ h.state.isVal → i ≤ j → j ≤ t.size → S ≠ .hContact → S ≠ .hPAI →
      ∀ hv, hbv = some hv → HvSafe t j S hv := fun j S a0 a1 a2 a3 a4 hv hh =>
    (((H.hv hv hh : HvSafe t i h.state hv).mono a1 a2).restate (isVal_hContact a0) (isVal_hPAI a0) a3 a4)
  have nok : ∀ {e : Err}, e ≠ .ok → e ≠ .moreBytes → ∀ o h', smLexPost t hbv (.exit o e h') :=
    fun h1 h2 _ _ hh => by rcases hh with hh | hh; exact absurd hh h1; exact absurd hh h2
  unfold hlLex
  rw [shHdr_state]
  cases hst : h.state <;> dsimp only
  case init =>
    have hnv : ¬ h.state.isVal := not_isVal_of (by simp [hst])
    rw [smHdr_restate pre.size h .fin (by rw [hst]; rfl)]
    by_cases h13 : (c == 13) = true
    · simp only [h13, ↓reduceIte]
      rw [get?_shift1]
      cases hc1 : t[i + 1]? with
      | none => exact ⟨rfl, fun _ => hX⟩
      | some c1 =>
        dsimp only
        by_cases h10 : (c1 == 10) = true
        · simp only [h10, ↓reduceIte]
          exact ⟨by show HlAct.exit _ _ _ = HlAct.exit _ _ _; rw [Nat.add_assoc], nok (by decide) (by decide) _ _⟩
        · simp only [h10, Bool.false_eq_true, ↓reduceIte]
          exact ⟨by show HlAct.exit _ _ _ = HlAct.exit _ _ _; rw [Nat.add_assoc], nok (by decide) (by decide) _ _⟩
    · simp only [h13, Bool.false_eq_true, ↓reduceIte]
      by_cases h10 : (c == 10) = true
      · simp only [h10, ↓reduceIte]
        exact ⟨by show HlAct.exit _ _ _ = HlAct.exit _ _ _; rw [Nat.add_assoc], nok (by decide) (by decide) _ _⟩
      · simp only [h10, Bool.false_eq_true, ↓reduceIte]
        rw [smHdr_startName pre.size h i (by omega)]
        exact smHlNameLex pre t i _ hbv hfit hlt rfl
          (by show (PField.set i i).offs ≤ i; rw [flo_set_offs i i (by omega)]; exact Nat.le_refl _) hok
          (hSm i .name hnv (Nat.le_refl _) hi (by decide) (by decide))
          (hXm i .name hnv (Nat.le_refl _) hi (by decide) (by decide))
  case name =>
    have hnv : ¬ h.state.isVal := not_isVal_of (by simp [hst])
    exact smHlNameLex pre t i h hbv hfit hlt hst (H.nameI hst) hok
      (hSm i .name hnv (Nat.le_refl _) hi (by decide) (by decide))
      (hXm i .name hnv (Nat.le_refl _) hi (by decide) (by decide))
  case nameEnd =>
    have hnv : ¬ h.state.isVal := not_isVal_of (by simp [hst])
    have h1 : 1 ≤ i := hX.pos (by rw [hst]; decide)
    have hnz : 1 ≤ h.name.offs + h.name.len := hX.nameNz (by rw [hst]; decide) (by rw [hst]; decide) (by rw [hst]; decide)
    have hge := skipWS_ge t i
    have hle := skipWS_le t i hi
    rw [skipWS_shift, get?_shift]
    cases hg : t[skipWS t i]? with
    | none => exact ⟨rfl, fun _ => hX.monoNV hge hle hnv⟩
    | some c1 =>
      have hjl := get?_lt hg
      dsimp only
      by_cases hc : (c1 == 58) = true
      · simp only [hc, ↓reduceIte]
        rw [smHdr_restate pre.size h .bodyStart (by rw [hst]; rfl)]
        exact ⟨by show HlAct.colon _ _ = HlAct.colon _ _; rw [Nat.add_assoc], by omega, by omega, rfl, H.nameF, hnz,
          hbOK_mono hok (by omega) (by omega), hSm _ .bodyStart hnv (by omega) (by omega) (by decide) (by decide),
          hXm _ .bodyStart hnv (by omega) (by omega) (by decide) (by decide)⟩
      · simp only [hc, Bool.false_eq_true, ↓reduceIte]
        exact ⟨rfl, nok (by decide) (by decide) _ _⟩
  case bodyStart =>
    have hnv : ¬ h.state.isVal := not_isVal_of (by simp [hst])
    have h1 : 1 ≤ i := hX.pos (by rw [hst]; decide)
    have hnz : 1 ≤ h.name.offs + h.name.len := hX.nameNz (by rw [hst]; decide) (by rw [hst]; decide) (by rw [hst]; decide)
    rw [skipLWS_shift]
    rcases hsk : skipLWS t i 0 with ⟨n, crl, e⟩
    have hr := skipLWS_range t i 0 hsk
    have hn := hr.2 hi
    rcases skipLWS_three_verdicts t i 0 hsk with rfl | rfl | rfl <;> dsimp only
    · obtain ⟨_, c', hc, _⟩ := skipLWS_ok t i 0 hsk
      have hlt' := get?_lt hc
      rw [smHdr_startVal pre.size h n hst (by omega) (by omega)]
      refine ⟨by show HlAct.go _ _ = HlAct.go _ _; rw [Nat.add_assoc], ?_⟩
      exact HlSh.upd _ hXv (by omega) (by omega) (by omega) (by simp) (by simp)
        (fun _ => by show 1 ≤ (PField.set n n).offs; rw [flo_set_offs n n (by omega)]; omega) (fun _ _ _ => hnz)
    · have hrg := skipLWS_eoh_range t i 0 hsk (by decide)
      rw [smHdr_restate pre.size h .fin (smHn_toFin pre.size h.state h.name (by rw [hst]; decide) hnz)]
      refine ⟨by show HlAct.exit _ _ _ = HlAct.exit _ _ _; rw [Nat.add_assoc], fun _ => ?_⟩
      exact HlSh.upd _ hXv (by omega) (by omega) (by omega) (by simp) (by simp)
        (fun hh => by rcases hh with hh | hh <;> cases hh) (fun _ _ hh => absurd rfl hh)
    · exact ⟨rfl, fun _ => hX.monoNV (by omega) (by omega) hnv⟩
  case val =>
    have hnv : ¬ h.state.isVal := not_isVal_of (by simp [hst])
    have h1 : 1 ≤ i := hX.pos (by rw [hst]; decide)
    have hnz : 1 ≤ h.name.offs + h.name.len := hX.nameNz (by rw [hst]; decide) (by rw [hst]; decide) (by rw [hst]; decide)
    have hvn : 1 ≤ h.val.offs := hX.valNz (Or.inl hst)
    have hge := skipToken_ge t i
    have hle := skipToken_le t i hi
    rw [skipToken_shift, get?_shift]
    cases hg : t[skipToken t i]? with
    | none => exact ⟨rfl, fun _ => hX.monoNV hge hle hnv⟩
    | some c1 =>
      have hjl := get?_lt hg
      dsimp only
      rw [smHdr_extVal pre.size h (skipToken t i) hst hvn (by omega)]
      exact smHlValEndLex pre t (skipToken t i) _ hbv hle (by omega) rfl hnz
        (by rw [PField.extend_offs]; exact hvn) (hXm _ .valEnd hnv hge hle (by decide) (by decide))
  case valEnd =>
    have h1 : 1 ≤ i := hX.pos (by rw [hst]; decide)
    have hnz : 1 ≤ h.name.offs + h.name.len := hX.nameNz (by rw [hst]; decide) (by rw [hst]; decide) (by rw [hst]; decide)
    exact smHlValEndLex pre t i h hbv hi h1 hst hnz (hX.valNz (Or.inr hst)) (fun hv hh => by rw [← hst]; exact hXv hv hh)
  case fin => exact ⟨rfl, nok (by decide) (by decide) _ _⟩
  all_goals exact ⟨rfl, trivial⟩

/-- **one iteration of the header-line loop is position independent**, and establishes the invariant again: the
    lexical decision (`smHlLex`), then the code after the ':' (`smColonDo`) or the resumed value parser (`smValSite`) -/
theorem smHlStep (pre t : Buf) (i : Nat) (c : UInt8) (st : HLσ) (hfit : pre.size + t.size ≤ 65535)
    (hb : t[i]? = some c) (hA : HlAll t i st) :
    smStepRel pre.size (shHL pre.size) (smRelHL pre.size)
        (hlStep (pre ++ t) (pre.size + i) c (shHL pre.size st)) (hlStep t i c st) ∧
      smPost t (hlStep t i c st) := by
  obtain ⟨h, hbv⟩ := st
  obtain ⟨hlex, hpost⟩ := smHlLex pre t i c h hbv hfit hb hA
  obtain ⟨H, hI, hX⟩ := hA
  show smStepRel _ _ _ (hlStep (pre ++ t) (pre.size + i) c (shHdr pre.size h, hbv.map (shHv pre.size))) _ ∧ _
  rw [hlStep_eq, hlStep_eq, hlex]
  cases ha : hlLex t i c h with
  | exit o e h' => rw [ha] at hpost; exact ⟨⟨rfl, rfl, smRelHL_refl _ _ (h', hbv)⟩, hpost⟩
  | go i' h' => rw [ha] at hpost; exact ⟨⟨rfl, rfl⟩, hpost⟩
  | colon j h' =>
    rw [ha] at hpost
    obtain ⟨p1, p2, p3, p4, p5, p6, p7, p8⟩ := hpost
    show smStepRel _ _ _ (hlAfterColon (pre ++ t) (pre.size + j) (shHdr pre.size h') _) (hlAfterColon t j h' hbv) ∧
      smPost t (hlAfterColon t j h' hbv)
    rw [hlAfterColon_nf _ _ _ _ (show (shHdr pre.size h').state = .bodyStart from p3), hlAfterColon_nf _ _ _ _ p3]
    exact smColonDo pre t j h' hbv hfit p1 p2 p3 p4 p5 p6 p7 p8
  | value =>
    have hisv : h.state.isVal := by have := hlLex_spec t i c h hb; rw [ha] at this; exact this
    show smStepRel _ _ _ (hlCont (pre ++ t) (pre.size + i) (shHdr pre.size h) _) (hlCont t i h hbv) ∧
      smPost t (hlCont t i h hbv)
    cases hbv with
    | none =>
      exact ⟨⟨rfl, rfl, smRelHL_refl pre.size .bug ({ h with pnc := true }, none)⟩,
        fun hh => by rcases hh with hh | hh <;> cases hh⟩
    | some hv =>
      have hne : h.state ≠ .init := fun hh => by rw [hh] at hisv; simp [HState.isVal] at hisv
      rw [Option.map_some, hlCont_nf, hlCont_nf, shHdr_state]
      exact smValSite pre t i h.state h hv hfit (hX.pos hne) H.hi hisv hI.2.2 (H.hv hv rfl) (hX.hv hv rfl)
        (hX.nameNz hne (fun hh => by rw [hh] at hisv; simp [HState.isVal] at hisv)
          (fun hh => by rw [hh] at hisv; simp [HState.isVal] at hisv)) rfl

theorem smHlAll_cont (pre t : Buf) (hfit : pre.size + t.size ≤ 65535) (i : Nat) (c : UInt8) (st : HLσ) (i' : Nat)
    (st' : HLσ) (hb : t[i]? = some c) (hA : HlAll t i st) (hs : hlStep t i c st = .cont i' st') : HlAll t i' st' := by
  have hlt := hl_progress t i c st i' st' hb hs
  exact ⟨(hlStep_safe t i c st (by omega) hb hA.1 hA.2.1).cont hs, hl_invCont t i c st i' st' hb hA.2.1 hs hlt,
    StepAll2.cont (smHlStep pre t i c st hfit hb hA).2 hs⟩

/-- **ParseHdrLine is position independent** (loop form) -/
theorem smHdrLoop (pre t : Buf) (o : Nat) (st : HLσ) (hfit : pre.size + t.size ≤ 65535) (hA : HlAll t o st) :
    smResRel pre.size (smRelHL pre.size) (runLoop hlMachine (pre ++ t) (pre.size + o) (shHL pre.size st))
      (runLoop hlMachine t o st) ∧
    (((runLoop hlMachine t o st).2.1 = .ok ∨ (runLoop hlMachine t o st).2.1 = .moreBytes) →
      HlSh t (runLoop hlMachine t o st).1 (runLoop hlMachine t o st).2.2) := by
  refine ⟨?_, ?_⟩
  · exact runLoop_shift2 hlMachine hlMachine pre t (shHL pre.size) (smRelHL pre.size) (HlAll t)
      (fun i c s i' s' hb hI hs _ => smHlAll_cont pre t hfit i c s i' s' hb hI hs)
      (fun i c s hb hI => (smHlStep pre t i c s hfit hb hI).1)
      (fun i s _ _ => ⟨rfl, rfl, smRelHL_refl _ _ _⟩) (fun _ _ _ _ _ _ _ _ _ => smRelHL_refl _ _ _) o st hA
  · exact runLoop_safe2 hlMachine t (HlAll t) (fun n e s => (e = .ok ∨ e = .moreBytes) → HlSh t n s) hl_progress
      (fun i c s hb hI => StepAll2.cont_imp (smHlStep pre t i c s hfit hb hI).2
        fun i' s' hc _ => smHlAll_cont pre t hfit i c s i' s' hb hI hc)
      (fun i s hI _ => hI.2.2) o st hA

/-- [C11] ParseHdrLine is position independent: for a legitimate (header, values) pair (`HlAll`), the call on
    `pre ++ t` at `pre.size + o` with the moved header and values returns the moved result: offset moved by
    `pre.size`, the same verdict, and the moved header and values — exactly after OK / MoreBytes / Empty, and up to
    the stale (never reported) restart offset of the name-addr value that was being parsed after an error verdict
    (`smRelHL`). After OK and MoreBytes the returned pair satisfies the shift invariant `HlSh` again at the
    returned offset. -/
theorem parseHdrLine_shift (pre t : Buf) (o : Nat) (h : Hdr) (hb : Option PHdrVals) (hfit : pre.size + t.size ≤ 65535)
    (hA : HlAll t o (h, hb)) {o' : Nat} {e : Err} {h' : Hdr} {hb' : Option PHdrVals}
    (hr : parseHdrLine t o h hb = (o', e, h', hb')) :
    ∃ h'' hb'', parseHdrLine (pre ++ t) (pre.size + o) (shHdr pre.size h) (hb.map (shHv pre.size)) =
        (pre.size + o', e, h'', hb'') ∧
      smRelHL pre.size e (h'', hb'') (h', hb') ∧ ((e = .ok ∨ e = .moreBytes) → HlSh t o' (h', hb')) := by
  obtain ⟨R, P⟩ := smHdrLoop pre t o (h, hb) hfit hA
  unfold parseHdrLine at hr ⊢
  rcases hrl : runLoop hlMachine t o (h, hb) with ⟨o1, e1, h1, hb1⟩
  rw [hrl] at hr R P
  simp only [Prod.mk.injEq] at hr
  obtain ⟨rfl, rfl, rfl, rfl⟩ := hr
  rcases hrl' : runLoop hlMachine (pre ++ t) (pre.size + o) (shHL pre.size (h, hb)) with ⟨o2, e2, h2, hb2⟩
  rw [hrl'] at R
  obtain ⟨r1, r2, r3⟩ := R
  simp only at r1 r2 r3 P
  subst r1 r2
  exact ⟨h2, hb2, hrl', r3, P⟩

/-- [C11] ParseHdrLine is position independent, in the plain form after OK / MoreBytes / Empty -/
theorem parseHdrLine_shift_exact (pre t : Buf) (o : Nat) (h : Hdr) (hb : Option PHdrVals)
    (hfit : pre.size + t.size ≤ 65535) (hA : HlAll t o (h, hb)) {o' : Nat} {e : Err} {h' : Hdr} {hb' : Option PHdrVals}
    (hr : parseHdrLine t o h hb = (o', e, h', hb')) (he : smExact e) :
    parseHdrLine (pre ++ t) (pre.size + o) (shHdr pre.size h) (hb.map (shHv pre.size)) =
      (pre.size + o', e, shHdr pre.size h', hb'.map (shHv pre.size)) := by
  obtain ⟨h'', hb'', a1, a2, _⟩ := parseHdrLine_shift pre t o h hb hfit hA hr
  rw [a1]
  have := a2.2 he
  simp only [shHL, Prod.mk.injEq] at this
  rw [this.1, this.2]

theorem shHls_cur (k : Nat) (hl : HdrLst) : (shHls k hl).cur = shHdr k hl.cur :=
  slot_map (shHdr k) hl.hdrs hl.n hl.hdr

theorem shHls_setCur (k : Nat) (hl : HdrLst) (g : Hdr) : shHls k (hl.setCur g) = (shHls k hl).setCur (shHdr k g) := by
  unfold HdrLst.setCur shHls
  simp only [Array.size_map]
  split
  · simp only [Array.set!_eq_setIfInBounds, Array.map_setIfInBounds]
  · rfl

theorem shHls_setHdr (k : Nat) (hl : HdrLst) (g : Hdr) : shHls k (hl.setHdr g) = (shHls k hl).setHdr (shHdr k g) := by
  unfold HdrLst.setHdr
  have h1 : (shHls k hl).h = hl.h.map (shHdr k) := rfl
  rw [h1, Array.size_map, shHdr_type, Array.getElem?_map]
  by_cases hc : (decide (g.type ≥ 1) && decide (g.type - 1 < hl.h.size)) = true
  · rw [if_pos hc, if_pos hc]
    cases hg : hl.h[g.type - 1]? with
    | none => rfl
    | some old =>
      simp only [Option.map_some]
      have hm : (shHdr k old).missing = old.missing := rfl
      rw [hm]
      split
      · unfold shHls
        simp only [Array.set!_eq_setIfInBounds, Array.map_setIfInBounds]
      · rfl
  · rw [if_neg hc, if_neg hc]

theorem shHls_accept (k : Nat) (hl : HdrLst) (g : Hdr) : shHls k (hl.accept g) = (shHls k hl).accept (shHdr k g) := by
  unfold HdrLst.accept
  simp only
  have e1 : ({ shHls k hl with pflags := ((shHls k hl).pflags ||| 1 <<< (shHdr k g).type) % 65536 } : HdrLst) =
      shHls k { hl with pflags := (hl.pflags ||| 1 <<< g.type) % 65536 } := rfl
  rw [e1, ← shHls_setHdr]
  have e2 : ((shHls k hl).n < (shHls k hl).hdrs.size) = (hl.n < hl.hdrs.size) := by
    show (hl.n < (hl.hdrs.map _).size) = _; rw [Array.size_map]
  simp only [e2]
  split <;> rfl

/-- **a legitimate (header list, values) pair** for the shift theorem of ParseHeaders at offset `offs`: the
    hypotheses of the panic-freedom theorem `parseHeaders_safe` plus `HlSh` for the header in progress -/
structure HlsAll (t : Buf) (offs : Nat) (hl : HdrLst) (hb : Option PHdrVals) : Prop where
  ok1 : hlsOK t hl
  ok2 : hbOK t offs hb
  pend : hlsPend hl hb
  ho : offs ≤ t.size
  safe : HlsSafe t offs hl hb
  sh : HlSh t offs (hl.cur, hb)

theorem HlsAll.line {t : Buf} {offs : Nat} {hl : HdrLst} {hb : Option PHdrVals} (h : HlsAll t offs hl hb) :
    HlAll t offs (hl.cur, hb) :=
  ⟨h.safe.cur, ⟨h.ho, hlsOK_cur h.ok1, h.ok2⟩, h.sh⟩

/-- the values object returned by ParseHeaders: moved, exactly after a non-error verdict and up to the stale restart
    offset after an error -/
def smRelHb (k : Nat) (e : Err) (x y : Option PHdrVals) : Prop :=
  x.map smHvObs = (y.map (shHv k)).map smHvObs ∧ (smExact e → x = y.map (shHv k))

theorem smRelHL_split {k : Nat} {e : Err} {x y : HLσ} (h : smRelHL k e x y) :
    x.1 = shHdr k y.1 ∧ smRelHb k e x.2 y.2 := by
  obtain ⟨h1, h2⟩ := h
  unfold smHLObs shHL at h1
  simp only [Prod.mk.injEq] at h1
  refine ⟨h1.1, h1.2, fun he => ?_⟩
  have := h2 he
  rw [this]
  rfl

theorem HlSh_newLine {t : Buf} {n : Nat} {g : Hdr} {v : Option PHdrVals} (h : HlSh t n (g, v)) (hf : g.state = .fin)
    (hn : n ≤ t.size) : HlSh t n ({}, v) :=
  ⟨fun hh => absurd rfl hh, (fun hh => by rcases hh with hh | hh <;> cases hh), fun hh => absurd rfl hh,
   fun hv hh => by
     have := h.hv hv hh
     simp only [hf] at this
     show HvSh t n HState.init hv
     exact this.monoNV (Nat.le_refl _) hn (by decide) (by decide)⟩

/-- [C11] ParseHeaders is position independent: from a legitimate pair the call on `pre ++ t` at `pre.size + offs`
    with the moved header list and values returns the offset moved by `pre.size`, the same verdict, the moved header
    list (every stored header, the first-of-type table, counts and type flags) and the moved values (exactly after a
    non-error verdict; up to the stale restart offset of the name-addr value in progress after an error). After
    MoreBytes the header in progress and the values satisfy `HlSh` at the returned offset. -/
theorem parseHeaders_shift (pre t : Buf) (offs : Nat) (hl : HdrLst) (hb : Option PHdrVals)
    (hfit : pre.size + t.size ≤ 65535) (hA : HlsAll t offs hl hb) :
    ∃ hb'', parseHeaders (pre ++ t) (pre.size + offs) (shHls pre.size hl) (hb.map (shHv pre.size)) =
        (pre.size + (parseHeaders t offs hl hb).1, (parseHeaders t offs hl hb).2.1,
          shHls pre.size (parseHeaders t offs hl hb).2.2.1, hb'') ∧
      smRelHb pre.size (parseHeaders t offs hl hb).2.1 hb'' (parseHeaders t offs hl hb).2.2.2 ∧
      ((parseHeaders t offs hl hb).2.1 = .moreBytes →
        HlSh t (parseHeaders t offs hl hb).1 ((parseHeaders t offs hl hb).2.2.1.cur, (parseHeaders t offs hl hb).2.2.2)) := by
  have hsz : ∀ {o}, o < t.size → pre.size + o < (pre ++ t).size := fun h => by rw [Array.size_append]; omega
  -- one line of both runs
  have line : ∀ {o l v n e g v'}, HlsAll t o l v → o < t.size → parseHdrLine t o l.cur v = (n, e, g, v') →
      ∃ v2, parseHdrLine (pre ++ t) (pre.size + o) (shHls pre.size l).cur (v.map (shHv pre.size)) =
          (pre.size + n, e, shHdr pre.size g, v2) ∧ smRelHb pre.size e v2 v' ∧
        ((e = .ok ∨ e = .moreBytes) → HlSh t n (g, v')) := by
    intro o l v n e g v' ⟨hok1, hok2, _, _, H, hX⟩ hlt hp
    obtain ⟨g2, v2, a1, a2, a3⟩ := parseHdrLine_shift pre t o l.cur v hfit ⟨H.cur, ⟨by omega, hlsOK_cur hok1, hok2⟩, hX⟩ hp
    obtain ⟨b1, b2⟩ := smRelHL_split a2
    simp only at b1 b2
    subst b1
    exact ⟨v2, by rw [shHls_cur, a1], b2, a3⟩
  refine parseHeaders_rec t (M := fun o l v r => HlsAll t o l v →
    ∃ hb'', parseHeaders (pre ++ t) (pre.size + o) (shHls pre.size l) (v.map (shHv pre.size)) =
        (pre.size + r.1, r.2.1, shHls pre.size r.2.2.1, hb'') ∧ smRelHb pre.size r.2.1 hb'' r.2.2.2 ∧
      (r.2.1 = .moreBytes → HlSh t r.1 (r.2.2.1.cur, r.2.2.2))) ?_ ?_ ?_ ?_ ?_ offs hl hb hA
  · intro o l v n g v' r hlt hp hg ih hA
    obtain ⟨v2, a1, b2, a3⟩ := line hA hlt hp
    obtain ⟨hok1, hok2, hpe, ho, H, hX⟩ := hA
    have hI : hlOK t o l.cur v := ⟨by omega, hlsOK_cur hok1, hok2⟩
    obtain ⟨hO, hS, hF, hN, hE⟩ := parseHdrLine_safe t o l.cur v (by omega) H.cur hI hp
    have hpost := parseHdrLine_post t o l.cur v hI hp (Or.inl rfl)
    obtain rfl : v2 = v'.map (shHv pre.size) := b2.2 (Or.inl rfl)
    rw [parseHeaders_line a1 (hsz hlt) (by omega), ← shHls_setCur, ← shHls_accept]
    exact ih ⟨hlsOK_next g hok1, hpost.2, hlsPend_next g v' hpe, hpost.1, H.next g (hS (Or.inl rfl)) (hF rfl) (by omega),
      by rw [flo_next_cur l g H.clean]; exact HlSh_newLine (a3 (Or.inl rfl)) (hF rfl) hN⟩
  · intro o l v n g v' hlt hp hg ⟨hok1, hok2, hpe, _, _, _⟩
    exact absurd (parseHdrLine_ok_gt t o l.cur v ⟨by omega, hlsOK_cur hok1, hok2⟩ hpe.1 hp) hg
  · intro o l v n g v' hlt hp hA
    obtain ⟨v2, a1, b2, _⟩ := line hA hlt hp
    obtain rfl : v2 = v'.map (shHv pre.size) := b2.2 (Or.inr (Or.inr rfl))
    rw [parseHeaders_end a1 (hsz hlt), ← shHls_setCur]
    by_cases hn0 : l.n > 0
    · rw [if_pos hn0, if_pos (show (shHls pre.size l).n > 0 from hn0)]
      exact ⟨_, rfl, ⟨rfl, fun _ => rfl⟩, fun hh => by cases hh⟩
    · rw [if_neg hn0, if_neg (show ¬ (shHls pre.size l).n > 0 from hn0)]
      exact ⟨_, rfl, ⟨rfl, fun _ => rfl⟩, fun hh => by cases hh⟩
  · intro o l v n e g v' hlt hp h1 h2 hA
    obtain ⟨v2, a1, b2, a3⟩ := line hA hlt hp
    rw [parseHeaders_stop a1 (hsz hlt) h1 h2, ← shHls_setCur]
    exact ⟨v2, rfl, b2, fun he => by rw [hlSetCur_cur]; exact a3 (Or.inr he)⟩
  · intro o l v hle ⟨_, _, _, _, _, hX⟩
    rw [parseHeaders_eob _ _ (by rw [Array.size_append]; omega)]
    exact ⟨_, rfl, ⟨rfl, fun _ => rfl⟩, fun _ => hX⟩

/-- states of the request path before the line is complete -/
def smReqSt (s : FLState) : Prop := s = .reqMethod ∨ s = .reqURI ∨ s = .reqVer ∨ s = .crlf

/-- **the first-line object moved by `k`**: the request-line fields (`shReq`) or the status-line fields (`shRpl`),
    according to the state; in the final state a status line is recognised by its status-code field (3 bytes; a
    request line leaves that field at its zero value) -/
def shFl (k : Nat) (pl : PFLine) : PFLine :=
  match pl.state with
  | .init => pl
  | .rplStatus => shRpl k pl
  | .rplReason => shRpl k pl
  | .fin => if pl.statusCode.len = 0 then shReq k pl else shRpl k pl
  | _ => shReq k pl

theorem shFl_new (k : Nat) : shFl k {} = {} := rfl

/-- result of the request path: finished with OK, or still in a request state; the status-code field is still `sc` -/
def smReqRes (sc : PField) (r : Nat × Err × PFLine) : Prop :=
  r.2.2.statusCode = sc ∧ ((r.2.1 = .ok ∧ r.2.2.state = .fin) ∨ (r.2.1 ≠ .ok ∧ smReqSt r.2.2.state))

theorem smReqRes_err (n : Nat) {e : Err} (pl : PFLine) (he : e ≠ .ok) (hs : smReqSt pl.state) :
    smReqRes pl.statusCode (n, e, pl) :=
  ⟨rfl, Or.inr ⟨he, hs⟩⟩

theorem smFlCRLF_res (b : Buf) (i : Nat) (pl : PFLine) (hst : pl.state = .crlf) : smReqRes pl.statusCode (flCRLF b i pl) := by
  unfold flCRLF
  rcases hs : skipCRLF b i with ⟨n, crl, e⟩
  cases e <;> simp only
  case ok => exact ⟨rfl, Or.inl ⟨rfl, rfl⟩⟩
  all_goals exact smReqRes_err _ _ (by decide) (Or.inr (Or.inr (Or.inr hst)))

theorem smFlReqVer_res (b : Buf) (i : Nat) (pl : PFLine) (hst : pl.state = .reqVer) : smReqRes pl.statusCode (flReqVer b i pl) := by
  have hs : smReqSt pl.state := Or.inr (Or.inr (Or.inl hst))
  unfold flReqVer
  simp only
  split
  · exact smReqRes_err _ _ (by decide) hs
  · split
    · exact smReqRes_err _ _ (by decide) hs
    · split
      · exact smReqRes_err _ _ (by decide) hs
      · exact smFlCRLF_res b _ _ rfl

theorem smFlReqURI_res (b : Buf) (i : Nat) (pl : PFLine) (hst : pl.state = .reqURI) : smReqRes pl.statusCode (flReqURI b i pl) := by
  have hs : smReqSt pl.state := Or.inr (Or.inl hst)
  unfold flReqURI
  simp only
  split
  · exact smReqRes_err _ _ (by decide) hs
  · split
    · exact smReqRes_err _ _ (by decide) hs
    · split
      · exact smReqRes_err _ _ (by decide) hs
      · exact smFlReqVer_res b _ _ rfl

theorem smFlReqMethod_res (b : Buf) (i : Nat) (pl : PFLine) (hst : pl.state = .reqMethod) :
    smReqRes pl.statusCode (flReqMethod b i pl) := by
  have hs : smReqSt pl.state := Or.inl hst
  unfold flReqMethod
  simp only
  split
  · exact smReqRes_err _ _ (by decide) hs
  · split
    · exact smReqRes_err _ _ (by decide) hs
    · split
      · exact smReqRes_err _ _ (by decide) hs
      · split
        · exact smReqRes_err _ _ (by decide) hs
        · exact smFlReqURI_res b _ _ rfl

theorem smReq_eq_fl (k : Nat) (sc : PField) (r : Nat × Err × PFLine) (h0 : sc.len = 0) (h : smReqRes sc r) :
    shReq k r.2.2 = shFl k r.2.2 := by
  obtain ⟨h1, h2⟩ := h
  unfold shFl
  rcases h2 with ⟨_, h2⟩ | ⟨_, h2 | h2 | h2 | h2⟩ <;> rw [h2] <;> simp only
  rw [h1, h0]; rfl

/-- result of the status-line path -/
def smRplRes (r : Nat × Err × PFLine) : Prop :=
  (r.2.1 = .ok ∧ r.2.2.state = .fin ∧ r.2.2.statusCode.len ≠ 0) ∨
    (r.2.1 ≠ .ok ∧ ((r.2.2.state = .rplStatus ∧ r.2.1 = .badChar) ∨ (r.2.2.state = .rplReason ∧ r.2.2.statusCode.len ≠ 0)))

theorem smFlRplReason_res (b : Buf) (i : Nat) (pl : PFLine) (hst : pl.state = .rplReason) (h0 : pl.statusCode.len ≠ 0) :
    smRplRes (flRplReason b i pl) := by
  unfold flRplReason
  rcases hs : skipLine b i with ⟨e, crl, err⟩
  cases err <;> simp only
  case ok => exact Or.inl ⟨rfl, rfl, h0⟩
  all_goals exact Or.inr ⟨(by intro hh; cases hh), Or.inr ⟨hst, h0⟩⟩

theorem smFlReply_res (b : Buf) (i0 : Nat) (pl : PFLine) : smRplRes (flReply b i0 8 pl) := by
  unfold flReply
  simp only
  split
  · split
    · exact Or.inr ⟨(by intro hh; cases hh), Or.inl ⟨rfl, rfl⟩⟩
    · refine smFlRplReason_res b _ _ rfl ?_
      show (PField.set (i0 + 8) (i0 + 8 + 3)).len ≠ 0
      unfold PField.set trunc16
      simp only
      omega
  · exact Or.inr ⟨(by intro hh; cases hh), Or.inl ⟨rfl, rfl⟩⟩

theorem smRpl_eq_fl (k : Nat) (r : Nat × Err × PFLine) (h : smRplRes r) : shRpl k r.2.2 = shFl k r.2.2 := by
  unfold shFl
  rcases h with ⟨_, h2, h3⟩ | ⟨_, ⟨h2, _⟩ | ⟨h2, _⟩⟩ <;> rw [h2] <;> simp only
  rw [if_neg h3]

/-- the body field: set (and moved) once the body section has been reached -/
def shMb (k : Nat) (st : MsgState) (f : PField) : PField :=
  match st with
  | .body | .fin | .noCLen => shF k f
  | _ => f

/-- `len(msg.Buf)` and the start of `RawMsg`: set (and moved) when the message is complete -/
def shMl (k : Nat) (st : MsgState) (x : Nat) : Nat :=
  match st with
  | .fin | .noCLen => x + k
  | _ => x

/-- the start offset of the message: set (and moved) by the first call -/
def shMo (k : Nat) (st : MsgState) (x : Nat) : Nat :=
  match st with
  | .init => x
  | _ => x + k

/-- **the message object moved by `k`**: first line (`shFl`), header list (`shHls`), header values (`shHv`), body, the
    start offset of the message, and — once the message is complete — the length of `Buf` and the start of `RawMsg`
    (`Buf = buf[0 : bufLen]`, `RawMsg = Buf[rawOffs : rawOffs + rawLen]`: `bufLen` and `rawOffs` grow by `k`, the length
    `rawLen` does not change); state and panic flag unchanged -/
def shMsg (k : Nat) (m : PSIPMsg) : PSIPMsg :=
  { m with fl := shFl k m.fl, pv := shHv k m.pv, hl := shHls k m.hl, body := shMb k m.state m.body,
           bufLen := shMl k m.state m.bufLen, rawOffs := shMl k m.state m.rawOffs, offs := shMo k m.state m.offs }

theorem shMsg_init (k : Nat) (m : PSIPMsg) (len : Nat) (kh kc : Nat) (hdrs cts : Option Unit) :
    shMsg k (m.init len (hdrs.map fun _ => Array.replicate kh {}) (cts.map fun _ => Array.replicate kc {})) =
      m.init len (hdrs.map fun _ => Array.replicate kh {}) (cts.map fun _ => Array.replicate kc {}) := by
  have key : ∀ a c : Nat, shMsg k (initObj len a c) = initObj len a c := by
    intro a c
    unfold shMsg initObj
    simp only [shHv_new, shHls_new, shFl_new]
    rfl
  cases hdrs <;> cases cts
  · exact key 10 10
  · exact key 10 kc
  · exact key kh 10
  · exact key kh kc

/-- the returned message is the moved message: exactly unless the call ended in the error state, where the header
    values agree up to the stale restart offset of the name-addr value that was being parsed -/
def smRelM (k : Nat) (x y : PSIPMsg) : Prop :=
  ({ x with pv := smHvObs x.pv } : PSIPMsg) = { shMsg k y with pv := smHvObs (shHv k y.pv) } ∧
    (y.state ≠ .err → x = shMsg k y)

theorem smRelM_refl (k : Nat) (y : PSIPMsg) : smRelM k (shMsg k y) y := ⟨rfl, fun _ => rfl⟩

/-- the result `r'` is the result `r` moved by `k` -/
def smResM (k : Nat) (r' r : Nat × Err × PSIPMsg) : Prop := r'.1 = k + r.1 ∧ r'.2.1 = r.2.1 ∧ smRelM k r'.2.2 r.2.2

theorem smResM_of_eq {k : Nat} {r' r : Nat × Err × PSIPMsg} (h : r' = shRes k (shMsg k) r) : smResM k r' r := by
  subst h; exact ⟨rfl, rfl, smRelM_refl k _⟩

theorem PSIPMsg.smExt {a b : PSIPMsg} (h1 : a.fl = b.fl) (h2 : a.pv = b.pv) (h3 : a.hl = b.hl) (h4 : a.body = b.body)
    (h5 : a.bufLen = b.bufLen) (h6 : a.rawOffs = b.rawOffs) (h7 : a.rawLen = b.rawLen) (h8 : a.state = b.state)
    (h9 : a.offs = b.offs) (h10 : a.pnc = b.pnc) : a = b := by
  cases a; cases b; simp_all

theorem smSetBufs (pre t : Buf) (X m : PSIPMsg) (o : Nat) (S : MsgState) (hS : S = .fin ∨ S = .noCLen)
    (h1 : X.fl = shFl pre.size m.fl) (h2 : X.pv = shHv pre.size m.pv) (h3 : X.hl = shHls pre.size m.hl)
    (h4 : X.body = shF pre.size m.body) (h5 : X.offs = m.offs + pre.size) (h6 : X.pnc = m.pnc) :
    ({ X.setBufs (pre ++ t) (pre.size + o) with state := S } : PSIPMsg) =
      shMsg pre.size { m.setBufs t o with state := S } := by
  have hp1 : decide (pre.size + o > (pre ++ t).size) = decide (o > t.size) := by
    rw [Array.size_append]; exact decide_eq_decide.mpr ⟨fun h => by omega, fun h => by omega⟩
  have hp2 : decide (m.offs + pre.size > pre.size + o) = decide (m.offs > o) :=
    decide_eq_decide.mpr ⟨fun h => by omega, fun h => by omega⟩
  rcases hS with rfl | rfl <;> apply PSIPMsg.smExt <;>
    simp only [PSIPMsg.setBufs, shMsg, shMb, shMl, shMo, h1, h2, h3, h4, h5, h6, hp1, hp2] <;> omega

theorem smMsgEnd (pre t : Buf) (X m : PSIPMsg) (o' : Nat)
    (h1 : X.fl = shFl pre.size m.fl) (h2 : X.pv = shHv pre.size m.pv) (h3 : X.hl = shHls pre.size m.hl)
    (h4 : X.body = shF pre.size m.body) (h5 : X.offs = m.offs + pre.size) (h6 : X.pnc = m.pnc)
    (ho' : o' ≤ t.size) (hfit : pre.size + t.size ≤ 65535) :
    msgEnd X (pre ++ t) (pre.size + o') = shRes pre.size (shMsg pre.size) (msgEnd m t o') := by
  unfold msgEnd shRes
  simp only
  refine Prod.ext rfl (Prod.ext rfl ?_)
  exact smSetBufs pre t _ { m with body := m.body.extend o', pnc := m.pnc || m.body.extendPanics o' } o' .fin (Or.inl rfl)
    h1 h2 h3 (by show X.body.extend _ = _; rw [h4, extend_shift pre.size m.body o' (by omega)]) h5
    (by show (X.pnc || X.body.extendPanics _) = _; rw [h4, h6, extendPanics_shift])

theorem msgBody_body_irrel (b : Buf) (o : Nat) (m : PSIPMsg) (f : PField) (flags : Nat) :
    msgBody b o { m with body := f } flags = msgBody b o m flags := by
  unfold msgBody; rfl

theorem smMsgBody (pre t : Buf) (o : Nat) (m : PSIPMsg) (flags : Nat) (hst : m.state = .body) (ho : o ≤ t.size)
    (hfit : pre.size + t.size ≤ 65535) :
    msgBody (pre ++ t) (pre.size + o) (shMsg pre.size m) flags = shRes pre.size (shMsg pre.size) (msgBody t o m flags) := by
  have hb1 : PField.set (pre.size + o) (pre.size + o) = shF pre.size (PField.set o o) := set_shift pre.size o o (by omega)
  have ho5 : (shMsg pre.size m).offs = m.offs + pre.size := by
    show shMo pre.size m.state m.offs = _; rw [hst]; rfl
  have hp : (shMsg pre.size m).pv.clen.parsed = m.pv.clen.parsed := smCl_parsed _ _
  have hu : (shMsg pre.size m).pv.clen.uiVal = m.pv.clen.uiVal := shCl_uiVal _ _
  have hend : ∀ (S : MsgState) (o' : Nat), o' ≤ t.size →
      msgEnd { shMsg pre.size m with body := PField.set (pre.size + o) (pre.size + o), state := S } (pre ++ t) (pre.size + o') =
        shRes pre.size (shMsg pre.size) (msgEnd { m with body := PField.set o o, state := S } t o') := by
    intro S o' a2
    exact smMsgEnd pre t _ _ o' rfl rfl rfl hb1 ho5 rfl a2 hfit
  have hmore : ({ shMsg pre.size m with body := PField.set (pre.size + o) (pre.size + o) } : PSIPMsg) =
      shMsg pre.size { m with body := PField.set o o } := by
    unfold shMsg; simp only [hst, shMb, hb1]
  unfold msgBody
  simp only [hp, hu, Array.size_append]
  by_cases f1 : hasFlag flags SIPMsgSkipBodyF = true
  · simp only [f1, ↓reduceIte]
    by_cases f2 : (hasFlag flags SIPMsgCLenReqF && !m.pv.clen.parsed) = true
    · simp only [f2, ↓reduceIte, shRes]
      refine Prod.ext rfl (Prod.ext rfl ?_)
      exact smSetBufs pre t _ { m with body := PField.set o o } o .noCLen (Or.inr rfl) rfl rfl rfl hb1 ho5 rfl
    · simp only [f2, Bool.false_eq_true, ↓reduceIte]
      exact hend .fin o ho
  · simp only [f1, Bool.false_eq_true, ↓reduceIte]
    by_cases f3 : m.pv.clen.parsed = true
    · simp only [f3, ↓reduceIte]
      have hgt : (pre.size + o + m.pv.clen.uiVal > pre.size + t.size) = (o + m.pv.clen.uiVal > t.size) := by
        apply propext; constructor <;> intro h <;> omega
      simp only [hgt]
      by_cases f4 : o + m.pv.clen.uiVal > t.size
      · simp only [f4, ↓reduceIte]
        by_cases f5 : hasFlag flags SIPMsgNoMoreDataF = true
        · simp only [f5, ↓reduceIte]
          exact hend m.state t.size (Nat.le_refl _)
        · simp only [f5, Bool.false_eq_true, ↓reduceIte, shRes]
          exact Prod.ext rfl (Prod.ext rfl hmore)
      · simp only [f4, ↓reduceIte]
        rw [Nat.add_assoc]
        exact hend m.state (o + m.pv.clen.uiVal) (by omega)
    · simp only [f3, Bool.false_eq_true, ↓reduceIte]
      by_cases f6 : hasFlag flags SIPMsgCLenReqF = true
      · simp only [f6, ↓reduceIte]
        exact hend m.state o ho
      · simp only [f6, Bool.false_eq_true, ↓reduceIte]
        exact hend m.state t.size (Nat.le_refl _)

/-- **a legitimate first-line object** for the shift theorem: new, or suspended on the request path (status-code
    field untouched) or in the reason phrase of a status line (status-code field set) -/
def FlSh (pl : PFLine) : Prop :=
  pl = {} ∨ (smReqSt pl.state ∧ pl.statusCode.len = 0) ∨ (pl.state = .rplReason ∧ pl.statusCode.len ≠ 0)

theorem FlSh_of_req {sc : PField} {r : Nat × Err × PFLine} (h0 : sc.len = 0) (h : smReqRes sc r)
    (hm : r.2.1 = .moreBytes) : FlSh r.2.2 := by
  obtain ⟨h1, h2⟩ := h
  rcases h2 with ⟨h2, _⟩ | ⟨_, h2⟩
  · rw [hm] at h2; cases h2
  · exact Or.inr (Or.inl ⟨h2, by rw [h1]; exact h0⟩)

theorem smParseFLine_reqRes (b : Buf) (o : Nat) (pl : PFLine) (hst : smReqSt pl.state) : smReqRes pl.statusCode (parseFLine b o pl) := by
  unfold parseFLine
  rcases hst with h | h | h | h <;> simp only [h]
  · exact smFlReqMethod_res b o pl h
  · exact smFlReqURI_res b o pl h
  · exact smFlReqVer_res b o pl h
  · exact smFlCRLF_res b o pl h

/-- **ParseFLine is position independent** for every legitimate first-line object, with the single translation
    `shFl`; after MoreBytes the returned object is legitimate again -/
theorem smParseFLine (pre t : Buf) (o : Nat) (pl : PFLine) (hfit : pre.size + t.size ≤ 65535) (hL : FlSh pl)
    (hS : FlSafe t o pl) :
    parseFLine (pre ++ t) (pre.size + o) (shFl pre.size pl) = shRes pre.size (shFl pre.size) (parseFLine t o pl) ∧
      ((parseFLine t o pl).2.1 = .moreBytes → FlSh (parseFLine t o pl).2.2) := by
  rcases hL with rfl | ⟨hst, h0⟩ | ⟨hst, h0⟩
  · rw [shFl_new, parseFLine_shift_new pre t o hS.ho hfit]
    have key : (if (bcPrefix sipVerSP (t.extract o (o + 8)).toList).2 then shRpl pre.size else shReq pre.size)
          (parseFLine t o {}).2.2 = shFl pre.size (parseFLine t o {}).2.2 ∧
        ((parseFLine t o {}).2.1 = .moreBytes → FlSh (parseFLine t o {}).2.2) := by
      unfold parseFLine
      simp only
      by_cases hlen : t.size - o < 14
      · simp only [hlen, ↓reduceIte]
        exact ⟨by split <;> rfl, fun _ => Or.inl rfl⟩
      · simp only [hlen, ↓reduceIte]
        rcases hp : bcPrefix sipVerSP (t.extract o (o + 8)).toList with ⟨l, ok⟩
        cases ok <;> simp only
        · have hr := smFlReqMethod_res t o { ({} : PFLine) with state := .reqMethod, method := PField.set o o } rfl
          simp only [Bool.false_eq_true, ↓reduceIte]
          exact ⟨smReq_eq_fl pre.size _ _ rfl hr, FlSh_of_req rfl hr⟩
        · obtain rfl := sipVer_prefix_len hp
          simp only [↓reduceIte]
          have hr := smFlReply_res t o {}
          refine ⟨smRpl_eq_fl pre.size _ hr, fun hm => ?_⟩
          rcases hr with ⟨h1, _⟩ | ⟨_, ⟨_, h2⟩ | h2⟩
          · rw [hm] at h1; cases h1
          · rw [hm] at h2; cases h2
          · exact Or.inr (Or.inr h2)
    refine ⟨?_, key.2⟩
    unfold shRes
    rw [key.1]
  · have e0 : shFl pre.size pl = shReq pre.size pl := by
      unfold shFl; rcases hst with h | h | h | h <;> rw [h]
    have hr := smParseFLine_reqRes t o pl hst
    rw [e0, parseFLine_shift_req pre t o pl hst hS hfit]
    refine ⟨?_, FlSh_of_req h0 hr⟩
    unfold shRes
    rw [smReq_eq_fl pre.size _ _ h0 hr]
  · have e0 : shFl pre.size pl = shRpl pre.size pl := by unfold shFl; rw [hst]
    have hr : smRplRes (parseFLine t o pl) := by
      unfold parseFLine; simp only [hst]; exact smFlRplReason_res t o pl hst h0
    rw [e0, parseFLine_shift_rpl pre t o pl hst hS hfit]
    refine ⟨?_, fun hm => ?_⟩
    · unfold shRes
      rw [smRpl_eq_fl pre.size _ hr]
    · rcases hr with ⟨h1, _⟩ | ⟨_, ⟨_, h2⟩ | h2⟩
      · rw [hm] at h1; cases h1
      · rw [hm] at h2; cases h2
      · exact Or.inr (Or.inr h2)

theorem shMsg_err (k : Nat) (m : PSIPMsg) (hst : m.state = .fline ∨ m.state = .headers) :
    shMsg k { m with state := .err } = { shMsg k m with state := .err } := by
  rcases hst with h | h <;> (unfold shMsg; simp only [h, shMb, shMl, shMo])

/-- the error exits: `X` is the moved `m` up to the stale restart offset, exactly when the verdict is MoreBytes -/
theorem smMsgErr (k : Nat) (X m : PSIPMsg) (o : Nat) (e : Err) (flags : Nat)
    (hst : m.state = .fline ∨ m.state = .headers)
    (hobs : ({ X with pv := smHvObs X.pv } : PSIPMsg) = { shMsg k m with pv := smHvObs (shHv k m.pv) })
    (hex : e = .moreBytes → X = shMsg k m) : smResM k (msgErr X (k + o) e flags) (msgErr m o e flags) := by
  have herr : smRelM k { X with state := .err } { m with state := .err } := by
    refine ⟨?_, fun hh => absurd rfl hh⟩
    rw [shMsg_err k m hst]
    have := congrArg (fun z : PSIPMsg => ({ z with state := MsgState.err } : PSIPMsg)) hobs
    exact this
  unfold msgErr
  by_cases h1 : (e != .moreBytes) = true
  · simp only [h1, ↓reduceIte]
    exact ⟨rfl, rfl, herr⟩
  · simp only [h1, Bool.false_eq_true, ↓reduceIte]
    by_cases h2 : hasFlag flags SIPMsgNoMoreDataF = true
    · simp only [h2, ↓reduceIte]
      exact ⟨rfl, rfl, herr⟩
    · simp only [h2, Bool.false_eq_true, ↓reduceIte]
      have he : e = .moreBytes := by simpa using h1
      rw [hex he]
      exact ⟨rfl, rfl, smRelM_refl k m⟩

theorem smGetD_exact (k : Nat) (hb : Option PHdrVals) (pv : PHdrVals) :
    (hb.map (shHv k)).getD (shHv k pv) = shHv k (hb.getD pv) := by
  cases hb <;> rfl

theorem smGetD_obs (k : Nat) (x hb : Option PHdrVals) (pv : PHdrVals)
    (h : x.map smHvObs = (hb.map (shHv k)).map smHvObs) :
    smHvObs (x.getD (shHv k pv)) = smHvObs (shHv k (hb.getD pv)) := by
  cases x <;> cases hb <;> simp only [Option.map_some, Option.map_none, Option.some.injEq] at h
  · rfl
  · cases h
  · cases h
  · exact h

/-- **a legitimate message object** for the shift theorem at offset `o`: the hypotheses of the panic-freedom theorem
    (`msgOK2`, `MsgSafe`) plus: the call has not terminated, the first line is legitimate (`FlSh`; new before the first
    call), and the header in progress and the values satisfy `HlSh`. Holds for every object produced by Init
    (`MsgAll_init`) and again after MoreBytes at the returned offset, also on a grown buffer (`parseSIPMsg_shift`). -/
structure MsgAll (t : Buf) (o : Nat) (m : PSIPMsg) : Prop where
  ok2 : msgOK2 t o m
  safe : MsgSafe t o m
  st : m.state = .init ∨ m.state = .fline ∨ m.state = .headers ∨ m.state = .body
  flNew : m.state = .init → m.fl = {}
  fl : m.state = .fline → FlSh m.fl
  sh : m.state ≠ .body → HlSh t o (m.hl.cur, some m.pv)
  idle : m.state = .init ∨ m.state = .fline → ¬ m.hl.cur.state.isVal

/-- what a call establishes when it returns MoreBytes: the call has not terminated, a suspended first line is
    legitimate, and (before the body section) the header in progress and the values satisfy `HlSh` -/
def smPostM (t : Buf) (r : Nat × Err × PSIPMsg) : Prop :=
  r.2.1 = .moreBytes →
    (r.2.2.state = .fline ∨ r.2.2.state = .headers ∨ r.2.2.state = .body) ∧
    (r.2.2.state = .fline → FlSh r.2.2.fl ∧ ¬ r.2.2.hl.cur.state.isVal) ∧
    (r.2.2.state ≠ .body → HlSh t r.1 (r.2.2.hl.cur, some r.2.2.pv))

/-- an error exit returns MoreBytes only for the verdict MoreBytes, with the object as it is -/
theorem smPostM_err (t : Buf) (m : PSIPMsg) (o : Nat) (e : Err) (flags : Nat)
    (h : e = .moreBytes → smPostM t (o, .moreBytes, m)) : smPostM t (msgErr m o e flags) := by
  intro hm
  obtain ⟨he, h1, h2⟩ := msgErr_more_inv m o e flags (o' := (msgErr m o e flags).1) (m' := (msgErr m o e flags).2.2)
    (Prod.ext rfl (Prod.ext hm rfl))
  rw [h1, h2]
  exact h he rfl

theorem smPostM_body (t : Buf) (o : Nat) (m : PSIPMsg) (flags : Nat) (hst : m.state = .body) :
    smPostM t (msgBody t o m flags) := by
  intro hm
  have := msgBody_resume t #[] o m flags flags (o' := (msgBody t o m flags).1) (m' := (msgBody t o m flags).2.2)
    (Prod.ext rfl (Prod.ext hm rfl))
  rw [this.2.1]
  exact ⟨Or.inr (Or.inr hst), (fun hh => by rw [show ({ m with body := PField.set o o } : PSIPMsg).state = m.state from rfl, hst] at hh; cases hh),
    fun hh => absurd hst hh⟩

theorem smMsgHeaders (pre t : Buf) (o : Nat) (m : PSIPMsg) (flags : Nat) (hfit : pre.size + t.size ≤ 65535)
    (hst : m.state = .headers) (hA : HlsAll t o m.hl (some m.pv)) :
    smResM pre.size (msgHeaders (pre ++ t) (pre.size + o) (shMsg pre.size m) flags) (msgHeaders t o m flags) ∧
      smPostM t (msgHeaders t o m flags) := by
  obtain ⟨hb'', p1, p2, p3⟩ := parseHeaders_shift pre t o m.hl (some m.pv) hfit hA
  have hsafe := parseHeaders_safe t o m.hl (some m.pv) (by omega) hA.ok1 hA.ok2 hA.pend hA.ho hA.safe
  have hsome := parseHeaders_isSome t o m.hl m.pv
  rw [msgHeaders_eq, msgHeaders_eq]
  have e0 : parseHeaders (pre ++ t) (pre.size + o) (shMsg pre.size m).hl (some (shMsg pre.size m).pv) =
      parseHeaders (pre ++ t) (pre.size + o) (shHls pre.size m.hl) ((some m.pv).map (shHv pre.size)) := rfl
  rw [e0, p1]
  rcases hp : parseHeaders t o m.hl (some m.pv) with ⟨o1, e1, hl1, hb1⟩
  rw [hp] at p2 p3 hsafe hsome
  simp only at p2 p3 hsafe hsome
  cases hb1 with
  | none => cases hsome
  | some pv1 =>
  have ho1 : o1 ≤ t.size := hsafe.2.2.2.2
  have herr : ∀ e : Err, e ≠ .ok → e = e1 →
      smResM pre.size
        (msgErr { shMsg pre.size m with hl := shHls pre.size hl1, pv := hb''.getD (shMsg pre.size m).pv } (pre.size + o1) e flags)
        (msgErr { m with hl := hl1, pv := pv1 } o1 e flags) := by
    intro e _ he
    subst he
    refine smMsgErr pre.size _ { m with hl := hl1, pv := pv1 } o1 e flags (Or.inr hst) ?_ (fun hm => ?_)
    · have := smGetD_obs pre.size hb'' (some pv1) m.pv p2.1
      show ({ shMsg pre.size m with hl := shHls pre.size hl1, pv := smHvObs (hb''.getD (shHv pre.size m.pv)) } : PSIPMsg) = _
      rw [this]
      unfold shMsg; rfl
    · have := p2.2 (Or.inr (Or.inl hm))
      subst this
      unfold shMsg; rfl
  unfold afterHeaders
  cases e1 <;> simp only [Option.getD_some]
  case ok =>
    have hx : hb'' = (some pv1).map (shHv pre.size) := p2.2 (Or.inl rfl)
    subst hx
    have e9 : ({ shMsg pre.size m with hl := shHls pre.size hl1, pv := ((some pv1).map (shHv pre.size)).getD (shMsg pre.size m).pv, state := MsgState.body } : PSIPMsg) = { shMsg pre.size { m with hl := hl1, pv := pv1, state := .body } with body := m.body } := by
      unfold shMsg; simp only [hst, shMb, shMl, shMo]; rfl
    rw [e9, msgBody_body_irrel]
    exact ⟨smResM_of_eq (smMsgBody pre t o1 _ flags rfl ho1 hfit), smPostM_body t o1 _ flags rfl⟩
  case moreBytes =>
    exact ⟨herr _ (by decide) rfl, smPostM_err _ _ _ _ _ fun _ _ =>
      ⟨Or.inr (Or.inl hst), (fun hh => by rw [show ({ m with hl := hl1, pv := pv1 } : PSIPMsg).state = m.state from rfl, hst] at hh; cases hh),
        fun _ => p3 rfl⟩⟩
  all_goals exact ⟨herr _ (by decide) rfl, smPostM_err _ _ _ _ _ fun he => by cases he⟩

theorem shMsg_toHeaders (k : Nat) (m : PSIPMsg) (fl1 : PFLine) (hst : m.state = .fline) :
    ({ shMsg k m with fl := shFl k fl1, state := MsgState.headers } : PSIPMsg) = shMsg k { m with fl := fl1, state := .headers } := by
  unfold shMsg; simp only [hst, shMb, shMl, shMo]

theorem smMsgFLine (pre t : Buf) (o : Nat) (m : PSIPMsg) (flags : Nat) (hfit : pre.size + t.size ≤ 65535)
    (hst : m.state = .fline) (hok : msgOK2 t o m) (H : MsgSafe t o m) (hfl : FlSh m.fl)
    (hX : HlSh t o (m.hl.cur, some m.pv)) (hidle : ¬ m.hl.cur.state.isVal) :
    smResM pre.size (msgFLine (pre ++ t) (pre.size + o) (shMsg pre.size m) flags) (msgFLine t o m flags) ∧
      smPostM t (msgFLine t o m flags) := by
  obtain ⟨ho, _, hrest⟩ := hok
  obtain ⟨hls, hvs, hpe⟩ := hrest (by rw [hst]; decide)
  have hFS := H.flS (Or.inr hst)
  obtain ⟨q1, q2⟩ := smParseFLine pre t o m.fl hfit hfl hFS
  have hF := parseFLine_safe t o m.fl (by omega) hFS
  have hge := parseFLine_ge t o m.fl
  unfold msgFLine
  have e0 : (shMsg pre.size m).fl = shFl pre.size m.fl := rfl
  rw [e0, q1]
  rcases hp : parseFLine t o m.fl with ⟨o1, e1, fl1⟩
  rw [hp] at q2 hF hge
  simp only at q2 hF hge
  have herr : ∀ e : Err, smResM pre.size (msgErr { shMsg pre.size m with fl := shFl pre.size fl1 } (pre.size + o1) e flags)
      (msgErr { m with fl := fl1 } o1 e flags) := by
    intro e
    exact smMsgErr pre.size _ { m with fl := fl1 } o1 e flags (Or.inl hst) rfl (fun _ => rfl)
  simp only [shRes]
  cases e1 <;> simp only
  case ok =>
    rw [shMsg_toHeaders pre.size m fl1 hst]
    exact smMsgHeaders pre t o1 _ flags hfit rfl
      ⟨hls, hvOK_mono hvs hge hF.ho, hpe, hF.ho, (H.hls (Or.inr (Or.inl hst))).mono hge hF.ho, hX.monoNV hge hF.ho hidle⟩
  case moreBytes =>
    exact ⟨herr _, smPostM_err _ _ _ _ _ fun _ _ =>
      ⟨Or.inl hst, fun _ => ⟨q2 rfl, hidle⟩, fun _ => hX.monoNV hge hF.ho hidle⟩⟩
  all_goals exact ⟨herr _, smPostM_err _ _ _ _ _ fun he => by cases he⟩

theorem HvSh.append {t : Buf} {o : Nat} {st : HState} {hv : PHdrVals} (h : HvSh t o st hv) (s : Buf) :
    HvSh (t ++ s) o st hv :=
  ⟨h.from_.append s, h.to.append s, h.callid, h.cseqP, h.cseqL, h.clen, h.expires, fun hh => (h.ct hh).append s,
   fun hh => (h.pa hh).append s⟩

theorem HlSh.append {t : Buf} {i : Nat} {st : HLσ} (h : HlSh t i st) (s : Buf) : HlSh (t ++ s) i st :=
  ⟨h.pos, h.valNz, h.nameNz, fun hv hh => (h.hv hv hh).append s⟩

theorem shMsg_start (k : Nat) (m : PSIPMsg) (o : Nat) (hst : m.state = .init) :
    ({ shMsg k m with offs := k + o, state := MsgState.fline } : PSIPMsg) = shMsg k { m with offs := o, state := .fline } := by
  unfold shMsg; simp only [hst, shMb, shMl, shMo, Nat.add_comm]

theorem MsgAll.hls {t : Buf} {o : Nat} {m : PSIPMsg} (h : MsgAll t o m) (hst : m.state ≠ .body) :
    HlsAll t o m.hl (some m.pv) :=
  ⟨(h.ok2.2.2 hst).1, (h.ok2.2.2 hst).2.1, (h.ok2.2.2 hst).2.2, h.ok2.1,
   h.safe.hls (by rcases h.st with g | g | g | g
                  · exact Or.inl g
                  · exact Or.inr (Or.inl g)
                  · exact Or.inr (Or.inr g)
                  · exact absurd g hst), h.sh hst⟩

/-- [C11] ParseSIPMsg is position independent: for every legitimate message object (`MsgAll`: new / produced by Init, or
    suspended by MoreBytes in the first line, in the header section or before the body), every flag combination and
    every prefix `pre` with `pre.size + t.size ≤ 65535`, the call on `pre ++ t` at `pre.size + o` with the moved object
    returns the offset moved by `pre.size`, the same verdict and the moved message object (`shMsg`: first line, every
    stored header and shortcut, every header value, body, `Buf` / `RawMsg` bookkeeping moved by exactly `pre.size`;
    status, method numbers, counts, flags, lengths and the state unchanged) — exactly, unless the call ended in the
    error state, in which case the header values agree up to the stale (never reported) restart offset of the
    name-addr value that was being parsed (`smRelM`). After MoreBytes the returned object is legitimate again at the
    returned offset on every grown buffer. -/
theorem parseSIPMsg_shift (pre t : Buf) (o : Nat) (m : PSIPMsg) (flags : Nat) (hfit : pre.size + t.size ≤ 65535)
    (hA : MsgAll t o m) :
    smResM pre.size (parseSIPMsg (pre ++ t) (pre.size + o) (shMsg pre.size m) flags) (parseSIPMsg t o m flags) ∧
      ((parseSIPMsg t o m flags).2.1 = .moreBytes →
        ∀ s : Buf, MsgAll (t ++ s) (parseSIPMsg t o m flags).1 (parseSIPMsg t o m flags).2.2) := by
  have ⟨hok, H, hst4, hflNew, hflS, hsh, hidle⟩ := hA
  have key : smResM pre.size (parseSIPMsg (pre ++ t) (pre.size + o) (shMsg pre.size m) flags) (parseSIPMsg t o m flags) ∧
      smPostM t (parseSIPMsg t o m flags) := by
    rcases hst4 with hst | hst | hst | hst
    · rw [(MsgAt.enter hst).run flags, (MsgAt.enter (show (shMsg pre.size m).state = .init from hst)).run flags,
        shMsg_start pre.size m o hst]
      exact smMsgFLine pre t o _ flags hfit rfl
        ⟨hok.1, fun _ => hok.2.1 (Or.inl hst), fun _ => hok.2.2 (by rw [hst]; decide)⟩
        ⟨⟨H.pnc, H.fl, H.hl, H.pv, H.body⟩, H.ho, (fun _ => Nat.le_refl _), (fun _ => H.flS (Or.inl hst)),
          (fun _ => H.hls (Or.inl hst)), ⟨H.inn.fl, H.inn.hl, H.inn.pv⟩⟩
        (Or.inl (hflNew hst)) (hsh (by rw [hst]; decide)) (hidle (Or.inl hst))
    · rw [parseSIPMsg_fline t o m flags hst, parseSIPMsg_fline (pre ++ t) _ _ flags (show (shMsg pre.size m).state = .fline from hst)]
      exact smMsgFLine pre t o m flags hfit hst hok H (hflS hst) (hsh (by rw [hst]; decide)) (hidle (Or.inr hst))
    · rw [parseSIPMsg_headers t o m flags hst, parseSIPMsg_headers (pre ++ t) _ _ flags (show (shMsg pre.size m).state = .headers from hst)]
      exact smMsgHeaders pre t o m flags hfit hst (hA.hls (by rw [hst]; decide))
    · rw [parseSIPMsg_body t o m flags hst, parseSIPMsg_body (pre ++ t) _ _ flags (show (shMsg pre.size m).state = .body from hst)]
      exact ⟨smResM_of_eq (smMsgBody pre t o m flags hst hok.1 hfit), smPostM_body t o m flags hst⟩
  refine ⟨key.1, fun hm s => ?_⟩
  have hT := parseSIPMsg_safe t o m flags (by omega) hok H
  obtain ⟨p1, p2, p3⟩ := key.2 hm
  rcases hp : parseSIPMsg t o m flags with ⟨o1, e1, m1⟩
  rw [hp] at hm hT p1 p2 p3
  simp only at hm hT p1 p2 p3
  subst hm
  have hr := parseSIPMsg_resume t s o m flags flags hok (by omega) hp
  have hne : m1.state ≠ .init := by rcases p1 with h | h | h <;> rw [h] <;> decide
  exact ⟨hr.2.1, (hT.more rfl).grow (by rw [Array.size_append]; omega),
    (by rcases p1 with h | h | h; exact Or.inr (Or.inl h); exact Or.inr (Or.inr (Or.inl h)); exact Or.inr (Or.inr (Or.inr h))),
    (fun hh => absurd hh hne), (fun hh => (p2 hh).1), (fun hh => (p3 hh).append s),
    (fun hh => by rcases hh with hh | hh; exact absurd hh hne; exact (p2 hh).2)⟩

theorem HlSh_new (t : Buf) (o : Nat) (ho : o ≤ t.size) (m : Nat) :
    HlSh t o ({}, some ({ contacts := { vals := Array.replicate m {} } } : PHdrVals)) :=
  ⟨fun hh => absurd rfl hh, (fun hh => by rcases hh with hh | hh <;> cases hh), fun hh => absurd rfl hh,
   fun hv hh => by cases hh; exact HvSh_new t o ho .init m⟩

theorem HlAll_new (t : Buf) (o : Nat) (ho : o ≤ t.size) (m : Nat) :
    HlAll t o ({}, some ({ contacts := { vals := Array.replicate m {} } } : PHdrVals)) :=
  ⟨HlSafe_new t o _ ho (fun hv hh => by cases hh; exact HvSafe_new t o ho m),
   ⟨ho, hdrOK_new t, (msgOK_init t o ho {} 0 0 m none (some ())).2.2.2⟩,
   HlSh_new t o ho m⟩

/-- [C11] after MoreBytes the returned pair is a legitimate argument again, at the returned offset, also once more
    bytes `s` have arrived (`hlPending`: the value a suspended header waits for is not finished yet — true of every
    pair returned with MoreBytes and of every new header) -/
theorem parseHdrLine_shiftEntry (t s : Buf) (o : Nat) (h : Hdr) (hb : Option PHdrVals) (hfit : t.size ≤ 65535)
    (hA : HlAll t o (h, hb)) (hpe : hlPending (h, hb)) {o' : Nat} {h' : Hdr} {hb' : Option PHdrVals}
    (hr : parseHdrLine t o h hb = (o', Err.moreBytes, h', hb')) :
    HlAll (t ++ s) o' (h', hb') ∧ hlPending (h', hb') := by
  have h1 := (parseHdrLine_safe t o h hb hfit hA.1 hA.2.1 hr).2.1 (Or.inr rfl)
  have h2 := parseHdrLine_resume t s o h hb hA.2.1 hpe hr
  obtain ⟨_, _, _, _, h3⟩ := parseHdrLine_shift #[] t o h hb (by simpa using hfit) hA hr
  exact ⟨⟨h1.grow (by rw [Array.size_append]; omega), h2.2.1, (h3 (Or.inr rfl)).append s⟩, h2.2.2.1⟩

/-- [C11] the resumed call of ParseHdrLine is position independent too -/
theorem parseHdrLine_shift_resume (pre t s : Buf) (o : Nat) (h : Hdr) (hb : Option PHdrVals)
    (hfit : pre.size + (t ++ s).size ≤ 65535) (hA : HlAll t o (h, hb)) (hpe : hlPending (h, hb)) {o' : Nat} {h' : Hdr}
    {hb' : Option PHdrVals} (hr : parseHdrLine t o h hb = (o', Err.moreBytes, h', hb'))
    {o'' : Nat} {e : Err} {h'' : Hdr} {hb'' : Option PHdrVals}
    (hr2 : parseHdrLine (t ++ s) o' h' hb' = (o'', e, h'', hb'')) :
    ∃ g gb, parseHdrLine (pre ++ (t ++ s)) (pre.size + o') (shHdr pre.size h') (hb'.map (shHv pre.size)) =
        (pre.size + o'', e, g, gb) ∧ smRelHL pre.size e (g, gb) (h'', hb'') := by
  have hE := (parseHdrLine_shiftEntry t s o h hb (by rw [Array.size_append] at hfit; omega) hA hpe hr).1
  obtain ⟨g, gb, a1, a2, _⟩ := parseHdrLine_shift pre (t ++ s) o' h' hb' hfit hE hr2
  exact ⟨g, gb, a1, a2⟩

/-- [C11] every object produced by Init is legitimate (any previous contents, caller arrays of any capacity or none) -/
theorem MsgAll_init (t : Buf) (o : Nat) (ho : o ≤ t.size) (m : PSIPMsg) (len kh kc : Nat) (hdrs cts : Option Unit) :
    MsgAll t o (m.init len (hdrs.map fun _ => Array.replicate kh {}) (cts.map fun _ => Array.replicate kc {})) := by
  have hok := msgOK2_init t o ho m len kh kc hdrs cts
  have hsafe := MsgSafe_init t o ho m len kh kc hdrs cts
  obtain ⟨a, c, e⟩ := init_eq_initObj m len kh kc hdrs cts
  rw [e] at hok hsafe ⊢
  have hcur : (initObj len a c).hl.cur = {} := flo_cur_new a
  refine ⟨hok, hsafe, Or.inl rfl, fun _ => rfl, (fun hh => by cases hh), fun _ => ?_, fun _ => ?_⟩
  · rw [hcur]; exact HlSh_new t o ho c
  · rw [hcur]; unfold HState.isVal; simp

/-- [C11] ParseSIPMsg is position independent, in the plain form whenever the call did not end in the error state -/
theorem parseSIPMsg_shift_exact (pre t : Buf) (o : Nat) (m : PSIPMsg) (flags : Nat) (hfit : pre.size + t.size ≤ 65535)
    (hA : MsgAll t o m) (hne : (parseSIPMsg t o m flags).2.2.state ≠ .err) :
    parseSIPMsg (pre ++ t) (pre.size + o) (shMsg pre.size m) flags =
      shRes pre.size (shMsg pre.size) (parseSIPMsg t o m flags) := by
  obtain ⟨r1, r2, r3⟩ := (parseSIPMsg_shift pre t o m flags hfit hA).1
  exact Prod.ext r1 (Prod.ext r2 (r3.2 hne))

/-- [C11] from an Init object, one call: the object is its own translation -/
theorem parseSIPMsg_shift_init (pre t : Buf) (o : Nat) (ho : o ≤ t.size) (m0 : PSIPMsg) (len kh kc : Nat)
    (hdrs cts : Option Unit) (flags : Nat) (hfit : pre.size + t.size ≤ 65535) :
    smResM pre.size
      (parseSIPMsg (pre ++ t) (pre.size + o)
        (m0.init len (hdrs.map fun _ => Array.replicate kh {}) (cts.map fun _ => Array.replicate kc {})) flags)
      (parseSIPMsg t o
        (m0.init len (hdrs.map fun _ => Array.replicate kh {}) (cts.map fun _ => Array.replicate kc {})) flags) := by
  have := (parseSIPMsg_shift pre t o _ flags hfit (MsgAll_init t o ho m0 len kh kc hdrs cts)).1
  rw [shMsg_init] at this
  exact this

/-- [C11] the resumed call: a message that ran out of bytes in `t` (parsed from an Init object) and is resumed at the
    returned offset with the returned object once more bytes `s` have arrived -/
theorem parseSIPMsg_shift_resume (pre t s : Buf) (o : Nat) (ho : o ≤ t.size) (m0 : PSIPMsg) (len kh kc : Nat)
    (hdrs cts : Option Unit) (flags flags' : Nat) (hfit : pre.size + (t ++ s).size ≤ 65535) {o1 : Nat} {m1 : PSIPMsg}
    (hr : parseSIPMsg t o (m0.init len (hdrs.map fun _ => Array.replicate kh {}) (cts.map fun _ => Array.replicate kc {}))
      flags = (o1, Err.moreBytes, m1)) :
    smResM pre.size (parseSIPMsg (pre ++ (t ++ s)) (pre.size + o1) (shMsg pre.size m1) flags')
      (parseSIPMsg (t ++ s) o1 m1 flags') := by
  have h1 := (parseSIPMsg_shift #[] t o _ flags (by rw [Array.size_append] at hfit; simp; omega)
    (MsgAll_init t o ho m0 len kh kc hdrs cts)).2
  rw [hr] at h1
  exact (parseSIPMsg_shift pre (t ++ s) o1 m1 flags' hfit (h1 rfl s)).1

/-- [C11] what a caller reads from the moved message: the same verdict-independent numbers and flags -/
theorem shMsg_scalars (k : Nat) (m : PSIPMsg) :
    (shMsg k m).state = m.state ∧ (shMsg k m).pnc = m.pnc ∧ (shMsg k m).rawLen = m.rawLen ∧
    (shMsg k m).hl.n = m.hl.n ∧ (shMsg k m).hl.pflags = m.hl.pflags ∧ (shMsg k m).hl.hdrs.size = m.hl.hdrs.size ∧
    (shMsg k m).body.len = m.body.len ∧ (shMsg k m).pv.clen.uiVal = m.pv.clen.uiVal ∧
    (shMsg k m).pv.cseq.cseqNo = m.pv.cseq.cseqNo ∧ (shMsg k m).pv.contacts.n = m.pv.contacts.n := by
  refine ⟨rfl, rfl, rfl, rfl, rfl, Array.size_map .., ?_, shCl_uiVal _ _, shCs_cseqNo _ _, rfl⟩
  show (shMb k m.state m.body).len = _
  unfold shMb; split <;> rfl

theorem shHls_getHdr (k : Nat) (hl : HdrLst) (ty : Nat) : (shHls k hl).getHdr ty = (hl.getHdr ty).map (shHdr k) := by
  unfold HdrLst.getHdr
  split
  · show (hl.h.map (shHdr k))[ty - 1]? = _
    rw [Array.getElem?_map]
  · rfl

/-- [C11] a successfully parsed message: the moved call returns exactly the moved message -/
theorem parseSIPMsg_shift_ok (pre t : Buf) (o : Nat) (m : PSIPMsg) (flags : Nat) (hfit : pre.size + t.size ≤ 65535)
    (hA : MsgAll t o m) {o' : Nat} {m' : PSIPMsg} (hr : parseSIPMsg t o m flags = (o', .ok, m')) :
    parseSIPMsg (pre ++ t) (pre.size + o) (shMsg pre.size m) flags = (pre.size + o', .ok, shMsg pre.size m') := by
  obtain ⟨_, _, _, _, hL⟩ := parseSIPMsg_layout t o m flags (by omega) hA.ok2 hA.safe hr
  have := parseSIPMsg_shift_exact pre t o m flags hfit hA (by rw [hr]; show m'.state ≠ .err; rw [hL.state]; decide)
  rw [this, hr]; rfl

/-! ### non-vacuity (tests, `decide +kernel` on concrete inputs; the general claims are the theorems above) -/

def smExMsg : Buf :=
  "OPTIONS sip:a@b SIP/2.0\r\nFrom: <sip:x@y>\r\nCSeq: 7 OPTIONS\r\nContact: <sip:c@d>, <sip:e@f>\r\nContent-Length: 2\r\n\r\nhi".toUTF8.data

def smExInit : PSIPMsg := ({} : PSIPMsg).init 0 none none

-- the hypotheses are satisfiable: Init objects, new headers and values
example : MsgAll smExMsg 0 smExInit := MsgAll_init smExMsg 0 (Nat.zero_le _) {} 0 0 0 none none
example : HlsAll smExMsg 0 smExInit.hl (some smExInit.pv) :=
  (MsgAll_init smExMsg 0 (Nat.zero_le _) {} 0 0 0 none none).hls (by decide)
example : HlAll smExMsg 25 ({}, some ({ contacts := { vals := Array.replicate 10 {} } } : PHdrVals)) :=
  HlAll_new smExMsg 25 (by decide +kernel) 10

/-- field-wise comparison of the main components of two message objects (tests only; the structures have no
    `DecidableEq` instance) -/
def smMsgEq (a b : PSIPMsg) : Prop :=
  a.fl = b.fl ∧ a.hl.hdrs = b.hl.hdrs ∧ a.hl.h = b.hl.h ∧ a.pv.from_ = b.pv.from_ ∧ a.pv.cseq = b.pv.cseq ∧
    slCtEq a.pv.contacts b.pv.contacts ∧ a.body = b.body ∧ a.bufLen = b.bufLen ∧ a.rawOffs = b.rawOffs ∧ a.offs = b.offs

instance (a b : PSIPMsg) : Decidable (smMsgEq a b) := by unfold smMsgEq; infer_instance

-- the whole message after 3 junk bytes: OK, offset + 3, first line / headers / values / body / bookkeeping moved by 3
example :
    (parseSIPMsg smExMsg 0 smExInit 0).2.1 = Err.ok ∧
    (parseSIPMsg ("xyz".toUTF8.data ++ smExMsg) 3 smExInit 0).1 = 3 + (parseSIPMsg smExMsg 0 smExInit 0).1 ∧
    smMsgEq (parseSIPMsg ("xyz".toUTF8.data ++ smExMsg) 3 smExInit 0).2.2 (shMsg 3 (parseSIPMsg smExMsg 0 smExInit 0).2.2) := by
  -- The first line and the headers of the unmoved result are evaluated to literals first. The derived `DecidableEq`
  -- of `Hdr` / `PFLine` transports along `a.type = b.type`, and the kernel checks such an equation between fields
  -- of two unevaluated objects by first trying to identify the objects themselves — here two different parser runs.
  have h : (parseSIPMsg smExMsg 0 smExInit 0).2.2.fl =
        { methodNo := 7, method := ⟨0, 7⟩, uri := ⟨8, 7⟩, version := ⟨16, 7⟩, state := .fin } ∧
      (parseSIPMsg smExMsg 0 smExInit 0).2.2.hl.hdrs =
        #[⟨1, ⟨25, 4⟩, ⟨31, 9⟩, .fin, false⟩, ⟨4, ⟨42, 4⟩, ⟨48, 9⟩, .fin, false⟩, ⟨8, ⟨59, 7⟩, ⟨68, 20⟩, .fin, false⟩,
          ⟨7, ⟨90, 14⟩, ⟨106, 1⟩, .fin, false⟩, { state := .fin }, {}, {}, {}, {}, {}] ∧
      (parseSIPMsg smExMsg 0 smExInit 0).2.2.hl.h =
        #[⟨1, ⟨25, 4⟩, ⟨31, 9⟩, .fin, false⟩, {}, {}, ⟨4, ⟨42, 4⟩, ⟨48, 9⟩, .fin, false⟩, {}, {},
          ⟨7, ⟨90, 14⟩, ⟨106, 1⟩, .fin, false⟩, ⟨8, ⟨59, 7⟩, ⟨68, 20⟩, .fin, false⟩, {}, {}, {}, {}, {}] := by
    decide +kernel
  simp only [smMsgEq, shMsg, shHls, h]
  decide +kernel

-- an error in a header value (From): same verdict; the stale restart offset is the only difference
example :
    (parseSIPMsg "OPTIONS sip:a@b SIP/2.0\r\nFrom: a <b<\r\n\r\n".toUTF8.data 0 smExInit 0).2.1 = Err.badChar ∧
    (parseSIPMsg ("xyz".toUTF8.data ++ "OPTIONS sip:a@b SIP/2.0\r\nFrom: a <b<\r\n\r\n".toUTF8.data) 3 smExInit 0).2.1 = Err.badChar ∧
    (parseSIPMsg ("xyz".toUTF8.data ++ "OPTIONS sip:a@b SIP/2.0\r\nFrom: a <b<\r\n\r\n".toUTF8.data) 3 smExInit 0).2.2.pv.from_ ≠
      (shMsg 3 (parseSIPMsg "OPTIONS sip:a@b SIP/2.0\r\nFrom: a <b<\r\n\r\n".toUTF8.data 0 smExInit 0).2.2).pv.from_ ∧
    (parseSIPMsg ("xyz".toUTF8.data ++ "OPTIONS sip:a@b SIP/2.0\r\nFrom: a <b<\r\n\r\n".toUTF8.data) 3 smExInit 0).2.2.pv.from_.obs =
      (shMsg 3 (parseSIPMsg "OPTIONS sip:a@b SIP/2.0\r\nFrom: a <b<\r\n\r\n".toUTF8.data 0 smExInit 0).2.2).pv.from_.obs := by
  decide +kernel

-- ParseHdrLine at offset 0 of the text (the position where "zero = not set" conventions could misfire)
example :
    (parseHdrLine "From: <sip:x@y>\r\nX".toUTF8.data 0 {} (some { contacts := { vals := Array.replicate 2 {} } })).2.1 = Err.ok ∧
    (parseHdrLine "From: <sip:x@y>\r\nX".toUTF8.data 0 {} (some { contacts := { vals := Array.replicate 2 {} } })).2.2.1.name = ⟨0, 4⟩ ∧
    (parseHdrLine ("xyz".toUTF8.data ++ "From: <sip:x@y>\r\nX".toUTF8.data) 3 {} (some { contacts := { vals := Array.replicate 2 {} } })).2.2.1 =
      shHdr 3 (parseHdrLine "From: <sip:x@y>\r\nX".toUTF8.data 0 {} (some { contacts := { vals := Array.replicate 2 {} } })).2.2.1 := by
  decide +kernel

-- a message cut inside the Contact list and resumed on the full buffer with the moved suspended object
def smExMsg3 : Buf := "OPTIONS sip:a@b SIP/2.0\r\nContact: <sip:c@d>, <sip:e@f>\r\n\r\n".toUTF8.data
def smExSusp : Nat × Err × PSIPMsg := parseSIPMsg (smExMsg3.extract 0 48) 0 smExInit 0
example :
    smExSusp.2.1 = Err.moreBytes ∧ smExSusp.2.2.state = .headers ∧ smExSusp.2.2.pv.contacts.n = 1 ∧
    (parseSIPMsg smExMsg3 smExSusp.1 smExSusp.2.2 0).2.1 = Err.ok ∧
    (parseSIPMsg ("xyz".toUTF8.data ++ smExMsg3) (3 + smExSusp.1) (shMsg 3 smExSusp.2.2) 0).1 =
      3 + (parseSIPMsg smExMsg3 smExSusp.1 smExSusp.2.2 0).1 ∧
    slCtEq (parseSIPMsg ("xyz".toUTF8.data ++ smExMsg3) (3 + smExSusp.1) (shMsg 3 smExSusp.2.2) 0).2.2.pv.contacts
      (shMsg 3 (parseSIPMsg smExMsg3 smExSusp.1 smExSusp.2.2 0).2.2).pv.contacts := by
  decide +kernel

end Sipsp

open Sipsp in
/-- [C06] pipelined messages: when the first message fills `b1` exactly (`o1 = b1.size`), parsing the buffer `b1 ++ b2`
    at offset `o1` from an Init object gives the result of parsing `b2` alone at offset 0 moved by `b1.size` (`smResM`):
    the same verdict, the returned offset + `b1.size`, and every field of the message object (first line, headers,
    values, body, `Buf` / `RawMsg` bookkeeping) moved by exactly `b1.size` — numbers, counts and flags unchanged. The
    hypothesis that ParseSIPMsg says OK on `b1` describes the situation; the proof does not use it. (`len` is what Init
    records as `len(msg.Buf)`; the parser never reads it.) -/
theorem pipeline_second_message (b1 b2 : Buf) (flags : Nat) (m0 : PSIPMsg) (len kh kc : Nat) (hdrs cts : Option Unit)
    (hfit : b1.size + b2.size ≤ 65535) {o1 : Nat} {m1 : PSIPMsg}
    (_h1 : parseSIPMsg b1 0 (m0.init len (hdrs.map fun _ => Array.replicate kh {}) (cts.map fun _ => Array.replicate kc {}))
      flags = (o1, Err.ok, m1))
    (ho1 : o1 = b1.size) :
    smResM o1
      (parseSIPMsg (b1 ++ b2) o1
        (m0.init len (hdrs.map fun _ => Array.replicate kh {}) (cts.map fun _ => Array.replicate kc {})) flags)
      (parseSIPMsg b2 0
        (m0.init len (hdrs.map fun _ => Array.replicate kh {}) (cts.map fun _ => Array.replicate kc {})) flags) := by
  subst ho1
  exact parseSIPMsg_shift_init b1 b2 0 (Nat.zero_le _) m0 len kh kc hdrs cts flags hfit

open Sipsp in
/-- [C06] pipelined messages: when the second message parses successfully on its own, the pipelined call returns exactly
    the moved message: OK at `b1.size + o2` with `shMsg b1.size m2` -/
theorem pipeline_second_message_ok (b1 b2 : Buf) (flags : Nat) (m0 : PSIPMsg) (len kh kc : Nat) (hdrs cts : Option Unit)
    (hfit : b1.size + b2.size ≤ 65535) {o2 : Nat} {m2 : PSIPMsg}
    (h2 : parseSIPMsg b2 0 (m0.init len (hdrs.map fun _ => Array.replicate kh {}) (cts.map fun _ => Array.replicate kc {}))
      flags = (o2, Err.ok, m2)) :
    parseSIPMsg (b1 ++ b2) b1.size
        (m0.init len (hdrs.map fun _ => Array.replicate kh {}) (cts.map fun _ => Array.replicate kc {})) flags =
      (b1.size + o2, Err.ok, shMsg b1.size m2) := by
  have := parseSIPMsg_shift_ok b1 b2 0 _ flags hfit (MsgAll_init b2 0 (Nat.zero_le _) m0 len kh kc hdrs cts) h2
  rw [shMsg_init] at this
  exact this

namespace Sipsp

/-- the buffer holding the messages `l` one after the other -/
def smCat (l : List Buf) : Buf := l.foldl (· ++ ·) #[]

theorem smCat_acc (acc : Buf) (l : List Buf) : l.foldl (· ++ ·) acc = acc ++ smCat l := by
  unfold smCat
  induction l generalizing acc with
  | nil => simp
  | cons x xs ih =>
    simp only [List.foldl_cons]
    rw [ih (acc ++ x), ih (#[] ++ x)]
    simp [Array.append_assoc]

theorem smCat_append (l1 l2 : List Buf) : smCat (l1 ++ l2) = smCat l1 ++ smCat l2 := by
  show (l1 ++ l2).foldl (· ++ ·) #[] = _
  rw [List.foldl_append, smCat_acc]
  rfl

end Sipsp

open Sipsp in
/-- [C06] any message of a pipeline: in the buffer that holds the messages `l` one after the other, parsing at the
    offset where message `i` starts (from an Init object) gives the result of parsing the rest of the pipeline
    (messages `i, i+1, …` in a buffer of their own, at offset 0) moved by the total size of the messages before it -/
theorem pipeline_nth_message (l : List Buf) (i : Nat) (flags : Nat) (m0 : PSIPMsg) (len kh kc : Nat)
    (hdrs cts : Option Unit) (hfit : (smCat l).size ≤ 65535) :
    smResM (smCat (l.take i)).size
      (parseSIPMsg (smCat l) (smCat (l.take i)).size
        (m0.init len (hdrs.map fun _ => Array.replicate kh {}) (cts.map fun _ => Array.replicate kc {})) flags)
      (parseSIPMsg (smCat (l.drop i)) 0
        (m0.init len (hdrs.map fun _ => Array.replicate kh {}) (cts.map fun _ => Array.replicate kc {})) flags) := by
  have hl : smCat l = smCat (l.take i) ++ smCat (l.drop i) := by rw [← smCat_append, List.take_append_drop]
  rw [hl] at hfit ⊢
  rw [Array.size_append] at hfit
  exact parseSIPMsg_shift_init (smCat (l.take i)) (smCat (l.drop i)) 0 (Nat.zero_le _) m0 len kh kc hdrs cts flags hfit
