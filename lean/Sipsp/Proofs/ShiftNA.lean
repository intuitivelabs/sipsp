/-
  Sipsp.Proofs.ShiftNA — position independence (C11) of ParseNameAddrPVal (From / To / Contact / PAI values), in the
  setting of Sipsp.Proofs.Shift. The translation `shNa k` moves URI, value and the saved restart offset in exactly the
  automaton states in which they are set; display name, tag, parameter list and the positions of the parameter being
  parsed follow the Go convention "zero value = not set" (`shO`, `shP`, `shZ`): 0 stays 0, anything else is moved.
  That is unambiguous because a set one is never 0 (`NaPos`: outside the initial state the current position is ≥ 1,
  so the `Params.Offs == 0` sentinel of the Go code is harmless also for texts that start at offset 0). Numbers, flags
  and the state are unchanged. Every transition of the loop body has its moved transition (`NaTr.shift`); finishing
  steps are compared up to the local `s`, a dead value that the call discards.

  The result (`shResNa`) is the moved result; only after an ERROR verdict the restart offset of the returned object is
  the stale one of the object passed in (Go never wrote it) and is moved as in that object.
  NOT true: the plain form `= shRes k (shNa k) (…)` is false after error verdicts for any translation that is a
  function of the returned object alone (test below: `a <b<` → BadChar in state `uri` with the never-written restart
  offset 0 in both runs, while the same state after `a <b` + MoreBytes carries a real saved position); this concerns
  only that internal, stale field.
-/
import Sipsp.Proofs.Shift
import Sipsp.Proofs.NaRun
import Sipsp.Proofs.NameAddrPost
import Sipsp.Proofs.NaTrans

namespace Sipsp

/-- with the state known (`hst`), decide the tests on the state (`==`, `!=`, `||`) in the hypothesis `hs`; `st_goal` does
    the same in the goal -/
macro "st_hs" hst:ident hs:ident : tactic =>
  `(tactic| simp only [$hst:ident, Bool.or_eq_true, beq_iff_eq, bne_iff_ne, reduceCtorEq, ne_eq, not_true_eq_false, not_false_eq_true,
      Bool.or_false, Bool.or_true, Bool.false_or, Bool.true_or, or_false, or_true, false_or, true_or, decide_true,
      decide_false, ↓reduceIte] at $hs:ident)

macro "st_goal" hst:ident : tactic =>
  `(tactic| simp only [$hst:ident, Bool.or_eq_true, beq_iff_eq, bne_iff_ne, reduceCtorEq, ne_eq, not_true_eq_false, not_false_eq_true,
      Bool.or_false, Bool.or_true, Bool.false_or, Bool.true_or, or_false, or_true, false_or, true_or, decide_true,
      decide_false, ↓reduceIte])


variable {σ : Type}

/-- normalise the object of a finishing step -/
def stepN (nz : σ → σ) : Step σ → Step σ
  | .cont i st => .cont i st
  | .done o e st => .done o e (nz st)

def resN (nz : σ → σ) (r : Nat × Err × σ) : Nat × Err × σ := (r.1, r.2.1, nz r.2.2)

/-- shifted image of a step: `sh` on continuing states, `shD e` on a state returned with verdict `e` -/
def shStepD (k : Nat) (sh : σ → σ) (shD : Err → σ → σ) : Step σ → Step σ
  | .cont i st => .cont (k + i) (sh st)
  | .done o e st => .done (k + o) e (shD e st)

def shResD (k : Nat) (shD : Err → σ → σ) (r : Nat × Err × σ) : Nat × Err × σ := (k + r.1, r.2.1, shD r.2.1 r.2.2)

theorem smStepRel_of_stepN {k : Nat} {sh : σ → σ} {shD : Err → σ → σ} {nz : σ → σ} {X Y : Step σ}
    (h : stepN nz X = stepN nz (shStepD k sh shD Y)) : smStepRel k sh (fun e s1 s => nz s1 = nz (shD e s)) X Y := by
  cases X <;> cases Y <;> simp only [stepN, shStepD, Step.cont.injEq, Step.done.injEq, reduceCtorEq] at h <;> exact h

theorem smResRel_iff_resN {k : Nat} {shD : Err → σ → σ} {nz : σ → σ} {r1 r : Nat × Err × σ} :
    smResRel k (fun e s1 s => nz s1 = nz (shD e s)) r1 r ↔ resN nz r1 = resN nz (shResD k shD r) := by
  simp only [smResRel, resN, shResD, Prod.mk.injEq]

/-- a position where 0 means "not set" -/
def shZ (k x : Nat) : Nat := if x = 0 then 0 else k + x

/-- a field whose zero value means "not set" -/
def shO (k : Nat) (f : PField) : PField := if f.offs = 0 ∧ f.len = 0 then f else shF k f

/-- the parameter list: `Offs == 0` means "not set" (the test the Go code itself uses) -/
def shP (k : Nat) (f : PField) : PField := if f.offs = 0 then f else shF k f

theorem shZ_zero (k : Nat) : shZ k 0 = 0 := rfl
theorem shZ_pos (k x : Nat) (h : 1 ≤ x) : shZ k x = k + x := by unfold shZ; rw [if_neg (by omega)]
theorem shZ_pos' (k x : Nat) (h : x ≠ 0) : shZ k x = k + x := by unfold shZ; rw [if_neg h]

theorem shZ_lt (k a b : Nat) : (shZ k a < shZ k b) ↔ a < b := by
  unfold shZ; split <;> split <;> omega

theorem shZ_eq (k a b : Nat) : (shZ k a = shZ k b) ↔ a = b := by
  unfold shZ; split <;> split <;> omega

theorem trunc16_shZ (k x : Nat) (h : k + x ≤ 65535) : trunc16 (shZ k x) = shZ k (trunc16 x) := by
  unfold shZ trunc16
  by_cases hx : x = 0
  · subst hx; rfl
  · rw [if_neg hx, Nat.mod_eq_of_lt (a := x) (by omega), if_neg hx, Nat.mod_eq_of_lt (by omega)]

theorem shO_zero (k : Nat) : shO k {} = {} := rfl
theorem shP_zero (k : Nat) : shP k {} = {} := rfl

theorem shO_set (k s e : Nat) (h1 : s < e) (h2 : k + e ≤ 65535) :
    PField.set (k + s) (k + e) = shO k (PField.set s e) := by
  rw [set_shift k s e (by omega)]
  unfold shO
  rw [if_neg]
  intro hh
  have := hh.2
  unfold PField.set trunc16 at this
  simp only at this
  rw [Nat.mod_eq_of_lt (by omega)] at this
  omega

theorem shO_set' (k s e : Nat) (h1 : s < e) (h2 : k + e ≤ 65535) :
    shO k (PField.set s e) = shF k (PField.set s e) := by
  rw [← shO_set k s e h1 h2, set_shift k s e (by omega)]

theorem slice?_shift (pre t : Buf) (a b : Nat) : slice? (pre ++ t) (pre.size + a) (pre.size + b) = slice? t a b := by
  unfold slice?
  by_cases h : a ≤ b ∧ b ≤ t.size
  · rw [if_pos h, if_pos ⟨by omega, by rw [Array.size_append]; omega⟩, extract_shift]
  · rw [if_neg h, if_neg (by rw [Array.size_append]; omega)]

/-- states in which the local `s` (and so the saved restart offset) holds a position -/
def sPos : FBState → Bool
  | .name | .nameOrURI | .nameOrURIEnd | .quoted | .uri | .uriFound | .star
  | .newPossibleParam | .possibleParamName | .possibleParamNameEnd | .newPossibleVal | .possibleVal
  | .possibleValEnd | .quotedPossibleVal => true
  | _ => false

/-- states in which the URI field is set -/
def uriSet : FBState → Bool
  | .nameOrURIEnd | .uriFound | .newPossibleParam | .possibleParamName | .possibleParamNameEnd
  | .newParam | .paramName | .paramNameEnd | .newParamVal | .paramVal | .paramValEnd
  | .newPossibleVal | .possibleVal | .possibleValEnd | .quotedVal | .quotedPossibleVal | .fin => true
  | _ => false

/-- states in which the value field is set: all but the initial one (and the ten unused tag states) -/
def vSet : FBState → Bool
  | .init | .tagT | .tagA | .tagG | .tagEq | .tagVal | .pTagT | .pTagA | .pTagG | .pTagEq | .pTagVal => false
  | _ => true

/-- the restart offset (`s` / `soffs`): moved in the states in which it holds a position (`sPos`) -/
def shS (k : Nat) (st : FBState) (x : Nat) : Nat := if sPos st then k + x else x

/-- the part of the translation common to an object between calls and inside the loop -/
def shB (k : Nat) (pf : PFromBody) : PFromBody :=
  { pf with name := shO k pf.name, uri := if uriSet pf.state then shF k pf.uri else pf.uri, tag := shO k pf.tag,
            params := shP k pf.params, v := if vSet pf.state then shF k pf.v else pf.v,
            errOffs := shZ k pf.errOffs, pstart := shZ k pf.pstart, pend := shZ k pf.pend,
            vstart := shZ k pf.vstart, vend := shZ k pf.vend }

/-- **the name-addr object moved by `k`** (as seen by callers: the local `s` is 0, the restart offset is saved) -/
def shNa (k : Nat) (pf : PFromBody) : PFromBody := { shB k pf with soffs := shS k pf.state pf.soffs }

/-- the object inside the loop (the restart offset lives in the local `s`) -/
def shL (k : Nat) (pf : PFromBody) : PFromBody := { shB k pf with s := shS k pf.state pf.s }

/-- the object returned by a finishing step: after `moreBytes:` the restart offset has been saved -/
def shDn (k : Nat) (e : Err) (pf : PFromBody) : PFromBody :=
  if e = .moreBytes then { shL k pf with soffs := shS k pf.state pf.soffs } else shL k pf

/-- forget the local `s` (dead once a step has finished: the call discards it) -/
def clrS (pf : PFromBody) : PFromBody := { pf with s := 0 }

theorem shNa_new (k : Nat) : shNa k {} = {} := rfl
theorem shL_state (k : Nat) (pf : PFromBody) : (shL k pf).state = pf.state := rfl
theorem shL_params (k : Nat) (pf : PFromBody) : (shL k pf).params = shP k pf.params := rfl
theorem shL_pstart (k : Nat) (pf : PFromBody) : (shL k pf).pstart = shZ k pf.pstart := rfl
theorem shL_pend (k : Nat) (pf : PFromBody) : (shL k pf).pend = shZ k pf.pend := rfl
theorem shL_vstart (k : Nat) (pf : PFromBody) : (shL k pf).vstart = shZ k pf.vstart := rfl
theorem shL_vend (k : Nat) (pf : PFromBody) : (shL k pf).vend = shZ k pf.vend := rfl
theorem shNa_state (k : Nat) (pf : PFromBody) : (shNa k pf).state = pf.state := rfl

theorem shP_extend (k : Nat) (f : PField) (e : Nat) (h : k + e ≤ 65535) (h0 : f.offs ≠ 0) :
    (shP k f).extend (k + e) = shP k (f.extend e) := by
  unfold shP
  rw [if_neg h0, extend_shift k f e h, PField.extend_offs, if_neg h0]

theorem shP_extendPanics (k : Nat) (f : PField) (e : Nat) : (shP k f).extendPanics (k + e) = f.extendPanics e := by
  unfold shP
  split
  · rename_i h0
    unfold PField.extendPanics
    rw [h0]
    exact decide_eq_decide.mpr ⟨fun h => by omega, fun h => by omega⟩
  · exact extendPanics_shift k f e

theorem shP_offs_eq_zero (k : Nat) (f : PField) : ((shP k f).offs == 0) = (f.offs == 0) := by
  unfold shP
  split
  · rfl
  · rename_i h0
    have : (shF k f).offs = f.offs + k := rfl
    rw [this]
    have h1 : (f.offs == 0) = false := by simpa using h0
    rw [h1]
    simp; omega

/-- unfold the translation and the field updates, normalise positions to `k + _`, move the updates -/
macro "na_simp" hst:ident : tactic =>
  `(tactic| simp (disch := omega) only [shL, shB, shS, shDn, $hst:ident, sPos, uriSet, vSet, PFromBody.setURI,
      PFromBody.setName, PFromBody.setV, PFromBody.extV, PFromBody.extParams, PFromBody.resetUPT, PFromBody.saveS,
      Nat.add_assoc, set_shift, setPanics_shift, extend_shift, extendPanics_shift, shP_extendPanics, shP_extend,
      shO_zero, shP_zero, shO_set', shZ_pos, ↓reduceIte, Bool.false_eq_true, reduceCtorEq])

theorem setQ_shL (k : Nat) (pf : PFromBody) (val : List UInt8) (h1 : k + pf.vstart ≤ 65535) (h2 : k + pf.vend ≤ 65535) :
    setQ (shL k pf) val = shL k (setQ pf val) := by
  rcases setQ_cases val with ⟨e, h⟩ | ⟨x, h⟩ | h <;> rw [h, h]
  · rw [shL_vstart, trunc16_shZ _ _ h1]; rfl
  · rfl
  · rw [shL_vend, trunc16_shZ _ _ h2]; rfl

theorem setExpires_shL (k : Nat) (pf : PFromBody) (val : List UInt8) :
    setExpires (shL k pf) val = shL k (setExpires pf val) := by
  unfold setExpires
  rcases pUInt64Val val with ⟨a, b⟩
  rfl

theorem clearPV_shL (k : Nat) (pf : PFromBody) : (shL k pf).clearPV = shL k pf.clearPV := rfl

theorem sfpKind_shift (pre t : Buf) (ps pe vs ve : Nat) (hp : ps < pe → ps ≠ 0) (hv : vs < ve → vs ≠ 0) :
    sfpKind (pre ++ t) (shZ pre.size ps) (shZ pre.size pe) (shZ pre.size vs) (shZ pre.size ve) =
      sfpKind t ps pe vs ve := by
  have c3 : (shZ pre.size vs == shZ pre.size ve) = (vs == ve) := by
    rw [Bool.eq_iff_iff]; simp only [beq_iff_eq]; exact shZ_eq _ _ _
  unfold sfpKind
  rw [decide_eq_decide.mpr (shZ_lt _ ps pe), decide_eq_decide.mpr (shZ_lt _ vs ve), c3]
  by_cases d1 : ps < pe
  · rw [shZ_pos' _ _ (hp d1), shZ_pos _ pe (by omega), slice?_shift]
    by_cases d2 : vs < ve
    · rw [shZ_pos' _ _ (hv d2), shZ_pos _ ve (by omega), slice?_shift]
    · simp only [d2, decide_false, Bool.and_false, Bool.false_eq_true, ↓reduceIte]
  · simp only [d1, decide_false, Bool.false_and, Bool.false_eq_true, ↓reduceIte]

theorem setFromParamVal_shift (pre t : Buf) (pf : PFromBody) (hfit : pre.size + t.size ≤ 65535)
    (hp : pf.pstart < pf.pend → pf.pstart ≠ 0) (hv : pf.vstart < pf.vend → pf.vstart ≠ 0)
    (hb1 : pf.vstart ≤ t.size) (hb2 : pf.vend ≤ t.size) :
    setFromParamVal (pre ++ t) (shL pre.size pf) = shL pre.size (setFromParamVal t pf) := by
  rw [setFromParamVal_do, setFromParamVal_do, shL_pstart, shL_pend, shL_vstart, shL_vend,
    sfpKind_shift pre t _ _ _ _ hp hv]
  -- the three kinds that use the value have one (`sfpKind_lt`), so its positions are set and moved
  have hval : pf.vstart < pf.vend → ((pre ++ t).extract (shZ pre.size pf.vstart) (shZ pre.size pf.vend)).toList =
      (t.extract pf.vstart pf.vend).toList := fun h => by
    rw [shZ_pos' _ _ (hv h), shZ_pos _ pf.vend (by omega), extract_shift]
  cases hk : sfpKind t pf.pstart pf.pend pf.vstart pf.vend <;> simp only [sfpDo]
  case tag =>
    have hl := (sfpKind_lt (Or.inl hk)).2
    simp only [PFromBody.clearPV, shL, shB, shZ_zero]
    rw [shZ_pos' _ _ (hv hl), shZ_pos _ pf.vend (by omega), shO_set _ _ _ hl (by omega)]
    rfl
  case expires => rw [hval (sfpKind_lt (Or.inr (Or.inl hk))).2, setExpires_shL]; rfl
  case q => rw [hval (sfpKind_lt (Or.inr (Or.inr hk))).2, setQ_shL _ _ _ (by omega) (by omega)]; rfl
  case bad =>
    simp only [PFromBody.clearPV, shL, shB, shZ_zero, trunc16_shZ _ _ (show pre.size + pf.vstart ≤ 65535 by omega)]
    rfl
  all_goals rfl

theorem PFromBody.extV_state (pf : PFromBody) (e : Nat) : (pf.extV e).state = pf.state := by
  unfold PFromBody.extV; rfl
theorem PFromBody.extParams_state (pf : PFromBody) (e : Nat) : (pf.extParams e).state = pf.state := by
  unfold PFromBody.extParams; rfl

-- `extV` / `extParams` are unfolded before `shL`: the conditions `uriSet (pf.extV e).state` of `shB` would keep
-- `pf.extV e` in their `Decidable` instances, and the kernel would compare it with `pf` field by field
theorem extV_shL (k : Nat) (pf : PFromBody) (e : Nat) (hv : vSet pf.state = true) (h1 : k + e ≤ 65535) :
    (shL k pf).extV (k + e) = shL k (pf.extV e) := by
  unfold PFromBody.extV
  simp (disch := omega) only [shL, shB, hv, ↓reduceIte, extend_shift, extendPanics_shift]

theorem extParams_shL (k : Nat) (pf : PFromBody) (e : Nat) (h0 : pf.params.offs ≠ 0) (h1 : k + e ≤ 65535) :
    (shL k pf).extParams (k + e) = shL k (pf.extParams e) := by
  unfold PFromBody.extParams
  simp (disch := first | omega | assumption) only [shL, shB, shP_extend, shP_extendPanics]

theorem finish_shL (k h : Nat) (p : PFromBody) (hu : uriSet p.state = true) (hv : vSet p.state = true) :
    clrS { shL k p with state := .fin, soffs := 0, type := h } = clrS (shL k { p with state := .fin, soffs := 0, type := h }) := by
  simp only [clrS, shL, shB, hu, hv, ↓reduceIte]
  simp only [uriSet, vSet, ↓reduceIte]

/-- a stored parameter followed by the two range updates of `endOfHdr` -/
theorem sfpExt_shift (pre t : Buf) (pf : PFromBody) (e : Nat) (hfit : pre.size + t.size ≤ 65535) (he : e ≤ t.size)
    (hvs : vSet pf.state = true) (hp0 : pf.params.offs ≠ 0)
    (hp : pf.pstart < pf.pend → pf.pstart ≠ 0) (hv : pf.vstart < pf.vend → pf.vstart ≠ 0)
    (hb1 : pf.vstart ≤ t.size) (hb2 : pf.vend ≤ t.size) :
    ((setFromParamVal (pre ++ t) (shL pre.size pf)).extParams (pre.size + e)).extV (pre.size + e) =
      shL pre.size (((setFromParamVal t pf).extParams e).extV e) := by
  rw [setFromParamVal_shift pre t pf hfit hp hv hb1 hb2,
    extParams_shL _ _ _ (by rw [setFromParamVal_params]; exact hp0) (by omega)]
  exact extV_shL _ _ _ (by rw [PFromBody.extParams_state, setFromParamVal_state]; exact hvs) (by omega)

/-- the three conditional updates of `naEOHParamName`, one at a time -/
def eohP1 (pf : PFromBody) (i : Nat) : PFromBody :=
  if pf.state == .paramName || pf.state == .possibleParamName then { pf with pend := i } else pf
def eohP2 (b : Buf) (pf : PFromBody) : PFromBody := if pf.pstart < pf.pend then setFromParamVal b pf else pf
def eohP3 (pf : PFromBody) (i : Nat) : PFromBody := if pf.params.offs != 0 then pf.extParams i else pf

theorem naEOHParamName_eq (b : Buf) (pf : PFromBody) (i : Nat) :
    naEOHParamName b pf i = (eohP3 (eohP2 b (eohP1 pf i)) i).extV i := rfl

theorem eohP1_shift (k : Nat) (pf : PFromBody) (e : Nat) (he1 : 1 ≤ e) : eohP1 (shL k pf) (k + e) = shL k (eohP1 pf e) := by
  unfold eohP1
  rw [shL_state]
  split
  · simp only [shL, shB, shZ_pos _ _ he1]
  · rfl

theorem eohP1_props (pf : PFromBody) (e : Nat) :
    (eohP1 pf e).state = pf.state ∧ (eohP1 pf e).vstart = pf.vstart ∧ (eohP1 pf e).vend = pf.vend ∧
    (eohP1 pf e).pstart = pf.pstart ∧
    ((eohP1 pf e).pend = pf.pend ∨ (pf.state = .paramName ∨ pf.state = .possibleParamName)) := by
  unfold eohP1
  split
  · rename_i hc
    refine ⟨rfl, rfl, rfl, rfl, Or.inr ?_⟩
    simpa using hc
  · exact ⟨rfl, rfl, rfl, rfl, Or.inl rfl⟩

theorem eohP2_shift (pre t : Buf) (pf : PFromBody) (hfit : pre.size + t.size ≤ 65535)
    (hp : pf.pstart < pf.pend → pf.pstart ≠ 0) (hv : pf.vstart < pf.vend → pf.vstart ≠ 0)
    (hb1 : pf.vstart ≤ t.size) (hb2 : pf.vend ≤ t.size) :
    eohP2 (pre ++ t) (shL pre.size pf) = shL pre.size (eohP2 t pf) := by
  unfold eohP2
  rw [shL_pstart, shL_pend]
  by_cases hc : pf.pstart < pf.pend
  · rw [if_pos hc, if_pos ((shZ_lt _ _ _).mpr hc)]
    exact setFromParamVal_shift pre t pf hfit hp hv hb1 hb2
  · rw [if_neg hc, if_neg (fun hh => hc ((shZ_lt _ _ _).mp hh))]

theorem eohP2_state (b : Buf) (pf : PFromBody) : (eohP2 b pf).state = pf.state := by
  unfold eohP2
  split
  · exact setFromParamVal_state b pf
  · rfl

theorem eohP3_shift (k : Nat) (pf : PFromBody) (e : Nat) (h1 : k + e ≤ 65535) :
    eohP3 (shL k pf) (k + e) = shL k (eohP3 pf e) := by
  unfold eohP3
  have c0 : ((shP k pf.params).offs != 0) = (pf.params.offs != 0) := by
    unfold bne; rw [shP_offs_eq_zero]
  rw [shL_params, c0]
  by_cases hc : (pf.params.offs != 0) = true
  · rw [if_pos hc, if_pos hc]
    exact extParams_shL _ _ _ (by simpa using hc) h1
  · rw [if_neg hc, if_neg hc]

theorem eohP3_state (pf : PFromBody) (e : Nat) : (eohP3 pf e).state = pf.state := by
  unfold eohP3
  split
  · exact PFromBody.extParams_state pf e
  · rfl

theorem naEOHParamName_state (b : Buf) (pf : PFromBody) (e : Nat) : (naEOHParamName b pf e).state = pf.state := by
  rw [naEOHParamName_eq, PFromBody.extV_state, eohP3_state, eohP2_state, (eohP1_props _ _).1]

theorem naEOHVal_state (b : Buf) (pf : PFromBody) (e : Nat) : (naEOHVal b pf e).state = pf.state := by
  unfold naEOHVal
  rw [PFromBody.extV_state, PFromBody.extParams_state, setFromParamVal_state]

theorem naEOHParamName_shift (pre t : Buf) (pf : PFromBody) (e : Nat) (hfit : pre.size + t.size ≤ 65535)
    (he1 : 1 ≤ e) (he : e ≤ t.size) (hvs : vSet pf.state = true)
    (hA : (pf.state = .paramName ∨ pf.state = .possibleParamName) → pf.pstart ≠ 0)
    (g1 : pf.pend ≠ 0 → pf.pstart ≠ 0) (g2 : pf.vend ≠ 0 → pf.vstart ≠ 0)
    (hb1 : pf.vstart ≤ t.size) (hb2 : pf.vend ≤ t.size) :
    naEOHParamName (pre ++ t) (shL pre.size pf) (pre.size + e) = shL pre.size (naEOHParamName t pf e) := by
  rw [naEOHParamName_eq, naEOHParamName_eq, eohP1_shift _ _ _ he1]
  obtain ⟨q1, q4, q5, q6, q7⟩ := eohP1_props pf e
  rw [eohP2_shift pre t _ hfit
    (fun hh => by
      rw [q6]
      rcases q7 with q7 | q7
      · rw [q6, q7] at hh; exact g1 (by omega)
      · exact hA q7)
    (fun hh => by rw [q4]; rw [q4, q5] at hh; exact g2 (by omega))
    (by rw [q4]; exact hb1) (by rw [q5]; exact hb2)]
  rw [eohP3_shift _ _ _ (by omega)]
  exact extV_shL _ _ _ (by rw [eohP3_state, eohP2_state, q1]; exact hvs) (by omega)

theorem naEOHVal_shift (pre t : Buf) (pf : PFromBody) (e : Nat) (hfit : pre.size + t.size ≤ 65535)
    (he1 : 1 ≤ e) (he : e ≤ t.size) (hvs : vSet pf.state = true)
    (hp0 : pf.params.offs ≠ 0) (g1 : pf.pend ≠ 0 → pf.pstart ≠ 0) (g2 : pf.vstart ≠ 0) (hb1 : pf.vstart ≤ t.size) :
    naEOHVal (pre ++ t) (shL pre.size pf) (pre.size + e) = shL pre.size (naEOHVal t pf e) := by
  unfold naEOHVal
  have a1 : ({ shL pre.size pf with vend := pre.size + e } : PFromBody) = shL pre.size { pf with vend := e } := by
    simp only [shL, shB, shZ_pos _ _ he1]
  rw [a1]
  exact sfpExt_shift pre t { pf with vend := e } e hfit he hvs hp0
    (fun hh => g1 (by show pf.pend ≠ 0; have h' : pf.pstart < pf.pend := hh; omega)) (fun _ => g2) hb1 he

theorem shDn_ne (k : Nat) (e : Err) (pf : PFromBody) (he : e ≠ .moreBytes) : shDn k e pf = shL k pf := by
  unfold shDn; rw [if_neg he]

theorem fin_res (k h n crl : Nat) (r : Err) (hr : r ≠ .moreBytes) (X Y : PFromBody)
    (hXY : clrS { X with state := .fin, soffs := 0, type := h } = clrS (shL k { Y with state := .fin, soffs := 0, type := h })) :
    resN clrS (naFinish h X (k + n) crl r) = resN clrS (shResD k (shDn k) (naFinish h Y n crl r)) := by
  unfold naFinish resN shResD
  simp only
  rw [shDn_ne _ _ _ hr, hXY, Nat.add_assoc]

theorem fin_res' (k h n crl : Nat) (r : Err) (hr : r ≠ .moreBytes) (X Y : PFromBody) (hXY : X = shL k Y)
    (hu : uriSet Y.state = true) (hv : vSet Y.state = true) :
    resN clrS (naFinish h X (k + n) crl r) = resN clrS (shResD k (shDn k) (naFinish h Y n crl r)) := by
  subst hXY
  exact fin_res k h n crl r hr _ _ (finish_shL k h Y hu hv)

/-- set positions are not zero: the part of `NaPos` that the end-of-header code needs -/
structure NaNz (pf : PFromBody) : Prop where
  hA : (pf.state = .paramName ∨ pf.state = .possibleParamName) → pf.pstart ≠ 0
  g1 : pf.pend ≠ 0 → pf.pstart ≠ 0
  g2 : pf.vend ≠ 0 → pf.vstart ≠ 0

theorem naEOH_shift (h : Nat) (pre t : Buf) (pf : PFromBody) (i e n crl : Nat) (r : Err) (hr : r ≠ .moreBytes)
    (hfit : pre.size + t.size ≤ 65535) (hI : NaCore t i pf) (he : e ≤ i) (he1 : pf.state ≠ .init → 1 ≤ e)
    (hs : pf.state = .nameOrURI → pf.s ≤ e)
    (hL : NaNz pf)
    (hV : (pf.state = .newParamVal ∨ pf.state = .newPossibleVal ∨ pf.state = .paramVal ∨ pf.state = .possibleVal ∨
           pf.state = .paramValEnd ∨ pf.state = .possibleValEnd) → pf.params.offs ≠ 0 ∧ pf.vstart ≠ 0)
    (hb1 : pf.vstart ≤ t.size) :
    resN clrS (naEOH h (pre ++ t) (shL pre.size pf) (pre.size + e) (pre.size + n) crl r) =
      resN clrS (shResD pre.size (shDn pre.size) (naEOH h t pf e n crl r)) := by
  have het : e ≤ t.size := Nat.le_trans he hI.hi
  have hvt : pf.vend ≤ t.size := Nat.le_trans hI.vend hI.hi
  unfold naEOH
  rw [shL_state]
  cases hst : pf.state <;> simp only
  case uriFound | nameOrURIEnd =>
    all_goals exact fin_res' _ _ _ _ _ hr _ _ rfl (by rw [hst]; rfl) (by rw [hst]; rfl)
  case nameOrURI =>
    have := hs hst
    have := he1 (by rw [hst]; decide)
    refine fin_res _ _ _ _ _ hr _ _ ?_
    simp only [clrS]
    na_simp hst
  case star =>
    refine fin_res _ _ _ _ _ hr _ _ ?_
    simp only [clrS]
    na_simp hst
  case newParam | paramNameEnd | newPossibleParam | possibleParamNameEnd | paramName | possibleParamName =>
    all_goals
      have h1 := he1 (by rw [hst]; decide)
      refine fin_res' _ _ _ _ _ hr _ _ (naEOHParamName_shift pre t pf e hfit h1 het (by rw [hst]; rfl)
        hL.hA hL.g1 hL.g2 hb1 hvt) ?_ ?_
      all_goals rw [naEOHParamName_state, hst]; rfl
  case paramValEnd | possibleValEnd =>
    all_goals
      have hV' := hV (by simp [hst])
      refine fin_res' _ _ _ _ _ hr _ _ (sfpExt_shift pre t pf e hfit het (by rw [hst]; rfl) hV'.1
        (fun hh => hL.g1 (Nat.ne_of_gt (Nat.zero_lt_of_lt hh))) (fun _ => hV'.2) hb1 hvt) ?_ ?_
      all_goals rw [PFromBody.extV_state, PFromBody.extParams_state, setFromParamVal_state, hst]; rfl
  case newParamVal | newPossibleVal =>
    all_goals
      have h1 := he1 (by rw [hst]; decide)
      have hV' := hV (by simp [hst])
      refine fin_res' _ _ _ _ _ hr _ _ (Eq.trans ?_ (naEOHVal_shift pre t { pf with state := _, vstart := e } e hfit h1 het
        rfl hV'.1 hL.g1 (Nat.ne_of_gt h1) het)) ?_ ?_
      · congr 1
        simp only [shL, shB, shZ_pos _ _ h1, hst]
      all_goals rw [naEOHVal_state]; rfl
  case paramVal | possibleVal =>
    all_goals
      have h1 := he1 (by rw [hst]; decide)
      have hV' := hV (by simp [hst])
      refine fin_res' _ _ _ _ _ hr _ _ (naEOHVal_shift pre t pf e hfit h1 het (by rw [hst]; rfl) hV'.1
        hL.g1 hV'.2 hb1) ?_ ?_
      all_goals rw [naEOHVal_state, hst]; rfl
  all_goals
    simp only [resN, shResD]
    rw [shDn_ne _ _ _ (by decide), Nat.add_assoc]

/-- states in which a parameter name has been started -/
def pStarted : FBState → Bool
  | .paramName | .possibleParamName | .paramNameEnd | .possibleParamNameEnd | .newParamVal | .newPossibleVal
  | .paramVal | .possibleVal | .paramValEnd | .possibleValEnd | .quotedVal | .quotedPossibleVal => true
  | _ => false

/-- states in which a parameter value has been started -/
def vStarted : FBState → Bool
  | .newParamVal | .newPossibleVal | .paramVal | .possibleVal | .paramValEnd | .possibleValEnd
  | .quotedVal | .quotedPossibleVal => true
  | _ => false

/-- "set positions are not zero": what makes the Go convention "0 = not set" unambiguous -/
structure NaPos (i : Nat) (pf : PFromBody) : Prop where
  pos : pf.state ≠ .init → 1 ≤ i
  sLt : (pf.state = .name ∨ pf.state = .nameOrURI ∨ pf.state = .nameOrURIEnd ∨ pf.state = .quoted) → pf.s < i
  started : pStarted pf.state = true → pf.params.offs ≠ 0 ∧ pf.pstart ≠ 0
  vstarted : vStarted pf.state = true → pf.vstart ≠ 0
  vsLe : pf.vstart ≤ i
  g1 : pf.pend ≠ 0 → pf.pstart ≠ 0
  g2 : pf.vend ≠ 0 → pf.vstart ≠ 0

theorem NaPos.nz {i : Nat} {pf : PFromBody} (h : NaPos i pf) : NaNz pf :=
  ⟨fun hh => (h.started (by rcases hh with hh | hh <;> rw [hh] <;> rfl)).2, h.g1, h.g2⟩

theorem NaPos.hV {i : Nat} {pf : PFromBody} (h : NaPos i pf) :
    (pf.state = .newParamVal ∨ pf.state = .newPossibleVal ∨ pf.state = .paramVal ∨ pf.state = .possibleVal ∨
      pf.state = .paramValEnd ∨ pf.state = .possibleValEnd) → pf.params.offs ≠ 0 ∧ pf.vstart ≠ 0 := by
  intro hh
  refine ⟨(h.started ?_).1, h.vstarted ?_⟩ <;> rcases hh with hh | hh | hh | hh | hh | hh <;> rw [hh] <;> rfl

theorem done_of_res (k : Nat) (r' r : Nat × Err × PFromBody)
    (h : resN clrS r' = resN clrS (shResD k (shDn k) r)) :
    stepN clrS (.done r'.1 r'.2.1 r'.2.2) = stepN clrS (shStepD k (shL k) (shDn k) (.done r.1 r.2.1 r.2.2)) := by
  simp only [resN, shResD, Prod.mk.injEq] at h
  simp only [stepN, shStepD, h.1, h.2.1, h.2.2]

theorem saveS_shift (k : Nat) (pf : PFromBody) : (shL k pf).saveS = shDn k .moreBytes pf.saveS := by
  unfold shDn; rw [if_pos rfl]; rfl

/-- the end-of-header code run at the current position -/
theorem naEOH_shift_here (h : Nat) (pre t : Buf) (pf : PFromBody) (i n crl : Nat) (r : Err) (hr : r ≠ .moreBytes)
    (hfit : pre.size + t.size ≤ 65535) (hS : NaSafe t i pf) (hP : NaPos i pf) :
    resN clrS (naEOH h (pre ++ t) (shL pre.size pf) (pre.size + i) (pre.size + n) crl r) =
      resN clrS (shResD pre.size (shDn pre.size) (naEOH h t pf i n crl r)) :=
  naEOH_shift h pre t pf i i n crl r hr hfit hS.toNaCore (Nat.le_refl _) hP.pos
    (fun _ => hS.s) hP.nz hP.hV (by have := hP.vsLe; have := hS.hi; omega)

/-- the end-of-header code in the two states in which it only finishes the object -/
theorem naEOH_shift_fin (h : Nat) (pre t : Buf) (pf : PFromBody) (e n crl : Nat) (r : Err) (hr : r ≠ .moreBytes)
    (hst : pf.state = .uriFound ∨ pf.state = .nameOrURIEnd) :
    resN clrS (naEOH h (pre ++ t) (shL pre.size pf) (pre.size + e) (pre.size + n) crl r) =
      resN clrS (shResD pre.size (shDn pre.size) (naEOH h t pf e n crl r)) := by
  unfold naEOH
  rw [shL_state]
  rcases hst with hst | hst <;> rw [hst] <;> simp only <;>
    exact fin_res' _ _ _ _ _ hr _ _ rfl (by rw [hst]; rfl) (by rw [hst]; rfl)

theorem sh_cont {k j j' : Nat} {X Y : PFromBody} (hj : j' = k + j) (hX : X = shL k Y) :
    stepN clrS (.cont j' X) = stepN clrS (shStepD k (shL k) (shDn k) (.cont j Y)) := by
  subst hj hX; rfl

theorem sh_err {k j j' : Nat} {e : Err} {pf : PFromBody} (hj : j' = k + j) (he : e ≠ .moreBytes) :
    stepN clrS (.done j' e (shL k pf)) = stepN clrS (shStepD k (shL k) (shDn k) (.done j e pf)) := by
  simp only [stepN, shStepD, shDn_ne _ _ _ he, hj]

theorem sh_more {k j j' : Nat} {pf : PFromBody} (hj : j' = k + j) :
    stepN clrS (.done j' .moreBytes (shL k pf).saveS) =
      stepN clrS (shStepD k (shL k) (shDn k) (.done j .moreBytes pf.saveS)) := by
  simp only [stepN, shStepD, saveS_shift, hj]

theorem NaPos.mono {i j : Nat} {pf : PFromBody} (h : NaPos i pf) (hij : i ≤ j) : NaPos j pf :=
  ⟨fun hh => by have := h.pos hh; omega, fun hh => by have := h.sLt hh; omega, h.started, h.vstarted,
   by have := h.vsLe; omega, h.g1, h.g2⟩

/-- closes the seven fields of `NaPos j X` for an updated object `X` whose state is a constructor -/
macro "pos_tac" : tactic =>
  `(tactic| (refine ⟨?_, ?_, ?_, ?_, ?_, ?_, ?_⟩ <;>
      (try simp only [pStarted, vStarted, ne_eq, reduceCtorEq, not_false_eq_true, not_true_eq_false, false_or, or_false,
        or_self, false_implies, forall_const, Bool.false_eq_true, true_implies, imp_self, implies_true,
        PFromBody.setURI, PFromBody.setName, PFromBody.setV, PFromBody.extV, PFromBody.extParams,
        PFromBody.resetUPT]) <;>
      first
        | done
        | assumption
        | omega
        | (intro hh; first | assumption | omega | exact absurd hh (by assumption))
        | (refine ⟨?_, ?_⟩ <;> first | assumption | omega)))

/-- specialise the state-dependent parts of the invariant to the state `hst` -/
macro "pos_hyps" hst:ident p1:ident p2:ident p3:ident p4:ident : tactic =>
  `(tactic| simp only [$hst:ident, pStarted, vStarted, ne_eq, reduceCtorEq, not_false_eq_true, not_true_eq_false,
      forall_const, false_or, or_false, or_self, or_true, true_or, false_implies, Bool.false_eq_true, true_implies]
      at $p1:ident $p2:ident $p3:ident $p4:ident)

/-- the object after `name-or-URI` text ended at white space -/
theorem NaPos.lwsURI {i : Nat} {pf : PFromBody} (hP : NaPos i pf) (hg : pf.state = .nameOrURI) :
    NaPos i { (pf.setURI pf.s i).extV i with state := .nameOrURIEnd } := by
  obtain ⟨p1, p2, p3, p4, p5, p6, p7⟩ := hP
  pos_hyps hg p1 p2 p3 p4
  pos_tac

theorem setFromParamVal_cleared (b : Buf) (pf : PFromBody) :
    (setFromParamVal b pf).pstart = 0 ∧ (setFromParamVal b pf).pend = 0 ∧ (setFromParamVal b pf).vstart = 0 ∧
    (setFromParamVal b pf).vend = 0 :=
  have f := setFromParamVal_frame b pf
  ⟨f.2.2.2.2.2.2.2.2.1, f.2.2.2.2.2.2.2.2.2.1, f.2.2.2.2.2.2.2.2.2.2.1, f.2.2.2.2.2.2.2.2.2.2.2⟩

/-- a completed parameter: the four positions are cleared -/
theorem setFromParamVal_pos (b : Buf) (pf : PFromBody) (j : Nat) (hj : 1 ≤ j)
    (hst : pf.state = .newParam ∨ pf.state = .newPossibleParam) : NaPos j (setFromParamVal b pf) := by
  obtain ⟨c1, c2, c3, c4⟩ := setFromParamVal_cleared b pf
  have ss := setFromParamVal_state b pf
  refine ⟨fun _ => hj, ?_, ?_, ?_, by rw [c3]; omega, fun hh => absurd c2 hh, fun hh => absurd c4 hh⟩
  all_goals
    rw [ss]
    rcases hst with hst | hst <;> rw [hst] <;> intro hh <;> simp [pStarted, vStarted] at hh

theorem naNameWS_pos (pf : PFromBody) (i : Nat) (hP : NaPos i pf)
    (hg : pf.state = .newParam ∨ pf.state = .newPossibleParam ∨ pf.state = .paramName ∨ pf.state = .possibleParamName) :
    NaPos i (naNameWS pf i) := by
  have hP' := hP
  obtain ⟨p1, p2, p3, p4, p5, p6, p7⟩ := hP
  unfold naNameWS
  rcases hg with hst | hst | hst | hst
  all_goals
    pos_hyps hst p1 p2 p3 p4
    simp only [hst, beq_iff_eq, reduceCtorEq, ↓reduceIte]
    first | exact hP' | pos_tac

theorem naValWS_pos (pf : PFromBody) (i n j : Nat) (ok : Bool) (hP : NaPos i pf) (hij : i ≤ j) (hn : 1 ≤ n)
    (hnj : ok = true → n ≤ j)
    (hg : pf.state = .newParamVal ∨ pf.state = .newPossibleVal ∨ pf.state = .paramVal ∨ pf.state = .possibleVal) :
    NaPos j (naValWS pf i n ok) := by
  have hP' := hP
  obtain ⟨p1, p2, p3, p4, p5, p6, p7⟩ := hP
  unfold naValWS
  rcases hg with hst | hst | hst | hst
  all_goals
    pos_hyps hst p1 p2 p3 p4
    simp only [hst]
    first
      | (split
         · have := hnj (by assumption)
           pos_tac
         · exact hP'.mono hij)
      | pos_tac

theorem naParam_pos (pf : PFromBody) (i : Nat) (hP : NaPos i pf) (hi : i < 65536)
    (hg : pf.state = .newParam ∨ pf.state = .newPossibleParam ∨ pf.state = .paramName ∨ pf.state = .possibleParamName) :
    NaPos (i + 1) (naParamsOffs (naParamStart pf i) i) := by
  have hP' := hP
  obtain ⟨p1, p2, p3, p4, p5, p6, p7⟩ := hP
  have hm : trunc16 i = i := trunc16_of_lt hi
  unfold naParamsOffs naParamStart
  rcases hg with hst | hst | hst | hst
  all_goals
    pos_hyps hst p1 p2 p3 p4
    simp only [hst, beq_iff_eq, reduceCtorEq, ↓reduceIte]
    split
    · rename_i hc
      have hc' : pf.params.offs = 0 := by simpa using hc
      rw [hm]
      pos_tac
    · rename_i hc
      have hc' : pf.params.offs ≠ 0 := by simpa using hc
      first | exact hP'.mono (Nat.le_succ _) | pos_tac

theorem NaTr.pos {h : Nat} {b : Buf} {i : Nat} {c : UInt8} {pf : PFromBody} (hb : b[i]? = some c)
    (hfit : b.size ≤ 65535) (hP : NaPos i pf) {i' : Nat} {st' : PFromBody} (t : NaTr h b i c pf (.cont i' st')) :
    NaPos i' st' := by
  have hlt := get?_lt hb
  obtain ⟨p1, p2, p3, p4, p5, p6, p7⟩ := id hP
  cases t
  case a_lwsURI hg hl t =>
    obtain ⟨⟨crl, hk⟩, rfl⟩ := t.of_cont
    exact (hP.lwsURI hg).mono (skipLWS_range b i 0 hk).1
  case a_lws hg hl t | q_lws hg hl t | uf_lws hg hl t =>
    all_goals
      obtain ⟨⟨crl, hk⟩, rfl⟩ := t.of_cont
      exact hP.mono (skipLWS_range b i 0 hk).1
  case p_lws hg hl t =>
    obtain ⟨⟨crl, hk⟩, rfl⟩ := t.of_cont
    exact (naNameWS_pos pf i hP hg).mono (skipLWS_range b i 0 hk).1
  case v_lws hg hl t =>
    obtain ⟨⟨crl, hk⟩, rfl⟩ := t.of_cont
    have hr := (skipLWS_range b i 0 hk).1
    have h1 := p1 (by rcases hg with g | g | g | g <;> rw [g] <;> decide)
    exact naValWS_pos pf i _ _ true hP hr (by omega) (fun _ => Nat.le_refl _) hg
  case q_esc hg hc h1 hl1 => exact hP.mono (by omega)
  case p_tok hg hl hc => exact naParam_pos pf i hP (by omega) hg
  case p_semi | p_semiP | pe_semi | pe_semiP | v_semi | v_semiP | ve_semi | ve_semiP =>
    all_goals exact setFromParamVal_pos b _ _ (Nat.le_add_left 1 i) (by first | exact Or.inl rfl | exact Or.inr rfl)
  -- a byte of the current token: the object does not change
  case comma1 | a_star | a_tok | q_tok | u_tok | uf_tok | p_semiNew | v_tok | other =>
    all_goals exact hP.mono (Nat.le_succ i)
  case lt_name => pos_tac
  case quote_name hg hc =>
    have := p2 (by rcases hg with g | g | g <;> simp [g])
    pos_tac
  -- every other step starts in one known state and updates a few fields explicitly
  case tok_init hg _ _ | tok_uriEnd hg _ _ | v_tokNew hg _ _ | v_tokNewP hg _ _ =>
    all_goals
      pos_hyps hg p1 p2 p3 p4
      pos_tac
  all_goals
    rename_i hg _
    pos_hyps hg p1 p2 p3 p4
    pos_tac

theorem na_posCont (h : Nat) (b : Buf) (i : Nat) (c : UInt8) (pf : PFromBody) (hb : b[i]? = some c)
    (hfit : b.size ≤ 65535) (hP : NaPos i pf) {i' : Nat} {st' : PFromBody} (hs : naStep h b i c pf = .cont i' st') :
    NaPos i' st' := by
  have t := naStep_tr h b i c pf
  rw [hs] at t
  exact t.pos hb hfit hP


theorem naNameWS_shift (k : Nat) (pf : PFromBody) (i : Nat) (hi : 1 ≤ i) :
    naNameWS (shL k pf) (k + i) = shL k (naNameWS pf i) := by
  unfold naNameWS
  rw [shL_state]
  split
  · rename_i hc
    have hst : pf.state = .paramName := by simpa using hc
    na_simp hst
  · split
    · rename_i hc
      have hst : pf.state = .possibleParamName := by simpa using hc
      na_simp hst
    · rfl

theorem naValWS_shift (k : Nat) (pf : PFromBody) (i n : Nat) (ok : Bool) (hi : 1 ≤ i) (hn : 1 ≤ n) :
    naValWS (shL k pf) (k + i) (k + n) ok = shL k (naValWS pf i n ok) := by
  unfold naValWS
  rw [shL_state]
  cases hst : pf.state <;> simp only
  case newParamVal | newPossibleVal => all_goals split <;> first | rfl | (simp only [shL, shB, shZ_pos _ _ hn, hst])
  case paramVal | possibleVal => all_goals na_simp hst

theorem naParamStart_shift (k : Nat) (pf : PFromBody) (i : Nat) (hi : 1 ≤ i) :
    naParamStart (shL k pf) (k + i) = shL k (naParamStart pf i) := by
  unfold naParamStart
  rw [shL_state]
  split
  · rename_i hc
    have hst : pf.state = .newParam := by simpa using hc
    na_simp hst
  · split
    · rename_i hc
      have hst : pf.state = .newPossibleParam := by simpa using hc
      na_simp hst
    · rfl

theorem naParamsOffs_shift (k : Nat) (pf : PFromBody) (i : Nat) (hi : 1 ≤ i) (hk : k + i ≤ 65535) :
    naParamsOffs (shL k pf) (k + i) = shL k (naParamsOffs pf i) := by
  unfold naParamsOffs
  rw [shL_params, shP_offs_eq_zero]
  by_cases hc : (pf.params.offs == 0) = true
  · rw [if_pos hc, if_pos hc]
    have h0 : pf.params.offs = 0 := by simpa using hc
    simp only [shL, shB]
    have : ({ shP k pf.params with offs := trunc16 (k + i) } : PField) = shP k { pf.params with offs := trunc16 i } := by
      unfold shP shF
      rw [if_pos h0, trunc16_of_lt (by omega), trunc16_of_lt (by omega)]
      simp only
      rw [if_neg (by omega), Nat.add_comm]
    rw [this]
  · rw [if_neg hc, if_neg hc]

theorem NaLws.shift {h : Nat} {pre t : Buf} {i : Nat} {om : Nat → Nat} {pm : PFromBody} {pk : Nat → PFromBody}
    {pe : PFromBody} {r : Step PFromBody} (tl : NaLws h t i om pm pk pe r) {om' : Nat → Nat} {pm' : PFromBody}
    {pk' : Nat → PFromBody} {pe' : PFromBody} (hom : ∀ n, om' (pre.size + n) = pre.size + om n)
    (hpm : pm' = shL pre.size pm) (hpk : ∀ n, i ≤ n → pk' (pre.size + n) = shL pre.size (pk n))
    (hpe : pe' = shL pre.size pe)
    (heoh : ∀ n crl, resN clrS (naEOH h (pre ++ t) pe' (pre.size + i) (pre.size + n) crl .ok) =
      resN clrS (shResD pre.size (shDn pre.size) (naEOH h t pe i n crl .ok))) :
    ∃ r', NaLws h (pre ++ t) (pre.size + i) om' pm' pk' pe' r' ∧
      stepN clrS r' = stepN clrS (shStepD pre.size (shL pre.size) (shDn pre.size) r) := by
  subst hpm hpe
  cases tl with
  | ok hk => exact ⟨_, .ok (by rw [skipLWS_shift, hk]), sh_cont rfl (hpk _ (skipLWS_range t i 0 hk).1)⟩
  | eoh hk => exact ⟨_, .eoh (by rw [skipLWS_shift, hk]), done_of_res _ _ _ (heoh _ _)⟩
  | more hk => exact ⟨_, .more (by rw [skipLWS_shift, hk]), sh_more (hom _)⟩

/-- **every transition of the loop body on `t` has its moved transition on `pre ++ t`**: the same constructor (the
    tests look at the byte and the state only), from the moved object, to the moved outcome. With `NaTr.eq` this is
    the loop body on the moved buffer. -/
theorem NaTr.shift {h : Nat} {pre t : Buf} {i : Nat} {c : UInt8} {pf : PFromBody} {r : Step PFromBody}
    (tr : NaTr h t i c pf r) (hb : t[i]? = some c) (hfit : pre.size + t.size ≤ 65535) (hS : NaSafe t i pf)
    (hP : NaPos i pf) :
    ∃ r', NaTr h (pre ++ t) (pre.size + i) c (shL pre.size pf) r' ∧
      stepN clrS r' = stepN clrS (shStepD pre.size (shL pre.size) (shDn pre.size) r) := by
  have hlt := get?_lt hb
  have hs := hS.s
  have hv : pf.v.offs ≤ i := hS.toNaCore.voffs
  have hve := hS.vend
  have hvs := hP.vsLe
  have hstd : ∀ {r}, NaLws h t i id pf (fun _ => pf) pf r → ∃ r', NaLws h (pre ++ t) (pre.size + i) id
      (shL pre.size pf) (fun _ => shL pre.size pf) (shL pre.size pf) r' ∧
      stepN clrS r' = stepN clrS (shStepD pre.size (shL pre.size) (shDn pre.size) r) := fun tl =>
    tl.shift (fun _ => rfl) rfl (fun _ _ => rfl) rfl
      (fun n crl => naEOH_shift_here h pre t pf i n crl .ok (by decide) hfit hS hP)
  obtain ⟨p1, p2, p3, p4, p5, p6, p7⟩ := id hP
  -- storing a completed parameter: the argument is the moved argument
  have hsfp : ∀ Y' Y : PFromBody, Y' = shL pre.size Y → (Y.pstart < Y.pend → Y.pstart ≠ 0) →
      (Y.vstart < Y.vend → Y.vstart ≠ 0) → Y.vstart ≤ t.size → Y.vend ≤ t.size →
      setFromParamVal (pre ++ t) Y' = shL pre.size (setFromParamVal t Y) := fun Y' Y hY a1 a2 a3 a4 => by
    subst hY; exact setFromParamVal_shift pre t Y hfit a1 a2 a3 a4
  cases tr
  -- white-space sites
  case a_lwsURI hg hl tl =>
    have hX : ({ ((shL pre.size pf).setURI (shL pre.size pf).s (pre.size + i)).extV (pre.size + i) with
        state := FBState.nameOrURIEnd } : PFromBody) =
        shL pre.size { (pf.setURI pf.s i).extV i with state := .nameOrURIEnd } := by na_simp hg
    obtain ⟨r', tl', e⟩ := tl.shift (om' := id) (pk' := fun _ => _) (fun _ => rfl) hX (fun _ _ => hX) hX
      (fun n crl => by rw [hX]; exact naEOH_shift_fin h pre t _ i n crl .ok (by decide) (Or.inr rfl))
    exact ⟨r', .a_lwsURI hg hl tl', e⟩
  case a_lws hg hl tl => obtain ⟨r', tl', e⟩ := hstd tl; exact ⟨r', .a_lws hg hl tl', e⟩
  case q_lws hg hl tl => obtain ⟨r', tl', e⟩ := hstd tl; exact ⟨r', .q_lws hg hl tl', e⟩
  case uf_lws hg hl tl => obtain ⟨r', tl', e⟩ := hstd tl; exact ⟨r', .uf_lws hg hl tl', e⟩
  case p_lws hg hl tl =>
    have hi1 : 1 ≤ i := p1 (by rcases hg with g | g | g | g <;> rw [g] <;> decide)
    have hX := naNameWS_shift pre.size pf i hi1
    obtain ⟨r', tl', e⟩ := tl.shift (om' := fun _ => pre.size + i) (pk' := fun _ => _) (fun _ => rfl) rfl (fun _ _ => hX) hX
      (fun n crl => by
        rw [hX]
        exact naEOH_shift_here h pre t _ i n crl .ok (by decide) hfit
          (naNameWS_safe t i i pf hS (Nat.le_refl _) hS.hi) (naNameWS_pos pf i hP hg))
    exact ⟨r', .p_lws hg hl tl', e⟩
  case v_lws hg hl tl =>
    have hi1 : 1 ≤ i := p1 (by rcases hg with g | g | g | g <;> rw [g] <;> decide)
    have hX := naValWS_shift pre.size pf i i false hi1 hi1
    obtain ⟨r', tl', e⟩ := tl.shift (om' := fun _ => pre.size + i)
      (pk' := fun n => naValWS (shL pre.size pf) (pre.size + i) n true) (fun _ => rfl) rfl
      (fun n hn => naValWS_shift pre.size pf i n true hi1 (by omega)) hX
      (fun n crl => by
        rw [hX]
        exact naEOH_shift_here h pre t _ i n crl .ok (by decide) hfit
          (naValWS_safe t i i pf false hS (Nat.le_refl _) hS.hi)
          (naValWS_pos pf i i i false hP (Nat.le_refl _) hi1 (fun hh => by cases hh) hg))
    exact ⟨r', .v_lws hg hl tl', e⟩
  -- `,` ends the value: the end-of-header code at the current position, or at the saved end of the name / value
  case comma hs' hg hc hm =>
    exact ⟨_, .comma hs' hg hc hm, done_of_res _ _ _ (naEOH_shift_here h pre t pf i i 1 .moreValues (by decide) hfit hS hP)⟩
  case commaWS e hg hc hm =>
    have hp0 := fun hh => (p3 hh).1
    rcases hg with ⟨hg, rfl⟩ | ⟨hg, rfl⟩
    · have hE := hS.endP hg
      have hpe := hS.pend
      have := hp0 (by rcases hg with g | g <;> rw [g] <;> rfl)
      refine ⟨_, .commaWS (.inl ⟨hg, rfl⟩) hc hm, done_of_res _ _ _ ?_⟩
      rw [shL_pend, shZ_pos _ _ (by omega)]
      exact naEOH_shift h pre t pf i pf.pend i 1 .moreValues (by decide) hfit hS.toNaCore hpe (fun _ => by omega)
        (fun hh => by rcases hg with g | g <;> rw [g] at hh <;> cases hh) hP.nz hP.hV (by omega)
    · have hE := hS.endV hg
      have := hp0 (by rcases hg with g | g <;> rw [g] <;> rfl)
      refine ⟨_, .commaWS (.inr ⟨hg, rfl⟩) hc hm, done_of_res _ _ _ ?_⟩
      rw [shL_vend, shZ_pos _ _ (by omega)]
      exact naEOH_shift h pre t pf i pf.vend i 1 .moreValues (by decide) hfit hS.toNaCore hve (fun _ => by omega)
        (fun hh => by rcases hg with g | g <;> rw [g] at hh <;> cases hh) hP.nz hP.hV (by omega)
  -- a byte of the current token, a byte that does nothing: the object does not change
  case comma1 hg hc hm => exact ⟨_, .comma1 hg hc hm, sh_cont rfl rfl⟩
  case a_star hg hc => exact ⟨_, .a_star hg hc, sh_cont rfl rfl⟩
  case a_tok hg hl hc => exact ⟨_, .a_tok hg hl hc, sh_cont rfl rfl⟩
  case q_tok hg hl hc => exact ⟨_, .q_tok hg hl hc, sh_cont rfl rfl⟩
  case u_tok hg hl hc => exact ⟨_, .u_tok hg hl hc, sh_cont rfl rfl⟩
  case uf_tok hg hl hc => exact ⟨_, .uf_tok hg hl hc, sh_cont rfl rfl⟩
  case p_semiNew hg hc => exact ⟨_, .p_semiNew hg hc, sh_cont rfl rfl⟩
  case v_tok hg hl hc => exact ⟨_, .v_tok hg hl hc, sh_cont rfl rfl⟩
  case other hg => exact ⟨_, .other hg, sh_cont rfl rfl⟩
  -- the escape in a quoted string looks at the next byte
  case q_esc c1 hg hc h1 hl1 => exact ⟨_, .q_esc hg hc (by rw [get?_shift1]; exact h1) hl1, sh_cont rfl rfl⟩
  case q_escCRLF c1 hg hc h1 hl1 =>
    exact ⟨_, .q_escCRLF hg hc (by rw [get?_shift1]; exact h1) hl1, sh_err rfl (by decide)⟩
  case q_escMore hg hc h1 => exact ⟨_, .q_escMore hg hc (by rw [get?_shift1]; exact h1), sh_more rfl⟩
  -- bytes that cannot occur
  case u_bad hg hc => exact ⟨_, .u_bad hg hc, sh_err rfl (by decide)⟩
  case star_bad hg hl => exact ⟨_, .star_bad hg hl, sh_err rfl (by decide)⟩
  case a_bad hg hc => exact ⟨_, .a_bad hg hc, sh_err rfl (by decide)⟩
  case p_bad hg hc => exact ⟨_, .p_bad hg hc, sh_err rfl (by decide)⟩
  case v_bad hg hc => exact ⟨_, .v_bad hg hc, sh_err rfl (by decide)⟩
  case end_bad hg hc => exact ⟨_, .end_bad hg hc, sh_err rfl (by decide)⟩
  -- a completed parameter is stored
  case p_semi hg hc =>
    pos_hyps hg p1 p2 p3 p4
    exact ⟨_, .p_semi hg hc, sh_cont rfl (hsfp _ _ (by na_simp hg) (fun _ => p3.2)
      (fun hh => p7 (by have hh' : pf.vstart < pf.vend := hh; omega)) (by show pf.vstart ≤ t.size; omega)
      (by show pf.vend ≤ t.size; omega))⟩
  case p_semiP hg hc =>
    pos_hyps hg p1 p2 p3 p4
    exact ⟨_, .p_semiP hg hc, sh_cont rfl (hsfp _ _ (by na_simp hg) (fun _ => p3.2)
      (fun hh => p7 (by have hh' : pf.vstart < pf.vend := hh; omega)) (by show pf.vstart ≤ t.size; omega)
      (by show pf.vend ≤ t.size; omega))⟩
  case pe_semi hg hc =>
    pos_hyps hg p1 p2 p3 p4
    exact ⟨_, .pe_semi hg hc, sh_cont rfl (hsfp _ _ (by na_simp hg) (fun _ => p3.2)
      (fun hh => p7 (by have hh' : pf.vstart < pf.vend := hh; omega)) (by show pf.vstart ≤ t.size; omega)
      (by show pf.vend ≤ t.size; omega))⟩
  case pe_semiP hg hc =>
    pos_hyps hg p1 p2 p3 p4
    exact ⟨_, .pe_semiP hg hc, sh_cont rfl (hsfp _ _ (by na_simp hg) (fun _ => p3.2)
      (fun hh => p7 (by have hh' : pf.vstart < pf.vend := hh; omega)) (by show pf.vstart ≤ t.size; omega)
      (by show pf.vend ≤ t.size; omega))⟩
  case ve_semi hg hc =>
    pos_hyps hg p1 p2 p3 p4
    exact ⟨_, .ve_semi hg hc, sh_cont rfl (hsfp _ _ (by na_simp hg) (fun _ => p3.2) (fun _ => p4)
      (by show pf.vstart ≤ t.size; omega) (by show pf.vend ≤ t.size; omega))⟩
  case ve_semiP hg hc =>
    pos_hyps hg p1 p2 p3 p4
    exact ⟨_, .ve_semiP hg hc, sh_cont rfl (hsfp _ _ (by na_simp hg) (fun _ => p3.2) (fun _ => p4)
      (by show pf.vstart ≤ t.size; omega) (by show pf.vend ≤ t.size; omega))⟩
  case v_semi hg hc =>
    refine ⟨_, .v_semi hg hc, sh_cont rfl ?_⟩
    rcases hg with g | g <;> pos_hyps g p1 p2 p3 p4 <;>
      exact hsfp _ _ (by na_simp g) (fun _ => p3.2) (fun _ => p4) (by show pf.vstart ≤ t.size; omega)
        (by show i ≤ t.size; omega)
  case v_semiP hg hc =>
    refine ⟨_, .v_semiP hg hc, sh_cont rfl ?_⟩
    rcases hg with g | g <;> pos_hyps g p1 p2 p3 p4 <;>
      exact hsfp _ _ (by na_simp g) (fun _ => p3.2) (fun _ => p4) (by show pf.vstart ≤ t.size; omega)
        (by show i ≤ t.size; omega)
  -- the first byte of a parameter name
  case p_tok hg hl hc =>
    have hi1 : 1 ≤ i := p1 (by rcases hg with g | g | g | g <;> rw [g] <;> decide)
    exact ⟨_, .p_tok hg hl hc, sh_cont rfl (by
      rw [naParamStart_shift _ _ _ hi1, naParamsOffs_shift _ _ _ hi1 (by omega)])⟩
  -- every other transition starts in known states and updates a few fields: the update commutes with the move
  case lt_name hg hc =>
    refine ⟨_, .lt_name hg hc, sh_cont rfl ?_⟩
    rcases hg with g | g | g <;> pos_hyps g p1 p2 p3 p4 <;> na_simp g
  case quote_name hg hc =>
    refine ⟨_, .quote_name hg hc, sh_cont rfl ?_⟩
    rcases hg with g | g | g <;> pos_hyps g p1 p2 p3 p4 <;> na_simp g
  case lt_init hg hc => exact ⟨_, .lt_init hg hc, sh_cont rfl (by na_simp hg)⟩
  case quote_init hg hc => exact ⟨_, .quote_init hg hc, sh_cont rfl (by na_simp hg)⟩
  case star_init hg hc => exact ⟨_, .star_init hg hc, sh_cont rfl (by na_simp hg)⟩
  case tok_init hg hl hc => exact ⟨_, .tok_init hg hl hc, sh_cont rfl (by na_simp hg)⟩
  case tok_uriEnd hg hl hc => exact ⟨_, .tok_uriEnd hg hl hc, sh_cont rfl (by na_simp hg)⟩
  case semi_uri hg hc => exact ⟨_, .semi_uri hg hc, sh_cont rfl (by na_simp hg)⟩
  case semi_uriEnd hg hc => exact ⟨_, .semi_uriEnd hg hc, sh_cont rfl (by na_simp hg)⟩
  case q_close hg hc => exact ⟨_, .q_close hg hc, sh_cont rfl (by na_simp hg)⟩
  case q_closeVal hg hc => exact ⟨_, .q_closeVal hg hc, sh_cont rfl (by na_simp hg)⟩
  case q_closePVal hg hc => exact ⟨_, .q_closePVal hg hc, sh_cont rfl (by na_simp hg)⟩
  case u_close hg hc => exact ⟨_, .u_close hg hc, sh_cont rfl (by na_simp hg)⟩
  case uf_semi hg hc => exact ⟨_, .uf_semi hg hc, sh_cont rfl (by na_simp hg)⟩
  case p_eq hg hc => pos_hyps hg p1 p2 p3 p4; exact ⟨_, .p_eq hg hc, sh_cont rfl (by na_simp hg)⟩
  case p_eqP hg hc => pos_hyps hg p1 p2 p3 p4; exact ⟨_, .p_eqP hg hc, sh_cont rfl (by na_simp hg)⟩
  case pe_eq hg hc => pos_hyps hg p1 p2 p3 p4; exact ⟨_, .pe_eq hg hc, sh_cont rfl (by na_simp hg)⟩
  case pe_eqP hg hc => pos_hyps hg p1 p2 p3 p4; exact ⟨_, .pe_eqP hg hc, sh_cont rfl (by na_simp hg)⟩
  case v_quote hg hc => exact ⟨_, .v_quote hg hc, sh_cont rfl (by na_simp hg)⟩
  case v_quoteP hg hc => exact ⟨_, .v_quoteP hg hc, sh_cont rfl (by na_simp hg)⟩
  case v_quoteNew hg hc => pos_hyps hg p1 p2 p3 p4; exact ⟨_, .v_quoteNew hg hc, sh_cont rfl (by na_simp hg)⟩
  case v_quoteNewP hg hc => pos_hyps hg p1 p2 p3 p4; exact ⟨_, .v_quoteNewP hg hc, sh_cont rfl (by na_simp hg)⟩
  case v_tokNew hg hl hc => pos_hyps hg p1 p2 p3 p4; exact ⟨_, .v_tokNew hg hl hc, sh_cont rfl (by na_simp hg)⟩
  case v_tokNewP hg hl hc => pos_hyps hg p1 p2 p3 p4; exact ⟨_, .v_tokNewP hg hl hc, sh_cont rfl (by na_simp hg)⟩

theorem naStep_shift (h : Nat) (pre t : Buf) (i : Nat) (c : UInt8) (pf : PFromBody)
    (hb : t[i]? = some c) (hfit : pre.size + t.size ≤ 65535) (hS : NaSafe t i pf) (hP : NaPos i pf) :
    stepN clrS (naStep h (pre ++ t) (pre.size + i) c (shL pre.size pf)) =
      stepN clrS (shStepD pre.size (shL pre.size) (shDn pre.size) (naStep h t i c pf)) := by
  obtain ⟨r', t', e⟩ := (naStep_tr h t i c pf).shift hb hfit hS hP
  rw [t'.eq]
  exact e

/-- **the loop of ParseNameAddrPVal is position independent** (objects compared up to the local `s`) -/
theorem naLoop_shift (h : Nat) (pre t : Buf) (o : Nat) (pf : PFromBody) (hfit : pre.size + t.size ≤ 65535)
    (hS : NaSafe t o pf) (hP : NaPos o pf) :
    resN clrS (runLoop (naMachine h) (pre ++ t) (pre.size + o) (shL pre.size pf)) =
      resN clrS (shResD pre.size (shDn pre.size) (runLoop (naMachine h) t o pf)) :=
  smResRel_iff_resN.mp <| runLoop_shift2 (naMachine h) (naMachine h) pre t (shL pre.size) _
    (fun i st => NaSafe t i st ∧ NaPos i st)
    (fun i c st i' st' hb hI hs hlt =>
      ⟨na_safeCont h t i c st i' st' hb hI.1 hs hlt, na_posCont h t i c st hb (by omega) hI.2 hs⟩)
    (fun i c st hb hI => smStepRel_of_stepN (naStep_shift h pre t i c st hb hfit hI.1 hI.2))
    (fun i st _ _ => smResRel_iff_resN.mpr (by
      show resN clrS (pre.size + i, Err.moreBytes, (shL pre.size st).saveS) = _
      rw [saveS_shift]; rfl))
    (fun i c st i' st' hb _ hs hn => absurd (na_progress h t i c st i' st' hb hs) hn)
    o pf ⟨hS, hP⟩

/-- the verdicts after which the call has written the restart offset (`moreBytes:` saves it, the successful end
    clears it); after every other verdict the field still holds what the caller passed in -/
def naWrote (e : Err) : Bool := e == .moreBytes || e == .ok || e == .moreValues

/-- the moved result: offset moved by `k`, same verdict, object moved. After an error verdict the restart offset
    of the returned object is the stale one of the object passed in (`pf0`): it is moved as in that object, not
    according to the state in which the error occurred. -/
def shResNa (k : Nat) (pf0 : PFromBody) (r : Nat × Err × PFromBody) : Nat × Err × PFromBody :=
  (k + r.1, r.2.1, if naWrote r.2.1 then shNa k r.2.2 else { shNa k r.2.2 with soffs := shS k pf0.state pf0.soffs })

/-- the object with which the loop is entered: the saved restart offset is loaded into the local `s` -/
def naLoad (pf : PFromBody) : PFromBody := { pf with s := pf.soffs, soffs := 0 }

/-- what the theorem needs of the object passed in: it is finished, or — once the saved restart offset is loaded
    into the local `s` — it satisfies the loop invariants (`NaSafe`: saved positions and fields lie before the
    current offset, no panic so far; `NaPos`: set positions are not zero) -/
def NaShiftEntry (t : Buf) (o : Nat) (pf : PFromBody) : Prop :=
  pf.state = .fin ∨ (NaSafe t o (naLoad pf) ∧ NaPos o (naLoad pf))

theorem NaShiftEntry_new (t : Buf) (o : Nat) (ho : o ≤ t.size) : NaShiftEntry t o {} := by
  right
  refine ⟨?_, ?_⟩
  · rcases NaEntry_new t o ho with hh | hh
    · exact absurd hh.1 (by decide)
    · exact hh.2
  · refine ⟨fun hh => absurd rfl hh, ?_, ?_, ?_, Nat.zero_le _, fun hh => absurd rfl hh, fun hh => absurd rfl hh⟩
    · intro hh; rcases hh with hh | hh | hh | hh <;> cases hh
    · intro hh; cases hh
    · intro hh; cases hh

theorem naExit_clrS (s : Nat) (e : Err) (p : PFromBody) : naExit s e p = naExit s e (clrS p) := by
  unfold naExit clrS; split <;> rfl

theorem naExit_state (s : Nat) (e : Err) (p : PFromBody) : (naExit s e p).state = p.state := by
  unfold naExit; split <;> rfl

def naWrap (s : Nat) (r : Nat × Err × PFromBody) : Nat × Err × PFromBody := (r.1, r.2.1, naExit s r.2.1 r.2.2)

theorem parseNameAddrPVal_notfin (h : Nat) (b : Buf) (o : Nat) (pf : PFromBody) (hf : pf.state ≠ .fin) :
    parseNameAddrPVal h b o pf = naWrap pf.soffs (runLoop (naMachine h) b o (naLoad pf)) := by
  unfold parseNameAddrPVal; rw [if_neg hf]; rfl

theorem naLoad_shNa (k : Nat) (pf : PFromBody) : naLoad (shNa k pf) = shL k (naLoad pf) := rfl

theorem naExit_shift (k : Nat) (pf0 : PFromBody) (e : Err) (p : PFromBody) (hfin : Err.complete e → p.state = .fin) :
    naExit (shNa k pf0).soffs e (shDn k e p) =
      if naWrote e then shNa k (naExit pf0.soffs e p) else { shNa k (naExit pf0.soffs e p) with soffs := shS k pf0.state pf0.soffs } := by
  by_cases h1 : e = .moreBytes
  · subst h1
    simp only [naExit, naWrote, shDn, shNa, shL, shB, beq_self_eq_true, Bool.true_or, ↓reduceIte]
  · rw [shDn_ne _ _ _ h1]
    by_cases h2 : Err.complete e
    · have hs := hfin h2
      have hw : naWrote e = true := by rcases h2 with h2 | h2 <;> subst h2 <;> rfl
      have hx : (e == Err.moreBytes || e == Err.ok || e == Err.moreValues) = true := hw
      simp only [naExit, hw, hx, ↓reduceIte, shNa, shL, shB, shS, hs, sPos, Bool.false_eq_true]
    · have hw : naWrote e = false := by
        cases e <;> first | rfl | exact absurd rfl h1 | exact absurd (Or.inl rfl) h2 | exact absurd (Or.inr rfl) h2
      have hx : (e == Err.moreBytes || e == Err.ok || e == Err.moreValues) = false := hw
      simp only [naExit, hw, hx, ↓reduceIte, shNa, shL, shB, Bool.false_eq_true]

/-- [C11] ParseNameAddrPVal is position independent -/
theorem parseNameAddrPVal_shift (h : Nat) (pre t : Buf) (o : Nat) (pf : PFromBody)
    (hfit : pre.size + t.size ≤ 65535) (hE : NaShiftEntry t o pf) :
    parseNameAddrPVal h (pre ++ t) (pre.size + o) (shNa pre.size pf) =
      shResNa pre.size pf (parseNameAddrPVal h t o pf) := by
  by_cases hf : pf.state = .fin
  · unfold parseNameAddrPVal
    rw [shNa_state, if_pos hf, if_pos hf]
    rfl
  · rcases hE with hE | hE
    · exact absurd hE hf
    · have hpost := fun o' e pf' => parseNameAddrPVal_post h t o pf (o' := o') (e := e) (pf' := pf')
      rw [parseNameAddrPVal_notfin h t o pf hf] at hpost ⊢
      rw [parseNameAddrPVal_notfin h _ _ _ (by rw [shNa_state]; exact hf), naLoad_shNa]
      have key := naLoop_shift h pre t o (naLoad pf) hfit hE.1 hE.2
      rcases hr : runLoop (naMachine h) t o (naLoad pf) with ⟨o1, e1, p1⟩
      rcases hr' : runLoop (naMachine h) (pre ++ t) (pre.size + o) (shL pre.size (naLoad pf)) with ⟨o2, e2, p2⟩
      rw [hr, hr'] at key
      rw [hr] at hpost
      simp only [resN, shResD, Prod.mk.injEq] at key
      obtain ⟨rfl, rfl, k3⟩ := key
      have hfin : Err.complete e2 → p1.state = .fin := by
        intro hc
        have := (hpost o1 e2 (naExit pf.soffs e2 p1) rfl hc).1
        rw [naExit_state] at this
        exact this
      simp only [shResNa, naWrap]
      rw [naExit_clrS, k3, ← naExit_clrS, naExit_shift _ _ _ _ hfin]
      rfl


theorem parseNameAddrPVal_shift_wrote (h : Nat) (pre t : Buf) (o : Nat) (pf : PFromBody)
    (hfit : pre.size + t.size ≤ 65535) (hE : NaShiftEntry t o pf)
    (hw : naWrote (parseNameAddrPVal h t o pf).2.1 = true) :
    parseNameAddrPVal h (pre ++ t) (pre.size + o) (shNa pre.size pf) =
      shRes pre.size (shNa pre.size) (parseNameAddrPVal h t o pf) := by
  rw [parseNameAddrPVal_shift h pre t o pf hfit hE]
  unfold shResNa shRes
  rw [if_pos hw]

theorem parseNameAddrPVal_shift_fields (h : Nat) (pre t : Buf) (o : Nat) (pf : PFromBody)
    (hfit : pre.size + t.size ≤ 65535) (hE : NaShiftEntry t o pf) :
    (parseNameAddrPVal h (pre ++ t) (pre.size + o) (shNa pre.size pf)).1 = pre.size + (parseNameAddrPVal h t o pf).1 ∧
    (parseNameAddrPVal h (pre ++ t) (pre.size + o) (shNa pre.size pf)).2.1 = (parseNameAddrPVal h t o pf).2.1 ∧
    ({ (parseNameAddrPVal h (pre ++ t) (pre.size + o) (shNa pre.size pf)).2.2 with soffs := 0 } : PFromBody) =
      { shNa pre.size (parseNameAddrPVal h t o pf).2.2 with soffs := 0 } := by
  rw [parseNameAddrPVal_shift h pre t o pf hfit hE]
  refine ⟨rfl, rfl, ?_⟩
  unfold shResNa
  simp only
  split <;> rfl

/-- [C11] from a new object the plain form holds after every verdict: after an error the (never written) restart
    offset is 0 in both runs -/
theorem parseNameAddrPVal_shift_new (h : Nat) (pre t : Buf) (o : Nat) (ho : o ≤ t.size)
    (hfit : pre.size + t.size ≤ 65535) :
    parseNameAddrPVal h (pre ++ t) (pre.size + o) {} = shResNa pre.size {} (parseNameAddrPVal h t o {}) :=
  parseNameAddrPVal_shift h pre t o {} hfit (NaShiftEntry_new t o ho)

theorem shResNa_new (k : Nat) (r : Nat × Err × PFromBody) :
    shResNa k {} r = (k + r.1, r.2.1, if naWrote r.2.1 then shNa k r.2.2 else { shNa k r.2.2 with soffs := 0 }) := rfl

theorem shNa_fin (k : Nat) (pf : PFromBody) (hf : pf.state = .fin) :
    shNa k pf = { pf with name := shO k pf.name, uri := shF k pf.uri, tag := shO k pf.tag, params := shP k pf.params,
                          v := shF k pf.v, errOffs := shZ k pf.errOffs, pstart := shZ k pf.pstart,
                          pend := shZ k pf.pend, vstart := shZ k pf.vstart, vend := shZ k pf.vend } := by
  simp only [shNa, shB, shS, hf, uriSet, vSet, sPos, ↓reduceIte, Bool.false_eq_true]

/-- [C11] what a caller sees when a value parsed from a new object is complete (OK / MoreValues): the same verdict, the
    returned offset moved by `k`, URI and value moved by `k`, display name / tag / parameter list moved by `k` unless
    absent (zero value), and every number, flag, the type, the parameter error and the panic flag unchanged -/
theorem parseNameAddrPVal_shift_reported (h : Nat) (pre t : Buf) (o : Nat) (ho : o ≤ t.size)
    (hfit : pre.size + t.size ≤ 65535) {o' : Nat} {e : Err} {pf' : PFromBody}
    (hr : parseNameAddrPVal h t o {} = (o', e, pf')) (hc : Err.complete e) :
    ∃ pf'', parseNameAddrPVal h (pre ++ t) (pre.size + o) {} = (pre.size + o', e, pf'') ∧
      pf''.uri = shF pre.size pf'.uri ∧ pf''.v = shF pre.size pf'.v ∧ pf''.name = shO pre.size pf'.name ∧
      pf''.tag = shO pre.size pf'.tag ∧ pf''.params = shP pre.size pf'.params ∧
      pf''.q = pf'.q ∧ pf''.expires = pf'.expires ∧ pf''.hasExpires = pf'.hasExpires ∧ pf''.lr = pf'.lr ∧
      pf''.star = pf'.star ∧ pf''.type = pf'.type ∧ pf''.paramErr = pf'.paramErr ∧ pf''.state = .fin ∧
      pf''.pnc = pf'.pnc := by
  have hfin := (parseNameAddrPVal_post h t o {} hr hc).1
  have hw : naWrote e = true := by rcases hc with hc | hc <;> subst hc <;> rfl
  have hs := parseNameAddrPVal_shift h pre t o {} hfit (NaShiftEntry_new t o ho)
  rw [shNa_new, hr] at hs
  refine ⟨shNa pre.size pf', ?_, ?_⟩
  · rw [hs]; unfold shResNa; simp only [hw, ↓reduceIte]
  · rw [shNa_fin _ _ hfin]
    exact ⟨rfl, rfl, rfl, rfl, rfl, rfl, rfl, rfl, rfl, rfl, rfl, rfl, hfin, rfl⟩

theorem get?_zero_field (b : Buf) (f : PField) (h0 : f.offs = 0) (hl : f.len = 0) : f.get? b = some #[] := by
  unfold PField.get? PField.endT trunc16
  rw [h0, hl]
  simp

theorem get?_shO (pre t : Buf) (f : PField) (hin : f.inside t.size) (hfit : pre.size + t.size ≤ 65535) :
    (shO pre.size f).get? (pre ++ t) = f.get? t := by
  unfold shO
  split
  · rename_i hz
    rw [get?_zero_field _ f hz.1 hz.2, get?_zero_field _ f hz.1 hz.2]
  · exact get?_shiftF pre t f hin hfit

theorem get?_shP (pre t : Buf) (f : PField) (hin : f.inside t.size) (hfit : pre.size + t.size ≤ 65535)
    (hp : f.offs = 0 → f.len = 0) :
    (shP pre.size f).get? (pre ++ t) = f.get? t := by
  unfold shP
  split
  · rename_i hz
    rw [get?_zero_field _ f hz (hp hz), get?_zero_field _ f hz (hp hz)]
  · exact get?_shiftF pre t f hin hfit

/-- [C11] the fields reported for a complete value denote the same bytes in the moved object (URI, value, display name, tag) -/
theorem parseNameAddrPVal_shift_bytes (h : Nat) (pre t : Buf) (o : Nat) (ho : o ≤ t.size)
    (hfit : pre.size + t.size ≤ 65535) {o' : Nat} {e : Err} {pf' : PFromBody}
    (hr : parseNameAddrPVal h t o {} = (o', e, pf')) (hc : Err.complete e) :
    ∃ pf'', parseNameAddrPVal h (pre ++ t) (pre.size + o) {} = (pre.size + o', e, pf'') ∧
      pf''.uri.get? (pre ++ t) = pf'.uri.get? t ∧ pf''.v.get? (pre ++ t) = pf'.v.get? t ∧
      pf''.name.get? (pre ++ t) = pf'.name.get? t ∧ pf''.tag.get? (pre ++ t) = pf'.tag.get? t := by
  obtain ⟨pf'', h1, h2, h3, h4, h5, _⟩ := parseNameAddrPVal_shift_reported h pre t o ho hfit hr hc
  have hout := (parseNameAddrPVal_safe h t o {} (NaEntry_new t o ho) hr).1
  have hle := hout.ho
  refine ⟨pf'', h1, ?_, ?_, ?_, ?_⟩
  · rw [h2]; exact get?_shiftF pre t _ (PField.inside_mono hout.uri hle) hfit
  · rw [h3]; exact get?_shiftF pre t _ (PField.inside_mono hout.v hle) hfit
  · rw [h4]; exact get?_shO pre t _ (PField.inside_mono hout.name hle) hfit
  · rw [h5]; exact get?_shO pre t _ (PField.inside_mono hout.tag hle) hfit


theorem NaPos.saveS {i : Nat} {pf : PFromBody} (h : NaPos i pf) : NaPos i pf.saveS :=
  ⟨h.pos, h.sLt, h.started, h.vstarted, h.vsLe, h.g1, h.g2⟩

/-- a white-space site that asks for more bytes returns the saved object `pm` -/
theorem NaLws.more_pos {h : Nat} {b : Buf} {i : Nat} {om : Nat → Nat} {pm : PFromBody} {pk : Nat → PFromBody}
    {pe : PFromBody} {o : Nat} {e : Err} {st' : PFromBody} (t : NaLws h b i om pm pk pe (.done o e st'))
    (he : e = .moreBytes) (hM : ∀ n, i ≤ n → NaPos (om n) pm) : NaPos o st' := by
  cases t
  case eoh n crl hk => exact absurd he (naEOH_ne_more h b pe i n crl .ok (by decide))
  case more n crl hk => exact (hM n (skipLWS_range b i 0 hk).1).saveS

theorem NaTr.more_pos {h : Nat} {b : Buf} {i : Nat} {c : UInt8} {pf : PFromBody} (hP : NaPos i pf) {o : Nat}
    {e : Err} {st' : PFromBody} (t : NaTr h b i c pf (.done o e st')) (he : e = .moreBytes) : NaPos o st' := by
  cases t
  case a_lwsURI hg hl t => exact t.more_pos he fun n hn => (hP.lwsURI hg).mono hn
  case a_lws hg hl t | q_lws hg hl t | uf_lws hg hl t => all_goals exact t.more_pos he fun n hn => hP.mono hn
  case p_lws hg hl t | v_lws hg hl t => all_goals exact t.more_pos he fun _ _ => hP
  case comma => exact absurd he (naEOH_ne_more h b pf i i 1 .moreValues (by decide))
  case commaWS ev hg hc hm => exact absurd he (naEOH_ne_more h b pf ev i 1 .moreValues (by decide))
  case q_escMore => exact hP.saveS
  all_goals cases he

/-- after MoreBytes the returned object satisfies the hypothesis of `parseNameAddrPVal_shift` again (at the returned
    offset, in any longer buffer) -/
theorem parseNameAddrPVal_shiftEntry (h : Nat) (t : Buf) (o : Nat) (pf : PFromBody) (hfit : t.size ≤ 65535)
    (hE : NaShiftEntry t o pf) {o' : Nat} {pf' : PFromBody}
    (hr : parseNameAddrPVal h t o pf = (o', Err.moreBytes, pf')) : NaShiftEntry t o' pf' := by
  by_cases hf : pf.state = .fin
  · unfold parseNameAddrPVal at hr
    rw [if_pos hf] at hr
    cases hr
  · rcases hE with hE | hE
    · exact absurd hE hf
    · have hsafe := (parseNameAddrPVal_safe h t o pf (Or.inr ⟨hf, hE.1⟩) hr).2 rfl
      rcases hsafe with hsafe | hsafe
      · exact Or.inl hsafe.1
      · right
        refine ⟨hsafe.2, ?_⟩
        rw [parseNameAddrPVal_notfin h t o pf hf] at hr
        have key := runLoop_inv (naMachine h) t (fun i st => NaSafe t i st ∧ NaPos i st)
          (fun r => r.2.1 = .moreBytes → NaPos r.1 r.2.2 ∧ r.2.2.soffs = r.2.2.s)
          (by
            intro i c st i' st' hb hI hs
            refine ⟨fun hlt => ⟨na_safeCont h t i c st i' st' hb hI.1 hs hlt, na_posCont h t i c st hb hfit hI.2 hs⟩,
              fun _ hh => by cases hh⟩)
          (by
            intro i c st o1 e1 st1 hb hI hs hm
            simp only at hm
            subst hm
            have tr := naStep_tr h t i c st
            rw [show naStep h t i c st = _ from hs] at tr
            exact ⟨tr.more_pos hI.2 rfl, ((naStep_done h t i c st hb hI.1 hs).more rfl).2⟩)
          (by
            intro i st _ hI _
            exact ⟨hI.2.saveS, rfl⟩)
          o (naLoad pf) hE
        rcases hl : runLoop (naMachine h) t o (naLoad pf) with ⟨o1, e1, p1⟩
        rw [hl] at key hr
        simp only [naWrap, Prod.mk.injEq] at hr
        obtain ⟨rfl, rfl, rfl⟩ := hr
        obtain ⟨k1, k2⟩ := key rfl
        simp only at k1 k2
        have e0 : naLoad (naExit pf.soffs Err.moreBytes p1) = { p1 with soffs := 0 } := by
          show ({ p1 with s := p1.soffs, soffs := 0 } : PFromBody) = { p1 with soffs := 0 }
          rw [k2]
        rw [e0]
        exact ⟨k1.pos, k1.sLt, k1.started, k1.vstarted, k1.vsLe, k1.g1, k1.g2⟩


theorem NaSafe.append {b : Buf} {i : Nat} {pf : PFromBody} (h : NaSafe b i pf) (s : Buf) : NaSafe (b ++ s) i pf :=
  h.grow (by rw [Array.size_append]; omega)

theorem NaShiftEntry.append {t : Buf} {o : Nat} {pf : PFromBody} (h : NaShiftEntry t o pf) (s : Buf) :
    NaShiftEntry (t ++ s) o pf := by
  rcases h with h | h
  · exact Or.inl h
  · exact Or.inr ⟨h.1.append s, h.2⟩

/-- [C11] the resumed call is position independent too: a value that ran out of bytes in `t` (parsed from a new
    object) and is resumed, at the returned offset and with the returned object, once more bytes `s` have arrived -/
theorem parseNameAddrPVal_shift_resume (h : Nat) (pre t s : Buf) (o : Nat) (ho : o ≤ t.size)
    (hfit : pre.size + (t ++ s).size ≤ 65535) {o1 : Nat} {pf1 : PFromBody}
    (hr : parseNameAddrPVal h t o {} = (o1, Err.moreBytes, pf1)) :
    parseNameAddrPVal h (pre ++ (t ++ s)) (pre.size + o1) (shNa pre.size pf1) =
      shResNa pre.size pf1 (parseNameAddrPVal h (t ++ s) o1 pf1) :=
  parseNameAddrPVal_shift h pre (t ++ s) o1 pf1 hfit
    ((parseNameAddrPVal_shiftEntry h t o {} (by rw [Array.size_append] at hfit; omega) (NaShiftEntry_new t o ho) hr).append s)

/-! ### non-vacuity (tests) -/

-- a complete From value with display name, tag and a trailing parameter, after 3 junk bytes
example : parseNameAddrPVal HdrFrom ("xyz".toUTF8.data ++ "\"A\" <sip:a@b>;tag=x1;q=0.5\r\nX".toUTF8.data) 3 {} =
    shRes 3 (shNa 3) (parseNameAddrPVal HdrFrom "\"A\" <sip:a@b>;tag=x1;q=0.5\r\nX".toUTF8.data 0 {}) := by decide +kernel
example : (parseNameAddrPVal HdrFrom "\"A\" <sip:a@b>;tag=x1;q=0.5\r\nX".toUTF8.data 0 {}).2.1 = Err.ok := by decide +kernel
-- the text starts at offset 0 with a bare URI and runs out inside a parameter: restart offset 0 becomes 3
example : parseNameAddrPVal HdrContact ("xyz".toUTF8.data ++ "a ;x=1".toUTF8.data) 3 {} =
    shRes 3 (shNa 3) (parseNameAddrPVal HdrContact "a ;x=1".toUTF8.data 0 {}) := by decide +kernel
example : (parseNameAddrPVal HdrContact "a ;x=1".toUTF8.data 0 {}).2.1 = Err.moreBytes ∧
    (parseNameAddrPVal HdrContact "a ;x=1".toUTF8.data 0 {}).2.2.soffs = 0 ∧
    (parseNameAddrPVal HdrContact ("xyz".toUTF8.data ++ "a ;x=1".toUTF8.data) 3 {}).2.2.soffs = 3 := by decide +kernel
-- an error verdict: the stale restart offset is not moved (`shResNa`), although the state reached moves `s`
example : parseNameAddrPVal HdrFrom ("xyz".toUTF8.data ++ "a <b<".toUTF8.data) 3 {} =
    shResNa 3 {} (parseNameAddrPVal HdrFrom "a <b<".toUTF8.data 0 {}) := by decide +kernel
example : (parseNameAddrPVal HdrFrom "a <b<".toUTF8.data 0 {}).2.1 = Err.badChar := by decide +kernel
example : parseNameAddrPVal HdrFrom ("xyz".toUTF8.data ++ "a <b<".toUTF8.data) 3 {} ≠
    shRes 3 (shNa 3) (parseNameAddrPVal HdrFrom "a <b<".toUTF8.data 0 {}) := by decide +kernel


-- "a ;x=1" runs out of bytes; resumed on "a ;x=1;tag=z\r\nX" after 3 junk bytes with the moved object
example :
    let r1 := parseNameAddrPVal HdrFrom "a ;x=1".toUTF8.data 0 {}
    r1.2.1 = Err.moreBytes ∧
    parseNameAddrPVal HdrFrom ("xyz".toUTF8.data ++ "a ;x=1;tag=z\r\nX".toUTF8.data) (3 + r1.1) (shNa 3 r1.2.2) =
      shRes 3 (shNa 3) (parseNameAddrPVal HdrFrom "a ;x=1;tag=z\r\nX".toUTF8.data r1.1 r1.2.2) ∧
    (parseNameAddrPVal HdrFrom "a ;x=1;tag=z\r\nX".toUTF8.data r1.1 r1.2.2).2.1 = Err.ok := by decide +kernel


end Sipsp
