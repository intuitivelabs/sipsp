/-
  Sipsp.Proofs.ShiftParams — position independence (property C11) of SkipQuoted, ParseTokenParam, ParseAllURIParams and
  ParseAllURIHdrs (every flag combination incl. `POptInputEndF` / `POptTokSpTermF`, no bound but the 16-bit limit), and
  the C17 decomposition under every chunk schedule (C17 + C02).

  The translation `shTp k p` of a token-parameter object (state and panic flag unchanged):
  * `all`, `name` are moved in every state in which the parser has set them (`spTpLive`: all but the initial and the
    error state).  This cannot be a "zero = unset" convention: a name that starts at buffer offset 0 and has not been
    extended yet is the field ⟨0, 0⟩ (`PField.set i i` is an EMPTY field at a real position).  In the initial / error
    state the two fields are dead values: the zero field stays zero, anything else is moved (`shO`).
  * `val`: `Offs = 0` means "no value" (`shP`): unchanged then, moved otherwise.  Unambiguous because a value never
    starts at buffer offset 0 (invariant `SpTpPos`, kept by every continuing step and at every MoreBytes exit).
  The lists (`shPl`, `shHl`) translate every slot and the scratch element with `shTp k`; both are instances
  (`shPlSlots`, `shHlSlots`) of the shift theorem of the element loop `slotLoop` (SlotLoop).  The token-parameter
  machine carries the start offset of the call, which is moved too: `runLoop_shift2` with two machines.

  ParseTokenParam: every verdict up to `spTpNz`, which blanks `all` / `name` of an object in the ERROR state
  (`parseTokenParam_shiftN`); the plain equation after OK / MoreValues / end of header / MoreBytes
  (`parseTokenParam_shift`).  The lists: plain equations for every verdict (on an error the wrapper zeroes the element
  in progress), for new, reset and suspended lists (`SpPlEntry` / `SpHlEntry`).
  C17: for every growing schedule of prefixes (without `POptInputEndF`, the hypothesis of the C02 schedule theorems)
  the chain of resumed calls returns what ONE call on the last buffer returns, hence its C17 decomposition.

  NOT proved / not true:
  * the plain equation is FALSE after an error verdict for any translation that is a function of the returned object
    alone: `a\x01` and `\x01` at offset 0 both return state error with `all = name = ⟨0,0⟩`, while behind `xyz` the
    first returns `all = name = ⟨3,0⟩` (name started, not yet extended) and the second ⟨0,0⟩ (tests below).  Go callers
    do not read the fields after an error and the list wrappers zero the element.
  * objects that violate `SpTpPos` (hand-made: e.g. state "value" with `val.Offs = 0`) are not covered.
-/
import Sipsp.Proofs.ShiftNA
import Sipsp.Proofs.SafeRest
import Sipsp.Proofs.ParamSpec

namespace Sipsp

/-- the states in which the parser has set `all` and `name`: all but the initial and the error state -/
def spTpLive : TPState → Bool
  | .init | .err => false
  | _ => true

/-- the token-parameter object moved by `k` (see the file header) -/
def shTp (k : Nat) (p : PTokParam) : PTokParam :=
  { p with all := if spTpLive p.state then shF k p.all else shO k p.all,
           name := if spTpLive p.state then shF k p.name else shO k p.name,
           val := shP k p.val }

/-- blank the dead fields `all` / `name` of an object in the error state (results are compared up to this) -/
def spTpNz (p : PTokParam) : PTokParam := if p.state = .err then { p with all := {}, name := {} } else p

theorem shTp_state (k : Nat) (p : PTokParam) : (shTp k p).state = p.state := rfl
theorem shTp_pnc (k : Nat) (p : PTokParam) : (shTp k p).pnc = p.pnc := rfl
theorem shTp_new (k : Nat) : shTp k {} = {} := rfl

theorem shTp_st (k : Nat) (p : PTokParam) (s : TPState) (h : spTpLive s = spTpLive p.state) :
    { shTp k p with state := s } = shTp k { p with state := s } := by
  simp only [shTp, h]

theorem shTp_st_err (k : Nat) (p : PTokParam) :
    spTpNz { shTp k p with state := .err } = spTpNz (shTp k { p with state := .err }) := by
  simp only [shTp, spTpNz, ↓reduceIte]

theorem shTp_sna (k : Nat) (p : PTokParam) (i : Nat) (s : TPState) (hs : spTpLive s = true) (h : k + i ≤ 65535) :
    { shTp k p with state := s, name := PField.set (k + i) (k + i), all := PField.set (k + i) (k + i) } =
      shTp k { p with state := s, name := PField.set i i, all := PField.set i i } := by
  simp only [shTp, hs, ↓reduceIte, set_shift k i i h]

/-! The next three are proved on an object taken apart: on a variable `p` the kernel would compare `p.extName e` with
`p` field by field to identify their states, which unrolls the `+ 65536` of `PField.extend` in unary. -/

theorem shTp_extName (k : Nat) (p : PTokParam) (e : Nat) (hl : spTpLive p.state = true) (h : k + e ≤ 65535) :
    (shTp k p).extName (k + e) = shTp k (p.extName e) := by
  obtain ⟨all, name, val, state, pnc⟩ := p
  simp only at hl
  simp only [shTp, hl, ↓reduceIte, PTokParam.extName, extend_shift k name e h, extendPanics_shift]

theorem shTp_extAll (k : Nat) (p : PTokParam) (e : Nat) (hl : spTpLive p.state = true) (h : k + e ≤ 65535) :
    (shTp k p).extAll (k + e) = shTp k (p.extAll e) := by
  obtain ⟨all, name, val, state, pnc⟩ := p
  simp only at hl
  simp only [shTp, hl, ↓reduceIte, PTokParam.extAll, extend_shift k all e h, extendPanics_shift]

theorem shTp_extVal (k : Nat) (p : PTokParam) (e : Nat) (h : k + e ≤ 65535) (h0 : p.val.offs ≠ 0) :
    (shTp k p).extVal (k + e) = shTp k (p.extVal e) := by
  obtain ⟨all, name, val, state, pnc⟩ := p
  simp only at h0
  simp only [shTp, PTokParam.extVal, shP_extend k val e h h0, shP_extendPanics]
  rfl

theorem shTp_setVal (k : Nat) (p : PTokParam) (i : Nat) (h : k + i ≤ 65535) (h1 : 1 ≤ i) :
    { shTp k p with val := PField.set (k + i) (k + i) } = shTp k { p with val := PField.set i i } := by
  have : shP k (PField.set i i) = shF k (PField.set i i) := by
    unfold shP; rw [if_neg]; unfold PField.set trunc16; simp only; omega
  simp only [shTp, this, set_shift k i i h]

/-- a value never starts at buffer offset 0: a value already started has `val.Offs ≥ 1` (`vo`), and in the state that
    is about to start one at the current position `i` (`fVal`) that position is `≥ 1` (`fv`) -/
structure SpTpPos (i : Nat) (p : PTokParam) : Prop where
  fv : p.state = .fVal → 1 ≤ i
  vo : p.state = .val ∨ p.state = .quotedVal → 1 ≤ p.val.offs

theorem spTpEOH_shift (k : Nat) (p : PTokParam) (n crl : Nat) :
    resN spTpNz (tpEOH (shTp k p) (k + n) crl) = resN spTpNz (shResD k (fun _ => shTp k) (tpEOH p n crl)) := by
  unfold tpEOH
  rw [shTp_state]
  cases hst : p.state <;> simp only [resN, shResD, Nat.add_assoc]
  all_goals first
    | rw [shTp_st k p _ (by rw [hst]; rfl)]
    | rw [shTp_st_err]

theorem spTp_extNA (k : Nat) (p : PTokParam) (i j : Nat) (hl : spTpLive p.state = true) (hij : i ≤ j)
    (hj : k + j ≤ 65535) :
    ((shTp k p).extName (k + i)).extAll (k + j) = shTp k ((p.extName i).extAll j) := by
  rw [shTp_extName k p i hl (by omega)]
  exact shTp_extAll k (p.extName i) j (by rw [PTokParam.extName_state]; exact hl) hj

theorem spTp_extVA (k : Nat) (p : PTokParam) (i : Nat) (hl : spTpLive p.state = true) (hv : 1 ≤ p.val.offs)
    (hj : k + i ≤ 65535) :
    ((shTp k p).extVal (k + i)).extAll (k + i) = shTp k ((p.extVal i).extAll i) := by
  rw [shTp_extVal k p i hj (by omega)]
  exact shTp_extAll k (p.extVal i) i (by rw [PTokParam.extVal_state]; exact hl) hj

theorem shTp_closeAt (k : Nat) (p : PTokParam) (i : Nat) (hP : SpTpPos i p) (hj : k + i ≤ 65535) :
    (shTp k p).closeAt (k + i) = shTp k (p.closeAt i) := by
  unfold PTokParam.closeAt
  rw [shTp_state]
  cases hst : p.state <;> simp only
  case name => exact spTp_extNA k p i i (by rw [hst]; rfl) (Nat.le_refl _) hj
  case val => exact spTp_extVA k p i (by rw [hst]; rfl) (hP.vo (Or.inl hst)) hj

theorem shTp_closeAt_st (k : Nat) (p : PTokParam) (i : Nat) (s : TPState) (hs : spTpLive s = spTpLive p.state)
    (hP : SpTpPos i p) (hj : k + i ≤ 65535) :
    { (shTp k p).closeAt (k + i) with state := s } = shTp k { p.closeAt i with state := s } := by
  rw [shTp_closeAt k p i hP hj]
  exact shTp_st k _ s (by rw [hs, PTokParam.closeAt_state])

/-- starting a value commutes with the translation (a value never starts at offset 0) -/
theorem shTp_valAt_st (k : Nat) (p : PTokParam) (i : Nat) (s : TPState) (hl : spTpLive p.state = true)
    (hs : spTpLive s = true) (h1 : 1 ≤ i) (hj : k + i ≤ 65535) :
    { (shTp k p).valAt (k + i) with state := s } = shTp k { p.valAt i with state := s } := by
  unfold PTokParam.valAt
  rw [shTp_setVal k p i hj h1, shTp_extAll k { p with val := PField.set i i } i hl hj]
  exact shTp_st k _ s (by rw [hs, PTokParam.extAll_state]; exact hl.symm)

theorem spLive_pvNext (s : TPState) : spTpLive (pvNext s) = spTpLive s := by cases s <;> rfl

theorem shTp_lwsUpd (k : Nat) (p : PTokParam) (i : Nat) (hP : SpTpPos i p) (hj : k + i ≤ 65535) :
    tpLwsUpd (k + i) p.state (shTp k p) = shTp k (tpLwsUpd i p.state p) := by
  rw [tpLwsUpd_eq i p, ← shTp_closeAt_st k p i _ (spLive_pvNext p.state) hP hj]
  exact tpLwsUpd_eq (k + i) (shTp k p)

theorem spTpMoreBytes_shift (pre t : Buf) (flags : Nat) (p : PTokParam) (i : Nat) (hfit : pre.size + t.size ≤ 65535)
    (hi : i ≤ t.size) (hP : SpTpPos i p) :
    resN spTpNz (tpMoreBytes (pre ++ t) flags (shTp pre.size p) (pre.size + i)) =
      resN spTpNz (shResD pre.size (fun _ => shTp pre.size) (tpMoreBytes t flags p i)) := by
  unfold tpMoreBytes
  rw [shTp_state, Array.size_append]
  split
  · cases hst : p.state <;> simp only
    case name =>
      rw [spTp_extNA pre.size p i i (by rw [hst]; rfl) (Nat.le_refl _) (by omega)]
      exact spTpEOH_shift _ _ _ _
    case val =>
      rw [spTp_extVA pre.size p i (by rw [hst]; rfl) (hP.vo (Or.inl hst)) (by omega)]
      exact spTpEOH_shift _ _ _ _
    all_goals first
      | exact spTpEOH_shift _ _ _ _
      | rfl
  · rfl

theorem spStepOfRes (k : Nat) (r' r : Nat × Err × PTokParam)
    (h : resN spTpNz r' = resN spTpNz (shResD k (fun _ => shTp k) r)) :
    stepN spTpNz (stepOfRes r') = stepN spTpNz (shStepD k (shTp k) (fun _ => shTp k) (stepOfRes r)) := by
  rcases r' with ⟨a, b, c⟩
  rcases r with ⟨a2, b2, c2⟩
  simp only [resN, shResD, Prod.mk.injEq] at h
  obtain ⟨rfl, rfl, h3⟩ := h
  simp only [stepOfRes, stepN, shStepD, h3]

theorem spTpLWS_shift (pre t : Buf) (flags i : Nat) (p : PTokParam) (upd upd' : PTokParam → PTokParam)
    (hfit : pre.size + t.size ≤ 65535) (hi : i ≤ t.size) (hP : SpTpPos i p)
    (hu : upd' (shTp pre.size p) = shTp pre.size (upd p)) :
    stepN spTpNz (tpLWS (pre ++ t) flags (pre.size + i) (shTp pre.size p) upd') =
      stepN spTpNz (shStepD pre.size (shTp pre.size) (fun _ => shTp pre.size) (tpLWS t flags i p upd)) := by
  unfold tpLWS
  rw [skipLWS_shift]
  rcases hq : skipLWS t i flags with ⟨n, crl, e⟩
  cases e <;> simp only [hu]
  case moreBytes => exact spStepOfRes _ _ _ (spTpMoreBytes_shift pre t flags p i hfit hi hP)
  case eoh => exact spStepOfRes _ _ _ (spTpEOH_shift _ _ _ _)
  all_goals rfl

theorem spStep_cont (k i : Nat) (X Y : PTokParam) (h : X = shTp k Y) :
    stepN spTpNz (.cont (k + i) X) = stepN spTpNz (shStepD k (shTp k) (fun _ => shTp k) (.cont i Y)) := by
  subst h; rfl

theorem spStep_done (k i : Nat) (e : Err) (X Y : PTokParam) (h : spTpNz X = spTpNz (shTp k Y)) :
    stepN spTpNz (.done (k + i) e X) = stepN spTpNz (shStepD k (shTp k) (fun _ => shTp k) (.done i e Y)) := by
  simp only [stepN, shStepD, h]

theorem spTpSpTermEq_shift (k o0 i : Nat) (p : PTokParam) (hl : spTpLive p.state = true) :
    stepN spTpNz (tpSpTermEq (k + o0) (k + i) (shTp k p)) =
      stepN spTpNz (shStepD k (shTp k) (fun _ => shTp k) (tpSpTermEq o0 i p)) := by
  unfold tpSpTermEq
  rw [shTp_st k p .fin (by rw [hl]; rfl)]
  by_cases h : i ≥ o0 + 1
  · rw [if_pos h, if_pos (by omega)]
    have : k + i - 1 = k + (i - 1) := by omega
    rw [this]; rfl
  · rw [if_neg h, if_neg (by omega)]; rfl

theorem spTpSpTermSep_shift (pre t : Buf) (o0 i : Nat) (p : PTokParam) (hl : spTpLive p.state = true) :
    stepN spTpNz (tpSpTermSep (pre ++ t) (pre.size + o0) (pre.size + i) (shTp pre.size p)) =
      stepN spTpNz (shStepD pre.size (shTp pre.size) (fun _ => shTp pre.size) (tpSpTermSep t o0 i p)) := by
  unfold tpSpTermSep
  simp only
  rw [shTp_st pre.size p .fin (by rw [hl]; rfl)]
  by_cases h : i ≥ o0 + 1
  · rw [if_pos h, if_pos (by omega)]
    have e1 : pre.size + i - 1 = pre.size + (i - 1) := by omega
    rw [e1, get?_shift]
    cases t[i - 1]? with
    | none => rfl
    | some c => simp only; split <;> rfl
  · rw [if_neg h, if_neg (by omega)]; rfl

theorem spSqStep_shift (pre t : Buf) (i : Nat) (c : UInt8) :
    sqStep (pre ++ t) (pre.size + i) c () = shStep pre.size id (sqStep t i c ()) := by
  unfold sqStep
  rw [get?_shift1]
  by_cases h1 : (c == 34) = true
  · simp only [h1, ↓reduceIte, shStep]; rfl
  · simp only [h1, Bool.false_eq_true, ↓reduceIte]
    by_cases h2 : (c == 92) = true
    · simp only [h2, ↓reduceIte]
      cases t[i + 1]? with
      | none => rfl
      | some c1 =>
        simp only
        split
        · rfl
        · simp only [shStep, id]; rw [Nat.add_assoc]
    · simp only [h2, Bool.false_eq_true, ↓reduceIte]
      split
      · rfl
      · split
        · rfl
        · simp only [shStep, id]; rw [Nat.add_assoc]

/-- [C11] SkipQuoted is position independent -/
theorem skipQuoted_shift (pre t : Buf) (i : Nat) :
    skipQuoted (pre ++ t) (pre.size + i) = (pre.size + (skipQuoted t i).1, (skipQuoted t i).2) := by
  unfold skipQuoted
  have := runLoop_shift sqMachine pre t id (fun _ _ => True) (fun _ _ _ _ _ _ _ _ _ => trivial)
    (fun i c st _ _ => spSqStep_shift pre t i c) (fun i st _ _ => rfl) i () trivial
  simp only [id] at this
  rw [this]
  rfl

/-- every loop iteration commutes with the translation (finishing iterations up to `spTpNz`) -/
theorem spTpStep_shift (flags o0 : Nat) (pre t : Buf) (i : Nat) (c : UInt8) (p : PTokParam) (hb : t[i]? = some c)
    (hfit : pre.size + t.size ≤ 65535) (hP : SpTpPos i p) :
    stepN spTpNz (tpStep flags (pre.size + o0) (pre ++ t) (pre.size + i) c (shTp pre.size p)) =
      stepN spTpNz (shStepD pre.size (shTp pre.size) (fun _ => shTp pre.size) (tpStep flags o0 t i c p)) := by
  have hlt := get?_lt hb
  have hk : pre.size + i ≤ 65535 := by omega
  rw [tpStep_eq, tpStep_eq, shTp_state]
  have hw := tpAct_when flags c p.state
  generalize tpAct flags c p.state = a at hw
  cases a <;> simp only [tpDo, Nat.add_assoc]
  case lws => exact spTpLWS_shift pre t flags i p _ _ hfit (Nat.le_of_lt hlt) hP (shTp_lwsUpd _ p i hP hk)
  case stay => exact spStep_cont _ _ _ _ rfl
  case first => exact spStep_cont _ _ _ _ (shTp_sna _ _ _ .name rfl hk)
  case next =>
    have hst : p.state = .fNxt := hw
    exact spStep_done _ _ _ _ _ (congrArg spTpNz (shTp_st _ _ _ (by rw [hst]; rfl)))
  case eqName =>
    have hst : p.state = .name := hw
    refine spStep_cont _ _ _ _ ?_
    rw [spTp_extNA _ p i (i + 1) (by rw [hst]; rfl) (Nat.le_succ i) (by omega)]
    exact shTp_st _ _ _ (by rw [PTokParam.extAll_state, PTokParam.extName_state, hst]; rfl)
  case eqF =>
    have hst : p.state = .fEq := hw
    exact spStep_cont _ _ _ _ (shTp_st _ _ _ (by rw [hst]; rfl))
  case sep =>
    have hl : spTpLive .fNxt = spTpLive p.state := by
      have hw' : p.state = .name ∨ p.state = .fEq ∨ p.state = .val ∨ p.state = .fSep := hw
      rcases hw' with h | h | h | h <;> rw [h] <;> rfl
    exact spStep_cont _ _ _ _ (shTp_closeAt_st _ p i _ hl hP hk)
  case term =>
    have hl : spTpLive .fin = spTpLive p.state := by
      have hw' : p.state = .fNxt ∨ p.state = .name ∨ p.state = .fEq ∨ p.state = .val ∨ p.state = .fSep := hw
      rcases hw' with h | h | h | h | h <;> rw [h] <;> rfl
    exact spStep_done _ _ _ _ _ (congrArg spTpNz (shTp_closeAt_st _ p i _ hl hP hk))
  case sepV =>
    have hst : p.state = .fVal := hw
    exact spStep_cont _ _ _ _ (shTp_valAt_st _ p i _ (by rw [hst]; rfl) rfl (hP.fv hst) hk)
  case quote =>
    have hst : p.state = .fVal := hw
    exact spStep_cont _ _ _ _ (shTp_valAt_st _ p i _ (by rw [hst]; rfl) rfl (hP.fv hst) hk)
  case startVal =>
    have hst : p.state = .fVal := hw
    exact spStep_cont _ _ _ _ (shTp_valAt_st _ p i _ (by rw [hst]; rfl) rfl (hP.fv hst) hk)
  case termV =>
    have hst : p.state = .fVal := hw
    refine spStep_done _ _ _ _ _ (congrArg spTpNz ?_)
    have := shTp_st pre.size { p with val := PField.set i i } .fin (by rw [hst]; rfl)
    rw [← shTp_setVal pre.size p i hk (hP.fv hst)] at this
    exact this
  case bad => exact spStep_done _ _ _ _ _ (shTp_st_err _ _)
  case spEq =>
    have hst : p.state = .fEq := hw
    exact spTpSpTermEq_shift _ _ _ _ (by rw [hst]; rfl)
  case spSep =>
    have hst : p.state = .fSep := hw
    exact spTpSpTermSep_shift _ _ _ _ _ (by rw [hst]; rfl)
  case quoted =>
    have hst : p.state = .quotedVal := hw
    have hv := hP.vo (Or.inr hst)
    rw [skipQuoted_shift]
    rcases hq : skipQuoted t i with ⟨n, e⟩
    have h2 := skipQuoted_range t i (by omega) hq
    rcases skipQuoted_verdicts t i hq with rfl | rfl | ⟨rfl, _⟩ <;> simp only
    · exact spStepOfRes _ _ _ (spTpMoreBytes_shift pre t flags p n hfit h2.2
        ⟨(fun h => by rw [hst] at h; cases h), fun _ => hv⟩)
    · rfl
    · rw [spTp_extVA pre.size p n (by rw [hst]; rfl) hv (by omega)]
      exact spStep_cont _ _ _ _ (shTp_st _ _ _ (by rw [PTokParam.extAll_state, PTokParam.extVal_state, hst]; rfl))

theorem SpTpPos.mono {i j : Nat} {p : PTokParam} (h : SpTpPos i p) (hij : i ≤ j) : SpTpPos j p :=
  ⟨fun hs => by have := h.fv hs; omega, h.vo⟩

theorem SpTpPos.new (i : Nat) : SpTpPos i {} :=
  ⟨(fun h => nomatch h), fun h => h.elim (fun h => nomatch h) (fun h => nomatch h)⟩

def Err.isMoreBytes : Err → Bool
  | .moreBytes => true
  | _ => false

/-- what a finishing step guarantees for the position invariant: a MoreBytes exit returns a legitimate object -/
def SpTpPosT (o : Nat) (e : Err) (q : PTokParam) : Prop := Err.isMoreBytes e = false ∨ SpTpPos o q

theorem spTpEOH_posT (p : PTokParam) (n crl : Nat) :
    SpTpPosT (tpEOH p n crl).1 (tpEOH p n crl).2.1 (tpEOH p n crl).2.2 :=
  Or.inl (by
    have := (tpEOH_facts p n crl).2.1
    cases h : (tpEOH p n crl).2.1 <;> first | rfl | exact absurd h this)

theorem spTpMoreBytes_posT (b : Buf) (flags : Nat) (p : PTokParam) (i : Nat) (hP : SpTpPos i p) :
    SpTpPosT (tpMoreBytes b flags p i).1 (tpMoreBytes b flags p i).2.1 (tpMoreBytes b flags p i).2.2 := by
  rcases tpMoreBytes_cases b flags p i with h | ⟨_, h⟩ | h <;> rw [h]
  · exact Or.inr hP
  · exact Or.inl rfl
  · exact spTpEOH_posT _ _ _

theorem spTpLWS_pos (b : Buf) (flags i : Nat) (p : PTokParam) (upd : PTokParam → PTokParam) (hP : SpTpPos i p)
    (hu : ∀ n, i ≤ n → SpTpPos n (upd p)) :
    StepAll2 SpTpPos SpTpPosT (tpLWS b flags i p upd) := by
  rcases tpLWS_cases b flags i p upd with ⟨n, crl, hsk, h⟩ | ⟨n, crl, hsk, h⟩ | ⟨n, crl, hsk, h⟩ <;> rw [h]
  · exact spTpMoreBytes_posT b flags p i hP
  · exact hu n (skipLWS_range b i flags hsk).1
  · exact spTpEOH_posT _ _ _

/-- the position invariant for an object whose state was just set to `s` -/
theorem SpTpPos.of_state {n : Nat} {q : PTokParam} (s : TPState) (hs : q.state = s)
    (h1 : s = .fVal → 1 ≤ n) (h2 : s = .val ∨ s = .quotedVal → 1 ≤ q.val.offs) : SpTpPos n q := by
  subst hs; exact ⟨h1, h2⟩

theorem spTpStep_pos (flags o0 : Nat) (b : Buf) (i : Nat) (c : UInt8) (p : PTokParam) (hb : b[i]? = some c)
    (hfit : b.size ≤ 65535) (hP : SpTpPos i p) :
    StepAll2 SpTpPos SpTpPosT (tpStep flags o0 b i c p) := by
  have hlt := get?_lt hb
  have hvo : ∀ s, s = TPState.val ∨ s = TPState.quotedVal → p.state = .fVal → 1 ≤ (p.valAt i).val.offs := by
    intro s _ hst
    have := hP.fv hst
    rw [PTokParam.valAt_val]
    unfold PField.set trunc16; simp only; omega
  obtain ⟨a, hw, ha⟩ := tpStep_act flags o0 b i c p
  rw [ha]
  cases a
  case lws =>
    refine spTpLWS_pos b flags i p _ hP (fun n hn => ?_)
    rw [tpLwsUpd_eq]
    by_cases h : p.state = .name ∨ p.state = .val
    · exact .of_state (pvNext p.state) rfl (by rcases h with h | h <;> rw [h] <;> intro h' <;> cases h')
        (by rcases h with h | h <;> rw [h] <;> intro h' <;> rcases h' with h' | h' <;> cases h')
    · have e1 : pvNext p.state = p.state := by
        cases hst : p.state <;> first | rfl | exact absurd (Or.inl hst) h | exact absurd (Or.inr hst) h
      have e2 : p.closeAt i = p := by
        unfold PTokParam.closeAt
        cases hst : p.state <;> first | rfl | exact absurd (Or.inl hst) h | exact absurd (Or.inr hst) h
      rw [e1, e2]; exact hP.mono hn
  case quoted =>
    rcases tpDo_quoted flags o0 b i p hw with ⟨n, hq, h⟩ | ⟨n, hq, h⟩ | ⟨n, hq, h⟩ <;> rw [h]
    · exact Or.inr (hP.mono (skipQuoted_range b i (by omega) hq).1)
    · exact .of_state .fSep rfl (fun h => by cases h) (fun h => by rcases h with h | h <;> cases h)
    · exact Or.inl rfl
  case stay => exact hP.mono (Nat.le_succ i)
  case first => exact .of_state .name rfl (fun h => by cases h) (fun h => by rcases h with h | h <;> cases h)
  case eqName =>
    exact .of_state .fVal rfl (fun _ => Nat.succ_le_succ (Nat.zero_le i)) (fun h => by rcases h with h | h <;> cases h)
  case eqF =>
    exact .of_state .fVal rfl (fun _ => Nat.succ_le_succ (Nat.zero_le i)) (fun h => by rcases h with h | h <;> cases h)
  case sep => exact .of_state .fNxt rfl (fun h => by cases h) (fun h => by rcases h with h | h <;> cases h)
  case sepV => exact .of_state .fNxt rfl (fun h => by cases h) (fun h => by rcases h with h | h <;> cases h)
  case quote => exact .of_state .quotedVal rfl (fun h => by cases h) (fun h => hvo _ h hw)
  case startVal => exact .of_state .val rfl (fun h => by cases h) (fun h => hvo _ h hw)
  case spEq => show StepAll2 _ _ (tpSpTermEq o0 i p); unfold tpSpTermEq; split <;> exact Or.inl rfl
  case spSep =>
    show StepAll2 _ _ (tpSpTermSep b o0 i p)
    unfold tpSpTermSep; simp only; repeat' split
    all_goals exact Or.inl rfl
  all_goals exact Or.inl rfl

/-! ### a verdict other than an error never leaves the object in the error state -/

/-- the verdicts after which the object is meaningful: OK, MoreValues, end of header, MoreBytes -/
def spGoodV : Err → Bool
  | .ok | .moreValues | .eoh | .moreBytes => true
  | _ => false

def SpNoErrT (_ : Nat) (e : Err) (q : PTokParam) : Prop := spGoodV e = false ∨ q.state ≠ .err

theorem spTpEOH_noerr (p : PTokParam) (n crl : Nat) (hS : p.state ≠ .err) :
    SpNoErrT (tpEOH p n crl).1 (tpEOH p n crl).2.1 (tpEOH p n crl).2.2 := by
  unfold tpEOH; split <;> first | exact Or.inl rfl | exact Or.inr (fun h => by cases h) | exact Or.inr hS

theorem spTpMoreBytes_noerr (b : Buf) (flags : Nat) (p : PTokParam) (i : Nat) (hS : p.state ≠ .err) :
    SpNoErrT (tpMoreBytes b flags p i).1 (tpMoreBytes b flags p i).2.1 (tpMoreBytes b flags p i).2.2 := by
  rcases tpMoreBytes_cases b flags p i with h | ⟨_, h⟩ | h <;> rw [h]
  · exact Or.inr hS
  · exact Or.inl rfl
  · exact spTpEOH_noerr _ _ _ (by rw [PTokParam.closeAt_state]; exact hS)

theorem spTpStep_noerr (flags o0 : Nat) (b : Buf) (i : Nat) (c : UInt8) (p : PTokParam) (hS : p.state ≠ .err) :
    StepAll2 (fun _ q => q.state ≠ .err) SpNoErrT (tpStep flags o0 b i c p) := by
  obtain ⟨a, hw, ha⟩ := tpStep_act flags o0 b i c p
  rw [ha]
  cases a
  case lws =>
    have hu : (tpLwsUpd i p.state p).state ≠ .err := by
      rw [tpLwsUpd_eq]
      show pvNext p.state ≠ .err
      cases hst : p.state <;> first | exact absurd hst hS | exact fun h => by cases h
    show StepAll2 _ _ (tpLWS b flags i p _)
    rcases tpLWS_cases b flags i p (tpLwsUpd i p.state) with ⟨n, crl, hsk, h⟩ | ⟨n, crl, hsk, h⟩ | ⟨n, crl, hsk, h⟩ <;>
      rw [h]
    · exact spTpMoreBytes_noerr b flags p i hS
    · exact hu
    · exact spTpEOH_noerr _ _ _ hu
  case quoted =>
    rcases tpDo_quoted flags o0 b i p hw with ⟨n, hq, h⟩ | ⟨n, hq, h⟩ | ⟨n, hq, h⟩ <;> rw [h]
    · exact Or.inr hS
    · exact fun h => by cases h
    · exact Or.inl rfl
  case stay => exact hS
  case spEq => show StepAll2 _ _ (tpSpTermEq o0 i p); unfold tpSpTermEq; split <;> exact Or.inr (fun h => by cases h)
  case spSep =>
    show StepAll2 _ _ (tpSpTermSep b o0 i p)
    unfold tpSpTermSep; simp only; repeat' split
    all_goals exact Or.inr (fun h => by cases h)
  case bad => exact Or.inl rfl
  case next => exact Or.inr (fun h => by cases h)
  case term => exact Or.inr (fun h => by cases h)
  case termV => exact Or.inr (fun h => by cases h)
  all_goals exact fun h => by cases h

/-- legitimate argument of ParseTokenParam at offset `o` for the shift theorem -/
def SpTpEntry (o : Nat) (p : PTokParam) : Prop := SrTpIn o p ∧ SpTpPos o p

theorem SpTpEntry.new (o : Nat) : SpTpEntry o {} := ⟨SrTpIn.new o, SpTpPos.new o⟩

/-- [C11] ParseTokenParam is position independent, every verdict, up to `spTpNz` (after an error verdict `all` /
    `name` are not compared) -/
theorem parseTokenParam_shiftN (pre t : Buf) (o : Nat) (p : PTokParam) (flags : Nat)
    (hfit : pre.size + t.size ≤ 65535) (ho : o ≤ t.size) (hE : SpTpEntry o p) :
    resN spTpNz (parseTokenParam (pre ++ t) (pre.size + o) (shTp pre.size p) flags) =
      resN spTpNz (shRes pre.size (shTp pre.size) (parseTokenParam t o p flags)) := by
  unfold parseTokenParam
  rw [shTp_state]
  split
  · rfl
  · exact smResRel_iff_resN.mp <| runLoop_shift2 (tpMachine flags o) (tpMachine flags (pre.size + o)) pre t
      (shTp pre.size) (fun _ s1 s => spTpNz s1 = spTpNz (shTp pre.size s)) (fun i q => SrTpSafe t o i q ∧ SpTpPos i q)
      (fun i c q i' q' hb hI hs hlt => by
        have h1 := srTpStep_safe flags o t i c q hb hI.1
        have h2 := spTpStep_pos flags o t i c q hb (by omega) hI.2
        change tpStep flags o t i c q = _ at hs
        rw [hs] at h1 h2
        exact ⟨h1, h2⟩)
      (fun i c q hb hI => smStepRel_of_stepN (spTpStep_shift flags o pre t i c q hb hfit hI.2))
      (fun i q _ hI => smResRel_iff_resN.mpr (spTpMoreBytes_shift pre t flags q i hfit hI.1.hi hI.2))
      (fun i c q i' q' hb _ hs hn => absurd (tp_progress flags o t i c q i' q' hb hs) hn)
      o p ⟨⟨Nat.le_refl _, ho, hE.1⟩, hE.2⟩

theorem spTpNz_id {p : PTokParam} (h : p.state ≠ .err) : spTpNz p = p := by
  unfold spTpNz; rw [if_neg h]

theorem spTpNz_state (p : PTokParam) : (spTpNz p).state = p.state := by
  unfold spTpNz; split <;> rfl

theorem parseTokenParam_good_state (b : Buf) (o : Nat) (p : PTokParam) (flags : Nat) (hs : p.state ≠ .err)
    (hg : spGoodV (parseTokenParam b o p flags).2.1 = true) : (parseTokenParam b o p flags).2.2.state ≠ .err := by
  have key : SpNoErrT (parseTokenParam b o p flags).1 (parseTokenParam b o p flags).2.1
      (parseTokenParam b o p flags).2.2 := by
    unfold parseTokenParam
    split
    · exact Or.inr hs
    · exact runLoop_safe2 (tpMachine flags o) b (fun _ q => q.state ≠ .err) SpNoErrT (tp_progress flags o)
        (fun i c st _ hS => spTpStep_noerr flags o b i c st hS)
        (fun i st hS => spTpMoreBytes_noerr b flags st i hS) o p hs
  rcases key with h | h
  · rw [hg] at h; cases h
  · exact h

theorem parseTokenParam_shift_of_state (pre t : Buf) (o : Nat) (p : PTokParam) (flags : Nat)
    (hfit : pre.size + t.size ≤ 65535) (ho : o ≤ t.size) (hE : SpTpEntry o p)
    (hne : (parseTokenParam t o p flags).2.2.state ≠ .err) :
    parseTokenParam (pre ++ t) (pre.size + o) (shTp pre.size p) flags =
      shRes pre.size (shTp pre.size) (parseTokenParam t o p flags) := by
  have h := parseTokenParam_shiftN pre t o p flags hfit ho hE
  rcases hr : parseTokenParam t o p flags with ⟨o1, e1, p1⟩
  rcases hr' : parseTokenParam (pre ++ t) (pre.size + o) (shTp pre.size p) flags with ⟨o2, e2, p2⟩
  rw [hr] at h hne
  rw [hr'] at h
  simp only [resN, shRes, Prod.mk.injEq] at h
  obtain ⟨h1, h2, h3⟩ := h
  have hs1 : (shTp pre.size p1).state ≠ .err := hne
  rw [spTpNz_id hs1] at h3
  have hs2 : p2.state ≠ .err := by
    rw [← spTpNz_state p2, h3]; exact hs1
  rw [spTpNz_id hs2] at h3
  simp only [shRes, h1, h2, h3]

/-- [C11] ParseTokenParam is position independent: the plain equation after OK / MoreValues / end of header / MoreBytes -/
theorem parseTokenParam_shift (pre t : Buf) (o : Nat) (p : PTokParam) (flags : Nat)
    (hfit : pre.size + t.size ≤ 65535) (ho : o ≤ t.size) (hE : SpTpEntry o p) (hs : p.state ≠ .err)
    (hg : spGoodV (parseTokenParam t o p flags).2.1 = true) :
    parseTokenParam (pre ++ t) (pre.size + o) (shTp pre.size p) flags =
      shRes pre.size (shTp pre.size) (parseTokenParam t o p flags) :=
  parseTokenParam_shift_of_state pre t o p flags hfit ho hE (parseTokenParam_good_state t o p flags hs hg)

/-- [C11] ParseTokenParam is position independent from a new object, at any start offset -/
theorem parseTokenParam_shift_new (pre t : Buf) (o : Nat) (flags : Nat)
    (hfit : pre.size + t.size ≤ 65535) (ho : o ≤ t.size) (hg : spGoodV (parseTokenParam t o {} flags).2.1 = true) :
    parseTokenParam (pre ++ t) (pre.size + o) {} flags =
      shRes pre.size (shTp pre.size) (parseTokenParam t o {} flags) :=
  parseTokenParam_shift pre t o {} flags hfit ho (SpTpEntry.new o) (fun h => nomatch h) hg

/-- [C11] every verdict, errors included: offset moved, same verdict, state and panic flag; value field moved
    unless absent -/
theorem parseTokenParam_shift_any (pre t : Buf) (o : Nat) (p : PTokParam) (flags : Nat)
    (hfit : pre.size + t.size ≤ 65535) (ho : o ≤ t.size) (hE : SpTpEntry o p) :
    (parseTokenParam (pre ++ t) (pre.size + o) (shTp pre.size p) flags).1 =
      pre.size + (parseTokenParam t o p flags).1 ∧
    (parseTokenParam (pre ++ t) (pre.size + o) (shTp pre.size p) flags).2.1 = (parseTokenParam t o p flags).2.1 ∧
    (parseTokenParam (pre ++ t) (pre.size + o) (shTp pre.size p) flags).2.2.state =
      (parseTokenParam t o p flags).2.2.state ∧
    (parseTokenParam (pre ++ t) (pre.size + o) (shTp pre.size p) flags).2.2.pnc =
      (parseTokenParam t o p flags).2.2.pnc ∧
    (parseTokenParam (pre ++ t) (pre.size + o) (shTp pre.size p) flags).2.2.val =
      shP pre.size (parseTokenParam t o p flags).2.2.val := by
  have h := parseTokenParam_shiftN pre t o p flags hfit ho hE
  rcases hr : parseTokenParam t o p flags with ⟨o1, e1, p1⟩
  rcases hr' : parseTokenParam (pre ++ t) (pre.size + o) (shTp pre.size p) flags with ⟨o2, e2, p2⟩
  rw [hr, hr'] at h
  simp only [resN, shRes, Prod.mk.injEq] at h
  obtain ⟨h1, h2, h3⟩ := h
  refine ⟨h1, h2, ?_, ?_, ?_⟩
  · have := congrArg PTokParam.state h3
    rw [spTpNz_state, spTpNz_state] at this; exact this
  · have := congrArg PTokParam.pnc h3
    have e : ∀ q : PTokParam, (spTpNz q).pnc = q.pnc := by intro q; unfold spTpNz; split <;> rfl
    rw [e, e] at this; exact this
  · have := congrArg PTokParam.val h3
    have e : ∀ q : PTokParam, (spTpNz q).val = q.val := by intro q; unfold spTpNz; split <;> rfl
    rw [e, e] at this; exact this

/-- [C11] after MoreBytes the returned object is a legitimate argument at the returned offset: the theorems apply
    to the resumed call -/
theorem parseTokenParam_shiftEntry (b : Buf) (o : Nat) (p : PTokParam) (flags : Nat) (hfit : b.size ≤ 65535)
    (ho : o ≤ b.size) (hE : SpTpEntry o p) (hm : (parseTokenParam b o p flags).2.1 = .moreBytes) :
    SpTpEntry (parseTokenParam b o p flags).1 (parseTokenParam b o p flags).2.2 := by
  have h1 := (parseTokenParam_safe b o p flags ho hE.1).tight (Or.inl (by rw [hm]; decide))
  have key : SpTpPosT (parseTokenParam b o p flags).1 (parseTokenParam b o p flags).2.1
      (parseTokenParam b o p flags).2.2 := by
    unfold parseTokenParam
    split
    · exact Or.inl rfl
    · exact runLoop_safe2 (tpMachine flags o) b SpTpPos SpTpPosT (tp_progress flags o)
        (fun i c st hb hS => spTpStep_pos flags o b i c st hb hfit hS)
        (fun i st hS => spTpMoreBytes_posT b flags st i hS) o p hE.2
  rcases key with h | h
  · rw [hm] at h; cases h
  · exact ⟨h1, h⟩

section
variable {L ε : Type}

def shSlRes (sh : Nat → L → L) (k : Nat) (r : Nat × Nat × Err × L) : Nat × Nat × Err × L :=
  (k + r.1, r.2.1, r.2.2.1, sh k r.2.2.2)

/-- what the shift theorem of the element loop uses of a list type: the translation of the list (`sh`) and of its
    elements (`shE`) commutes with the operations of the loop, and `Entry` (legitimate lists) gives a legitimate
    current token-parameter object and is kept where the loop goes on or suspends -/
structure ShSlots (O : SlotOps L ε) (sh : Nat → L → L) (shE : Nat → ε → ε) (Entry : Nat → L → Prop) : Prop where
  cur : ∀ k l, O.cur (sh k l) = shE k (O.cur l)
  tok : ∀ k p, O.tok (shE k p) = shTp k (O.tok p)
  setCur : ∀ k l p, O.setCur (sh k l) (shE k p) = sh k (O.setCur l p)
  next : ∀ k l x, O.next (sh k l) (shE k x) = sh k (O.next l x)
  panic : ∀ k l, O.panic (sh k l) = sh k (O.panic l)
  withTok : ∀ k p tp, O.withTok (shE k p) (shTp k tp) = shE k (O.withTok p tp)
  zero : ∀ k, shE k O.zero = O.zero
  fin : ∀ (pre t : Buf) tp, SrTpIn t.size tp → pre.size + t.size ≤ 65535 →
    O.fin (pre ++ t) (shTp pre.size tp) = (O.fin t tp).map (shE pre.size)
  e_in : ∀ {o l}, Entry o l → SrTpIn o (O.tok (O.cur l))
  e_pos : ∀ {o l}, Entry o l → SpTpPos o (O.tok (O.cur l))
  e_ne : ∀ {o l}, Entry o l → (O.tok (O.cur l)).state ≠ .err
  e_next : ∀ {o n l b tp x}, Entry o l → o ≤ n → SrTpIn n tp → O.fin b tp = some x → Entry n (O.next l x)
  e_more : ∀ {o n l tp}, Entry o l → o ≤ n → SrTpIn n tp → SpTpPos n tp → tp.state ≠ .err →
    Entry n (O.setCur l (O.withTok (O.cur l) tp))

variable {O : SlotOps L ε} {sh : Nat → L → L} {shE : Nat → ε → ε} {Entry : Nat → L → Prop}

theorem slotLoop_shift (hS : ShSlots O sh shE Entry) (pre t : Buf) (flags : Nat) (hfit : pre.size + t.size ≤ 65535) :
    ∀ (offs : Nat) (l : L) (vNo : Nat), offs ≤ t.size → Entry offs l →
      slotLoop O (pre ++ t) (pre.size + offs) (sh pre.size l) flags vNo =
        shSlRes sh pre.size (slotLoop O t offs l flags vNo) := by
  have hcur : ∀ l, O.tok (O.cur (sh pre.size l)) = shTp pre.size (O.tok (O.cur l)) := fun l => by rw [hS.cur, hS.tok]
  -- a call that does not fail: the moved call
  have good : ∀ {offs l next e tp}, offs ≤ t.size → Entry offs l →
      parseTokenParam t offs (O.tok (O.cur l)) flags = (next, e, tp) → spGoodV e = true →
      parseTokenParam (pre ++ t) (pre.size + offs) (O.tok (O.cur (sh pre.size l))) flags =
        (pre.size + next, e, shTp pre.size tp) := by
    intro offs l next e tp ho hE hp hg
    have hx := parseTokenParam_shift pre t offs _ flags hfit ho ⟨hS.e_in hE, hS.e_pos hE⟩ (hS.e_ne hE)
      (by rw [hp]; exact hg)
    rw [hp] at hx; rw [hcur]; exact hx
  have hout : ∀ {offs l next e tp}, offs ≤ t.size → Entry offs l →
      parseTokenParam t offs (O.tok (O.cur l)) flags = (next, e, tp) → SrTpT t flags offs next e tp := by
    intro offs l next e tp ho hE hp
    have := parseTokenParam_safe t offs _ flags ho (hS.e_in hE)
    rw [hp] at this; exact this
  have hfin : ∀ {offs l next e tp}, offs ≤ t.size → Entry offs l →
      parseTokenParam t offs (O.tok (O.cur l)) flags = (next, e, tp) →
      O.fin (pre ++ t) (shTp pre.size tp) = (O.fin t tp).map (shE pre.size) :=
    fun ho hE hp => hS.fin pre t _ (hout ho hE hp).out hfit
  -- the guard of the recursive call is the same in both runs
  have guard : ∀ offs next l x, (pre.size + next ≤ (pre ++ t).size ∧ (pre.size + offs < pre.size + next ∨
      (pre.size + offs = pre.size + next ∧ (O.tok (O.cur (sh pre.size l))).state = .fNxt ∧
        (O.tok (O.cur (O.next (sh pre.size l) (shE pre.size x)))).state ≠ .fNxt))) ↔
      (next ≤ t.size ∧ (offs < next ∨ (offs = next ∧ (O.tok (O.cur l)).state = .fNxt ∧
        (O.tok (O.cur (O.next l x))).state ≠ .fNxt))) := by
    intro offs next l x
    rw [hS.next, hcur, hcur, Array.size_append]
    show (_ ∧ (_ ∨ (_ ∧ (O.tok (O.cur l)).state = .fNxt ∧ (O.tok (O.cur (O.next l x))).state ≠ .fNxt))) ↔ _
    constructor
    · rintro ⟨h1, h2⟩
      exact ⟨by omega, h2.elim (fun h => Or.inl (by omega)) (fun h => Or.inr ⟨by omega, h.2⟩)⟩
    · rintro ⟨h1, h2⟩
      exact ⟨by omega, h2.elim (fun h => Or.inl (by omega)) (fun h => Or.inr ⟨by omega, h.2⟩)⟩
  refine slotLoop_cases O t flags (fun offs l vNo r => offs ≤ t.size → Entry offs l →
    slotLoop O (pre ++ t) (pre.size + offs) (sh pre.size l) flags vNo = shSlRes sh pre.size r)
    (more := ?more) (other := ?other) (panic := ?panic) (last := ?last) (lbug := ?lbug) (step := ?step)
  case more =>
    intro offs l vNo next tp hp ho hE
    rw [slotLoop_eq_more (good ho hE hp rfl), hS.cur, hS.withTok, hS.setCur]; rfl
  case other =>
    intro offs l vNo next e tp hp hc hm ho hE
    have hany := parseTokenParam_shift_any pre t offs _ flags hfit ho ⟨hS.e_in hE, hS.e_pos hE⟩
    rw [hp, ← hcur] at hany
    rcases hp' : parseTokenParam (pre ++ t) (pre.size + offs) (O.tok (O.cur (sh pre.size l))) flags with ⟨a, b, c⟩
    rw [hp'] at hany
    obtain ⟨h1, h2, -⟩ := hany
    simp only at h1 h2
    subst h1 h2
    have hz := hS.setCur pre.size l O.zero
    rw [hS.zero] at hz
    rw [slotLoop_other hp' hc hm, hz]; rfl
  case panic =>
    intro offs l vNo next e tp hp he hg ho hE
    have hg' := hfin ho hE hp
    rw [hg] at hg'
    rw [slotLoop_panic (good ho hE hp (by rcases he with rfl | rfl | rfl <;> rfl)) he hg', hS.cur, hS.withTok, hS.setCur,
      hS.panic]; rfl
  case last =>
    intro offs l vNo next e tp x hp he hg ho hE
    have hg' := hfin ho hE hp
    rw [hg] at hg'
    rw [slotLoop_eq_last (good ho hE hp (by rcases he with rfl | rfl <;> rfl)) he hg', hS.next]; rfl
  case lbug =>
    intro offs l vNo next tp x hp hg hgd ho hE
    have hg' := hfin ho hE hp
    rw [hg] at hg'
    rw [slotLoop_mv (good ho hE hp rfl) hg', if_neg (fun h => hgd ((guard offs next l x).mp h)), hS.next]; rfl
  case step =>
    intro offs l vNo next tp x r hp hg hgd ih ho hE
    have hg' := hfin ho hE hp
    rw [hg] at hg'
    have hT := hout ho hE hp
    rw [slotLoop_mv (good ho hE hp rfl) hg', if_pos ((guard offs next l x).mpr hgd), hS.next]
    exact ih hT.hi (hS.e_next hE hT.lo (hT.tight (Or.inl (by decide))) hg)

theorem slotLoop_shiftEntry (hS : ShSlots O sh shE Entry) (b : Buf) (flags : Nat) (hfit : b.size ≤ 65535) :
    ∀ (offs : Nat) (l : L) (vNo : Nat), offs ≤ b.size → Entry offs l →
      (slotLoop O b offs l flags vNo).2.2.1 = .moreBytes →
      Entry (slotLoop O b offs l flags vNo).1 (slotLoop O b offs l flags vNo).2.2.2 := by
  refine slotLoop_cases O b flags (fun offs l vNo r => offs ≤ b.size → Entry offs l → r.2.2.1 = .moreBytes →
    Entry r.1 r.2.2.2) (more := ?more) (other := ?other) (panic := ?panic) (last := ?last) (lbug := ?lbug) (step := ?step)
  case more =>
    intro offs l vNo next tp hp ho hE _
    have hT := parseTokenParam_safe b offs _ flags ho (hS.e_in hE)
    have hent := parseTokenParam_shiftEntry b offs _ flags hfit ho ⟨hS.e_in hE, hS.e_pos hE⟩ (by rw [hp])
    have hgs := parseTokenParam_good_state b offs _ flags (hS.e_ne hE) (by rw [hp]; rfl)
    rw [hp] at hT hent hgs
    exact hS.e_more hE hT.lo hent.1 hent.2 hgs
  case other =>
    intro offs l vNo next e tp _ _ hm _ _ h; exact absurd h hm
  case panic =>
    intro offs l vNo next e tp _ he _ _ _ h; rcases he with rfl | rfl | rfl <;> cases h
  case last =>
    intro offs l vNo next e tp x _ he _ _ _ h; rcases he with rfl | rfl <;> cases h
  case lbug =>
    intro offs l vNo next tp x _ _ _ _ _ h; cases h
  case step =>
    intro offs l vNo next tp x r hp hg hgd ih ho hE hm
    have hT := parseTokenParam_safe b offs _ flags ho (hS.e_in hE)
    rw [hp] at hT
    exact ih hT.hi (hS.e_next hE hT.lo (hT.tight (Or.inl (fun hh => by cases hh))) hg) hm

end

def shUp (k : Nat) (u : URIParam) : URIParam := { u with param := shTp k u.param }

def shPl (k : Nat) (l : URIParamsLst) : URIParamsLst :=
  { l with params := l.params.map (shUp k), tmp := shUp k l.tmp }

theorem shUp_new (k : Nat) : shUp k {} = {} := rfl

theorem shPl_new (k m : Nat) :
    shPl k ({ params := Array.replicate m {} } : URIParamsLst) = { params := Array.replicate m {} } := by
  unfold shPl
  simp only [Array.map_replicate, shUp_new]

theorem shPl_cur (k : Nat) (l : URIParamsLst) : (shPl k l).cur = shUp k l.cur :=
  slot_map (shUp k) l.params l.n l.tmp

theorem shPl_setCur (k : Nat) (l : URIParamsLst) (u : URIParam) :
    (shPl k l).setCur (shUp k u) = shPl k (l.setCur u) := by
  unfold URIParamsLst.setCur shPl
  simp only [Array.size_map]
  split
  · simp only [Array.set!_eq_setIfInBounds, Array.map_setIfInBounds]
  · rfl

theorem shPl_next (k : Nat) (l : URIParamsLst) (tp : PTokParam) (ty : Nat) :
    (shPl k l).next (shTp k tp) ty = shPl k (l.next tp ty) := by
  have h := shPl_setCur k l { param := tp, t := ty }
  have e : shUp k { param := tp, t := ty } = { param := shTp k tp, t := ty } := rfl
  rw [e] at h
  unfold URIParamsLst.next
  rw [h]
  have hs : (shPl k l).params.size = l.params.size := by unfold shPl; simp only [Array.size_map]
  have hn : (shPl k l).n = l.n := rfl
  rw [hs, hn]
  split <;> rfl


def shPlRes (k : Nat) (r : Nat × Nat × Err × URIParamsLst) : Nat × Nat × Err × URIParamsLst :=
  (k + r.1, r.2.1, r.2.2.1, shPl k r.2.2.2)

/-- legitimate argument of ParseAllURIParams at offset `o` for the shift theorem: fields end at or before `o`
    (`SrPlIn`), unused slots are zero (`plClean`), and the element in progress is a legitimate, non-failed
    token-parameter object -/
structure SpPlEntry (o : Nat) (l : URIParamsLst) : Prop where
  inb : SrPlIn o l
  clean : plClean l
  pos : SpTpPos o l.cur.param
  ne : l.cur.param.state ≠ .err

/-- the moved name denotes the same bytes, hence resolves to the same parameter type -/
theorem shTp_name_get? (pre t : Buf) (p : PTokParam) (hin : p.name.inside t.size) (hfit : pre.size + t.size ≤ 65535) :
    (shTp pre.size p).name.get? (pre ++ t) = p.name.get? t := by
  show (if spTpLive p.state then shF pre.size p.name else shO pre.size p.name).get? (pre ++ t) = _
  split
  · exact get?_shiftF pre t p.name hin hfit
  · exact get?_shO pre t p.name hin hfit

theorem shPlSlots : ShSlots pOps shPl shUp SpPlEntry where
  cur := shPl_cur
  tok := fun _ _ => rfl
  setCur := shPl_setCur
  next := fun k l x => shPl_next k l x.param x.t
  panic := fun _ _ => rfl
  withTok := fun _ _ _ => rfl
  zero := fun _ => rfl
  fin := fun pre t tp h hfit => by
    show ((shTp pre.size tp).name.get? (pre ++ t)).map _ = ((tp.name.get? t).map _).map _
    rw [shTp_name_get? pre t tp h.name hfit]
    cases tp.name.get? t <;> rfl
  e_in := fun h => h.inb.cur
  e_pos := fun h => h.pos
  e_ne := fun h => h.ne
  e_next := fun {o n l b tp x} hE hle hin hg => by
    have hx : x.param = tp := by
      change (tp.name.get? b).map _ = some x at hg
      cases hn : tp.name.get? b <;> rw [hn] at hg <;> cases hg; rfl
    have hc := plClean_next x.param x.t hE.clean
    exact ⟨(hE.inb.mono hle).next x.param x.t (hx ▸ hin), hc.1,
      by show SpTpPos n (l.next x.param x.t).cur.param; rw [hc.2]; exact SpTpPos.new _,
      by show (l.next x.param x.t).cur.param.state ≠ .err; rw [hc.2]; decide⟩
  e_more := fun {o n l tp} hE hle hin hpos hne =>
    ⟨(hE.inb.mono hle).setCur _ hin, plClean_setCur _ hE.clean,
      by show SpTpPos n (l.setCur { l.cur with param := tp }).cur.param; rw [pSetCur_cur]; exact hpos,
      by show (l.setCur { l.cur with param := tp }).cur.param.state ≠ .err; rw [pSetCur_cur]; exact hne⟩

theorem uriParamsLoop_shift (pre t : Buf) (flags : Nat) (hfit : pre.size + t.size ≤ 65535) (offs : Nat)
    (l : URIParamsLst) (vNo : Nat) (ho : offs ≤ t.size) (hE : SpPlEntry offs l) :
    uriParamsLoop (pre ++ t) (pre.size + offs) (shPl pre.size l) flags vNo =
      shPlRes pre.size (uriParamsLoop t offs l flags vNo) := by
  rw [uriParamsLoop_slot, uriParamsLoop_slot]
  exact slotLoop_shift shPlSlots pre t flags hfit offs l vNo ho hE


/-- [C11] ParseAllURIParams is position independent (every flag combination, any capacity, every legitimate list) -/
theorem parseAllURIParams_shift (pre t : Buf) (offs : Nat) (l : URIParamsLst) (flags : Nat)
    (hfit : pre.size + t.size ≤ 65535) (ho : offs ≤ t.size) (hE : SpPlEntry offs l) :
    parseAllURIParams (pre ++ t) (pre.size + offs) (shPl pre.size l) flags =
      shPlRes pre.size (parseAllURIParams t offs l flags) :=
  uriParamsLoop_shift pre t _ hfit offs l 0 ho hE

theorem spPl_cur_new (m : Nat) : ({ params := Array.replicate m {} } : URIParamsLst).cur = {} := by
  unfold URIParamsLst.cur
  split
  · rename_i h; simp only [Array.size_replicate] at h; simp [h]
  · rfl

theorem SpPlEntry.new (o m : Nat) : SpPlEntry o ({ params := Array.replicate m {} } : URIParamsLst) :=
  ⟨srPlIn_new o m, (plOK_new #[] m).2, by rw [spPl_cur_new]; exact SpTpPos.new o, by rw [spPl_cur_new]; decide⟩

/-- [C11] ParseAllURIParams is position independent from a new list of any capacity -/
theorem parseAllURIParams_shift_new (pre t : Buf) (offs m : Nat) (flags : Nat)
    (hfit : pre.size + t.size ≤ 65535) (ho : offs ≤ t.size) :
    parseAllURIParams (pre ++ t) (pre.size + offs) { params := Array.replicate m {} } flags =
      shPlRes pre.size (parseAllURIParams t offs { params := Array.replicate m {} } flags) := by
  have := parseAllURIParams_shift pre t offs _ flags hfit ho (SpPlEntry.new offs m)
  rw [shPl_new] at this; exact this

theorem SpPlEntry.reset (o : Nat) {l : URIParamsLst} (h : plClean l) : SpPlEntry o l.reset :=
  ⟨srPlIn_reset_clean o h, (plOK_reset #[] h).1.2, by rw [plClean_reset_cur h]; exact SpTpPos.new o,
    by rw [plClean_reset_cur h]; decide⟩

/-- a reset list holds only zero elements: the translation leaves it unchanged -/
theorem shPl_reset (k : Nat) {l : URIParamsLst} (h : plClean l) : shPl k l.reset = l.reset := by
  have hsz : l.reset.params.size = l.params.size := clearUpToP_size _ _ _
  have hp : l.reset.params.map (shUp k) = l.reset.params := by
    apply Array.ext
    · simp only [Array.size_map]
    · intro j h1 h2
      rw [Array.getElem_map]
      have hj : j < l.params.size := by rw [← hsz]; exact h2
      have := plClean_reset_get h j hj
      rw [getElem!_pos l.reset.params j h2] at this
      rw [this]; rfl
  show ({ l.reset with params := l.reset.params.map (shUp k), tmp := shUp k l.reset.tmp } : URIParamsLst) = l.reset
  rw [hp]; rfl

/-- [C11] ParseAllURIParams is position independent from a reset list (whatever it held before, e.g. fields of another
    buffer) -/
theorem parseAllURIParams_shift_reset (pre t : Buf) (offs : Nat) (l : URIParamsLst) (flags : Nat)
    (hfit : pre.size + t.size ≤ 65535) (ho : offs ≤ t.size) (hc : plClean l) :
    parseAllURIParams (pre ++ t) (pre.size + offs) l.reset flags =
      shPlRes pre.size (parseAllURIParams t offs l.reset flags) := by
  have := parseAllURIParams_shift pre t offs _ flags hfit ho (SpPlEntry.reset offs hc)
  rw [shPl_reset _ hc] at this; exact this

theorem uriParamsLoop_shiftEntry (b : Buf) (flags : Nat) (hfit : b.size ≤ 65535) (offs : Nat) (l : URIParamsLst)
    (vNo : Nat) (ho : offs ≤ b.size) (hE : SpPlEntry offs l)
    (hm : (uriParamsLoop b offs l flags vNo).2.2.1 = .moreBytes) :
    SpPlEntry (uriParamsLoop b offs l flags vNo).1 (uriParamsLoop b offs l flags vNo).2.2.2 := by
  rw [uriParamsLoop_slot] at hm ⊢
  exact slotLoop_shiftEntry shPlSlots b flags hfit offs l vNo ho hE hm

/-- [C11] after MoreBytes the list returned by ParseAllURIParams is a legitimate argument at the returned offset -/
theorem parseAllURIParams_shiftEntry (b : Buf) (offs : Nat) (l : URIParamsLst) (flags : Nat) (hfit : b.size ≤ 65535)
    (ho : offs ≤ b.size) (hE : SpPlEntry offs l) (hm : (parseAllURIParams b offs l flags).2.2.1 = .moreBytes) :
    SpPlEntry (parseAllURIParams b offs l flags).1 (parseAllURIParams b offs l flags).2.2.2 :=
  uriParamsLoop_shiftEntry b _ hfit offs l 0 ho hE hm

theorem shPl_scalars (k : Nat) (l : URIParamsLst) :
    (shPl k l).n = l.n ∧ (shPl k l).types = l.types ∧ (shPl k l).pnc = l.pnc ∧
    (shPl k l).params.size = l.params.size ∧ (shPl k l).pNo = l.pNo ∧ (shPl k l).more = l.more ∧
    (shPl k l).isEmpty = l.isEmpty := by
  refine ⟨rfl, rfl, rfl, Array.size_map .., ?_, ?_, rfl⟩
  · unfold URIParamsLst.pNo shPl; simp only [Array.size_map]
  · unfold URIParamsLst.more shPl; simp only [Array.size_map]

theorem shPl_get (k : Nat) (l : URIParamsLst) (j : Nat) :
    (shPl k l).params[j]? = (l.params[j]?).map (shUp k) := by
  show (l.params.map (shUp k))[j]? = _
  rw [Array.getElem?_map]

theorem shUp_meaning (k : Nat) (u : URIParam) (hl : spTpLive u.param.state = true) :
    (shUp k u).t = u.t ∧ (shUp k u).param.all = ⟨u.param.all.offs + k, u.param.all.len⟩ ∧
    (shUp k u).param.name = ⟨u.param.name.offs + k, u.param.name.len⟩ ∧
    (shUp k u).param.val = (if u.param.val.offs = 0 then u.param.val else ⟨u.param.val.offs + k, u.param.val.len⟩) ∧
    (shUp k u).param.state = u.param.state ∧ (shUp k u).param.pnc = u.param.pnc := by
  refine ⟨rfl, ?_, ?_, rfl, rfl, rfl⟩
  · show (if spTpLive u.param.state then shF k u.param.all else shO k u.param.all) = _
    rw [if_pos hl]; rfl
  · show (if spTpLive u.param.state then shF k u.param.name else shO k u.param.name) = _
    rw [if_pos hl]; rfl


def shHl (k : Nat) (l : URIHdrsLst) : URIHdrsLst :=
  { l with hdrs := l.hdrs.map (shTp k), tmp := shTp k l.tmp }

theorem shHl_new (k m : Nat) :
    shHl k ({ hdrs := Array.replicate m {} } : URIHdrsLst) = { hdrs := Array.replicate m {} } := by
  unfold shHl
  simp only [Array.map_replicate, shTp_new]

theorem shHl_cur (k : Nat) (l : URIHdrsLst) : (shHl k l).cur = shTp k l.cur :=
  slot_map (shTp k) l.hdrs l.n l.tmp

theorem shHl_setCur (k : Nat) (l : URIHdrsLst) (u : PTokParam) :
    (shHl k l).setCur (shTp k u) = shHl k (l.setCur u) := by
  unfold URIHdrsLst.setCur shHl
  simp only [Array.size_map]
  split
  · simp only [Array.set!_eq_setIfInBounds, Array.map_setIfInBounds]
  · rfl

theorem shHl_next (k : Nat) (l : URIHdrsLst) (tp : PTokParam) :
    (shHl k l).next (shTp k tp) = shHl k (l.next tp) := by
  have h := shHl_setCur k l tp
  unfold URIHdrsLst.next
  rw [h]
  have hs : (shHl k l).hdrs.size = l.hdrs.size := by unfold shHl; simp only [Array.size_map]
  have hn : (shHl k l).n = l.n := rfl
  rw [hs, hn]
  split <;> rfl

def shHlRes (k : Nat) (r : Nat × Nat × Err × URIHdrsLst) : Nat × Nat × Err × URIHdrsLst :=
  (k + r.1, r.2.1, r.2.2.1, shHl k r.2.2.2)

/-- legitimate argument of ParseAllURIHdrs at offset `o` for the shift theorem -/
structure SpHlEntry (o : Nat) (l : URIHdrsLst) : Prop where
  inb : SrHlIn o l
  clean : hlClean l
  pos : SpTpPos o l.cur
  ne : l.cur.state ≠ .err

theorem shHlSlots : ShSlots hOps shHl shTp SpHlEntry where
  cur := shHl_cur
  tok := fun _ _ => rfl
  setCur := shHl_setCur
  next := shHl_next
  panic := fun _ _ => rfl
  withTok := fun _ _ _ => rfl
  zero := fun _ => rfl
  fin := fun _ _ _ _ _ => rfl
  e_in := fun h => h.inb.cur
  e_pos := fun h => h.pos
  e_ne := fun h => h.ne
  e_next := fun {o n l b tp x} hE hle hin hg => by
    cases (show some tp = some x from hg)
    have hc := hlClean_next tp hE.clean
    exact ⟨(hE.inb.mono hle).next tp hin, hc.1, by show SpTpPos n (l.next tp).cur; rw [hc.2]; exact SpTpPos.new _,
      by show (l.next tp).cur.state ≠ .err; rw [hc.2]; decide⟩
  e_more := fun {o n l tp} hE hle hin hpos hne =>
    ⟨(hE.inb.mono hle).setCur _ hin, hlClean_setCur _ hE.clean,
      by show SpTpPos n (l.setCur tp).cur; rw [hSetCur_cur]; exact hpos,
      by show (l.setCur tp).cur.state ≠ .err; rw [hSetCur_cur]; exact hne⟩

theorem uriHdrsLoop_shift (pre t : Buf) (flags : Nat) (hfit : pre.size + t.size ≤ 65535) (offs : Nat)
    (l : URIHdrsLst) (vNo : Nat) (ho : offs ≤ t.size) (hE : SpHlEntry offs l) :
    uriHdrsLoop (pre ++ t) (pre.size + offs) (shHl pre.size l) flags vNo =
      shHlRes pre.size (uriHdrsLoop t offs l flags vNo) := by
  rw [uriHdrsLoop_slot, uriHdrsLoop_slot]
  exact slotLoop_shift shHlSlots pre t flags hfit offs l vNo ho hE

/-- [C11] ParseAllURIHdrs is position independent (every flag combination, any capacity, every legitimate list) -/
theorem parseAllURIHdrs_shift (pre t : Buf) (offs : Nat) (l : URIHdrsLst) (flags : Nat)
    (hfit : pre.size + t.size ≤ 65535) (ho : offs ≤ t.size) (hE : SpHlEntry offs l) :
    parseAllURIHdrs (pre ++ t) (pre.size + offs) (shHl pre.size l) flags =
      shHlRes pre.size (parseAllURIHdrs t offs l flags) :=
  uriHdrsLoop_shift pre t _ hfit offs l 0 ho hE

theorem spHl_cur_new (m : Nat) : ({ hdrs := Array.replicate m {} } : URIHdrsLst).cur = {} := by
  unfold URIHdrsLst.cur
  split
  · rename_i h; simp only [Array.size_replicate] at h; simp [h]
  · rfl

theorem SpHlEntry.new (o m : Nat) : SpHlEntry o ({ hdrs := Array.replicate m {} } : URIHdrsLst) :=
  ⟨srHlIn_new o m, hlClean_new m, by rw [spHl_cur_new]; exact SpTpPos.new o, by rw [spHl_cur_new]; decide⟩

/-- [C11] ParseAllURIHdrs is position independent from a new list of any capacity -/
theorem parseAllURIHdrs_shift_new (pre t : Buf) (offs m : Nat) (flags : Nat)
    (hfit : pre.size + t.size ≤ 65535) (ho : offs ≤ t.size) :
    parseAllURIHdrs (pre ++ t) (pre.size + offs) { hdrs := Array.replicate m {} } flags =
      shHlRes pre.size (parseAllURIHdrs t offs { hdrs := Array.replicate m {} } flags) := by
  have := parseAllURIHdrs_shift pre t offs _ flags hfit ho (SpHlEntry.new offs m)
  rw [shHl_new] at this; exact this

theorem SpHlEntry.reset (o : Nat) {l : URIHdrsLst} (h : hlClean l) : SpHlEntry o l.reset := by
  have hr := hlClean_reset h
  exact ⟨srHlIn_reset_clean o h, hr.1, by rw [hr.2.2]; exact SpTpPos.new o, by rw [hr.2.2]; decide⟩

theorem shHl_reset (k : Nat) {l : URIHdrsLst} (h : hlClean l) : shHl k l.reset = l.reset := by
  have hsz : l.reset.hdrs.size = l.hdrs.size := clearUpToP_size _ _ _
  have hp : l.reset.hdrs.map (shTp k) = l.reset.hdrs := by
    apply Array.ext
    · simp only [Array.size_map]
    · intro j h1 h2
      rw [Array.getElem_map]
      have hj : j < l.hdrs.size := by rw [← hsz]; exact h2
      have := hlClean_reset_get h j hj
      rw [getElem!_pos l.reset.hdrs j h2] at this
      rw [this]; rfl
  show ({ l.reset with hdrs := l.reset.hdrs.map (shTp k), tmp := shTp k l.reset.tmp } : URIHdrsLst) = l.reset
  rw [hp]; rfl

/-- [C11] ParseAllURIHdrs is position independent from a reset list -/
theorem parseAllURIHdrs_shift_reset (pre t : Buf) (offs : Nat) (l : URIHdrsLst) (flags : Nat)
    (hfit : pre.size + t.size ≤ 65535) (ho : offs ≤ t.size) (hc : hlClean l) :
    parseAllURIHdrs (pre ++ t) (pre.size + offs) l.reset flags =
      shHlRes pre.size (parseAllURIHdrs t offs l.reset flags) := by
  have := parseAllURIHdrs_shift pre t offs _ flags hfit ho (SpHlEntry.reset offs hc)
  rw [shHl_reset _ hc] at this; exact this

theorem uriHdrsLoop_shiftEntry (b : Buf) (flags : Nat) (hfit : b.size ≤ 65535) (offs : Nat) (l : URIHdrsLst)
    (vNo : Nat) (ho : offs ≤ b.size) (hE : SpHlEntry offs l)
    (hm : (uriHdrsLoop b offs l flags vNo).2.2.1 = .moreBytes) :
    SpHlEntry (uriHdrsLoop b offs l flags vNo).1 (uriHdrsLoop b offs l flags vNo).2.2.2 := by
  rw [uriHdrsLoop_slot] at hm ⊢
  exact slotLoop_shiftEntry shHlSlots b flags hfit offs l vNo ho hE hm

/-- [C11] after MoreBytes the list returned by ParseAllURIHdrs is a legitimate argument at the returned offset -/
theorem parseAllURIHdrs_shiftEntry (b : Buf) (offs : Nat) (l : URIHdrsLst) (flags : Nat) (hfit : b.size ≤ 65535)
    (ho : offs ≤ b.size) (hE : SpHlEntry offs l) (hm : (parseAllURIHdrs b offs l flags).2.2.1 = .moreBytes) :
    SpHlEntry (parseAllURIHdrs b offs l flags).1 (parseAllURIHdrs b offs l flags).2.2.2 :=
  uriHdrsLoop_shiftEntry b _ hfit offs l 0 ho hE hm

theorem shHl_scalars (k : Nat) (l : URIHdrsLst) :
    (shHl k l).n = l.n ∧ (shHl k l).hdrs.size = l.hdrs.size ∧ (shHl k l).hNo = l.hNo ∧
    (shHl k l).more = l.more ∧ (shHl k l).isEmpty = l.isEmpty := by
  refine ⟨rfl, Array.size_map .., ?_, ?_, rfl⟩
  · unfold URIHdrsLst.hNo shHl; simp only [Array.size_map]
  · unfold URIHdrsLst.more shHl; simp only [Array.size_map]

theorem shHl_get (k : Nat) (l : URIHdrsLst) (j : Nat) :
    (shHl k l).hdrs[j]? = (l.hdrs[j]?).map (shTp k) := by
  show (l.hdrs.map (shTp k))[j]? = _
  rw [Array.getElem?_map]

/-! ## C17 — the decomposition of a parameter list holds for every chunk schedule -/

/-- fresh one-shot calls on growing prefixes, for a parser whose definitive results do not change when bytes are
    appended: the result is that of ONE call on the last buffer -/
theorem spOneShotRun_stable {σ : Type} (P : Parser σ) (o : Nat) (st : σ) (l : List Buf) (hne : l ≠ [])
    (hg : Growing l)
    (hst : ∀ b ∈ l, ∀ s, (P b o st).2.1 ≠ .moreBytes → P (b ++ s) o st = P b o st) :
    oneShotRun P o st l = P (l.getLast hne) o st :=
  oneShotRun_last P o st l _ (List.getLast?_eq_some_getLast hne) fun x hx hm => by
    obtain ⟨s, hs⟩ := mlf_growing_last hg (List.getLast?_eq_some_getLast hne) x (List.dropLast_subset l hx)
    rw [hs]; exact (hst x (List.dropLast_subset l hx) s hm).symm


theorem URIParamsLst.Fresh.sp_plOK {l : URIParamsLst} (h : l.Fresh) (b : Buf) : plOK b l := by
  refine ⟨by rw [h.cur]; exact tpOK_new b, fun k h1 h2 => ?_, fun _ => h.2⟩
  have : l.params[k]? = some l.params[k] := Array.getElem?_eq_getElem h2
  rw [getElem!_def, this]
  exact h.1 k _ (by omega) this

theorem URIHdrsLst.Fresh.sp_hlClean {l : URIHdrsLst} (h : l.Fresh) : hlClean l := by
  refine ⟨fun k h1 h2 => ?_, fun _ => h.2⟩
  have : l.hdrs[k]? = some l.hdrs[k] := Array.getElem?_eq_getElem h2
  rw [getElem!_def, this]
  exact h.1 k _ (by omega) this

theorem spGrowing_head_le {bs : List Buf} (hg : Growing bs) {o : Nat} (ho : ∀ b ∈ bs.head?, o ≤ b.size) :
    ∀ b ∈ bs, o ≤ b.size :=
  growing_all hg (H := fun b => o ≤ b.size) (fun b s h => by rw [Array.size_append]; omega) ho

/-- [C17] ParseTokenParam under every chunk schedule: whatever ONE call on the complete buffer `B` (the last of
    the growing prefixes) gives — in particular the decompositions of C17 and the rejections — is what the chain of
    resumed calls returns, however the input was cut -/
theorem tokparam_any_schedule (flags : Nat) (hf : hasFlag flags POptInputEndF = false) (o : Nat) (p : PTokParam)
    (bs : List Buf) (hne : bs ≠ []) (hg : Growing bs) {o' : Nat} {e : Err} {p' : PTokParam}
    (hr : parseTokenParam (bs.getLast hne) o p flags = (o', e, p')) :
    resumeRun (fun b o p => parseTokenParam b o p flags) o p bs = (o', e, p') := by
  rw [parseTokenParam_schedule flags hf o p bs hg,
    spOneShotRun_stable (fun b o p => parseTokenParam b o p flags) o p bs hne hg
      (fun b _ s hb => by
        rcases hp : parseTokenParam b o p flags with ⟨o1, e1, p1⟩
        simp only [hp] at hb ⊢
        exact parseTokenParam_stable b s o p flags hf hp hb)]
  exact hr

/-- [C17] ParseTokenParam under every chunk schedule, for a parameter of the grammar (`GParam`: no value / token / quoted /
    empty value, any white space and empty items, any ending), from a new object: the chain of resumed calls returns
    its decomposition -/
theorem gparam_any_schedule (flags : Nat) (hf : hasFlag flags POptInputEndF = false) (o o' : Nat) (e : Err)
    (tp : PTokParam) (bs : List Buf) (hne : bs ≠ []) (hg : Growing bs) (hfit : (bs.getLast hne).size ≤ 65535)
    (H : GParam (bs.getLast hne) flags o o' e tp) :
    resumeRun (fun b o p => parseTokenParam b o p flags) o {} bs = (o', e, tp) :=
  tokparam_any_schedule flags hf o {} bs hne hg (H.parse hfit)

/-- [C17] every verdict of ParseAllURIParams under every chunk schedule: what ONE call on the complete buffer returns — offset, verdict,
    number of values, list object — is what the chain of resumed calls returns (the numbers of values of the calls
    added up), under every chunk schedule -/
theorem uriparams_any_schedule (flags o : Nat) (bs : List Buf) (hne : bs ≠ []) (hg : Growing bs)
    (hf : hasFlag flags POptInputEndF = false) (ho : ∀ b ∈ bs.head?, o ≤ b.size) (l : URIParamsLst) (hl : l.Fresh)
    {o' n : Nat} {e : Err} {r : URIParamsLst}
    (hone : parseAllURIParams (bs.getLast hne) o l flags = (o', n, e, r)) :
    resumeRun (uriParamsParser flags) o (0, l) bs = (o', e, (n, r)) := by
  have hall := spGrowing_head_le hg ho
  rw [parseAllURIParams_schedule flags hf o l bs hg (fun b hb => ⟨hl.sp_plOK b, ho b hb⟩),
    spOneShotRun_stable (uriParamsParser flags) o (0, l) bs hne hg
      (fun b hb s hv => by
        rcases hp : uriParamsParser flags b o (0, l) with ⟨o1, e1, st1⟩
        rw [hp] at hv
        exact uriParamsParser_stable2 flags flags hf (.refl _) b s o (0, l) o1 e1 st1 ⟨hl.sp_plOK b, hall b hb⟩ hp hv)]
  unfold uriParamsParser
  simp only [hone, Nat.zero_add]

/-- [C17] every verdict of ParseAllURIHdrs under every chunk schedule (as `uriparams_any_schedule`) -/
theorem urihdrs_any_schedule (flags o : Nat) (bs : List Buf) (hne : bs ≠ []) (hg : Growing bs)
    (hf : hasFlag flags POptInputEndF = false) (ho : ∀ b ∈ bs.head?, o ≤ b.size) (l : URIHdrsLst) (hl : l.Fresh)
    {o' n : Nat} {e : Err} {r : URIHdrsLst}
    (hone : parseAllURIHdrs (bs.getLast hne) o l flags = (o', n, e, r)) :
    resumeRun (uriHdrsParser flags) o (0, l) bs = (o', e, (n, r)) := by
  have hall := spGrowing_head_le hg ho
  rw [parseAllURIHdrs_schedule flags hf o l bs hg (fun b hb => ⟨hl.sp_hlClean, ho b hb⟩),
    spOneShotRun_stable (uriHdrsParser flags) o (0, l) bs hne hg
      (fun b hb s hv => by
        rcases hp : uriHdrsParser flags b o (0, l) with ⟨o1, e1, st1⟩
        rw [hp] at hv
        exact uriHdrsParser_stable2 flags flags hf (.refl _) b s o (0, l) o1 e1 st1 ⟨hl.sp_hlClean, hall b hb⟩ hp hv)]
  unfold uriHdrsParser
  simp only [hone, Nat.zero_add]

/-- [C17] ParseAllURIParams under every chunk schedule: `B` holds a parameter list of the grammar; the chain of
    resumed calls on ANY schedule of prefixes returns the offset and verdict of the list end, the values counted over
    all calls add up to the number of parameters, parameter `i` is stored with the type of its name in slot `n + i`,
    the type flags are accumulated -/
theorem uri_param_list_any_schedule (flags o o' : Nat) (e : Err) (tps : List PTokParam) (bs : List Buf)
    (hne : bs ≠ []) (hg : Growing bs) (hf : hasFlag flags POptInputEndF = false)
    (hfit : (bs.getLast hne).size ≤ 65535) (ho : ∀ b ∈ bs.head?, o ≤ b.size)
    (H : GList (bs.getLast hne) (flags ||| POptParamSemiSepF) o tps o' e) (l : URIParamsLst) (hl : l.Fresh) :
    ∃ r, resumeRun (uriParamsParser flags) o (0, l) bs = (o', e, (tps.length, r)) ∧
      r.n = l.n + tps.length ∧
      r.types = tps.foldl (fun a tp => a ||| uriParamResolve (nameOf (bs.getLast hne) tp)) l.types ∧
      r.params.size = l.params.size ∧ r.pnc = l.pnc ∧
      (∀ i tp, tps[i]? = some tp → l.n + i < l.params.size →
        r.params[l.n + i]? = some { param := tp, t := uriParamResolve (nameOf (bs.getLast hne) tp) }) ∧
      (∀ j, j < l.n → r.params[j]? = l.params[j]?) := by
  have hone : parseAllURIParams (bs.getLast hne) o l flags =
      (o', tps.length, e, (tps.map (typed (bs.getLast hne))).foldl URIParamsLst.push l) := by
    unfold parseAllURIParams
    rw [uriParamsLoop_seq (H.paramSeq hfit) l 0 hl, Nat.zero_add, List.length_map]
  refine ⟨(tps.map (typed (bs.getLast hne))).foldl URIParamsLst.push l, ?_, ?_, ?_, foldl_push_size _ l,
    foldl_push_pnc _ l, ?_, fun j hj => foldl_push_get_lt _ l j hj⟩
  · exact uriparams_any_schedule flags o bs hne hg hf ho l hl hone
  · rw [foldl_push_n, List.length_map]
  · rw [foldl_push_types, List.foldl_map]; rfl
  · intro i tp hi hc
    exact foldl_push_get _ l i _ (by rw [List.getElem?_map, hi]; rfl) hc

/-- [C17] ParseAllURIHdrs (separator '&') under every chunk schedule (as `uri_param_list_any_schedule`) -/
theorem uri_hdr_list_any_schedule (flags o o' : Nat) (e : Err) (tps : List PTokParam) (bs : List Buf)
    (hne : bs ≠ []) (hg : Growing bs) (hf : hasFlag flags POptInputEndF = false)
    (hfit : (bs.getLast hne).size ≤ 65535) (ho : ∀ b ∈ bs.head?, o ≤ b.size)
    (H : GList (bs.getLast hne) (flags ||| POptParamAmpSepF ||| POptTokURIHdrF) o tps o' e) (l : URIHdrsLst)
    (hl : l.Fresh) :
    ∃ r, resumeRun (uriHdrsParser flags) o (0, l) bs = (o', e, (tps.length, r)) ∧
      r.n = l.n + tps.length ∧ r.hdrs.size = l.hdrs.size ∧
      (∀ i tp, tps[i]? = some tp → l.n + i < l.hdrs.size → r.hdrs[l.n + i]? = some tp) ∧
      (∀ j, j < l.n → r.hdrs[j]? = l.hdrs[j]?) := by
  have hone : parseAllURIHdrs (bs.getLast hne) o l flags = (o', tps.length, e, tps.foldl URIHdrsLst.push l) := by
    unfold parseAllURIHdrs
    rw [uriHdrsLoop_seq (H.hdrSeq hfit) l 0 hl, Nat.zero_add]
  refine ⟨tps.foldl URIHdrsLst.push l, ?_, foldl_hpush_n _ l, foldl_hpush_size _ l,
    fun i x hi hc => foldl_hpush_get _ l i x hi hc, fun j hj => foldl_hpush_get_lt _ l j hj⟩
  exact urihdrs_any_schedule flags o bs hne hg hf ho l hl hone

/-! ### tests / non-vacuity (closed computations, `decide +kernel`) -/

/-- test: an instance of `parseTokenParam_shift_new` by evaluation (junk `xyz`, text `a=b;c`) -/
example : parseTokenParam (#[120, 121, 122] ++ "a=b;c".toUTF8.data) 3 {} 0 =
    shRes 3 (shTp 3) (parseTokenParam "a=b;c".toUTF8.data 0 {} 0) := by decide +kernel
/-- non-vacuity: the hypotheses of `parseTokenParam_shift_new` hold for it -/
example : spGoodV (parseTokenParam "a=b;c".toUTF8.data 0 {} 0).2.1 = true := by decide +kernel
/-- test: quoted value, white space, the space terminator, end-of-input option (flags 4 + 8) -/
example : parseTokenParam (#[120, 121] ++ "a = \"q\" c".toUTF8.data) 2 {} 12 =
    shRes 2 (shTp 2) (parseTokenParam "a = \"q\" c".toUTF8.data 0 {} 12) := by decide +kernel
/-- non-vacuity of `parseTokenParam_shiftEntry` / a suspended object: `a=b ` with the space terminator is suspended
    in state "value" at offset 3; the returned object is a legitimate argument there -/
example : SpTpEntry 3 (parseTokenParam "a=b ".toUTF8.data 0 {} POptTokSpTermF).2.2 := by
  have h := parseTokenParam_shiftEntry "a=b ".toUTF8.data 0 {} POptTokSpTermF (by decide) (by decide)
    (SpTpEntry.new 0) (by decide +kernel)
  have e : (parseTokenParam "a=b ".toUTF8.data 0 {} POptTokSpTermF).1 = 3 := by decide +kernel
  rw [e] at h; exact h
/-- test: the resumed call behind junk, from the translated suspended object -/
example : parseTokenParam (#[120, 121, 122] ++ "a=b c".toUTF8.data) (3 + 3)
      (shTp 3 (parseTokenParam "a=b ".toUTF8.data 0 {} POptTokSpTermF).2.2) POptTokSpTermF =
    shRes 3 (shTp 3) (parseTokenParam "a=b c".toUTF8.data 3 (parseTokenParam "a=b ".toUTF8.data 0 {} POptTokSpTermF).2.2
      POptTokSpTermF) := by decide +kernel
/-- test: WHY the error state is compared up to `spTpNz`.  `a\x01` and `\x01` return the same object at offset 0 … -/
example : (parseTokenParam #[97, 1] 0 {} 0).2.2 = (parseTokenParam #[1] 0 {} 0).2.2 := by decide +kernel
/-- … but different ones behind `xyz` (name started at 3 and not extended / name never started) -/
example : (parseTokenParam #[120, 121, 122, 97, 1] 3 {} 0).2.2.name = ⟨3, 0⟩ ∧
    (parseTokenParam #[120, 121, 122, 1] 3 {} 0).2.2.name = ⟨0, 0⟩ := by decide +kernel
/-- test: ParseAllURIParams behind junk, capacity 1, suspended in the third parameter (counts, verdict, the stored
    slot, the element in progress) -/
example :
    (parseAllURIParams (#[120, 121] ++ "lr;transport=udp;x=1".toUTF8.data) 2 { params := Array.replicate 1 {} } 0).1 = 2 + 20 ∧
    (parseAllURIParams (#[120, 121] ++ "lr;transport=udp;x=1".toUTF8.data) 2 { params := Array.replicate 1 {} } 0).2.1 = 2 ∧
    (parseAllURIParams (#[120, 121] ++ "lr;transport=udp;x=1".toUTF8.data) 2 { params := Array.replicate 1 {} } 0).2.2.1 =
      .moreBytes ∧
    (parseAllURIParams (#[120, 121] ++ "lr;transport=udp;x=1".toUTF8.data) 2 { params := Array.replicate 1 {} } 0).2.2.2.params =
      (shPl 2 (parseAllURIParams "lr;transport=udp;x=1".toUTF8.data 0 { params := Array.replicate 1 {} } 0).2.2.2).params ∧
    (parseAllURIParams (#[120, 121] ++ "lr;transport=udp;x=1".toUTF8.data) 2 { params := Array.replicate 1 {} } 0).2.2.2.tmp =
      (shPl 2 (parseAllURIParams "lr;transport=udp;x=1".toUTF8.data 0 { params := Array.replicate 1 {} } 0).2.2.2).tmp := by
  decide +kernel
/-- test: ParseAllURIHdrs behind junk -/
example :
    (parseAllURIHdrs (#[120] ++ "a=1&b=2&c".toUTF8.data) 1 { hdrs := Array.replicate 2 {} } 0).2.2.2.hdrs =
      (shHl 1 (parseAllURIHdrs "a=1&b=2&c".toUTF8.data 0 { hdrs := Array.replicate 2 {} } 0).2.2.2).hdrs := by
  decide +kernel

/-- non-vacuity of `uri_param_list_any_schedule`: `a;?x` in URI-parameter mode (flags 64; the wrapper adds ';': 80),
    delivered as `a`, `a;`, `a;?x`: one parameter, verdict OK at the terminator (offset 2), counted once -/
example : ∃ r, resumeRun (uriParamsParser 64) 0 (0, { params := Array.replicate 4 {} })
    ["a".toUTF8.data, "a;".toUTF8.data, "a;?x".toUTF8.data] = (2, .ok, (1, r)) ∧ r.n = 1 := by
  have hsep : tpSep (64 ||| POptParamSemiSepF) = 59 := by decide
  have hterm : tpTerm (64 ||| POptParamSemiSepF) = 63 := by decide
  have H : GList "a;?x".toUTF8.data (64 ||| POptParamSemiSepF) 0
      [{ name := ⟨0, 1⟩, all := ⟨0, 1⟩, state := .fin }] 2 .ok := by
    refine GList.last 0 2 .ok _ ?_ (Or.inl rfl)
    refine GParam.noValue 0 0 0 1 2 .ok .fin (Pad.nil 0) (Lws.nil 0) ?_ (by decide) ?_
    · intro k h1 h2
      have : k = 0 := by omega
      subst this
      exact ⟨97, by decide, by decide, by decide, by decide⟩
    · exact Ending.sep 1 1 2 .ok .fin (Lws.nil 1) (by rw [hsep]; decide)
        (AfterSep.term 2 2 2 (Pad.nil 2) (Lws.nil 2) (by rw [hterm]; decide) (by rw [hterm]; decide))
  obtain ⟨r, h1, h2, _⟩ := uri_param_list_any_schedule 64 0 2 .ok _
    ["a".toUTF8.data, "a;".toUTF8.data, "a;?x".toUTF8.data] (by simp)
    ⟨⟨";".toUTF8.data, by decide⟩, ⟨"?x".toUTF8.data, by decide⟩, trivial⟩ (by decide) (by decide)
    (fun b hb => by simp at hb; subst hb; decide) H { params := Array.replicate 4 {} }
    (by
      refine ⟨fun i x _ hx => ?_, rfl⟩
      rw [Array.getElem?_replicate] at hx
      split at hx
      · cases hx; rfl
      · cases hx)
  exact ⟨r, h1, h2⟩

end Sipsp
