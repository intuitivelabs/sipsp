/-
  Sipsp.Proofs.SigCompose — the message signature after ANY way of parsing (composition lemmas for C04 and C19).

  All statements are about the model (`parseSIPMsg`, `getMsgSigCore`, `PSIPMsg.init`, `PSIPMsg.reset`); no size bound other
  than the documented 65,535-byte limit where the re-used theorems need it.

  (1) [C04] GetMsgSig never panics after a successful parse, whatever happened to the object before. Two invariants that
      Init and Reset establish and EVERY ParseSIPMsg call preserves (any buffer, offset, flags, verdict; called again
      after an error; on an unrelated buffer): `ScMsg` (header list: the slots after the current one are untouched and
      the current one has no type while in its initial state; once the header section is finished every unfilled slot
      has type 0) and `ScCt` (contacts: the entries above the one in progress are untouched). The contacts object is
      touched by ParseAllContactValues only, so any property of it that this function preserves is preserved by
      ParseSIPMsg. `ScReach` describes every history of an object; Reset after any history IS an Init object, so the
      statements after Reset carry no legitimacy hypothesis.
  (2) [C19] chunking: every chunk schedule from Init that ends with OK gives the object, hence the GetMsgSig result, of
      the fresh one-shot calls; a complete message handed over in any number of pieces, every earlier piece boundary
      leaving an incomplete message, gives exactly the result of ONE call on the whole buffer.
  (3) [C19] capacities: (3a) two header arrays that both hold all headers give the same signature, verdict and panic
      flag; (3b) an array too small against one at least as large gives the truncated indication or exactly the same
      result. The arrays keep their capacities through every call.

  NOT proved here:
  * the legitimacy hypotheses (`msgOK2`, `MsgSafe`) of the LAST call in `sc_getMsgSig_safe_history` are assumptions (they
    hold for a resumed call on an extension of the same buffer — C01 `resume_msg`, `parseSIPMsg_safe` — and for the
    first call after Init / Reset); a history whose last call is not legitimate (e.g. resumed on an unrelated buffer)
    is outside the statement, as it is outside C04;
  * caller arrays handed to Init are assumed cleared (`Array.replicate k {}`), as in C01 / C04 / C13: Init does not clear
    them, and a dirty array can hold a stale Via in an unused slot;
  * in `sc_sig_chunking_whole` the hypothesis that every earlier prefix is incomplete is needed: without a
    Content-Length the body extends to the end of the buffer of the call that completes the headers, so a schedule
    that stops earlier returns another object (its signature is that of the one-shot call on THAT prefix:
    `sc_sig_chunking`); equality of the signatures of two different OK prefixes is not proved;
  * (3b) cannot be strengthened to "same signature": see the tests (capacity 3: shorter entry list + Trunc).
-/
import Sipsp.Proofs.SafeRest
import Sipsp.Proofs.SigSpec
import Sipsp.Proofs.SlotArr
import Sipsp.Proofs.MsgPhases
import Sipsp.Proofs.HlLex
import Sipsp.Proofs.OneShot

namespace Sipsp

/-! ### (1a) one header line: a header in its initial state keeps type 0 until its name has been read -/

/-- a header slot in the initial state has no type yet -/
def ScHdrOK (h : Hdr) : Prop := h.state = .init → h.type = 0

theorem ScHdrOK_new : ScHdrOK {} := fun _ => rfl

theorem ScHdrOK_of_ne {h : Hdr} (hs : h.state ≠ .init) : ScHdrOK h := fun hh => absurd hh hs

/-- whatever an iteration makes of the header before it leaves is out of the initial state, unless nothing was done -/
theorem HlMid.scHdrOK {b : Buf} {i p : Nat} {h h1 : Hdr} (hm : HlMid b i h p h1) (hh : ScHdrOK h) : ScHdrOK h1 := by
  cases hm with
  | same => exact hh
  | nameExt _ hs => rcases hs with rfl | rfl <;> exact ScHdrOK_of_ne (by intro hq; cases hq)
  | _ => exact ScHdrOK_of_ne (by intro hq; cases hq)

/-- **ParseHdrLine**: (any buffer, offset, header values, verdict) a header that had no type while in the initial
    state comes back like that; the "empty line" verdict comes back with type 0 -/
theorem sc_parseHdrLine (b : Buf) (o : Nat) (h : Hdr) (hb : Option PHdrVals) (hh : ScHdrOK h) :
    ScHdrOK (parseHdrLine b o h hb).2.2.1 ∧
    ((parseHdrLine b o h hb).2.1 = .empty → (parseHdrLine b o h hb).2.2.1.type = 0) := by
  have hval : ∀ {S : HState}, S.isVal → S ≠ .init := fun hv hq => not_isVal_of (Or.inl hq) hv
  rcases hr : parseHdrLine b o h hb with ⟨o', e, h', hb'⟩
  -- the type is written after the ':' only, when the state is `bodyStart`; the empty line leaves the header as it was
  refine parseHdrLine_ind b (fun _ st => ScHdrOK st.1) (fun _ e st => ScHdrOK st.1 ∧ (e = .empty → st.1.type = 0))
    ?_ ?_ ?_ ?_ ?_ ?_ (fun _ _ hS => ⟨hS, nofun⟩) hh hr
  · intro i c h hb o e h' hc hS ha
    have sp := hlLex_spec b i c h hc
    rw [ha] at sp
    obtain ⟨p, h1, sx⟩ := sp
    cases sx.kind with
    | kept he => exact ⟨sx.mid.scHdrOK hS, fun hq => by subst hq; simp at he⟩
    | fin _ hk =>
      refine ⟨ScHdrOK_of_ne (by intro hq; cases hq), fun hq => ?_⟩
      rcases hk with ⟨_, rfl, hst⟩ | ⟨rfl, _⟩
      · exact hS hst
      · cases hq
  · intro i c h hb i' h' hc _ ha
    have sp := hlLex_spec b i c h hc
    rw [ha] at sp
    exact ScHdrOK_of_ne (by rcases sp.go_hdr.2 with q | q <;> rw [q] <;> (intro hq; cases hq))
  · intro i c h hb j h' hc _ ha _
    have sp := hlLex_spec b i c h hc
    rw [ha] at sp
    exact ⟨ScHdrOK_of_ne (by show h'.state ≠ _; rw [(sp.colon_range (Nat.le_of_lt (get?_lt hc))).2.2]; decide), nofun⟩
  · intro i c h hb j h' nm hc _ ha _ _
    have sp := hlLex_spec b i c h hc
    rw [ha] at sp
    exact ScHdrOK_of_ne (by show h'.state ≠ _; rw [(sp.colon_range (Nat.le_of_lt (get?_lt hc))).2.2]; decide)
  · intro i c h _ _ hv
    exact ⟨ScHdrOK_of_ne (hval hv), nofun⟩
  · intro i c h hv j h1 K hc _ hcall
    have hK : K.isVal := by
      rcases hcall with ⟨ha, _, _, rfl⟩ | ⟨_, _, _, _, _, hk⟩
      · have sp := hlLex_spec b i c h hc
        rw [ha] at sp; exact sp
      · exact valKind_isVal hk
    refine ⟨ScHdrOK_of_ne ?_, fun hq => absurd hq (valCall_ne_empty K h1.state b j hv)⟩
    unfold hlWrap
    split
    · intro hq; cases hq
    · exact hval hK

/-- the slots after the current one are untouched, and the current one has no type while in its initial state -/
def ScTail (hl : HdrLst) : Prop :=
  (∀ k, hl.n < k → k < hl.hdrs.size → hl.hdrs[k]! = {}) ∧ (hl.n < hl.hdrs.size → ScHdrOK hl.hdrs[hl.n]!)

/-- after the header section: every slot from the header count on has type 0 (no header) -/
def ScDone (hl : HdrLst) : Prop := ∀ k, hl.n ≤ k → k < hl.hdrs.size → hl.hdrs[k]!.type = 0

theorem ScTail.next {hl : HdrLst} (H : ScTail hl) (g : Hdr) : ScTail ((hl.setCur g).accept g) := by
  have hn : ((hl.setCur g).accept g).n = hl.n + 1 := by rw [accept_n, hlSetCur_n]
  have hs : ((hl.setCur g).accept g).hdrs.size = hl.hdrs.size := by rw [accept_hdrs, hlSetCur_size]
  have hk : ∀ k, hl.n < k → k < hl.hdrs.size → ((hl.setCur g).accept g).hdrs[k]! = {} := by
    intro k h1 h2; rw [accept_hdrs, hlSetCur_ne hl g k (by omega)]; exact H.1 k h1 h2
  refine ⟨fun k h1 h2 => ?_, fun h1 => ?_⟩
  · rw [hn] at h1; rw [hs] at h2; exact hk k (by omega) h2
  · rw [hn, hs] at h1; rw [hn, hk _ (by omega) h1]; exact ScHdrOK_new

theorem ScTail.setCur {hl : HdrLst} (H : ScTail hl) (g : Hdr) (hg : hl.n < hl.hdrs.size → ScHdrOK g) :
    ScTail (hl.setCur g) := by
  refine ⟨fun k h1 h2 => ?_, fun h1 => ?_⟩
  · rw [hlSetCur_n] at h1; rw [hlSetCur_size] at h2
    rw [hlSetCur_ne hl g k (by omega)]; exact H.1 k h1 h2
  · rw [hlSetCur_n, hlSetCur_size] at h1
    rw [hlSetCur_n, hlSetCur_get_n hl g h1]; exact hg h1

theorem ScTail.doneSetCur {hl : HdrLst} (H : ScTail hl) (g : Hdr) (hg : hl.n < hl.hdrs.size → g.type = 0) :
    ScDone (hl.setCur g) := by
  intro k h1 h2
  rw [hlSetCur_n] at h1; rw [hlSetCur_size] at h2
  rcases Nat.eq_or_lt_of_le h1 with he | hlt
  · subst he; rw [hlSetCur_get_n hl g h2]; exact hg h2
  · rw [hlSetCur_ne hl g k (by omega), H.1 k hlt h2]

theorem ScTail.cur {hl : HdrLst} (H : ScTail hl) (hin : hl.n < hl.hdrs.size) : ScHdrOK hl.cur := by
  unfold HdrLst.cur; rw [if_pos hin]; exact H.2 hin

/-- **ParseHeaders** (any buffer, offset, header values): after OK every slot not filled has type 0; after MoreBytes
    the invariant holds again -/
theorem sc_parseHeaders (b : Buf) (offs : Nat) (hl : HdrLst) (hb : Option PHdrVals) (H : ScTail hl) :
    ((parseHeaders b offs hl hb).2.1 = .ok → ScDone (parseHeaders b offs hl hb).2.2.1) ∧
    ((parseHeaders b offs hl hb).2.1 = .moreBytes → ScTail (parseHeaders b offs hl hb).2.2.1) := by
  refine parseHeaders_ind b (J := fun _ hl _ => ScTail hl)
    (R := fun r => (r.2.1 = .ok → ScDone r.2.2.1) ∧ (r.2.1 = .moreBytes → ScTail r.2.2.1))
    (line := fun _ _ _ _ g _ H _ _ _ => H.next g) (bug := fun _ _ _ _ _ _ _ _ _ => ⟨nofun, nofun⟩) (endOk := ?_)
    (endEmpty := fun _ _ _ _ _ _ _ _ _ _ => ⟨nofun, nofun⟩) (stop := ?_)
    (eob := fun _ _ _ H _ => ⟨nofun, fun _ => H⟩) offs hl hb H
  · intro offs hl hb n g hb' H _ hp _
    refine ⟨fun _ => H.doneSetCur g fun hin => ?_, nofun⟩
    have := (sc_parseHdrLine b offs hl.cur hb (H.cur hin)).2
    rw [hp] at this; exact this rfl
  · intro offs hl hb n e g hb' H _ hp _ _
    refine ⟨fun he => ?_, fun _ => H.setCur g fun hin => ?_⟩
    · subst he; contradiction
    · have := (sc_parseHdrLine b offs hl.cur hb (H.cur hin)).1
      rw [hp] at this; exact this

theorem ScTail_new (k : Nat) : ScTail ({ hdrs := Array.replicate k {} } : HdrLst) := by
  refine ⟨fun j _ hj => replicate_hdr_get k j hj, fun hj => ?_⟩
  show ScHdrOK (Array.replicate k ({} : Hdr))[0]!
  rw [replicate_hdr_get k 0 hj]; exact ScHdrOK_new

/-- the invariant of the message object: while the header section is not finished the header list satisfies `ScTail`;
    once it is, the unfilled slots have type 0. (Nothing is claimed in the error states: the object must be Reset.) -/
def ScMsg (m : PSIPMsg) : Prop :=
  ((m.state = .init ∨ m.state = .fline ∨ m.state = .headers) → ScTail m.hl) ∧
  ((m.state = .body ∨ m.state = .fin) → ScDone m.hl)

theorem ScMsg_of_tail {m : PSIPMsg} (hT : ScTail m.hl) (hs : m.state ≠ .body ∧ m.state ≠ .fin) : ScMsg m :=
  MsgInv2.of_open (T := fun hl _ => ScTail hl) (D := fun hl _ => ScDone hl) hT hs

theorem sc_hdrsStep : HdrsStep (fun hl _ => ScTail hl) (fun hl _ => ScDone hl) := by
  intro b o hl pv hT o2 e hl2 hb hp
  have := sc_parseHeaders b o hl (some pv) hT
  rw [hp] at this
  exact this

/-- the invariant at the phase a call has reached -/
theorem MsgAt.sc {b : Buf} {o : Nat} {m : PSIPMsg} {s : MsgState} {o1 : Nat} {m1 : PSIPMsg} (h : MsgAt b o m s o1 m1)
    (H : ScMsg m) : if s = .body then ScDone m1.hl else ScTail m1.hl := h.inv2 sc_hdrsStep H

/-- **ParseSIPMsg preserves the invariant** — any buffer, any offset, any flags, any verdict — and after OK the
    header slots it did not fill have type 0 -/
theorem sc_parseSIPMsg (b : Buf) (o : Nat) (m : PSIPMsg) (flags : Nat) (H : ScMsg m) :
    ScMsg (parseSIPMsg b o m flags).2.2 ∧
    ((parseSIPMsg b o m flags).2.1 = .ok → ScDone (parseSIPMsg b o m flags).2.2.hl) :=
  MsgInv2.parseSIPMsg sc_hdrsStep b o m flags H

/-! ### (1d) Init, Reset, histories -/

/-- every object produced by Init (whatever it held before; caller arrays of any capacity, or none) -/
theorem ScMsg_init (m0 : PSIPMsg) (len kh kc : Nat) (hdrs cts : Option Unit) :
    ScMsg (m0.init len (hdrs.map fun _ => Array.replicate kh {}) (cts.map fun _ => Array.replicate kc {})) := by
  have hs : MsgState.init ≠ .body ∧ MsgState.init ≠ .fin := ⟨(fun hh => by cases hh), (fun hh => by cases hh)⟩
  cases hdrs with
  | none => exact ScMsg_of_tail (ScTail_new 10) hs
  | some _ => exact ScMsg_of_tail (ScTail_new kh) hs

/-- every object produced by Reset, whatever it held before (Reset clears the whole header array) -/
theorem ScMsg_reset (m : PSIPMsg) : ScMsg m.reset := by
  have e : m.reset.hl = { hdrs := Array.replicate m.hl.hdrs.size {} } := by
    show ({ hdrs := m.hl.hdrs.map fun _ => {} } : HdrLst) = _
    rw [Array.map_const']
  exact ScMsg_of_tail (by rw [e]; exact ScTail_new _) ⟨nofun, nofun⟩

/-- a chain of resumed calls keeps the invariant; if it ends with OK the unfilled header slots have type 0 -/
theorem sc_resumeRun (flags : Nat) (o : Nat) (m : PSIPMsg) (l : List Buf) (H : ScMsg m) :
    ScMsg (resumeRun (fun b o m => parseSIPMsg b o m flags) o m l).2.2 ∧
    ((resumeRun (fun b o m => parseSIPMsg b o m flags) o m l).2.1 = .ok →
      ScDone (resumeRun (fun b o m => parseSIPMsg b o m flags) o m l).2.2.hl) :=
  resumeRun_inv (fun b o m => parseSIPMsg b o m flags) (fun _ m => ScMsg m)
    (fun r => ScMsg r.2.2 ∧ (r.2.1 = .ok → ScDone r.2.2.hl))
    (fun b o m H => ⟨sc_parseSIPMsg b o m flags H, fun _ => (sc_parseSIPMsg b o m flags H).1⟩) o m l
    (fun _ => ⟨H, fun h => Err.noConfusion h⟩) H

/-! ### (1e) GetMsgSig never panics after a successful parse, whatever the history of the object -/

/-- `getMsgSig_after_parse` without its hypothesis on the unused header slots: it follows from the invariant -/
theorem sc_getMsgSig_safe (b : Buf) (o : Nat) (m : PSIPMsg) (flags : Nat) (hfit : b.size ≤ 65535)
    (hI : ScMsg m) (hok : msgOK2 b o m) (H : MsgSafe b o m) {o' : Nat} {m' : PSIPMsg}
    (hr : parseSIPMsg b o m flags = (o', .ok, m')) : (getMsgSigCore m' b).2.2 = false := by
  have hD := (sc_parseSIPMsg b o m flags hI).2
  rw [hr] at hD
  have hD' : ScDone m'.hl := hD rfl
  apply getMsgSig_after_parse b o m flags hfit hok H hr
  intro k h1 h2 hv
  rw [hD' k h1 h2] at hv
  cases hv

/-- the first call after Init: the two legitimacy hypotheses hold -/
theorem sc_getMsgSig_safe_init (b : Buf) (o : Nat) (ho : o ≤ b.size) (m0 : PSIPMsg) (len kh kc : Nat)
    (hdrs cts : Option Unit) (flags : Nat) (hfit : b.size ≤ 65535) {o' : Nat} {m' : PSIPMsg}
    (hr : parseSIPMsg b o (m0.init len (hdrs.map fun _ => Array.replicate kh {})
      (cts.map fun _ => Array.replicate kc {})) flags = (o', .ok, m')) : (getMsgSigCore m' b).2.2 = false :=
  sc_getMsgSig_safe b o _ flags hfit (ScMsg_init m0 len kh kc hdrs cts) (msgOK2_init b o ho m0 len kh kc hdrs cts)
    (MsgSafe_init b o ho m0 len kh kc hdrs cts) hr

/-- the buffer may have grown after the parse: only `msg.Buf` = its first `bufLen` bytes is read -/
theorem sc_getMsgSig_ext (m : PSIPMsg) (b s : Buf) (h : m.bufLen ≤ b.size) : getMsgSigCore m (b ++ s) = getMsgSigCore m b := by
  have he : (b ++ s).extract 0 m.bufLen = b.extract 0 m.bufLen := by
    rw [Array.extract_append]
    have : m.bufLen - b.size = 0 := by omega
    rw [this]
    simp
  unfold getMsgSigCore
  rw [he]

/-- **every chunk schedule from Init that ends with OK**: the result is what one call on one of the buffers (the one
    of the last call made) returns, `msg.Buf` lies inside that buffer, and GetMsgSig on it — or on any extension of
    it — does not panic -/
theorem sc_getMsgSig_safe_schedule (flags : Nat) (o : Nat) (m0 : PSIPMsg) (len kh kc : Nat) (hdrs cts : Option Unit)
    (l : List Buf) (hg : Growing l) (hfit : ∀ x ∈ l, x.size ≤ 65535) (hne : l ≠ []) (ho : ∀ b ∈ l, o ≤ b.size)
    {o' : Nat} {m' : PSIPMsg}
    (hr : resumeRun (C01.msgP flags) o
      (m0.init len (hdrs.map fun _ => Array.replicate kh {}) (cts.map fun _ => Array.replicate kc {})) l = (o', .ok, m')) :
    ∃ b ∈ l, parseSIPMsg b o (m0.init len (hdrs.map fun _ => Array.replicate kh {})
        (cts.map fun _ => Array.replicate kc {})) flags = (o', .ok, m') ∧ m'.bufLen ≤ b.size ∧
      ∀ s, (getMsgSigCore m' (b ++ s)).2.2 = false := by
  obtain ⟨b, hb, h⟩ := flo_schedule_init flags o m0 len kh kc hdrs cts l hg hfit hne ho hr
  have hsafe := sc_getMsgSig_safe_init b o (ho b hb) m0 len kh kc hdrs cts flags (hfit b hb) h
  obtain ⟨hh, _, _, hle, hL⟩ := parseSIPMsg_layout b o _ flags (hfit b hb)
    (msgOK2_init b o (ho b hb) m0 len kh kc hdrs cts) (MsgSafe_init b o (ho b hb) m0 len kh kc hdrs cts) h
  have hbl : m'.bufLen ≤ b.size := by rw [hL.bufLen]; exact hle
  exact ⟨b, hb, h, hbl, fun s => by rw [sc_getMsgSig_ext m' b s hbl]; exact hsafe⟩

/-! ### (2) chunking: the signature does not depend on how the message was cut into chunks -/

/-- **every chunk schedule from Init that ends with OK** gives the object — hence the signature, verdict and panic
    flag of GetMsgSig on any buffer — that the fresh one-shot calls on the same prefixes give -/
theorem sc_sig_chunking (flags : Nat) (o : Nat) (m0 : PSIPMsg) (len kh kc : Nat) (hdrs cts : Option Unit)
    (l : List Buf) (hg : Growing l) (hfit : ∀ x ∈ l, x.size ≤ 65535) (ho : ∀ b ∈ l.head?, o ≤ b.size)
    (hv : (resumeRun (C01.msgP flags) o (m0.init len (hdrs.map fun _ => Array.replicate kh {})
      (cts.map fun _ => Array.replicate kc {})) l).2.1 = .ok) :
    resumeRun (C01.msgP flags) o (m0.init len (hdrs.map fun _ => Array.replicate kh {})
        (cts.map fun _ => Array.replicate kc {})) l =
      oneShotRun (C01.msgP flags) o (m0.init len (hdrs.map fun _ => Array.replicate kh {})
        (cts.map fun _ => Array.replicate kc {})) l ∧
    ∀ b, getMsgSigCore (resumeRun (C01.msgP flags) o (m0.init len (hdrs.map fun _ => Array.replicate kh {})
        (cts.map fun _ => Array.replicate kc {})) l).2.2 b =
      getMsgSigCore (oneShotRun (C01.msgP flags) o (m0.init len (hdrs.map fun _ => Array.replicate kh {})
        (cts.map fun _ => Array.replicate kc {})) l).2.2 b := by
  have hrr := C01.schedule_msg_init flags o m0 len kh kc hdrs cts l hg hfit ho
  simp only at hrr
  have heq := hrr.eq (Or.inl (by rw [← hrr.2.1]; exact hv))
  exact ⟨heq, fun b => by rw [heq]⟩

/-- **a complete message handed over in ANY number of pieces** (each earlier piece boundary leaves an incomplete
    message: the one-shot verdict on that prefix is MoreBytes; the whole buffer `B` = last element parses OK): the
    chain of resumed calls returns exactly what ONE call on `B` returns — offset, verdict, object — and so
    GetMsgSig gives the same signature, verdict and panic flag -/
theorem sc_sig_chunking_whole (flags : Nat) (o : Nat) (m0 : PSIPMsg) (len kh kc : Nat) (hdrs cts : Option Unit)
    (l : List Buf) (hg : Growing l) (hfit : ∀ x ∈ l, x.size ≤ 65535) (hne : l ≠ []) (ho : ∀ b ∈ l.head?, o ≤ b.size)
    (hpre : ∀ x ∈ l.dropLast, (parseSIPMsg x o (m0.init len (hdrs.map fun _ => Array.replicate kh {})
      (cts.map fun _ => Array.replicate kc {})) flags).2.1 = .moreBytes)
    (hok : (parseSIPMsg (l.getLast hne) o (m0.init len (hdrs.map fun _ => Array.replicate kh {})
      (cts.map fun _ => Array.replicate kc {})) flags).2.1 = .ok) :
    resumeRun (C01.msgP flags) o (m0.init len (hdrs.map fun _ => Array.replicate kh {})
        (cts.map fun _ => Array.replicate kc {})) l =
      parseSIPMsg (l.getLast hne) o (m0.init len (hdrs.map fun _ => Array.replicate kh {})
        (cts.map fun _ => Array.replicate kc {})) flags ∧
    ∀ b, getMsgSigCore (resumeRun (C01.msgP flags) o (m0.init len (hdrs.map fun _ => Array.replicate kh {})
        (cts.map fun _ => Array.replicate kc {})) l).2.2 b =
      getMsgSigCore (parseSIPMsg (l.getLast hne) o (m0.init len (hdrs.map fun _ => Array.replicate kh {})
        (cts.map fun _ => Array.replicate kc {})) flags).2.2 b := by
  have hone := oneShotRun_last (C01.msgP flags) o (m0.init len (hdrs.map fun _ => Array.replicate kh {})
    (cts.map fun _ => Array.replicate kc {})) l _ (List.getLast?_eq_some_getLast hne) fun x hx h => absurd (hpre x hx) h
  have hrr := C01.schedule_msg_init flags o m0 len kh kc hdrs cts l hg hfit ho
  simp only at hrr
  have heq := hrr.eq (Or.inl (by rw [hone]; exact hok))
  rw [hone] at heq
  exact ⟨heq, fun b => by rw [heq]; rfl⟩

/-- … hence two different ways of cutting the same complete message give the same signature (and the same object) -/
theorem sc_sig_two_schedules (flags : Nat) (o : Nat) (m0 m0' : PSIPMsg) (len kh kc : Nat) (hdrs cts : Option Unit)
    (l1 l2 : List Buf) (hg1 : Growing l1) (hg2 : Growing l2) (hfit1 : ∀ x ∈ l1, x.size ≤ 65535)
    (hfit2 : ∀ x ∈ l2, x.size ≤ 65535) (hne1 : l1 ≠ []) (hne2 : l2 ≠ [])
    (ho1 : ∀ b ∈ l1.head?, o ≤ b.size) (ho2 : ∀ b ∈ l2.head?, o ≤ b.size)
    (hlast : l1.getLast hne1 = l2.getLast hne2)
    (hpre1 : ∀ x ∈ l1.dropLast, (parseSIPMsg x o (m0.init len (hdrs.map fun _ => Array.replicate kh {})
      (cts.map fun _ => Array.replicate kc {})) flags).2.1 = .moreBytes)
    (hpre2 : ∀ x ∈ l2.dropLast, (parseSIPMsg x o (m0'.init len (hdrs.map fun _ => Array.replicate kh {})
      (cts.map fun _ => Array.replicate kc {})) flags).2.1 = .moreBytes)
    (hok : (parseSIPMsg (l1.getLast hne1) o (m0.init len (hdrs.map fun _ => Array.replicate kh {})
      (cts.map fun _ => Array.replicate kc {})) flags).2.1 = .ok) (b : Buf) :
    getMsgSigCore (resumeRun (C01.msgP flags) o (m0.init len (hdrs.map fun _ => Array.replicate kh {})
        (cts.map fun _ => Array.replicate kc {})) l1).2.2 b =
      getMsgSigCore (resumeRun (C01.msgP flags) o (m0'.init len (hdrs.map fun _ => Array.replicate kh {})
        (cts.map fun _ => Array.replicate kc {})) l2).2.2 b := by
  have hinit : m0'.init len (hdrs.map fun _ => Array.replicate kh {}) (cts.map fun _ => Array.replicate kc {}) =
      m0.init len (hdrs.map fun _ => Array.replicate kh {}) (cts.map fun _ => Array.replicate kc {}) := by
    cases hdrs <;> cases cts <;> rfl
  rw [hinit] at hpre2 ⊢
  have h1 := sc_sig_chunking_whole flags o m0 len kh kc hdrs cts l1 hg1 hfit1 hne1 ho1 hpre1 hok
  have h2 := sc_sig_chunking_whole flags o m0 len kh kc hdrs cts l2 hg2 hfit2 hne2 ho2 hpre2 (by rw [← hlast]; exact hok)
  rw [h1.2 b, h2.2 b, hlast]

/-- cleared slots (type 0) change neither the signature nor the panic flag -/
theorem sc_loop_pad (mbuf : Buf) (pf : Nat) (pad : List Hdr) (st : SigLoopSt) (hp : ∀ h ∈ pad, h.type = 0) :
    (msgSigLoop mbuf pf pad st).1.sig = st.sig ∧ (msgSigLoop mbuf pf pad st).1.pnc = st.pnc :=
  msgSigLoop_inv mbuf pf (J := fun st' => st'.sig = st.sig ∧ st'.pnc = st.pnc) pad (fun h hh st' H => by
    have hns : isSigType (hdrKey mbuf h).type = false := by
      show isSigType h.type = false
      rw [hp h hh]; decide
    refine ⟨(stepSig_nosig _ st'.sig hns).trans H.1, ?_⟩
    show (st'.pnc || (hdrKey mbuf h).viaPnc) = st.pnc
    rw [viaPnc_nosig _ hns, Bool.or_false]; exact H.2) st ⟨rfl, rfl⟩

/-- the stored headers followed by cleared slots: signature and panic flag of the stored headers alone -/
theorem sc_loop_prefix_pad (mbuf : Buf) (pf : Nat) (l1 pad : List Hdr) (st : SigLoopSt)
    (hp : ∀ h ∈ pad, h.type = 0) :
    (msgSigLoop mbuf pf (l1 ++ pad) st).1.sig = (msgSigLoop mbuf pf l1 st).1.sig ∧
    (msgSigLoop mbuf pf (l1 ++ pad) st).1.pnc = (msgSigLoop mbuf pf l1 st).1.pnc := by
  rw [msgSigLoop_append]
  split
  · exact ⟨rfl, rfl⟩
  · exact sc_loop_pad mbuf pf pad _ hp

theorem sc_take_eq (a1 a2 : Array Hdr) (n : Nat) (h1 : n ≤ a1.size) (h2 : n ≤ a2.size)
    (hag : ∀ k, k < n → a1[k]! = a2[k]!) : a1.toList.take n = a2.toList.take n := by
  apply List.ext_getElem
  · simp only [List.length_take, Array.length_toList]; omega
  · intro i hi1 hi2
    have hi : i < n := by
      simp only [List.length_take, Array.length_toList] at hi1; omega
    have := hag i hi
    rw [getElem!_pos a1 i (by omega), getElem!_pos a2 i (by omega)] at this
    simp only [List.getElem_take, Array.getElem_toList]
    exact this

theorem sc_drop_types (a : Array Hdr) (n : Nat) (hz : ∀ k, n ≤ k → k < a.size → a[k]!.type = 0) :
    ∀ h ∈ a.toList.drop n, h.type = 0 := by
  intro h hh
  obtain ⟨i, hi, rfl⟩ := List.mem_iff_getElem.mp hh
  simp only [List.length_drop, Array.length_toList] at hi
  have := hz (n + i) (by omega) (by omega)
  rw [getElem!_pos a (n + i) (by omega)] at this
  simp only [List.getElem_drop, Array.getElem_toList]
  exact this

theorem sc_toList_prefix (a1 a2 : Array Hdr) (h : a1.size ≤ a2.size) (hag : ∀ k, k < a1.size → a1[k]! = a2[k]!) :
    a2.toList = a1.toList ++ a2.toList.drop a1.size := by
  have ht := sc_take_eq a1 a2 a1.size (Nat.le_refl _) h hag
  rw [List.take_of_length_le (by simp)] at ht
  rw [ht, List.take_append_drop]

/-- two header arrays that both hold the `n` stored headers, agree on them, and are cleared beyond: the loop gives
    the same signature and panic flag -/
theorem sc_loop_fit (mbuf : Buf) (pf : Nat) (a1 a2 : Array Hdr) (n : Nat) (st : SigLoopSt)
    (hn1 : n ≤ a1.size) (hn2 : n ≤ a2.size) (hag : ∀ k, k < n → a1[k]! = a2[k]!)
    (hz1 : ∀ k, n ≤ k → k < a1.size → a1[k]!.type = 0) (hz2 : ∀ k, n ≤ k → k < a2.size → a2[k]!.type = 0) :
    (msgSigLoop mbuf pf a1.toList st).1.sig = (msgSigLoop mbuf pf a2.toList st).1.sig ∧
    (msgSigLoop mbuf pf a1.toList st).1.pnc = (msgSigLoop mbuf pf a2.toList st).1.pnc := by
  have p1 := sc_loop_prefix_pad mbuf pf (a1.toList.take n) (a1.toList.drop n) st (sc_drop_types a1 n hz1)
  have p2 := sc_loop_prefix_pad mbuf pf (a2.toList.take n) (a2.toList.drop n) st (sc_drop_types a2 n hz2)
  rw [List.take_append_drop] at p1 p2
  rw [p1.1, p1.2, p2.1, p2.2, sc_take_eq a1 a2 n hn1 hn2 hag]
  exact ⟨rfl, rfl⟩

/-- the verdict of GetMsgSig when all headers fit -/
theorem sc_verdict_fit (ex : Bool) (n size : Nat) (h : n ≤ size) :
    (if ex = true then Err.ok else if n > size then Err.trunc else Err.ok) = Err.ok := by
  split
  · rfl
  · rw [if_neg (by omega)]

/-- what GetMsgSig reads of a message object that `MsgDone` relates to another one -/
theorem sc_msgDone_fields {m1 m2 : PSIPMsg} (hD : MsgDone m1 m2) :
    m2.request = m1.request ∧ m2.bufLen = m1.bufLen ∧ m2.pv.callid = m1.pv.callid ∧ m2.pv.from_ = m1.pv.from_ ∧
    m2.fl.methodNo = m1.fl.methodNo ∧ HlsDone m1.hl m2.hl := by
  obtain ⟨hl2, c2, rfl, hH, _⟩ := hD
  exact ⟨rfl, rfl, rfl, rfl, rfl, hH⟩

/-- **(3a) two header arrays that both hold all headers of the message**: the same signature, verdict (OK) and panic
    flag. `MsgDone` is the relation the capacity theorems (C13) establish between the results of two runs with
    different capacities; `ScDone` holds after every successful parse (`sc_parseSIPMsg`, `sc_resumeRun`). -/
theorem sc_sig_fit (m1 m2 : PSIPMsg) (b : Buf) (hD : MsgDone m1 m2) (h1 : ScDone m1.hl) (h2 : ScDone m2.hl)
    (hn1 : m1.hl.n ≤ m1.hl.hdrs.size) (hn2 : m2.hl.n ≤ m2.hl.hdrs.size) : getMsgSigCore m1 b = getMsgSigCore m2 b := by
  obtain ⟨ereq, elen, ecid, efrom, emeth, hH⟩ := sc_msgDone_fields hD
  rcases getMsgSigCore_cases m1 b with ⟨hr, h⟩ | ⟨hr, ho, h⟩ | ⟨hr, cid, tag, hc, ht, h⟩ <;> rw [h]
  · rw [getMsgSig_reply m2 b (ereq.trans hr)]
  · rw [getMsgSig_outside m2 b (ereq.trans hr) (by rw [ecid, efrom, elen]; exact ho)]
  · rw [getMsgSig_request m2 b (ereq.trans hr) cid tag (by rw [ecid, elen]; exact hc)
      (by rw [efrom, elen]; exact ht), elen, emeth, ← hH.pflags]
    have key := sc_loop_fit (b.extract 0 m1.bufLen) m1.hl.pflags m1.hl.hdrs m2.hl.hdrs m1.hl.n
      (sigInit m1.fl.methodNo cid tag) hn1 (by rw [hH.n]; exact hn2)
      (fun k hk => hH.agree k hk (by omega) (by rw [hH.n] at hk; omega)) h1 (by rw [hH.n]; exact h2)
    rw [key.1, key.2, sc_verdict_fit _ _ _ hn2, sc_verdict_fit _ _ _ hn1]

/-- **(3b) a header array too small for the message** compared with any array at least as large (too small as well, or
    large enough): GetMsgSig gives the explicit truncated indication, or else exactly the same result — signature,
    verdict, panic flag — as with the larger array -/
theorem sc_sig_small (m1 m2 : PSIPMsg) (b : Buf) (hD : MsgDone m1 m2) (hsmall : m1.hl.hdrs.size < m1.hl.n)
    (hle : m1.hl.hdrs.size ≤ m2.hl.hdrs.size) :
    (getMsgSigCore m1 b).2.1 = .trunc ∨ getMsgSigCore m1 b = getMsgSigCore m2 b := by
  obtain ⟨ereq, elen, ecid, efrom, emeth, hH⟩ := sc_msgDone_fields hD
  rcases getMsgSigCore_cases m1 b with ⟨hr, h⟩ | ⟨hr, ho, h⟩ | ⟨hr, cid, tag, hc, ht, h⟩ <;> rw [h]
  · exact Or.inr (getMsgSig_reply m2 b (ereq.trans hr)).symm
  · exact Or.inr (getMsgSig_outside m2 b (ereq.trans hr) (by rw [ecid, efrom, elen]; exact ho)).symm
  · cases hex : (msgSigLoop (b.extract 0 m1.bufLen) m1.hl.pflags m1.hl.hdrs.toList
        (sigInit m1.fl.methodNo cid tag)).2
    · left
      simp only [Bool.false_eq_true, ↓reduceIte]
      rw [if_pos hsmall]
    · right
      rw [getMsgSig_request m2 b (ereq.trans hr) cid tag (by rw [ecid, elen]; exact hc)
        (by rw [efrom, elen]; exact ht), elen, emeth, ← hH.pflags]
      have hpre := sc_toList_prefix m1.hl.hdrs m2.hl.hdrs hle
        (fun k hk => hH.agree k (by omega) hk (by omega))
      have hloop : msgSigLoop (b.extract 0 m1.bufLen) m1.hl.pflags m2.hl.hdrs.toList
            (sigInit m1.fl.methodNo cid tag) =
          msgSigLoop (b.extract 0 m1.bufLen) m1.hl.pflags m1.hl.hdrs.toList (sigInit m1.fl.methodNo cid tag) := by
        rw [hpre]
        exact msgSigLoop_append_exit _ _ _ _ _ hex
      rw [hloop]
      simp only [hex, ↓reduceIte]

/-! #### the capacity of the header array never changes -/

theorem sc_size_parseHeaders (b : Buf) (offs : Nat) (hl : HdrLst) (hb : Option PHdrVals) :
    (parseHeaders b offs hl hb).2.2.1.hdrs.size = hl.hdrs.size :=
  parseHeaders_ind b (J := fun _ hl' _ => hl'.hdrs.size = hl.hdrs.size)
    (R := fun r => r.2.2.1.hdrs.size = hl.hdrs.size)
    (line := fun _ hl' _ _ g _ h _ _ _ => by rw [accept_hdrs, hlSetCur_size]; exact h)
    (bug := fun _ hl' _ _ g _ h _ _ => by
      show ((hl'.setCur g).accept g).hdrs.size = _; rw [accept_hdrs, hlSetCur_size]; exact h)
    (endOk := fun _ hl' _ _ g _ h _ _ _ => (hlSetCur_size hl' g).trans h)
    (endEmpty := fun _ hl' _ _ g _ h _ _ _ => (hlSetCur_size hl' g).trans h)
    (stop := fun _ hl' _ _ _ g _ h _ _ _ _ => (hlSetCur_size hl' g).trans h) (eob := fun _ _ _ h _ => h) offs hl hb rfl

theorem sc_size_parseSIPMsg (b : Buf) (o : Nat) (m : PSIPMsg) (flags : Nat) :
    (parseSIPMsg b o m flags).2.2.hl.hdrs.size = m.hl.hdrs.size := by
  rcases parseSIPMsg_hl_pv b o m flags with h | ⟨o1, h, _⟩
  · rw [h.1]
  · rw [h, sc_size_parseHeaders]

theorem sc_size_resumeRun (flags : Nat) (o : Nat) (m : PSIPMsg) (l : List Buf) :
    (resumeRun (fun b o m => parseSIPMsg b o m flags) o m l).2.2.hl.hdrs.size = m.hl.hdrs.size :=
  resumeRun_inv (fun b o m => parseSIPMsg b o m flags) (fun _ m' => m'.hl.hdrs.size = m.hl.hdrs.size)
    (fun r => r.2.2.hl.hdrs.size = m.hl.hdrs.size)
    (fun b o m' h => ⟨(sc_size_parseSIPMsg b o m' flags).trans h, fun _ => (sc_size_parseSIPMsg b o m' flags).trans h⟩)
    o m l (fun _ => rfl) rfl

/-- the capacity Init installs: the caller's, or 10 (the private array) when none is supplied -/
def scCap (kh : Nat) (hdrs : Option Unit) : Nat := (hdrs.map fun _ => kh).getD 10

theorem sc_size_init (m0 : PSIPMsg) (len kh kc : Nat) (hdrs cts : Option Unit) :
    (m0.init len (hdrs.map fun _ => Array.replicate kh {}) (cts.map fun _ => Array.replicate kc {})).hl.hdrs.size =
      scCap kh hdrs := by
  cases hdrs <;> simp [PSIPMsg.init, scCap]

/-- **(3) capacities, any chunk schedule, from Init**: two runs over the same chunk schedule on objects initialised
    with ANY two header / contact capacities (or none = the private arrays of 10), the first one ending with OK:
    the second one ends with OK at the same offset with the same header count `n`; the arrays keep their capacities;
    * if both capacities hold all `n` headers, GetMsgSig gives the same result (signature, verdict OK, panic flag);
    * if the first capacity is too small and the second is not smaller, GetMsgSig on the first object gives the
      truncated indication, or else exactly the result on the second object. -/
theorem sc_sig_capacity (flags : Nat) (o : Nat) (m0 m0' : PSIPMsg) (len kh1 kc1 kh2 kc2 : Nat)
    (hd1 ct1 hd2 ct2 : Option Unit) (l : List Buf) (hg : Growing l) (hfit : ∀ x ∈ l, x.size ≤ 65535)
    (ho : ∀ b ∈ l.head?, o ≤ b.size) (hne : l ≠ [])
    (r1 r2 : Nat × Err × PSIPMsg)
    (hr1 : r1 = resumeRun (fun b o m => parseSIPMsg b o m flags) o
      (m0.init len (hd1.map fun _ => Array.replicate kh1 {}) (ct1.map fun _ => Array.replicate kc1 {})) l)
    (hr2 : r2 = resumeRun (fun b o m => parseSIPMsg b o m flags) o
      (m0'.init len (hd2.map fun _ => Array.replicate kh2 {}) (ct2.map fun _ => Array.replicate kc2 {})) l)
    (hok : r1.2.1 = .ok) :
    r2.1 = r1.1 ∧ r2.2.1 = .ok ∧ r2.2.2.hl.n = r1.2.2.hl.n ∧
    r1.2.2.hl.hdrs.size = scCap kh1 hd1 ∧ r2.2.2.hl.hdrs.size = scCap kh2 hd2 ∧
    (r1.2.2.hl.n ≤ scCap kh1 hd1 → r1.2.2.hl.n ≤ scCap kh2 hd2 → ∀ b, getMsgSigCore r1.2.2 b = getMsgSigCore r2.2.2 b) ∧
    (scCap kh1 hd1 < r1.2.2.hl.n → scCap kh1 hd1 ≤ scCap kh2 hd2 →
      ∀ b, (getMsgSigCore r1.2.2 b).2.1 = .trunc ∨ getMsgSigCore r1.2.2 b = getMsgSigCore r2.2.2 b) := by
  have hout : MsgOut r1 r2 := by
    rw [hr1, hr2]
    exact Sipsp.capacity_schedule flags o _ _ l hg hfit (MsgRel_init m0 m0' len kh1 kc1 kh2 kc2 hd1 ct1 hd2 ct2)
      (fun b hb => msgOK2_init b o (ho b hb) m0 len kh1 kc1 hd1 ct1) hne
  obtain ⟨e1, e2, _, e4⟩ := hout
  have hD : MsgDone r1.2.2 r2.2.2 := e4 hok
  have hok2 : r2.2.1 = .ok := by rw [← e2]; exact hok
  have hs1 : r1.2.2.hl.hdrs.size = scCap kh1 hd1 := by
    rw [hr1, sc_size_resumeRun, sc_size_init]
  have hs2 : r2.2.2.hl.hdrs.size = scCap kh2 hd2 := by
    rw [hr2, sc_size_resumeRun, sc_size_init]
  have hd1' : ScDone r1.2.2.hl := by
    have := (sc_resumeRun flags o _ l (ScMsg_init m0 len kh1 kc1 hd1 ct1)).2
    rw [← hr1] at this; exact this hok
  have hd2' : ScDone r2.2.2.hl := by
    have := (sc_resumeRun flags o _ l (ScMsg_init m0' len kh2 kc2 hd2 ct2)).2
    rw [← hr2] at this; exact this hok2
  have hn : r2.2.2.hl.n = r1.2.2.hl.n := (sc_msgDone_fields hD).2.2.2.2.2.n.symm
  refine ⟨e1.symm, hok2, hn, hs1, hs2, fun f1 f2 b => ?_, fun f1 f2 b => ?_⟩
  · exact sc_sig_fit r1.2.2 r2.2.2 b hD hd1' hd2' (by rw [hs1]; exact f1) (by rw [hs2, hn]; exact f2)
  · exact sc_sig_small r1.2.2 r2.2.2 b hD (by rw [hs1]; exact f1) (by rw [hs1, hs2]; exact f2)

/-! ### (1f) what a ParseSIPMsg call does to the contacts object; Reset of a reachable object is an Init object -/

/-- a property of the slot array and the entry count that survives writing the slot in progress and counting an
    entry survives ParseAllContactValues (nothing else is done to the two) -/
theorem sc_slots_contactsLoop {P : Array PFromBody → Nat → Prop} (hset : ∀ a n x, P a n → P (a.set! n x) n)
    (hsucc : ∀ a n, P a n → P a (n + 1)) (b : Buf) (offs : Nat) (c : PContacts) (h : P c.vals c.n) :
    P (contactsLoop b offs c).2.2.vals (contactsLoop b offs c).2.2.n := by
  induction hk : b.size - offs using Nat.strongRecOn generalizing offs c with
  | _ k ih =>
    rw [contactsLoop]
    simp only
    rcases hp : parseOneContact b offs c.cur with ⟨next, e, pf⟩
    have hs : P (c.setCur pf).vals (c.setCur pf).n := by
      unfold PContacts.setCur
      split
      · exact hset _ _ _ h
      · exact h
    have hacc : P ((c.setCur pf).account pf).vals ((c.setCur pf).account pf).n := by
      rw [account_vals, account_n]; exact hsucc _ _ hs
    cases e
    case ok => exact hacc
    case moreValues =>
      simp only
      split
      · apply ih (b.size - next) (by omega) next _ _ rfl
        split <;> exact hacc
      · simp only
        split <;> exact hacc
    case moreBytes => exact hs
    all_goals
      simp only
      split
      · exact hs
      · exact h

theorem sc_slots_parseAll {P : Array PFromBody → Nat → Prop} (hset : ∀ a n x, P a n → P (a.set! n x) n)
    (hsucc : ∀ a n, P a n → P a (n + 1)) (b : Buf) (offs : Nat) (c : PContacts) (h : P c.vals c.n) :
    P (parseAllContactValues b offs c).2.2.vals (parseAllContactValues b offs c).2.2.n := by
  unfold parseAllContactValues
  apply sc_slots_contactsLoop hset hsucc
  split <;> exact h

/-- the contacts of the header values (if any) satisfy `Q` -/
def ScHbQ (Q : PContacts → Prop) (hb : Option PHdrVals) : Prop := ∀ hv, hb = some hv → Q hv.contacts

theorem ScHbQ_none {Q : PContacts → Prop} : ScHbQ Q none := fun _ h => by cases h

theorem ScHbQ_some {Q : PContacts → Prop} {hv : PHdrVals} (h : Q hv.contacts) : ScHbQ Q (some hv) := by
  intro hv' hh; cases hh; exact h

section
/- `Q`: a property of the contacts object that ParseAllContactValues preserves and that does not look at the header
   counter and the last-value field (`parseBody` sets them before the call). It is carried through every layer
   up to ParseSIPMsg: nothing else touches the contacts. -/
variable {Q : PContacts → Prop} (hQ0 : ∀ (c : PContacts) k f, Q c → Q { c with hNo := k, lastHVal := f })
  (hQ : ∀ b o c, Q c → Q (parseAllContactValues b o c).2.2)
include hQ0 hQ

theorem sc_hb_valCall (S st : HState) (b : Buf) (o : Nat) (hv : PHdrVals) (H : Q hv.contacts) :
    Q (valCall S st b o hv).2.2.2.contacts := by
  unfold valCall
  cases S <;> dsimp only
  case hContact =>
    apply hQ
    unfold ctArg
    split
    · exact hQ0 _ _ _ H
    · exact H
  all_goals exact H

/-- the values object is touched in one place, the call of a typed value parser -/
theorem sc_hb_parseHdrLine (b : Buf) (o : Nat) (h : Hdr) (hb : Option PHdrVals) (H : ScHbQ Q hb) :
    ScHbQ Q (parseHdrLine b o h hb).2.2.2 := by
  rcases hr : parseHdrLine b o h hb with ⟨o', e, h', hb'⟩
  exact parseHdrLine_ind b (fun _ st => ScHbQ Q st.2) (fun _ _ st => ScHbQ Q st.2)
    (hexit := fun _ _ _ _ _ _ _ _ hS _ => hS) (hgo := fun _ _ _ _ _ _ _ hS _ => hS)
    (hnoname := fun _ _ _ _ _ _ _ hS _ _ => hS) (huntyped := fun _ _ _ _ _ _ _ _ hS _ _ _ => hS)
    (hnil := fun _ _ _ _ _ _ => ScHbQ_none)
    (hcall := fun _ _ _ hv j h1 K _ hS _ => ScHbQ_some (sc_hb_valCall hQ0 hQ K h1.state b j hv (hS hv rfl)))
    (heob := fun _ _ hS => hS) H hr

theorem sc_hb_parseHeaders (b : Buf) (offs : Nat) (hl : HdrLst) (hb : Option PHdrVals) (H : ScHbQ Q hb) :
    ScHbQ Q (parseHeaders b offs hl hb).2.2.2 := by
  have hline : ∀ {offs : Nat} {h : Hdr} {hb n e g hb'}, ScHbQ Q hb → parseHdrLine b offs h hb = (n, e, g, hb') →
      ScHbQ Q hb' := fun {offs h hb _ _ _ _} H hp => by
    have := sc_hb_parseHdrLine hQ0 hQ b offs h hb H
    rw [hp] at this; exact this
  exact parseHeaders_ind b (J := fun _ _ hb => ScHbQ Q hb) (R := fun r => ScHbQ Q r.2.2.2)
    (line := fun _ _ _ _ _ _ H _ hp _ => hline H hp) (bug := fun _ _ _ _ _ _ H hp _ => hline H hp)
    (endOk := fun _ _ _ _ _ _ H _ hp _ => hline H hp) (endEmpty := fun _ _ _ _ _ _ H _ hp _ => hline H hp)
    (stop := fun _ _ _ _ _ _ _ H _ hp _ _ => hline H hp) (eob := fun _ _ _ H _ => H) offs hl hb H

/-- **ParseSIPMsg preserves every such property of the contacts object** (any buffer, offset, flags, verdict) -/
theorem sc_hb_parseSIPMsg (b : Buf) (o : Nat) (m : PSIPMsg) (flags : Nat) (H : Q m.pv.contacts) :
    Q (parseSIPMsg b o m flags).2.2.pv.contacts := by
  rcases parseSIPMsg_hl_pv b o m flags with h | ⟨o1, _, h⟩
  · rw [h.2]; exact H
  · rw [h]
    have hs := sc_hb_parseHeaders hQ0 hQ b o1 m.hl (some m.pv) (ScHbQ_some H)
    cases hb1 : (parseHeaders b o1 m.hl (some m.pv)).2.2.2 with
    | none => exact H
    | some hv => exact hs hv hb1

end

/-! the instance used here: the entries above the one in progress are untouched -/

theorem sc_ct_parseAll (b : Buf) (offs : Nat) (c : PContacts) (h : TailZero c.vals {} c.n) :
    TailZero (parseAllContactValues b offs c).2.2.vals {} (parseAllContactValues b offs c).2.2.n :=
  sc_slots_parseAll (P := fun a n => TailZero a {} n) (fun a n x => tailZero_set a {} x n)
    (fun a n => tailZero_mono a {} n (n + 1) (Nat.le_succ n)) b offs c h

def ScHb (hb : Option PHdrVals) : Prop := ScHbQ (fun c => TailZero c.vals {} c.n) hb

theorem ScHb_some {hv : PHdrVals} (h : TailZero hv.contacts.vals {} hv.contacts.n) : ScHb (some hv) := ScHbQ_some h

theorem sc_ct_parseHdrLine (b : Buf) (o : Nat) (h : Hdr) (hb : Option PHdrVals) (H : ScHb hb) :
    ScHb (parseHdrLine b o h hb).2.2.2 := sc_hb_parseHdrLine (fun _ _ _ h => h) sc_ct_parseAll b o h hb H

theorem sc_ct_parseHeaders (b : Buf) (offs : Nat) (hl : HdrLst) (hb : Option PHdrVals) (H : ScHb hb) :
    ScHb (parseHeaders b offs hl hb).2.2.2 := sc_hb_parseHeaders (fun _ _ _ h => h) sc_ct_parseAll b offs hl hb H

/-- the message-level contacts invariant -/
def ScCt (m : PSIPMsg) : Prop := TailZero m.pv.contacts.vals {} m.pv.contacts.n

/-- **ParseSIPMsg preserves the contacts invariant** (any buffer, offset, flags, verdict) -/
theorem sc_ct_parseSIPMsg (b : Buf) (o : Nat) (m : PSIPMsg) (flags : Nat) (H : ScCt m) :
    ScCt (parseSIPMsg b o m flags).2.2 :=
  sc_hb_parseSIPMsg (Q := fun c => TailZero c.vals {} c.n) (fun _ _ _ h => h) sc_ct_parseAll b o m flags H

theorem sc_map_const (a : Array Hdr) : a.map (fun _ => ({} : Hdr)) = Array.replicate a.size {} :=
  Array.map_const'

/-- **Reset of an object that satisfies the contacts invariant is an Init object** with the same capacities -/
theorem sc_reset_eq_init (m : PSIPMsg) (H : ScCt m) :
    m.reset = ({} : PSIPMsg).init m.bufLen ((some ()).map fun _ => Array.replicate m.hl.hdrs.size {})
      ((some ()).map fun _ => Array.replicate m.pv.contacts.vals.size {}) := by
  have h1 : m.hl.reset.hdrs = Array.replicate m.hl.hdrs.size {} := sc_map_const m.hl.hdrs
  have h2 : m.pv.reset.contacts.vals = Array.replicate m.pv.contacts.vals.size {} :=
    clearUpToP_of_tailZero m.pv.contacts.vals {} m.pv.contacts.n H
  unfold PSIPMsg.reset
  rw [h1, h2]
  rfl

/-! ### (1g) any history -/

/-- the life of a message object: the zero value or Init (of anything, with cleared caller arrays or none), then any
    sequence of Reset and ParseSIPMsg calls — any buffer, offset and flags, whatever the verdict (complete,
    suspended, failed, called again after an error, on unrelated buffers, …) -/
inductive ScReach : PSIPMsg → Prop
  | new : ScReach {}
  | init (m0 : PSIPMsg) (len kh kc : Nat) (hdrs cts : Option Unit) :
      ScReach (m0.init len (hdrs.map fun _ => Array.replicate kh {}) (cts.map fun _ => Array.replicate kc {}))
  | reset {m : PSIPMsg} : ScReach m → ScReach m.reset
  | parse {m : PSIPMsg} (b : Buf) (o flags : Nat) : ScReach m → ScReach (parseSIPMsg b o m flags).2.2

theorem ScCt_init (m0 : PSIPMsg) (len kh kc : Nat) (hdrs cts : Option Unit) :
    ScCt (m0.init len (hdrs.map fun _ => Array.replicate kh {}) (cts.map fun _ => Array.replicate kc {})) := by
  cases cts with
  | none => exact tailZero_new ({} : PFromBody) 10 0
  | some _ => exact tailZero_new ({} : PFromBody) kc 0

/-- **both invariants hold at every point of every history** -/
theorem ScReach.inv {m : PSIPMsg} (h : ScReach m) : ScMsg m ∧ ScCt m := by
  induction h with
  | new =>
    refine ⟨ScMsg_of_tail (ScTail_new 0) ⟨(fun hh => by cases hh), (fun hh => by cases hh)⟩, ?_⟩
    intro k _ hk
    exact absurd hk (Nat.not_lt_zero _)
  | init m0 len kh kc hdrs cts => exact ⟨ScMsg_init m0 len kh kc hdrs cts, ScCt_init m0 len kh kc hdrs cts⟩
  | @reset m _ ih =>
    refine ⟨ScMsg_reset m, ?_⟩
    rw [sc_reset_eq_init m ih.2]
    exact ScCt_init _ _ _ _ _ _
  | parse b o flags _ ih => exact ⟨(sc_parseSIPMsg b o _ flags ih.1).1, sc_ct_parseSIPMsg b o _ flags ih.2⟩

/-- **after ANY history** that left the object legitimate for the next call (`msgOK2`, `MsgSafe`: a resumed call on
    an extension of the same buffer; for the first call after Init / Reset they hold, see below), a successful
    ParseSIPMsg is followed by a panic-free GetMsgSig -/
theorem sc_getMsgSig_safe_history (b : Buf) (o : Nat) (m : PSIPMsg) (flags : Nat) (hfit : b.size ≤ 65535)
    (hR : ScReach m) (hok : msgOK2 b o m) (H : MsgSafe b o m) {o' : Nat} {m' : PSIPMsg}
    (hr : parseSIPMsg b o m flags = (o', .ok, m')) : (getMsgSigCore m' b).2.2 = false :=
  sc_getMsgSig_safe b o m flags hfit hR.inv.1 hok H hr

/-- **Reset after any history gives an Init object** (so every theorem stated "from Init" applies after Reset) … -/
theorem sc_reset_after_history {m : PSIPMsg} (hR : ScReach m) :
    m.reset = ({} : PSIPMsg).init m.bufLen ((some ()).map fun _ => Array.replicate m.hl.hdrs.size {})
      ((some ()).map fun _ => Array.replicate m.pv.contacts.vals.size {}) :=
  sc_reset_eq_init m hR.inv.2

/-- … in particular it is legitimate for a first call at any offset inside any buffer -/
theorem sc_reset_legit {m : PSIPMsg} (hR : ScReach m) (b : Buf) (o : Nat) (ho : o ≤ b.size) :
    msgOK2 b o m.reset ∧ MsgSafe b o m.reset := by
  rw [sc_reset_after_history hR]
  exact ⟨msgOK2_init b o ho _ _ _ _ _ _, MsgSafe_init b o ho _ _ _ _ _ _⟩

/-- **any history, then Reset, then one successful call**: GetMsgSig does not panic (no legitimacy hypothesis left) -/
theorem sc_getMsgSig_safe_reset {m : PSIPMsg} (hR : ScReach m) (b : Buf) (o : Nat) (ho : o ≤ b.size) (flags : Nat)
    (hfit : b.size ≤ 65535) {o' : Nat} {m' : PSIPMsg} (hr : parseSIPMsg b o m.reset flags = (o', .ok, m')) :
    (getMsgSigCore m' b).2.2 = false :=
  sc_getMsgSig_safe b o m.reset flags hfit (ScMsg_reset m) (sc_reset_legit hR b o ho).1 (sc_reset_legit hR b o ho).2 hr

/-- **any history, then Reset, then any chunk schedule that ends with OK**: as `sc_getMsgSig_safe_schedule` -/
theorem sc_getMsgSig_safe_reset_schedule {m : PSIPMsg} (hR : ScReach m) (flags : Nat) (o : Nat)
    (l : List Buf) (hg : Growing l) (hfit : ∀ x ∈ l, x.size ≤ 65535) (hne : l ≠ []) (ho : ∀ b ∈ l, o ≤ b.size)
    {o' : Nat} {m' : PSIPMsg} (hr : resumeRun (C01.msgP flags) o m.reset l = (o', .ok, m')) :
    ∃ b ∈ l, parseSIPMsg b o m.reset flags = (o', .ok, m') ∧ m'.bufLen ≤ b.size ∧
      ∀ s, (getMsgSigCore m' (b ++ s)).2.2 = false := by
  rw [sc_reset_after_history hR] at hr ⊢
  exact sc_getMsgSig_safe_schedule flags o _ _ _ _ _ _ l hg hfit hne ho hr

end Sipsp

namespace Sipsp

/-! ### tests / non-vacuity (closed computations by `decide +kernel`; these are examples, not the general claims) -/

/-- test message: INVITE with Via, Subject, compact From, To, Call-ID, CSeq, a second Via, Content-Length (8 headers) -/
def scTestMsg : Buf := "INVITE sip:a@b SIP/2.0\r\nVia: SIP/2.0/UDP h;branch=z9hG4bK-a.b\r\nSubject: x\r\nf: <sip:a@b>;tag=a-1\r\nTo: <sip:c@d>\r\nCall-ID: x@1.2.3.4\r\nCSeq: 1 INVITE\r\nVia: SIP/2.0/UDP h2\r\nContent-Length: 0\r\n\r\n".toUTF8.data

/-- the object after Init with a header array of `k` entries (written as the theorems write it) -/
def scTestInit (k : Nat) : PSIPMsg :=
  ({} : PSIPMsg).init 0 ((some ()).map fun _ => Array.replicate k {}) ((none : Option Unit).map fun _ => Array.replicate 0 {})

theorem scTest_fit : scTestMsg.size ≤ 65535 := by decide +kernel

/-- test (1): the one-shot parse with 12 slots, evaluated once: it succeeds (so the hypotheses of
    `sc_getMsgSig_safe_init` are satisfiable), the four unfilled slots have type 0 (`ScDone`), and its signature -/
theorem scTest_parse12 : (parseSIPMsg scTestMsg 0 (scTestInit 12) 0).2.1 = .ok ∧
    ((parseSIPMsg scTestMsg 0 (scTestInit 12) 0).2.2.hl.n = 8 ∧
     ((parseSIPMsg scTestMsg 0 (scTestInit 12) 0).2.2.hl.hdrs.toList.drop 8).map (·.type) = [0, 0, 0, 0]) ∧
    getMsgSigCore (parseSIPMsg scTestMsg 0 (scTestInit 12) 0).2.2 scTestMsg =
      ({ method := 2, cidSLen := 1, cidSig := 10, fromSig := 64, viaBSig := 80, hdrSig := [6, 11, 5, 0, 2] },
       .ok, false) := by decide +kernel

example : (getMsgSigCore (parseSIPMsg scTestMsg 0 (scTestInit 12) 0).2.2 scTestMsg).2.2 = false := by
  have hp := mlf_triple_eta _ rfl scTest_parse12.1
  exact sc_getMsgSig_safe_init scTestMsg 0 (Nat.zero_le _) {} 0 12 0 (some ()) none 0 scTest_fit hp

/-- test (1): the unfilled slots of the 12-entry array after the parse (`ScDone`, computed) -/
example : (parseSIPMsg scTestMsg 0 (scTestInit 12) 0).2.2.hl.n = 8 ∧
    ((parseSIPMsg scTestMsg 0 (scTestInit 12) 0).2.2.hl.hdrs.toList.drop 8).map (·.type) = [0, 0, 0, 0] :=
  scTest_parse12.2.1

/-- test (2): the message cut after 40 and after 100 bytes; the hypotheses of `sc_sig_chunking_whole` hold -/
def scTestCuts : List Buf := [scTestMsg.extract 0 40, scTestMsg.extract 0 100, scTestMsg]

theorem scTestCuts_growing : Growing scTestCuts :=
  ⟨prefix_grows _ (by decide), prefix_whole _ _, trivial⟩

theorem scTestCuts_fit : ∀ x ∈ scTestCuts, x.size ≤ 65535 := by
  intro x hx
  have := scTest_fit
  simp only [scTestCuts, List.mem_cons, List.not_mem_nil, or_false] at hx
  rcases hx with hx | hx | hx <;> rw [hx]
  · rw [Array.size_extract]; omega
  · rw [Array.size_extract]; omega
  · exact this

theorem scTestCuts_pre : ∀ x ∈ scTestCuts.dropLast, (parseSIPMsg x 0 (scTestInit 12) 0).2.1 = .moreBytes := by
  decide +kernel

theorem scTestCuts_ne : scTestCuts ≠ [] := List.cons_ne_nil _ _

theorem scTestCuts_getLast : scTestCuts.getLast scTestCuts_ne = scTestMsg := by
  simp [scTestCuts]

theorem scTestCuts_last : (parseSIPMsg (scTestCuts.getLast scTestCuts_ne) 0 (scTestInit 12) 0).2.1 = .ok := by
  rw [scTestCuts_getLast]; exact scTest_parse12.1

/-- test (2): the chain of three resumed calls returns the result of the one call on the whole message -/
theorem scTest_chunked :
    resumeRun (C01.msgP 0) 0 (scTestInit 12) scTestCuts = parseSIPMsg scTestMsg 0 (scTestInit 12) 0 := by
  have hpre := scTestCuts_pre
  have hlast := scTestCuts_last
  unfold scTestInit at hpre hlast ⊢
  have h := (sc_sig_chunking_whole 0 0 {} 0 12 0 (some ()) none scTestCuts scTestCuts_growing scTestCuts_fit
    scTestCuts_ne (fun _ _ => Nat.zero_le _) hpre hlast).1
  rw [scTestCuts_getLast] at h
  exact h

example : resumeRun (C01.msgP 0) 0 (scTestInit 12) scTestCuts = parseSIPMsg scTestMsg 0 (scTestInit 12) 0 :=
  scTest_chunked

/-- test (2): the signature of the chunked parse is that of the one call -/
example : getMsgSigCore (resumeRun (C01.msgP 0) 0 (scTestInit 12) scTestCuts).2.2 scTestMsg =
    ({ method := 2, cidSLen := 1, cidSig := 10, fromSig := 64, viaBSig := 80, hdrSig := [6, 11, 5, 0, 2] },
     .ok, false) := by rw [scTest_chunked]; exact scTest_parse12.2.2

/-- test (3a): capacities 8 (exactly the header count) and 12: the same result -/
example : (parseSIPMsg scTestMsg 0 (scTestInit 8) 0).2.2.hl.n = 8 ∧
    getMsgSigCore (parseSIPMsg scTestMsg 0 (scTestInit 8) 0).2.2 scTestMsg =
      getMsgSigCore (parseSIPMsg scTestMsg 0 (scTestInit 12) 0).2.2 scTestMsg := by
  rw [scTest_parse12.2.2]
  decide +kernel

/-- test (3b): capacity 3, evaluated once: OK, 8 headers counted, truncated indication with the entries of the stored
    part -/
theorem scTest_parse3 : (parseSIPMsg scTestMsg 0 (scTestInit 3) 0).2.1 = .ok ∧
    (parseSIPMsg scTestMsg 0 (scTestInit 3) 0).2.2.hl.n = 8 ∧
    getMsgSigCore (parseSIPMsg scTestMsg 0 (scTestInit 3) 0).2.2 scTestMsg =
      ({ method := 2, cidSLen := 1, cidSig := 10, fromSig := 64, viaBSig := 80, hdrSig := [6, 11] }, .trunc, false) := by
  decide +kernel

example : getMsgSigCore (parseSIPMsg scTestMsg 0 (scTestInit 3) 0).2.2 scTestMsg =
    ({ method := 2, cidSLen := 1, cidSig := 10, fromSig := 64, viaBSig := 80, hdrSig := [6, 11] }, .trunc, false) :=
  scTest_parse3.2.2

/-- test (3): the hypotheses of `sc_sig_capacity` for capacity 3 against capacity 12 on the one-chunk schedule -/
example : (resumeRun (fun b o m => parseSIPMsg b o m 0) 0 (scTestInit 3) [scTestMsg]).2.1 = .ok ∧
    scCap 3 (some ()) < (resumeRun (fun b o m => parseSIPMsg b o m 0) 0 (scTestInit 3) [scTestMsg]).2.2.hl.n ∧
    scCap 3 (some ()) ≤ scCap 12 (some ()) := by
  have e : ∀ (P : Parser PSIPMsg) (b : Buf) (st : PSIPMsg), resumeRun P 0 st [b] = P b 0 st := fun _ _ _ => rfl
  rw [e, scTest_parse3.2.1]
  exact ⟨scTest_parse3.1, by decide, by decide⟩

/-- test message 2: the five fingerprinted headers first, then two others (7 headers) -/
def scTestMsg2 : Buf := "OPTIONS sip:a@b SIP/2.0\r\nVia: SIP/2.0/UDP h\r\nFrom: <sip:a@b>;tag=1\r\nTo: <sip:c@d>\r\nCall-ID: x\r\nCSeq: 1 OPTIONS\r\nSubject: x\r\nContent-Length: 0\r\n\r\n".toUTF8.data

/-- test (3c): a too small array (5 slots for 7 headers) that holds every flagged fingerprinted header before any other
    one: no truncated indication, the same result as with a large array (the "or else the same" branch of (3b)) -/
example : (parseSIPMsg scTestMsg2 0 (scTestInit 5) 0).2.2.hl.n = 7 ∧
    (getMsgSigCore (parseSIPMsg scTestMsg2 0 (scTestInit 5) 0).2.2 scTestMsg2).2.1 = .ok ∧
    getMsgSigCore (parseSIPMsg scTestMsg2 0 (scTestInit 5) 0).2.2 scTestMsg2 =
      getMsgSigCore (parseSIPMsg scTestMsg2 0 (scTestInit 12) 0).2.2 scTestMsg2 := by decide +kernel

/-- test (1g): an object that failed inside a header line, was used again in the error state (other buffer, offset,
    flags), then Reset: reachable; the parse of the test message on it succeeds, so the hypotheses of
    `sc_getMsgSig_safe_reset` are satisfiable -/
def scTestUsed : PSIPMsg :=
  (parseSIPMsg scTestMsg2 3
    (parseSIPMsg "INVITE sip:a SIP/2.0\r\nVia x\r\n\r\n".toUTF8.data 0 (scTestInit 2) 0).2.2 4).2.2

theorem scTestUsed_reach : ScReach scTestUsed :=
  ScReach.parse _ _ _ (ScReach.parse _ _ _ (ScReach.init {} 0 2 0 (some ()) none))

theorem scTestUsed_ok : (parseSIPMsg scTestMsg 0 scTestUsed.reset 0).2.1 = .ok ∧ scTestUsed.state = .err := by
  decide +kernel

example : (getMsgSigCore (parseSIPMsg scTestMsg 0 scTestUsed.reset 0).2.2 scTestMsg).2.2 = false := by
  have hp := mlf_triple_eta _ rfl scTestUsed_ok.1
  exact sc_getMsgSig_safe_reset scTestUsed_reach scTestMsg 0 (Nat.zero_le _) 0 scTest_fit hp

end Sipsp
