/-
  Sipsp.Proofs.SigCovered — two facts about every output of the parser: all buffers, offsets, flags, capacities and
  verdicts, no grammar assumption, and no 65,535-byte bound except in (2f).

  (1) [C19] the `Covered` hypothesis of the factorisation / invariance theorems holds: the flag word of the header list
  covers the fingerprinted stored types (`FlagsCover`).  `SvCov` (every counted, stored header of a fingerprinted type
  has its flag set) is kept by every step of the list bookkeeping, hence by ParseHeaders from ANY list state with ANY
  values object, by every ParseSIPMsg call and every chain of resumed calls, and it holds after Init / Reset; with
  `ScTail` of SigCompose.lean (the slots after the current one are untouched) it gives `FlagsCover` after OK.
  `SvParsed m`: "`m` was returned by a successful call after any history" — for such requests the C19 factorisation and
  "same view, same signature" hold with no side condition on the flag words, none on the fields lying inside the buffer
  (if they do not, both results are the same constant); `svFirsts` is `C19.firsts`.
  (2) [C05] the shortcut values equal the `val` of the first stored header of their type, for the six kinds `SvKind` =
  From, To, Call-ID, CSeq, Content-Length, Expires.  Idea: an accepted header of the kind's type either took the span
  reported by the kind's value parser as its `val` — and the shortcut object is parsed — or was scanned generically
  because a header of that type had been accepted before (`SvLine` ⇒ `SvPost` for one line from ANY state of the header
  object, by the rule `parseHdrLine_ind` of HlLex.lean; `SvBlk` / `SvInv` for the block; `SvMsg`, the two-phase
  invariant `MsgInv2` of MsgPhases.lean, for the message).  So repeated headers of the type and trailing white space do
  not break the equality (both spans exclude the trailing white space: tests at the end); the type flag set ⇒ parsed,
  also when the array was too small to store the header.
  (2f) [C05] Contact / P-Asserted-Identity, buffers within 65,535 bytes: for ONE header line of the type, parsed on an
  idle value list object of any capacity with verdict OK, the header's `val` IS the running header value (`lastHVal`),
  it ends at or before the returned offset, and every value stored from that line lies inside it (`svInside`), empty
  `V`s excepted; the values stored before are not looked at.

  Assumption inherited from `ScReach` / `ScMsg_init`: caller arrays handed to Init are cleared (`Array.replicate k {}`).
  NOT proved here: the converse "shortcut parsed ⇒ its type flag is set" (true from Init, not needed).  For Contact /
  P-Asserted-Identity only the per-line statement (2f): that a reported `V` is never empty is PaiLines.lean, the
  message-level association of the values with the header lines is ValAssoc.lean.
-/
import Sipsp.Proofs.SigCompose
import Sipsp.Proofs.HdrSound
import Sipsp.Proofs.NaNest
import Sipsp.Proofs.ValCall

namespace Sipsp

/-! ### (1a) the invariant: every counted, stored header of a fingerprinted type has its flag set -/

/-- the counted part of the header array is covered by the flag word -/
def SvCov (hl : HdrLst) : Prop :=
  ∀ j, j < hl.n → j < hl.hdrs.size → isSigType hl.hdrs[j]!.type = true →
    hl.pflags.testBit hl.hdrs[j]!.type = true

/-- the flag word after `pflags |= 1 << t'` (16 bits) -/
theorem svc_testBit_or (pf t' t : Nat) (ht : t < 16) :
    ((pf ||| (1 <<< t')) % 65536).testBit t = (pf.testBit t || (t' == t)) := by
  have e16 : (65536 : Nat) = 2 ^ 16 := by decide
  rw [e16, Nat.testBit_mod_two_pow, Nat.testBit_or, Nat.testBit_shiftLeft]
  simp only [ht, decide_true, Bool.true_and]
  have : (decide (t ≥ t') && Nat.testBit 1 (t - t')) = (t' == t) := by
    by_cases he : t' = t
    · subst he; simp
    · have hne : (t' == t) = false := by simpa using he
      rw [hne]
      by_cases hge : t ≥ t'
      · have h1 : t - t' ≠ 0 := by omega
        have h2 : Nat.testBit 1 (t - t') = false := by
          cases hq : Nat.testBit 1 (t - t') with
          | false => rfl
          | true => exact absurd (Nat.testBit_one_eq_true_iff_self_eq_zero.mp hq) h1
        simp [hge, h2]
      · simp [hge]
  rw [this]

theorem svc_setCur {hl : HdrLst} (H : SvCov hl) (g : Hdr) : SvCov (hl.setCur g) := by
  intro j h1 h2 hs
  rw [hlSetCur_n] at h1
  rw [hlSetCur_size] at h2
  rw [hlSetCur_ne hl g j (by omega)] at hs ⊢
  rw [(hlSetCur_scalars hl g).1]
  exact H j h1 h2 hs

theorem svc_next {hl : HdrLst} (H : SvCov hl) (g : Hdr) : SvCov ((hl.setCur g).accept g) := by
  intro j h1 h2 hs
  rw [accept_n, hlSetCur_n] at h1
  rw [accept_hdrs, hlSetCur_size] at h2
  rw [accept_hdrs] at hs ⊢
  have ht := isSigType_lt _ hs
  rw [accept_pflags, (hlSetCur_scalars hl g).1, svc_testBit_or _ _ _ (by omega)]
  rcases Nat.lt_or_ge j hl.n with hlt | hge
  · rw [hlSetCur_ne hl g j (by omega)] at hs ⊢
    rw [H j hlt h2 hs]; rfl
  · have hj : j = hl.n := by omega
    subst hj
    rw [hlSetCur_get_n hl g h2]
    simp

/-- **ParseHeaders keeps the invariant** — any buffer, offset, values object, verdict, and any state of the list
    object (new, reset, or suspended in the middle of a line) -/
theorem svc_parseHeaders (b : Buf) (offs : Nat) (hl : HdrLst) (hb : Option PHdrVals) (H : SvCov hl) :
    SvCov (parseHeaders b offs hl hb).2.2.1 :=
  hl_parseHeaders_keeps (P := SvCov) (fun _ g h => svc_setCur h g) (fun _ g h => svc_next h g) b offs hl hb H

/-- the invariant and "every slot from the header count on has type 0" give `FlagsCover` for the WHOLE array -/
theorem svc_cover_of_done {hl : HdrLst} (H : SvCov hl) (hD : ScDone hl) : FlagsCover hl.pflags hl.hdrs.toList := by
  intro h hh hsig
  obtain ⟨j, hj, hje⟩ := List.mem_iff_getElem.mp hh
  rw [Array.length_toList] at hj
  have hje' : hl.hdrs[j]! = h := by
    rw [← hje, Array.getElem_toList]
    exact getElem!_pos _ j hj
  rcases Nat.lt_or_ge j hl.n with hlt | hge
  · have := H j hlt hj (by rw [hje']; exact hsig)
    rw [hje'] at this; exact this
  · have := hD j hge hj
    rw [hje'] at this
    rw [this] at hsig; cases hsig

theorem svc_of_n0 {hl : HdrLst} (h0 : hl.n = 0) : SvCov hl := fun _ h1 _ _ => by rw [h0] at h1; cases h1

/-- **(1) `Covered` after ParseHeaders, ANY values object** (typed headers included; no size bound): the list object
    satisfies the two invariants (`ScTail`: the slots after the current one are untouched and the current one has no
    type while in its initial state; `SvCov`) — every new / reset list of any capacity does, and so does a list
    returned by a suspended call; if ParseHeaders says OK the flag word covers every fingerprinted stored type -/
theorem covered_any_values (b : Buf) (o : Nat) (hl : HdrLst) (hb : Option PHdrVals) (hT : ScTail hl) (hC : SvCov hl)
    {e : Nat} {hl' : HdrLst} {hb' : Option PHdrVals} (hr : parseHeaders b o hl hb = (e, .ok, hl', hb')) :
    FlagsCover hl'.pflags hl'.hdrs.toList := by
  have h1 := (sc_parseHeaders b o hl hb hT).1
  have h2 := svc_parseHeaders b o hl hb hC
  rw [hr] at h1 h2
  exact svc_cover_of_done h2 (h1 rfl)

/-- … for a new list object of any capacity `k` -/
theorem covered_any_values_new (b : Buf) (o k : Nat) (hb : Option PHdrVals)
    {e : Nat} {hl' : HdrLst} {hb' : Option PHdrVals} (hr : parseHeaders b o (hsNew k) hb = (e, .ok, hl', hb')) :
    FlagsCover hl'.pflags hl'.hdrs.toList :=
  covered_any_values b o (hsNew k) hb (ScTail_new k) (svc_of_n0 rfl) hr

/-- … for ANY list object after Reset -/
theorem covered_any_values_reset (b : Buf) (o : Nat) (hl : HdrLst) (hb : Option PHdrVals)
    {e : Nat} {hl' : HdrLst} {hb' : Option PHdrVals} (hr : parseHeaders b o hl.reset hb = (e, .ok, hl', hb')) :
    FlagsCover hl'.pflags hl'.hdrs.toList := by
  have hre : hl.reset = hsNew hl.hdrs.size := by
    show ({ hdrs := hl.hdrs.map (fun _ => {}) } : HdrLst) = { hdrs := Array.replicate hl.hdrs.size {} }
    rw [sc_map_const]
  rw [hre] at hr
  exact covered_any_values_new b o _ hb hr

/-- test / non-vacuity: `covered_any_values_new` applies to a block with typed lines parsed with a values object
    (capacity 2 for three headers: compact From, CSeq, `Q`) -/
example : FlagsCover (parseHeaders hsDemoTyped 0 (hsNew 2) (some {})).2.2.1.pflags
    (parseHeaders hsDemoTyped 0 (hsNew 2) (some {})).2.2.1.hdrs.toList := by
  have h2 : (parseHeaders hsDemoTyped 0 (hsNew 2) (some {})).2.1 = .ok := by decide +kernel
  rcases h : parseHeaders hsDemoTyped 0 (hsNew 2) (some {}) with ⟨e, er, hl', hb'⟩
  rw [h] at h2
  simp only at h2
  subst h2
  exact covered_any_values_new hsDemoTyped 0 2 (some {}) h

/-- **every ParseSIPMsg call keeps the invariant** (any object, buffer, offset, flags, verdict) -/
theorem svc_parseSIPMsg (b : Buf) (o : Nat) (m : PSIPMsg) (flags : Nat) (H : SvCov m.hl) :
    SvCov (parseSIPMsg b o m flags).2.2.hl :=
  parseSIPMsg_hl_keeps (fun b o hl hb h => svc_parseHeaders b o hl hb h) b o m flags H

theorem svc_init (m0 : PSIPMsg) (len : Nat) (hdrs : Option (Array Hdr)) (cts : Option (Array PFromBody)) :
    SvCov (m0.init len hdrs cts).hl := svc_of_n0 rfl

theorem svc_resumeRun (flags : Nat) (o : Nat) (m : PSIPMsg) (l : List Buf) (H : SvCov m.hl) :
    SvCov (resumeRun (C01.msgP flags) o m l).2.2.hl :=
  resumeRun_inv _ (fun _ m => SvCov m.hl) (fun r => SvCov r.2.2.hl)
    (fun b o m h => ⟨svc_parseSIPMsg b o m flags h, fun _ => svc_parseSIPMsg b o m flags h⟩) o m l (fun _ => H) H

/-- at every point of every history of a message object (`ScReach`: zero value or Init, then any sequence of Reset
    and ParseSIPMsg calls on any buffers, whatever the verdicts) -/
theorem ScReach.svCov {m : PSIPMsg} (h : ScReach m) : SvCov m.hl := by
  induction h with
  | new => exact svc_of_n0 rfl
  | init m0 len kh kc hdrs cts => exact svc_init m0 len _ _
  | reset => exact svc_of_n0 rfl
  | parse b o flags _ ih => exact svc_parseSIPMsg b o _ flags ih

/-- **`Covered` after one successful ParseSIPMsg call** on an object satisfying the invariants (any buffer, offset,
    flags; the call may complete a message suspended earlier) -/
theorem covered_parseSIPMsg (b : Buf) (o : Nat) (m : PSIPMsg) (flags : Nat) (hI : ScMsg m) (hC : SvCov m.hl)
    {o' : Nat} {m' : PSIPMsg} (hr : parseSIPMsg b o m flags = (o', .ok, m')) :
    FlagsCover m'.hl.pflags m'.hl.hdrs.toList := by
  have h1 := (sc_parseSIPMsg b o m flags hI).2
  have h2 := svc_parseSIPMsg b o m flags hC
  rw [hr] at h1 h2
  exact svc_cover_of_done h2 (h1 rfl)

/-- **after ANY history of the object** (no size bound, no legitimacy hypothesis: the flag word and the stored types
    are kept consistent by every call) -/
theorem covered_after_history (b : Buf) (o : Nat) (m : PSIPMsg) (flags : Nat) (hR : ScReach m)
    {o' : Nat} {m' : PSIPMsg} (hr : parseSIPMsg b o m flags = (o', .ok, m')) :
    FlagsCover m'.hl.pflags m'.hl.hdrs.toList :=
  covered_parseSIPMsg b o m flags hR.inv.1 hR.svCov hr

/-- **the first call after Init** (caller arrays of any capacity, cleared, or none) -/
theorem covered_init (b : Buf) (o : Nat) (m0 : PSIPMsg) (len kh kc : Nat) (hdrs cts : Option Unit) (flags : Nat)
    {o' : Nat} {m' : PSIPMsg}
    (hr : parseSIPMsg b o (m0.init len (hdrs.map fun _ => Array.replicate kh {})
      (cts.map fun _ => Array.replicate kc {})) flags = (o', .ok, m')) :
    FlagsCover m'.hl.pflags m'.hl.hdrs.toList :=
  covered_parseSIPMsg b o _ flags (ScMsg_init m0 len kh kc hdrs cts) (svc_init m0 len _ _) hr

/-- **every chain of resumed calls** (ANY list of buffers — growing prefixes of one message or not — no size bound)
    from an object satisfying the invariants that ends with OK -/
theorem covered_resumeRun (flags : Nat) (o : Nat) (m : PSIPMsg) (l : List Buf) (hI : ScMsg m) (hC : SvCov m.hl)
    (hok : (resumeRun (C01.msgP flags) o m l).2.1 = .ok) :
    FlagsCover (resumeRun (C01.msgP flags) o m l).2.2.hl.pflags
      (resumeRun (C01.msgP flags) o m l).2.2.hl.hdrs.toList :=
  svc_cover_of_done (svc_resumeRun flags o m l hC) ((sc_resumeRun flags o m l hI).2 hok)

/-- **every chunk schedule from Init that ends with OK** -/
theorem covered_schedule_init (flags : Nat) (o : Nat) (m0 : PSIPMsg) (len kh kc : Nat) (hdrs cts : Option Unit)
    (l : List Buf) {o' : Nat} {m' : PSIPMsg}
    (hr : resumeRun (C01.msgP flags) o
      (m0.init len (hdrs.map fun _ => Array.replicate kh {}) (cts.map fun _ => Array.replicate kc {})) l = (o', .ok, m')) :
    FlagsCover m'.hl.pflags m'.hl.hdrs.toList := by
  have := covered_resumeRun flags o _ l (ScMsg_init m0 len kh kc hdrs cts) (svc_init m0 len _ _) (by rw [hr])
  rw [hr] at this
  exact this

/-! ### (1c) the factorisation / invariance theorems of C19 without the side condition -/

/-- `m` is what a successful ParseSIPMsg call returned, after ANY history of the object it was called on -/
def SvParsed (m' : PSIPMsg) : Prop :=
  ∃ (b : Buf) (o : Nat) (m : PSIPMsg) (flags o' : Nat), ScReach m ∧ parseSIPMsg b o m flags = (o', .ok, m')

theorem SvParsed.covered {m : PSIPMsg} (h : SvParsed m) : FlagsCover m.hl.pflags m.hl.hdrs.toList := by
  obtain ⟨b, o, m0, flags, o', hR, hr⟩ := h
  exact covered_after_history b o m0 flags hR hr

theorem svParsed_of_ok {b : Buf} {o : Nat} {m : PSIPMsg} {flags : Nat} (hR : ScReach m)
    (h : (parseSIPMsg b o m flags).2.1 = .ok) : SvParsed (parseSIPMsg b o m flags).2.2 :=
  ⟨b, o, m, flags, (parseSIPMsg b o m flags).1, hR, by rw [← h]⟩

/-- a chain of resumed calls that ends with OK ends with a successful call -/
theorem svParsed_resumeRun (flags : Nat) (o : Nat) (m : PSIPMsg) (l : List Buf) (hR : ScReach m)
    (hok : (resumeRun (C01.msgP flags) o m l).2.1 = .ok) :
    SvParsed (resumeRun (C01.msgP flags) o m l).2.2 :=
  resumeRun_inv _ (fun _ m => ScReach m) (fun r => r.2.1 = .ok → SvParsed r.2.2)
    (fun b o m hR => ⟨svParsed_of_ok hR, fun _ => ScReach.parse b o flags hR⟩) o m l (fun _ hh => by cases hh) hR hok

/-- every chunk schedule from Init that ends with OK -/
theorem svParsed_schedule_init (flags : Nat) (o : Nat) (m0 : PSIPMsg) (len kh kc : Nat) (hdrs cts : Option Unit)
    (l : List Buf) {o' : Nat} {m' : PSIPMsg}
    (hr : resumeRun (C01.msgP flags) o
      (m0.init len (hdrs.map fun _ => Array.replicate kh {}) (cts.map fun _ => Array.replicate kc {})) l = (o', .ok, m')) :
    SvParsed m' := by
  have := svParsed_resumeRun flags o _ l (ScReach.init m0 len kh kc hdrs cts) (by rw [hr])
  rw [hr] at this
  exact this

/-- the first call after Init -/
theorem svParsed_init (b : Buf) (o : Nat) (m0 : PSIPMsg) (len kh kc : Nat) (hdrs cts : Option Unit) (flags : Nat)
    {o' : Nat} {m' : PSIPMsg}
    (hr : parseSIPMsg b o (m0.init len (hdrs.map fun _ => Array.replicate kh {})
      (cts.map fun _ => Array.replicate kc {})) flags = (o', .ok, m')) : SvParsed m' :=
  ⟨b, o, _, flags, o', ScReach.init m0 len kh kc hdrs cts, hr⟩

/-- the view of a message object restricted to the fingerprinted types at their first occurrence (`C19.firsts`) -/
def svFirsts (m : PSIPMsg) (b : Buf) : List SigKey :=
  sigFirsts [] (m.hl.hdrs.toList.map (hdrKey (b.extract 0 m.bufLen)))

/-- **factorisation for every successfully parsed request** (C19 `factorisation` without `Covered`) -/
theorem svc_factorisation (m : PSIPMsg) (b : Buf) (hp : SvParsed m) (hr : m.request = true) (cid tag : Buf)
    (hc : m.pv.callid.callID.get? (b.extract 0 m.bufLen) = some cid)
    (ht : m.pv.from_.tag.get? (b.extract 0 m.bufLen) = some tag) :
    (getMsgSigCore m b).1 = sigApply (svFirsts m b) (sigInit m.fl.methodNo cid tag).sig ∧
    (getMsgSigCore m b).2.2 = ((getCallIDSig cid).2.2 || (svFirsts m b).any (fun k => k.viaPnc)) := by
  rw [getMsgSig_request m b hr cid tag hc ht]
  exact msgSigLoop_view (b.extract 0 m.bufLen) m.hl.pflags m.hl.hdrs.toList m.fl.methodNo cid tag hp.covered

/-- **two successfully parsed requests** (each the result of a successful call after any history — in particular of
    any chunk schedule from Init, with any capacities) with the same method, the same Call-ID and From-tag bytes and
    the same restricted view have the same signature and the same "Go would panic" flag: no side condition on the
    flag words left -/
theorem svc_same_view_same_signature (m m' : PSIPMsg) (b b' : Buf) (hp : SvParsed m) (hp' : SvParsed m')
    (hr : m.request = true) (hr' : m'.request = true) (hmeth : m'.fl.methodNo = m.fl.methodNo)
    (hc : m'.pv.callid.callID.get? (b'.extract 0 m'.bufLen) = m.pv.callid.callID.get? (b.extract 0 m.bufLen))
    (ht : m'.pv.from_.tag.get? (b'.extract 0 m'.bufLen) = m.pv.from_.tag.get? (b.extract 0 m.bufLen))
    (hview : svFirsts m' b' = svFirsts m b) :
    (getMsgSigCore m' b').1 = (getMsgSigCore m b).1 ∧ (getMsgSigCore m' b').2.2 = (getMsgSigCore m b).2.2 := by
  cases hcc : m.pv.callid.callID.get? (b.extract 0 m.bufLen) with
  | none =>
    rw [getMsgSig_outside m b hr (Or.inl hcc), getMsgSig_outside m' b' hr' (Or.inl (hc.trans hcc))]
    exact ⟨rfl, rfl⟩
  | some cid =>
    cases htt : m.pv.from_.tag.get? (b.extract 0 m.bufLen) with
    | none =>
      rw [getMsgSig_outside m b hr (Or.inr htt), getMsgSig_outside m' b' hr' (Or.inr (ht.trans htt))]
      exact ⟨rfl, rfl⟩
    | some tag =>
      have h1 := svc_factorisation m b hp hr cid tag hcc htt
      have h2 := svc_factorisation m' b' hp' hr' cid tag (hc.trans hcc) (ht.trans htt)
      rw [h1.1, h1.2, h2.1, h2.2, hmeth, hview]
      exact ⟨rfl, rfl⟩

/-! ### (2a) the six single-valued header kinds with a dedicated value parser -/

inductive SvKind where | from_ | to | callid | cseq | clen | expires
  deriving DecidableEq, Repr

/-- the header type of the kind -/
def SvKind.type : SvKind → Nat
  | .from_ => HdrFrom | .to => HdrTo | .callid => HdrCallID | .cseq => HdrCSeq | .clen => HdrCLen
  | .expires => HdrExpires

/-- the state of a header object suspended inside the value parser of the kind -/
def SvKind.st : SvKind → HState
  | .from_ => .hFrom | .to => .hTo | .callid => .hCallID | .cseq => .hCSeq | .clen => .hCLen | .expires => .hExpires

/-- `Parsed()` of the shortcut object of the kind -/
def SvKind.parsed : SvKind → PHdrVals → Bool
  | .from_, hv => hv.from_.parsed | .to, hv => hv.to.parsed | .callid, hv => hv.callid.parsed
  | .cseq, hv => hv.cseq.parsed | .clen, hv => hv.clen.parsed | .expires, hv => hv.expires.parsed

/-- the value span the shortcut object of the kind reports (`V`, `CallID`, `SVal`) -/
def SvKind.span : SvKind → PHdrVals → PField
  | .from_, hv => hv.from_.v | .to, hv => hv.to.v | .callid, hv => hv.callid.callID
  | .cseq, hv => hv.cseq.v | .clen, hv => hv.clen.sVal | .expires, hv => hv.expires.sVal

/-- the header type whose value parser a suspended header object is in -/
def svStType : HState → Option Nat
  | .hFrom => some HdrFrom | .hTo => some HdrTo | .hCallID => some HdrCallID | .hCSeq => some HdrCSeq
  | .hCLen => some HdrCLen | .hContact => some HdrContact | .hExpires => some HdrExpires | .hPAI => some HdrPAI
  | _ => none

theorem svk_stType (k : SvKind) : svStType k.st = some k.type := by cases k <;> rfl

/-- what running the value parser of a header of type `ty` did to the values object (`hv` to `hv2`, verdict `e`,
    `V` = the span copied into the header's `val` on OK): the other kinds are untouched; the kind of that type is
    parsed after OK and `V` is its span -/
def SvUpd (ty : Nat) (hv hv2 : PHdrVals) (e : Err) (V : PField) : Prop :=
  ∀ k : SvKind, (k.type ≠ ty → k.parsed hv2 = k.parsed hv ∧ k.span hv2 = k.span hv) ∧
    (k.type = ty → e = .ok → k.parsed hv2 = true ∧ V = k.span hv2)

/-! #### OK verdict of a value parser: the object is parsed (no hypothesis on the offset) -/

/-- a value parser that returns a finished object as it is and otherwise runs a loop whose end-of-buffer exit says
    MoreBytes: what holds of the object after OK for start offsets inside the buffer holds for every start offset -/
theorem sv_loopCall_ok {σ : Type} (m : Machine σ) (F : σ → Prop) [DecidablePred F] (b : Buf) (o : Nat) (st : σ)
    (heob : ∀ i s, (m.eob b i s).2.1 = .moreBytes) {o' : Nat} {st' : σ}
    (hr : (if F st then (o, Err.ok, st) else runLoop m b o st) = (o', .ok, st')) (hin : o ≤ b.size → F st') : F st' := by
  by_cases ho : o ≤ b.size
  · exact hin ho
  · split at hr
    · rename_i hf; cases hr; exact hf
    · have := heob o st
      rw [← runLoop_none m st (Array.getElem?_eq_none (by omega)), hr] at this
      cases this

theorem sv_ci_ok (b : Buf) (o : Nat) (st : PCallIDBody) {o' : Nat} {st' : PCallIDBody}
    (hr : parseCallIDVal b o st = (o', .ok, st')) : st'.parsed = true := by
  have hf : st'.state = .fin := sv_loopCall_ok ciMachine (·.state = .fin) b o st (fun _ _ => rfl) hr
    fun ho => (parseCallIDVal_post b o st ho hr).2.2.1
  unfold PCallIDBody.parsed; rw [hf]; rfl

theorem sv_ui_ok (b : Buf) (o : Nat) (st : PUIntBody) {o' : Nat} {st' : PUIntBody}
    (hr : parseUIntVal b o st = (o', .ok, st')) : st'.parsed = true := by
  have hf : st'.state = .fin := sv_loopCall_ok clMachine (·.state = .fin) b o st (fun _ _ => rfl) hr
    fun ho => (parseUIntVal_post b o st ho hr).2.2.1
  unfold PUIntBody.parsed; rw [hf]; rfl

theorem sv_cl_ok (b : Buf) (o : Nat) (st : PUIntBody) {o' : Nat} {st' : PUIntBody}
    (hr : parseCLenVal b o st = (o', .ok, st')) : st'.parsed = true :=
  sv_ui_ok b o st (parseCLenVal_under' b o st hr (fun hh => by cases hh))

theorem sv_cs_ok (b : Buf) (o : Nat) (st : PCSeqBody) {o' : Nat} {st' : PCSeqBody}
    (hr : parseCSeqVal b o st = (o', .ok, st')) : st'.parsed = true := by
  have hf : st'.state = .fin := sv_loopCall_ok csMachine (·.state = .fin) b o st (fun _ _ => rfl) hr
    fun ho => (parseCSeqVal_post b o st ho hr).2.2.1
  unfold PCSeqBody.parsed; rw [hf]; rfl

/-- after OK the value parser of kind `k` leaves its object parsed, and the extent it reports is the kind's span -/
theorem sv_valCall_own (k : SvKind) (st : HState) (b : Buf) (o : Nat) (hv : PHdrVals)
    (he : (valCall k.st st b o hv).2.1 = .ok) :
    k.parsed (valCall k.st st b o hv).2.2.2 = true ∧ (valCall k.st st b o hv).2.2.1 = k.span (valCall k.st st b o hv).2.2.2 := by
  cases k
  · exact ⟨sv_na_ok HdrFrom b o hv.from_ (by rw [← he]; rfl), rfl⟩
  · exact ⟨sv_na_ok HdrTo b o hv.to (by rw [← he]; rfl), rfl⟩
  · exact ⟨sv_ci_ok b o hv.callid (by rw [← he]; rfl), rfl⟩
  · exact ⟨sv_cs_ok b o hv.cseq (by rw [← he]; rfl), rfl⟩
  · exact ⟨sv_cl_ok b o hv.clen (by rw [← he]; rfl), rfl⟩
  · exact ⟨sv_ui_ok b o hv.expires (by rw [← he]; rfl), rfl⟩

/-- **the value parser of a header of type `ty`** (called from `parseBody` or from `hlCont`) changes the values object
    as `SvUpd` says: a parser touches the object of its own kind only -/
theorem sv_valCall (S st : HState) (b : Buf) (o : Nat) (hv : PHdrVals) {ty : Nat} (hS : svStType S = some ty) :
    SvUpd ty hv (valCall S st b o hv).2.2.2 (valCall S st b o hv).2.1 (valCall S st b o hv).2.2.1 := by
  intro k
  by_cases hk : k.type = ty
  · have hS' : S = k.st := by cases S <;> cases hS <;> cases k <;> first | rfl | exact absurd hk (by decide)
    subst hS'
    exact ⟨fun h => absurd hk h, fun _ => sv_valCall_own k st b o hv⟩
  · refine ⟨fun _ => ?_, fun h => absurd h hk⟩
    cases S <;> cases hS <;> cases k <;> first | exact absurd rfl hk | exact ⟨rfl, rfl⟩

/-- what `parseBody` selects for a header of the type of kind `k`: the kind's parser unless its object is parsed -/
theorem sv_valKind (k : SvKind) (h : Hdr) (hv : PHdrVals) (ht : k.type = h.type) :
    valKind h hv = if !k.parsed hv then some k.st else none := by
  unfold valKind
  rw [← ht]
  cases k <;> rfl

/-- the parser `parseBody` selects is the one of the header's type. (The cascade of type tests is walked by
    `with_reducible apply ite_ind`, which keeps the tests as hypotheses; `split at` is far slower here.) -/
theorem sv_valKind_type {h : Hdr} {hv : PHdrVals} : ∀ {S}, valKind h hv = some S → svStType S = some h.type := by
  unfold valKind
  repeat' first
    | with_reducible apply ite_ind (P := fun r => ∀ {S}, r = some S → svStType S = some h.type)
    | intro _
  all_goals (rename_i hS; cases hS)
  all_goals exact congrArg some (eq_of_beq (by assumption)).symm

/-! ### (2b) one header line, any state of the header object -/

theorem svG3_stType {s : HState} (h : svG3 s) : svStType s = none := by
  rcases h with rfl | rfl | rfl <;> rfl

/-- what is known about a header object in the course of a line, relative to kind `k`; `β` = "the flag of the type
    of `k` is set in the list object" (a header of that type has been accepted before) -/
structure SvLine (k : SvKind) (β : Prop) (h : Hdr) (hv : PHdrVals) : Prop where
  /-- suspended inside a value parser: the header has the type of that parser -/
  ty : ∀ t, svStType h.state = some t → h.type = t
  /-- inside the value parser of `k`: no header of that type was accepted before -/
  own : svStType h.state = some k.type → ¬ β
  /-- otherwise a parsed shortcut object means that a header of that type was accepted before -/
  other : svStType h.state ≠ some k.type → k.parsed hv = true → β
  /-- in the generic value states with the type of `k`: a repeated header -/
  gen : svG3 h.state → h.type = k.type → β

/-- what a finished call of ParseHdrLine guarantees -/
structure SvPost (k : SvKind) (β : Prop) (hv : PHdrVals) (e : Err) (h' : Hdr) (hv' : PHdrVals) : Prop where
  keep : β → k.parsed hv' = k.parsed hv ∧ k.span hv' = k.span hv
  ok2 : e = .ok → h'.type = k.type → k.parsed hv' = true
  ok3 : e = .ok → h'.type = k.type → ¬ β → h'.val = k.span hv'
  ok4 : e = .ok → k.parsed hv' = true → β ∨ h'.type = k.type
  more : e = .moreBytes → SvLine k β h' hv'

/-- a header moved within the states without value parser, type unchanged -/
theorem SvLine.move {k : SvKind} {β : Prop} {h h' : Hdr} {hv : PHdrVals} (hL : SvLine k β h hv)
    (hty : h'.type = h.type) (hs' : svStType h'.state = none) (hs : svStType h.state = none)
    (hg : svG3 h'.state → svG3 h.state) : SvLine k β h' hv :=
  ⟨(fun t ht => by rw [hs'] at ht; cases ht), (fun ht => by rw [hs'] at ht; cases ht),
   (fun _ hp => hL.other (by rw [hs]; intro hh; cases hh) hp), (fun g ht => hL.gen (hg g) (by rw [← hty]; exact ht))⟩

/-- a final step that leaves the values object alone -/
theorem svp_same {k : SvKind} {β : Prop} {h h' : Hdr} {hv : PHdrVals} {e : Err} (hL : SvLine k β h hv)
    (hB2 : β → k.parsed hv = true) (hok : e = .ok → svG3 h.state ∧ h'.type = h.type)
    (hmore : e = .moreBytes → SvLine k β h' hv) : SvPost k β hv e h' hv := by
  refine ⟨fun _ => ⟨rfl, rfl⟩, fun he ht => ?_, fun he ht hn => ?_, fun he hp => ?_, hmore⟩
  · exact hB2 (hL.gen (hok he).1 (by rw [← (hok he).2]; exact ht))
  · exact absurd (hL.gen (hok he).1 (by rw [← (hok he).2]; exact ht)) hn
  · exact Or.inl (hL.other (by rw [svG3_stType (hok he).1]; intro hh; cases hh) hp)

/-- a final step made by the value parser of type `ty` -/
theorem svp_typed {k : SvKind} {β : Prop} {hv hv2 : PHdrVals} {e : Err} {V : PField} {ty : Nat} {h' : Hdr}
    {st : HState} (hst : svStType st = some ty) (hU : SvUpd ty hv hv2 e V) (hty : h'.type = ty)
    (hok : e = .ok → h'.val = V) (hmore : e ≠ .ok → h'.state = st)
    (hown : k.type = ty → ¬ β) (hoth : k.type ≠ ty → k.parsed hv = true → β) : SvPost k β hv e h' hv2 := by
  by_cases hk : k.type = ty
  · have hnb := hown hk
    refine ⟨fun hb => absurd hb hnb, fun he _ => ((hU k).2 hk he).1, fun he _ _ => ?_, fun _ _ => Or.inr (by rw [hty, hk]),
      fun he => ?_⟩
    · rw [hok he]; exact ((hU k).2 hk he).2
    · have hs : h'.state = st := hmore (by rw [he]; decide)
      refine ⟨fun t ht => ?_, fun _ => hnb, fun hne => ?_, fun g => ?_⟩
      · rw [hs, hst] at ht; cases ht; exact hty
      · rw [hs, hst, hk] at hne; exact absurd rfl hne
      · rw [hs] at g; rw [svG3_stType g] at hst; cases hst
  · have hsame := (hU k).1 hk
    have hb : k.parsed hv2 = true → β := fun hp => hoth hk (by rw [← hsame.1]; exact hp)
    refine ⟨fun _ => hsame, fun _ ht => absurd (ht.symm.trans hty) hk, fun _ ht => absurd (ht.symm.trans hty) hk,
      fun _ hp => Or.inl (hb hp), fun he => ?_⟩
    have hs : h'.state = st := hmore (by rw [he]; decide)
    refine ⟨fun t ht => ?_, fun ht => ?_, fun _ hp => hb hp, fun g => ?_⟩
    · rw [hs, hst] at ht; cases ht; exact hty
    · rw [hs, hst] at ht; cases ht; exact absurd rfl hk
    · rw [hs] at g; rw [svG3_stType g] at hst; cases hst

theorem svStType_none {s : HState} (h : ¬ s.isVal) : svStType s = none := by
  cases s <;> first | rfl | exact absurd (by simp [HState.isVal]) h

theorem svStType_some {s : HState} (h : s.isVal) : ∃ ty, svStType s = some ty := by
  cases s <;> first | exact ⟨_, rfl⟩ | simp [HState.isVal] at h

/-- the call of the value parser of state `K` for the header `h1` (of type `ty`), as the line stores its result -/
theorem svp_call {k : SvKind} {β : Prop} {hv : PHdrVals} (b : Buf) (j : Nat) (h1 : Hdr) {K : HState} {ty : Nat}
    (hst : svStType K = some ty) (hty : h1.type = ty) (hown : k.type = ty → ¬ β)
    (hoth : k.type ≠ ty → k.parsed hv = true → β) :
    SvPost k β hv (valCall K h1.state b j hv).2.1
      (hlWrap { h1 with state := K } (valCall K h1.state b j hv).2.1 (valCall K h1.state b j hv).2.2).1
      (valCall K h1.state b j hv).2.2.2 := by
  refine svp_typed hst (sv_valCall K h1.state b j hv hst) ?_ ?_ ?_ hown hoth
  · unfold hlWrap
    dsimp only
    split <;> exact hty
  · intro he
    unfold hlWrap
    simp only [he, flo_beq_ok, ↓reduceIte]
  · intro he
    have : ((valCall K h1.state b j hv).2.1 == Err.ok) = false := by simpa using he
    unfold hlWrap
    simp only [this, Bool.false_eq_true, ↓reduceIte]

/-- **ParseHdrLine with a values object, from ANY state of the header object**, relative to kind `k` -/
theorem svl_parseHdrLine (k : SvKind) (β : Prop) (b : Buf) (o : Nat) (h : Hdr) (hv : PHdrVals)
    (hL : SvLine k β h hv) (hB2 : β → k.parsed hv = true) :
    ∃ hv', (parseHdrLine b o h (some hv)).2.2.2 = some hv' ∧
      SvPost k β hv (parseHdrLine b o h (some hv)).2.1 (parseHdrLine b o h (some hv)).2.2.1 hv' := by
  rcases hr : parseHdrLine b o h (some hv) with ⟨o', e, h', hb'⟩
  refine parseHdrLine_ind b (fun _ st => st.2 = some hv ∧ SvLine k β st.1 hv)
    (fun _ e st => ∃ hv', st.2 = some hv' ∧ SvPost k β hv e st.1 hv') (hexit := ?hexit) (hgo := ?hgo)
    (hnoname := ?hnoname) (huntyped := ?huntyped) (hnil := ?hnil) (hcall := ?hcall) (heob := ?heob)
    (show (h, some hv).2 = some hv ∧ SvLine k β (h, some hv).1 hv from ⟨rfl, hL⟩) hr
  case hexit =>
    rintro i c g _ o1 e1 g' hc ⟨rfl, hL⟩ ha
    have sp := hlLex_spec b i c g hc
    have hG := (hlLex_spec b i c g hc).gen
    rw [ha] at sp hG
    have hn := svStType_none (sp.not_isVal (by simp))
    exact ⟨hv, rfl, svp_same hL hB2 (fun he => ⟨hG.2.1 he, hG.1⟩)
      (fun he => hL.move hG.1 (svStType_none sp.exit_hdr.2.1) hn (hG.2.2 he))⟩
  case hgo =>
    rintro i c g _ i' g' hc ⟨rfl, hL⟩ ha
    have sp := hlLex_spec b i c g hc
    have hG := (hlLex_spec b i c g hc).gen
    rw [ha] at sp hG
    have hn := svStType_none (sp.not_isVal (by simp))
    refine ⟨rfl, hL.move hG.1 ?_ hn (fun g3 => ?_)⟩
    · rcases hG.2 with hs | ⟨hs, _⟩ <;> rw [hs] <;> rfl
    · rcases hG.2 with hs | ⟨_, h3⟩
      · rw [hs] at g3; rcases g3 with g3 | g3 | g3 <;> cases g3
      · exact h3
  case hnoname =>
    rintro i c g _ j g' _ ⟨rfl, _⟩ _ _
    exact ⟨hv, rfl, ⟨fun _ => ⟨rfl, rfl⟩, nofun, nofun, nofun, nofun⟩⟩
  case huntyped =>
    -- no parser is selected for the header of the line: a parsed shortcut of its type means a repeated header
    rintro i c g _ j g' nm hc ⟨rfl, hL⟩ ha _ hk
    have sp := hlLex_spec b i c g hc
    rw [ha] at sp
    have hs : g'.state = .bodyStart := (sp.colon_range (Nat.le_of_lt (get?_lt hc))).2.2
    have hoth : k.parsed hv = true → β := hL.other (by rw [svStType_none (sp.not_isVal (by simp))]; nofun)
    refine ⟨rfl, ⟨fun t ht => ?_, fun ht => ?_, fun _ hp => hoth hp, fun _ ht => hoth ?_⟩⟩
    · simp only [hs, svStType] at ht; cases ht
    · simp only [hs, svStType] at ht; cases ht
    · have hv1 := sv_valKind k { g' with type := getHdrType nm } hv ht.symm
      rw [hk hv rfl] at hv1
      cases hp : k.parsed hv
      · rw [hp] at hv1; cases hv1
      · rfl
  case hnil =>
    rintro i c g _ ⟨hh, _⟩
    cases hh
  case hcall =>
    rintro i c g _ j h1 K hc ⟨hh, hL⟩ hcall
    cases hh
    have sp := hlLex_spec b i c g hc
    rcases hcall with ⟨ha, rfl, rfl, rfl⟩ | ⟨g', nm, ha, _, rfl, hk⟩ <;> rw [ha] at sp
    · obtain ⟨ty, hsty⟩ := svStType_some sp
      exact ⟨_, rfl, svp_call b _ _ hsty (hL.ty ty hsty) (fun hk => hL.own (by rw [hsty, hk]))
        (fun hk => hL.other (by rw [hsty]; intro hh; cases hh; exact hk rfl))⟩
    · refine ⟨_, rfl, svp_call b j _ (sv_valKind_type hk) rfl (fun hkt hb => ?_)
        (fun _ hp => hL.other (by rw [svStType_none (sp.not_isVal (by simp))]; nofun) hp)⟩
      have hv1 := sv_valKind k { g' with type := getHdrType nm } hv hkt
      rw [hk, hB2 hb] at hv1
      cases hv1
  case heob =>
    rintro i ⟨g, gb⟩ ⟨hh, hL⟩
    exact ⟨hv, hh, ⟨fun _ => ⟨rfl, rfl⟩, nofun, nofun, nofun, fun _ => hL⟩⟩

/-! ### (2c) the header block: the first stored header of the kind's type carries the shortcut's span -/

/-- the flag of the kind's type is set in the list object: a header of that type has been accepted -/
def svBit (k : SvKind) (hl : HdrLst) : Prop := hl.pflags.testBit k.type = true

theorem svk_type_lt (k : SvKind) : k.type < 16 := by cases k <;> decide

/-- block-level facts relative to kind `k` -/
structure SvBlk (k : SvKind) (hl : HdrLst) (hv : PHdrVals) : Prop where
  /-- **the first stored header of the type has the span of the shortcut object as its value** -/
  b1 : ∀ j, j < hl.n → j < hl.hdrs.size → hl.hdrs[j]!.type = k.type →
        (∀ i, i < j → hl.hdrs[i]!.type ≠ k.type) → hl.hdrs[j]!.val = k.span hv
  /-- a header of the type was accepted: the shortcut object is parsed -/
  b2 : svBit k hl → k.parsed hv = true
  /-- a header of the type was accepted: one is stored, or the array was full by then -/
  b3 : svBit k hl → (∃ j, j < hl.n ∧ j < hl.hdrs.size ∧ hl.hdrs[j]!.type = k.type) ∨ hl.hdrs.size ≤ hl.n
  /-- a stored header of the type has its flag set -/
  b4 : ∀ j, j < hl.n → j < hl.hdrs.size → hl.hdrs[j]!.type = k.type → svBit k hl

theorem svBit_setCur (k : SvKind) (hl : HdrLst) (g : Hdr) : svBit k (hl.setCur g) ↔ svBit k hl := by
  unfold svBit; rw [(hlSetCur_scalars hl g).1]

theorem svBit_accept (k : SvKind) (hl : HdrLst) (g : Hdr) :
    svBit k ((hl.setCur g).accept g) ↔ (svBit k hl ∨ g.type = k.type) := by
  unfold svBit
  rw [accept_pflags, (hlSetCur_scalars hl g).1, svc_testBit_or _ _ _ (svk_type_lt k)]
  simp

/-- the current header is replaced (end of block, or suspension), values object changed as a line may change it -/
theorem SvBlk.setCur {k : SvKind} {hl : HdrLst} {hv hv' : PHdrVals} (H : SvBlk k hl hv) (g : Hdr)
    (keep : svBit k hl → k.parsed hv' = k.parsed hv ∧ k.span hv' = k.span hv) : SvBlk k (hl.setCur g) hv' := by
  have hget : ∀ j, j < hl.n → (hl.setCur g).hdrs[j]! = hl.hdrs[j]! := fun j hj => hlSetCur_ne hl g j (by omega)
  refine ⟨fun j h1 h2 ht hf => ?_, fun hb => ?_, fun hb => ?_, fun j h1 h2 ht => ?_⟩
  · rw [hlSetCur_n] at h1; rw [hlSetCur_size] at h2
    rw [hget j h1] at ht ⊢
    have hbit := H.b4 j h1 h2 ht
    rw [(keep hbit).2]
    exact H.b1 j h1 h2 ht (fun i hi => by rw [← hget i (by omega)]; exact hf i hi)
  · have hb' := (svBit_setCur k hl g).mp hb
    rw [(keep hb').1]; exact H.b2 hb'
  · have hb' := (svBit_setCur k hl g).mp hb
    rw [hlSetCur_n, hlSetCur_size]
    rcases H.b3 hb' with ⟨j, h1, h2, h3⟩ | h
    · exact Or.inl ⟨j, h1, h2, by rw [hget j h1]; exact h3⟩
    · exact Or.inr h
  · rw [hlSetCur_n] at h1; rw [hlSetCur_size] at h2
    rw [hget j h1] at ht
    exact (svBit_setCur k hl g).mpr (H.b4 j h1 h2 ht)

/-- a header is accepted -/
theorem SvBlk.next {k : SvKind} {hl : HdrLst} {hv hv' : PHdrVals} (H : SvBlk k hl hv) (g : Hdr)
    (P : SvPost k (svBit k hl) hv .ok g hv') : SvBlk k ((hl.setCur g).accept g) hv' := by
  have hn : ((hl.setCur g).accept g).n = hl.n + 1 := by rw [accept_n, hlSetCur_n]
  have hs : ((hl.setCur g).accept g).hdrs.size = hl.hdrs.size := by rw [accept_hdrs, hlSetCur_size]
  have hget : ∀ j, j < hl.n → ((hl.setCur g).accept g).hdrs[j]! = hl.hdrs[j]! := fun j hj => by
    rw [accept_hdrs]; exact hlSetCur_ne hl g j (by omega)
  have hgetn : hl.n < hl.hdrs.size → ((hl.setCur g).accept g).hdrs[hl.n]! = g := fun hin => by
    rw [accept_hdrs]; exact hlSetCur_get_n hl g hin
  refine ⟨fun j h1 h2 ht hf => ?_, fun hb => ?_, fun hb => ?_, fun j h1 h2 ht => ?_⟩
  · rw [hn] at h1; rw [hs] at h2
    rcases Nat.lt_or_ge j hl.n with hlt | hge
    · rw [hget j hlt] at ht ⊢
      have hbit := H.b4 j hlt h2 ht
      rw [(P.keep hbit).2]
      exact H.b1 j hlt h2 ht (fun i hi => by rw [← hget i (by omega)]; exact hf i hi)
    · have hj : j = hl.n := by omega
      subst hj
      rw [hgetn h2] at ht ⊢
      have hnb : ¬ svBit k hl := by
        intro hb
        rcases H.b3 hb with ⟨i, h1', _, h3'⟩ | h
        · exact hf i h1' (by rw [hget i h1']; exact h3')
        · omega
      exact P.ok3 rfl ht hnb
  · rcases (svBit_accept k hl g).mp hb with hb' | ht
    · rw [(P.keep hb').1]; exact H.b2 hb'
    · exact P.ok2 rfl ht
  · rw [hn, hs]
    rcases (svBit_accept k hl g).mp hb with hb' | ht
    · rcases H.b3 hb' with ⟨j, h1, h2, h3⟩ | h
      · exact Or.inl ⟨j, by omega, h2, by rw [hget j h1]; exact h3⟩
      · exact Or.inr (by omega)
    · by_cases hin : hl.n < hl.hdrs.size
      · exact Or.inl ⟨hl.n, by omega, hin, by rw [hgetn hin]; exact ht⟩
      · exact Or.inr (by omega)
  · rw [hn] at h1; rw [hs] at h2
    apply (svBit_accept k hl g).mpr
    rcases Nat.lt_or_ge j hl.n with hlt | hge
    · rw [hget j hlt] at ht; exact Or.inl (H.b4 j hlt h2 ht)
    · have hj : j = hl.n := by omega
      subst hj
      rw [hgetn h2] at ht; exact Or.inr ht

/-- the whole invariant of ParseHeaders between two calls: the block facts, a clean list object, and the line facts of
    the header in progress -/
def SvInv (k : SvKind) (hl : HdrLst) (hv : PHdrVals) : Prop :=
  SvBlk k hl hv ∧ HlsClean hl ∧ SvLine k (svBit k hl) hl.cur hv

theorem HlsClean.setCur' {hl : HdrLst} (hc : HlsClean hl) (g : Hdr) : HlsClean (hl.setCur g) := by
  show SlotArr.Clean {} (hl.setCur g).slots
  rw [hlsSlots_setCur]; exact SlotArr.Clean.setCur g hc

/-- a new header object: nothing in progress -/
theorem SvLine.new {k : SvKind} {β : Prop} {hv : PHdrVals} (h : k.parsed hv = true → β) : SvLine k β {} hv :=
  ⟨(fun t ht => by cases ht), (fun ht => by cases ht), (fun _ hp => h hp),
   (fun g => by rcases g with g | g | g <;> cases g)⟩

/-- **ParseHeaders with a values object keeps the invariant**: after OK the block facts hold of the result; after
    MoreBytes the whole invariant holds again (so the next call may continue) — any buffer, any offset -/
theorem svb_parseHeaders (k : SvKind) (b : Buf) (offs : Nat) (hl : HdrLst) (hv : PHdrVals) (H : SvInv k hl hv) :
    ∃ hv', (parseHeaders b offs hl (some hv)).2.2.2 = some hv' ∧
      ((parseHeaders b offs hl (some hv)).2.1 = .ok → SvBlk k (parseHeaders b offs hl (some hv)).2.2.1 hv') ∧
      ((parseHeaders b offs hl (some hv)).2.1 = .moreBytes → SvInv k (parseHeaders b offs hl (some hv)).2.2.1 hv') := by
  -- what one line does, from the invariant: `svl_parseHdrLine`
  have hline : ∀ {o1 hl1 hv1 n e g hb'}, SvInv k hl1 hv1 → parseHdrLine b o1 hl1.cur (some hv1) = (n, e, g, hb') →
      ∃ hv', hb' = some hv' ∧ SvPost k (svBit k hl1) hv1 e g hv' := by
    intro o1 hl1 hv1 n e g hb' H hp
    have := svl_parseHdrLine k (svBit k hl1) b o1 hl1.cur hv1 H.2.2 H.1.b2
    rw [hp] at this
    exact this
  refine parseHeaders_ind b (J := fun _ hl1 hb1 => ∃ hv1, hb1 = some hv1 ∧ SvInv k hl1 hv1)
    (R := fun r => ∃ hv', r.2.2.2 = some hv' ∧ (r.2.1 = .ok → SvBlk k r.2.2.1 hv') ∧
      (r.2.1 = .moreBytes → SvInv k r.2.2.1 hv')) (line := ?line) (bug := ?bug) (endOk := ?endOk) (endEmpty := ?endEmpty)
    (stop := ?stop) (eob := ?eob) offs hl (some hv) ⟨hv, rfl, H⟩
  case line =>
    rintro o1 hl1 _ n g hb' ⟨hv1, rfl, H⟩ _ hp _
    obtain ⟨hv', rfl, hP⟩ := hline H hp
    have hcl := accept_clean hl1 g H.2.1
    refine ⟨hv', rfl, H.1.next g hP, hcl.1, ?_⟩
    rw [hcl.2]
    exact SvLine.new (fun hp' => (svBit_accept k hl1 g).mpr (hP.ok4 rfl hp'))
  case bug =>
    rintro o1 hl1 _ n g hb' ⟨hv1, rfl, H⟩ hp _
    obtain ⟨hv', rfl, -⟩ := hline H hp
    exact ⟨hv', rfl, nofun, nofun⟩
  case endOk =>
    rintro o1 hl1 _ n g hb' ⟨hv1, rfl, H⟩ _ hp _
    obtain ⟨hv', rfl, hP⟩ := hline H hp
    exact ⟨hv', rfl, fun _ => H.1.setCur g hP.keep, nofun⟩
  case endEmpty =>
    rintro o1 hl1 _ n g hb' ⟨hv1, rfl, H⟩ _ hp _
    obtain ⟨hv', rfl, -⟩ := hline H hp
    exact ⟨hv', rfl, nofun, nofun⟩
  case stop =>
    rintro o1 hl1 _ n e g hb' ⟨hv1, rfl, H⟩ _ hp hne _
    obtain ⟨hv', rfl, hP⟩ := hline H hp
    refine ⟨hv', rfl, fun he => absurd he hne, fun he => ⟨H.1.setCur g hP.keep, H.2.1.setCur' g, ?_⟩⟩
    rw [hlSetCur_cur]
    have hm := hP.more he
    exact ⟨hm.ty, (fun ht hb => hm.own ht ((svBit_setCur k hl1 g).mp hb)),
      (fun ht hp' => (svBit_setCur k hl1 g).mpr (hm.other ht hp')),
      (fun g3 ht => (svBit_setCur k hl1 g).mpr (hm.gen g3 ht))⟩
  case eob =>
    rintro o1 hl1 _ ⟨hv1, rfl, H⟩ _
    exact ⟨hv1, rfl, nofun, fun _ => H⟩

/-- the invariant of the message object relative to kind `k`: while the header section is not finished, the invariant
    of ParseHeaders; once it is, the block facts. (Nothing is claimed in the error states: the object must be Reset.) -/
def SvMsg (k : SvKind) (m : PSIPMsg) : Prop :=
  ((m.state = .init ∨ m.state = .fline ∨ m.state = .headers) → SvInv k m.hl m.pv) ∧
  ((m.state = .body ∨ m.state = .fin) → SvBlk k m.hl m.pv)

/-- `SvMsg k` is the two-phase invariant of MsgPhases.lean: `SvInv k` while the header block is open, `SvBlk k` once it
    is closed -/
theorem SvMsg_iff (k : SvKind) (m : PSIPMsg) : SvMsg k m ↔ MsgInv2 (SvInv k) (SvBlk k) m := Iff.rfl

theorem SvMsg_of_inv {k : SvKind} {m : PSIPMsg} (hT : SvInv k m.hl m.pv) (hs : m.state ≠ .body ∧ m.state ≠ .fin) :
    SvMsg k m :=
  MsgInv2.of_open (T := SvInv k) (D := SvBlk k) hT hs

theorem svb_hdrsStep (k : SvKind) : HdrsStep (SvInv k) (SvBlk k) := by
  intro b o hl pv H o2 e hl2 hb hp
  obtain ⟨hv', hve, hph⟩ := svb_parseHeaders k b o hl pv H
  rw [hp] at hve hph
  cases hve
  exact hph

/-- **every ParseSIPMsg call keeps the invariant** — any buffer, offset, flags, verdict — and after OK the block facts
    hold of the returned object -/
theorem svm_parseSIPMsg (k : SvKind) (b : Buf) (o : Nat) (m : PSIPMsg) (flags : Nat) (H : SvMsg k m) :
    SvMsg k (parseSIPMsg b o m flags).2.2 ∧
    ((parseSIPMsg b o m flags).2.1 = .ok →
      SvBlk k (parseSIPMsg b o m flags).2.2.hl (parseSIPMsg b o m flags).2.2.pv) :=
  MsgInv2.parseSIPMsg (svb_hdrsStep k) b o m flags H

/-- a list object with no header accepted and a values object with nothing parsed -/
theorem SvInv_start (k : SvKind) (hl : HdrLst) (hv : PHdrVals) (hn : hl.n = 0) (hp : hl.pflags = 0)
    (hc : HlsClean hl) (hcur : hl.cur = {}) (hnp : k.parsed hv = false) : SvInv k hl hv := by
  have hnb : ¬ svBit k hl := by unfold svBit; rw [hp]; simp
  refine ⟨⟨(fun j h1 => by rw [hn] at h1; cases h1), (fun hb => absurd hb hnb), (fun hb => absurd hb hnb),
    (fun j h1 => by rw [hn] at h1; cases h1)⟩, hc, ?_⟩
  rw [hcur]
  exact SvLine.new (fun hp' => by rw [hnp] at hp'; cases hp')

theorem SvMsg_new (k : SvKind) (len kh kc : Nat) : SvMsg k (initObj len kh kc) := by
  refine SvMsg_of_inv (SvInv_start k _ _ rfl rfl (hsNew_ok kh).1 (hsNew_ok kh).2 (by cases k <;> rfl))
    ⟨(fun hh => by cases hh), (fun hh => by cases hh)⟩

/-- every object produced by Init (whatever it held before; caller arrays of any capacity, cleared, or none) -/
theorem SvMsg_init (k : SvKind) (m0 : PSIPMsg) (len kh kc : Nat) (hdrs cts : Option Unit) :
    SvMsg k (m0.init len (hdrs.map fun _ => Array.replicate kh {}) (cts.map fun _ => Array.replicate kc {})) := by
  obtain ⟨k1, k2, e⟩ := init_eq_initObj m0 len kh kc hdrs cts
  rw [e]
  exact SvMsg_new k len k1 k2

/-- every object produced by Reset, whatever it held before -/
theorem SvMsg_reset (k : SvKind) (m : PSIPMsg) : SvMsg k m.reset := by
  have hs : MsgState.init ≠ .body ∧ MsgState.init ≠ .fin := ⟨(fun hh => by cases hh), (fun hh => by cases hh)⟩
  have hre : m.reset.hl = hsNew m.hl.hdrs.size := by
    show ({ hdrs := (m.hl.reset).hdrs } : HdrLst) = { hdrs := Array.replicate m.hl.hdrs.size {} }
    show ({ hdrs := m.hl.hdrs.map (fun _ => {}) } : HdrLst) = { hdrs := Array.replicate m.hl.hdrs.size {} }
    rw [sc_map_const]
  refine SvMsg_of_inv ?_ hs
  rw [hre]
  exact SvInv_start k _ _ rfl rfl (hsNew_ok _).1 (hsNew_ok _).2 (by cases k <;> rfl)

/-- **at every point of every history of a message object** -/
theorem ScReach.svMsg (k : SvKind) {m : PSIPMsg} (h : ScReach m) : SvMsg k m := by
  induction h with
  | new =>
    exact SvMsg_of_inv (SvInv_start k _ _ rfl rfl (hsNew_ok 0).1 (hsNew_ok 0).2 (by cases k <;> rfl))
      ⟨(fun hh => by cases hh), (fun hh => by cases hh)⟩
  | init m0 len kh kc hdrs cts => exact SvMsg_init k m0 len kh kc hdrs cts
  | @reset m _ _ => exact SvMsg_reset k m
  | parse b o flags _ ih => exact (svm_parseSIPMsg k b o _ flags ih).1

/-! ### (2e) [C05] the shortcut values equal the value of the first stored header of their type -/

/-- `j` is the index of the first stored header of type `t` of the list object (counted and within the array) -/
def SvFirstOf (hl : HdrLst) (t j : Nat) : Prop :=
  j < hl.n ∧ j < hl.hdrs.size ∧ hl.hdrs[j]!.type = t ∧ ∀ i, i < j → hl.hdrs[i]!.type ≠ t

/-- **kind by kind**: in the object returned by a successful ParseSIPMsg call — after ANY history of the object it was
    called on (`SvParsed`), in particular after any chunk schedule from Init with any capacities; no size bound — if a
    header of the kind's type is stored, the shortcut object of the kind is parsed and the `val` of the FIRST stored
    header of that type EQUALS the span the shortcut object reports -/
theorem shortcut_eq_first_header (k : SvKind) (m : PSIPMsg) (hp : SvParsed m) (j : Nat)
    (hj : SvFirstOf m.hl k.type j) : k.parsed m.pv = true ∧ m.hl.hdrs[j]!.val = k.span m.pv := by
  obtain ⟨b, o, m0, flags, o', hR, hr⟩ := hp
  have h := (svm_parseSIPMsg k b o m0 flags (hR.svMsg k)).2
  rw [hr] at h
  have hB : SvBlk k m.hl m.pv := h rfl
  exact ⟨hB.b2 (hB.b4 j hj.1 hj.2.1 hj.2.2.1), hB.b1 j hj.1 hj.2.1 hj.2.2.1 hj.2.2.2⟩

/-- a header of the kind's type was accepted (its type flag is set — also when the array was too small to store it):
    the shortcut object is parsed -/
theorem shortcut_parsed_of_flag (k : SvKind) (m : PSIPMsg) (hp : SvParsed m)
    (hf : m.hl.pflags.testBit k.type = true) : k.parsed m.pv = true := by
  obtain ⟨b, o, m0, flags, o', hR, hr⟩ := hp
  have h := (svm_parseSIPMsg k b o m0 flags (hR.svMsg k)).2
  rw [hr] at h
  exact (h rfl).b2 hf

/-- **[C05] the six shortcut values, spelled out**: From, To, Call-ID, CSeq, Content-Length, Expires -/
theorem shortcut_values_eq (m : PSIPMsg) (hp : SvParsed m) :
    (∀ j, SvFirstOf m.hl HdrFrom j → m.pv.from_.parsed = true ∧ m.hl.hdrs[j]!.val = m.pv.from_.v) ∧
    (∀ j, SvFirstOf m.hl HdrTo j → m.pv.to.parsed = true ∧ m.hl.hdrs[j]!.val = m.pv.to.v) ∧
    (∀ j, SvFirstOf m.hl HdrCallID j → m.pv.callid.parsed = true ∧ m.hl.hdrs[j]!.val = m.pv.callid.callID) ∧
    (∀ j, SvFirstOf m.hl HdrCSeq j → m.pv.cseq.parsed = true ∧ m.hl.hdrs[j]!.val = m.pv.cseq.v) ∧
    (∀ j, SvFirstOf m.hl HdrCLen j → m.pv.clen.parsed = true ∧ m.hl.hdrs[j]!.val = m.pv.clen.sVal) ∧
    (∀ j, SvFirstOf m.hl HdrExpires j → m.pv.expires.parsed = true ∧ m.hl.hdrs[j]!.val = m.pv.expires.sVal) :=
  ⟨shortcut_eq_first_header .from_ m hp, shortcut_eq_first_header .to m hp, shortcut_eq_first_header .callid m hp,
   shortcut_eq_first_header .cseq m hp, shortcut_eq_first_header .clen m hp, shortcut_eq_first_header .expires m hp⟩

/-- … after the first call on an Init object -/
theorem shortcut_values_eq_init (b : Buf) (o : Nat) (m0 : PSIPMsg) (len kh kc : Nat) (hdrs cts : Option Unit)
    (flags : Nat) {o' : Nat} {m' : PSIPMsg}
    (hr : parseSIPMsg b o (m0.init len (hdrs.map fun _ => Array.replicate kh {})
      (cts.map fun _ => Array.replicate kc {})) flags = (o', .ok, m')) (k : SvKind) (j : Nat)
    (hj : SvFirstOf m'.hl k.type j) : k.parsed m'.pv = true ∧ m'.hl.hdrs[j]!.val = k.span m'.pv :=
  shortcut_eq_first_header k m' (svParsed_init b o m0 len kh kc hdrs cts flags hr) j hj

/-- … after every chunk schedule from Init that ends with OK (any list of buffers) -/
theorem shortcut_values_eq_schedule_init (flags : Nat) (o : Nat) (m0 : PSIPMsg) (len kh kc : Nat)
    (hdrs cts : Option Unit) (l : List Buf) {o' : Nat} {m' : PSIPMsg}
    (hr : resumeRun (C01.msgP flags) o
      (m0.init len (hdrs.map fun _ => Array.replicate kh {}) (cts.map fun _ => Array.replicate kc {})) l = (o', .ok, m'))
    (k : SvKind) (j : Nat) (hj : SvFirstOf m'.hl k.type j) :
    k.parsed m'.pv = true ∧ m'.hl.hdrs[j]!.val = k.span m'.pv :=
  shortcut_eq_first_header k m' (svParsed_schedule_init flags o m0 len kh kc hdrs cts l hr) j hj

/-! ### tests / non-vacuity (closed computations by `decide +kernel`; these are examples, not the general claims) -/

/-- test message: a From with trailing blanks and a folded parameter, a second From, To, Call-ID, CSeq, Expires,
    Content-Length (7 headers) -/
def svTestMsg : Buf := "REGISTER sip:a@b SIP/2.0\r\nFrom: \"x\" <sip:a@b> ;tag=a-1  \r\nf: <sip:z@z>;tag=2\r\nTo: <sip:c@d>\r\nCall-ID:   x@1.2.3.4  \r\nCSeq: 17 REGISTER\r\nExpires: 300 \r\nContent-Length: 0\r\n\r\n".toUTF8.data

/-- the parsed message object, header array of `k` entries -/
def svTestM (k : Nat) : PSIPMsg :=
  (parseSIPMsg svTestMsg 0 (({} : PSIPMsg).init 0 ((some ()).map fun _ => Array.replicate k {})
    ((some ()).map fun _ => Array.replicate 2 {})) 0).2.2

/-- the tests on the test message with an array of 8, evaluated together (one evaluation of the parse) -/
theorem svTest_run : ((parseSIPMsg svTestMsg 0 (({} : PSIPMsg).init 0 ((some ()).map fun _ => Array.replicate 8 {})
    ((some ()).map fun _ => Array.replicate 2 {})) 0).2.1 = .ok ∧ (svTestM 8).hl.n = 7 ∧
    ((svTestM 8).hl.hdrs.toList.map (fun h => h.type)).take 7 =
      [HdrFrom, HdrFrom, HdrTo, HdrCallID, HdrCSeq, HdrExpires, HdrCLen]) ∧
    SvFirstOf (svTestM 8).hl HdrTo 2 ∧
    ((svTestM 8).hl.hdrs[0]!.val = (svTestM 8).pv.from_.v ∧ (svTestM 8).pv.from_.v = ⟨32, 22⟩ ∧
    (svTestM 8).hl.hdrs[1]!.val ≠ (svTestM 8).pv.from_.v ∧
    (svTestM 8).hl.hdrs[3]!.val = (svTestM 8).pv.callid.callID ∧ (svTestM 8).pv.callid.callID.len = 9 ∧
    (svTestM 8).hl.hdrs[4]!.val = (svTestM 8).pv.cseq.v ∧
    (svTestM 8).hl.hdrs[5]!.val = (svTestM 8).pv.expires.sVal ∧
    (svTestM 8).hl.hdrs[6]!.val = (svTestM 8).pv.clen.sVal) := by
  unfold SvFirstOf
  decide +kernel

/-- test: the hypothesis `SvParsed` holds of the parsed test message -/
theorem svTest_parsed : SvParsed (svTestM 8) := by
  rw [svTestM]
  exact svParsed_of_ok (ScReach.init {} 0 8 2 (some ()) (some ())) svTest_run.1.1

/-- test: the message parses, and the hypotheses `SvFirstOf` hold at the indices 0 (From), 2 (To), 3, 4, 5, 6 -/
example : (parseSIPMsg svTestMsg 0 (({} : PSIPMsg).init 0 ((some ()).map fun _ => Array.replicate 8 {})
    ((some ()).map fun _ => Array.replicate 2 {})) 0).2.1 = .ok ∧ (svTestM 8).hl.n = 7 ∧
    ((svTestM 8).hl.hdrs.toList.map (fun h => h.type)).take 7 =
      [HdrFrom, HdrFrom, HdrTo, HdrCallID, HdrCSeq, HdrExpires, HdrCLen] := svTest_run.1

/-- test: what the theorem says on it (the repeated From does not matter, trailing blanks are outside both spans) -/
example : (svTestM 8).hl.hdrs[0]!.val = (svTestM 8).pv.from_.v ∧ (svTestM 8).pv.from_.v = ⟨32, 22⟩ ∧
    (svTestM 8).hl.hdrs[1]!.val ≠ (svTestM 8).pv.from_.v ∧
    (svTestM 8).hl.hdrs[3]!.val = (svTestM 8).pv.callid.callID ∧ (svTestM 8).pv.callid.callID.len = 9 ∧
    (svTestM 8).hl.hdrs[4]!.val = (svTestM 8).pv.cseq.v ∧
    (svTestM 8).hl.hdrs[5]!.val = (svTestM 8).pv.expires.sVal ∧
    (svTestM 8).hl.hdrs[6]!.val = (svTestM 8).pv.clen.sVal := svTest_run.2.2

/-- use of the theorem on the test message: the To header (index 2, after the two From headers); the hypothesis
    `SvFirstOf` is checked by evaluation -/
example : (svTestM 8).pv.to.parsed = true ∧ (svTestM 8).hl.hdrs[2]!.val = (svTestM 8).pv.to.v :=
  (shortcut_values_eq (svTestM 8) svTest_parsed).2.1 2 svTest_run.2.1

/-- test: an array of 2 stores the two From headers only; To is parsed (flag set) but not stored -/
example : (svTestM 2).hl.n = 7 ∧ (svTestM 2).hl.hdrs.size = 2 ∧ (svTestM 2).pv.to.parsed = true ∧
    (svTestM 2).hl.hdrs[0]!.val = (svTestM 2).pv.from_.v := by decide +kernel

/-! ### (2f) [C05] Contact / P-Asserted-Identity: the running header value (`lastHVal`) covers the values of its line

  Proved (buffers within the 65,535-byte limit, any capacity, value list object idle = between two header lines): after
  the value list of ONE Contact (P-Asserted-Identity) header line was parsed with verdict OK, every value stored from
  that line lies inside the running header value `lastHVal` — which is what ParseHdrLine copies into the `val` of that
  header (`parseBody_contact_new`, `parseBody_pai_new` of MsgLift.lean) — unless its `V` is empty.  The values stored
  before are untouched.  The statement for the whole message is ValAssoc.lean. -/

/-- `v` lies inside the span `L` -/
def svInside (L v : PField) : Prop := L.offs ≤ v.offs ∧ v.offs + v.len ≤ L.offs + L.len

/-- one step of the `lastHVal` bookkeeping: the span ended at or before `o`, the new value lies in `[o, next)` -/
theorem sv_lhv_step (L v : PField) (o next : Nat) (hL : L.offs + L.len ≤ o) (h1 : o ≤ v.offs)
    (h2 : v.offs + v.len ≤ next) (h3 : next ≤ 65535) :
    (if L.isEmpty then v else L.extend v.endT).offs + (if L.isEmpty then v else L.extend v.endT).len ≤ next ∧
    svInside (if L.isEmpty then v else L.extend v.endT) v ∧
    (∀ f : PField, f.len = 0 ∨ svInside L f → f.len = 0 ∨ svInside (if L.isEmpty then v else L.extend v.endT) f) := by
  obtain ⟨lo, ll⟩ := L
  obtain ⟨vo, vl⟩ := v
  simp only at hL h1 h2
  by_cases he : ll = 0
  · subst he
    have hemp : (PField.isEmpty ⟨lo, 0⟩) = true := rfl
    simp only [hemp, ↓reduceIte]
    refine ⟨h2, ⟨Nat.le_refl _, Nat.le_refl _⟩, fun f hf => ?_⟩
    rcases hf with hf | ⟨hf1, hf2⟩
    · exact Or.inl hf
    · left
      have hf1' : lo ≤ f.offs := hf1
      have hf2' : f.offs + f.len ≤ lo + 0 := hf2
      omega
  · have hemp : (PField.isEmpty ⟨lo, ll⟩) = false := by
      unfold PField.isEmpty; simpa using he
    simp only [hemp, Bool.false_eq_true, ↓reduceIte]
    have hlen : ((PField.extend ⟨lo, ll⟩ (PField.endT ⟨vo, vl⟩)).len) = vo + vl - lo := by
      show (trunc16 (trunc16 (vo + vl)) + 65536 - lo) % 65536 = vo + vl - lo
      unfold trunc16
      omega
    have hoffs : ((PField.extend ⟨lo, ll⟩ (PField.endT ⟨vo, vl⟩)).offs) = lo := rfl
    refine ⟨by rw [hlen, hoffs]; omega, ⟨by rw [hoffs]; show lo ≤ vo; omega, by
      rw [hlen, hoffs]; show vo + vl ≤ lo + (vo + vl - lo); omega⟩, fun f hf => ?_⟩
    rcases hf with hf | ⟨hf1, hf2⟩
    · exact Or.inl hf
    · right
      have hf1' : lo ≤ f.offs := hf1
      have hf2' : f.offs + f.len ≤ lo + ll := hf2
      exact ⟨by rw [hoffs]; exact hf1', by rw [hlen, hoffs]; omega⟩

/-- the running header value ends at or before `o` and covers every value stored from index `n0` on (empty `V`s
    excepted) -/
def CtSpan (c : PContacts) (n0 o : Nat) : Prop :=
  c.lastHVal.offs + c.lastHVal.len ≤ o ∧
  ∀ i, n0 ≤ i → i < c.n → i < c.vals.size → c.vals[i]!.v.len = 0 ∨ svInside c.lastHVal c.vals[i]!.v

theorem CtSpan.step {c : PContacts} {n0 o : Nat} (H : CtSpan c n0 o) (pf : PFromBody) (next : Nat)
    (h1 : o ≤ pf.v.offs) (h2 : pf.v.offs + pf.v.len ≤ next) (h3 : next ≤ 65535) :
    CtSpan ((c.setCur pf).account pf) n0 next := by
  have hl : ((c.setCur pf).account pf).lastHVal =
      if c.lastHVal.isEmpty then pf.v else c.lastHVal.extend pf.v.endT := by
    rw [account_lhv, (setCur_scalars c pf).2.2.2.1]
  obtain ⟨q1, q2, q3⟩ := sv_lhv_step c.lastHVal pf.v o next H.1 h1 h2 h3
  refine ⟨by rw [hl]; exact q1, fun i hn hi hs => ?_⟩
  rw [account_n, setCur_n] at hi
  rw [account_vals, setCur_size] at hs
  rw [account_vals, hl]
  by_cases hin : i = c.n
  · subst hin
    rw [setCur_get_n c pf hs]
    exact Or.inr q2
  · rw [setCur_vals_ne c pf i (by omega)]
    exact q3 _ (H.2 i hn (by omega) hs)

/-- **the loop of ParseAllContactValues / ParseAllPAIValues** (`valsLoop` over a one-value parser) on an idle object:
    after OK the running header value covers the values of this line and ends at or before the returned offset -/
theorem svc_valsLoop {one : Buf → Nat → PFromBody → Nat × Err × PFromBody} (hone : NaOne one) (b : Buf) (offs : Nat)
    (c : PContacts) (hfit : b.size ≤ 65535) (ho : offs ≤ b.size) (hcl : CtClean c) (hcur : c.cur = {}) (n0 : Nat)
    (h : CtSpan c n0 offs) :
    (valsLoop one b offs c).2.1 = .ok → CtSpan (valsLoop one b offs c).2.2 n0 (valsLoop one b offs c).1 := by
  refine valsLoop_inv one b (fun o d => o ≤ b.size ∧ CtClean d ∧ d.cur = {} ∧ CtSpan d n0 o)
    (fun r => r.2.1 = .ok → CtSpan r.2.2 n0 r.1) (fun o d ⟨ho, hcl, hcur, h⟩ => ?_) offs c ⟨ho, hcl, hcur, h⟩
  unfold valsStep
  rcases hp : one b o d.cur with ⟨next, e1, pf⟩
  obtain ⟨ht, e0, hp0, hok0, hmv0, -⟩ := hone hp
  rw [hcur] at hp0
  have hout := (parseNameAddrPVal_safe ht b o {} (NaEntry_new b o ho) hp0).1
  have hacc : Err.complete e0 → CtSpan ((d.setCur pf).account pf) n0 next := fun hc =>
    h.step pf next (parseNameAddrPVal_nest_new ht b o hfit ho hp0 hc).2 hout.v (by have := hout.ho; omega)
  cases e1 <;> simp only
  case ok => exact fun _ => hacc (Or.inl (hok0 rfl))
  case moreValues =>
    by_cases hg : o < next ∧ next ≤ b.size
    · rw [if_pos hg]
      have hcl' := next_clean d pf hcl
      refine ⟨hg.2, hcl'.1, hcl'.2, ?_⟩
      have := hacc (Or.inr (hmv0 rfl))
      unfold PContacts.next; split
      · exact this
      · exact this
    · rw [if_neg hg]; exact fun hh => by cases hh
  all_goals exact fun hh => by cases hh

/-- **one Contact header line** (value list object idle, any capacity; `k` = the new header count): after OK every value
    stored from this line — index `c.n` on — lies inside the running header value of the result (empty `V`s excepted),
    which ends at or before the returned offset -/
theorem svc_contact_line (b : Buf) (o : Nat) (c : PContacts) (k : Nat) (hfit : b.size ≤ 65535) (ho : o ≤ b.size)
    (hcl : CtClean c.wrap) (hcur : c.wrap.cur = {}) {o' : Nat} {c' : PContacts}
    (hr : parseAllContactValues b o { c with hNo := k, lastHVal := {} } = (o', .ok, c')) :
    c'.lastHVal.offs + c'.lastHVal.len ≤ o' ∧
    ∀ i, c.n ≤ i → i < c'.n → i < c'.vals.size → c'.vals[i]!.v.len = 0 ∨ svInside c'.lastHVal c'.vals[i]!.v := by
  rw [parseAllContactValues_eq_wrap, bump_wrap, contactsLoop_eq_valsLoop] at hr
  have h0 : CtSpan ({ c.wrap with hNo := k, lastHVal := {} } : PContacts) c.n o :=
    ⟨Nat.zero_le _, fun i hn hi _ => by
      have hi' : i < c.wrap.n := hi
      rw [(wrap_scalars c).1] at hi'; omega⟩
  have := svc_valsLoop naOne_contact b o { c.wrap with hNo := k, lastHVal := {} } hfit ho hcl hcur c.n h0
  rw [hr] at this
  exact this rfl

/-- the same for the identity list -/
def PaSpan (c : PPAIs) (n0 o : Nat) : Prop :=
  c.lastHVal.offs + c.lastHVal.len ≤ o ∧
  ∀ i, n0 ≤ i → i < c.n → i < c.vals.size → c.vals[i]!.v.len = 0 ∨ svInside c.lastHVal c.vals[i]!.v

/-- **one P-Asserted-Identity header line** (identity list object idle): after OK every identity stored from this line
    lies inside the running header value of the result (empty `V`s excepted) -/
theorem svc_pai_line (b : Buf) (o : Nat) (c : PPAIs) (k : Nat) (hfit : b.size ≤ 65535) (ho : o ≤ b.size)
    (hcl : PaClean c.wrap) (hcur : c.wrap.cur = {}) {o' : Nat} {c' : PPAIs}
    (hr : parseAllPAIValues b o { c with hNo := k, lastHVal := {} } = (o', .ok, c')) :
    c'.lastHVal.offs + c'.lastHVal.len ≤ o' ∧
    ∀ i, c.n ≤ i → i < c'.n → i < c'.vals.size → c'.vals[i]!.v.len = 0 ∨ svInside c'.lastHVal c'.vals[i]!.v := by
  rw [parseAllPAIValues_eq_wrap, paBump_wrap] at hr
  have h0 : PaSpan ({ c.wrap with hNo := k, lastHVal := {} } : PPAIs) c.n o :=
    ⟨Nat.zero_le _, fun i hn hi _ => by
      have hi' : i < c.wrap.n := hi
      rw [(paWrap_scalars c).1] at hi'; omega⟩
  have : (paisLoop b o { c.wrap with hNo := k, lastHVal := {} }).2.1 = .ok →
      PaSpan (paisLoop b o { c.wrap with hNo := k, lastHVal := {} }).2.2 c.n
        (paisLoop b o { c.wrap with hNo := k, lastHVal := {} }).1 := by
    rw [paisLoop_eq_valsLoop]
    exact svc_valsLoop naOne_pai b o ({ c.wrap with hNo := k, lastHVal := {} } : PPAIs).toCt hfit ho hcl hcur c.n h0
  rw [hr] at this
  exact this rfl

/-- **a Contact header line, header and values together**: for a header object of type Contact not in the middle of
    its value list and an idle value list object, if the dispatch ends with OK then the header's `val` is the running
    header value, it ends at or before the returned offset, and every value stored from this line lies inside `val` -/
theorem svc_contact_header (b : Buf) (i : Nat) (h : Hdr) (hv : PHdrVals) (hfit : b.size ≤ 65535) (hi : i ≤ b.size)
    (ht : h.type = HdrContact) (hs : h.state ≠ .hContact) (hcl : CtClean hv.contacts.wrap)
    (hcur : hv.contacts.wrap.cur = {}) {n : Nat} {h2 : Hdr} {hv2 : PHdrVals}
    (hr : parseBody b i h (some hv) = (n, .ok, h2, some hv2)) :
    h2.val = hv2.contacts.lastHVal ∧ h2.val.offs + h2.val.len ≤ n ∧
    ∀ j, hv.contacts.n ≤ j → j < hv2.contacts.n → j < hv2.contacts.vals.size →
      hv2.contacts.vals[j]!.v.len = 0 ∨ svInside h2.val hv2.contacts.vals[j]!.v := by
  obtain ⟨c, hq, rfl, e2⟩ := parseBody_contact_new ht hs hr
  cases e2
  exact ⟨rfl, svc_contact_line b i hv.contacts _ hfit hi hcl hcur hq⟩

/-- **a P-Asserted-Identity header line, header and values together** -/
theorem svc_pai_header (b : Buf) (i : Nat) (h : Hdr) (hv : PHdrVals) (hfit : b.size ≤ 65535) (hi : i ≤ b.size)
    (ht : h.type = HdrPAI) (hs : h.state ≠ .hPAI) (hcl : PaClean hv.pais.wrap)
    (hcur : hv.pais.wrap.cur = {}) {n : Nat} {h2 : Hdr} {hv2 : PHdrVals}
    (hr : parseBody b i h (some hv) = (n, .ok, h2, some hv2)) :
    h2.val = hv2.pais.lastHVal ∧ h2.val.offs + h2.val.len ≤ n ∧
    ∀ j, hv.pais.n ≤ j → j < hv2.pais.n → j < hv2.pais.vals.size →
      hv2.pais.vals[j]!.v.len = 0 ∨ svInside h2.val hv2.pais.vals[j]!.v := by
  obtain ⟨c, hq, rfl, e2⟩ := parseBody_pai_new ht hs hr
  cases e2
  exact ⟨rfl, svc_pai_line b i hv.pais _ hfit hi hcl hcur hq⟩

/-- test / non-vacuity: two Contact values on one line into a new list of capacity 3: the running header value
    `[0, 21)` runs from the start of the first `V` (`[0, 9)`) to the end of the last one (`[12, 21)`) -/
example : (parseAllContactValues "<sip:a@b> , <sip:c@d>\r\n\r\n".toUTF8.data 0
      { ({ vals := Array.replicate 3 {} } : PContacts) with hNo := 1, lastHVal := {} }).2.1 = .ok ∧
    (parseAllContactValues "<sip:a@b> , <sip:c@d>\r\n\r\n".toUTF8.data 0
      { ({ vals := Array.replicate 3 {} } : PContacts) with hNo := 1, lastHVal := {} }).2.2.lastHVal = ⟨0, 21⟩ ∧
    ((parseAllContactValues "<sip:a@b> , <sip:c@d>\r\n\r\n".toUTF8.data 0
      { ({ vals := Array.replicate 3 {} } : PContacts) with hNo := 1, lastHVal := {} }).2.2.vals.toList.map
        (fun f => f.v)).take 2 = [⟨0, 9⟩, ⟨12, 9⟩] := by decide +kernel

/-- test: the idle hypotheses hold of a new list object of any capacity -/
example (k : Nat) : CtClean ({ vals := Array.replicate k {} } : PContacts).wrap ∧
    ({ vals := Array.replicate k {} } : PContacts).wrap.cur = {} := by
  have hw : ({ vals := Array.replicate k {} } : PContacts).wrap = { vals := Array.replicate k {} } := by
    unfold PContacts.wrap; simp [PFromBody.parsed]
  rw [hw]
  have hrep : ∀ j, j < k → (Array.replicate k ({} : PFromBody))[j]! = {} := by
    intro j hj; simp [hj]
  refine ⟨⟨fun j _ hj => hrep j (by simpa using hj), fun _ => rfl⟩, ?_⟩
  unfold PContacts.cur
  split
  · rename_i hin; exact hrep _ (by simpa using hin)
  · rfl

end Sipsp
