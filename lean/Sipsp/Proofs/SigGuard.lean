/-
  Sipsp.Proofs.SigGuard — `GetMsgSig` = completeness guard + core.

  `GetMsgSig` answers "empty" without reading anything for a message object whose parse has not completed (`msg.Buf`
  is set only at the end; without the guard the function slices the unset `Buf` and panics: defect F24).  In the model `getMsgSig` is that guard in front of `getMsgSigCore`, about which
  all the signature theorems are stated.  This file gives the bridge both ways.
-/
import Sipsp.Model.Sig

namespace Sipsp

/-- on a completely parsed message (final state, or the "Content-Length required but missing" end state) the signature
    function is its core -/
theorem getMsgSig_complete (m : PSIPMsg) (b : Buf) (h : m.state = .fin ∨ m.state = .noCLen) :
    getMsgSig m b = getMsgSigCore m b := by
  unfold getMsgSig
  by_cases hr : m.request = true
  · have hc : (m.state == .fin || m.state == .noCLen) = true := by
      rcases h with h | h <;> rw [h] <;> decide
    simp only [hr, Bool.not_true, Bool.false_eq_true, if_false, hc]
  · have hr' : m.request = false := by simpa using hr
    unfold getMsgSigCore
    simp only [hr', Bool.not_false, if_true]

/-- before completion (any other state: new, suspended in the first line / header block / body, failed) there is no
    signature, nothing is read, nothing can panic -/
theorem getMsgSig_incomplete (m : PSIPMsg) (b : Buf) (h1 : m.state ≠ .fin) (h2 : m.state ≠ .noCLen) :
    getMsgSig m b = ({}, .empty, false) := by
  unfold getMsgSig
  by_cases hr : m.request = true
  · have hc : (m.state == .fin || m.state == .noCLen) = false := by
      cases hs : m.state <;> simp_all
    simp only [hr, Bool.not_true, Bool.false_eq_true, if_false, hc, Bool.not_false, if_true]
  · have hr' : m.request = false := by simpa using hr
    simp only [hr', Bool.not_false, if_true]

theorem getMsgSig_reply_empty (m : PSIPMsg) (b : Buf) (h : m.request = false) : getMsgSig m b = ({}, .empty, false) := by
  unfold getMsgSig
  simp only [h, Bool.not_false, if_true]

/-- **`GetMsgSig` can panic only through its core on a completed message**, hence in no other state -/
theorem getMsgSig_panics_only_via_core (m : PSIPMsg) (b : Buf) (h : (getMsgSig m b).2.2 = true) :
    (m.state = .fin ∨ m.state = .noCLen) ∧ (getMsgSigCore m b).2.2 = true := by
  by_cases h1 : m.state = .fin
  · exact ⟨Or.inl h1, by rw [← getMsgSig_complete m b (Or.inl h1)]; exact h⟩
  · by_cases h2 : m.state = .noCLen
    · exact ⟨Or.inr h2, by rw [← getMsgSig_complete m b (Or.inr h2)]; exact h⟩
    · rw [getMsgSig_incomplete m b h1 h2] at h
      cases h

/-- tests: a new object, and a message suspended inside its header block -/
example : getMsgSig ({} : PSIPMsg) #[] = ({}, .empty, false) := by decide +kernel

example :
    let b := "INVITE sip:a@b SIP/2.0\r\nCall-ID: x@y\r\nFrom: <sip:a@b>;ta".toUTF8.data
    let m := (parseSIPMsg b 0 (({} : PSIPMsg).init 0 none none) 0).2.2
    (parseSIPMsg b 0 (({} : PSIPMsg).init 0 none none) 0).2.1 = .moreBytes ∧ getMsgSig m b = ({}, .empty, false) := by
  decide +kernel

end Sipsp
