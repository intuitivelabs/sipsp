/-
  Sipsp.Proofs.SigGuardSafe — GetMsgSig in EVERY state of the message object (C04 for the signature function; C19 bridge).

  `GetMsgSig` (`getMsgSig`) is a completeness guard in front of its body (`getMsgSigCore`, about which the signature
  theorems are stated): it reads the object only in the final state `fin` or in the end state `noCLen`. All statements
  are about the model; no size bound other than the documented 65,535-byte limit where the re-used safety theorems
  need it.

  (1) verdict / state relation (`SgVS`, `sg_verdict_state`) for EVERY ParseSIPMsg call — any object (new, suspended,
      finished, failed), any buffer, offset, flags; no hypothesis: state `fin` ⇔ verdict OK; `noCLen` ⇔ NoCLen;
      `fline` / `headers` / `body` ⇔ MoreBytes; `err` ⇔ any other verdict (every error verdict, "truncated" under the
      no-more-data flag, "bug" for a call on an object already in an end state); no call leaves the state of a new
      object. The first-line parser and the header parser never return NoCLen: it is ParseSIPMsg's own verdict.
  (2) in both end states the object is complete (`SgDoneAt`): `Buf` is the buffer up to the returned offset, Call-ID,
      From tag and every stored header value lie before it, no unfilled header slot has a type. So the core does not
      panic after a legitimate call that answered NoCLen either.
  (3) [C04] **GetMsgSig never panics, whatever state the parse is in** — for EVERY verdict (OK, MoreBytes, NoCLen, any
      error) of a legitimate call: one call on an object with any history (`ScReach`), also against any extension of
      the buffer; the first call after Init or after any history and Reset (no legitimacy hypothesis left); every
      chunk schedule from Init, whatever verdict the chain of resumed calls ends with. After every verdict other than
      OK and NoCLen GetMsgSig answers "empty" — empty signature, verdict `empty`, no panic — on ANY buffer, with no
      hypothesis at all.
  (4) [C19] for completed messages the guard is transparent: after OK (and after NoCLen) `getMsgSig m' x =
      getMsgSigCore m' x` for every buffer `x`, for one call and for every chunk schedule. So every theorem about
      `getMsgSigCore` of a successfully parsed message is a theorem about `GetMsgSig`. (3) and (4) are the cases of ONE
      statement, `sg_getMsgSig_by_verdict`: GetMsgSig after any chain of resumed calls, by the verdict the chain ended
      with.

  NOT proved here:
  * the legitimacy hypotheses (`msgOK2`, `MsgSafe`) of the one-call theorems are assumptions, as in
    `sc_getMsgSig_safe_history`: they hold for the first call after Init / Reset and for every resumed call of a
    schedule (discharged inside the schedule theorems); a call that is not legitimate (e.g. resumed on an unrelated
    buffer) is outside the statement, as it is outside C04;
  * caller arrays handed to Init are assumed cleared (`Array.replicate k {}`), as in C01 / C04 / C13;
  * nothing is claimed about the CORE on a suspended or failed object: it does panic there (tests below: the message cut
    after 80 bytes, the failed parse) — this is the defect F24; panic-freedom of `getMsgSig` in those states comes from
    the guard alone;
  * hand-made objects (state `fin` set without a parse) are outside (3);
  * that GetMsgSig is a pure function of the object and the buffer (no shared state, concurrency) is by construction of
    the model, not a theorem.
-/
import Sipsp.Proofs.SigCompose
import Sipsp.Proofs.SigGuard
import Sipsp.Proofs.SafeMsg
import Sipsp.Proofs.VerdictsMsg
namespace Sipsp

/-- **ParseHeaders never returns "Content-Length missing"** -/
theorem parseHeaders_ne_noCLen (b : Buf) (o : Nat) (hl : HdrLst) (hb : Option PHdrVals) :
    (parseHeaders b o hl hb).2.1 ≠ .noCLen :=
  ne_of_verdicts (parseHeaders_verdicts b o hl hb) (by decide)

/-- **ParseFLine never returns "Content-Length missing"** -/
theorem parseFLine_ne_noCLen (b : Buf) (o : Nat) (pl : PFLine) : (parseFLine b o pl).2.1 ≠ .noCLen :=
  ne_of_verdicts (parseFLine_verdicts b o pl) (by decide)

/-! ## (1) verdict and state of ParseSIPMsg -/

/-- the state a ParseSIPMsg call leaves the object in, by verdict -/
def SgVS (e : Err) (s : MsgState) : Prop :=
  match e with
  | .ok => s = .fin
  | .noCLen => s = .noCLen
  | .moreBytes => s = .fline ∨ s = .headers ∨ s = .body
  | _ => s = .err

theorem SgVS.facts {e : Err} {s : MsgState} (h : SgVS e s) :
    (s = .fin ↔ e = .ok) ∧ (s = .noCLen ↔ e = .noCLen) ∧
    (s = .err ↔ (e ≠ .ok ∧ e ≠ .noCLen ∧ e ≠ .moreBytes)) ∧
    ((s = .fline ∨ s = .headers ∨ s = .body) ↔ e = .moreBytes) ∧ s ≠ .init := by
  cases e <;> simp only [SgVS] at h
  case moreBytes => rcases h with h | h | h <;> subst h <;> decide
  all_goals (subst h; decide)

theorem sg_msgErr_vs (m : PSIPMsg) (o : Nat) (e : Err) (flags : Nat) (hne : e ≠ .ok) (hnc : e ≠ .noCLen)
    (hs : m.state = .fline ∨ m.state = .headers ∨ m.state = .body) :
    SgVS (msgErr m o e flags).2.1 (msgErr m o e flags).2.2.state := by
  unfold msgErr
  split
  · rename_i h1
    have : e ≠ .moreBytes := by simpa using h1
    cases e <;> first | exact absurd rfl hne | exact absurd rfl hnc | exact absurd rfl this | exact rfl
  · rename_i h1
    have he : e = .moreBytes := by simpa using h1
    split
    · exact rfl
    · subst he; exact hs

theorem sg_msgBody_vs (b : Buf) (o : Nat) (m : PSIPMsg) (flags : Nat) (hst : m.state = .body) :
    SgVS (msgBody b o m flags).2.1 (msgBody b o m flags).2.2.state :=
  msgBody_cases (P := fun r => SgVS r.2.1 r.2.2.state) b o m flags rfl (Or.inr (Or.inr hst)) fun _ _ _ _ => rfl

/-- **verdict / state relation of ParseSIPMsg** — EVERY call: any object (new, suspended, finished, failed), buffer,
    offset, flags -/
theorem sg_verdict_state (b : Buf) (o : Nat) (m : PSIPMsg) (flags : Nat) :
    SgVS (parseSIPMsg b o m flags).2.1 (parseSIPMsg b o m flags).2.2.state := by
  refine parseSIPMsg_cases (P := fun r => SgVS r.2.1 r.2.2.state) b o m flags (fun _ => rfl) ?_ ?_
    (fun h => sg_msgBody_vs b _ _ flags h.state)
  · intro o1 m1 o2 e fl h hp he
    have hA := parseFLine_ne_noCLen b o1 m1.fl
    rw [hp] at hA
    exact sg_msgErr_vs _ _ _ _ he hA (Or.inl h.state)
  · intro o1 m1 o2 e hl hb h hp he
    have hA := parseHeaders_ne_noCLen b o1 m1.hl (some m1.pv)
    rw [hp] at hA
    exact sg_msgErr_vs _ _ _ _ he hA (Or.inr (Or.inl h.state))

theorem sg_verdict_state' {b : Buf} {o : Nat} {m : PSIPMsg} {flags : Nat} {o' : Nat} {e : Err} {m' : PSIPMsg}
    (hr : parseSIPMsg b o m flags = (o', e, m')) : SgVS e m'.state := by
  have := sg_verdict_state b o m flags
  rw [hr] at this
  exact this

/-- the final state `fin` is reached exactly with the verdict OK -/
theorem sg_fin_iff_ok {b : Buf} {o : Nat} {m : PSIPMsg} {flags : Nat} {o' : Nat} {e : Err} {m' : PSIPMsg}
    (hr : parseSIPMsg b o m flags = (o', e, m')) : m'.state = .fin ↔ e = .ok := (sg_verdict_state' hr).facts.1

/-- the end state `noCLen` is reached exactly with the verdict "Content-Length required but missing" -/
theorem sg_noCLen_iff {b : Buf} {o : Nat} {m : PSIPMsg} {flags : Nat} {o' : Nat} {e : Err} {m' : PSIPMsg}
    (hr : parseSIPMsg b o m flags = (o', e, m')) : m'.state = .noCLen ↔ e = .noCLen := (sg_verdict_state' hr).facts.2.1

/-- the error state is reached exactly with the error verdicts (everything but OK, NoCLen, MoreBytes) -/
theorem sg_err_iff {b : Buf} {o : Nat} {m : PSIPMsg} {flags : Nat} {o' : Nat} {e : Err} {m' : PSIPMsg}
    (hr : parseSIPMsg b o m flags = (o', e, m')) :
    m'.state = .err ↔ (e ≠ .ok ∧ e ≠ .noCLen ∧ e ≠ .moreBytes) := (sg_verdict_state' hr).facts.2.2.1

/-- MoreBytes is the verdict of exactly the calls that leave the object suspended (first line / header block / body) -/
theorem sg_suspended_iff {b : Buf} {o : Nat} {m : PSIPMsg} {flags : Nat} {o' : Nat} {e : Err} {m' : PSIPMsg}
    (hr : parseSIPMsg b o m flags = (o', e, m')) :
    (m'.state = .fline ∨ m'.state = .headers ∨ m'.state = .body) ↔ e = .moreBytes :=
  (sg_verdict_state' hr).facts.2.2.2.1

/-- … and no call leaves the object in the state of a new object -/
theorem sg_never_init {b : Buf} {o : Nat} {m : PSIPMsg} {flags : Nat} {o' : Nat} {e : Err} {m' : PSIPMsg}
    (hr : parseSIPMsg b o m flags = (o', e, m')) : m'.state ≠ .init := (sg_verdict_state' hr).facts.2.2.2.2

/-- a call on an object in an end state (final, NoCLen, error) answers "bug" and leaves the error state -/
theorem sg_terminal_call (b : Buf) (o : Nat) (m : PSIPMsg) (flags : Nat)
    (hst : m.state = .fin ∨ m.state = .noCLen ∨ m.state = .err) :
    parseSIPMsg b o m flags = (o, .bug, { m with state := .err }) := by
  unfold parseSIPMsg
  rcases hst with h | h | h <;> rw [h] <;> rfl

/-! ## (2) the core is safe in both end states -/

/-- a completed object: `Buf` = the buffer up to the returned offset, every reported field lies before it, the header
    slots not filled have no type -/
structure SgDoneAt (b : Buf) (r : Nat × Err × PSIPMsg) : Prop where
  le : r.1 ≤ b.size
  bufLen : r.2.2.bufLen = r.1
  inn : MsgRelIn b r.1 r.2.2
  done : ScDone r.2.2.hl

/-- the core of GetMsgSig does not panic on a completed object -/
theorem sg_core_safe_of {b : Buf} {r : Nat × Err × PSIPMsg} (hfit : b.size ≤ 65535) (h : SgDoneAt b r) :
    (getMsgSigCore r.2.2 b).2.2 = false :=
  getMsgSig_safe_done hfit h.le h.bufLen h.inn fun k h1 h2 hv => by rw [h.done k h1 h2] at hv; cases hv

theorem sg_msgErr_state (m : PSIPMsg) (o : Nat) (e : Err) (flags : Nat) (hst : m.state ≠ .noCLen) :
    (msgErr m o e flags).2.2.state ≠ .noCLen := by
  unfold msgErr
  repeat' first
    | with_reducible apply ite_ind (P := fun r : Nat × Err × PSIPMsg => r.2.2.state ≠ .noCLen)
    | intro _
  all_goals rename_i h
  all_goals first | exact hst h | cases h

theorem sg_msgBody_done (b : Buf) (o : Nat) (m : PSIPMsg) (flags : Nat) (ho : o ≤ b.size) (hI : MsgRelIn b o m)
    (hD : ScDone m.hl) (hst : m.state = .body) (hs : (msgBody b o m flags).2.2.state = .noCLen) :
    SgDoneAt b (msgBody b o m flags) := by
  revert hs
  refine msgBody_cases (P := fun r => r.2.2.state = .noCLen → SgDoneAt b r) b o m flags
    (fun _ => ⟨ho, rfl, ⟨hI.fl, hI.hl, hI.pv⟩, hD⟩) (fun hs => absurd (hst.symm.trans hs) (by decide)) (fun _ _ _ _ => nofun)

/-- **the object a legitimate call leaves in the `noCLen` end state is complete**: `Buf` is the buffer up to the
    returned offset, every field the signature reads lies before it, no unfilled header slot has a type -/
theorem sg_parseSIPMsg_done_noCLen (b : Buf) (o : Nat) (m : PSIPMsg) (flags : Nat) (hfit : b.size ≤ 65535)
    (hI : ScMsg m) (hok : msgOK2 b o m) (H : MsgSafe b o m)
    (hs : (parseSIPMsg b o m flags).2.2.state = .noCLen) : SgDoneAt b (parseSIPMsg b o m flags) := by
  revert hs
  -- only the body phase ends in `noCLen`; there the object is legitimate (`MsgAt.legit`) and its list done (`MsgAt.sc`)
  refine parseSIPMsg_cases (P := fun r => r.2.2.state = .noCLen → SgDoneAt b r) b o m flags (fun _ => nofun) ?_ ?_ ?_
  · intro o1 m1 o2 e fl h _ _ hs
    exact absurd hs (sg_msgErr_state _ o2 e flags (by rw [show _ = m1.state from rfl, h.state]; decide))
  · intro o1 m1 o2 e hl hb h _ _ hs
    exact absurd hs (sg_msgErr_state _ o2 e flags (by rw [show _ = m1.state from rfl, h.state]; decide))
  · intro o1 m1 h hs
    obtain ⟨_, _, H1⟩ := h.legit hfit hok H
    exact sg_msgBody_done b o1 m1 flags H1.ho H1.inn (h.sc hI) h.state hs

/-- **(2) the core is safe in the `noCLen` end state**: after a legitimate call that answered "Content-Length required
    but missing" the body of GetMsgSig behind its guard does not panic -/
theorem sg_core_safe_noCLen (b : Buf) (o : Nat) (m : PSIPMsg) (flags : Nat) (hfit : b.size ≤ 65535)
    (hI : ScMsg m) (hok : msgOK2 b o m) (H : MsgSafe b o m) {o' : Nat} {m' : PSIPMsg}
    (hr : parseSIPMsg b o m flags = (o', .noCLen, m')) : (getMsgSigCore m' b).2.2 = false := by
  have hs : (parseSIPMsg b o m flags).2.2.state = .noCLen := by
    rw [hr]; exact (sg_noCLen_iff hr).2 rfl
  have := sg_core_safe_of hfit (sg_parseSIPMsg_done_noCLen b o m flags hfit hI hok H hs)
  rw [hr] at this
  exact this

/-- the same for the final state: what `parseSIPMsg_layout`, `parseSIPMsg_safe` and `sc_parseSIPMsg` give after OK -/
theorem sg_parseSIPMsg_done_ok (b : Buf) (o : Nat) (m : PSIPMsg) (flags : Nat) (hfit : b.size ≤ 65535)
    (hI : ScMsg m) (hok : msgOK2 b o m) (H : MsgSafe b o m)
    (hs : (parseSIPMsg b o m flags).2.1 = .ok) : SgDoneAt b (parseSIPMsg b o m flags) := by
  have hD := (sc_parseSIPMsg b o m flags hI).2 hs
  have hT := parseSIPMsg_safe b o m flags hfit hok H
  rcases hp : parseSIPMsg b o m flags with ⟨o', e, m'⟩
  rw [hp] at hs hD hT
  simp only at hs
  subst hs
  obtain ⟨h, _, _, hle, hL⟩ := parseSIPMsg_layout b o m flags hfit hok H hp
  exact ⟨hle, hL.bufLen, (hT.inn rfl).1, hD⟩

/-- **a legitimate call that leaves the object in one of the two end states GetMsgSig reads leaves it complete** -/
theorem sg_complete_done (b : Buf) (o : Nat) (m : PSIPMsg) (flags : Nat) (hfit : b.size ≤ 65535)
    (hI : ScMsg m) (hok : msgOK2 b o m) (H : MsgSafe b o m)
    (hc : (parseSIPMsg b o m flags).2.2.state = .fin ∨ (parseSIPMsg b o m flags).2.2.state = .noCLen) :
    SgDoneAt b (parseSIPMsg b o m flags) := by
  rcases hc with hc | hc
  · exact sg_parseSIPMsg_done_ok b o m flags hfit hI hok H ((sg_verdict_state b o m flags).facts.1.1 hc)
  · exact sg_parseSIPMsg_done_noCLen b o m flags hfit hI hok H hc

/-- the guard does not look at the buffer; behind it only `msg.Buf` = the first `bufLen` bytes are read -/
theorem sg_getMsgSig_ext (m : PSIPMsg) (b s : Buf)
    (h : m.state = .fin ∨ m.state = .noCLen → m.bufLen ≤ b.size) : getMsgSig m (b ++ s) = getMsgSig m b := by
  by_cases h1 : m.state = .fin
  · rw [getMsgSig_complete m _ (Or.inl h1), getMsgSig_complete m _ (Or.inl h1), sc_getMsgSig_ext m b s (h (Or.inl h1))]
  · by_cases h2 : m.state = .noCLen
    · rw [getMsgSig_complete m _ (Or.inr h2), getMsgSig_complete m _ (Or.inr h2),
        sc_getMsgSig_ext m b s (h (Or.inr h2))]
    · rw [getMsgSig_incomplete m _ h1 h2, getMsgSig_incomplete m _ h1 h2]

/-! ## (3) GetMsgSig never panics, whatever the verdict of the parse -/

/-- what every legitimate call guarantees about GetMsgSig on its result: no panic against the buffer of the call or
    any extension of it, and the same result on every extension -/
def SgSigFine (b : Buf) (m' : PSIPMsg) : Prop :=
  (getMsgSig m' b).2.2 = false ∧ ∀ s, getMsgSig m' (b ++ s) = getMsgSig m' b

theorem SgSigFine.ext {b : Buf} {m' : PSIPMsg} (h : SgSigFine b m') (s : Buf) : (getMsgSig m' (b ++ s)).2.2 = false := by
  rw [h.2 s]; exact h.1

/-- one call, stated on the invariant `ScMsg` (any verdict) -/
theorem sg_sig_fine (b : Buf) (o : Nat) (m : PSIPMsg) (flags : Nat) (hfit : b.size ≤ 65535)
    (hI : ScMsg m) (hok : msgOK2 b o m) (H : MsgSafe b o m) : SgSigFine b (parseSIPMsg b o m flags).2.2 := by
  by_cases hc : (parseSIPMsg b o m flags).2.2.state = .fin ∨ (parseSIPMsg b o m flags).2.2.state = .noCLen
  · have hD := sg_complete_done b o m flags hfit hI hok H hc
    refine ⟨?_, fun s => sg_getMsgSig_ext _ b s (fun _ => by rw [hD.bufLen]; exact hD.le)⟩
    rw [getMsgSig_complete _ b hc]
    exact sg_core_safe_of hfit hD
  · have h1 : (parseSIPMsg b o m flags).2.2.state ≠ .fin := fun h => hc (Or.inl h)
    have h2 : (parseSIPMsg b o m flags).2.2.state ≠ .noCLen := fun h => hc (Or.inr h)
    refine ⟨?_, fun s => sg_getMsgSig_ext _ b s (fun h => absurd h hc)⟩
    rw [getMsgSig_incomplete _ b h1 h2]

/-- **GetMsgSig never panics, whatever state the parse is in** — one legitimate call on an object with ANY history
    (`ScReach`), ANY verdict: OK, MoreBytes, NoCLen, any error -/
theorem sig_never_panics_any_verdict (b : Buf) (o : Nat) (m : PSIPMsg) (flags : Nat) (hfit : b.size ≤ 65535)
    (hR : ScReach m) (hok : msgOK2 b o m) (H : MsgSafe b o m) {o' : Nat} {e : Err} {m' : PSIPMsg}
    (hr : parseSIPMsg b o m flags = (o', e, m')) : (getMsgSig m' b).2.2 = false := by
  have := (sg_sig_fine b o m flags hfit hR.inv.1 hok H).1
  rw [hr] at this
  exact this

/-- … also when the buffer has grown since (and the result is the same) -/
theorem sig_never_panics_any_verdict_ext (b : Buf) (o : Nat) (m : PSIPMsg) (flags : Nat) (hfit : b.size ≤ 65535)
    (hR : ScReach m) (hok : msgOK2 b o m) (H : MsgSafe b o m) {o' : Nat} {e : Err} {m' : PSIPMsg}
    (hr : parseSIPMsg b o m flags = (o', e, m')) (s : Buf) :
    (getMsgSig m' (b ++ s)).2.2 = false ∧ getMsgSig m' (b ++ s) = getMsgSig m' b := by
  have := sg_sig_fine b o m flags hfit hR.inv.1 hok H
  rw [hr] at this
  exact ⟨this.ext s, this.2 s⟩

/-- **the first call after Init** (any previous contents of the object, cleared caller arrays of any capacity or
    none): no legitimacy hypothesis left -/
theorem sig_never_panics_any_verdict_init (b : Buf) (o : Nat) (ho : o ≤ b.size) (m0 : PSIPMsg) (len kh kc : Nat)
    (hdrs cts : Option Unit) (flags : Nat) (hfit : b.size ≤ 65535) {o' : Nat} {e : Err} {m' : PSIPMsg}
    (hr : parseSIPMsg b o (m0.init len (hdrs.map fun _ => Array.replicate kh {})
      (cts.map fun _ => Array.replicate kc {})) flags = (o', e, m')) : (getMsgSig m' b).2.2 = false :=
  sig_never_panics_any_verdict b o _ flags hfit (ScReach.init m0 len kh kc hdrs cts)
    (msgOK2_init b o ho m0 len kh kc hdrs cts) (MsgSafe_init b o ho m0 len kh kc hdrs cts) hr

/-- **any history, then Reset, then one call** with any verdict -/
theorem sig_never_panics_any_verdict_after_reset {m : PSIPMsg} (hR : ScReach m) (b : Buf) (o : Nat) (ho : o ≤ b.size)
    (flags : Nat) (hfit : b.size ≤ 65535) {o' : Nat} {e : Err} {m' : PSIPMsg}
    (hr : parseSIPMsg b o m.reset flags = (o', e, m')) : (getMsgSig m' b).2.2 = false :=
  sig_never_panics_any_verdict b o m.reset flags hfit (ScReach.reset hR) (sc_reset_legit hR b o ho).1
    (sc_reset_legit hR b o ho).2 hr

/-- **every chunk schedule from any legitimate object, whatever verdict the chain of resumed calls ends with**: there is
    a buffer of the schedule (the one of the last call made) against which — and against every extension of which, in
    particular every later buffer of the schedule — GetMsgSig does not panic, with the same result; and in the two end
    states GetMsgSig reads, `msg.Buf` lies inside that buffer -/
theorem sig_fine_schedule_from (flags : Nat) (o : Nat) (m : PSIPMsg) (l : List Buf)
    (hg : Growing l) (hfit : ∀ x ∈ l, x.size ≤ 65535) (hne : l ≠ []) (hI : ScMsg m)
    (h0 : ∀ b ∈ l.head?, msgOK2 b o m ∧ MsgSafe b o m) :
    ∃ b ∈ l, SgSigFine b (resumeRun (C01.msgP flags) o m l).2.2 ∧
      ((resumeRun (C01.msgP flags) o m l).2.2.state = .fin ∨ (resumeRun (C01.msgP flags) o m l).2.2.state = .noCLen →
        (resumeRun (C01.msgP flags) o m l).2.2.bufLen ≤ b.size) := by
  refine resumeRun_post (C01.msgP flags) (fun b o m => msgOK2 b o m ∧ MsgSafe b o m ∧ ScMsg m)
    (fun b _ r => SgSigFine b r.2.2 ∧ (r.2.2.state = .fin ∨ r.2.2.state = .noCLen → r.2.2.bufLen ≤ b.size))
    (fun b => b.size ≤ 65535) ?_ (fun b o o' r _ q => q)
    o m l hg hfit hne (fun b hb => ⟨(h0 b hb).1, (h0 b hb).2, hI⟩)
  intro b o m hfit hInv
  obtain ⟨hok, hS, hI⟩ := hInv
  have hsc := (sc_parseSIPMsg b o m flags hI).1
  refine ⟨⟨sg_sig_fine b o m flags hfit hI hok hS, fun hc => ?_⟩, fun hmb => ?_⟩
  · have hD := sg_complete_done b o m flags hfit hI hok hS hc
    show (parseSIPMsg b o m flags).2.2.bufLen ≤ b.size
    rw [hD.bufLen]; exact hD.le
  · have hL := parseSIPMsg_more_legit b o m flags hfit hok hS hmb
    exact ⟨hL.1, fun s => ⟨(hL.2 s).1, (hL.2 s).2, hsc⟩⟩

/-- **every chunk schedule from Init, whatever verdict the chain ends with** (OK, MoreBytes — the message is still
    incomplete when the data at hand ends —, NoCLen, any error): GetMsgSig on the object does not panic — against
    the buffer of the last call made, against every extension of it, in particular against the last (longest) buffer
    of the schedule — and gives the same result on all of them -/
theorem sig_never_panics_any_verdict_schedule (flags : Nat) (o : Nat) (m0 : PSIPMsg) (len kh kc : Nat)
    (hdrs cts : Option Unit) (l : List Buf) (hg : Growing l) (hfit : ∀ x ∈ l, x.size ≤ 65535) (hne : l ≠ [])
    (ho : ∀ b ∈ l, o ≤ b.size) {o' : Nat} {e : Err} {m' : PSIPMsg}
    (hr : resumeRun (C01.msgP flags) o
      (m0.init len (hdrs.map fun _ => Array.replicate kh {}) (cts.map fun _ => Array.replicate kc {})) l = (o', e, m')) :
    (∃ b ∈ l, (getMsgSig m' b).2.2 = false ∧ ∀ s, (getMsgSig m' (b ++ s)).2.2 = false ∧
        getMsgSig m' (b ++ s) = getMsgSig m' b) ∧
      (getMsgSig m' (l.getLast hne)).2.2 = false := by
  have h0 : ∀ b ∈ l.head?, o ≤ b.size := by
    intro b hb
    cases l with
    | nil => cases hb
    | cons x xs => simp at hb; subst hb; exact ho _ List.mem_cons_self
  obtain ⟨b, hb, hF, _⟩ := sig_fine_schedule_from flags o _ l hg hfit hne
    (ScMsg_init m0 len kh kc hdrs cts)
    (fun b hb => ⟨msgOK2_init b o (h0 b hb) m0 len kh kc hdrs cts, MsgSafe_init b o (h0 b hb) m0 len kh kc hdrs cts⟩)
  rw [hr] at hF
  refine ⟨⟨b, hb, hF.1, fun s => ⟨hF.ext s, hF.2 s⟩⟩, ?_⟩
  obtain ⟨s, hs⟩ := mlf_growing_last hg (List.getLast?_eq_some_getLast hne) b hb
  rw [hs]
  exact hF.ext s

/-- **any history, then Reset, then any chunk schedule, whatever verdict it ends with** -/
theorem sig_never_panics_any_verdict_after_reset_schedule {m : PSIPMsg} (hR : ScReach m) (flags : Nat) (o : Nat)
    (l : List Buf) (hg : Growing l) (hfit : ∀ x ∈ l, x.size ≤ 65535) (hne : l ≠ []) (ho : ∀ b ∈ l, o ≤ b.size)
    {o' : Nat} {e : Err} {m' : PSIPMsg} (hr : resumeRun (C01.msgP flags) o m.reset l = (o', e, m')) :
    (∃ b ∈ l, (getMsgSig m' b).2.2 = false ∧ ∀ s, (getMsgSig m' (b ++ s)).2.2 = false ∧
        getMsgSig m' (b ++ s) = getMsgSig m' b) ∧
      (getMsgSig m' (l.getLast hne)).2.2 = false := by
  rw [sc_reset_after_history hR] at hr
  exact sig_never_panics_any_verdict_schedule flags o _ _ _ _ _ _ l hg hfit hne ho hr

/-- the verdict / state relation for a whole chain of resumed calls (any object, any buffers) -/
theorem sg_resumeRun_vs (flags : Nat) (o : Nat) (m : PSIPMsg) (l : List Buf) (hne : l ≠ []) :
    SgVS (resumeRun (C01.msgP flags) o m l).2.1 (resumeRun (C01.msgP flags) o m l).2.2.state :=
  resumeRun_inv (C01.msgP flags) (fun _ _ => True) (fun r => SgVS r.2.1 r.2.2.state)
    (fun b o m _ => ⟨sg_verdict_state b o m flags, fun _ => trivial⟩) o m l (fun h => absurd h hne) trivial

/-- **GetMsgSig by the verdict of the parse** — any chain of resumed calls (a single call is the chain `[b]`), any
    object, any buffers, any buffer `x` handed to the signature function: after OK and after NoCLen it is its core,
    after every other verdict (MoreBytes, any error) it answers "empty" -/
theorem sg_getMsgSig_by_verdict {flags : Nat} {o : Nat} {m : PSIPMsg} {l : List Buf} {o' : Nat} {e : Err}
    {m' : PSIPMsg} (hne : l ≠ []) (hr : resumeRun (C01.msgP flags) o m l = (o', e, m')) (x : Buf) :
    getMsgSig m' x = if e = .ok ∨ e = .noCLen then getMsgSigCore m' x else ({}, .empty, false) := by
  have h := (sg_resumeRun_vs flags o m l hne).facts
  rw [hr] at h
  split
  · rename_i he; exact getMsgSig_complete m' x (he.imp h.1.2 h.2.1.2)
  · rename_i he
    exact getMsgSig_incomplete m' x (fun hh => he (Or.inl (h.1.1 hh))) (fun hh => he (Or.inr (h.2.1.1 hh)))

theorem sg_ne_nil_of_ne_more {flags : Nat} {o : Nat} {m : PSIPMsg} {l : List Buf} {o' : Nat} {e : Err} {m' : PSIPMsg}
    (hr : resumeRun (C01.msgP flags) o m l = (o', e, m')) (he : e ≠ .moreBytes) : l ≠ [] := by
  rintro rfl
  cases hr
  exact he rfl

/-- **"empty" unless the parse completed**: after a verdict other than OK and NoCLen — MoreBytes or any error — the
    signature function answers "empty" (empty signature, no panic), whatever buffer it is given. Any call, any object. -/
theorem sig_empty_unless_complete {b : Buf} {o : Nat} {m : PSIPMsg} {flags : Nat} {o' : Nat} {e : Err} {m' : PSIPMsg}
    (hr : parseSIPMsg b o m flags = (o', e, m')) (h1 : e ≠ .ok) (h2 : e ≠ .noCLen) (x : Buf) :
    getMsgSig m' x = ({}, .empty, false) :=
  (sg_getMsgSig_by_verdict (l := [b]) (List.cons_ne_nil _ _) hr x).trans (if_neg fun h => h.elim h1 h2)

/-- … the same for a chain of resumed calls over any schedule -/
theorem sig_empty_unless_complete_schedule {flags : Nat} {o : Nat} {m : PSIPMsg} {l : List Buf} {o' : Nat} {e : Err}
    {m' : PSIPMsg} (hne : l ≠ []) (hr : resumeRun (C01.msgP flags) o m l = (o', e, m')) (h1 : e ≠ .ok)
    (h2 : e ≠ .noCLen) (x : Buf) : getMsgSig m' x = ({}, .empty, false) :=
  (sg_getMsgSig_by_verdict hne hr x).trans (if_neg fun h => h.elim h1 h2)

/-- a new object (Init, Reset, the zero value) has no signature either -/
theorem sig_empty_new (m : PSIPMsg) (hst : m.state = .init) (x : Buf) : getMsgSig m x = ({}, .empty, false) :=
  getMsgSig_incomplete m x (by rw [hst]; decide) (by rw [hst]; decide)

/-! ## (4) for completed messages the guard is transparent: GetMsgSig is its core -/

/-- **after OK, GetMsgSig IS the function all the signature theorems are about** (any call, any object, any buffer
    handed to the signature function) -/
theorem sig_guard_transparent {b : Buf} {o : Nat} {m : PSIPMsg} {flags : Nat} {o' : Nat} {m' : PSIPMsg}
    (hr : parseSIPMsg b o m flags = (o', .ok, m')) (x : Buf) : getMsgSig m' x = getMsgSigCore m' x :=
  (sg_getMsgSig_by_verdict (l := [b]) (List.cons_ne_nil _ _) hr x).trans (if_pos (Or.inl rfl))

/-- … and after "Content-Length required but missing" -/
theorem sig_guard_transparent_noCLen {b : Buf} {o : Nat} {m : PSIPMsg} {flags : Nat} {o' : Nat} {m' : PSIPMsg}
    (hr : parseSIPMsg b o m flags = (o', .noCLen, m')) (x : Buf) : getMsgSig m' x = getMsgSigCore m' x :=
  (sg_getMsgSig_by_verdict (l := [b]) (List.cons_ne_nil _ _) hr x).trans (if_pos (Or.inr rfl))

/-- **every chunk schedule that ends with OK** (any start object, any buffers): GetMsgSig is its core on the result -/
theorem sig_guard_transparent_schedule {flags : Nat} {o : Nat} {m : PSIPMsg} {l : List Buf} {o' : Nat} {m' : PSIPMsg}
    (hr : resumeRun (C01.msgP flags) o m l = (o', .ok, m')) (x : Buf) : getMsgSig m' x = getMsgSigCore m' x :=
  (sg_getMsgSig_by_verdict (sg_ne_nil_of_ne_more hr (by decide)) hr x).trans (if_pos (Or.inl rfl))

/-- … and every schedule that ends with NoCLen -/
theorem sig_guard_transparent_noCLen_schedule {flags : Nat} {o : Nat} {m : PSIPMsg} {l : List Buf} {o' : Nat}
    {m' : PSIPMsg} (hr : resumeRun (C01.msgP flags) o m l = (o', .noCLen, m')) (x : Buf) :
    getMsgSig m' x = getMsgSigCore m' x :=
  (sg_getMsgSig_by_verdict (sg_ne_nil_of_ne_more hr (by decide)) hr x).trans (if_pos (Or.inr rfl))

/-- hence after OK GetMsgSig panics exactly when its core does: panic-freedom of the core (`sc_getMsgSig_safe`) IS
    panic-freedom of GetMsgSig there (after NoCLen the same follows from `sig_guard_transparent_noCLen`) -/
theorem sig_panics_iff_core_after_ok {b : Buf} {o : Nat} {m : PSIPMsg} {flags : Nat} {o' : Nat} {m' : PSIPMsg}
    (hr : parseSIPMsg b o m flags = (o', .ok, m')) (x : Buf) :
    (getMsgSig m' x).2.2 = (getMsgSigCore m' x).2.2 := by rw [sig_guard_transparent hr x]

/-! ## tests / non-vacuity (closed computations by `decide +kernel`; these are examples, not the general claims) -/

/-- test message: a request WITHOUT Content-Length (Via with branch, From with tag, Call-ID with an IPv4 address) -/
def sgTestNoCL : Buf := "INVITE sip:a@b SIP/2.0\r\nVia: SIP/2.0/UDP h;branch=z9hG4bK-a.b\r\nFrom: <sip:a@b>;tag=a-1\r\nCall-ID: x@1.2.3.4\r\n\r\n".toUTF8.data

/-- the object after Init without caller arrays (written as the theorems write it) -/
def sgTestInit : PSIPMsg :=
  ({} : PSIPMsg).init 0 ((none : Option Unit).map fun _ => Array.replicate 0 {})
    ((none : Option Unit).map fun _ => Array.replicate 0 {})

theorem sgTest_fit : sgTestNoCL.size ≤ 65535 := by decide +kernel

def sgTestBad : Buf := "INVITE sip:a SIP/2.0\r\nCall-ID: 1\r\nFrom: <sip:a>;tag=1\r\nVia x\r\n\r\n".toUTF8.data

/-- the verdicts, states and signatures of the tests (1)–(3) below, evaluated together: the parses of the test
    messages are computed once -/
theorem sgTest_run : ((parseSIPMsg sgTestNoCL 0 sgTestInit 3).2.1 = .noCLen ∧
    (parseSIPMsg sgTestNoCL 0 sgTestInit 3).2.2.state = .noCLen ∧
    (parseSIPMsg sgTestNoCL 0 sgTestInit 0).2.1 = .ok ∧ (parseSIPMsg sgTestNoCL 0 sgTestInit 0).2.2.state = .fin ∧
    (parseSIPMsg (sgTestNoCL.extract 0 80) 0 sgTestInit 3).2.1 = .moreBytes ∧
    (parseSIPMsg (sgTestNoCL.extract 0 80) 0 sgTestInit 3).2.2.state = .headers) ∧
    ((parseSIPMsg sgTestBad 0 sgTestInit 0).2.1 = .badChar ∧ (parseSIPMsg sgTestBad 0 sgTestInit 0).2.2.state = .err ∧
    (parseSIPMsg sgTestNoCL 0 (parseSIPMsg sgTestNoCL 0 sgTestInit 0).2.2 0).2.1 = .bug ∧
    (parseSIPMsg sgTestNoCL 0 (parseSIPMsg sgTestNoCL 0 sgTestInit 0).2.2 0).2.2.state = .err) ∧
    (getMsgSig (parseSIPMsg sgTestNoCL 0 sgTestInit 3).2.2 sgTestNoCL =
    ({ method := 2, cidSLen := 1, cidSig := 10, fromSig := 64, viaBSig := 80, hdrSig := [6, 3, 0] }, .ok, false)) ∧
    ((getMsgSigCore (parseSIPMsg (sgTestNoCL.extract 0 80) 0 sgTestInit 3).2.2 (sgTestNoCL.extract 0 80)).2.2 = true ∧
    getMsgSig (parseSIPMsg (sgTestNoCL.extract 0 80) 0 sgTestInit 3).2.2 (sgTestNoCL.extract 0 80) = ({}, .empty, false) ∧
    (getMsgSigCore (parseSIPMsg sgTestBad 0 sgTestInit 0).2.2 sgTestBad).2.2 = true ∧
    getMsgSig (parseSIPMsg sgTestBad 0 sgTestInit 0).2.2 sgTestBad = ({}, .empty, false)) := by decide +kernel

/-- test (1): with "skip body" + "Content-Length required" (flags 3) the verdict is NoCLen and the state `noCLen`;
    with flags 0 the same bytes are OK / `fin`; cut after 80 bytes: MoreBytes / `headers`; a broken header line:
    an error verdict / `err`; a further call on the finished object: "bug" / `err` -/
example : (parseSIPMsg sgTestNoCL 0 sgTestInit 3).2.1 = .noCLen ∧
    (parseSIPMsg sgTestNoCL 0 sgTestInit 3).2.2.state = .noCLen ∧
    (parseSIPMsg sgTestNoCL 0 sgTestInit 0).2.1 = .ok ∧ (parseSIPMsg sgTestNoCL 0 sgTestInit 0).2.2.state = .fin ∧
    (parseSIPMsg (sgTestNoCL.extract 0 80) 0 sgTestInit 3).2.1 = .moreBytes ∧
    (parseSIPMsg (sgTestNoCL.extract 0 80) 0 sgTestInit 3).2.2.state = .headers := sgTest_run.1

example : (parseSIPMsg sgTestBad 0 sgTestInit 0).2.1 = .badChar ∧ (parseSIPMsg sgTestBad 0 sgTestInit 0).2.2.state = .err ∧
    (parseSIPMsg sgTestNoCL 0 (parseSIPMsg sgTestNoCL 0 sgTestInit 0).2.2 0).2.1 = .bug ∧
    (parseSIPMsg sgTestNoCL 0 (parseSIPMsg sgTestNoCL 0 sgTestInit 0).2.2 0).2.2.state = .err := sgTest_run.2.1

/-- test (2)/(3): the hypotheses of `sig_never_panics_any_verdict_init` hold for the NoCLen call … -/
example : (getMsgSig (parseSIPMsg sgTestNoCL 0 sgTestInit 3).2.2 sgTestNoCL).2.2 = false := by
  unfold sgTestInit
  exact sig_never_panics_any_verdict_init sgTestNoCL 0 (Nat.zero_le _) {} 0 0 0 none none 3 sgTest_fit (mlf_triple_eta _ rfl rfl)

/-- … where GetMsgSig really computes a signature (the header section is complete in the `noCLen` state) -/
example : getMsgSig (parseSIPMsg sgTestNoCL 0 sgTestInit 3).2.2 sgTestNoCL =
    ({ method := 2, cidSLen := 1, cidSig := 10, fromSig := 64, viaBSig := 80, hdrSig := [6, 3, 0] }, .ok, false) := sgTest_run.2.2.1

/-- test (3): the guard is what keeps the suspended / failed object safe — the CORE does panic (defect
    F24) on the message cut after 80 bytes and on the failed parse, GetMsgSig answers "empty" -/
example : (getMsgSigCore (parseSIPMsg (sgTestNoCL.extract 0 80) 0 sgTestInit 3).2.2 (sgTestNoCL.extract 0 80)).2.2 = true ∧
    getMsgSig (parseSIPMsg (sgTestNoCL.extract 0 80) 0 sgTestInit 3).2.2 (sgTestNoCL.extract 0 80) = ({}, .empty, false) ∧
    (getMsgSigCore (parseSIPMsg sgTestBad 0 sgTestInit 0).2.2 sgTestBad).2.2 = true ∧
    getMsgSig (parseSIPMsg sgTestBad 0 sgTestInit 0).2.2 sgTestBad = ({}, .empty, false) := sgTest_run.2.2.2

/-- … as `sig_empty_unless_complete` says (use on the failed parse) -/
example (x : Buf) : getMsgSig (parseSIPMsg sgTestBad 0 sgTestInit 0).2.2 x = ({}, .empty, false) :=
  sig_empty_unless_complete (mlf_triple_eta _ rfl rfl) (by rw [sgTest_run.2.1.1]; decide) (by rw [sgTest_run.2.1.1]; decide) x

/-- test (3): a schedule — the message cut after 50 and after 100 bytes, flags 3 — that ends with NoCLen; the
    hypotheses of `sig_never_panics_any_verdict_schedule` hold -/
def sgTestCuts : List Buf := [sgTestNoCL.extract 0 50, sgTestNoCL.extract 0 100, sgTestNoCL]

theorem sgTestCuts_growing : Growing sgTestCuts :=
  ⟨prefix_grows _ (by decide), prefix_whole _ _, trivial⟩

theorem sgTestCuts_fit : ∀ x ∈ sgTestCuts, x.size ≤ 65535 := by decide +kernel

example : (resumeRun (C01.msgP 3) 0 sgTestInit sgTestCuts).2.1 = .noCLen ∧
    (resumeRun (C01.msgP 3) 0 sgTestInit (sgTestCuts.take 2)).2.1 = .moreBytes := by decide +kernel

example : (getMsgSig (resumeRun (C01.msgP 3) 0 sgTestInit sgTestCuts).2.2 sgTestNoCL).2.2 = false :=
  (sig_never_panics_any_verdict_schedule 3 0 {} 0 0 0 none none sgTestCuts sgTestCuts_growing sgTestCuts_fit
    (List.cons_ne_nil _ _) (fun _ _ => Nat.zero_le _)
    (o' := (resumeRun (C01.msgP 3) 0 sgTestInit sgTestCuts).1)
    (e := (resumeRun (C01.msgP 3) 0 sgTestInit sgTestCuts).2.1) (mlf_triple_eta _ rfl rfl)).2

/-- test (4): after OK the guard is transparent (use of `sig_guard_transparent`), and the signature is the one above -/
example (x : Buf) : getMsgSig (parseSIPMsg sgTestNoCL 0 sgTestInit 0).2.2 x =
    getMsgSigCore (parseSIPMsg sgTestNoCL 0 sgTestInit 0).2.2 x :=
  sig_guard_transparent (o' := (parseSIPMsg sgTestNoCL 0 sgTestInit 0).1)
    (show parseSIPMsg sgTestNoCL 0 sgTestInit 0 = (_, .ok, (parseSIPMsg sgTestNoCL 0 sgTestInit 0).2.2) from by
      rewrite [← sgTest_run.1.2.2.1]
      exact mlf_triple_eta _ rfl rfl) x

end Sipsp
