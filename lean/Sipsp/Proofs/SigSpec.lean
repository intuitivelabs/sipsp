/-
  Sipsp.Proofs.SigSpec — the message signature (`getMsgSigCore`, msg_sig.go) factors through a small "view" of the
  stored headers: lemmas for property C19.
-/
import Sipsp.Model.Sig
import Sipsp.Proofs.HdrSpec

namespace Sipsp

/-! ### the 16-bit `seen` flag word -/

/-- the flag bit the loop uses for a header type (`1 << t` in a uint16) -/
def sigBit (t : Nat) : Nat := (1 <<< t) % 65536

theorem sigBit_lt (t : Nat) (h : t < 16) : sigBit t = 2 ^ t := by
  unfold sigBit
  rw [Nat.one_shiftLeft]
  exact Nat.mod_eq_of_lt (by
    have : 2 ^ t < 2 ^ 16 := Nat.pow_lt_pow_right (by decide) h
    simpa using this)

theorem sigBit_ge (t : Nat) (h : 16 ≤ t) : sigBit t = 0 := by
  unfold sigBit
  rw [Nat.one_shiftLeft]
  have : (2:Nat) ^ t = 2 ^ 16 * 2 ^ (t - 16) := by rw [← Nat.pow_add]; congr 1; omega
  rw [this]; exact Nat.mul_mod_right _ _

theorem and_two_pow_eq_zero (s t : Nat) : (s &&& 2 ^ t = 0) ↔ s.testBit t = false := by
  constructor
  · intro h
    have := Nat.testBit_and s (2 ^ t) t
    rw [h, Nat.zero_testBit, Nat.testBit_two_pow] at this
    simpa using this.symm
  · intro h
    apply Nat.eq_of_testBit_eq
    intro i
    rw [Nat.testBit_and, Nat.testBit_two_pow, Nat.zero_testBit]
    by_cases e : t = i
    · subst e; simp [h]
    · simp [e]

/-- the loop's "not seen yet" test, for a type below 16 -/
theorem unseen_iff (s t : Nat) (ht : t < 16) : ((s &&& sigBit t == 0) = true) ↔ s.testBit t = false := by
  rw [sigBit_lt t ht, beq_iff_eq]; exact and_two_pow_eq_zero s t

theorem testBit_or_sigBit (s t u : Nat) (ht : t < 16) :
    (s ||| sigBit t).testBit u = (s.testBit u || decide (t = u)) := by
  rw [sigBit_lt t ht, Nat.testBit_or, Nat.testBit_two_pow]

theorem testBit_or_sigBit_mono (s t u : Nat) (h : s.testBit u = true) : (s ||| sigBit t).testBit u = true := by
  rw [Nat.testBit_or, h]; rfl

/-! ### fingerprinted header types -/

/-- the type is one of the eight fingerprinted ones (`sigHdrs`) -/
def isSigType (t : Nat) : Bool := Gen.sigHdrs.contains t

/-- the table lookup, read off the table: a position (below 8, hence not the marker 255) exactly for the listed
    types, all of which are below 15 -/
theorem hdr2SigId_eq (t : Nat) :
    (hdr2SigId t != 255) = isSigType t ∧ (isSigType t = true → hdr2SigId t < 8 ∧ t < 15) := by
  have h15 : ∀ x ∈ Gen.sigHdrs, x < 15 := by decide
  unfold hdr2SigId isSigType
  cases h : Gen.sigHdrs.findIdx? (· == t) with
  | none =>
    have hc : Gen.sigHdrs.contains t = false := by
      rw [List.findIdx?_eq_none_iff] at h
      rw [Bool.eq_false_iff, ne_eq, List.contains_iff_mem]
      intro hm
      simpa using h t hm
    rw [hc]
    exact ⟨rfl, fun hh => by cases hh⟩
  | some i =>
    obtain ⟨hi, hb, _⟩ := List.findIdx?_eq_some_iff_getElem.mp h
    have hm : t ∈ Gen.sigHdrs := by
      have ht : Gen.sigHdrs[i] = t := by simpa using hb
      exact ht ▸ List.getElem_mem hi
    have hi8 : i < 8 := hi
    have : (i != 255) = true := by simp; omega
    simp only [List.contains_iff_mem.mpr hm, this, true_and]
    exact fun _ => ⟨hi8, h15 t hm⟩

theorem isSigType_lt (t : Nat) (h : isSigType t = true) : t < 15 := ((hdr2SigId_eq t).2 h).2

theorem isSigType_via : isSigType HdrVia = true := by decide

theorem isSigType_iff (t : Nat) : isSigType t = true ↔ t ∈ Gen.sigHdrs := by
  unfold isSigType; exact List.contains_iff_mem

theorem isSigType_of_not {t : Nat} (h : t ∉ Gen.sigHdrs) : isSigType t = false :=
  Bool.eq_false_iff.2 fun hs => h ((isSigType_iff t).1 hs)

/-- the entry `GetHdrSigId` produces for a fingerprinted type: position in `sigHdrs`, plus 8 for a
    one-letter (compact) name -/
def sigEntry (t : Nat) (compact : Bool) : Nat :=
  if compact then HdrSigIdCMask ||| hdr2SigId t else hdr2SigId t

theorem sigEntry_lt (t : Nat) (c : Bool) (h : isSigType t = true) : sigEntry t c < 16 := by
  have h8 := ((hdr2SigId_eq t).2 h).1
  unfold sigEntry HdrSigIdCMask
  cases c
  · simp only [Bool.false_eq_true, ↓reduceIte]; omega
  · simp only [↓reduceIte]
    have : 8 ||| hdr2SigId t < 2 ^ 4 := Nat.or_lt_two_pow (by decide) (by omega)
    simpa using this

theorem getHdrSigId_eq (h : Hdr) :
    getHdrSigId h = if isSigType h.type then (sigEntry h.type (h.name.len == 1), Err.ok)
                    else (255, if h.type ≥ HdrOther + 1 then Err.bug else Err.bad) := by
  have H := hdr2SigId_eq h.type
  unfold getHdrSigId sigEntry
  by_cases hs : isSigType h.type = true
  · have h15 : ¬ h.type ≥ HdrOther + 1 := by have := (H.2 hs).2; simp only [HdrOther]; omega
    have hne : (hdr2SigId h.type != 255) = true := by rw [H.1]; exact hs
    simp only [h15, ↓reduceIte, hne, hs]
    by_cases hc : (h.name.len == 1) = true
    · simp only [hc, ↓reduceIte]
    · simp only [hc, Bool.false_eq_true, ↓reduceIte]
  · have hne : (hdr2SigId h.type != 255) = false := by rw [H.1]; simpa using hs
    simp only [hs, Bool.false_eq_true, ↓reduceIte, hne]
    by_cases h15 : h.type ≥ HdrOther + 1
    · simp only [h15, ↓reduceIte]
    · simp only [h15, ↓reduceIte]

/-! ### the view of one stored header, and one loop iteration in terms of it -/

/-- what the signature loop reads of one stored header -/
structure SigKey where
  /-- header type -/
  type : Nat
  /-- the name is one byte long (compact form) -/
  compact : Bool
  /-- for a Via header: the bytes of its value (`some none`: the field lies outside the buffer, Go panics);
      `none` for every other type -/
  viaVal : Option (Option Buf)

/-- what one iteration of the `for _, h := range msg.HL.Hdrs` loop of GetMsgSig (msg_sig.go; `msgSigLoop`) reads of the
    stored header `h`: `h.Type`, the compact-name test of `GetHdrSigId`, and for a Via the bytes of `h.Val` -/
def hdrKey (mbuf : Buf) (h : Hdr) : SigKey :=
  { type := h.type, compact := h.name.len == 1,
    viaVal := if h.type == HdrVia then some (h.val.get? mbuf) else none }

/-- the `HdrVia` branch of the loop body: `sig.ViaBSig` becomes `GetViaBrSig` of the value; it keeps its old value for
    every other type, and for a Via whose value lies outside the buffer (Go panics there: `viaPnc`) -/
def SigKey.viaSig (k : SigKey) (old : Nat) : Nat :=
  if k.type == HdrVia then
    match k.viaVal with
    | some (some v) => (getViaBrSig v).1
    | _ => old
  else old

/-- whether that branch panics: the slice of a Via value outside the buffer, or `GetViaBrSig` itself -/
def SigKey.viaPnc (k : SigKey) : Bool :=
  if k.type == HdrVia then
    match k.viaVal with
    | some (some v) => (getViaBrSig v).2.2
    | some none => true
    | none => false
  else false

/-- the header contributes an entry: fingerprinted type, Contact only for INVITE -/
def SigKey.counted (k : SigKey) (method : Nat) : Bool :=
  isSigType k.type && (k.type != HdrContact || method == MInvite)

def SigKey.entry (k : SigKey) (method : Nat) : List Nat :=
  if k.counted method then [sigEntry k.type k.compact] else []

/-- what the loop body does to `sig` for a header whose type bit is not yet in `seen`: the Via branch, then the entry of
    `GetHdrSigId` appended to `sig.HdrSig` -/
def sigAdd (k : SigKey) (s : MsgSig) : MsgSig :=
  { method := s.method, cidSLen := s.cidSLen, cidSig := s.cidSig, fromSig := s.fromSig,
    viaBSig := k.viaSig s.viaBSig, hdrSig := s.hdrSig ++ k.entry s.method }

/-- the state after visiting a header whose type was not seen before -/
def sigStep (k : SigKey) (st : SigLoopSt) : SigLoopSt :=
  { sig := sigAdd k st.sig, seen := st.seen ||| sigBit k.type, pnc := st.pnc || k.viaPnc }

/-- one iteration of `msgSigLoop` -/
theorem msgSigLoop_cons (mbuf : Buf) (pf : Nat) (h : Hdr) (rest : List Hdr) (st : SigLoopSt) :
    msgSigLoop mbuf pf (h :: rest) st =
      if st.seen &&& sigBit h.type == 0 then
        if ((hdrKey mbuf h).counted st.sig.method &&
            decide ((sigStep (hdrKey mbuf h) st).sig.hdrSig.length ≥ 8)) = true then
          (sigStep (hdrKey mbuf h) st, true)
        else if pf &&& sigHdrsFlags == (sigStep (hdrKey mbuf h) st).seen then (sigStep (hdrKey mbuf h) st, true)
        else msgSigLoop mbuf pf rest (sigStep (hdrKey mbuf h) st)
      else msgSigLoop mbuf pf rest st := by
  rw [msgSigLoop]
  unfold sigBit
  by_cases hseen : (st.seen &&& 1 <<< h.type % 65536 == 0) = true
  · simp only [hseen, ↓reduceIte]
    rw [getHdrSigId_eq]
    have hne : ((if h.type ≥ HdrOther + 1 then Err.bug else Err.bad) == Err.ok) = false := by
      split <;> rfl
    by_cases hv : (h.type == HdrVia) = true
    · cases hg : h.val.get? mbuf with
      | none =>
        by_cases hs : isSigType h.type = true
        · by_cases hc : (h.type != HdrContact || st.sig.method == MInvite) = true
          · simp [hv, hg, hs, hc, sigStep, sigAdd, hdrKey, SigKey.counted, SigKey.entry, SigKey.viaSig,
              SigKey.viaPnc, sigBit, Gen.C.NoSigHdrs]
          · simp [hv, hg, hs, hc, sigStep, sigAdd, hdrKey, SigKey.counted, SigKey.entry, SigKey.viaSig,
              SigKey.viaPnc, sigBit]
        · simp [hv, hg, hs, hne, sigStep, sigAdd, hdrKey, SigKey.counted, SigKey.entry, SigKey.viaSig,
            SigKey.viaPnc, sigBit]
      | some v =>
        by_cases hs : isSigType h.type = true
        · by_cases hc : (h.type != HdrContact || st.sig.method == MInvite) = true
          · simp [hv, hg, hs, hc, sigStep, sigAdd, hdrKey, SigKey.counted, SigKey.entry, SigKey.viaSig,
              SigKey.viaPnc, sigBit, Gen.C.NoSigHdrs]
          · simp [hv, hg, hs, hc, sigStep, sigAdd, hdrKey, SigKey.counted, SigKey.entry, SigKey.viaSig,
              SigKey.viaPnc, sigBit]
        · simp [hv, hg, hs, hne, sigStep, sigAdd, hdrKey, SigKey.counted, SigKey.entry, SigKey.viaSig,
            SigKey.viaPnc, sigBit]
    · have hv' : (h.type == HdrVia) = false := by simpa using hv
      by_cases hs : isSigType h.type = true
      · by_cases hc : (h.type != HdrContact || st.sig.method == MInvite) = true
        · simp [hv', hs, hc, sigStep, sigAdd, hdrKey, SigKey.counted, SigKey.entry, SigKey.viaSig,
            SigKey.viaPnc, sigBit, Gen.C.NoSigHdrs]
        · simp [hv', hs, hc, sigStep, sigAdd, hdrKey, SigKey.counted, SigKey.entry, SigKey.viaSig,
            SigKey.viaPnc, sigBit]
      · simp [hv', hs, hne, sigStep, sigAdd, hdrKey, SigKey.counted, SigKey.entry, SigKey.viaSig,
          SigKey.viaPnc, sigBit]
  · simp only [hseen, Bool.false_eq_true, ↓reduceIte]


/-- an invariant of the iteration holds for what the loop returns, early exit or not -/
theorem msgSigLoop_inv (mbuf : Buf) (pf : Nat) {J : SigLoopSt → Prop} (hs : List Hdr)
    (hstep : ∀ h ∈ hs, ∀ st, J st → J (sigStep (hdrKey mbuf h) st)) (st : SigLoopSt) (h0 : J st) :
    J (msgSigLoop mbuf pf hs st).1 := by
  induction hs generalizing st with
  | nil => rw [msgSigLoop]; exact h0
  | cons h rest ih =>
    have ihr := ih fun x hx => hstep x (List.mem_cons_of_mem _ hx)
    have h1 := hstep h List.mem_cons_self st h0
    rw [msgSigLoop_cons]
    split
    · split
      · exact h1
      · split
        · exact h1
        · exact ihr _ h1
    · exact ihr st h0

theorem msgSigLoop_append (mbuf : Buf) (pf : Nat) (l1 l2 : List Hdr) (st : SigLoopSt) :
    msgSigLoop mbuf pf (l1 ++ l2) st =
      if (msgSigLoop mbuf pf l1 st).2 = true then msgSigLoop mbuf pf l1 st
      else msgSigLoop mbuf pf l2 (msgSigLoop mbuf pf l1 st).1 := by
  induction l1 generalizing st with
  | nil =>
    have : msgSigLoop mbuf pf [] st = (st, false) := by rw [msgSigLoop]
    rw [List.nil_append, this]
    simp only [Bool.false_eq_true, ↓reduceIte]
  | cons a rest ih =>
    rw [List.cons_append, msgSigLoop_cons, msgSigLoop_cons]
    split
    · split
      · simp only [↓reduceIte]
      · split
        · simp only [↓reduceIte]
        · exact ih _
    · exact ih _

/-! ### at most eight entries -/

theorem sigStep_len (k : SigKey) (st : SigLoopSt) :
    (sigStep k st).sig.hdrSig.length = st.sig.hdrSig.length + (if k.counted st.sig.method then 1 else 0) := by
  unfold sigStep sigAdd SigKey.entry
  by_cases hc : k.counted st.sig.method = true
  · simp [hc]
  · simp [hc]

theorem msgSigLoop_len_le (mbuf : Buf) (pf : Nat) (hs : List Hdr) (st : SigLoopSt)
    (h0 : st.sig.hdrSig.length < 8) : (msgSigLoop mbuf pf hs st).1.sig.hdrSig.length ≤ 8 := by
  induction hs generalizing st with
  | nil => rw [msgSigLoop]; show st.sig.hdrSig.length ≤ 8; omega
  | cons h rest ih =>
    rw [msgSigLoop_cons]
    have hl := sigStep_len (hdrKey mbuf h) st
    by_cases hseen : (st.seen &&& sigBit h.type == 0) = true
    · simp only [hseen, ↓reduceIte]
      by_cases hfull : ((hdrKey mbuf h).counted st.sig.method &&
            decide ((sigStep (hdrKey mbuf h) st).sig.hdrSig.length ≥ 8)) = true
      · simp only [hfull, ↓reduceIte]
        show (sigStep (hdrKey mbuf h) st).sig.hdrSig.length ≤ 8
        split at hl <;> omega
      · simp only [hfull, Bool.false_eq_true, ↓reduceIte]
        have hlt : (sigStep (hdrKey mbuf h) st).sig.hdrSig.length < 8 := by
          by_cases hc : (hdrKey mbuf h).counted st.sig.method = true
          · simp only [hc, Bool.true_and, decide_eq_true_eq] at hfull; omega
          · simp only [hc, Bool.false_eq_true, ↓reduceIte] at hl; omega
        split
        · show (sigStep (hdrKey mbuf h) st).sig.hdrSig.length ≤ 8
          omega
        · exact ih _ hlt
    · simp only [hseen, Bool.false_eq_true, ↓reduceIte]
      exact ih st h0

/-! ### counting the fingerprinted types not seen yet -/

theorem filter_length_le_of_imp {α : Type} (p q : α → Bool) (L : List α)
    (h : ∀ x ∈ L, q x = true → p x = true) : (L.filter q).length ≤ (L.filter p).length := by
  rw [← List.countP_eq_length_filter, ← List.countP_eq_length_filter]
  exact List.countP_mono_left h

theorem filter_length_lt_of_imp {α : Type} (p q : α → Bool) (L : List α)
    (h : ∀ x ∈ L, q x = true → p x = true) (t : α) (ht : t ∈ L) (hp : p t = true) (hq : q t = false) :
    (L.filter q).length < (L.filter p).length := by
  have e : L.filter q = (L.filter p).filter q := by
    rw [List.filter_filter]
    exact List.filter_congr fun x hx => by cases hx' : q x <;> simp [h x hx, hx']
  rw [e]
  exact List.length_filter_lt_length_iff_exists.mpr ⟨t, List.mem_filter.mpr ⟨ht, hp⟩, by simp [hq]⟩

/-- number of fingerprinted types whose bit is not set in `seen` -/
def unseenCount (seen : Nat) : Nat := (Gen.sigHdrs.filter (fun t => !seen.testBit t)).length

theorem unseenCount_or_le (s t : Nat) : unseenCount (s ||| sigBit t) ≤ unseenCount s := by
  unfold unseenCount
  apply filter_length_le_of_imp
  intro x _ hx
  cases hb : s.testBit x
  · rfl
  · rw [testBit_or_sigBit_mono s t x hb] at hx; cases hx

theorem unseenCount_or_lt (s t : Nat) (hs : isSigType t = true) (hb : s.testBit t = false) :
    unseenCount (s ||| sigBit t) + 1 ≤ unseenCount s := by
  unfold unseenCount
  apply filter_length_lt_of_imp _ _ _ _ t ((isSigType_iff t).mp hs)
  · simp [hb]
  · have ht : t < 16 := by have := isSigType_lt t hs; omega
    rw [testBit_or_sigBit s t t ht]; simp
  · intro x _ hx
    cases hbx : s.testBit x
    · rfl
    · rw [testBit_or_sigBit_mono s t x hbx] at hx; cases hx

theorem unseenCount_eq_zero (s : Nat) (h : unseenCount s = 0) (t : Nat) (ht : isSigType t = true) :
    s.testBit t = true := by
  unfold unseenCount at h
  have hnil := List.eq_nil_of_length_eq_zero h
  have := (List.filter_eq_nil_iff.mp hnil) t ((isSigType_iff t).mp ht)
  simpa using this

theorem sigHdrsFlags_testBit (t : Nat) (ht : isSigType t = true) : sigHdrsFlags.testBit t = true := by
  have hm := (isSigType_iff t).mp ht
  simp only [Gen.sigHdrs, List.mem_cons, List.not_mem_nil, or_false] at hm
  rcases hm with e | e | e | e | e | e | e | e <;> subst e <;> decide

/-- `msgSigLoop` over the keys without its two early exits (eight entries collected; every flagged fingerprinted type
    seen); by `msgSigLoop_eq_walk` the exits only skip iterations that change nothing, when the flag word covers the
    stored headers (`FlagsCover`) -/
def sigWalk : List SigKey → SigLoopSt → SigLoopSt
  | [], st => st
  | k :: rest, st => if st.seen &&& sigBit k.type == 0 then sigWalk rest (sigStep k st) else sigWalk rest st

theorem viaSig_nonvia (k : SigKey) (old : Nat) (h : (k.type == HdrVia) = false) : k.viaSig old = old := by
  simp [SigKey.viaSig, h]

theorem viaPnc_nonvia (k : SigKey) (h : (k.type == HdrVia) = false) : k.viaPnc = false := by
  simp [SigKey.viaPnc, h]

theorem nosig_nonvia (k : SigKey) (h : isSigType k.type = false) : (k.type == HdrVia) = false := by
  cases hq : k.type == HdrVia
  · rfl
  · rw [beq_iff_eq.mp hq, isSigType_via] at h; cases h

theorem stepSig_nosig (k : SigKey) (s : MsgSig) (h : isSigType k.type = false) : sigAdd k s = s := by
  cases s
  simp [sigAdd, SigKey.entry, SigKey.counted, viaSig_nonvia k _ (nosig_nonvia k h), h]

theorem viaPnc_nosig (k : SigKey) (h : isSigType k.type = false) : k.viaPnc = false :=
  viaPnc_nonvia k (nosig_nonvia k h)

/-- once every fingerprinted type occurring in the rest has been seen, the rest changes nothing -/
theorem sigWalk_dead (ks : List SigKey) (st : SigLoopSt)
    (h : ∀ k ∈ ks, isSigType k.type = true → st.seen.testBit k.type = true) :
    (sigWalk ks st).sig = st.sig ∧ (sigWalk ks st).pnc = st.pnc := by
  induction ks generalizing st with
  | nil => exact ⟨rfl, rfl⟩
  | cons k rest ih =>
    have hrest : ∀ k' ∈ rest, isSigType k'.type = true → st.seen.testBit k'.type = true :=
      fun k' hk' => h k' (List.mem_cons_of_mem k hk')
    rw [sigWalk]
    by_cases hseen : (st.seen &&& sigBit k.type == 0) = true
    · simp only [hseen, ↓reduceIte]
      have hns : isSigType k.type = false := by
        cases hq : isSigType k.type
        · rfl
        · have h16 : k.type < 16 := by have := isSigType_lt _ hq; omega
          have := h k List.mem_cons_self hq
          rw [(unseen_iff st.seen k.type h16).mp hseen] at this; cases this
      have := ih (sigStep k st) (fun k' hk' hs' => testBit_or_sigBit_mono _ _ _ (hrest k' hk' hs'))
      rw [this.1, this.2]
      refine ⟨stepSig_nosig k st.sig hns, ?_⟩
      show (st.pnc || k.viaPnc) = st.pnc
      rw [viaPnc_nosig k hns, Bool.or_false]
    · simp only [hseen, Bool.false_eq_true, ↓reduceIte]
      exact ih st hrest

/-- the fingerprinted types among the stored headers are flagged in `pflags` (what ParseHeaders guarantees:
    C07 `block_flags`) -/
def FlagsCover (pf : Nat) (hs : List Hdr) : Prop :=
  ∀ h ∈ hs, isSigType h.type = true → pf.testBit h.type = true

theorem FlagsCover.append {pf : Nat} {l1 l2 : List Hdr} :
    FlagsCover pf (l1 ++ l2) ↔ FlagsCover pf l1 ∧ FlagsCover pf l2 := by
  simp only [FlagsCover, List.mem_append, or_imp, forall_and]

theorem FlagsCover.cons {pf : Nat} {x : Hdr} {l : List Hdr} :
    FlagsCover pf (x :: l) ↔ (isSigType x.type = true → pf.testBit x.type = true) ∧ FlagsCover pf l := by
  simp only [FlagsCover, List.mem_cons, forall_eq_or_imp]

theorem msgSigLoop_eq_walk (mbuf : Buf) (pf : Nat) (hs : List Hdr) (st : SigLoopSt)
    (hI : st.sig.hdrSig.length + unseenCount st.seen ≤ 8) (hpf : FlagsCover pf hs) :
    (msgSigLoop mbuf pf hs st).1.sig = (sigWalk (hs.map (hdrKey mbuf)) st).sig ∧
    (msgSigLoop mbuf pf hs st).1.pnc = (sigWalk (hs.map (hdrKey mbuf)) st).pnc := by
  induction hs generalizing st with
  | nil => exact ⟨rfl, rfl⟩
  | cons h rest ih =>
    have hpf' : FlagsCover pf rest := fun h' hh' => hpf h' (List.mem_cons_of_mem h hh')
    rw [msgSigLoop_cons, List.map_cons, sigWalk]
    have hkt : (hdrKey mbuf h).type = h.type := rfl
    rw [hkt]
    have hl := sigStep_len (hdrKey mbuf h) st
    by_cases hseen : (st.seen &&& sigBit h.type == 0) = true
    · simp only [hseen, ↓reduceIte]
      have hseen' : (sigStep (hdrKey mbuf h) st).seen = st.seen ||| sigBit h.type := rfl
      by_cases hfull : ((hdrKey mbuf h).counted st.sig.method &&
            decide ((sigStep (hdrKey mbuf h) st).sig.hdrSig.length ≥ 8)) = true
      · simp only [hfull, ↓reduceIte]
        simp only [Bool.and_eq_true, decide_eq_true_eq] at hfull
        have hst : isSigType h.type = true := by
          have := hfull.1; unfold SigKey.counted at this
          simp only [Bool.and_eq_true] at this; exact this.1
        have h16 : h.type < 16 := by have := isSigType_lt _ hst; omega
        have hlt := unseenCount_or_lt st.seen h.type hst ((unseen_iff _ _ h16).mp hseen)
        simp only [hfull.1, ↓reduceIte] at hl
        have hz : unseenCount (sigStep (hdrKey mbuf h) st).seen = 0 := by rw [hseen']; omega
        have := sigWalk_dead (rest.map (hdrKey mbuf)) (sigStep (hdrKey mbuf h) st)
          (fun k _ hk => unseenCount_eq_zero _ hz k.type hk)
        exact ⟨this.1.symm, this.2.symm⟩
      · simp only [hfull, Bool.false_eq_true, ↓reduceIte]
        by_cases hall : (pf &&& sigHdrsFlags == (sigStep (hdrKey mbuf h) st).seen) = true
        · simp only [hall, ↓reduceIte]
          have hall' := beq_iff_eq.mp hall
          have := sigWalk_dead (rest.map (hdrKey mbuf)) (sigStep (hdrKey mbuf h) st) (by
            intro k hk hsk
            obtain ⟨h', hh', rfl⟩ := List.mem_map.mp hk
            rw [← hall', Nat.testBit_and, sigHdrsFlags_testBit _ hsk]
            have : pf.testBit (hdrKey mbuf h').type = true := hpf' h' hh' hsk
            rw [this]; rfl)
          exact ⟨this.1.symm, this.2.symm⟩
        · simp only [hall, Bool.false_eq_true, ↓reduceIte]
          apply ih _ _ hpf'
          rw [hseen']
          by_cases hc : (hdrKey mbuf h).counted st.sig.method = true
          · have hst : isSigType h.type = true := by
              unfold SigKey.counted at hc
              simp only [Bool.and_eq_true] at hc; exact hc.1
            have h16 : h.type < 16 := by have := isSigType_lt _ hst; omega
            have hlt := unseenCount_or_lt st.seen h.type hst ((unseen_iff _ _ h16).mp hseen)
            simp only [hc, ↓reduceIte] at hl
            omega
          · simp only [hc, Bool.false_eq_true, ↓reduceIte] at hl
            have := unseenCount_or_le st.seen h.type
            omega
    · simp only [hseen, Bool.false_eq_true, ↓reduceIte]
      exact ih st hI hpf'

/-! ### first occurrences of fingerprinted types -/

/-- the view restricted to fingerprinted types at their first occurrence (`seen`: types that occurred before) -/
def sigFirsts : List Nat → List SigKey → List SigKey
  | _, [] => []
  | seen, k :: rest =>
    if isSigType k.type && !seen.contains k.type then k :: sigFirsts (k.type :: seen) rest
    else sigFirsts seen rest

theorem sigFirsts_mem (L : List Nat) (ks : List SigKey) :
    ∀ k ∈ sigFirsts L ks, isSigType k.type = true ∧ L.contains k.type = false := by
  induction ks generalizing L with
  | nil => intro k hk; cases hk
  | cons a rest ih =>
    intro k hk
    rw [sigFirsts] at hk
    split at hk
    · rename_i hc
      rcases List.mem_cons.mp hk with rfl | hin
      · simpa using hc
      · have := ih (a.type :: L) k hin
        simp only [List.contains_cons, Bool.or_eq_false_iff] at this
        exact ⟨this.1, this.2.2⟩
    · exact ih L k hk

theorem sigFirsts_not_seen (L : List Nat) (ks : List SigKey) :
    ∀ k ∈ sigFirsts L ks, L.contains k.type = false := fun k hk => (sigFirsts_mem L ks k hk).2

/-- the signature as a function of the first occurrences -/
def sigApply (fs : List SigKey) (s : MsgSig) : MsgSig :=
  { method := s.method, cidSLen := s.cidSLen, cidSig := s.cidSig, fromSig := s.fromSig,
    viaBSig := match fs.find? (fun k => k.type == HdrVia) with
               | some k => k.viaSig s.viaBSig
               | none => s.viaBSig,
    hdrSig := s.hdrSig ++ fs.flatMap (fun k => k.entry s.method) }

theorem sigApply_nil (s : MsgSig) : sigApply [] s = s := by
  cases s; simp [sigApply]

theorem sigApply_cons (k : SigKey) (fs : List SigKey) (s : MsgSig)
    (h : (k.type == HdrVia) = true → ∀ k' ∈ fs, (k'.type == HdrVia) = false) :
    sigApply (k :: fs) s = sigApply fs (sigAdd k s) := by
  unfold sigApply sigAdd
  simp only [List.flatMap_cons, List.append_assoc, List.find?_cons, MsgSig.mk.injEq, true_and, and_true]
  by_cases hv : (k.type == HdrVia) = true
  · have hnone : fs.find? (fun k => k.type == HdrVia) = none := by
      rw [List.find?_eq_none]; intro k' hk'; have := h hv k' hk'; simp [this]
    simp only [hv, hnone]
  · have hv' : (k.type == HdrVia) = false := by simpa using hv
    simp only [hv', viaSig_nonvia k _ hv']

/-- how a list of already seen types mirrors the flag word: they agree on fingerprinted types -/
def SeenRel (L : List Nat) (seen : Nat) : Prop := ∀ t, isSigType t = true → seen.testBit t = L.contains t

theorem SeenRel.init : SeenRel [] 0 := by
  intro t _; simp

theorem sigWalk_spec (ks : List SigKey) (L : List Nat) (st : SigLoopSt) (hR : SeenRel L st.seen) :
    (sigWalk ks st).sig = sigApply (sigFirsts L ks) st.sig ∧
    (sigWalk ks st).pnc = (st.pnc || (sigFirsts L ks).any (fun k => k.viaPnc)) := by
  induction ks generalizing L st with
  | nil =>
    rw [sigWalk, sigFirsts, sigApply_nil]; simp
  | cons k rest ih =>
    rw [sigWalk, sigFirsts]
    by_cases hs : isSigType k.type = true
    · have h16 : k.type < 16 := by have := isSigType_lt _ hs; omega
      have hrel := hR k.type hs
      by_cases hin : L.contains k.type = true
      · have hseen : ¬ (st.seen &&& sigBit k.type == 0) = true := by
          intro hc; rw [(unseen_iff _ _ h16).mp hc, hin] at hrel; cases hrel
        simp only [hseen, Bool.false_eq_true, ↓reduceIte, hs, hin, Bool.not_true, Bool.and_false]
        exact ih L st hR
      · have hin' : L.contains k.type = false := by simpa using hin
        rw [hin'] at hrel
        have hseen : (st.seen &&& sigBit k.type == 0) = true := (unseen_iff _ _ h16).mpr hrel
        simp only [hseen, ↓reduceIte, hs, hin', Bool.not_false, Bool.and_true]
        have hR' : SeenRel (k.type :: L) (sigStep k st).seen := by
          intro t ht
          show (st.seen ||| sigBit k.type).testBit t = (k.type :: L).contains t
          rw [testBit_or_sigBit _ _ _ h16, hR t ht, List.contains_cons, Bool.or_comm]
          congr 1
          by_cases e : k.type = t
          · subst e; simp
          · have : ¬ t = k.type := fun h => e h.symm
            simp [e, this]
        have := ih (k.type :: L) (sigStep k st) hR'
        rw [this.1, this.2]
        have hns := sigFirsts_not_seen (k.type :: L) rest
        constructor
        · rw [sigApply_cons]
          · rfl
          · intro hv k' hk'
            have := hns k' hk'
            simp only [List.contains_cons, Bool.or_eq_false_iff] at this
            have e1 := beq_iff_eq.mp hv
            cases hq : k'.type == HdrVia
            · rfl
            · have e2 := beq_iff_eq.mp hq
              have h3 : (k'.type == k.type) = true := by rw [e1, e2]; simp
              rw [h3] at this; cases this.1
        · show (st.pnc || k.viaPnc || _) = _
          rw [List.any_cons, Bool.or_assoc]
    · have hs' : isSigType k.type = false := by simpa using hs
      simp only [hs', Bool.false_and, Bool.false_eq_true, ↓reduceIte]
      by_cases hseen : (st.seen &&& sigBit k.type == 0) = true
      · simp only [hseen, ↓reduceIte]
        have hR' : SeenRel L (sigStep k st).seen := by
          intro t ht
          show (st.seen ||| sigBit k.type).testBit t = L.contains t
          rw [← hR t ht]
          rcases Nat.lt_or_ge k.type 16 with h16 | h16
          · rw [testBit_or_sigBit _ _ _ h16]
            have : ¬ k.type = t := by intro e; rw [e, ht] at hs'; cases hs'
            simp [this]
          · rw [sigBit_ge _ h16, Nat.or_zero]
        have := ih L (sigStep k st) hR'
        rw [this.1, this.2]
        constructor
        · show sigApply _ (sigAdd k st.sig) = _
          rw [stepSig_nosig k _ hs']
        · show (st.pnc || k.viaPnc || _) = _
          rw [viaPnc_nosig k hs', Bool.or_false]
      · simp only [hseen, Bool.false_eq_true, ↓reduceIte]
        exact ih L st hR

/-! ### properties of `sigFirsts` -/

/-- only the fingerprinted entries of the view matter -/
theorem sigFirsts_filter (L : List Nat) (ks : List SigKey) :
    sigFirsts L ks = sigFirsts L (ks.filter (fun k => isSigType k.type)) := by
  induction ks generalizing L with
  | nil => rfl
  | cons k rest ih =>
    by_cases hs : isSigType k.type = true
    · rw [List.filter_cons_of_pos (by simpa using hs), sigFirsts, sigFirsts, ih, ih L]
    · have hs' : isSigType k.type = false := by simpa using hs
      rw [List.filter_cons_of_neg (by simpa using hs), sigFirsts]
      simp only [hs', Bool.false_and, Bool.false_eq_true, ↓reduceIte]
      exact ih L

/-- an entry of a type that is not fingerprinted can be inserted / removed anywhere -/
theorem sigFirsts_insert_nosig (L : List Nat) (l1 l2 : List SigKey) (x : SigKey) (hx : isSigType x.type = false) :
    sigFirsts L (l1 ++ x :: l2) = sigFirsts L (l1 ++ l2) := by
  rw [sigFirsts_filter L (l1 ++ x :: l2), sigFirsts_filter L (l1 ++ l2), List.filter_append, List.filter_append,
    List.filter_cons_of_neg (by simpa using hx)]

/-- a later occurrence of a type that occurred before can be inserted / removed -/
theorem sigFirsts_insert_repeat (L : List Nat) (l1 l2 : List SigKey) (x : SigKey)
    (hx : L.contains x.type = true ∨ ∃ k ∈ l1, k.type = x.type) :
    sigFirsts L (l1 ++ x :: l2) = sigFirsts L (l1 ++ l2) := by
  by_cases hs : isSigType x.type = true
  · induction l1 generalizing L with
    | nil =>
      rcases hx with hx | ⟨k, hk, _⟩
      · rw [List.nil_append, List.nil_append, sigFirsts]
        simp only [hx, Bool.not_true, Bool.and_false, Bool.false_eq_true, ↓reduceIte]
      · cases hk
    | cons a l1 ih =>
      rw [List.cons_append, List.cons_append, sigFirsts, sigFirsts]
      by_cases hc : (isSigType a.type && !L.contains a.type) = true
      · simp only [hc, ↓reduceIte]
        rw [ih (a.type :: L)]
        rcases hx with hx | ⟨k, hk, hkt⟩
        · left; simp only [List.contains_cons, hx, Bool.or_true]
        · rcases List.mem_cons.mp hk with e | hin
          · left; subst e; simp only [List.contains_cons, hkt, BEq.rfl, Bool.true_or]
          · right; exact ⟨k, hin, hkt⟩
      · simp only [hc, Bool.false_eq_true, ↓reduceIte]
        rw [ih L]
        rcases hx with hx | ⟨k, hk, hkt⟩
        · left; exact hx
        · rcases List.mem_cons.mp hk with e | hin
          · left; subst e
            rw [hkt] at hc
            simp only [hs, Bool.true_and, Bool.not_eq_true', Bool.not_eq_false] at hc
            exact hc
          · right; exact ⟨k, hin, hkt⟩
  · exact sigFirsts_insert_nosig L l1 l2 x (by simpa using hs)

/-- the first occurrences are a sub-sequence of the view … -/
theorem sigFirsts_sublist (L : List Nat) (ks : List SigKey) : (sigFirsts L ks).Sublist ks := by
  induction ks generalizing L with
  | nil => exact List.Sublist.slnil
  | cons k rest ih =>
    rw [sigFirsts]
    split
    · exact (ih _).cons_cons k
    · exact (ih _).cons k

/-- … all of fingerprinted type … -/
theorem sigFirsts_isSig (L : List Nat) (ks : List SigKey) : ∀ k ∈ sigFirsts L ks, isSigType k.type = true :=
  fun k hk => (sigFirsts_mem L ks k hk).1

/-- … and for every fingerprinted type they contain exactly the FIRST entry of that type in the view -/
theorem sigFirsts_find (L : List Nat) (ks : List SigKey) (t : Nat) (ht : isSigType t = true)
    (hL : L.contains t = false) :
    (sigFirsts L ks).find? (fun k => k.type == t) = ks.find? (fun k => k.type == t) := by
  induction ks generalizing L with
  | nil => rfl
  | cons a rest ih =>
    rw [sigFirsts]
    by_cases hc : (isSigType a.type && !L.contains a.type) = true
    · simp only [hc, ↓reduceIte, List.find?_cons]
      cases hq : a.type == t
      · simp only
        apply ih
        simp only [List.contains_cons, hL, Bool.or_false]
        cases hq' : t == a.type
        · rfl
        · rw [beq_iff_eq.mp hq'] at hq; simp at hq
      · rfl
    · simp only [hc, Bool.false_eq_true, ↓reduceIte, List.find?_cons]
      have hq : (a.type == t) = false := by
        cases hq : a.type == t
        · rfl
        · rw [beq_iff_eq.mp hq, ht, hL] at hc; simp at hc
      simp only [hq]
      exact ih L hL

/-- at most one entry per type: no type occurs twice -/
theorem sigFirsts_pairwise (L : List Nat) (ks : List SigKey) :
    (sigFirsts L ks).Pairwise (fun a b => a.type ≠ b.type) := by
  induction ks generalizing L with
  | nil => exact List.Pairwise.nil
  | cons a rest ih =>
    rw [sigFirsts]
    split
    · refine List.Pairwise.cons ?_ (ih _)
      intro b hb e
      have := sigFirsts_not_seen (a.type :: L) rest b hb
      simp only [List.contains_cons, Bool.or_eq_false_iff] at this
      rw [e] at this; simp at this
    · exact ih _

/-! ### `getMsgSigCore` -/

/-- the loop's start state -/
def sigInit (method : Nat) (cid tag : Buf) : SigLoopSt :=
  { sig := { method := method, cidSig := (getCallIDSig cid).1, cidSLen := (getCallIDSig cid).2.1,
             fromSig := (getStrCharsSig tag 0 0).1 },
    pnc := (getCallIDSig cid).2.2 }

theorem getMsgSig_reply (m : PSIPMsg) (b : Buf) (h : m.request = false) :
    getMsgSigCore m b = ({}, .empty, false) := by
  unfold getMsgSigCore; simp [h]

theorem getMsgSig_request (m : PSIPMsg) (b : Buf) (h : m.request = true) (cid tag : Buf)
    (hc : m.pv.callid.callID.get? (b.extract 0 m.bufLen) = some cid)
    (ht : m.pv.from_.tag.get? (b.extract 0 m.bufLen) = some tag) :
    getMsgSigCore m b =
      ((msgSigLoop (b.extract 0 m.bufLen) m.hl.pflags m.hl.hdrs.toList (sigInit m.fl.methodNo cid tag)).1.sig,
       (if (msgSigLoop (b.extract 0 m.bufLen) m.hl.pflags m.hl.hdrs.toList (sigInit m.fl.methodNo cid tag)).2 = true
        then Err.ok else if m.hl.n > m.hl.hdrs.size then Err.trunc else Err.ok),
       (msgSigLoop (b.extract 0 m.bufLen) m.hl.pflags m.hl.hdrs.toList (sigInit m.fl.methodNo cid tag)).1.pnc) := by
  unfold getMsgSigCore
  simp only [h, Bool.not_true, Bool.false_eq_true, ↓reduceIte, hc, ht]
  show (match msgSigLoop (b.extract 0 m.bufLen) m.hl.pflags m.hl.hdrs.toList (sigInit m.fl.methodNo cid tag) with
        | (st, true) => (st.sig, Err.ok, st.pnc)
        | (st, false) => if m.hl.n > m.hl.hdrs.size then (st.sig, Err.trunc, st.pnc) else (st.sig, Err.ok, st.pnc)) = _
  rcases hq : msgSigLoop (b.extract 0 m.bufLen) m.hl.pflags m.hl.hdrs.toList (sigInit m.fl.methodNo cid tag)
    with ⟨st, ex⟩
  cases ex
  · simp only [Bool.false_eq_true, ↓reduceIte]
    split <;> rfl
  · simp only [↓reduceIte]

theorem getMsgSig_outside (m : PSIPMsg) (b : Buf) (h : m.request = true)
    (hc : m.pv.callid.callID.get? (b.extract 0 m.bufLen) = none ∨
          m.pv.from_.tag.get? (b.extract 0 m.bufLen) = none) :
    getMsgSigCore m b = ({}, .ok, true) := by
  unfold getMsgSigCore
  simp only [h, Bool.not_true, Bool.false_eq_true, ↓reduceIte]
  rcases hc with hc | hc
  · rw [hc]
  · rw [hc]
    cases m.pv.callid.callID.get? (b.extract 0 m.bufLen) <;> rfl

/-- the three ways `getMsgSigCore` ends: a reply; a request whose Call-ID or From-tag field lies outside `msg.Buf`
    (Go panics); a request with both fields inside, where the loop over the stored headers decides -/
theorem getMsgSigCore_cases (m : PSIPMsg) (b : Buf) :
    (m.request = false ∧ getMsgSigCore m b = ({}, .empty, false)) ∨
    (m.request = true ∧
      (m.pv.callid.callID.get? (b.extract 0 m.bufLen) = none ∨ m.pv.from_.tag.get? (b.extract 0 m.bufLen) = none) ∧
      getMsgSigCore m b = ({}, .ok, true)) ∨
    (m.request = true ∧ ∃ cid tag, m.pv.callid.callID.get? (b.extract 0 m.bufLen) = some cid ∧
      m.pv.from_.tag.get? (b.extract 0 m.bufLen) = some tag ∧
      getMsgSigCore m b =
        ((msgSigLoop (b.extract 0 m.bufLen) m.hl.pflags m.hl.hdrs.toList (sigInit m.fl.methodNo cid tag)).1.sig,
         (if (msgSigLoop (b.extract 0 m.bufLen) m.hl.pflags m.hl.hdrs.toList (sigInit m.fl.methodNo cid tag)).2 = true
          then Err.ok else if m.hl.n > m.hl.hdrs.size then Err.trunc else Err.ok),
         (msgSigLoop (b.extract 0 m.bufLen) m.hl.pflags m.hl.hdrs.toList (sigInit m.fl.methodNo cid tag)).1.pnc)) := by
  cases hr : m.request
  · exact Or.inl ⟨rfl, getMsgSig_reply m b hr⟩
  · cases hc : m.pv.callid.callID.get? (b.extract 0 m.bufLen) with
    | none => exact Or.inr (Or.inl ⟨rfl, Or.inl rfl, getMsgSig_outside m b hr (Or.inl hc)⟩)
    | some cid =>
      cases ht : m.pv.from_.tag.get? (b.extract 0 m.bufLen) with
      | none => exact Or.inr (Or.inl ⟨rfl, Or.inr rfl, getMsgSig_outside m b hr (Or.inr ht)⟩)
      | some tag => exact Or.inr (Or.inr ⟨rfl, cid, tag, rfl, rfl, getMsgSig_request m b hr cid tag hc ht⟩)

/-- an early exit is not affected by what follows in the array -/
theorem msgSigLoop_append_exit (mbuf : Buf) (pf : Nat) (hs extra : List Hdr) (st : SigLoopSt)
    (h : (msgSigLoop mbuf pf hs st).2 = true) :
    msgSigLoop mbuf pf (hs ++ extra) st = msgSigLoop mbuf pf hs st := by
  rw [msgSigLoop_append, if_pos h]

/-! ### entries are below 16 -/

theorem msgSigLoop_entries_lt (mbuf : Buf) (pf : Nat) (hs : List Hdr) (st : SigLoopSt)
    (h0 : ∀ e ∈ st.sig.hdrSig, e < 16) : ∀ e ∈ (msgSigLoop mbuf pf hs st).1.sig.hdrSig, e < 16 :=
  msgSigLoop_inv mbuf pf (J := fun st => ∀ e ∈ st.sig.hdrSig, e < 16) hs (fun h _ st h0 e he => by
    rcases List.mem_append.mp (show e ∈ st.sig.hdrSig ++ (hdrKey mbuf h).entry st.sig.method from he) with h1 | h1
    · exact h0 e h1
    · unfold SigKey.entry at h1
      split at h1
      · rename_i hc
        rw [List.mem_singleton.mp h1]
        exact sigEntry_lt _ _ (Bool.and_eq_true_iff.mp hc).1
      · cases h1) st h0

/-! ### the text rendering (`MsgSig.String()`) -/

/-- one value as `MsgSig.String()` prints it: a hex digit, preceded by `E` when the value does not fit one -/
def sigCh (v : Nat) : List Char := (if v ≥ 16 then ['E'] else []) ++ [hexDigit (v % 16)]

/-- the fixed 17-character tail `I cccc ll F ffff V vvvv` -/
def sigTail (s : MsgSig) : List Char :=
  ['I'] ++ hex4 s.cidSig ++ [hexDigit (s.cidSLen / 16 % 16), hexDigit (s.cidSLen % 16)] ++
    ['F'] ++ hex4 s.fromSig ++ ['V'] ++ hex4 s.viaBSig

theorem sigTail_length (s : MsgSig) : (sigTail s).length = 17 := by
  simp [sigTail, hex4]

theorem foldl_append_eq {α β : Type} (f : β → List α) (L : List β) (init : List α) :
    L.foldl (fun acc h => acc ++ f h) init = init ++ L.flatMap f := by
  induction L generalizing init with
  | nil => simp
  | cons a L ih => simp [ih]

theorem toStr_empty (s : MsgSig) (h : s.method = MUndef ∧ s.hdrSig = []) : s.toStr = "" := by
  unfold MsgSig.toStr
  simp [h.1, h.2]

theorem toStr_eq (s : MsgSig) (h : ¬ (s.method = MUndef ∧ s.hdrSig = [])) :
    s.toStr = String.ofList (sigCh s.method ++ s.hdrSig.flatMap sigCh ++ sigTail s) := by
  unfold MsgSig.toStr
  have hc : (s.method == MUndef && s.hdrSig.length == 0) = false := by
    cases hq : (s.method == MUndef && s.hdrSig.length == 0)
    · rfl
    · simp only [Bool.and_eq_true, beq_iff_eq, List.length_eq_zero_iff] at hq
      exact absurd hq h
  simp only [hc, Bool.false_eq_true, ↓reduceIte]
  have hf : (s.hdrSig.foldl (fun acc h => acc ++ (if h ≥ 16 then ['E'] else []) ++ [hexDigit (h % 16)]) [])
      = s.hdrSig.flatMap sigCh := by
    have := foldl_append_eq sigCh s.hdrSig []
    simp only [List.nil_append] at this
    rw [← this]
    congr 1
    funext acc h
    simp only [sigCh, List.append_assoc]
  rw [hf]
  simp only [sigCh, sigTail, List.append_assoc]

theorem hexDigit_mem (n : Nat) : hexDigit n ∈ "0123456789abcdef".toList := by
  unfold hexDigit
  have h : n % 16 < 16 := Nat.mod_lt _ (by decide)
  generalize n % 16 = k at h
  have : ∀ k, k < 16 → "0123456789abcdef".toList.getD k '0' ∈ "0123456789abcdef".toList := by decide
  exact this k h

theorem sigCh_small (v : Nat) (h : v < 16) : sigCh v = [hexDigit v] := by
  have : ¬ v ≥ 16 := by omega
  simp only [sigCh, this, ↓reduceIte, List.nil_append, Nat.mod_eq_of_lt h]

theorem flatMap_sigCh_small (L : List Nat) (h : ∀ e ∈ L, e < 16) : L.flatMap sigCh = L.map hexDigit := by
  induction L with
  | nil => rfl
  | cons a L ih =>
    rw [List.flatMap_cons, List.map_cons, sigCh_small a (h a List.mem_cons_self),
      ih (fun e he => h e (List.mem_cons_of_mem a he))]
    rfl

theorem sigCh_length (v : Nat) : 1 ≤ (sigCh v).length ∧ (sigCh v).length ≤ 2 := by
  unfold sigCh; split <;> simp

theorem flatMap_sigCh_length (L : List Nat) :
    L.length ≤ (L.flatMap sigCh).length ∧ (L.flatMap sigCh).length ≤ 2 * L.length := by
  induction L with
  | nil => simp
  | cons a L ih =>
    have := sigCh_length a
    simp only [List.flatMap_cons, List.length_append, List.length_cons]
    omega

/-! ### the factorisation of `getMsgSigCore` -/

theorem sigInit_inv (method : Nat) (cid tag : Buf) :
    (sigInit method cid tag).sig.hdrSig.length + unseenCount (sigInit method cid tag).seen ≤ 8 := by
  show 0 + unseenCount 0 ≤ 8
  decide

/-- the signature loop from its start state, as a function of the first occurrences in the view -/
theorem msgSigLoop_view (mbuf : Buf) (pf : Nat) (hs : List Hdr) (method : Nat) (cid tag : Buf)
    (hpf : FlagsCover pf hs) :
    (msgSigLoop mbuf pf hs (sigInit method cid tag)).1.sig =
      sigApply (sigFirsts [] (hs.map (hdrKey mbuf))) (sigInit method cid tag).sig ∧
    (msgSigLoop mbuf pf hs (sigInit method cid tag)).1.pnc =
      ((getCallIDSig cid).2.2 || (sigFirsts [] (hs.map (hdrKey mbuf))).any (fun k => k.viaPnc)) := by
  have h1 := msgSigLoop_eq_walk mbuf pf hs (sigInit method cid tag) (sigInit_inv method cid tag) hpf
  have h2 := sigWalk_spec (hs.map (hdrKey mbuf)) [] (sigInit method cid tag) SeenRel.init
  exact ⟨h1.1.trans h2.1, h1.2.trans h2.2⟩

/-- several non-fingerprinted entries at once -/
theorem sigFirsts_insert_nosig_list (L : List Nat) (l1 pad l2 : List SigKey)
    (hp : ∀ x ∈ pad, isSigType x.type = false) : sigFirsts L (l1 ++ pad ++ l2) = sigFirsts L (l1 ++ l2) := by
  rw [sigFirsts_filter L (l1 ++ pad ++ l2), sigFirsts_filter L (l1 ++ l2), List.filter_append, List.filter_append,
    List.filter_append]
  have : pad.filter (fun k => isSigType k.type) = [] := by
    rw [List.filter_eq_nil_iff]; intro x hx; rw [hp x hx]; simp
  rw [this, List.append_nil]

theorem hdrKey_congr (mbuf : Buf) (x x' : Hdr) (ht : x'.type = x.type)
    (hn : (x'.name.len == 1) = (x.name.len == 1))
    (hv : x.type = HdrVia → x'.val.get? mbuf = x.val.get? mbuf) : hdrKey mbuf x' = hdrKey mbuf x := by
  unfold hdrKey
  rw [ht, hn]
  by_cases h : (x.type == HdrVia) = true
  · simp only [h, ↓reduceIte, hv (beq_iff_eq.mp h)]
  · simp only [h, Bool.false_eq_true, ↓reduceIte]

/-- the loop reads nothing of the stored headers but their keys (no hypothesis on the flag word) -/
theorem msgSigLoop_congr_keys (mbuf mbuf' : Buf) (pf : Nat) (hs hs' : List Hdr) (st : SigLoopSt)
    (h : hs.map (hdrKey mbuf) = hs'.map (hdrKey mbuf')) :
    msgSigLoop mbuf pf hs st = msgSigLoop mbuf' pf hs' st := by
  induction hs generalizing hs' st with
  | nil =>
    cases hs' with
    | nil => rw [msgSigLoop, msgSigLoop]
    | cons a' r' => simp at h
  | cons a r ih =>
    cases hs' with
    | nil => simp at h
    | cons a' r' =>
      rw [List.map_cons, List.map_cons] at h
      injection h with hk htail
      have ht : a.type = a'.type := congrArg SigKey.type hk
      rw [msgSigLoop_cons, msgSigLoop_cons, ht, hk]
      split
      · split
        · rfl
        · split
          · rfl
          · exact ih _ _ htail
      · exact ih _ _ htail

/-! ### the flag word covers the stored headers: an invariant of ParseHeaders' bookkeeping -/

theorem acceptAll_clean (hl : HdrLst) (hs : List Hdr) (hc : HlsClean hl) : HlsClean (hl.acceptAll hs) := by
  induction hs generalizing hl with
  | nil => exact hc
  | cons h hs ih => rw [acceptAll_cons]; exact ih _ (accept_clean hl h hc).1

/-- the bookkeeping of ParseHeaders keeps the flag word covering the stored headers: accepting any sequence of
    headers into an empty, clean list and closing it with the end-of-block entry gives a covered list -/
theorem acceptAll_covered (hl : HdrLst) (hs : List Hdr) (h0 : hl.n = 0) (hp : hl.pflags < 65536)
    (hc : HlsClean hl) :
    FlagsCover ((hl.acceptAll hs).setCur { state := .fin }).pflags
      ((hl.acceptAll hs).setCur { state := .fin }).hdrs.toList := by
  intro h hh hsig
  rw [(hlSetCur_scalars _ _).1]
  have ht15 := isSigType_lt _ hsig
  rw [acceptAll_pflags hl hs h.type (by omega) hp]
  have hA := acceptAll_clean hl hs hc
  have hn : (hl.acceptAll hs).n = hs.length := by rw [acceptAll_n, h0]; omega
  have hsz := acceptAll_size hl hs
  obtain ⟨j, hj, hje⟩ := List.mem_iff_getElem.mp hh
  rw [Array.length_toList, hlSetCur_size] at hj
  have hje' : ((hl.acceptAll hs).setCur { state := .fin }).hdrs[j]! = h := by
    rw [← hje, Array.getElem_toList]
    exact getElem!_pos _ j (by rw [hlSetCur_size]; exact hj)
  rcases Nat.lt_trichotomy j (hl.acceptAll hs).n with hlt | heq | hgt
  · rw [hlSetCur_ne _ _ j (by omega)] at hje'
    have := acceptAll_stored hl hs j (by omega) (by rw [h0, ← hsz]; omega)
    rw [h0, Nat.zero_add] at this
    rw [this] at hje'
    have : hs.any (fun x => x.type == h.type) = true := by
      rw [List.any_eq_true]
      exact ⟨hs[j]'(by omega), List.getElem_mem _, by rw [hje']; simp⟩
    rw [this, Bool.or_true]
  · subst heq
    rw [hlSetCur_get_n _ _ hj] at hje'
    rw [← hje'] at hsig; cases hsig
  · rw [hlSetCur_ne _ _ j (by omega), hA.1 j hgt hj] at hje'
    rw [← hje'] at hsig; cases hsig

end Sipsp
