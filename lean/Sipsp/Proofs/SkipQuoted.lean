/-
  Sipsp.Proofs.SkipQuoted — L1 / L2 / progress for SkipQuoted; the well-formed quoted-string body `QBody`; every outcome of
  SkipQuoted with the text before it (`PVSq`, `pv_skipQuoted`), from which the facts its callers use are read off.
-/
import Sipsp.Proofs.RunLoop
import Sipsp.Model.Params

namespace Sipsp

theorem sq_stepStable (b s : Buf) : StepStable sqMachine b s := by
  intro i c st hb hne
  show sqStep (b ++ s) i c st = sqStep b i c st
  have hne' : ∀ o st', sqStep b i c st ≠ .done o .moreBytes st' := hne
  unfold sqStep at hne' ⊢
  by_cases h34 : (c == 34) = true
  · simp only [h34, if_true]
  · simp only [h34, Bool.false_eq_true, if_false] at hne' ⊢
    by_cases h92 : (c == 92) = true
    · simp only [h92, if_true] at hne' ⊢
      cases h1 : b[i+1]? with
      | none => rw [h1] at hne'; exact absurd rfl (hne' i ())
      | some c1 => rw [get?_app h1]
    · simp only [h92, Bool.false_eq_true, if_false]

theorem sq_eobMore (b : Buf) : EobMore sqMachine b := fun _ _ => rfl

theorem sq_eobRestart (b s : Buf) : EobRestart sqMachine b s := by
  intro i st o st' _ h; cases h; rfl

theorem sq_stepRestart (b s : Buf) : StepRestart sqMachine b s := by
  intro i c st o st' hb hs
  change sqStep b i c st = .done o .moreBytes st' at hs
  unfold sqStep at hs
  by_cases h34 : (c == 34) = true
  · simp only [h34, if_true] at hs; cases hs
  · simp only [h34, Bool.false_eq_true, if_false] at hs
    by_cases h92 : (c == 92) = true
    · simp only [h92, if_true] at hs
      cases h1 : b[i+1]? with
      | none => rw [h1] at hs; simp only [Step.done.injEq, true_and] at hs; obtain ⟨rfl, _⟩ := hs; rfl
      | some c1 => rw [h1] at hs; simp only at hs; split at hs <;> cases hs
    · simp only [h92, Bool.false_eq_true, if_false] at hs
      split at hs
      · cases hs
      · split at hs <;> cases hs

theorem sq_progress : Progress sqMachine := by
  intro b i c st i' st' hb hs
  change sqStep b i c st = .cont i' st' at hs
  unfold sqStep at hs
  repeat' (split at hs)
  all_goals (first | (cases hs; omega) | cases hs)

/-- **L1 for SkipQuoted** -/
theorem skipQuoted_stable (b s : Buf) (o : Nat) {o' : Nat} {e : Err}
    (h : skipQuoted b o = (o', e)) (he : e ≠ .moreBytes) : skipQuoted (b ++ s) o = (o', e) := by
  unfold skipQuoted at h ⊢
  rcases hr : runLoop sqMachine b o () with ⟨o1, e1, u⟩
  rw [hr] at h; simp only [Prod.mk.injEq] at h; obtain ⟨rfl, rfl⟩ := h
  rw [runLoop_stable sqMachine b s (sq_stepStable b s) (sq_eobMore b) o () hr he]

/-- **L2 for SkipQuoted** (it has no object: the continuation offset is the whole saved state) -/
theorem skipQuoted_resume (b s : Buf) (o : Nat) {o' : Nat}
    (h : skipQuoted b o = (o', Err.moreBytes)) : skipQuoted (b ++ s) o' = skipQuoted (b ++ s) o := by
  unfold skipQuoted at h ⊢
  rcases hr : runLoop sqMachine b o () with ⟨o1, e1, u⟩
  rw [hr] at h; simp only [Prod.mk.injEq] at h; obtain ⟨rfl, rfl⟩ := h
  rw [runLoop_resume sqMachine b s (sq_stepStable b s) (sq_stepRestart b s) (sq_eobRestart b s) o () hr]

/-! ### the well-formed body of a quoted string (`QBody`); `SkipQuoted` accepts it -/

/-- a byte that may stand unescaped inside a quoted string -/
def QPlain (c : UInt8) : Prop :=
  c ≠ 34 ∧ c ≠ 92 ∧ c ≠ 10 ∧ c ≠ 13 ∧ c ≠ 127 ∧ (c < 33 → c = 32 ∨ c = 9)

/-- the rest of a quoted string from `i` (after the opening quote) to `e` (after the closing quote): plain
    bytes and escape pairs `\x` (x not CR / LF), then the closing quote -/
inductive QBody (b : Buf) : Nat → Nat → Prop
  | close (i : Nat) : b[i]? = some 34 → QBody b i (i + 1)
  | plain (i e : Nat) (c : UInt8) : b[i]? = some c → QPlain c → QBody b (i + 1) e → QBody b i e
  | esc (i e : Nat) (c1 : UInt8) : b[i]? = some 92 → b[i + 1]? = some c1 → isCRLFch c1 = false →
      QBody b (i + 2) e → QBody b i e

theorem sqStep_plain {b : Buf} {i : Nat} {c : UInt8} (h : QPlain c) : sqStep b i c () = .cont (i + 1) () := by
  obtain ⟨h1, h2, h3, h4, h5, h6⟩ := h
  unfold sqStep
  have e1 : (c == 34) = false := by simpa using h1
  have e2 : (c == 92) = false := by simpa using h2
  have e3 : (c == 10 || c == 13 || c == 127) = false := by simp [h3, h4, h5]
  have e4 : (decide (c < 33) && c != 32 && c != 9) = false := by
    by_cases hc : c < 33
    · rcases h6 hc with h | h <;> (subst h; decide)
    · simp [hc]
  simp only [e1, e2, e3, e4, Bool.false_eq_true, ↓reduceIte]

/-- **`SkipQuoted` honours escapes**: on a well-formed quoted string it returns the offset after the closing
    quote -/
theorem skipQuoted_of_qbody {b : Buf} {i e : Nat} (h : QBody b i e) : skipQuoted b i = (e, .ok) := by
  have key : runLoop sqMachine b i () = (e, .ok, ()) := by
    induction h with
    | close i h0 =>
      exact runLoop_done sqMachine h0 (by show sqStep b i 34 () = _; unfold sqStep; simp)
    | plain i e c h0 hq _ ih =>
      rw [runLoop_cont_lt sqMachine h0 (sqStep_plain hq) (Nat.lt_succ_self i)]; exact ih
    | esc i e c1 h0 h1 hcr _ ih =>
      have hs : sqMachine.step b i 92 () = .cont (i + 2) () := by
        show sqStep b i 92 () = _
        unfold sqStep
        rw [h1]
        simp [hcr]
      rw [runLoop_cont_lt sqMachine h0 hs (by omega)]; exact ih
  unfold skipQuoted; rw [key]

theorem QBody.lt {b : Buf} {i e : Nat} (h : QBody b i e) : i < e := by
  induction h with
  | close i _ => omega
  | plain i e c _ _ _ ih => omega
  | esc i e c1 _ _ _ _ ih => omega

/-! ### every outcome of `SkipQuoted` -/

/-- a byte that may not stand unescaped inside a quoted string: CR, LF, DEL or a control byte other than SP / HT -/
def PVQBad (c : UInt8) : Prop := c = 10 ∨ c = 13 ∨ c = 127 ∨ (c < 33 ∧ c ≠ 32 ∧ c ≠ 9)

/-- the inside of a quoted string that is still open: plain bytes and complete escape pairs from `i` to `e` -/
inductive PVQPre (b : Buf) : Nat → Nat → Prop
  | nil (i : Nat) : PVQPre b i i
  | plain (i e : Nat) (c : UInt8) : b[i]? = some c → QPlain c → PVQPre b (i + 1) e → PVQPre b i e
  | esc (i e : Nat) (c1 : UInt8) : b[i]? = some 92 → b[i + 1]? = some c1 → isCRLFch c1 = false →
      PVQPre b (i + 2) e → PVQPre b i e

theorem PVQPre.le {b : Buf} {i e : Nat} (h : PVQPre b i e) : i ≤ e := by
  induction h with
  | nil i => exact Nat.le_refl _
  | plain i e c _ _ _ ih => omega
  | esc i e c1 _ _ _ _ ih => omega

/-- everything `SkipQuoted` (started at `i`, after the opening quote) can return: offset and verdict -/
inductive PVSq (b : Buf) (i : Nat) : Nat → Err → Prop
  | ok (n : Nat) : QBody b i n → PVSq b i n .ok
  | bad (n : Nat) (c : UInt8) : PVQPre b i n → b[n]? = some c → PVQBad c → PVSq b i n .badChar
  | badEsc (m : Nat) (c : UInt8) : PVQPre b i m → b[m]? = some 92 → b[m + 1]? = some c → isCRLFch c = true →
      PVSq b i (m + 1) .badChar
  | more (n : Nat) : PVQPre b i n → b[n]? = none → PVSq b i n .moreBytes
  | moreEsc (n : Nat) : PVQPre b i n → b[n]? = some 92 → b[n + 1]? = none → PVSq b i n .moreBytes

theorem PVSq.cons_plain {b : Buf} {i n : Nat} {e : Err} {c : UInt8} (h : PVSq b (i + 1) n e) (hb : b[i]? = some c)
    (hq : QPlain c) : PVSq b i n e := by
  cases h with
  | ok n' hqb => exact PVSq.ok n (QBody.plain i n c hb hq hqb)
  | bad n' c' hp hc hbad => exact PVSq.bad n c' (PVQPre.plain i n c hb hq hp) hc hbad
  | badEsc m c' hp h92 hc hcr => exact PVSq.badEsc m c' (PVQPre.plain i m c hb hq hp) h92 hc hcr
  | more n' hp hn => exact PVSq.more n (PVQPre.plain i n c hb hq hp) hn
  | moreEsc n' hp h92 hn => exact PVSq.moreEsc n (PVQPre.plain i n c hb hq hp) h92 hn

theorem PVSq.cons_esc {b : Buf} {i n : Nat} {e : Err} {c1 : UInt8} (h : PVSq b (i + 2) n e) (hb : b[i]? = some 92)
    (h1 : b[i + 1]? = some c1) (hcr : isCRLFch c1 = false) : PVSq b i n e := by
  cases h with
  | ok n' hqb => exact PVSq.ok n (QBody.esc i n c1 hb h1 hcr hqb)
  | bad n' c' hp hc hbad => exact PVSq.bad n c' (PVQPre.esc i n c1 hb h1 hcr hp) hc hbad
  | badEsc m c' hp h92 hc hcr' => exact PVSq.badEsc m c' (PVQPre.esc i m c1 hb h1 hcr hp) h92 hc hcr'
  | more n' hp hn => exact PVSq.more n (PVQPre.esc i n c1 hb h1 hcr hp) hn
  | moreEsc n' hp h92 hn => exact PVSq.moreEsc n (PVQPre.esc i n c1 hb h1 hcr hp) h92 hn

theorem sqStep_esc {b : Buf} {i : Nat} {c1 : UInt8} (h1 : b[i + 1]? = some c1) :
    sqStep b i 92 () = if isCRLFch c1 then .done (i + 1) .badChar () else .cont (i + 2) () := by
  unfold sqStep; rw [h1]; rfl

theorem pv_sqStep_bad {b : Buf} {i : Nat} {c : UInt8} (h : PVQBad c) : sqStep b i c () = .done i .badChar () := by
  unfold sqStep
  rcases h with h | h | h | ⟨h1, h2, h3⟩
  · subst h; rfl
  · subst h; rfl
  · subst h; rfl
  · have e34 : (c == 34) = false := by
      cases hc : c == 34 with
      | false => rfl
      | true => rw [beq_iff_eq] at hc; subst hc; exact absurd h1 (by decide)
    have e92 : (c == 92) = false := by
      cases hc : c == 92 with
      | false => rfl
      | true => rw [beq_iff_eq] at hc; subst hc; exact absurd h1 (by decide)
    have e4 : (decide (c < 33) && c != 32 && c != 9) = true := by simp [h1, h2, h3]
    simp only [e34, e92, e4, Bool.false_eq_true, ↓reduceIte]
    split <;> rfl

theorem pv_qbyte_cases (c : UInt8) : c = 34 ∨ c = 92 ∨ PVQBad c ∨ QPlain c := by
  by_cases h1 : c = 34
  · exact Or.inl h1
  by_cases h2 : c = 92
  · exact Or.inr (Or.inl h2)
  by_cases h3 : PVQBad c
  · exact Or.inr (Or.inr (Or.inl h3))
  refine Or.inr (Or.inr (Or.inr ⟨h1, h2, fun h => h3 (Or.inl h), fun h => h3 (Or.inr (Or.inl h)),
    fun h => h3 (Or.inr (Or.inr (Or.inl h))), fun hc => ?_⟩))
  by_cases h32 : c = 32
  · exact Or.inl h32
  by_cases h9 : c = 9
  · exact Or.inr h9
  exact absurd (Or.inr (Or.inr (Or.inr ⟨hc, h32, h9⟩))) h3

theorem pv_sq (b : Buf) {n : Nat} {e : Err} {u : Unit} :
    ∀ (k i : Nat), b.size - i = k → runLoop sqMachine b i () = (n, e, u) → PVSq b i n e := by
  intro k
  induction k using Nat.strongRecOn with
  | _ k ih =>
    intro i hk hr
    cases hb : b[i]? with
    | none =>
      rw [runLoop_none sqMachine () hb] at hr
      simp only [sqMachine, Prod.mk.injEq] at hr
      rw [← hr.1, ← hr.2.1]
      exact PVSq.more i (PVQPre.nil i) hb
    | some c =>
      have hlt := get?_lt hb
      have hdone : ∀ {o : Nat} {e' : Err}, sqStep b i c () = .done o e' () → n = o ∧ e = e' := by
        intro o e' hs
        rw [runLoop_done sqMachine hb hs] at hr
        simp only [Prod.mk.injEq] at hr
        exact ⟨hr.1.symm, hr.2.1.symm⟩
      rcases pv_qbyte_cases c with rfl | rfl | hbad | hq
      · obtain ⟨hn, he⟩ := hdone (o := i + 1) (e' := .ok) rfl
        rw [hn, he]
        exact .ok _ (.close i hb)
      · cases h1 : b[i + 1]? with
        | none =>
          obtain ⟨hn, he⟩ := hdone (o := i) (e' := .moreBytes) (by unfold sqStep; rw [h1]; rfl)
          rw [hn, he]
          exact .moreEsc i (.nil i) hb h1
        | some c1 =>
          have hs := sqStep_esc (i := i) h1
          by_cases hcr : isCRLFch c1 = true
          · rw [if_pos hcr] at hs
            obtain ⟨hn, he⟩ := hdone hs
            rw [hn, he]
            exact .badEsc i c1 (.nil i) hb h1 hcr
          · rw [if_neg hcr] at hs
            rw [runLoop_cont_lt sqMachine hb hs (by omega)] at hr
            have := get?_lt h1
            exact (ih _ (by omega) (i + 2) rfl hr).cons_esc hb h1 (eq_false_of_ne_true hcr)
      · obtain ⟨hn, he⟩ := hdone (pv_sqStep_bad hbad)
        rw [hn, he]
        exact .bad i c (.nil i) hb hbad
      · rw [runLoop_cont_lt sqMachine hb (sqStep_plain hq) (Nat.lt_succ_self i)] at hr
        exact (ih _ (by omega) (i + 1) rfl hr).cons_plain hb hq

/-- [C17] **every outcome of `SkipQuoted`**: `OK` after the closing quote of a well-formed body; `BadChar` AT a byte that may
    not stand unescaped (CR, LF, DEL, control bytes) or at a CR / LF that follows a backslash; `MoreBytes` at the end
    of the buffer or at a backslash that is the last byte — always after plain bytes and complete escape pairs -/
theorem pv_skipQuoted (b : Buf) (i : Nat) : PVSq b i (skipQuoted b i).1 (skipQuoted b i).2 := by
  unfold skipQuoted
  rcases hr : runLoop sqMachine b i () with ⟨o, e, u⟩
  exact pv_sq b _ i rfl hr

theorem sq_pre_run {b : Buf} {i n : Nat} (h : PVQPre b i n) : runLoop sqMachine b i () = runLoop sqMachine b n () := by
  induction h with
  | nil i => rfl
  | plain i e c h0 hq _ ih => rw [runLoop_cont_lt sqMachine h0 (sqStep_plain hq) (Nat.lt_succ_self i)]; exact ih
  | esc i e c1 h0 h1 hcr _ ih =>
    rw [runLoop_cont_lt sqMachine h0 ((sqStep_esc h1).trans (if_neg (by rw [hcr]; decide))) (by omega)]; exact ih

/-- the description determines the result: `skipQuoted b i = (n, e) ↔ PVSq b i n e` -/
theorem skipQuoted_of_out {b : Buf} {i n : Nat} {e : Err} (h : PVSq b i n e) : skipQuoted b i = (n, e) := by
  cases h with
  | ok _ hq => exact skipQuoted_of_qbody hq
  | bad _ c hp hc hbad => unfold skipQuoted; rw [sq_pre_run hp, runLoop_done sqMachine hc (pv_sqStep_bad hbad)]
  | badEsc m c hp h92 hc hcr =>
    unfold skipQuoted; rw [sq_pre_run hp, runLoop_done sqMachine h92 ((sqStep_esc hc).trans (if_pos hcr))]
  | more _ hp hn => unfold skipQuoted; rw [sq_pre_run hp, runLoop_none sqMachine () hn]; rfl
  | moreEsc _ hp h92 hn =>
    unfold skipQuoted
    rw [sq_pre_run hp, runLoop_done sqMachine h92 (show sqStep b n 92 () = .done n .moreBytes () by unfold sqStep; rw [hn]; rfl)]

theorem skipQuoted_out {b : Buf} {i n : Nat} {e : Err} (h : skipQuoted b i = (n, e)) : PVSq b i n e := by
  have := pv_skipQuoted b i
  rwa [h] at this

/-! what the callers of `SkipQuoted` use, read off `PVSq` -/

theorem QBody.last {b : Buf} {i e : Nat} (h : QBody b i e) : b[e - 1]? = some 34 := by
  induction h with
  | close i h0 => exact h0
  | plain _ _ _ _ _ _ ih => exact ih
  | esc _ _ _ _ _ _ _ ih => exact ih

theorem QBody.le_size {b : Buf} {i e : Nat} (h : QBody b i e) : e ≤ b.size := by
  induction h with
  | close i h0 => exact get?_lt h0
  | plain _ _ _ _ _ _ ih => exact ih
  | esc _ _ _ _ _ _ _ ih => exact ih

theorem QBody.first {b : Buf} {i e : Nat} (h : QBody b i e) : ∃ c, b[i]? = some c := by
  induction h with
  | close i h0 => exact ⟨_, h0⟩
  | plain i e c h0 _ _ _ => exact ⟨_, h0⟩
  | esc i e c1 h0 _ _ _ _ => exact ⟨_, h0⟩

theorem PVQPre.le_size {b : Buf} {i e : Nat} (h : PVQPre b i e) (hi : i ≤ b.size) : e ≤ b.size := by
  induction h with
  | nil i => exact hi
  | plain i e c h0 _ _ ih => exact ih (get?_lt h0)
  | esc i e c1 _ h1 _ _ ih => exact ih (get?_lt h1)

theorem skipQuoted_ok_qbody {b : Buf} {i n : Nat} (h : skipQuoted b i = (n, .ok)) : QBody b i n := by
  cases skipQuoted_out h; assumption

theorem skipQuoted_ok_gt (b : Buf) (i : Nat) {n : Nat} (h : skipQuoted b i = (n, Err.ok)) : i < n :=
  (skipQuoted_ok_qbody h).lt

theorem skipQuoted_range (b : Buf) (i : Nat) (hi : i ≤ b.size) {n : Nat} {e : Err}
    (h : skipQuoted b i = (n, e)) : i ≤ n ∧ n ≤ b.size := by
  cases skipQuoted_out h with
  | ok _ hq => exact ⟨Nat.le_of_lt hq.lt, hq.le_size⟩
  | bad _ c hp hc _ => exact ⟨hp.le, Nat.le_of_lt (get?_lt hc)⟩
  | badEsc m c hp _ hc _ => exact ⟨Nat.le_succ_of_le hp.le, Nat.le_of_lt (get?_lt hc)⟩
  | more _ hp _ => exact ⟨hp.le, hp.le_size hi⟩
  | moreEsc _ hp h92 _ => exact ⟨hp.le, Nat.le_of_lt (get?_lt h92)⟩

theorem skipQuoted_verdicts (b : Buf) (i : Nat) {n : Nat} {e : Err} (h : skipQuoted b i = (n, e)) :
    e = .moreBytes ∨ e = .badChar ∨ (e = .ok ∧ b[n - 1]? = some 34 ∧ 1 ≤ n) := by
  cases skipQuoted_out h with
  | ok _ hq => exact Or.inr (Or.inr ⟨rfl, hq.last, Nat.le_of_lt_succ (Nat.succ_lt_succ (Nat.lt_of_le_of_lt (Nat.zero_le i) hq.lt))⟩)
  | bad => exact Or.inr (Or.inl rfl)
  | badEsc => exact Or.inr (Or.inl rfl)
  | more => exact Or.inl rfl
  | moreEsc => exact Or.inl rfl

theorem skipQuoted_ok_prev (b : Buf) (i : Nat) {n : Nat} (h : skipQuoted b i = (n, Err.ok)) :
    b[n - 1]? = some 34 ∧ 1 ≤ n :=
  have hq := skipQuoted_ok_qbody h
  ⟨hq.last, Nat.lt_of_le_of_lt (Nat.zero_le i) hq.lt⟩

theorem skipQuoted_ne_moreValues (b : Buf) (i : Nat) {n : Nat} : skipQuoted b i ≠ (n, Err.moreValues) :=
  fun h => nomatch skipQuoted_out h

theorem skipQuoted_ok_le (b : Buf) (i : Nat) {n : Nat} (h : skipQuoted b i = (n, Err.ok)) : n ≤ b.size :=
  (skipQuoted_ok_qbody h).le_size

theorem skipQuoted_ok_first (b : Buf) (i : Nat) {n : Nat} (h : skipQuoted b i = (n, Err.ok)) :
    ∃ c, b[i]? = some c :=
  (skipQuoted_ok_qbody h).first

end Sipsp
