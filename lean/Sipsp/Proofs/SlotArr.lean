/-
  Sipsp.Proofs.SlotArr — the array with an overflow slot that the list objects of the parser share
  (`Vals`/`Params`/`Hdrs` + `N` + `last`/`tmp`/`hdr` in the Go structures): the element being filled is `arr[n]` while
  the caller's array has room and the overflow slot afterwards.  `cur` / `setCur` have the shape of the model's
  `X.cur` / `X.setCur`; `push z` is "store the finished element, count it, clear the overflow slot if it was used";
  `Clean z` is the state in which the slots not yet used hold the zero value `z` (`TailZero`: its clause about the
  array alone, the one `clearUpToP` of Reset needs); `Agree` relates two objects of different capacities that hold the
  same stored elements.
-/
import Sipsp.Model.Params

namespace Sipsp

theorem set!_getElem!_self {ε : Type} [Inhabited ε] (a : Array ε) (n : Nat) (h : n < a.size) : a.set! n a[n]! = a := by
  apply Array.ext_getElem?
  intro i
  simp only [Array.set!_eq_setIfInBounds, Array.getElem?_setIfInBounds]
  split
  · rename_i hni; subst hni; rw [getElem!_pos a n h, Array.getElem?_eq_getElem h]
  · rfl

structure SlotArr (ε : Type) where
  arr : Array ε
  n : Nat
  tmp : ε

namespace SlotArr

section
variable {ε : Type}

def setCur (s : SlotArr ε) (p : ε) : SlotArr ε :=
  if s.n < s.arr.size then { s with arr := s.arr.set! s.n p } else { s with tmp := p }

def push (z : ε) (s : SlotArr ε) (x : ε) : SlotArr ε :=
  if s.n < s.arr.size then { s.setCur x with n := s.n + 1 } else { s.setCur x with n := s.n + 1, tmp := z }

theorem setCur_n (s : SlotArr ε) (p : ε) : (s.setCur p).n = s.n := by unfold setCur; split <;> rfl

theorem setCur_size (s : SlotArr ε) (p : ε) : (s.setCur p).arr.size = s.arr.size := by
  unfold setCur; split
  · simp
  · rfl

theorem setCur_tmp_in (s : SlotArr ε) (p : ε) (h : s.n < s.arr.size) : (s.setCur p).tmp = s.tmp := by
  unfold setCur; rw [if_pos h]

theorem setCur_tmp_out (s : SlotArr ε) (p : ε) (h : ¬ s.n < s.arr.size) : (s.setCur p).tmp = p := by
  unfold setCur; rw [if_neg h]

theorem setCur_setCur (s : SlotArr ε) (p q : ε) : (s.setCur p).setCur q = s.setCur q := by
  unfold setCur
  split
  · rename_i h
    have h' : s.n < (s.arr.set! s.n p).size := by simpa using h
    simp only [h', ↓reduceIte]
    simp [Array.setIfInBounds_setIfInBounds]
  · rfl

theorem push_n (z : ε) (s : SlotArr ε) (x : ε) : (push z s x).n = s.n + 1 := by unfold push; split <;> rfl

theorem push_arr (z : ε) (s : SlotArr ε) (x : ε) : (push z s x).arr = (s.setCur x).arr := by
  unfold push; split <;> rfl

theorem push_size (z : ε) (s : SlotArr ε) (x : ε) : (push z s x).arr.size = s.arr.size := by
  rw [push_arr, setCur_size]

theorem push_tmp_in (z : ε) (s : SlotArr ε) (x : ε) (h : s.n < s.arr.size) : (push z s x).tmp = s.tmp := by
  unfold push; rw [if_pos h]; exact setCur_tmp_in s x h

theorem push_tmp_out (z : ε) (s : SlotArr ε) (x : ε) (h : ¬ s.n < s.arr.size) : (push z s x).tmp = z := by
  unfold push; rw [if_neg h]

theorem push_get?_ne (z : ε) (s : SlotArr ε) (x : ε) (j : Nat) (h : j ≠ s.n) : (push z s x).arr[j]? = s.arr[j]? := by
  rw [push_arr]; unfold setCur; split
  · simp only [Array.set!_eq_setIfInBounds]; exact Array.getElem?_setIfInBounds_ne (Ne.symm h)
  · rfl

theorem push_get?_self (z : ε) (s : SlotArr ε) (x : ε) (h : s.n < s.arr.size) : (push z s x).arr[s.n]? = some x := by
  rw [push_arr]; unfold setCur; rw [if_pos h]
  simp only [Array.set!_eq_setIfInBounds, Array.getElem?_setIfInBounds, if_true, h]

/-! what a sequence of stored elements leaves: they sit in order from the slot that was current, as far as the array
    reaches; the slots before it are untouched -/

theorem foldl_push_n (z : ε) (items : List ε) (s : SlotArr ε) : (items.foldl (push z) s).n = s.n + items.length := by
  induction items generalizing s with
  | nil => rfl
  | cons x xs ih => simp only [List.foldl_cons, List.length_cons, ih, push_n]; omega

theorem foldl_push_size (z : ε) (items : List ε) (s : SlotArr ε) : (items.foldl (push z) s).arr.size = s.arr.size := by
  induction items generalizing s with
  | nil => rfl
  | cons x xs ih => simp only [List.foldl_cons, ih, push_size]

theorem foldl_push_get_lt (z : ε) (items : List ε) (s : SlotArr ε) (j : Nat) (h : j < s.n) :
    (items.foldl (push z) s).arr[j]? = s.arr[j]? := by
  induction items generalizing s with
  | nil => rfl
  | cons x xs ih =>
    simp only [List.foldl_cons]
    rw [ih (push z s x) (by rw [push_n]; omega), push_get?_ne z s x j (by omega)]

theorem foldl_push_get (z : ε) (items : List ε) (s : SlotArr ε) (i : Nat) (x : ε)
    (hi : items[i]? = some x) (hcap : s.n + i < s.arr.size) : (items.foldl (push z) s).arr[s.n + i]? = some x := by
  induction items generalizing s i with
  | nil => simp at hi
  | cons y ys ih =>
    simp only [List.foldl_cons]
    cases i with
    | zero =>
      simp only [List.getElem?_cons_zero, Option.some.injEq] at hi
      subst hi
      rw [Nat.add_zero, foldl_push_get_lt z ys (push z s y) s.n (by rw [push_n]; omega), push_get?_self z s y (by omega)]
    | succ k =>
      simp only [List.getElem?_cons_succ] at hi
      have := ih (push z s y) k hi (by rw [push_n, push_size]; omega)
      rw [push_n] at this
      rw [show s.n + (k + 1) = s.n + 1 + k by omega]; exact this

end

variable {ε : Type} [Inhabited ε]

def cur (s : SlotArr ε) : ε := if s.n < s.arr.size then s.arr[s.n]! else s.tmp

theorem cur_lt (s : SlotArr ε) (h : s.n < s.arr.size) : s.cur = s.arr[s.n]! := if_pos h

theorem cur_ge (s : SlotArr ε) (h : ¬ s.n < s.arr.size) : s.cur = s.tmp := if_neg h

/-- the slots above the current one hold `z`, and so does the overflow slot while the array has room -/
def Clean (z : ε) (s : SlotArr ε) : Prop :=
  (∀ k, s.n < k → k < s.arr.size → s.arr[k]! = z) ∧ (s.n < s.arr.size → s.tmp = z)

theorem setCur_get_ne (s : SlotArr ε) (p : ε) (k : Nat) (hk : s.n ≠ k) : (s.setCur p).arr[k]! = s.arr[k]! := by
  unfold setCur; split
  · simp [Array.getElem!_eq_getD, Array.getD_eq_getD_getElem?, Array.getElem?_setIfInBounds_ne hk]
  · rfl

theorem setCur_get_n (s : SlotArr ε) (p : ε) (h : s.n < s.arr.size) : (s.setCur p).arr[s.n]! = p := by
  unfold setCur; rw [if_pos h]; simp [h]

theorem cur_setCur (s : SlotArr ε) (p : ε) : (s.setCur p).cur = p := by
  by_cases h : s.n < s.arr.size
  · rw [cur_lt _ (by rw [setCur_n, setCur_size]; exact h), setCur_n]; exact setCur_get_n s p h
  · rw [cur_ge _ (by rw [setCur_n, setCur_size]; exact h)]; exact setCur_tmp_out s p h

theorem setCur_cur (s : SlotArr ε) : s.setCur s.cur = s := by
  unfold setCur cur
  split <;> rename_i h
  · rw [set!_getElem!_self _ _ h]
  · rfl

theorem push_get_ne (z : ε) (s : SlotArr ε) (x : ε) (k : Nat) (hk : s.n ≠ k) : (push z s x).arr[k]! = s.arr[k]! := by
  rw [push_arr, setCur_get_ne s x k hk]

theorem Clean.setCur {z : ε} {s : SlotArr ε} (p : ε) (h : Clean z s) : Clean z (s.setCur p) := by
  refine ⟨fun k h1 h2 => ?_, fun h1 => ?_⟩
  · rw [setCur_n] at h1; rw [setCur_size] at h2
    rw [setCur_get_ne s p k (by omega)]; exact h.1 k h1 h2
  · rw [setCur_n, setCur_size] at h1
    rw [setCur_tmp_in s p h1]; exact h.2 h1

theorem Clean.push {z : ε} {s : SlotArr ε} (x : ε) (h : Clean z s) : Clean z (SlotArr.push z s x) := by
  refine ⟨fun k h1 h2 => ?_, fun h1 => ?_⟩
  · rw [push_n] at h1; rw [push_size] at h2
    rw [push_get_ne z s x k (by omega)]; exact h.1 k (by omega) h2
  · rw [push_n, push_size] at h1
    rw [push_tmp_in z s x (by omega)]; exact h.2 (by omega)

/-- after a finished element the next slot is a zero value -/
theorem Clean.cur_push {z : ε} {s : SlotArr ε} (x : ε) (h : Clean z s) : (SlotArr.push z s x).cur = z := by
  by_cases hnx : s.n + 1 < s.arr.size
  · rw [cur_lt _ (by rw [push_n, push_size]; exact hnx), push_n, push_get_ne z s x _ (by omega)]
    exact h.1 _ (by omega) hnx
  · rw [cur_ge _ (by rw [push_n, push_size]; exact hnx)]
    by_cases hin : s.n < s.arr.size
    · rw [push_tmp_in z s x hin]; exact h.2 hin
    · exact push_tmp_out z s x hin

/-- two objects (of possibly different capacities) hold the same number of stored elements, and the same element in
    every slot below it that both arrays have -/
def Agree (s1 s2 : SlotArr ε) : Prop :=
  s1.n = s2.n ∧ ∀ k, k < s1.n → k < s1.arr.size → k < s2.arr.size → s1.arr[k]! = s2.arr[k]!

/-- after the same element went into both current slots they agree up to and including that slot -/
theorem Agree.setCur_get {s1 s2 : SlotArr ε} (h : Agree s1 s2) (p : ε) (k : Nat) (hk : k ≤ s1.n)
    (h1 : k < s1.arr.size) (h2 : k < s2.arr.size) : (s1.setCur p).arr[k]! = (s2.setCur p).arr[k]! := by
  by_cases hkn : k = s1.n
  · subst hkn
    rw [setCur_get_n s1 p h1]
    rw [h.1] at h2 ⊢
    rw [setCur_get_n s2 p h2]
  · rw [setCur_get_ne s1 p k (by omega), setCur_get_ne s2 p k (by rw [← h.1]; omega)]
    exact h.2 k (by omega) h1 h2

theorem Agree.setCur {s1 s2 : SlotArr ε} (h : Agree s1 s2) (p : ε) : Agree (s1.setCur p) (s2.setCur p) := by
  refine ⟨by rw [setCur_n, setCur_n, h.1], fun k hk h1 h2 => ?_⟩
  rw [setCur_n] at hk; rw [setCur_size] at h1 h2
  exact h.setCur_get p k (by omega) h1 h2

theorem Agree.push {s1 s2 : SlotArr ε} (h : Agree s1 s2) (z x : ε) :
    Agree (SlotArr.push z s1 x) (SlotArr.push z s2 x) := by
  refine ⟨by rw [push_n, push_n, h.1], fun k hk h1 h2 => ?_⟩
  rw [push_n] at hk; rw [push_size] at h1 h2
  rw [push_arr, push_arr]
  exact h.setCur_get x k (by omega) h1 h2

theorem clean_replicate (z : ε) (k : Nat) : Clean z ⟨Array.replicate k z, 0, z⟩ :=
  ⟨fun j _ hj => by simp only [Array.size_replicate] at hj; simp [hj], fun _ => rfl⟩

theorem cur_replicate (z : ε) (k : Nat) : (⟨Array.replicate k z, 0, z⟩ : SlotArr ε).cur = z := by
  unfold cur; split
  · rename_i h; simp only [Array.size_replicate] at h; simp [h]
  · rfl

/-- a clean object whose current slot is a zero value, said slot by slot: every slot from the current one on holds
    `z`, and so does the overflow slot -/
theorem clean_cur_iff (z : ε) (s : SlotArr ε) :
    Clean z s ∧ s.cur = z ↔ (∀ i x, s.n ≤ i → s.arr[i]? = some x → x = z) ∧ s.tmp = z := by
  constructor
  · rintro ⟨h, hc⟩
    refine ⟨fun i x hi hx => ?_, ?_⟩
    · obtain ⟨hlt, rfl⟩ := Array.getElem?_eq_some_iff.1 hx
      rw [← getElem!_pos s.arr i hlt]
      rcases Nat.lt_or_eq_of_le hi with h1 | rfl
      · exact h.1 i h1 hlt
      · rwa [cur_lt s hlt] at hc
    · by_cases hin : s.n < s.arr.size
      · exact h.2 hin
      · rwa [cur_ge s hin] at hc
  · rintro ⟨h1, h2⟩
    have hget : ∀ k, s.n ≤ k → k < s.arr.size → s.arr[k]! = z := fun k hk hs => by
      rw [getElem!_pos s.arr k hs]; exact h1 k _ hk (Array.getElem?_eq_getElem hs)
    refine ⟨⟨fun k hk hs => hget k (by omega) hs, fun _ => h2⟩, ?_⟩
    by_cases hin : s.n < s.arr.size
    · rw [cur_lt s hin]; exact hget _ (Nat.le_refl _) hin
    · rw [cur_ge s hin]; exact h2

/-- every slot of the array and the overflow slot satisfy `P` -/
def All (P : ε → Prop) (s : SlotArr ε) : Prop := (∀ k, k < s.arr.size → P s.arr[k]!) ∧ P s.tmp

theorem All.imp {P Q : ε → Prop} {s : SlotArr ε} (h : All P s) (hpq : ∀ x, P x → Q x) : All Q s :=
  ⟨fun k hk => hpq _ (h.1 k hk), hpq _ h.2⟩

theorem All.cur {P : ε → Prop} {s : SlotArr ε} (h : All P s) : P s.cur := by
  by_cases hin : s.n < s.arr.size
  · rw [SlotArr.cur_lt s hin]; exact h.1 _ hin
  · rw [SlotArr.cur_ge s hin]; exact h.2

theorem All.setCur {P : ε → Prop} {s : SlotArr ε} (h : All P s) {p : ε} (hp : P p) : All P (s.setCur p) := by
  refine ⟨fun k hk => ?_, ?_⟩
  · rw [setCur_size] at hk
    by_cases hkn : s.n = k
    · subst hkn; rw [setCur_get_n s p hk]; exact hp
    · rw [setCur_get_ne s p k hkn]; exact h.1 k hk
  · by_cases hin : s.n < s.arr.size
    · rw [setCur_tmp_in s p hin]; exact h.2
    · rw [setCur_tmp_out s p hin]; exact hp

theorem All.push {P : ε → Prop} {z : ε} {s : SlotArr ε} (h : All P s) {x : ε} (hx : P x) (hz : P z) :
    All P (SlotArr.push z s x) := by
  refine ⟨fun k hk => ?_, ?_⟩
  · rw [push_arr] at hk ⊢; exact (h.setCur hx).1 k hk
  · by_cases hin : s.n < s.arr.size
    · rw [push_tmp_in z s x hin]; exact h.2
    · rw [push_tmp_out z s x hin]; exact hz

theorem all_replicate {P : ε → Prop} {z : ε} (hz : P z) (k n : Nat) : All P ⟨Array.replicate k z, n, z⟩ :=
  ⟨fun j hj => by simp only [Array.size_replicate] at hj; simp only [hj, Array.getElem!_eq_getD, Array.getD_eq_getD_getElem?,
    Array.getElem?_replicate, if_true, Option.getD_some]; exact hz, hz⟩

end SlotArr

/-! ### the tail of the array above the slot in progress: `clearUpToP` restores the cleared array -/

/-- entries above index `n` are still in their initial state `z` -/
def TailZero {α : Type} (a : Array α) (z : α) (n : Nat) : Prop := ∀ k, n < k → ∀ h : k < a.size, a[k] = z

theorem tailZero_new {α : Type} (z : α) (cap n : Nat) : TailZero (Array.replicate cap z) z n := by
  intro k _ h; simp

/-- writing the entry in progress (index `n`) keeps the tail clean -/
theorem tailZero_set {α : Type} (a : Array α) (z x : α) (n : Nat) (h : TailZero a z n) :
    TailZero (a.set! n x) z n := by
  intro k hk hs
  have hs' : k < a.size := by simpa using hs
  simp only [Array.set!_eq_setIfInBounds]
  rw [Array.getElem_setIfInBounds_ne hs' (Nat.ne_of_lt hk)]
  exact h k hk hs'

theorem tailZero_mono {α : Type} (a : Array α) (z : α) (n m : Nat) (hnm : n ≤ m) (h : TailZero a z n) :
    TailZero a z m := fun k hk hs => h k (by omega) hs

theorem foldl_setz_size {α : Type} (z : α) (l : List Nat) (a : Array α) :
    (l.foldl (fun acc i => acc.set! i z) a).size = a.size := by
  induction l generalizing a with
  | nil => rfl
  | cons x xs ih => simp only [List.foldl_cons]; rw [ih]; simp

theorem foldl_setz_get {α : Type} (z : α) (l : List Nat) (a : Array α) (k : Nat) (h : k < a.size) :
    (l.foldl (fun acc i => acc.set! i z) a)[k]'(by rw [foldl_setz_size]; exact h) = if k ∈ l then z else a[k] := by
  induction l generalizing a with
  | nil => simp
  | cons x xs ih =>
    simp only [List.foldl_cons]
    have hs : k < (a.set! x z).size := by simp [h]
    rw [ih (a.set! x z) hs]
    by_cases hk : k ∈ xs
    · simp [hk]
    · simp only [hk, if_false, List.mem_cons, or_false]
      by_cases hx : k = x
      · subst hx; simp [Array.set!_eq_setIfInBounds]
      · simp only [hx, if_false, Array.set!_eq_setIfInBounds]
        rw [Array.getElem_setIfInBounds_ne]
        exact fun hh => hx hh.symm

/-- clearing `0..n` of an array whose tail is clean gives the all-clean array of the same size -/
theorem clearUpToP_of_tailZero {α : Type} (a : Array α) (z : α) (n : Nat) (h : TailZero a z n) :
    clearUpToP a z n = Array.replicate a.size z := by
  unfold clearUpToP
  apply Array.ext
  · rw [foldl_setz_size]; simp
  · intro k h1 h2
    have hk : k < a.size := by rw [foldl_setz_size] at h1; exact h1
    rw [foldl_setz_get z _ a k hk]
    simp only [List.mem_range, Array.getElem_replicate]
    split
    · rfl
    · rename_i hn
      exact h k (by omega) hk

theorem SlotArr.Clean.tailZero {ε : Type} [Inhabited ε] {z : ε} {s : SlotArr ε} (h : SlotArr.Clean z s) :
    TailZero s.arr z s.n :=
  fun k hk hs => by have := h.1 k hk hs; rwa [getElem!_pos s.arr k hs] at this

/-- an invariant of the step function is an invariant of the fold -/
theorem foldl_inv {α β : Type} (I : β → Prop) (f : β → α → β) (hf : ∀ l x, I l → I (f l x)) :
    ∀ (hs : List α) (l0 : β), I l0 → I (hs.foldl f l0)
  | [], _, h => h
  | _ :: xs, _, h => foldl_inv I f hf xs _ (hf _ _ h)

/-- `SlotArr.cur` (written out: `vals[n]`, or the spare element when the array is full) of an object whose elements
    have all been translated by `f` -/
theorem slot_map {α : Type} [Inhabited α] (f : α → α) (v : Array α) (n : Nat) (l : α) :
    (if n < (v.map f).size then (v.map f)[n]! else f l) = f (if n < v.size then v[n]! else l) := by
  rw [Array.size_map]
  split
  · rename_i h; simp [h]
  · rfl

end Sipsp
