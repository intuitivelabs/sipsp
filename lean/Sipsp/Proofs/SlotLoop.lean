/-
  Sipsp.Proofs.SlotLoop — the element loop of ParseAllURIParams and of ParseAllURIHdrs is one loop, `slotLoop O`,
  over a list object with a current slot (`SlotOps L ε`: `L` the list object, `ε` its element type).  What differs
  between the two is given as functions: how the token-parameter object sits inside an element (`tok`, `withTok`),
  the finished element made from it (`fin`, which for URI parameters resolves the name and can fail), and what a
  failure does to the object (`panic`).  The model loops are `slotLoop pOps` / `slotLoop hOps`: a property of both is
  proved once for `slotLoop O` and instantiated twice.
-/
import Sipsp.Model.Params
import Sipsp.Proofs.SlotArr

namespace Sipsp

theorem acc_split {e : Err} (h : e = .ok ∨ e = .moreValues ∨ e = .eoh) : e = .moreValues ∨ (e = .ok ∨ e = .eoh) :=
  h.elim (fun h => Or.inr (Or.inl h)) (fun h => h.elim Or.inl (fun h => Or.inr (Or.inr h)))

structure SlotOps (L ε : Type) where
  cur : L → ε
  setCur : L → ε → L
  /-- store a finished element in the current slot and move on -/
  next : L → ε → L
  /-- what is done to the object when `fin` fails -/
  panic : L → L
  tok : ε → PTokParam
  withTok : ε → PTokParam → ε
  zero : ε
  /-- the finished element made from the token-parameter object -/
  fin : Buf → PTokParam → Option ε

/-- the loops `uriParamsLoop` / `uriHdrsLoop` of Model/Params.lean over `SlotOps`. The guard of the recursive call is the
    model's termination argument (the Go `for` loop has none): the loop goes on when the offset has moved, or — a resumed
    call that was suspended right after a separator reports MoreValues at its own start offset — when the element in
    progress leaves the state `fNxt`; otherwise the artefact verdict `lbug` (never returned: `slotLoop_ne_lbug`, UriListsL) -/
def slotLoop {L ε : Type} (O : SlotOps L ε) (b : Buf) (offs : Nat) (l : L) (flags vNo : Nat) : Nat × Nat × Err × L :=
  match parseTokenParam b offs (O.tok (O.cur l)) flags with
  | (next, e, tp) =>
    if e == .ok || e == .moreValues || e == .eoh then
      match O.fin b tp with
      | none => (next, vNo, e, O.panic (O.setCur l (O.withTok (O.cur l) tp)))
      | some x =>
        if e == .moreValues then
          if next ≤ b.size ∧ (offs < next ∨ (offs = next ∧ (O.tok (O.cur l)).state = .fNxt ∧
              (O.tok (O.cur (O.next l x))).state ≠ .fNxt)) then
            slotLoop O b next (O.next l x) flags (vNo + 1)
          else (next, vNo + 1, .lbug, O.next l x)
        else (next, vNo + 1, e, O.next l x)
    else if e == .moreBytes then (next, vNo, e, O.setCur l (O.withTok (O.cur l) tp))
    else (next, vNo, e, O.setCur l O.zero)
termination_by 2 * (b.size - offs) + (if (O.tok (O.cur l)).state = .fNxt then 1 else 0)
decreasing_by
  rename_i h
  rcases h with ⟨h1, h2 | ⟨h2, h3, h4⟩⟩
  · split <;> split <;> omega
  · subst h2; rw [if_pos h3, if_neg h4]; omega

section
variable {L ε : Type} {O : SlotOps L ε} {b : Buf} {offs : Nat} {l : L} {flags vNo next : Nat} {e : Err}
  {tp : PTokParam} {x : ε}

theorem slotLoop_eq_more (hp : parseTokenParam b offs (O.tok (O.cur l)) flags = (next, .moreBytes, tp)) :
    slotLoop O b offs l flags vNo = (next, vNo, .moreBytes, O.setCur l (O.withTok (O.cur l) tp)) := by
  rw [slotLoop, hp]; rfl

theorem slotLoop_other (hp : parseTokenParam b offs (O.tok (O.cur l)) flags = (next, e, tp))
    (hc : ¬ (e = .ok ∨ e = .moreValues ∨ e = .eoh)) (hm : e ≠ .moreBytes) :
    slotLoop O b offs l flags vNo = (next, vNo, e, O.setCur l O.zero) := by
  rw [slotLoop, hp]
  cases e <;> first | rfl | exact absurd rfl hm | exact absurd (by simp) hc

theorem slotLoop_panic (hp : parseTokenParam b offs (O.tok (O.cur l)) flags = (next, e, tp))
    (he : e = .ok ∨ e = .moreValues ∨ e = .eoh) (hg : O.fin b tp = none) :
    slotLoop O b offs l flags vNo = (next, vNo, e, O.panic (O.setCur l (O.withTok (O.cur l) tp))) := by
  rw [slotLoop, hp]
  rcases he with rfl | rfl | rfl <;> simp only [hg] <;> rfl

theorem slotLoop_eq_last (hp : parseTokenParam b offs (O.tok (O.cur l)) flags = (next, e, tp))
    (he : e = .ok ∨ e = .eoh) (hg : O.fin b tp = some x) :
    slotLoop O b offs l flags vNo = (next, vNo + 1, e, O.next l x) := by
  rw [slotLoop, hp]
  rcases he with rfl | rfl <;> simp only [hg] <;> rfl

theorem slotLoop_mv (hp : parseTokenParam b offs (O.tok (O.cur l)) flags = (next, .moreValues, tp))
    (hg : O.fin b tp = some x) :
    slotLoop O b offs l flags vNo =
      if next ≤ b.size ∧ (offs < next ∨ (offs = next ∧ (O.tok (O.cur l)).state = .fNxt ∧
          (O.tok (O.cur (O.next l x))).state ≠ .fNxt)) then
        slotLoop O b next (O.next l x) flags (vNo + 1)
      else (next, vNo + 1, .lbug, O.next l x) := by
  rw [slotLoop, hp]
  simp only [hg]
  rfl

end

section
variable {L ε : Type}

/-- induction along the elements of the list -/
theorem slotLoop_induct (O : SlotOps L ε) (b : Buf) (flags : Nat) (motive : Nat → L → Nat → Prop)
    (step : ∀ offs l vNo,
      (∀ next tp x, parseTokenParam b offs (O.tok (O.cur l)) flags = (next, .moreValues, tp) → O.fin b tp = some x →
        next ≤ b.size ∧ (offs < next ∨ (offs = next ∧ (O.tok (O.cur l)).state = .fNxt ∧
          (O.tok (O.cur (O.next l x))).state ≠ .fNxt)) →
        motive next (O.next l x) (vNo + 1)) → motive offs l vNo)
    (offs : Nat) (l : L) (vNo : Nat) : motive offs l vNo := by
  induction hk : 2 * (b.size - offs) + (if (O.tok (O.cur l)).state = .fNxt then 1 else 0) using Nat.strongRecOn
    generalizing offs l vNo with
  | _ k ih =>
    refine step offs l vNo (fun next tp x _ _ hgd => ih _ ?_ next _ (vNo + 1) rfl)
    subst hk
    rcases hgd with ⟨h1, h2 | ⟨h2, h3, h4⟩⟩
    · split <;> split <;> omega
    · subst h2; rw [if_pos h3, if_neg h4]; omega

/-- every way the loop returns, and its recursive call: a statement about a call and its result follows from the
    five exits and the step -/
theorem slotLoop_cases (O : SlotOps L ε) (b : Buf) (flags : Nat) (motive : Nat → L → Nat → Nat × Nat × Err × L → Prop)
    (more : ∀ offs l vNo next tp, parseTokenParam b offs (O.tok (O.cur l)) flags = (next, .moreBytes, tp) →
      motive offs l vNo (next, vNo, .moreBytes, O.setCur l (O.withTok (O.cur l) tp)))
    (other : ∀ offs l vNo next e tp, parseTokenParam b offs (O.tok (O.cur l)) flags = (next, e, tp) →
      ¬ (e = .ok ∨ e = .moreValues ∨ e = .eoh) → e ≠ .moreBytes → motive offs l vNo (next, vNo, e, O.setCur l O.zero))
    (panic : ∀ offs l vNo next e tp, parseTokenParam b offs (O.tok (O.cur l)) flags = (next, e, tp) →
      (e = .ok ∨ e = .moreValues ∨ e = .eoh) → O.fin b tp = none →
      motive offs l vNo (next, vNo, e, O.panic (O.setCur l (O.withTok (O.cur l) tp))))
    (last : ∀ offs l vNo next e tp x, parseTokenParam b offs (O.tok (O.cur l)) flags = (next, e, tp) →
      (e = .ok ∨ e = .eoh) → O.fin b tp = some x → motive offs l vNo (next, vNo + 1, e, O.next l x))
    (lbug : ∀ offs l vNo next tp x, parseTokenParam b offs (O.tok (O.cur l)) flags = (next, .moreValues, tp) →
      O.fin b tp = some x →
      ¬ (next ≤ b.size ∧ (offs < next ∨ (offs = next ∧ (O.tok (O.cur l)).state = .fNxt ∧
        (O.tok (O.cur (O.next l x))).state ≠ .fNxt))) → motive offs l vNo (next, vNo + 1, .lbug, O.next l x))
    (step : ∀ offs l vNo next tp x r, parseTokenParam b offs (O.tok (O.cur l)) flags = (next, .moreValues, tp) →
      O.fin b tp = some x →
      next ≤ b.size ∧ (offs < next ∨ (offs = next ∧ (O.tok (O.cur l)).state = .fNxt ∧
        (O.tok (O.cur (O.next l x))).state ≠ .fNxt)) → motive next (O.next l x) (vNo + 1) r → motive offs l vNo r)
    (offs : Nat) (l : L) (vNo : Nat) : motive offs l vNo (slotLoop O b offs l flags vNo) := by
  induction offs, l, vNo using slotLoop_induct O b flags with
  | step offs l vNo ih =>
    rcases hp : parseTokenParam b offs (O.tok (O.cur l)) flags with ⟨next, e1, tp⟩
    by_cases hm : e1 = .moreBytes
    · subst hm; rw [slotLoop_eq_more hp]; exact more _ _ _ _ _ hp
    · by_cases hc : e1 = .ok ∨ e1 = .moreValues ∨ e1 = .eoh
      · cases hg : O.fin b tp with
        | none => rw [slotLoop_panic hp hc hg]; exact panic _ _ _ _ _ _ hp hc hg
        | some x =>
          rcases acc_split hc with rfl | he
          · rw [slotLoop_mv hp hg]
            split
            · rename_i hgd; exact step _ _ _ _ _ _ _ hp hg hgd (ih next tp x hp hg hgd)
            · rename_i hgd; exact lbug _ _ _ _ _ _ hp hg hgd
          · rw [slotLoop_eq_last hp he hg]; exact last _ _ _ _ _ _ _ hp he hg
      · rw [slotLoop_other hp hc hm]; exact other _ _ _ _ _ _ hp hc hm

/-- whatever the three operations keep, the loop keeps (any verdict); only finished elements made by `fin` are stored -/
theorem slotLoop_inv (O : SlotOps L ε) (b : Buf) (I : L → Prop) (hset : ∀ l p, I l → I (O.setCur l p))
    (hnext : ∀ l tp x, O.fin b tp = some x → I l → I (O.next l x)) (hpanic : ∀ l, I l → I (O.panic l))
    (flags offs : Nat) (l : L) (vNo : Nat) : I l → I (slotLoop O b offs l flags vNo).2.2.2 :=
  slotLoop_cases O b flags (fun _ l _ r => I l → I r.2.2.2)
    (more := fun _ _ _ _ _ _ h => hset _ _ h)
    (other := fun _ _ _ _ _ _ _ _ _ h => hset _ _ h)
    (panic := fun _ _ _ _ _ _ _ _ _ h => hpanic _ (hset _ _ h))
    (last := fun _ _ _ _ _ _ _ _ _ hg h => hnext _ _ _ hg h)
    (lbug := fun _ _ _ _ _ _ _ hg _ h => hnext _ _ _ hg h)
    (step := fun _ _ _ _ _ _ _ _ hg _ ih h => ih (hnext _ _ _ hg h)) offs l vNo

theorem slotLoop_congr (O : SlotOps L ε) {b b' : Buf} (flags : Nat) (hsz : b'.size = b.size)
    (hP : ∀ offs p, parseTokenParam b' offs p flags = parseTokenParam b offs p flags)
    (hfin : ∀ tp, O.fin b' tp = O.fin b tp) (offs : Nat) (l : L) (vNo : Nat) :
    slotLoop O b' offs l flags vNo = slotLoop O b offs l flags vNo :=
  slotLoop_cases O b flags (fun offs l vNo r => slotLoop O b' offs l flags vNo = r)
    (more := fun _ _ _ _ _ hp => slotLoop_eq_more (by rw [hP]; exact hp))
    (other := fun _ _ _ _ _ _ hp hc hm => slotLoop_other (by rw [hP]; exact hp) hc hm)
    (panic := fun _ _ _ _ _ _ hp he hg => slotLoop_panic (by rw [hP]; exact hp) he (by rw [hfin]; exact hg))
    (last := fun _ _ _ _ _ _ _ hp he hg => slotLoop_eq_last (by rw [hP]; exact hp) he (by rw [hfin]; exact hg))
    (lbug := fun _ _ _ _ _ _ hp hg hgd => by
      rw [slotLoop_mv (by rw [hP]; exact hp) (by rw [hfin]; exact hg), if_neg (by rw [hsz]; exact hgd)])
    (step := fun _ _ _ _ _ _ _ hp hg hgd ih => by
      rw [slotLoop_mv (by rw [hP]; exact hp) (by rw [hfin]; exact hg), if_pos (by rw [hsz]; exact hgd)]; exact ih)
    offs l vNo

end

def URIParamsLst.slots (l : URIParamsLst) : SlotArr URIParam := ⟨l.params, l.n, l.tmp⟩
def URIHdrsLst.slots (l : URIHdrsLst) : SlotArr PTokParam := ⟨l.hdrs, l.n, l.tmp⟩

/-- the object the loop goes on with after a completed element -/
def URIParamsLst.next (l : URIParamsLst) (tp : PTokParam) (t : Nat) : URIParamsLst :=
  if l.n < l.params.size then
    { l.setCur { param := tp, t := t } with types := (l.setCur { param := tp, t := t }).types ||| t, n := (l.setCur { param := tp, t := t }).n + 1 }
  else
    { l.setCur { param := tp, t := t } with types := (l.setCur { param := tp, t := t }).types ||| t, n := (l.setCur { param := tp, t := t }).n + 1, tmp := {} }

def URIHdrsLst.next (l : URIHdrsLst) (tp : PTokParam) : URIHdrsLst :=
  if l.n < l.hdrs.size then { l.setCur tp with n := (l.setCur tp).n + 1 }
  else { l.setCur tp with n := (l.setCur tp).n + 1, tmp := {} }

theorem pSlots_cur (l : URIParamsLst) : l.slots.cur = l.cur := rfl
theorem pSlots_setCur (l : URIParamsLst) (p : URIParam) : (l.setCur p).slots = l.slots.setCur p := by
  unfold URIParamsLst.setCur SlotArr.setCur URIParamsLst.slots; split <;> rfl
theorem pSlots_next (l : URIParamsLst) (tp : PTokParam) (t : Nat) :
    (l.next tp t).slots = SlotArr.push {} l.slots { param := tp, t := t } := by
  unfold URIParamsLst.next SlotArr.push URIParamsLst.setCur SlotArr.setCur URIParamsLst.slots; split <;> rfl

theorem hSlots_cur (l : URIHdrsLst) : l.slots.cur = l.cur := rfl
theorem hSlots_setCur (l : URIHdrsLst) (p : PTokParam) : (l.setCur p).slots = l.slots.setCur p := by
  unfold URIHdrsLst.setCur SlotArr.setCur URIHdrsLst.slots; split <;> rfl
theorem hSlots_next (l : URIHdrsLst) (tp : PTokParam) : (l.next tp).slots = SlotArr.push {} l.slots tp := by
  unfold URIHdrsLst.next SlotArr.push URIHdrsLst.setCur SlotArr.setCur URIHdrsLst.slots; split <;> rfl

theorem uriParamsLoop_eq (b : Buf) (offs : Nat) (l : URIParamsLst) (flags vNo : Nat) :
    uriParamsLoop b offs l flags vNo =
      match parseTokenParam b offs l.cur.param flags with
      | (next, e, tp) =>
        if e == .ok || e == .moreValues || e == .eoh then
          match tp.name.get? b with
          | none => (next, vNo, e, { l.setCur { l.cur with param := tp } with pnc := true })
          | some nm =>
            if e == .moreValues then
              if next ≤ b.size ∧ (offs < next ∨ (offs = next ∧ l.cur.param.state = .fNxt ∧
                  (l.next tp (uriParamResolve nm)).cur.param.state ≠ .fNxt)) then
                uriParamsLoop b next (l.next tp (uriParamResolve nm)) flags (vNo + 1)
              else (next, vNo + 1, .lbug, l.next tp (uriParamResolve nm))
            else (next, vNo + 1, e, l.next tp (uriParamResolve nm))
        else if e == .moreBytes then (next, vNo, e, l.setCur { l.cur with param := tp })
        else (next, vNo, e, l.setCur {}) := by
  rw [uriParamsLoop]
  unfold URIParamsLst.next
  by_cases h : l.n < l.params.size <;> simp only [h, ↓reduceIte] <;> rfl

theorem uriHdrsLoop_eq (b : Buf) (offs : Nat) (l : URIHdrsLst) (flags vNo : Nat) :
    uriHdrsLoop b offs l flags vNo =
      match parseTokenParam b offs l.cur flags with
      | (next, e, tp) =>
        if e == .ok || e == .moreValues || e == .eoh then
          if e == .moreValues then
            if next ≤ b.size ∧ (offs < next ∨ (offs = next ∧ l.cur.state = .fNxt ∧ (l.next tp).cur.state ≠ .fNxt)) then
              uriHdrsLoop b next (l.next tp) flags (vNo + 1)
            else (next, vNo + 1, .lbug, l.next tp)
          else (next, vNo + 1, e, l.next tp)
        else if e == .moreBytes then (next, vNo, e, l.setCur tp)
        else (next, vNo, e, l.setCur {}) := by
  rw [uriHdrsLoop]
  unfold URIHdrsLst.next
  by_cases h : l.n < l.hdrs.size <;> simp only [h, ↓reduceIte] <;> rfl

def pOps : SlotOps URIParamsLst URIParam where
  cur := URIParamsLst.cur
  setCur := URIParamsLst.setCur
  next := fun l x => l.next x.param x.t
  panic := fun l => { l with pnc := true }
  tok := URIParam.param
  withTok := fun p tp => { p with param := tp }
  zero := {}
  fin := fun b tp => (tp.name.get? b).map fun nm => { param := tp, t := uriParamResolve nm }

def hOps : SlotOps URIHdrsLst PTokParam where
  cur := URIHdrsLst.cur
  setCur := URIHdrsLst.setCur
  next := URIHdrsLst.next
  panic := id
  tok := id
  withTok := fun _ tp => tp
  zero := {}
  fin := fun _ tp => some tp

theorem pOps_fin_some {b : Buf} {tp : PTokParam} {nm : Buf} (h : tp.name.get? b = some nm) :
    pOps.fin b tp = some { param := tp, t := uriParamResolve nm } := by
  show (tp.name.get? b).map _ = _; rw [h]; rfl

theorem pOps_fin_eq_some {b : Buf} {tp : PTokParam} {x : URIParam} (h : pOps.fin b tp = some x) :
    ∃ nm, tp.name.get? b = some nm ∧ x = { param := tp, t := uriParamResolve nm } := by
  change (tp.name.get? b).map _ = some x at h
  cases hg : tp.name.get? b with
  | none => rw [hg] at h; cases h
  | some nm => rw [hg] at h; cases h; exact ⟨nm, rfl, rfl⟩

theorem uriParamsLoop_slot (b : Buf) (flags offs : Nat) (l : URIParamsLst) (vNo : Nat) :
    uriParamsLoop b offs l flags vNo = slotLoop pOps b offs l flags vNo := by
  induction offs, l, vNo using slotLoop_induct pOps b flags with
  | step offs l vNo ih =>
    rcases hp : parseTokenParam b offs l.cur.param flags with ⟨next, e, tp⟩
    rw [uriParamsLoop_eq, slotLoop]
    simp only [pOps] at ih ⊢
    simp only [hp]
    cases hg : tp.name.get? b with
    | none => rfl
    | some nm =>
      simp only [Option.map_some]
      split
      · split
        · split
          · rename_i h1 he hgd
            have he' : e = .moreValues := by cases e <;> first | rfl | cases he
            subst he'
            exact ih next tp ⟨tp, uriParamResolve nm⟩ hp (by rw [hg]; rfl) hgd
          · rfl
        · rfl
      · rfl

theorem uriHdrsLoop_slot (b : Buf) (flags offs : Nat) (l : URIHdrsLst) (vNo : Nat) :
    uriHdrsLoop b offs l flags vNo = slotLoop hOps b offs l flags vNo := by
  induction offs, l, vNo using slotLoop_induct hOps b flags with
  | step offs l vNo ih =>
    rcases hp : parseTokenParam b offs l.cur flags with ⟨next, e, tp⟩
    rw [uriHdrsLoop_eq, slotLoop]
    simp only [hOps, id] at ih ⊢
    simp only [hp]
    split
    · split
      · split
        · rename_i h1 he hgd
          have he' : e = .moreValues := by cases e <;> first | rfl | cases he
          subst he'
          exact ih next tp tp hp rfl hgd
        · rfl
      · rfl
    · rfl

end Sipsp
