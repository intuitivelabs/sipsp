/-
  Sipsp.Proofs.TokParamEnd — property C02 for ParseTokenParam / ParseAllURIParams / ParseAllURIHdrs when the LAST call of
  a chunk schedule carries the end-of-input option `POptInputEndF` ("input ends at the end of buf": outside a quoted
  string the end of the buffer then acts like a terminator instead of giving MoreBytes).  Callers make the earlier calls without the option
  (they return MoreBytes) and set the option at the last call, on the complete input.

  Throughout: `f` is ANY option set without `POptInputEndF` (hypothesis `hasFlag f POptInputEndF = false`; all other
  options, `POptTokSpTermF` included, are arbitrary), the later call uses `f ||| POptInputEndF`, `b` is the buffer of
  the earlier call and `b ++ s` ANY extension of it (`s = #[]` included: nothing more arrived, the input just ended).

  The one-step laws are instances of the theorems of TokParamL1 / UriListsL for a later call whose option word differs
  from the earlier one in the end-of-input option only (`SameButEnd`).  All three suspension sites are valid restart
  points for the call with the option: the end-of-buffer exit, white space up to the end of the buffer (restart at the
  first white-space byte, object untouched), an open quoted string (restart where SkipQuoted stopped; there the end of
  the buffer ends nothing: the call with the option still answers MoreBytes, see the test at the end).
  Schedule forms (`resumeRunEnd`: all calls but the last without the option, the last with it, on the whole input): for
  the lists the per-call numbers of values add up, and the list object must be legitimate (`plOK` / `hlClean`) and the
  start offset inside the first buffer.

  NOT proved here: schedules in which an EARLIER call (not the last one) already carries the option (that is a misuse:
  the option claims the input ends at the end of that buffer); lists whose unused slots hold garbage.
-/
import Sipsp.Proofs.UriListsL
namespace Sipsp

/-! ### ParseTokenParam -/

/-- **L1 for ParseTokenParam, flag switched on later**: a definitive result of a call without the end-of-input
    option is the result of the call with the option on every extension of the buffer (the buffer itself included) -/
theorem parseTokenParam_stable_end (b s : Buf) (o : Nat) (p : PTokParam) (f : Nat)
    (hf : hasFlag f POptInputEndF = false) {o' : Nat} {e : Err} {p' : PTokParam}
    (h : parseTokenParam b o p f = (o', e, p')) (he : e ≠ .moreBytes) :
    parseTokenParam (b ++ s) o p (f ||| POptInputEndF) = (o', e, p') :=
  parseTokenParam_stable2 b s o p f _ hf (.withEnd f) h he

/-- **C02 for ParseTokenParam, the last call carrying the end-of-input option**: if a call without the option
    returned MoreBytes at `(o', p')`, the call on any extension `b ++ s` (possibly `s = #[]`: nothing more arrived,
    the input just ended) from `(o', p')` WITH the option returns exactly (offset, verdict, object) what one call
    with the option on `b ++ s` from the original `(o, p)` returns.  Any object `p`, any other options. -/
theorem parseTokenParam_resume_end (b s : Buf) (o : Nat) (p : PTokParam) (f : Nat)
    (hf : hasFlag f POptInputEndF = false) {o' : Nat} {p' : PTokParam}
    (h : parseTokenParam b o p f = (o', Err.moreBytes, p')) :
    parseTokenParam (b ++ s) o' p' (f ||| POptInputEndF) = parseTokenParam (b ++ s) o p (f ||| POptInputEndF) :=
  parseTokenParam_resume2 b s o p f _ hf (.withEnd f) h

-- `hf` is not needed by the proof; the statement stands as the property files export it
set_option linter.unusedVariables false in
theorem parseTokenParam_post_end (B : Buf) (o : Nat) (p : PTokParam) (f : Nat)
    (hf : hasFlag f POptInputEndF = false) (ho : o ≤ B.size) (hok : tpOK B p)
    {o' : Nat} {e : Err} {p' : PTokParam} (h : parseTokenParam B o p (f ||| POptInputEndF) = (o', e, p')) :
    o ≤ o' ∧ o' ≤ B.size ∧ tpOK B p' :=
  parseTokenParam_post B o p _ ho hok h

/-- the offset range alone needs no hypothesis on the object -/
theorem parseTokenParam_range_end (B : Buf) (o : Nat) (p : PTokParam) (f : Nat) (ho : o ≤ B.size)
    {o' : Nat} {e : Err} {p' : PTokParam} (h : parseTokenParam B o p (f ||| POptInputEndF) = (o', e, p')) :
    o ≤ o' ∧ o' ≤ B.size :=
  have hf := (parseTokenParam_facts B o p _ h).2 ho
  ⟨hf.1, hf.2.1⟩

/-- "more values" at the very offset the call was started with: the object was waiting for the next element -/
theorem parseTokenParam_mv_start_end (B : Buf) (o : Nat) (p : PTokParam) (f : Nat) {p' : PTokParam}
    (h : parseTokenParam B o p (f ||| POptInputEndF) = (o, Err.moreValues, p')) : p.state = .fNxt :=
  (parseTokenParam_facts B o p _ h).1 rfl rfl

/-! ### the list wrappers -/

/-- **C02 for ParseAllURIParams, the last call carrying the end-of-input option**: after `MoreBytes` (with `n'` values
    parsed so far) at `(o', l')` from a call without the option, the call WITH the option on any extension from
    `(o', l')` returns the offset, the verdict and the very list object of ONE call with the option on the extended
    buffer from `(offs, l)`; the numbers of values parsed add up. -/
theorem parseAllURIParams_resume_end (b s : Buf) (offs : Nat) (l : URIParamsLst) (f : Nat)
    (hf : hasFlag f POptInputEndF = false) (hok : plOK b l) (ho : offs ≤ b.size)
    {o' n' : Nat} {l' : URIParamsLst}
    (hr : parseAllURIParams b offs l f = (o', n', Err.moreBytes, l')) :
    (parseAllURIParams (b ++ s) o' l' (f ||| POptInputEndF)).1 =
        (parseAllURIParams (b ++ s) offs l (f ||| POptInputEndF)).1 ∧
    n' + (parseAllURIParams (b ++ s) o' l' (f ||| POptInputEndF)).2.1 =
        (parseAllURIParams (b ++ s) offs l (f ||| POptInputEndF)).2.1 ∧
    (parseAllURIParams (b ++ s) o' l' (f ||| POptInputEndF)).2.2 =
        (parseAllURIParams (b ++ s) offs l (f ||| POptInputEndF)).2.2 :=
  (parseAllURIParams_resume2 b s offs l f _ hf (.withEnd f) hok ho hr).1

/-- **C02 for ParseAllURIHdrs, the last call carrying the end-of-input option** -/
theorem parseAllURIHdrs_resume_end (b s : Buf) (offs : Nat) (l : URIHdrsLst) (f : Nat)
    (hf : hasFlag f POptInputEndF = false) (hok : hlClean l) (ho : offs ≤ b.size)
    {o' n' : Nat} {l' : URIHdrsLst}
    (hr : parseAllURIHdrs b offs l f = (o', n', Err.moreBytes, l')) :
    (parseAllURIHdrs (b ++ s) o' l' (f ||| POptInputEndF)).1 =
        (parseAllURIHdrs (b ++ s) offs l (f ||| POptInputEndF)).1 ∧
    n' + (parseAllURIHdrs (b ++ s) o' l' (f ||| POptInputEndF)).2.1 =
        (parseAllURIHdrs (b ++ s) offs l (f ||| POptInputEndF)).2.1 ∧
    (parseAllURIHdrs (b ++ s) o' l' (f ||| POptInputEndF)).2.2 =
        (parseAllURIHdrs (b ++ s) offs l (f ||| POptInputEndF)).2.2 :=
  (parseAllURIHdrs_resume2 b s offs l f _ hf (.withEnd f) hok ho hr).1

/-! ### chunk schedules whose last call carries the end-of-input option -/

/-- **schedule theorem, option at the last call (generic)**: from the one-step law with the option switched on at
    the resumed call (`hres`) and "a definitive verdict without the option is the verdict with the option on every
    extension" (`hstab`): for every growing sequence of prefixes ending with the whole input `B`, the chain of calls
    returns what ONE call with the option on `B` returns. -/
theorem tpe_resumeRunEnd_eq {σ : Type} (P Pe : Parser σ) (Inv : Buf → Nat → σ → Prop)
    (hres : ∀ b s o st o' st', Inv b o st → P b o st = (o', Err.moreBytes, st') →
      Pe (b ++ s) o' st' = Pe (b ++ s) o st ∧ Inv (b ++ s) o' st')
    (hstab : ∀ b s o st o' e st', Inv b o st → P b o st = (o', e, st') → e ≠ .moreBytes →
      Pe (b ++ s) o st = (o', e, st'))
    (o : Nat) (st : σ) (l : List Buf) (hg : Growing l) (h0 : ∀ b ∈ l.head?, Inv b o st)
    (B : Buf) (hB : l.getLast? = some B) : resumeRunEnd P Pe o st l = Pe B o st := by
  induction l generalizing o st with
  | nil => cases hB
  | cons b rest ih =>
    cases rest with
    | nil =>
      simp only [List.getLast?_singleton, Option.some.injEq] at hB
      subst hB; rfl
    | cons b' rest' =>
      have hB' : (b' :: rest').getLast? = some B := by
        rw [List.getLast?_cons_cons] at hB; exact hB
      have hI : Inv b o st := h0 b (by simp)
      have hext := growing_ext hg
      have hBm : B ∈ b' :: rest' := List.mem_of_getLast? hB'
      obtain ⟨t, ht⟩ := hext B hBm
      obtain ⟨s', hs'⟩ := hext b' List.mem_cons_self
      simp only [resumeRunEnd]
      rcases hp : P b o st with ⟨o1, e1, s1⟩
      by_cases he : e1 = .moreBytes
      · subst he
        simp only
        have hI' : Inv b' o1 s1 := by rw [hs']; exact (hres b s' o st o1 s1 hI hp).2
        rw [ih o1 s1 (growing_tail hg) (by intro x hx; simp at hx; subst hx; exact hI') hB', ht]
        exact (hres b t o st o1 s1 hI hp).1
      · have := hstab b t o st o1 e1 s1 hI hp he
        rw [ht, this]
        cases e1 <;> first | rfl | exact absurd rfl he

/-- **ParseTokenParam under every chunk schedule whose last call carries the end-of-input option**: all calls but
    the last without the option, the last one (on the whole input `B`) with it: the chain returns the offset, the
    verdict and the object of ONE call with the option on `B`. -/
theorem parseTokenParam_schedule_end (f : Nat) (hf : hasFlag f POptInputEndF = false) (o : Nat) (p : PTokParam)
    (bs : List Buf) (hg : Growing bs) (B : Buf) (hB : bs.getLast? = some B) :
    resumeRunEnd (fun b o p => parseTokenParam b o p f) (fun b o p => parseTokenParam b o p (f ||| POptInputEndF))
      o p bs = parseTokenParam B o p (f ||| POptInputEndF) :=
  tpe_resumeRunEnd_eq _ _ (fun _ _ _ => True)
    (fun b s o st _ _ _ h => ⟨parseTokenParam_resume_end b s o st f hf h, trivial⟩)
    (fun b s o st _ _ _ _ h he => parseTokenParam_stable_end b s o st f hf h he)
    o p bs hg (fun _ _ => trivial) B hB

/-- **ParseAllURIParams under every chunk schedule whose last call carries the end-of-input option**: offset,
    verdict, total number of values (the per-call numbers added up) and list object of the chain are those of ONE
    call with the option on the whole input `B` -/
theorem parseAllURIParams_schedule_end (f : Nat) (hf : hasFlag f POptInputEndF = false) (o : Nat)
    (l : URIParamsLst) (bs : List Buf) (hg : Growing bs) (h0 : ∀ b ∈ bs.head?, plOK b l ∧ o ≤ b.size)
    (B : Buf) (hB : bs.getLast? = some B) :
    resumeRunEnd (uriParamsParser f) (uriParamsParser (f ||| POptInputEndF)) o (0, l) bs =
      uriParamsParser (f ||| POptInputEndF) B o (0, l) :=
  tpe_resumeRunEnd_eq _ _ (fun b o st => plOK b st.2 ∧ o ≤ b.size)
    (uriParamsParser_resume2 f _ hf (.withEnd f)) (uriParamsParser_stable2 f _ hf (.withEnd f))
    o (0, l) bs hg h0 B hB

/-- **ParseAllURIHdrs under every chunk schedule whose last call carries the end-of-input option** -/
theorem parseAllURIHdrs_schedule_end (f : Nat) (hf : hasFlag f POptInputEndF = false) (o : Nat)
    (l : URIHdrsLst) (bs : List Buf) (hg : Growing bs) (h0 : ∀ b ∈ bs.head?, hlClean l ∧ o ≤ b.size)
    (B : Buf) (hB : bs.getLast? = some B) :
    resumeRunEnd (uriHdrsParser f) (uriHdrsParser (f ||| POptInputEndF)) o (0, l) bs =
      uriHdrsParser (f ||| POptInputEndF) B o (0, l) :=
  tpe_resumeRunEnd_eq _ _ (fun b o st => hlClean st.2 ∧ o ≤ b.size)
    (uriHdrsParser_resume2 f _ hf (.withEnd f)) (uriHdrsParser_stable2 f _ hf (.withEnd f))
    o (0, l) bs hg h0 B hB

/-! ### tests / non-vacuity (closed computations, `decide +kernel`) -/

/-- test (end-of-buffer site, nothing more arrives: `s = #[]`): "a=b" without the option is suspended in the value;
    the call with the option on the same buffer from the suspension point ends the parameter there, as the one-shot
    call with the option does (instance of `parseTokenParam_resume_end`) -/
example : (parseTokenParam "a=b".toUTF8.data 0 {} 0).1 = 3 ∧
    (parseTokenParam "a=b".toUTF8.data 0 {} 0).2.1 = .moreBytes ∧
    parseTokenParam "a=b".toUTF8.data 3 (parseTokenParam "a=b".toUTF8.data 0 {} 0).2.2 (0 ||| POptInputEndF) =
      parseTokenParam "a=b".toUTF8.data 0 {} (0 ||| POptInputEndF) ∧
    parseTokenParam "a=b".toUTF8.data 0 {} (0 ||| POptInputEndF) =
      (3, .eoh, { all := ⟨0, 3⟩, name := ⟨0, 1⟩, val := ⟨2, 1⟩, state := .fin }) := by decide +kernel
/-- test (white-space site): "a=b \r" is suspended at the blank (offset 3); on "a=b \r\n" with the option the line
    end followed by nothing is the end of the header, offset 6, for the resumed and for the one-shot call -/
example : (parseTokenParam "a=b \r".toUTF8.data 0 {} 0).1 = 3 ∧
    (parseTokenParam "a=b \r".toUTF8.data 0 {} 0).2.1 = .moreBytes ∧
    parseTokenParam "a=b \r\n".toUTF8.data 3 (parseTokenParam "a=b \r".toUTF8.data 0 {} 0).2.2 (0 ||| POptInputEndF) =
      parseTokenParam "a=b \r\n".toUTF8.data 0 {} (0 ||| POptInputEndF) ∧
    (parseTokenParam "a=b \r\n".toUTF8.data 0 {} (0 ||| POptInputEndF)).1 = 6 ∧
    (parseTokenParam "a=b \r\n".toUTF8.data 0 {} (0 ||| POptInputEndF)).2.1 = .eoh := by decide +kernel
/-- test (quoted-string site): an open quoted string stays "more bytes" even with the option -/
example : (parseTokenParam "a=\"x".toUTF8.data 0 {} 0).1 = 4 ∧
    (parseTokenParam "a=\"x".toUTF8.data 0 {} 0).2.1 = .moreBytes ∧
    parseTokenParam "a=\"x".toUTF8.data 4 (parseTokenParam "a=\"x".toUTF8.data 0 {} 0).2.2 (0 ||| POptInputEndF) =
      parseTokenParam "a=\"x".toUTF8.data 0 {} (0 ||| POptInputEndF) ∧
    (parseTokenParam "a=\"x".toUTF8.data 0 {} (0 ||| POptInputEndF)).2.1 = .moreBytes := by decide +kernel
/-- test: the hypothesis "free of the option" holds for the option sets used by callers, the derived set has it -/
example : hasFlag 0 POptInputEndF = false ∧ hasFlag (POptTokSpTermF ||| POptTokCommaTermF) POptInputEndF = false ∧
    hasFlag (POptTokSpTermF ||| POptInputEndF) POptInputEndF = true := by decide
/-- test: a schedule "a=" , "a=b;c" , "a=b;c" (the last buffer repeated: the input ended) is growing and ends
    with the whole input; the chain returns what one call with the option on "a=b;c" returns: the first parameter
    is complete and another one follows, "more values" at offset 4 (instance of `parseTokenParam_schedule_end`) -/
example : Growing ["a=".toUTF8.data, "a=b;c".toUTF8.data, "a=b;c".toUTF8.data] ∧
    ["a=".toUTF8.data, "a=b;c".toUTF8.data, "a=b;c".toUTF8.data].getLast? = some "a=b;c".toUTF8.data :=
  ⟨⟨⟨"b;c".toUTF8.data, by decide⟩, ⟨#[], by decide⟩, trivial⟩, by decide⟩
example : resumeRunEnd (fun b o p => parseTokenParam b o p 0) (fun b o p => parseTokenParam b o p (0 ||| POptInputEndF))
      0 {} ["a=".toUTF8.data, "a=b;c".toUTF8.data, "a=b;c".toUTF8.data] =
    (4, .moreValues, { all := ⟨0, 3⟩, name := ⟨0, 1⟩, val := ⟨2, 1⟩, state := .initNxtVal }) := by decide +kernel
/-- test (URI parameters, capacity 3): without the option the third element is suspended after 2 values; the call
    with the option on the same buffer completes it (1 more value, end of header at offset 20), the one-shot call
    with the option reports 3 values and the same list -/
example : (parseAllURIParams "lr;transport=udp;x=1".toUTF8.data 0 { params := Array.replicate 3 {} } 0).1 = 20 ∧
    (parseAllURIParams "lr;transport=udp;x=1".toUTF8.data 0 { params := Array.replicate 3 {} } 0).2.1 = 2 ∧
    (parseAllURIParams "lr;transport=udp;x=1".toUTF8.data 0 { params := Array.replicate 3 {} } 0).2.2.1 = .moreBytes ∧
    (parseAllURIParams "lr;transport=udp;x=1".toUTF8.data 20
      (parseAllURIParams "lr;transport=udp;x=1".toUTF8.data 0 { params := Array.replicate 3 {} } 0).2.2.2
      (0 ||| POptInputEndF)).2.1 = 1 ∧
    (parseAllURIParams "lr;transport=udp;x=1".toUTF8.data 0 { params := Array.replicate 3 {} } (0 ||| POptInputEndF)).2.1 = 3 ∧
    (parseAllURIParams "lr;transport=udp;x=1".toUTF8.data 0 { params := Array.replicate 3 {} } (0 ||| POptInputEndF)).2.2.1 = .eoh ∧
    (parseAllURIParams "lr;transport=udp;x=1".toUTF8.data 0 { params := Array.replicate 3 {} } (0 ||| POptInputEndF)).1 = 20 := by
  decide +kernel
/-- test (URI headers, capacity 2, cut inside the second element) -/
example : (parseAllURIHdrs "a=1&b".toUTF8.data 0 { hdrs := Array.replicate 2 {} } 0).2.2.1 = .moreBytes ∧
    (parseAllURIHdrs "a=1&b".toUTF8.data 0 { hdrs := Array.replicate 2 {} } 0).2.1 = 1 ∧
    (parseAllURIHdrs "a=1&b=2&c".toUTF8.data 0 { hdrs := Array.replicate 2 {} } (0 ||| POptInputEndF)).2.1 = 3 ∧
    (parseAllURIHdrs "a=1&b=2&c".toUTF8.data 0 { hdrs := Array.replicate 2 {} } (0 ||| POptInputEndF)).2.2.1 = .eoh := by
  decide +kernel

end Sipsp
