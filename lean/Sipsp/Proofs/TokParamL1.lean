/-
  Sipsp.Proofs.TokParamL1 — no premature verdict for ParseTokenParam: a definitive result of a call without the
  end-of-input option does not change when more bytes arrive, whether the later call is made with the same option
  word or with one that differs from it in the end-of-input option only (`SameButEnd`).
-/
import Sipsp.Proofs.TokParamTrans

namespace Sipsp

/-! ### option words that differ at most in the end-of-input option -/

theorem hasFlag_lor (f g m : Nat) : hasFlag (f ||| g) m = (hasFlag f m || hasFlag g m) := by
  unfold hasFlag
  rw [Nat.and_or_distrib_right, Bool.eq_iff_iff]
  simp only [bne_iff_ne, ne_eq, Nat.or_eq_zero_iff, Bool.or_eq_true, Decidable.not_and_iff_not_or_not]

/-- `f'` agrees with `f` on every option but (possibly) `POptInputEndF` -/
def SameButEnd (f f' : Nat) : Prop := ∀ m, POptInputEndF &&& m = 0 → hasFlag f' m = hasFlag f m

theorem SameButEnd.refl (f : Nat) : SameButEnd f f := fun _ _ => rfl

theorem SameButEnd.withEnd (f : Nat) : SameButEnd f (f ||| POptInputEndF) := by
  intro m hm
  rw [hasFlag_lor]
  have : hasFlag POptInputEndF m = false := by unfold hasFlag; rw [hm]; rfl
  rw [this, Bool.or_false]

theorem SameButEnd.or {f f' : Nat} (h : SameButEnd f f') (g : Nat) : SameButEnd (f ||| g) (f' ||| g) := by
  intro m hm
  rw [hasFlag_lor, hasFlag_lor, h m hm]

theorem tpAct_sameButEnd {f f' : Nat} (h : SameButEnd f f') (c : UInt8) (s : TPState) :
    tpAct f' c s = tpAct f c s := by
  have e1 : tpSep f' = tpSep f := by unfold tpSep; rw [h _ (by decide)]
  have e2 : tpTerm f' = tpTerm f := by unfold tpTerm; rw [h _ (by decide), h _ (by decide)]
  have e3 : tokAllowedChar c f' = tokAllowedChar c f := by unfold tokAllowedChar; rw [h _ (by decide)]
  unfold tpAct
  rw [e1, e2, e3, h POptTokSpTermF (by decide)]

theorem skipLWS_flagfree (B : Buf) (i f f' : Nat) {n crl : Nat} {e : Err}
    (h : skipLWS B i f = (n, crl, e)) (he : e ≠ .moreBytes) (hf : hasFlag f POptInputEndF = false) :
    skipLWS B i f' = (n, crl, e) := by
  cases skipLWS_out' h with
  | ok h1 h2 h3 => exact skipLWS_of_out (.ok h1 h2 h3)
  | eoh h1 h2 h3 h4 => exact skipLWS_of_out (.eoh h1 h2 h3 h4)
  | eohEnd _ _ _ _ hf' => rw [hf] at hf'; cases hf'
  | more => exact absurd rfl he

/-! ### one iteration -/

theorem tpLWS_stable (b s : Buf) (f f' i : Nat) (p : PTokParam) (upd : PTokParam → PTokParam)
    (hf : hasFlag f POptInputEndF = false)
    (hne : ∀ o st', tpLWS b f i p upd ≠ .done o .moreBytes st') :
    tpLWS (b ++ s) f' i p upd = tpLWS b f i p upd := by
  unfold tpLWS at hne ⊢
  rcases hq : skipLWS b i f with ⟨n, crl, e⟩
  rw [hq] at hne
  by_cases he : e = .moreBytes
  · subst he
    simp only [tpMoreBytes_noEnd b f p i hf, stepOfRes] at hne
    exact absurd rfl (hne i p)
  · rw [skipLWS_flagfree (b ++ s) i f f' (skipLWS_stable b s i f hq he hf) he hf]
    cases e <;> first | rfl | exact absurd rfl he

/-- an iteration that does not ask for more bytes sees neither the appended bytes nor the end-of-input option -/
theorem tp_stepStable (f f' offs : Nat) (b s : Buf) (hf : hasFlag f POptInputEndF = false) (hff : SameButEnd f f')
    (i : Nat) (c : UInt8) (p : PTokParam) (hb : b[i]? = some c)
    (hne : ∀ o q, tpStep f offs b i c p ≠ .done o .moreBytes q) :
    tpStep f' offs (b ++ s) i c p = tpStep f offs b i c p := by
  rw [tpStep_eq, tpStep_eq, tpAct_sameButEnd hff] at *
  have hw := tpAct_when f c p.state
  generalize tpAct f c p.state = a at hne hw
  cases a
  case lws => exact tpLWS_stable b s f f' i p _ hf hne
  case quoted =>
    rcases tpDo_quoted f offs b i p hw with ⟨n, hq, h⟩ | ⟨n, hq, h⟩ | ⟨n, hq, h⟩
    · exact absurd h (hne n p)
    all_goals
      unfold tpDo
      rw [skipQuoted_stable b s i hq (fun h => by cases h), hq]
  case spSep =>
    change tpSpTermSep (b ++ s) offs i p = tpSpTermSep b offs i p
    unfold tpSpTermSep
    split
    · rename_i hge
      have : i - 1 < b.size := by have := get?_lt hb; omega
      rw [get?_app (Array.getElem?_eq_getElem this), Array.getElem?_eq_getElem this]
    · rfl
  all_goals rfl

theorem tp_eobMore (flags offs : Nat) (b : Buf) (hf : hasFlag flags POptInputEndF = false) :
    EobMore (tpMachine flags offs) b := by
  intro i p
  show (tpMoreBytes b flags p i).2.1 = Err.moreBytes
  rw [tpMoreBytes_noEnd b flags p i hf]

/-- **L1 for ParseTokenParam**, the later call made with `f'` -/
theorem parseTokenParam_stable2 (b s : Buf) (o : Nat) (p : PTokParam) (f f' : Nat)
    (hf : hasFlag f POptInputEndF = false) (hff : SameButEnd f f') {o' : Nat} {e : Err} {p' : PTokParam}
    (h : parseTokenParam b o p f = (o', e, p')) (he : e ≠ .moreBytes) :
    parseTokenParam (b ++ s) o p f' = (o', e, p') := by
  unfold parseTokenParam at h ⊢
  split
  · rename_i hfin; rw [if_pos hfin] at h; exact h
  · rename_i hfin; rw [if_neg hfin] at h
    exact runLoop_stable2 (tpMachine f o) (tpMachine f' o) b s (tp_stepStable f f' o b s hf hff)
      (tp_eobMore f o b hf) o p h he

/-- **L1 for ParseTokenParam**: every option combination without `POptInputEndF`, any object -/
theorem parseTokenParam_stable (b s : Buf) (o : Nat) (p : PTokParam) (flags : Nat)
    (hf : hasFlag flags POptInputEndF = false) {o' : Nat} {e : Err} {p' : PTokParam}
    (h : parseTokenParam b o p flags = (o', e, p')) (he : e ≠ .moreBytes) :
    parseTokenParam (b ++ s) o p flags = (o', e, p') :=
  parseTokenParam_stable2 b s o p flags flags hf (.refl _) h he

end Sipsp
