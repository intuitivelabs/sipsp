/-
  Sipsp.Proofs.TokParamTrans — one loop iteration of ParseTokenParam, described once.  `tpStep` first decides what to
  do (`tpAct`: a function of the option word, the byte and the state only) and then does it (`tpDo`, every result in
  closed form); `tpStep_eq` says so, `tpAct_when` in which states an action can be chosen.  An invariant of the
  iteration is proved by `cases` on the action.  The iteration looks at the byte only through its class (`chClass`: white
  space, `=`, `"`, terminator, separator, token byte, anything else) and `tpAct` is a table class × state (`tpActC`,
  `tpAct_class`): a single iteration on a byte of known class in a known state is `tpStep_at` / `tpStep_lws`, its right
  side computed by unification.  Then the facts about one iteration that hold for EVERY option word.
-/
import Sipsp.Proofs.SkipQuoted
import Sipsp.Proofs.Lex

namespace Sipsp

/-- what one iteration does (chosen by `tpAct`, carried out by `tpDo`) -/
inductive TpAct where
  /-- white space outside quotes, in a live state: the white-space pattern `tpLWS` -/
  | lws
  /-- the byte is stepped over, the object left as it is: a separator before a parameter has started (an empty item), a
      name / value byte inside a name / token value, any byte in the error / final state -/
  | stay
  /-- the first byte of a name at the start of a call -/
  | first
  /-- the first byte of the next parameter after a separator: MoreValues at that byte -/
  | next
  /-- `=` directly after the name -/
  | eqName
  /-- `=` after `name LWS` -/
  | eqF
  /-- the separator ends the name / value in progress (or follows a complete one) -/
  | sep
  /-- the separator where a value should start: an empty value is recorded there -/
  | sepV
  /-- the opening quote of a value -/
  | quote
  /-- the first byte of a token value -/
  | startVal
  /-- the terminator ends the parameter (after a name / value, or after a separator and empty items): OK -/
  | term
  /-- the terminator where a value should start: an empty value is recorded there, OK -/
  | termV
  /-- the byte is rejected: BadChar at its offset -/
  | bad
  /-- white-space terminator option: a new token after `name LWS` -/
  | spEq
  /-- white-space terminator option: a new token after a value (and white space, or a closing quote) -/
  | spSep
  /-- inside a quoted value: `SkipQuoted` decides -/
  | quoted
  deriving DecidableEq

def tpAct (flags : Nat) (c : UInt8) (s : TPState) : TpAct :=
  let sep := c == tpSep flags
  let term := c == tpTerm flags && tpTerm flags != 0
  let ok := tokAllowedChar c flags
  match s with
  | .init | .initNxtVal =>
    if isLWSch c then .lws else if sep then .stay else if !ok then .bad else .first
  | .fNxt =>
    if isLWSch c then .lws else if sep then .stay else if term then .term else if !ok then .bad else .next
  | .name =>
    if isLWSch c then .lws else if c == 61 then .eqName else if term then .term else if sep then .sep
    else if !ok then .bad else .stay
  | .fEq =>
    if isLWSch c then .lws else if c == 61 then .eqF else if term then .term else if sep then .sep
    else if !ok then .bad else if hasFlag flags POptTokSpTermF then .spEq else .bad
  | .fVal =>
    if isLWSch c then .lws else if c == 34 then .quote else if term then .termV else if sep then .sepV
    else if !ok then .bad else .startVal
  | .val =>
    if isLWSch c then .lws else if term then .term else if sep then .sep else if !ok then .bad else .stay
  | .quotedVal => .quoted
  | .fSep =>
    if isLWSch c then .lws else if term then .term else if sep then .sep
    else if !ok then .bad else if hasFlag flags POptTokSpTermF then .spSep else .bad
  | .err | .fin => .stay

/-- the name / token value in progress ends at `i` -/
def PTokParam.closeAt (p : PTokParam) (i : Nat) : PTokParam :=
  match p.state with
  | .name => (p.extName i).extAll i
  | .val => (p.extVal i).extAll i
  | _ => p

/-- a value (possibly empty, or the opening quote) starts at `i` -/
def PTokParam.valAt (p : PTokParam) (i : Nat) : PTokParam := ({ p with val := PField.set i i } : PTokParam).extAll i

/-- the update the white-space pattern is called with, by state -/
def tpLwsUpd (i : Nat) : TPState → PTokParam → PTokParam
  | .name => fun p => { (p.extName i).extAll i with state := .fEq }
  | .val => fun p => { (p.extVal i).extAll i with state := .fSep }
  | _ => id

def tpDo (flags offs : Nat) (b : Buf) (i : Nat) (p : PTokParam) : TpAct → Step PTokParam
  | .lws => tpLWS b flags i p (tpLwsUpd i p.state)
  | .stay => .cont (i + 1) p
  | .first => .cont (i + 1) { p with state := .name, name := PField.set i i, all := PField.set i i }
  | .next => .done i .moreValues { p with state := .initNxtVal }
  | .eqName => .cont (i + 1) { (p.extName i).extAll (i + 1) with state := .fVal }
  | .eqF => .cont (i + 1) { p with state := .fVal }
  | .sep => .cont (i + 1) { p.closeAt i with state := .fNxt }
  | .sepV => .cont (i + 1) { p.valAt i with state := .fNxt }
  | .quote => .cont (i + 1) { p.valAt i with state := .quotedVal }
  | .startVal => .cont (i + 1) { p.valAt i with state := .val }
  | .term => .done i .ok { p.closeAt i with state := .fin }
  | .termV => .done i .ok { p with val := PField.set i i, state := .fin }
  | .bad => .done i .badChar { p with state := .err }
  | .spEq => tpSpTermEq offs i p
  | .spSep => tpSpTermSep b offs i p
  | .quoted =>
    match skipQuoted b i with
    | (n, .moreBytes) => stepOfRes (tpMoreBytes b flags p n)
    | (n, .ok) => .cont n { (p.extVal n).extAll n with state := .fSep }
    | (n, .eoh) => stepOfRes (tpEOH p n 0)
    | (n, e) => .done n e p

theorem tpStep_eq (flags offs : Nat) (b : Buf) (i : Nat) (c : UInt8) (p : PTokParam) :
    tpStep flags offs b i c p = tpDo flags offs b i p (tpAct flags c p.state) := by
  have e1 : (TPState.init == TPState.fNxt) = false := rfl
  have e2 : (TPState.initNxtVal == TPState.fNxt) = false := rfl
  obtain ⟨all, name, val, state, pnc⟩ := p
  cases state
  case quotedVal => rfl
  -- both sides are the same cascade of tests once `tpDo` is moved inside the branches
  all_goals
    simp only [tpStep, tpAct, e1, e2, beq_self_eq_true, Bool.false_and, Bool.true_and, Bool.false_eq_true, ↓reduceIte,
      apply_ite (tpDo flags offs b i _)]
    rfl

/-- the states in which (for white space: and the bytes at which) an action is chosen -/
def TpAct.When (c : UInt8) (s : TPState) : TpAct → Prop
  | .lws => isLWSch c = true ∧ s ≠ .quotedVal ∧ s ≠ .err ∧ s ≠ .fin
  | .stay => s ≠ .fEq ∧ s ≠ .fSep ∧ s ≠ .fVal ∧ s ≠ .quotedVal
  | .first => s = .init ∨ s = .initNxtVal
  | .next => s = .fNxt
  | .eqName => s = .name
  | .eqF | .spEq => s = .fEq
  | .sep => s = .name ∨ s = .fEq ∨ s = .val ∨ s = .fSep
  | .sepV | .quote | .startVal | .termV => s = .fVal
  | .term => s = .fNxt ∨ s = .name ∨ s = .fEq ∨ s = .val ∨ s = .fSep
  | .bad => s ≠ .quotedVal ∧ s ≠ .err ∧ s ≠ .fin
  | .spSep => s = .fSep
  | .quoted => s = .quotedVal

/-! ### the byte classes an iteration tells apart; the action as a table class × state -/

theorem tpSep_cases (flags : Nat) : tpSep flags = 38 ∨ tpSep flags = 59 := by
  unfold tpSep; split
  · exact Or.inl rfl
  · exact Or.inr rfl

theorem tpTerm_cases (flags : Nat) : tpTerm flags = 63 ∨ tpTerm flags = 44 ∨ tpTerm flags = 0 := by
  unfold tpTerm; split
  · exact Or.inl rfl
  · split
    · exact Or.inr (Or.inl rfl)
    · exact Or.inr (Or.inr rfl)

/-- the facts the step function tests about a byte, in the order it tests them -/
structure ChFacts (flags : Nat) (c : UInt8) (lws eq qt term sep : Bool) : Prop where
  hl : isLWSch c = lws
  h61 : (c == 61) = eq
  h34 : (c == 34) = qt
  ht : (c == tpTerm flags && tpTerm flags != 0) = term
  hs : (c == tpSep flags) = sep

theorem sep_facts (flags : Nat) : ChFacts flags (tpSep flags) false false false false true := by
  rcases tpSep_cases flags with h | h <;> rcases tpTerm_cases flags with h' | h' | h' <;>
    (constructor <;> (rw [h]; try rw [h']) <;> decide)

theorem term_facts (flags : Nat) (hne : tpTerm flags ≠ 0) : ChFacts flags (tpTerm flags) false false false true false := by
  rcases tpSep_cases flags with h | h <;> rcases tpTerm_cases flags with h' | h' | h' <;>
    first
    | exact absurd h' hne
    | (constructor <;> (rw [h']; try rw [h]) <;> decide)

theorem not_allowed_61 (f : Nat) : tokAllowedChar 61 f = false := by
  unfold tokAllowedChar; simp

theorem not_allowed_34 (f : Nat) : tokAllowedChar 34 f = false := by
  unfold tokAllowedChar; simp

/-- what ParseTokenParam can tell about a byte: the terminator keeps whether it is also a token byte (`?` without the
    URI-parameter option), since before a name it is not special -/
inductive ChClass where
  | lws | eq | quote | term (ok : Bool) | sep | tok | bad
  deriving DecidableEq

def chClass (flags : Nat) (c : UInt8) : ChClass :=
  if isLWSch c then .lws
  else if c == tpTerm flags && tpTerm flags != 0 then .term (tokAllowedChar c flags)
  else if c == tpSep flags then .sep
  else if c == 61 then .eq
  else if c == 34 then .quote
  else if tokAllowedChar c flags then .tok
  else .bad

/-- the action chosen for a byte of class `k` in state `s` (`sp`: the white-space terminator option) -/
def tpActC (sp : Bool) (k : ChClass) (s : TPState) : TpAct :=
  match s with
  | .quotedVal => .quoted
  | .err | .fin => .stay
  | .init | .initNxtVal =>
    match k with
    | .lws => .lws | .sep => .stay | .tok | .term true => .first | _ => .bad
  | .fNxt =>
    match k with
    | .lws => .lws | .sep => .stay | .term _ => .term | .tok => .next | _ => .bad
  | .name =>
    match k with
    | .lws => .lws | .eq => .eqName | .term _ => .term | .sep => .sep | .tok => .stay | _ => .bad
  | .fEq =>
    match k with
    | .lws => .lws | .eq => .eqF | .term _ => .term | .sep => .sep | .tok => if sp then .spEq else .bad | _ => .bad
  | .fVal =>
    match k with
    | .lws => .lws | .quote => .quote | .term _ => .termV | .sep => .sepV | .tok => .startVal | _ => .bad
  | .val =>
    match k with
    | .lws => .lws | .term _ => .term | .sep => .sep | .tok => .stay | _ => .bad
  | .fSep =>
    match k with
    | .lws => .lws | .term _ => .term | .sep => .sep | .tok => if sp then .spSep else .bad | _ => .bad

theorem tpAct_class (flags : Nat) (c : UInt8) (s : TPState) :
    tpAct flags c s = tpActC (hasFlag flags POptTokSpTermF) (chClass flags c) s := by
  -- `tpAct` looks at the byte through six tests; where the tests are consistent (k1–k4: the special bytes are pairwise
  -- different and `=`, `"` are no token bytes) it is the table
  have key : ∀ (lws eq qt term sep ok : Bool), isLWSch c = lws → (c == 61) = eq → (c == 34) = qt →
      (c == tpTerm flags && tpTerm flags != 0) = term → (c == tpSep flags) = sep → tokAllowedChar c flags = ok →
      (lws = false → term = true → eq = false ∧ qt = false ∧ sep = false) →
      (lws = false → sep = true → eq = false ∧ qt = false) → (eq = true → ok = false ∧ qt = false) → (qt = true → ok = false) →
      tpAct flags c s = tpActC (hasFlag flags POptTokSpTermF) (chClass flags c) s := by
    intro lws eq qt term sep ok h1 h2 h3 h4 h5 h6 k1 k2 k3 k4
    unfold tpAct chClass
    simp only [h1, h2, h3, h4, h5, h6]
    cases lws
    · cases term
      · cases sep
        · cases eq
          · cases qt
            · cases ok <;> cases s <;> rfl
            · cases (k4 rfl); cases s <;> rfl
          · obtain ⟨rfl, rfl⟩ := k3 rfl; cases s <;> rfl
        · obtain ⟨rfl, rfl⟩ := k2 rfl rfl; cases ok <;> cases s <;> rfl
      · obtain ⟨rfl, rfl, rfl⟩ := k1 rfl rfl; cases ok <;> cases s <;> rfl
    · cases s <;> rfl
  refine key _ _ _ _ _ _ rfl rfl rfl rfl rfl rfl ?_ ?_ ?_ ?_
  · intro hl ht
    obtain ⟨rfl, hne⟩ : c = tpTerm flags ∧ tpTerm flags ≠ 0 := by simpa using ht
    have hf := term_facts flags hne
    exact ⟨hf.h61, hf.h34, hf.hs⟩
  · intro hl hs
    obtain rfl : c = tpSep flags := by simpa using hs
    have hf := sep_facts flags
    exact ⟨hf.h61, hf.h34⟩
  · intro h; obtain rfl : c = 61 := by simpa using h
    exact ⟨not_allowed_61 flags, by decide⟩
  · intro h; obtain rfl : c = 34 := by simpa using h
    exact not_allowed_34 flags

theorem chClass_lws {flags : Nat} {c : UInt8} (h : chClass flags c = .lws) : isLWSch c = true := by
  unfold chClass at h
  split at h
  · assumption
  · repeat' split at h
    all_goals cases h

theorem tpAct_when (flags : Nat) (c : UInt8) (s : TPState) : (tpAct flags c s).When c s := by
  rw [tpAct_class]
  have hl := chClass_lws (flags := flags) (c := c)
  generalize chClass flags c = k at hl
  generalize hasFlag flags POptTokSpTermF = sp
  cases s <;> rcases k with _ | _ | _ | ⟨_ | _⟩ | _ | _ | _ <;> cases sp <;> simp [tpActC, TpAct.When, hl]

/-- the form in which the invariants of one iteration use `tpStep_eq`: `cases` on the action -/
theorem tpStep_act (flags offs : Nat) (b : Buf) (i : Nat) (c : UInt8) (p : PTokParam) :
    ∃ a, a.When c p.state ∧ tpStep flags offs b i c p = tpDo flags offs b i p a :=
  ⟨_, tpAct_when flags c p.state, tpStep_eq flags offs b i c p⟩

theorem tpAct_sp {flags : Nat} {c : UInt8} {s : TPState} (h : tpAct flags c s = .spEq ∨ tpAct flags c s = .spSep) :
    hasFlag flags POptTokSpTermF = true := by
  rw [tpAct_class] at h
  generalize chClass flags c = k at h
  cases hsp : hasFlag flags POptTokSpTermF
  · rw [hsp] at h
    exfalso
    cases s <;> rcases k with _ | _ | _ | ⟨_ | _⟩ | _ | _ | _ <;> simp [tpActC] at h
  · rfl

/-- **one iteration, by state and byte class** (not white space: see `tpStep_lws`) -/
theorem tpStep_at {flags offs : Nat} {b : Buf} {i : Nat} {c : UInt8} {p : PTokParam} {s : TPState} {k : ChClass}
    (hst : p.state = s) (hk : chClass flags c = k) :
    tpStep flags offs b i c p = tpDo flags offs b i p (tpActC (hasFlag flags POptTokSpTermF) k s) := by
  rw [tpStep_eq, tpAct_class, hst, hk]

theorem tpStep_lws {flags offs : Nat} {b : Buf} {i : Nat} {c : UInt8} {p : PTokParam} {s : TPState}
    (hst : p.state = s) (hl : isLWSch c = true) (hs : s ≠ .quotedVal ∧ s ≠ .err ∧ s ≠ .fin) :
    tpStep flags offs b i c p = tpLWS b flags i p (tpLwsUpd i s) := by
  have hk : chClass flags c = .lws := by unfold chClass; rw [if_pos hl]
  rw [tpStep_at hst hk]
  subst hst
  obtain ⟨h1, h2, h3⟩ := hs
  cases h : p.state <;> first | exact absurd h h1 | exact absurd h h2 | exact absurd h h3 | (simp only [tpActC, tpDo, h])

/-- white space outside quotes is always left to `skipLWS` -/
theorem tpAct_of_lws {flags : Nat} {c : UInt8} {s : TPState} (hl : isLWSch c = true)
    (hs : s ≠ .quotedVal ∧ s ≠ .err ∧ s ≠ .fin) : tpAct flags c s = .lws := by
  rw [tpAct_class, show chClass flags c = .lws by unfold chClass; rw [if_pos hl]]
  obtain ⟨h1, h2, h3⟩ := hs
  cases s <;> first | exact absurd rfl h1 | exact absurd rfl h2 | exact absurd rfl h3 | rfl

theorem TpAct.When.ne_quoted {c : UInt8} {s : TPState} {a : TpAct} (h : a.When c s) (ha : a ≠ .quoted) :
    s ≠ .quotedVal := by
  intro hs
  subst hs
  cases a <;> first | exact ha rfl | simp [TpAct.When] at h

theorem chClass_sep (flags : Nat) : chClass flags (tpSep flags) = .sep := by
  have hf := sep_facts flags
  unfold chClass
  rw [hf.hl, hf.ht, hf.hs]; rfl

theorem chClass_term {flags : Nat} (hne : tpTerm flags ≠ 0) :
    chClass flags (tpTerm flags) = .term (tokAllowedChar (tpTerm flags) flags) := by
  have hf := term_facts flags hne
  unfold chClass
  rw [hf.hl, hf.ht]; rfl

theorem chClass_eq (flags : Nat) : chClass flags 61 = .eq := by
  unfold chClass
  rcases tpSep_cases flags with h | h <;> rcases tpTerm_cases flags with h' | h' | h' <;> rw [h, h'] <;> rfl

theorem chClass_quote (flags : Nat) : chClass flags 34 = .quote := by
  unfold chClass
  rcases tpSep_cases flags with h | h <;> rcases tpTerm_cases flags with h' | h' | h' <;> rw [h, h'] <;> rfl

theorem pv_skipLWS_ne_noCR (b : Buf) (i flags : Nat) {n crl : Nat} : skipLWS b i flags ≠ (n, crl, .noCR) :=
  fun h => nomatch skipLWS_out' h

/-! ### the exits and the two patterns of an iteration, in closed form -/

theorem tpEOH_facts (p : PTokParam) (n crl : Nat) :
    (tpEOH p n crl).1 = n + crl ∧ (tpEOH p n crl).2.1 ≠ .moreBytes ∧ (tpEOH p n crl).2.1 ≠ .moreValues ∧
      (tpEOH p n crl).2.2.name = p.name := by
  unfold tpEOH
  split <;> exact ⟨rfl, (fun h => by cases h), (fun h => by cases h), rfl⟩

theorem tpMoreBytes_noEnd (b : Buf) (flags : Nat) (p : PTokParam) (i : Nat)
    (hf : hasFlag flags POptInputEndF = false) : tpMoreBytes b flags p i = (i, .moreBytes, p) := by
  unfold tpMoreBytes; rw [hf]; rfl

theorem tpMoreBytes_quoted (b : Buf) (flags : Nat) (p : PTokParam) (n : Nat) (hst : p.state = .quotedVal) :
    tpMoreBytes b flags p n = (n, .moreBytes, p) := by
  unfold tpMoreBytes
  split
  · simp only [hst]
  · rfl

/-- the end-of-buffer exit: MoreBytes with the object untouched; or, with the end-of-input option, the end of the
    header at the end of the buffer after the token in progress has been closed (a bug report from the error and the
    final state) -/
theorem tpMoreBytes_cases (b : Buf) (flags : Nat) (p : PTokParam) (i : Nat) :
    tpMoreBytes b flags p i = (i, .moreBytes, p) ∨
    ((p.state = .err ∨ p.state = .fin) ∧ tpMoreBytes b flags p i = (i, .bug, p)) ∨
    tpMoreBytes b flags p i = tpEOH (p.closeAt i) b.size 0 := by
  unfold tpMoreBytes
  split
  · unfold PTokParam.closeAt
    cases p.state
    case quotedVal => exact Or.inl rfl
    case err => exact Or.inr (Or.inl ⟨Or.inl rfl, rfl⟩)
    case fin => exact Or.inr (Or.inl ⟨Or.inr rfl, rfl⟩)
    all_goals exact Or.inr (Or.inr rfl)
  · exact Or.inl rfl

/-- with the end-of-input option the end of the buffer ends the header after the same update as white space -/
theorem tpMoreBytes_end {b : Buf} {flags : Nat} {p : PTokParam} (hf : hasFlag flags POptInputEndF = true)
    (hs : p.state ≠ .quotedVal ∧ p.state ≠ .err ∧ p.state ≠ .fin) (i : Nat) :
    tpMoreBytes b flags p i = tpEOH (tpLwsUpd i p.state p) b.size 0 := by
  obtain ⟨all, name, val, state, pnc⟩ := p
  obtain ⟨h1, h2, h3⟩ := hs
  unfold tpMoreBytes
  rw [if_pos hf]
  cases state <;> first | rfl | exact absurd rfl h1 | exact absurd rfl h2 | exact absurd rfl h3

theorem tpLWS_ok {b : Buf} {flags i n crl : Nat} (p : PTokParam) (upd : PTokParam → PTokParam)
    (h : skipLWS b i flags = (n, crl, .ok)) : tpLWS b flags i p upd = .cont n (upd p) := by
  unfold tpLWS; rw [h]

theorem tpLWS_eoh {b : Buf} {flags i n crl : Nat} (p : PTokParam) (upd : PTokParam → PTokParam)
    (h : skipLWS b i flags = (n, crl, .eoh)) : tpLWS b flags i p upd = stepOfRes (tpEOH (upd p) n crl) := by
  unfold tpLWS; rw [h]

theorem tpLWS_more {b : Buf} {flags i n crl : Nat} (p : PTokParam) (upd : PTokParam → PTokParam)
    (h : skipLWS b i flags = (n, crl, .moreBytes)) : tpLWS b flags i p upd = stepOfRes (tpMoreBytes b flags p i) := by
  unfold tpLWS; rw [h]

theorem tpLWS_cases (b : Buf) (flags i : Nat) (p : PTokParam) (upd : PTokParam → PTokParam) :
    (∃ n crl, skipLWS b i flags = (n, crl, .moreBytes) ∧ tpLWS b flags i p upd = stepOfRes (tpMoreBytes b flags p i)) ∨
    (∃ n crl, skipLWS b i flags = (n, crl, .ok) ∧ tpLWS b flags i p upd = .cont n (upd p)) ∨
    (∃ n crl, skipLWS b i flags = (n, crl, .eoh) ∧ tpLWS b flags i p upd = stepOfRes (tpEOH (upd p) n crl)) := by
  rcases hsk : skipLWS b i flags with ⟨n, crl, e⟩
  rcases skipLWS_three_verdicts b i flags hsk with rfl | rfl | rfl
  · exact Or.inr (Or.inl ⟨n, crl, rfl, tpLWS_ok p upd hsk⟩)
  · exact Or.inr (Or.inr ⟨n, crl, rfl, tpLWS_eoh p upd hsk⟩)
  · exact Or.inl ⟨n, crl, rfl, tpLWS_more p upd hsk⟩

theorem tpDo_quoted (flags offs : Nat) (b : Buf) (i : Nat) (p : PTokParam) (hst : p.state = .quotedVal) :
    (∃ n, skipQuoted b i = (n, .moreBytes) ∧ tpDo flags offs b i p .quoted = .done n .moreBytes p) ∨
    (∃ n, skipQuoted b i = (n, .ok) ∧
      tpDo flags offs b i p .quoted = .cont n { (p.extVal n).extAll n with state := .fSep }) ∨
    (∃ n, skipQuoted b i = (n, .badChar) ∧ tpDo flags offs b i p .quoted = .done n .badChar p) := by
  unfold tpDo
  rcases hq : skipQuoted b i with ⟨n, e⟩
  rcases skipQuoted_verdicts b i hq with rfl | rfl | ⟨rfl, _⟩
  · refine Or.inl ⟨n, rfl, ?_⟩
    simp only [stepOfRes, tpMoreBytes_quoted b flags p n hst]
  · exact Or.inr (Or.inr ⟨n, rfl, rfl⟩)
  · exact Or.inr (Or.inl ⟨n, rfl, rfl⟩)

/-! ### what one iteration can do, every option word -/

/-- the state after linear white space -/
def pvNext : TPState → TPState
  | .name => .fEq
  | .val => .fSep
  | s => s

/-- how the name field of the object can change in one iteration at position `i` -/
def NameStep (i : Nat) (p p' : PTokParam) : Prop :=
  p'.name = p.name ∨ p'.name = PField.set i i ∨ p'.name = p.name.extend i

/-! Projections of the field updates.  They are stated as lemmas, and proved on an object taken apart, because the
kernel would prove `(p.extAll e).name = p.name` for a variable `p` by first comparing `p.extAll e` with `p` field by
field, and that comparison unrolls the `+ 65536` of `PField.extend` in unary. -/

theorem PTokParam.extAll_name (p : PTokParam) (e : Nat) : (p.extAll e).name = p.name := by cases p; rfl
theorem PTokParam.extAll_val (p : PTokParam) (e : Nat) : (p.extAll e).val = p.val := by cases p; rfl
theorem PTokParam.extAll_state (p : PTokParam) (e : Nat) : (p.extAll e).state = p.state := by cases p; rfl
theorem PTokParam.extVal_name (p : PTokParam) (e : Nat) : (p.extVal e).name = p.name := by cases p; rfl
theorem PTokParam.extVal_all (p : PTokParam) (e : Nat) : (p.extVal e).all = p.all := by cases p; rfl
theorem PTokParam.extVal_state (p : PTokParam) (e : Nat) : (p.extVal e).state = p.state := by cases p; rfl
theorem PTokParam.extName_name (p : PTokParam) (e : Nat) : (p.extName e).name = p.name.extend e := by cases p; rfl
theorem PTokParam.extName_all (p : PTokParam) (e : Nat) : (p.extName e).all = p.all := by cases p; rfl
theorem PTokParam.extName_val (p : PTokParam) (e : Nat) : (p.extName e).val = p.val := by cases p; rfl
theorem PTokParam.extName_state (p : PTokParam) (e : Nat) : (p.extName e).state = p.state := by cases p; rfl
theorem PTokParam.valAt_name (p : PTokParam) (i : Nat) : (p.valAt i).name = p.name := by cases p; rfl
theorem PTokParam.valAt_val (p : PTokParam) (i : Nat) : (p.valAt i).val = PField.set i i := by cases p; rfl

theorem PTokParam.closeAt_state (p : PTokParam) (i : Nat) : (p.closeAt i).state = p.state := by
  obtain ⟨all, name, val, state, pnc⟩ := p
  cases state <;> rfl

theorem PTokParam.closeAt_name (p : PTokParam) (i : Nat) :
    (p.closeAt i).name = p.name ∨ (p.closeAt i).name = p.name.extend i := by
  obtain ⟨all, name, val, state, pnc⟩ := p
  cases state
  case name => exact Or.inr rfl
  all_goals exact Or.inl rfl

/-- outside a name / token value nothing is in progress (the forms `tpDo` is written with, resolved by state) -/
theorem PTokParam.closeAt_other (p : PTokParam) (i : Nat) (h1 : p.state ≠ .name) (h2 : p.state ≠ .val) :
    p.closeAt i = p := by
  unfold PTokParam.closeAt
  split
  · exact absurd ‹_› h1
  · exact absurd ‹_› h2
  · rfl

theorem PTokParam.closeAt_of_name {p : PTokParam} (h : p.state = .name) (i : Nat) :
    p.closeAt i = (p.extName i).extAll i := by
  simp only [PTokParam.closeAt, h]

theorem PTokParam.closeAt_of_val {p : PTokParam} (h : p.state = .val) (i : Nat) :
    p.closeAt i = (p.extVal i).extAll i := by
  simp only [PTokParam.closeAt, h]

theorem tpLwsUpd_eq (i : Nat) (p : PTokParam) :
    tpLwsUpd i p.state p = { p.closeAt i with state := pvNext p.state } := by
  obtain ⟨all, name, val, state, pnc⟩ := p
  cases state <;> rfl

theorem NameStep.close {i : Nat} {p q : PTokParam} (h : q.name = (p.closeAt i).name) : NameStep i p q := by
  rcases p.closeAt_name i with h1 | h1
  · exact Or.inl (h.trans h1)
  · exact Or.inr (Or.inr (h.trans h1))

/-- a continuing iteration that moves to the next byte and leaves neither white space nor a quoted string behind -/
theorem tp_cont_next {b : Buf} {i : Nat} {p p' : PTokParam} {s' : TPState} (hi : i < b.size) (hs' : p'.state = s')
    (h : s' ≠ .fin ∧ s' ≠ .fEq ∧ s' ≠ .fSep) (hn : NameStep i p p') :
    i < i + 1 ∧ i + 1 ≤ b.size ∧ p'.state ≠ .fin ∧ (p'.state = .fEq → i + 1 < b.size) ∧
    (p'.state = .fSep → i + 1 < b.size ∨ ∃ c', b[i + 1 - 1]? = some c' ∧ isLWSch c' = false) ∧ NameStep i p p' := by
  rw [hs']
  exact ⟨Nat.lt_succ_self i, hi, h.1, fun h' => absurd h' h.2.1, fun h' => absurd h' h.2.2, hn⟩

/-- the continuing iterations: progress, range, the states that can be reached, the name field -/
theorem tp_cont_facts (flags offs : Nat) (b : Buf) (i : Nat) (c : UInt8) (p : PTokParam)
    (hb : b[i]? = some c) (hnf : p.state ≠ .fin) {i' : Nat} {p' : PTokParam}
    (hs : tpStep flags offs b i c p = .cont i' p') :
    i < i' ∧ i' ≤ b.size ∧ p'.state ≠ .fin ∧ (p'.state = .fEq → i' < b.size) ∧
    (p'.state = .fSep → i' < b.size ∨ ∃ c', b[i' - 1]? = some c' ∧ isLWSch c' = false) ∧ NameStep i p p' := by
  have hi := get?_lt hb
  obtain ⟨a, hw, ha⟩ := tpStep_act flags offs b i c p
  rw [ha] at hs
  cases a
  case lws =>
    change tpLWS b flags i p _ = _ at hs
    rcases tpLWS_cases b flags i p (tpLwsUpd i p.state) with ⟨n, crl, hsk, h⟩ | ⟨n, crl, hsk, h⟩ | ⟨n, crl, hsk, h⟩ <;>
      rw [h] at hs <;> cases hs
    obtain ⟨_, c', hc', _⟩ := skipLWS_ok b i flags hsk
    have hn := get?_lt hc'
    rw [tpLwsUpd_eq]
    refine ⟨skipLWS_ok_gt b i flags hb hw.1 hsk, Nat.le_of_lt hn, ?_, fun _ => hn, fun _ => Or.inl hn, NameStep.close rfl⟩
    show pvNext p.state ≠ .fin
    cases hst : p.state <;> first | exact absurd hst hnf | decide
  case quoted =>
    rcases tpDo_quoted flags offs b i p hw with ⟨n, hq, h⟩ | ⟨n, hq, h⟩ | ⟨n, hq, h⟩ <;> rw [h] at hs <;> cases hs
    exact ⟨skipQuoted_ok_gt b i hq, (skipQuoted_range b i (Nat.le_of_lt hi) hq).2, (fun h => by cases h),
      (fun h => by cases h), fun _ => Or.inr ⟨34, (skipQuoted_ok_prev b i hq).1, by decide⟩,
      Or.inl (by simp only [PTokParam.extAll_name, PTokParam.extVal_name])⟩
  case spEq => change tpSpTermEq offs i p = _ at hs; unfold tpSpTermEq at hs; split at hs <;> cases hs
  case spSep =>
    change tpSpTermSep b offs i p = _ at hs
    unfold tpSpTermSep at hs
    repeat' (split at hs)
    all_goals cases hs
  case stay => cases hs; exact tp_cont_next hi rfl ⟨hnf, hw.1, hw.2.1⟩ (Or.inl rfl)
  case first => cases hs; exact tp_cont_next hi (s' := .name) rfl (by decide) (Or.inr (Or.inl rfl))
  case eqName =>
    cases hs
    exact tp_cont_next hi (s' := .fVal) rfl (by decide)
      (Or.inr (Or.inr (by simp only [PTokParam.extAll_name, PTokParam.extName_name])))
  case eqF => cases hs; exact tp_cont_next hi (s' := .fVal) rfl (by decide) (Or.inl rfl)
  case sep => cases hs; exact tp_cont_next hi (s' := .fNxt) rfl (by decide) (NameStep.close rfl)
  case sepV => cases hs; exact tp_cont_next hi (s' := .fNxt) rfl (by decide) (Or.inl (p.valAt_name i))
  case quote => cases hs; exact tp_cont_next hi (s' := .quotedVal) rfl (by decide) (Or.inl (p.valAt_name i))
  case startVal => cases hs; exact tp_cont_next hi (s' := .val) rfl (by decide) (Or.inl (p.valAt_name i))
  all_goals cases hs

/-- what is said about a final iteration: range of the returned offset, the name field, the two kinds of suspension,
    "more values" only right after a separator -/
def TpDoneFacts (offs : Nat) (b : Buf) (i : Nat) (c : UInt8) (p : PTokParam) (o : Nat) (e : Err) (p' : PTokParam) : Prop :=
  (offs ≤ i → offs ≤ o) ∧ o ≤ b.size ∧ NameStep i p p' ∧
    (e = .moreBytes → i ≤ o ∧ p' = p ∧ ((isLWSch c = true ∧ o = i) ∨ p.state = .quotedVal)) ∧
    (e = .moreValues → o = i ∧ p.state = .fNxt)

theorem TpDoneFacts.plain {offs : Nat} {b : Buf} {i : Nat} {c : UInt8} {p : PTokParam} {o : Nat} {e : Err}
    {p' : PTokParam} (h1 : offs ≤ i → offs ≤ o) (h2 : o ≤ b.size) (hn : NameStep i p p') (he1 : e ≠ .moreBytes)
    (he2 : e ≠ .moreValues) : TpDoneFacts offs b i c p o e p' :=
  ⟨h1, h2, hn, fun h => absurd h he1, fun h => absurd h he2⟩

theorem tpMoreBytes_ne_mv (b : Buf) (flags : Nat) (p : PTokParam) (i : Nat) :
    (tpMoreBytes b flags p i).2.1 ≠ .moreValues := by
  rcases tpMoreBytes_cases b flags p i with h | ⟨_, h⟩ | h <;> rw [h]
  · exact fun h => by cases h
  · exact fun h => by cases h
  · exact (tpEOH_facts _ _ _).2.2.1

theorem tpMoreBytes_facts (b : Buf) (flags : Nat) (p : PTokParam) (i : Nat) (hi : i ≤ b.size) :
    i ≤ (tpMoreBytes b flags p i).1 ∧ (tpMoreBytes b flags p i).1 ≤ b.size ∧
    NameStep i p (tpMoreBytes b flags p i).2.2 ∧
    ((tpMoreBytes b flags p i).2.1 = .moreBytes → tpMoreBytes b flags p i = (i, .moreBytes, p)) := by
  rcases tpMoreBytes_cases b flags p i with h | ⟨_, h⟩ | h <;> rw [h]
  · exact ⟨Nat.le_refl _, hi, Or.inl rfl, fun _ => rfl⟩
  · exact ⟨Nat.le_refl _, hi, Or.inl rfl, fun h => by cases h⟩
  · obtain ⟨h1, h2, h3, h4⟩ := tpEOH_facts (p.closeAt i) b.size 0
    exact ⟨by rw [h1]; omega, by rw [h1]; omega, NameStep.close h4, fun h => absurd h h2⟩

theorem tpMoreBytes_done (b : Buf) (flags offs : Nat) (p : PTokParam) (i : Nat) (c : UInt8)
    (hi : i ≤ b.size) (hl : isLWSch c = true) :
    TpDoneFacts offs b i c p (tpMoreBytes b flags p i).1 (tpMoreBytes b flags p i).2.1 (tpMoreBytes b flags p i).2.2 := by
  obtain ⟨h1, h2, h3, h5⟩ := tpMoreBytes_facts b flags p i hi
  refine ⟨fun _ => by omega, h2, h3, fun he => ?_, fun he => absurd he (tpMoreBytes_ne_mv b flags p i)⟩
  rw [h5 he]
  exact ⟨Nat.le_refl _, rfl, Or.inl ⟨hl, rfl⟩⟩

theorem tp_done_facts (flags offs : Nat) (b : Buf) (i : Nat) (c : UInt8) (p : PTokParam)
    (hb : b[i]? = some c) {o : Nat} {e : Err} {p' : PTokParam}
    (hs : tpStep flags offs b i c p = .done o e p') : TpDoneFacts offs b i c p o e p' := by
  have hi := get?_lt hb
  obtain ⟨a, hw, ha⟩ := tpStep_act flags offs b i c p
  rw [ha] at hs
  cases a
  case lws =>
    change tpLWS b flags i p _ = _ at hs
    rcases tpLWS_cases b flags i p (tpLwsUpd i p.state) with ⟨n, crl, hsk, h⟩ | ⟨n, crl, hsk, h⟩ | ⟨n, crl, hsk, h⟩ <;>
      rw [h] at hs <;> cases hs
    · exact tpMoreBytes_done b flags offs p i c (Nat.le_of_lt hi) hw.1
    · obtain ⟨h1, h2, h3, h4⟩ := tpEOH_facts (tpLwsUpd i p.state p) n crl
      have := (skipLWS_range b i flags hsk).1
      have := skipLWS_eoh_le b i flags hsk
      refine .plain (by rw [h1]; omega) (by rw [h1]; omega) (NameStep.close ?_) h2 h3
      rw [h4, tpLwsUpd_eq]
  case quoted =>
    rcases tpDo_quoted flags offs b i p hw with ⟨n, hq, h⟩ | ⟨n, hq, h⟩ | ⟨n, hq, h⟩ <;> rw [h] at hs <;> cases hs
    · have h2 := skipQuoted_range b i (Nat.le_of_lt hi) hq
      exact ⟨by omega, h2.2, Or.inl rfl, fun _ => ⟨h2.1, rfl, Or.inr hw⟩, fun h => by cases h⟩
    · have h2 := skipQuoted_range b i (Nat.le_of_lt hi) hq
      exact .plain (by omega) h2.2 (Or.inl rfl) (fun h => by cases h) (fun h => by cases h)
  case spEq =>
    change tpSpTermEq offs i p = _ at hs
    unfold tpSpTermEq at hs
    split at hs <;> cases hs <;>
      exact .plain (by omega) (by omega) (Or.inl rfl) (fun h => by cases h) (fun h => by cases h)
  case spSep =>
    change tpSpTermSep b offs i p = _ at hs
    unfold tpSpTermSep at hs
    repeat' (split at hs)
    all_goals
      cases hs
      exact .plain (by omega) (by omega) (Or.inl rfl) (fun h => by cases h) (fun h => by cases h)
  case next =>
    cases hs
    exact ⟨id, Nat.le_of_lt hi, Or.inl rfl, (fun h => by cases h), fun _ => ⟨rfl, hw⟩⟩
  case term =>
    cases hs
    exact .plain id (Nat.le_of_lt hi) (NameStep.close rfl) (fun h => by cases h) (fun h => by cases h)
  case termV =>
    cases hs
    exact .plain id (Nat.le_of_lt hi) (Or.inl rfl) (fun h => by cases h) (fun h => by cases h)
  case bad =>
    cases hs
    exact .plain id (Nat.le_of_lt hi) (Or.inl rfl) (fun h => by cases h) (fun h => by cases h)
  all_goals cases hs

/-! ### progress of the loop body -/

theorem tp_progress (flags offs : Nat) : Progress (tpMachine flags offs) := by
  intro b i c p i' st' hb hs
  change tpStep flags offs b i c p = _ at hs
  by_cases hf : p.state = .fin
  · -- a finished object steps over the byte
    rw [tpStep_eq, hf] at hs
    change Step.cont (i + 1) p = _ at hs
    cases hs; exact Nat.lt_succ_self i
  · exact (tp_cont_facts flags offs b i c p hb hf hs).1

/-! ### the call -/

theorem parseTokenParam_run (flags : Nat) (b : Buf) (o : Nat) (p : PTokParam) (hst : p.state ≠ .fin) :
    parseTokenParam b o p flags = runLoop (tpMachine flags o) b o p := by
  unfold parseTokenParam; rw [if_neg hst]

end Sipsp
