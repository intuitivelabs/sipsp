/-
  Sipsp.Proofs.TruncPipeline — property C06 (framing), the pipeline clause when the LAST text of the buffer is complete
  only in the no-more-data mode: header block complete, body shorter than its Content-Length (`tpTruncated kh kc y h`,
  stated on the components of the stand-alone parse so that it is decidable on concrete inputs).  Vocabulary of
  PipelineAlone (`smCat`, `paAloneOK`, `paAlone`, `paMoved`, `paParseAll`); `flags'` is always a flag word that agrees
  with `flags` on skip-body and require-Content-Length (e.g. `flags ||| SIPMsgNoMoreDataF`).  For all buffers / texts /
  capacities / objects of any history (`ScReach`), buffers within the documented 65,535-byte limit:
  (1) `pipeline_last_truncated`: `k` complete framing-definite messages, then a last text with a truncated body, body
      parsing on.  The loop WITH the no-more-data flag returns the `k` moved stand-alone objects, then the stand-alone
      no-more-data object of the last text moved by its start (what ONE call with the flag on that text alone returns:
      OK at its end, body `Set(h,h).Extend(len)`; read back from the pipeline buffer: exactly the bytes after the
      header block up to the end of the buffer), OK at the end of the buffer.  The loop WITHOUT the flag returns the
      same `k` objects and stops with MoreBytes at the body start of the last text.
      `pipeline_last_complete_at_end`: ANY last text that alone gives OK at its end under the loop's flag word.
  (2) `pipeline_flag_irrelevant_before_last`: `k` complete framing-definite messages followed by ANY tail: the loop with
      the no-more-data flag and the loop without it return the same first `k` objects.
  (3) `declared_length_rules`: a text that parses OK (no no-more-data flag, body parsing on) with a parsed
      Content-Length `n`: for ANY appended bytes and also WITH the no-more-data flag the call returns the same triple,
      OK at `h + n`, body = exactly `x[h : h+n]`.  `tp_clen_fit`: the Content-Length row of the body table for
      ParseSIPMsg under EVERY flag word with body parsing on, with the read-back `body.get?`.
  (4) chunk schedules, one message object: `tp_schedule_message`, `tp_schedule_last_truncated` (one message inside the
      buffer arriving as ANY growing list of prefixes: the chain of resumed calls from Reset returns the result of ONE
      call on the complete buffer); `tpStreamAll` = the caller's streaming loop (one chunk schedule per message),
      `pipeline_chunking_irrelevant` / `pipeline_chunking_irrelevant_truncated`: over arbitrary schedules it returns
      what the loop over the complete buffer returns.

  NOT proved here:
  * a last text whose HEADER BLOCK is incomplete or malformed (stand-alone verdict MoreBytes / Trunc / an error): only
    `pipeline_nth_message` (ShiftMsg) applies — same verdict and offset as the stand-alone call, moved;
  * a truncated text that is NOT the last one: it is not a pipeline in the sense of the property (the announced bytes
    are taken from the next text, test (b) of PipelineAlone);
  * the schedules of (4) use `flags` on all buffers but the last of each schedule; an earlier call that already carries
    the no-more-data flag stops the chain early (tests of MsgLastFlags) — covered only by the general
    `schedule_msg_last_flags`;
  * as in PipelineAlone: the stand-alone objects are those of an Init object with the capacities of the caller's
    object; caller arrays handed to Init are assumed cleared; buffers beyond 65,535 bytes.
-/
import Sipsp.Proofs.PipelineAlone
import Sipsp.Proofs.MsgLastFlags

namespace Sipsp

/-! ### the truncated text, parsed alone -/

/-- the result of ParseHeaders on the text `y` alone, called where ParseFLine stopped (new object, capacities `kh`, `kc`) -/
def tpHdrRes (kh kc : Nat) (y : Buf) : Nat × Err × HdrLst × Option PHdrVals :=
  parseHeaders y (parseFLine y 0 (paInit kh kc).fl).1 (paInit kh kc).hl (some (paInit kh kc).pv)

/-- the text `y` has a complete header block ending at `h` and a body shorter than its Content-Length.  Stated on the
    components (ParseFLine OK, ParseHeaders OK at `h`, Content-Length parsed, `len(y) < h + n`) so that it is decidable
    on concrete inputs; `tpTruncated_elim` gives the usual form. -/
def tpTruncated (kh kc : Nat) (y : Buf) (h : Nat) : Prop :=
  (parseFLine y 0 (paInit kh kc).fl).2.1 = .ok ∧ (tpHdrRes kh kc y).1 = h ∧ (tpHdrRes kh kc y).2.1 = .ok ∧
    (tpHdrRes kh kc y).2.2.2.map (fun hv => hv.clen.parsed && decide (y.size < h + hv.clen.uiVal)) = some true

instance (kh kc : Nat) (y : Buf) (h : Nat) : Decidable (tpTruncated kh kc y h) := by unfold tpTruncated; infer_instance

theorem tpTruncated_elim {kh kc : Nat} {y : Buf} {h : Nat} (H : tpTruncated kh kc y h) :
    ∃ o1 fl hl hv, parseFLine y 0 (paInit kh kc).fl = (o1, .ok, fl) ∧
      parseHeaders y o1 (paInit kh kc).hl (some (paInit kh kc).pv) = (h, .ok, hl, some hv) ∧
      hv.clen.parsed = true ∧ y.size < h + hv.clen.uiVal := by
  obtain ⟨h1, h2, h3, h4⟩ := H
  unfold tpHdrRes at h2 h3 h4
  rcases hf : parseFLine y 0 (paInit kh kc).fl with ⟨o1, e1, fl⟩
  rw [hf] at h1 h2 h3 h4
  simp only at h1 h2 h3 h4
  subst h1
  rcases hp : parseHeaders y o1 (paInit kh kc).hl (some (paInit kh kc).pv) with ⟨h', e2, hl, hb⟩
  rw [hp] at h2 h3 h4
  simp only at h2 h3 h4
  subst h2 h3
  cases hb with
  | none => simp at h4
  | some hv =>
    simp only [Option.map_some, Option.some.injEq, Bool.and_eq_true, decide_eq_true_eq] at h4
    exact ⟨o1, fl, hl, hv, rfl, hp, h4.1, h4.2⟩

/-- the Init object with recorded length `L` (what Reset leaves after any history, `sc_reset_after_history`) -/
def tpInitL (L kh kc : Nat) : PSIPMsg :=
  ({} : PSIPMsg).init L ((some ()).map fun _ => Array.replicate kh {}) ((some ()).map fun _ => Array.replicate kc {})

theorem tpInitL_zero (kh kc : Nat) : tpInitL 0 kh kc = paInit kh kc := rfl

/-- one turn of the caller's loop, whatever the verdict: Reset after any history, then ParseSIPMsg at the start of a
    text `y` that is preceded by `pre` and ends the buffer, is the call on `y` alone — from the Init object with the
    capacities and the recorded length of the caller's object — moved by `pre.size` (`pa_turn_any` is its OK case) -/
theorem pa_turn_res (pre y : Buf) (f : Nat) {m : PSIPMsg} (hR : ScReach m) (hfit : (pre ++ y).size ≤ 65535) :
    smResM pre.size (parseSIPMsg (pre ++ y) pre.size m.reset f)
      (parseSIPMsg y 0 (tpInitL m.bufLen m.hl.hdrs.size m.pv.contacts.vals.size) f) := by
  rw [sc_reset_after_history hR]
  rw [Array.size_append] at hfit
  exact parseSIPMsg_shift_init pre y 0 (Nat.zero_le _) {} m.bufLen _ _ (some ()) (some ()) f hfit

/-- alone, with the no-more-data flag: OK at the end of the text, the body is `Set(h,h).Extend(len(y))` -/
theorem tp_trunc_alone_nmd {kh kc : Nat} {y : Buf} {h : Nat} (H : tpTruncated kh kc y h) (f' : Nat)
    (hs : hasFlag f' SIPMsgSkipBodyF = false) (hn : hasFlag f' SIPMsgNoMoreDataF = true) :
    parseSIPMsg y 0 (paInit kh kc) f' = (y.size, .ok, paAlone f' kh kc y) ∧
    (paAlone f' kh kc y).body = (PField.set h h).extend y.size ∧ (paAlone f' kh kc y).state = .fin ∧
    (paAlone f' kh kc y).pv.clen.parsed = true ∧ y.size < h + (paAlone f' kh kc y).pv.clen.uiVal := by
  obtain ⟨o1, fl, hl, hv, hf, hh, hc, hshort⟩ := tpTruncated_elim H
  have htr := parseSIPMsg_clen_trunc y 0 o1 h (paInit kh kc) f' fl hl hv rfl hf hh hs hn hc hshort
  have hpv : (paAlone f' kh kc y).pv = hv := htr.2.2.2.2
  exact ⟨Prod.ext htr.1 (Prod.ext htr.2.1 rfl), htr.2.2.1, htr.2.2.2.1, by rw [hpv]; exact hc, by rw [hpv]; exact hshort⟩

/-- alone, without the flag: MoreBytes at the body start `h` -/
theorem tp_trunc_alone_more {kh kc : Nat} {y : Buf} {h : Nat} (H : tpTruncated kh kc y h) (f : Nat)
    (hs : hasFlag f SIPMsgSkipBodyF = false) (hn : hasFlag f SIPMsgNoMoreDataF = false) (L : Nat) :
    (parseSIPMsg y 0 (tpInitL L kh kc) f).1 = h ∧ (parseSIPMsg y 0 (tpInitL L kh kc) f).2.1 = .moreBytes := by
  obtain ⟨o1, fl, hl, hv, hf, hh, hc, hshort⟩ := tpTruncated_elim H
  exact (parseSIPMsg_clen_framing y 0 o1 h (tpInitL L kh kc) f fl hl hv rfl hf hh hs hn hc).2.2 (by omega)

/-! ### one turn of the caller's loop at the start of the truncated text -/

/-- [C06] Reset + ParseSIPMsg WITH the no-more-data flag at the start of the truncated text that ends the buffer: OK at
    the end of the buffer, the stand-alone no-more-data object moved -/
theorem tp_turn_trunc_nmd (pre y : Buf) {kh kc h : Nat} (H : tpTruncated kh kc y h) (f' : Nat)
    (hs : hasFlag f' SIPMsgSkipBodyF = false) (hn : hasFlag f' SIPMsgNoMoreDataF = true) {m : PSIPMsg}
    (hR : ScReach m) (hkh : m.hl.hdrs.size = kh) (hkc : m.pv.contacts.vals.size = kc)
    (hfit : (pre ++ y).size ≤ 65535) :
    parseSIPMsg (pre ++ y) pre.size m.reset f' = (pre.size + y.size, .ok, shMsg pre.size (paAlone f' kh kc y)) := by
  subst hkh hkc
  exact pa_turn_any pre y f' hR hfit (tp_trunc_alone_nmd H f' hs hn).1

/-- [C06] Reset + ParseSIPMsg WITHOUT the no-more-data flag at the start of the truncated text: MoreBytes at the body
    start of `y` (`pre.size + h`), nothing of the body consumed -/
theorem tp_turn_trunc_more (pre y : Buf) {kh kc h : Nat} (H : tpTruncated kh kc y h) (f : Nat)
    (hs : hasFlag f SIPMsgSkipBodyF = false) (hn : hasFlag f SIPMsgNoMoreDataF = false) {m : PSIPMsg}
    (hR : ScReach m) (hkh : m.hl.hdrs.size = kh) (hkc : m.pv.contacts.vals.size = kc)
    (hfit : (pre ++ y).size ≤ 65535) :
    (parseSIPMsg (pre ++ y) pre.size m.reset f).1 = pre.size + h ∧
    (parseSIPMsg (pre ++ y) pre.size m.reset f).2.1 = .moreBytes := by
  obtain ⟨r1, r2, _⟩ := pa_turn_res pre y f hR hfit
  subst hkh hkc
  rw [r1, r2]
  exact ⟨congrArg _ (tp_trunc_alone_more H f hs hn m.bufLen).1, (tp_trunc_alone_more H f hs hn m.bufLen).2⟩

/-! ### (2) for the first `k` messages the no-more-data flag makes no difference -/

/-- [C06] (2), call level: the call at the start of a complete framing-definite message inside any buffer returns the
    same triple with the no-more-data flag as without it (`flags_switch` of C01x at pipeline level) -/
theorem tp_flag_irrelevant_call (pre x rest : Buf) (flags flags' : Nat)
    (hs : hasFlag flags' SIPMsgSkipBodyF = hasFlag flags SIPMsgSkipBodyF)
    (hr : hasFlag flags' SIPMsgCLenReqF = hasFlag flags SIPMsgCLenReqF) {m : PSIPMsg} (hR : ScReach m)
    (hfit : (pre ++ (x ++ rest)).size ≤ 65535)
    (hx : paAloneOK flags m.hl.hdrs.size m.pv.contacts.vals.size x) :
    parseSIPMsg (pre ++ (x ++ rest)) pre.size m.reset flags' = parseSIPMsg (pre ++ (x ++ rest)) pre.size m.reset flags ∧
    parseSIPMsg (pre ++ (x ++ rest)) pre.size m.reset flags =
      (pre.size + x.size, .ok, shMsg pre.size (paAlone flags m.hl.hdrs.size m.pv.contacts.vals.size x)) := by
  have h1 := pa_turn pre x rest flags flags' hs hr hR hfit hx
  have h2 := pa_turn pre x rest flags flags rfl rfl hR hfit hx
  exact ⟨by rw [h1, h2], h2⟩

/-- [C06] (2): whatever the no-more-data flag changes, it changes it at `tail` (complete, truncated, garbage, empty) -/
theorem pipeline_flag_irrelevant_before_last (l : List Buf) (tail : Buf) (flags flags' : Nat)
    (hs : hasFlag flags' SIPMsgSkipBodyF = hasFlag flags SIPMsgSkipBodyF)
    (hr : hasFlag flags' SIPMsgCLenReqF = hasFlag flags SIPMsgCLenReqF) {m : PSIPMsg} (hR : ScReach m)
    (hfit : (smCat l ++ tail).size ≤ 65535)
    (hall : ∀ x ∈ l, paAloneOK flags m.hl.hdrs.size m.pv.contacts.vals.size x) :
    (paParseAll (smCat l ++ tail) flags' 0 m).1.take l.length =
      paMoved flags m.hl.hdrs.size m.pv.contacts.vals.size 0 l ∧
    (paParseAll (smCat l ++ tail) flags 0 m).1.take l.length =
      paMoved flags m.hl.hdrs.size m.pv.contacts.vals.size 0 l ∧
    ∀ (i : Nat) (hi : i < l.length),
      (paParseAll (smCat l ++ tail) flags' 0 m).1[i]? = (paParseAll (smCat l ++ tail) flags 0 m).1[i]? ∧
      (paParseAll (smCat l ++ tail) flags 0 m).1[i]? =
        some (shMsg (smCat (l.take i)).size (paAlone flags m.hl.hdrs.size m.pv.contacts.vals.size l[i])) := by
  have key : ∀ f', hasFlag f' SIPMsgSkipBodyF = hasFlag flags SIPMsgSkipBodyF →
      hasFlag f' SIPMsgCLenReqF = hasFlag flags SIPMsgCLenReqF →
      ∃ r, (paParseAll (smCat l ++ tail) f' 0 m).1 = paMoved flags m.hl.hdrs.size m.pv.contacts.vals.size 0 l ++ r := by
    intro f' hs' hr'
    obtain ⟨m', _, _, _, h⟩ := pa_parseAll_prefix0 l tail flags f' hs' hr' hR hfit hall
    exact ⟨_, congrArg (·.1) h⟩
  obtain ⟨r1, h1⟩ := key flags' hs hr
  obtain ⟨r2, h2⟩ := key flags rfl rfl
  have hlen := paMoved_length flags m.hl.hdrs.size m.pv.contacts.vals.size 0 l
  refine ⟨by rw [h1, ← hlen, List.take_left], by rw [h2, ← hlen, List.take_left], fun i hi => ?_⟩
  have hg := paMoved_get flags m.hl.hdrs.size m.pv.contacts.vals.size 0 l i hi
  rw [Nat.zero_add] at hg
  rw [h1, h2, List.getElem?_append_left (by rw [hlen]; exact hi), List.getElem?_append_left (by rw [hlen]; exact hi)]
  exact ⟨rfl, hg⟩

/-! ### (1) `k` complete messages, then a last text with a truncated body -/

/-- the truncated body of the last text, read back from the pipeline buffer: the bytes of `y` after its header block -/
theorem tp_moved_trunc_body_get (pre y : Buf) (h : Nat) (hh : h ≤ y.size) (hfit : (pre ++ y).size ≤ 65535) :
    (shF pre.size ((PField.set h h).extend y.size)).get? (pre ++ y) = some (y.extract h y.size) := by
  rw [Array.size_append] at hfit
  rw [get?_shiftF pre y _ (by rw [mlf_set_extend h y.size hh (by omega)]; show h + (y.size - h) ≤ y.size; omega) hfit]
  exact mlf_body_get y h y.size hh (Nat.le_refl _) (by omega)

theorem tpTruncated_le {kh kc : Nat} {y : Buf} {h : Nat} (H : tpTruncated kh kc y h) : h ≤ y.size := by
  obtain ⟨o1, fl, hl, hv, hf, hh, _, _⟩ := tpTruncated_elim H
  exact mlf_headers_end_le y 0 o1 h (paInit kh kc) fl hl hv
    (msgOK_init y 0 (Nat.zero_le _) {} 0 kh kc (some ()) (some ())) hf hh

/-- a truncated text has at least 14 bytes (its first line parsed OK) -/
theorem tpTruncated_size {kh kc : Nat} {y : Buf} {h : Nat} (H : tpTruncated kh kc y h) : 14 ≤ y.size := by
  have := pa_ok_size_ge y 0 (paInit kh kc) 4 rfl rfl (tp_trunc_alone_nmd H 4 (by decide) (by decide)).1
  omega

/-- [C06] the last text `y`, parsed ALONE with the flag word of the loop, gives OK exactly at its end — for whatever
    reason: a truncated body in the no-more-data mode, "no Content-Length, body = rest of the buffer", or a complete
    framing-definite message -/
theorem pipeline_last_complete_at_end (l : List Buf) (y : Buf) (flags flags' : Nat)
    (hs : hasFlag flags' SIPMsgSkipBodyF = hasFlag flags SIPMsgSkipBodyF)
    (hr : hasFlag flags' SIPMsgCLenReqF = hasFlag flags SIPMsgCLenReqF) {m : PSIPMsg} (hR : ScReach m)
    (hfit : (smCat l ++ y).size ≤ 65535)
    (hall : ∀ x ∈ l, paAloneOK flags m.hl.hdrs.size m.pv.contacts.vals.size x) {obj : PSIPMsg}
    (hy : parseSIPMsg y 0 (paInit m.hl.hdrs.size m.pv.contacts.vals.size) flags' = (y.size, .ok, obj)) :
    paParseAll (smCat l ++ y) flags' 0 m =
      (paMoved flags m.hl.hdrs.size m.pv.contacts.vals.size 0 l ++ [shMsg (smCat l).size obj],
       (smCat l ++ y).size, .ok) := by
  have hy14 := pa_ok_size_ge y 0 (paInit m.hl.hdrs.size m.pv.contacts.vals.size) flags' rfl rfl hy
  obtain ⟨m', hR', hkh', hkc', hp⟩ := pa_parseAll_prefix0 l y flags flags' hs hr hR hfit hall
  rw [← hkh', ← hkc'] at hy
  have hsz : (smCat l ++ y).size = (smCat l).size + y.size := Array.size_append
  rw [hp, pa_parseAll_ok _ _ _ _ (pa_turn_any (smCat l) y flags' hR' hfit hy) (by omega) (by omega), ← hsz,
    pa_parseAll_end]
  rfl

/-- [C06] (1), see the file header; `flags` does not carry the no-more-data flag, `flags'` is `flags` plus the flag -/
theorem pipeline_last_truncated (l : List Buf) (y : Buf) (h : Nat) (flags flags' : Nat)
    (hs : hasFlag flags' SIPMsgSkipBodyF = hasFlag flags SIPMsgSkipBodyF)
    (hr : hasFlag flags' SIPMsgCLenReqF = hasFlag flags SIPMsgCLenReqF)
    (hnf : hasFlag flags SIPMsgNoMoreDataF = false) (hn : hasFlag flags' SIPMsgNoMoreDataF = true)
    (hsk : hasFlag flags SIPMsgSkipBodyF = false) {m : PSIPMsg} (hR : ScReach m)
    (hfit : (smCat l ++ y).size ≤ 65535)
    (hall : ∀ x ∈ l, paAloneOK flags m.hl.hdrs.size m.pv.contacts.vals.size x)
    (hy : tpTruncated m.hl.hdrs.size m.pv.contacts.vals.size y h) :
    (paParseAll (smCat l ++ y) flags' 0 m =
        (paMoved flags m.hl.hdrs.size m.pv.contacts.vals.size 0 l ++
          [shMsg (smCat l).size (paAlone flags' m.hl.hdrs.size m.pv.contacts.vals.size y)],
         (smCat l ++ y).size, .ok) ∧
      parseSIPMsg y 0 (paInit m.hl.hdrs.size m.pv.contacts.vals.size) flags' =
        (y.size, .ok, paAlone flags' m.hl.hdrs.size m.pv.contacts.vals.size y) ∧
      (paAlone flags' m.hl.hdrs.size m.pv.contacts.vals.size y).body = (PField.set h h).extend y.size ∧
      (shMsg (smCat l).size (paAlone flags' m.hl.hdrs.size m.pv.contacts.vals.size y)).body.get? (smCat l ++ y) =
        some (y.extract h y.size)) ∧
    paParseAll (smCat l ++ y) flags 0 m =
      (paMoved flags m.hl.hdrs.size m.pv.contacts.vals.size 0 l, (smCat l).size + h, .moreBytes) := by
  have hsk' : hasFlag flags' SIPMsgSkipBodyF = false := by rw [hs]; exact hsk
  have hal := tp_trunc_alone_nmd hy flags' hsk' hn
  refine ⟨⟨pipeline_last_complete_at_end l y flags flags' hs hr hR hfit hall hal.1, hal.1, hal.2.1, ?_⟩, ?_⟩
  · have hb : (shMsg (smCat l).size (paAlone flags' m.hl.hdrs.size m.pv.contacts.vals.size y)).body =
        shF (smCat l).size ((PField.set h h).extend y.size) := by
      show shMb _ (paAlone flags' m.hl.hdrs.size m.pv.contacts.vals.size y).state _ = _
      rw [hal.2.2.1, hal.2.1]
      rfl
    rw [hb]
    exact tp_moved_trunc_body_get (smCat l) y h (tpTruncated_le hy) hfit
  · have hy14 := tpTruncated_size hy
    obtain ⟨m', hR', hkh', hkc', hp⟩ := pa_parseAll_prefix0 l y flags flags rfl rfl hR hfit hall
    have ht := tp_turn_trunc_more (smCat l) y hy flags hsk hnf hR' hkh' hkc' hfit
    rw [hp, pa_parseAll_stop _ _ _ _ (by rw [Array.size_append]; omega) (by rw [ht.2]; nofun), ht.1, ht.2]
    simp [tpPre]

/-! ### (3) a declared length rules: with `n` bytes available the body is exactly those `n` bytes, in every mode -/

/-- the field `Set(h,h).Extend(h+n)` read back from any buffer that holds the `n` bytes: exactly `buf[h : h+n]` -/
theorem tp_body_get (B : Buf) (h n : Nat) (hfit : h + n ≤ B.size) (hlim : h + n ≤ 65535) :
    ((PField.set h h).extend (h + n)).get? B = some (B.extract h (h + n)) ∧
    ((PField.set h h).extend (h + n)).offs = h ∧ ((PField.set h h).extend (h + n)).len = n := by
  rw [mlf_body_get B h (h + n) (Nat.le_add_right ..) hfit hlim, mlf_set_extend h (h + n) (Nat.le_add_right ..) hlim]
  exact ⟨rfl, rfl, Nat.add_sub_cancel_left ..⟩

/-- [C06] the Content-Length row of the body table for ParseSIPMsg, every flag word with body parsing on
    (`parseSIPMsg_clen_fit`), with the read-back: within the 16-bit limit the body denotes exactly `buf[h : h+n]` —
    never more, never fewer, whatever follows -/
theorem tp_clen_fit (b : Buf) (o o1 h : Nat) (m : PSIPMsg) (flags : Nat) (fl : PFLine) (hl : HdrLst)
    (hv : PHdrVals) (hst : m.state = .init) (hf : parseFLine b o m.fl = (o1, .ok, fl))
    (hh : parseHeaders b o1 m.hl (some m.pv) = (h, .ok, hl, some hv))
    (hs : hasFlag flags SIPMsgSkipBodyF = false) (hc : hv.clen.parsed = true)
    (hfit : h + hv.clen.uiVal ≤ b.size) :
    (parseSIPMsg b o m flags).1 = h + hv.clen.uiVal ∧ (parseSIPMsg b o m flags).2.1 = .ok ∧
    (parseSIPMsg b o m flags).2.2.body = (PField.set h h).extend (h + hv.clen.uiVal) ∧
    (parseSIPMsg b o m flags).2.2.state = .fin ∧ (parseSIPMsg b o m flags).2.2.pv = hv ∧
    (h + hv.clen.uiVal ≤ 65535 →
      (parseSIPMsg b o m flags).2.2.body.get? b = some (b.extract h (h + hv.clen.uiVal)) ∧
      (parseSIPMsg b o m flags).2.2.body.offs = h ∧ (parseSIPMsg b o m flags).2.2.body.len = hv.clen.uiVal) := by
  rw [parseSIPMsg_clen_fit b o o1 h m flags fl hl hv hst hf hh hs hc hfit]
  refine ⟨rfl, rfl, rfl, rfl, rfl, fun hlim => ?_⟩
  exact tp_body_get b h hv.clen.uiVal hfit hlim

/-- [C06] (3): the `n` announced bytes are the body — never more (the bytes of `rest`, or further bytes of `x`, are not
    taken, also when the caller says no more data will come) and never fewer; `h` is where the header block ended; at
    least `n` bytes follow it by `ok_with_content_length` -/
theorem declared_length_rules (x rest : Buf) (o : Nat) (m : PSIPMsg) (flags flags' : Nat)
    (hs' : hasFlag flags' SIPMsgSkipBodyF = hasFlag flags SIPMsgSkipBodyF)
    (hr' : hasFlag flags' SIPMsgCLenReqF = hasFlag flags SIPMsgCLenReqF)
    (hok : msgOK x o m) (hst : m.state = .init) (hfit : x.size ≤ 65535)
    (hs : hasFlag flags SIPMsgSkipBodyF = false) (hn : hasFlag flags SIPMsgNoMoreDataF = false)
    {o' : Nat} {m' : PSIPMsg} (hr : parseSIPMsg x o m flags = (o', .ok, m')) (hc : m'.pv.clen.parsed = true) :
    ∃ h, h + m'.pv.clen.uiVal ≤ x.size ∧ o' = h + m'.pv.clen.uiVal ∧
      parseSIPMsg (x ++ rest) o m flags = (h + m'.pv.clen.uiVal, .ok, m') ∧
      parseSIPMsg (x ++ rest) o m flags' = (h + m'.pv.clen.uiVal, .ok, m') ∧
      parseSIPMsg x o m flags' = (h + m'.pv.clen.uiVal, .ok, m') ∧
      m'.body = (PField.set h h).extend (h + m'.pv.clen.uiVal) ∧
      m'.body.offs = h ∧ m'.body.len = m'.pv.clen.uiVal ∧
      m'.body.get? (x ++ rest) = some (x.extract h (h + m'.pv.clen.uiVal)) := by
  obtain ⟨o1, fl, h, hl, _, _, hle, ho', hbody, _⟩ := parseSIPMsg_ok_clen x o m flags hst hs hn hr hc
  subst ho'
  have hnb : ¬ bodyToEnd flags m' := fun hb => by rw [hb.2.1] at hc; cases hc
  have h1 := parseSIPMsg_stable x rest o m flags hok hfit hn hr (by decide) hnb
  have h2 := pa_ok_any_nomore (x ++ rest) o m flags flags' hs' hr' hn h1
  have h3 := pa_ok_any_nomore x o m flags flags' hs' hr' hn hr
  have hg := tp_body_get (x ++ rest) h m'.pv.clen.uiVal (by rw [Array.size_append]; omega) (by omega)
  refine ⟨h, hle, rfl, h1, h2, h3, hbody, ?_, ?_, ?_⟩
  · rw [hbody]; exact hg.2.1
  · rw [hbody]; exact hg.2.2
  · rw [hbody, hg.1, extract_app x rest h _ hle]

/-! ### (4) every chunk schedule of the pipeline buffer, one message object -/

/-- [C06] (4), a complete message inside the buffer `B = pre ++ (x ++ rest)`, every schedule: `c` is ANY growing list of
    prefixes of `B` ending with `B` (the last two may be equal) whose first reaches the start of `x`.  The chain of
    resumed calls from Reset — `flags` throughout (`resumeRun`), or `flags'` on the last buffer (`resumeRunEnd`) —
    returns what ONE call on `B` returns -/
theorem tp_schedule_message (pre x rest : Buf) (flags flags' : Nat)
    (hs : hasFlag flags' SIPMsgSkipBodyF = hasFlag flags SIPMsgSkipBodyF)
    (hr : hasFlag flags' SIPMsgCLenReqF = hasFlag flags SIPMsgCLenReqF) {m : PSIPMsg} (hR : ScReach m)
    (hfit : (pre ++ (x ++ rest)).size ≤ 65535)
    (hx : paAloneOK flags m.hl.hdrs.size m.pv.contacts.vals.size x)
    (c : List Buf) (hg : Growing c) (hB : c.getLast? = some (pre ++ (x ++ rest)))
    (ho : ∀ b ∈ c.head?, pre.size ≤ b.size) :
    resumeRunEnd (mlfP flags) (mlfP flags') pre.size m.reset c =
      (pre.size + x.size, .ok, shMsg pre.size (paAlone flags m.hl.hdrs.size m.pv.contacts.vals.size x)) ∧
    resumeRun (mlfP flags) pre.size m.reset c =
      (pre.size + x.size, .ok, shMsg pre.size (paAlone flags m.hl.hdrs.size m.pv.contacts.vals.size x)) := by
  have hnf := hx.2.2.1
  have ht' := pa_turn pre x rest flags flags' hs hr hR hfit hx
  have ht := pa_turn pre x rest flags flags rfl rfl hR hfit hx
  have hfitc : ∀ z ∈ c, z.size ≤ 65535 := fun z hz => Nat.le_trans (mlf_growing_size_le hg hB z hz) hfit
  have hM := sc_reset_after_history hR
  have h0 : ∀ b ∈ c.head?, msgOK2 b pre.size m.reset ∧ msgOK b pre.size m.reset := by
    rw [hM]; exact mlf_h0_init pre.size {} m.bufLen _ _ (some ()) (some ()) c ho
  have hst : m.reset.state = .init := rfl
  have hall := mlf_msgOK_all hg (fun b hb => (h0 b hb).2)
  have hside : ∀ z ∈ c.dropLast, (parseSIPMsg z pre.size m.reset flags).2.1 = .ok →
      ¬ bodyToEnd flags (parseSIPMsg z pre.size m.reset flags).2.2 := by
    intro z hz hok hbe
    have hzl : z ∈ c := List.dropLast_subset c hz
    obtain ⟨t, htz⟩ := mlf_growing_last hg hB z hzl
    rcases hp : parseSIPMsg z pre.size m.reset flags with ⟨o', e, m'⟩
    rw [hp] at hok hbe
    simp only at hok hbe
    subst hok
    rw [htz] at ht hfit
    have := (parseSIPMsg_bodyToEnd_rel z t pre.size m.reset flags (hall z hzl) hfit hnf hp hbe (Or.inl hst) ht).2.2.2
    exact ((paFramed_iff flags _).1 ((paFramed_shMsg flags pre.size _).2 hx.2.2)).2 this
  have k1 := schedule_msg_last_flags_one flags flags' pre.size m.reset c hg hfitc h0 hnf hs hr _ hB hside
  have k2 := schedule_msg_last_flags_one flags flags pre.size m.reset c hg hfitc h0 hnf rfl rfl _ hB hside
  rw [mlf_resumeRunEnd_same] at k2
  have e1 := k1.eq (by show Err.goesOn (parseSIPMsg _ _ _ flags').2.1; rw [ht']; exact Or.inl rfl)
  have e2 := k2.eq (by show Err.goesOn (parseSIPMsg _ _ _ flags).2.1; rw [ht]; exact Or.inl rfl)
  exact ⟨by rw [e1]; exact ht', by rw [e2]; exact ht⟩

/-- [C06] (4), the truncated last text, every schedule: with `flags'` (the flag) on the last buffer the chain returns
    what ONE call with the flag returns; with `flags` throughout it ends with MoreBytes at the body start -/
theorem tp_schedule_last_truncated (pre y : Buf) (h : Nat) (flags flags' : Nat)
    (hs : hasFlag flags' SIPMsgSkipBodyF = hasFlag flags SIPMsgSkipBodyF)
    (hnf : hasFlag flags SIPMsgNoMoreDataF = false) (hn : hasFlag flags' SIPMsgNoMoreDataF = true)
    (hsk : hasFlag flags SIPMsgSkipBodyF = false) {m : PSIPMsg} (hR : ScReach m)
    (hfit : (pre ++ y).size ≤ 65535)
    (hy : tpTruncated m.hl.hdrs.size m.pv.contacts.vals.size y h)
    (c : List Buf) (hg : Growing c) (hB : c.getLast? = some (pre ++ y))
    (ho : ∀ b ∈ c.head?, pre.size ≤ b.size) :
    resumeRunEnd (mlfP flags) (mlfP flags') pre.size m.reset c =
      (pre.size + y.size, .ok, shMsg pre.size (paAlone flags' m.hl.hdrs.size m.pv.contacts.vals.size y)) ∧
    (resumeRun (mlfP flags) pre.size m.reset c).1 = pre.size + h ∧
    (resumeRun (mlfP flags) pre.size m.reset c).2.1 = .moreBytes := by
  have hsk' : hasFlag flags' SIPMsgSkipBodyF = false := by rw [hs]; exact hsk
  have ht' := tp_turn_trunc_nmd pre y hy flags' hsk' hn hR rfl rfl hfit
  have ht := tp_turn_trunc_more pre y hy flags hsk hnf hR rfl rfl hfit
  have hfitc : ∀ z ∈ c, z.size ≤ 65535 := fun z hz => Nat.le_trans (mlf_growing_size_le hg hB z hz) hfit
  have hM := sc_reset_after_history hR
  have h0 : ∀ b ∈ c.head?, msgOK2 b pre.size m.reset ∧ msgOK b pre.size m.reset := by
    rw [hM]; exact mlf_h0_init pre.size {} m.bufLen _ _ (some ()) (some ()) c ho
  have k1 := schedule_msg_last_flags_more flags flags' pre.size m.reset c hg hfitc h0 hnf _ hB ht.2
  have k2 := schedule_msg_more flags pre.size m.reset c hg hfitc h0 hnf _ hB ht.2
  have e1 := k1.eq (by show Err.goesOn (parseSIPMsg _ _ _ flags').2.1; rw [ht']; exact Or.inl rfl)
  exact ⟨by rw [e1]; exact ht', by rw [k2]; exact ht.1, by rw [k2]; exact ht.2⟩

/-! ### (4) the whole pipeline arriving in chunks: the caller's streaming loop -/

/-- the caller's streaming loop: one growing list of buffers ("chunk schedule") per message.  For each schedule: Reset,
    ParseSIPMsg at the current offset on the buffers in turn, resuming while the verdict is MoreBytes (`flags` on all
    buffers but the last, `flags'` on the last); on OK keep the object and go on with the next schedule at the
    returned offset, otherwise stop with that verdict -/
def tpStreamAll (flags flags' : Nat) : List (List Buf) → Nat → PSIPMsg → List PSIPMsg × Nat × Err
  | [], o, _ => ([], o, .ok)
  | c :: cs, o, m =>
    if (resumeRunEnd (mlfP flags) (mlfP flags') o m.reset c).2.1 = .ok then
      paCons (resumeRunEnd (mlfP flags) (mlfP flags') o m.reset c).2.2
        (tpStreamAll flags flags' cs (resumeRunEnd (mlfP flags) (mlfP flags') o m.reset c).1
          (resumeRunEnd (mlfP flags) (mlfP flags') o m.reset c).2.2)
    else ([], (resumeRunEnd (mlfP flags) (mlfP flags') o m.reset c).1,
      (resumeRunEnd (mlfP flags) (mlfP flags') o m.reset c).2.1)

/-- `c` is a chunk schedule for the text `x` that starts after `pre`: a growing list of buffers, the first of which
    reaches the start of `x`, the last of which holds `pre`, all of `x` and possibly more (`rest`: any bytes, e.g. the
    beginning of the next messages), within the 65,535-byte limit -/
def tpSched (pre x : Buf) (c : List Buf) : Prop :=
  Growing c ∧ (∀ b ∈ c.head?, pre.size ≤ b.size) ∧
    ∃ rest, c.getLast? = some (pre ++ (x ++ rest)) ∧ (pre ++ (x ++ rest)).size ≤ 65535

/-- one schedule per text of `l`, text `i` starting after `pre` and the texts before it -/
def tpScheds : Buf → List Buf → List (List Buf) → Prop
  | _, [], [] => True
  | pre, x :: xs, c :: cs => tpSched pre x c ∧ tpScheds (pre ++ x) xs cs
  | _, _, _ => False

theorem tp_streamAll_prefix (flags flags' kh kc : Nat)
    (hs : hasFlag flags' SIPMsgSkipBodyF = hasFlag flags SIPMsgSkipBodyF)
    (hr : hasFlag flags' SIPMsgCLenReqF = hasFlag flags SIPMsgCLenReqF) (cs' : List (List Buf)) :
    ∀ (l : List Buf) (cs : List (List Buf)) (pre : Buf) (m : PSIPMsg), (∀ x ∈ l, paAloneOK flags kh kc x) →
      tpScheds pre l cs → ScReach m → m.hl.hdrs.size = kh → m.pv.contacts.vals.size = kc →
      ∃ m', ScReach m' ∧ m'.hl.hdrs.size = kh ∧ m'.pv.contacts.vals.size = kc ∧
        tpStreamAll flags flags' (cs ++ cs') pre.size m =
          tpPre (paMoved flags kh kc pre.size l) (tpStreamAll flags flags' cs' (pre.size + (smCat l).size) m') := by
  intro l
  induction l with
  | nil =>
    intro cs pre m _ hsc hR hkh hkc
    cases cs with
    | nil => exact ⟨m, hR, hkh, hkc, rfl⟩
    | cons c cs => exact hsc.elim
  | cons x xs ih =>
    intro cs pre m hall hsc hR hkh hkc
    cases cs with
    | nil => exact hsc.elim
    | cons c cs =>
      obtain ⟨⟨hg, ho, rest, hB, hfit⟩, hsc'⟩ := hsc
      have hx : paAloneOK flags m.hl.hdrs.size m.pv.contacts.vals.size x := by
        rw [hkh, hkc]; exact hall x (List.mem_cons_self ..)
      have hrun := (tp_schedule_message pre x rest flags flags' hs hr hR hfit hx c hg hB ho).1
      obtain ⟨hR', hkh', hkc'⟩ := pa_turn_reach pre x rest flags hR hfit hx
      rw [hkh, hkc] at hrun hR' hkh' hkc'
      obtain ⟨m', hR2, hkh2, hkc2, hrec⟩ := ih cs (pre ++ x) _ (fun y hy => hall y (List.mem_cons_of_mem _ hy)) hsc' hR'
        hkh' hkc'
      rw [Array.size_append] at hrec
      refine ⟨m', hR2, hkh2, hkc2, ?_⟩
      rw [List.cons_append, tpStreamAll, hrun]
      simp only [↓reduceIte]
      rw [hrec, tpPre_cons, pa_smCat_cons, Array.size_append, Nat.add_assoc]
      rfl

/-- [C06] (4): neither the chunking (`tpScheds`: any cuts; the schedule of message `i` ends with any buffer that holds
    messages `0..i` and possibly more) nor a no-more-data flag on the last call of each schedule shows in the result:
    the list that the loop over the complete buffer returns (`parse_all_pipeline`) -/
theorem pipeline_chunking_irrelevant (l : List Buf) (cs : List (List Buf)) (flags flags' : Nat)
    (hs : hasFlag flags' SIPMsgSkipBodyF = hasFlag flags SIPMsgSkipBodyF)
    (hr : hasFlag flags' SIPMsgCLenReqF = hasFlag flags SIPMsgCLenReqF) {m : PSIPMsg} (hR : ScReach m)
    (hall : ∀ x ∈ l, paAloneOK flags m.hl.hdrs.size m.pv.contacts.vals.size x)
    (hsc : tpScheds #[] l cs) :
    tpStreamAll flags flags' cs 0 m =
      (paMoved flags m.hl.hdrs.size m.pv.contacts.vals.size 0 l, (smCat l).size, .ok) := by
  obtain ⟨m', _, _, _, h⟩ := tp_streamAll_prefix flags flags' _ _ hs hr [] l cs #[] m hall hsc hR rfl rfl
  simp only [List.append_nil, Array.size_empty, Nat.zero_add] at h
  rw [h]
  simp [tpStreamAll, tpPre]

/-- [C06] (4) + (1): … and with a truncated last text over an arbitrary schedule ending with the whole buffer, what
    `pipeline_last_truncated` returns (both halves) -/
theorem pipeline_chunking_irrelevant_truncated (l : List Buf) (cs : List (List Buf)) (y : Buf) (cy : List Buf)
    (h : Nat) (flags flags' : Nat)
    (hs : hasFlag flags' SIPMsgSkipBodyF = hasFlag flags SIPMsgSkipBodyF)
    (hr : hasFlag flags' SIPMsgCLenReqF = hasFlag flags SIPMsgCLenReqF)
    (hnf : hasFlag flags SIPMsgNoMoreDataF = false) (hn : hasFlag flags' SIPMsgNoMoreDataF = true)
    (hsk : hasFlag flags SIPMsgSkipBodyF = false) {m : PSIPMsg} (hR : ScReach m)
    (hfit : (smCat l ++ y).size ≤ 65535)
    (hall : ∀ x ∈ l, paAloneOK flags m.hl.hdrs.size m.pv.contacts.vals.size x)
    (hy : tpTruncated m.hl.hdrs.size m.pv.contacts.vals.size y h)
    (hsc : tpScheds #[] l cs) (hg : Growing cy) (hB : cy.getLast? = some (smCat l ++ y))
    (ho : ∀ b ∈ cy.head?, (smCat l).size ≤ b.size) :
    tpStreamAll flags flags' (cs ++ [cy]) 0 m =
      (paMoved flags m.hl.hdrs.size m.pv.contacts.vals.size 0 l ++
        [shMsg (smCat l).size (paAlone flags' m.hl.hdrs.size m.pv.contacts.vals.size y)],
       (smCat l ++ y).size, .ok) ∧
    tpStreamAll flags flags (cs ++ [cy]) 0 m =
      (paMoved flags m.hl.hdrs.size m.pv.contacts.vals.size 0 l, (smCat l).size + h, .moreBytes) := by
  constructor
  · obtain ⟨m', hR', hkh', hkc', hp⟩ := tp_streamAll_prefix flags flags' _ _ hs hr [cy] l cs #[] m hall hsc hR rfl rfl
    simp only [Array.size_empty, Nat.zero_add] at hp
    rw [hp]
    rw [← hkh', ← hkc'] at hy
    have hrun := (tp_schedule_last_truncated (smCat l) y h flags flags' hs hnf hn hsk hR' hfit hy cy hg hB ho).1
    rw [hkh', hkc'] at hrun
    rw [tpStreamAll, hrun]
    simp only [↓reduceIte]
    rw [Array.size_append]
    rfl
  · obtain ⟨m', hR', hkh', hkc', hp⟩ := tp_streamAll_prefix flags flags _ _ rfl rfl [cy] l cs #[] m hall hsc hR rfl rfl
    simp only [Array.size_empty, Nat.zero_add] at hp
    rw [hp]
    rw [← hkh', ← hkc'] at hy
    have hrun := (tp_schedule_last_truncated (smCat l) y h flags flags' hs hnf hn hsk hR' hfit hy cy hg hB ho).2
    rw [tpStreamAll]
    rw [mlf_resumeRunEnd_same]
    have hne : ¬ ((resumeRun (mlfP flags) (smCat l).size m'.reset cy).2.1 = .ok) := by
      rw [hrun.2]; intro hh; cases hh
    rw [if_neg hne, hrun.1, hrun.2]
    simp [tpPre]

/-! ### tests / non-vacuity (closed computations by `decide +kernel`; examples, not the general claims) -/

-- test texts of PipelineAlone: `paExReq` (108 bytes, Content-Length 2, body "hi"), `paExRpl` (empty body),
-- `paExShort` (65 bytes: header block ends at 63, Content-Length 5, only "hi" follows)

-- the hypothesis on the last text is satisfiable (and `h` is determined)
theorem paExShort_truncated : tpTruncated 10 10 paExShort 63 := by decide +kernel
example : tpTruncated 10 10 paExShort 63 := paExShort_truncated
example : ¬ tpTruncated 10 10 paExShort 62 := fun h => absurd (h.2.1.symm.trans paExShort_truncated.2.1) (by decide)
-- a complete message is not "truncated"
example : ¬ tpTruncated 10 10 paExReq 106 := fun H => by
  have := (tp_trunc_alone_more H 0 (by decide) (by decide) 0).2
  rw [tpInitL_zero, paExReq_aloneOK.2.1] at this
  cases this

/-- test buffer: one complete message followed by the truncated one -/
def tpExBuf : Buf := smCat [paExReq] ++ paExShort

-- an instance of (1): two complete messages, then the truncated text; object fresh from Init
example :
    paParseAll (smCat [paExReq, paExRpl] ++ paExShort) 4 0 (paInit 10 10) =
      (paMoved 0 10 10 0 [paExReq, paExRpl] ++ [shMsg (smCat [paExReq, paExRpl]).size (paAlone 4 10 10 paExShort)],
       (smCat [paExReq, paExRpl] ++ paExShort).size, .ok) ∧
    paParseAll (smCat [paExReq, paExRpl] ++ paExShort) 0 0 (paInit 10 10) =
      (paMoved 0 10 10 0 [paExReq, paExRpl], (smCat [paExReq, paExRpl]).size + 63, .moreBytes) := by
  have key := pipeline_last_truncated [paExReq, paExRpl] paExShort 63 0 4 (by decide) (by decide) (by decide) (by decide)
    (by decide) (ScReach.init {} 0 10 10 (some ()) (some ()))
    (by simp only [pa_smCat_cons, Array.size_append]; decide +kernel)
    (by intro x hx; simp only [List.mem_cons, List.not_mem_nil, or_false] at hx
        rcases hx with rfl | rfl
        · exact paExReq_aloneOK
        · exact paExRpl_aloneOK)
    paExShort_truncated
  exact ⟨key.1.1, key.2⟩

-- the same kind of run computed directly (test of the definitions): with the flag two objects, the second one is the
-- truncated message: raw message = the whole of `paExShort`, body = its last 2 bytes, at the end of the buffer;
-- without the flag one object and MoreBytes at the body start of the second text (108 + 63)
example :
    (paParseAll tpExBuf 4 0 (paInit 10 10)).2 = (paExReq.size + paExShort.size, Err.ok) ∧
    ((paParseAll tpExBuf 4 0 (paInit 10 10)).1.map (fun m => (m.rawOffs, m.rawLen, m.body.offs, m.body.len))) =
      [(0, 108, 106, 2), (108, 65, 171, 2)] ∧
    ((paParseAll tpExBuf 4 0 (paInit 10 10)).1.map (fun m => m.body.get? tpExBuf)) =
      [some "hi".toUTF8.data, some "hi".toUTF8.data] ∧
    (paParseAll tpExBuf 0 0 (paInit 10 10)).2 = (171, Err.moreBytes) ∧
    ((paParseAll tpExBuf 0 0 (paInit 10 10)).1.map (fun m => (m.rawOffs, m.rawLen, m.body.offs, m.body.len))) =
      [(0, 108, 106, 2)] := by
  decide +kernel

-- (3) the declared length rules also in the no-more-data mode: the 2 announced bytes are the body although 65 more
-- bytes follow and the caller says that no more data will come
example :
    (parseSIPMsg tpExBuf 0 (paInit 10 10) 4).1 = 108 ∧ (parseSIPMsg tpExBuf 0 (paInit 10 10) 4).2.1 = Err.ok ∧
    (parseSIPMsg tpExBuf 0 (paInit 10 10) 4).2.2.body = ⟨106, 2⟩ := by
  decide +kernel

/-- test schedules: the first message cut inside its first line and delivered with 5 bytes of the next text … -/
def tpExC1 : List Buf := [tpExBuf.extract 0 30, tpExBuf.extract 0 113]
/-- … the last text continued from there: cut inside its Content-Length line, one byte before the end, complete,
    and once more (nothing arrived: the stream ended) -/
def tpExC2 : List Buf := [tpExBuf.extract 0 113, tpExBuf.extract 0 160, tpExBuf.extract 0 172, tpExBuf, tpExBuf]

-- the schedule hypotheses of (4) are satisfiable
example : tpScheds #[] [paExReq] [tpExC1] := by
  have hsz : paExReq.size = 108 := by decide +kernel
  -- the last buffer of the schedule is the first message and 5 bytes of the next text
  have hB : tpExBuf.extract 0 113 = #[] ++ (paExReq ++ paExShort.extract 0 5) := by
    show ((#[] ++ paExReq) ++ paExShort).extract 0 113 = _
    rw [Array.empty_append, Array.empty_append, Array.extract_append, hsz,
      Array.extract_eq_self_of_le (by rw [hsz]; decide)]
  refine ⟨⟨⟨prefix_grows _ (by decide), trivial⟩, fun _ _ => Nat.zero_le _, paExShort.extract 0 5, ?_, ?_⟩, trivial⟩
  · rw [tpExC1, List.getLast?_cons_cons, List.getLast?_singleton, hB]
  · rw [← hB, Array.size_extract]; omega

example : Growing tpExC2 :=
  ⟨prefix_grows _ (by decide), prefix_grows _ (by decide), prefix_whole _ _,
   ⟨#[], Array.append_empty.symm⟩, trivial⟩

-- … and the streaming loop computed directly on them gives the objects of the loop over the complete buffer
example :
    (tpStreamAll 0 4 [tpExC1, tpExC2] 0 (paInit 10 10)).2 = (173, Err.ok) ∧
    ((tpStreamAll 0 4 [tpExC1, tpExC2] 0 (paInit 10 10)).1.map (fun m => (m.rawOffs, m.rawLen, m.body.offs, m.body.len))) =
      [(0, 108, 106, 2), (108, 65, 171, 2)] ∧
    (tpStreamAll 0 0 [tpExC1, tpExC2] 0 (paInit 10 10)).2 = (171, Err.moreBytes) ∧
    (tpStreamAll 0 0 [tpExC1, tpExC2] 0 (paInit 10 10)).1.length = 1 := by
  decide +kernel

-- an instance of `pipeline_last_complete_at_end` other than a truncated body: the last text has no Content-Length and
-- the loop runs with no flags, so its body is the rest of the buffer (here: empty)
example :
    paParseAll (smCat [paExReq] ++ paExNoCLen) 0 0 (paInit 10 10) =
      (paMoved 0 10 10 0 [paExReq] ++ [shMsg (smCat [paExReq]).size (paAlone 0 10 10 paExNoCLen)],
       (smCat [paExReq] ++ paExNoCLen).size, .ok) :=
  pipeline_last_complete_at_end [paExReq] paExNoCLen 0 0 rfl rfl (ScReach.init {} 0 10 10 (some ()) (some ()))
    (by simp only [pa_smCat_cons, Array.size_append]; decide +kernel)
    (by intro x hx; simp only [List.mem_cons, List.not_mem_nil, or_false] at hx
        rcases hx with rfl; exact paExReq_aloneOK)
    (have h : (parseSIPMsg paExNoCLen 0 (paInit 10 10) 0).1 = paExNoCLen.size ∧
        (parseSIPMsg paExNoCLen 0 (paInit 10 10) 0).2.1 = .ok := by decide +kernel
     mlf_triple_eta _ h.1 h.2)

end Sipsp
