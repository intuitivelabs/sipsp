/-
  Sipsp.Proofs.UInt — ParseUIntVal (= ParseExpiresVal): the transitions of its loop body (`ClTr`), progress (the loop
  artefact never fires), the invariant rule of the parser (`parseUIntVal_ind`), L1 (no premature verdict) and L2
  (resumption). ParseCLenVal is ParseUIntVal and a check of the result (`parseCLenVal_cases`); its L1 / L2 follow.
-/
import Sipsp.Proofs.LwsSite

namespace Sipsp

theorem clEOH_indep (st : PUIntBody) (hs : st.state ≠ .found) (j j' n crl : Nat) :
    clEOH st j n crl = clEOH st j' n crl := by
  unfold clEOH; cases h : st.state <;> simp_all

theorem clEOH_ne_more (st : PUIntBody) (i n crl : Nat) : (clEOH st i n crl).2.1 ≠ Err.moreBytes := by
  unfold clEOH; cases st.state <;> simp

/-- **the transitions of the unsigned-integer loop body** (`clStep`, parse_uint.go): its outcomes with the tests that
    lead there; `clStep_tr` / `ClTr.eq`: it is the graph of `clStep` -/
inductive ClTr (b : Buf) (i : Nat) (c : UInt8) (st : PUIntBody) : Step PUIntBody → Prop
  /-- white space outside the number -/
  | lws (hl : isLWSch c = true) (hg : st.state = .init ∨ st.state = .fend) : ClTr b i c st (lwsStd b i st clEOH id)
  /-- white space ends the number -/
  | lwsNum (hl : isLWSch c = true) (hg : st.state = .found) :
      ClTr b i c st (lwsStd b i { clSetSVal st i with state := .fend } clEOH id)
  /-- the first digit -/
  | digit0 (hl : isLWSch c = false) (hd : isDigit c = true) (hg : st.state = .init) :
      ClTr b i c st (.cont (i + 1) { st with state := .found, soffs := i, uiVal := c.toNat - 48 })
  | digit (hl : isLWSch c = false) (hd : isDigit c = true) (hg : st.state = .found)
      (hv : ¬ st.uiVal * 10 + (c.toNat - 48) > 4294967295) :
      ClTr b i c st (.cont (i + 1) { st with uiVal := st.uiVal * 10 + (c.toNat - 48) })
  | tooBig (hl : isLWSch c = false) (hd : isDigit c = true) (hg : st.state = .found)
      (hv : st.uiVal * 10 + (c.toNat - 48) > 4294967295) : ClTr b i c st (.done i .numTooBig st)
  /-- white space or a digit once the value is complete -/
  | skip (hg : st.state = .fin) (hc : isLWSch c = true ∨ isDigit c = true) : ClTr b i c st (.cont (i + 1) st)
  | bad (hl : isLWSch c = false) (hg : isDigit c = false ∨ st.state = .fend) : ClTr b i c st (.done i .badChar st)

theorem clStep_tr (b : Buf) (i : Nat) (c : UInt8) (st : PUIntBody) : ClTr b i c st (clStep b i c st) := by
  unfold clStep
  by_cases hl : isLWSch c = true
  · rw [if_pos hl]
    cases hst : st.state <;> simp only
    · exact .lws hl (.inl hst)
    · exact .lwsNum hl hst
    · exact .lws hl (.inr hst)
    · exact .skip hst (.inl hl)
  · have hl' : isLWSch c = false := by simpa using hl
    rw [if_neg hl]
    by_cases hd : isDigit c = true
    · rw [if_pos hd]
      cases hst : st.state <;> simp only
      · exact .digit0 hl' hd hst
      · split
        · exact .tooBig hl' hd hst ‹_›
        · have t := ClTr.digit (b := b) (i := i) hl' hd hst ‹_›
          rw [hst] at t; exact t
      · exact .bad hl' (.inr hst)
      · exact .skip hst (.inr hd)
    · rw [if_neg hd]; exact .bad hl' (.inl (by simpa using hd))

theorem ClTr.eq {b : Buf} {i : Nat} {c : UInt8} {st : PUIntBody} {r : Step PUIntBody} (t : ClTr b i c st r) :
    clStep b i c st = r := by
  unfold clStep
  cases t with
  | lws hl hg => rw [if_pos hl]; rcases hg with g | g <;> rw [g]
  | lwsNum hl hg => rw [if_pos hl, hg]
  | digit0 hl hd hg => simp only [hl, hd, hg, Bool.false_eq_true, ↓reduceIte]
  | digit hl hd hg hv => simp only [hl, hd, hg, hv, Bool.false_eq_true, ↓reduceIte]
  | tooBig hl hd hg hv => simp only [hl, hd, hg, hv, Bool.false_eq_true, ↓reduceIte]
  | skip hg hc =>
    rcases hc with hl | hd
    · simp only [hl, hg, ↓reduceIte]
    · simp only [hd, hg, ↓reduceIte, ite_self]
  | bad hl hg =>
    rcases hg with hd | g
    · simp only [hl, hd, Bool.false_eq_true, ↓reduceIte]
    · simp only [hl, g, Bool.false_eq_true, ↓reduceIte, ite_self]

theorem clStep_lws (b : Buf) (j : Nat) (c : UInt8) (st : PUIntBody) (hl : isLWSch c = true)
    (hs : st.state = .init ∨ st.state = .fend) : clStep b j c st = lwsStd b j st clEOH id := (ClTr.lws hl hs).eq

/-- **the transitions of the unsigned-integer automaton as the L1 / L2 proofs read them**, for every buffer at once: the
    white-space site entered in a state `st1` outside the token, one byte forward, or a definitive exit on the spot -/
theorem clStep_cases (i : Nat) (c : UInt8) (st : PUIntBody) :
    (isLWSch c = true ∧ ∃ st1, (st1.state = .init ∨ st1.state = .fend) ∧
      ∀ B, clStep B i c st = lwsStd B i st1 clEOH id) ∨
    (∃ st2, (st.state ≠ .fin → st2.state ≠ .fin) ∧ ∀ B, clStep B i c st = .cont (i + 1) st2) ∨
    (∃ e, (e = .badChar ∨ e = .numTooBig) ∧ ∀ B, clStep B i c st = .done i e st) := by
  have t := clStep_tr #[] i c st
  generalize clStep #[] i c st = r at t
  cases t with
  | lws hl hg => exact .inl ⟨hl, st, hg, fun B => (ClTr.lws hl hg).eq⟩
  | lwsNum hl hg => exact .inl ⟨hl, _, .inr rfl, fun B => (ClTr.lwsNum hl hg).eq⟩
  | digit0 hl hd hg => exact .inr (.inl ⟨_, fun _ => by simp, fun B => (ClTr.digit0 hl hd hg).eq⟩)
  | digit hl hd hg hv => exact .inr (.inl ⟨_, fun _ => by simp [hg], fun B => (ClTr.digit hl hd hg hv).eq⟩)
  | tooBig hl hd hg hv => exact .inr (.inr ⟨_, .inr rfl, fun B => (ClTr.tooBig hl hd hg hv).eq⟩)
  | skip hg hc => exact .inr (.inl ⟨st, id, fun B => (ClTr.skip hg hc).eq⟩)
  | bad hl hg => exact .inr (.inr ⟨_, .inl rfl, fun B => (ClTr.bad hl hg).eq⟩)

theorem clCases : LwsCases clMachine clEOH (fun st => st.state = .init ∨ st.state = .fend) (fun st => st.state = .fin)
    (fun e => e = .badChar ∨ e = .numTooBig) := clStep_cases

theorem cl_stepStable (b s : Buf) : StepStable clMachine b s := clCases.stepStable b s

theorem cl_eobMore (b : Buf) : EobMore clMachine b := fun _ _ => rfl

theorem cl_eobRestart (b s : Buf) : EobRestart clMachine b s := by
  intro i st o st' _ h
  cases h; rfl

theorem cl_stepRestart (b s : Buf) : StepRestart clMachine b s :=
  clCases.stepRestart bad_or_big_ne_more clEOH_ne_more (fun B j c st1 hl h => clStep_lws B j c st1 hl h)
    (fun st1 h => clEOH_indep st1 (by rcases h with h | h <;> rw [h] <;> simp)) (fun _ _ _ => rfl) b s

theorem cl_progress : Progress clMachine := clCases.progress

/-! ### the invariant rule of the unsigned-integer parser

`S` holds at every loop position, `T` of whatever is returned. The obligations name what the loop does to the object: move
on, close the number, open it with its first digit, take a digit, finish at an end of header behind a closed number,
suspend, fail. -/
section
variable (b : Buf) {S : Nat → PUIntBody → Prop} {T : Nat → Err → PUIntBody → Prop}
  (mono : ∀ i j st, S i st → i ≤ j → j ≤ b.size → S j st)
  (close : ∀ i st, i < b.size → S i st → st.state = .found → S i { clSetSVal st i with state := .fend })
  (start : ∀ i v st, i < b.size → S i st → st.state = .init →
    S (i + 1) { st with state := .found, soffs := i, uiVal := v })
  (digit : ∀ i v st, i < b.size → S i st → st.state = .found → S (i + 1) { st with uiVal := v })
  (done : ∀ i j st, S i st → st.state = .fend → i < j → j ≤ b.size → T j .ok { st with state := .fin, soffs := 0 })
  (more : ∀ i st, S i st → T i .moreBytes st)
  (err : ∀ i e st, S i st → e ≠ .ok → e ≠ .moreBytes → T i e st)
include mono close start digit done more err

theorem clStep_ind (i : Nat) (c : UInt8) (st : PUIntBody) (hb : b[i]? = some c) (h : S i st) :
    StepAll2 S T (clStep b i c st) := by
  have hlt := get?_lt hb
  have key : ∀ s1 : PUIntBody, S i s1 → s1.state = .init ∨ s1.state = .fend →
      StepAll2 S T (lwsStd b i s1 clEOH id) := by
    intro s1 h1 hg
    refine lwsStd_all2 b i s1 clEOH id _ _ (by omega) (fun n a1 a2 => mono i n s1 h1 a1 a2)
      (fun n a1 a2 => more n s1 (mono i n s1 h1 a1 a2)) (fun n crl a1 a2 a4 => ?_)
    rcases hg with hg | hg <;> simp only [clEOH, hg]
    · exact err _ _ s1 (mono i _ s1 h1 (by omega) a2) (by decide) (by decide)
    · exact done i _ s1 h1 hg (by omega) a2
  have t := clStep_tr b i c st
  generalize clStep b i c st = r at t ⊢
  cases t with
  | lws _ hg => exact key _ h hg
  | lwsNum _ hg => exact key _ (close i st hlt h hg) (.inr rfl)
  | digit0 _ _ hg => exact start i _ st hlt h hg
  | digit _ _ hg => exact digit i _ st hlt h hg
  | skip => exact mono i (i + 1) st h (by omega) (by omega)
  | tooBig | bad => exact err i _ st h (by decide) (by decide)

theorem parseUIntVal_ind (o : Nat) (st : PUIntBody) (h : S o st) (fin : st.state = .fin → T o .ok st) :
    T (parseUIntVal b o st).1 (parseUIntVal b o st).2.1 (parseUIntVal b o st).2.2 := by
  unfold parseUIntVal
  split
  · exact fin ‹_›
  · exact runLoop_safe2 clMachine b S T cl_progress (clStep_ind b mono close start digit done more err) more o st h

end

theorem cl_more_not_fin (b : Buf) (i : Nat) (st : PUIntBody) (h0 : st.state ≠ .fin) :
    (runLoop clMachine b i st).2.1 = Err.moreBytes → (runLoop clMachine b i st).2.2.state ≠ .fin :=
  clCases.more_not_F bad_or_big_ne_more clEOH_ne_more (fun st1 h => by rcases h with h | h <;> rw [h] <;> nofun)
    (fun _ _ _ => rfl) b i st h0

theorem parseUIntVal_stable (b s : Buf) (o : Nat) (st : PUIntBody) {o' : Nat} {e : Err} {st' : PUIntBody}
    (h : parseUIntVal b o st = (o', e, st')) (he : e ≠ .moreBytes) :
    parseUIntVal (b ++ s) o st = (o', e, st') := by
  unfold parseUIntVal at h ⊢
  split
  · rename_i hf; rw [if_pos hf] at h; exact h
  · rename_i hf; rw [if_neg hf] at h
    exact runLoop_stable clMachine b s (cl_stepStable b s) (cl_eobMore b) o st h he

theorem parseUIntVal_resume (b s : Buf) (o : Nat) (st : PUIntBody) {o' : Nat} {st' : PUIntBody}
    (h : parseUIntVal b o st = (o', Err.moreBytes, st')) :
    parseUIntVal (b ++ s) o' st' = parseUIntVal (b ++ s) o st := by
  unfold parseUIntVal at h ⊢
  by_cases hf : st.state = .fin
  · rw [if_pos hf] at h; cases h
  · rw [if_neg hf] at h
    have hnf := cl_more_not_fin b o st hf (by rw [h])
    rw [h] at hnf
    rw [if_neg hnf, if_neg hf]
    exact runLoop_resume clMachine b s (cl_stepStable b s) (cl_stepRestart b s) (cl_eobRestart b s) o st h

/-- **ParseCLenVal is ParseUIntVal and a check**: the same call of ParseUIntVal, unless that says OK with more than 9
    digits or a value above 2^24 — then "number too big" at the start of the digits, the object being ParseUIntVal's -/
theorem parseCLenVal_cases (b : Buf) (o : Nat) (st : PUIntBody) :
    ((parseUIntVal b o st).2.1 = .ok ∧
      ((parseUIntVal b o st).2.2.sVal.len > 9 ∨ (parseUIntVal b o st).2.2.uiVal > 16777216) ∧
      parseCLenVal b o st = ((parseUIntVal b o st).2.2.sVal.offs, .numTooBig, (parseUIntVal b o st).2.2)) ∨
    (¬ ((parseUIntVal b o st).2.1 = .ok ∧
        ((parseUIntVal b o st).2.2.sVal.len > 9 ∨ (parseUIntVal b o st).2.2.uiVal > 16777216)) ∧
      parseCLenVal b o st = parseUIntVal b o st) := by
  unfold parseCLenVal
  rcases parseUIntVal b o st with ⟨o1, e1, s1⟩
  cases e1 <;> try exact Or.inr ⟨by simp, rfl⟩
  show (_ ∧ _ ∧ (if _ then _ else _) = _) ∨ (_ ∧ (if _ then _ else _) = _)
  split
  · rename_i h
    exact Or.inl ⟨rfl, by simpa [MaxCLenValueSize, MaxClenValue] using h, rfl⟩
  · rename_i h
    exact Or.inr ⟨fun hh => h (by simpa [MaxCLenValueSize, MaxClenValue] using hh.2), rfl⟩

theorem parseCLenVal_obj (b : Buf) (o : Nat) (st : PUIntBody) : (parseCLenVal b o st).2.2 = (parseUIntVal b o st).2.2 := by
  rcases parseCLenVal_cases b o st with ⟨_, _, h⟩ | ⟨_, h⟩ <;> rw [h]

/-- any result but "number too big" is ParseUIntVal's whole result -/
theorem parseCLenVal_under' (b : Buf) (o : Nat) (st : PUIntBody) {r : Nat × Err × PUIntBody}
    (hr : parseCLenVal b o st = r) (he : r.2.1 ≠ .numTooBig) : parseUIntVal b o st = r := by
  rcases parseCLenVal_cases b o st with ⟨_, _, h⟩ | ⟨_, h⟩
  · rw [h] at hr; subst hr; exact absurd rfl he
  · rw [← h]; exact hr

/-- OK is said of at most 9 digits and a value of at most 2^24 only -/
theorem parseCLenVal_ok_range {b : Buf} {o : Nat} {st : PUIntBody} {o' : Nat} {st' : PUIntBody}
    (h : parseCLenVal b o st = (o', .ok, st')) : st'.sVal.len ≤ 9 ∧ st'.uiVal ≤ 16777216 := by
  rcases parseCLenVal_cases b o st with ⟨_, _, hq⟩ | ⟨hn, hq⟩
  · rw [hq] at h; cases h
  · rw [hq] at h; rw [h] at hn
    exact ⟨Nat.le_of_not_lt fun hh => hn ⟨rfl, Or.inl hh⟩, Nat.le_of_not_lt fun hh => hn ⟨rfl, Or.inr hh⟩⟩

/-- what ParseUIntVal returns is returned as it is, unless it is OK with a value over the limits -/
theorem parseCLenVal_of_uint {b : Buf} {o : Nat} {st : PUIntBody} {r : Nat × Err × PUIntBody}
    (h : parseUIntVal b o st = r) (hs : r.2.1 = .ok → r.2.2.sVal.len ≤ 9 ∧ r.2.2.uiVal ≤ 16777216) :
    parseCLenVal b o st = r := by
  subst h
  rcases parseCLenVal_cases b o st with ⟨hok, hbig, _⟩ | ⟨_, hq⟩
  · have := hs hok; omega
  · exact hq

/-- ParseUIntVal's OK with a value over the limits becomes "number too big" at the start of the digits -/
theorem parseCLenVal_tooBig {b : Buf} {o : Nat} {st : PUIntBody} {o1 : Nat} {s1 : PUIntBody}
    (h : parseUIntVal b o st = (o1, .ok, s1)) (hbig : s1.sVal.len > 9 ∨ s1.uiVal > 16777216) :
    parseCLenVal b o st = (s1.sVal.offs, .numTooBig, s1) := by
  rcases parseCLenVal_cases b o st with ⟨_, _, hq⟩ | ⟨hn, _⟩
  · rw [hq, h]
  · rw [h] at hn; exact absurd ⟨rfl, hbig⟩ hn

/-- ParseCLenVal depends on its arguments through the result of ParseUIntVal only -/
theorem parseCLenVal_congr {b b' : Buf} {o o' : Nat} {st st' : PUIntBody}
    (h : parseUIntVal b' o' st' = parseUIntVal b o st) : parseCLenVal b' o' st' = parseCLenVal b o st := by
  unfold parseCLenVal; rw [h]

theorem parseCLenVal_stable (b s : Buf) (o : Nat) (st : PUIntBody) {o' : Nat} {e : Err} {st' : PUIntBody}
    (h : parseCLenVal b o st = (o', e, st')) (he : e ≠ .moreBytes) :
    parseCLenVal (b ++ s) o st = (o', e, st') := by
  have hne : (parseUIntVal b o st).2.1 ≠ .moreBytes := by
    rcases parseCLenVal_cases b o st with ⟨hok, _, _⟩ | ⟨_, hq⟩
    · rw [hok]; decide
    · rw [← hq, h]; exact he
  exact (parseCLenVal_congr (parseUIntVal_stable b s o st rfl hne)).trans h

theorem parseCLenVal_resume (b s : Buf) (o : Nat) (st : PUIntBody) {o' : Nat} {st' : PUIntBody}
    (h : parseCLenVal b o st = (o', Err.moreBytes, st')) :
    parseCLenVal (b ++ s) o' st' = parseCLenVal (b ++ s) o st :=
  parseCLenVal_congr (parseUIntVal_resume b s o st (parseCLenVal_under' b o st h (fun hh => by cases hh)))

end Sipsp
