/-
  Sipsp.Proofs.UriCmpLink — property C15: the side conditions of the comparison laws (UriCmpLaws) are established by
  the parsers, so that the laws hold for what the entry points accept; the laws restated for raw byte strings.
  Everything is for ALL inputs the statements quantify over; `≤ 65535` is the documented size limit of a buffer.

  (1) ParseAllURIParams on a new list of ANY capacity (any flags, verdict, offset): no panic, every stored parameter
      lies inside the buffer, its recorded type is the classification of its name, and the `types` mask is the set of
      types stored unless parameters were dropped for lack of room (loop invariant `UclPlInv`).  For parsed lists the
      side condition `ParamsNoDup` / `HdrsNoDup` of the laws says exactly that no two NAMES of the text are equal up to
      ASCII letter case (`UclNoDupNames`; the name lists `uclParamNames` / `uclHdrNames` are the names the list parsers
      report for the text, described without the parsers by `PSList` of ParamSound).
  (2) For raw URIs whose parameter and header names are duplicate-free (`UclNoDup`) and whose lists parse
      (`UclListsOk`): REFLEXIVITY; SYMMETRY for ANY two byte strings, accepted or not; the PRESENCE rule (a verdict
      "equal" with the parameters not skipped means that each of user / ttl / method / maddr, in any letter case, is a
      parameter NAME of both texts or of neither; at most 100 parameters each).  Flag monotonicity needs no side
      condition (UriCmpLaws).
  (3) LETTER CASE, unconditional (no hypothesis on duplicates, well-formedness or acceptance): ParseURI and the list
      parsers return the same result (positions AND recorded types) on strings that differ only in letter case, and
      the list comparisons read their buffers only up to letter case; hence the COMPLETE result of URIParseCmp is
      unchanged on strings equal up to letter case, provided that where ParseURI accepts the user and password bytes
      read are the same.
  The tests show that the hypotheses are necessary: ParseURI accepts `sip:a@b;<` but that URI is NOT equal to itself
  (its parameter list is rejected); with a repeated name neither reflexivity nor symmetry holds.

  NOT proved here:
    * order invariance for raw strings (the laws `uriParamsLstEq_perm` / `uriCmp_congr` take `ParamsSim` / `URISame`
      as hypotheses about the two parsed lists; for URIs written out from their parts it is `uriParseCmp_perm_text`
      of UriCmpPerm);
    * the presence rule beyond 100 parameters (the mask then also covers dropped parameters);
    * transitivity (false).
-/
import Sipsp.Proofs.UriCmpLaws
import Sipsp.Proofs.SafeRest
import Sipsp.Proofs.ParamSpec

namespace Sipsp

/-! ### (1a) ParseAllURIParams: recorded type = classification of the name, mask = the types stored -/

/-- what ParseAllURIParams maintains about the element types: every stored element (index below `n` and inside the
    array) has a readable name and its recorded type is the classification of that name; as long as nothing was
    dropped for lack of room (`n ≤ capacity`) a bit is set in the `types` mask exactly when it is set in the type of
    a stored element. -/
structure UclPlInv (b : Buf) (l : URIParamsLst) : Prop where
  cls : ∀ k, k < l.n → k < l.params.size →
    ∃ nm, l.params[k]!.param.name.get? b = some nm ∧ l.params[k]!.t = uriParamResolve nm
  types : l.n ≤ l.params.size → ∀ x, ((l.types &&& x) ≠ 0 ↔ ∃ k, k < l.n ∧ (l.params[k]!.t &&& x) ≠ 0)

theorem uclPlInv_new (b : Buf) (k : Nat) : UclPlInv b ({ params := Array.replicate k {} } : URIParamsLst) := by
  refine ⟨fun j hj _ => absurd hj (Nat.not_lt_zero j), fun _ x => ?_⟩
  constructor
  · intro h; exact absurd (Nat.zero_and x) h
  · rintro ⟨j, hj, _⟩; exact absurd hj (Nat.not_lt_zero j)

theorem UclPlInv.setCur {b : Buf} {l : URIParamsLst} (h : UclPlInv b l) (p : URIParam) : UclPlInv b (l.setCur p) := by
  refine ⟨fun k hk hs => ?_, fun hn x => ?_⟩
  · rw [pSetCur_n] at hk; rw [pSetCur_size] at hs
    rw [pSetCur_get_ne l p k (by omega)]; exact h.cls k hk hs
  · rw [pSetCur_n, pSetCur_size] at hn
    rw [pSetCur_types, pSetCur_n, h.types hn x]
    constructor
    · rintro ⟨k, hk, hx⟩; exact ⟨k, hk, by rw [pSetCur_get_ne l p k (by omega)]; exact hx⟩
    · rintro ⟨k, hk, hx⟩; exact ⟨k, hk, by rw [pSetCur_get_ne l p k (by omega)] at hx; exact hx⟩

theorem UclPlInv.setPnc {b : Buf} {l : URIParamsLst} (h : UclPlInv b l) (v : Bool) : UclPlInv b { l with pnc := v } :=
  ⟨h.cls, h.types⟩

theorem ucl_or_and_ne_zero (a c x : Nat) : ((a ||| c) &&& x) ≠ 0 ↔ ((a &&& x) ≠ 0 ∨ (c &&& x) ≠ 0) := by
  rw [Nat.and_or_distrib_right]
  constructor
  · intro h
    by_cases ha : a &&& x = 0
    · right; intro hc; apply h; rw [ha, hc]; rfl
    · left; exact ha
  · intro h hz
    have := Nat.or_eq_zero_iff.1 hz
    rcases h with h | h
    · exact h this.1
    · exact h this.2

theorem UclPlInv.next {b : Buf} {l : URIParamsLst} (h : UclPlInv b l) (tp : PTokParam) {nm : Buf}
    (hg : tp.name.get? b = some nm) : UclPlInv b (l.next tp (uriParamResolve nm)) := by
  have hne : ∀ k, l.n ≠ k → (l.next tp (uriParamResolve nm)).params[k]! = l.params[k]! := fun k hk => by
    rw [pNext_params, pSetCur_get_ne l _ k hk]
  have hself : l.n < l.params.size →
      (l.next tp (uriParamResolve nm)).params[l.n]! = { param := tp, t := uriParamResolve nm } := fun hin => by
    rw [pNext_params, pSetCur_get_n l _ hin]
  refine ⟨fun k hk hs => ?_, fun hn x => ?_⟩
  · rw [pNext_n] at hk; rw [pNext_size] at hs
    by_cases hkn : l.n = k
    · subst hkn
      rw [hself hs]
      exact ⟨nm, hg, rfl⟩
    · rw [hne k hkn]; exact h.cls k (by omega) hs
  · rw [pNext_n, pNext_size] at hn
    have hin : l.n < l.params.size := by omega
    rw [pNext_types, pNext_n, ucl_or_and_ne_zero, h.types (by omega) x]
    constructor
    · rintro (⟨k, hk, hx⟩ | hx)
      · exact ⟨k, by omega, by rw [hne k (by omega)]; exact hx⟩
      · exact ⟨l.n, by omega, by rw [hself hin]; exact hx⟩
    · rintro ⟨k, hk, hx⟩
      by_cases hkn : l.n = k
      · subst hkn; rw [hself hin] at hx; exact Or.inr hx
      · rw [hne k hkn] at hx; exact Or.inl ⟨k, by omega, hx⟩

theorem parseAllURIParams_uclInv (b : Buf) (offs : Nat) (l : URIParamsLst) (flags : Nat) (h : UclPlInv b l) :
    UclPlInv b (parseAllURIParams b offs l flags).2.2.2 := by
  unfold parseAllURIParams
  rw [uriParamsLoop_slot]
  exact slotLoop_inv pOps b (UclPlInv b) (fun _ p h => h.setCur p)
    (fun _ tp _ hg h => by obtain ⟨nm, hnm, rfl⟩ := pOps_fin_eq_some hg; exact h.next tp hnm)
    (fun _ h => h.setPnc true) _ offs l 0 h

/-! ### (1b) from the invariant to the hypotheses of the laws: `TypesOk`, classification of the stored elements -/

/-- the elements a list object stores are those at indices below both its count and its capacity -/
theorem ucl_mem_take {α : Type} [Inhabited α] {a : Array α} {n : Nat} {p : α} :
    p ∈ a.toList.take (if n > a.size then a.size else n) ↔ ∃ k, k < n ∧ k < a.size ∧ a[k]! = p := by
  rw [List.mem_take_iff_getElem]
  constructor
  · rintro ⟨j, hj, rfl⟩
    have hj' : j < a.size := by
      have := hj; simp only [Array.length_toList] at this; omega
    refine ⟨j, ?_, hj', ?_⟩
    · split at hj <;> omega
    · rw [getElem!_pos a j hj', Array.getElem_toList]
  · rintro ⟨k, hk, hs, rfl⟩
    refine ⟨k, ?_, ?_⟩
    · simp only [Array.length_toList]; split <;> omega
    · rw [getElem!_pos a k hs, Array.getElem_toList]

theorem ucl_mem_plist {l : URIParamsLst} {p : URIParam} :
    p ∈ l.plist ↔ ∃ k, k < l.n ∧ k < l.params.size ∧ l.params[k]! = p := ucl_mem_take

theorem ucl_mem_hlist {l : URIHdrsLst} {p : PTokParam} :
    p ∈ l.hlist ↔ ∃ k, k < l.n ∧ k < l.hdrs.size ∧ l.hdrs[k]! = p := ucl_mem_take

/-- a stored parameter's recorded type is the classification (`URIParamResolve`) of its name -/
def UclCls (b : Buf) (p : URIParam) : Prop := ∃ nm, p.param.name.get? b = some nm ∧ p.t = uriParamResolve nm

theorem UclPlInv.mem_cls {b : Buf} {l : URIParamsLst} (h : UclPlInv b l) : ∀ p ∈ l.plist, UclCls b p := by
  intro p hp
  obtain ⟨k, hk, hs, rfl⟩ := ucl_mem_plist.1 hp
  exact h.cls k hk hs

theorem ucl_ofLower_cases (s : List UInt8) (t : Nat) (ht : uriParamOfLower s = t) :
    (s = sTransport ∧ t = URIParamTransportF) ∨ (s = sLr ∧ t = URIParamLRF) ∨ (s = sMaddr ∧ t = URIParamMaddrF) ∨
    (s = sUser ∧ t = URIParamUserF) ∨ (s = sMethod ∧ t = URIParamMethodF) ∨ (s = sTtl ∧ t = URIParamTTLF) ∨
    t = URIParamOtherF := by
  subst ht
  unfold uriParamOfLower
  split; · exact .inl ⟨‹_›, rfl⟩
  split; · exact .inr (.inl ⟨‹_›, rfl⟩)
  split; · exact .inr (.inr (.inl ⟨‹_›, rfl⟩))
  split; · exact .inr (.inr (.inr (.inl ⟨‹_›, rfl⟩)))
  split; · exact .inr (.inr (.inr (.inr (.inl ⟨‹_›, rfl⟩))))
  split; · exact .inr (.inr (.inr (.inr (.inr (.inl ⟨‹_›, rfl⟩)))))
  exact .inr (.inr (.inr (.inr (.inr (.inr rfl)))))

/-- the types ParseAllURIParams records are single bits: testing a presence bit is comparing the type -/
theorem ucl_resolve_bit (nm : Buf) (x : Nat) (hx : x ∈ [URIParamUserF, URIParamTTLF, URIParamMethodF, URIParamMaddrF]) :
    (uriParamResolve nm &&& x) ≠ 0 ↔ uriParamResolve nm = x := by
  rw [uriParamResolve_lower]
  simp only [List.mem_cons, List.not_mem_nil, or_false] at hx
  rcases ucl_ofLower_cases _ _ rfl with ⟨_, h⟩ | ⟨_, h⟩ | ⟨_, h⟩ | ⟨_, h⟩ | ⟨_, h⟩ | ⟨_, h⟩ | h <;> rw [h] <;>
    rcases hx with rfl | rfl | rfl | rfl <;> decide

/-- **the `types` mask is the set of types stored**, provided no parameter was dropped for lack of room -/
theorem UclPlInv.typesOk {b : Buf} {l : URIParamsLst} (h : UclPlInv b l) (hn : l.n ≤ l.params.size) : TypesOk l := by
  intro x hx
  rw [h.types hn x]
  constructor
  · rintro ⟨k, hk, hb⟩
    have hs : k < l.params.size := by omega
    obtain ⟨nm, _, ht⟩ := h.cls k hk hs
    rw [ht] at hb
    exact ⟨l.params[k]!, ucl_mem_plist.2 ⟨k, hk, hs, rfl⟩, by rw [ht]; exact (ucl_resolve_bit nm x hx).1 hb⟩
  · rintro ⟨p, hp, ht⟩
    obtain ⟨k, hk, hs, rfl⟩ := ucl_mem_plist.1 hp
    obtain ⟨nm, _, ht'⟩ := h.cls k hk hs
    refine ⟨k, hk, ?_⟩
    rw [ht'] at ht ⊢
    exact (ucl_resolve_bit nm x hx).2 ht

theorem ucl_srTpGet_hdrIn {b : Buf} {p : PTokParam} (h : SrTpGet b p) : HdrIn b p := by
  obtain ⟨⟨x, hx⟩, ⟨y, hy⟩⟩ := h
  exact ⟨by rw [hx]; rfl, by rw [hy]; rfl⟩

theorem ucl_srTpIn_name {b : Buf} {p : PTokParam} (h : SrTpIn b.size p) (hfit : b.size ≤ 65535) :
    p.name.get? b = some (nameOf b p) := (h.get hfit).1

theorem ucl_parseAll_facts (b : Buf) (o k flags : Nat) (hfit : b.size ≤ 65535) (ho : o ≤ b.size) :
    (parseAllURIParams b o { params := Array.replicate k {} } flags).2.2.2.pnc = false ∧
    (∀ p ∈ (parseAllURIParams b o { params := Array.replicate k {} } flags).2.2.2.plist,
      ParamIn b p ∧ UclCls b p ∧ p.param.name.get? b = some (nameOf b p.param)) ∧
    ((parseAllURIParams b o { params := Array.replicate k {} } flags).2.2.2.more = false →
      TypesOk (parseAllURIParams b o { params := Array.replicate k {} } flags).2.2.2) := by
  have hS := parseAllURIParams_safe b o { params := Array.replicate k {} } flags hfit ho (srPlIn_new o k)
  have hI := parseAllURIParams_uclInv b o { params := Array.replicate k {} } flags (uclPlInv_new b k)
  refine ⟨hS.out.pnc, fun p hp => ⟨(paramIn_iff_hdrIn b p).2 (ucl_srTpGet_hdrIn (hS.out.mem_get hfit _ p hp)),
    hI.mem_cls p hp, ?_⟩, fun hm => ?_⟩
  · obtain ⟨j, _, hs, rfl⟩ := ucl_mem_plist.1 hp
    exact ucl_srTpIn_name (hS.out.arr j hs) hfit
  · apply hI.typesOk
    unfold URIParamsLst.more at hm
    simpa using hm

/-- **ParseAllURIParams establishes the list hypotheses of the comparison laws** (new list of any capacity `k`, any
    flags, any verdict, any offset inside a buffer within the 65,535-byte limit): no panic; every stored parameter
    lies inside the buffer (`ParamIn`) and its recorded type is the classification of its name (`UclCls`); the type
    mask is the set of types stored (`TypesOk`) unless parameters were dropped for lack of room. -/
theorem parseAllURIParams_ucl (b : Buf) (o k flags : Nat) (hfit : b.size ≤ 65535) (ho : o ≤ b.size) :
    (parseAllURIParams b o { params := Array.replicate k {} } flags).2.2.2.pnc = false ∧
    (∀ p ∈ (parseAllURIParams b o { params := Array.replicate k {} } flags).2.2.2.plist, ParamIn b p ∧ UclCls b p) ∧
    ((parseAllURIParams b o { params := Array.replicate k {} } flags).2.2.2.more = false →
      TypesOk (parseAllURIParams b o { params := Array.replicate k {} } flags).2.2.2) := by
  obtain ⟨h1, h2, h3⟩ := ucl_parseAll_facts b o k flags hfit ho
  exact ⟨h1, fun p hp => ⟨(h2 p hp).1, (h2 p hp).2.1⟩, h3⟩

/-- **ParseAllURIHdrs establishes the list hypothesis of the comparison laws**: every stored header lies inside the
    buffer (`HdrIn`) -/
theorem parseAllURIHdrs_ucl (b : Buf) (o k flags : Nat) (hfit : b.size ≤ 65535) (ho : o ≤ b.size) :
    ∀ h ∈ (parseAllURIHdrs b o { hdrs := Array.replicate k {} } flags).2.2.2.hlist, HdrIn b h := by
  have hS := parseAllURIHdrs_safe b o { hdrs := Array.replicate k {} } flags ho (srHlIn_new o k)
  exact fun p hp => ucl_srTpGet_hdrIn (hS.out.mem_get hfit _ p hp)

/-! ### (1c) "no duplicate parameter" is "no two parameter NAMES equal up to letter case" -/

theorem ucl_ofLower_inj {s s' : List UInt8} (h : uriParamOfLower s = uriParamOfLower s')
    (hne : uriParamOfLower s ≠ URIParamOtherF) : s = s' := by
  rcases ucl_ofLower_cases s _ rfl with ⟨a, ta⟩ | ⟨a, ta⟩ | ⟨a, ta⟩ | ⟨a, ta⟩ | ⟨a, ta⟩ | ⟨a, ta⟩ | ta <;>
  rcases ucl_ofLower_cases s' _ rfl with ⟨a', ta'⟩ | ⟨a', ta'⟩ | ⟨a', ta'⟩ | ⟨a', ta'⟩ | ⟨a', ta'⟩ | ⟨a', ta'⟩ | ta' <;>
  first
    | exact a.trans a'.symm
    | exact absurd ta hne
    | (rw [ta, ta'] at h; exact absurd h (by decide))

/-- for parameters classified by their names, "the same parameter" means "names equal up to letter case" -/
theorem ucl_pmatch_iff {b1 b2 : Buf} {p q : URIParam} (hp : UclCls b1 p) (hq : UclCls b2 q) :
    PMatch b1 p b2 q ↔ FEq p.param.name b1 q.param.name b2 := by
  obtain ⟨np, hnp, htp⟩ := hp
  obtain ⟨nq, hnq, htq⟩ := hq
  constructor
  · rintro ⟨ht, ho⟩
    by_cases hot : p.t = URIParamOtherF
    · exact ho hot
    · refine ⟨np, nq, hnp, hnq, ?_⟩
      unfold CaseEq
      rw [htp, htq, uriParamResolve_lower, uriParamResolve_lower] at ht
      rw [htp, uriParamResolve_lower] at hot
      exact ucl_ofLower_inj ht hot
  · rintro ⟨x, y, hx, hy, hc⟩
    rw [hnp] at hx; rw [hnq] at hy; cases hx; cases hy
    refine ⟨?_, fun _ => ⟨np, nq, hnp, hnq, hc⟩⟩
    rw [htp, htq, uriParamResolve_lower, uriParamResolve_lower]
    unfold CaseEq at hc; rw [hc]

/-- a list of byte strings without two members equal up to ASCII letter case -/
def UclNoDupNames (l : List Buf) : Prop := l.Pairwise (fun a c => ¬ CaseEq a c)

instance (a c : Buf) : Decidable (CaseEq a c) := inferInstanceAs (Decidable (lowerL a.toList = lowerL c.toList))
instance (l : List Buf) : Decidable (UclNoDupNames l) :=
  inferInstanceAs (Decidable (l.Pairwise (fun a c => ¬ CaseEq a c)))

theorem ucl_feq_names {b : Buf} {p q : PTokParam} (hp : p.name.get? b = some (nameOf b p))
    (hq : q.name.get? b = some (nameOf b q)) : FEq p.name b q.name b ↔ CaseEq (nameOf b p) (nameOf b q) := by
  constructor
  · rintro ⟨x, y, hx, hy, hc⟩
    rw [hp] at hx; rw [hq] at hy; cases hx; cases hy; exact hc
  · intro hc; exact ⟨_, _, hp, hq, hc⟩

/-- the list-level statement: for a parameter list whose elements are classified by their (readable) names,
    `ParamsNoDup` (the side condition of the comparison laws) says exactly that no two names are equal up to case -/
theorem ucl_paramsNoDup_iff {b : Buf} {l : List URIParam} (hc : ∀ p ∈ l, UclCls b p)
    (hn : ∀ p ∈ l, p.param.name.get? b = some (nameOf b p.param)) :
    ParamsNoDup b l ↔ UclNoDupNames (l.map (fun p => nameOf b p.param)) := by
  unfold ParamsNoDup UclNoDupNames
  rw [List.pairwise_map]
  apply List.Pairwise.iff_of_mem
  intro p q hp hq
  rw [ucl_pmatch_iff (hc p hp) (hc q hq), ucl_feq_names (hn p hp) (hn q hq)]

theorem ucl_hdrsNoDup_iff {b : Buf} {l : List PTokParam} (hn : ∀ p ∈ l, p.name.get? b = some (nameOf b p)) :
    HdrsNoDup b l ↔ UclNoDupNames (l.map (nameOf b)) := by
  unfold HdrsNoDup UclNoDupNames
  rw [List.pairwise_map]
  apply List.Pairwise.iff_of_mem
  intro p q hp hq
  rw [ucl_feq_names (hn p hp) (hn q hq)]

/-! ### (2a) parameter / header STRINGS: the side conditions `ParamsWf` / `HdrsWf` from the text -/

/-- the names (as byte strings of the text) of the parameters URIParamsEq / URICmp extract from a parameter string -/
def uclParamNames (pb : Buf) : List Buf := (uriParamsParse pb 0).2.plist.map (fun p => nameOf pb p.param)

/-- the names of the headers URIHdrsEq / URICmp extract from a header string -/
def uclHdrNames (hb : Buf) : List Buf := (uriHdrsParse hb 0).2.hlist.map (nameOf hb)

theorem ucl_paramsParse_facts (pb : Buf) (o : Nat) (hfit : pb.size ≤ 65535) (ho : o ≤ pb.size) :
    (uriParamsParse pb o).2.pnc = false ∧
    ∀ p ∈ (uriParamsParse pb o).2.plist,
      ParamIn pb p ∧ UclCls pb p ∧ p.param.name.get? pb = some (nameOf pb p.param) := by
  obtain ⟨h1, h2, _⟩ := ucl_parseAll_facts pb o 100 (POptTokURIParamF ||| POptInputEndF) hfit ho
  exact ⟨h1, h2⟩

theorem ucl_hdrsParse_facts (hb : Buf) (o : Nat) (hfit : hb.size ≤ 65535) (ho : o ≤ hb.size) :
    ∀ p ∈ (uriHdrsParse hb o).2.hlist, HdrIn hb p ∧ p.name.get? hb = some (nameOf hb p) := by
  have hS := parseAllURIHdrs_safe hb o { hdrs := Array.replicate 100 {} } (POptTokURIHdrF ||| POptInputEndF) ho
    (srHlIn_new o 100)
  intro p hp
  have hp' : p ∈ (parseAllURIHdrs hb o { hdrs := Array.replicate 100 {} }
      (POptTokURIHdrF ||| POptInputEndF)).2.2.2.hlist := hp
  refine ⟨ucl_srTpGet_hdrIn (hS.out.mem_get hfit _ p hp'), ?_⟩
  obtain ⟨k, _, hs, rfl⟩ := ucl_mem_hlist.1 hp'
  exact ucl_srTpIn_name (hS.out.arr k hs) hfit

/-- for the parsed list of a parameter string, the side condition `ParamsNoDup` of the laws IS freedom from duplicate
    names in the text -/
theorem ucl_paramsNoDup_text (pb : Buf) (hfit : pb.size ≤ 65535) :
    ParamsNoDup pb (uriParamsParse pb 0).2.plist ↔ UclNoDupNames (uclParamNames pb) := by
  have h := (ucl_paramsParse_facts pb 0 hfit (Nat.zero_le _)).2
  exact ucl_paramsNoDup_iff (fun p hp => (h p hp).2.1) (fun p hp => (h p hp).2.2)

theorem ucl_hdrsNoDup_text (hb : Buf) (hfit : hb.size ≤ 65535) :
    HdrsNoDup hb (uriHdrsParse hb 0).2.hlist ↔ UclNoDupNames (uclHdrNames hb) := by
  have h := ucl_hdrsParse_facts hb 0 hfit (Nat.zero_le _)
  exact ucl_hdrsNoDup_iff (fun p hp => (h p hp).2)

/-- **every parameter string without duplicate names is well formed for comparison** (`ParamsWf`, the hypothesis of
    the symmetry / reflexivity laws): the no-panic and inside-the-string parts hold for EVERY string within the limit -/
theorem ucl_paramsWf (pb : Buf) (hfit : pb.size ≤ 65535)
    (hnd : errOkOrEOH (uriParamsParse pb 0).1 = true → UclNoDupNames (uclParamNames pb)) : ParamsWf pb 0 := by
  have h := ucl_paramsParse_facts pb 0 hfit (Nat.zero_le _)
  exact ⟨h.1, fun _ p hp => (h.2 p hp).1, fun hok => (ucl_paramsNoDup_text pb hfit).2 (hnd hok)⟩

/-- **every header string without duplicate names is well formed for comparison** (`HdrsWf`) -/
theorem ucl_hdrsWf (hb : Buf) (hfit : hb.size ≤ 65535)
    (hnd : errOkOrEOH (uriHdrsParse hb 0).1 = true → UclNoDupNames (uclHdrNames hb)) : HdrsWf hb 0 := by
  have h := ucl_hdrsParse_facts hb 0 hfit (Nat.zero_le _)
  exact ⟨fun _ p hp => (h p hp).1, fun hok => (ucl_hdrsNoDup_text hb hfit).2 (hnd hok)⟩

/-! ### (2b) raw URIs: the side conditions `URIWf` / `URIGood` for everything ParseURI accepts -/

/-- the slice of the buffer a field designates -/
def uclSeg (b : Buf) (f : PField) : Buf := b.extract f.offs (f.offs + f.len)

theorem ucl_parse_get (raw : Buf) (hfit : raw.size ≤ 65535) (hacc : (parseURI raw {}).1 = .none) :
    ∀ f ∈ [(parseURI raw {}).2.2.1.scheme, (parseURI raw {}).2.2.1.user, (parseURI raw {}).2.2.1.pass,
        (parseURI raw {}).2.2.1.host, (parseURI raw {}).2.2.1.port, (parseURI raw {}).2.2.1.params,
        (parseURI raw {}).2.2.1.headers], f.get? raw = some (uclSeg raw f) :=
  parseURI_get raw hfit hacc

/-- the parameter string of a raw URI (the bytes between the first `;` after the host part and the `?` or the end),
    as ParseURI delimits it -/
def uclParamsText (raw : Buf) : Buf := uclSeg raw (parseURI raw {}).2.2.1.params

/-- the header string of a raw URI (the bytes after the `?`), as ParseURI delimits it -/
def uclHdrsText (raw : Buf) : Buf := uclSeg raw (parseURI raw {}).2.2.1.headers

theorem uclSeg_size_le (b : Buf) (f : PField) : (uclSeg b f).size ≤ b.size := by
  unfold uclSeg
  simp only [Array.size_extract]
  omega

/-- the parameter and header lists of the raw URI are well formed: ParseAllURIParams / ParseAllURIHdrs (as called
    by URICmp: end of input flagged) accept them -/
structure UclListsOk (raw : Buf) : Prop where
  params : errOkOrEOH (uriParamsParse (uclParamsText raw) 0).1 = true
  headers : errOkOrEOH (uriHdrsParse (uclHdrsText raw) 0).1 = true

/-- the parameter and header lists of the raw URI are free of duplicate names: no two parameter names and no two
    header names (byte strings of the text) are equal up to ASCII letter case.  Only lists that parse are
    constrained. -/
structure UclNoDup (raw : Buf) : Prop where
  params : errOkOrEOH (uriParamsParse (uclParamsText raw) 0).1 = true → UclNoDupNames (uclParamNames (uclParamsText raw))
  headers : errOkOrEOH (uriHdrsParse (uclHdrsText raw) 0).1 = true → UclNoDupNames (uclHdrNames (uclHdrsText raw))

instance (raw : Buf) : Decidable (UclListsOk raw) :=
  decidable_of_iff (errOkOrEOH (uriParamsParse (uclParamsText raw) 0).1 = true ∧
    errOkOrEOH (uriHdrsParse (uclHdrsText raw) 0).1 = true) ⟨fun ⟨a, b⟩ => ⟨a, b⟩, fun ⟨a, b⟩ => ⟨a, b⟩⟩

instance (raw : Buf) : Decidable (UclNoDup raw) :=
  decidable_of_iff ((errOkOrEOH (uriParamsParse (uclParamsText raw) 0).1 = true →
      UclNoDupNames (uclParamNames (uclParamsText raw))) ∧
    (errOkOrEOH (uriHdrsParse (uclHdrsText raw) 0).1 = true → UclNoDupNames (uclHdrNames (uclHdrsText raw))))
    ⟨fun ⟨a, b⟩ => ⟨a, b⟩, fun ⟨a, b⟩ => ⟨a, b⟩⟩

/-- **every URI ParseURI accepts (sip, sips, tel; at most 65,535 bytes) whose parameter and header names are free of
    duplicates is well formed for comparison** (`URIWf`, the hypothesis of the symmetry law) -/
theorem ucl_uriWf (raw : Buf) (hfit : raw.size ≤ 65535) (hacc : (parseURI raw {}).1 = .none) (hnd : UclNoDup raw) :
    URIWf (parseURI raw {}).2.2.1 raw := by
  have hg := ucl_parse_get raw hfit hacc
  have hsome : ∀ {f : PField} {x : Buf}, f.get? raw = some x → (f.get? raw).isSome := fun h => by rw [h]; rfl
  refine ⟨hsome (hg _ (by simp)), hsome (hg _ (by simp)), hsome (hg _ (by simp)),
    ⟨uclParamsText raw, hg _ (by simp), ?_⟩, ⟨uclHdrsText raw, hg _ (by simp), ?_⟩⟩
  · exact ucl_paramsWf _ (by have := uclSeg_size_le raw (parseURI raw {}).2.2.1.params; unfold uclParamsText; omega)
      hnd.params
  · exact ucl_hdrsWf _ (by have := uclSeg_size_le raw (parseURI raw {}).2.2.1.headers; unfold uclHdrsText; omega)
      hnd.headers

/-- … and if moreover its parameter and header lists are well formed, it satisfies `URIGood`, the hypothesis of the
    reflexivity law -/
theorem ucl_uriGood (raw : Buf) (hfit : raw.size ≤ 65535) (hacc : (parseURI raw {}).1 = .none) (hok : UclListsOk raw)
    (hnd : UclNoDup raw) : URIGood (parseURI raw {}).2.2.1 raw := by
  have w := ucl_uriWf raw hfit hacc hnd
  have hg := ucl_parse_get raw hfit hacc
  obtain ⟨pb, hpb, wp⟩ := w.params
  obtain ⟨hb, hhb, wh⟩ := w.headers
  have e1 : pb = uclParamsText raw := by
    have := hg (parseURI raw {}).2.2.1.params (by simp)
    rw [hpb] at this; cases this; rfl
  have e2 : hb = uclHdrsText raw := by
    have := hg (parseURI raw {}).2.2.1.headers (by simp)
    rw [hhb] at this; cases this; rfl
  subst e1; subst e2
  exact ⟨w.user, w.pass, w.host, ⟨_, hpb, wp, hok.params⟩, ⟨_, hhb, wh, hok.headers⟩⟩

theorem ucl_parse_tuple (raw : Buf) (hfit : raw.size ≤ 65535) :
    parseURI raw {} = ((parseURI raw {}).1, (parseURI raw {}).2.1, (parseURI raw {}).2.2.1, false) := by
  have h := (parseURI_ok raw hfit).2.1
  rcases hp : parseURI raw {} with ⟨e, n, u, c⟩
  rw [hp] at h
  rw [show c = false from h]

theorem ucl_parse_eq (raw : Buf) (hfit : raw.size ≤ 65535) (hacc : (parseURI raw {}).1 = .none) :
    parseURI raw {} = (UErr.none, (parseURI raw {}).2.1, (parseURI raw {}).2.2.1, false) := by
  have h := ucl_parse_tuple raw hfit
  rwa [hacc] at h

/-- **REFLEXIVITY for the raw-string entry point**: every raw URI of at most 65,535 bytes that ParseURI accepts, whose
    parameter and header lists are well formed and free of duplicate names, is equal to itself under every flag
    value; URIParseCmp reports no error and hands back the parsed URI twice. -/
theorem uriParseCmp_refl_raw (raw : Buf) (f : Nat) (hfit : raw.size ≤ 65535) (hacc : (parseURI raw {}).1 = .none)
    (hok : UclListsOk raw) (hnd : UclNoDup raw) :
    uriParseCmp raw raw f =
      some (true, UErr.none, 0, some (parseURI raw {}).2.2.1, some (parseURI raw {}).2.2.1) := by
  have hp := ucl_parse_eq raw hfit hacc
  rw [uriParseCmp_ok raw raw f hp hp, uriCmp_refl _ raw f (ucl_uriGood raw hfit hacc hok hnd)]
  rfl

/-- … and the same for URICmp on the parsed URI -/
theorem uriCmp_refl_parsed (raw : Buf) (f : Nat) (hfit : raw.size ≤ 65535) (hacc : (parseURI raw {}).1 = .none)
    (hok : UclListsOk raw) (hnd : UclNoDup raw) :
    uriCmp (parseURI raw {}).2.2.1 raw (parseURI raw {}).2.2.1 raw f = some true :=
  uriCmp_refl _ raw f (ucl_uriGood raw hfit hacc hok hnd)

/-- **SYMMETRY of URICmp on parsed URIs**: any two accepted raw URIs (at most 65,535 bytes each) free of duplicate
    parameter / header names, every flag value; the parameter / header lists need not be well formed, and a panic
    (`none`) would be symmetric too -/
theorem uriCmp_symm_parsed (raw1 raw2 : Buf) (f : Nat) (hfit1 : raw1.size ≤ 65535) (hfit2 : raw2.size ≤ 65535)
    (hacc1 : (parseURI raw1 {}).1 = .none) (hacc2 : (parseURI raw2 {}).1 = .none)
    (hnd1 : UclNoDup raw1) (hnd2 : UclNoDup raw2) :
    uriCmp (parseURI raw1 {}).2.2.1 raw1 (parseURI raw2 {}).2.2.1 raw2 f =
      uriCmp (parseURI raw2 {}).2.2.1 raw2 (parseURI raw1 {}).2.2.1 raw1 f :=
  uriCmp_symm _ raw1 _ raw2 f (ucl_uriWf raw1 hfit1 hacc1 hnd1) (ucl_uriWf raw2 hfit2 hacc2 hnd2)

theorem ucl_map_fst {α β : Type} (o : Option α) (x : β) : (o.map (fun r => (r, x))).map (·.1) = o := by
  cases o <;> rfl

/-- **SYMMETRY for the raw-string entry point**: for ANY two byte strings of at most 65,535 bytes (accepted by
    ParseURI or not) the verdict of URIParseCmp does not depend on the order of the arguments, provided the accepted
    ones are free of duplicate parameter / header names -/
theorem uriParseCmp_symm_raw (raw1 raw2 : Buf) (f : Nat) (hfit1 : raw1.size ≤ 65535) (hfit2 : raw2.size ≤ 65535)
    (hnd1 : (parseURI raw1 {}).1 = .none → UclNoDup raw1) (hnd2 : (parseURI raw2 {}).1 = .none → UclNoDup raw2) :
    (uriParseCmp raw1 raw2 f).map (·.1) = (uriParseCmp raw2 raw1 f).map (·.1) := by
  have h1 := ucl_parse_tuple raw1 hfit1
  have h2 := ucl_parse_tuple raw2 hfit2
  by_cases c1 : (parseURI raw1 {}).1 = UErr.none
  · by_cases c2 : (parseURI raw2 {}).1 = UErr.none
    · rw [c1] at h1; rw [c2] at h2
      -- not by `rfl`: the kernel would first try to identify the two parsed URIs in the results
      rw [uriParseCmp_ok raw1 raw2 f h1 h2, uriParseCmp_ok raw2 raw1 f h2 h1, ucl_map_fst, ucl_map_fst]
      exact uriCmp_symm_parsed raw1 raw2 f hfit1 hfit2 c1 c2 (hnd1 c1) (hnd2 c2)
    · rw [c1] at h1
      rw [uriParseCmp_err2 raw1 raw2 f h1 h2 c2, uriParseCmp_err1 raw2 raw1 f h2 c2]
      rfl
  · rw [uriParseCmp_err1 raw1 raw2 f h1 c1]
    by_cases c2 : (parseURI raw2 {}).1 = UErr.none
    · rw [c2] at h2
      rw [uriParseCmp_err2 raw2 raw1 f h2 h1 c1]
      rfl
    · rw [uriParseCmp_err1 raw2 raw1 f h2 c2]
      rfl

/-- … with the complete results when both are accepted: same verdict, no error, the two parsed URIs handed back in the
    order of the arguments -/
theorem uriParseCmp_symm_full (raw1 raw2 : Buf) (f : Nat) (hfit1 : raw1.size ≤ 65535) (hfit2 : raw2.size ≤ 65535)
    (hacc1 : (parseURI raw1 {}).1 = .none) (hacc2 : (parseURI raw2 {}).1 = .none)
    (hnd1 : UclNoDup raw1) (hnd2 : UclNoDup raw2) :
    ∃ r, uriParseCmp raw1 raw2 f = some (r, UErr.none, 0, some (parseURI raw1 {}).2.2.1, some (parseURI raw2 {}).2.2.1) ∧
      uriParseCmp raw2 raw1 f = some (r, UErr.none, 0, some (parseURI raw2 {}).2.2.1, some (parseURI raw1 {}).2.2.1) := by
  have h1 := ucl_parse_eq raw1 hfit1 hacc1
  have h2 := ucl_parse_eq raw2 hfit2 hacc2
  obtain ⟨r, hr⟩ := uriCmp_some _ raw1 _ raw2 f hfit1 hfit2 (srUriGet_parse raw1 hfit1 hacc1) (srUriGet_parse raw2 hfit2 hacc2)
  refine ⟨r, ?_, ?_⟩
  · rw [uriParseCmp_ok raw1 raw2 f h1 h2, hr]; rfl
  · rw [uriParseCmp_ok raw2 raw1 f h2 h1, ← uriCmp_symm_parsed raw1 raw2 f hfit1 hfit2 hacc1 hacc2 hnd1 hnd2, hr]; rfl

/-! ### (3) ParseURI does not look at the letter case of any byte -/

def uclIsLetter (c : UInt8) : Bool := (65 ≤ c && c ≤ 90) || (97 ≤ c && c ≤ 122)

theorem ucl_lowerB_letter : ∀ c : UInt8,
    (uclIsLetter c = false → lowerB c = c) ∧
    (uclIsLetter c = true → uclIsLetter (lowerB c) = true ∧ c ||| 0x20 = lowerB c) :=
  forall_byte (by decide +kernel)

theorem ucl_lowerB_eq {c d : UInt8} (h : lowerB c = lowerB d) :
    c = d ∨ (uclIsLetter c = true ∧ uclIsLetter d = true) := by
  cases hc : uclIsLetter c <;> cases hd : uclIsLetter d
  · left
    rw [← (ucl_lowerB_letter c).1 hc, ← (ucl_lowerB_letter d).1 hd, h]
  · have h1 := ((ucl_lowerB_letter d).2 hd).1
    rw [← h, (ucl_lowerB_letter c).1 hc, hc] at h1
    cases h1
  · have h1 := ((ucl_lowerB_letter c).2 hc).1
    rw [h, (ucl_lowerB_letter d).1 hd, hd] at h1
    cases h1
  · exact Or.inr ⟨rfl, rfl⟩

/-- the URI automaton treats all letters alike: none of its tests singles out a letter -/
theorem ucl_letter_facts : ∀ c : UInt8, uclIsLetter c = true →
    (c == 91) = false ∧ (c == 58) = false ∧ (c == 93) = false ∧ (c == 64) = false ∧ (c == 59) = false ∧
    (c == 63) = false ∧ (c == 38) = false ∧ isDigit c = false :=
  forall_byte (by decide +kernel)

theorem uriStep_letter (i : Nat) (c d : UInt8) (σ : UState) (hc : uclIsLetter c = true) (hd : uclIsLetter d = true) :
    uriStep i c σ = uriStep i d σ := by
  obtain ⟨c1, c2, c3, c4, c5, c6, c7, c8⟩ := ucl_letter_facts c hc
  obtain ⟨d1, d2, d3, d4, d5, d6, d7, d8⟩ := ucl_letter_facts d hd
  unfold uriStep
  simp only [c1, c2, c3, c4, c5, c6, c7, c8, d1, d2, d3, d4, d5, d6, d7, d8, Bool.false_eq_true, ↓reduceIte, Bool.or_self]

theorem uriStep_case (i : Nat) (c d : UInt8) (σ : UState) (h : lowerB c = lowerB d) : uriStep i c σ = uriStep i d σ := by
  rcases ucl_lowerB_eq h with rfl | ⟨hc, hd⟩
  · rfl
  · exact uriStep_letter i c d σ hc hd

/-- `b'` is `b` with some letters written in the other case, position by position -/
def UclCaseVar (b b' : Buf) : Prop := ∀ j : Nat, (b'[j]?).map lowerB = (b[j]?).map lowerB

theorem UclCaseVar.get_none {b b' : Buf} (h : UclCaseVar b b') {j : Nat} (hb : b[j]? = none) : b'[j]? = none := by
  have := h j; rw [hb] at this; simpa using this

theorem UclCaseVar.get_some {b b' : Buf} (h : UclCaseVar b b') {j : Nat} {c : UInt8} (hb : b[j]? = some c) :
    ∃ c', b'[j]? = some c' ∧ lowerB c' = lowerB c := by
  have := h j; rw [hb] at this
  rcases hb' : b'[j]? with _ | c'
  · rw [hb'] at this; cases this
  · rw [hb'] at this; exact ⟨c', rfl, by simpa using this⟩

theorem UclCaseVar.lower_eq {b b' : Buf} (h : UclCaseVar b b') {j : Nat} {c c' : UInt8} (hb : b[j]? = some c)
    (hb' : b'[j]? = some c') : lowerB c' = lowerB c := by
  have := h j; rw [hb, hb'] at this
  exact Option.some.inj this

theorem UclCaseVar.size {b b' : Buf} (h : UclCaseVar b b') : b'.size = b.size := by
  rcases Nat.lt_trichotomy b'.size b.size with hlt | heq | hgt
  · have h1 : b'[b'.size]? = none := Array.getElem?_eq_none (Nat.le_refl _)
    have h2 := h b'.size
    rw [h1, Array.getElem?_eq_getElem hlt] at h2; cases h2
  · exact heq
  · have h1 : b[b.size]? = none := Array.getElem?_eq_none (Nat.le_refl _)
    have h2 := h b.size
    rw [h1, Array.getElem?_eq_getElem hgt] at h2; cases h2

theorem UclCaseVar.of_caseEq {b b' : Buf} (h : CaseEq b b') : UclCaseVar b b' := by
  intro j
  unfold CaseEq lowerL at h
  have := congrArg (fun l => l[j]?) h
  simp only [List.getElem?_map, Array.getElem?_toList] at this
  exact this.symm

theorem UclCaseVar.caseEq {b b' : Buf} (h : UclCaseVar b b') : CaseEq b b' := by
  unfold CaseEq lowerL
  apply List.ext_getElem?
  intro j
  simp only [List.getElem?_map, Array.getElem?_toList]
  exact (h j).symm

theorem ucl_or20 {c d : UInt8} (h : lowerB c = lowerB d) : c ||| 0x20 = d ||| 0x20 := by
  rcases ucl_lowerB_eq h with rfl | ⟨hc, hd⟩
  · rfl
  · rw [((ucl_lowerB_letter c).2 hc).2, ((ucl_lowerB_letter d).2 hd).2, h]

/-- **LETTER CASE, ParseURI**: ParseURI returns the same result (verdict, position, all component offsets and
    lengths, port number) on two byte strings that differ only in the case of ASCII letters — anywhere: scheme, user,
    host, parameters, headers. -/
theorem parseURI_case (raw raw' : Buf) (pu : PsipURI) (h : UclCaseVar raw raw') : parseURI raw' pu = parseURI raw pu := by
  refine parseURI_congr raw raw' pu h.size (fun j _ c c' hc hc' => ucl_or20 (h.lower_eq hc hc'))
    (fun c c' hc hc' => ?_)
    (uriLoop_congr raw raw' 4 (fun j _ => h.get_none) (fun j c _ hc => ?_))
  · rcases ucl_lowerB_eq (h.lower_eq hc hc') with rfl | ⟨x, y⟩
    · rfl
    · rw [(ucl_letter_facts c' x).2.1, (ucl_letter_facts c y).2.1]
  · obtain ⟨c', hc', hl⟩ := h.get_some hc
    exact ⟨c', hc', fun σ => uriStep_case j c' c σ hl⟩

/-! ### (3b) strings that differ only in the letter case of the host: user, password, parameters, headers lie outside it -/

theorem ucl_seg_congr {b b' : Buf} (hsz : b'.size = b.size) (f : PField)
    (h : ∀ j, f.offs ≤ j → j < f.offs + f.len → b'[j]? = b[j]?) : uclSeg b' f = uclSeg b f :=
  extract_congr hsz _ _ h

theorem ucl_layout_disj {b : Buf} {k : Nat} {u : PsipURI} (h : URILayout b k u) :
    u.user.offs + u.user.len ≤ u.host.offs ∧ u.pass.offs + u.pass.len ≤ u.host.offs ∧
    (u.params.len = 0 ∨ u.host.offs + u.host.len ≤ u.params.offs) ∧
    (u.headers.len = 0 ∨ u.host.offs + u.host.len ≤ u.headers.offs) := by
  obtain ⟨hsch, hup, hhl, h1, h2, h3, hend⟩ := h
  have a0 := hup.arith
  have a1 := h1.arith
  have a2 := h2.arith
  have a3 := h3.arith
  generalize uafter (k + u.user.len) u.pass = q0 at a0
  generalize uafter (uafter (uafter (u.host.offs + u.host.len) u.port) u.params) u.headers = q3 at a3 hend
  generalize uafter (uafter (u.host.offs + u.host.len) u.port) u.params = q2 at a2 a3
  generalize uafter (u.host.offs + u.host.len) u.port = q1 at a1 a2
  refine ⟨by omega, by omega, by omega, by omega⟩

theorem ucl_parse_disj (raw : Buf) (hfit : raw.size ≤ 65535) (hacc : (parseURI raw {}).1 = .none) :
    ∀ f ∈ [(parseURI raw {}).2.2.1.user, (parseURI raw {}).2.2.1.pass, (parseURI raw {}).2.2.1.params,
        (parseURI raw {}).2.2.1.headers], ∀ j, f.offs ≤ j → j < f.offs + f.len →
      j < (parseURI raw {}).2.2.1.host.offs ∨
        (parseURI raw {}).2.2.1.host.offs + (parseURI raw {}).2.2.1.host.len ≤ j := by
  obtain ⟨k, u0, -, hl, hu⟩ := parseURI_layout raw hfit hacc
  rw [hu]
  intro f hf j hj1 hj2
  by_cases ht : u0.uriType = TELuri
  · rw [if_pos ht]
    right
    show (0 : Nat) + 0 ≤ j
    omega
  · rw [if_neg ht] at hf ⊢
    obtain ⟨d1, d2, d3, d4⟩ := ucl_layout_disj hl
    simp only [List.mem_cons, List.not_mem_nil, or_false] at hf
    rcases hf with rfl | rfl | rfl | rfl <;> omega

/-- `raw'` is `raw` with the letter case of some bytes of the HOST changed (the host as ParseURI delimits it in
    `raw`) and nothing else: equal up to case everywhere, identical before and after the host -/
structure UclHostCaseVariant (raw raw' : Buf) : Prop where
  caseEq : CaseEq raw raw'
  before : raw'.toList.take (parseURI raw {}).2.2.1.host.offs = raw.toList.take (parseURI raw {}).2.2.1.host.offs
  after : raw'.toList.drop ((parseURI raw {}).2.2.1.host.offs + (parseURI raw {}).2.2.1.host.len) =
    raw.toList.drop ((parseURI raw {}).2.2.1.host.offs + (parseURI raw {}).2.2.1.host.len)

instance (raw raw' : Buf) : Decidable (UclHostCaseVariant raw raw') :=
  decidable_of_iff (CaseEq raw raw' ∧
    raw'.toList.take (parseURI raw {}).2.2.1.host.offs = raw.toList.take (parseURI raw {}).2.2.1.host.offs ∧
    raw'.toList.drop ((parseURI raw {}).2.2.1.host.offs + (parseURI raw {}).2.2.1.host.len) =
      raw.toList.drop ((parseURI raw {}).2.2.1.host.offs + (parseURI raw {}).2.2.1.host.len))
    ⟨fun ⟨a, b, c⟩ => ⟨a, b, c⟩, fun ⟨a, b, c⟩ => ⟨a, b, c⟩⟩

theorem UclHostCaseVariant.outside {raw raw' : Buf} (v : UclHostCaseVariant raw raw') (j : Nat)
    (hj : j < (parseURI raw {}).2.2.1.host.offs ∨
      (parseURI raw {}).2.2.1.host.offs + (parseURI raw {}).2.2.1.host.len ≤ j) : raw'[j]? = raw[j]? := by
  rcases hj with hj | hj
  · have := congrArg (fun l => l[j]?) v.before
    simp only [List.getElem?_take, hj, ↓reduceIte, Array.getElem?_toList] at this
    exact this
  · have e : ∀ (b : Buf), b[j]? = (b.toList.drop ((parseURI raw {}).2.2.1.host.offs +
        (parseURI raw {}).2.2.1.host.len))[j - ((parseURI raw {}).2.2.1.host.offs +
        (parseURI raw {}).2.2.1.host.len)]? := by
      intro b
      rw [List.getElem?_drop, Array.getElem?_toList]
      congr 1
      omega
    rw [e raw, e raw', v.after]

/-! ### (4) the parameter / header list parsers do not look at letter case -/

/-- the byte tests of the scanners do not tell a letter from its other-case form -/
structure UclSameClass (c d : UInt8) : Prop where
  ws : isWS c = isWS d
  crlf : isCRLFch c = isCRLFch d
  lws : isLWSch c = isLWSch d
  eq : ∀ k ∈ [(0 : UInt8), 9, 10, 13, 32, 34, 38, 44, 59, 61, 63, 92, 127], (c == k) = (d == k)
  lt : decide (c < 33) = decide (d < 33)
  tok : ∀ flags, tokAllowedChar c flags = tokAllowedChar d flags

theorem ucl_lower_class (c : UInt8) : UclSameClass (lowerB c) c := by
  have table : ∀ c : UInt8, isWS (lowerB c) = isWS c ∧ isCRLFch (lowerB c) = isCRLFch c ∧
      isLWSch (lowerB c) = isLWSch c ∧
      (∀ k ∈ [(0 : UInt8), 9, 10, 13, 32, 34, 38, 44, 59, 61, 63, 92, 127], (lowerB c == k) = (c == k)) ∧
      (decide (lowerB c < 33) = decide (c < 33)) ∧ (∀ u, tokAllowedB (lowerB c) u = tokAllowedB c u) :=
    forall_byte (by decide +kernel)
  obtain ⟨h1, h2, h3, h4, h5, h6⟩ := table c
  exact ⟨h1, h2, h3, h4, h5, fun flags => h6 (hasFlag flags POptTokURIParamF)⟩

theorem ucl_sameClass {c d : UInt8} (h : lowerB c = lowerB d) : UclSameClass c d := by
  have hc := ucl_lower_class c
  have hd := ucl_lower_class d
  rw [h] at hc
  exact ⟨hc.ws.symm.trans hd.ws, hc.crlf.symm.trans hd.crlf, hc.lws.symm.trans hd.lws,
    fun k hk => (hc.eq k hk).symm.trans (hd.eq k hk), hc.lt.symm.trans hd.lt,
    fun f => (hc.tok f).symm.trans (hd.tok f)⟩


theorem UclSameClass.ne {c d : UInt8} (h : UclSameClass c d) (k : UInt8)
    (hk : k ∈ [(0 : UInt8), 9, 10, 13, 32, 34, 38, 44, 59, 61, 63, 92, 127]) : (c != k) = (d != k) := by
  unfold bne; rw [h.eq k hk]

/-- a letter-case variant reads the same to the lexical layer -/
theorem UclCaseVar.lexMap {b b' : Buf} (h : UclCaseVar b b') : LexMap b b' 0 :=
  ⟨fun {p c} hb => by
      obtain ⟨c', e, l⟩ := h.get_some hb
      have k := ucl_sameClass l
      have iff : ∀ x : UInt8, (c' == x) = (c == x) → (c = x ↔ c' = x) := fun x hx =>
        ⟨fun hh => by subst hh; simpa using hx, fun hh => by subst hh; simpa using hx.symm⟩
      exact ⟨c', e, iff 13 (k.eq 13 (by simp)), iff 10 (k.eq 10 (by simp)), k.ws, k.crlf, k.lws⟩,
    fun hb => h.get_none hb, h.size⟩

theorem skipLWS_case {b b' : Buf} (h : UclCaseVar b b') (i flags : Nat) : skipLWS b' i flags = skipLWS b i flags :=
  skipLWS_map h.lexMap i flags

theorem ucl_runLoop_congr {σ : Type} (m : Machine σ) {b b' : Buf} (h : UclCaseVar b b')
    (hstep : ∀ i c c' st, b[i]? = some c → b'[i]? = some c' → m.step b' i c' st = m.step b i c st)
    (heob : ∀ i st, b[i]? = none → m.eob b' i st = m.eob b i st) (i : Nat) (st : σ) :
    runLoop m b' i st = runLoop m b i st :=
  runLoop_congr m m b' b 0 (fun j st _ hb => ⟨h.get_none hb, heob j st hb⟩)
    (fun j c st _ hb => let ⟨c', e, _⟩ := h.get_some hb; ⟨c', e, hstep j c c' st hb e⟩) i (Nat.zero_le _) st

theorem sqStep_case {b b' : Buf} (h : UclCaseVar b b') (i : Nat) (c c' : UInt8) (hb : b[i]? = some c)
    (hb' : b'[i]? = some c') : sqStep b' i c' () = sqStep b i c () := by
  have k := ucl_sameClass (h.lower_eq hb hb')
  unfold sqStep
  rw [k.eq 34 (by simp), k.eq 92 (by simp), k.eq 10 (by simp), k.eq 13 (by simp), k.eq 127 (by simp), k.lt,
    k.ne 32 (by simp), k.ne 9 (by simp)]
  rcases h1 : b[i + 1]? with _ | c1
  · rw [h.get_none h1]
  · obtain ⟨c1', e1, l1⟩ := h.get_some h1
    rw [e1]
    simp only [(ucl_sameClass l1).crlf]

theorem skipQuoted_case {b b' : Buf} (h : UclCaseVar b b') (i : Nat) : skipQuoted b' i = skipQuoted b i := by
  unfold skipQuoted
  rw [ucl_runLoop_congr sqMachine h (fun i c c' _ hb hb' => sqStep_case h i c c' hb hb') (fun i _ _ => rfl)]


theorem tpMoreBytes_case {b b' : Buf} (h : UclCaseVar b b') (flags : Nat) (p : PTokParam) (i : Nat) :
    tpMoreBytes b' flags p i = tpMoreBytes b flags p i := by
  unfold tpMoreBytes; rw [h.size]

theorem tpLWS_case {b b' : Buf} (h : UclCaseVar b b') (flags i : Nat) (p : PTokParam) (upd : PTokParam → PTokParam) :
    tpLWS b' flags i p upd = tpLWS b flags i p upd := by
  unfold tpLWS; rw [skipLWS_case h, tpMoreBytes_case h]

theorem tpSpTermSep_case {b b' : Buf} (h : UclCaseVar b b') (offs i : Nat) (p : PTokParam) :
    tpSpTermSep b' offs i p = tpSpTermSep b offs i p := by
  unfold tpSpTermSep
  rcases h1 : b[i - 1]? with _ | c1
  · rw [h.get_none h1]
  · obtain ⟨c1', e1, l1⟩ := h.get_some h1
    rw [e1]
    simp only [(ucl_sameClass l1).lws]

theorem tpStep_case {b b' : Buf} (h : UclCaseVar b b') (flags offs i : Nat) (c c' : UInt8) (p : PTokParam)
    (hb : b[i]? = some c) (hb' : b'[i]? = some c') : tpStep flags offs b' i c' p = tpStep flags offs b i c p := by
  have k := ucl_sameClass (h.lower_eq hb hb')
  have ksep : (c' == tpSep flags) = (c == tpSep flags) := by
    rcases tpSep_cases flags with hs | hs <;> rw [hs] <;> exact k.eq _ (by simp)
  have kterm : (c' == tpTerm flags) = (c == tpTerm flags) := by
    rcases tpTerm_cases flags with hs | hs | hs <;> rw [hs] <;> exact k.eq _ (by simp)
  unfold tpStep
  simp only [k.lws, ksep, kterm, k.eq 61 (by simp), k.eq 34 (by simp), k.tok flags, tpLWS_case h, tpSpTermSep_case h,
    skipQuoted_case h, tpMoreBytes_case h]

theorem parseTokenParam_case {b b' : Buf} (h : UclCaseVar b b') (offs : Nat) (p : PTokParam) (flags : Nat) :
    parseTokenParam b' offs p flags = parseTokenParam b offs p flags := by
  unfold parseTokenParam
  split
  · rfl
  · exact ucl_runLoop_congr (tpMachine flags offs) h (fun i c c' st hb hb' => tpStep_case h flags offs i c c' st hb hb')
      (fun i st _ => tpMoreBytes_case h flags st i) offs p


theorem ucl_extract_caseEq {b b' : Buf} (h : UclCaseVar b b') (i j : Nat) : CaseEq (b'.extract i j) (b.extract i j) := by
  apply UclCaseVar.caseEq
  intro n
  rw [← Array.getElem?_map, ← Array.getElem?_map, Array.map_extract, Array.map_extract]
  refine congrArg (·[n]?) (extract_congr (by simp only [Array.size_map, h.size]) i j fun n _ _ => ?_)
  rw [Array.getElem?_map, Array.getElem?_map, h n]

/-- reading a field from two buffers that differ only in letter case: both reads panic, or both succeed with results
    equal up to case -/
theorem ucl_get?_case {b b' : Buf} (h : UclCaseVar b b') (f : PField) :
    (f.get? b' = none ∧ f.get? b = none) ∨ ∃ x' x, f.get? b' = some x' ∧ f.get? b = some x ∧ CaseEq x' x := by
  unfold PField.get?
  rw [h.size]
  by_cases hc : f.offs ≤ f.endT ∧ f.endT ≤ b.size
  · rw [if_pos hc, if_pos hc]
    exact Or.inr ⟨_, _, rfl, rfl, ucl_extract_caseEq h _ _⟩
  · rw [if_neg hc, if_neg hc]
    exact Or.inl ⟨rfl, rfl⟩

theorem ucl_resolve_caseEq {x x' : Buf} (h : CaseEq x' x) : uriParamResolve x' = uriParamResolve x := by
  rw [uriParamResolve_lower, uriParamResolve_lower]
  unfold CaseEq at h
  rw [h]

theorem uriParamsLoop_case {b b' : Buf} (h : UclCaseVar b b') (flags : Nat) :
    ∀ (offs : Nat) (l : URIParamsLst) (vNo : Nat),
      uriParamsLoop b' offs l flags vNo = uriParamsLoop b offs l flags vNo := by
  intro offs l vNo
  rw [uriParamsLoop_slot, uriParamsLoop_slot]
  refine slotLoop_congr pOps flags h.size (fun offs p => parseTokenParam_case h offs p flags) (fun tp => ?_) offs l vNo
  show (tp.name.get? b').map _ = (tp.name.get? b).map _
  rcases ucl_get?_case h tp.name with ⟨g', g⟩ | ⟨x', x, g', g, hc⟩
  · rw [g', g]
  · rw [g', g, Option.map_some, Option.map_some, ucl_resolve_caseEq hc]

theorem uriHdrsLoop_case {b b' : Buf} (h : UclCaseVar b b') (flags : Nat) :
    ∀ (offs : Nat) (l : URIHdrsLst) (vNo : Nat),
      uriHdrsLoop b' offs l flags vNo = uriHdrsLoop b offs l flags vNo := by
  intro offs l vNo
  rw [uriHdrsLoop_slot, uriHdrsLoop_slot]
  exact slotLoop_congr hOps flags h.size (fun offs p => parseTokenParam_case h offs p flags) (fun _ => rfl) offs l vNo

/-- **LETTER CASE, ParseAllURIParams**: the same result — verdict, offsets, the stored positions and TYPES of all
    parameters, the type mask — on two buffers that differ only in letter case; any list, any flags -/
theorem parseAllURIParams_case {b b' : Buf} (h : UclCaseVar b b') (offs : Nat) (l : URIParamsLst) (flags : Nat) :
    parseAllURIParams b' offs l flags = parseAllURIParams b offs l flags :=
  uriParamsLoop_case h _ offs l 0

/-- **LETTER CASE, ParseAllURIHdrs** -/
theorem parseAllURIHdrs_case {b b' : Buf} (h : UclCaseVar b b') (offs : Nat) (l : URIHdrsLst) (flags : Nat) :
    parseAllURIHdrs b' offs l flags = parseAllURIHdrs b offs l flags :=
  uriHdrsLoop_case h _ offs l 0


/-! ### (4b) the list comparisons read their buffers only up to letter case -/

/-- the buffer with every ASCII upper-case letter lower-cased -/
def uclLower (b : Buf) : Buf := b.map lowerB

theorem uclLower_get? (f : PField) (b : Buf) : f.get? (uclLower b) = (f.get? b).map uclLower := by
  unfold PField.get? uclLower
  rw [Array.size_map]
  by_cases hc : f.offs ≤ f.endT ∧ f.endT ≤ b.size
  · rw [if_pos hc, if_pos hc, Option.map_some, Array.map_extract]
  · rw [if_neg hc, if_neg hc, Option.map_none]

theorem uclLower_caseEq (x : Buf) : CaseEq (uclLower x) x := by
  unfold CaseEq uclLower lowerL
  rw [Array.toList_map, List.map_map]
  apply List.map_congr_left
  intro c _
  exact lowerB_lowerB c

theorem cmpEq_uclLower (x y : Buf) : cmpEq (uclLower x) (uclLower y) = cmpEq x y :=
  cmpEq_congr (uclLower_caseEq x) (uclLower_caseEq y)

theorem uclLower_eq_of_caseEq {b b' : Buf} (h : CaseEq b b') : uclLower b = uclLower b' := by
  apply Array.ext'
  unfold uclLower
  rw [Array.toList_map, Array.toList_map]
  exact h

theorem paramsEqInner_lower (p1 : URIParam) (b1 b2 : Buf) :
    ∀ l, paramsEqInner p1 (uclLower b1) (uclLower b2) l = paramsEqInner p1 b1 b2 l := by
  intro l
  induction l with
  | nil => rfl
  | cons p2 rest ih =>
    unfold paramsEqInner
    rw [ih]
    simp only [uclLower_get?]
    cases p1.param.name.get? b1 <;> cases p2.param.name.get? b2 <;> cases p1.param.val.get? b1 <;>
      cases p2.param.val.get? b2 <;> simp only [Option.map_none, Option.map_some, cmpEq_uclLower]

theorem paramsEqOuter_lower (b1 b2 : Buf) (l2 : List URIParam) :
    ∀ l1, paramsEqOuter (uclLower b1) (uclLower b2) l2 l1 = paramsEqOuter b1 b2 l2 l1 := by
  intro l1
  induction l1 with
  | nil => rfl
  | cons p1 rest ih =>
    unfold paramsEqOuter
    rw [ih, paramsEqInner_lower]

theorem uriParamsLstEq_lower (l1 : URIParamsLst) (b1 : Buf) (l2 : URIParamsLst) (b2 : Buf) :
    uriParamsLstEq l1 (uclLower b1) l2 (uclLower b2) = uriParamsLstEq l1 b1 l2 b2 := by
  unfold uriParamsLstEq
  rw [paramsEqOuter_lower]

theorem hdrsEqInner_lower (h1 : PTokParam) (b1 b2 : Buf) :
    ∀ l, hdrsEqInner h1 (uclLower b1) (uclLower b2) l = hdrsEqInner h1 b1 b2 l := by
  intro l
  induction l with
  | nil => rfl
  | cons h2 rest ih =>
    unfold hdrsEqInner
    rw [ih]
    simp only [uclLower_get?]
    cases h1.name.get? b1 <;> cases h2.name.get? b2 <;> cases h1.val.get? b1 <;>
      cases h2.val.get? b2 <;> simp only [Option.map_none, Option.map_some, cmpEq_uclLower]

theorem hdrsEqOuter_lower (b1 b2 : Buf) (l2 : List PTokParam) :
    ∀ l1, hdrsEqOuter (uclLower b1) (uclLower b2) l2 l1 = hdrsEqOuter b1 b2 l2 l1 := by
  intro l1
  induction l1 with
  | nil => rfl
  | cons p1 rest ih =>
    unfold hdrsEqOuter
    rw [ih, hdrsEqInner_lower]

theorem uriHdrsLstEq_lower (l1 : URIHdrsLst) (b1 : Buf) (l2 : URIHdrsLst) (b2 : Buf) :
    uriHdrsLstEq l1 (uclLower b1) l2 (uclLower b2) = uriHdrsLstEq l1 b1 l2 b2 := by
  unfold uriHdrsLstEq
  rw [hdrsEqOuter_lower]

/-- **LETTER CASE, URIParamsLstEq**: the verdict (panic included) depends on the two buffers only up to letter case —
    parameter names AND values; no side condition on the lists -/
theorem uriParamsLstEq_case (l1 : URIParamsLst) (l2 : URIParamsLst) {b1 b1' b2 b2' : Buf} (h1 : CaseEq b1 b1')
    (h2 : CaseEq b2 b2') : uriParamsLstEq l1 b1' l2 b2' = uriParamsLstEq l1 b1 l2 b2 := by
  rw [← uriParamsLstEq_lower l1 b1' l2 b2', ← uriParamsLstEq_lower l1 b1 l2 b2, uclLower_eq_of_caseEq h1,
    uclLower_eq_of_caseEq h2]

/-- **LETTER CASE, URIHdrsLstEq**: header names and values -/
theorem uriHdrsLstEq_case (l1 : URIHdrsLst) (l2 : URIHdrsLst) {b1 b1' b2 b2' : Buf} (h1 : CaseEq b1 b1')
    (h2 : CaseEq b2 b2') : uriHdrsLstEq l1 b1' l2 b2' = uriHdrsLstEq l1 b1 l2 b2 := by
  rw [← uriHdrsLstEq_lower l1 b1' l2 b2', ← uriHdrsLstEq_lower l1 b1 l2 b2, uclLower_eq_of_caseEq h1,
    uclLower_eq_of_caseEq h2]

theorem uriParamsParse_case {b b' : Buf} (h : CaseEq b b') (o : Nat) : uriParamsParse b' o = uriParamsParse b o := by
  unfold uriParamsParse
  rw [parseAllURIParams_case (UclCaseVar.of_caseEq h)]

theorem uriHdrsParse_case {b b' : Buf} (h : CaseEq b b') (o : Nat) : uriHdrsParse b' o = uriHdrsParse b o := by
  unfold uriHdrsParse
  rw [parseAllURIHdrs_case (UclCaseVar.of_caseEq h)]

/-- **LETTER CASE, URIParamsEq**: the complete result is the same on parameter strings that differ only in letter
    case (names and values), whatever they contain -/
theorem uriParamsEq_case {b1 b1' b2 b2' : Buf} (h1 : CaseEq b1 b1') (h2 : CaseEq b2 b2') (o1 o2 : Nat) :
    uriParamsEq b1' o1 b2' o2 = uriParamsEq b1 o1 b2 o2 := by
  rw [uriParamsEq_eq, uriParamsEq_eq, uriParamsParse_case h1, uriParamsParse_case h2, uriParamsLstEq_case _ _ h1 h2]

/-- **LETTER CASE, URIHdrsEq** -/
theorem uriHdrsEq_case {b1 b1' b2 b2' : Buf} (h1 : CaseEq b1 b1') (h2 : CaseEq b2 b2') (o1 o2 : Nat) :
    uriHdrsEq b1' o1 b2' o2 = uriHdrsEq b1 o1 b2 o2 := by
  rw [uriHdrsEq_eq, uriHdrsEq_eq, uriHdrsParse_case h1, uriHdrsParse_case h2, uriHdrsLstEq_case _ _ h1 h2]


/-! ### (4c) URICmp / URIParseCmp: letter case matters nowhere except in user and password -/

theorem ucl_cmpFields_case {b1 b1' b2 b2' : Buf} (h1 : UclCaseVar b1 b1') (h2 : UclCaseVar b2 b2') (s : Bool)
    (f g : PField) :
    cmpFields s cmpEq (f.get? b1') (g.get? b2') = cmpFields s cmpEq (f.get? b1) (g.get? b2) := by
  unfold cmpFields
  rcases ucl_get?_case h1 f with ⟨a', a⟩ | ⟨x', x, a', a, ca⟩ <;>
  rcases ucl_get?_case h2 g with ⟨c', c⟩ | ⟨y', y, c', c, cc⟩
  · rw [a', a, c', c]
  · rw [a', a, c', c]
  · rw [a', a, c', c]
  · rw [a', a, c', c]
    simp only [cmpEq_congr ca cc]

theorem ucl_paramsPart_case {b1 b1' b2 b2' : Buf} (h1 : UclCaseVar b1 b1') (h2 : UclCaseVar b2 b2') (u1 u2 : PsipURI) :
    uriCmpParamsPart u1 b1' u2 b2' = uriCmpParamsPart u1 b1 u2 b2 := by
  unfold uriCmpParamsPart
  rcases ucl_get?_case h1 u1.params with ⟨a', a⟩ | ⟨x', x, a', a, ca⟩ <;>
  rcases ucl_get?_case h2 u2.params with ⟨c', c⟩ | ⟨y', y, c', c, cc⟩
  · rw [a', a, c', c]
  · rw [a', a, c', c]
  · rw [a', a, c', c]
  · rw [a', a, c', c]
    simp only
    rw [uriParamsEq_case ca.symm cc.symm]

theorem ucl_hdrsPart_case {b1 b1' b2 b2' : Buf} (h1 : UclCaseVar b1 b1') (h2 : UclCaseVar b2 b2') (u1 u2 : PsipURI) :
    uriCmpHdrsPart u1 b1' u2 b2' = uriCmpHdrsPart u1 b1 u2 b2 := by
  unfold uriCmpHdrsPart
  rcases ucl_get?_case h1 u1.headers with ⟨a', a⟩ | ⟨x', x, a', a, ca⟩ <;>
  rcases ucl_get?_case h2 u2.headers with ⟨c', c⟩ | ⟨y', y, c', c, cc⟩
  · rw [a', a, c', c]
  · rw [a', a, c', c]
  · rw [a', a, c', c]
  · rw [a', a, c', c]
    simp only
    rw [uriHdrsEq_case ca.symm cc.symm]

/-- **LETTER CASE, URICmp**: for ANY two URI objects and any flags, URICmp gives the same answer (panic included)
    when the buffers are replaced by buffers that differ only in letter case, provided the user and password bytes
    read are the same.  No condition on duplicates, well-formedness, or the objects being results of ParseURI. -/
theorem uriCmp_case (u1 : PsipURI) (b1 b1' : Buf) (u2 : PsipURI) (b2 b2' : Buf) (f : Nat)
    (h1 : CaseEq b1 b1') (h2 : CaseEq b2 b2')
    (hu1 : u1.user.get? b1' = u1.user.get? b1) (hp1 : u1.pass.get? b1' = u1.pass.get? b1)
    (hu2 : u2.user.get? b2' = u2.user.get? b2) (hp2 : u2.pass.get? b2' = u2.pass.get? b2) :
    uriCmp u1 b1' u2 b2' f = uriCmp u1 b1 u2 b2 f := by
  have v1 := UclCaseVar.of_caseEq h1
  have v2 := UclCaseVar.of_caseEq h2
  rw [uriCmp_eq, uriCmp_eq, uriCmpShort_eq, uriCmpShort_eq, hu1, hp1, hu2, hp2, ucl_cmpFields_case v1 v2,
    ucl_paramsPart_case v1 v2, ucl_hdrsPart_case v1 v2]

/-- URIParseCmp on strings re-cased anywhere: the complete result is unchanged provided that, where ParseURI accepts,
    the user and password bytes read are the same -/
theorem uriParseCmp_case_of (raw1 raw1' raw2 raw2' : Buf) (f : Nat) (h1 : CaseEq raw1 raw1') (h2 : CaseEq raw2 raw2')
    (k1 : (parseURI raw1 {}).1 = .none →
      (parseURI raw1 {}).2.2.1.user.get? raw1' = (parseURI raw1 {}).2.2.1.user.get? raw1 ∧
      (parseURI raw1 {}).2.2.1.pass.get? raw1' = (parseURI raw1 {}).2.2.1.pass.get? raw1)
    (k2 : (parseURI raw2 {}).1 = .none →
      (parseURI raw2 {}).2.2.1.user.get? raw2' = (parseURI raw2 {}).2.2.1.user.get? raw2 ∧
      (parseURI raw2 {}).2.2.1.pass.get? raw2' = (parseURI raw2 {}).2.2.1.pass.get? raw2) :
    uriParseCmp raw1' raw2' f = uriParseCmp raw1 raw2 f :=
  uriParseCmp_congr_parse (parseURI_case raw1 raw1' {} (UclCaseVar.of_caseEq h1))
    (parseURI_case raw2 raw2' {} (UclCaseVar.of_caseEq h2))
    fun c1 c2 => uriCmp_case _ raw1 raw1' _ raw2 raw2' f h1 h2 (k1 c1).1 (k1 c1).2 (k2 c2).1 (k2 c2).2

theorem ucl_get_variant {raw raw' : Buf} (hfit : raw.size ≤ 65535) (hacc : (parseURI raw {}).1 = .none)
    (h : CaseEq raw raw') {f : PField}
    (hf : f ∈ [(parseURI raw {}).2.2.1.scheme, (parseURI raw {}).2.2.1.user, (parseURI raw {}).2.2.1.pass,
        (parseURI raw {}).2.2.1.host, (parseURI raw {}).2.2.1.port, (parseURI raw {}).2.2.1.params,
        (parseURI raw {}).2.2.1.headers]) (hs : uclSeg raw' f = uclSeg raw f) : f.get? raw' = f.get? raw := by
  have w := UclCaseVar.of_caseEq h
  have hp := parseURI_case raw raw' {} w
  have g' := ucl_parse_get raw' (by rw [w.size]; exact hfit) (by rw [hp]; exact hacc)
  rw [hp] at g'
  rw [g' f hf, ucl_parse_get raw hfit hacc f hf, hs]

/-- `raw'` is `raw` with the letter case of some bytes changed, but not inside the user and password components (as
    ParseURI delimits them in `raw`) -/
structure UclCaseVariant (raw raw' : Buf) : Prop where
  caseEq : CaseEq raw raw'
  user : uclSeg raw' (parseURI raw {}).2.2.1.user = uclSeg raw (parseURI raw {}).2.2.1.user
  pass : uclSeg raw' (parseURI raw {}).2.2.1.pass = uclSeg raw (parseURI raw {}).2.2.1.pass

instance (raw raw' : Buf) : Decidable (UclCaseVariant raw raw') :=
  decidable_of_iff (CaseEq raw raw' ∧
    uclSeg raw' (parseURI raw {}).2.2.1.user = uclSeg raw (parseURI raw {}).2.2.1.user ∧
    uclSeg raw' (parseURI raw {}).2.2.1.pass = uclSeg raw (parseURI raw {}).2.2.1.pass)
    ⟨fun ⟨a, b, c⟩ => ⟨a, b, c⟩, fun ⟨a, b, c⟩ => ⟨a, b, c⟩⟩

/-- **LETTER CASE for the raw-string entry point**: for ANY two byte strings of at most 65,535 bytes, the complete
    result of URIParseCmp (verdict, error, index, both parsed URIs — identical objects) is unchanged when the letter
    case of either string is changed anywhere outside its user and password: scheme, host, parameter names and
    values, header names and values.  No condition on duplicates or on the lists being well formed. -/
theorem uriParseCmp_case (raw1 raw1' raw2 raw2' : Buf) (f : Nat) (hfit1 : raw1.size ≤ 65535)
    (hfit2 : raw2.size ≤ 65535) (v1 : UclCaseVariant raw1 raw1') (v2 : UclCaseVariant raw2 raw2') :
    uriParseCmp raw1' raw2' f = uriParseCmp raw1 raw2 f :=
  uriParseCmp_case_of raw1 raw1' raw2 raw2' f v1.caseEq v2.caseEq
    (fun c => ⟨ucl_get_variant hfit1 c v1.caseEq (by simp) v1.user, ucl_get_variant hfit1 c v1.caseEq (by simp) v1.pass⟩)
    (fun c => ⟨ucl_get_variant hfit2 c v2.caseEq (by simp) v2.user, ucl_get_variant hfit2 c v2.caseEq (by simp) v2.pass⟩)

/-- where ParseURI accepts, a host-case variant leaves user, password, parameter string and header string untouched:
    they lie outside the host -/
theorem UclHostCaseVariant.get {raw raw' : Buf} (v : UclHostCaseVariant raw raw') (hfit : raw.size ≤ 65535)
    (hacc : (parseURI raw {}).1 = .none) {f : PField}
    (hf : f ∈ [(parseURI raw {}).2.2.1.user, (parseURI raw {}).2.2.1.pass, (parseURI raw {}).2.2.1.params,
        (parseURI raw {}).2.2.1.headers]) : f.get? raw' = f.get? raw :=
  ucl_get_variant (f := f) hfit hacc v.caseEq
    (by simp only [List.mem_cons, List.not_mem_nil, or_false] at hf; rcases hf with rfl | rfl | rfl | rfl <;> simp)
    (ucl_seg_congr (UclCaseVar.of_caseEq v.caseEq).size f
      fun j a b => v.outside j (ucl_parse_disj raw hfit hacc f hf j a b))

/-- **HOST LETTER CASE for the raw-string entry point**: for ANY two byte strings of at most 65,535 bytes, the
    complete result of URIParseCmp (verdict, error, index, both parsed URIs) is unchanged when the letter case of
    host bytes of either string is changed — no condition on duplicates or on the lists being well formed. -/
theorem uriParseCmp_host_case (raw1 raw1' raw2 raw2' : Buf) (f : Nat) (hfit1 : raw1.size ≤ 65535)
    (hfit2 : raw2.size ≤ 65535) (v1 : UclHostCaseVariant raw1 raw1') (v2 : UclHostCaseVariant raw2 raw2') :
    uriParseCmp raw1' raw2' f = uriParseCmp raw1 raw2 f :=
  uriParseCmp_case_of raw1 raw1' raw2 raw2' f v1.caseEq v2.caseEq
    (fun c => ⟨v1.get hfit1 c (by simp), v1.get hfit1 c (by simp)⟩)
    (fun c => ⟨v2.get hfit2 c (by simp), v2.get hfit2 c (by simp)⟩)

/-! ### (2c) the presence rule on parameter strings -/

theorem ucl_ofLower_eq_iff (s : List UInt8) :
    (uriParamOfLower s = URIParamUserF ↔ s = sUser) ∧ (uriParamOfLower s = URIParamTTLF ↔ s = sTtl) ∧
    (uriParamOfLower s = URIParamMethodF ↔ s = sMethod) ∧ (uriParamOfLower s = URIParamMaddrF ↔ s = sMaddr) := by
  refine ⟨⟨fun h => ?_, fun h => by rw [h]; decide⟩, ⟨fun h => ?_, fun h => by rw [h]; decide⟩,
    ⟨fun h => ?_, fun h => by rw [h]; decide⟩, ⟨fun h => ?_, fun h => by rw [h]; decide⟩⟩ <;>
  rcases ucl_ofLower_cases s _ rfl with ⟨a, ta⟩ | ⟨a, ta⟩ | ⟨a, ta⟩ | ⟨a, ta⟩ | ⟨a, ta⟩ | ⟨a, ta⟩ | ta <;>
  first
    | exact a
    | (rw [ta] at h; exact absurd h (by decide))

/-- a statement about the four type bits of the presence mask is a statement about the four names -/
theorem ucl_presence_iff {P : Nat → Prop} {Q : List UInt8 → Prop}
    (h : ∀ x ∈ [URIParamUserF, URIParamTTLF, URIParamMethodF, URIParamMaddrF], ∀ s,
      (∀ s', uriParamOfLower s' = x ↔ s' = s) → (P x ↔ Q s)) :
    (∀ x ∈ [URIParamUserF, URIParamTTLF, URIParamMethodF, URIParamMaddrF], P x) ↔
      ∀ s ∈ [sUser, sTtl, sMethod, sMaddr], Q s := by
  have k := ucl_ofLower_eq_iff
  simp only [List.mem_cons, List.not_mem_nil, or_false, forall_eq_or_imp, forall_eq]
  rw [h _ (by simp) sUser (fun s' => (k s').1), h _ (by simp) sTtl (fun s' => (k s').2.1),
    h _ (by simp) sMethod (fun s' => (k s').2.2.1), h _ (by simp) sMaddr (fun s' => (k s').2.2.2)]

/-- the parameter string has a parameter whose name is `s` up to letter case (`s` a lower-case name) -/
def UclHasParam (pb : Buf) (s : List UInt8) : Prop := ∃ nm ∈ uclParamNames pb, lowerL nm.toList = s

instance (pb : Buf) (s : List UInt8) : Decidable (UclHasParam pb s) :=
  inferInstanceAs (Decidable (∃ nm ∈ uclParamNames pb, lowerL nm.toList = s))

theorem UclCls.t_eq_iff {b : Buf} {p : URIParam} (h : UclCls b p) {nm : Buf} (hn : p.param.name.get? b = some nm)
    {x : Nat} {s : List UInt8} (hxs : ∀ s', uriParamOfLower s' = x ↔ s' = s) : p.t = x ↔ lowerL nm.toList = s := by
  obtain ⟨nm', hnm', ht⟩ := h
  rw [hn] at hnm'; cases hnm'
  rw [ht, uriParamResolve_lower]
  exact hxs _

theorem ucl_hasType_iff (pb : Buf) (hfit : pb.size ≤ 65535) (x : Nat) (s : List UInt8)
    (hxs : ∀ s', uriParamOfLower s' = x ↔ s' = s) :
    (∃ p ∈ (uriParamsParse pb 0).2.plist, p.t = x) ↔ UclHasParam pb s := by
  have hf := (ucl_paramsParse_facts pb 0 hfit (Nat.zero_le _)).2
  unfold UclHasParam uclParamNames
  constructor
  · rintro ⟨p, hp, ht⟩
    exact ⟨_, List.mem_map.2 ⟨p, hp, rfl⟩, ((hf p hp).2.1.t_eq_iff (hf p hp).2.2 hxs).1 ht⟩
  · rintro ⟨nm, hnm, hl⟩
    obtain ⟨p, hp, rfl⟩ := List.mem_map.1 hnm
    exact ⟨p, hp, ((hf p hp).2.1.t_eq_iff (hf p hp).2.2 hxs).2 hl⟩

/-- **PRESENCE RULE on parameter strings**: if URIParamsEq says "equal" for two parameter strings (at most 65,535
    bytes, at most 100 parameters each), then each of `user`, `ttl`, `method`, `maddr` (in any letter case) is a
    parameter name of both strings or of neither -/
theorem uriParamsEq_presence_raw (pb1 pb2 : Buf) (hfit1 : pb1.size ≤ 65535) (hfit2 : pb2.size ≤ 65535)
    (hm1 : (uriParamsParse pb1 0).2.more = false) (hm2 : (uriParamsParse pb2 0).2.more = false) {e : Err}
    (h : uriParamsEq pb1 0 pb2 0 = some (true, e)) :
    ∀ s ∈ [sUser, sTtl, sMethod, sMaddr], (UclHasParam pb1 s ↔ UclHasParam pb2 s) := by
  have t1 : TypesOk (uriParamsParse pb1 0).2 :=
    (parseAllURIParams_ucl pb1 0 100 (POptTokURIParamF ||| POptInputEndF) hfit1 (Nat.zero_le _)).2.2 hm1
  have t2 : TypesOk (uriParamsParse pb2 0).2 :=
    (parseAllURIParams_ucl pb2 0 100 (POptTokURIParamF ||| POptInputEndF) hfit2 (Nat.zero_le _)).2.2 hm2
  have hl : uriParamsLstEq (uriParamsParse pb1 0).2 pb1 (uriParamsParse pb2 0).2 pb2 = some true := by
    rw [uriParamsEq_eq] at h
    split at h; · cases h
    split at h; · cases h
    split at h; · cases h
    split at h; · cases h
    rcases hr : uriParamsLstEq (uriParamsParse pb1 0).2 pb1 (uriParamsParse pb2 0).2 pb2 with _ | _ | _ <;>
      rw [hr] at h <;> cases h
  exact (ucl_presence_iff (fun x _ s hxs => by
    rw [ucl_hasType_iff pb1 hfit1 x s hxs, ucl_hasType_iff pb2 hfit2 x s hxs])).1
      (uriParamsLstEq_true_presence _ pb1 _ pb2 hl t1 t2)

/-- … and for raw URIs: a verdict "equal" of URIParseCmp without URICmpSkipParams means that each of `user`, `ttl`,
    `method`, `maddr` is a parameter name of both URIs or of neither (at most 100 parameters each) -/
theorem uriParseCmp_presence_raw (raw1 raw2 : Buf) (f : Nat) (hfit1 : raw1.size ≤ 65535) (hfit2 : raw2.size ≤ 65535)
    (hm1 : (uriParamsParse (uclParamsText raw1) 0).2.more = false)
    (hm2 : (uriParamsParse (uclParamsText raw2) 0).2.more = false)
    (hf : hasFlag f URICmpSkipParams = false) {e : UErr} {i : Nat} {r1 r2 : Option PsipURI}
    (h : uriParseCmp raw1 raw2 f = some (true, e, i, r1, r2)) :
    ∀ s ∈ [sUser, sTtl, sMethod, sMaddr],
      (UclHasParam (uclParamsText raw1) s ↔ UclHasParam (uclParamsText raw2) s) := by
  obtain ⟨_, a1, _, a2, hc, _⟩ := (uriParseCmp_true_iff raw1 raw2 f).1 h
  have hpp := ((uriCmp_true_iff _ _ _ _ _).1 hc).2.1
  rcases hpp with hpp | hpp
  · rw [hf] at hpp; cases hpp
  · rw [uriCmpParamsPart_eq (ucl_parse_get raw1 hfit1 a1 _ (by simp)) (ucl_parse_get raw2 hfit2 a2 _ (by simp))] at hpp
    rcases hq : uriParamsEq (uclSeg raw1 (parseURI raw1 {}).2.2.1.params) 0
        (uclSeg raw2 (parseURI raw2 {}).2.2.1.params) 0 with _ | ⟨r, e'⟩
    · rw [hq] at hpp; cases hpp
    · rw [hq] at hpp
      simp only [Option.map_some, Option.some.injEq] at hpp
      subst hpp
      exact uriParamsEq_presence_raw _ _
        (by unfold uclParamsText; have := uclSeg_size_le raw1 (parseURI raw1 {}).2.2.1.params; omega)
        (by unfold uclParamsText; have := uclSeg_size_le raw2 (parseURI raw2 {}).2.2.1.params; omega) hm1 hm2 hq

/-! ### tests / non-vacuity (closed computations, `decide +kernel`) -/

section UclTests

def uclRawA : Buf := "sip:Alice:pw@Example.COM:5060;transport=udp;Foo=Bar;lr?a=1&B=2".toUTF8.data
/-- `uclRawA` with some host letters in the other case -/
def uclRawA' : Buf := "sip:Alice:pw@eXAMPLE.com:5060;transport=udp;Foo=Bar;lr?a=1&B=2".toUTF8.data
def uclRawB : Buf := "sips:bob@[2001:DB8::1];Method=INVITE;ttl=3".toUTF8.data
def uclRawB' : Buf := "sips:bob@[2001:db8::1];Method=INVITE;ttl=3".toUTF8.data

/-- test: the text-derived name lists -/
example : uclParamNames (uclParamsText uclRawA) =
    ["transport".toUTF8.data, "Foo".toUTF8.data, "lr".toUTF8.data] := by decide +kernel
example : uclHdrNames (uclHdrsText uclRawA) = ["a".toUTF8.data, "B".toUTF8.data] := by decide +kernel

/-- non-vacuity of the hypotheses of `uriParseCmp_refl_raw` / `uriParseCmp_symm_raw`: an accepted URI with user,
    password, port, three parameters and two headers -/
theorem uclRawA_facts : (parseURI uclRawA {}).1 = UErr.none ∧ UclListsOk uclRawA ∧ UclNoDup uclRawA := by
  decide +kernel
theorem uclRawA_acc : (parseURI uclRawA {}).1 = UErr.none := uclRawA_facts.1
theorem uclRawA_ok : UclListsOk uclRawA := uclRawA_facts.2.1
theorem uclRawA_nodup : UclNoDup uclRawA := uclRawA_facts.2.2
theorem uclRawB_facts : (parseURI uclRawB {}).1 = UErr.none ∧ UclNoDup uclRawB := by decide +kernel
theorem uclRawB_acc : (parseURI uclRawB {}).1 = UErr.none := uclRawB_facts.1
theorem uclRawB_nodup : UclNoDup uclRawB := uclRawB_facts.2

/-- the theorems applied -/
example (f : Nat) : uriParseCmp uclRawA uclRawA f =
    some (true, UErr.none, 0, some (parseURI uclRawA {}).2.2.1, some (parseURI uclRawA {}).2.2.1) :=
  uriParseCmp_refl_raw uclRawA f (by decide) uclRawA_acc uclRawA_ok uclRawA_nodup
example (f : Nat) : (uriParseCmp uclRawA uclRawB f).map (·.1) = (uriParseCmp uclRawB uclRawA f).map (·.1) :=
  uriParseCmp_symm_raw uclRawA uclRawB f (by decide) (by decide) (fun _ => uclRawA_nodup) (fun _ => uclRawB_nodup)

/-- non-vacuity of `UclHostCaseVariant` (with a real change), host name and bracketed IPv6 reference -/
theorem uclRawA_variant : UclHostCaseVariant uclRawA uclRawA' := by decide +kernel
theorem uclRawB_variant : UclHostCaseVariant uclRawB uclRawB' := by decide +kernel
example : uclRawA' ≠ uclRawA := fun h => absurd (congrArg (·[13]?) h) (by decide +kernel)
example (f : Nat) : uriParseCmp uclRawA' uclRawB' f = uriParseCmp uclRawA uclRawB f :=
  uriParseCmp_host_case uclRawA uclRawA' uclRawB uclRawB' f (by decide) (by decide) uclRawA_variant uclRawB_variant
/-- so the re-cased string equals the original one under every flag value -/
example (f : Nat) : uriParseCmp uclRawA' uclRawA f =
    some (true, UErr.none, 0, some (parseURI uclRawA {}).2.2.1, some (parseURI uclRawA {}).2.2.1) := by
  rw [uriParseCmp_host_case uclRawA uclRawA' uclRawA uclRawA f (by decide) (by decide) uclRawA_variant
    ⟨CaseEq.refl _, rfl, rfl⟩]
  exact uriParseCmp_refl_raw uclRawA f (by decide) uclRawA_acc uclRawA_ok uclRawA_nodup

/-- test: ParseURI on a string re-cased everywhere (scheme, user, host, parameters, headers) -/
example : parseURI "SIP:ALICE:PW@EXAMPLE.COM:5060;TRANSPORT=UDP;FOO=BAR;LR?A=1&b=2".toUTF8.data {} = parseURI uclRawA {} :=
  parseURI_case _ _ {} (UclCaseVar.of_caseEq (by decide +kernel))

/-- the hypothesis `UclListsOk` of reflexivity is NECESSARY: ParseURI accepts `sip:a@b;<` (it does not look inside
    the parameter string), ParseAllURIParams rejects `<`, and URIParseCmp then reports the URI different from
    itself; same for a header string -/
theorem ucl_refl_needs_listsOk :
    (parseURI "sip:a@b;<".toUTF8.data {}).1 = UErr.none ∧ UclNoDup "sip:a@b;<".toUTF8.data ∧
    (uriParseCmp "sip:a@b;<".toUTF8.data "sip:a@b;<".toUTF8.data 0).map (·.1) = some false ∧
    (parseURI "sip:a@b?<".toUTF8.data {}).1 = UErr.none ∧ UclNoDup "sip:a@b?<".toUTF8.data ∧
    (uriParseCmp "sip:a@b?<".toUTF8.data "sip:a@b?<".toUTF8.data 0).map (·.1) = some false := by decide +kernel

/-- the hypothesis `UclNoDup` is necessary for reflexivity and for symmetry (names equal up to case count as
    duplicates) -/
theorem ucl_needs_nodup :
    ¬ UclNoDup "sip:a@b;x=1;X=2".toUTF8.data ∧
    (uriParseCmp "sip:a@b;x=1;X=2".toUTF8.data "sip:a@b;x=1;X=2".toUTF8.data 0).map (·.1) = some false ∧
    (uriParseCmp "sip:a@b;x=1;X=2".toUTF8.data "sip:a@b;x=1".toUTF8.data 0).map (·.1) = some false ∧
    (uriParseCmp "sip:a@b;x=1".toUTF8.data "sip:a@b;x=1;X=2".toUTF8.data 0).map (·.1) = some true := by decide +kernel

/-- non-vacuity of `UclCaseVariant` with changes in scheme, host, parameter names and values, header names and values -/
def uclRawC' : Buf := "SIP:Alice:pw@eXAMPLE.com:5060;TRANSPORT=UDP;fOO=bAR;LR?A=1&b=2".toUTF8.data
theorem uclRawC_variant : UclCaseVariant uclRawA uclRawC' := by decide +kernel
example (f : Nat) : uriParseCmp uclRawC' uclRawB' f = uriParseCmp uclRawA uclRawB f :=
  uriParseCmp_case uclRawA uclRawC' uclRawB uclRawB' f (by decide) (by decide) uclRawC_variant (by decide +kernel)
/-- so the string re-cased everywhere but in user and password equals the original one under every flag value -/
example (f : Nat) : uriParseCmp uclRawC' uclRawA f =
    some (true, UErr.none, 0, some (parseURI uclRawA {}).2.2.1, some (parseURI uclRawA {}).2.2.1) := by
  rw [uriParseCmp_case uclRawA uclRawC' uclRawA uclRawA f (by decide) (by decide) uclRawC_variant
    ⟨CaseEq.refl _, rfl, rfl⟩]
  exact uriParseCmp_refl_raw uclRawA f (by decide) uclRawA_acc uclRawA_ok uclRawA_nodup
/-- the exclusion of user and password is necessary: re-casing the user gives a different URI -/
example : ¬ UclCaseVariant uclRawA "sip:alice:pw@Example.COM:5060;transport=udp;Foo=Bar;lr?a=1&B=2".toUTF8.data := by
  decide +kernel
example : (uriParseCmp "sip:alice:pw@Example.COM:5060;transport=udp;Foo=Bar;lr?a=1&B=2".toUTF8.data uclRawA 0).map (·.1) =
    some false := by decide +kernel
/-- test: ParseAllURIParams on a re-cased string: same positions, same types -/
example : parseAllURIParams "TRANSPORT=UDP;fOO=bAR;LR".toUTF8.data 0 { params := Array.replicate 4 {} } 0 =
    parseAllURIParams "transport=udp;Foo=Bar;lr".toUTF8.data 0 { params := Array.replicate 4 {} } 0 :=
  parseAllURIParams_case (UclCaseVar.of_caseEq (by decide +kernel)) 0 _ 0

/-- non-vacuity of the hypotheses of `uriParamsEq_presence_raw`, and the theorem applied -/
example : UclHasParam "Transport=udp;USER=phone".toUTF8.data sUser := by decide +kernel
example : UclHasParam "x=1;User=Phone".toUTF8.data sUser ↔ UclHasParam "USER=phone;y=2".toUTF8.data sUser :=
  uriParamsEq_presence_raw "x=1;User=Phone".toUTF8.data "USER=phone;y=2".toUTF8.data (by decide) (by decide)
    (by decide +kernel) (by decide +kernel) (e := Err.ok) (by decide +kernel) sUser (by simp)

/-- test / non-vacuity of `parseAllURIParams_ucl`: the mask is the set of stored types -/
example : TypesOk (parseAllURIParams "user=phone;ttl=1;x".toUTF8.data 0 { params := Array.replicate 5 {} } 0).2.2.2 :=
  (parseAllURIParams_ucl _ 0 5 0 (by decide) (by decide)).2.2 (by decide +kernel)

end UclTests

end Sipsp
