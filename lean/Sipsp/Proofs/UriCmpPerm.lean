/-
  Sipsp.Proofs.UriCmpPerm — property C15 ON THE URI TEXT: order invariance, letter-case invariance, case-sensitivity of
  user / password and the presence rule for URIParseCmp (URIRawCmp), stated on byte strings built from their parts.

  THE RENDERING (`UcpmParts`, `ucpmText` / `ucpmRaw`): scheme (`sip:` / `sips:` in any letter case), optional
  `user[:password]@`, a host name, optional `:port`, a LIST of parameter items `name[=value]` joined with `;` (behind a
  leading `;`), a LIST of header items `name[=value]` joined with `&` (behind `?`).  This is the simplest well-formed
  shape: names and values are plain tokens — no white space, no quoted strings, no empty items, no `name=` with an
  empty value; the host is a name (no `[…]` reference).  Side conditions `UcpmOk`:
    * user / password bytes: none of `@ : ; ? [ ]` (`ucTok`); a password only behind a user; host not empty, none of
      `@ : ; ? [ ] &`; port: decimal digits of value ≤ 65535;
    * item names not empty; name and value bytes are the bytes ParseTokenParam continues a token with (`PChar`):
      letters, digits, `-_.!~*'()%[]/:+$`, plus `&` in parameters and `?` in headers (C17 `allowed_bytes_documented`);
    * parameter names duplicate-free up to letter case, header names likewise (`UcpmNoDup`), at most 100 items each,
      the whole text at most 65,535 bytes.
  PROVED for ALL such parts (any lengths within those limits) and EVERY flag value (any `Nat`).  The rendering is a URI
  of the grammar `UcURI` of C14, so ParseURI accepts it with exactly the components `ucpmURI`; the joined item lists are
  lists of the grammar of C17, and the list parsers store the items in order, each with the type of its name (an EMPTY
  list is stored as ONE item with empty name and value: `ucpmEff`; it never changes a verdict).  Hence, for any two
  renderings, URIParseCmp does not panic, reports no error, hands back the two parsed URIs, and says "equal" EXACTLY
  when (`UcpmSpec`): scheme type equal or skipped; port NUMBER equal or skipped; user bytes identical or skipped;
  password bytes identical or skipped; hosts equal up to case; parameters skipped or { each of user / ttl / method /
  maddr (any case) a name of both lists or of neither, and items with the same name up to case have the same value up
  to case }; headers skipped or { same count and every header of the first occurs in the second with the same name and
  value up to case }.
  From it, in the words of the property: the order of the items does not matter; nor does the letter case of scheme,
  host, parameter names / values, header names / values; different user / password bytes give the verdict false unless
  the flags skip that comparison; a user / ttl / method / maddr item in only one of the two gives false in both
  argument orders, an item of any OTHER name in only one of the two, anywhere in the list, does not matter.

  NOT proved here:
    * texts outside the rendering: white space / folds, empty items (`;;`), quoted values, `name=` with an empty
      value, `[…]` hosts, user parts containing `;` or `?`, tel: URIs, more than 100 items (only the first 100 are
      stored and compared), duplicate names (the laws are false there: C15 `symm_needs_nodup_params`);
    * that the header VALUES matter only up to letter case is part of the statements (the model compares them with
      CmpEq), although the property text speaks of header names only.
  Behaviour worth knowing (evaluated in the tests at the end; `;lr=` lies outside the rendering, the rest follows from
  `uriParseCmp_text_spec`): a written but empty
  password (`sip:u:@h`) equals no password; ports are compared by NUMBER (`:5060` = `:05060`, no port = `:` = `:0`);
  a parameter without value has the empty value: `;lr` = `;lr=` but `;lr` ≠ `;lr=x`; header values, like header
  names, are compared up to letter case (`?a=X` = `?A=x`).
-/
import Sipsp.Proofs.UriCmpLink
import Sipsp.Proofs.UriComplete
namespace Sipsp

/-- the byte list `m` stands at position `p` of `b` -/
def UcpmAt (b : Buf) (p : Nat) (m : List UInt8) : Prop := ∀ j c, m[j]? = some c → b[p + j]? = some c

theorem UcpmAt.self (l : List UInt8) : UcpmAt l.toArray 0 l := by
  intro j c h
  rw [Nat.zero_add, List.getElem?_toArray]; exact h

theorem UcpmAt.append {b : Buf} {p : Nat} {m1 m2 : List UInt8} (h : UcpmAt b p (m1 ++ m2)) :
    UcpmAt b p m1 ∧ UcpmAt b (p + m1.length) m2 := by
  constructor
  · intro j c hj
    apply h j c
    rw [List.getElem?_append_left (List.getElem?_eq_some_iff.1 hj).1]; exact hj
  · intro j c hj
    have := h (m1.length + j) c (by rw [List.getElem?_append_right (by omega)]; simpa using hj)
    rw [← Nat.add_assoc] at this; exact this

theorem UcpmAt.cons {b : Buf} {p : Nat} {c : UInt8} {m : List UInt8} (h : UcpmAt b p (c :: m)) :
    b[p]? = some c ∧ UcpmAt b (p + 1) m := by
  constructor
  · exact h 0 c rfl
  · intro j d hj
    have := h (j + 1) d (by simpa using hj)
    rw [show p + (j + 1) = p + 1 + j by omega] at this; exact this

theorem UcpmAt.get {b : Buf} {p : Nat} {m : List UInt8} (h : UcpmAt b p m) {k : Nat} (h1 : p ≤ k) (h2 : k < p + m.length) :
    ∃ c, b[k]? = some c ∧ c ∈ m := by
  have hlt : k - p < m.length := by omega
  refine ⟨m[k - p], ?_, List.getElem_mem hlt⟩
  have := h (k - p) m[k - p] (List.getElem?_eq_getElem hlt)
  rw [show p + (k - p) = k by omega] at this; exact this

theorem UcpmAt.all {b : Buf} {p : Nat} {m : List UInt8} (h : UcpmAt b p m) {f : UInt8 → Bool}
    (hf : ∀ c ∈ m, f c = true) : UcAll b p (p + m.length) f := by
  intro j h1 h2 c hc
  obtain ⟨d, hd, hm⟩ := h.get h1 h2
  rw [hd] at hc; cases hc; exact hf _ hm

theorem UcpmAt.prun {b : Buf} {p : Nat} {m : List UInt8} (h : UcpmAt b p m) {flags : Nat}
    (hf : ∀ c ∈ m, PChar flags c) : PRun b flags p (p + m.length) := by
  intro k h1 h2
  obtain ⟨d, hd, hm⟩ := h.get h1 h2
  exact ⟨d, hd, hf _ hm⟩

theorem UcpmAt.extract {b : Buf} {p : Nat} {m : List UInt8} (h : UcpmAt b p m) (hle : p + m.length ≤ b.size) :
    b.extract p (p + m.length) = m.toArray := by
  apply Array.ext_getElem?
  intro i
  rw [Array.getElem?_extract]
  by_cases hi : i < m.length
  · rw [if_pos (by omega), h i _ (List.getElem?_eq_getElem hi)]
    simp [hi]
  · rw [if_neg (by omega)]
    simp only [List.getElem?_toArray]
    rw [List.getElem?_eq_none (by omega)]


/-! ### list items -/

/-- a list item `name[=value]` as two byte lists; an empty `val` means that no `=value` is written -/
structure UcpmItem where
  name : List UInt8
  val : List UInt8
  deriving DecidableEq, Repr

/-- the text of the item: `name`, or `name=value` -/
def UcpmItem.text (it : UcpmItem) : List UInt8 := if it.val = [] then it.name else it.name ++ 61 :: it.val

/-- the texts of the items with the separator between them (none before the first, none after the last) -/
def ucpmJoin (sep : UInt8) : List UcpmItem → List UInt8
  | [] => []
  | [it] => it.text
  | it :: it' :: rest => it.text ++ sep :: ucpmJoin sep (it' :: rest)

/-- the object ParseTokenParam reports for the item written at offset `o`, in final state `st` -/
def ucpmTp (o : Nat) (it : UcpmItem) (st : TPState) : PTokParam :=
  if it.val = [] then { name := ⟨o, it.name.length⟩, all := ⟨o, it.name.length⟩, state := st }
  else { name := ⟨o, it.name.length⟩, val := ⟨o + it.name.length + 1, it.val.length⟩,
         all := ⟨o, it.name.length + 1 + it.val.length⟩, state := st }

/-- … and for the joined list written at `o`: every item but the last is reported with MoreValues (state `initNxtVal`),
    the last one ends the list (`fin`) -/
def ucpmTps (o : Nat) : List UcpmItem → List PTokParam
  | [] => []
  | [it] => [ucpmTp o it .fin]
  | it :: it' :: rest => ucpmTp o it .initNxtVal :: ucpmTps (o + it.text.length + 1) (it' :: rest)

/-- the item is a plain token item for the option word `flags`: a non-empty name, name and value bytes that continue a
    token (`PChar`: allowed, neither separator nor terminator) -/
structure UcpmItemOk (flags : Nat) (it : UcpmItem) : Prop where
  ne : it.name ≠ []
  name : ∀ c ∈ it.name, PChar flags c
  val : ∀ c ∈ it.val, PChar flags c

theorem ucpm_gparam {b : Buf} {flags o o' : Nat} {e : Err} {st : TPState} (it : UcpmItem) (hok : UcpmItemOk flags it)
    (hat : UcpmAt b o it.text) (hE : Ending b flags (o + it.text.length) o' e st) :
    GParam b flags o o' e (ucpmTp o it st) := by
  have hn : 0 < it.name.length := List.length_pos_iff.2 hok.ne
  unfold ucpmTp
  unfold UcpmItem.text at hat hE
  by_cases hv : it.val = []
  · rw [if_pos hv] at hat hE ⊢
    have h := GParam.noValue o o o (o + it.name.length) o' e st (Pad.nil o) (Lws.nil o) (hat.prun hok.name) (by omega) hE
    rw [Nat.add_sub_cancel_left] at h
    exact h
  · rw [if_neg hv] at hat hE ⊢
    have hvl : 0 < it.val.length := List.length_pos_iff.2 hv
    obtain ⟨h1, h2⟩ := hat.append
    obtain ⟨h61, h3⟩ := h2.cons
    have e1 : o + (it.name ++ 61 :: it.val).length = o + it.name.length + 1 + it.val.length := by
      simp only [List.length_append, List.length_cons]; omega
    rw [e1] at hE
    have h := GParam.token o o o (o + it.name.length) (o + it.name.length) (o + it.name.length + 1)
      (o + it.name.length + 1 + it.val.length) o' e st (Pad.nil o) (Lws.nil o) (h1.prun hok.name) (by omega)
      (Lws.nil _) h61 (Lws.nil _) (h3.prun hok.val) (by omega) hE
    rw [Nat.add_sub_cancel_left, Nat.add_sub_cancel_left,
      show o + it.name.length + 1 + it.val.length - o = it.name.length + 1 + it.val.length by omega] at h
    exact h

theorem ucpm_join_head (sep : UInt8) (it : UcpmItem) (rest : List UcpmItem) {c : UInt8} {t : List UInt8}
    (h : it.name = c :: t) : ∃ tl, ucpmJoin sep (it :: rest) = c :: tl := by
  have ht : ∃ tl, it.text = c :: tl := by
    unfold UcpmItem.text
    split
    · exact ⟨t, h⟩
    · exact ⟨t ++ 61 :: it.val, by rw [h]; rfl⟩
  obtain ⟨tl, htl⟩ := ht
  cases rest with
  | nil => exact ⟨tl, by rw [ucpmJoin, htl]⟩
  | cons it' r => exact ⟨tl ++ sep :: ucpmJoin sep (it' :: r), by rw [ucpmJoin, htl]; rfl⟩

/-! ### what the stored objects say about the items -/

/-- element-wise relation of two lists of the same length -/
inductive UcpmAll2 {α β : Type} (R : α → β → Prop) : List α → List β → Prop
  | nil : UcpmAll2 R [] []
  | cons {a : α} {b : β} {l1 : List α} {l2 : List β} : R a b → UcpmAll2 R l1 l2 → UcpmAll2 R (a :: l1) (b :: l2)

/-- the stored object `tp` designates the item: its name and value fields read the item's bytes from `b` -/
structure UcpmRep (b : Buf) (tp : PTokParam) (it : UcpmItem) : Prop where
  name : tp.name.get? b = some it.name.toArray
  val : tp.val.get? b = some it.val.toArray
  nameOf : nameOf b tp = it.name.toArray

theorem ucpm_get_at {b : Buf} {o : Nat} {m : List UInt8} (hfit : b.size ≤ 65535) (hat : UcpmAt b o m)
    (hle : o + m.length ≤ b.size) : PField.get? b ⟨o, m.length⟩ = some m.toArray := by
  rw [field_get? b o _ hle hfit, hat.extract hle]

theorem ucpm_get_zero {b : Buf} (hfit : b.size ≤ 65535) : PField.get? b ⟨0, 0⟩ = some ([] : List UInt8).toArray := by
  rw [field_get? b 0 0 (Nat.zero_le _) hfit]
  simp

theorem ucpm_rep_tp {b : Buf} {o : Nat} {st : TPState} (it : UcpmItem) (hfit : b.size ≤ 65535)
    (hat : UcpmAt b o it.text) (hle : o + it.text.length ≤ b.size) : UcpmRep b (ucpmTp o it st) it := by
  unfold ucpmTp
  unfold UcpmItem.text at hat hle
  by_cases hv : it.val = []
  · rw [if_pos hv] at hat hle ⊢
    refine ⟨ucpm_get_at hfit hat hle, ?_, hat.extract hle⟩
    rw [hv]; exact ucpm_get_zero hfit
  · rw [if_neg hv] at hat hle ⊢
    obtain ⟨h1, h2⟩ := hat.append
    obtain ⟨_, h3⟩ := h2.cons
    simp only [List.length_append, List.length_cons] at hle
    exact ⟨ucpm_get_at hfit h1 (by omega), ucpm_get_at hfit h3 (by omega), h1.extract (by omega)⟩

/-- a rendered item list is a list of the grammar that ends with the buffer, and the objects of that list designate
    the items -/
theorem ucpm_glist {b : Buf} {flags : Nat} (hend : hasFlag flags POptInputEndF = true) (hfit : b.size ≤ 65535)
    (items : List UcpmItem) (o : Nat) (hne : items ≠ []) (hok : ∀ it ∈ items, UcpmItemOk flags it)
    (hat : UcpmAt b o (ucpmJoin (tpSep flags) items)) (hsz : o + (ucpmJoin (tpSep flags) items).length = b.size) :
    GList b flags o (ucpmTps o items) b.size .eoh ∧ UcpmAll2 (UcpmRep b) (ucpmTps o items) items := by
  fun_induction ucpmJoin (tpSep flags) items generalizing o with
  | case1 => exact absurd rfl hne
  | case2 it =>
    rw [ucpmTps]
    exact ⟨GList.last o b.size .eoh _ (ucpm_gparam it (hok it List.mem_cons_self) hat
        (Ending.inputEnd _ _ hend (Lws.nil _) (EndTail.none _ (Array.getElem?_eq_none (by omega))))) (Or.inr rfl),
      UcpmAll2.cons (ucpm_rep_tp it hfit hat (by omega)) UcpmAll2.nil⟩
  | case3 it it' r ih =>
    rw [ucpmTps]
    obtain ⟨h1, h2⟩ := hat.append
    obtain ⟨hs, h3⟩ := h2.cons
    have hok' := hok it' (List.mem_cons_of_mem _ List.mem_cons_self)
    obtain ⟨c, t, hct⟩ := List.exists_cons_of_ne_nil hok'.ne
    obtain ⟨tl, htl⟩ := ucpm_join_head (tpSep flags) it' r hct
    have hc : b[o + it.text.length + 1]? = some c := h3 0 c (by rw [htl]; rfl)
    have hpc : PChar flags c := hok'.name c (by rw [hct]; exact List.mem_cons_self)
    simp only [List.length_append, List.length_cons] at hsz
    obtain ⟨g, a⟩ := ih _ (by simp) (fun x hx => hok x (List.mem_cons_of_mem _ hx)) h3 (by omega)
    exact ⟨GList.cons o (o + it.text.length + 1) _ _ b.size .eoh
        (ucpm_gparam it (hok it List.mem_cons_self) h1 (Ending.sep _ _ _ .moreValues .initNxtVal (Lws.nil _) hs
          (AfterSep.more _ _ _ c (Pad.nil _) (Lws.nil _) hc hpc.1 hpc.2.1 hpc.2.2))) g,
      UcpmAll2.cons (ucpm_rep_tp it hfit h1 (by omega)) a⟩

theorem ucpm_forall2_left {α β : Type} {R : α → β → Prop} {l1 : List α} {l2 : List β} (h : UcpmAll2 R l1 l2) :
    ∀ a ∈ l1, ∃ b ∈ l2, R a b := by
  induction h with
  | nil => intro a ha; cases ha
  | cons hab _ ih =>
    intro a ha
    rcases List.mem_cons.1 ha with rfl | ha
    · exact ⟨_, List.mem_cons_self, hab⟩
    · obtain ⟨b, hb, hr⟩ := ih a ha
      exact ⟨b, List.mem_cons_of_mem _ hb, hr⟩

theorem ucpm_forall2_right {α β : Type} {R : α → β → Prop} {l1 : List α} {l2 : List β} (h : UcpmAll2 R l1 l2) :
    ∀ b ∈ l2, ∃ a ∈ l1, R a b := by
  induction h with
  | nil => intro a ha; cases ha
  | cons hab _ ih =>
    intro b hb
    rcases List.mem_cons.1 hb with rfl | hb
    · exact ⟨_, List.mem_cons_self, hab⟩
    · obtain ⟨a, ha, hr⟩ := ih b hb
      exact ⟨a, List.mem_cons_of_mem _ ha, hr⟩

theorem ucpm_forall2_length {α β : Type} {R : α → β → Prop} {l1 : List α} {l2 : List β} (h : UcpmAll2 R l1 l2) :
    l1.length = l2.length := by
  induction h with
  | nil => rfl
  | cons _ _ ih => simp only [List.length_cons, ih]

theorem ucpm_forall2_pairwise {α β : Type} {R : α → β → Prop} {S : β → β → Prop} {T : α → α → Prop}
    {l1 : List α} {l2 : List β} (h : UcpmAll2 R l1 l2)
    (hst : ∀ a b a' b', R a b → R a' b' → S b b' → T a a') (hp : l2.Pairwise S) : l1.Pairwise T := by
  induction h with
  | nil => exact List.Pairwise.nil
  | cons hab hrest ih =>
    rw [List.pairwise_cons] at hp ⊢
    refine ⟨fun a' ha' => ?_, ih hp.2⟩
    obtain ⟨b', hb', hr'⟩ := ucpm_forall2_left hrest a' ha'
    exact hst _ _ _ _ hab hr' (hp.1 b' hb')

theorem ucpm_forall2_map {α β γ : Type} {R : α → β → Prop} {S : γ → β → Prop} {l1 : List α} {l2 : List β} (f : α → γ)
    (h : UcpmAll2 R l1 l2) (hrs : ∀ a b, R a b → S (f a) b) : UcpmAll2 S (l1.map f) l2 := by
  induction h with
  | nil => exact UcpmAll2.nil
  | cons hab _ ih => exact UcpmAll2.cons (hrs _ _ hab) ih

/-! ### the pushed lists -/

theorem ucpm_plist_foldl (items : List URIParam) (k : Nat) (h : items.length ≤ k) :
    (items.foldl URIParamsLst.push ({ params := Array.replicate k {} } : URIParamsLst)).plist = items := by
  have hn := foldl_push_n items ({ params := Array.replicate k {} } : URIParamsLst)
  have hs := foldl_push_size items ({ params := Array.replicate k {} } : URIParamsLst)
  simp only [Array.size_replicate, Nat.zero_add] at hn hs
  unfold URIParamsLst.plist URIParamsLst.pNo
  rw [hn, hs, if_neg (by omega)]
  apply List.ext_getElem?
  intro i
  rw [List.getElem?_take]
  by_cases hi : i < items.length
  · rw [if_pos hi, Array.getElem?_toList]
    have := foldl_push_get items ({ params := Array.replicate k {} } : URIParamsLst) i items[i]
      (List.getElem?_eq_getElem hi) (by simp only [Array.size_replicate, Nat.zero_add]; omega)
    simp only [Nat.zero_add] at this
    rw [this, List.getElem?_eq_getElem hi]
  · rw [if_neg hi, List.getElem?_eq_none (by omega)]

theorem ucpm_hlist_foldl (items : List PTokParam) (k : Nat) (h : items.length ≤ k) :
    (items.foldl URIHdrsLst.push ({ hdrs := Array.replicate k {} } : URIHdrsLst)).hlist = items := by
  have hn := foldl_hpush_n items ({ hdrs := Array.replicate k {} } : URIHdrsLst)
  have hs := foldl_hpush_size items ({ hdrs := Array.replicate k {} } : URIHdrsLst)
  simp only [Array.size_replicate, Nat.zero_add] at hn hs
  unfold URIHdrsLst.hlist URIHdrsLst.hNo
  rw [hn, hs, if_neg (by omega)]
  apply List.ext_getElem?
  intro i
  rw [List.getElem?_take]
  by_cases hi : i < items.length
  · rw [if_pos hi, Array.getElem?_toList]
    have := foldl_hpush_get items ({ hdrs := Array.replicate k {} } : URIHdrsLst) i items[i]
      (List.getElem?_eq_getElem hi) (by simp only [Array.size_replicate, Nat.zero_add]; omega)
    simp only [Nat.zero_add] at this
    rw [this, List.getElem?_eq_getElem hi]
  · rw [if_neg hi, List.getElem?_eq_none (by omega)]


/-! ### ParseAllURIParams / ParseAllURIHdrs on a rendered list -/

/-- the option word URIParamsEq / URICmp hand to ParseTokenParam (the wrapper's `;` option included) -/
def ucpmPF : Nat := (POptTokURIParamF ||| POptInputEndF) ||| POptParamSemiSepF
/-- … and for the headers -/
def ucpmHF : Nat := (POptTokURIHdrF ||| POptInputEndF) ||| POptParamAmpSepF ||| POptTokURIHdrF

/-- what the list parsers report for an item list: the items, or ONE empty item for the empty list -/
def ucpmEff (items : List UcpmItem) : List UcpmItem := if items = [] then [⟨[], []⟩] else items

/-- a stored parameter designates the item, and its type is the classification of the item's name -/
structure UcpmRepP (b : Buf) (p : URIParam) (it : UcpmItem) : Prop extends UcpmRep b p.param it where
  t : p.t = uriParamResolve it.name.toArray

theorem UcpmRep.hdrIn {b : Buf} {p : PTokParam} {it : UcpmItem} (r : UcpmRep b p it) : HdrIn b p :=
  ⟨by rw [r.name]; rfl, by rw [r.val]; rfl⟩

theorem ucpm_params_parse (items : List UcpmItem) (hok : ∀ it ∈ items, UcpmItemOk ucpmPF it)
    (hlen : items.length ≤ 100) (hfit : (ucpmJoin 59 items).length ≤ 65535) :
    errOkOrEOH (uriParamsParse (ucpmJoin 59 items).toArray 0).1 = true ∧
    (uriParamsParse (ucpmJoin 59 items).toArray 0).2.pnc = false ∧
    (uriParamsParse (ucpmJoin 59 items).toArray 0).2.more = false ∧
    UcpmAll2 (UcpmRepP (ucpmJoin 59 items).toArray) (uriParamsParse (ucpmJoin 59 items).toArray 0).2.plist
      (ucpmEff items) := by
  by_cases hne : items = []
  · subst hne
    have e : (ucpmJoin 59 []).toArray = #[] := rfl
    rw [e]
    refine ⟨by decide +kernel, by decide +kernel, by decide +kernel, ?_⟩
    have hp : (uriParamsParse #[] 0).2.plist = [{ param := {}, t := 64 }] := by decide +kernel
    rw [hp]
    exact UcpmAll2.cons ⟨⟨by decide +kernel, by decide +kernel, by decide +kernel⟩, by decide +kernel⟩ UcpmAll2.nil
  · have hsep : tpSep ucpmPF = 59 := by decide
    have hfit' : (ucpmJoin 59 items).toArray.size ≤ 65535 := by simpa using hfit
    obtain ⟨H, hR⟩ := ucpm_glist (b := (ucpmJoin 59 items).toArray) (flags := ucpmPF) (by decide) hfit' items 0 hne hok
      (by rw [hsep]; exact UcpmAt.self _) (by rw [hsep]; simp)
    have hL := uriParamsLoop_seq (H.paramSeq hfit') ({ params := Array.replicate 100 {} } : URIParamsLst) 0
      (URIParamsLst.fresh_new 100)
    have hP : uriParamsParse (ucpmJoin 59 items).toArray 0 =
        (Err.eoh, ((ucpmTps 0 items).map (typed (ucpmJoin 59 items).toArray)).foldl URIParamsLst.push
          ({ params := Array.replicate 100 {} } : URIParamsLst)) := by
      unfold uriParamsParse parseAllURIParams
      have : POptTokURIParamF ||| POptInputEndF ||| POptParamSemiSepF = ucpmPF := rfl
      rw [this, hL]
    have hlen' : ((ucpmTps 0 items).map (typed (ucpmJoin 59 items).toArray)).length ≤ 100 := by
      rw [List.length_map, ucpm_forall2_length hR]; exact hlen
    rw [hP]
    refine ⟨rfl, ?_, ?_, ?_⟩
    · show URIParamsLst.pnc (List.foldl _ _ _) = false
      rw [foldl_push_pnc]
    · show URIParamsLst.more (List.foldl _ _ _) = false
      unfold URIParamsLst.more
      rw [foldl_push_n, foldl_push_size]
      simp only [Array.size_replicate, Nat.zero_add, decide_eq_false_iff_not]
      omega
    · show UcpmAll2 _ (URIParamsLst.plist (List.foldl _ _ _)) _
      rw [ucpm_plist_foldl _ 100 hlen']
      unfold ucpmEff
      rw [if_neg hne]
      exact ucpm_forall2_map _ hR (fun tp it h => ⟨h, by show uriParamResolve _ = _; rw [h.nameOf]⟩)

theorem ucpm_hdrs_parse (items : List UcpmItem) (hok : ∀ it ∈ items, UcpmItemOk ucpmHF it)
    (hlen : items.length ≤ 100) (hfit : (ucpmJoin 38 items).length ≤ 65535) :
    errOkOrEOH (uriHdrsParse (ucpmJoin 38 items).toArray 0).1 = true ∧
    (uriHdrsParse (ucpmJoin 38 items).toArray 0).2.hNo = (ucpmEff items).length ∧
    UcpmAll2 (UcpmRep (ucpmJoin 38 items).toArray) (uriHdrsParse (ucpmJoin 38 items).toArray 0).2.hlist
      (ucpmEff items) := by
  by_cases hne : items = []
  · subst hne
    have e : (ucpmJoin 38 []).toArray = #[] := rfl
    rw [e]
    refine ⟨by decide +kernel, by decide +kernel, ?_⟩
    have hp : (uriHdrsParse #[] 0).2.hlist = [{}] := by decide +kernel
    rw [hp]
    exact UcpmAll2.cons ⟨by decide +kernel, by decide +kernel, by decide +kernel⟩ UcpmAll2.nil
  · have hsep : tpSep ucpmHF = 38 := by decide
    have hfit' : (ucpmJoin 38 items).toArray.size ≤ 65535 := by simpa using hfit
    obtain ⟨H, hR⟩ := ucpm_glist (b := (ucpmJoin 38 items).toArray) (flags := ucpmHF) (by decide) hfit' items 0 hne hok
      (by rw [hsep]; exact UcpmAt.self _) (by rw [hsep]; simp)
    have hL := uriHdrsLoop_seq (H.hdrSeq hfit') ({ hdrs := Array.replicate 100 {} } : URIHdrsLst) 0
      (URIHdrsLst.fresh_new 100)
    have hP : uriHdrsParse (ucpmJoin 38 items).toArray 0 =
        (Err.eoh, (ucpmTps 0 items).foldl URIHdrsLst.push ({ hdrs := Array.replicate 100 {} } : URIHdrsLst)) := by
      unfold uriHdrsParse parseAllURIHdrs
      have : POptTokURIHdrF ||| POptInputEndF ||| POptParamAmpSepF ||| POptTokURIHdrF = ucpmHF := rfl
      rw [this, hL]
    have hlen' : (ucpmTps 0 items).length ≤ 100 := by
      rw [ucpm_forall2_length hR]; exact hlen
    rw [hP]
    have hl : (List.foldl URIHdrsLst.push ({ hdrs := Array.replicate 100 {} } : URIHdrsLst) (ucpmTps 0 items)).hlist =
        ucpmTps 0 items := ucpm_hlist_foldl _ 100 hlen'
    unfold ucpmEff
    rw [if_neg hne]
    refine ⟨rfl, ?_, ?_⟩
    · show URIHdrsLst.hNo (List.foldl _ _ _) = _
      rw [← URIHdrsLst.hlist_length, hl, ucpm_forall2_length hR]
    · show UcpmAll2 _ (URIHdrsLst.hlist (List.foldl _ _ _)) _
      rw [hl]
      exact hR


/-! ### URIParamsEq / URIHdrsEq on two rendered lists, in terms of the items -/

/-- the verdict of URIParamsEq in terms of the items: each of user / ttl / method / maddr (any letter case) is a name
    of both lists or of neither, and items with the same name (up to case) have the same value (up to case; an item
    without value has the empty value) -/
def UcpmParamsEqv (ps qs : List UcpmItem) : Prop :=
  (∀ s ∈ [sUser, sTtl, sMethod, sMaddr], (∃ i ∈ ps, lowerL i.name = s) ↔ (∃ j ∈ qs, lowerL j.name = s)) ∧
  (∀ i ∈ ps, ∀ j ∈ qs, lowerL i.name = lowerL j.name → lowerL i.val = lowerL j.val)

/-- the verdict of URIHdrsEq in terms of the items: same number of headers and every header of the first list occurs
    in the second with the same name and value up to case -/
def UcpmHdrsEqv (hs ks : List UcpmItem) : Prop :=
  hs.length = ks.length ∧ ∀ h ∈ hs, ∃ k ∈ ks, lowerL h.name = lowerL k.name ∧ lowerL h.val = lowerL k.val

/-- no two items have the same name up to letter case -/
def UcpmNoDup (l : List UcpmItem) : Prop := l.Pairwise (fun i j => lowerL i.name ≠ lowerL j.name)

theorem ucpm_feq {f1 : PField} {b1 : Buf} {f2 : PField} {b2 : Buf} {x y : List UInt8}
    (h1 : f1.get? b1 = some x.toArray) (h2 : f2.get? b2 = some y.toArray) :
    FEq f1 b1 f2 b2 ↔ lowerL x = lowerL y := by
  constructor
  · rintro ⟨a, c, ha, hc, hac⟩
    rw [h1] at ha; rw [h2] at hc; cases ha; cases hc
    exact hac
  · intro h
    exact ⟨_, _, h1, h2, h⟩

theorem ucpm_all_hdrIn {b : Buf} {l : List PTokParam} {E : List UcpmItem} (A : UcpmAll2 (UcpmRep b) l E) :
    ∀ p ∈ l, HdrIn b p := fun p hp => let ⟨_, _, r⟩ := ucpm_forall2_left A p hp; r.hdrIn

theorem ucpm_all_paramIn {b : Buf} {l : List URIParam} {E : List UcpmItem} (A : UcpmAll2 (UcpmRepP b) l E) :
    ∀ p ∈ l, ParamIn b p := fun p hp =>
  let ⟨_, _, r⟩ := ucpm_forall2_left A p hp; (paramIn_iff_hdrIn b p).2 r.toUcpmRep.hdrIn

theorem UcpmRepP.cls {b : Buf} {p : URIParam} {i : UcpmItem} (h : UcpmRepP b p i) : UclCls b p := ⟨_, h.name, h.t⟩

theorem ucpm_pmatch_iff {b1 b2 : Buf} {p q : URIParam} {i j : UcpmItem} (hp : UcpmRepP b1 p i) (hq : UcpmRepP b2 q j) :
    PMatch b1 p b2 q ↔ lowerL i.name = lowerL j.name :=
  (ucl_pmatch_iff hp.cls hq.cls).trans (ucpm_feq hp.name hq.name)

theorem ucpm_hasType_iff {b : Buf} {l : List URIParam} {E : List UcpmItem} (hA : UcpmAll2 (UcpmRepP b) l E) (x : Nat)
    (s : List UInt8) (hxs : ∀ s', uriParamOfLower s' = x ↔ s' = s) :
    (∃ p ∈ l, p.t = x) ↔ (∃ i ∈ E, lowerL i.name = s) := by
  constructor
  · rintro ⟨p, hp, ht⟩
    obtain ⟨i, hi, hr⟩ := ucpm_forall2_left hA p hp
    exact ⟨i, hi, (hr.cls.t_eq_iff hr.name hxs).1 ht⟩
  · rintro ⟨i, hi, hs⟩
    obtain ⟨p, hp, hr⟩ := ucpm_forall2_right hA i hi
    exact ⟨p, hp, (hr.cls.t_eq_iff hr.name hxs).2 hs⟩

theorem ucpm_nodup_eff {l : List UcpmItem} (h : UcpmNoDup l) : UcpmNoDup (ucpmEff l) := by
  unfold ucpmEff
  split
  · exact List.pairwise_singleton _ _
  · exact h

theorem ucpm_paramsAgree_iff {l1 l2 : URIParamsLst} {b1 b2 : Buf} {E1 E2 : List UcpmItem}
    (A1 : UcpmAll2 (UcpmRepP b1) l1.plist E1) (A2 : UcpmAll2 (UcpmRepP b2) l2.plist E2)
    (t1 : TypesOk l1) (t2 : TypesOk l2) : ParamsAgree l1 b1 l2 b2 ↔ UcpmParamsEqv E1 E2 := by
  have hmask : (l1.types &&& uriParamsBMask) = (l2.types &&& uriParamsBMask) ↔
      (∀ s ∈ [sUser, sTtl, sMethod, sMaddr], (∃ i ∈ E1, lowerL i.name = s) ↔ (∃ j ∈ E2, lowerL j.name = s)) := by
    rw [bmask_eq_iff]
    exact ucl_presence_iff (fun x hx s hxs => by
      rw [t1 x hx, t2 x hx, ucpm_hasType_iff A1 x s hxs, ucpm_hasType_iff A2 x s hxs])
  unfold ParamsAgree UcpmParamsEqv
  rw [hmask]
  apply and_congr_right
  intro _
  constructor
  · intro h i hi j hj hn
    obtain ⟨p, hp, rp⟩ := ucpm_forall2_right A1 i hi
    obtain ⟨q, hq, rq⟩ := ucpm_forall2_right A2 j hj
    exact (ucpm_feq rp.val rq.val).1 (h p hp q hq ((ucpm_pmatch_iff rp rq).2 hn))
  · intro h p hp q hq hm
    obtain ⟨i, hi, rp⟩ := ucpm_forall2_left A1 p hp
    obtain ⟨j, hj, rq⟩ := ucpm_forall2_left A2 q hq
    exact (ucpm_feq rp.val rq.val).2 (h i hi j hj ((ucpm_pmatch_iff rp rq).1 hm))


/-- **URIParamsEq on two rendered parameter lists**: no panic, no error, and the verdict is `UcpmParamsEqv` of the
    items (of the ONE empty item for an empty list) -/
theorem ucpm_paramsEq_spec (ps qs : List UcpmItem) (okp : ∀ it ∈ ps, UcpmItemOk ucpmPF it)
    (okq : ∀ it ∈ qs, UcpmItemOk ucpmPF it) (lenp : ps.length ≤ 100) (lenq : qs.length ≤ 100)
    (fitp : (ucpmJoin 59 ps).length ≤ 65535) (fitq : (ucpmJoin 59 qs).length ≤ 65535) (hnd : UcpmNoDup qs) :
    ∃ r, uriParamsEq (ucpmJoin 59 ps).toArray 0 (ucpmJoin 59 qs).toArray 0 = some (r, Err.ok) ∧
      (r = true ↔ UcpmParamsEqv (ucpmEff ps) (ucpmEff qs)) := by
  obtain ⟨ok1, pnc1, more1, A1⟩ := ucpm_params_parse ps okp lenp fitp
  obtain ⟨ok2, pnc2, more2, A2⟩ := ucpm_params_parse qs okq lenq fitq
  have t1 : TypesOk (uriParamsParse (ucpmJoin 59 ps).toArray 0).2 :=
    (parseAllURIParams_ucl (ucpmJoin 59 ps).toArray 0 100 (POptTokURIParamF ||| POptInputEndF) (by simpa using fitp)
      (Nat.zero_le _)).2.2 more1
  have t2 : TypesOk (uriParamsParse (ucpmJoin 59 qs).toArray 0).2 :=
    (parseAllURIParams_ucl (ucpmJoin 59 qs).toArray 0 100 (POptTokURIParamF ||| POptInputEndF) (by simpa using fitq)
      (Nat.zero_le _)).2.2 more2
  have hnd2 : ParamsNoDup (ucpmJoin 59 qs).toArray (uriParamsParse (ucpmJoin 59 qs).toArray 0).2.plist :=
    ucpm_forall2_pairwise A2 (fun a b a' b' r r' hs hm => hs ((ucpm_pmatch_iff r r').1 hm)) (ucpm_nodup_eff hnd)
  obtain ⟨r, hr, hrs⟩ := uriParamsLstEq_spec _ _ _ _ (ucpm_all_paramIn A1) (ucpm_all_paramIn A2) hnd2
  refine ⟨r, ?_, hrs.trans (ucpm_paramsAgree_iff A1 A2 t1 t2)⟩
  rw [uriParamsEq_eq]
  simp only [pnc1, pnc2, ok1, ok2, Bool.not_true, Bool.false_eq_true, ↓reduceIte]
  rw [hr]
  rfl

theorem ucpm_hdrsAgree_iff {l1 l2 : URIHdrsLst} {b1 b2 : Buf} {E1 E2 : List UcpmItem}
    (A1 : UcpmAll2 (UcpmRep b1) l1.hlist E1) (A2 : UcpmAll2 (UcpmRep b2) l2.hlist E2)
    (n1 : l1.hNo = E1.length) (n2 : l2.hNo = E2.length) : HdrsAgree l1 b1 l2 b2 ↔ UcpmHdrsEqv E1 E2 := by
  unfold HdrsAgree UcpmHdrsEqv
  rw [n1, n2]
  apply and_congr_right
  intro _
  constructor
  · intro h i hi
    obtain ⟨p, hp, rp⟩ := ucpm_forall2_right A1 i hi
    obtain ⟨q, hq, hs⟩ := h p hp
    obtain ⟨j, hj, rq⟩ := ucpm_forall2_left A2 q hq
    exact ⟨j, hj, (ucpm_feq rp.name rq.name).1 hs.1, (ucpm_feq rp.val rq.val).1 hs.2⟩
  · intro h p hp
    obtain ⟨i, hi, rp⟩ := ucpm_forall2_left A1 p hp
    obtain ⟨j, hj, hn, hv⟩ := h i hi
    obtain ⟨q, hq, rq⟩ := ucpm_forall2_right A2 j hj
    exact ⟨q, hq, (ucpm_feq rp.name rq.name).2 hn, (ucpm_feq rp.val rq.val).2 hv⟩

/-- **URIHdrsEq on two rendered header lists** -/
theorem ucpm_hdrsEq_spec (hs ks : List UcpmItem) (okh : ∀ it ∈ hs, UcpmItemOk ucpmHF it)
    (okk : ∀ it ∈ ks, UcpmItemOk ucpmHF it) (lenh : hs.length ≤ 100) (lenk : ks.length ≤ 100)
    (fith : (ucpmJoin 38 hs).length ≤ 65535) (fitk : (ucpmJoin 38 ks).length ≤ 65535) (hnd : UcpmNoDup ks) :
    ∃ r, uriHdrsEq (ucpmJoin 38 hs).toArray 0 (ucpmJoin 38 ks).toArray 0 = some (r, Err.ok) ∧
      (r = true ↔ UcpmHdrsEqv (ucpmEff hs) (ucpmEff ks)) := by
  obtain ⟨ok1, n1, A1⟩ := ucpm_hdrs_parse hs okh lenh fith
  obtain ⟨ok2, n2, A2⟩ := ucpm_hdrs_parse ks okk lenk fitk
  have hnd2 : HdrsNoDup (ucpmJoin 38 ks).toArray (uriHdrsParse (ucpmJoin 38 ks).toArray 0).2.hlist :=
    ucpm_forall2_pairwise A2 (fun a b a' b' r r' hs hm => hs ((ucpm_feq r.name r'.name).1 hm)) (ucpm_nodup_eff hnd)
  obtain ⟨r, hr, hrs⟩ := uriHdrsLstEq_spec _ _ _ _ (ucpm_all_hdrIn A1) (ucpm_all_hdrIn A2) hnd2
  refine ⟨r, ?_, hrs.trans (ucpm_hdrsAgree_iff A1 A2 n1 n2)⟩
  rw [uriHdrsEq_eq]
  simp only [ok1, ok2, Bool.not_true, Bool.false_eq_true, ↓reduceIte]
  rw [hr]
  rfl

/-! ### the ONE empty item of an empty list does not change the verdicts -/

theorem ucpm_eff_mem {l : List UcpmItem} {i : UcpmItem} (h : i ∈ ucpmEff l) : i ∈ l ∨ (l = [] ∧ i = ⟨[], []⟩) := by
  unfold ucpmEff at h
  split at h
  · rename_i hl
    exact Or.inr ⟨hl, by simpa using h⟩
  · exact Or.inl h

theorem ucpm_mem_eff {l : List UcpmItem} {i : UcpmItem} (h : i ∈ l) : i ∈ ucpmEff l := by
  unfold ucpmEff
  rw [if_neg (List.ne_nil_of_mem h)]
  exact h

theorem ucpm_lower_nil {x : List UInt8} (h : lowerL x = []) : x = [] := by
  cases x with
  | nil => rfl
  | cons a t => simp [lowerL] at h

theorem ucpm_paramsEqv_refl {l : List UcpmItem} (h : UcpmNoDup l) : UcpmParamsEqv l l :=
  ⟨fun _ _ => Iff.rfl, fun i hi j hj hn => by
    rw [eq_of_pairwise_not (R := fun i j : UcpmItem => lowerL i.name = lowerL j.name) Eq.symm h hi hj hn]⟩

theorem UcpmParamsEqv.symm {ps qs : List UcpmItem} (h : UcpmParamsEqv ps qs) : UcpmParamsEqv qs ps :=
  ⟨fun s hs => (h.1 s hs).symm, fun j hj i hi hn => (h.2 i hi j hj hn.symm).symm⟩

/-- the comparison ignores a parameter that is none of user / ttl / method / maddr and has no namesake in the other
    list (URIParamsLstEq: "all other appearing in only one uri … are ignored") -/
theorem ucpm_paramsEqv_cons {it : UcpmItem} {ps qs : List UcpmItem}
    (ho : lowerL it.name ∉ [sUser, sTtl, sMethod, sMaddr]) (hn : ∀ j ∈ qs, lowerL it.name ≠ lowerL j.name) :
    UcpmParamsEqv (it :: ps) qs ↔ UcpmParamsEqv ps qs := by
  have key : ∀ s ∈ [sUser, sTtl, sMethod, sMaddr],
      ((∃ i ∈ it :: ps, lowerL i.name = s) ↔ (∃ i ∈ ps, lowerL i.name = s)) := fun s hs =>
    ⟨fun ⟨i, hi, h⟩ => (List.mem_cons.1 hi).elim (fun e => absurd hs (by rw [← h, e]; exact ho)) (fun hi => ⟨i, hi, h⟩),
     fun ⟨i, hi, h⟩ => ⟨i, List.mem_cons_of_mem _ hi, h⟩⟩
  constructor
  · rintro ⟨h1, h2⟩
    exact ⟨fun s hs => (key s hs).symm.trans (h1 s hs), fun i hi => h2 i (List.mem_cons_of_mem _ hi)⟩
  · rintro ⟨h1, h2⟩
    refine ⟨fun s hs => (key s hs).trans (h1 s hs), fun i hi j hj h => ?_⟩
    rcases List.mem_cons.1 hi with rfl | hi
    · exact absurd h (hn j hj)
    · exact h2 i hi j hj h

theorem ucpm_paramsEqv_eff (ps qs : List UcpmItem) (hp : ∀ i ∈ ps, i.name ≠ []) (hq : ∀ i ∈ qs, i.name ≠ []) :
    UcpmParamsEqv (ucpmEff ps) (ucpmEff qs) ↔ UcpmParamsEqv ps qs := by
  -- the empty item: its name is none of the four and differs from every non-empty name
  have ho : lowerL (⟨[], []⟩ : UcpmItem).name ∉ [sUser, sTtl, sMethod, sMaddr] := by decide
  have one : ∀ ps qs : List UcpmItem, (∀ i ∈ qs, i.name ≠ []) →
      (UcpmParamsEqv (ucpmEff ps) qs ↔ UcpmParamsEqv ps qs) := fun ps qs hq => by
    unfold ucpmEff
    split
    · rename_i e
      rw [e]
      exact ucpm_paramsEqv_cons ho fun j hj h => hq j hj (ucpm_lower_nil h.symm)
    · exact Iff.rfl
  by_cases e : qs = []
  · subst e
    by_cases e' : ps = []
    · subst e'
      exact ⟨fun _ => ucpm_paramsEqv_refl List.Pairwise.nil, fun _ => ucpm_paramsEqv_refl (List.pairwise_singleton _ _)⟩
    · rw [show ucpmEff ps = ps from if_neg e']
      exact ⟨fun h => ((one [] ps hp).1 h.symm).symm, fun h => ((one [] ps hp).2 h.symm).symm⟩
  · rw [show ucpmEff qs = qs from if_neg e]
    exact one ps qs hq

theorem ucpm_hdrsEqv_eff (hs ks : List UcpmItem) (hh : ∀ i ∈ hs, i.name ≠ []) (hk : ∀ i ∈ ks, i.name ≠ []) :
    UcpmHdrsEqv (ucpmEff hs) (ucpmEff ks) ↔ UcpmHdrsEqv hs ks := by
  unfold UcpmHdrsEqv
  by_cases e1 : hs = []
  · by_cases e2 : ks = []
    · subst e1; subst e2
      simp [ucpmEff]
    · subst e1
      have hl : 0 < ks.length := List.length_pos_iff.2 e2
      constructor
      · rintro ⟨_, h⟩
        obtain ⟨k, hk', hn, _⟩ := h ⟨[], []⟩ (by simp [ucpmEff])
        rcases ucpm_eff_mem hk' with hk' | ⟨h0, _⟩
        · exact absurd (ucpm_lower_nil hn.symm) (hk k hk')
        · exact absurd h0 e2
      · rintro ⟨h, _⟩
        simp only [List.length_nil] at h
        omega
  · by_cases e2 : ks = []
    · subst e2
      have hl : 0 < hs.length := List.length_pos_iff.2 e1
      constructor
      · rintro ⟨_, h⟩
        obtain ⟨i, hi⟩ := List.exists_mem_of_ne_nil hs e1
        obtain ⟨k, hk', hn, _⟩ := h i (ucpm_mem_eff hi)
        rcases ucpm_eff_mem hk' with hk' | ⟨_, rfl⟩
        · cases hk'
        · exact absurd (ucpm_lower_nil hn) (hh i hi)
      · rintro ⟨h, _⟩
        simp only [List.length_nil] at h
        omega
    · simp only [ucpmEff, if_neg e1, if_neg e2]


theorem ucpm_par : ∀ c : UInt8, tokAllowedChar c ucpmPF = true → ucPar c = true ∧ c ≠ 59 ∧ c ≠ 63 :=
  forall_byte (by decide +kernel)
theorem ucpm_hdr : ∀ c : UInt8, tokAllowedChar c ucpmHF = true → ucHdr c = true ∧ c ≠ 38 ∧ c ≠ 0 :=
  forall_byte (by decide +kernel)
theorem ucpm_low : ∀ c : UInt8, (lowerB c = 115 → ucLow c = 115) ∧ (lowerB c = 105 → ucLow c = 105) ∧
    (lowerB c = 112 → ucLow c = 112) ∧ (lowerB c = 58 → c = 58) :=
  forall_byte (by decide +kernel)

theorem ucpm_join_all (f : UInt8 → Bool) (sep : UInt8) (hsep : f sep = true) (h61 : f 61 = true) :
    ∀ (items : List UcpmItem), (∀ it ∈ items, (∀ c ∈ it.name, f c = true) ∧ (∀ c ∈ it.val, f c = true)) →
      ∀ c ∈ ucpmJoin sep items, f c = true := by
  have htext : ∀ it : UcpmItem, ((∀ c ∈ it.name, f c = true) ∧ (∀ c ∈ it.val, f c = true)) → ∀ c ∈ it.text, f c = true := by
    intro it h c hc
    unfold UcpmItem.text at hc
    split at hc
    · exact h.1 c hc
    · rcases List.mem_append.1 hc with hc | hc
      · exact h.1 c hc
      · rcases List.mem_cons.1 hc with rfl | hc
        · exact h61
        · exact h.2 c hc
  intro items
  induction items with
  | nil => intro _ c hc; cases hc
  | cons it rest ih =>
    intro h c hc
    cases rest with
    | nil =>
      rw [ucpmJoin] at hc
      exact htext it (h it List.mem_cons_self) c hc
    | cons it' r =>
      rw [ucpmJoin] at hc
      rcases List.mem_append.1 hc with hc | hc
      · exact htext it (h it List.mem_cons_self) c hc
      · rcases List.mem_cons.1 hc with rfl | hc
        · exact hsep
        · exact ih (fun x hx => h x (List.mem_cons_of_mem _ hx)) c hc

/-! ### the rendering of a URI from its parts -/

/-- the parts of a `sip:` / `sips:` URI of the simplest well-formed shape: scheme, optional `user[:password]@`, a host
    name, optional `:port`, parameter items `name[=value]` (joined with `;`), header items `name[=value]` (joined
    with `&`); names and values are plain tokens (no white space, no quotes) -/
structure UcpmParts where
  sips : Bool
  scheme : List UInt8
  user : List UInt8
  pass : Option (List UInt8)
  host : List UInt8
  port : Option (List UInt8)
  params : List UcpmItem
  hdrs : List UcpmItem

def ucpmUiText (p : UcpmParts) : List UInt8 :=
  if p.user = [] then []
  else match p.pass with
    | none => p.user ++ [64]
    | some pw => p.user ++ 58 :: (pw ++ [64])
def ucpmPoText (p : UcpmParts) : List UInt8 :=
  match p.port with
  | none => []
  | some d => 58 :: d
def ucpmPaText (p : UcpmParts) : List UInt8 := if p.params = [] then [] else 59 :: ucpmJoin 59 p.params
def ucpmHdText (p : UcpmParts) : List UInt8 := if p.hdrs = [] then [] else 63 :: ucpmJoin 38 p.hdrs

def ucpmText (p : UcpmParts) : List UInt8 :=
  p.scheme ++ (ucpmUiText p ++ (p.host ++ (ucpmPoText p ++ (ucpmPaText p ++ ucpmHdText p))))

def ucpmRaw (p : UcpmParts) : Buf := (ucpmText p).toArray

/-- offsets: start of the host, end of the host, end of the port, end of the parameters -/
def ucpmHs (p : UcpmParts) : Nat := p.scheme.length + (ucpmUiText p).length
def ucpmHe (p : UcpmParts) : Nat := ucpmHs p + p.host.length
def ucpmPe (p : UcpmParts) : Nat := ucpmHe p + (ucpmPoText p).length
def ucpmQe (p : UcpmParts) : Nat := ucpmPe p + (ucpmPaText p).length

def ucpmUserF (p : UcpmParts) : PField := if p.user = [] then ⟨0, 0⟩ else ⟨p.scheme.length, p.user.length⟩
def ucpmPassF (p : UcpmParts) : PField :=
  if p.user = [] then ⟨0, 0⟩
  else match p.pass with
    | none => ⟨0, 0⟩
    | some pw => ⟨p.scheme.length + p.user.length + 1, pw.length⟩
def ucpmPortF (p : UcpmParts) : PField :=
  match p.port with
  | none => ⟨0, 0⟩
  | some d => ⟨ucpmHe p + 1, d.length⟩
def ucpmPortNo (p : UcpmParts) : Nat :=
  match p.port with
  | none => 0
  | some d => decOf d
def ucpmParamsF (p : UcpmParts) : PField :=
  if p.params = [] then ⟨0, 0⟩ else ⟨ucpmPe p + 1, (ucpmJoin 59 p.params).length⟩
def ucpmHdrsF (p : UcpmParts) : PField :=
  if p.hdrs = [] then ⟨0, 0⟩ else ⟨ucpmQe p + 1, (ucpmJoin 38 p.hdrs).length⟩

/-- the URI object ParseURI returns for the rendering -/
def ucpmURI (p : UcpmParts) : PsipURI :=
  { uriType := if p.sips then SIPSuri else SIPuri, scheme := ⟨0, p.scheme.length⟩, user := ucpmUserF p,
    pass := ucpmPassF p, host := ⟨ucpmHs p, p.host.length⟩, port := ucpmPortF p, params := ucpmParamsF p,
    headers := ucpmHdrsF p, portNo := ucpmPortNo p }

/-- host byte: none of `@ : ; ? [ ] &` -/
def ucpmHostCh (c : UInt8) : Bool := ucTok c && !(c == 38)

/-- the side conditions of the rendering -/
structure UcpmOk (p : UcpmParts) : Prop where
  scheme : lowerL p.scheme = if p.sips then [115, 105, 112, 115, 58] else [115, 105, 112, 58]
  user : ∀ c ∈ p.user, ucTok c = true
  passUser : p.user = [] → p.pass = none
  pass : ∀ pw, p.pass = some pw → ∀ c ∈ pw, ucTok c = true
  hostNe : p.host ≠ []
  host : ∀ c ∈ p.host, ucpmHostCh c = true
  port : ∀ d, p.port = some d → (∀ c ∈ d, isDigit c = true) ∧ decOf d ≤ 65535
  params : ∀ it ∈ p.params, UcpmItemOk ucpmPF it
  hdrs : ∀ it ∈ p.hdrs, UcpmItemOk ucpmHF it
  paramsLen : p.params.length ≤ 100
  hdrsLen : p.hdrs.length ≤ 100
  paramsNoDup : UcpmNoDup p.params
  hdrsNoDup : UcpmNoDup p.hdrs
  fit : (ucpmText p).length ≤ 65535

theorem ucpm_size (p : UcpmParts) : (ucpmRaw p).size = ucpmQe p + (ucpmHdText p).length := by
  unfold ucpmRaw ucpmText ucpmQe ucpmPe ucpmHe ucpmHs
  simp only [List.size_toArray, List.length_append]
  omega

theorem ucpm_hd {b : Buf} (p : UcpmParts) (hok : UcpmOk p) (hat : UcpmAt b (ucpmQe p) (ucpmHdText p))
    (hsz : b.size = ucpmQe p + (ucpmHdText p).length) : UcHd b (ucpmQe p) (ucpmHdrsF p) := by
  unfold ucpmHdText at hat hsz
  unfold ucpmHdrsF
  by_cases h : p.hdrs = []
  · rw [if_pos h] at hat hsz ⊢
    exact Or.inl ⟨by simpa using hsz.symm, rfl⟩
  · rw [if_neg h] at hat hsz ⊢
    obtain ⟨h63, h2⟩ := hat.cons
    simp only [List.length_cons] at hsz
    refine Or.inr ⟨h63, ?_, ?_⟩
    · rw [show b.size - (ucpmQe p + 1) = (ucpmJoin 38 p.hdrs).length by omega]
    · rw [show b.size = ucpmQe p + 1 + (ucpmJoin 38 p.hdrs).length by omega]
      refine h2.all (ucpm_join_all ucHdr 38 (by decide) (by decide) p.hdrs (fun it hit => ?_))
      have ho := hok.hdrs it hit
      exact ⟨fun c hc => (ucpm_hdr c (ho.name c hc).1).1, fun c hc => (ucpm_hdr c (ho.val c hc).1).1⟩

theorem ucpm_pa {b : Buf} (p : UcpmParts) (hok : UcpmOk p)
    (hat : UcpmAt b (ucpmPe p) (ucpmPaText p ++ ucpmHdText p))
    (hsz : b.size = ucpmQe p + (ucpmHdText p).length) : UcPa b (ucpmPe p) (ucpmParamsF p) (ucpmHdrsF p) := by
  obtain ⟨h1, h2⟩ := hat.append
  have hhd := ucpm_hd p hok h2 hsz
  have hq : ucpmQe p = ucpmPe p + (ucpmPaText p).length := rfl
  unfold ucpmPaText at h1 hq
  unfold ucpmParamsF
  by_cases h : p.params = []
  · rw [if_pos h] at h1 hq ⊢
    rw [hq] at hhd
    exact Or.inl ⟨rfl, hhd⟩
  · rw [if_neg h] at h1 hq ⊢
    obtain ⟨h59, h3⟩ := h1.cons
    simp only [List.length_cons] at hq
    refine Or.inr ⟨h59, ucpmQe p, by omega, ?_, ?_, hhd⟩
    · rw [show ucpmQe p - (ucpmPe p + 1) = (ucpmJoin 59 p.params).length by omega]
    · rw [show ucpmQe p = ucpmPe p + 1 + (ucpmJoin 59 p.params).length by omega]
      refine h3.all (ucpm_join_all ucPar 59 (by decide) (by decide) p.params (fun it hit => ?_))
      have ho := hok.params it hit
      exact ⟨fun c hc => (ucpm_par c (ho.name c hc).1).1, fun c hc => (ucpm_par c (ho.val c hc).1).1⟩

theorem ucpm_po {b : Buf} (p : UcpmParts) (hok : UcpmOk p)
    (hat : UcpmAt b (ucpmHe p) (ucpmPoText p ++ (ucpmPaText p ++ ucpmHdText p)))
    (hsz : b.size = ucpmQe p + (ucpmHdText p).length) :
    UcPo b (ucpmHe p) (ucpmPortF p) (ucpmPortNo p) (ucpmParamsF p) (ucpmHdrsF p) := by
  obtain ⟨h1, h2⟩ := hat.append
  have hpe : ucpmPe p = ucpmHe p + (ucpmPoText p).length := rfl
  rw [← hpe] at h2
  have hpa := ucpm_pa p hok h2 hsz
  unfold ucpmPoText at h1 hpe
  unfold ucpmPortF ucpmPortNo
  rcases hp : p.port with _ | d
  · rw [hp] at h1 hpe
    simp only [List.length_nil, Nat.add_zero] at hpe
    rw [hpe] at hpa
    exact Or.inl ⟨rfl, rfl, hpa⟩
  · rw [hp] at h1 hpe
    simp only [List.length_cons] at hpe
    obtain ⟨h58, h3⟩ := h1.cons
    obtain ⟨hd, hv⟩ := hok.port d hp
    have hq : ucpmPe p ≤ ucpmQe p := Nat.le_add_right _ _
    have hex : b.extract (ucpmHe p + 1) (ucpmHe p + 1 + d.length) = d.toArray := h3.extract (by omega)
    refine Or.inr ⟨h58, ucpmPe p, by omega, ?_, ?_, ?_, hv, hpa⟩
    · simp only
      rw [show ucpmPe p - (ucpmHe p + 1) = d.length by omega]
    · rw [show ucpmPe p = ucpmHe p + 1 + d.length by omega]
      exact h3.all hd
    · simp only
      unfold digitsOf
      rw [show ucpmPe p = ucpmHe p + 1 + d.length by omega, hex]


theorem ucpm_hostCh : ∀ c : UInt8, ucpmHostCh c = true →
    ucTok c = true ∧ ucFirst c = true ∧ ucHost0 c = true ∧ ucHost c = true :=
  forall_byte (by decide +kernel)
theorem ucpm_tok_first : ∀ c : UInt8, ucTok c = true → ucFirst c = true := forall_byte (by decide +kernel)

theorem ucpm_lower_cons {l : List UInt8} {a : UInt8} {t : List UInt8} (h : lowerL l = a :: t) :
    ∃ c l', l = c :: l' ∧ lowerB c = a ∧ lowerL l' = t := by
  cases l with
  | nil => simp [lowerL] at h
  | cons c l' =>
    simp only [lowerL, List.map_cons, List.cons.injEq] at h
    exact ⟨c, l', rfl, h.1, h.2⟩

theorem ucpm_firstTok {b : Buf} {k : Nat} {m : List UInt8} (hat : UcpmAt b k m) (hne : m ≠ [])
    (hm : ∀ c ∈ m, ucTok c = true) : UcFirstTok b k (k + m.length) := by
  have hl : 0 < m.length := List.length_pos_iff.2 hne
  have hall := hat.all hm
  exact ⟨by omega, (hall.sub (Nat.le_refl _) (by omega)).mono ucpm_tok_first, hall.sub (by omega) (Nat.le_refl _)⟩

theorem ucpm_rest {b : Buf} (p : UcpmParts) (hok : UcpmOk p)
    (hat : UcpmAt b p.scheme.length (ucpmUiText p ++ (p.host ++ (ucpmPoText p ++ (ucpmPaText p ++ ucpmHdText p)))))
    (hsz : b.size = ucpmQe p + (ucpmHdText p).length) : UcRest b p.scheme.length (ucpmURI p) := by
  obtain ⟨h1, h2⟩ := hat.append
  have hhs : ucpmHs p = p.scheme.length + (ucpmUiText p).length := rfl
  rw [← hhs] at h2
  obtain ⟨h3, h4⟩ := h2.append
  have hhe : ucpmHe p = ucpmHs p + p.host.length := rfl
  rw [← hhe] at h4
  have hpo := ucpm_po p hok h4 hsz
  have hhl : 0 < p.host.length := List.length_pos_iff.2 hok.hostNe
  unfold ucpmUiText at h1 hhs
  by_cases hu : p.user = []
  · rw [if_pos hu] at h1 hhs
    simp only [List.length_nil, Nat.add_zero] at hhs
    left
    refine ⟨by simp only [ucpmURI, ucpmUserF, if_pos hu], by simp only [ucpmURI, ucpmPassF, if_pos hu], ucpmHe p, Or.inl ?_,
      ?_, hpo⟩
    · rw [hhe, hhs]
      rw [hhs] at h3
      exact ucpm_firstTok h3 hok.hostNe (fun c hc => (ucpm_hostCh c (hok.host c hc)).1)
    · show (⟨ucpmHs p, p.host.length⟩ : PField) = _
      rw [hhe, hhs, Nat.add_sub_cancel_left]
  · rw [if_neg hu] at h1 hhs
    have hul : 0 < p.user.length := List.length_pos_iff.2 hu
    right
    have hhost : UcNameHost b (ucpmHs p) (ucpmHe p) := by
      have hall0 := h3.all (fun c hc => (ucpm_hostCh c (hok.host c hc)).2.2.1)
      have hall1 := h3.all (fun c hc => (ucpm_hostCh c (hok.host c hc)).2.2.2)
      rw [← hhe] at hall0 hall1
      exact ⟨by omega, hall0.sub (Nat.le_refl _) (by omega), hall1.sub (by omega) (Nat.le_refl _)⟩
    rcases hp : p.pass with _ | pw
    · rw [hp] at h1 hhs
      simp only [List.length_append, List.length_cons, List.length_nil] at hhs
      obtain ⟨h5, h6⟩ := h1.append
      obtain ⟨h64, _⟩ := h6.cons
      refine ⟨p.scheme.length + p.user.length, ucpmHe p, h64, Or.inl ?_, ?_, ?_, hpo⟩
      · refine ⟨p.scheme.length + p.user.length, ucpm_firstTok h5 hu hok.user, ?_, Or.inl ⟨rfl, ?_⟩⟩
        · simp only [ucpmURI, ucpmUserF, if_neg hu, Nat.add_sub_cancel_left]
        · simp only [ucpmURI, ucpmPassF, if_neg hu, hp]
      · rw [show p.scheme.length + p.user.length + 1 = ucpmHs p by omega]
        exact Or.inl hhost
      · show (⟨ucpmHs p, p.host.length⟩ : PField) = _
        rw [show p.scheme.length + p.user.length + 1 = ucpmHs p by omega, hhe, Nat.add_sub_cancel_left]
    · rw [hp] at h1 hhs
      simp only [List.length_append, List.length_cons, List.length_nil] at hhs
      obtain ⟨h5, h6⟩ := h1.append
      obtain ⟨h58, h7⟩ := h6.cons
      obtain ⟨h8, h9⟩ := h7.append
      obtain ⟨h64, _⟩ := h9.cons
      refine ⟨p.scheme.length + p.user.length + 1 + pw.length, ucpmHe p, h64, Or.inl ?_, ?_, ?_, hpo⟩
      · refine ⟨p.scheme.length + p.user.length, ucpm_firstTok h5 hu hok.user, ?_, Or.inr ⟨h58, by omega, ?_, ?_⟩⟩
        · simp only [ucpmURI, ucpmUserF, if_neg hu, Nat.add_sub_cancel_left]
        · simp only [ucpmURI, ucpmPassF, if_neg hu, hp, Nat.add_sub_cancel_left]
        · exact h8.all (hok.pass pw hp)
      · rw [show p.scheme.length + p.user.length + 1 + pw.length + 1 = ucpmHs p by omega]
        exact Or.inl hhost
      · show (⟨ucpmHs p, p.host.length⟩ : PField) = _
        rw [show p.scheme.length + p.user.length + 1 + pw.length + 1 = ucpmHs p by omega, hhe, Nat.add_sub_cancel_left]

/-- **the rendering is a URI of the grammar of C14, with the components `ucpmURI`** -/
theorem ucpm_ucURI (p : UcpmParts) (hok : UcpmOk p) : UcURI (ucpmRaw p) (ucpmURI p) := by
  have hat : UcpmAt (ucpmRaw p) 0 (ucpmText p) := UcpmAt.self _
  unfold ucpmText at hat
  obtain ⟨h1, h2⟩ := hat.append
  rw [Nat.zero_add] at h2
  have hrest := ucpm_rest p hok h2 (ucpm_size p)
  have hs := hok.scheme
  by_cases hb : p.sips = true
  · rw [if_pos hb] at hs
    obtain ⟨c0, l0, e0, g0, hs⟩ := ucpm_lower_cons hs
    obtain ⟨c1, l1, e1, g1, hs⟩ := ucpm_lower_cons hs
    obtain ⟨c2, l2, e2, g2, hs⟩ := ucpm_lower_cons hs
    obtain ⟨c3, l3, e3, g3, hs⟩ := ucpm_lower_cons hs
    obtain ⟨c4, l4, e4, g4, hs⟩ := ucpm_lower_cons hs
    have e5 := ucpm_lower_nil hs
    have hsch : p.scheme = [c0, c1, c2, c3, c4] := by rw [e0, e1, e2, e3, e4, e5]
    have hlen : p.scheme.length = 5 := by rw [hsch]; rfl
    rw [hsch] at h1
    have g4' := (ucpm_low c4).2.2.2 g4
    right
    refine ⟨⟨⟨c0, c1, c2, c3, h1 0 c0 rfl, h1 1 c1 rfl, h1 2 c2 rfl, h1 3 c3 rfl, (ucpm_low c0).1 g0,
      (ucpm_low c1).2.1 g1, (ucpm_low c2).2.2.1 g2, (ucpm_low c3).1 g3⟩, by rw [← g4']; exact h1 4 c4 rfl⟩, ?_, ?_, ?_⟩
    · simp only [ucpmURI, hb, if_true]
    · simp only [ucpmURI, hlen]
    · rw [← hlen]; exact hrest
  · rw [if_neg hb] at hs
    obtain ⟨c0, l0, e0, g0, hs⟩ := ucpm_lower_cons hs
    obtain ⟨c1, l1, e1, g1, hs⟩ := ucpm_lower_cons hs
    obtain ⟨c2, l2, e2, g2, hs⟩ := ucpm_lower_cons hs
    obtain ⟨c3, l3, e3, g3, hs⟩ := ucpm_lower_cons hs
    have e5 := ucpm_lower_nil hs
    have hsch : p.scheme = [c0, c1, c2, c3] := by rw [e0, e1, e2, e3, e5]
    have hlen : p.scheme.length = 4 := by rw [hsch]; rfl
    rw [hsch] at h1
    have g3' := (ucpm_low c3).2.2.2 g3
    left
    refine ⟨⟨c0, c1, c2, c3, h1 0 c0 rfl, h1 1 c1 rfl, h1 2 c2 rfl, h1 3 c3 rfl, (ucpm_low c0).1 g0,
      (ucpm_low c1).2.1 g1, (ucpm_low c2).2.2.1 g2, by rw [g3']; rfl⟩, ?_, ?_, ?_⟩
    · simp only [ucpmURI, hb, Bool.false_eq_true, if_false]
    · simp only [ucpmURI, hlen]
    · rw [← hlen]; exact hrest

/-- **ParseURI on the rendering**: accepted, consumed to the end, no panic, the components are `ucpmURI` -/
theorem ucpm_parse (p : UcpmParts) (hok : UcpmOk p) :
    parseURI (ucpmRaw p) {} = (UErr.none, (ucpmRaw p).size, ucpmURI p, false) :=
  parseURI_complete _ (by simpa [ucpmRaw] using hok.fit) _ (ucpm_ucURI p hok)


theorem ucpm_segs (p : UcpmParts) :
    UcpmAt (ucpmRaw p) p.scheme.length (ucpmUiText p) ∧ UcpmAt (ucpmRaw p) (ucpmHs p) p.host ∧
    UcpmAt (ucpmRaw p) (ucpmHe p) (ucpmPoText p) ∧ UcpmAt (ucpmRaw p) (ucpmPe p) (ucpmPaText p) ∧
    UcpmAt (ucpmRaw p) (ucpmQe p) (ucpmHdText p) := by
  have hat : UcpmAt (ucpmRaw p) 0 (ucpmText p) := UcpmAt.self _
  unfold ucpmText at hat
  obtain ⟨_, h2⟩ := hat.append
  rw [Nat.zero_add] at h2
  obtain ⟨h3, h4⟩ := h2.append
  obtain ⟨h5, h6⟩ := h4.append
  obtain ⟨h7, h8⟩ := h6.append
  obtain ⟨h9, h10⟩ := h8.append
  exact ⟨h3, h5, h7, h9, h10⟩

/-- the password bytes URICmp reads: none when no password is written -/
def ucpmPassBytes (p : UcpmParts) : List UInt8 :=
  match p.pass with
  | none => []
  | some pw => pw

/-- **the components of the parsed rendering read back as the parts** -/
theorem ucpm_gets (p : UcpmParts) (hok : UcpmOk p) :
    (ucpmURI p).user.get? (ucpmRaw p) = some p.user.toArray ∧
    (ucpmURI p).pass.get? (ucpmRaw p) = some (ucpmPassBytes p).toArray ∧
    (ucpmURI p).host.get? (ucpmRaw p) = some p.host.toArray ∧
    (ucpmURI p).params.get? (ucpmRaw p) = some (ucpmJoin 59 p.params).toArray ∧
    (ucpmURI p).headers.get? (ucpmRaw p) = some (ucpmJoin 38 p.hdrs).toArray := by
  have hfit : (ucpmRaw p).size ≤ 65535 := by simpa [ucpmRaw] using hok.fit
  obtain ⟨s1, s2, s3, s4, s5⟩ := ucpm_segs p
  have hsz := ucpm_size p
  have e1 : ucpmHs p = p.scheme.length + (ucpmUiText p).length := rfl
  have e2 : ucpmHe p = ucpmHs p + p.host.length := rfl
  have e3 : ucpmPe p = ucpmHe p + (ucpmPoText p).length := rfl
  have e4 : ucpmQe p = ucpmPe p + (ucpmPaText p).length := rfl
  refine ⟨?_, ?_, ?_, ?_, ?_⟩
  · show PField.get? _ (ucpmUserF p) = _
    unfold ucpmUserF
    unfold ucpmUiText at s1 e1
    by_cases hu : p.user = []
    · rw [if_pos hu, hu]; exact ucpm_get_zero hfit
    · rw [if_neg hu]
      rw [if_neg hu] at s1 e1
      rcases hp : p.pass with _ | pw
      · rw [hp] at s1 e1
        simp only [List.length_append] at e1
        exact ucpm_get_at hfit s1.append.1 (by omega)
      · rw [hp] at s1 e1
        simp only [List.length_append] at e1
        exact ucpm_get_at hfit s1.append.1 (by omega)
  · show PField.get? _ (ucpmPassF p) = _
    unfold ucpmPassF ucpmPassBytes
    unfold ucpmUiText at s1 e1
    by_cases hu : p.user = []
    · rw [if_pos hu, hok.passUser hu]; exact ucpm_get_zero hfit
    · rw [if_neg hu]
      rw [if_neg hu] at s1 e1
      rcases hp : p.pass with _ | pw
      · exact ucpm_get_zero hfit
      · rw [hp] at s1 e1
        simp only [List.length_append, List.length_cons] at e1
        exact ucpm_get_at hfit s1.append.2.cons.2.append.1 (by omega)
  · exact ucpm_get_at hfit s2 (by omega)
  · show PField.get? _ (ucpmParamsF p) = _
    unfold ucpmParamsF
    unfold ucpmPaText at s4 e4
    by_cases h : p.params = []
    · rw [if_pos h, h]; exact ucpm_get_zero hfit
    · rw [if_neg h]
      rw [if_neg h] at s4 e4
      simp only [List.length_cons] at e4
      exact ucpm_get_at hfit s4.cons.2 (by omega)
  · show PField.get? _ (ucpmHdrsF p) = _
    unfold ucpmHdrsF
    unfold ucpmHdText at s5 hsz
    by_cases h : p.hdrs = []
    · rw [if_pos h, h]; exact ucpm_get_zero hfit
    · rw [if_neg h]
      rw [if_neg h] at s5 hsz
      simp only [List.length_cons] at hsz
      exact ucpm_get_at hfit s5.cons.2 (by omega)

theorem ucpm_join_le (p : UcpmParts) :
    (ucpmJoin 59 p.params).length ≤ (ucpmText p).length ∧ (ucpmJoin 38 p.hdrs).length ≤ (ucpmText p).length := by
  have h1 : (ucpmJoin 59 p.params).length ≤ (ucpmPaText p).length := by
    unfold ucpmPaText
    split
    · rename_i h; rw [h]; exact Nat.le_refl _
    · simp
  have h2 : (ucpmJoin 38 p.hdrs).length ≤ (ucpmHdText p).length := by
    unfold ucpmHdText
    split
    · rename_i h; rw [h]; exact Nat.le_refl _
    · simp
  unfold ucpmText
  simp only [List.length_append]
  omega


/-! ### URIParseCmp on two renderings, in terms of the parts -/

/-- what "equal" means for two renderings, in terms of their parts, under the flag set `f` -/
def UcpmSpec (p q : UcpmParts) (f : Nat) : Prop :=
  (hasFlag f URICmpSkipScheme = true ∨ p.sips = q.sips) ∧
  (hasFlag f URICmpSkipPort = true ∨ ucpmPortNo p = ucpmPortNo q) ∧
  (hasFlag f URICmpSkipUser = true ∨ p.user = q.user) ∧
  (hasFlag f URICmpSkipPass = true ∨ ucpmPassBytes p = ucpmPassBytes q) ∧
  lowerL p.host = lowerL q.host ∧
  (hasFlag f URICmpSkipParams = true ∨ UcpmParamsEqv p.params q.params) ∧
  (hasFlag f URICmpSkipHeaders = true ∨ UcpmHdrsEqv p.hdrs q.hdrs)

theorem ucpm_some_eq {x y : List UInt8} :
    (∃ a c : Buf, some x.toArray = some a ∧ some y.toArray = some c ∧ a = c) ↔ x = y := by
  constructor
  · rintro ⟨a, c, ha, hc, hac⟩
    cases ha; cases hc
    simpa using hac
  · intro h; exact ⟨_, _, rfl, rfl, by rw [h]⟩

theorem ucpm_paramsPart (p q : UcpmParts) (hp : UcpmOk p) (hq : UcpmOk q) :
    uriCmpParamsPart (ucpmURI p) (ucpmRaw p) (ucpmURI q) (ucpmRaw q) = some true ↔ UcpmParamsEqv p.params q.params := by
  obtain ⟨r, hr, hrs⟩ := ucpm_paramsEq_spec p.params q.params hp.params hq.params hp.paramsLen hq.paramsLen
    (Nat.le_trans (ucpm_join_le p).1 hp.fit) (Nat.le_trans (ucpm_join_le q).1 hq.fit) hq.paramsNoDup
  rw [uriCmpParamsPart_eq (ucpm_gets p hp).2.2.2.1 (ucpm_gets q hq).2.2.2.1, hr]
  simp only [Option.map_some, Option.some.injEq]
  rw [hrs]
  exact ucpm_paramsEqv_eff _ _ (fun i hi => (hp.params i hi).ne) (fun i hi => (hq.params i hi).ne)

theorem ucpm_hdrsPart (p q : UcpmParts) (hp : UcpmOk p) (hq : UcpmOk q) :
    uriCmpHdrsPart (ucpmURI p) (ucpmRaw p) (ucpmURI q) (ucpmRaw q) = some true ↔ UcpmHdrsEqv p.hdrs q.hdrs := by
  obtain ⟨r, hr, hrs⟩ := ucpm_hdrsEq_spec p.hdrs q.hdrs hp.hdrs hq.hdrs hp.hdrsLen hq.hdrsLen
    (Nat.le_trans (ucpm_join_le p).2 hp.fit) (Nat.le_trans (ucpm_join_le q).2 hq.fit) hq.hdrsNoDup
  rw [uriCmpHdrsPart_eq (ucpm_gets p hp).2.2.2.2 (ucpm_gets q hq).2.2.2.2, hr]
  simp only [Option.map_some, Option.some.injEq]
  rw [hrs]
  exact ucpm_hdrsEqv_eff _ _ (fun i hi => (hp.hdrs i hi).ne) (fun i hi => (hq.hdrs i hi).ne)

theorem ucpm_uriCmp_true_iff (p q : UcpmParts) (hp : UcpmOk p) (hq : UcpmOk q) (f : Nat) :
    uriCmp (ucpmURI p) (ucpmRaw p) (ucpmURI q) (ucpmRaw q) f = some true ↔ UcpmSpec p q f := by
  obtain ⟨gu, gp, gh, _, _⟩ := ucpm_gets p hp
  obtain ⟨gu', gp', gh', _, _⟩ := ucpm_gets q hq
  rw [uriCmp_true_iff, uriCmpShort_true_iff, ucpm_paramsPart p q hp hq, ucpm_hdrsPart p q hp hq, gu, gu', gp, gp',
    ucpm_some_eq, ucpm_some_eq]
  have hh := ucpm_feq gh gh'
  unfold FEq at hh
  rw [hh]
  unfold UcpmSpec
  have ht : (ucpmURI p).uriType = (ucpmURI q).uriType ↔ p.sips = q.sips := by
    show (if p.sips then SIPSuri else SIPuri) = (if q.sips then SIPSuri else SIPuri) ↔ _
    cases p.sips <;> cases q.sips <;> decide
  rw [ht]
  show (_ ∧ (_ ∨ ucpmPortNo p = ucpmPortNo q) ∧ _) ∧ _ ↔ _
  constructor
  · rintro ⟨⟨a1, a2, a3, a4, a5⟩, a6, a7⟩
    exact ⟨a1, a2, a3, a4, a5, a6, a7⟩
  · rintro ⟨a1, a2, a3, a4, a5, a6, a7⟩
    exact ⟨⟨a1, a2, a3, a4, a5⟩, a6, a7⟩

/-- [C15] **URIParseCmp on two renderings**: no panic, no error, both parsed URIs handed back (they are `ucpmURI`), and the
    verdict is "equal" exactly when the parts are equal in the sense of `UcpmSpec` — for every flag value -/
theorem uriParseCmp_text_spec (p q : UcpmParts) (hp : UcpmOk p) (hq : UcpmOk q) (f : Nat) :
    ∃ r, uriParseCmp (ucpmRaw p) (ucpmRaw q) f = some (r, UErr.none, 0, some (ucpmURI p), some (ucpmURI q)) ∧
      (r = true ↔ UcpmSpec p q f) := by
  have fp : (ucpmRaw p).size ≤ 65535 := by simpa [ucpmRaw] using hp.fit
  have fq : (ucpmRaw q).size ≤ 65535 := by simpa [ucpmRaw] using hq.fit
  have g1 : SrUriGet (ucpmRaw p) (ucpmURI p) := by
    have := srUriGet_parse (ucpmRaw p) fp (by rw [ucpm_parse p hp])
    rw [ucpm_parse p hp] at this
    exact this
  have g2 : SrUriGet (ucpmRaw q) (ucpmURI q) := by
    have := srUriGet_parse (ucpmRaw q) fq (by rw [ucpm_parse q hq])
    rw [ucpm_parse q hq] at this
    exact this
  obtain ⟨r, hr⟩ := uriCmp_some (ucpmURI p) (ucpmRaw p) (ucpmURI q) (ucpmRaw q) f fp fq g1 g2
  refine ⟨r, ?_, ?_⟩
  · rw [uriParseCmp_ok _ _ f (ucpm_parse p hp) (ucpm_parse q hq), hr]
    rfl
  · rw [← ucpm_uriCmp_true_iff p q hp hq f, hr]
    simp


/-! ### the same parts up to order and letter case -/

/-- two item lists hold the same items up to order and up to the letter case of names and values -/
structure UcpmSameItems (l l' : List UcpmItem) : Prop where
  len : l.length = l'.length
  fwd : ∀ i ∈ l, ∃ j ∈ l', lowerL i.name = lowerL j.name ∧ lowerL i.val = lowerL j.val
  bwd : ∀ j ∈ l', ∃ i ∈ l, lowerL i.name = lowerL j.name ∧ lowerL i.val = lowerL j.val

theorem UcpmSameItems.refl (l : List UcpmItem) : UcpmSameItems l l :=
  ⟨rfl, fun i hi => ⟨i, hi, rfl, rfl⟩, fun i hi => ⟨i, hi, rfl, rfl⟩⟩

theorem UcpmSameItems.symm {l l' : List UcpmItem} (h : UcpmSameItems l l') : UcpmSameItems l' l :=
  ⟨h.len.symm, fun j hj => by obtain ⟨i, hi, a, b⟩ := h.bwd j hj; exact ⟨i, hi, a.symm, b.symm⟩,
   fun i hi => by obtain ⟨j, hj, a, b⟩ := h.fwd i hi; exact ⟨j, hj, a.symm, b.symm⟩⟩

theorem UcpmSameItems.of_perm {l l' : List UcpmItem} (h : l.Perm l') : UcpmSameItems l l' :=
  ⟨h.length_eq, fun i hi => ⟨i, h.mem_iff.1 hi, rfl, rfl⟩, fun i hi => ⟨i, h.mem_iff.2 hi, rfl, rfl⟩⟩

/-- the same items in the same order, names and values re-cased -/
theorem UcpmSameItems.of_all2 {l l' : List UcpmItem}
    (h : UcpmAll2 (fun i j => lowerL i.name = lowerL j.name ∧ lowerL i.val = lowerL j.val) l l') : UcpmSameItems l l' :=
  ⟨ucpm_forall2_length h, ucpm_forall2_left h, ucpm_forall2_right h⟩

/-- `p'` is `p` up to the order of the parameter items and of the header items and up to the letter case of scheme,
    host, parameter names / values and header names / values (the port may be written differently as long as its
    number is the same); user and password are the same bytes -/
structure UcpmSameParts (p p' : UcpmParts) : Prop where
  sips : p.sips = p'.sips
  portNo : ucpmPortNo p = ucpmPortNo p'
  user : p.user = p'.user
  pass : ucpmPassBytes p = ucpmPassBytes p'
  host : lowerL p.host = lowerL p'.host
  params : UcpmSameItems p.params p'.params
  hdrs : UcpmSameItems p.hdrs p'.hdrs

theorem UcpmSameParts.refl (p : UcpmParts) : UcpmSameParts p p :=
  ⟨rfl, rfl, rfl, rfl, rfl, UcpmSameItems.refl _, UcpmSameItems.refl _⟩

theorem UcpmSameParts.symm {p p' : UcpmParts} (h : UcpmSameParts p p') : UcpmSameParts p' p :=
  ⟨h.sips.symm, h.portNo.symm, h.user.symm, h.pass.symm, h.host.symm, h.params.symm, h.hdrs.symm⟩

theorem ucpm_paramsEqv_congr {ps ps' qs qs' : List UcpmItem} (s1 : UcpmSameItems ps ps') (s2 : UcpmSameItems qs qs')
    (h : UcpmParamsEqv ps qs) : UcpmParamsEqv ps' qs' := by
  have key : ∀ {l l' : List UcpmItem}, UcpmSameItems l l' → ∀ s : List UInt8,
      ((∃ i ∈ l, lowerL i.name = s) ↔ (∃ j ∈ l', lowerL j.name = s)) := by
    intro l l' hs s
    constructor
    · rintro ⟨i, hi, h⟩
      obtain ⟨j, hj, a, _⟩ := hs.fwd i hi
      exact ⟨j, hj, a ▸ h⟩
    · rintro ⟨j, hj, h⟩
      obtain ⟨i, hi, a, _⟩ := hs.bwd j hj
      exact ⟨i, hi, a.trans h⟩
  refine ⟨fun s hs => ?_, fun i' hi' j' hj' hn => ?_⟩
  · rw [← key s1 s, ← key s2 s]
    exact h.1 s hs
  · obtain ⟨i, hi, a1, b1⟩ := s1.bwd i' hi'
    obtain ⟨j, hj, a2, b2⟩ := s2.bwd j' hj'
    have := h.2 i hi j hj (a1.trans (hn.trans a2.symm))
    exact b1.symm.trans (this.trans b2)

theorem ucpm_hdrsEqv_congr {hs hs' ks ks' : List UcpmItem} (s1 : UcpmSameItems hs hs') (s2 : UcpmSameItems ks ks')
    (h : UcpmHdrsEqv hs ks) : UcpmHdrsEqv hs' ks' := by
  refine ⟨by rw [← s1.len, ← s2.len]; exact h.1, fun i' hi' => ?_⟩
  obtain ⟨i, hi, a1, b1⟩ := s1.bwd i' hi'
  obtain ⟨k, hk, a2, b2⟩ := h.2 i hi
  obtain ⟨k', hk', a3, b3⟩ := s2.fwd k hk
  exact ⟨k', hk', a1.symm.trans (a2.trans a3), b1.symm.trans (b2.trans b3)⟩

theorem ucpm_spec_congr {p p' q q' : UcpmParts} (s1 : UcpmSameParts p p') (s2 : UcpmSameParts q q') (f : Nat) :
    UcpmSpec p q f ↔ UcpmSpec p' q' f := by
  have one : ∀ {p p' q q' : UcpmParts}, UcpmSameParts p p' → UcpmSameParts q q' → UcpmSpec p q f → UcpmSpec p' q' f := by
    intro p p' q q' s1 s2 h
    obtain ⟨a1, a2, a3, a4, a5, a6, a7⟩ := h
    refine ⟨a1.imp id (fun h => ?_), a2.imp id (fun h => ?_), a3.imp id (fun h => ?_), a4.imp id (fun h => ?_), ?_,
      a6.imp id (ucpm_paramsEqv_congr s1.params s2.params), a7.imp id (ucpm_hdrsEqv_congr s1.hdrs s2.hdrs)⟩
    · rw [← s1.sips, ← s2.sips]; exact h
    · rw [← s1.portNo, ← s2.portNo]; exact h
    · rw [← s1.user, ← s2.user]; exact h
    · rw [← s1.pass, ← s2.pass]; exact h
    · rw [← s1.host, ← s2.host]; exact a5
  exact ⟨one s1 s2, one s1.symm s2.symm⟩

theorem ucpm_hdrsEqv_refl (l : List UcpmItem) : UcpmHdrsEqv l l := ⟨rfl, fun i hi => ⟨i, hi, rfl, rfl⟩⟩

theorem ucpm_spec_refl (p : UcpmParts) (hp : UcpmOk p) (f : Nat) : UcpmSpec p p f :=
  ⟨Or.inr rfl, Or.inr rfl, Or.inr rfl, Or.inr rfl, rfl, Or.inr (ucpm_paramsEqv_refl hp.paramsNoDup),
    Or.inr (ucpm_hdrsEqv_refl _)⟩

/-- [C15] **ORDER AND LETTER CASE ON THE TEXT, general form**: the verdict of URIParseCmp on two renderings is unchanged when
    either one is replaced by a rendering of the same parts up to the order of the parameter / header items and the
    letter case of scheme, host, parameter names / values and header names / values; no panic, no error, each call
    hands back the URIs parsed from its own two texts -/
theorem uriParseCmp_congr_text (p p' q q' : UcpmParts) (hp : UcpmOk p) (hp' : UcpmOk p') (hq : UcpmOk q) (hq' : UcpmOk q')
    (s1 : UcpmSameParts p p') (s2 : UcpmSameParts q q') (f : Nat) :
    ∃ r, uriParseCmp (ucpmRaw p) (ucpmRaw q) f = some (r, UErr.none, 0, some (ucpmURI p), some (ucpmURI q)) ∧
      uriParseCmp (ucpmRaw p') (ucpmRaw q') f = some (r, UErr.none, 0, some (ucpmURI p'), some (ucpmURI q')) := by
  obtain ⟨r, hr, hrs⟩ := uriParseCmp_text_spec p q hp hq f
  obtain ⟨r', hr', hrs'⟩ := uriParseCmp_text_spec p' q' hp' hq' f
  have : r' = r := by
    rw [Bool.eq_iff_iff, hrs, hrs']
    exact (ucpm_spec_congr s1 s2 f).symm
  subst this
  exact ⟨r', hr, hr'⟩

theorem ucpm_verdict_false {p q : UcpmParts} (hp : UcpmOk p) (hq : UcpmOk q) {f : Nat} (h : ¬ UcpmSpec p q f) :
    uriParseCmp (ucpmRaw p) (ucpmRaw q) f = some (false, UErr.none, 0, some (ucpmURI p), some (ucpmURI q)) := by
  obtain ⟨r, hr, hrs⟩ := uriParseCmp_text_spec p q hp hq f
  cases r with
  | false => exact hr
  | true => exact absurd (hrs.1 rfl) h

theorem ucpm_verdict_true {p q : UcpmParts} (hp : UcpmOk p) (hq : UcpmOk q) {f : Nat} (h : UcpmSpec p q f) :
    uriParseCmp (ucpmRaw p) (ucpmRaw q) f = some (true, UErr.none, 0, some (ucpmURI p), some (ucpmURI q)) := by
  obtain ⟨r, hr, hrs⟩ := uriParseCmp_text_spec p q hp hq f
  rw [hr, hrs.2 h]

/-- … in particular two renderings of the same parts compare EQUAL under every flag set -/
theorem uriParseCmp_same_text (p p' : UcpmParts) (hp : UcpmOk p) (hp' : UcpmOk p') (s : UcpmSameParts p p') (f : Nat) :
    uriParseCmp (ucpmRaw p) (ucpmRaw p') f = some (true, UErr.none, 0, some (ucpmURI p), some (ucpmURI p')) :=
  ucpm_verdict_true hp hp' ((ucpm_spec_congr (UcpmSameParts.refl p) s f).1 (ucpm_spec_refl p hp f))


/-! ### the side conditions are kept by a permutation of the items -/

theorem ucpm_join_len (sep : UInt8) (l : List UcpmItem) :
    (ucpmJoin sep l).length + (if l = [] then 0 else 1) = (l.map (fun it => it.text.length + 1)).sum := by
  induction l with
  | nil => rfl
  | cons it rest ih =>
    cases rest with
    | nil => simp [ucpmJoin]
    | cons it' r =>
      rw [ucpmJoin]
      rw [if_neg (by simp)] at ih
      simp only [List.length_append, List.length_cons, List.map_cons, List.sum_cons, List.cons_ne_nil, if_false] at ih ⊢
      omega

theorem ucpm_sepjoin_len_perm (c sep : UInt8) {l l' : List UcpmItem} (h : l.Perm l') :
    (if l = [] then [] else c :: ucpmJoin sep l).length = (if l' = [] then [] else c :: ucpmJoin sep l').length := by
  have hs := (h.map (fun it : UcpmItem => it.text.length + 1)).sum_nat
  have h1 := ucpm_join_len sep l
  have h2 := ucpm_join_len sep l'
  by_cases e : l = []
  · subst e
    rw [← h.nil_eq]
  · have e' : l' ≠ [] := fun e' => e (by subst e'; exact h.eq_nil)
    rw [if_neg e] at h1 ⊢
    rw [if_neg e'] at h2 ⊢
    simp only [List.length_cons]
    omega

theorem ucpm_nodup_perm {l l' : List UcpmItem} (h : l.Perm l') (hn : UcpmNoDup l) : UcpmNoDup l' :=
  (h.pairwise_iff (R := fun i j : UcpmItem => lowerL i.name ≠ lowerL j.name)
    (fun {x y} (hxy : lowerL x.name ≠ lowerL y.name) (e : lowerL y.name = lowerL x.name) => hxy e.symm)).1 hn

theorem UcpmOk.perm {p : UcpmParts} (hp : UcpmOk p) {ps' hs' : List UcpmItem} (h1 : p.params.Perm ps')
    (h2 : p.hdrs.Perm hs') : UcpmOk { p with params := ps', hdrs := hs' } where
  scheme := hp.scheme
  user := hp.user
  passUser := hp.passUser
  pass := hp.pass
  hostNe := hp.hostNe
  host := hp.host
  port := hp.port
  params := fun it hit => hp.params it (h1.mem_iff.2 hit)
  hdrs := fun it hit => hp.hdrs it (h2.mem_iff.2 hit)
  paramsLen := by rw [← h1.length_eq]; exact hp.paramsLen
  hdrsLen := by rw [← h2.length_eq]; exact hp.hdrsLen
  paramsNoDup := ucpm_nodup_perm h1 hp.paramsNoDup
  hdrsNoDup := ucpm_nodup_perm h2 hp.hdrsNoDup
  fit := by
    have e1 := ucpm_sepjoin_len_perm 59 59 h1
    have e2 := ucpm_sepjoin_len_perm 63 38 h2
    have hf := hp.fit
    unfold ucpmText at hf ⊢
    simp only [List.length_append] at hf ⊢
    have a1 : (ucpmPaText { p with params := ps', hdrs := hs' }).length = (ucpmPaText p).length := e1.symm
    have a2 : (ucpmHdText { p with params := ps', hdrs := hs' }).length = (ucpmHdText p).length := e2.symm
    have a3 : (ucpmUiText { p with params := ps', hdrs := hs' }).length = (ucpmUiText p).length := rfl
    have a4 : (ucpmPoText { p with params := ps', hdrs := hs' }).length = (ucpmPoText p).length := rfl
    rw [a1, a2, a3, a4]
    exact hf

/-! ### the laws in the words of the property, on the URI text -/

/-- [C15] **ORDER OF PARAMETERS AND HEADERS, on the text**: a rendering and the rendering of the same parts with the
    parameter items and / or the header items in another order compare EQUAL under `uriParseCmp` (URIParseCmp /
    URIRawCmp) for every flag set: verdict true, no error, no panic, both parsed URIs handed back. -/
theorem uriParseCmp_perm_text (p : UcpmParts) (hp : UcpmOk p) (ps' hs' : List UcpmItem) (h1 : p.params.Perm ps')
    (h2 : p.hdrs.Perm hs') (f : Nat) :
    uriParseCmp (ucpmRaw p) (ucpmRaw { p with params := ps', hdrs := hs' }) f =
      some (true, UErr.none, 0, some (ucpmURI p), some (ucpmURI { p with params := ps', hdrs := hs' })) ∧
    uriParseCmp (ucpmRaw { p with params := ps', hdrs := hs' }) (ucpmRaw p) f =
      some (true, UErr.none, 0, some (ucpmURI { p with params := ps', hdrs := hs' }), some (ucpmURI p)) := by
  have s : UcpmSameParts p { p with params := ps', hdrs := hs' } :=
    ⟨rfl, rfl, rfl, rfl, rfl, UcpmSameItems.of_perm h1, UcpmSameItems.of_perm h2⟩
  exact ⟨uriParseCmp_same_text p _ hp (hp.perm h1 h2) s f, uriParseCmp_same_text _ p (hp.perm h1 h2) hp s.symm f⟩

/-- `p'` is `p` with other letter case in scheme, host, parameter names / values, header names / values: same user,
    password and port, items in the same order -/
structure UcpmCaseVar (p p' : UcpmParts) : Prop where
  sips : p.sips = p'.sips
  user : p.user = p'.user
  pass : p.pass = p'.pass
  host : lowerL p.host = lowerL p'.host
  port : p.port = p'.port
  params : UcpmAll2 (fun i j => lowerL i.name = lowerL j.name ∧ lowerL i.val = lowerL j.val) p.params p'.params
  hdrs : UcpmAll2 (fun i j => lowerL i.name = lowerL j.name ∧ lowerL i.val = lowerL j.val) p.hdrs p'.hdrs

theorem UcpmCaseVar.same {p p' : UcpmParts} (v : UcpmCaseVar p p') : UcpmSameParts p p' :=
  ⟨v.sips, by unfold ucpmPortNo; rw [v.port], v.user, by unfold ucpmPassBytes; rw [v.pass], v.host,
    UcpmSameItems.of_all2 v.params, UcpmSameItems.of_all2 v.hdrs⟩

/-- [C15] **LETTER CASE, on the text**: two renderings that differ only in the letter case of scheme, host, parameter
    names / values and header names / values compare EQUAL for every flag set. -/
theorem uriParseCmp_case_text (p p' : UcpmParts) (hp : UcpmOk p) (hp' : UcpmOk p') (v : UcpmCaseVar p p') (f : Nat) :
    uriParseCmp (ucpmRaw p) (ucpmRaw p') f = some (true, UErr.none, 0, some (ucpmURI p), some (ucpmURI p')) :=
  uriParseCmp_same_text p p' hp hp' v.same f

/-- [C15] … and re-casing either side does not change the verdict against any third rendering -/
theorem uriParseCmp_case_text_gen (p p' q q' : UcpmParts) (hp : UcpmOk p) (hp' : UcpmOk p') (hq : UcpmOk q)
    (hq' : UcpmOk q') (v1 : UcpmCaseVar p p') (v2 : UcpmCaseVar q q') (f : Nat) :
    ∃ r, uriParseCmp (ucpmRaw p) (ucpmRaw q) f = some (r, UErr.none, 0, some (ucpmURI p), some (ucpmURI q)) ∧
      uriParseCmp (ucpmRaw p') (ucpmRaw q') f = some (r, UErr.none, 0, some (ucpmURI p'), some (ucpmURI q')) :=
  uriParseCmp_congr_text p p' q q' hp hp' hq hq' v1.same v2.same f

/-- [C15] **USER, on the text**: renderings with different user bytes (e.g. another letter case) compare UNEQUAL when
    the user comparison is not skipped -/
theorem uriParseCmp_user_case_text (p q : UcpmParts) (hp : UcpmOk p) (hq : UcpmOk q) (f : Nat)
    (hf : hasFlag f URICmpSkipUser = false) (hne : p.user ≠ q.user) :
    uriParseCmp (ucpmRaw p) (ucpmRaw q) f = some (false, UErr.none, 0, some (ucpmURI p), some (ucpmURI q)) := by
  apply ucpm_verdict_false hp hq
  rintro ⟨_, _, h, _⟩
  rcases h with h | h
  · rw [hf] at h; cases h
  · exact hne h

/-- [C15] **PASSWORD, on the text** -/
theorem uriParseCmp_pass_case_text (p q : UcpmParts) (hp : UcpmOk p) (hq : UcpmOk q) (f : Nat)
    (hf : hasFlag f URICmpSkipPass = false) (hne : ucpmPassBytes p ≠ ucpmPassBytes q) :
    uriParseCmp (ucpmRaw p) (ucpmRaw q) f = some (false, UErr.none, 0, some (ucpmURI p), some (ucpmURI q)) := by
  apply ucpm_verdict_false hp hq
  rintro ⟨_, _, _, h, _⟩
  rcases h with h | h
  · rw [hf] at h; cases h
  · exact hne h

/-- [C15] **… unless skipped**: renderings that agree in everything but user and password compare EQUAL when the
    flags skip each of the two that differs -/
theorem uriParseCmp_user_skip_text (p q : UcpmParts) (hp : UcpmOk p) (hq : UcpmOk q) (f : Nat)
    (hu : hasFlag f URICmpSkipUser = true ∨ p.user = q.user)
    (hw : hasFlag f URICmpSkipPass = true ∨ ucpmPassBytes p = ucpmPassBytes q)
    (hs : p.sips = q.sips) (hn : ucpmPortNo p = ucpmPortNo q) (hh : lowerL p.host = lowerL q.host)
    (hpa : UcpmSameItems p.params q.params) (hhd : UcpmSameItems p.hdrs q.hdrs) :
    uriParseCmp (ucpmRaw p) (ucpmRaw q) f = some (true, UErr.none, 0, some (ucpmURI p), some (ucpmURI q)) := by
  apply ucpm_verdict_true hp hq
  exact ⟨Or.inr hs, Or.inr hn, hu, hw, hh,
    Or.inr (ucpm_paramsEqv_congr (UcpmSameItems.refl _) hpa (ucpm_paramsEqv_refl hp.paramsNoDup)),
    Or.inr (ucpm_hdrsEqv_congr (UcpmSameItems.refl _) hhd (ucpm_hdrsEqv_refl _))⟩

/-- [C15] **PRESENCE RULE, on the text**: a rendering with a `user` / `ttl` / `method` / `maddr` parameter item (any
    letter case) and a rendering without one compare UNEQUAL, in either order, when the parameters are not skipped -/
theorem uriParseCmp_presence_text (p q : UcpmParts) (hp : UcpmOk p) (hq : UcpmOk q) (f : Nat)
    (hf : hasFlag f URICmpSkipParams = false) (s : List UInt8) (hs : s ∈ [sUser, sTtl, sMethod, sMaddr])
    (h1 : ∃ i ∈ p.params, lowerL i.name = s) (h2 : ¬ ∃ j ∈ q.params, lowerL j.name = s) :
    uriParseCmp (ucpmRaw p) (ucpmRaw q) f = some (false, UErr.none, 0, some (ucpmURI p), some (ucpmURI q)) ∧
    uriParseCmp (ucpmRaw q) (ucpmRaw p) f = some (false, UErr.none, 0, some (ucpmURI q), some (ucpmURI p)) := by
  constructor
  · apply ucpm_verdict_false hp hq
    rintro ⟨_, _, _, _, _, h, _⟩
    rcases h with h | h
    · rw [hf] at h; cases h
    · exact h2 ((h.1 s hs).1 h1)
  · apply ucpm_verdict_false hq hp
    rintro ⟨_, _, _, _, _, h, _⟩
    rcases h with h | h
    · rw [hf] at h; cases h
    · exact h2 ((h.1 s hs).2 h1)

/-- [C15] **… while a parameter with any OTHER name present in only one of the two does not matter**: a rendering and
    the rendering with one more parameter item (anywhere in the list) whose name is none of user / ttl / method /
    maddr compare EQUAL, in either order, for every flag set -/
theorem uriParseCmp_extra_param_text (p : UcpmParts) (it : UcpmItem) (ps' : List UcpmItem)
    (hperm : (it :: p.params).Perm ps') (hp : UcpmOk p) (hq : UcpmOk { p with params := ps' })
    (ho : lowerL it.name ∉ [sUser, sTtl, sMethod, sMaddr]) (f : Nat) :
    uriParseCmp (ucpmRaw p) (ucpmRaw { p with params := ps' }) f =
      some (true, UErr.none, 0, some (ucpmURI p), some (ucpmURI { p with params := ps' })) ∧
    uriParseCmp (ucpmRaw { p with params := ps' }) (ucpmRaw p) f =
      some (true, UErr.none, 0, some (ucpmURI { p with params := ps' }), some (ucpmURI p)) := by
  have hn := List.pairwise_cons.1 (ucpm_nodup_perm hperm.symm hq.paramsNoDup)
  have e : UcpmParamsEqv (it :: p.params) p.params :=
    (ucpm_paramsEqv_cons ho hn.1).2 (ucpm_paramsEqv_refl hn.2)
  have s := UcpmSameItems.of_perm hperm
  constructor
  · apply ucpm_verdict_true hp hq
    exact ⟨Or.inr rfl, Or.inr rfl, Or.inr rfl, Or.inr rfl, rfl,
      Or.inr (ucpm_paramsEqv_congr (UcpmSameItems.refl _) s e.symm), Or.inr (ucpm_hdrsEqv_refl _)⟩
  · apply ucpm_verdict_true hq hp
    exact ⟨Or.inr rfl, Or.inr rfl, Or.inr rfl, Or.inr rfl, rfl,
      Or.inr (ucpm_paramsEqv_congr s (UcpmSameItems.refl _) e), Or.inr (ucpm_hdrsEqv_refl _)⟩


/-! ### tests / non-vacuity (closed computations, `decide +kernel`) -/

section UcpmTests

instance ucpmDecPChar (f : Nat) (c : UInt8) : Decidable (PChar f c) :=
  inferInstanceAs (Decidable (tokAllowedChar c f = true ∧ c ≠ tpSep f ∧ c ≠ tpTerm f))

instance ucpmDecItemOk (f : Nat) (it : UcpmItem) : Decidable (UcpmItemOk f it) :=
  decidable_of_iff (it.name ≠ [] ∧ (∀ c ∈ it.name, PChar f c) ∧ (∀ c ∈ it.val, PChar f c))
    ⟨fun ⟨a, b, c⟩ => ⟨a, b, c⟩, fun ⟨a, b, c⟩ => ⟨a, b, c⟩⟩

instance ucpmDecNoDup (l : List UcpmItem) : Decidable (UcpmNoDup l) :=
  inferInstanceAs (Decidable (l.Pairwise (fun i j => lowerL i.name ≠ lowerL j.name)))

instance (p : UcpmParts) : Decidable (UcpmOk p) :=
  decidable_of_iff ((lowerL p.scheme = if p.sips then [115, 105, 112, 115, 58] else [115, 105, 112, 58]) ∧
    (∀ c ∈ p.user, ucTok c = true) ∧ (p.user = [] → p.pass = none) ∧ (∀ pw ∈ p.pass, ∀ c ∈ pw, ucTok c = true) ∧
    p.host ≠ [] ∧ (∀ c ∈ p.host, ucpmHostCh c = true) ∧
    (∀ d ∈ p.port, (∀ c ∈ d, isDigit c = true) ∧ decOf d ≤ 65535) ∧
    (∀ it ∈ p.params, UcpmItemOk ucpmPF it) ∧ (∀ it ∈ p.hdrs, UcpmItemOk ucpmHF it) ∧
    p.params.length ≤ 100 ∧ p.hdrs.length ≤ 100 ∧ UcpmNoDup p.params ∧ UcpmNoDup p.hdrs ∧
    (ucpmText p).length ≤ 65535)
    ⟨fun ⟨a, b, c, d, e, f, g, h, i, j, k, l, m, n⟩ => ⟨a, b, c, d, e, f, g, h, i, j, k, l, m, n⟩,
     fun ⟨a, b, c, d, e, f, g, h, i, j, k, l, m, n⟩ => ⟨a, b, c, d, e, f, g, h, i, j, k, l, m, n⟩⟩

/-- the bytes of a string literal -/
def ucpmB (s : String) : List UInt8 := s.toUTF8.data.toList

/-- `sip:Alice:pw@Example.COM:5060;transport=udp;Foo=Bar;lr?a=1&B=2` -/
def ucpmExA : UcpmParts :=
  { sips := false, scheme := ucpmB "sip:", user := ucpmB "Alice", pass := some (ucpmB "pw"), host := ucpmB "Example.COM",
    port := some (ucpmB "5060"),
    params := [⟨ucpmB "transport", ucpmB "udp"⟩, ⟨ucpmB "Foo", ucpmB "Bar"⟩, ⟨ucpmB "lr", []⟩],
    hdrs := [⟨ucpmB "a", ucpmB "1"⟩, ⟨ucpmB "B", ucpmB "2"⟩] }

theorem ucpmExA_raw :
    ucpmRaw ucpmExA = "sip:Alice:pw@Example.COM:5060;transport=udp;Foo=Bar;lr?a=1&B=2".toUTF8.data := by decide +kernel

/-- test: the rendering is the expected text -/
example : ucpmRaw ucpmExA = "sip:Alice:pw@Example.COM:5060;transport=udp;Foo=Bar;lr?a=1&B=2".toUTF8.data :=
  ucpmExA_raw

/-- non-vacuity of `UcpmOk` (a URI with user, password, port, three parameters, two headers) -/
theorem ucpmExA_ok : UcpmOk ucpmExA := by decide +kernel

/-- `ucpm_parse` applied -/
example : parseURI (ucpmRaw ucpmExA) {} = (UErr.none, 62, ucpmURI ucpmExA, false) :=
  (ucpm_parse ucpmExA ucpmExA_ok).trans (by rw [ucpmExA_raw]; rfl)

theorem ucpmExA_perm_raw :
    ucpmRaw { ucpmExA with params := [⟨ucpmB "lr", []⟩, ⟨ucpmB "transport", ucpmB "udp"⟩, ⟨ucpmB "Foo", ucpmB "Bar"⟩],
                           hdrs := [⟨ucpmB "B", ucpmB "2"⟩, ⟨ucpmB "a", ucpmB "1"⟩] } =
      "sip:Alice:pw@Example.COM:5060;lr;transport=udp;Foo=Bar?B=2&a=1".toUTF8.data := by decide +kernel

/-- `sip:Alice:pw@Example.COM:5060;lr;transport=udp;Foo=Bar?B=2&a=1`: the items in another order -/
example : ucpmRaw { ucpmExA with params := [⟨ucpmB "lr", []⟩, ⟨ucpmB "transport", ucpmB "udp"⟩, ⟨ucpmB "Foo", ucpmB "Bar"⟩],
                                 hdrs := [⟨ucpmB "B", ucpmB "2"⟩, ⟨ucpmB "a", ucpmB "1"⟩] } =
    "sip:Alice:pw@Example.COM:5060;lr;transport=udp;Foo=Bar?B=2&a=1".toUTF8.data := ucpmExA_perm_raw

/-- `uriParseCmp_perm_text` applied: equal under every flag value -/
example (f : Nat) :
    (uriParseCmp "sip:Alice:pw@Example.COM:5060;transport=udp;Foo=Bar;lr?a=1&B=2".toUTF8.data
      "sip:Alice:pw@Example.COM:5060;lr;transport=udp;Foo=Bar?B=2&a=1".toUTF8.data f).map (·.1) = some true := by
  have h := (uriParseCmp_perm_text ucpmExA ucpmExA_ok
    [⟨ucpmB "lr", []⟩, ⟨ucpmB "transport", ucpmB "udp"⟩, ⟨ucpmB "Foo", ucpmB "Bar"⟩]
    [⟨ucpmB "B", ucpmB "2"⟩, ⟨ucpmB "a", ucpmB "1"⟩]
    (by decide +kernel) (by decide +kernel) f).1
  rw [ucpmExA_raw, ucpmExA_perm_raw] at h
  rw [h]; rfl


/-- the same URI with other letter case in scheme, host, parameter names / values, header names / values -/
def ucpmExA' : UcpmParts :=
  { sips := false, scheme := ucpmB "SIP:", user := ucpmB "Alice", pass := some (ucpmB "pw"), host := ucpmB "eXAMPLE.com",
    port := some (ucpmB "5060"),
    params := [⟨ucpmB "TRANSPORT", ucpmB "UDP"⟩, ⟨ucpmB "fOO", ucpmB "bAR"⟩, ⟨ucpmB "LR", []⟩],
    hdrs := [⟨ucpmB "A", ucpmB "1"⟩, ⟨ucpmB "b", ucpmB "2"⟩] }

example : ucpmRaw ucpmExA' = "SIP:Alice:pw@eXAMPLE.com:5060;TRANSPORT=UDP;fOO=bAR;LR?A=1&b=2".toUTF8.data := by
  decide +kernel

theorem ucpmExA'_ok : UcpmOk ucpmExA' := by decide +kernel

/-- non-vacuity of `UcpmCaseVar` (with real changes everywhere it allows them) -/
theorem ucpmExA_var : UcpmCaseVar ucpmExA ucpmExA' where
  sips := rfl
  user := rfl
  pass := rfl
  host := by decide +kernel
  port := rfl
  params := UcpmAll2.cons (by decide +kernel) (UcpmAll2.cons (by decide +kernel) (UcpmAll2.cons (by decide +kernel)
    UcpmAll2.nil))
  hdrs := UcpmAll2.cons (by decide +kernel) (UcpmAll2.cons (by decide +kernel) UcpmAll2.nil)

/-- `uriParseCmp_case_text` applied -/
example (f : Nat) : uriParseCmp (ucpmRaw ucpmExA) (ucpmRaw ucpmExA') f =
    some (true, UErr.none, 0, some (ucpmURI ucpmExA), some (ucpmURI ucpmExA')) :=
  uriParseCmp_case_text ucpmExA ucpmExA' ucpmExA_ok ucpmExA'_ok ucpmExA_var f

/-- … read at flags 0 -/
example : (uriParseCmp (ucpmRaw ucpmExA) (ucpmRaw ucpmExA') 0).map (·.1) = some true :=
  congrArg (Option.map (·.1)) (uriParseCmp_case_text ucpmExA ucpmExA' ucpmExA_ok ucpmExA'_ok ucpmExA_var 0)

/-- the user in another letter case: `sip:alice:pw@…` -/
def ucpmExU : UcpmParts := { ucpmExA with user := ucpmB "alice" }

theorem ucpmExU_ok : UcpmOk ucpmExU := by decide +kernel

/-- `uriParseCmp_user_case_text` / `uriParseCmp_user_skip_text` applied: unequal unless the user is skipped -/
example (f : Nat) (hf : hasFlag f URICmpSkipUser = false) : uriParseCmp (ucpmRaw ucpmExA) (ucpmRaw ucpmExU) f =
    some (false, UErr.none, 0, some (ucpmURI ucpmExA), some (ucpmURI ucpmExU)) :=
  uriParseCmp_user_case_text ucpmExA ucpmExU ucpmExA_ok ucpmExU_ok f hf (by decide +kernel)
example (f : Nat) (hf : hasFlag f URICmpSkipUser = true) : uriParseCmp (ucpmRaw ucpmExA) (ucpmRaw ucpmExU) f =
    some (true, UErr.none, 0, some (ucpmURI ucpmExA), some (ucpmURI ucpmExU)) :=
  uriParseCmp_user_skip_text ucpmExA ucpmExU ucpmExA_ok ucpmExU_ok f (Or.inl hf) (Or.inr rfl) rfl rfl rfl
    (UcpmSameItems.refl _) (UcpmSameItems.refl _)
/-- … read at flags 0 and at `URICmpSkipUser` -/
example : (uriParseCmp (ucpmRaw ucpmExA) (ucpmRaw ucpmExU) 0).map (·.1) = some false ∧
    (uriParseCmp (ucpmRaw ucpmExA) (ucpmRaw ucpmExU) URICmpSkipUser).map (·.1) = some true :=
  ⟨congrArg (Option.map (·.1))
      (uriParseCmp_user_case_text ucpmExA ucpmExU ucpmExA_ok ucpmExU_ok 0 (by decide) (by decide +kernel)),
    congrArg (Option.map (·.1)) (uriParseCmp_user_skip_text ucpmExA ucpmExU ucpmExA_ok ucpmExU_ok URICmpSkipUser
      (Or.inl (by decide)) (Or.inr rfl) rfl rfl rfl (UcpmSameItems.refl _) (UcpmSameItems.refl _))⟩

/-- one more parameter: `…;transport=udp;Foo=Bar;USER=phone;lr?…` -/
def ucpmExP : UcpmParts :=
  { ucpmExA with params := [⟨ucpmB "transport", ucpmB "udp"⟩, ⟨ucpmB "Foo", ucpmB "Bar"⟩, ⟨ucpmB "USER", ucpmB "phone"⟩,
      ⟨ucpmB "lr", []⟩] }
/-- … and `…;transport=udp;Foo=Bar;x-y;lr?…` -/
def ucpmExX : UcpmParts :=
  { ucpmExA with params := [⟨ucpmB "transport", ucpmB "udp"⟩, ⟨ucpmB "Foo", ucpmB "Bar"⟩, ⟨ucpmB "x-y", []⟩,
      ⟨ucpmB "lr", []⟩] }

theorem ucpmExP_ok : UcpmOk ucpmExP := by decide +kernel

theorem ucpmExX_ok : UcpmOk ucpmExX := by decide +kernel

/-- `uriParseCmp_presence_text` applied: a `USER` parameter in only one of the two ⇒ unequal, both orders -/
example (f : Nat) (hf : hasFlag f URICmpSkipParams = false) :
    uriParseCmp (ucpmRaw ucpmExP) (ucpmRaw ucpmExA) f =
      some (false, UErr.none, 0, some (ucpmURI ucpmExP), some (ucpmURI ucpmExA)) ∧
    uriParseCmp (ucpmRaw ucpmExA) (ucpmRaw ucpmExP) f =
      some (false, UErr.none, 0, some (ucpmURI ucpmExA), some (ucpmURI ucpmExP)) :=
  uriParseCmp_presence_text ucpmExP ucpmExA ucpmExP_ok ucpmExA_ok f hf sUser (by simp) (by decide +kernel)
    (by decide +kernel)

/-- `uriParseCmp_extra_param_text` applied: an `x-y` parameter in only one of the two does not matter -/
example (f : Nat) :
    uriParseCmp (ucpmRaw ucpmExA) (ucpmRaw ucpmExX) f =
      some (true, UErr.none, 0, some (ucpmURI ucpmExA), some (ucpmURI ucpmExX)) ∧
    uriParseCmp (ucpmRaw ucpmExX) (ucpmRaw ucpmExA) f =
      some (true, UErr.none, 0, some (ucpmURI ucpmExX), some (ucpmURI ucpmExA)) :=
  uriParseCmp_extra_param_text ucpmExA ⟨ucpmB "x-y", []⟩ ucpmExX.params (by decide +kernel) ucpmExA_ok ucpmExX_ok
    (by decide +kernel) f

/-- … both read at flags 0 -/
example : (uriParseCmp (ucpmRaw ucpmExP) (ucpmRaw ucpmExA) 0).map (·.1) = some false ∧
    (uriParseCmp (ucpmRaw ucpmExA) (ucpmRaw ucpmExX) 0).map (·.1) = some true :=
  ⟨congrArg (Option.map (·.1)) (uriParseCmp_presence_text ucpmExP ucpmExA ucpmExP_ok ucpmExA_ok 0 (by decide) sUser
      (by simp) (by decide +kernel) (by decide +kernel)).1,
    congrArg (Option.map (·.1)) (uriParseCmp_extra_param_text ucpmExA ⟨ucpmB "x-y", []⟩ ucpmExX.params
      (by decide +kernel) ucpmExA_ok ucpmExX_ok (by decide +kernel) 0).1⟩

/-- behaviour worth knowing (tests): an empty password written (`u:@h`) equals no password; a port written with
    leading zeros, `:0` or an empty port `:` equals the same number / no port; header values are compared up to
    letter case; a parameter without value has the empty value -/
example : (uriParseCmp "sip:u@h".toUTF8.data "sip:u:@h".toUTF8.data 0).map (·.1) = some true ∧
    (uriParseCmp "sip:h:5060".toUTF8.data "sip:h:05060".toUTF8.data 0).map (·.1) = some true ∧
    (uriParseCmp "sip:h".toUTF8.data "sip:h:".toUTF8.data 0).map (·.1) = some true ∧
    (uriParseCmp "sip:h?a=X".toUTF8.data "sip:h?A=x".toUTF8.data 0).map (·.1) = some true ∧
    (uriParseCmp "sip:h;lr".toUTF8.data "sip:h;lr=".toUTF8.data 0).map (·.1) = some true ∧
    (uriParseCmp "sip:h;lr".toUTF8.data "sip:h;lr=x".toUTF8.data 0).map (·.1) = some false := by decide +kernel

end UcpmTests
end Sipsp
