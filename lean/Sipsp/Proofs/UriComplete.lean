/-
  Sipsp.Proofs.UriComplete — property C14, which texts ParseURI accepts.  For every `b` of at most 65,535 bytes a text
  of the grammar of UriGrammar is accepted, consumed to the end, without panic, and the report is exactly its
  decomposition (`parseURI_complete_gen`; for tel: the number is handed out as the user).  With `parseURI_accepted` of
  UriInv this gives accepted ↔ grammar per scheme (`parseURI_iff`, `parseURI_ok_iff`, `parseURI_tel_iff`) and the
  uniqueness of the decomposition.  The run is followed along the text: `ucRun_scan` over a block of bytes of one
  class, `UcGate` at the end of a component.  Then error code and position of the common rejections behind
  `scheme [user-info @]`: empty host, bracket not closed, text behind `]`, non-digit in the port, port above 65535.

  NOT proved here (Sipsp.Proofs.UriErrors has the remaining rejections): `host:12x` WITHOUT '@' is not covered by
  `parseURI_err_port_char`, because there the model does not report the offending byte: the `x` is taken as the start
  of a password and the rejection is ErrURIPort at the END of the input (`sip:h:12x` → position 9), or ErrURIBadChar
  at a following `;` / `?` (tests at the end of the file).

  Quirks of the accepted language made explicit by the grammar (tests at the end): `sip:a&b` accepted but
  `sip:u@a&b` rejected; `sip:u@a]b[` accepted; `[` `]` allowed in a password that follows a `;`-user
  (`sip:h;a:[b]@d`) but not in a plain one (`sip:u:[b]@d`); a bracketed text with a port in front of a later '@'
  needs a port ≤ 65535 although it ends up in the user part (`sip:[a]:70000;x@h` → ErrURIPort); `sip:u:1;x@h` is
  rejected (digits + `;` commit `u` as host) while `sip:[a]:1;x@h` is accepted.
-/
import Sipsp.Proofs.UriInv


namespace Sipsp

/-! ### scanning a run of bytes of one class -/

theorem ucRun_scan {b : Buf} {f : UInt8 → Bool} (P : Nat → UState → Prop) {i j : Nat} (hij : i ≤ j) (hj : j ≤ b.size)
    (hall : UcAll b i j f) (σ : UState) (h0 : P i σ)
    (hstep : ∀ m c σ, i ≤ m → m < j → b[m]? = some c → f c = true → P m σ →
      ∃ σ', uriStep m c σ = .next σ' ∧ P (m + 1) σ') :
    ∃ σ', ucRun b i σ = ucRun b j σ' ∧ P j σ' :=
  loop_scan (ucRun b) _ (fun _ _ _ _ hc hs => ucRun_next hc hs) P hij ((ucAll_iff hj).mp hall) hstep σ h0

/-- the same for a state that does not change -/
theorem ucRun_stay {b : Buf} {f : UInt8 → Bool} {i j : Nat} {σ : UState} (hij : i ≤ j) (hj : j ≤ b.size)
    (hall : UcAll b i j f) (hstep : ∀ m c, f c = true → uriStep m c σ = .next σ) : ucRun b i σ = ucRun b j σ := by
  obtain ⟨σ', hr, hP⟩ := ucRun_scan (f := f) (fun _ σ' => σ' = σ) hij hj hall σ rfl
    (fun m c σ1 _ _ _ hf h1 => ⟨σ, by rw [h1]; exact hstep m c hf, rfl⟩)
  rw [hr, hP]

/-! ### the tail of the grammar: `[':' port] [';' params] ['?' headers]` -/

/-- reading parameters / headers: the fields of the state that matter from here on -/
def UcParSt (σ : UState) (s : Nat) (u : PsipURI) : Prop :=
  (σ.st = .param0 ∨ σ.st = .param1) ∧ σ.s = s ∧ σ.u = u ∧ σ.pnc = false ∧ σ.errHeaders = false
def UcHdrSt (σ : UState) (s : Nat) (u : PsipURI) : Prop :=
  σ.st = .headers ∧ σ.s = s ∧ σ.u = u ∧ σ.pnc = false ∧ σ.errHeaders = false

theorem uc_par_step {i : Nat} {c : UInt8} {σ : UState} {s : Nat} {u : PsipURI} (h : UcParSt σ s u)
    (hc : ucPar c = true) : ∃ σ', uriStep i c σ = .next σ' ∧ UcParSt σ' s u := by
  have hc' : c ≠ 63 ∧ c ≠ 64 := by simpa [ucPar] using hc
  obtain ⟨hst, hs, hu, hp, he⟩ := h
  obtain ⟨σ', hstep, hσ⟩ := uc_par_frame (i := i) hst hc'.1 hc'.2
  rcases hσ with ⟨-, rfl⟩ | ⟨-, rfl⟩ | ⟨-, -, rfl⟩ <;> exact ⟨_, hstep, by simp [UcParSt, hs, hu, hp, he]⟩

theorem uc_hdr_step {i : Nat} {c : UInt8} {σ : UState} {s : Nat} {u : PsipURI} (h : UcHdrSt σ s u)
    (hc : ucHdr c = true) : ∃ σ', uriStep i c σ = .next σ' ∧ UcHdrSt σ' s u := by
  have hc' : c ≠ 59 ∧ c ≠ 64 := by simpa [ucHdr] using hc
  obtain ⟨hst, hs, hu, hp, he⟩ := h
  obtain ⟨σ', hstep, hσ⟩ := uc_hdr_frame (i := i) hst hc'.2 fun h => absurd h hc'.1
  rcases hσ with ⟨-, rfl⟩ | ⟨-, rfl⟩ | ⟨h59, -⟩ | ⟨-, -, -, rfl⟩
  · exact ⟨_, hstep, by simp [UcHdrSt, hst, hs, hu, hp, he]⟩
  · exact ⟨_, hstep, by simp [UcHdrSt, hst, hs, hu, hp, he]⟩
  · exact absurd h59 hc'.1
  · exact ⟨_, hstep, hst, hs, hu, hp, he⟩

theorem uc_par_63 {i : Nat} {σ : UState} {s : Nat} {u : PsipURI} (h : UcParSt σ s u) (hs : s ≤ i) (hi : i ≤ 65535) :
    ∃ σ', uriStep i 63 σ = .next σ' ∧ UcHdrSt σ' (i + 1) { u with params := ⟨s, i - s⟩ } := by
  obtain ⟨hst, rfl, rfl, hp, he⟩ := h
  exact ⟨_, (UTr.par_quest hst rfl).eq,
    by simp [UcHdrSt, UState.setParams, set_eq _ _ hs hi, setPanics_false _ _ hs, hp, he]⟩

theorem uc_hdr_fin {n : Nat} {σ : UState} {s : Nat} {u : PsipURI} (h : UcHdrSt σ s u) (hs : s ≤ n) (hn : n ≤ 65535) :
    ucProj (uriFinish n σ) = (.none, n, ucOut { u with headers := ⟨s, n - s⟩ }, false) := by
  obtain ⟨hst, rfl, rfl, hp, he⟩ := h
  rw [(UFin.acc (.hdr hst he)).eq]
  exact (ucProj_uAccept n _).trans (by simp only [UState.setHeaders, set_eq _ _ hs hn, upnc hp hs])

theorem uc_par_fin {n : Nat} {σ : UState} {s : Nat} {u : PsipURI} (h : UcParSt σ s u) (hs : s ≤ n) (hn : n ≤ 65535) :
    ucProj (uriFinish n σ) = (.none, n, ucOut { u with params := ⟨s, n - s⟩ }, false) := by
  obtain ⟨hst, rfl, rfl, hp, -⟩ := h
  rw [(UFin.acc (.params hst)).eq]
  exact (ucProj_uAccept n _).trans (by simp only [UState.setParams, set_eq _ _ hs hn, upnc hp hs])

theorem uc_run_hdr {b : Buf} {i : Nat} {σ : UState} {s : Nat} {u : PsipURI} (h : UcHdrSt σ s u) (hs : s ≤ i)
    (hi : i ≤ b.size) (hall : UcAll b i b.size ucHdr) (hfit : b.size ≤ 65535) :
    ucRun b i σ = (.none, b.size, ucOut { u with headers := ⟨s, b.size - s⟩ }, false) := by
  obtain ⟨σ', hr, hP⟩ := ucRun_scan (f := ucHdr) (fun _ σ' => UcHdrSt σ' s u) hi (Nat.le_refl _) hall σ h
    (fun m c σ1 _ _ _ hf h1 => uc_hdr_step h1 hf)
  rw [hr, ucRun_end rfl]
  exact uc_hdr_fin hP (by omega) hfit

/-- the three ways on from the end `e` of a component: `;` to the parameters, `?` to the headers, end of input;
    `uX` = the components known once the one ending at `e` has been stored -/
structure UcGate (b : Buf) (e : Nat) (σ : UState) (uX : PsipURI) : Prop where
  par : b[e]? = some 59 → ∃ σ', uriStep e 59 σ = .next σ' ∧ UcParSt σ' (e + 1) uX
  hdr : b[e]? = some 63 → ∃ σ', uriStep e 63 σ = .next σ' ∧ UcHdrSt σ' (e + 1) uX
  fin : e = b.size → ucProj (uriFinish e σ) = (.none, e, ucOut uX, false)

theorem uc_upd_ph (u : PsipURI) (pa hd : PField) (h1 : u.params = pa) (h2 : u.headers = hd) :
    { u with params := pa, headers := hd } = u := by
  subst h1 h2
  rfl

theorem uc_hd_run {b : Buf} {e : Nat} {σ : UState} {uX : PsipURI} {hd : PField} (hfit : b.size ≤ 65535)
    (h63 : b[e]? = some 63 → ∃ σ', uriStep e 63 σ = .next σ' ∧ UcHdrSt σ' (e + 1) uX)
    (hfin : e = b.size → ucProj (uriFinish e σ) = (.none, e, ucOut uX, false))
    (hh0 : uX.headers = ⟨0, 0⟩) (hhd : UcHd b e hd) :
    ucRun b e σ = (.none, b.size, ucOut { uX with headers := hd }, false) := by
  rcases hhd with ⟨he, rfl⟩ | ⟨hc, rfl, hall⟩
  · rw [ucRun_end he, hfin he, he]
    congr 3
    exact congrArg ucOut (uc_upd_ph uX _ _ rfl hh0).symm
  · obtain ⟨σ', hs, hst⟩ := h63 hc
    have hlt := get?_lt hc
    rw [ucRun_next hc hs]
    exact uc_run_hdr hst (Nat.le_refl _) (by omega) hall hfit

theorem uc_gate_run {b : Buf} {e : Nat} {σ : UState} {uX : PsipURI} {pa hd : PField} (hg : UcGate b e σ uX)
    (hfit : b.size ≤ 65535) (hp0 : uX.params = ⟨0, 0⟩) (hh0 : uX.headers = ⟨0, 0⟩) (hpa : UcPa b e pa hd) :
    ucRun b e σ = (.none, b.size, ucOut { uX with params := pa, headers := hd }, false) := by
  rcases hpa with ⟨rfl, hhd⟩ | ⟨hc, e', hle, rfl, hall, hhd⟩
  · have := uc_hd_run hfit hg.hdr hg.fin hh0 hhd
    rw [this]
    congr 3
    exact congrArg ucOut (uc_upd_ph { uX with headers := hd } _ _ hp0 rfl).symm
  · obtain ⟨σ1, hs, hst⟩ := hg.par hc
    have hle' := hhd.le
    rw [ucRun_next hc hs]
    obtain ⟨σ', hr, hP⟩ := ucRun_scan (f := ucPar) (fun _ σ' => UcParSt σ' (e + 1) uX) hle hle' hall σ1 hst
      (fun m c σ2 _ _ _ hf h1 => uc_par_step h1 hf)
    rw [hr]
    have := uc_hd_run (uX := { uX with params := ⟨e + 1, e' - (e + 1)⟩ }) (hd := hd) hfit
      (fun hc' => uc_par_63 hP hle (by omega)) (fun he => by rw [he]; exact uc_par_fin hP (by omega) hfit)
      hh0 hhd
    rw [this]

/-- a gate read off the transitions: `;` / `?` at `e` store the same `σX` and go on to the parameters / headers, and
    the end-of-input switch accepts (`UAcc`) a state with the same components -/
theorem UcGate.of {b : Buf} {e : Nat} {σ σX σF : UState} {uX : PsipURI} (hu : σX.u = uX) (hp : σX.pnc = false)
    (heh : σX.errHeaders = false) (h59 : UTr e 59 σ (.next { σX with st := .param0, s := e + 1 }))
    (h63 : UTr e 63 σ (.next { σX with st := .headers, s := e + 1 })) (hfin : UAcc e σ σF)
    (huF : σF.u = uX) (hpF : σF.pnc = false) : UcGate b e σ uX := by
  refine ⟨fun _ => ⟨_, h59.eq, .inl rfl, rfl, hu, hp, heh⟩, fun _ => ⟨_, h63.eq, rfl, rfl, hu, hp, heh⟩, fun _ => ?_⟩
  rw [(UFin.acc hfin).eq]
  exact (ucProj_uAccept e σF).trans (by rw [huF, hpF])

theorem uc_gate_host {b : Buf} {e : Nat} {σ : UState} (hst : σ.st = .host1 ∨ σ.st = .host6E) (hs : σ.s ≤ e)
    (he : e ≤ 65535) (hp : σ.pnc = false) (heh : σ.errHeaders = false) :
    UcGate b e σ { σ.u with host := ⟨σ.s, e - σ.s⟩ } :=
  have hu : (σ.setHost σ.s e).u = { σ.u with host := ⟨σ.s, e - σ.s⟩ } := by simp only [UState.setHost, set_eq _ _ hs he]
  .of hu (upnc hp hs) heh (.host_semi hst rfl) (.host_quest hst rfl) (.host hst) hu (upnc hp hs)

/-- the end of a host read in `user` (no '@' seen: what was read is the host) -/
theorem uc_gate_user {b : Buf} {e : Nat} {σ : UState} (hst : σ.st = .user) (hs : σ.s ≤ e)
    (he : e ≤ 65535) (hp : σ.pnc = false) (heh : σ.errHeaders = false) (hfu : σ.foundUser = false) :
    UcGate b e σ { σ.u with host := ⟨σ.s, e - σ.s⟩ } :=
  have hu : (σ.setHost σ.s e).u = { σ.u with host := ⟨σ.s, e - σ.s⟩ } := by simp only [UState.setHost, set_eq _ _ hs he]
  .of hu (upnc hp hs) heh (.user_semi hst rfl) (.user_quest hst rfl) (.user hst hfu) hu (upnc hp hs)

theorem uc_gate_port {b : Buf} {e : Nat} {σ : UState} (hst : σ.st = .port) (hs : σ.s ≤ e)
    (he : e ≤ 65535) (hp : σ.pnc = false) (heh : σ.errHeaders = false) (hpn : σ.portNo ≤ 65535) :
    UcGate b e σ { σ.u with port := ⟨σ.s, e - σ.s⟩, portNo := σ.portNo } :=
  have hu : ({ (σ.setPort σ.s e).u with portNo := σ.portNo } : PsipURI) =
      { σ.u with port := ⟨σ.s, e - σ.s⟩, portNo := σ.portNo } := by simp only [UState.setPort, set_eq _ _ hs he]
  .of (σX := { σ.setPort σ.s e with u := { (σ.setPort σ.s e).u with portNo := σ.portNo } })
    hu (upnc hp hs) heh (.port_semi hst rfl hpn) (.port_quest hst rfl hpn) (.port hst hpn) hu (upnc hp hs)

/-- the end of the digits read in `pass0` (no '@' seen: they are the port, and the "user" is the host) -/
theorem uc_gate_pass0 {b : Buf} {e : Nat} {σ : UState} (hst : σ.st = .pass0) (hs : σ.s ≤ e)
    (he : e ≤ 65535) (hp : σ.pnc = false) (heh : σ.errHeaders = false) (hpn : σ.portNo ≤ 65535)
    (hfu : σ.foundUser = false) :
    UcGate b e σ { σ.u with port := ⟨σ.s, e - σ.s⟩, portNo := σ.portNo, host := σ.u.user, user := {} } :=
  have hu : ({ (σ.setPort σ.s e).u with portNo := σ.portNo, host := σ.u.user, user := {} } : PsipURI) =
      { σ.u with port := ⟨σ.s, e - σ.s⟩, portNo := σ.portNo, host := σ.u.user, user := {} } := by
    simp only [UState.setPort, set_eq _ _ hs he]
  .of (σX := { σ.setPort σ.s e with
      u := { (σ.setPort σ.s e).u with portNo := σ.portNo, host := σ.u.user, user := {} }, foundUser := true })
    hu (upnc hp hs) heh (.pass0_semi hst rfl hpn) (.pass0_quest hst rfl hpn) (.pass0 hst hfu hpn) hu (upnc hp hs)

theorem uc_digit_step {m : Nat} {c : UInt8} {σ : UState} (hst : σ.st = .port ∨ σ.st = .pass0) (hc : isDigit c = true) :
    uriStep m c σ = .next { σ with portNo := accPort σ.portNo c } :=
  hst.elim (fun h => (UTr.port_digit h hc).eq) fun h => (UTr.pass0_digit h hc).eq

theorem uc_run_digits {b : Buf} {i j : Nat} {σ : UState} (hst : σ.st = .port ∨ σ.st = .pass0) (hij : i ≤ j)
    (hj : j ≤ b.size) (hall : UcAll b i j isDigit) :
    ucRun b i σ = ucRun b j { σ with portNo := accPortL σ.portNo (digitsOf b i j) } := by
  obtain ⟨σ', hr, hP⟩ := ucRun_scan (f := isDigit)
    (fun m σ' => i ≤ m ∧ σ' = { σ with portNo := accPortL σ.portNo (digitsOf b i m) }) hij hj hall σ
    ⟨Nat.le_refl _, by rw [digitsOf_self]; rfl⟩
    (fun m c σ1 _ _ hc hf h1 => by
      obtain ⟨hm, rfl⟩ := h1
      refine ⟨_, uc_digit_step (by exact hst) hf, by omega, ?_⟩
      rw [digitsOf_snoc b i m c hm hc, accPortL_snoc])
  rw [hr, hP.2]

theorem uc_acc_val {l : List UInt8} (h : decOf l ≤ 65535) : accPortL 0 l = decOf l :=
  (accPortL_spec l 0).1 h

theorem uc_upd_port (u : PsipURI) (h1 : u.port = ⟨0, 0⟩) (h2 : u.portNo = 0) (ho : PField) (pa hd : PField) :
    { u with host := ho, port := ⟨0, 0⟩, portNo := 0, params := pa, headers := hd } =
    { u with host := ho, params := pa, headers := hd } := by
  rcases u with ⟨a1, a2, a3, a4, a5, a6, a7, a8, a9⟩
  simp only at h1 h2
  subst h1 h2
  rfl

theorem uc_tail_host {b : Buf} {he : Nat} {σ : UState} {po pa hd : PField} {pn : Nat}
    (hst : σ.st = .host1 ∨ σ.st = .host6E) (hs : σ.s ≤ he) (hfit : b.size ≤ 65535)
    (hp : σ.pnc = false) (heh : σ.errHeaders = false) (hpn : σ.portNo = 0)
    (h1 : σ.u.port = ⟨0, 0⟩) (h2 : σ.u.portNo = 0) (h3 : σ.u.params = ⟨0, 0⟩) (h4 : σ.u.headers = ⟨0, 0⟩)
    (hpo : UcPo b he po pn pa hd) :
    ucRun b he σ = (.none, b.size,
      ucOut { σ.u with host := ⟨σ.s, he - σ.s⟩, port := po, portNo := pn, params := pa, headers := hd }, false) := by
  rcases hpo with ⟨rfl, rfl, hpa⟩ | ⟨hc, e, hle, rfl, hall, rfl, hle2, hpa⟩
  · have := hpa.le
    rw [uc_gate_run (uc_gate_host hst hs (by omega) hp heh) hfit h3 h4 hpa, uc_upd_port _ h1 h2]
  · have he' := hpa.le
    rw [ucRun_next hc (UTr.host_colon hst rfl).eq, uc_run_digits (.inl rfl) hle he' hall]
    refine (uc_gate_run (uc_gate_port rfl ?_ (by omega) ?_ ?_ ?_) hfit ?_ ?_ hpa).trans ?_
    · exact hle
    · exact upnc hp hs
    · exact heh
    · simp only [UState.setHost, hpn, uc_acc_val hle2]
      exact hle2
    · exact h3
    · exact h4
    · simp only [UState.setHost, set_eq _ _ hs (show he ≤ 65535 by omega), hpn, uc_acc_val hle2]

theorem uc_tail_user {b : Buf} {he : Nat} {σ : UState} {po pa hd : PField} {pn : Nat}
    (hst : σ.st = .user) (hs : σ.s ≤ he) (hfit : b.size ≤ 65535)
    (hp : σ.pnc = false) (heh : σ.errHeaders = false) (hpn : σ.portNo = 0) (hfu : σ.foundUser = false)
    (h0 : σ.u.user = ⟨0, 0⟩)
    (h1 : σ.u.port = ⟨0, 0⟩) (h2 : σ.u.portNo = 0) (h3 : σ.u.params = ⟨0, 0⟩) (h4 : σ.u.headers = ⟨0, 0⟩)
    (hpo : UcPo b he po pn pa hd) :
    ucRun b he σ = (.none, b.size,
      ucOut { σ.u with host := ⟨σ.s, he - σ.s⟩, port := po, portNo := pn, params := pa, headers := hd }, false) := by
  rcases hpo with ⟨rfl, rfl, hpa⟩ | ⟨hc, e, hle, rfl, hall, rfl, hle2, hpa⟩
  · have := hpa.le
    rw [uc_gate_run (uc_gate_user hst hs (by omega) hp heh hfu) hfit h3 h4 hpa, uc_upd_port _ h1 h2]
  · have he' := hpa.le
    rw [ucRun_next hc (UTr.user_colon hst rfl).eq, uc_run_digits (.inr rfl) hle he' hall]
    refine (uc_gate_run (uc_gate_pass0 rfl ?_ (by omega) ?_ ?_ ?_ ?_) hfit ?_ ?_ hpa).trans ?_
    · exact hle
    · exact upnc hp hs
    · exact heh
    · simp only [UState.setUser, hpn, uc_acc_val hle2]
      exact hle2
    · exact hfu
    · exact h3
    · exact h4
    · simp only [UState.setUser, set_eq _ _ hs (show he ≤ 65535 by omega), hpn, uc_acc_val hle2, h0]

/-! ### hosts -/

theorem uc_user_tok {i : Nat} {c : UInt8} {σ : UState} (hst : σ.st = .user) (hc : ucTok c = true) :
    uriStep i c σ = .next σ :=
  (UTr.user_tok hst (by simpa [ucTok, and_assoc] using hc)).eq

theorem uc_host1_stay {i : Nat} {c : UInt8} {σ : UState} (hst : σ.st = .host1) (hc : ucHost c = true) :
    uriStep i c σ = .next σ :=
  (UTr.host1_tok hst (by simpa [ucHost, and_comm, and_assoc, and_left_comm] using hc)).eq

theorem uc_host61_stay {i : Nat} {c : UInt8} {σ : UState} (hst : σ.st = .host61) (hc : ucBrIn c = true) :
    uriStep i c σ = .next σ :=
  (UTr.host61_tok hst (by simpa [ucBrIn, and_comm, and_assoc, and_left_comm] using hc)).eq

theorem uc_host0_first {i : Nat} {c : UInt8} {σ : UState} (hst : σ.st = .host0) (hc : ucHost0 c = true) :
    uriStep i c σ = .next { σ with st := .host1 } :=
  (UTr.host0_tok hst (by simpa [ucHost0, ucHost, and_comm, and_assoc, and_left_comm] using hc)).eq

theorem uc_init_first {i : Nat} {c : UInt8} {σ : UState} (hst : σ.st = .initSIP ∨ σ.st = .initSIPS ∨ σ.st = .initTEL)
    (hc : ucFirst c = true) : uriStep i c σ = .next { σ with st := .user, s := i } :=
  (UTr.init_tok hst (by simpa [ucFirst, and_assoc] using hc)).eq

theorem uc_run_br {b : Buf} {s e : Nat} {σ : UState} (hst : σ.st = .host61) (hbr : UcBrHost b s e) (he : e ≤ b.size) :
    ucRun b (s + 1) σ = ucRun b e { σ with st := .host6E } := by
  obtain ⟨h91, hle, h93, hall⟩ := hbr
  rw [ucRun_stay (by omega) (by omega) hall (fun m c hf => uc_host61_stay hst hf)]
  rw [ucRun_next h93 (UTr.host61_close hst rfl).eq]
  have : e - 1 + 1 = e := by omega
  rw [this]

theorem uc_from_host0 {b : Buf} {hs he : Nat} {σ : UState} {po pa hd : PField} {pn : Nat}
    (hst : σ.st = .host0) (hss : σ.s = hs) (hfit : b.size ≤ 65535)
    (hp : σ.pnc = false) (heh : σ.errHeaders = false) (hpn : σ.portNo = 0)
    (h1 : σ.u.port = ⟨0, 0⟩) (h2 : σ.u.portNo = 0) (h3 : σ.u.params = ⟨0, 0⟩) (h4 : σ.u.headers = ⟨0, 0⟩)
    (hh : UcNameHost b hs he ∨ UcBrHost b hs he) (hpo : UcPo b he po pn pa hd) :
    ucRun b hs σ = (.none, b.size,
      ucOut { σ.u with host := ⟨hs, he - hs⟩, port := po, portNo := pn, params := pa, headers := hd }, false) := by
  have hhe := hpo.le
  subst hss
  rcases hh with ⟨hlt, hf, hall⟩ | hbr
  · obtain ⟨c, hc⟩ := uget b (σ.s) (by omega)
    rw [ucRun_next hc (uc_host0_first hst (hf σ.s (Nat.le_refl _) (by omega) c hc)),
      ucRun_stay (σ := { σ with st := .host1 }) (by omega) hhe hall (fun m c hf => uc_host1_stay rfl hf)]
    exact uc_tail_host (σ := { σ with st := .host1 }) (Or.inl rfl) (by simp only; omega) hfit hp heh hpn h1 h2 h3 h4 hpo
  · rw [ucRun_next hbr.1 (UTr.host0_br hst rfl).eq, uc_run_br rfl hbr hhe]
    have := hbr.2.1
    exact uc_tail_host (σ := { σ with st := .host6E }) (Or.inr rfl) (by simp only; omega) hfit hp heh hpn h1 h2 h3 h4 hpo

theorem uc_from_init_br {b : Buf} {k he : Nat} {σ : UState} {po pa hd : PField} {pn : Nat}
    (hst : σ.st = .initSIP ∨ σ.st = .initSIPS ∨ σ.st = .initTEL) (hfit : b.size ≤ 65535)
    (hp : σ.pnc = false) (heh : σ.errHeaders = false) (hpn : σ.portNo = 0)
    (h1 : σ.u.port = ⟨0, 0⟩) (h2 : σ.u.portNo = 0) (h3 : σ.u.params = ⟨0, 0⟩) (h4 : σ.u.headers = ⟨0, 0⟩)
    (hbr : UcBrHost b k he) (hpo : UcPo b he po pn pa hd) :
    ucRun b k σ = (.none, b.size,
      ucOut { σ.u with host := ⟨k, he - k⟩, port := po, portNo := pn, params := pa, headers := hd }, false) := by
  have hhe := hpo.le
  rw [ucRun_next hbr.1 (UTr.init_br hst rfl).eq, uc_run_br rfl hbr hhe]
  have := hbr.2.1
  exact uc_tail_host (σ := { σ with st := .host6E, s := k }) (Or.inr rfl) (by simp only; omega) hfit hp heh hpn h1 h2 h3 h4 hpo

theorem uc_from_init_tok {b : Buf} {k he : Nat} {σ : UState} {po pa hd : PField} {pn : Nat}
    (hst : σ.st = .initSIP ∨ σ.st = .initSIPS ∨ σ.st = .initTEL) (hfit : b.size ≤ 65535)
    (hp : σ.pnc = false) (heh : σ.errHeaders = false) (hpn : σ.portNo = 0) (hfu : σ.foundUser = false)
    (h0 : σ.u.user = ⟨0, 0⟩)
    (h1 : σ.u.port = ⟨0, 0⟩) (h2 : σ.u.portNo = 0) (h3 : σ.u.params = ⟨0, 0⟩) (h4 : σ.u.headers = ⟨0, 0⟩)
    (hh : UcFirstTok b k he) (hpo : UcPo b he po pn pa hd) :
    ucRun b k σ = (.none, b.size,
      ucOut { σ.u with host := ⟨k, he - k⟩, port := po, portNo := pn, params := pa, headers := hd }, false) := by
  have hhe := hpo.le
  obtain ⟨hlt, hf, hall⟩ := hh
  obtain ⟨c, hc⟩ := uget b k (by omega)
  rw [ucRun_next hc (uc_init_first hst (hf k (Nat.le_refl _) (by omega) c hc)),
    ucRun_stay (σ := { σ with st := .user, s := k }) (by omega) hhe hall (fun m c hf => uc_user_tok rfl hf)]
  exact uc_tail_user (σ := { σ with st := .user, s := k }) rfl (by simp only; omega) hfit hp heh hpn hfu h0 h1 h2 h3 h4 hpo

/-! ### the user-info in front of '@' -/

/-- the state right behind the '@' at `a`: user and password stored and settled, everything else blank -/
def UcHost0St (σ : UState) (a t k : Nat) (us pw : PField) : Prop :=
  σ.st = .host0 ∧ σ.s = a + 1 ∧ σ.portNo = 0 ∧ σ.errHeaders = false ∧ σ.pnc = false ∧
  σ.u = { uriType := t, scheme := ⟨0, k⟩, user := us, pass := pw } ∧ σ.foundUser = true

/-- reading a password behind `user:` (`pass0` while only digits were seen, then `pass1`) -/
def UcPassSt (σ : UState) (s : Nat) (u : PsipURI) : Prop :=
  (σ.st = .pass0 ∨ (σ.st = .pass1 ∧ σ.portNo = 0)) ∧ σ.s = s ∧ σ.u = u ∧ σ.pnc = false ∧ σ.errHeaders = false

theorem uc_pass_step {i : Nat} {c : UInt8} {σ : UState} {s : Nat} {u : PsipURI} (h : UcPassSt σ s u)
    (hc : ucTok c = true) : ∃ σ', uriStep i c σ = .next σ' ∧ UcPassSt σ' s u := by
  obtain ⟨h64, h58, h59, h63, h91, h93⟩ :
      c ≠ 64 ∧ c ≠ 58 ∧ c ≠ 59 ∧ c ≠ 63 ∧ c ≠ 91 ∧ c ≠ 93 := by simpa [ucTok, and_assoc] using hc
  obtain ⟨hst, hs, hu, hp, he⟩ := h
  rcases hst with hst | ⟨hst, hpn⟩
  · by_cases hd : isDigit c = true
    · exact ⟨_, (UTr.pass0_digit hst hd).eq, .inl hst, hs, hu, hp, he⟩
    · exact ⟨_, (UTr.pass0_tok hst ⟨h64, h59, h63, by simpa using hd, h91, h93, h58⟩).eq, .inr ⟨rfl, rfl⟩, hs, hu, hp, he⟩
  · exact ⟨_, (UTr.pass1_tok hst ⟨h64, h59, h63, h91, h93, h58⟩).eq, .inr ⟨hst, hpn⟩, hs, hu, hp, he⟩

theorem uc_pass_at {i : Nat} {σ : UState} {s t k : Nat} {us : PField} (h : UcPassSt σ s { uriType := t, scheme := ⟨0, k⟩, user := us })
    (hs : s ≤ i) (hi : i ≤ 65535) :
    ∃ σ', uriStep i 64 σ = .next σ' ∧ UcHost0St σ' i t k us ⟨s, i - s⟩ := by
  obtain ⟨hst, rfl, hu, hp, he⟩ := h
  rcases hst with hst | ⟨hst, hpn⟩
  · exact ⟨_, (UTr.pass0_at hst rfl).eq,
      by simp [UcHost0St, UState.setPass, set_eq _ _ hs hi, setPanics_false _ _ hs, hp, he, hu]⟩
  · exact ⟨_, (UTr.pass1_at hst rfl).eq,
      by simp [UcHost0St, UState.setPass, set_eq _ _ hs hi, setPanics_false _ _ hs, hp, he, hu, hpn]⟩

theorem uc_user_at {i : Nat} {σ : UState} {t k : Nat} (hst : σ.st = .user) (hs : σ.s = k) (hk : k ≤ i) (hi : i ≤ 65535)
    (hpn : σ.portNo = 0) (heh : σ.errHeaders = false) (hp : σ.pnc = false)
    (hu : σ.u = { uriType := t, scheme := ⟨0, k⟩ }) :
    ∃ σ', uriStep i 64 σ = .next σ' ∧ UcHost0St σ' i t k ⟨k, i - k⟩ ⟨0, 0⟩ := by
  exact ⟨_, (UTr.user_at hst rfl).eq,
    by simp [UcHost0St, UState.setUser, hs, set_eq _ _ hk hi, setPanics_false _ _ hk, hpn, heh, hp, hu]⟩

theorem uc_user_colon {i : Nat} {σ : UState} {t k : Nat} (hst : σ.st = .user) (hs : σ.s = k) (hk : k ≤ i) (hi : i ≤ 65535)
    (heh : σ.errHeaders = false) (hp : σ.pnc = false)
    (hu : σ.u = { uriType := t, scheme := ⟨0, k⟩ }) :
    ∃ σ', uriStep i 58 σ = .next σ' ∧ UcPassSt σ' (i + 1) { uriType := t, scheme := ⟨0, k⟩, user := ⟨k, i - k⟩ } := by
  exact ⟨_, (UTr.user_colon hst rfl).eq,
    by simp [UcPassSt, UState.setUser, hs, set_eq _ _ hk hi, setPanics_false _ _ hk, heh, hp, hu]⟩

theorem uc_run_user_plain {b : Buf} {k a t : Nat} {σ : UState} {us pw : PField} (hi : UcInitSt σ t k)
    (hfit : b.size ≤ 65535) (hat : b[a]? = some 64) (hu : UcUserPlain b k a us pw) :
    ∃ σ', ucRun b k σ = ucRun b (a + 1) σ' ∧ UcHost0St σ' a t k us pw := by
  have halt := get?_lt hat
  obtain ⟨ue, ⟨hlt, hf, hall⟩, rfl, hrest⟩ := hu
  obtain ⟨hst, hfu, hpo, hpn, heh, hp, hu0⟩ := hi
  have hue : ue ≤ a := by
    rcases hrest with ⟨h, _⟩ | ⟨_, h, _⟩ <;> omega
  obtain ⟨c, hc⟩ := uget b k (by omega)
  rw [ucRun_next hc (uc_init_first hst (hf k (Nat.le_refl _) (by omega) c hc)),
    ucRun_stay (σ := { σ with st := .user, s := k }) (by omega) (by omega) hall (fun m c hf => uc_user_tok rfl hf)]
  rcases hrest with ⟨rfl, rfl⟩ | ⟨h58, hle, rfl, hall2⟩
  · obtain ⟨σ', hs', hh⟩ := uc_user_at (σ := { σ with st := .user, s := k }) (i := ue) (k := k) rfl rfl (Nat.le_of_lt hlt) (by omega) hpn heh hp hu0
    exact ⟨σ', ucRun_next hat hs', hh⟩
  · obtain ⟨σ1, hs1, hh1⟩ := uc_user_colon (σ := { σ with st := .user, s := k }) (i := ue) (k := k) rfl rfl (Nat.le_of_lt hlt) (by omega) heh hp hu0
    obtain ⟨σ2, hr2, hh2⟩ := ucRun_scan (f := ucTok) (fun _ σ' => UcPassSt σ' (ue + 1) _) hle (Nat.le_of_lt halt)
      hall2 σ1 hh1 (fun m c σ2 _ _ _ hf h1 => uc_pass_step h1 hf)
    obtain ⟨σ3, hs3, hh3⟩ := uc_pass_at hh2 hle (by omega)
    exact ⟨σ3, by rw [ucRun_next h58 hs1, hr2, ucRun_next hat hs3], hh3⟩

/-! #### back-tracking: a user part that contains `;` or `?` is first read as host / parameters / headers -/

/-- in parameters / headers with no '@' seen and no `:` remembered; `i` = next byte -/
def UcBackSt (σ : UState) (t k i : Nat) : Prop :=
  (σ.st = .param0 ∨ σ.st = .param1 ∨ σ.st = .headers) ∧ σ.foundUser = false ∧ σ.passOffs = 0 ∧
  σ.u.host.offs = k ∧ σ.u.scheme = ⟨0, k⟩ ∧ σ.u.uriType = t ∧ σ.pnc = false ∧ σ.s ≤ i

/-- the same with the first `:` remembered at `q` -/
def UcBack2St (σ : UState) (t k q : Nat) : Prop :=
  (σ.st = .param0 ∨ σ.st = .param1 ∨ σ.st = .headers) ∧ σ.foundUser = false ∧ σ.passOffs = q ∧
  σ.u.host.offs = k ∧ σ.u.scheme = ⟨0, k⟩ ∧ σ.u.uriType = t ∧ σ.pnc = false

theorem uc_back_step {i : Nat} {c : UInt8} {σ : UState} {t k : Nat} (h : UcBackSt σ t k i) (hc : ucW1 c = true) :
    ∃ σ', uriStep i c σ = .next σ' ∧ UcBackSt σ' t k (i + 1) := by
  obtain ⟨h64, h58⟩ : c ≠ 64 ∧ c ≠ 58 := by simpa [ucW1] using hc
  obtain ⟨hst, hfu, hpo, hho, hsc, hty, hp, hs⟩ := h
  have hse : uSettle σ = σ := by simp [uSettle, hpo]
  rcases hst with hst | hst | hst
  iterate 2
    by_cases h63 : c = 63
    · exact ⟨_, (UTr.par_quest (by simp [hst]) h63).eq,
        by simp [UcBackSt, uSettle, UState.setParams, hfu, hpo, hho, hsc, hty, upnc hp hs]⟩
    · obtain ⟨σ', hs', hσ⟩ := uc_par_frame (i := i) (σ := σ) (by simp [hst]) h63 h64
      rcases hσ with ⟨h, -⟩ | ⟨-, rfl⟩ | ⟨-, -, rfl⟩
      · exact absurd h h58
      · exact ⟨_, hs', by rw [hse]; exact ⟨.inl rfl, hfu, hpo, hho, hsc, hty, hp, Nat.le_succ_of_le hs⟩⟩
      · exact ⟨_, hs', .inr (.inl rfl), hfu, hpo, hho, hsc, hty, hp, Nat.le_succ_of_le hs⟩
  · obtain ⟨σ', hs', hσ⟩ := uc_hdr_frame (i := i) hst h64 fun _ => ⟨hfu, hpo⟩
    rcases hσ with ⟨h, -⟩ | ⟨-, rfl⟩ | ⟨-, rfl⟩ | ⟨-, -, -, rfl⟩
    · exact absurd h h58
    · exact ⟨_, hs', by rw [hse]; exact ⟨.inr (.inr hst), hfu, hpo, hho, hsc, hty, hp, Nat.le_succ_of_le hs⟩⟩
    · exact ⟨_, hs', .inr (.inr hst), hfu, hpo, hho, hsc, hty, hp, Nat.le_succ_of_le hs⟩
    · exact ⟨_, hs', .inr (.inr hst), hfu, hpo, hho, hsc, hty, hp, Nat.le_succ_of_le hs⟩

theorem uc_back_colon {i : Nat} {σ : UState} {t k : Nat} (h : UcBackSt σ t k i) :
    ∃ σ', uriStep i 58 σ = .next σ' ∧ UcBack2St σ' t k i := by
  obtain ⟨hst, hfu, hpo, hho, hsc, hty, hp, -⟩ := h
  have hm : uMarkColon i σ = { σ with passOffs := i } := by simp [uMarkColon, hfu, hpo]
  rcases hst with hst | hst | hst
  · exact ⟨_, (UTr.par_colon (.inl hst) rfl).eq, by rw [hm]; exact ⟨.inr (.inl rfl), hfu, rfl, hho, hsc, hty, hp⟩⟩
  · exact ⟨_, (UTr.par_colon (.inr hst) rfl).eq, by rw [hm]; exact ⟨.inr (.inl rfl), hfu, rfl, hho, hsc, hty, hp⟩⟩
  · exact ⟨_, (UTr.hdr_colon hst rfl).eq, by rw [hm]; exact ⟨.inr (.inr hst), hfu, rfl, hho, hsc, hty, hp⟩⟩

theorem uc_back2_step {i : Nat} {c : UInt8} {σ : UState} {t k q : Nat} (h : UcBack2St σ t k q) (hc : ucW2 c = true) :
    ∃ σ', uriStep i c σ = .next σ' ∧ UcBack2St σ' t k q := by
  obtain ⟨h64, h58, h59, h63⟩ : c ≠ 64 ∧ c ≠ 58 ∧ c ≠ 59 ∧ c ≠ 63 := by simpa [ucW2, and_assoc] using hc
  obtain ⟨hst, hrest⟩ := h
  rcases hst with hst | hst | hst
  · exact ⟨_, (UTr.par_tok (.inl hst) ⟨h64, h58, h59, h63⟩).eq, .inr (.inl rfl), hrest⟩
  · exact ⟨_, (UTr.par_tok (.inr hst) ⟨h64, h58, h59, h63⟩).eq, .inr (.inl rfl), hrest⟩
  · exact ⟨_, (UTr.hdr_tok hst ⟨h64, h59, h58, h63⟩).eq, .inr (.inr hst), hrest⟩

theorem uc_u_eq (u : PsipURI) (t k : Nat) (us pw : PField) (h1 : u.uriType = t) (h2 : u.scheme = ⟨0, k⟩) :
    ({ uriType := u.uriType, scheme := u.scheme, user := us, pass := pw, host := {}, port := {}, params := {},
       headers := {}, portNo := 0 } : PsipURI) = { uriType := t, scheme := ⟨0, k⟩, user := us, pass := pw } := by
  rw [h1, h2]

/-- '@' with no `:` remembered: all that was read since the scheme is the user -/
theorem uc_back_at {i : Nat} {σ : UState} {t k : Nat} (h : UcBackSt σ t k i) (hk : k ≤ i) (hi : i ≤ 65535) :
    ∃ σ', uriStep i 64 σ = .next σ' ∧ UcHost0St σ' i t k ⟨k, i - k⟩ ⟨0, 0⟩ := by
  obtain ⟨hst, hfu, hpo, hho, hsc, hty, hp, hs⟩ := h
  exact ⟨_, (UTr.at_user hst rfl hfu hpo).eq,
    by simp [UcHost0St, uAtReset, UState.setUser, hho, set_eq _ _ hk hi, setPanics_false _ _ hk, hsc, hty, hp]⟩

/-- '@' with the first `:` remembered at `q`: user in front of it, password behind it -/
theorem uc_back2_at {i : Nat} {σ : UState} {t k q : Nat} (h : UcBack2St σ t k q) (hq : q ≠ 0) (hk : k ≤ q)
    (hqi : q + 1 ≤ i) (hi : i ≤ 65535) :
    ∃ σ', uriStep i 64 σ = .next σ' ∧ UcHost0St σ' i t k ⟨k, q - k⟩ ⟨q + 1, i - (q + 1)⟩ := by
  obtain ⟨hst, hfu, hpo, hho, hsc, hty, hp⟩ := h
  exact ⟨_, (UTr.at_pass hst rfl hfu (hpo ▸ hq)).eq,
    by simp [UcHost0St, uAtReset, UState.setUser, UState.setPass, hho, hpo, set_eq _ _ hk (show q ≤ 65535 by omega),
      setPanics_false _ _ hk, set_eq _ _ hqi hi, setPanics_false _ _ hqi, hsc, hty, hp]⟩

theorem uc_back_entry {d : Nat} {c : UInt8} {σ : UState} {t k : Nat} (hc : c = 59 ∨ c = 63)
    (hst : ((σ.st = .user ∨ σ.st = .host6E) ∧ σ.s = k) ∨ (σ.st = .port ∧ σ.u.host.offs = k ∧ σ.portNo ≤ 65535))
    (hs : σ.s ≤ d) (hd : d ≤ 65535)
    (hfu : σ.foundUser = false) (hpo : σ.passOffs = 0) (hp : σ.pnc = false)
    (hsc : σ.u.scheme = ⟨0, k⟩) (hty : σ.u.uriType = t) :
    ∃ σ', uriStep d c σ = .next σ' ∧ UcBackSt σ' t k (d + 1) := by
  have hset := set_eq _ _ hs hd
  have hsp := setPanics_false _ _ hs
  rcases hst with ⟨h | h, rfl⟩ | ⟨h, hho, hpn⟩ <;> rcases hc with rfl | rfl
  · exact ⟨_, (UTr.user_semi h rfl).eq, by simp [UcBackSt, UState.setHost, hset, hsp, hfu, hpo, hp, hsc, hty]⟩
  · exact ⟨_, (UTr.user_quest h rfl).eq, by simp [UcBackSt, UState.setHost, hset, hsp, hfu, hpo, hp, hsc, hty]⟩
  · exact ⟨_, (UTr.host_semi (.inr h) rfl).eq, by simp [UcBackSt, UState.setHost, hset, hsp, hfu, hpo, hp, hsc, hty]⟩
  · exact ⟨_, (UTr.host_quest (.inr h) rfl).eq, by simp [UcBackSt, UState.setHost, hset, hsp, hfu, hpo, hp, hsc, hty]⟩
  · exact ⟨_, (UTr.port_semi h rfl hpn).eq, by simp [UcBackSt, UState.setPort, hsp, hfu, hpo, hp, hsc, hty, hho]⟩
  · exact ⟨_, (UTr.port_quest h rfl hpn).eq, by simp [UcBackSt, UState.setPort, hsp, hfu, hpo, hp, hsc, hty, hho]⟩

theorem uc_run_back_head {b : Buf} {k d t : Nat} {c : UInt8} {σ : UState} (hi : UcInitSt σ t k)
    (hfit : b.size ≤ 65535) (hh : UcBackHead b k d) (hc : c = 59 ∨ c = 63) (hd : b[d]? = some c) :
    ∃ σ', ucRun b k σ = ucRun b (d + 1) σ' ∧ UcBackSt σ' t k (d + 1) := by
  have hdlt := get?_lt hd
  obtain ⟨hst, hfu, hpo, hpn, heh, hp, hu0⟩ := hi
  have hsc : σ.u.scheme = ⟨0, k⟩ := by rw [hu0]
  have hty : σ.u.uriType = t := by rw [hu0]
  rcases hh with ⟨hlt, hf, hall⟩ | hbr | ⟨e, hbr, h58, hle, hall, hval⟩
  · obtain ⟨c0, hc0⟩ := uget b k (by omega)
    obtain ⟨σ', hs', hb'⟩ := uc_back_entry (σ := { σ with st := .user, s := k }) (d := d) (t := t) (k := k) hc
      (Or.inl ⟨Or.inl rfl, rfl⟩) (Nat.le_of_lt hlt) (by omega) hfu hpo hp hsc hty
    exact ⟨σ', by
      rw [ucRun_next hc0 (uc_init_first hst (hf k (Nat.le_refl _) (by omega) c0 hc0)),
        ucRun_stay (σ := { σ with st := .user, s := k }) (by omega) (by omega) hall (fun m c hf => uc_user_tok rfl hf),
        ucRun_next hd hs'], hb'⟩
  · have := hbr.2.1
    obtain ⟨σ', hs', hb'⟩ := uc_back_entry (σ := { σ with st := .host6E, s := k }) (d := d) (t := t) (k := k) hc
      (Or.inl ⟨Or.inr rfl, rfl⟩) (by simp only; omega) (by omega) hfu hpo hp hsc hty
    exact ⟨σ', by rw [ucRun_next hbr.1 (UTr.init_br hst rfl).eq, uc_run_br rfl hbr (by omega), ucRun_next hd hs'], hb'⟩
  · have := hbr.2.1
    have hstep2 : uriStep e 58 { σ with st := .host6E, s := k } =
        .next { ({ σ with st := .host6E, s := k } : UState).setHost k e with st := .port, s := e + 1 } :=
      (UTr.host_colon (.inr rfl) rfl).eq
    have e1 : PField.set k e = ⟨k, e - k⟩ := set_eq _ _ (by omega) (by omega)
    have e2 : PField.setPanics k e = false := setPanics_false _ _ (by omega)
    obtain ⟨σ', hs', hb'⟩ := uc_back_entry
      (σ := { ({ ({ σ with st := .host6E, s := k } : UState).setHost k e with st := .port, s := e + 1 } : UState) with
        portNo := accPortL 0 (digitsOf b (e + 1) d) }) (d := d) (t := t) (k := k) hc
      (Or.inr ⟨rfl, by simp only [UState.setHost, e1], by simp only; rw [uc_acc_val hval]; exact hval⟩)
      (by simp only; omega) (by omega) hfu hpo (by simp only [UState.setHost, e2, hp, Bool.or_false]) hsc hty
    refine ⟨σ', ?_, hb'⟩
    rw [ucRun_next hbr.1 (UTr.init_br hst rfl).eq, uc_run_br rfl hbr (by omega), ucRun_next h58 hstep2,
      uc_run_digits (Or.inl rfl) hle (by omega) hall]
    simp only [UState.setHost, hpn]
    simp only [UState.setHost, hpn] at hs'
    rw [ucRun_next hd hs']

theorem uc_run_user_back {b : Buf} {k a t : Nat} {σ : UState} {us pw : PField} (hi : UcInitSt σ t k)
    (hfit : b.size ≤ 65535) (hat : b[a]? = some 64) (hu : UcUserBack b k a us pw) :
    ∃ σ', ucRun b k σ = ucRun b (a + 1) σ' ∧ UcHost0St σ' a t k us pw := by
  have halt := get?_lt hat
  obtain ⟨d, ue, hh, hd, hle, hall, rfl, hrest⟩ := hu
  have hkd := hh.lt
  have hue : ue ≤ a := by
    rcases hrest with ⟨h, _⟩ | ⟨_, h, _⟩ <;> omega
  obtain ⟨c, hc, hdc⟩ : ∃ c, (c = 59 ∨ c = 63) ∧ b[d]? = some c := by
    rcases hd with h | h
    · exact ⟨59, Or.inl rfl, h⟩
    · exact ⟨63, Or.inr rfl, h⟩
  obtain ⟨σ1, hr1, hb1⟩ := uc_run_back_head hi hfit hh hc hdc
  obtain ⟨σ2, hr2, hb2⟩ := ucRun_scan (f := ucW1) (fun m σ' => UcBackSt σ' t k m) hle (show ue ≤ b.size by omega)
    hall σ1 hb1 (fun m c σ2 _ _ _ hf h1 => uc_back_step h1 hf)
  rcases hrest with ⟨rfl, rfl⟩ | ⟨h58, hle2, rfl, hall2⟩
  · obtain ⟨σ3, hs3, hh3⟩ := uc_back_at hb2 (by omega) (by omega)
    exact ⟨σ3, by rw [hr1, hr2, ucRun_next hat hs3], hh3⟩
  · obtain ⟨σ3, hs3, hb3⟩ := uc_back_colon hb2
    obtain ⟨σ4, hr4, hb4⟩ := ucRun_scan (f := ucW2) (fun _ σ' => UcBack2St σ' t k ue) hle2 (Nat.le_of_lt halt)
      hall2 σ3 hb3 (fun m c σ5 _ _ _ hf h1 => uc_back2_step h1 hf)
    obtain ⟨σ5, hs5, hh5⟩ := uc_back2_at hb4 (by omega) (by omega) hle2 (by omega)
    exact ⟨σ5, by rw [hr1, hr2, ucRun_next h58 hs3, hr4, ucRun_next hat hs5], hh5⟩

/-! ### completeness -/

theorem uc_u_build (u : PsipURI) (t k : Nat) (h1 : u.uriType = t) (h2 : u.scheme = ⟨0, k⟩) (ho : PField)
    (h3 : u.host = ho) :
    ({ ({ uriType := t, scheme := ⟨0, k⟩, user := u.user, pass := u.pass } : PsipURI) with
        host := ho, port := u.port, portNo := u.portNo, params := u.params, headers := u.headers }) = u := by
  rcases u with ⟨a1, a2, a3, a4, a5, a6, a7, a8, a9⟩
  simp only at h1 h2 h3
  subst h1 h2 h3
  rfl

theorem ucRun_complete {b : Buf} {t k : Nat} {σ : UState} {u : PsipURI} (hi : UcInitSt σ t k)
    (hfit : b.size ≤ 65535) (hu : UcComp b t k u) : ucRun b k σ = (.none, b.size, ucOut u, false) := by
  obtain ⟨hty, hsc, hrest⟩ := hu
  have hi0 := hi
  obtain ⟨hst, hfu, hpo, hpn, heh, hp, hu0⟩ := hi
  rcases hrest with ⟨hus, hpw, he, hh, hho, hpo'⟩ | ⟨a, he, hat, hup, hh, hho, hpo'⟩
  · have hb : ({ σ.u with host := ⟨k, he - k⟩, port := u.port, portNo := u.portNo, params := u.params, headers := u.headers } : PsipURI) = u := by
      rw [hu0]
      have := uc_u_build u t k hty hsc _ hho
      rw [hus, hpw] at this
      exact this
    rcases hh with hh | hh
    · rw [uc_from_init_tok hst hfit hp heh hpn hfu (by rw [hu0]) (by rw [hu0]) (by rw [hu0]) (by rw [hu0]) (by rw [hu0])
        hh hpo', hb]
    · rw [uc_from_init_br hst hfit hp heh hpn (by rw [hu0]) (by rw [hu0]) (by rw [hu0]) (by rw [hu0]) hh hpo', hb]
  · obtain ⟨σ', hr, hs'⟩ : ∃ σ', ucRun b k σ = ucRun b (a + 1) σ' ∧ UcHost0St σ' a t k u.user u.pass := by
      rcases hup with hup | hup
      · exact uc_run_user_plain hi0 hfit hat hup
      · exact uc_run_user_back hi0 hfit hat hup
    obtain ⟨g1, g2, g3, g4, g5, g6, -⟩ := hs'
    rw [hr, uc_from_host0 g1 g2 hfit g5 g4 g3 (by rw [g6]) (by rw [g6]) (by rw [g6]) (by rw [g6]) hh hpo', g6,
      uc_u_build u t k hty hsc _ hho]

/-- **completeness, all URI types** [EXPORT C14]: a text of the grammar (≤ 65,535 bytes) is accepted, consumed to
    the end, never panics, and the report is exactly the decomposition `u` (for tel: with the host handed out as
    the user, `ucOut`) -/
theorem parseURI_complete_gen (b : Buf) (hfit : b.size ≤ 65535) (t k : Nat) (u : PsipURI) (hs : UcScheme b t k)
    (hu : UcComp b t k u) : parseURI b {} = (.none, b.size, ucOut u, false) := by
  obtain ⟨σ, hi, hr⟩ := uc_parse_run hs hu.2.2.lt
  rw [hr]
  exact ucRun_complete hi hfit hu

/-- **completeness for sip: / sips:** [EXPORT C14]: a text of the grammar is accepted with exactly the components
    user, password, host, port, port number, parameters, headers and type of its decomposition -/
theorem parseURI_complete (b : Buf) (hfit : b.size ≤ 65535) (u : PsipURI) (hu : UcURI b u) :
    parseURI b {} = (.none, b.size, u, false) := by
  rcases hu with ⟨hs, hc⟩ | ⟨hs, hc⟩
  · rw [parseURI_complete_gen b hfit SIPuri 4 u (Or.inl ⟨rfl, rfl, hs⟩) hc]
    unfold ucOut
    rw [hc.1, if_neg (by decide)]
  · rw [parseURI_complete_gen b hfit SIPSuri 5 u (Or.inr (Or.inr ⟨rfl, rfl, hs⟩)) hc]
    unfold ucOut
    rw [hc.1, if_neg (by decide)]

/-- **completeness for tel:** [EXPORT C14]: accepted; the host field is empty and the number is reported as user -/
theorem parseURI_complete_tel (b : Buf) (hfit : b.size ≤ 65535) (u : PsipURI) (hu : UcTelURI b u) :
    parseURI b {} = (.none, b.size, { u with user := u.host, host := {} }, false) := by
  rw [parseURI_complete_gen b hfit TELuri 4 u (Or.inr (Or.inl ⟨rfl, rfl, hu.1⟩)) hu.2]
  unfold ucOut
  rw [hu.2.1, if_pos (by decide)]

/-! ### rejections: error code and position -/

theorem uc_err_fail {b : Buf} {i p : Nat} {c : UInt8} {e : UErr} {σ σ' : UState} (hc : b[i]? = some c)
    (hs : uriStep i c σ = .fail e p σ') (he : e ≠ .none) : UcErrAt (ucRun b i σ) e p := by
  rw [ucRun_fail hc hs he]
  exact ⟨rfl, rfl⟩

theorem uc_err_table {b : Buf} {i : Nat} {c : UInt8} {e : UErr} {σ : UState} (hc : b[i]? = some c)
    (h : UeTable σ c e) (he : e ≠ .none) : UcErrAt (ucRun b i σ) e i := by
  obtain ⟨σ', hs⟩ := ue_table_step (i := i) h
  exact uc_err_fail hc hs he

/-- the state in which the host is about to be read -/
def UcHostSt (σ : UState) (k hs : Nat) : Prop :=
  ((σ.st = .host0 ∧ σ.s = hs ∧ k < hs) ∨ ((σ.st = .initSIP ∨ σ.st = .initSIPS ∨ σ.st = .initTEL) ∧ hs = k)) ∧
  σ.portNo = 0

theorem uc_run_host_at {b : Buf} {k hs t : Nat} {σ : UState} (hi : UcInitSt σ t k) (hfit : b.size ≤ 65535)
    (h : UcHostAt b k hs) : ∃ σ', ucRun b k σ = ucRun b hs σ' ∧ UcHostSt σ' k hs := by
  rcases h with rfl | ⟨a, us, pw, rfl, hat, hu⟩
  · exact ⟨σ, rfl, Or.inr ⟨hi.1, rfl⟩, hi.2.2.2.1⟩
  · have hlt : k < a := by
      rcases hu with hu | hu
      · exact hu.lt
      · exact hu.lt
    obtain ⟨σ', hr, hs'⟩ : ∃ σ', ucRun b k σ = ucRun b (a + 1) σ' ∧ UcHost0St σ' a t k us pw := by
      rcases hu with hu | hu
      · exact uc_run_user_plain hi hfit hat hu
      · exact uc_run_user_back hi hfit hat hu
    exact ⟨σ', hr, Or.inl ⟨hs'.1, hs'.2.1, by omega⟩, hs'.2.2.1⟩

/-! #### empty host, brackets -/

theorem uc_err_host0 {b : Buf} {k hs : Nat} {σ : UState} (h : UcHostSt σ k hs) (hk : k < hs) :
    (hs = b.size → UcErrAt (ucRun b hs σ) .host hs) ∧
    (∀ c, b[hs]? = some c → (c = 58 ∨ c = 59 ∨ c = 63 ∨ c = 38 ∨ c = 64) → UcErrAt (ucRun b hs σ) .host hs) := by
  obtain ⟨hst, _⟩ := h
  have hst0 : σ.st = .host0 := by
    rcases hst with ⟨h, _⟩ | ⟨_, h⟩
    · exact h
    · omega
  constructor
  · intro he
    rw [ucRun_end he]
    simp only [uriFinish, hst0]
    exact ⟨rfl, rfl⟩
  · intro c hc hcc
    exact uc_err_table hc (by simp only [UeTable, hst0]; exact ⟨trivial, hcc⟩) (by decide)

theorem uc_host_open {b : Buf} {k hs : Nat} {σ : UState} (h : UcHostSt σ k hs) (h91 : b[hs]? = some 91) :
    ∃ σ', ucRun b hs σ = ucRun b (hs + 1) σ' ∧ σ'.st = .host61 ∧ σ'.s = hs ∧ σ'.portNo = 0 := by
  obtain ⟨hst, hpn⟩ := h
  rcases hst with ⟨hst, hs', _⟩ | ⟨hst, rfl⟩
  · exact ⟨{ σ with st := .host61 }, ucRun_next h91 (UTr.host0_br hst rfl).eq, rfl, hs', hpn⟩
  · exact ⟨{ σ with st := .host61, s := hs }, ucRun_next h91 (UTr.init_br hst rfl).eq, rfl, rfl, hpn⟩

theorem uc_err_br_open {b : Buf} {k hs p : Nat} {σ : UState} (h : UcHostSt σ k hs) (h91 : b[hs]? = some 91)
    (hp : hs + 1 ≤ p) (hall : UcAll b (hs + 1) p ucBrIn)
    (hend : p = b.size ∨ ∃ c, b[p]? = some c ∧ (c = 91 ∨ c = 64 ∨ c = 59 ∨ c = 63 ∨ c = 38)) :
    UcErrAt (ucRun b hs σ) .host p := by
  obtain ⟨σ1, hr, hst, _, _⟩ := uc_host_open h h91
  have hpb : p ≤ b.size := by
    rcases hend with h | ⟨c, hc, _⟩
    · omega
    · have := get?_lt hc; omega
  rw [hr, ucRun_stay hp hpb hall (fun m c hf => uc_host61_stay hst hf)]
  rcases hend with he | ⟨c, hc, hcc⟩
  · rw [ucRun_end he]
    simp only [uriFinish, hst]
    exact ⟨rfl, rfl⟩
  · exact uc_err_table hc (by simp only [UeTable, hst]; exact ⟨trivial, hcc⟩) (by decide)

theorem uc_err_br_junk {b : Buf} {k hs he : Nat} {c : UInt8} {σ : UState} (h : UcHostSt σ k hs)
    (hbr : UcBrHost b hs he) (hc : b[he]? = some c) (h58 : c ≠ 58) (h59 : c ≠ 59) (h63 : c ≠ 63) :
    UcErrAt (ucRun b hs σ) .host he := by
  obtain ⟨σ1, hr, hst, _, _⟩ := uc_host_open h hbr.1
  have := get?_lt hc
  rw [hr, uc_run_br hst hbr (by omega)]
  exact uc_err_table hc (σ := { σ1 with st := .host6E }) ⟨rfl, h58, h59, h63⟩ (by decide)

/-! #### the port -/

theorem uc_run_to_port {b : Buf} {k hs he : Nat} {σ : UState} (h : UcHostSt σ k hs)
    (hh : (k < hs ∧ UcNameHost b hs he) ∨ UcBrHost b hs he) (h58 : b[he]? = some 58) :
    ∃ σp, ucRun b hs σ = ucRun b (he + 1) σp ∧ σp.st = .port ∧ σp.portNo = 0 := by
  have hlt := get?_lt h58
  rcases hh with ⟨hk, hlt', hf, hall⟩ | hbr
  · obtain ⟨hst, hpn⟩ := h
    have hst0 : σ.st = .host0 := by
      rcases hst with ⟨h, _⟩ | ⟨_, h⟩
      · exact h
      · omega
    obtain ⟨c, hc⟩ := uget b hs (by omega)
    refine ⟨{ ({ σ with st := .host1 } : UState).setHost σ.s he with st := .port, s := he + 1 }, ?_, rfl, hpn⟩
    rw [ucRun_next hc (uc_host0_first hst0 (hf hs (Nat.le_refl _) (by omega) c hc)),
      ucRun_stay (σ := { σ with st := .host1 }) (by omega) (by omega) hall (fun m c hf => uc_host1_stay rfl hf)]
    exact ucRun_next h58 (UTr.host_colon (.inl rfl) rfl).eq
  · obtain ⟨σ1, hr, hst, _, hpn⟩ := uc_host_open h hbr.1
    refine ⟨{ ({ σ1 with st := .host6E } : UState).setHost σ1.s he with st := .port, s := he + 1 }, ?_, rfl, hpn⟩
    rw [hr, uc_run_br hst hbr (by omega)]
    exact ucRun_next h58 (UTr.host_colon (.inr rfl) rfl).eq

/-- host name right behind the scheme, then ':' : what follows is read in state `pass0` (port or password) -/
theorem uc_run_to_pass0 {b : Buf} {k he : Nat} {σ : UState} (h : UcHostSt σ k k) (hh : UcFirstTok b k he)
    (h58 : b[he]? = some 58) : ∃ σp, ucRun b k σ = ucRun b (he + 1) σp ∧ σp.st = .pass0 ∧ σp.portNo = 0 := by
  have hlt := get?_lt h58
  obtain ⟨hst, hpn⟩ := h
  have hst0 : σ.st = .initSIP ∨ σ.st = .initSIPS ∨ σ.st = .initTEL := by
    rcases hst with ⟨_, _, h⟩ | ⟨h, _⟩
    · omega
    · exact h
  obtain ⟨hlt', hf, hall⟩ := hh
  obtain ⟨c, hc⟩ := uget b k (by omega)
  refine ⟨{ ({ σ with st := .user, s := k } : UState).setUser k he with st := .pass0, s := he + 1 }, ?_, rfl, hpn⟩
  rw [ucRun_next hc (uc_init_first hst0 (hf k (Nat.le_refl _) (by omega) c hc)),
    ucRun_stay (σ := { σ with st := .user, s := k }) (by omega) (by omega) hall (fun m c hf => uc_user_tok rfl hf)]
  exact ucRun_next h58 (UTr.user_colon rfl rfl).eq

theorem uc_err_port_char {b : Buf} {i p : Nat} {c : UInt8} {σ : UState} (hst : σ.st = .port) (hip : i ≤ p)
    (hall : UcAll b i p isDigit) (hc : b[p]? = some c) (hd : isDigit c = false) (h59 : c ≠ 59) (h63 : c ≠ 63) :
    UcErrAt (ucRun b i σ) .port p := by
  have := get?_lt hc
  rw [uc_run_digits (Or.inl hst) hip (by omega) hall]
  refine uc_err_table hc ?_ (by decide)
  simp only [UeTable, hst]
  exact ⟨trivial, hd, fun h => (h.elim h59 h63).elim⟩

theorem uc_err_port_big {b : Buf} {i p : Nat} {σ : UState} (hst : σ.st = .port ∨ σ.st = .pass0) (hpn : σ.portNo = 0)
    (hip : i ≤ p) (hall : UcAll b i p isDigit) (hbig : decOf (digitsOf b i p) > 65535)
    (hend : p = b.size ∨ b[p]? = some 59 ∨ b[p]? = some 63) : UcErrAt (ucRun b i σ) .port p := by
  have hpb : p ≤ b.size := by
    rcases hend with h | h | h
    · omega
    · have := get?_lt h; omega
    · have := get?_lt h; omega
  have hacc : accPortL σ.portNo (digitsOf b i p) > 65535 := by
    rw [hpn]; exact (accPortL_spec _ 0).2 hbig
  rw [uc_run_digits hst hip hpb hall]
  rcases hend with he | hend
  · rw [ucRun_end he]
    rcases hst with hst | hst
    · simp only [uriFinish, hst, UState.setPort, hacc, ↓reduceIte]
      exact ⟨rfl, rfl⟩
    · simp only [uriFinish, hst, UState.setPort, hacc, ↓reduceIte]
      split <;> exact ⟨rfl, rfl⟩
  · obtain ⟨c, hc, hcc⟩ : ∃ c, b[p]? = some c ∧ (c = 59 ∨ c = 63) :=
      hend.elim (fun h => ⟨59, h, .inl rfl⟩) fun h => ⟨63, h, .inr rfl⟩
    refine uc_err_table hc ?_ (by decide)
    rcases hst with hst | hst <;> simp only [UeTable, hst]
    · exact ⟨trivial, by rcases hcc with rfl | rfl <;> rfl, fun _ => hacc⟩
    · exact .inl ⟨trivial, hcc, hacc⟩

/-! #### the same for `parseURI` -/

theorem uc_parse_host_at {b : Buf} {t k hs : Nat} (hsch : UcScheme b t k) (hfit : b.size ≤ 65535) (hk : k < b.size)
    (hat : UcHostAt b k hs) : ∃ σ, UcHostSt σ k hs ∧ parseURI b {} = ucRun b hs σ := by
  obtain ⟨σ0, hi, hr⟩ := uc_parse_run hsch hk
  obtain ⟨σ, hr2, hs'⟩ := uc_run_host_at hi hfit hat
  exact ⟨σ, hs', by rw [hr, hr2]⟩

/-- **empty host** [EXPORT C14] behind `scheme user-info @`: the input ends there, or one of `: ; ? & @` follows:
    `ErrURIHost`, position = that byte (= the length of the input when it ends there) -/
theorem parseURI_err_empty_host (b : Buf) (hfit : b.size ≤ 65535) {t k hs : Nat} (hsch : UcScheme b t k)
    (hat : UcHostAt b k hs) (hk : k < hs)
    (hend : hs = b.size ∨ ∃ c, b[hs]? = some c ∧ (c = 58 ∨ c = 59 ∨ c = 63 ∨ c = 38 ∨ c = 64)) :
    UcErrAt (parseURI b {}) .host hs := by
  obtain ⟨σ, hs', hr⟩ := uc_parse_host_at hsch hfit (hat.lt (Or.inl hk)) hat
  rw [hr]
  rcases hend with he | ⟨c, hc, hcc⟩
  · exact (uc_err_host0 hs' hk).1 he
  · exact (uc_err_host0 hs' hk).2 c hc hcc

/-- **`]` missing** [EXPORT C14]: a host that opens with `[` (right behind the scheme or behind the '@') and is
    not closed before the end of the input or before one of `[ @ ; ? &`: `ErrURIHost` at that position -/
theorem parseURI_err_bracket_open (b : Buf) (hfit : b.size ≤ 65535) {t k hs p : Nat} (hsch : UcScheme b t k)
    (hat : UcHostAt b k hs) (h91 : b[hs]? = some 91) (hp : hs + 1 ≤ p) (hall : UcAll b (hs + 1) p ucBrIn)
    (hend : p = b.size ∨ ∃ c, b[p]? = some c ∧ (c = 91 ∨ c = 64 ∨ c = 59 ∨ c = 63 ∨ c = 38)) :
    UcErrAt (parseURI b {}) .host p := by
  obtain ⟨σ, hs', hr⟩ := uc_parse_host_at hsch hfit (hat.lt (Or.inr (get?_lt h91))) hat
  rw [hr]
  exact uc_err_br_open hs' h91 hp hall hend

/-- **text behind `]`** [EXPORT C14] other than `:` `;` `?`: `ErrURIHost` at that byte -/
theorem parseURI_err_bracket_junk (b : Buf) (hfit : b.size ≤ 65535) {t k hs he : Nat} {c : UInt8}
    (hsch : UcScheme b t k) (hat : UcHostAt b k hs) (hbr : UcBrHost b hs he) (hc : b[he]? = some c)
    (h58 : c ≠ 58) (h59 : c ≠ 59) (h63 : c ≠ 63) : UcErrAt (parseURI b {}) .host he := by
  obtain ⟨σ, hs', hr⟩ := uc_parse_host_at hsch hfit (hat.lt (Or.inr (get?_lt hbr.1))) hat
  rw [hr]
  exact uc_err_br_junk hs' hbr hc h58 h59 h63

/-- **non-digit in the port** [EXPORT C14] (host behind '@', or bracketed host; then ':' and digits up to `p`):
    a byte at `p` that is neither a digit nor `;` / `?` gives `ErrURIPort` at `p` -/
theorem parseURI_err_port_char (b : Buf) (hfit : b.size ≤ 65535) {t k hs he p : Nat} {c : UInt8}
    (hsch : UcScheme b t k) (hat : UcHostAt b k hs)
    (hh : (k < hs ∧ UcNameHost b hs he) ∨ UcBrHost b hs he) (h58 : b[he]? = some 58) (hp : he + 1 ≤ p)
    (hall : UcAll b (he + 1) p isDigit) (hc : b[p]? = some c) (hd : isDigit c = false) (h59 : c ≠ 59) (h63 : c ≠ 63) :
    UcErrAt (parseURI b {}) .port p := by
  have hklt : k < b.size := by
    rcases hh with ⟨h, _⟩ | h
    · exact hat.lt (Or.inl h)
    · exact hat.lt (Or.inr (get?_lt h.1))
  obtain ⟨σ, hs', hr⟩ := uc_parse_host_at hsch hfit hklt hat
  obtain ⟨σp, hr2, hst, _⟩ := uc_run_to_port hs' hh h58
  rw [hr, hr2]
  exact uc_err_port_char hst hp hall hc hd h59 h63

/-- **port above 65535** [EXPORT C14] (any host of the grammar; then ':' and digits up to `p` whose value exceeds
    65535, closed by `;` / `?` or the end of the input): `ErrURIPort` at `p` (the byte behind the digits) -/
theorem parseURI_err_port_big (b : Buf) (hfit : b.size ≤ 65535) {t k hs he p : Nat}
    (hsch : UcScheme b t k) (hat : UcHostAt b k hs)
    (hh : (k < hs ∧ UcNameHost b hs he) ∨ UcBrHost b hs he ∨ (hs = k ∧ UcFirstTok b k he))
    (h58 : b[he]? = some 58) (hp : he + 1 ≤ p)
    (hall : UcAll b (he + 1) p isDigit) (hbig : decOf (digitsOf b (he + 1) p) > 65535)
    (hend : p = b.size ∨ b[p]? = some 59 ∨ b[p]? = some 63) : UcErrAt (parseURI b {}) .port p := by
  have hklt : k < b.size := by
    rcases hh with ⟨h, _⟩ | h | ⟨rfl, h, _⟩
    · exact hat.lt (Or.inl h)
    · exact hat.lt (Or.inr (get?_lt h.1))
    · have := get?_lt h58; omega
  obtain ⟨σ, hs', hr⟩ := uc_parse_host_at hsch hfit hklt hat
  rw [hr]
  rcases hh with h | h | ⟨rfl, h⟩
  · obtain ⟨σp, hr2, hst, hpn⟩ := uc_run_to_port hs' (Or.inl h) h58
    rw [hr2]
    exact uc_err_port_big (Or.inl hst) hpn hp hall hbig hend
  · obtain ⟨σp, hr2, hst, hpn⟩ := uc_run_to_port hs' (Or.inr h) h58
    rw [hr2]
    exact uc_err_port_big (Or.inl hst) hpn hp hall hbig hend
  · obtain ⟨σp, hr2, hst, hpn⟩ := uc_run_to_pass0 hs' h h58
    rw [hr2]
    exact uc_err_port_big (Or.inr hst) hpn hp hall hbig hend

theorem uc_fin_nontel {n : Nat} {σx : UState} (ht : σx.u.uriType ≠ TELuri) :
    (if σx.u.uriType == TELuri then
        ((.none : UErr), n, { σx with u := { σx.u with user := σx.u.host, host := {} } })
      else (.none, n, σx)) = (.none, n, σx) := by
  rw [if_neg]
  intro h
  exact ht (by simpa using h)

/-- **soundness of the grammar** [EXPORT C14]: every accepted sip: / sips: text (≤ 65,535 bytes) is a text of the
    grammar, and the reported components are its decomposition -/
theorem parseURI_sound (b : Buf) (hfit : b.size ≤ 65535) (hacc : (parseURI b {}).1 = .none)
    (hsip : (parseURI b {}).2.2.1.uriType ≠ TELuri) : UcURI b (parseURI b {}).2.2.1 := by
  obtain ⟨t, k, u0, hsch, hc, h⟩ := parseURI_accepted b hfit hacc
  rw [h] at hsip ⊢
  have ht : u0.uriType ≠ TELuri := by rwa [ucOut_type] at hsip
  rw [show (_, _, ucOut u0, _).2.2.1 = u0 from ucOut_nontel ht]
  rcases hsch with ⟨rfl, rfl, hs⟩ | ⟨rfl, -⟩ | ⟨rfl, rfl, hs⟩
  · exact .inl ⟨hs, hc⟩
  · exact absurd hc.1 ht
  · exact .inr ⟨hs, hc⟩

/-- **accepted with the report `u` ↔ grammar** [EXPORT C14]: a text of at most 65,535 bytes is accepted as a sip: / sips: URI with the
    report `u` exactly when `u` is a decomposition of the text according to the grammar `UcURI` -/
theorem parseURI_iff (b : Buf) (hfit : b.size ≤ 65535) (u : PsipURI) :
    UcURI b u ↔ (parseURI b {} = (.none, b.size, u, false) ∧ u.uriType ≠ TELuri) := by
  constructor
  · intro h
    refine ⟨parseURI_complete b hfit u h, ?_⟩
    rcases h with ⟨_, h, _⟩ | ⟨_, h, _⟩ <;> (rw [h]; decide)
  · intro ⟨h, ht⟩
    have hacc : (parseURI b {}).1 = .none := by rw [h]
    have hu : (parseURI b {}).2.2.1 = u := by rw [h]
    have := parseURI_sound b hfit hacc (by rw [hu]; exact ht)
    rw [hu] at this
    exact this

/-- **which texts are accepted** [EXPORT C14]: exactly the texts of the grammar -/
theorem parseURI_ok_iff (b : Buf) (hfit : b.size ≤ 65535) :
    ((parseURI b {}).1 = .none ∧ (parseURI b {}).2.2.1.uriType ≠ TELuri) ↔ ∃ u, UcURI b u := by
  constructor
  · intro ⟨hacc, ht⟩
    exact ⟨_, parseURI_sound b hfit hacc ht⟩
  · intro ⟨u, hu⟩
    obtain ⟨h, ht⟩ := (parseURI_iff b hfit u).mp hu
    rw [h]
    exact ⟨rfl, ht⟩

/-- **the decomposition is unique** [EXPORT C14] -/
theorem UcURI_unique (b : Buf) (hfit : b.size ≤ 65535) (u u' : PsipURI) (h : UcURI b u) (h' : UcURI b u') : u = u' := by
  have e1 := parseURI_complete b hfit u h
  have e2 := parseURI_complete b hfit u' h'
  rw [e1] at e2
  injection e2 with _ e3
  injection e3 with _ e4
  injection e4

/-- **tel:** [EXPORT C14] `tel:` number `[;params]` with no `@ : ? [ ]` in the number and no `?`, `@` in the
    parameters: accepted, the host field is empty, the user field is the number, the parameters follow -/
theorem parseURI_tel_simple (b : Buf) (hfit : b.size ≤ 65535) (hs : UcSchTel b) (he : Nat) (pa : PField)
    (hnum : UcFirstTok b 4 he) (hpa : UcPa b he pa ⟨0, 0⟩) :
    parseURI b {} = (.none, b.size,
      { uriType := TELuri, scheme := ⟨0, 4⟩, user := ⟨4, he - 4⟩, host := ⟨0, 0⟩, params := pa }, false) := by
  have := parseURI_complete_tel b hfit
    { uriType := TELuri, scheme := ⟨0, 4⟩, host := ⟨4, he - 4⟩, params := pa }
    ⟨hs, rfl, rfl, Or.inl ⟨rfl, rfl, he, Or.inl hnum, rfl, Or.inl ⟨rfl, rfl, hpa⟩⟩⟩
  rw [this]

/-! ### tests / non-vacuity -/

/-- executable form of `UcAll`, for closed examples -/
def ucAllB (b : Buf) (p q : Nat) (f : UInt8 → Bool) : Bool :=
  (List.range' p (q - p)).all (fun j => match b[j]? with | some c => f c | none => true)

theorem ucAll_of_check {b : Buf} {p q : Nat} {f : UInt8 → Bool} (h : ucAllB b p q f = true) : UcAll b p q f := by
  intro j h1 h2 c hc
  have := List.all_eq_true.mp h j (List.mem_range'_1.mpr ⟨h1, by omega⟩)
  simp only [hc] at this
  exact this

-- non-vacuity, built by hand: `sip:u:p@h:5060;a?b` is a text of the grammar with these components
-- (every leaf is a closed computation, `decide +kernel`)
example : UcURI "sip:u:p@h:5060;a?b".toUTF8.data
    { uriType := SIPuri, scheme := ⟨0, 4⟩, user := ⟨4, 1⟩, pass := ⟨6, 1⟩, host := ⟨8, 1⟩, port := ⟨10, 4⟩,
      portNo := 5060, params := ⟨15, 1⟩, headers := ⟨17, 1⟩ } :=
  Or.inl ⟨⟨115, 105, 112, 58, by decide +kernel, by decide +kernel, by decide +kernel, by decide +kernel,
      by decide +kernel, by decide +kernel, by decide +kernel, by decide +kernel⟩,
    rfl, rfl, Or.inr ⟨7, 9, by decide +kernel,
      Or.inl ⟨5, ⟨by decide, ucAll_of_check (by decide +kernel), ucAll_of_check (by decide +kernel)⟩, rfl,
        Or.inr ⟨by decide +kernel, by decide, rfl, ucAll_of_check (by decide +kernel)⟩⟩,
      Or.inl ⟨by decide, ucAll_of_check (by decide +kernel), ucAll_of_check (by decide +kernel)⟩, rfl,
      Or.inr ⟨by decide +kernel, 14, by decide, rfl, ucAll_of_check (by decide +kernel), by decide +kernel, by decide,
        Or.inr ⟨by decide +kernel, 16, by decide, rfl, ucAll_of_check (by decide +kernel),
          Or.inr ⟨by decide +kernel, by decide +kernel, ucAll_of_check (by decide +kernel)⟩⟩⟩⟩⟩

-- hence (completeness) it is accepted with exactly these components
example : parseURI "sip:u:p@h:5060;a?b".toUTF8.data {} = (.none, 18,
    { uriType := SIPuri, scheme := ⟨0, 4⟩, user := ⟨4, 1⟩, pass := ⟨6, 1⟩, host := ⟨8, 1⟩, port := ⟨10, 4⟩,
      portNo := 5060, params := ⟨15, 1⟩, headers := ⟨17, 1⟩ }, false) := by decide +kernel

-- non-vacuity of the back-tracking part of the grammar (through `parseURI_iff`, right to left): `;` `?` `:` in
-- front of the '@' belong to user / password, the host is bracketed
example : UcURI "sip:u;x?y:p@[::1]:5060;a=b?c=d".toUTF8.data
    { uriType := SIPuri, scheme := ⟨0, 4⟩, user := ⟨4, 5⟩, pass := ⟨10, 1⟩, host := ⟨12, 5⟩, port := ⟨18, 4⟩,
      params := ⟨23, 3⟩, headers := ⟨27, 3⟩, portNo := 5060 } :=
  (parseURI_iff _ (by decide +kernel) _).mpr ⟨by decide +kernel, by decide⟩
-- a bracketed text with a port, taken back as user part by a later '@'
example : UcURI "sip:[a]:1;x@h".toUTF8.data
    { uriType := SIPuri, scheme := ⟨0, 4⟩, user := ⟨4, 7⟩, host := ⟨12, 1⟩ } :=
  (parseURI_iff _ (by decide +kernel) _).mpr ⟨by decide +kernel, by decide⟩
-- sips, upper case, no user
example : ∃ u, UcURI "SIPS:h".toUTF8.data u :=
  (parseURI_ok_iff _ (by decide +kernel)).mp ⟨by decide +kernel, by decide +kernel⟩
-- quirks of the accepted language that the grammar has to contain (tests)
example : (parseURI "sip:a&b".toUTF8.data {}).1 = .none ∧ (parseURI "sip:u@a&b".toUTF8.data {}).1 = .badChar := by
  decide +kernel
example : (parseURI "sip:u@a]b[".toUTF8.data {}).2.2.1.host = ⟨6, 4⟩ := by decide +kernel
example : (parseURI "sip:h;a:[b]@d".toUTF8.data {}).1 = .none ∧ (parseURI "sip:u:[b]@d".toUTF8.data {}).1 = .badChar := by
  decide +kernel
example : (parseURI "sip:[a]:1;x@h".toUTF8.data {}).1 = .none ∧
    (parseURI "sip:[a]:70000;x@h".toUTF8.data {}).1 = .port ∧ (parseURI "sip:u:1;x@h".toUTF8.data {}).1 = .badChar := by
  decide +kernel

-- tel: (hypotheses of `parseURI_tel_simple` met by `tel:+123;x=y`)
example : parseURI "tel:+123;x=y".toUTF8.data {} = (.none, 12,
    { uriType := TELuri, scheme := ⟨0, 4⟩, user := ⟨4, 4⟩, host := ⟨0, 0⟩, params := ⟨9, 3⟩ }, false) :=
  parseURI_tel_simple _ (by decide +kernel)
    ⟨116, 101, 108, 58, by decide +kernel, by decide +kernel, by decide +kernel, by decide +kernel,
      by decide +kernel, by decide +kernel, by decide +kernel, by decide +kernel⟩ 8 ⟨9, 3⟩
    ⟨by decide, ucAll_of_check (by decide +kernel), ucAll_of_check (by decide +kernel)⟩
    (Or.inr ⟨by decide +kernel, 12, by decide, rfl, ucAll_of_check (by decide +kernel),
      Or.inl ⟨by decide +kernel, rfl⟩⟩)

-- rejections: the hypotheses of the error theorems are met by concrete inputs
example : UcErrAt (parseURI "sip:u@h:99999;x".toUTF8.data {}) .port 13 :=
  parseURI_err_port_big _ (by decide +kernel) (t := SIPuri) (k := 4) (hs := 6) (he := 7)
    (Or.inl ⟨rfl, rfl, 115, 105, 112, 58, by decide +kernel, by decide +kernel, by decide +kernel, by decide +kernel,
      by decide +kernel, by decide +kernel, by decide +kernel, by decide +kernel⟩)
    (Or.inr ⟨5, ⟨4, 1⟩, ⟨0, 0⟩, rfl, by decide +kernel,
      Or.inl ⟨5, ⟨by decide, ucAll_of_check (by decide +kernel), ucAll_of_check (by decide +kernel)⟩, rfl,
        Or.inl ⟨rfl, rfl⟩⟩⟩)
    (Or.inl ⟨by decide, by decide, ucAll_of_check (by decide +kernel), ucAll_of_check (by decide +kernel)⟩)
    (by decide +kernel) (by decide) (ucAll_of_check (by decide +kernel)) (by decide +kernel)
    (Or.inr (Or.inl (by decide +kernel)))
example : UcErrAt (parseURI "sip:[::1;x".toUTF8.data {}) .host 8 :=
  parseURI_err_bracket_open _ (by decide +kernel) (t := SIPuri) (k := 4) (hs := 4)
    (Or.inl ⟨rfl, rfl, 115, 105, 112, 58, by decide +kernel, by decide +kernel, by decide +kernel, by decide +kernel,
      by decide +kernel, by decide +kernel, by decide +kernel, by decide +kernel⟩)
    (Or.inl rfl) (by decide +kernel) (by decide) (ucAll_of_check (by decide +kernel))
    (Or.inr ⟨59, by decide +kernel, Or.inr (Or.inr (Or.inl rfl))⟩)
example : parseURI "sip".toUTF8.data {} = (.tooShort, 3, {}, false) := parseURI_err_short _ (by decide +kernel)
-- the shapes of the error theorems on more inputs (tests)
example : (parseURI "sip:u@".toUTF8.data {}).1 = .host ∧ (parseURI "sip:u@".toUTF8.data {}).2.1 = 6 ∧
    (parseURI "sip:u@h:12x".toUTF8.data {}).1 = .port ∧ (parseURI "sip:u@h:12x".toUTF8.data {}).2.1 = 10 ∧
    (parseURI "http://x".toUTF8.data {}).1 = .scheme ∧ (parseURI "http://x".toUTF8.data {}).2.1 = 4 := by decide +kernel
-- NOT the offending byte: without '@' a non-digit behind `host:` is taken as the start of a password, and the
-- rejection comes at the end of the input (or at the next `;` `?`, as `ErrURIBadChar`)
example : (parseURI "sip:h:12x".toUTF8.data {}).1 = .port ∧ (parseURI "sip:h:12x".toUTF8.data {}).2.1 = 9 ∧
    (parseURI "sip:h:12x;y".toUTF8.data {}).1 = .badChar ∧ (parseURI "sip:h:12x;y".toUTF8.data {}).2.1 = 9 := by
  decide +kernel

/-- **soundness of the grammar for tel:** [EXPORT C14]: an accepted tel: text is a text of the grammar; the report
    is its decomposition with the host (the number) handed out as the user -/
theorem parseURI_sound_tel (b : Buf) (hfit : b.size ≤ 65535) (hacc : (parseURI b {}).1 = .none)
    (htel : (parseURI b {}).2.2.1.uriType = TELuri) :
    ∃ u, UcTelURI b u ∧ (parseURI b {}).2.2.1 = { u with user := u.host, host := {} } := by
  obtain ⟨t, k, u0, hsch, hc, h⟩ := parseURI_accepted b hfit hacc
  rw [h] at htel ⊢
  have ht : u0.uriType = TELuri := by rwa [ucOut_type] at htel
  rcases hsch with ⟨rfl, -⟩ | ⟨rfl, rfl, hs⟩ | ⟨rfl, -⟩
  · exact absurd (hc.1.symm.trans ht) (by decide)
  · exact ⟨u0, ⟨hs, hc⟩, ucOut_tel ht⟩
  · exact absurd (hc.1.symm.trans ht) (by decide)

/-- **which texts are accepted as tel:** [EXPORT C14]: exactly the texts of the grammar behind `tel:` -/
theorem parseURI_tel_iff (b : Buf) (hfit : b.size ≤ 65535) :
    ((parseURI b {}).1 = .none ∧ (parseURI b {}).2.2.1.uriType = TELuri) ↔ ∃ u, UcTelURI b u := by
  constructor
  · intro ⟨hacc, ht⟩
    obtain ⟨u, hu, _⟩ := parseURI_sound_tel b hfit hacc ht
    exact ⟨u, hu⟩
  · intro ⟨u, hu⟩
    rw [parseURI_complete_tel b hfit u hu]
    exact ⟨rfl, hu.2.1⟩

-- tel: with user-info: accepted, hence a text of the grammar behind `tel:` (test / non-vacuity of `parseURI_tel_iff`)
example : ∃ u, UcTelURI "tel:a:b@c".toUTF8.data u :=
  (parseURI_tel_iff _ (by decide +kernel)).mp ⟨by decide +kernel, by decide +kernel⟩

-- the hypotheses of `parseURI_err_scheme` and `parseURI_err_empty_host` are met by concrete inputs
example : parseURI "http://x".toUTF8.data {} = (.scheme, 4, {}, false) :=
  parseURI_err_scheme _ (by decide +kernel)
    (by rintro ⟨b0, _, _, _, h0, _, _, _, hl, _⟩
        have e : some b0 = some (104 : UInt8) := h0.symm.trans (by decide +kernel)
        cases e
        exact absurd hl (by decide))
    (by rintro ⟨b0, _, _, _, h0, _, _, _, hl, _⟩
        have e : some b0 = some (104 : UInt8) := h0.symm.trans (by decide +kernel)
        cases e
        exact absurd hl (by decide))
    (by rintro ⟨⟨b0, _, _, _, h0, _, _, _, hl, _⟩, _⟩
        have e : some b0 = some (104 : UInt8) := h0.symm.trans (by decide +kernel)
        cases e
        exact absurd hl (by decide))
example : UcErrAt (parseURI "sip:u@".toUTF8.data {}) .host 6 :=
  parseURI_err_empty_host _ (by decide +kernel) (t := SIPuri) (k := 4) (hs := 6)
    (Or.inl ⟨rfl, rfl, 115, 105, 112, 58, by decide +kernel, by decide +kernel, by decide +kernel, by decide +kernel,
      by decide +kernel, by decide +kernel, by decide +kernel, by decide +kernel⟩)
    (Or.inr ⟨5, ⟨4, 1⟩, ⟨0, 0⟩, rfl, by decide +kernel,
      Or.inl ⟨5, ⟨by decide, ucAll_of_check (by decide +kernel), ucAll_of_check (by decide +kernel)⟩, rfl,
        Or.inl ⟨rfl, rfl⟩⟩⟩)
    (by decide) (Or.inl (by decide +kernel))

end Sipsp
