/-
  Sipsp.Proofs.UriErrors — ParseURI: the REJECTIONS (property C14, clause "rejected URIs report an error position
  inside the input"), completing Sipsp.Proofs.UriComplete.  All for the model `parseURI b {}`.

  (1) rejection shapes with code AND position, hypotheses on the text in the `Uc*` vocabulary (`parseURI_err_*`):
        `first_char`     `:` / `]` right behind the scheme                      ErrURIBadChar at it
        `user_bracket`   `[` / `]` in the first token (user or host name)       ErrURIBadChar at it
        `pass_char`      `[` / `]` / second `:` behind `token:`                 ErrURIBadChar at it
        `pass_no_at`     `token:text` (text not a number) then `;` / `?`        ErrURIBadChar at the `;` / `?`
        `pass_end`       `token:text` (text not a number) up to the end         ErrURIPort at the END
        `host_at`        second '@' (or `&`) in the host name behind '@'        ErrURIBadChar at it
        `second_at`      '@' in parameters / headers behind user-info@host[:port], and `;` in such headers
                                                                                  ErrURIBadChar at it
        `committed_at`   the same behind `token:digits;` / `token:digits?`      ErrURIBadChar at it
        `headers_semi`   `;` in the headers, no user-info, no `:`, no '@' after   ErrURIHeaders at the END
      (bytes behind a closing `]` other than `: ; ?` are ErrURIHost in the code, not BadChar: that exit is
      `parseURI_err_bracket_junk` of UriComplete.)
  (2) totality, `parseURI_total`: every input ≤ 65,535 bytes is accepted (then a text of the grammar), or too short,
      or without scheme (always position 4), or rejected behind a scheme either at its END with the whole text described
      (`UeEndShape`) or at the byte at the reported position with the text in front of it described (`UeShape`, one
      alternative per group of exits).  Hence `parseURI_reject_inside` (a position inside the input is 4 with
      ErrURIScheme, or points at a byte of the explicit set `UeByte` for that code) and `parseURI_reject_end` (the
      rejections reported at the end: TooShort, Host, Port, Headers).  ErrURIBad / ErrURIBug are never returned.  Every
      alternative of `UeEndShape` but the ErrURIHeaders one implies the rejection (`parseURI_end_shape_rejects`).
  (3) `parseURI_case_stable`: the letter case of the scheme changes nothing in the result, whatever it is.
  INNOCENT POSITIONS (reported, kept as tests): (a) ErrURIScheme is always at 4, whichever byte is wrong;
  (b) `token:text` without '@' and with a non-digit in `text`: ErrURIPort at the END (`sip:h:12x` → 9), or
  ErrURIBadChar at a following `;` / `?` (`sip:u:pw;x` → 8), never at the non-digit; (c) ErrURIHeaders is reported
  at the END, the `;` lies inside (`sip:h?a;b` → 9); with a user-info the same `;` is ErrURIBadChar at the `;`;
  (d) `sip:u:1;x@h`: the '@' is rejected (position 9) because the `;` behind `u:1` committed `u` as host.
  NOT proved: the converse of `UeShape` as one statement (each alternative but the last is the hypothesis of a
  `parseURI_err_*` theorem here or in UriComplete, so it does imply the rejection; the last alternative — '@' / `;`
  in parameters / headers — and the ErrURIHeaders alternative of `UeEndShape` only record a necessary condition: the
  reason why the user part counts as settled, e.g. two `:` in a `;`-user as in `sip:h;a:b:c@d`, is not spelled out);
  `headers_semi` does not cover a port in front of the `?`, nor a `:` behind the last `;`.
-/
import Sipsp.Proofs.UriComplete
import Sipsp.Proofs.UriCmpLaws
import Sipsp.Proofs.UriSpec


namespace Sipsp

/-! ### (1) the remaining rejection shapes: error code and position -/

/-- **`:` or `]` right behind the scheme** [EXPORT C14] (where neither a port nor a password can start):
    `ErrURIBadChar` at that byte -/
theorem parseURI_err_first_char (b : Buf) {t k : Nat} {c : UInt8} (hsch : UcScheme b t k) (hc : b[k]? = some c)
    (hcc : c = 58 ∨ c = 93) : UcErrAt (parseURI b {}) .badChar k := by
  obtain ⟨σ, hi, hr⟩ := uc_parse_run hsch (get?_lt hc)
  rw [hr]
  exact uc_err_table hc (by rcases hi.1 with hst | hst | hst <;> simp only [UeTable, hst] <;> exact ⟨trivial, hcc⟩)
    (by decide)

/-- **`[` or `]` inside the first token** [EXPORT C14] behind the scheme (a user, or a host name without
    user-info): `ErrURIBadChar` at that byte -/
theorem parseURI_err_user_bracket (b : Buf) {t k p : Nat} {c : UInt8} (hsch : UcScheme b t k)
    (hh : UcFirstTok b k p) (hc : b[p]? = some c) (hcc : c = 91 ∨ c = 93) : UcErrAt (parseURI b {}) .badChar p := by
  obtain ⟨σ, hi, hr⟩ := uc_parse_run hsch (by have := get?_lt hc; have := hh.1; omega)
  rw [hr]
  have hlt := get?_lt hc
  obtain ⟨hlt', hf, hall⟩ := hh
  obtain ⟨c0, hc0⟩ := uget b k (by omega)
  rw [ucRun_next hc0 (uc_init_first hi.1 (hf k (Nat.le_refl _) (by omega) c0 hc0)),
    ucRun_stay (σ := { σ with st := .user, s := k }) (by omega) (by omega) hall (fun m c hf => uc_user_tok rfl hf)]
  exact uc_err_table (σ := { σ with st := .user, s := k }) hc ⟨rfl, hcc⟩ (by decide)

/-- reading what follows `token:` — still only digits (`pass0`), or a non-digit has been seen (`pass1`) -/
def UePwSt (b : Buf) (s m : Nat) (σ : UState) : Prop :=
  σ.st = .pass1 ∨ (σ.st = .pass0 ∧ UcAll b s m isDigit)

theorem ue_pw_step {b : Buf} {s m : Nat} {c : UInt8} {σ : UState} (h : UePwSt b s m σ) (hc : b[m]? = some c)
    (hf : ucTok c = true) : ∃ σ', uriStep m c σ = .next σ' ∧ UePwSt b s (m + 1) σ' := by
  simp only [ucTok, Bool.not_eq_true', Bool.or_eq_false_iff, beq_eq_false_iff_ne] at hf
  obtain ⟨⟨⟨⟨⟨h64, h58⟩, h59⟩, h63⟩, h91⟩, h93⟩ := hf
  rcases h with hst | ⟨hst, hall⟩
  · exact ⟨_, (UTr.pass1_tok hst ⟨h64, h59, h63, h91, h93, h58⟩).eq, Or.inl hst⟩
  · by_cases hd : isDigit c = true
    · exact ⟨_, (UTr.pass0_digit hst hd).eq, Or.inr ⟨hst, hall.snoc hc hd⟩⟩
    · exact ⟨_, (UTr.pass0_tok hst ⟨h64, h59, h63, by simpa using hd, h91, h93, h58⟩).eq, Or.inl rfl⟩

theorem ue_pw_run {b : Buf} {s p : Nat} {σ : UState} (hst : σ.st = .pass0) (hsp : s ≤ p) (hp : p ≤ b.size)
    (hall : UcAll b s p ucTok) : ∃ σ', ucRun b s σ = ucRun b p σ' ∧ UePwSt b s p σ' :=
  ucRun_scan (f := ucTok) (fun m σ' => UePwSt b s m σ') hsp hp hall σ
    (Or.inr ⟨hst, UcAll.nil b _ (Nat.le_refl _)⟩) (fun _ _ _ _ _ hc hf h1 => ue_pw_step h1 hc hf)

theorem UePwSt.pass1 {b : Buf} {s p : Nat} {σ : UState} (h : UePwSt b s p σ) (hn : UeNonDigit b s p) :
    σ.st = .pass1 := by
  rcases h with h | ⟨_, hall⟩
  · exact h
  · obtain ⟨j, c, h1, h2, h3, h4⟩ := hn
    rw [hall j h1 h2 c h3] at h4
    cases h4

/-- `token:` behind the scheme, then bytes without `@ : ; ? [ ]` up to `p` — a password so far, or a port if all of them
    are digits.  At `p`: one of `[ ] :` is a bad character; `;` / `?` is one too unless only digits were read; at the
    end of the input what was read is taken as the port, which non-digits make `ErrURIPort` -/
theorem ue_err_pass {b : Buf} {t k ue p : Nat} {σ : UState} (hi : UcInitSt σ t k)
    (hh : UcFirstTok b k ue) (h58 : b[ue]? = some 58) (hp : ue + 1 ≤ p) (hall : UcAll b (ue + 1) p ucTok) :
    (∀ c, b[p]? = some c → (c = 91 ∨ c = 93 ∨ c = 58) → UcErrAt (ucRun b k σ) .badChar p) ∧
    (∀ c, b[p]? = some c → (c = 59 ∨ c = 63) → UeNonDigit b (ue + 1) p → UcErrAt (ucRun b k σ) .badChar p) ∧
    (p = b.size → UeNonDigit b (ue + 1) p → UcErrAt (ucRun b k σ) .port p) := by
  obtain ⟨σp, hr, hst, _⟩ := uc_run_to_pass0 (σ := σ) (k := k) ⟨Or.inr ⟨hi.1, rfl⟩, hi.2.2.2.1⟩ hh h58
  refine ⟨fun c hc hcc => ?_, fun c hc hcc hn => ?_, fun he hn => ?_⟩
  · have hlt := get?_lt hc
    obtain ⟨σ', hr2, hs'⟩ := ue_pw_run hst hp (by omega) hall
    rw [hr, hr2]
    refine uc_err_table hc ?_ (by decide)
    rcases hs' with hs' | ⟨hs', _⟩ <;> simp only [UeTable, hs']
    · exact ⟨trivial, .inr (.inr hcc)⟩
    · exact .inr ⟨trivial, hcc⟩
  · have hlt := get?_lt hc
    obtain ⟨σ', hr2, hs'⟩ := ue_pw_run hst hp (by omega) hall
    rw [hr, hr2]
    refine uc_err_table hc ?_ (by decide)
    simp only [UeTable, hs'.pass1 hn]
    exact ⟨trivial, hcc.elim .inl fun h => .inr (.inl h)⟩
  · obtain ⟨σ', hr2, hs'⟩ := ue_pw_run hst hp (by omega) hall
    rw [hr, hr2, ucRun_end he]
    have h1 := hs'.pass1 hn
    simp only [uriFinish, h1, beq_self_eq_true, Bool.or_true, ↓reduceIte]
    exact ⟨rfl, rfl⟩

/-- **a second '@' (or an `&`) in the host name** [EXPORT C14] behind the '@' of a user-info: `ErrURIBadChar` at
    that byte -/
theorem parseURI_err_host_at (b : Buf) (hfit : b.size ≤ 65535) {t k hs p : Nat} {c : UInt8} (hsch : UcScheme b t k)
    (hat : UcHostAt b k hs) (hk : k < hs) (hh : UcNameHost b hs p) (hc : b[p]? = some c) (hcc : c = 64 ∨ c = 38) :
    UcErrAt (parseURI b {}) .badChar p := by
  obtain ⟨σ, h, hr⟩ := uc_parse_host_at hsch hfit (hat.lt (Or.inl hk)) hat
  rw [hr]
  have hlt := get?_lt hc
  obtain ⟨hlt', hf, hall⟩ := hh
  obtain ⟨hst, hpn⟩ := h
  have hst0 : σ.st = .host0 := by
    rcases hst with ⟨h, _⟩ | ⟨_, h⟩
    · exact h
    · omega
  obtain ⟨c0, hc0⟩ := uget b hs (by omega)
  rw [ucRun_next hc0 (uc_host0_first hst0 (hf hs (Nat.le_refl _) (by omega) c0 hc0)),
    ucRun_stay (σ := { σ with st := .host1 }) (by omega) (by omega) hall (fun m c hf => uc_host1_stay rfl hf)]
  exact uc_err_table (σ := { σ with st := .host1 }) hc ⟨rfl, hcc.symm⟩ (by decide)

/-! #### a second '@' (or a `;` in the headers) once the user part is settled (`foundUser`) -/

/-- reading parameters (`hd = false`) or headers (`hd = true`) with the user part settled -/
def UeFuSt (σ : UState) (hd : Bool) : Prop :=
  σ.foundUser = true ∧ ((hd = false ∧ (σ.st = .param0 ∨ σ.st = .param1)) ∨ (hd = true ∧ σ.st = .headers))

theorem ue_fu_par_step {i : Nat} {c : UInt8} {σ : UState} (h : UeFuSt σ false) (hc : ucPar c = true) :
    ∃ σ', uriStep i c σ = .next σ' ∧ UeFuSt σ' false := by
  simp only [ucPar, Bool.not_eq_true', Bool.or_eq_false_iff, beq_eq_false_iff_ne] at hc
  obtain ⟨hfu, ⟨-, hst⟩ | ⟨hh, -⟩⟩ := h
  · obtain ⟨σ', hs, ⟨-, rfl⟩ | ⟨-, rfl⟩ | ⟨-, -, rfl⟩⟩ := uc_par_frame (i := i) hst hc.1 hc.2
    · exact ⟨_, hs, uMarkColon_fu hfu, .inl ⟨rfl, .inr rfl⟩⟩
    · exact ⟨_, hs, uSettle_fu hfu, .inl ⟨rfl, .inl rfl⟩⟩
    · exact ⟨_, hs, hfu, .inl ⟨rfl, .inr rfl⟩⟩
  · cases hh

theorem ue_fu_par_q {i : Nat} {σ : UState} (h : UeFuSt σ false) :
    ∃ σ', uriStep i 63 σ = .next σ' ∧ UeFuSt σ' true := by
  obtain ⟨hfu, ⟨-, hst⟩ | ⟨hh, -⟩⟩ := h
  · refine ⟨_, (UTr.par_quest hst rfl).eq, ?_, .inr ⟨rfl, by simp⟩⟩
    unfold uSettle
    split <;> simp [hfu, UState.setParams]
  · cases hh

theorem ue_fu_hdr_step {i : Nat} {c : UInt8} {σ : UState} (h : UeFuSt σ true) (hc : ucHdr c = true) :
    ∃ σ', uriStep i c σ = .next σ' ∧ UeFuSt σ' true := by
  simp only [ucHdr, Bool.not_eq_true', Bool.or_eq_false_iff, beq_eq_false_iff_ne] at hc
  obtain ⟨hfu, ⟨hh, -⟩ | ⟨-, hst⟩⟩ := h
  · cases hh
  · obtain ⟨σ', hs, ⟨-, rfl⟩ | ⟨-, rfl⟩ | ⟨h59, -⟩ | ⟨-, -, -, rfl⟩⟩ :=
      uc_hdr_frame (i := i) hst hc.2 fun h => absurd h hc.1
    · exact ⟨_, hs, uMarkColon_fu hfu, .inr ⟨rfl, by simp [hst]⟩⟩
    · exact ⟨_, hs, uSettle_fu hfu, .inr ⟨rfl, by simp [hst]⟩⟩
    · exact absurd h59 hc.1
    · exact ⟨_, hs, hfu, .inr ⟨rfl, hst⟩⟩

theorem ue_fu_reject {i : Nat} {c : UInt8} {σ : UState} {hd : Bool} (h : UeFuSt σ hd)
    (hc : c = 64 ∨ (c = 59 ∧ hd = true)) : uriStep i c σ = .fail .badChar i σ := by
  obtain ⟨hfu, hst⟩ := h
  rcases hc with rfl | ⟨rfl, rfl⟩
  · exact (UTr.at_bad (hst.elim (fun h => h.2.elim .inl fun h => .inr (.inl h)) fun h => .inr (.inr h.2)) rfl hfu).eq
  · rcases hst with ⟨hh, -⟩ | ⟨-, hst⟩
    · cases hh
    · exact (UTr.hdr_semi_bad hst rfl (.inl hfu)).eq

/-- the text from the first `;` / `?` behind host and port (at `e`) up to `p`: parameters (`hd = false`: `;` and
    parameter bytes), or headers (`hd = true`: `?` and header bytes, possibly behind `;` parameters) -/
def UePHTo (b : Buf) (e p : Nat) (hd : Bool) : Prop :=
  (hd = false ∧ b[e]? = some 59 ∧ e + 1 ≤ p ∧ UcAll b (e + 1) p ucPar) ∨
  (hd = true ∧ b[e]? = some 63 ∧ e + 1 ≤ p ∧ UcAll b (e + 1) p ucHdr) ∨
  (hd = true ∧ b[e]? = some 59 ∧ ∃ q, e + 1 ≤ q ∧ UcAll b (e + 1) q ucPar ∧ b[q]? = some 63 ∧ q + 1 ≤ p ∧
    UcAll b (q + 1) p ucHdr)

theorem ue_fu_run_par {b : Buf} {i p : Nat} {σ : UState} (h : UeFuSt σ false) (hip : i ≤ p) (hp : p ≤ b.size)
    (hall : UcAll b i p ucPar) : ∃ σ', ucRun b i σ = ucRun b p σ' ∧ UeFuSt σ' false :=
  ucRun_scan (f := ucPar) (fun _ σ' => UeFuSt σ' false) hip hp hall σ h
    (fun _ _ _ _ _ _ hf h1 => ue_fu_par_step h1 hf)

theorem ue_fu_run_hdr {b : Buf} {i p : Nat} {σ : UState} (h : UeFuSt σ true) (hip : i ≤ p) (hp : p ≤ b.size)
    (hall : UcAll b i p ucHdr) : ∃ σ', ucRun b i σ = ucRun b p σ' ∧ UeFuSt σ' true :=
  ucRun_scan (f := ucHdr) (fun _ σ' => UeFuSt σ' true) hip hp hall σ h
    (fun _ _ _ _ _ _ hf h1 => ue_fu_hdr_step h1 hf)

theorem ue_fu_run {b : Buf} {e p : Nat} {σ : UState} {hd : Bool} (hp : p ≤ b.size)
    (g59 : ∃ σ', uriStep e 59 σ = .next σ' ∧ UeFuSt σ' false)
    (g63 : ∃ σ', uriStep e 63 σ = .next σ' ∧ UeFuSt σ' true)
    (h : UePHTo b e p hd) : ∃ σ', ucRun b e σ = ucRun b p σ' ∧ UeFuSt σ' hd := by
  rcases h with ⟨rfl, hc, hle, hall⟩ | ⟨rfl, hc, hle, hall⟩ | ⟨rfl, hc, q, hle, hall, hq, hle2, hall2⟩
  · obtain ⟨σ1, hs1, hf1⟩ := g59
    obtain ⟨σ2, hr2, hf2⟩ := ue_fu_run_par hf1 hle hp hall
    exact ⟨σ2, by rw [ucRun_next hc hs1, hr2], hf2⟩
  · obtain ⟨σ1, hs1, hf1⟩ := g63
    obtain ⟨σ2, hr2, hf2⟩ := ue_fu_run_hdr hf1 hle hp hall
    exact ⟨σ2, by rw [ucRun_next hc hs1, hr2], hf2⟩
  · obtain ⟨σ1, hs1, hf1⟩ := g59
    have hqlt := get?_lt hq
    obtain ⟨σ2, hr2, hf2⟩ := ue_fu_run_par hf1 hle (by omega) hall
    obtain ⟨σ3, hs3, hf3⟩ := ue_fu_par_q (i := q) hf2
    obtain ⟨σ4, hr4, hf4⟩ := ue_fu_run_hdr hf3 hle2 hp hall2
    exact ⟨σ4, by rw [ucRun_next hc hs1, hr2, ucRun_next hq hs3, hr4], hf4⟩

/-- `;` / `?` behind a host, or behind its port of value ≤ 65535: a settled user part stays settled -/
theorem ue_gate_fu {e : Nat} {σ : UState}
    (hst : σ.st = .host1 ∨ σ.st = .host6E ∨ (σ.st = .port ∧ σ.portNo ≤ 65535)) (hfu : σ.foundUser = true) :
    (∃ σ', uriStep e 59 σ = .next σ' ∧ UeFuSt σ' false) ∧ (∃ σ', uriStep e 63 σ = .next σ' ∧ UeFuSt σ' true) := by
  rcases or_assoc.mpr hst with h | ⟨h, hpn⟩
  · exact ⟨⟨_, (UTr.host_semi h rfl).eq, hfu, .inl ⟨rfl, .inl rfl⟩⟩,
      ⟨_, (UTr.host_quest h rfl).eq, hfu, .inr ⟨rfl, rfl⟩⟩⟩
  · exact ⟨⟨_, (UTr.port_semi h rfl hpn).eq, hfu, .inl ⟨rfl, .inl rfl⟩⟩,
      ⟨_, (UTr.port_quest h rfl hpn).eq, hfu, .inr ⟨rfl, rfl⟩⟩⟩

/-- `;` / `?` behind `token:digits` (value ≤ 65535) with no '@' seen: the token is committed as the host, the
    digits as the port, and the user part is settled (as absent) -/
theorem ue_gate_pass0 {e : Nat} {σ : UState} (hst : σ.st = .pass0) (hpn : σ.portNo ≤ 65535) :
    (∃ σ', uriStep e 59 σ = .next σ' ∧ UeFuSt σ' false) ∧ (∃ σ', uriStep e 63 σ = .next σ' ∧ UeFuSt σ' true) := by
  exact ⟨⟨_, (UTr.pass0_semi hst rfl hpn).eq, rfl, .inl ⟨rfl, .inl rfl⟩⟩,
    ⟨_, (UTr.pass0_quest hst rfl hpn).eq, rfl, .inr ⟨rfl, rfl⟩⟩⟩

/-- the optional port between the end `he` of the host and the first `;` / `?` at `e`: nothing, or `:` and digits
    of value ≤ 65535 -/
def UePortTo (b : Buf) (he e : Nat) : Prop :=
  e = he ∨ (b[he]? = some 58 ∧ he + 1 ≤ e ∧ UcAll b (he + 1) e isDigit ∧ decOf (digitsOf b (he + 1) e) ≤ 65535)

theorem ue_found_from_host {b : Buf} {he e p : Nat} {hd : Bool} {c : UInt8} {σ : UState}
    (hst : σ.st = .host1 ∨ σ.st = .host6E) (hfu : σ.foundUser = true) (hpn : σ.portNo = 0)
    (hpo : UePortTo b he e) (hph : UePHTo b e p hd) (hc : b[p]? = some c) (hcc : c = 64 ∨ (c = 59 ∧ hd = true)) :
    UcErrAt (ucRun b he σ) .badChar p := by
  have hlt := get?_lt hc
  rcases hpo with rfl | ⟨h58, hle, hall, hval⟩
  · obtain ⟨g1, g2⟩ := ue_gate_fu (e := e) (σ := σ) (by rcases hst with h | h; exact Or.inl h; exact Or.inr (Or.inl h)) hfu
    obtain ⟨σ2, hr2, hf2⟩ := ue_fu_run (Nat.le_of_lt hlt) g1 g2 hph
    rw [hr2]
    exact uc_err_fail hc (ue_fu_reject hf2 hcc) (by decide)
  · have he' : e < b.size := by
      rcases hph with ⟨_, h, _⟩ | ⟨_, h, _⟩ | ⟨_, h, _⟩ <;> exact get?_lt h
    rw [ucRun_next h58 (UTr.host_colon hst rfl).eq, uc_run_digits (Or.inl rfl) hle (Nat.le_of_lt he') hall]
    obtain ⟨g1, g2⟩ := ue_gate_fu (e := e)
      (σ := { ({ σ.setHost σ.s he with st := .port, s := he + 1 } : UState) with
        portNo := accPortL ({ σ.setHost σ.s he with st := .port, s := he + 1 } : UState).portNo (digitsOf b (he + 1) e) })
      (Or.inr (Or.inr ⟨rfl, by simp only [UState.setHost, hpn]; rw [uc_acc_val hval]; exact hval⟩))
      (by simp only [UState.setHost, hfu])
    obtain ⟨σ2, hr2, hf2⟩ := ue_fu_run (Nat.le_of_lt hlt) g1 g2 hph
    rw [hr2]
    exact uc_err_fail hc (ue_fu_reject hf2 hcc) (by decide)

/-- **a second '@' behind `user-info@host[:port]`, or a `;` in its headers** [EXPORT C14]: with the text between
    the host (and port ≤ 65535) and `p` being `;` parameters (no `?`, no `@`) and / or `?` headers (no `;`, no `@`),
    an '@' at `p`, or a `;` at `p` when `p` lies in the headers, is `ErrURIBadChar` at `p` -/
theorem parseURI_err_second_at (b : Buf) (hfit : b.size ≤ 65535) {t k a he e p : Nat} {hd : Bool} {c : UInt8}
    {us pw : PField} (hsch : UcScheme b t k) (hat : b[a]? = some 64)
    (hu : UcUserPlain b k a us pw ∨ UcUserBack b k a us pw)
    (hh : UcNameHost b (a + 1) he ∨ UcBrHost b (a + 1) he) (hpo : UePortTo b he e) (hph : UePHTo b e p hd)
    (hc : b[p]? = some c) (hcc : c = 64 ∨ (c = 59 ∧ hd = true)) : UcErrAt (parseURI b {}) .badChar p := by
  have hka : k < a := by
    rcases hu with hu | hu
    · exact hu.lt
    · exact hu.lt
  obtain ⟨σ, hi, hr⟩ := uc_parse_run hsch (by have := get?_lt hat; omega)
  rw [hr]
  have hlt := get?_lt hc
  have he' : e < b.size := by
    rcases hph with ⟨_, h, _⟩ | ⟨_, h, _⟩ | ⟨_, h, _⟩ <;> exact get?_lt h
  have hhe : he ≤ b.size := by
    rcases hpo with rfl | ⟨h, _⟩
    · omega
    · have := get?_lt h; omega
  obtain ⟨σ', hr, g1, g2, g3, g4, g5, g6, hfu⟩ : ∃ σ', ucRun b k σ = ucRun b (a + 1) σ' ∧ UcHost0St σ' a t k us pw :=
    hu.elim (uc_run_user_plain hi hfit hat) (uc_run_user_back hi hfit hat)
  rw [hr]
  rcases hh with ⟨hlt', hf, hall⟩ | hbr
  · obtain ⟨c0, hc0⟩ := uget b (a + 1) (by omega)
    rw [ucRun_next hc0 (uc_host0_first g1 (hf (a + 1) (Nat.le_refl _) (by omega) c0 hc0)),
      ucRun_stay (σ := { σ' with st := .host1 }) (by omega) hhe hall (fun m c hf => uc_host1_stay rfl hf)]
    exact ue_found_from_host (σ := { σ' with st := .host1 }) (Or.inl rfl) hfu g3 hpo hph hc hcc
  · rw [ucRun_next hbr.1 (UTr.host0_br g1 rfl).eq, uc_run_br rfl hbr hhe]
    exact ue_found_from_host (σ := { σ' with st := .host6E }) (Or.inr rfl) hfu g3 hpo hph hc hcc

/-- **an '@' behind `token:digits;` / `token:digits?`** [EXPORT C14] (value ≤ 65535): the `;` / `?` has committed the
    token as host and the digits as port, so an '@' further on (or a `;` in the headers) is `ErrURIBadChar` at that
    byte (`sip:u:1;x@h` → 9) -/
theorem parseURI_err_committed_at (b : Buf) {t k ue e p : Nat} {hd : Bool} {c : UInt8} (hsch : UcScheme b t k)
    (hh : UcFirstTok b k ue) (h58 : b[ue]? = some 58) (hle : ue + 1 ≤ e) (hall : UcAll b (ue + 1) e isDigit)
    (hval : decOf (digitsOf b (ue + 1) e) ≤ 65535) (hph : UePHTo b e p hd) (hc : b[p]? = some c)
    (hcc : c = 64 ∨ (c = 59 ∧ hd = true)) : UcErrAt (parseURI b {}) .badChar p := by
  obtain ⟨σ, hi, hr⟩ := uc_parse_run hsch (by have := get?_lt h58; have := hh.1; omega)
  rw [hr]
  have hlt := get?_lt hc
  have he' : e < b.size := by
    rcases hph with ⟨_, h, _⟩ | ⟨_, h, _⟩ | ⟨_, h, _⟩ <;> exact get?_lt h
  obtain ⟨σp, hr, hst, hpn⟩ := uc_run_to_pass0 (σ := σ) (k := k) ⟨Or.inr ⟨hi.1, rfl⟩, hi.2.2.2.1⟩ hh h58
  rw [hr, uc_run_digits (Or.inr hst) hle (Nat.le_of_lt he') hall]
  obtain ⟨g1, g2⟩ := ue_gate_pass0 (e := e) (σ := { σp with portNo := accPortL σp.portNo (digitsOf b (ue + 1) e) })
    hst (by simp only [hpn]; rw [uc_acc_val hval]; exact hval)
  obtain ⟨σ2, hr2, hf2⟩ := ue_fu_run (Nat.le_of_lt hlt) g1 g2 hph
  rw [hr2]
  exact uc_err_fail hc (ue_fu_reject hf2 hcc) (by decide)

/-! #### `;` inside the headers while the user part is still undecided (no '@', no `:` seen) -/

/-- parameter byte of a text that may still become a user part: not `@`, `?`, `:` -/
def ucNc (c : UInt8) : Bool := !(c == 64 || c == 63 || c == 58)

/-- reading parameters (`hd = false`) or headers (`hd = true`) with no '@' seen and no `:` remembered -/
def UeUnd (σ : UState) (hd : Bool) : Prop :=
  σ.foundUser = false ∧ σ.passOffs = 0 ∧
  ((hd = false ∧ (σ.st = .param0 ∨ σ.st = .param1)) ∨ (hd = true ∧ σ.st = .headers))

theorem ue_gate_und {e : Nat} {σ : UState} (hst : σ.st = .user ∨ σ.st = .host6E) (hfu : σ.foundUser = false)
    (hpo : σ.passOffs = 0) :
    (∃ σ', uriStep e 59 σ = .next σ' ∧ UeUnd σ' false) ∧ (∃ σ', uriStep e 63 σ = .next σ' ∧ UeUnd σ' true) := by
  rcases hst with h | h
  · exact ⟨⟨_, (UTr.user_semi h rfl).eq, hfu, hpo, .inl ⟨rfl, .inl rfl⟩⟩,
      ⟨_, (UTr.user_quest h rfl).eq, hfu, hpo, .inr ⟨rfl, rfl⟩⟩⟩
  · exact ⟨⟨_, (UTr.host_semi (.inr h) rfl).eq, hfu, hpo, .inl ⟨rfl, .inl rfl⟩⟩,
      ⟨_, (UTr.host_quest (.inr h) rfl).eq, hfu, hpo, .inr ⟨rfl, rfl⟩⟩⟩

theorem ue_und_par_step {i : Nat} {c : UInt8} {σ : UState} (h : UeUnd σ false) (hc : ucNc c = true) :
    ∃ σ', uriStep i c σ = .next σ' ∧ UeUnd σ' false := by
  simp only [ucNc, Bool.not_eq_true', Bool.or_eq_false_iff, beq_eq_false_iff_ne] at hc
  obtain ⟨hfu, hpo, ⟨-, hst⟩ | ⟨hh, -⟩⟩ := h
  · obtain ⟨σ', hs, ⟨h58, -⟩ | ⟨-, rfl⟩ | ⟨-, -, rfl⟩⟩ := uc_par_frame (i := i) hst hc.1.2 hc.1.1
    · exact absurd h58 hc.2
    · rw [uSettle_und hpo] at hs
      exact ⟨_, hs, hfu, hpo, .inl ⟨rfl, .inl rfl⟩⟩
    · exact ⟨_, hs, hfu, hpo, .inl ⟨rfl, .inr rfl⟩⟩
  · cases hh

theorem ue_und_par_q {i : Nat} {σ : UState} (h : UeUnd σ false) :
    ∃ σ', uriStep i 63 σ = .next σ' ∧ UeUnd σ' true := by
  obtain ⟨hfu, hpo, ⟨-, hst⟩ | ⟨hh, -⟩⟩ := h
  · exact ⟨_, (UTr.par_quest hst rfl).eq, by simp [UeUnd, uSettle, UState.setParams, hfu, hpo]⟩
  · cases hh

/-- in the headers, undecided: once a `;` has been read in `[s, m)` the flag `errHeaders` is set -/
def UeHeSt (b : Buf) (s m : Nat) (σ : UState) : Prop :=
  UeUnd σ true ∧ ((∃ j, s ≤ j ∧ j < m ∧ b[j]? = some 59) → σ.errHeaders = true)

theorem ue_he_step {b : Buf} {s m : Nat} {c : UInt8} {σ : UState} (h : UeHeSt b s m σ) (hc : b[m]? = some c)
    (hf : ucW1 c = true) : ∃ σ', uriStep m c σ = .next σ' ∧ UeHeSt b s (m + 1) σ' := by
  simp only [ucW1, Bool.not_eq_true', Bool.or_eq_false_iff, beq_eq_false_iff_ne] at hf
  obtain ⟨⟨hfu, hpo, hst⟩, herr⟩ := h
  have hst' : σ.st = .headers := by
    rcases hst with ⟨hh, _⟩ | ⟨_, h⟩
    · cases hh
    · exact h
  -- only a `;` read now makes the flag due; it is the byte that sets it
  have hkeep : c ≠ 59 → (∃ j, s ≤ j ∧ j < m + 1 ∧ b[j]? = some 59) → σ.errHeaders = true := by
    rintro h59 ⟨j, h1, h2, h3⟩
    refine herr ⟨j, h1, ?_, h3⟩
    rcases Nat.lt_or_ge j m with h | h
    · exact h
    · rw [show j = m by omega, hc] at h3; cases h3; exact absurd rfl h59
  obtain ⟨σ', hs, ⟨h58, -⟩ | ⟨h63, rfl⟩ | ⟨-, rfl⟩ | ⟨-, -, h59, rfl⟩⟩ :=
    uc_hdr_frame (i := m) hst' hf.1 fun _ => ⟨hfu, hpo⟩
  · exact absurd h58 hf.2
  · rw [uSettle_und hpo] at hs
    exact ⟨_, hs, ⟨hfu, hpo, hst⟩, hkeep (by rw [h63]; decide)⟩
  · exact ⟨_, hs, ⟨hfu, hpo, .inr ⟨rfl, hst'⟩⟩, fun _ => rfl⟩
  · exact ⟨_, hs, ⟨hfu, hpo, hst⟩, hkeep h59⟩

/-- **`;` inside the headers of a URI without user-info** [EXPORT C14] (host = first token or `[…]`, no port, optional
    `;` parameters without `:`, then `?` at `q`): when neither '@' nor `:` follows, a `;` anywhere in the headers
    gives `ErrURIHeaders`, reported at the END of the input (`sip:h?a;b` → 9) -/
theorem parseURI_err_headers_semi (b : Buf) {t k he q : Nat} (hsch : UcScheme b t k)
    (hh : UcFirstTok b k he ∨ UcBrHost b k he)
    (hq : (q = he ∧ b[he]? = some 63) ∨ (b[he]? = some 59 ∧ he + 1 ≤ q ∧ UcAll b (he + 1) q ucNc ∧ b[q]? = some 63))
    (hall : UcAll b (q + 1) b.size ucW1) (hsemi : ∃ j, q + 1 ≤ j ∧ j < b.size ∧ b[j]? = some 59) :
    UcErrAt (parseURI b {}) .headers b.size := by
  obtain ⟨σ, hi, hr⟩ := uc_parse_run hsch (by
    obtain ⟨j, _, hj, _⟩ := hsemi
    rcases hh with h | h
    · have := h.1; rcases hq with ⟨_, h'⟩ | ⟨h', _⟩ <;> (have := get?_lt h'; omega)
    · have := h.2.1; rcases hq with ⟨_, h'⟩ | ⟨h', _⟩ <;> (have := get?_lt h'; omega))
  rw [hr]
  obtain ⟨hst, hfu, hpo, hpn, heh, hp, hu0⟩ := hi
  have hqlt : q < b.size := by
    rcases hq with ⟨_, h⟩ | ⟨_, _, _, h⟩
    · have := get?_lt h; omega
    · exact get?_lt h
  have hhe : he ≤ q := by
    rcases hq with ⟨h, _⟩ | ⟨_, h, _⟩ <;> omega
  -- up to the end of the host
  obtain ⟨σh, hr, hsth, hfuh, hpoh⟩ : ∃ σh, ucRun b k σ = ucRun b he σh ∧ (σh.st = .user ∨ σh.st = .host6E) ∧
      σh.foundUser = false ∧ σh.passOffs = 0 := by
    rcases hh with ⟨hlt, hf, hall'⟩ | hbr
    · obtain ⟨c0, hc0⟩ := uget b k (by omega)
      exact ⟨{ σ with st := .user, s := k }, by
        rw [ucRun_next hc0 (uc_init_first hst (hf k (Nat.le_refl _) (by omega) c0 hc0)),
          ucRun_stay (σ := { σ with st := .user, s := k }) (by omega) (by omega) hall' (fun m c hf => uc_user_tok rfl hf)],
        Or.inl rfl, hfu, hpo⟩
    · exact ⟨{ σ with st := .host6E, s := k }, by rw [ucRun_next hbr.1 (UTr.init_br hst rfl).eq, uc_run_br rfl hbr (by omega)],
        Or.inr rfl, hfu, hpo⟩
  obtain ⟨g1, g2⟩ := ue_gate_und (e := he) hsth hfuh hpoh
  -- to the headers
  obtain ⟨σq, hr2, hund⟩ : ∃ σq, ucRun b he σh = ucRun b (q + 1) σq ∧ UeUnd σq true := by
    rcases hq with ⟨rfl, h63⟩ | ⟨h59, hle, hall', h63⟩
    · obtain ⟨σ1, hs1, hu1⟩ := g2
      exact ⟨σ1, ucRun_next h63 hs1, hu1⟩
    · obtain ⟨σ1, hs1, hu1⟩ := g1
      obtain ⟨σ2, hr2, hu2⟩ := ucRun_scan (f := ucNc) (fun _ σ' => UeUnd σ' false) hle (Nat.le_of_lt hqlt)
        hall' σ1 hu1 (fun m c σ2 _ _ _ hf h1 => ue_und_par_step h1 hf)
      obtain ⟨σ3, hs3, hu3⟩ := ue_und_par_q (i := q) hu2
      exact ⟨σ3, by rw [ucRun_next h59 hs1, hr2, ucRun_next h63 hs3], hu3⟩
  obtain ⟨σe, hr3, hue, herr⟩ := ucRun_scan (f := ucW1) (fun m σ' => UeHeSt b (q + 1) m σ') (by omega) (Nat.le_refl _)
    hall σq ⟨hund, fun ⟨j, h1, h2, _⟩ => absurd h2 (by omega)⟩
    (fun m c σ2 _ _ hc hf h1 => ue_he_step h1 hc hf)
  have hste : σe.st = .headers := by
    rcases hue.2.2 with ⟨hh, _⟩ | ⟨_, h⟩
    · cases hh
    · exact h
  rw [hr, hr2, hr3, ucRun_end rfl]
  simp only [uriFinish, hste, UState.setHeaders, herr hsemi, ↓reduceIte]
  exact ⟨rfl, rfl⟩

/-! ### (2) the text in front of a rejected byte -/

/-- the text in front of a rejected byte `c` at `p`, one alternative per group of exits of the automaton:
    right behind the scheme; `[` `]` in the first token; behind `token:` (password / port); where a host must
    start and inside a host name, behind the '@' of a user-info; inside / behind `[…]`; in the port behind such a
    host; in the parameters / headers -/
def UeShape (b : Buf) (k p : Nat) (c : UInt8) (e : UErr) : Prop :=
  (p = k ∧ e = .badChar ∧ (c = 58 ∨ c = 93)) ∨
  (UcFirstTok b k p ∧ e = .badChar ∧ (c = 91 ∨ c = 93)) ∨
  (∃ ue, UcFirstTok b k ue ∧ b[ue]? = some 58 ∧ ue + 1 ≤ p ∧ UcAll b (ue + 1) p ucTok ∧
    ((e = .badChar ∧ (c = 91 ∨ c = 93 ∨ c = 58)) ∨
     (e = .badChar ∧ (c = 59 ∨ c = 63) ∧ UeNonDigit b (ue + 1) p) ∨
     (e = .port ∧ (c = 59 ∨ c = 63) ∧ UcAll b (ue + 1) p isDigit ∧ decOf (digitsOf b (ue + 1) p) > 65535))) ∨
  (∃ hs, UcHostAt b k hs ∧ k < hs ∧
    ((p = hs ∧ e = .host ∧ (c = 58 ∨ c = 59 ∨ c = 63 ∨ c = 38 ∨ c = 64)) ∨
     (UcNameHost b hs p ∧ e = .badChar ∧ (c = 64 ∨ c = 38)))) ∨
  (∃ hs, UcHostAt b k hs ∧
    ((b[hs]? = some 91 ∧ hs + 1 ≤ p ∧ UcAll b (hs + 1) p ucBrIn ∧ e = .host ∧
        (c = 91 ∨ c = 64 ∨ c = 59 ∨ c = 63 ∨ c = 38)) ∨
     (UcBrHost b hs p ∧ e = .host ∧ c ≠ 58 ∧ c ≠ 59 ∧ c ≠ 63))) ∨
  (∃ hs he, UcHostAt b k hs ∧ ((k < hs ∧ UcNameHost b hs he) ∨ UcBrHost b hs he) ∧ b[he]? = some 58 ∧ he + 1 ≤ p ∧
    UcAll b (he + 1) p isDigit ∧ e = .port ∧ isDigit c = false ∧
    ((c = 59 ∨ c = 63) → decOf (digitsOf b (he + 1) p) > 65535)) ∨
  (e = .badChar ∧ ∃ d, k < d ∧ d < p ∧
    ((c = 64 ∧ (b[d]? = some 59 ∨ b[d]? = some 63)) ∨ (c = 59 ∧ b[d]? = some 63)))

theorem ue_acc_big {l : List UInt8} (h : accPortL 0 l > 65535) : decOf l > 65535 := by
  rcases Nat.lt_or_ge 65535 (decOf l) with h1 | h1
  · exact h1
  · have := (accPortL_spec l 0).1 h1
    unfold decOf at h1
    omega

/-- **the text in front of a rejected byte**: a state satisfying the invariants in which the byte is rejected
    pins down the shape of the input up to that byte -/
theorem ue_shape_of_table {b : Buf} {t k p : Nat} {c : UInt8} {e : UErr} {σ : UState} (h : URun b t k p σ)
    (ht : UeTable σ c e) : UeShape b k p c e := by
  obtain ⟨-, -, -, hk, -, -, -, hR⟩ := h
  rcases hst : σ.st with _ | _ | _ | _ | _ | _ | _ | _ | _ | _ | _ | _ | _ | _ | _ | _ | _ | _ <;>
    simp only [UeTable, hst] at ht <;> simp only [URead, hst] at hR
  case initSIP | initSIPS | initTEL => exact .inl ⟨hR.1, ht.1, ht.2⟩
  case user => exact .inr (.inl ⟨hR.2.1, ht.1, ht.2⟩)
  case pass0 =>
    obtain ⟨⟨ue, hft, h58, hus, hs, hsi, -⟩, hall, hacc⟩ := hR
    rw [hs] at hall hacc hsi
    refine .inr (.inr (.inl ⟨ue, hft, h58, hsi, hall.mono uc_digit_tok, ?_⟩))
    rcases ht with ⟨he, hcc, hbig⟩ | ⟨he, hcc⟩
    · exact .inr (.inr ⟨he, hcc, hall, ue_acc_big (hacc ▸ hbig)⟩)
    · exact .inl ⟨he, hcc⟩
  case pass1 =>
    obtain ⟨⟨ue, hft, h58, hus, hs, hsi, -⟩, hall, hnd, -⟩ := hR
    rw [hs] at hall hnd hsi
    refine .inr (.inr (.inl ⟨ue, hft, h58, hsi, hall, ?_⟩))
    rcases ht.2 with hcc | hcc | hcc | hcc | hcc
    · exact .inr (.inl ⟨ht.1, .inl hcc, hnd⟩)
    · exact .inr (.inl ⟨ht.1, .inr hcc, hnd⟩)
    · exact .inl ⟨ht.1, .inl hcc⟩
    · exact .inl ⟨ht.1, .inr (.inl hcc)⟩
    · exact .inl ⟨ht.1, .inr (.inr hcc)⟩
  case host0 =>
    obtain ⟨hs, -, hui, -⟩ := hR
    obtain ⟨hat, hlt⟩ := hui.hostAt
    exact .inr (.inr (.inr (.inl ⟨p, hat, hlt, .inl ⟨rfl, ht.1, ht.2⟩⟩)))
  case host1 =>
    obtain ⟨-, hui, hnh, -⟩ := hR
    obtain ⟨hat, hlt⟩ := hui.hostAt
    exact .inr (.inr (.inr (.inl ⟨σ.s, hat, hlt, .inr ⟨hnh, ht.1, ht.2.elim .inr .inl⟩⟩)))
  case host61 =>
    obtain ⟨hf, hsi, h91, hall, -⟩ := hR
    exact .inr (.inr (.inr (.inr (.inl ⟨σ.s, hf.hostAt, .inl ⟨h91, hsi, hall, ht.1, ht.2⟩⟩))))
  case host6E =>
    obtain ⟨hf, hbr, -⟩ := hR
    exact .inr (.inr (.inr (.inr (.inl ⟨σ.s, hf.hostAt, .inr ⟨hbr, ht.1, ht.2⟩⟩))))
  case port =>
    obtain ⟨hs, he, hf, hh, -, h58, hss, hsi, hall, hacc, -⟩ := hR
    rw [hss] at hall hacc hsi
    exact .inr (.inr (.inr (.inr (.inr (.inl ⟨hs, he, hf.hostAt, hf.form hh, h58, hsi, hall, ht.1, ht.2.1,
      fun hcc => ue_acc_big (hacc ▸ ht.2.2 hcc)⟩)))))
  case param0 | param1 =>
    obtain ⟨he, pe, hok, hpr, h59, hss, hsi, -⟩ := hR
    have := hok.lt
    have := hpr.le
    exact .inr (.inr (.inr (.inr (.inr (.inr ⟨ht.1, pe, by omega, by omega, .inl ⟨ht.2.1, .inl h59⟩⟩)))))
  case headers =>
    obtain ⟨he, pe, qe, hok, hpr, hpa, h63, hss, hsi, -⟩ := hR
    have := hok.lt
    have := hpr.le
    have := hpa.le
    refine .inr (.inr (.inr (.inr (.inr (.inr ⟨ht.1, qe, by omega, by omega, ?_⟩)))))
    rcases ht.2 with ⟨hcc, _⟩ | ⟨hcc, _⟩
    · exact .inl ⟨hcc, .inr h63⟩
    · exact .inr ⟨hcc, h63⟩
  all_goals exact absurd ht id

/-- the whole text of an input that is rejected at its END (position = length), one alternative per group of
    exits of the end-of-input switch: nothing behind the scheme; `token:text` without '@' where the text is not a
    number, or is a number above 65535; a host that is missing behind '@' / a `[` that is never closed; a port
    above 65535; a `;` in the headers -/
def UeEndShape (b : Buf) (k : Nat) (e : UErr) : Prop :=
  (b.size = k ∧ e = .tooShort) ∨
  (∃ ue, UcFirstTok b k ue ∧ b[ue]? = some 58 ∧ UcAll b (ue + 1) b.size ucTok ∧ e = .port ∧
    (UeNonDigit b (ue + 1) b.size ∨
     (UcAll b (ue + 1) b.size isDigit ∧ decOf (digitsOf b (ue + 1) b.size) > 65535))) ∨
  (∃ hs, UcHostAt b k hs ∧ e = .host ∧
    ((hs = b.size ∧ k < hs) ∨ (b[hs]? = some 91 ∧ UcAll b (hs + 1) b.size ucBrIn))) ∨
  (∃ hs he, UcHostAt b k hs ∧ ((k < hs ∧ UcNameHost b hs he) ∨ UcBrHost b hs he) ∧ b[he]? = some 58 ∧
    UcAll b (he + 1) b.size isDigit ∧ decOf (digitsOf b (he + 1) b.size) > 65535 ∧ e = .port) ∨
  (e = .headers ∧ ∃ q j, k < q ∧ q < j ∧ j < b.size ∧ b[q]? = some 63 ∧ b[j]? = some 59)

theorem ue_end_shape {b : Buf} {t k : Nat} {e : UErr} {σ : UState} (h : URun b t k b.size σ)
    (ht : UeFinTable σ e) (he : e ≠ .none) : UeEndShape b k e := by
  obtain ⟨-, -, -, hk, -, -, -, hR⟩ := h
  rcases hst : σ.st with _ | _ | _ | _ | _ | _ | _ | _ | _ | _ | _ | _ | _ | _ | _ | _ | _ | _ <;>
    simp only [UeFinTable, hst] at ht <;> simp only [URead, hst] at hR
  case initSIP | initSIPS | initTEL => exact .inl ⟨hR.1, ht⟩
  case user | host1 | host6E | param0 | param1 => exact absurd ht he
  case pass0 =>
    obtain ⟨⟨ue, hft, h58, hus, hs, hsi, -⟩, hall, hacc⟩ := hR
    rw [hs] at hall hacc
    rcases ht with ⟨he', hbig⟩ | ⟨he', _⟩
    · exact .inr (.inl ⟨ue, hft, h58, hall.mono uc_digit_tok, he', .inr ⟨hall, ue_acc_big (hacc ▸ hbig)⟩⟩)
    · exact absurd he' he
  case pass1 =>
    obtain ⟨⟨ue, hft, h58, hus, hs, hsi, -⟩, hall, hnd, -⟩ := hR
    rw [hs] at hall hnd
    exact .inr (.inl ⟨ue, hft, h58, hall, ht, .inl hnd⟩)
  case host0 =>
    obtain ⟨hs, -, hui, -⟩ := hR
    obtain ⟨hat, hlt⟩ := hui.hostAt
    exact .inr (.inr (.inl ⟨b.size, hat, ht, .inl ⟨rfl, hlt⟩⟩))
  case host61 =>
    obtain ⟨hf, hsi, h91, hall, -⟩ := hR
    exact .inr (.inr (.inl ⟨σ.s, hf.hostAt, ht, .inr ⟨h91, hall⟩⟩))
  case port =>
    obtain ⟨hs, he_, hf, hh, -, h58, hss, hsi, hall, hacc, -⟩ := hR
    rw [hss] at hall hacc
    rcases ht with ⟨he', hbig⟩ | ⟨he', _⟩
    · exact .inr (.inr (.inr (.inl ⟨hs, he_, hf.hostAt, hf.form hh, h58, hall, ue_acc_big (hacc ▸ hbig), he'⟩)))
    · exact absurd he' he
  case headers =>
    obtain ⟨he_, pe, qe, hok, hpr, hpa, h63, hss, hsi, -, -, hsemi, -⟩ := hR
    have := hok.lt
    have := hpr.le
    have := hpa.le
    rcases ht with ⟨he', heh⟩ | ⟨he', _⟩
    · obtain ⟨j, a1, a2, a3⟩ := hsemi heh
      exact .inr (.inr (.inr (.inr ⟨he', qe, j, by omega, by omega, a2, h63, a3⟩)))
    · exact absurd he' he
  all_goals exact absurd ht id

/-- **totality of the description of `ParseURI`** [EXPORT C14]: for every input of at most 65,535 bytes
    at least one of four things happens (the four are mutually exclusive by the error code / position):
    * it is ACCEPTED, consumed to the end, and is a text of the grammar (`UcURI` or `UcTelURI`);
    * it has fewer than five bytes: `ErrURITooShort` at the end;
    * it has no known scheme: `ErrURIScheme` at position 4 (always 4: the position is not that of an offending
      byte unless the scheme is `sips` without its `:`);
    * behind a scheme of `k` bytes it is REJECTED, either at its END (position = length) with the whole text
      described by `UeEndShape`, or at the byte `c` at the reported position `p ≥ k`, which the automaton rejects
      in the state it has reached: `UeShape` gives the text in front of `p`, the byte and the code. -/
theorem parseURI_total (b : Buf) (hfit : b.size ≤ 65535) :
    ((parseURI b {}).1 = .none ∧ (parseURI b {}).2.1 = b.size ∧ ((∃ u, UcURI b u) ∨ (∃ u, UcTelURI b u))) ∨
    ((parseURI b {}).1 = .tooShort ∧ (parseURI b {}).2.1 = b.size ∧ b.size < 5) ∨
    ((parseURI b {}).1 = .scheme ∧ (parseURI b {}).2.1 = 4 ∧ 5 ≤ b.size ∧
      ¬ UcSchSip b ∧ ¬ UcSchTel b ∧ ¬ UcSchSips b) ∨
    (∃ t k, UcScheme b t k ∧ (parseURI b {}).1 ≠ .none ∧
      (((parseURI b {}).2.1 = b.size ∧ UeEndShape b k (parseURI b {}).1) ∨
       (∃ c, k ≤ (parseURI b {}).2.1 ∧ b[(parseURI b {}).2.1]? = some c ∧
          UeShape b k (parseURI b {}).2.1 c (parseURI b {}).1))) := by
  by_cases h5 : b.size < 5
  · rw [parseURI_err_short b h5]
    exact Or.inr (Or.inl ⟨rfl, rfl, h5⟩)
  have h5' : 5 ≤ b.size := by omega
  by_cases hsch : ∃ t k, UcScheme b t k
  · obtain ⟨t, k, hsch⟩ := hsch
    obtain ⟨σ0, hi, hr, hk, hk2⟩ := parseURI_run hsch h5'
    by_cases hacc : (parseURI b {}).1 = .none
    · refine Or.inl ⟨hacc, ((parseURI_ok b hfit).2.2 hacc).1, ?_⟩
      by_cases htel : (parseURI b {}).2.2.1.uriType = TELuri
      · exact Or.inr ((parseURI_tel_iff b hfit).mp ⟨hacc, htel⟩)
      · exact Or.inl ((parseURI_ok_iff b hfit).mp ⟨hacc, htel⟩)
    · refine Or.inr (Or.inr (Or.inr ⟨t, k, hsch, hacc, ?_⟩))
      rw [hr] at hacc ⊢
      rcases (ucRun_char hi hk hk2 hfit).2 with ⟨_, _, _, _, h⟩ | ⟨σ, hσ, _, hft, hp⟩ | ⟨c, σp, _, hkp, hc, hσ, htb⟩
      · rw [h] at hacc; exact absurd rfl hacc
      · exact Or.inl ⟨hp, ue_end_shape hσ hft hacc⟩
      · exact Or.inr ⟨c, hkp, hc, ue_shape_of_table hσ htb⟩
  · have h1 : ¬ UcSchSip b := fun h => hsch ⟨SIPuri, 4, Or.inl ⟨rfl, rfl, h⟩⟩
    have h2 : ¬ UcSchTel b := fun h => hsch ⟨TELuri, 4, Or.inr (Or.inl ⟨rfl, rfl, h⟩)⟩
    have h3 : ¬ UcSchSips b := fun h => hsch ⟨SIPSuri, 5, Or.inr (Or.inr ⟨rfl, rfl, h⟩)⟩
    rw [parseURI_err_scheme b h5' h1 h2 h3]
    exact Or.inr (Or.inr (Or.inl ⟨rfl, rfl, h5', h1, h2, h3⟩))

/-- the bytes the automaton can reject, by error code: `ErrURIBadChar` — one of `: ] [ ; ? @ &`; `ErrURIHost` — one
    of `: ; ? & @ [`, or any byte other than `: ; ?` right behind a `]`; `ErrURIPort` — a byte that is not a digit
    (`;` / `?` only behind digits of value above 65535). No other code is reported inside the input, except
    `ErrURIScheme`, always at position 4. -/
def UeByte (b : Buf) (p : Nat) (c : UInt8) (e : UErr) : Prop :=
  (e = .badChar ∧ (c = 58 ∨ c = 93 ∨ c = 91 ∨ c = 59 ∨ c = 63 ∨ c = 64 ∨ c = 38)) ∨
  (e = .host ∧ ((c = 58 ∨ c = 59 ∨ c = 63 ∨ c = 38 ∨ c = 64 ∨ c = 91) ∨
    (1 ≤ p ∧ b[p - 1]? = some 93 ∧ c ≠ 58 ∧ c ≠ 59 ∧ c ≠ 63))) ∨
  (e = .port ∧ isDigit c = false)

theorem UeShape.byte {b : Buf} {k p : Nat} {c : UInt8} {e : UErr} (h : UeShape b k p c e) : UeByte b p c e := by
  rcases h with ⟨_, he, hc⟩ | ⟨_, he, hc⟩ | ⟨ue, _, _, _, _, hh⟩ | ⟨hs, _, _, hh⟩ | ⟨hs, _, hh⟩ |
    ⟨hs, he', _, _, _, _, _, he, hc, _⟩ | ⟨he, d, _, _, hh⟩
  · rcases hc with rfl | rfl <;> exact Or.inl ⟨he, by decide⟩
  · rcases hc with rfl | rfl <;> exact Or.inl ⟨he, by decide⟩
  · rcases hh with ⟨he, hc⟩ | ⟨he, hc, _⟩ | ⟨he, hc, _⟩
    · rcases hc with rfl | rfl | rfl <;> exact Or.inl ⟨he, by decide⟩
    · rcases hc with rfl | rfl <;> exact Or.inl ⟨he, by decide⟩
    · rcases hc with rfl | rfl <;> exact Or.inr (Or.inr ⟨he, by decide⟩)
  · rcases hh with ⟨_, he, hc⟩ | ⟨_, he, hc⟩
    · rcases hc with rfl | rfl | rfl | rfl | rfl <;> exact Or.inr (Or.inl ⟨he, Or.inl (by decide)⟩)
    · rcases hc with rfl | rfl <;> exact Or.inl ⟨he, by decide⟩
  · rcases hh with ⟨_, _, _, he, hc⟩ | ⟨hbr, he, h1, h2, h3⟩
    · rcases hc with rfl | rfl | rfl | rfl | rfl <;> exact Or.inr (Or.inl ⟨he, Or.inl (by decide)⟩)
    · exact Or.inr (Or.inl ⟨he, Or.inr ⟨by have := hbr.2.1; omega, hbr.2.2.1, h1, h2, h3⟩⟩)
  · exact Or.inr (Or.inr ⟨he, hc⟩)
  · rcases hh with ⟨rfl, _⟩ | ⟨rfl, _⟩ <;> exact Or.inl ⟨he, by decide⟩

/-- **a position inside the input points at an offending byte** [EXPORT C14]: when `ParseURI` rejects an input
    (≤ 65,535 bytes) at a position `p < len`, then either the code is `ErrURIScheme` and `p = 4`, or the byte at `p`
    is one of the bytes the automaton rejects with that code (`UeByte`: a finite set for `ErrURIBadChar`; for
    `ErrURIHost` a finite set or any byte but `: ; ?` right behind `]`; a non-digit for `ErrURIPort`).  The codes
    `ErrURITooShort` and `ErrURIHeaders` are only ever reported at the end of the input, and `ErrURIBad` /
    `ErrURIBug` never. -/
theorem parseURI_reject_inside (b : Buf) (hfit : b.size ≤ 65535) (hrej : (parseURI b {}).1 ≠ .none)
    (hp : (parseURI b {}).2.1 < b.size) :
    ((parseURI b {}).1 = .scheme ∧ (parseURI b {}).2.1 = 4) ∨
    ∃ c, b[(parseURI b {}).2.1]? = some c ∧ UeByte b (parseURI b {}).2.1 c (parseURI b {}).1 := by
  rcases parseURI_total b hfit with ⟨h, _⟩ | ⟨_, h, _⟩ | ⟨h1, h2, _⟩ | ⟨t, k, _, _, ⟨h, _⟩ | ⟨c, _, hc, hsh⟩⟩
  · exact absurd h hrej
  · omega
  · exact Or.inl ⟨h1, h2⟩
  · omega
  · exact Or.inr ⟨c, hc, hsh.byte⟩

/-- **rejections at the end of the input** [EXPORT C14]: when the reported position is the length of the input, the
    code is `ErrURITooShort`, `ErrURIHost`, `ErrURIPort` or `ErrURIHeaders`, and the whole input has one of the
    shapes of `UeEndShape`.  These are the only rejections whose position is not that of an offending byte (the
    scheme error aside); in particular `ErrURIPort` at the end covers `token:text` without '@' where `text` holds a
    non-digit somewhere (`sip:h:12x`), and `ErrURIHeaders` is reported at the end although the offending `;` lies
    inside. -/
theorem parseURI_reject_end (b : Buf) (hfit : b.size ≤ 65535) (hrej : (parseURI b {}).1 ≠ .none)
    (hp : (parseURI b {}).2.1 = b.size) :
    ((parseURI b {}).1 = .tooShort ∧ b.size < 5) ∨ ∃ t k, UcScheme b t k ∧ UeEndShape b k (parseURI b {}).1 := by
  rcases parseURI_total b hfit with ⟨h, _⟩ | ⟨h, _, h5⟩ | ⟨_, h2, h5, _⟩ | ⟨t, k, hsch, _, ⟨_, h⟩ | ⟨c, _, hc, _⟩⟩
  · exact absurd h hrej
  · exact Or.inl ⟨h, h5⟩
  · omega
  · exact Or.inr ⟨t, k, hsch, h⟩
  · have := get?_lt hc
    omega

/-! ### (1) the rejection shapes, for `parseURI` -/

/-- **`[`, `]` or a second `:` in a password** [EXPORT C14] (`token:` and bytes without `@ : ; ? [ ]` up to `p`):
    `ErrURIBadChar` at that byte -/
theorem parseURI_err_pass_char (b : Buf) {t k ue p : Nat} {c : UInt8} (hsch : UcScheme b t k)
    (hh : UcFirstTok b k ue) (h58 : b[ue]? = some 58) (hp : ue + 1 ≤ p) (hall : UcAll b (ue + 1) p ucTok)
    (hc : b[p]? = some c) (hcc : c = 91 ∨ c = 93 ∨ c = 58) : UcErrAt (parseURI b {}) .badChar p := by
  obtain ⟨σ, hi, hr⟩ := uc_parse_run hsch (by have := get?_lt h58; have := hh.1; omega)
  rw [hr]
  exact (ue_err_pass hi hh h58 hp hall).1 c hc hcc

/-- **a password that is not followed by '@'** [EXPORT C14]: `token:text` where `text` (no `@ : ; ? [ ]`) holds a
    non-digit, then `;` or `?`: `ErrURIBadChar` at the `;` / `?` -/
theorem parseURI_err_pass_no_at (b : Buf) {t k ue p : Nat} {c : UInt8} (hsch : UcScheme b t k)
    (hh : UcFirstTok b k ue) (h58 : b[ue]? = some 58) (hp : ue + 1 ≤ p) (hall : UcAll b (ue + 1) p ucTok)
    (hnd : UeNonDigit b (ue + 1) p) (hc : b[p]? = some c) (hcc : c = 59 ∨ c = 63) :
    UcErrAt (parseURI b {}) .badChar p := by
  obtain ⟨σ, hi, hr⟩ := uc_parse_run hsch (by have := get?_lt h58; have := hh.1; omega)
  rw [hr]
  exact (ue_err_pass hi hh h58 hp hall).2.1 c hc hcc hnd

/-- **a password that is not followed by anything** [EXPORT C14]: `token:text` up to the end of the input where
    `text` (no `@ : ; ? [ ]`) holds a non-digit: `ErrURIPort`, reported at the END of the input and not at the
    non-digit (`sip:h:12x` → 9) -/
theorem parseURI_err_pass_end (b : Buf) {t k ue : Nat} (hsch : UcScheme b t k)
    (hh : UcFirstTok b k ue) (h58 : b[ue]? = some 58) (hall : UcAll b (ue + 1) b.size ucTok)
    (hnd : UeNonDigit b (ue + 1) b.size) : UcErrAt (parseURI b {}) .port b.size := by
  have := get?_lt h58
  obtain ⟨σ, hi, hr⟩ := uc_parse_run hsch (by have := hh.1; omega)
  rw [hr]
  exact (ue_err_pass hi hh h58 (by omega) hall).2.2 rfl hnd

/-- **the end shapes are exact** (all but the `ErrURIHeaders` one, which only records a necessary condition): an input
    of such a shape is rejected with that code at its end -/
theorem parseURI_end_shape_rejects (b : Buf) (hfit : b.size ≤ 65535) {t k : Nat} {e : UErr} (hsch : UcScheme b t k)
    (h5 : 5 ≤ b.size) (h : UeEndShape b k e) (hne : e ≠ .headers) : UcErrAt (parseURI b {}) e b.size := by
  rcases h with ⟨hk, rfl⟩ | ⟨ue, hft, h58, hall, rfl, hnd | ⟨hdig, hbig⟩⟩ | ⟨hs, hat, rfl, ⟨rfl, hk⟩ | ⟨h91, hall⟩⟩ |
    ⟨hs, he, hat, hh, h58, hall, hbig, rfl⟩ | ⟨rfl, _⟩
  · obtain ⟨σ, hi, hr, _, _⟩ := parseURI_run hsch h5
    rw [hr, ← hk, ucRun_end rfl]
    rcases hi.1 with hst | hst | hst <;> simp only [uriFinish, hst] <;> exact ⟨rfl, rfl⟩
  · exact parseURI_err_pass_end b hsch hft h58 hall hnd
  · have := get?_lt h58
    exact parseURI_err_port_big b hfit hsch (Or.inl rfl) (Or.inr (Or.inr ⟨rfl, hft⟩)) h58 (by omega) hdig hbig
      (Or.inl rfl)
  · exact parseURI_err_empty_host b hfit hsch hat hk (Or.inl rfl)
  · have := get?_lt h91
    exact parseURI_err_bracket_open b hfit hsch hat h91 (by omega) hall (Or.inl rfl)
  · have := get?_lt h58
    refine parseURI_err_port_big b hfit hsch hat ?_ h58 (by omega) hall hbig (Or.inl rfl)
    rcases hh with hh | hh
    · exact Or.inl hh
    · exact Or.inr (Or.inl hh)
  · exact absurd rfl hne

/-! ### (3) the letter case of the scheme does not matter -/

/-- `b'` is `b` up to the letter case of the scheme: same length, each of the first four bytes agrees after OR-ing
    0x20 into it (which is what the scheme test does: `S` ~ `s`, …), every other byte is the same -/
def UeSameScheme (b b' : Buf) : Prop :=
  b.size = b'.size ∧ (∀ i c c', i < 4 → b[i]? = some c → b'[i]? = some c' → ucLow c = ucLow c') ∧
  (∀ i, 4 ≤ i → b[i]? = b'[i]?)

/-- the same notion as `SchemeCaseVariant` (the scheme test reads each of the first four bytes through `· ||| 0x20`) -/
theorem ueSameScheme_iff {b b' : Buf} : UeSameScheme b b' ↔ SchemeCaseVariant b b' := by
  constructor
  · rintro ⟨hsz, hlow, hrest⟩
    refine ⟨hsz.symm, fun j hj => ?_, ?_⟩
    · rcases hb : b[j]? with _ | c <;> rcases hb' : b'[j]? with _ | c'
      · rfl
      · exact absurd (get?_lt hb') (by have := get?_none_ge hb; omega)
      · exact absurd (get?_lt hb) (by have := get?_none_ge hb'; omega)
      · have := hlow j c c' hj hb hb'
        unfold ucLow at this
        exact congrArg some (UInt8.toNat_inj.1 (by rw [UInt8.toNat_or, UInt8.toNat_or]; exact this.symm))
    · apply List.ext_getElem?
      intro j
      rw [drop_get?, drop_get?, hrest (4 + j) (by omega)]
  · intro v
    refine ⟨v.size.symm, fun i c c' hi hc hc' => ?_, fun i hi => (v.hi' i hi).symm⟩
    have := v.lo i hi
    rw [hc, hc'] at this
    have := congrArg UInt8.toNat (Option.some.inj this)
    rw [UInt8.toNat_or, UInt8.toNat_or] at this
    exact this.symm

/-- **the letter case of the scheme does not matter** [EXPORT C14]: two inputs that differ only in the case of the
    scheme letters (`sip:` / `SIP:` / `sIpS:` …) get the same verdict — the same error code, the same position, the
    same components, for every input, accepted or rejected -/
theorem parseURI_case_stable (b b' : Buf) (h : UeSameScheme b b') : parseURI b {} = parseURI b' {} :=
  ((ueSameScheme_iff.1 h).parse {}).symm

/-! ### tests / non-vacuity (closed computations, `decide +kernel`; every theorem above is applied to a concrete
    input, so its hypotheses are satisfiable) -/

/-- checker for `UeSameScheme` (tests only) -/
def ueSameB (b b' : Buf) : Bool :=
  b.size == b'.size &&
  (List.range 4).all (fun i => match b[i]?, b'[i]? with
    | some c, some c' => ucLow c == ucLow c'
    | _, _ => true) &&
  (List.range b.size).all (fun i => i < 4 || b[i]? == b'[i]?)

theorem ueSame_of_check {b b' : Buf} (h : ueSameB b b' = true) : UeSameScheme b b' := by
  simp only [ueSameB, Bool.and_eq_true, beq_iff_eq, List.all_eq_true, List.mem_range, Bool.or_eq_true,
    decide_eq_true_eq] at h
  obtain ⟨⟨hsz, h4⟩, hr⟩ := h
  refine ⟨hsz, fun i c c' hi hc hc' => ?_, fun i hi => ?_⟩
  · have := h4 i hi
    rw [hc, hc'] at this
    simpa using this
  · by_cases hlt : i < b.size
    · rcases hr i hlt with h | h
      · omega
      · exact h
    · rw [Array.getElem?_eq_none (by omega), Array.getElem?_eq_none (by omega)]

theorem ue_test_sip (b : Buf) (h0 : b[0]? = some 115) (h1 : b[1]? = some 105) (h2 : b[2]? = some 112)
    (h3 : b[3]? = some 58) : UcScheme b SIPuri 4 :=
  Or.inl ⟨rfl, rfl, 115, 105, 112, 58, h0, h1, h2, h3, by decide, by decide, by decide, by decide⟩

-- code and position of the rejections this file is about
example : (["sip::h", "sip:]h", "sip:u[x@h", "sip:u]x", "sip:u:p[w@h", "sip:u:12:3@h", "sip:u:pw;x", "sip:u:pw?x",
    "sip:u@h@x", "sip:u@h&x", "sip:u@h;p@x", "sip:u@h:5060;p?a@x", "sip:u@h?a;b", "sip:u:1;x@h", "sip:u:1?x;y",
    "sip:h?a:b;c", "sip:h;a:b:c@d", "sip:h;a:b;c@d"].map
      (fun s => ((parseURI s.toUTF8.data {}).1, (parseURI s.toUTF8.data {}).2.1))) =
    [(.badChar, 4), (.badChar, 4), (.badChar, 5), (.badChar, 5), (.badChar, 7), (.badChar, 8), (.badChar, 8),
     (.badChar, 8), (.badChar, 7), (.badChar, 7), (.badChar, 9), (.badChar, 16), (.badChar, 9), (.badChar, 9),
     (.badChar, 9), (.badChar, 9), (.badChar, 11), (.badChar, 11)] := by decide +kernel
-- the rejections reported at the END of the input although the offending byte lies inside (the "innocent
-- position" cases): a password without '@' (`ErrURIPort`), a `;` in the headers (`ErrURIHeaders`)
example : (["sip:h:12x", "sip:u:pw", "sip:h?a;b", "sip:h;p?a;b", "sip:[::1]?a;b;c", "sips:"].map
      (fun s => ((parseURI s.toUTF8.data {}).1, (parseURI s.toUTF8.data {}).2.1, s.toUTF8.data.size))) =
    [(.port, 9, 9), (.port, 8, 8), (.headers, 9, 9), (.headers, 11, 11), (.headers, 15, 15), (.tooShort, 5, 5)] := by
  decide +kernel
-- … while the same `;` is harmless when an '@' follows (it then belongs to the user), and a bad port behind
-- `user@host` IS reported at the offending byte
example : (parseURI "sip:h?a;b@c".toUTF8.data {}).1 = .none ∧ (parseURI "sip:u@h:12x".toUTF8.data {}).2.1 = 10 := by
  decide +kernel
-- the scheme error is always reported at position 4
example : (parseURI "http://x".toUTF8.data {}).2.1 = 4 ∧ (parseURI "sipsx:h".toUTF8.data {}).2.1 = 4 := by
  decide +kernel

example : UcErrAt (parseURI "sip::h".toUTF8.data {}) .badChar 4 :=
  parseURI_err_first_char _ (ue_test_sip _ (by decide +kernel) (by decide +kernel) (by decide +kernel)
    (by decide +kernel)) (c := 58) (by decide +kernel) (Or.inl rfl)
example : UcErrAt (parseURI "sip:u[x@h".toUTF8.data {}) .badChar 5 :=
  parseURI_err_user_bracket _ (ue_test_sip _ (by decide +kernel) (by decide +kernel) (by decide +kernel)
    (by decide +kernel)) ⟨by decide, ucAll_of_check (by decide +kernel), ucAll_of_check (by decide +kernel)⟩
    (c := 91) (by decide +kernel) (Or.inl rfl)
example : UcErrAt (parseURI "sip:u:12:3@h".toUTF8.data {}) .badChar 8 :=
  parseURI_err_pass_char _ (ue_test_sip _ (by decide +kernel) (by decide +kernel) (by decide +kernel)
    (by decide +kernel)) (ue := 5)
    ⟨by decide, ucAll_of_check (by decide +kernel), ucAll_of_check (by decide +kernel)⟩ (by decide +kernel)
    (by decide) (ucAll_of_check (by decide +kernel)) (c := 58) (by decide +kernel) (Or.inr (Or.inr rfl))
example : UcErrAt (parseURI "sip:u:pw;x".toUTF8.data {}) .badChar 8 :=
  parseURI_err_pass_no_at _ (ue_test_sip _ (by decide +kernel) (by decide +kernel) (by decide +kernel)
    (by decide +kernel)) (ue := 5)
    ⟨by decide, ucAll_of_check (by decide +kernel), ucAll_of_check (by decide +kernel)⟩ (by decide +kernel)
    (by decide) (ucAll_of_check (by decide +kernel)) ⟨6, 112, by decide, by decide, by decide +kernel, by decide⟩
    (c := 59) (by decide +kernel) (Or.inl rfl)
example : UcErrAt (parseURI "sip:h:12x".toUTF8.data {}) .port "sip:h:12x".toUTF8.data.size :=
  parseURI_err_pass_end _ (ue_test_sip _ (by decide +kernel) (by decide +kernel) (by decide +kernel)
    (by decide +kernel)) (ue := 5)
    ⟨by decide, ucAll_of_check (by decide +kernel), ucAll_of_check (by decide +kernel)⟩ (by decide +kernel)
    (ucAll_of_check (by decide +kernel)) ⟨8, 120, by decide, by decide +kernel, by decide +kernel, by decide⟩
example : UcErrAt (parseURI "sip:u@h@x".toUTF8.data {}) .badChar 7 :=
  parseURI_err_host_at _ (by decide +kernel) (ue_test_sip _ (by decide +kernel) (by decide +kernel)
    (by decide +kernel) (by decide +kernel)) (hs := 6)
    (Or.inr ⟨5, ⟨4, 1⟩, ⟨0, 0⟩, rfl, by decide +kernel,
      Or.inl ⟨5, ⟨by decide, ucAll_of_check (by decide +kernel), ucAll_of_check (by decide +kernel)⟩, rfl,
        Or.inl ⟨rfl, rfl⟩⟩⟩)
    (by decide) ⟨by decide, ucAll_of_check (by decide +kernel), ucAll_of_check (by decide +kernel)⟩
    (c := 64) (by decide +kernel) (Or.inl rfl)
example : UcErrAt (parseURI "sip:u@h;p@x".toUTF8.data {}) .badChar 9 :=
  parseURI_err_second_at _ (by decide +kernel) (ue_test_sip _ (by decide +kernel) (by decide +kernel)
    (by decide +kernel) (by decide +kernel)) (a := 5) (he := 7) (e := 7) (hd := false) (us := ⟨4, 1⟩) (pw := ⟨0, 0⟩)
    (by decide +kernel)
    (Or.inl ⟨5, ⟨by decide, ucAll_of_check (by decide +kernel), ucAll_of_check (by decide +kernel)⟩, rfl,
      Or.inl ⟨rfl, rfl⟩⟩)
    (Or.inl ⟨by decide, ucAll_of_check (by decide +kernel), ucAll_of_check (by decide +kernel)⟩)
    (Or.inl rfl) (Or.inl ⟨rfl, by decide +kernel, by decide, ucAll_of_check (by decide +kernel)⟩)
    (c := 64) (by decide +kernel) (Or.inl rfl)
example : UcErrAt (parseURI "sip:u@h?a;b".toUTF8.data {}) .badChar 9 :=
  parseURI_err_second_at _ (by decide +kernel) (ue_test_sip _ (by decide +kernel) (by decide +kernel)
    (by decide +kernel) (by decide +kernel)) (a := 5) (he := 7) (e := 7) (hd := true) (us := ⟨4, 1⟩) (pw := ⟨0, 0⟩)
    (by decide +kernel)
    (Or.inl ⟨5, ⟨by decide, ucAll_of_check (by decide +kernel), ucAll_of_check (by decide +kernel)⟩, rfl,
      Or.inl ⟨rfl, rfl⟩⟩)
    (Or.inl ⟨by decide, ucAll_of_check (by decide +kernel), ucAll_of_check (by decide +kernel)⟩)
    (Or.inl rfl) (Or.inr (Or.inl ⟨rfl, by decide +kernel, by decide, ucAll_of_check (by decide +kernel)⟩))
    (c := 59) (by decide +kernel) (Or.inr ⟨rfl, rfl⟩)
example : UcErrAt (parseURI "sip:u:1;x@h".toUTF8.data {}) .badChar 9 :=
  parseURI_err_committed_at _ (ue_test_sip _ (by decide +kernel) (by decide +kernel) (by decide +kernel)
    (by decide +kernel)) (ue := 5) (e := 7) (hd := false)
    ⟨by decide, ucAll_of_check (by decide +kernel), ucAll_of_check (by decide +kernel)⟩ (by decide +kernel)
    (by decide) (ucAll_of_check (by decide +kernel)) (by decide +kernel)
    (Or.inl ⟨rfl, by decide +kernel, by decide, ucAll_of_check (by decide +kernel)⟩)
    (c := 64) (by decide +kernel) (Or.inl rfl)
example : UcErrAt (parseURI "sip:h?a;b".toUTF8.data {}) .headers "sip:h?a;b".toUTF8.data.size :=
  parseURI_err_headers_semi _ (ue_test_sip _ (by decide +kernel) (by decide +kernel) (by decide +kernel)
    (by decide +kernel)) (he := 5) (q := 5)
    (Or.inl ⟨by decide, ucAll_of_check (by decide +kernel), ucAll_of_check (by decide +kernel)⟩)
    (Or.inl ⟨rfl, by decide +kernel⟩) (ucAll_of_check (by decide +kernel))
    ⟨7, by decide, by decide +kernel, by decide +kernel⟩
-- (3): `SIP:` / `sIp:` instead of `sip:`, and `sIpS:` instead of `sips:`: same verdict
example : parseURI "SIP:h:12x".toUTF8.data {} = parseURI "sip:h:12x".toUTF8.data {} :=
  parseURI_case_stable _ _ (ueSame_of_check (by decide +kernel))
example : parseURI "sIpS:u@h@x".toUTF8.data {} = parseURI "sips:u@h@x".toUTF8.data {} :=
  parseURI_case_stable _ _ (ueSame_of_check (by decide +kernel))
-- (2): the hypotheses of the totality corollaries are met
example := parseURI_reject_inside "sip:u@h@x".toUTF8.data (by decide +kernel) (by decide +kernel) (by decide +kernel)
example := parseURI_reject_end "sip:h:12x".toUTF8.data (by decide +kernel) (by decide +kernel) (by decide +kernel)

end Sipsp
