/-
  Sipsp.Proofs.UriGrammar — the grammar of the URIs that ParseURI accepts, as predicates on the bytes of `b` (index
  based; the byte classes are the "ordinary byte" branches of the automaton `uriStep`), and what a text of the grammar
  has by being one, no automaton involved: the components tile the input (`UcRest.layout`), there is no '@' from the
  host on (`UcRest.noAt`), a host that opens with `[` ends with `]` (`UcRest.hostBr`), the port field is all digits and
  `portNo` is their value (`UcPo.portOK`).

  `UcRest b k u` is what stands behind a scheme of `k` bytes: a host, or user-info, '@' and a host; then optional
  port, parameters, headers.  Worth knowing about what the Go code accepts: the first byte behind the scheme may be
  any byte but `[ : ]`, even `@ ; ?`; `&` is allowed in a host without user-info but not in one behind '@', where in
  turn `]` and a later `[` are allowed; `;` / `?` in front of the '@' belong to the user (`UcUserBack`: what the
  automaton first read as host, port, parameters is re-read as user); the port may be empty or have leading zeros.
-/
import Sipsp.Proofs.UriLayout
import Sipsp.Proofs.NumRun


namespace Sipsp

/-! ### byte classes and ranges -/

def UcAll (b : Buf) (p q : Nat) (f : UInt8 → Bool) : Prop := ∀ j, p ≤ j → j < q → ∀ c, b[j]? = some c → f c = true

/-- `UcAll` does not ask for the bytes to be present: inside the buffer it is `Span` -/
theorem ucAll_iff {b : Buf} {p q : Nat} {f : UInt8 → Bool} (hq : q ≤ b.size) :
    UcAll b p q f ↔ Span (fun c => f c = true) b p q :=
  ⟨fun h k h1 h2 => ⟨b[k], Array.getElem?_eq_getElem (by omega), h k h1 h2 _ (Array.getElem?_eq_getElem (by omega))⟩,
   fun h k h1 h2 c hc => by obtain ⟨c', hc', hf⟩ := h k h1 h2; rw [hc] at hc'; cases hc'; exact hf⟩

theorem UcAll.sub {b : Buf} {p q p' q' : Nat} {f : UInt8 → Bool} (h : UcAll b p q f) (h1 : p ≤ p') (h2 : q' ≤ q) :
    UcAll b p' q' f := fun j a1 a2 c hc => h j (by omega) (by omega) c hc

/-- ordinary byte of the user / password text: not one of `@ : ; ? [ ]` -/
def ucTok (c : UInt8) : Bool := !(c == 64 || c == 58 || c == 59 || c == 63 || c == 91 || c == 93)
/-- first byte behind the scheme when it does not open a bracketed host: not one of `[ : ]` -/
def ucFirst (c : UInt8) : Bool := !(c == 91 || c == 58 || c == 93)
/-- byte inside `[ … ]`: not one of `] [ @ ; ? &` -/
def ucBrIn (c : UInt8) : Bool := !(c == 93 || c == 91 || c == 64 || c == 59 || c == 63 || c == 38)
/-- byte of a host name behind `@`: not one of `: ; ? & @` -/
def ucHost (c : UInt8) : Bool := !(c == 58 || c == 59 || c == 63 || c == 38 || c == 64)
/-- first byte of a host name behind `@`: also not `[` -/
def ucHost0 (c : UInt8) : Bool := !(c == 91) && ucHost c
/-- parameter byte: not `?` (starts the headers) and not `@` -/
def ucPar (c : UInt8) : Bool := !(c == 63 || c == 64)
/-- header byte: not `;` and not `@` -/
def ucHdr (c : UInt8) : Bool := !(c == 59 || c == 64)
/-- byte of a user part that continues behind its first `;` / `?`: not `@`, not `:` -/
def ucW1 (c : UInt8) : Bool := !(c == 64 || c == 58)
/-- byte of a password behind such a user part: not one of `@ : ; ?` -/
def ucW2 (c : UInt8) : Bool := !(c == 64 || c == 58 || c == 59 || c == 63)

theorem UcAll.snoc {b : Buf} {p i : Nat} {f : UInt8 → Bool} {c : UInt8} (h : UcAll b p i f) (hc : b[i]? = some c)
    (hf : f c = true) : UcAll b p (i + 1) f :=
  (ucAll_iff (get?_lt hc)).mpr (((ucAll_iff (Nat.le_of_lt (get?_lt hc))).mp h).append (Span.one hc hf))

theorem UcAll.nil (b : Buf) {p q : Nat} (f : UInt8 → Bool) (h : q ≤ p) : UcAll b p q f :=
  fun j h1 h2 => absurd h2 (by omega)

theorem UcAll.one {b : Buf} {i : Nat} {f : UInt8 → Bool} {c : UInt8} (hc : b[i]? = some c) (hf : f c = true) :
    UcAll b i (i + 1) f := (UcAll.nil b f (Nat.le_refl i)).snoc hc hf

theorem UcAll.mono {b : Buf} {p q : Nat} {f g : UInt8 → Bool} (h : UcAll b p q f) (hfg : ∀ c, f c = true → g c = true) :
    UcAll b p q g := fun j h1 h2 c hc => hfg c (h j h1 h2 c hc)

theorem uc_digit_tok (c : UInt8) (h : isDigit c = true) : ucTok c = true := by
  have h1 : c ≠ 64 := by intro e; rw [e] at h; exact absurd h (by decide)
  have h2 : c ≠ 58 := by intro e; rw [e] at h; exact absurd h (by decide)
  have h3 : c ≠ 59 := by intro e; rw [e] at h; exact absurd h (by decide)
  have h4 : c ≠ 63 := by intro e; rw [e] at h; exact absurd h (by decide)
  have h5 : c ≠ 91 := by intro e; rw [e] at h; exact absurd h (by decide)
  have h6 : c ≠ 93 := by intro e; rw [e] at h; exact absurd h (by decide)
  simp [ucTok, h1, h2, h3, h4, h5, h6]

theorem UcAll.ne {b : Buf} {p q : Nat} {f : UInt8 → Bool} (h : UcAll b p q f) {d : UInt8} (hf : f d = false)
    {j : Nat} (h1 : p ≤ j) (h2 : j < q) : b[j]? ≠ some d :=
  fun hj => absurd (h j h1 h2 d hj) (by rw [hf]; decide)

theorem UcAll.allDigits {b : Buf} {s e : Nat} (h : UcAll b s e isDigit) : AllDigits (digitsOf b s e) := by
  intro c hc
  obtain ⟨i, hi, rfl⟩ := Array.mem_iff_getElem.mp (Array.mem_toList_iff.mp hc)
  rw [Array.size_extract] at hi
  rw [Array.getElem_extract]
  exact isDigit_B (h (s + i) (by omega) (by omega) _ (Array.getElem?_eq_getElem (by omega)))

/-! ### the tail of the grammar: `[':' port] [';' params] ['?' headers]` -/

/-- headers from position `p` on: nothing (end of input), or `?` and header bytes up to the end -/
def UcHd (b : Buf) (p : Nat) (hd : PField) : Prop :=
  (p = b.size ∧ hd = ⟨0, 0⟩) ∨
  (b[p]? = some 63 ∧ hd = ⟨p + 1, b.size - (p + 1)⟩ ∧ UcAll b (p + 1) b.size ucHdr)

/-- parameters from position `p` on: none, or `;` and parameter bytes up to `e`; then the headers -/
def UcPa (b : Buf) (p : Nat) (pa hd : PField) : Prop :=
  (pa = ⟨0, 0⟩ ∧ UcHd b p hd) ∨
  (b[p]? = some 59 ∧ ∃ e, p + 1 ≤ e ∧ pa = ⟨p + 1, e - (p + 1)⟩ ∧ UcAll b (p + 1) e ucPar ∧ UcHd b e hd)

/-- port from position `p` on: none (number 0), or `:` and digits up to `e` of value `pn ≤ 65535`; then parameters
    and headers -/
def UcPo (b : Buf) (p : Nat) (po : PField) (pn : Nat) (pa hd : PField) : Prop :=
  (po = ⟨0, 0⟩ ∧ pn = 0 ∧ UcPa b p pa hd) ∨
  (b[p]? = some 58 ∧ ∃ e, p + 1 ≤ e ∧ po = ⟨p + 1, e - (p + 1)⟩ ∧ UcAll b (p + 1) e isDigit ∧
    pn = decOf (digitsOf b (p + 1) e) ∧ pn ≤ 65535 ∧ UcPa b e pa hd)

theorem UcHd.le {b : Buf} {p : Nat} {hd : PField} (h : UcHd b p hd) : p ≤ b.size := by
  rcases h with ⟨h, _⟩ | ⟨h, _⟩
  · omega
  · have := get?_lt h; omega

theorem UcPo.atEnd (b : Buf) : UcPo b b.size ⟨0, 0⟩ 0 ⟨0, 0⟩ ⟨0, 0⟩ := .inl ⟨rfl, rfl, .inl ⟨rfl, .inl ⟨rfl, rfl⟩⟩⟩

theorem UcPa.le {b : Buf} {p : Nat} {pa hd : PField} (h : UcPa b p pa hd) : p ≤ b.size := by
  rcases h with ⟨_, hh⟩ | ⟨hc, _⟩
  · exact hh.le
  · have := get?_lt hc; omega

theorem UcPo.le {b : Buf} {p pn : Nat} {po pa hd : PField} (h : UcPo b p po pn pa hd) : p ≤ b.size := by
  rcases h with ⟨_, _, hh⟩ | ⟨hc, _⟩
  · exact hh.le
  · have := get?_lt hc; omega

/-- the report: for tel: the host is handed out as the user -/
def ucOut (u : PsipURI) : PsipURI := if u.uriType == TELuri then { u with user := u.host, host := {} } else u

theorem ucOut_type (u : PsipURI) : (ucOut u).uriType = u.uriType := by unfold ucOut; split <;> rfl

theorem ucOut_nontel {u : PsipURI} (h : u.uriType ≠ TELuri) : ucOut u = u := by
  unfold ucOut
  rw [if_neg (by simpa using h)]

theorem ucOut_tel {u : PsipURI} (h : u.uriType = TELuri) : ucOut u = { u with user := u.host, host := {} } := by
  unfold ucOut
  rw [if_pos (by simpa using h)]

theorem ucOut_swap {u : PsipURI} {t : Nat} (h : u.uriType = t) : ucOut u = if t = TELuri then telSwap u else u := by
  by_cases ht : t = TELuri
  · rw [if_pos ht, ucOut_tel (h.trans ht)]; rfl
  · rw [if_neg ht, ucOut_nontel (h ▸ ht)]

theorem ucOut_port (u : PsipURI) : (ucOut u).port = u.port ∧ (ucOut u).portNo = u.portNo := by
  unfold ucOut; split <;> exact ⟨rfl, rfl⟩

theorem uc_fin (i : Nat) (σ : UState) :
    ucProj (if σ.u.uriType == TELuri then (.none, i, { σ with u := { σ.u with user := σ.u.host, host := {} } })
      else (.none, i, σ)) = (.none, i, ucOut σ.u, σ.pnc) := by
  unfold ucOut
  by_cases h : (σ.u.uriType == TELuri) = true
  · rw [if_pos h, if_pos h]; rfl
  · rw [if_neg h, if_neg h]; rfl

/-- the accepting exit of `uriFinish` (`uAccept`, UriTrans) hands out `ucOut` of the components -/
theorem ucProj_uAccept (n : Nat) (σ : UState) : ucProj (uAccept n σ) = (.none, n, ucOut σ.u, σ.pnc) := uc_fin n σ

/-! ### hosts -/

/-- `[ … ]` at `[s, e)`: brackets kept, inside none of `] [ @ ; ? &` -/
def UcBrHost (b : Buf) (s e : Nat) : Prop :=
  b[s]? = some 91 ∧ s + 2 ≤ e ∧ b[e - 1]? = some 93 ∧ UcAll b (s + 1) (e - 1) ucBrIn
/-- a host name behind '@' at `[s, e)`: not empty, no `: ; ? & @`, first byte not `[` -/
def UcNameHost (b : Buf) (s e : Nat) : Prop := s < e ∧ UcAll b s (s + 1) ucHost0 ∧ UcAll b (s + 1) e ucHost
/-- the first token behind the scheme at `[k, e)`: first byte none of `[ : ]` (but any other byte, even `@ ; ?`),
    then no `@ : ; ? [ ]` -/
def UcFirstTok (b : Buf) (k e : Nat) : Prop := k < e ∧ UcAll b k (k + 1) ucFirst ∧ UcAll b (k + 1) e ucTok

/-- user-info of the plain kind in front of the '@' at `a`: `user` or `user:password`, neither containing any of
    `@ : ; ? [ ]` (the very first byte of the user may be `@ ; ?`) -/
def UcUserPlain (b : Buf) (k a : Nat) (us pw : PField) : Prop :=
  ∃ ue, UcFirstTok b k ue ∧ us = ⟨k, ue - k⟩ ∧
    ((ue = a ∧ pw = ⟨0, 0⟩) ∨
     (b[ue]? = some 58 ∧ ue + 1 ≤ a ∧ pw = ⟨ue + 1, a - (ue + 1)⟩ ∧ UcAll b (ue + 1) a ucTok))

/-- what stands in front of the first `;` / `?` (at `d`) of such a user part: a first token, a bracketed text, or a
    bracketed text with `:` and digits of value ≤ 65535 (it is first read as host and port) -/
def UcBackHead (b : Buf) (k d : Nat) : Prop :=
  UcFirstTok b k d ∨ UcBrHost b k d ∨
  (∃ e, UcBrHost b k e ∧ b[e]? = some 58 ∧ e + 1 ≤ d ∧ UcAll b (e + 1) d isDigit ∧
    decOf (digitsOf b (e + 1) d) ≤ 65535)

/-- user-info that contains `;` or `?`, in front of the '@' at `a`: a head (`UcBackHead`), the `;` / `?` at `d`, then
    text without `@` and `:` up to `ue`; the user is everything from the scheme to `ue`; behind it either the '@', or
    `:` and a password without `@ : ; ?` -/
def UcUserBack (b : Buf) (k a : Nat) (us pw : PField) : Prop :=
  ∃ d ue, UcBackHead b k d ∧ (b[d]? = some 59 ∨ b[d]? = some 63) ∧ d + 1 ≤ ue ∧ UcAll b (d + 1) ue ucW1 ∧
    us = ⟨k, ue - k⟩ ∧
    ((ue = a ∧ pw = ⟨0, 0⟩) ∨
     (b[ue]? = some 58 ∧ ue + 1 ≤ a ∧ pw = ⟨ue + 1, a - (ue + 1)⟩ ∧ UcAll b (ue + 1) a ucW2))

theorem UcBackHead.lt {b : Buf} {k d : Nat} (h : UcBackHead b k d) : k < d := by
  rcases h with ⟨h, _⟩ | ⟨_, h, _⟩ | ⟨e, ⟨_, h, _⟩, _, h2, _⟩ <;> omega

theorem UcUserPlain.lt {b : Buf} {k a : Nat} {us pw : PField} (h : UcUserPlain b k a us pw) : k < a := by
  obtain ⟨ue, ⟨h1, _⟩, _, h2⟩ := h
  rcases h2 with ⟨h, _⟩ | ⟨_, h, _⟩ <;> omega

theorem UcUserBack.lt {b : Buf} {k a : Nat} {us pw : PField} (h : UcUserBack b k a us pw) : k < a := by
  obtain ⟨d, ue, hh, _, h1, _, _, h2⟩ := h
  have := hh.lt
  rcases h2 with ⟨h, _⟩ | ⟨_, h, _⟩ <;> omega

/-- the text of `b` behind a scheme of `k` bytes, decomposed into the components of `u` -/
def UcRest (b : Buf) (k : Nat) (u : PsipURI) : Prop :=
  (u.user = ⟨0, 0⟩ ∧ u.pass = ⟨0, 0⟩ ∧
    ∃ he, (UcFirstTok b k he ∨ UcBrHost b k he) ∧ u.host = ⟨k, he - k⟩ ∧
      UcPo b he u.port u.portNo u.params u.headers) ∨
  (∃ a he, b[a]? = some 64 ∧ (UcUserPlain b k a u.user u.pass ∨ UcUserBack b k a u.user u.pass) ∧
    (UcNameHost b (a + 1) he ∨ UcBrHost b (a + 1) he) ∧ u.host = ⟨a + 1, he - (a + 1)⟩ ∧
      UcPo b he u.port u.portNo u.params u.headers)

/-- `b` is a URI of type `t` with a scheme of `k` bytes and the components `u` -/
def UcComp (b : Buf) (t k : Nat) (u : PsipURI) : Prop := u.uriType = t ∧ u.scheme = ⟨0, k⟩ ∧ UcRest b k u

theorem UcRest.lt {b : Buf} {k : Nat} {u : PsipURI} (h : UcRest b k u) : k < b.size := by
  rcases h with ⟨_, _, he, hh, _, hpo⟩ | ⟨a, he, hat, hup, _⟩
  · have := hpo.le
    rcases hh with ⟨h, _⟩ | ⟨_, h, _⟩ <;> omega
  · have := get?_lt hat
    rcases hup with ⟨ue, ⟨h1, _⟩, _, h2⟩ | ⟨d, ue, hh, _, h1, _, _, h2⟩
    · rcases h2 with ⟨h, _⟩ | ⟨_, h, _⟩ <;> omega
    · have := hh.lt
      rcases h2 with ⟨h, _⟩ | ⟨_, h, _⟩ <;> omega

/-- the grammar of sip: and sips: URIs with their components: scheme, then `UcRest` -/
def UcURI (b : Buf) (u : PsipURI) : Prop :=
  (UcSchSip b ∧ UcComp b SIPuri 4 u) ∨ (UcSchSips b ∧ UcComp b SIPSuri 5 u)

/-- the grammar of tel: URIs: `u` holds the sip-style decomposition (the number as host) -/
def UcTelURI (b : Buf) (u : PsipURI) : Prop := UcSchTel b ∧ UcComp b TELuri 4 u

/-- a user-info of the grammar ends with the '@' right in front of `hs` -/
def UcUinfo (b : Buf) (k : Nat) (us pw : PField) (hs : Nat) : Prop :=
  ∃ a, hs = a + 1 ∧ b[a]? = some 64 ∧ (UcUserPlain b k a us pw ∨ UcUserBack b k a us pw)

/-- scheme-to-host part of `UcRest`; `he` = end of the host -/
def UcHostOK (b : Buf) (k : Nat) (us pw ho : PField) (he : Nat) : Prop :=
  (us = ⟨0, 0⟩ ∧ pw = ⟨0, 0⟩ ∧ (UcFirstTok b k he ∨ UcBrHost b k he) ∧ ho = ⟨k, he - k⟩) ∨
  (∃ a, b[a]? = some 64 ∧ (UcUserPlain b k a us pw ∨ UcUserBack b k a us pw) ∧
    (UcNameHost b (a + 1) he ∨ UcBrHost b (a + 1) he) ∧ ho = ⟨a + 1, he - (a + 1)⟩)

theorem UcHostOK.lt {b : Buf} {k he : Nat} {us pw ho : PField} (h : UcHostOK b k us pw ho he) : k < he := by
  rcases h with ⟨-, -, hh, -⟩ | ⟨a, -, hu, hh, -⟩
  · rcases hh with h | h
    · exact h.1
    · have := h.2.1; omega
  · have : k < a := hu.elim UcUserPlain.lt UcUserBack.lt
    rcases hh with h | h
    · have := h.1; omega
    · have := h.2.1; omega

theorem UcRest_iff (b : Buf) (k : Nat) (u : PsipURI) :
    UcRest b k u ↔ ∃ he, UcHostOK b k u.user u.pass u.host he ∧ UcPo b he u.port u.portNo u.params u.headers := by
  constructor
  · rintro (⟨h1, h2, he, h3, h4, h5⟩ | ⟨a, he, h1, h2, h3, h4, h5⟩)
    · exact ⟨he, Or.inl ⟨h1, h2, h3, h4⟩, h5⟩
    · exact ⟨he, Or.inr ⟨a, h1, h2, h3, h4⟩, h5⟩
  · rintro ⟨he, (⟨h1, h2, h3, h4⟩ | ⟨a, h1, h2, h3, h4⟩), h5⟩
    · exact Or.inl ⟨h1, h2, he, h3, h4, h5⟩
    · exact Or.inr ⟨a, he, h1, h2, h3, h4, h5⟩

/-- the rejection a result reports: error code and position (the components handed out with it are left open) -/
def UcErrAt (r : UErr × Nat × PsipURI × Bool) (e : UErr) (p : Nat) : Prop := r.1 = e ∧ r.2.1 = p

/-- where a host may start: right behind the scheme, or behind the '@' that closes a user-info of the grammar -/
def UcHostAt (b : Buf) (k hs : Nat) : Prop :=
  hs = k ∨ ∃ a us pw, hs = a + 1 ∧ b[a]? = some 64 ∧ (UcUserPlain b k a us pw ∨ UcUserBack b k a us pw)

theorem UcHostAt.lt {b : Buf} {k hs : Nat} (h : UcHostAt b k hs) (h2 : k < hs ∨ hs < b.size) : k < b.size := by
  rcases h with rfl | ⟨a, us, pw, rfl, hat, hu⟩
  · omega
  · have := get?_lt hat
    rcases hu with hu | hu
    · have := hu.lt; omega
    · have := hu.lt; omega

theorem UcUinfo.hostAt {b : Buf} {k hs : Nat} {us pw : PField} (h : UcUinfo b k us pw hs) :
    UcHostAt b k hs ∧ k < hs := by
  obtain ⟨a, rfl, hat, hu⟩ := h
  refine ⟨Or.inr ⟨a, us, pw, rfl, hat, hu⟩, ?_⟩
  rcases hu with hu | hu
  · have := hu.lt; omega
  · have := hu.lt; omega

/-- some byte of `b[s, p)` is not a digit: what separates a password (`pass1`) from digits behind `user:` that may
    still turn out to be a port (`pass0`) -/
def UeNonDigit (b : Buf) (s p : Nat) : Prop := ∃ j c, s ≤ j ∧ j < p ∧ b[j]? = some c ∧ isDigit c = false

/-- the port number is the decimal value of the (all-digit) port field and fits 16 bits; an absent or empty port
    field has the empty digit string, of value 0 -/
def ULPortOK (b : Buf) (u : PsipURI) : Prop :=
  AllDigits (digitsOf b u.port.offs (u.port.offs + u.port.len)) ∧
  u.portNo = decOf (digitsOf b u.port.offs (u.port.offs + u.port.len)) ∧ u.portNo ≤ 65535

theorem ULPortOK.of_eq {b : Buf} {u u' : PsipURI} (h : ULPortOK b u) (hp : u'.port = u.port)
    (hn : u'.portNo = u.portNo) : ULPortOK b u' := by
  unfold ULPortOK at *
  rw [hp, hn]
  exact h

theorem ULPortOK.zero {b : Buf} {u : PsipURI} (hp : u.port = ⟨0, 0⟩) (hn : u.portNo = 0) : ULPortOK b u := by
  unfold ULPortOK
  rw [hp, hn]
  simp only [Nat.add_zero, digitsOf_self]
  exact ⟨(fun c hc => by cases hc), rfl, by omega⟩

theorem UcPo.portOK {b : Buf} {p pn : Nat} {po pa hd : PField} (h : UcPo b p po pn pa hd) {u : PsipURI}
    (hp : u.port = po) (hn : u.portNo = pn) : ULPortOK b u := by
  rcases h with ⟨rfl, rfl, -⟩ | ⟨-, e, hle, rfl, hall, rfl, hle2, -⟩
  · exact .zero hp hn
  · unfold ULPortOK
    rw [hp, hn, show p + 1 + (e - (p + 1)) = e by omega]
    exact ⟨UcAll.allDigits hall, rfl, hle2⟩

/-! ### brackets and the last '@' -/

theorem uc_host_br {b : Buf} {s e : Nat} (h : UcFirstTok b s e ∨ UcNameHost b s e ∨ UcBrHost b s e) :
    UHostBr b ⟨s, e - s⟩ := by
  intro h91
  rcases h with ⟨hlt, hf, -⟩ | ⟨hlt, hf, -⟩ | ⟨-, hle, h93, -⟩
  · exact absurd h91 (UcAll.ne hf (d := 91) rfl (Nat.le_refl _) (Nat.lt_succ_self _))
  · exact absurd h91 (UcAll.ne hf (d := 91) rfl (Nat.le_refl _) (Nat.lt_succ_self _))
  · rw [show s + (e - s) - 1 = e - 1 by omega]
    exact h93

theorem UcRest.hostBr {b : Buf} {k : Nat} {u : PsipURI} (h : UcRest b k u) : UHostBr b u.host := by
  rcases h with ⟨-, -, he, hh, hho, -⟩ | ⟨a, he, -, -, hh, hho, -⟩ <;> rw [hho]
  · exact uc_host_br (hh.imp_right .inr)
  · exact uc_host_br (.inr hh)

/-- no '@' in a host of the grammar (the first byte of a first token is exempt) -/
theorem uc_host_noAt {b : Buf} {k s e : Nat} (h : (s = k ∧ UcFirstTok b s e) ∨ UcNameHost b s e ∨ UcBrHost b s e)
    {j : Nat} (hkj : k < j) (h1 : s ≤ j) (h2 : j < e) : b[j]? ≠ some 64 := by
  rcases h with ⟨rfl, -, -, hall⟩ | ⟨-, hf, hall⟩ | ⟨h91, hle, h93, hall⟩
  · exact UcAll.ne hall rfl (by omega) h2
  · rcases Nat.eq_or_lt_of_le h1 with rfl | hlt
    · exact UcAll.ne hf rfl (Nat.le_refl _) (Nat.lt_succ_self _)
    · exact UcAll.ne hall rfl hlt h2
  · rcases Nat.eq_or_lt_of_le h1 with rfl | hlt
    · exact uget_ne h91 (by decide)
    · rcases Nat.lt_or_ge j (e - 1) with h3 | h3
      · exact UcAll.ne hall rfl hlt h3
      · rw [show j = e - 1 by omega]
        exact uget_ne h93 (by decide)

theorem uc_part_noAt {b : Buf} {p e : Nat} {d : UInt8} {f : UInt8 → Bool} (hd : b[p]? = some d) (hd64 : d ≠ 64)
    (hall : UcAll b (p + 1) e f) (hf : f 64 = false) (tail : ∀ j, e ≤ j → j < b.size → b[j]? ≠ some 64)
    {j : Nat} (h1 : p ≤ j) (h2 : j < b.size) : b[j]? ≠ some 64 := by
  rcases Nat.eq_or_lt_of_le h1 with rfl | hlt
  · exact uget_ne hd hd64
  · rcases Nat.lt_or_ge j e with h3 | h3
    · exact UcAll.ne hall hf hlt h3
    · exact tail j h3 h2

theorem UcHd.noAt {b : Buf} {p : Nat} {hd : PField} (h : UcHd b p hd) {j : Nat} (h1 : p ≤ j) (h2 : j < b.size) :
    b[j]? ≠ some 64 := by
  rcases h with ⟨rfl, -⟩ | ⟨hc, -, hall⟩
  · omega
  · exact uc_part_noAt hc (by decide) hall rfl (fun j h3 h4 => absurd h4 (by omega)) h1 h2

theorem UcPa.noAt {b : Buf} {p : Nat} {pa hd : PField} (h : UcPa b p pa hd) {j : Nat} (h1 : p ≤ j)
    (h2 : j < b.size) : b[j]? ≠ some 64 := by
  rcases h with ⟨-, hh⟩ | ⟨hc, e, -, -, hall, hh⟩
  · exact UcHd.noAt hh h1 h2
  · exact uc_part_noAt hc (by decide) hall rfl (fun j h3 h4 => UcHd.noAt hh h3 h4) h1 h2

theorem UcPo.noAt {b : Buf} {p pn : Nat} {po pa hd : PField} (h : UcPo b p po pn pa hd) {j : Nat} (h1 : p ≤ j)
    (h2 : j < b.size) : b[j]? ≠ some 64 := by
  rcases h with ⟨-, -, hh⟩ | ⟨hc, e, -, -, hall, -, -, hh⟩
  · exact UcPa.noAt hh h1 h2
  · exact uc_part_noAt hc (by decide) hall rfl (fun j h3 h4 => UcPa.noAt hh h3 h4) h1 h2

/-- **the '@' in front of the host is the last one**, for every text of the grammar -/
theorem UcRest.noAt {b : Buf} {k : Nat} {u : PsipURI} (h : UcRest b k u) {j : Nat} (hkj : k < j)
    (h1 : u.host.offs ≤ j) (h2 : j < b.size) : b[j]? ≠ some 64 := by
  rcases h with ⟨-, -, he, hh, hho, hpo⟩ | ⟨a, he, -, -, hh, hho, hpo⟩ <;> rw [hho] at h1 <;>
    rcases Nat.lt_or_ge j he with h3 | h3
  · exact uc_host_noAt (hh.imp (fun h => ⟨rfl, h⟩) .inr) hkj h1 h3
  · exact UcPo.noAt hpo h3 h2
  · exact uc_host_noAt (k := k) (.inr hh) hkj h1 h3
  · exact UcPo.noAt hpo h3 h2

/-! ### the layout -/

theorem uafter_span {p e : Nat} (h : p + 1 ≤ e) : uafter p ⟨p + 1, e - (p + 1)⟩ = e := by
  rw [uafter_mk _ _ _ rfl]; omega

theorem UcHd.sep {b : Buf} {p : Nat} {hd : PField} (h : UcHd b p hd) : USep b p hd 63 ∧ uafter p hd = b.size := by
  rcases h with ⟨rfl, rfl⟩ | ⟨hc, rfl, -⟩
  · exact ⟨.inl rfl, rfl⟩
  · exact ⟨.inr ⟨hc, rfl⟩, uafter_span (get?_lt hc)⟩

theorem UcPa.sep {b : Buf} {p : Nat} {pa hd : PField} (h : UcPa b p pa hd) :
    USep b p pa 59 ∧ UcHd b (uafter p pa) hd := by
  rcases h with ⟨rfl, hh⟩ | ⟨hc, e, hle, rfl, -, hh⟩
  · exact ⟨.inl rfl, hh⟩
  · exact ⟨.inr ⟨hc, rfl⟩, by rw [uafter_span hle]; exact hh⟩

theorem UcPo.sep {b : Buf} {p pn : Nat} {po pa hd : PField} (h : UcPo b p po pn pa hd) :
    USep b p po 58 ∧ UcPa b (uafter p po) pa hd := by
  rcases h with ⟨rfl, -, hh⟩ | ⟨hc, e, hle, rfl, -, -, -, hh⟩
  · exact ⟨.inl rfl, hh⟩
  · exact ⟨.inr ⟨hc, rfl⟩, by rw [uafter_span hle]; exact hh⟩

/-- `user [':' password]` from `k` to the '@' at `a` (both user-info forms end like this) -/
theorem uc_userPart {b : Buf} {k ue a : Nat} {pw : PField} (hk : k < ue) (hat : b[a]? = some 64)
    (h : (ue = a ∧ pw = ⟨0, 0⟩) ∨ (b[ue]? = some 58 ∧ ue + 1 ≤ a ∧ pw = ⟨ue + 1, a - (ue + 1)⟩)) :
    UserPart b k ⟨k, ue - k⟩ pw (a + 1) := by
  have e : k + (ue - k) = ue := by omega
  refine .inr ⟨rfl, by simp only; omega, ?_⟩
  simp only [e]
  rcases h with ⟨rfl, rfl⟩ | ⟨h58, hle, rfl⟩
  · exact ⟨.inl rfl, hat, rfl⟩
  · rw [uafter_span hle]
    exact ⟨.inr ⟨h58, rfl⟩, hat, rfl⟩

theorem UcRest.userPart {b : Buf} {k : Nat} {u : PsipURI} (h : UcRest b k u) :
    UserPart b k u.user u.pass u.host.offs ∧ ∃ he, u.host.offs < he ∧ u.host.len = he - u.host.offs ∧
      UcPo b he u.port u.portNo u.params u.headers := by
  rcases h with ⟨hu, hp, he, hh, hho, hpo⟩ | ⟨a, he, hat, hu, hh, hho, hpo⟩
  · rw [hu, hp, hho]
    exact ⟨.inl ⟨rfl, rfl, rfl⟩, he, hh.elim (·.1) (by have := ·.2.1; simp only; omega), rfl, hpo⟩
  · rw [hho]
    refine ⟨?_, he, hh.elim (·.1) (by have := ·.2.1; simp only; omega), rfl, hpo⟩
    rcases hu with ⟨ue, hft, hus, ht⟩ | ⟨d, ue, hbh, -, hle, -, hus, ht⟩ <;> rw [hus]
    · exact uc_userPart hft.1 hat (ht.imp_right fun h => ⟨h.1, h.2.1, h.2.2.1⟩)
    · exact uc_userPart (by have := hbh.lt; omega) hat (ht.imp_right fun h => ⟨h.1, h.2.1, h.2.2.1⟩)

theorem UcRest.layout {b : Buf} {k : Nat} {u : PsipURI} (h : UcRest b k u) (hs : u.scheme = ⟨0, k⟩) :
    URILayout b k u := by
  obtain ⟨hup, he, hlt, hlen, hpo⟩ := UcRest.userPart h
  have e : u.host.offs + u.host.len = he := by omega
  obtain ⟨s1, hpa⟩ := UcPo.sep hpo
  obtain ⟨s2, hhd⟩ := UcPa.sep hpa
  obtain ⟨s3, hend⟩ := UcHd.sep hhd
  exact ⟨hs, hup, by omega, e ▸ s1, e ▸ s2, e ▸ s3, e ▸ hend⟩

end Sipsp
