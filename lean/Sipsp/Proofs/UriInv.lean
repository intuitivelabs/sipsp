/-
  Sipsp.Proofs.UriInv — what the URI automaton has read when it is in a given state.  `URun b t k i σ` is the invariant
  of `uriLoop` before reading byte `i`: per state, the text `b[k, i)` read so far in the vocabulary of the grammar
  (UriGrammar) together with what the data fields hold — the saved start `s`, the components stored so far, the port
  accumulator (`accPortL 0` of the digits since `s`), the back-tracking data `foundUser` / `passOffs` (`UBackRead`:
  while no '@' has been seen behind the first `;` / `?`, what was read can still become a user part) and `errHeaders`.
  Every transition that goes on keeps it (`URun.step`); at an accepting exit the components handed out decompose the
  whole text according to the grammar (`URun.accept`); the rejecting exits are tables (`UeTable`, `UeFinTable`); no
  exit panics.  Hence `ucRun_char` (what a run from behind the scheme is) and `parseURI_accepted` (an accepted input is a
  text of the grammar behind one of the three schemes).
-/
import Sipsp.Proofs.UriGrammar


namespace Sipsp

/-- no user and no password stored: the report as long as no '@' has been seen -/
def NoUP (u : PsipURI) : Prop := u.user = ⟨0, 0⟩ ∧ u.pass = ⟨0, 0⟩

/-- storing a field `[s, e)` with `s ≤ e` leaves the panic flag clear -/
theorem upnc {σ : UState} (hp : σ.pnc = false) {s e : Nat} (h : s ≤ e) :
    (σ.pnc || PField.setPanics s e) = false := by
  rw [hp, setPanics_false _ _ h]; rfl

/-! ### the port accumulator -/

theorem accPortL_snoc (p : Nat) (l : List UInt8) (c : UInt8) : accPortL p (l ++ [c]) = accPort (accPortL p l) c := by
  induction l generalizing p with
  | nil => simp [accPortL]
  | cons x xs ih => simp only [List.cons_append, accPortL]; exact ih _

/-- the accumulator that passed the `> 65535` test is the value of the digits -/
theorem uacc_close {l : List UInt8} {p : Nat} (hp : p = accPortL 0 l) (hle : p ≤ 65535) : p = decOf l ∧ p ≤ 65535 := by
  rcases Nat.lt_or_ge 65535 (decOf l) with h | h
  · have := (accPortL_spec l 0).2 h
    omega
  · exact ⟨hp.trans ((accPortL_spec l 0).1 h), hle⟩

theorem uacc_snoc {b : Buf} {s i p : Nat} {c : UInt8} (hsi : s ≤ i) (hc : b[i]? = some c)
    (hp : p = accPortL 0 (digitsOf b s i)) : accPort p c = accPortL 0 (digitsOf b s (i + 1)) := by
  rw [digitsOf_snoc b s i c hsi hc, accPortL_snoc, ← hp]

theorem uacc_start (b : Buf) (j : Nat) : (0 : Nat) = accPortL 0 (digitsOf b j j) := by rw [digitsOf_self]; rfl

/-! ### the rejection table of the automaton -/

/-- the exits of `uriStep`: in the state `σ`, the byte `c` is rejected with the code `e`. -/
def UeTable (σ : UState) (c : UInt8) (e : UErr) : Prop :=
  match σ.st with
  | .initSIP | .initSIPS | .initTEL => e = .badChar ∧ (c = 58 ∨ c = 93)
  | .user => e = .badChar ∧ (c = 91 ∨ c = 93)
  | .pass0 => (e = .port ∧ (c = 59 ∨ c = 63) ∧ σ.portNo > 65535) ∨ (e = .badChar ∧ (c = 91 ∨ c = 93 ∨ c = 58))
  | .pass1 => e = .badChar ∧ (c = 59 ∨ c = 63 ∨ c = 91 ∨ c = 93 ∨ c = 58)
  | .host0 => e = .host ∧ (c = 58 ∨ c = 59 ∨ c = 63 ∨ c = 38 ∨ c = 64)
  | .host1 => e = .badChar ∧ (c = 38 ∨ c = 64)
  | .host61 => e = .host ∧ (c = 91 ∨ c = 64 ∨ c = 59 ∨ c = 63 ∨ c = 38)
  | .host6E => e = .host ∧ c ≠ 58 ∧ c ≠ 59 ∧ c ≠ 63
  | .port => e = .port ∧ isDigit c = false ∧ ((c = 59 ∨ c = 63) → σ.portNo > 65535)
  | .param0 | .param1 => e = .badChar ∧ c = 64 ∧ σ.foundUser = true
  | .headers => e = .badChar ∧ ((c = 64 ∧ σ.foundUser = true) ∨ (c = 59 ∧ (σ.foundUser = true ∨ σ.passOffs ≠ 0)))
  | _ => False

theorem ue_tr_table {i : Nat} {c : UInt8} {e : UErr} {p : Nat} {σ σ' : UState} (h : UTr i c σ (.fail e p σ')) :
    p = i ∧ UeTable σ c e := by
  refine ⟨by cases h <;> rfl, ?_⟩
  cases h with
  | init_bad hst hc => rcases hst with hst | hst | hst <;> simp only [UeTable, hst] <;> exact ⟨trivial, hc⟩
  | user_bad hst hc | pass1_bad hst hc | host0_bad hst hc | host1_bad hst hc | host61_bad hst hc | host6E_bad hst hc =>
    simp only [UeTable, hst]; exact ⟨trivial, hc⟩
  | pass0_big hst hc hbig => simp only [UeTable, hst]; exact .inl ⟨trivial, hc, hbig⟩
  | pass0_bad hst hc => simp only [UeTable, hst]; exact .inr ⟨trivial, hc⟩
  | port_big hst hd hc hbig => simp only [UeTable, hst]; exact ⟨trivial, hd, fun _ => hbig⟩
  | port_bad hst hc => simp only [UeTable, hst]; exact ⟨trivial, hc.1, fun h => absurd h (not_or.mpr hc.2)⟩
  | at_bad hst hc hfu =>
    rcases hst with hst | hst | hst <;> simp only [UeTable, hst]
    · exact ⟨trivial, hc, hfu⟩
    · exact ⟨trivial, hc, hfu⟩
    · exact ⟨trivial, .inl ⟨hc, hfu⟩⟩
  | hdr_semi_bad hst hc h => simp only [UeTable, hst]; exact ⟨trivial, .inr ⟨hc, h⟩⟩

theorem ue_step_table {i p : Nat} {c : UInt8} {e : UErr} {σ σ' : UState} (h : uriStep i c σ = .fail e p σ') :
    p = i ∧ UeTable σ c e := ue_tr_table (h ▸ uriStep_tr i c σ)

theorem ue_table_tr {i : Nat} {c : UInt8} {e : UErr} {σ : UState} {r : UStep} (h : UeTable σ c e) (htr : UTr i c σ r) :
    ∃ σ', r = .fail e i σ' := by
  cases htr with
  | init_bad hst | init_br hst hc | init_tok hst hc =>
    rcases hst with hst | hst | hst <;> simp only [UeTable, hst] at h <;> simp_all
  | at_bad hst | at_user hst hc | at_pass hst hc =>
    rcases hst with hst | hst | hst <;> simp only [UeTable, hst] at h <;> simp_all
  | host_colon hst hc | host_semi hst hc | host_quest hst hc | par_colon hst hc | par_semi hst hc | par_quest hst hc
  | par_tok hst hc =>
    rcases hst with hst | hst <;> simp only [UeTable, hst] at h <;> simp_all
  | dead hst => rcases hst with hst | hst | hst | hst <;> simp only [UeTable, hst] at h
  | pass0_digit hst hc => have := isDigit_ne hc; simp only [UeTable, hst] at h; simp_all
  | pass0_big hst hc => simp only [UeTable, hst] at h; rcases hc with rfl | rfl <;> simp_all
  | pass0_bad hst hc => simp only [UeTable, hst] at h; rcases hc with rfl | rfl | rfl <;> simp_all
  | pass0_semi hst hc hle | pass0_quest hst hc hle | port_semi hst hc hle | port_quest hst hc hle =>
    simp only [UeTable, hst] at h; simp_all; omega
  | user_at hst | user_colon hst | user_semi hst | user_quest hst | user_bad hst | user_tok hst | pass0_at hst
  | pass0_tok hst | pass1_at hst | pass1_bad hst | pass1_tok hst | host0_br hst | host0_bad hst | host0_tok hst
  | host1_bad hst | host1_tok hst | host61_close hst | host61_bad hst | host61_tok hst | host6E_bad hst
  | port_digit hst | port_big hst | port_bad hst | hdr_semi_bad hst | hdr_semi hst | hdr_colon hst | hdr_quest hst
  | hdr_tok hst => simp only [UeTable, hst] at h; simp_all

theorem ue_table_step {i : Nat} {c : UInt8} {e : UErr} {σ : UState} (h : UeTable σ c e) :
    ∃ σ', uriStep i c σ = .fail e i σ' := ue_table_tr h (uriStep_tr i c σ)

/-- the code reported by `uriFinish` in the state `σ` (states that satisfy the loop invariant) -/
def UeFinTable (σ : UState) (e : UErr) : Prop :=
  match σ.st with
  | .initSIP | .initSIPS | .initTEL => e = .tooShort
  | .pass0 => (e = .port ∧ σ.portNo > 65535) ∨ (e = .none ∧ σ.portNo ≤ 65535)
  | .pass1 => e = .port
  | .host0 | .host61 => e = .host
  | .port => (e = .port ∧ σ.portNo > 65535) ∨ (e = .none ∧ σ.portNo ≤ 65535)
  | .headers => (e = .headers ∧ σ.errHeaders = true) ∨ (e = .none ∧ σ.errHeaders = false)
  | .user | .host1 | .host6E | .param0 | .param1 => e = .none
  | _ => False

/-! ### the invariant -/

/-- nothing stored yet behind user and password -/
def UBlank (u : PsipURI) : Prop :=
  u.host = ⟨0, 0⟩ ∧ u.port = ⟨0, 0⟩ ∧ u.portNo = 0 ∧ u.params = ⟨0, 0⟩ ∧ u.headers = ⟨0, 0⟩

/-- a host is read from `hs` on: behind a user-info of the grammar, or right behind the scheme, nothing decided yet -/
def UHostFrom (b : Buf) (k : Nat) (σ : UState) (hs : Nat) : Prop :=
  (σ.foundUser = true ∧ UcUinfo b k σ.u.user σ.u.pass hs) ∨
  (σ.foundUser = false ∧ σ.passOffs = 0 ∧ NoUP σ.u ∧ hs = k)

/-- the optional port between the end `he` of the host and the `;` / `?` at `pe`, as reported -/
def UPortRead (b : Buf) (he pe : Nat) (u : PsipURI) : Prop :=
  (u.port = ⟨0, 0⟩ ∧ u.portNo = 0 ∧ pe = he) ∨
  (b[he]? = some 58 ∧ he + 1 ≤ pe ∧ u.port = ⟨he + 1, pe - (he + 1)⟩ ∧ UcAll b (he + 1) pe isDigit ∧
    u.portNo = decOf (digitsOf b (he + 1) pe) ∧ u.portNo ≤ 65535)

/-- the optional parameters between `pe` and the `?` at `qe`, as reported -/
def UParRead (b : Buf) (pe qe : Nat) (pa : PField) : Prop :=
  (pa = ⟨0, 0⟩ ∧ qe = pe) ∨ (b[pe]? = some 59 ∧ pe + 1 ≤ qe ∧ pa = ⟨pe + 1, qe - (pe + 1)⟩ ∧ UcAll b (pe + 1) qe ucPar)

/-- the back-tracking data while no '@' has been seen behind the first `;` / `?` (at `d`): what was read can still
    become a user part -/
def UBackRead (b : Buf) (k d i : Nat) (σ : UState) : Prop :=
  σ.foundUser = false → NoUP σ.u ∧ σ.u.host.offs = k ∧ UcBackHead b k d ∧
    (σ.passOffs = 0 → UcAll b (d + 1) i ucW1) ∧
    (σ.passOffs ≠ 0 → d < σ.passOffs ∧ σ.passOffs < i ∧ b[σ.passOffs]? = some 58 ∧
      UcAll b (d + 1) σ.passOffs ucW1 ∧ UcAll b (σ.passOffs + 1) i ucW2)

/-- `token ':'` behind the scheme, read as user; what follows is read from `σ.s` on -/
def UTokColon (b : Buf) (k i : Nat) (σ : UState) : Prop :=
  ∃ ue, UcFirstTok b k ue ∧ b[ue]? = some 58 ∧ σ.u.user = ⟨k, ue - k⟩ ∧ σ.s = ue + 1 ∧ σ.s ≤ i ∧
    σ.foundUser = false ∧ σ.passOffs = 0 ∧ σ.u.pass = ⟨0, 0⟩ ∧ UBlank σ.u

/-- per state: what the text `b[k, i)` read so far is, and what the fields hold -/
def URead (b : Buf) (k i : Nat) (σ : UState) : Prop :=
  match σ.st with
  | .initSIP | .initSIPS | .initTEL =>
    i = k ∧ σ.foundUser = false ∧ σ.passOffs = 0 ∧ σ.portNo = 0 ∧ NoUP σ.u ∧ UBlank σ.u
  | .user =>
    σ.s = k ∧ UcFirstTok b k i ∧ σ.foundUser = false ∧ σ.passOffs = 0 ∧ σ.portNo = 0 ∧ NoUP σ.u ∧ UBlank σ.u
  | .pass0 => UTokColon b k i σ ∧ UcAll b σ.s i isDigit ∧ σ.portNo = accPortL 0 (digitsOf b σ.s i)
  | .pass1 => UTokColon b k i σ ∧ UcAll b σ.s i ucTok ∧ UeNonDigit b σ.s i ∧ σ.portNo = 0
  | .host0 => σ.s = i ∧ σ.foundUser = true ∧ UcUinfo b k σ.u.user σ.u.pass i ∧ σ.portNo = 0 ∧ UBlank σ.u
  | .host1 =>
    σ.foundUser = true ∧ UcUinfo b k σ.u.user σ.u.pass σ.s ∧ UcNameHost b σ.s i ∧ σ.portNo = 0 ∧ UBlank σ.u
  | .host61 =>
    UHostFrom b k σ σ.s ∧ σ.s < i ∧ b[σ.s]? = some 91 ∧ UcAll b (σ.s + 1) i ucBrIn ∧ σ.portNo = 0 ∧ UBlank σ.u
  | .host6E => UHostFrom b k σ σ.s ∧ UcBrHost b σ.s i ∧ σ.portNo = 0 ∧ UBlank σ.u
  | .port =>
    ∃ hs he, UHostFrom b k σ hs ∧ ((σ.foundUser = true ∧ UcNameHost b hs he) ∨ UcBrHost b hs he) ∧
      σ.u.host = ⟨hs, he - hs⟩ ∧ b[he]? = some 58 ∧ σ.s = he + 1 ∧ σ.s ≤ i ∧ UcAll b σ.s i isDigit ∧
      σ.portNo = accPortL 0 (digitsOf b σ.s i) ∧
      σ.u.port = ⟨0, 0⟩ ∧ σ.u.portNo = 0 ∧ σ.u.params = ⟨0, 0⟩ ∧ σ.u.headers = ⟨0, 0⟩
  | .param0 | .param1 =>
    ∃ he pe, UcHostOK b k σ.u.user σ.u.pass σ.u.host he ∧ UPortRead b he pe σ.u ∧ b[pe]? = some 59 ∧
      σ.s = pe + 1 ∧ σ.s ≤ i ∧ UcAll b σ.s i ucPar ∧ σ.u.params = ⟨0, 0⟩ ∧ σ.u.headers = ⟨0, 0⟩ ∧ UBackRead b k pe i σ
  | .headers =>
    ∃ he pe qe, UcHostOK b k σ.u.user σ.u.pass σ.u.host he ∧ UPortRead b he pe σ.u ∧ UParRead b pe qe σ.u.params ∧
      b[qe]? = some 63 ∧ σ.s = qe + 1 ∧ σ.s ≤ i ∧ σ.u.headers = ⟨0, 0⟩ ∧
      (σ.errHeaders = false → UcAll b σ.s i ucHdr) ∧ (σ.errHeaders = true → ∃ j, σ.s ≤ j ∧ j < i ∧ b[j]? = some 59) ∧
      UBackRead b k pe i σ
  | _ => False

/-- the loop invariant of `uriLoop` before reading byte `i`, for a URI of type `t` whose scheme has `k` bytes -/
def URun (b : Buf) (t k i : Nat) (σ : UState) : Prop :=
  σ.u.scheme = ⟨0, k⟩ ∧ σ.u.uriType = t ∧ σ.pnc = false ∧ 0 < k ∧ i ≤ b.size ∧ b.size ≤ 65535 ∧
  (σ.errHeaders = true → σ.st = .headers) ∧ URead b k i σ

/-! ### the parts of the invariant in the vocabulary of the grammar -/

theorem UPortRead.po {b : Buf} {he pe : Nat} {u : PsipURI} (h : UPortRead b he pe u) {pa hd : PField}
    (ht : UcPa b pe pa hd) : UcPo b he u.port u.portNo pa hd := by
  rcases h with ⟨h1, h2, rfl⟩ | ⟨h58, hle, h1, hall, h2, h3⟩
  · rw [h1, h2]; exact .inl ⟨rfl, rfl, ht⟩
  · rw [h1]; exact .inr ⟨h58, pe, hle, rfl, hall, h2, h3, ht⟩

theorem UParRead.pa {b : Buf} {pe qe : Nat} {pa : PField} (h : UParRead b pe qe pa) {hd : PField}
    (ht : UcHd b qe hd) : UcPa b pe pa hd := by
  rcases h with ⟨rfl, rfl⟩ | ⟨h59, hle, rfl, hall⟩
  · exact .inl ⟨rfl, ht⟩
  · exact .inr ⟨h59, qe, hle, rfl, hall, ht⟩

theorem UPortRead.le {b : Buf} {he pe : Nat} {u : PsipURI} (h : UPortRead b he pe u) : he ≤ pe := by
  rcases h with ⟨-, -, rfl⟩ | ⟨-, h, -⟩ <;> omega

theorem UParRead.le {b : Buf} {pe qe : Nat} {pa : PField} (h : UParRead b pe qe pa) : pe ≤ qe := by
  rcases h with ⟨-, rfl⟩ | ⟨-, h, -⟩ <;> omega

theorem UHostFrom.ok {b : Buf} {k hs he : Nat} {σ : UState} (h : UHostFrom b k σ hs)
    (hh : (σ.foundUser = true ∧ UcNameHost b hs he) ∨ UcBrHost b hs he) :
    UcHostOK b k σ.u.user σ.u.pass ⟨hs, he - hs⟩ he := by
  rcases h with ⟨hfu, a, rfl, hat, hu⟩ | ⟨hfu, -, ⟨hu0, hp0⟩, rfl⟩
  · exact .inr ⟨a, hat, hu, hh.imp_left (·.2), rfl⟩
  · rcases hh with ⟨h1, -⟩ | hbr
    · rw [hfu] at h1; cases h1
    · exact .inl ⟨hu0, hp0, .inr hbr, rfl⟩

theorem UHostFrom.hostAt {b : Buf} {k hs : Nat} {σ : UState} (h : UHostFrom b k σ hs) : UcHostAt b k hs :=
  h.elim (fun h => h.2.hostAt.1) fun h => .inl h.2.2.2

/-- a host name is only read behind a user-info -/
theorem UHostFrom.form {b : Buf} {k hs he : Nat} {σ : UState} (h : UHostFrom b k σ hs)
    (hh : (σ.foundUser = true ∧ UcNameHost b hs he) ∨ UcBrHost b hs he) :
    (k < hs ∧ UcNameHost b hs he) ∨ UcBrHost b hs he := by
  refine hh.imp_left fun h1 => ⟨?_, h1.2⟩
  rcases h with ⟨-, hui⟩ | ⟨hfu, -⟩
  · exact hui.hostAt.2
  · rw [h1.1] at hfu; cases hfu

/-- with no '@' seen, the host read so far (`[…]` right behind the scheme) can still become the head of a user part -/
theorem UHostFrom.head {b : Buf} {k hs he : Nat} {σ : UState} (h : UHostFrom b k σ hs)
    (hh : (σ.foundUser = true ∧ UcNameHost b hs he) ∨ UcBrHost b hs he) :
    σ.foundUser = false → UcBackHead b k he ∧ NoUP σ.u ∧ hs = k ∧ σ.passOffs = 0 := by
  intro hfu
  rcases h with ⟨h1, -⟩ | ⟨-, hpo, hnu, rfl⟩
  · rw [h1] at hfu; cases hfu
  · rcases hh with ⟨h1, -⟩ | hbr
    · rw [h1] at hfu; cases hfu
    · exact ⟨.inr (.inl hbr), hnu, rfl, hpo⟩

/-- the same behind `[…]:digits` -/
theorem UHostFrom.headPort {b : Buf} {k hs he d : Nat} {σ : UState} (h : UHostFrom b k σ hs)
    (hh : (σ.foundUser = true ∧ UcNameHost b hs he) ∨ UcBrHost b hs he) (h58 : b[he]? = some 58) (hle : he + 1 ≤ d)
    (hall : UcAll b (he + 1) d isDigit) (hv : decOf (digitsOf b (he + 1) d) ≤ 65535) :
    σ.foundUser = false → UcBackHead b k d ∧ NoUP σ.u ∧ hs = k ∧ σ.passOffs = 0 := by
  intro hfu
  rcases h with ⟨h1, -⟩ | ⟨-, hpo, hnu, rfl⟩
  · rw [h1] at hfu; cases hfu
  · rcases hh with ⟨h1, -⟩ | hbr
    · rw [h1] at hfu; cases hfu
    · exact ⟨.inr (.inr ⟨he, hbr, h58, hle, hall, hv⟩), hnu, rfl, hpo⟩

/-! ### the back-tracking data -/

theorem UBackRead.found {b : Buf} {k d j : Nat} {σ' : UState} (h : σ'.foundUser = true) : UBackRead b k d j σ' :=
  fun hf => by rw [h] at hf; cases hf

theorem UBackRead.fresh {b : Buf} {k d : Nat} {σ' : UState}
    (hh : σ'.foundUser = false → UcBackHead b k d ∧ NoUP σ'.u ∧ σ'.u.host.offs = k ∧ σ'.passOffs = 0) :
    UBackRead b k d (d + 1) σ' :=
  fun hf => ⟨(hh hf).2.1, (hh hf).2.2.1, (hh hf).1, fun _ => UcAll.nil b _ (Nat.le_refl _),
    fun h => absurd (hh hf).2.2.2 h⟩

theorem UBackRead.step {b : Buf} {k d i : Nat} {c : UInt8} {σ σ' : UState} (h : UBackRead b k d i σ)
    (hc : b[i]? = some c) (hf : σ'.foundUser = σ.foundUser) (hpo : σ'.passOffs = σ.passOffs)
    (hu : NoUP σ.u ∧ σ.u.host.offs = k → NoUP σ'.u ∧ σ'.u.host.offs = k)
    (h1 : σ.passOffs = 0 → ucW1 c = true) (h2 : σ.passOffs ≠ 0 → ucW2 c = true) : UBackRead b k d (i + 1) σ' := by
  unfold UBackRead at *
  rw [hf, hpo]
  intro hh
  obtain ⟨g1, g2, g3, g4, g5⟩ := h hh
  refine ⟨(hu ⟨g1, g2⟩).1, (hu ⟨g1, g2⟩).2, g3, fun h0 => (g4 h0).snoc hc (h1 h0), fun hne => ?_⟩
  obtain ⟨a1, a2, a3, a4, a5⟩ := g5 hne
  exact ⟨a1, by omega, a3, a4, a5.snoc hc (h2 hne)⟩

theorem UBackRead.markColon {b : Buf} {k d i : Nat} {σ : UState} (h : UBackRead b k d i σ) (hdi : d < i)
    (hc : b[i]? = some 58) : UBackRead b k d (i + 1) (uMarkColon i σ) := by
  unfold uMarkColon
  split
  · split
    · exact .found rfl
    · have hfu : σ.foundUser = false := by simpa using ‹(σ.foundUser == false) = true›
      have hpo : σ.passOffs = 0 := by simpa using ‹¬ (σ.passOffs != 0) = true›
      intro _
      obtain ⟨g1, g2, g3, g4, -⟩ := h hfu
      exact ⟨g1, g2, g3, fun h0 => absurd h0 (by show ¬ i = 0; omega),
        fun _ => ⟨hdi, Nat.lt_succ_self i, hc, g4 hpo, UcAll.nil b _ (Nat.le_refl _)⟩⟩
  · exact .found (by simpa using ‹¬ (σ.foundUser == false) = true›)

/-- `;` / `?` behind the first one: still a byte of the would-be user, unless a ':' was remembered -/
theorem UBackRead.settle {b : Buf} {k d i : Nat} {c : UInt8} {σ σ2 : UState} (h : UBackRead b k d i σ)
    (hc : b[i]? = some c) (hcc : c = 59 ∨ c = 63) (hf : σ2.foundUser = σ.foundUser) (hpo : σ2.passOffs = σ.passOffs)
    (hu : NoUP σ.u ∧ σ.u.host.offs = k → NoUP σ2.u ∧ σ2.u.host.offs = k) :
    UBackRead b k d (i + 1) (uSettle σ2) := by
  unfold uSettle
  split
  · exact .found rfl
  · have hp0 : σ.passOffs = 0 := by rw [← hpo]; simpa using ‹¬ (σ2.passOffs != 0) = true›
    exact h.step hc hf hpo hu (fun _ => by rcases hcc with rfl | rfl <;> rfl) (fun h0 => absurd hp0 h0)

/-! ### what the states of a group have in common -/

theorem URead.init {b : Buf} {k i : Nat} {σ : UState} (h : URead b k i σ)
    (hst : σ.st = .initSIP ∨ σ.st = .initSIPS ∨ σ.st = .initTEL) :
    i = k ∧ σ.foundUser = false ∧ σ.passOffs = 0 ∧ σ.portNo = 0 ∧ NoUP σ.u ∧ UBlank σ.u := by
  unfold URead at h
  rcases hst with hst | hst | hst <;> (rw [hst] at h; exact h)

theorem URead.tokColon {b : Buf} {k i : Nat} {σ : UState} (h : URead b k i σ) (hst : σ.st = .pass0 ∨ σ.st = .pass1) :
    UTokColon b k i σ ∧ UcAll b σ.s i ucTok := by
  rcases hst with hst | hst <;> simp only [URead, hst] at h
  · exact ⟨h.1, h.2.1.mono uc_digit_tok⟩
  · exact ⟨h.1, h.2.1⟩

theorem URead.hostEnd {b : Buf} {k i : Nat} {σ : UState} (h : URead b k i σ) (hst : σ.st = .host1 ∨ σ.st = .host6E) :
    UHostFrom b k σ σ.s ∧ ((σ.foundUser = true ∧ UcNameHost b σ.s i) ∨ UcBrHost b σ.s i) ∧ σ.s < i ∧ σ.portNo = 0 ∧
      UBlank σ.u := by
  rcases hst with hst | hst <;> simp only [URead, hst] at h
  · exact ⟨.inl ⟨h.1, h.2.1⟩, .inl ⟨h.1, h.2.2.1⟩, h.2.2.1.1, h.2.2.2⟩
  · exact ⟨h.1, .inr h.2.1, by have := h.2.1.2.1; omega, h.2.2⟩

theorem URead.param {b : Buf} {k i : Nat} {σ : UState} (h : URead b k i σ) (hst : σ.st = .param0 ∨ σ.st = .param1) :
    ∃ he pe, UcHostOK b k σ.u.user σ.u.pass σ.u.host he ∧ UPortRead b he pe σ.u ∧ b[pe]? = some 59 ∧
      σ.s = pe + 1 ∧ σ.s ≤ i ∧ UcAll b σ.s i ucPar ∧ σ.u.params = ⟨0, 0⟩ ∧ σ.u.headers = ⟨0, 0⟩ ∧
      UBackRead b k pe i σ := by
  unfold URead at h
  rcases hst with hst | hst <;> (rw [hst] at h; exact h)

/-- what the back-tracking states (parameters, headers) have in common: the first `;` / `?` behind host and port -/
theorem URead.back {b : Buf} {k i : Nat} {σ : UState} (hR : URead b k i σ)
    (hst : σ.st = .param0 ∨ σ.st = .param1 ∨ σ.st = .headers) :
    ∃ d, d < i ∧ (b[d]? = some 59 ∨ b[d]? = some 63) ∧ UBackRead b k d i σ := by
  rcases hst with hst | hst | hst <;> simp only [URead, hst] at hR
  · obtain ⟨he, pe, -, -, h59, hss, hsi, -, -, -, hbk⟩ := hR; exact ⟨pe, by omega, .inl h59, hbk⟩
  · obtain ⟨he, pe, -, -, h59, hss, hsi, -, -, -, hbk⟩ := hR; exact ⟨pe, by omega, .inl h59, hbk⟩
  · obtain ⟨he, pe, qe, -, -, hpa, h63, hss, hsi, -, -, -, hbk⟩ := hR
    rcases hpa with ⟨-, rfl⟩ | ⟨h59, hle, -⟩
    · exact ⟨qe, by omega, .inr h63, hbk⟩
    · exact ⟨pe, by omega, .inl h59, hbk⟩

theorem URead.par_upd {b : Buf} {k i : Nat} {c : UInt8} {σ σ' : UState} (h : URead b k i σ)
    (hst : σ.st = .param0 ∨ σ.st = .param1) (hc : b[i]? = some c) (hst' : σ'.st = .param0 ∨ σ'.st = .param1)
    (hu : σ'.u = σ.u) (hs : σ'.s = σ.s) (hpc : ucPar c = true)
    (hb : ∀ d, d < i → UBackRead b k d i σ → UBackRead b k d (i + 1) σ') : URead b k (i + 1) σ' := by
  obtain ⟨he, pe, hok, hpr, h59, hss, hsi, hall, hpa0, hhd0, hbk⟩ := h.param hst
  rcases hst' with hst' | hst' <;> simp only [URead, hst', hu, hs] <;>
    exact ⟨he, pe, hok, hpr, h59, hss, Nat.le_succ_of_le hsi, hall.snoc hc hpc, hpa0, hhd0, hb pe (by omega) hbk⟩

theorem URead.hdr_upd {b : Buf} {k i : Nat} {c : UInt8} {σ σ' : UState} (h : URead b k i σ)
    (hst : σ.st = .headers) (hc : b[i]? = some c) (hst' : σ'.st = .headers) (hu : σ'.u = σ.u) (hs : σ'.s = σ.s)
    (he : σ'.errHeaders = false → σ.errHeaders = false ∧ ucHdr c = true)
    (he' : σ'.errHeaders = true → σ.errHeaders = true ∨ c = 59)
    (hb : ∀ d, d < i → UBackRead b k d i σ → UBackRead b k d (i + 1) σ') : URead b k (i + 1) σ' := by
  simp only [URead, hst] at h
  obtain ⟨he_, pe, qe, hok, hpr, hpa, h63, hss, hsi, hhd0, hall, hsemi, hbk⟩ := h
  have hpq : pe ≤ qe := by rcases hpa with ⟨-, rfl⟩ | ⟨-, h, -⟩ <;> omega
  simp only [URead, hst', hu, hs]
  refine ⟨he_, pe, qe, hok, hpr, hpa, h63, hss, Nat.le_succ_of_le hsi, hhd0,
    fun h0 => (hall (he h0).1).snoc hc (he h0).2, fun h1 => ?_, hb pe (by omega) hbk⟩
  rcases he' h1 with h2 | rfl
  · obtain ⟨j, a1, a2, a3⟩ := hsemi h2
    exact ⟨j, a1, Nat.lt_succ_of_lt a2, a3⟩
  · exact ⟨i, hsi, Nat.lt_succ_self i, hc⟩

/-! ### one step of the automaton -/

theorem URun.next {b : Buf} {t k i : Nat} {σ σ' : UState} (h : URun b t k i σ) (hlt : i < b.size)
    (hsch : σ'.u.scheme = σ.u.scheme) (hty : σ'.u.uriType = σ.u.uriType) (hp : σ'.pnc = false)
    (heh : σ'.errHeaders = true → σ'.st = .headers) (hR : URead b k (i + 1) σ') : URun b t k (i + 1) σ' :=
  ⟨hsch.trans h.1, hty.trans h.2.1, hp, h.2.2.2.1, hlt, h.2.2.2.2.2.1, heh, hR⟩

theorem URun.step {b : Buf} {t k i : Nat} {σ σ' : UState} {c : UInt8} (h : URun b t k i σ) (hc : b[i]? = some c)
    (htr : UTr i c σ (.next σ')) : URun b t k (i + 1) σ' := by
  have hlt := get?_lt hc
  obtain ⟨hsch, hty, hp, hk, hi, hfit, heh, hR⟩ := id h
  have hi' : i ≤ 65535 := by omega
  -- outside the headers the flag is down
  have he0 : σ.st ≠ .headers → σ.errHeaders = true → False := fun h1 h2 => h1 (heh h2)
  cases htr with
  | dead hst => rcases hst with hst | hst | hst | hst <;> simp [URead, hst] at hR
  | init_br hst hc' =>
    subst hc'
    obtain ⟨rfl, hfu, hpo, hpn, hnu, hbl⟩ := hR.init hst
    refine h.next hlt rfl rfl hp (fun e => (he0 (by rcases hst with hst | hst | hst <;> simp [hst]) e).elim) ?_
    simp only [URead]
    exact ⟨.inr ⟨hfu, hpo, hnu, rfl⟩, Nat.lt_succ_self _, hc, UcAll.nil b _ (Nat.le_refl _), hpn, hbl⟩
  | init_tok hst hc' =>
    obtain ⟨rfl, hfu, hpo, hpn, hnu, hbl⟩ := hR.init hst
    refine h.next hlt rfl rfl hp (fun e => (he0 (by rcases hst with hst | hst | hst <;> simp [hst]) e).elim) ?_
    simp only [URead]
    exact ⟨trivial, ⟨Nat.lt_succ_self _, UcAll.one hc (by simp [ucFirst, hc']), UcAll.nil b _ (Nat.le_refl _)⟩,
      hfu, hpo, hpn, hnu, hbl⟩
  | user_tok hst hc' =>
    simp only [URead, hst] at hR ⊢
    obtain ⟨hs, ⟨hki, hf1, hall⟩, hrest⟩ := hR
    exact h.next hlt rfl rfl hp (fun e => (he0 (by simp [hst]) e).elim)
      (by simp only [URead, hst]; exact ⟨hs, ⟨by omega, hf1, hall.snoc hc (by simp [ucTok, hc'])⟩, hrest⟩)
  | user_at hst hc' =>
    subst hc'
    simp only [URead, hst] at hR
    obtain ⟨hs, hft, hfu, hpo, hpn, ⟨hu0, hp0⟩, hbl⟩ := hR
    have hki := Nat.le_of_lt hft.1
    refine h.next hlt rfl rfl (upnc hp (hs ▸ hki)) (fun e => (he0 (by simp [hst]) e).elim) ?_
    simp only [URead, UState.setUser, hs, set_eq _ _ hki hi']
    exact ⟨trivial, trivial, ⟨i, rfl, hc, .inl ⟨i, hft, rfl, .inl ⟨rfl, hp0⟩⟩⟩, hpn, hbl⟩
  | user_colon hst hc' =>
    subst hc'
    simp only [URead, hst] at hR
    obtain ⟨hs, hft, hfu, hpo, hpn, ⟨hu0, hp0⟩, hbl⟩ := hR
    have hki := Nat.le_of_lt hft.1
    refine h.next hlt rfl rfl (upnc hp (hs ▸ hki)) (fun e => (he0 (by simp [hst]) e).elim) ?_
    simp only [URead, UState.setUser, hs, set_eq _ _ hki hi']
    exact ⟨⟨i, hft, hc, rfl, rfl, Nat.le_refl _, hfu, hpo, hp0, hbl⟩, UcAll.nil b _ (Nat.le_refl _),
      hpn.trans (uacc_start b (i + 1))⟩
  | user_semi hst hc' =>
    subst hc'
    simp only [URead, hst] at hR
    obtain ⟨hs, hft, hfu, hpo, hpn, hnu, hh0, hpt0, hpn0, hpa0, hhd0⟩ := hR
    have hki := Nat.le_of_lt hft.1
    refine h.next hlt rfl rfl (upnc hp (hs ▸ hki)) (fun e => (he0 (by simp [hst]) e).elim) ?_
    simp only [URead, UState.setHost, hs, set_eq _ _ hki hi']
    exact ⟨i, i, .inl ⟨hnu.1, hnu.2, .inl hft, rfl⟩, .inl ⟨hpt0, hpn0, rfl⟩, hc, rfl, Nat.le_refl _,
      UcAll.nil b _ (Nat.le_refl _), hpa0, hhd0, .fresh fun _ => ⟨.inl hft, hnu, rfl, hpo⟩⟩
  | user_quest hst hc' =>
    subst hc'
    simp only [URead, hst] at hR
    obtain ⟨hs, hft, hfu, hpo, hpn, hnu, hh0, hpt0, hpn0, hpa0, hhd0⟩ := hR
    have hki := Nat.le_of_lt hft.1
    refine h.next hlt rfl rfl (upnc hp (hs ▸ hki)) (fun _ => rfl) ?_
    simp only [URead, UState.setHost, hs, set_eq _ _ hki hi']
    exact ⟨i, i, i, .inl ⟨hnu.1, hnu.2, .inl hft, rfl⟩, .inl ⟨hpt0, hpn0, rfl⟩, .inl ⟨hpa0, rfl⟩, hc, rfl, Nat.le_refl _,
      hhd0, fun _ => UcAll.nil b _ (Nat.le_refl _), fun e => (he0 (by simp [hst]) e).elim,
      .fresh fun _ => ⟨.inl hft, hnu, rfl, hpo⟩⟩
  | pass0_digit hst hc' =>
    simp only [URead, hst] at hR
    obtain ⟨⟨ue, hft, h58, hus, hs, hsi, hrest⟩, hall, hacc⟩ := hR
    refine h.next hlt rfl rfl hp (fun e => (he0 (by simp [hst]) e).elim) ?_
    simp only [URead, hst]
    exact ⟨⟨ue, hft, h58, hus, hs, Nat.le_succ_of_le hsi, hrest⟩, hall.snoc hc hc', uacc_snoc hsi hc hacc⟩
  | pass0_tok hst hc' =>
    simp only [URead, hst] at hR
    obtain ⟨⟨ue, hft, h58, hus, hs, hsi, hrest⟩, hall, hacc⟩ := hR
    refine h.next hlt rfl rfl hp (fun e => (he0 (by simp [hst]) e).elim) ?_
    simp only [URead]
    exact ⟨⟨ue, hft, h58, hus, hs, Nat.le_succ_of_le hsi, hrest⟩, (hall.mono uc_digit_tok).snoc hc (by simp [ucTok, hc']),
      ⟨i, c, hsi, Nat.lt_succ_self i, hc, hc'.2.2.2.1⟩, trivial⟩
  | pass1_tok hst hc' =>
    simp only [URead, hst] at hR
    obtain ⟨⟨ue, hft, h58, hus, hs, hsi, hrest⟩, hall, ⟨j, cj, n1, n2, n3, n4⟩, hpn⟩ := hR
    refine h.next hlt rfl rfl hp (fun e => (he0 (by simp [hst]) e).elim) ?_
    simp only [URead, hst]
    exact ⟨⟨ue, hft, h58, hus, hs, Nat.le_succ_of_le hsi, hrest⟩, hall.snoc hc (by simp [ucTok, hc']),
      ⟨j, cj, n1, Nat.lt_succ_of_lt n2, n3, n4⟩, hpn⟩
  | pass0_at hst hc' | pass1_at hst hc' =>
    subst hc'
    obtain ⟨⟨ue, hft, h58, hus, hs, hsi, hfu, hpo, hp0, hbl⟩, hall⟩ := hR.tokColon (by simp [hst])
    refine h.next hlt rfl rfl (upnc hp hsi) (fun e => (he0 (by simp [hst]) e).elim) ?_
    simp only [URead, UState.setPass, set_eq _ _ hsi hi']
    refine ⟨trivial, trivial, ⟨i, rfl, hc, .inl ⟨ue, hft, hus, .inr ⟨h58, by omega, by rw [hs],
      by rw [← hs]; exact hall⟩⟩⟩, ?_, hbl⟩
    first | trivial | (simp only [URead, hst] at hR; exact hR.2.2.2)
  | pass0_semi hst hc' hle =>
    subst hc'
    simp only [URead, hst] at hR
    obtain ⟨⟨ue, hft, h58, hus, hs, hsi, hfu, hpo, hp0, hh0, hpt0, hpn0, hpa0, hhd0⟩, hall, hacc⟩ := hR
    obtain ⟨hv, hv2⟩ := uacc_close hacc hle
    refine h.next hlt rfl rfl (upnc hp hsi) (fun e => (he0 (by simp [hst]) e).elim) ?_
    simp only [URead, UState.setPort, set_eq _ _ hsi hi']
    rw [hs] at hall hv ⊢
    exact ⟨ue, i, .inl ⟨rfl, hp0, .inl hft, hus⟩, .inr ⟨h58, by omega, rfl, hall, hv, hv2⟩, hc, rfl, Nat.le_refl _,
      UcAll.nil b _ (Nat.le_refl _), hpa0, hhd0, .found rfl⟩
  | pass0_quest hst hc' hle =>
    subst hc'
    simp only [URead, hst] at hR
    obtain ⟨⟨ue, hft, h58, hus, hs, hsi, hfu, hpo, hp0, hh0, hpt0, hpn0, hpa0, hhd0⟩, hall, hacc⟩ := hR
    obtain ⟨hv, hv2⟩ := uacc_close hacc hle
    refine h.next hlt rfl rfl (upnc hp hsi) (fun _ => rfl) ?_
    simp only [URead, UState.setPort, set_eq _ _ hsi hi']
    rw [hs] at hall hv ⊢
    exact ⟨ue, i, i, .inl ⟨rfl, hp0, .inl hft, hus⟩, .inr ⟨h58, by omega, rfl, hall, hv, hv2⟩, .inl ⟨hpa0, rfl⟩, hc, rfl,
      Nat.le_refl _, hhd0, fun _ => UcAll.nil b _ (Nat.le_refl _), fun e => (he0 (by simp [hst]) e).elim, .found rfl⟩
  | host0_br hst hc' =>
    subst hc'
    simp only [URead, hst] at hR
    obtain ⟨hs, hfu, hui, hpn, hbl⟩ := hR
    refine h.next hlt rfl rfl hp (fun e => (he0 (by simp [hst]) e).elim) ?_
    simp only [URead]
    exact ⟨.inl ⟨hfu, hs ▸ hui⟩, by omega, hs ▸ hc, UcAll.nil b _ (by omega), hpn, hbl⟩
  | host0_tok hst hc' =>
    simp only [URead, hst] at hR
    obtain ⟨hs, hfu, hui, hpn, hbl⟩ := hR
    refine h.next hlt rfl rfl hp (fun e => (he0 (by simp [hst]) e).elim) ?_
    simp only [URead, hs]
    exact ⟨hfu, hui, ⟨Nat.lt_succ_self _, UcAll.one hc (by simp [ucHost0, ucHost, hc']), UcAll.nil b _ (Nat.le_refl _)⟩,
      hpn, hbl⟩
  | host1_tok hst hc' =>
    simp only [URead, hst] at hR
    obtain ⟨hfu, hui, ⟨hsi, hf1, hall⟩, hrest⟩ := hR
    refine h.next hlt rfl rfl hp (fun e => (he0 (by simp [hst]) e).elim) ?_
    simp only [URead, hst]
    exact ⟨hfu, hui, ⟨Nat.lt_succ_of_lt hsi, hf1, hall.snoc hc (by simp [ucHost, hc'])⟩, hrest⟩
  | host61_tok hst hc' =>
    simp only [URead, hst] at hR
    obtain ⟨hf, hsi, h91, hall, hrest⟩ := hR
    refine h.next hlt rfl rfl hp (fun e => (he0 (by simp [hst]) e).elim) ?_
    simp only [URead, hst]
    exact ⟨hf, Nat.lt_succ_of_lt hsi, h91, hall.snoc hc (by simp [ucBrIn, hc']), hrest⟩
  | host61_close hst hc' =>
    subst hc'
    simp only [URead, hst] at hR
    obtain ⟨hf, hsi, h91, hall, hrest⟩ := hR
    refine h.next hlt rfl rfl hp (fun e => (he0 (by simp [hst]) e).elim) ?_
    simp only [URead]
    exact ⟨hf, ⟨h91, by omega, by simpa using hc, by simpa using hall⟩, hrest⟩
  | host_colon hst hc' =>
    subst hc'
    obtain ⟨hf, hh, hsi, hpn, hh0, hpt0, hpn0, hpa0, hhd0⟩ := hR.hostEnd hst
    refine h.next hlt rfl rfl (upnc hp (Nat.le_of_lt hsi))
      (fun e => (he0 (by rcases hst with hst | hst <;> simp [hst]) e).elim) ?_
    simp only [URead, UState.setHost, set_eq _ _ (Nat.le_of_lt hsi) hi']
    exact ⟨σ.s, i, hf, hh, rfl, hc, rfl, Nat.le_refl _, UcAll.nil b _ (Nat.le_refl _), hpn.trans (uacc_start b (i + 1)),
      hpt0, hpn0, hpa0, hhd0⟩
  | host_semi hst hc' =>
    subst hc'
    obtain ⟨hf, hh, hsi, hpn, hh0, hpt0, hpn0, hpa0, hhd0⟩ := hR.hostEnd hst
    refine h.next hlt rfl rfl (upnc hp (Nat.le_of_lt hsi))
      (fun e => (he0 (by rcases hst with hst | hst <;> simp [hst]) e).elim) ?_
    simp only [URead, UState.setHost, set_eq _ _ (Nat.le_of_lt hsi) hi']
    exact ⟨i, i, hf.ok hh, .inl ⟨hpt0, hpn0, rfl⟩, hc, rfl, Nat.le_refl _, UcAll.nil b _ (Nat.le_refl _), hpa0, hhd0,
      .fresh (hf.head hh)⟩
  | host_quest hst hc' =>
    subst hc'
    obtain ⟨hf, hh, hsi, hpn, hh0, hpt0, hpn0, hpa0, hhd0⟩ := hR.hostEnd hst
    refine h.next hlt rfl rfl (upnc hp (Nat.le_of_lt hsi)) (fun _ => rfl) ?_
    simp only [URead, UState.setHost, set_eq _ _ (Nat.le_of_lt hsi) hi']
    exact ⟨i, i, i, hf.ok hh, .inl ⟨hpt0, hpn0, rfl⟩, .inl ⟨hpa0, rfl⟩, hc, rfl, Nat.le_refl _, hhd0,
      fun _ => UcAll.nil b _ (Nat.le_refl _),
      fun e => (he0 (by rcases hst with hst | hst <;> simp [hst]) e).elim, .fresh (hf.head hh)⟩
  | port_digit hst hc' =>
    simp only [URead, hst] at hR
    obtain ⟨hs, he, hf, hh, hho, h58, hss, hsi, hall, hacc, hrest⟩ := hR
    refine h.next hlt rfl rfl hp (fun e => (he0 (by simp [hst]) e).elim) ?_
    simp only [URead, hst]
    exact ⟨hs, he, hf, hh, hho, h58, hss, Nat.le_succ_of_le hsi, hall.snoc hc hc', uacc_snoc hsi hc hacc, hrest⟩
  | port_semi hst hc' hle =>
    subst hc'
    simp only [URead, hst] at hR
    obtain ⟨hs, he, hf, hh, hho, h58, hss, hsi, hall, hacc, hpt0, hpn0, hpa0, hhd0⟩ := hR
    obtain ⟨hv, hv2⟩ := uacc_close hacc hle
    refine h.next hlt rfl rfl (upnc hp hsi) (fun e => (he0 (by simp [hst]) e).elim) ?_
    simp only [URead, UState.setPort, set_eq _ _ hsi hi', hho]
    rw [hss] at hall hv ⊢
    exact ⟨he, i, hf.ok hh, .inr ⟨h58, by omega, rfl, hall, hv, hv2⟩, hc, rfl, Nat.le_refl _,
      UcAll.nil b _ (Nat.le_refl _), hpa0, hhd0, .fresh (hf.headPort hh h58 (by omega) hall (hv ▸ hv2))⟩
  | port_quest hst hc' hle =>
    subst hc'
    simp only [URead, hst] at hR
    obtain ⟨hs, he, hf, hh, hho, h58, hss, hsi, hall, hacc, hpt0, hpn0, hpa0, hhd0⟩ := hR
    obtain ⟨hv, hv2⟩ := uacc_close hacc hle
    refine h.next hlt rfl rfl (upnc hp hsi) (fun _ => rfl) ?_
    simp only [URead, UState.setPort, set_eq _ _ hsi hi', hho]
    rw [hss] at hall hv ⊢
    exact ⟨he, i, i, hf.ok hh, .inr ⟨h58, by omega, rfl, hall, hv, hv2⟩, .inl ⟨hpa0, rfl⟩, hc, rfl, Nat.le_refl _, hhd0,
      fun _ => UcAll.nil b _ (Nat.le_refl _), fun e => (he0 (by simp [hst]) e).elim,
      .fresh (hf.headPort hh h58 (by omega) hall (hv ▸ hv2))⟩
  | par_tok hst hc' =>
    exact h.next hlt rfl rfl hp (fun e => (he0 (by rcases hst with hst | hst <;> simp [hst]) e).elim)
      (hR.par_upd hst hc (.inr rfl) rfl rfl (by simp [ucPar, hc']) fun d _ hb =>
        hb.step hc rfl rfl id (fun _ => by simp [ucW1, hc']) (fun _ => by simp [ucW2, hc']))
  | par_colon hst hc' =>
    subst hc'
    exact h.next hlt (by simp) (by simp) (by simpa using hp)
      (fun e => (he0 (by rcases hst with hst | hst <;> simp [hst]) (by simpa using e)).elim)
      (hR.par_upd hst hc (.inr rfl) (by simp) (by simp) rfl fun d hd hb => hb.markColon hd hc)
  | par_semi hst hc' =>
    subst hc'
    exact h.next hlt (by simp) (by simp) (by simpa using hp)
      (fun e => (he0 (by rcases hst with hst | hst <;> simp [hst]) (by simpa using e)).elim)
      (hR.par_upd hst hc (.inl rfl) (by simp) (by simp) rfl fun d _ hb => hb.settle hc (.inl rfl) rfl rfl id)
  | par_quest hst hc' =>
    subst hc'
    obtain ⟨he, pe, hok, hpr, h59, hss, hsi, hall, hpa0, hhd0, hbk⟩ := hR.param hst
    refine h.next hlt (by rw [uSettle_u]; rfl) (by rw [uSettle_u]; rfl) ((uSettle_pnc _).trans (upnc hp hsi))
      (fun _ => by simp) ?_
    simp only [URead, uSettle_st, uSettle_u, uSettle_s, uSettle_errHeaders, UState.setParams, set_eq _ _ hsi hi']
    rw [hss] at hall ⊢
    exact ⟨he, pe, i, hok, hpr, .inr ⟨h59, by omega, rfl, hall⟩, hc, rfl, Nat.le_refl _, hhd0,
      fun _ => UcAll.nil b _ (Nat.le_refl _),
      fun e => (he0 (by rcases hst with hst | hst <;> simp [hst]) e).elim,
      hbk.settle (σ2 := _) hc (.inr rfl) rfl rfl id⟩
  | at_user hst hc' hfu hpo =>
    subst hc'
    obtain ⟨d, hdi, hd, hbk⟩ := hR.back hst
    obtain ⟨-, hho, hbh, g, -⟩ := hbk hfu
    have hkd := hbh.lt
    refine h.next hlt rfl rfl (upnc hp (by omega)) nofun ?_
    simp only [URead, uAtReset, UState.setUser, hho, set_eq _ _ (show k ≤ i by omega) hi']
    exact ⟨trivial, trivial, ⟨i, rfl, hc, .inr ⟨d, i, hbh, hd, by omega, g hpo, rfl, .inl ⟨rfl, rfl⟩⟩⟩, trivial,
      rfl, rfl, rfl, rfl, rfl⟩
  | at_pass hst hc' hfu hpo =>
    subst hc'
    obtain ⟨d, hdi, hd, hbk⟩ := hR.back hst
    obtain ⟨-, hho, hbh, -, g⟩ := hbk hfu
    obtain ⟨g1, g2, g3, g4, g5⟩ := g hpo
    have hkd := hbh.lt
    refine h.next hlt rfl rfl ?_ nofun ?_
    · simp only [uAtReset, UState.setPass, UState.setUser, hp, setPanics_false _ _ (show σ.u.host.offs ≤ σ.passOffs by omega),
        setPanics_false _ _ (show σ.passOffs + 1 ≤ i by omega), Bool.or_false]
    simp only [URead, uAtReset, UState.setUser, UState.setPass, hho, set_eq _ _ (show k ≤ σ.passOffs by omega) (by omega),
      set_eq _ _ (show σ.passOffs + 1 ≤ i by omega) hi']
    exact ⟨trivial, trivial, ⟨i, rfl, hc, .inr ⟨d, σ.passOffs, hbh, hd, by omega, g4, rfl,
      .inr ⟨g3, by omega, rfl, g5⟩⟩⟩, trivial, rfl, rfl, rfl, rfl, rfl⟩
  | hdr_tok hst hc' =>
    exact h.next hlt rfl rfl hp (fun _ => hst)
      (hR.hdr_upd hst hc hst rfl rfl (fun h0 => ⟨h0, by simp [ucHdr, hc']⟩) .inl fun d _ hb =>
        hb.step hc rfl rfl id (fun _ => by simp [ucW1, hc']) (fun _ => by simp [ucW2, hc']))
  | hdr_semi hst hc' hfu hpo =>
    exact h.next hlt rfl rfl hp (fun _ => hst)
      (hR.hdr_upd hst hc hst rfl rfl nofun (fun _ => .inr hc') fun d _ hb =>
        hb.step hc rfl rfl id (fun _ => by rw [hc']; rfl) (fun h0 => absurd hpo h0))
  | hdr_colon hst hc' =>
    subst hc'
    exact h.next hlt (by simp) (by simp) (by simpa using hp) (fun _ => by simpa using hst)
      (hR.hdr_upd hst hc (by simpa using hst) (by simp) (by simp) (fun h0 => ⟨by simpa using h0, rfl⟩)
        (fun h1 => .inl (by simpa using h1)) fun d hd hb => hb.markColon hd hc)
  | hdr_quest hst hc' =>
    subst hc'
    exact h.next hlt (by simp) (by simp) (by simpa using hp) (fun _ => by simpa using hst)
      (hR.hdr_upd hst hc (by simpa using hst) (by simp) (by simp) (fun h0 => ⟨by simpa using h0, rfl⟩)
        (fun h1 => .inl (by simpa using h1)) fun d _ hb => hb.settle hc (.inr rfl) rfl rfl id)

/-! ### the exits, the start, and the run -/

/-- **at an accepting exit the components handed out are a decomposition of the text according to the grammar** -/
theorem URun.accept {b : Buf} {t k : Nat} {σ σx : UState} (h : URun b t k b.size σ) (ha : UAcc b.size σ σx) :
    UcComp b t k σx.u ∧ σx.pnc = false := by
  obtain ⟨hsch, hty, hp, hk, hi, hfit, -, hR⟩ := h
  have mk : ∀ {u : PsipURI} {he : Nat}, u.uriType = t → u.scheme = ⟨0, k⟩ → UcHostOK b k u.user u.pass u.host he →
      UcPo b he u.port u.portNo u.params u.headers → UcComp b t k u :=
    fun h1 h2 h3 h4 => ⟨h1, h2, (UcRest_iff b k _).mpr ⟨_, h3, h4⟩⟩
  cases ha with
  | user hst hfu =>
    simp only [URead, hst] at hR
    obtain ⟨hs, hft, -, -, -, ⟨hu0, hp0⟩, -, hpt0, hpn0, hpa0, hhd0⟩ := hR
    refine ⟨mk (he := b.size) hty hsch (.inl ⟨hu0, hp0, .inl hft, ?_⟩) ?_, upnc hp (hs ▸ Nat.le_of_lt hft.1)⟩
    · simp only [UState.setHost, hs, set_eq _ _ (Nat.le_of_lt hft.1) hfit]
    · simp only [UState.setHost, hpt0, hpn0, hpa0, hhd0]
      exact UcPo.atEnd b
  | pass0 hst hfu hle =>
    simp only [URead, hst] at hR
    obtain ⟨⟨ue, hft, h58, hus, hs, hsi, -, -, hp0, -, -, -, hpa0, hhd0⟩, hall, hacc⟩ := hR
    obtain ⟨hv, hv2⟩ := uacc_close hacc hle
    refine ⟨mk (he := ue) hty hsch (.inl ⟨rfl, hp0, .inl hft, hus⟩) ?_, upnc hp hsi⟩
    simp only [UState.setPort, set_eq _ _ hsi hfit, hpa0, hhd0]
    rw [hs] at hall hv ⊢
    exact .inr ⟨h58, b.size, by omega, rfl, hall, hv, hv2, .inl ⟨rfl, .inl ⟨rfl, rfl⟩⟩⟩
  | host hst =>
    obtain ⟨hf, hh, hlt, -, -, hpt0, hpn0, hpa0, hhd0⟩ := hR.hostEnd hst
    refine ⟨mk (he := b.size) hty hsch ?_ ?_, upnc hp (Nat.le_of_lt hlt)⟩
    · simp only [UState.setHost, set_eq _ _ (Nat.le_of_lt hlt) hfit]
      exact hf.ok hh
    · simp only [UState.setHost, hpt0, hpn0, hpa0, hhd0]
      exact UcPo.atEnd b
  | port hst hle =>
    simp only [URead, hst] at hR
    obtain ⟨hs, he, hf, hh, hho, h58, hss, hsi, hall, hacc, -, -, hpa0, hhd0⟩ := hR
    obtain ⟨hv, hv2⟩ := uacc_close hacc hle
    refine ⟨mk (he := he) hty hsch ?_ ?_, upnc hp hsi⟩
    · simp only [UState.setPort, hho]
      exact hf.ok hh
    · simp only [UState.setPort, set_eq _ _ hsi hfit, hpa0, hhd0]
      rw [hss] at hall hv ⊢
      exact .inr ⟨h58, b.size, by omega, rfl, hall, hv, hv2, .inl ⟨rfl, .inl ⟨rfl, rfl⟩⟩⟩
  | params hst =>
    obtain ⟨he, pe, hok, hpr, h59, hss, hsi, hall, -, hhd0, -⟩ := hR.param hst
    refine ⟨mk (he := he) hty hsch hok ?_, upnc hp hsi⟩
    simp only [UState.setParams, set_eq _ _ hsi hfit, hhd0]
    rw [hss] at hall ⊢
    exact hpr.po (.inr ⟨h59, b.size, by omega, rfl, hall, .inl ⟨rfl, rfl⟩⟩)
  | hdr hst heh =>
    simp only [URead, hst] at hR
    obtain ⟨he, pe, qe, hok, hpr, hpa, h63, hss, hsi, -, hall, -, -⟩ := hR
    refine ⟨mk (he := he) hty hsch hok ?_, upnc hp hsi⟩
    simp only [UState.setHeaders, set_eq _ _ hsi hfit]
    have hall := hall heh
    rw [hss] at hall ⊢
    exact hpr.po (hpa.pa (.inr ⟨h63, rfl, hall⟩))

theorem URun.fail_pnc {b : Buf} {t k i p : Nat} {σ σ' : UState} {c : UInt8} {e : UErr} (h : URun b t k i σ)
    (htr : UTr i c σ (.fail e p σ')) : σ'.pnc = false := by
  obtain ⟨-, -, hp, -, -, -, -, hR⟩ := h
  cases htr with
  | pass0_big hst =>
    simp only [URead, hst] at hR
    obtain ⟨⟨ue, -, -, -, -, hsi, -⟩, -⟩ := hR
    exact upnc hp hsi
  | port_big hst =>
    simp only [URead, hst] at hR
    obtain ⟨hs, he, -, -, -, -, -, hsi, -⟩ := hR
    exact upnc hp hsi
  | _ => exact hp

theorem URun.rej {b : Buf} {t k : Nat} {σ : UState} {r : UErr × Nat × UState} (h : URun b t k b.size σ)
    (hf : UFin b.size σ r) (hr : r.1 ≠ .none) : r.2.1 = b.size ∧ r.2.2.pnc = false ∧ UeFinTable σ r.1 := by
  obtain ⟨-, -, hp, -, -, -, -, hR⟩ := h
  cases hf with
  | short hst =>
    refine ⟨rfl, hp, ?_⟩
    rcases hst with hst | hst | hst | hst <;> simp [URead, UeFinTable, hst] at hR ⊢
  | bug hst => rcases hst with hst | hst | hst <;> simp [URead, hst] at hR
  | user_bad hst hfu =>
    simp only [URead, hst] at hR
    rw [hR.2.2.1] at hfu; cases hfu
  | pass_bad hst h1 =>
    rcases hst with hst | hst
    · obtain ⟨⟨ue, -, -, -, -, -, hfu, -⟩, -⟩ := hR.tokColon (.inl hst)
      rcases h1 with h1 | h1
      · rw [hfu] at h1; cases h1
      · rw [hst] at h1; cases h1
    · exact ⟨rfl, hp, by simp [UeFinTable, hst]⟩
  | nohost hst => exact ⟨rfl, hp, by rcases hst with hst | hst <;> simp [UeFinTable, hst]⟩
  | pass0_big hst _ hb =>
    obtain ⟨⟨ue, -, -, -, -, hsi, -⟩, -⟩ := hR.tokColon (.inl hst)
    exact ⟨rfl, upnc hp hsi, by simpa [UeFinTable, hst] using hb⟩
  | port_big hst hb =>
    simp only [URead, hst] at hR
    obtain ⟨hs, he, -, -, -, -, -, hsi, -⟩ := hR
    exact ⟨rfl, upnc hp hsi, by simpa [UeFinTable, hst] using hb⟩
  | hdr_bad hst h1 =>
    simp only [URead, hst] at hR
    obtain ⟨he, pe, qe, -, -, -, -, -, hsi, -⟩ := hR
    exact ⟨rfl, upnc hp hsi, by simpa [UeFinTable, hst] using h1⟩
  | acc => exact absurd (uAccept_err _ _) hr

theorem URun.init {b : Buf} {t k : Nat} {σ : UState} (hi : UcInitSt σ t k) (hk : 0 < k) (hk2 : k ≤ b.size)
    (hfit : b.size ≤ 65535) : URun b t k k σ := by
  obtain ⟨hst, hfu, hpo, hpn, heh, hp, hu⟩ := hi
  refine ⟨by rw [hu], by rw [hu], hp, hk, hk2, hfit, fun e => (by rw [heh] at e; cases e), ?_⟩
  unfold URead
  rcases hst with hst | hst | hst <;> rw [hst] <;> simp [NoUP, UBlank, hu, hfu, hpo, hpn]

/-- **what a run of the automaton from behind the scheme is**: it does not panic, and it ends in an accepting exit
    of the end-of-input switch (`σx` = the state before the tel: swap), in a rejection by that switch, or at the byte
    at the reported position, which `uriStep` rejects — each time in a state satisfying the invariant -/
theorem ucRun_char {b : Buf} {t k : Nat} {σ0 : UState} (hi : UcInitSt σ0 t k) (hk : 0 < k) (hk2 : k ≤ b.size)
    (hfit : b.size ≤ 65535) :
    (ucRun b k σ0).2.2.2 = false ∧
    ((∃ σ σx, URun b t k b.size σ ∧ UAcc b.size σ σx ∧ ucRun b k σ0 = (.none, b.size, ucOut σx.u, false)) ∨
     (∃ σ, URun b t k b.size σ ∧ (ucRun b k σ0).1 ≠ .none ∧ UeFinTable σ (ucRun b k σ0).1 ∧
       (ucRun b k σ0).2.1 = b.size) ∨
     (∃ c σp, (ucRun b k σ0).1 ≠ .none ∧ k ≤ (ucRun b k σ0).2.1 ∧ b[(ucRun b k σ0).2.1]? = some c ∧
       URun b t k (ucRun b k σ0).2.1 σp ∧ UeTable σp c (ucRun b k σ0).1)) := by
  rcases ucRun_cases (P := URun b t k) (fun _ _ _ _ hc h hs => h.step hc hs) hk2
      (URun.init hi hk hk2 hfit) with
    ⟨σ, hσ, hr⟩ | ⟨j, c, σp, e, σ', he, hkj, hc, hσ, hf, hr⟩ <;> rw [hr]
  · have hf := uriFinish_fin b.size σ
    by_cases h0 : (uriFinish b.size σ).1 = .none
    · obtain ⟨σx, ha, hx⟩ := hf.acc_of h0
      have e : ucProj (uriFinish b.size σ) = (.none, b.size, ucOut σx.u, false) := by
        rw [hx, ← (hσ.accept ha).2]; exact ucProj_uAccept b.size σx
      rw [e]
      exact ⟨rfl, .inl ⟨σ, σx, hσ, ha, rfl⟩⟩
    · obtain ⟨r1, r2, r3⟩ := hσ.rej hf h0
      exact ⟨r2, .inr (.inl ⟨σ, hσ, h0, r3, r1⟩)⟩
  · exact ⟨hσ.fail_pnc hf, .inr (.inr ⟨c, σp, he, hkj, hc, hσ, (ue_tr_table hf).2⟩)⟩

theorem ucRun_sound_gen {b : Buf} {t k : Nat} {σ0 : UState} (hi : UcInitSt σ0 t k) (hk : 0 < k) (hk2 : k ≤ b.size)
    (hfit : b.size ≤ 65535) (hacc : (ucRun b k σ0).1 = .none) :
    ∃ u0, UcComp b t k u0 ∧ ucRun b k σ0 = (.none, b.size, ucOut u0, false) := by
  rcases (ucRun_char hi hk hk2 hfit).2 with ⟨σ, σx, hσ, ha, hr⟩ | ⟨-, -, he, -⟩ | ⟨-, -, he, -⟩
  · exact ⟨σx.u, (hσ.accept ha).1, hr⟩
  · exact absurd hacc he
  · exact absurd hacc he

/-- **an accepted input is a text of the grammar behind one of the three schemes**, the report being the
    decomposition (host handed out as user for tel:), everything consumed, no panic.  The converse is
    `parseURI_complete_gen` (UriComplete). -/
theorem parseURI_accepted (b : Buf) (hfit : b.size ≤ 65535) (hacc : (parseURI b {}).1 = .none) :
    ∃ t k u0, UcScheme b t k ∧ UcComp b t k u0 ∧ parseURI b {} = (.none, b.size, ucOut u0, false) := by
  rcases parseURI_scheme_cases b with ⟨-, h⟩ | ⟨-, -, -, -, h⟩ | ⟨t, k, σ0, hsch, hi, hk, hk2, h⟩ <;>
    rw [h] at hacc ⊢
  · cases hacc
  · cases hacc
  · obtain ⟨u0, hc, hr⟩ := ucRun_sound_gen hi hk hk2 hfit hacc
    exact ⟨t, k, u0, hsch, hc, hr⟩

end Sipsp
