/-
  Sipsp.Proofs.UriLayout — the tiling of an accepted URI by its reported components, as a predicate on the text:
  `URILayout b k u` says scheme `[0, k)`, optional `user [':' password] '@'`, host, optional `':' port`,
  `';' parameters`, `'?' headers`, up to the end of `b`.  From it: the components lie inside the buffer, are disjoint
  and ordered, and joined with their delimiters they are the input.  Also the vocabulary for the report of tel: URIs
  (the number is handed out as the user), for the byte that closes the scheme, and for bracketed hosts.
-/
import Sipsp.Proofs.UriTrans


namespace Sipsp

/-- an optional component `f` introduced by the delimiter `d` at position `p`: either absent (zero field) or the
    delimiter is at `p` and the component starts right after it -/
def USep (b : Buf) (p : Nat) (f : PField) (d : UInt8) : Prop :=
  f = ⟨0, 0⟩ ∨ (b[p]? = some d ∧ f.offs = p + 1)

/-- the position after an optional component that would start at `p + 1` -/
def uafter (p : Nat) (f : PField) : Nat := if f.offs = 0 then p else f.offs + f.len

/-- the user-info part in front of the host: absent (then the host starts at `k`, right after the scheme), or
    `user [':' pass] '@'` starting at `k`; `pH` is where the host starts -/
def UserPart (b : Buf) (k : Nat) (user pass : PField) (pH : Nat) : Prop :=
  (user = ⟨0, 0⟩ ∧ pass = ⟨0, 0⟩ ∧ pH = k) ∨
  (user.offs = k ∧ 0 < user.len ∧ USep b (k + user.len) pass 58 ∧
    b[uafter (k + user.len) pass]? = some 64 ∧ pH = uafter (k + user.len) pass + 1)

/-- the accepted URI `b` is tiled by the components of `u`; `k` = length of the scheme including its ':' -/
def URILayout (b : Buf) (k : Nat) (u : PsipURI) : Prop :=
  u.scheme = ⟨0, k⟩ ∧
  UserPart b k u.user u.pass u.host.offs ∧ 0 < u.host.len ∧
  USep b (u.host.offs + u.host.len) u.port 58 ∧
  USep b (uafter (u.host.offs + u.host.len) u.port) u.params 59 ∧
  USep b (uafter (uafter (u.host.offs + u.host.len) u.port) u.params) u.headers 63 ∧
  uafter (uafter (uafter (u.host.offs + u.host.len) u.port) u.params) u.headers = b.size

theorem uafter_absent (p : Nat) : uafter p ⟨0, 0⟩ = p := rfl

theorem uafter_present {p : Nat} {f : PField} (h : f.offs = p + 1) : uafter p f = p + 1 + f.len := by
  unfold uafter
  rw [if_neg (by omega), h]

theorem uafter_mk (p s l : Nat) (h : s = p + 1) : uafter p ⟨s, l⟩ = s + l := by
  unfold uafter
  simp only
  rw [if_neg (by omega)]

theorem USep.le_uafter {b : Buf} {p : Nat} {f : PField} {d : UInt8} (h : USep b p f d) : p ≤ uafter p f := by
  rcases h with rfl | ⟨_, h⟩
  · exact Nat.le_refl _
  · rw [uafter_present h]; omega

theorem USep.absent (b : Buf) (p : Nat) (d : UInt8) : USep b p ⟨0, 0⟩ d := Or.inl rfl

theorem USep.present {b : Buf} {p : Nat} {d : UInt8} (s l : Nat) (h : b[p]? = some d) (hs : s = p + 1) :
    USep b p ⟨s, l⟩ d := Or.inr ⟨h, hs⟩

/-- the report for TEL URIs: the host found by the automaton is handed out as the user -/
def telSwap (u : PsipURI) : PsipURI := { u with user := u.host, host := {} }

theorem usch_fin : ∀ n : Fin 256, n.val ||| 32 = 58 → n.val = 58 ∨ n.val = 26 := by decide +kernel
/-- the byte that closes a three-letter scheme: ':' — or 0x1a, which the OR with 0x20 also maps to ':' -/
def USchEnd (b : Buf) : Prop := b[3]? = some 58 ∨ b[3]? = some 26

theorem UcSch4.schEnd {b : Buf} {c0 c1 c2 : Nat} (h : UcSch4 b c0 c1 c2 58) : USchEnd b := by
  obtain ⟨b0, b1, b2, b3, -, -, -, h3, -, -, -, hl⟩ := h
  rcases usch_fin ⟨b3.toNat, b3.toNat_lt⟩ hl with hh | hh
  · exact .inl (h3.trans (congrArg some (UInt8.toNat_inj.mp hh)))
  · exact .inr (h3.trans (congrArg some (UInt8.toNat_inj.mp hh)))

theorem UcScheme.schEnd {b : Buf} {t k : Nat} (h : UcScheme b t k) :
    (t = SIPuri ∧ k = 4 ∧ USchEnd b) ∨ (t = TELuri ∧ k = 4 ∧ USchEnd b) ∨ (t = SIPSuri ∧ k = 5 ∧ b[4]? = some 58) :=
  h.imp (fun h => ⟨h.1, h.2.1, h.2.2.schEnd⟩) (.imp (fun h => ⟨h.1, h.2.1, h.2.2.schEnd⟩) fun h => ⟨h.1, h.2.1, h.2.2.2⟩)

/-! ### consequences of the layout: order, bounds, byte-for-byte reconstruction -/

theorem USep.arith {b : Buf} {p : Nat} {f : PField} {d : UInt8} (h : USep b p f d) :
    (f.offs = 0 ∧ f.len = 0 ∧ uafter p f = p) ∨ (f.offs = p + 1 ∧ uafter p f = p + 1 + f.len) := by
  rcases h with rfl | ⟨_, h⟩
  · exact Or.inl ⟨rfl, rfl, rfl⟩
  · exact Or.inr ⟨h, uafter_present h⟩

theorem UserPart.arith {b : Buf} {k pH : Nat} {user pass : PField} (h : UserPart b k user pass pH) :
    (user.offs = 0 ∧ user.len = 0 ∧ pass.offs = 0 ∧ pass.len = 0 ∧ pH = k) ∨
    (user.offs = k ∧ 0 < user.len ∧ pH = uafter (k + user.len) pass + 1 ∧
      ((pass.offs = 0 ∧ pass.len = 0 ∧ uafter (k + user.len) pass = k + user.len) ∨
       (pass.offs = k + user.len + 1 ∧ uafter (k + user.len) pass = k + user.len + 1 + pass.len))) := by
  rcases h with ⟨rfl, rfl, h⟩ | ⟨h1, h2, h3, _, h5⟩
  · exact Or.inl ⟨rfl, rfl, rfl, rfl, h⟩
  · exact Or.inr ⟨h1, h2, h5, h3.arith⟩

/-- `f` lies strictly before `g` (at least one delimiter byte in between) when both are present -/
def UBefore (f g : PField) : Prop := f.offs ≠ 0 → g.offs ≠ 0 → f.offs + f.len < g.offs

theorem USep.slot {b : Buf} {p : Nat} {f : PField} {d : UInt8} (h : USep b p f d) :
    p ≤ uafter p f ∧ f.offs + f.len ≤ uafter p f ∧ (f.offs ≠ 0 → p < f.offs) := by
  rcases h with rfl | ⟨_, h⟩
  · exact ⟨Nat.le_refl _, Nat.zero_le _, fun h => absurd rfl h⟩
  · rw [uafter_present h]
    exact ⟨by omega, by omega, fun _ => by omega⟩

theorem UserPart.slot {b : Buf} {k pH : Nat} {user pass : PField} (h : UserPart b k user pass pH) (hk : 0 < k) :
    k ≤ pH ∧ (user.offs ≠ 0 → user.offs = k ∧ user.offs + user.len < pH) ∧ user.offs + user.len ≤ pH ∧
    (pass.offs ≠ 0 → user.offs ≠ 0 ∧ user.offs + user.len < pass.offs ∧ pass.offs + pass.len < pH) ∧
    pass.offs + pass.len ≤ pH := by
  rcases h with ⟨rfl, rfl, rfl⟩ | ⟨h1, h2, h3, _, rfl⟩
  · exact ⟨Nat.le_refl _, fun h => absurd rfl h, Nat.zero_le _, fun h => absurd rfl h, Nat.zero_le _⟩
  · obtain ⟨a1, a2, a3⟩ := h3.slot
    refine ⟨by omega, fun _ => ⟨h1, by omega⟩, by omega, fun h => ?_, by omega⟩
    have := a3 h
    exact ⟨by omega, by omega, by omega⟩

theorem URILayout.order {b : Buf} {k : Nat} {u : PsipURI} (h : URILayout b k u) (hk : 0 < k) :
    u.scheme = ⟨0, k⟩ ∧ k ≤ b.size ∧ 0 < u.host.len ∧ k ≤ u.host.offs ∧
    (∀ f ∈ [u.user, u.pass, u.host, u.port, u.params, u.headers],
      f.offs + f.len ≤ b.size ∧ (f.offs ≠ 0 → k ≤ f.offs)) ∧
    List.Pairwise UBefore [u.user, u.pass, u.host, u.port, u.params, u.headers] := by
  obtain ⟨hsch, hup, hhl, h1, h2, h3, hend⟩ := h
  obtain ⟨u1, u2, u3, u4, u5⟩ := hup.slot hk
  obtain ⟨a1, a2, a3⟩ := h1.slot
  obtain ⟨b1, b2, b3⟩ := h2.slot
  obtain ⟨c1, c2, c3⟩ := h3.slot
  generalize uafter (uafter (uafter (u.host.offs + u.host.len) u.port) u.params) u.headers = q3 at *
  generalize uafter (uafter (u.host.offs + u.host.len) u.port) u.params = q2 at *
  generalize uafter (u.host.offs + u.host.len) u.port = q1 at *
  subst hend
  refine ⟨hsch, by omega, hhl, u1, ?_, ?_⟩
  · simp only [List.mem_cons, List.not_mem_nil, or_false, forall_eq_or_imp, forall_eq]
    exact ⟨⟨by omega, fun h => by have := u2 h; omega⟩, ⟨by omega, fun h => by have := u4 h; have := u2 this.1; omega⟩,
      ⟨by omega, fun _ => u1⟩, ⟨by omega, fun h => by have := a3 h; omega⟩,
      ⟨by omega, fun h => by have := b3 h; omega⟩, ⟨c2, fun h => by have := c3 h; omega⟩⟩
  · simp only [List.pairwise_cons, List.mem_cons, List.not_mem_nil, or_false, forall_eq_or_imp, forall_eq,
      List.Pairwise.nil, and_true, false_imp_iff, implies_true, UBefore]
    exact ⟨⟨fun _ h => (u4 h).2.1, fun h _ => (u2 h).2, fun _ h => by have := a3 h; omega,
        fun _ h => by have := b3 h; omega, fun _ h => by have := c3 h; omega⟩,
      ⟨fun h _ => (u4 h).2.2, fun _ h => by have := a3 h; omega, fun _ h => by have := b3 h; omega,
        fun _ h => by have := c3 h; omega⟩,
      ⟨fun _ h => a3 h, fun _ h => by have := b3 h; omega, fun _ h => by have := c3 h; omega⟩,
      ⟨fun _ h => by have := b3 h; omega, fun _ h => by have := c3 h; omega⟩,
      fun _ h => by have := c3 h; omega⟩

/-- the bytes of a component -/
def useg (b : Buf) (f : PField) : Buf := b.extract f.offs (f.offs + f.len)
/-- an optional component with its leading delimiter -/
def uopt (b : Buf) (d : UInt8) (f : PField) : Buf := if f.offs = 0 then #[] else #[d] ++ useg b f
/-- the URI written out again from the reported components -/
def urender (b : Buf) (u : PsipURI) : Buf :=
  useg b u.scheme ++ (if u.user.offs = 0 then #[] else useg b u.user ++ uopt b 58 u.pass ++ #[64]) ++
    useg b u.host ++ uopt b 58 u.port ++ uopt b 59 u.params ++ uopt b 63 u.headers

theorem uopt_eq {b : Buf} {p : Nat} {f : PField} {d : UInt8} (h : USep b p f d) :
    uopt b d f = b.extract p (uafter p f) := by
  rcases h with rfl | ⟨hd, ho⟩
  · unfold uopt
    rw [if_pos rfl, uafter_absent, Array.extract_empty_of_stop_le_start (Nat.le_refl _)]
  · unfold uopt useg
    rw [if_neg (by omega), uafter_present ho, ho, ← uext_single hd]
    exact uext_append b (by omega) (by omega)

theorem uuserpart_eq {b : Buf} {k pH : Nat} {user pass : PField} (h : UserPart b k user pass pH) (hk : 0 < k) :
    (if user.offs = 0 then #[] else useg b user ++ uopt b 58 pass ++ #[64]) = b.extract k pH := by
  rcases h with ⟨rfl, rfl, rfl⟩ | ⟨h1, h2, h3, h4, rfl⟩
  · rw [if_pos rfl, Array.extract_empty_of_stop_le_start (Nat.le_refl _)]
  · rw [if_neg (by omega), uopt_eq h3, ← uext_single h4]
    unfold useg
    rw [h1, uext_append b (by omega) h3.le_uafter]
    exact uext_append b (by have := h3.le_uafter; omega) (by omega)

theorem URILayout.join {b : Buf} {k : Nat} {u : PsipURI} (h : URILayout b k u) (hk : 0 < k) : urender b u = b := by
  obtain ⟨hsch, hup, hhl, h1, h2, h3, hend⟩ := h
  unfold urender
  rw [uuserpart_eq hup hk, uopt_eq h1, uopt_eq h2, uopt_eq h3, hend]
  have hkH : k ≤ u.host.offs := by
    have := hup.arith
    omega
  unfold useg
  rw [hsch]
  simp only [Nat.zero_add]
  rw [uext_append b (Nat.zero_le _) hkH, uext_append b (Nat.zero_le _) (by omega),
    uext_append b (Nat.zero_le _) (by have := h1.le_uafter; omega),
    uext_append b (Nat.zero_le _) (by have := h1.le_uafter; have := h2.le_uafter; omega),
    uext_append b (Nat.zero_le _) (by have := h1.le_uafter; have := h2.le_uafter; have := h3.le_uafter; omega)]
  exact Array.extract_size

/-- every component can be sliced out of the buffer (Go's `Get` does not panic) -/
theorem URILayout.get {b : Buf} {k : Nat} {u : PsipURI} (h : URILayout b k u) (hk : 0 < k) (hfit : b.size ≤ 65535) :
    ∀ f ∈ [u.scheme, u.user, u.pass, u.host, u.port, u.params, u.headers],
      PField.get? b f = some (b.extract f.offs (f.offs + f.len)) := by
  obtain ⟨hsch, hkb, _, _, hin, _⟩ := h.order hk
  intro f hf
  have hb : f.offs + f.len ≤ b.size := by
    rcases List.mem_cons.mp hf with rfl | hf'
    · rw [hsch]; simp only; omega
    · exact (hin f hf').1
  exact field_get? b f.offs f.len hb hfit

/-- what is written out for a tel: URI: scheme, number (reported as user), then the optional parts -/
def utelRender (b : Buf) (u : PsipURI) : Buf :=
  useg b u.scheme ++ useg b u.user ++ uopt b 58 u.port ++ uopt b 59 u.params ++ uopt b 63 u.headers

theorem URILayout.tel_join {b : Buf} {k : Nat} {u0 : PsipURI} (h : URILayout b k u0) (hk : 0 < k)
    (hno : u0.host.offs = k) : utelRender b (telSwap u0) = b := by
  have hj := h.join hk
  have hu : u0.user.offs = 0 := by
    have := h.2.1.arith
    omega
  unfold urender at hj
  rw [if_pos hu, Array.append_empty] at hj
  exact hj

/-- where the host starts in the report (for tel: it is handed out as the user) -/
def uhostStart (u : PsipURI) : Nat := if u.uriType = TELuri then u.user.offs else u.host.offs

/-- the host in the report (for tel: it is handed out as the user) -/
def uhostField (u : PsipURI) : PField := if u.uriType = TELuri then u.user else u.host

theorem uhostStart_eq (u : PsipURI) : uhostStart u = (uhostField u).offs := by
  unfold uhostStart uhostField
  split <;> rfl

/-- a host that starts with '[' ends with ']' -/
def UHostBr (b : Buf) (h : PField) : Prop := b[h.offs]? = some 91 → b[h.offs + h.len - 1]? = some 93

end Sipsp
