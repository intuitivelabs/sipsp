/-
  Sipsp.Proofs.UriLink — two links from what is known about accepted URIs (UriSpec: `parseURI_layout`, `URILayout`).

  (A) Property C18.  The hypotheses of the AdjustOffs theorems (`ULWF`, field for field `Sipsp.C18.WF`, and
      `ulSum ≤ Len`) follow from an invariant `USWf u` of the structure alone (no buffer, any scheme offset): the scheme
      is not empty; an absent component (`Offs = 0`) has length 0; the present components come one after the other
      behind the scheme in buffer order (`usSeq`: for a URI without host, i.e. tel:, the password comes BEFORE the user,
      because the number is reported as user) and the last one ends below 65,536 (`usChain`); the host is not empty, or
      there is no host and the user (the tel: number) is not empty.  Along such a chain AdjustOffs' length loop arrives
      exactly at the end of the chain (`us_chain_len`); Truncate keeps the invariant; Long / Short / Flat have closed
      forms and do not panic.  The layout of an accepted URI gives the chain, ending at len(b).  Composed, for all
      three schemes and len(b) ≤ 65,535: an accepted URI satisfies the invariant with its scheme at 0 and the computed
      length len(b) (`us_parsed_wf`); AdjustOffs onto any span with `Len ≥ len(b)` inside the 16-bit range succeeds, and
      in a buffer holding the same text at the new offset every relocated field reads the bytes the original reads
      (`ul_relocate_parsed`); any shorter span is refused, the URI unchanged (`ul_refuse`); the views of a parsed URI
      (`ul_views_sip`, `ul_views_tel`).
  (B) Property C10, run level for the URI port: the bytes of the reported port field are digits, `PortNo` is exactly
      their decimal value and `PortNo ≤ 65535` (`ul_port_exact`).  It is the port clause of the grammar (`UcPo.portOK`)
      for the decomposition that `parseURI_accepted` gives.

  Sipsp/Properties/C18.lean imports this file and re-exports from it, so the facts about `adjustOffs` needed here
  (`ul_adjust_moves`, `ul_adjust_refused`) are proved here, with the result of a successful call given as an equation
  (`= (true, ulRelocate u np.offs, false)`).

  Finding F21: were the LAST LISTED present component taken as the end of the URI, AdjustOffs would accept spans of 7
  and 8 bytes for the 9-byte `tel:a:b@c` (number behind the password), and Long() = [0,7) would be shorter than
  Short() = [0,9).  The library takes the furthest end, and Long prefers the user when it ends behind the password; the
  tests at the end of part (A) hold that behaviour, and the theorems cover tel: without extra hypotheses.
  NOT proved: nothing is claimed about `Flat` when a trailing component is present but empty beyond "Long stops before
  the dangling delimiter" (see the `sip:h:` test).
-/
import Sipsp.Proofs.UriSpec


namespace Sipsp

/-! ## (A) C18: a parsed URI satisfies the hypotheses of the AdjustOffs theorems -/

/-- the components after the scheme, in the order AdjustOffs visits them -/
def ulComps (u : PsipURI) : List PField := [u.user, u.pass, u.host, u.port, u.params, u.headers]

theorem ulComps_user {u : PsipURI} : u.user ∈ ulComps u := by simp [ulComps]
theorem ulComps_pass {u : PsipURI} : u.pass ∈ ulComps u := by simp [ulComps]
theorem ulComps_host {u : PsipURI} : u.host ∈ ulComps u := by simp [ulComps]
theorem ulComps_port {u : PsipURI} : u.port ∈ ulComps u := by simp [ulComps]
theorem ulComps_params {u : PsipURI} : u.params ∈ ulComps u := by simp [ulComps]
theorem ulComps_headers {u : PsipURI} : u.headers ∈ ulComps u := by simp [ulComps]

/-- the URI length as computed by AdjustOffs (furthest end of a present component, relative to the scheme) -/
def ulLen (u : PsipURI) : Nat := (ulComps u).foldl (fun a f => ulenStep a u.scheme.offs f) u.scheme.len

/-- sum of the component lengths (first test of AdjustOffs) -/
def ulSum (u : PsipURI) : Nat :=
  u.scheme.len + u.user.len + u.pass.len + u.host.len + u.port.len + u.params.len + u.headers.len

/-- well formed w.r.t. a URI occupying `[start, start+L)`: same four fields as `Sipsp.C18.WF` -/
structure ULWF (u : PsipURI) (L : Nat) : Prop where
  lim : u.scheme.offs + L < 65536
  sch : u.scheme.len ≤ L
  inside : ∀ f ∈ ulComps u, f.offs ≠ 0 → u.scheme.offs ≤ f.offs ∧ f.offs + f.len ≤ u.scheme.offs + L
  ulen : ulLen u ≤ L

/-- one component moved from a URI starting at `start` to one starting at `offs` (absent components stay zero) -/
def ulMoved (f : PField) (start offs : Nat) : PField :=
  if f.offs != 0 then { f with offs := f.offs - start + offs } else f

/-- the whole URI moved to start at `offs` -/
def ulRelocate (u : PsipURI) (offs : Nat) : PsipURI :=
  { u with scheme := { u.scheme with offs := offs }, user := ulMoved u.user u.scheme.offs offs, pass := ulMoved u.pass u.scheme.offs offs, host := ulMoved u.host u.scheme.offs offs, port := ulMoved u.port u.scheme.offs offs, params := ulMoved u.params u.scheme.offs offs, headers := ulMoved u.headers u.scheme.offs offs }

/-! ### one component -/

theorem us_moved_absent {f : PField} (s o : Nat) (h : f.offs = 0) : ulMoved f s o = f := by
  have hne : (f.offs != 0) = false := by simp [h]
  unfold ulMoved
  rw [hne]
  rfl

theorem us_moved_present {f : PField} (s o : Nat) (h : f.offs ≠ 0) : ulMoved f s o = ⟨f.offs - s + o, f.len⟩ := by
  have hne : (f.offs != 0) = true := by simpa using h
  unfold ulMoved
  rw [hne]
  rfl

theorem us_moved_len (f : PField) (a s : Nat) : (ulMoved f a s).len = f.len := by
  unfold ulMoved
  split <;> rfl

/-- one step of AdjustOffs' length loop: the furthest end so far (relative to `s`), absent components skipped -/
theorem ulenStep_eq (a s : Nat) (f : PField) :
    ulenStep a s f = if f.offs = 0 then a else max a ((f.offs + f.len + 65536 - s) % 65536) := by
  unfold ulenStep
  by_cases h : f.offs = 0
  · rw [if_pos h, h]
    rfl
  · have hne : (f.offs != 0) = true := by simpa using h
    rw [if_neg h, hne]
    simp only [Bool.true_and, decide_eq_true_eq]
    split <;> omega

theorem ulenStep_absent (a s : Nat) {f : PField} (h : f.offs = 0) : ulenStep a s f = a := by
  rw [ulenStep_eq, if_pos h]

theorem ulenStep_present (a s : Nat) {f : PField} (h : f.offs ≠ 0) (hs : s ≤ f.offs) (hl : f.offs + f.len < 65536) :
    ulenStep a s f = max a (f.offs + f.len - s) := by
  rw [ulenStep_eq, if_neg h]
  congr 1
  omega

theorem ulenStep_ge (a s : Nat) (f : PField) : a ≤ ulenStep a s f := by
  rw [ulenStep_eq]
  split <;> omega

theorem ulenStep_comm (a s : Nat) (f g : PField) :
    ulenStep (ulenStep a s f) s g = ulenStep (ulenStep a s g) s f := by
  simp only [ulenStep_eq]
  generalize (f.offs + f.len + 65536 - s) % 65536 = x
  generalize (g.offs + g.len + 65536 - s) % 65536 = y
  split <;> split <;> omega

theorem ulenFold_ge (s : Nat) : ∀ (l : List PField) (a : Nat), a ≤ l.foldl (fun a f => ulenStep a s f) a
  | [], _ => Nat.le_refl _
  | f :: r, a => Nat.le_trans (ulenStep_ge a s f) (ulenFold_ge s r _)

/-! ### AdjustOffs on a well-formed URI -/

/-- one component inside `[start, start + L)` is moved with the URI, and the end offset handed on stays inside the
    new span (so the final panic test does not fire) -/
theorem ul_adjField (f : PField) (start offs last L : Nat)
    (h0 : f.offs ≠ 0 → start ≤ f.offs ∧ f.offs + f.len ≤ start + L) (hl : offs + L < 65536)
    (hlast : last ≤ offs + L) :
    (adjField f start offs last).1 = ulMoved f start offs ∧ (adjField f start offs last).2 ≤ offs + L := by
  unfold adjField
  by_cases hz : f.offs = 0
  · have hne : (f.offs != 0) = false := by simp [hz]
    rw [hne, us_moved_absent _ _ hz]
    exact ⟨rfl, hlast⟩
  · have := h0 hz
    have hne : (f.offs != 0) = true := by simpa using hz
    have h1 : (f.offs + 65536 - start + offs) % 65536 = f.offs - start + offs := by omega
    rw [hne, us_moved_present _ _ hz]
    simp only [if_true, h1, trunc16, true_and]
    omega

theorem ul_adjust_refused (u : PsipURI) (np : PField) (h : ulLen u > np.len) :
    u.adjustOffs np = (false, u, false) := by
  unfold PsipURI.adjustOffs
  simp only
  split
  · rfl
  · split
    · rfl
    · have : (List.foldl (fun a f => ulenStep a u.scheme.offs f) u.scheme.len
          [u.user, u.pass, u.host, u.port, u.params, u.headers]) > np.len := h
      rw [if_pos this]

/-- a span that ends past the 16-bit range (its end offset wraps) is refused before any offset is rewritten: nothing
    is changed, no panic -/
theorem ul_adjust_wrap_refused (u : PsipURI) (np : PField) (ho : np.offs < 65536) (hl : np.len < 65536)
    (hw : 65536 ≤ np.offs + np.len) : u.adjustOffs np = (false, u, false) := by
  unfold PsipURI.adjustOffs
  simp only
  have : trunc16 (np.offs + np.len) < np.offs := by
    unfold trunc16
    omega
  rw [if_pos this]

theorem ul_adjust_moves (u : PsipURI) (np : PField) (L : Nat) (hwf : ULWF u L) (hfit : L ≤ np.len)
    (hsum : ulSum u ≤ np.len) (hlim : np.offs + np.len < 65536) :
    u.adjustOffs np = (true, ulRelocate u np.offs, false) := by
  have hl : np.offs + L < 65536 := by omega
  have hend : trunc16 (np.offs + np.len) = np.offs + np.len := trunc16_of_lt hlim
  have hs1 : ¬ (trunc16 (u.scheme.len + u.user.len + u.pass.len + u.host.len + u.port.len + u.params.len +
      u.headers.len) > np.len) := by
    have : trunc16 (ulSum u) ≤ ulSum u := Nat.mod_le _ _
    exact Nat.not_lt.2 (Nat.le_trans this hsum)
  have hs2 : ¬ (List.foldl (fun a f => ulenStep a u.scheme.offs f) u.scheme.len
      [u.user, u.pass, u.host, u.port, u.params, u.headers] > np.len) :=
    Nat.not_lt.2 (Nat.le_trans hwf.ulen hfit)
  obtain ⟨e1, b1⟩ := ul_adjField u.user u.scheme.offs np.offs np.offs L (hwf.inside _ ulComps_user) hl
    (Nat.le_add_right _ _)
  obtain ⟨e2, b2⟩ := ul_adjField u.pass u.scheme.offs np.offs _ L (hwf.inside _ ulComps_pass) hl b1
  obtain ⟨e3, b3⟩ := ul_adjField u.host u.scheme.offs np.offs _ L (hwf.inside _ ulComps_host) hl b2
  obtain ⟨e4, b4⟩ := ul_adjField u.port u.scheme.offs np.offs _ L (hwf.inside _ ulComps_port) hl b3
  obtain ⟨e5, b5⟩ := ul_adjField u.params u.scheme.offs np.offs _ L (hwf.inside _ ulComps_params) hl b4
  obtain ⟨e6, b6⟩ := ul_adjField u.headers u.scheme.offs np.offs _ L (hwf.inside _ ulComps_headers) hl b5
  have hnp : ¬ (adjField u.headers u.scheme.offs np.offs (adjField u.params u.scheme.offs np.offs
      (adjField u.port u.scheme.offs np.offs (adjField u.host u.scheme.offs np.offs (adjField u.pass u.scheme.offs
      np.offs (adjField u.user u.scheme.offs np.offs np.offs).2).2).2).2).2).2 > np.offs + np.len :=
    Nat.not_lt.2 (Nat.le_trans b6 (by omega))
  simp only [PsipURI.adjustOffs, hend, Nat.not_lt.2 (Nat.le_add_right _ _), if_neg hs1, if_neg hs2,
    ↓reduceIte, e1, e2, e3, e4, e5, e6, hnp, decide_false]
  rfl

/-! ### the invariant of a parsed URI under Truncate / AdjustOffs -/

/-- the component that comes first behind the scheme: the user — but the password when there is no host (tel:, where
    the number, reported as user, stands behind the password) -/
def usFst (u : PsipURI) : PField := if u.host.offs = 0 then u.pass else u.user
/-- … and the other one of the two -/
def usSnd (u : PsipURI) : PField := if u.host.offs = 0 then u.user else u.pass

/-- the components behind the scheme in buffer order -/
def usSeq (u : PsipURI) : List PField := [usFst u, usSnd u, u.host, u.port, u.params, u.headers]

/-- walking through the components with a cursor `c` (end of the last present one so far): an absent component is
    zero, a present one starts at or after the cursor; at the end the cursor is a 16-bit offset -/
def usChain : Nat → List PField → Prop
  | c, [] => c < 65536
  | c, f :: r => (f.offs = 0 → f.len = 0) ∧ (f.offs ≠ 0 → c ≤ f.offs) ∧ usChain (uafter c f) r

/-- the URI objects the views and `adjustOffs` are proved for: a scheme; behind it the components in buffer order,
    none overlapping the one before (`usChain`); and a host — or, without a host (tel:), a user -/
structure USWf (u : PsipURI) : Prop where
  sch : 0 < u.scheme.len
  chain : usChain (u.scheme.offs + u.scheme.len) (usSeq u)
  core : 0 < u.host.len ∨ (u.host.offs = 0 ∧ 0 < u.user.len)

theorem us_uafter_present {c : Nat} {f : PField} (h : f.offs ≠ 0) : uafter c f = f.offs + f.len := if_neg h

theorem us_le_uafter {c : Nat} {f : PField} (h : f.offs ≠ 0 → c ≤ f.offs) : c ≤ uafter c f := by
  unfold uafter
  split
  · exact Nat.le_refl _
  · rename_i hz
    exact Nat.le_trans (h hz) (Nat.le_add_right _ _)

theorem us_chain_lt : ∀ (l : List PField) (c : Nat), usChain c l → c < 65536
  | [], _, h => h
  | _ :: r, _, h => Nat.lt_of_le_of_lt (us_le_uafter h.2.1) (us_chain_lt r _ h.2.2)

theorem us_chain_mono : ∀ (l : List PField) {c c' : Nat}, c' ≤ c → usChain c l → usChain c' l
  | [], _, _, hc, h => Nat.lt_of_le_of_lt hc h
  | f :: r, c, c', hc, h => by
    refine ⟨h.1, fun hz => Nat.le_trans hc (h.2.1 hz), us_chain_mono r ?_ h.2.2⟩
    unfold uafter
    split
    · exact hc
    · exact Nat.le_refl _

/-- one component of a chain whose cursor `s + a` is where the length counted so far ends: the length loop follows
    the cursor -/
theorem us_chain_step {a s : Nat} {f : PField} (hz : f.offs = 0 → f.len = 0) (hp : f.offs ≠ 0 → s + a ≤ f.offs)
    (hl : uafter (s + a) f < 65536) : s + ulenStep a s f = uafter (s + a) f ∧ a + f.len ≤ ulenStep a s f := by
  unfold uafter at hl ⊢
  by_cases h0 : f.offs = 0
  · rw [if_pos h0, ulenStep_absent a s h0, hz h0]
    exact ⟨rfl, Nat.le_refl _⟩
  · have := hp h0
    rw [if_neg h0] at hl ⊢
    rw [ulenStep_present a s h0 (by omega) hl]
    omega

/-- **the length AdjustOffs computes is where the chain ends**: along a chain that starts at `s + a` (`s` the scheme
    offset, `a` the length counted so far) the loop arrives at the last cursor, which is a 16-bit offset; the lengths
    add up to at most that, and every present component lies between the start and that end -/
theorem us_chain_len (s : Nat) : ∀ (l : List PField) (a : Nat), usChain (s + a) l →
    s + l.foldl (fun a f => ulenStep a s f) a = l.foldl uafter (s + a) ∧
    s + l.foldl (fun a f => ulenStep a s f) a < 65536 ∧
    a + (l.map PField.len).sum ≤ l.foldl (fun a f => ulenStep a s f) a ∧
    ∀ f ∈ l, (f.offs = 0 → f.len = 0) ∧
      (f.offs ≠ 0 → s + a ≤ f.offs ∧ f.offs + f.len ≤ s + l.foldl (fun a f => ulenStep a s f) a)
  | [], a, h => ⟨rfl, h, Nat.le_refl _, nofun⟩
  | f :: r, a, ⟨hz, hp, hr⟩ => by
    obtain ⟨e, hm⟩ := us_chain_step hz hp (us_chain_lt r _ hr)
    rw [← e] at hr
    obtain ⟨i1, i2, i3, i4⟩ := us_chain_len s r _ hr
    have hge : ulenStep a s f ≤ r.foldl (fun a f => ulenStep a s f) (ulenStep a s f) :=
      Nat.le_trans (Nat.le_add_right _ _) i3
    simp only [List.foldl_cons, List.map_cons, List.sum_cons, List.mem_cons, forall_eq_or_imp]
    refine ⟨by rw [← e]; exact i1, i2, by omega, ⟨hz, fun h0 => ⟨hp h0, ?_⟩⟩, fun g hg => ?_⟩
    · rw [← us_uafter_present (c := s + a) h0, ← e]
      exact Nat.add_le_add_left hge s
    · have hg' := i4 g hg
      exact ⟨hg'.1, fun h0 =>
        ⟨Nat.le_trans (Nat.add_le_add_left (ulenStep_ge a s f) s) (hg'.2 h0).1, (hg'.2 h0).2⟩⟩

/-- AdjustOffs visits user and password in the listed order; the furthest end does not depend on the order -/
theorem us_len_seq (u : PsipURI) :
    ulLen u = (usSeq u).foldl (fun a f => ulenStep a u.scheme.offs f) u.scheme.len := by
  unfold usSeq usFst usSnd
  split
  · show List.foldl _ (ulenStep (ulenStep _ _ u.user) _ u.pass) _ = List.foldl _ (ulenStep (ulenStep _ _ u.pass) _ u.user) _
    rw [ulenStep_comm]
  · rfl

theorem us_mem_seq {u : PsipURI} {f : PField} : f ∈ usSeq u ↔ f ∈ ulComps u := by
  simp only [usSeq, usFst, usSnd, ulComps, List.mem_cons]
  split
  · exact or_left_comm
  · exact Iff.rfl

/-- what the invariant says about the length AdjustOffs computes (`us_chain_len` for the six components) -/
theorem USWf.len {u : PsipURI} (h : USWf u) :
    u.scheme.offs + ulLen u = (usSeq u).foldl uafter (u.scheme.offs + u.scheme.len) ∧
    u.scheme.offs + ulLen u < 65536 ∧ u.scheme.len + ((usSeq u).map PField.len).sum ≤ ulLen u ∧
    ∀ f ∈ ulComps u, (f.offs = 0 → f.len = 0) ∧
      (f.offs ≠ 0 → u.scheme.offs + u.scheme.len ≤ f.offs ∧ f.offs + f.len ≤ u.scheme.offs + ulLen u) := by
  have := us_chain_len u.scheme.offs _ _ h.chain
  rw [← us_len_seq] at this
  exact ⟨this.1, this.2.1, this.2.2.1, fun f hf => this.2.2.2 f (us_mem_seq.2 hf)⟩

theorem USWf.lim {u : PsipURI} (h : USWf u) : u.scheme.offs + ulLen u < 65536 := h.len.2.1

theorem USWf.sch_le {u : PsipURI} (h : USWf u) : u.scheme.len ≤ ulLen u :=
  Nat.le_trans (Nat.le_add_right _ _) h.len.2.2.1

theorem USWf.comps {u : PsipURI} (h : USWf u) : ∀ f ∈ ulComps u,
    (f.offs = 0 → f.len = 0) ∧
    (f.offs ≠ 0 → u.scheme.offs + u.scheme.len ≤ f.offs ∧ f.offs + f.len ≤ u.scheme.offs + ulLen u) := h.len.2.2.2

/-- **(1) the invariant implies the well-formedness hypothesis of the AdjustOffs theorems** [EXPORT C18] (`ULWF`, field for field
    `C18.WF`), with `L` = the length AdjustOffs computes -/
theorem USWf.ulwf {u : PsipURI} (h : USWf u) : ULWF u (ulLen u) := by
  refine ⟨h.lim, h.sch_le, ?_, Nat.le_refl _⟩
  intro f hf hz
  have := (h.comps f hf).2 hz
  omega

/-- … and the other hypothesis: the sum of the component lengths is at most that length -/
theorem USWf.sum {u : PsipURI} (h : USWf u) : ulSum u ≤ ulLen u := by
  have := h.len.2.2.1
  unfold ulSum
  unfold usSeq usFst usSnd at this
  simp only [List.map_cons, List.map_nil, List.sum_cons, List.sum_nil] at this
  split at this <;> omega

/-! ### Truncate, and the views in closed form -/

/-- Truncate only takes trailing components away: the computed length cannot grow -/
theorem ul_len_truncate (u : PsipURI) : ulLen u.truncate ≤ ulLen u := by
  unfold ulLen ulComps PsipURI.truncate
  simp only [List.foldl_cons, List.foldl_nil, ulenStep_absent _ _ (rfl : ({} : PField).offs = 0)]
  exact Nat.le_trans (ulenStep_ge _ _ u.params) (ulenStep_ge _ _ u.headers)

/-- **(1) closure under Truncate** [EXPORT C18]; the computed length can only shrink -/
theorem USWf.truncate {u : PsipURI} (h : USWf u) : USWf u.truncate ∧ ulLen u.truncate ≤ ulLen u := by
  refine ⟨⟨h.sch, ?_, h.core⟩, ul_len_truncate u⟩
  obtain ⟨z1, p1, z2, p2, z3, p3, z4, p4, _, p5, _, p6, hl⟩ := h.chain
  show usChain _ [usFst u, usSnd u, u.host, u.port, {}, {}]
  exact ⟨z1, p1, z2, p2, z3, p3, z4, p4, fun _ => rfl, fun h => absurd rfl h, fun _ => rfl, fun h => absurd rfl h,
    Nat.lt_of_le_of_lt (Nat.le_trans (us_le_uafter p5) (us_le_uafter p6)) hl⟩

/-- the plain hypothesis of the C18 theorems (`ULWF u L` = `C18.WF u L`, any `L`, no other assumption) also survives
    Truncate, with the same `L` -/
theorem us_ulwf_truncate {u : PsipURI} {L : Nat} (h : ULWF u L) : ULWF u.truncate L := by
  refine ⟨h.lim, h.sch, ?_, Nat.le_trans (ul_len_truncate u) h.ulen⟩
  intro f hf hz
  simp only [ulComps, PsipURI.truncate, List.mem_cons, List.not_mem_nil, or_false] at hf
  rcases hf with rfl | rfl | rfl | rfl | rfl | rfl
  any_goals exact absurd rfl hz
  all_goals exact h.inside _ (by simp [ulComps]) hz

/-- end of the last NON-EMPTY component (for a URI without host the user takes the host's place) -/
def usLongEnd (u : PsipURI) : Nat :=
  if u.headers.len > 0 then u.headers.offs + u.headers.len
  else if u.params.len > 0 then u.params.offs + u.params.len
  else if u.port.len > 0 then u.port.offs + u.port.len
  else if u.host.len > 0 then u.host.offs + u.host.len
  else u.user.offs + u.user.len

/-- end of the port if it is not empty, else of the host (of the user, for a URI without host) -/
def usShortEnd (u : PsipURI) : Nat :=
  if u.port.len > 0 then u.port.offs + u.port.len
  else if u.host.len > 0 then u.host.offs + u.host.len
  else u.user.offs + u.user.len

theorem us_setFrom (u : PsipURI) (f : PField) (hs : u.scheme.offs ≤ f.offs + f.len) (hf : f.offs + f.len < 65536) :
    setFrom u f = (⟨u.scheme.offs, f.offs + f.len - u.scheme.offs⟩, false) := by
  unfold setFrom PField.endT PField.set PField.setPanics
  rw [trunc16_of_lt hf, trunc16_of_lt (show u.scheme.offs < 65536 by omega),
    trunc16_of_lt (show f.offs + f.len - u.scheme.offs < 65536 by omega)]
  have : ¬ (f.offs + f.len < u.scheme.offs) := by omega
  simp only [this, decide_false]

theorem USWf.nonempty {u : PsipURI} (h : USWf u) (f : PField) (hf : f ∈ ulComps u) (hl : 0 < f.len) :
    f.offs ≠ 0 ∧ u.scheme.offs + u.scheme.len ≤ f.offs ∧ f.offs + f.len ≤ u.scheme.offs + ulLen u := by
  have hc := h.comps f hf
  have hz : f.offs ≠ 0 := fun hz => by have := hc.1 hz; omega
  exact ⟨hz, hc.2 hz⟩

theorem USWf.setFrom {u : PsipURI} (h : USWf u) (f : PField) (hf : f ∈ ulComps u) (hl : 0 < f.len) :
    setFrom u f = (⟨u.scheme.offs, f.offs + f.len - u.scheme.offs⟩, false) := by
  have := h.nonempty f hf hl
  have := h.lim
  exact us_setFrom u f (by omega) (by omega)

theorem USWf.nohost {u : PsipURI} (h : USWf u) (hh : ¬ u.host.len > 0) :
    u.host.offs = 0 ∧ 0 < u.user.len ∧ (0 < u.pass.len → u.pass.offs + u.pass.len ≤ u.user.offs) := by
  rcases h.core with hc | ⟨hc1, hc2⟩
  · exact absurd hc hh
  · refine ⟨hc1, hc2, fun hp => ?_⟩
    have hch := h.chain
    unfold usSeq usFst usSnd at hch
    rw [if_pos hc1, if_pos hc1] at hch
    obtain ⟨z1, _, z2, p2, _⟩ := hch
    have hpp : u.pass.offs ≠ 0 := fun h0 => by have := z1 h0; omega
    have hup : u.user.offs ≠ 0 := fun h0 => by have := z2 h0; omega
    rw [us_uafter_present hpp] at p2
    exact p2 hup

/-- **(4) Long() in closed form** [EXPORT C18]: no panic; it starts at the scheme and ends where the last non-empty component ends -/
theorem us_long_eq {u : PsipURI} (h : USWf u) :
    u.long = (⟨u.scheme.offs, usLongEnd u - u.scheme.offs⟩, false) := by
  have hlim := h.lim
  unfold PsipURI.long usLongEnd
  by_cases c1 : u.headers.len > 0
  · rw [if_pos c1, if_pos c1, h.setFrom _ ulComps_headers c1]
  rw [if_neg c1, if_neg c1]
  by_cases c2 : u.params.len > 0
  · rw [if_pos c2, if_pos c2, h.setFrom _ ulComps_params c2]
  rw [if_neg c2, if_neg c2]
  by_cases c3 : u.port.len > 0
  · rw [if_pos c3, if_pos c3, h.setFrom _ ulComps_port c3]
  rw [if_neg c3, if_neg c3]
  by_cases c4 : u.host.len > 0
  · rw [if_pos c4, if_pos c4, h.setFrom _ ulComps_host c4]
  rw [if_neg c4, if_neg c4]
  obtain ⟨_, hu, hp⟩ := h.nohost c4
  have bu := h.nonempty u.user ulComps_user hu
  by_cases c5 : u.pass.len > 0
  · have bp := h.nonempty u.pass ulComps_pass c5
    have hlt := hp c5
    have e1 : u.user.endT = u.user.offs + u.user.len := trunc16_of_lt (by omega)
    have e2 : u.pass.endT = u.pass.offs + u.pass.len := trunc16_of_lt (by omega)
    have hc : (decide (u.user.len > 0) && decide (u.user.endT > u.pass.endT)) = true := by
      rw [e1, e2]
      simp only [Bool.and_eq_true, decide_eq_true_eq]
      exact ⟨hu, by omega⟩
    rw [if_pos c5, if_pos hc, h.setFrom _ ulComps_user hu]
  · rw [if_neg c5, if_pos hu, h.setFrom _ ulComps_user hu]

/-- **(4) Short() in closed form** [EXPORT C18]: no panic; it starts at the scheme and ends at the port (if not empty, else at the host) -/
theorem us_short_eq {u : PsipURI} (h : USWf u) :
    u.short = (⟨u.scheme.offs, usShortEnd u - u.scheme.offs⟩, false) := by
  unfold PsipURI.short usShortEnd
  by_cases c3 : u.port.len > 0
  · rw [if_pos c3, if_pos c3, h.setFrom _ ulComps_port c3]
  rw [if_neg c3, if_neg c3]
  by_cases c4 : u.host.len > 0
  · rw [if_pos c4, if_pos c4, h.setFrom _ ulComps_host c4]
  rw [if_neg c4, if_neg c4]
  obtain ⟨_, hu, _⟩ := h.nohost c4
  rw [if_pos hu, h.setFrom _ ulComps_user hu]

/-- the end of the last non-empty component after one more component `f`, `X` being that end before it; `usLongEnd`
    and `usShortEnd` are iterations of it -/
def usSel (X : Nat) (f : PField) : Nat := if f.len > 0 then f.offs + f.len else X

/-- one trailing component `f` at the cursor `c` of a chain, `X ≤ c` being the end of the last non-empty component
    before it: the end of the last non-empty component up to `f` lies between `X` and the next cursor, and it is the
    next cursor when `X = c` and `f` is not present-but-empty -/
theorem us_sel_step {c X : Nat} {f : PField} (hz : f.offs = 0 → f.len = 0) (hp : f.offs ≠ 0 → c ≤ f.offs)
    (hX : X ≤ c) :
    X ≤ usSel X f ∧ usSel X f ≤ uafter c f ∧ ((f.offs ≠ 0 → 0 < f.len) → X = c → usSel X f = uafter c f) := by
  unfold usSel uafter
  split <;> split <;> omega

/-- the ends along the chain: the scheme ends before the host (or, without host, the user) does; then come the end
    of Short(), the end of Long() and the computed length, in this order; the last two coincide when no trailing
    component is present but empty -/
theorem us_ends_chain {u : PsipURI} (h : USWf u) :
    u.scheme.offs + u.scheme.len < (if u.host.len > 0 then u.host.offs + u.host.len else u.user.offs + u.user.len) ∧
    (if u.host.len > 0 then u.host.offs + u.host.len else u.user.offs + u.user.len) ≤ usShortEnd u ∧
    usShortEnd u ≤ usLongEnd u ∧ usLongEnd u ≤ u.scheme.offs + ulLen u ∧
    ((∀ f ∈ [u.port, u.params, u.headers], f.offs ≠ 0 → 0 < f.len) → usLongEnd u = u.scheme.offs + ulLen u) := by
  have hlen : u.scheme.offs + ulLen u = _ := h.len.1
  obtain ⟨z1, p1, z2, p2, z3, p3, z4, p4, z5, p5, z6, p6, _⟩ := h.chain
  have hbase : u.scheme.offs + u.scheme.len <
        (if u.host.len > 0 then u.host.offs + u.host.len else u.user.offs + u.user.len) ∧
      (if u.host.len > 0 then u.host.offs + u.host.len else u.user.offs + u.user.len) =
        uafter (uafter (uafter (u.scheme.offs + u.scheme.len) (usFst u)) (usSnd u)) u.host := by
    have l1 := us_le_uafter p1
    have l2 := us_le_uafter p2
    by_cases hh : u.host.len > 0
    · have hho : u.host.offs ≠ 0 := fun h0 => by have := z3 h0; omega
      have := p3 hho
      rw [if_pos hh, us_uafter_present hho]
      exact ⟨by omega, rfl⟩
    · obtain ⟨h0, hu, _⟩ := h.nohost hh
      have hup : u.user.offs ≠ 0 := fun h0 => by have := (h.comps u.user ulComps_user).1 h0; omega
      have e : usSnd u = u.user := if_pos h0
      rw [e] at p2 ⊢
      have := p2 hup
      rw [if_neg hh, uafter, if_pos h0, us_uafter_present hup]
      exact ⟨by omega, rfl⟩
  obtain ⟨a4, b4, e4⟩ := us_sel_step z4 p4 (Nat.le_of_eq hbase.2)
  obtain ⟨a5, b5, e5⟩ := us_sel_step z5 p5 b4
  obtain ⟨a6, b6, e6⟩ := us_sel_step z6 p6 b5
  refine ⟨hbase.1, a4, Nat.le_trans a5 a6, hlen ▸ b6, fun hne => ?_⟩
  rw [hlen]
  exact e6 (hne _ (by simp)) (e5 (hne _ (by simp)) (e4 (hne _ (by simp)) hbase.2))

theorem us_ends {u : PsipURI} (h : USWf u) :
    u.scheme.offs + u.scheme.len < usShortEnd u ∧ usShortEnd u ≤ usLongEnd u ∧
    usLongEnd u ≤ u.scheme.offs + ulLen u :=
  ⟨Nat.lt_of_lt_of_le (us_ends_chain h).1 (us_ends_chain h).2.1, (us_ends_chain h).2.2.1, (us_ends_chain h).2.2.2.1⟩

/-- the present-but-empty corner: when every present trailing component (port, parameters, headers) is non-empty,
    Long() covers exactly the length AdjustOffs computes -/
theorem us_long_eq_len {u : PsipURI} (h : USWf u)
    (hne : ∀ f ∈ [u.port, u.params, u.headers], f.offs ≠ 0 → 0 < f.len) :
    usLongEnd u = u.scheme.offs + ulLen u := (us_ends_chain h).2.2.2.2 hne

theorem us_long_le_len {u : PsipURI} (h : USWf u) : u.long.1.len ≤ ulLen u := by
  rw [us_long_eq h]
  have := (us_ends h).2.2
  show usLongEnd u - u.scheme.offs ≤ ulLen u
  omega

/-- [EXPORT C18] (4) the short view is a prefix of the long view: same start, not longer; neither panics -/
theorem us_short_prefix_long {u : PsipURI} (h : USWf u) :
    u.long.2 = false ∧ u.short.2 = false ∧ u.long.1.offs = u.scheme.offs ∧ u.short.1.offs = u.scheme.offs ∧
    u.scheme.len < u.short.1.len ∧ u.short.1.len ≤ u.long.1.len ∧ u.long.1.len ≤ ulLen u := by
  rw [us_long_eq h, us_short_eq h]
  obtain ⟨e1, e2, e3⟩ := us_ends h
  refine ⟨rfl, rfl, rfl, rfl, ?_, ?_, ?_⟩
  · show u.scheme.len < usShortEnd u - u.scheme.offs; omega
  · show usShortEnd u - u.scheme.offs ≤ usLongEnd u - u.scheme.offs; omega
  · show usLongEnd u - u.scheme.offs ≤ ulLen u; omega

/-- **(4) Long after Truncate = Short** [EXPORT C18], for every URI that satisfies the invariant (also tel: with a password) -/
theorem us_truncate_long {u : PsipURI} (h : USWf u) : u.truncate.long = u.short := by
  rw [us_long_eq h.truncate.1, us_short_eq h]
  have e : usLongEnd u.truncate = usShortEnd u := by
    unfold usLongEnd usShortEnd PsipURI.truncate
    simp only [Nat.lt_irrefl, ↓reduceIte]
  rw [e]
  rfl

/-- Flat in closed form: the bytes from the scheme to the end of the last non-empty component; it panics exactly
    when the buffer is shorter than that -/
theorem us_flat_eq {u : PsipURI} (h : USWf u) (b : Buf) :
    u.flat b = if usLongEnd u ≤ b.size then some (b.extract u.scheme.offs (usLongEnd u)) else none := by
  obtain ⟨e1, e2, e3⟩ := us_ends h
  have hl := h.lim
  unfold PsipURI.flat
  rw [us_long_eq h]
  simp only [Bool.false_eq_true, ↓reduceIte]
  unfold PField.get? PField.endT
  simp only
  have e : u.scheme.offs + (usLongEnd u - u.scheme.offs) = usLongEnd u := by omega
  rw [e, trunc16_of_lt (by omega)]
  by_cases hb : usLongEnd u ≤ b.size
  · rw [if_pos hb, if_pos ⟨by omega, hb⟩]
  · rw [if_neg hb, if_neg (fun hh => hb hh.2)]

/-! ### from the layout (C14) to the invariant -/

theorem USep.step {b : Buf} {p : Nat} {f : PField} {d : UInt8} (h : USep b p f d) :
    (f.offs = 0 → f.len = 0) ∧ (f.offs ≠ 0 → p ≤ f.offs) := by
  rcases h with rfl | ⟨_, h⟩
  · exact ⟨fun _ => rfl, fun h => absurd rfl h⟩
  · exact ⟨fun h0 => by omega, fun _ => by omega⟩

/-- user and password lie behind the scheme and end before the host, so they can be put in front of any chain that
    starts at the host -/
theorem UserPart.chain {b : Buf} {k pH : Nat} {user pass : PField} (h : UserPart b k user pass pH) (hk : 0 < k) :
    pH ≠ 0 ∧ ∀ r, usChain pH r → usChain k (user :: pass :: r) := by
  rcases h with ⟨rfl, rfl, rfl⟩ | ⟨h1, h2, h3, _, rfl⟩
  · exact ⟨by omega, fun r hr => ⟨fun _ => rfl, fun h => absurd rfl h, fun _ => rfl, fun h => absurd rfl h, hr⟩⟩
  · refine ⟨by omega, fun r hr => ⟨fun h0 => by omega, fun _ => by omega, ?_⟩⟩
    rw [us_uafter_present (by omega), h1]
    exact ⟨h3.step.1, h3.step.2, us_chain_mono r (Nat.le_add_right _ _) hr⟩

theorem URILayout.chain {b : Buf} {k : Nat} {u : PsipURI} (h : URILayout b k u) (hk : 0 < k)
    (hfit : b.size ≤ 65535) :
    u.host.offs ≠ 0 ∧ usChain k [u.user, u.pass, u.host, u.port, u.params, u.headers] ∧
    [u.port, u.params, u.headers].foldl uafter (u.host.offs + u.host.len) = b.size := by
  obtain ⟨_, hup, _, h1, h2, h3, hend⟩ := h
  obtain ⟨hho, hc⟩ := hup.chain hk
  refine ⟨hho, hc _ ⟨fun h0 => absurd h0 hho, fun _ => Nat.le_refl _, ?_⟩, hend⟩
  rw [us_uafter_present hho]
  exact ⟨h1.step.1, h1.step.2, h2.step.1, h2.step.2, h3.step.1, h3.step.2, hend ▸ Nat.lt_succ_of_le hfit⟩

theorem URILayout.us_wf {b : Buf} {k : Nat} {u : PsipURI} (h : URILayout b k u) (hk : 0 < k)
    (hfit : b.size ≤ 65535) : USWf u ∧ ulLen u = b.size := by
  obtain ⟨hho, hc, hend⟩ := h.chain hk hfit
  have hs : u.scheme = ⟨0, k⟩ := h.1
  have hq : usSeq u = [u.user, u.pass, u.host, u.port, u.params, u.headers] := by
    unfold usSeq usFst usSnd
    rw [if_neg hho, if_neg hho]
  have hw : USWf u := ⟨by rw [hs]; exact hk, by rw [hq, hs, Nat.zero_add]; exact hc, Or.inl h.2.2.1⟩
  refine ⟨hw, ?_⟩
  have he := hw.len.1
  rw [hq, hs] at he
  simp only [List.foldl_cons, us_uafter_present hho, Nat.zero_add] at he hend
  exact he.trans hend

/-- the tel: report (the host handed out as user, the password kept, which then stands BEFORE the user): the chain
    is that of the sip: shape without its first component and with an absent host behind the number -/
theorem URILayout.us_tel_wf {b : Buf} {k : Nat} {u0 : PsipURI} (h : URILayout b k u0) (hk : 0 < k)
    (hfit : b.size ≤ 65535) : USWf (telSwap u0) ∧ ulLen (telSwap u0) = b.size := by
  obtain ⟨hho, hc, hend⟩ := h.chain hk hfit
  have hs : (telSwap u0).scheme = ⟨0, k⟩ := h.1
  have hq : usSeq (telSwap u0) = [u0.pass, u0.host, {}, u0.port, u0.params, u0.headers] := rfl
  obtain ⟨z1, p1, z2, p2, hr⟩ := us_chain_mono _ (us_le_uafter hc.2.1) hc.2.2
  have hw : USWf (telSwap u0) :=
    ⟨by rw [hs]; exact hk,
     by rw [hq, hs, Nat.zero_add]; exact ⟨z1, p1, z2, p2, fun _ => rfl, fun h => absurd rfl h, hr⟩,
     Or.inr ⟨rfl, h.2.2.1⟩⟩
  refine ⟨hw, ?_⟩
  have he := hw.len.1
  rw [hq, hs] at he
  simp only [List.foldl_cons, us_uafter_present hho, uafter_absent, Nat.zero_add] at he hend
  exact he.trans hend

theorem ul_parsed_inv (b : Buf) (hfit : b.size ≤ 65535) (hacc : (parseURI b {}).1 = .none) :
    USWf (parseURI b {}).2.2.1 ∧ (parseURI b {}).2.2.1.scheme.offs = 0 ∧ ulLen (parseURI b {}).2.2.1 = b.size ∧
    ((parseURI b {}).2.2.1.uriType = TELuri ↔ (parseURI b {}).2.2.1.host.len = 0) := by
  obtain ⟨k, u0, hk0, hl, hu⟩ := parseURI_layout b hfit hacc
  have hs : u0.scheme.offs = 0 := by rw [hl.1]
  rw [hu]
  by_cases ht : u0.uriType = TELuri
  · rw [if_pos ht]
    obtain ⟨hw, hlen⟩ := hl.us_tel_wf hk0 hfit
    exact ⟨hw, hs, hlen, fun _ => rfl, fun _ => ht⟩
  · rw [if_neg ht]
    obtain ⟨hw, hlen⟩ := hl.us_wf hk0 hfit
    have := hl.2.2.1
    exact ⟨hw, hs, hlen, fun h => absurd h ht, fun h => by omega⟩

/-- **(1) what ParseURI establishes** [EXPORT C18]: every URI accepted by ParseURI (sip:, sips:, tel:; input of at most
    65,535 bytes) satisfies the invariant `USWf`, its scheme is at offset 0 and the length AdjustOffs computes is
    len(b) -/
theorem us_parsed_wf (b : Buf) (hfit : b.size ≤ 65535) (hacc : (parseURI b {}).1 = .none) :
    USWf (parseURI b {}).2.2.1 ∧ (parseURI b {}).2.2.1.scheme.offs = 0 ∧ ulLen (parseURI b {}).2.2.1 = b.size :=
  ⟨(ul_parsed_inv b hfit hacc).1, (ul_parsed_inv b hfit hacc).2.1, (ul_parsed_inv b hfit hacc).2.2.1⟩

/-! ### what a parsed URI satisfies (all URI types) -/

/-- everything the relocation theorems need to know about a URI `u` parsed from the buffer `b` -/
structure ULGood (b : Buf) (u : PsipURI) : Prop where
  wf : ULWF u b.size
  len : ulLen u = b.size
  sum : ulSum u ≤ b.size
  start : u.scheme.offs = 0
  flds : ∀ f ∈ ulComps u, f.offs + f.len ≤ b.size ∧ (f.offs = 0 → f.len = 0)

theorem USWf.good {b : Buf} {u : PsipURI} (h : USWf u) (hs : u.scheme.offs = 0) (hl : ulLen u = b.size) :
    ULGood b u := by
  refine ⟨hl ▸ h.ulwf, hl, hl ▸ h.sum, hs, fun f hf => ?_⟩
  have := h.comps f hf
  rw [hs, hl] at this
  exact ⟨by omega, this.1⟩

/-- **the link** [EXPORT C18]: every URI accepted by ParseURI (any type) is well formed for AdjustOffs -/
theorem ul_parsed_good (b : Buf) (hfit : b.size ≤ 65535) (hacc : (parseURI b {}).1 = .none) :
    ULGood b (parseURI b {}).2.2.1 :=
  (us_parsed_wf b hfit hacc).1.good (us_parsed_wf b hfit hacc).2.1 (us_parsed_wf b hfit hacc).2.2

/-- [EXPORT C18; `C18.parsed_wf` restates it with `C18.WF`] the hypothesis `WF` of the C18 theorems holds for every
    accepted URI, with `L = len(b)` -/
theorem ul_parsed_wf (b : Buf) (hfit : b.size ≤ 65535) (hacc : (parseURI b {}).1 = .none) :
    ULWF (parseURI b {}).2.2.1 b.size := (ul_parsed_good b hfit hacc).wf

/-- [EXPORT C18] the length AdjustOffs computes for an accepted URI (any type) is exactly len(b) -/
theorem ul_parsed_len (b : Buf) (hfit : b.size ≤ 65535) (hacc : (parseURI b {}).1 = .none) :
    ulLen (parseURI b {}).2.2.1 = b.size := (ul_parsed_good b hfit hacc).len

/-! ### relocation -/

/-- the buffer `b2` holds the text `b` at position `s` -/
def ULHolds (b2 : Buf) (s : Nat) (b : Buf) : Prop := s + b.size ≤ b2.size ∧ b2.extract s (s + b.size) = b

/-- `b2[o, o+n)` and `b[s, s+n)` exist and are the same bytes -/
def USSameText (b2 : Buf) (o : Nat) (b : Buf) (s n : Nat) : Prop :=
  o + n ≤ b2.size ∧ s + n ≤ b.size ∧ b2.extract o (o + n) = b.extract s (s + n)

/-- `f'` (read in `b2`) and `f` (read in `b`) denote the same bytes, `Get` panics on neither -/
def ULSame (b2 b : Buf) (f' f : PField) : Prop :=
  PField.get? b2 f' = PField.get? b f ∧ PField.get? b f = some (b.extract f.offs (f.offs + f.len)) ∧ f'.len = f.len

theorem ULHolds.sameText {b2 b : Buf} {s : Nat} (h : ULHolds b2 s b) : USSameText b2 s b 0 b.size :=
  ⟨h.1, Nat.le_of_eq (Nat.zero_add _), by rw [h.2, Nat.zero_add, Array.extract_size]⟩

theorem us_extract_sub {b2 b : Buf} {o s n : Nat} (h : USSameText b2 o b s n) (d l : Nat) (hdl : d + l ≤ n) :
    b2.extract (o + d) (o + d + l) = b.extract (s + d) (s + d + l) := by
  have e1 : b2.extract (o + d) (o + d + l) = (b2.extract o (o + n)).extract d (d + l) := by
    rw [Array.extract_extract]
    congr 1
    omega
  have e2 : b.extract (s + d) (s + d + l) = (b.extract s (s + n)).extract d (d + l) := by
    rw [Array.extract_extract]
    congr 1
    omega
  rw [e1, e2, h.2.2]

theorem us_get_shift {b2 b : Buf} {o s n : Nat} (h : USSameText b2 o b s n) (ho : o + n < 65536) (hs : s + n < 65536)
    (f : PField) (h1 : s ≤ f.offs) (h2 : f.offs + f.len ≤ s + n) : ULSame b2 b ⟨f.offs - s + o, f.len⟩ f := by
  have hx := us_extract_sub h (f.offs - s) f.len (by omega)
  have e1 : o + (f.offs - s) = f.offs - s + o := by omega
  have e2 : s + (f.offs - s) = f.offs := by omega
  rw [e1, e2] at hx
  obtain ⟨g1, g2, _⟩ := h
  unfold ULSame PField.get? PField.endT
  simp only
  rw [trunc16_of_lt (show f.offs - s + o + f.len < 65536 by omega), trunc16_of_lt (show f.offs + f.len < 65536 by omega),
    if_pos ⟨by omega, by omega⟩, if_pos ⟨by omega, by omega⟩, hx]
  exact ⟨rfl, rfl, trivial⟩

theorem ul_get_zero (b : Buf) : PField.get? b ⟨0, 0⟩ = some (b.extract 0 (0 + 0)) := by
  unfold PField.get? PField.endT
  rw [trunc16_of_lt (show 0 + 0 < 65536 by omega), if_pos ⟨Nat.le_refl _, Nat.zero_le _⟩]

theorem us_comp_relocate {u : PsipURI} (h : USWf u) (o : Nat) (ho : o + ulLen u < 65536) (b2 b : Buf)
    (ht : USSameText b2 o b u.scheme.offs (ulLen u)) :
    ULSame b2 b (ulRelocate u o).scheme u.scheme ∧ ∀ f ∈ ulComps u, ULSame b2 b (ulMoved f u.scheme.offs o) f := by
  have hl := h.lim
  constructor
  · have := us_get_shift ht ho hl u.scheme (Nat.le_refl _) (Nat.add_le_add_left h.sch_le _)
    rw [Nat.sub_self, Nat.zero_add] at this
    exact this
  · intro f hf
    have hc := h.comps f hf
    by_cases hz : f.offs = 0
    · have e : f = ⟨0, 0⟩ := by
        cases f
        simp only at hz hc
        rw [hz, hc.1 hz]
      rw [us_moved_absent _ _ hz, e]
      refine ⟨?_, ul_get_zero b, rfl⟩
      rw [ul_get_zero, ul_get_zero, Array.extract_empty_of_stop_le_start (Nat.le_refl _),
        Array.extract_empty_of_stop_le_start (Nat.le_refl _)]
    · rw [us_moved_present _ _ hz]
      have hb := hc.2 hz
      exact us_get_shift ht ho hl f (by omega) hb.2

theorem ULGood.relocate {b : Buf} {u : PsipURI} (hg : ULGood b u) (np : PField) (hspan : b.size ≤ np.len)
    (hlim : np.offs + np.len < 65536) : u.adjustOffs np = (true, ulRelocate u np.offs, false) :=
  ul_adjust_moves u np b.size hg.wf hspan (Nat.le_trans hg.sum hspan) hlim

/-- **parse, then relocate onto a span at least as long as the URI** [EXPORT C18] (`np.Len ≥ len(b)`, inside the
    16-bit range): AdjustOffs succeeds, does not panic, keeps type and port number, and — when the target buffer
    `b2` holds the same text at `np.Offs` — every component of the relocated URI reads in `b2` exactly the bytes
    the original component reads in `b`. All URI types. -/
theorem ul_relocate_parsed (b : Buf) (hfit : b.size ≤ 65535) (hacc : (parseURI b {}).1 = .none)
    (np : PField) (hspan : b.size ≤ np.len) (hlim : np.offs + np.len < 65536) :
    ∃ u', (parseURI b {}).2.2.1.adjustOffs np = (true, u', false) ∧
      u'.scheme.offs = np.offs ∧ u'.uriType = (parseURI b {}).2.2.1.uriType ∧
      u'.portNo = (parseURI b {}).2.2.1.portNo ∧
      ∀ b2, ULHolds b2 np.offs b →
        ULSame b2 b u'.scheme (parseURI b {}).2.2.1.scheme ∧ ULSame b2 b u'.user (parseURI b {}).2.2.1.user ∧
        ULSame b2 b u'.pass (parseURI b {}).2.2.1.pass ∧ ULSame b2 b u'.host (parseURI b {}).2.2.1.host ∧
        ULSame b2 b u'.port (parseURI b {}).2.2.1.port ∧ ULSame b2 b u'.params (parseURI b {}).2.2.1.params ∧
        ULSame b2 b u'.headers (parseURI b {}).2.2.1.headers := by
  obtain ⟨hw, hs, hlen⟩ := us_parsed_wf b hfit hacc
  refine ⟨_, (hw.good hs hlen).relocate np hspan hlim, rfl, rfl, rfl, fun b2 hh => ?_⟩
  have ht := hh.sameText
  rw [← hs, ← hlen] at ht
  obtain ⟨g0, g⟩ := us_comp_relocate hw np.offs (by omega) b2 b ht
  exact ⟨g0, g _ ulComps_user, g _ ulComps_pass, g _ ulComps_host, g _ ulComps_port, g _ ulComps_params,
    g _ ulComps_headers⟩

/-- **a span shorter than the URI is refused** [EXPORT C18] (sip:, sips: and tel:): result false, URI unchanged,
    no panic -/
theorem ul_refuse (b : Buf) (hfit : b.size ≤ 65535) (hacc : (parseURI b {}).1 = .none)
    (np : PField) (hshort : np.len < b.size) :
    (parseURI b {}).2.2.1.adjustOffs np = (false, (parseURI b {}).2.2.1, false) :=
  ul_adjust_refused _ np (by rw [ul_parsed_len b hfit hacc]; exact hshort)

/-! ### the views of a parsed URI -/

theorem USWf.views {b : Buf} {u : PsipURI} (h : USWf u) (hs : u.scheme.offs = 0) (hl : ulLen u = b.size)
    (hfit : b.size ≤ 65535) :
    u.long = (⟨0, usLongEnd u⟩, false) ∧ u.short = (⟨0, usShortEnd u⟩, false) ∧
    u.scheme.len < usShortEnd u ∧
    (if u.host.len > 0 then u.host.offs + u.host.len else u.user.offs + u.user.len) ≤ usShortEnd u ∧
    usShortEnd u ≤ usLongEnd u ∧ usLongEnd u ≤ b.size ∧
    PField.get? b u.long.1 = some (b.extract 0 (usLongEnd u)) ∧
    PField.get? b u.short.1 = some (b.extract 0 (usShortEnd u)) ∧
    (b.extract 0 (usLongEnd u)).extract 0 (usShortEnd u) = b.extract 0 (usShortEnd u) ∧
    u.truncate.long = u.short ∧
    ((∀ f ∈ [u.port, u.params, u.headers], f.offs ≠ 0 → 0 < f.len) → usLongEnd u = b.size ∧ u.flat b = some b) := by
  have hL := us_long_eq h
  have hS := us_short_eq h
  obtain ⟨e0, e1, e2, e3, e4⟩ := us_ends_chain h
  rw [hs, Nat.sub_zero] at hL hS
  rw [hs, Nat.zero_add] at e0 e3 e4
  rw [hl] at e3 e4
  have gL := field_get? b 0 (usLongEnd u) (by omega) hfit
  have gS := field_get? b 0 (usShortEnd u) (by omega) hfit
  rw [Nat.zero_add] at gL gS
  refine ⟨hL, hS, Nat.lt_of_lt_of_le e0 e1, e1, e2, e3, by rw [hL]; exact gL, by rw [hS]; exact gS, ?_,
    us_truncate_long h, fun hne => ⟨e4 hne, ?_⟩⟩
  · rw [Array.extract_extract]
    congr 1
    omega
  · rw [us_flat_eq h b, if_pos e3, hs, e4 hne, Array.extract_size]

/-- end of the last non-empty component from the host on -/
def ulLastEnd (u : PsipURI) : Nat :=
  if u.headers.len > 0 then u.headers.offs + u.headers.len
  else if u.params.len > 0 then u.params.offs + u.params.len
  else if u.port.len > 0 then u.port.offs + u.port.len
  else u.host.offs + u.host.len

/-- end of the port if it is not empty, else of the host -/
def ulShortEnd (u : PsipURI) : Nat :=
  if u.port.len > 0 then u.port.offs + u.port.len else u.host.offs + u.host.len

/-- **views of a parsed sip: / sips: URI** [EXPORT C18]: Long and Short do not panic and start at the scheme; Short ends
    at the port (if not empty, else at the host), Long at the last non-empty component (`ulLastEnd`), so
    scheme < Short ≤ Long ≤ len(b), both can be read with `Get`, the short view is a prefix of the long view, the long
    view of the truncated URI is the short view, and when no trailing component is present-but-empty the long view
    (and `Flat`) is the whole input. -/
theorem ul_views_sip (b : Buf) (hfit : b.size ≤ 65535) (hacc : (parseURI b {}).1 = .none)
    (hsip : (parseURI b {}).2.2.1.uriType ≠ TELuri) :
    (parseURI b {}).2.2.1.long = (⟨0, ulLastEnd (parseURI b {}).2.2.1⟩, false) ∧
    (parseURI b {}).2.2.1.short = (⟨0, ulShortEnd (parseURI b {}).2.2.1⟩, false) ∧
    (parseURI b {}).2.2.1.scheme.len < ulShortEnd (parseURI b {}).2.2.1 ∧
    (parseURI b {}).2.2.1.host.offs + (parseURI b {}).2.2.1.host.len ≤ ulShortEnd (parseURI b {}).2.2.1 ∧
    ulShortEnd (parseURI b {}).2.2.1 ≤ ulLastEnd (parseURI b {}).2.2.1 ∧
    ulLastEnd (parseURI b {}).2.2.1 ≤ b.size ∧
    PField.get? b (parseURI b {}).2.2.1.long.1 = some (b.extract 0 (ulLastEnd (parseURI b {}).2.2.1)) ∧
    PField.get? b (parseURI b {}).2.2.1.short.1 = some (b.extract 0 (ulShortEnd (parseURI b {}).2.2.1)) ∧
    (b.extract 0 (ulLastEnd (parseURI b {}).2.2.1)).extract 0 (ulShortEnd (parseURI b {}).2.2.1) =
      b.extract 0 (ulShortEnd (parseURI b {}).2.2.1) ∧
    (parseURI b {}).2.2.1.truncate.long = (parseURI b {}).2.2.1.short ∧
    ((∀ f ∈ [(parseURI b {}).2.2.1.port, (parseURI b {}).2.2.1.params, (parseURI b {}).2.2.1.headers],
        f.offs ≠ 0 → 0 < f.len) →
      ulLastEnd (parseURI b {}).2.2.1 = b.size ∧ (parseURI b {}).2.2.1.flat b = some b) := by
  obtain ⟨hw, hs, hl, ht⟩ := ul_parsed_inv b hfit hacc
  generalize (parseURI b {}).2.2.1 = u at *
  have hh : u.host.len > 0 := Nat.pos_of_ne_zero fun h0 => hsip (ht.2 h0)
  have e1 : ulLastEnd u = usLongEnd u := by unfold ulLastEnd usLongEnd; rw [if_pos hh]
  have e2 : ulShortEnd u = usShortEnd u := by unfold ulShortEnd usShortEnd; rw [if_pos hh]
  have hv := hw.views hs hl hfit
  rw [if_pos hh] at hv
  rw [e1, e2]
  exact hv

/-! tel: has no host; the number is reported as user, possibly behind a password -/

/-- tel: — end of the last non-empty component from the number (user) on -/
def ulTelLastEnd (u : PsipURI) : Nat :=
  if u.headers.len > 0 then u.headers.offs + u.headers.len
  else if u.params.len > 0 then u.params.offs + u.params.len
  else if u.port.len > 0 then u.port.offs + u.port.len
  else u.user.offs + u.user.len

/-- tel: — end of the port if it is not empty, else of the number (user) -/
def ulTelShortEnd (u : PsipURI) : Nat :=
  if u.port.len > 0 then u.port.offs + u.port.len else u.user.offs + u.user.len

/-- **views of a parsed tel: URI** [EXPORT C18]: as `ul_views_sip`, with the number (reported as user) in the place of
    the host: Long and Short do not panic and start at the scheme; Short ends at the port (if not empty, else at the
    number), Long at the last non-empty component, scheme < Short ≤ Long ≤ len(b), both readable, the short view is
    a prefix of the long view, Long after Truncate is Short, and Long = Flat = whole input when no trailing component
    is present-but-empty. Holds also when a password precedes the number (`tel:a:b@c`). -/
theorem ul_views_tel (b : Buf) (hfit : b.size ≤ 65535) (hacc : (parseURI b {}).1 = .none)
    (htel : (parseURI b {}).2.2.1.uriType = TELuri) :
    (parseURI b {}).2.2.1.long = (⟨0, ulTelLastEnd (parseURI b {}).2.2.1⟩, false) ∧
    (parseURI b {}).2.2.1.short = (⟨0, ulTelShortEnd (parseURI b {}).2.2.1⟩, false) ∧
    (parseURI b {}).2.2.1.scheme.len < ulTelShortEnd (parseURI b {}).2.2.1 ∧
    (parseURI b {}).2.2.1.user.offs + (parseURI b {}).2.2.1.user.len ≤ ulTelShortEnd (parseURI b {}).2.2.1 ∧
    ulTelShortEnd (parseURI b {}).2.2.1 ≤ ulTelLastEnd (parseURI b {}).2.2.1 ∧
    ulTelLastEnd (parseURI b {}).2.2.1 ≤ b.size ∧
    PField.get? b (parseURI b {}).2.2.1.long.1 = some (b.extract 0 (ulTelLastEnd (parseURI b {}).2.2.1)) ∧
    PField.get? b (parseURI b {}).2.2.1.short.1 = some (b.extract 0 (ulTelShortEnd (parseURI b {}).2.2.1)) ∧
    (b.extract 0 (ulTelLastEnd (parseURI b {}).2.2.1)).extract 0 (ulTelShortEnd (parseURI b {}).2.2.1) =
      b.extract 0 (ulTelShortEnd (parseURI b {}).2.2.1) ∧
    (parseURI b {}).2.2.1.truncate.long = (parseURI b {}).2.2.1.short ∧
    ((∀ f ∈ [(parseURI b {}).2.2.1.port, (parseURI b {}).2.2.1.params, (parseURI b {}).2.2.1.headers],
        f.offs ≠ 0 → 0 < f.len) →
      ulTelLastEnd (parseURI b {}).2.2.1 = b.size ∧ (parseURI b {}).2.2.1.flat b = some b) := by
  obtain ⟨hw, hs, hl, ht⟩ := ul_parsed_inv b hfit hacc
  generalize (parseURI b {}).2.2.1 = u at *
  have hh : ¬ u.host.len > 0 := by rw [ht.1 htel]; exact Nat.lt_irrefl 0
  have e1 : ulTelLastEnd u = usLongEnd u := by unfold ulTelLastEnd usLongEnd; rw [if_neg hh]
  have e2 : ulTelShortEnd u = usShortEnd u := by unfold ulTelShortEnd usShortEnd; rw [if_neg hh]
  have hv := hw.views hs hl hfit
  rw [if_neg hh] at hv
  rw [e1, e2]
  exact hv

/-- all schemes: **the short view is a prefix of the long view** [EXPORT C18] and both are prefixes of the input:
    neither panics, both start at offset 0 (the scheme), `Short.Len ≤ Long.Len ≤ len(b)` -/
theorem ul_short_prefix_long (b : Buf) (hfit : b.size ≤ 65535) (hacc : (parseURI b {}).1 = .none) :
    (parseURI b {}).2.2.1.long.2 = false ∧ (parseURI b {}).2.2.1.short.2 = false ∧
    (parseURI b {}).2.2.1.long.1.offs = 0 ∧ (parseURI b {}).2.2.1.short.1.offs = 0 ∧
    (parseURI b {}).2.2.1.short.1.len ≤ (parseURI b {}).2.2.1.long.1.len ∧
    (parseURI b {}).2.2.1.long.1.len ≤ b.size ∧
    (parseURI b {}).2.2.1.truncate.long = (parseURI b {}).2.2.1.short := by
  obtain ⟨hw, hs, hl⟩ := us_parsed_wf b hfit hacc
  obtain ⟨v1, v2, v3, v4, _, v6, v7⟩ := us_short_prefix_long hw
  exact ⟨v1, v2, v3.trans hs, v4.trans hs, v6, Nat.le_trans v7 (Nat.le_of_eq hl), us_truncate_long hw⟩

/-! ### tests / non-vacuity for part (A) (closed computations, `decide +kernel`) -/

-- `ULHolds` is satisfiable: the text "sip:a@b" sits at offset 4 of "To:<sip:a@b>;x"
example : ULHolds "To:<sip:a@b>;x".toUTF8.data 4 "sip:a@b".toUTF8.data := by
  constructor <;> decide +kernel
-- the hypotheses of `ul_relocate_parsed` / `ul_refuse` are met by "sip:a@b" (7 bytes) and the spans [4,11) / [4,10)
example : ∃ u', (parseURI "sip:a@b".toUTF8.data {}).2.2.1.adjustOffs ⟨4, 7⟩ = (true, u', false) ∧ u'.scheme.offs = 4 :=
  have h := ul_relocate_parsed "sip:a@b".toUTF8.data (by decide +kernel) (by decide +kernel) ⟨4, 7⟩
    (by decide +kernel) (by decide)
  h.imp fun _ hu => ⟨hu.1, hu.2.1⟩
example : (parseURI "sip:a@b".toUTF8.data {}).2.2.1.adjustOffs ⟨4, 6⟩ =
    (false, (parseURI "sip:a@b".toUTF8.data {}).2.2.1, false) :=
  ul_refuse "sip:a@b".toUTF8.data (by decide +kernel) (by decide +kernel) ⟨4, 6⟩ (by decide +kernel)
-- test: parse "sip:u:p@h:5;a?b", relocate onto [4, 4+15)
example : ((parseURI "sip:u:p@h:5;a?b".toUTF8.data {}).2.2.1.adjustOffs ⟨4, 15⟩) =
    (true, { uriType := SIPuri, scheme := ⟨4, 4⟩, user := ⟨8, 1⟩, pass := ⟨10, 1⟩, host := ⟨12, 1⟩, port := ⟨14, 1⟩,
             params := ⟨16, 1⟩, headers := ⟨18, 1⟩, portNo := 5 }, false) := by decide +kernel
-- test: one byte too short is refused
example : ((parseURI "sip:u:p@h:5;a?b".toUTF8.data {}).2.2.1.adjustOffs ⟨4, 14⟩).1 = false := by decide +kernel
-- test: a present-but-empty port: the long view stops at the host ("sip:h", 5 of 6 bytes)
example : (parseURI "sip:h:".toUTF8.data {}).2.2.1.long = (⟨0, 5⟩, false) := by decide +kernel
-- test: "tel:a:b@c" (9 bytes) is accepted with the user (= the number) BEHIND the password. The furthest end counts:
-- spans of 8 and 7 bytes are refused, 9 is accepted, and Long() = Short() = [0,9) (this input is the witness of
-- finding F21: with the last listed component as the end, 8 and 7 would be accepted and Long() would be [0,7))
example : (parseURI "tel:a:b@c".toUTF8.data {}).1 = UErr.none ∧
    (parseURI "tel:a:b@c".toUTF8.data {}).2.2.1.user = ⟨8, 1⟩ ∧
    (parseURI "tel:a:b@c".toUTF8.data {}).2.2.1.pass = ⟨6, 1⟩ ∧
    ((parseURI "tel:a:b@c".toUTF8.data {}).2.2.1.adjustOffs ⟨10, 8⟩).1 = false ∧
    ((parseURI "tel:a:b@c".toUTF8.data {}).2.2.1.adjustOffs ⟨10, 7⟩).1 = false ∧
    ((parseURI "tel:a:b@c".toUTF8.data {}).2.2.1.adjustOffs ⟨10, 9⟩).1 = true ∧
    ((parseURI "tel:a:b@c".toUTF8.data {}).2.2.1.adjustOffs ⟨10, 9⟩).2.1.user = ⟨18, 1⟩ ∧
    ((parseURI "tel:a:b@c".toUTF8.data {}).2.2.1.adjustOffs ⟨10, 9⟩).2.1.pass = ⟨16, 1⟩ ∧
    (parseURI "tel:a:b@c".toUTF8.data {}).2.2.1.long = (⟨0, 9⟩, false) ∧
    (parseURI "tel:a:b@c".toUTF8.data {}).2.2.1.short = (⟨0, 9⟩, false) := by decide +kernel
-- the hypotheses of `ul_views_tel` / `ul_refuse` are met by that input
example : (parseURI "tel:a:b@c".toUTF8.data {}).2.2.1.adjustOffs ⟨10, 8⟩ =
    (false, (parseURI "tel:a:b@c".toUTF8.data {}).2.2.1, false) :=
  ul_refuse "tel:a:b@c".toUTF8.data (by decide +kernel) (by decide +kernel) ⟨10, 8⟩ (by decide +kernel)
example : (parseURI "tel:a:b@c".toUTF8.data {}).2.2.1.uriType = TELuri := by decide +kernel

/-! ## (B) C10: the port number of an accepted URI is the value of the port field -/

theorem parseURI_portinv (b : Buf) (hfit : b.size ≤ 65535) (hacc : (parseURI b {}).1 = .none) :
    ULPortOK b (parseURI b {}).2.2.1 := by
  obtain ⟨t, k, u0, -, ⟨-, -, hr⟩, h⟩ := parseURI_accepted b hfit hacc
  obtain ⟨he, -, hpo⟩ := (UcRest_iff b k u0).mp hr
  rw [h]
  exact hpo.portOK (ucOut_port u0).1 (ucOut_port u0).2

/-- **run level, URI port** [EXPORT C10]: for every URI accepted by ParseURI the bytes of the reported port field are
    digits, `PortNo` is exactly their decimal value, and `PortNo ≤ 65535` (absent / empty port: no digits, value 0) -/
theorem ul_port_exact (b : Buf) (hfit : b.size ≤ 65535) (hacc : (parseURI b {}).1 = .none) :
    AllDigits (digitsOf b (parseURI b {}).2.2.1.port.offs
      ((parseURI b {}).2.2.1.port.offs + (parseURI b {}).2.2.1.port.len)) ∧
    (parseURI b {}).2.2.1.portNo = decOf (digitsOf b (parseURI b {}).2.2.1.port.offs
      ((parseURI b {}).2.2.1.port.offs + (parseURI b {}).2.2.1.port.len)) ∧
    (parseURI b {}).2.2.1.portNo ≤ 65535 := parseURI_portinv b hfit hacc

/-- [EXPORT C10] no port or an empty port: `PortNo = 0` -/
theorem ul_port_zero (b : Buf) (hfit : b.size ≤ 65535) (hacc : (parseURI b {}).1 = .none)
    (h0 : (parseURI b {}).2.2.1.port.len = 0) : (parseURI b {}).2.2.1.portNo = 0 := by
  have h := (parseURI_portinv b hfit hacc).2.1
  rw [h0, Nat.add_zero, digitsOf_self] at h
  exact h

/-- [EXPORT C10] a non-empty port field: same phrasing as for Content-Length / CSeq (`NumDone`), plus the range -/
theorem ul_port_numdone (b : Buf) (hfit : b.size ≤ 65535) (hacc : (parseURI b {}).1 = .none)
    (hne : 0 < (parseURI b {}).2.2.1.port.len) :
    NumDone b (parseURI b {}).2.2.1.port (parseURI b {}).2.2.1.portNo ∧ (parseURI b {}).2.2.1.portNo ≤ 65535 := by
  obtain ⟨h1, h2, h3⟩ := parseURI_portinv b hfit hacc
  have hin := ((ul_parsed_good b hfit hacc).flds (parseURI b {}).2.2.1.port ulComps_port).1
  refine ⟨⟨(parseURI b {}).2.2.1.port.offs, (parseURI b {}).2.2.1.port.offs + (parseURI b {}).2.2.1.port.len,
    ?_, by omega, hin, h1, h2⟩, h3⟩
  rw [Nat.add_sub_cancel_left]

/-- [EXPORT C10] spelled out with the model's `Get`: the port field reads a non-empty digit string whose decimal
    value is `PortNo` -/
theorem ul_port_meaning (b : Buf) (hfit : b.size ≤ 65535) (hacc : (parseURI b {}).1 = .none)
    (hne : 0 < (parseURI b {}).2.2.1.port.len) :
    ∃ d, PField.get? b (parseURI b {}).2.2.1.port = some d ∧ d.size ≥ 1 ∧ AllDigits d.toList ∧
      (parseURI b {}).2.2.1.portNo = decOf d.toList ∧ (parseURI b {}).2.2.1.portNo ≤ 65535 := by
  obtain ⟨hn, hle⟩ := ul_port_numdone b hfit hacc hne
  obtain ⟨d, h1, h2, h3, h4⟩ := hn.get hfit
  exact ⟨d, h1, h2, h3, h4, hle⟩

/-! ### tests / non-vacuity for part (B) (closed computations, `decide +kernel`) -/

-- a port after a host; a port read in `pass0` ("sip:a:5060": first taken as user ':' password); an IPv6 host
example : (parseURI "sip:u@h:5060;x".toUTF8.data {}).1 = UErr.none ∧
    (parseURI "sip:u@h:5060;x".toUTF8.data {}).2.2.1.port = ⟨8, 4⟩ ∧
    (parseURI "sip:u@h:5060;x".toUTF8.data {}).2.2.1.portNo = 5060 := by decide +kernel
example : (parseURI "sip:a:5060".toUTF8.data {}).2.2.1.port = ⟨6, 4⟩ ∧
    (parseURI "sip:a:5060".toUTF8.data {}).2.2.1.portNo = 5060 := by decide +kernel
-- digits that turn out to be a password: no port, number 0
example : (parseURI "sip:u:123@h".toUTF8.data {}).1 = UErr.none ∧
    (parseURI "sip:u:123@h".toUTF8.data {}).2.2.1.port = ⟨0, 0⟩ ∧
    (parseURI "sip:u:123@h".toUTF8.data {}).2.2.1.portNo = 0 := by decide +kernel
-- an '@' after a port and parameters discards the port; the accumulator restarts from 0 (port "6", number 6)
example : (parseURI "sip:[::1]:5;x@g:6".toUTF8.data {}).1 = UErr.none ∧
    (parseURI "sip:[::1]:5;x@g:6".toUTF8.data {}).2.2.1.port = ⟨16, 1⟩ ∧
    (parseURI "sip:[::1]:5;x@g:6".toUTF8.data {}).2.2.1.portNo = 6 := by decide +kernel
-- a port above 65535 is rejected, 65535 is accepted
example : (parseURI "sip:h:65536".toUTF8.data {}).1 = UErr.port ∧
    (parseURI "sip:h:65535".toUTF8.data {}).2.2.1.portNo = 65535 := by decide +kernel
example : AllDigits (digitsOf "sip:h:65535".toUTF8.data 6 11) ∧ decOf (digitsOf "sip:h:65535".toUTF8.data 6 11) = 65535 := by
  rw [show digitsOf "sip:h:65535".toUTF8.data 6 11 = [54, 53, 53, 51, 53] by decide +kernel]
  refine ⟨fun c hc => ?_, ?_⟩
  · simp only [List.mem_cons, List.not_mem_nil, or_false] at hc
    rcases hc with h | h | h | h | h <;> (subst h; unfold IsDigitB; decide)
  · simp only [decOf, decFrom_cons, decFrom_nil, dval_def]
    decide

end Sipsp
