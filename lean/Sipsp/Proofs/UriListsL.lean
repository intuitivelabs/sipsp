/-
  Sipsp.Proofs.UriListsL — the stand-alone list parsers ParseTokenParam, ParseAllURIParams, ParseAllURIHdrs
  (properties C02 / C03 / C12 / C13 for them).

  * L1 (C03): a definitive result (offset, number of values, verdict, list object) does not change when bytes are
    appended. L2 (C02): for EVERY object and option set without `POptInputEndF` (including `POptTokSpTermF`, whose
    previous-byte test depends on the offset the call was started with) the resumed call returns exactly what the call
    from the original offset returns; for the lists the per-call value counters add up and legitimacy is re-established
    at the suspension; hence every chunk schedule. Both are proved in the form `…_stable2` / `…_resume2`, where the
    later call may have the end-of-input option switched on (`SameButEnd`); the earlier call never has it.
  * C13: two runs with arrays of different capacity return the same offset, number of values and verdict, and related
    objects (`PlRel` / `HlRel`: same `n`, type flags, panic flag, current element; stored elements agree wherever both
    arrays have room). C12: Reset after any history of calls is the new object of the same capacity.
  * every call, EVERY option word (`parseTokenParam_facts`): offset in [offs, len], a legitimate name field stays
    legitimate, "more values" without progress only right after a separator — hence the progress guard of the list
    loops holds on clean lists (`slotLoop_guard`).
  * legitimacy: `plOK` (URI parameters: clean unused slots + the current element's name field has a 16-bit offset and
    ends inside the buffer) / `hlClean` (URI headers); new and reset lists of any capacity qualify.
  * the two element loops are `slotLoop pOps` / `slotLoop hOps` (SlotLoop.lean); guard, L1, L2, capacity independence
    and legitimacy are proved once for `slotLoop O` under `SlotLaws O` and instantiated with `pLaws` / `hLaws`.

  NOT proved here: L1 / L2 for an earlier call that carries `POptInputEndF`; lists whose unused slots hold garbage
  (then the model's progress guard can fail).
-/
import Sipsp.Proofs.TokParamL1
import Sipsp.Proofs.Verdicts
import Sipsp.Proofs.Schedule
import Sipsp.Proofs.SlotLoop

namespace Sipsp

/-! ### Reset of the two URI list objects = the new object over an array of the same capacity

  `URIParamsLst.reset` / `URIHdrsLst.reset` clear the entries `0..n` of the caller's array only (and zero every other
  field). This equals a new object over an array of the same capacity provided the entries ABOVE the one in progress
  (index `n`) are still zero values (`TailZero`, the first half of `SlotArr.Clean`), which every parse call keeps
  (`slotLoop_inv`). Hence: start from a new object of any capacity, apply any finite sequence of parse calls (any
  buffers, offsets, flags; complete, abandoned while suspended, or failed) and Reset calls, reset — the result is the
  new object of the original capacity, and every later parse call returns exactly what it returns on a new object.
  (`TailZero` is the same predicate as `C12.TailClean`, which is stated in the property file.) -/

/-- **URIParamsLst.Reset = new list object over an array of the same capacity**, for an object satisfying the
    invariant (every field: array contents, count, type flags, overflow slot, panic marker) -/
theorem uriParams_reset_eq_new (l : URIParamsLst) (h : TailZero l.params {} l.n) :
    l.reset = { params := Array.replicate l.params.size {} } := by
  simp only [URIParamsLst.reset, clearUpToP_of_tailZero l.params {} l.n h]

/-- **the invariant and the capacity are preserved by every ParseAllURIParams call** (whatever the buffer, the
    offset, the flags and the verdict: complete, suspended, failed) -/
theorem clean_parseAllURIParams (b : Buf) (offs : Nat) (l : URIParamsLst) (flags cap : Nat)
    (h : SlotArr.Clean {} l.slots ∧ l.params.size = cap) :
    SlotArr.Clean {} (parseAllURIParams b offs l flags).2.2.2.slots ∧
      (parseAllURIParams b offs l flags).2.2.2.params.size = cap := by
  unfold parseAllURIParams
  rw [uriParamsLoop_slot]
  refine slotLoop_inv pOps b (fun r => SlotArr.Clean ({} : URIParam) r.slots ∧ r.slots.arr.size = cap)
    (fun r p hr => ?_) (fun r _ x _ hr => ?_) (fun _ hr => hr) _ offs l 0 h
  · show SlotArr.Clean {} (r.setCur p).slots ∧ (r.setCur p).slots.arr.size = cap
    rw [pSlots_setCur, SlotArr.setCur_size]; exact ⟨hr.1.setCur p, hr.2⟩
  · show SlotArr.Clean {} (r.next x.param x.t).slots ∧ (r.next x.param x.t).slots.arr.size = cap
    rw [pSlots_next, SlotArr.push_size]; exact ⟨hr.1.push _, hr.2⟩

/-- one use of a URI parameter list object: a parse call `(buffer, offset, flags)` or (`none`) a Reset -/
def uriParamsUse (l : URIParamsLst) : Option (Buf × Nat × Nat) → URIParamsLst
  | some c => (parseAllURIParams c.1 c.2.1 l c.2.2).2.2.2
  | none => l.reset

/-- **C12 for URIParamsLst, every history of parse calls and resets**: whatever was done with the object since it
    was created over an array of capacity `cap`, Reset makes it equal to the new object of capacity `cap` — so every
    later call gives the result it gives on a new object -/
theorem uriParams_reset_after_uses (cap : Nat) (hist : List (Option (Buf × Nat × Nat))) :
    (hist.foldl uriParamsUse ({ params := Array.replicate cap {} } : URIParamsLst)).reset
    = { params := Array.replicate cap {} } := by
  have key := foldl_inv (fun l : URIParamsLst => SlotArr.Clean {} l.slots ∧ l.params.size = cap) uriParamsUse
    (fun l x h => by
      cases x with
      | none =>
        show SlotArr.Clean {} l.reset.slots ∧ l.reset.params.size = cap
        rw [uriParams_reset_eq_new l h.1.tailZero]
        exact ⟨SlotArr.clean_replicate ({} : URIParam) _, by rw [Array.size_replicate]; exact h.2⟩
      | some c => exact clean_parseAllURIParams c.1 c.2.1 l c.2.2 cap h)
    hist { params := Array.replicate cap {} } ⟨SlotArr.clean_replicate ({} : URIParam) cap, Array.size_replicate ..⟩
  rw [uriParams_reset_eq_new _ key.1.tailZero, key.2]

/-- **C12 for URIParamsLst, every history**: start from a new object over an array of capacity `cap`; apply any
    finite sequence of ParseAllURIParams calls (any buffers, offsets and flags; each call may complete, be
    abandoned while suspended, or fail); reset: the object equals the new object of capacity `cap`. -/
theorem uriParams_reset_after_history (cap : Nat) (hist : List (Buf × Nat × Nat)) :
    (hist.foldl (fun l (c : Buf × Nat × Nat) => (parseAllURIParams c.1 c.2.1 l c.2.2).2.2.2)
      ({ params := Array.replicate cap {} } : URIParamsLst)).reset
    = { params := Array.replicate cap {} } := by
  have := uriParams_reset_after_uses cap (hist.map some)
  rw [List.foldl_map] at this
  exact this

/-- the behavioural reading: after any history and a Reset, a parse call returns what it returns on a new object -/
theorem uriParams_behaves_like_new (cap : Nat) (hist : List (Option (Buf × Nat × Nat))) (b : Buf) (offs flags : Nat) :
    parseAllURIParams b offs (hist.foldl uriParamsUse { params := Array.replicate cap {} }).reset flags
    = parseAllURIParams b offs { params := Array.replicate cap {} } flags := by
  rw [uriParams_reset_after_uses]

/-- **URIHdrsLst.Reset = new list object over an array of the same capacity**, for an object satisfying the
    invariant -/
theorem uriHdrs_reset_eq_new (l : URIHdrsLst) (h : TailZero l.hdrs {} l.n) :
    l.reset = { hdrs := Array.replicate l.hdrs.size {} } := by
  simp only [URIHdrsLst.reset, clearUpToP_of_tailZero l.hdrs {} l.n h]

/-- **the invariant and the capacity are preserved by every ParseAllURIHdrs call** (whatever the buffer, the offset,
    the flags and the verdict) -/
theorem clean_parseAllURIHdrs (b : Buf) (offs : Nat) (l : URIHdrsLst) (flags cap : Nat)
    (h : SlotArr.Clean {} l.slots ∧ l.hdrs.size = cap) :
    SlotArr.Clean {} (parseAllURIHdrs b offs l flags).2.2.2.slots ∧
      (parseAllURIHdrs b offs l flags).2.2.2.hdrs.size = cap := by
  unfold parseAllURIHdrs
  rw [uriHdrsLoop_slot]
  refine slotLoop_inv hOps b (fun r => SlotArr.Clean ({} : PTokParam) r.slots ∧ r.slots.arr.size = cap)
    (fun r p hr => ?_) (fun r _ x _ hr => ?_) (fun _ hr => hr) _ offs l 0 h
  · show SlotArr.Clean {} (r.setCur p).slots ∧ (r.setCur p).slots.arr.size = cap
    rw [hSlots_setCur, SlotArr.setCur_size]; exact ⟨hr.1.setCur p, hr.2⟩
  · show SlotArr.Clean {} (r.next x).slots ∧ (r.next x).slots.arr.size = cap
    rw [hSlots_next, SlotArr.push_size]; exact ⟨hr.1.push _, hr.2⟩

def uriHdrsUse (l : URIHdrsLst) : Option (Buf × Nat × Nat) → URIHdrsLst
  | some c => (parseAllURIHdrs c.1 c.2.1 l c.2.2).2.2.2
  | none => l.reset

theorem uriHdrs_reset_after_uses (cap : Nat) (hist : List (Option (Buf × Nat × Nat))) :
    (hist.foldl uriHdrsUse ({ hdrs := Array.replicate cap {} } : URIHdrsLst)).reset
    = { hdrs := Array.replicate cap {} } := by
  have key := foldl_inv (fun l : URIHdrsLst => SlotArr.Clean {} l.slots ∧ l.hdrs.size = cap) uriHdrsUse
    (fun l x h => by
      cases x with
      | none =>
        show SlotArr.Clean {} l.reset.slots ∧ l.reset.hdrs.size = cap
        rw [uriHdrs_reset_eq_new l h.1.tailZero]
        exact ⟨SlotArr.clean_replicate ({} : PTokParam) _, by rw [Array.size_replicate]; exact h.2⟩
      | some c => exact clean_parseAllURIHdrs c.1 c.2.1 l c.2.2 cap h)
    hist { hdrs := Array.replicate cap {} } ⟨SlotArr.clean_replicate ({} : PTokParam) cap, Array.size_replicate ..⟩
  rw [uriHdrs_reset_eq_new _ key.1.tailZero, key.2]

theorem uriHdrs_reset_after_history (cap : Nat) (hist : List (Buf × Nat × Nat)) :
    (hist.foldl (fun l (c : Buf × Nat × Nat) => (parseAllURIHdrs c.1 c.2.1 l c.2.2).2.2.2)
      ({ hdrs := Array.replicate cap {} } : URIHdrsLst)).reset
    = { hdrs := Array.replicate cap {} } := by
  have := uriHdrs_reset_after_uses cap (hist.map some)
  rw [List.foldl_map] at this
  exact this

theorem uriHdrs_behaves_like_new (cap : Nat) (hist : List (Option (Buf × Nat × Nat))) (b : Buf) (offs flags : Nat) :
    parseAllURIHdrs b offs (hist.foldl uriHdrsUse { hdrs := Array.replicate cap {} }).reset flags
    = parseAllURIHdrs b offs { hdrs := Array.replicate cap {} } flags := by
  rw [uriHdrs_reset_after_uses]

/-! ### tests / non-vacuity (closed computations, `decide +kernel`) -/

-- a suspended three-parameter parse into a 3-element array leaves a used object (two complete entries, one in
-- progress, type flags set); reset zeroes the visible fields
example :
    let l := (parseAllURIParams "transport=udp;lr;ttl".toUTF8.data 0 { params := Array.replicate 3 {} } 0).2.2.2
    l.n = 2 ∧ l.types = 33 ∧ l.params[2]!.param.state = .name ∧
    l.reset.n = 0 ∧ l.reset.types = 0 ∧ l.reset.params[2]!.param.state = .init := by decide +kernel
-- the same into a 1-element array: the overflow slot is in use
example :
    let l := (parseAllURIParams "transport=udp;lr;ttl".toUTF8.data 0 { params := Array.replicate 1 {} } 0).2.2.2
    l.n = 2 ∧ l.tmp.param.state = .name ∧ l.reset.n = 0 ∧ l.reset.tmp.param.state = .init := by decide +kernel
example :
    let l := (parseAllURIHdrs "a=b&c=d&e".toUTF8.data 0 { hdrs := Array.replicate 3 {} } 0).2.2.2
    l.n = 2 ∧ l.hdrs[2]!.state = .name ∧ l.reset.n = 0 ∧ l.reset.hdrs[2]!.state = .init := by decide +kernel
-- the invariant is not trivially true: it fails for an object with a dirty slot above `n`
example : ¬ TailZero (#[{}, {}, { state := .name }] : Array PTokParam) {} 0 := by
  intro h
  have := h 2 (by decide) (by decide)
  exact absurd this (by decide)

/-! ### generic: two runs that take the same steps from some position on -/

/-! ### ParseTokenParam: where a call can be suspended

The loop body looks at the offset the call was started with (the previous-byte test of `POptTokSpTermF`), so a
resumed call runs a different machine than the call it continues.  The two agree because a call is never
suspended at a place where that test could give a different answer. -/

/-- what holds at a suspension point `o'` (object `p'`) of a call started at `offs` -/
def TPSusp (B : Buf) (offs o' : Nat) (p' : PTokParam) : Prop :=
  offs ≤ o' ∧ p'.state ≠ .fin ∧
  (o' = offs ∨ (∃ c, B[o']? = some c ∧ isLWSch c = true) ∨
    (p'.state ≠ .fEq ∧ (p'.state = .fSep → ∃ c', B[o' - 1]? = some c' ∧ isLWSch c' = false)))

theorem TPSusp.grows {b : Buf} (s : Buf) {offs o' : Nat} {p' : PTokParam} (h : TPSusp b offs o' p') :
    TPSusp (b ++ s) offs o' p' := by
  obtain ⟨h1, h2, h3⟩ := h
  refine ⟨h1, h2, ?_⟩
  rcases h3 with h3 | ⟨c, hc, hl⟩ | ⟨h3, h4⟩
  · exact Or.inl h3
  · exact Or.inr (Or.inl ⟨c, get?_app hc, hl⟩)
  · refine Or.inr (Or.inr ⟨h3, fun hh => ?_⟩)
    obtain ⟨c', hc', hl'⟩ := h4 hh
    exact ⟨c', get?_app hc', hl'⟩

/-- loop invariant behind `TPSusp` -/
def TPInv (b : Buf) (offs i : Nat) (p : PTokParam) : Prop :=
  offs ≤ i ∧ p.state ≠ .fin ∧
  (i = offs ∨ ((p.state = .fEq → i < b.size) ∧
    (p.state = .fSep → i < b.size ∨ ∃ c', b[i - 1]? = some c' ∧ isLWSch c' = false)))

theorem tp_suspended (flags offs : Nat) (b : Buf) (p : PTokParam) (hnf : p.state ≠ .fin) {o' : Nat} {p' : PTokParam}
    (h : runLoop (tpMachine flags offs) b offs p = (o', Err.moreBytes, p')) : TPSusp b offs o' p' := by
  have key := runLoop_inv (tpMachine flags offs) b (TPInv b offs) (fun r => r.2.1 = Err.moreBytes → TPSusp b offs r.1 r.2.2)
    (by
      intro i c st i' st' hb hP hs
      refine ⟨fun _ => ?_, fun _ hh => by cases hh⟩
      have hc := tp_cont_facts flags offs b i c st hb hP.2.1 hs
      exact ⟨by have := hP.1; omega, hc.2.2.1, Or.inr ⟨hc.2.2.2.1, hc.2.2.2.2.1⟩⟩)
    (by
      intro i c st o e st' hb hP hs he
      simp only at he; subst he
      have hd := tp_done_facts flags offs b i c st hb hs
      obtain ⟨h1, h2, h3⟩ := hd.2.2.2.1 rfl
      subst h2
      refine ⟨hd.1 hP.1, hP.2.1, ?_⟩
      rcases h3 with ⟨hl, rfl⟩ | hq
      · exact Or.inr (Or.inl ⟨c, hb, hl⟩)
      · exact Or.inr (Or.inr ⟨by rw [hq]; decide, by rw [hq]; intro hh; cases hh⟩))
    (by
      intro i st hb hP he
      have hge := get?_none_ge hb
      change (tpMoreBytes b flags st i).2.1 = _ at he
      show TPSusp b offs (tpMoreBytes b flags st i).1 (tpMoreBytes b flags st i).2.2
      rcases tpMoreBytes_cases b flags st i with hm | ⟨_, hm⟩ | hm <;> rw [hm] at he ⊢
      · refine ⟨hP.1, hP.2.1, ?_⟩
        rcases hP.2.2 with h0 | ⟨h1, h2⟩
        · exact Or.inl h0
        · refine Or.inr (Or.inr ⟨fun hh => ?_, fun hh => ?_⟩)
          · have := h1 hh; omega
          · rcases h2 hh with h | h
            · omega
            · exact h
      · cases he
      · exact absurd he (tpEOH_facts _ _ _).2.1)
    offs p ⟨Nat.le_refl _, hnf, Or.inl rfl⟩
  rw [h] at key
  exact key rfl

/-! ### ParseTokenParam: changing the start offset of the machine -/

theorem tpStep_switch_later (flags offs o' : Nat) (B : Buf) (j : Nat) (c : UInt8) (p : PTokParam)
    (h1 : offs ≤ o') (h2 : o' < j) : tpStep flags o' B j c p = tpStep flags offs B j c p := by
  have e1 : tpSpTermEq o' j p = tpSpTermEq offs j p := by
    unfold tpSpTermEq
    rw [if_pos (by omega), if_pos (by omega)]
  have e2 : tpSpTermSep B o' j p = tpSpTermSep B offs j p := by
    unfold tpSpTermSep
    simp only
    rw [if_pos (by omega), if_pos (by omega)]
  unfold tpStep
  rw [e1, e2]

theorem tpStep_switch_first (flags offs o' : Nat) (B : Buf) (c : UInt8) (p : PTokParam)
    (hb : B[o']? = some c) (hs : TPSusp B offs o' p) : tpStep flags o' B o' c p = tpStep flags offs B o' c p := by
  obtain ⟨h1, _, h3⟩ := hs
  rcases h3 with h3 | ⟨c0, hc0, hl0⟩ | ⟨h3, h4⟩
  · rw [h3]
  · rw [hb] at hc0; cases hc0
    unfold tpStep
    cases hst : p.state <;> simp only [hl0, ↓reduceIte]
  · rcases Nat.lt_or_ge offs o' with hlt | hge
    · have e2 : p.state = .fSep → tpSpTermSep B o' o' p = tpSpTermSep B offs o' p := by
        intro hh
        obtain ⟨c', hc', hl'⟩ := h4 hh
        unfold tpSpTermSep
        simp only
        rw [if_neg (by omega), if_pos (by omega), hc']
        simp only [hl', Bool.false_eq_true, ↓reduceIte]
      unfold tpStep
      cases hst : p.state <;> simp only
      case fEq => exact absurd hst h3
      case fSep => rw [e2 hst]
    · have : o' = offs := by omega
      rw [this]

/-- a call that was suspended at `o'` may be continued by the machine of the original call -/
theorem tp_switch (flags offs o' : Nat) (B : Buf) (p : PTokParam) (hs : TPSusp B offs o' p) :
    runLoop (tpMachine flags o') B o' p = runLoop (tpMachine flags offs) B o' p := by
  have hle := hs.1
  cases hb : B[o']? with
  | none => rw [runLoop_none _ p hb, runLoop_none _ p hb]; rfl
  | some c =>
    have hse : (tpMachine flags o').step B o' c p = (tpMachine flags offs).step B o' c p :=
      tpStep_switch_first flags offs o' B c p hb hs
    cases hs1 : (tpMachine flags o').step B o' c p with
    | done o e st' => rw [runLoop_done _ hb hs1, runLoop_done _ hb (hse ▸ hs1)]
    | cont i' st' =>
      rw [runLoop_cont _ hb hs1, runLoop_cont _ hb (hse ▸ hs1)]
      by_cases hlt : o' < i'
      · rw [if_pos hlt, if_pos hlt]
        exact runLoop_congr (tpMachine flags o') (tpMachine flags offs) B B (o' + 1) (fun _ _ _ hb => ⟨hb, rfl⟩)
          (fun j c st hj hb => ⟨c, hb, tpStep_switch_later flags offs o' B j c st hle (by omega)⟩) i' (by omega) st'
      · rw [if_neg hlt, if_neg hlt]

/-! ### ParseTokenParam: L2 -/

theorem tpStep_quoted (flags offs : Nat) (b : Buf) (i : Nat) (c : UInt8) (p : PTokParam) (hst : p.state = .quotedVal) :
    tpStep flags offs b i c p = tpDo flags offs b i p .quoted := by
  rw [tpStep_eq, hst]; rfl

/-- a suspended iteration can be restarted at the returned offset, whatever the option word of the later call:
    white space is scanned again from its first byte with the object untouched, an open quoted string is
    re-entered where `SkipQuoted` stopped -/
theorem tp_stepRestart (f f' offs : Nat) (b s : Buf) (i : Nat) (c : UInt8) (st : PTokParam) (o : Nat) (st' : PTokParam)
    (hb : b[i]? = some c) (hs : tpStep f offs b i c st = .done o .moreBytes st') :
    runLoop (tpMachine f' offs) (b ++ s) o st' = runLoop (tpMachine f' offs) (b ++ s) i st := by
  obtain ⟨hio, rfl, h3⟩ := (tp_done_facts f offs b i c st hb hs).2.2.2.1 rfl
  rcases h3 with ⟨_, rfl⟩ | hst
  · rfl
  have hsq : skipQuoted b i = (o, Err.moreBytes) := by
    rw [tpStep_quoted f offs b i c st' hst] at hs
    rcases tpDo_quoted f offs b i st' hst with ⟨n, hq, h⟩ | ⟨n, hq, h⟩ | ⟨n, hq, h⟩ <;> rw [h] at hs <;> cases hs
    exact hq
  have hres := skipQuoted_resume b s i hsq
  have hbB := get?_app (s := s) hb
  have hstep : ∀ j c', tpStep f' offs (b ++ s) j c' st' = tpDo f' offs (b ++ s) j st' .quoted :=
    fun j c' => tpStep_quoted f' offs (b ++ s) j c' st' hst
  cases hn : (b ++ s)[o]? with
  | none =>
    -- nothing new at the restart point: the quoted string is still open
    have hsq2 : skipQuoted (b ++ s) o = (o, Err.moreBytes) := by
      unfold skipQuoted
      rw [runLoop_none sqMachine () hn]; rfl
    have h1 : tpStep f' offs (b ++ s) i c st' = .done o .moreBytes st' := by
      rw [hstep]; unfold tpDo
      rw [← hres, hsq2]
      simp only [stepOfRes, tpMoreBytes_quoted (b ++ s) f' st' o hst]
    rw [runLoop_none _ st' hn, runLoop_done _ hbB h1]
    exact tpMoreBytes_quoted (b ++ s) f' st' o hst
  | some c2 =>
    have hse : (tpMachine f' offs).step (b ++ s) o c2 st' = (tpMachine f' offs).step (b ++ s) i c st' := by
      show tpStep f' offs (b ++ s) o c2 st' = tpStep f' offs (b ++ s) i c st'
      rw [hstep, hstep]; unfold tpDo; rw [hres]
    cases hs1 : (tpMachine f' offs).step (b ++ s) o c2 st' with
    | done o2 e2 st2 => rw [runLoop_done _ hn hs1, runLoop_done _ hbB (hse ▸ hs1)]
    | cont i2 st2 =>
      rw [runLoop_cont _ hn hs1, runLoop_cont _ hbB (hse ▸ hs1)]
      have hp := tp_progress f' offs (b ++ s) o c2 st' i2 st2 hn hs1
      rw [if_pos hp, if_pos (by omega)]

/-- **L2 for ParseTokenParam**, the resumed call made with `f'`: after `MoreBytes` at `(o', p')`, calling again on
    the extended buffer with `(o', p')` gives exactly what the call on the extended buffer from `(o, p)` gives.
    Any object, any option word without `POptInputEndF` at the earlier call. -/
theorem parseTokenParam_resume2 (b s : Buf) (o : Nat) (p : PTokParam) (f f' : Nat)
    (hf : hasFlag f POptInputEndF = false) (hff : SameButEnd f f') {o' : Nat} {p' : PTokParam}
    (h : parseTokenParam b o p f = (o', Err.moreBytes, p')) :
    parseTokenParam (b ++ s) o' p' f' = parseTokenParam (b ++ s) o p f' := by
  unfold parseTokenParam at h ⊢
  by_cases hfin : p.state = .fin
  · rw [if_pos hfin] at h; cases h
  · rw [if_neg hfin] at h
    have hsu := tp_suspended f o b p hfin h
    rw [if_neg hfin, if_neg hsu.2.1, tp_switch f' o o' (b ++ s) p' (hsu.grows s)]
    exact runLoop_resume2 (tpMachine f o) (tpMachine f' o) b s (tp_stepStable f f' o b s hf hff)
      (tp_stepRestart f f' o b s)
      (by
        intro i st o1 st1 _ h
        change tpMoreBytes b f st i = (o1, Err.moreBytes, st1) at h
        rw [tpMoreBytes_noEnd b f st i hf] at h
        cases h; rfl) o p h

/-- **L2 for ParseTokenParam**: every option combination without `POptInputEndF` (with `POptTokSpTermF` too), any
    object: after `MoreBytes` at `(o', p')`, calling again on the extended buffer with `(o', p')` gives exactly what
    the call on the extended buffer from `(o, p)` gives. -/
theorem parseTokenParam_resume (b s : Buf) (o : Nat) (p : PTokParam) (flags : Nat)
    (hf : hasFlag flags POptInputEndF = false) {o' : Nat} {p' : PTokParam}
    (h : parseTokenParam b o p flags = (o', Err.moreBytes, p')) :
    parseTokenParam (b ++ s) o' p' flags = parseTokenParam (b ++ s) o p flags :=
  parseTokenParam_resume2 b s o p flags flags hf (.refl _) h

/-- a suspended object is not finished, and the restart offset is not before the start offset -/
theorem parseTokenParam_more (b : Buf) (o : Nat) (p : PTokParam) (flags : Nat) {o' : Nat} {p' : PTokParam}
    (h : parseTokenParam b o p flags = (o', Err.moreBytes, p')) : o ≤ o' ∧ p'.state ≠ .fin := by
  unfold parseTokenParam at h
  by_cases hfin : p.state = .fin
  · rw [if_pos hfin] at h; cases h
  · rw [if_neg hfin] at h
    have hsu := tp_suspended flags o b p hfin h
    exact ⟨hsu.1, hsu.2.1⟩

/-! ### ParseTokenParam, every option word: range of the result, the name field stays inside the buffer, "more
values" without progress only right after a separator -/

/-- legitimacy of a token-parameter object for buffer `b`: the name field (which the URI-parameter list reads back
    from the buffer) has a 16-bit offset and ends inside the buffer.  New objects, and all objects returned by
    ParseTokenParam on a prefix of `b`, satisfy it. -/
def tpOK (b : Buf) (p : PTokParam) : Prop := p.name.offs < 65536 ∧ p.name.endT ≤ b.size

theorem tpOK_new (b : Buf) : tpOK b {} := ⟨by decide, Nat.zero_le _⟩

theorem tpOK_grows {b : Buf} (s : Buf) {p : PTokParam} (h : tpOK b p) : tpOK (b ++ s) p :=
  ⟨h.1, by rw [Array.size_append]; have := h.2; omega⟩

theorem tpOK_step {b : Buf} {i : Nat} {p p' : PTokParam} (hi : i ≤ b.size) (h : tpOK b p) (hn : NameStep i p p') :
    tpOK b p' := by
  unfold tpOK
  rcases hn with hn | hn | hn <;> rw [hn]
  · exact h
  · unfold PField.set PField.endT trunc16; simp only; omega
  · have h1 := h.1
    unfold PField.extend PField.endT trunc16; simp only; omega

/-- what every call guarantees, whatever the object: "more values" at the very offset the call was started with means
    the object was waiting for the next element; from a start offset inside the buffer the returned offset lies in
    `[o, len(buf)]` and a legitimate name field stays legitimate -/
theorem parseTokenParam_facts (b : Buf) (o : Nat) (p : PTokParam) (flags : Nat)
    {o' : Nat} {e : Err} {p' : PTokParam} (h : parseTokenParam b o p flags = (o', e, p')) :
    (e = .moreValues → o' = o → p.state = .fNxt) ∧
    (o ≤ b.size → o ≤ o' ∧ o' ≤ b.size ∧ (tpOK b p → tpOK b p')) := by
  unfold parseTokenParam at h
  by_cases hfin : p.state = .fin
  · rw [if_pos hfin] at h; cases h; exact ⟨(fun h => by cases h), fun ho => ⟨Nat.le_refl _, ho, id⟩⟩
  · rw [if_neg hfin] at h
    have key := runLoop_inv (tpMachine flags o) b
      (fun i st => o ≤ i ∧ st.state ≠ .fin ∧ (i = o → st = p) ∧ (o ≤ b.size → i ≤ b.size ∧ (tpOK b p → tpOK b st)))
      (fun r => (r.2.1 = .moreValues → r.1 = o → p.state = .fNxt) ∧
        (o ≤ b.size → o ≤ r.1 ∧ r.1 ≤ b.size ∧ (tpOK b p → tpOK b r.2.2)))
      (by
        intro i c st i' st' hb hP hs
        have hi := get?_lt hb
        have hc := tp_cont_facts flags o b i c st hb hP.2.1 hs
        exact ⟨fun _ => ⟨by have := hP.1; omega, hc.2.2.1, fun hh => by have := hP.1; omega,
          fun ho => ⟨hc.2.1, fun hok => tpOK_step (by omega) ((hP.2.2.2 ho).2 hok) hc.2.2.2.2.2⟩⟩,
          fun hn => absurd hc.1 hn⟩)
      (by
        intro i c st o1 e1 st' hb hP hs
        have hi := get?_lt hb
        have hd := tp_done_facts flags o b i c st hb hs
        refine ⟨fun he ho1 => ?_, fun ho => ⟨hd.1 hP.1, hd.2.1,
          fun hok => tpOK_step (by omega) ((hP.2.2.2 ho).2 hok) hd.2.2.1⟩⟩
        simp only at he ho1
        have hm := hd.2.2.2.2 he
        rw [← hP.2.2.1 (by omega)]; exact hm.2)
      (by
        intro i st hb hP
        refine ⟨fun he => absurd he (tpMoreBytes_ne_mv b flags st i), fun ho => ?_⟩
        obtain ⟨hi, hst⟩ := hP.2.2.2 ho
        obtain ⟨h1, h2, h3, _⟩ := tpMoreBytes_facts b flags st i hi
        exact ⟨Nat.le_trans hP.1 h1, h2, fun hok => tpOK_step hi (hst hok) h3⟩)
      o p ⟨Nat.le_refl _, hfin, fun _ => rfl, fun ho => ⟨ho, id⟩⟩
    rw [h] at key
    exact key

theorem parseTokenParam_post (b : Buf) (o : Nat) (p : PTokParam) (flags : Nat) (ho : o ≤ b.size) (hok : tpOK b p)
    {o' : Nat} {e : Err} {p' : PTokParam} (h : parseTokenParam b o p flags = (o', e, p')) :
    o ≤ o' ∧ o' ≤ b.size ∧ tpOK b p' :=
  have hf := (parseTokenParam_facts b o p flags h).2 ho
  ⟨hf.1, hf.2.1, hf.2.2 hok⟩

/-! ### the element loop of both list parsers (`slotLoop`): progress guard, L1, L2, capacity independence,
legitimacy, proved once -/

/-- what these theorems need of the operations.  `clean` is the state of the unused slots that the loop's progress
    guard relies on; `okTok` is what `fin` needs of a token-parameter object to be insensitive to appended bytes. -/
structure SlotLaws {L ε : Type} (O : SlotOps L ε) where
  clean : L → Prop
  okTok : Buf → PTokParam → Prop
  cur_setCur : ∀ l p, O.cur (O.setCur l p) = p
  setCur_setCur : ∀ l p q, O.setCur (O.setCur l p) q = O.setCur l q
  setCur_cur : ∀ l, O.setCur l (O.cur l) = l
  next_setCur : ∀ l p x, O.next (O.setCur l p) x = O.next l x
  clean_setCur : ∀ l p, clean l → clean (O.setCur l p)
  clean_next : ∀ l x, clean l → clean (O.next l x) ∧ O.cur (O.next l x) = O.zero
  clean_panic : ∀ l, clean l → clean (O.panic l)
  cur_panic : ∀ l, O.cur (O.panic l) = O.cur l
  tok_withTok : ∀ p tp, O.tok (O.withTok p tp) = tp
  withTok_withTok : ∀ p tp tp', O.withTok (O.withTok p tp) tp' = O.withTok p tp'
  tok_zero : O.tok O.zero = {}
  okTok_new : ∀ b, okTok b {}
  okTok_grows : ∀ b s p, okTok b p → okTok (b ++ s) p
  okTok_post : ∀ b o p flags o' e p', o ≤ b.size → okTok b p → parseTokenParam b o p flags = (o', e, p') → okTok b p'
  fin_grows : ∀ b s tp, okTok b tp → O.fin (b ++ s) tp = O.fin b tp

section
variable {L ε : Type} {O : SlotOps L ε}

/-- with a clean list the loop's progress guard always holds -/
theorem slotLoop_guard (hL : SlotLaws O) {b : Buf} {offs : Nat} {l : L} {flags next : Nat} {tp : PTokParam}
    (hcl : hL.clean l) (ho : offs ≤ b.size)
    (hp : parseTokenParam b offs (O.tok (O.cur l)) flags = (next, .moreValues, tp)) (x : ε) :
    next ≤ b.size ∧ (offs < next ∨ (offs = next ∧ (O.tok (O.cur l)).state = .fNxt ∧
      (O.tok (O.cur (O.next l x))).state ≠ .fNxt)) := by
  have hr := parseTokenParam_facts b offs _ flags hp
  refine ⟨(hr.2 ho).2.1, ?_⟩
  rcases Nat.lt_or_ge offs next with h | h
  · exact Or.inl h
  · have : next = offs := by have := (hr.2 ho).1; omega
    subst this
    refine Or.inr ⟨rfl, hr.1 rfl rfl, ?_⟩
    rw [(hL.clean_next l x hcl).2, hL.tok_zero]
    intro hh; cases hh

theorem slotLoop_mv_clean (hL : SlotLaws O) {b : Buf} {offs : Nat} {l : L} {flags vNo next : Nat} {tp : PTokParam} {x : ε}
    (hcl : hL.clean l) (ho : offs ≤ b.size)
    (hp : parseTokenParam b offs (O.tok (O.cur l)) flags = (next, .moreValues, tp)) (hg : O.fin b tp = some x) :
    slotLoop O b offs l flags vNo = slotLoop O b next (O.next l x) flags (vNo + 1) := by
  rw [slotLoop_mv hp hg, if_pos (slotLoop_guard hL hcl ho hp _)]

/-- a list of elements as the loop sees it on a clean object whose current slot is a zero value: every element but the
    last is reported with `MoreValues` (and the offset moves forward, inside the buffer), the last one with `OK` or
    `EOH`; `fin` makes the element of each reported object -/
inductive SlotSeq (O : SlotOps L ε) (b : Buf) (flags : Nat) : Nat → List ε → Nat → Err → Prop
  | last (o next : Nat) (e : Err) (tp : PTokParam) (x : ε) : parseTokenParam b o {} flags = (next, e, tp) →
      (e = .ok ∨ e = .eoh) → O.fin b tp = some x → SlotSeq O b flags o [x] next e
  | cons (o next : Nat) (tp : PTokParam) (x : ε) (rest : List ε) (o' : Nat) (e : Err) :
      parseTokenParam b o {} flags = (next, .moreValues, tp) → O.fin b tp = some x → o < next → next ≤ b.size →
      SlotSeq O b flags next rest o' e → SlotSeq O b flags o (x :: rest) o' e

/-- **the loop on such a list**: offset and verdict of the last element, one more value counted per element, every
    element stored in order -/
theorem slotLoop_seq (hL : SlotLaws O) {b : Buf} {flags o o' : Nat} {e : Err} {items : List ε}
    (H : SlotSeq O b flags o items o' e) :
    ∀ (l : L) (vNo : Nat), hL.clean l → O.cur l = O.zero →
      slotLoop O b o l flags vNo = (o', vNo + items.length, e, items.foldl O.next l) := by
  induction H with
  | last o next e tp x hp he hg =>
    intro l vNo _ hz
    rw [slotLoop_eq_last (by rw [hz, hL.tok_zero]; exact hp) he hg]; rfl
  | cons o next tp x rest o' e hp hg hlt hle _ ih =>
    intro l vNo hcl hz
    rw [slotLoop_mv (by rw [hz, hL.tok_zero]; exact hp) hg, if_pos ⟨hle, Or.inl hlt⟩,
      ih _ _ (hL.clean_next l x hcl).1 (hL.clean_next l x hcl).2]
    simp only [List.length_cons, List.foldl_cons]
    rw [show vNo + 1 + rest.length = vNo + (rest.length + 1) by omega]

/-- on a clean list the loop never takes the model-only exit (the progress guard holds, and ParseTokenParam does not
    report it) -/
theorem slotLoop_ne_lbug (hL : SlotLaws O) (b : Buf) (flags offs : Nat) (l : L) (vNo : Nat) :
    hL.clean l → offs ≤ b.size → (slotLoop O b offs l flags vNo).2.2.1 ≠ .lbug :=
  slotLoop_cases O b flags (fun offs l _ r => hL.clean l → offs ≤ b.size → r.2.2.1 ≠ .lbug)
    (more := fun _ _ _ _ _ _ _ _ => nofun)
    (other := fun offs l _ next e tp hp _ _ _ _ => by
      have := parseTokenParam_verdicts b offs (O.tok (O.cur l)) flags
      rw [hp] at this
      exact ne_of_verdicts this (by decide))
    (panic := fun _ _ _ _ _ _ _ he _ _ _ => by rcases he with rfl | rfl | rfl <;> nofun)
    (last := fun _ _ _ _ _ _ _ _ he _ _ _ => by rcases he with rfl | rfl <;> nofun)
    (lbug := fun _ _ _ _ _ x hp _ hgd hcl ho => absurd (slotLoop_guard hL hcl ho hp x) hgd)
    (step := fun _ l _ _ _ x _ _ _ hgd ih hcl _ => ih (hL.clean_next l x hcl).1 hgd.1) offs l vNo

/-- legitimacy of a list object for buffer `b` -/
def slotOK (hL : SlotLaws O) (b : Buf) (l : L) : Prop := hL.okTok b (O.tok (O.cur l)) ∧ hL.clean l

theorem slotOK_next (hL : SlotLaws O) (b : Buf) {l : L} (x : ε) (h : hL.clean l) : slotOK hL b (O.next l x) :=
  ⟨by rw [(hL.clean_next l x h).2, hL.tok_zero]; exact hL.okTok_new b, (hL.clean_next l x h).1⟩

/-- **L1 for the loop**, the later call made with `f'` -/
theorem slotLoop_stable (hL : SlotLaws O) (b s : Buf) (f f' : Nat) (hf : hasFlag f POptInputEndF = false)
    (hff : SameButEnd f f') (offs : Nat) (l : L) (vNo : Nat) (hok : slotOK hL b l) (ho : offs ≤ b.size)
    {o' n' : Nat} {e : Err} {l' : L}
    (hr : slotLoop O b offs l f vNo = (o', n', e, l')) (he : e ≠ .moreBytes) :
    slotLoop O (b ++ s) offs l f' vNo = (o', n', e, l') := by
  revert hok ho hr
  induction offs, l, vNo using slotLoop_induct O b f with
  | step offs l vNo ih =>
    intro hok ho hr
    have hoB : offs ≤ (b ++ s).size := by rw [Array.size_append]; omega
    rcases hp : parseTokenParam b offs (O.tok (O.cur l)) f with ⟨next, e1, tp⟩
    by_cases hm : e1 = .moreBytes
    · subst hm
      rw [slotLoop_eq_more hp] at hr; cases hr; exact absurd rfl he
    · have hpB := parseTokenParam_stable2 b s offs _ f f' hf hff hp hm
      have hgB : O.fin (b ++ s) tp = O.fin b tp := hL.fin_grows b s tp (hL.okTok_post _ _ _ _ _ _ _ ho hok.1 hp)
      by_cases hc : e1 = .ok ∨ e1 = .moreValues ∨ e1 = .eoh
      · cases hg : O.fin b tp with
        | none =>
          rw [slotLoop_panic hp hc hg] at hr
          rw [slotLoop_panic hpB hc (hgB.trans hg)]; exact hr
        | some x =>
          rcases acc_split hc with rfl | he
          · have hgd := slotLoop_guard hL hok.2 ho hp x
            rw [slotLoop_mv_clean hL hok.2 ho hp hg] at hr
            rw [slotLoop_mv_clean hL hok.2 hoB hpB (hgB.trans hg)]
            exact ih next tp x hp hg hgd (slotOK_next hL b x hok.2) hgd.1 hr
          · rw [slotLoop_eq_last hp he hg] at hr
            rw [slotLoop_eq_last hpB he (hgB.trans hg)]; exact hr
      · rw [slotLoop_other hp hc hm] at hr
        rw [slotLoop_other hpB hc hm]; exact hr

/-- re-entering the loop with the suspended element in place: the first token-parameter call decides -/
theorem slotLoop_reenter (hL : SlotLaws O) (B : Buf) (flags : Nat) (offs o' : Nat) (l : L) (tp : PTokParam) (vNo : Nat)
    (hcl : hL.clean l) (ho : offs ≤ B.size) (ho' : o' ≤ B.size)
    (hpe : parseTokenParam B o' tp flags = parseTokenParam B offs (O.tok (O.cur l)) flags) :
    slotLoop O B o' (O.setCur l (O.withTok (O.cur l) tp)) flags vNo = slotLoop O B offs l flags vNo := by
  rcases h2 : parseTokenParam B offs (O.tok (O.cur l)) flags with ⟨n2, e2, tp2⟩
  have h1 : parseTokenParam B o' (O.tok (O.cur (O.setCur l (O.withTok (O.cur l) tp)))) flags = (n2, e2, tp2) := by
    rw [hL.cur_setCur, hL.tok_withTok, hpe, h2]
  have hcl' := hL.clean_setCur l (O.withTok (O.cur l) tp) hcl
  have hobj : O.withTok (O.cur (O.setCur l (O.withTok (O.cur l) tp))) tp2 = O.withTok (O.cur l) tp2 := by
    rw [hL.cur_setCur, hL.withTok_withTok]
  by_cases hm : e2 = .moreBytes
  · subst hm
    rw [slotLoop_eq_more h1, slotLoop_eq_more h2, hL.setCur_setCur, hobj]
  · by_cases hc : e2 = .ok ∨ e2 = .moreValues ∨ e2 = .eoh
    · cases hg : O.fin B tp2 with
      | none => rw [slotLoop_panic h1 hc hg, slotLoop_panic h2 hc hg, hL.setCur_setCur, hobj]
      | some x =>
        rcases acc_split hc with rfl | he
        · rw [slotLoop_mv_clean hL hcl' ho' h1 hg, slotLoop_mv_clean hL hcl ho h2 hg, hL.next_setCur]
        · rw [slotLoop_eq_last h1 he hg, slotLoop_eq_last h2 he hg, hL.next_setCur]
    · rw [slotLoop_other h1 hc hm, slotLoop_other h2 hc hm, hL.setCur_setCur]

/-- **L2 for the loop**, the resumed call made with `f'`: exact equality of the results (offset, number of values,
    verdict, object); the suspended object is legitimate again -/
theorem slotLoop_resume (hL : SlotLaws O) (b s : Buf) (f f' : Nat) (hf : hasFlag f POptInputEndF = false)
    (hff : SameButEnd f f') (offs : Nat) (l : L) (vNo : Nat) (hok : slotOK hL b l) (ho : offs ≤ b.size)
    {o' n' : Nat} {l' : L}
    (hr : slotLoop O b offs l f vNo = (o', n', Err.moreBytes, l')) :
    slotLoop O (b ++ s) o' l' f' n' = slotLoop O (b ++ s) offs l f' vNo ∧
      slotOK hL (b ++ s) l' ∧ offs ≤ o' ∧ o' ≤ b.size ∧ (O.tok (O.cur l')).state ≠ .fin := by
  revert hok ho hr
  induction offs, l, vNo using slotLoop_induct O b f with
  | step offs l vNo ih =>
    intro hok ho hr
    have hsz : b.size ≤ (b ++ s).size := by rw [Array.size_append]; omega
    have hoB : offs ≤ (b ++ s).size := by omega
    rcases hp : parseTokenParam b offs (O.tok (O.cur l)) f with ⟨next, e1, tp⟩
    have hrg := (parseTokenParam_facts b offs _ f hp).2 ho
    have hokT := hL.okTok_post _ _ _ _ _ _ _ ho hok.1 hp
    by_cases hm : e1 = .moreBytes
    · subst hm
      rw [slotLoop_eq_more hp] at hr
      simp only [Prod.mk.injEq, true_and] at hr
      obtain ⟨rfl, rfl, rfl⟩ := hr
      have hres := parseTokenParam_resume2 b s offs _ f f' hf hff hp
      have hmore := parseTokenParam_more b offs _ f hp
      refine ⟨slotLoop_reenter hL (b ++ s) f' offs next l tp vNo hok.2 hoB (by omega) hres, ?_, hrg.1, hrg.2.1, ?_⟩
      · exact ⟨by rw [hL.cur_setCur, hL.tok_withTok]; exact hL.okTok_grows b s _ hokT, hL.clean_setCur _ _ hok.2⟩
      · rw [hL.cur_setCur, hL.tok_withTok]; exact hmore.2
    · have hpB := parseTokenParam_stable2 b s offs _ f f' hf hff hp hm
      have hgB : O.fin (b ++ s) tp = O.fin b tp := hL.fin_grows b s tp hokT
      have hne : ∀ {r : Nat × Nat × Err × L}, r.2.2.1 = e1 → r ≠ (o', n', Err.moreBytes, l') :=
        fun h1 h2 => hm (by rw [← h1, h2])
      by_cases hc : e1 = .ok ∨ e1 = .moreValues ∨ e1 = .eoh
      · cases hg : O.fin b tp with
        | none => rw [slotLoop_panic hp hc hg] at hr; exact absurd hr (hne rfl)
        | some x =>
          rcases acc_split hc with rfl | he
          · have hgd := slotLoop_guard hL hok.2 ho hp x
            rw [slotLoop_mv_clean hL hok.2 ho hp hg] at hr
            have := ih next tp x hp hg hgd (slotOK_next hL b x hok.2) hgd.1 hr
            refine ⟨?_, this.2.1, by have := this.2.2.1; omega, this.2.2.2.1, this.2.2.2.2⟩
            rw [slotLoop_mv_clean hL hok.2 hoB hpB (hgB.trans hg)]
            exact this.1
          · rw [slotLoop_eq_last hp he hg] at hr; exact absurd hr (hne rfl)
      · rw [slotLoop_other hp hc hm] at hr; exact absurd hr (hne rfl)

/-- the counter of values is only passed along -/
theorem slotLoop_vNo (O : SlotOps L ε) (b : Buf) (flags offs : Nat) (l : L) (vNo : Nat) :
    slotLoop O b offs l flags vNo =
      ((slotLoop O b offs l flags 0).1, vNo + (slotLoop O b offs l flags 0).2.1,
       (slotLoop O b offs l flags 0).2.2) := by
  have key : ∀ offs l vNo, ∀ k, slotLoop O b offs l flags (vNo + k) =
      ((slotLoop O b offs l flags vNo).1, (slotLoop O b offs l flags vNo).2.1 + k,
       (slotLoop O b offs l flags vNo).2.2) := by
    intro offs l vNo
    induction offs, l, vNo using slotLoop_induct O b flags with
    | step offs l vNo ih =>
      intro k
      rcases hp : parseTokenParam b offs (O.tok (O.cur l)) flags with ⟨next, e1, tp⟩
      by_cases hm : e1 = .moreBytes
      · subst hm; rw [slotLoop_eq_more hp, slotLoop_eq_more hp]
      · by_cases hc : e1 = .ok ∨ e1 = .moreValues ∨ e1 = .eoh
        · cases hg : O.fin b tp with
          | none => rw [slotLoop_panic hp hc hg, slotLoop_panic hp hc hg]
          | some x =>
            rcases acc_split hc with rfl | he
            · rw [slotLoop_mv hp hg, slotLoop_mv hp hg]
              split
              · rename_i hgd
                have := ih next tp x hp hg hgd k
                rw [show vNo + k + 1 = vNo + 1 + k by omega]
                exact this
              · simp only [Prod.mk.injEq, true_and, and_true]; omega
            · rw [slotLoop_eq_last hp he hg, slotLoop_eq_last hp he hg]
              simp only [Prod.mk.injEq, true_and, and_true]; omega
        · rw [slotLoop_other hp hc hm, slotLoop_other hp hc hm]
  have := key offs l 0 vNo
  rw [Nat.zero_add] at this
  rw [this, Nat.add_comm]

/-- **L2 for the top-level call** (counter restarted at 0), the resumed call made with `f'`: after `MoreBytes` (with
    `n'` values parsed so far) at `(o', l')`, the call on the extended buffer with `(o', l')` returns the offset, the
    verdict and the very list object of the call on the extended buffer from `(offs, l)`; the numbers of values
    parsed add up. -/
theorem slotLoop_resume0 (hL : SlotLaws O) (b s : Buf) (f f' : Nat) (hf : hasFlag f POptInputEndF = false)
    (hff : SameButEnd f f') (offs : Nat) (l : L) (hok : slotOK hL b l) (ho : offs ≤ b.size)
    {o' n' : Nat} {l' : L} (hr : slotLoop O b offs l f 0 = (o', n', Err.moreBytes, l')) :
    ((slotLoop O (b ++ s) o' l' f' 0).1 = (slotLoop O (b ++ s) offs l f' 0).1 ∧
     n' + (slotLoop O (b ++ s) o' l' f' 0).2.1 = (slotLoop O (b ++ s) offs l f' 0).2.1 ∧
     (slotLoop O (b ++ s) o' l' f' 0).2.2 = (slotLoop O (b ++ s) offs l f' 0).2.2) ∧
    slotOK hL (b ++ s) l' ∧ offs ≤ o' ∧ o' ≤ b.size ∧ (O.tok (O.cur l')).state ≠ .fin := by
  have := slotLoop_resume hL b s f f' hf hff offs l 0 hok ho hr
  refine ⟨?_, this.2⟩
  rw [← this.1, slotLoop_vNo O (b ++ s) _ o' l' n']
  exact ⟨rfl, rfl, rfl⟩

/-- a relation between list objects that the loop keeps -/
structure SlotRel (hL : SlotLaws O) (R : L → L → Prop) : Prop where
  cur : ∀ {l1 l2}, R l1 l2 → O.cur l1 = O.cur l2
  clean : ∀ {l1 l2}, R l1 l2 → hL.clean l1 ∧ hL.clean l2
  setCur : ∀ {l1 l2} p, R l1 l2 → R (O.setCur l1 p) (O.setCur l2 p)
  next : ∀ {l1 l2} x, R l1 l2 → R (O.next l1 x) (O.next l2 x)
  panic : ∀ {l1 l2}, R l1 l2 → R (O.panic l1) (O.panic l2)

/-- **the loop does the same on related objects**: same offset, same number of values, same verdict, and the objects
    stay related -/
theorem slotLoop_rel (hL : SlotLaws O) {R : L → L → Prop} (hR : SlotRel hL R) (b : Buf) (flags offs : Nat) (l1 l2 : L)
    (vNo : Nat) (h : R l1 l2) :
    (slotLoop O b offs l1 flags vNo).1 = (slotLoop O b offs l2 flags vNo).1 ∧
    (slotLoop O b offs l1 flags vNo).2.1 = (slotLoop O b offs l2 flags vNo).2.1 ∧
    (slotLoop O b offs l1 flags vNo).2.2.1 = (slotLoop O b offs l2 flags vNo).2.2.1 ∧
    R (slotLoop O b offs l1 flags vNo).2.2.2 (slotLoop O b offs l2 flags vNo).2.2.2 := by
  revert l2
  induction offs, l1, vNo using slotLoop_induct O b flags with
  | step offs l1 vNo ih =>
    intro l2 h
    rcases hp : parseTokenParam b offs (O.tok (O.cur l1)) flags with ⟨next, e1, tp⟩
    have hp2 : parseTokenParam b offs (O.tok (O.cur l2)) flags = (next, e1, tp) := by rw [← hR.cur h]; exact hp
    by_cases hm : e1 = .moreBytes
    · subst hm
      rw [slotLoop_eq_more hp, slotLoop_eq_more hp2, ← hR.cur h]
      exact ⟨rfl, rfl, rfl, hR.setCur _ h⟩
    · by_cases hc : e1 = .ok ∨ e1 = .moreValues ∨ e1 = .eoh
      · cases hg : O.fin b tp with
        | none =>
          rw [slotLoop_panic hp hc hg, slotLoop_panic hp2 hc hg, ← hR.cur h]
          exact ⟨rfl, rfl, rfl, hR.panic (hR.setCur _ h)⟩
        | some x =>
          rcases acc_split hc with rfl | he
          · rw [slotLoop_mv hp hg, slotLoop_mv hp2 hg, ← hR.cur h,
              (hL.clean_next l1 x (hR.clean h).1).2, (hL.clean_next l2 x (hR.clean h).2).2]
            split
            · rename_i hgd
              rw [← (hL.clean_next l1 x (hR.clean h).1).2] at hgd
              exact ih next tp x hp hg hgd _ (hR.next _ h)
            · exact ⟨rfl, rfl, rfl, hR.next _ h⟩
          · rw [slotLoop_eq_last hp he hg, slotLoop_eq_last hp2 he hg]
            exact ⟨rfl, rfl, rfl, hR.next _ h⟩
      · rw [slotLoop_other hp hc hm, slotLoop_other hp2 hc hm]
        exact ⟨rfl, rfl, rfl, hR.setCur _ h⟩

/-- every call returns a legitimate object (whatever the verdict) and an offset in `[offs, len(buf)]` -/
theorem slotLoop_post (hL : SlotLaws O) (b : Buf) (flags offs : Nat) (l : L) (vNo : Nat) (hok : slotOK hL b l)
    (ho : offs ≤ b.size) :
    slotOK hL b (slotLoop O b offs l flags vNo).2.2.2 ∧ offs ≤ (slotLoop O b offs l flags vNo).1 ∧
      (slotLoop O b offs l flags vNo).1 ≤ b.size := by
  revert hok ho
  induction offs, l, vNo using slotLoop_induct O b flags with
  | step offs l vNo ih =>
    intro hok ho
    rcases hp : parseTokenParam b offs (O.tok (O.cur l)) flags with ⟨next, e1, tp⟩
    have hrg := (parseTokenParam_facts b offs _ flags hp).2 ho
    have hset : slotOK hL b (O.setCur l (O.withTok (O.cur l) tp)) :=
      ⟨by rw [hL.cur_setCur, hL.tok_withTok]; exact hL.okTok_post _ _ _ _ _ _ _ ho hok.1 hp, hL.clean_setCur _ _ hok.2⟩
    by_cases hm : e1 = .moreBytes
    · subst hm; rw [slotLoop_eq_more hp]; exact ⟨hset, hrg.1, hrg.2.1⟩
    · by_cases hc : e1 = .ok ∨ e1 = .moreValues ∨ e1 = .eoh
      · cases hg : O.fin b tp with
        | none =>
          rw [slotLoop_panic hp hc hg]
          exact ⟨⟨by rw [hL.cur_panic]; exact hset.1, hL.clean_panic _ hset.2⟩, hrg.1, hrg.2.1⟩
        | some x =>
          rcases acc_split hc with rfl | he
          · have hgd := slotLoop_guard hL hok.2 ho hp x
            rw [slotLoop_mv_clean hL hok.2 ho hp hg]
            have := ih next tp x hp hg hgd (slotOK_next hL b x hok.2) hgd.1
            exact ⟨this.1, by have := this.2.1; have := hrg.1; omega, this.2.2⟩
          · rw [slotLoop_eq_last hp he hg]; exact ⟨slotOK_next hL b x hok.2, hrg.1, hrg.2.1⟩
      · rw [slotLoop_other hp hc hm]
        exact ⟨⟨by rw [hL.cur_setCur, hL.tok_zero]; exact hL.okTok_new b, hL.clean_setCur _ _ hok.2⟩, hrg.1, hrg.2.1⟩

end

/-! ### the URI-parameter list object -/

theorem pSetCur_n (l : URIParamsLst) (p : URIParam) : (l.setCur p).n = l.n := by
  unfold URIParamsLst.setCur; split <;> rfl
theorem pSetCur_size (l : URIParamsLst) (p : URIParam) : (l.setCur p).params.size = l.params.size := by
  unfold URIParamsLst.setCur; split
  · simp
  · rfl
theorem pSetCur_types (l : URIParamsLst) (p : URIParam) : (l.setCur p).types = l.types := by
  unfold URIParamsLst.setCur; split <;> rfl
theorem pSetCur_pnc (l : URIParamsLst) (p : URIParam) : (l.setCur p).pnc = l.pnc := by
  unfold URIParamsLst.setCur; split <;> rfl
theorem pSetCur_get_ne (l : URIParamsLst) (p : URIParam) (k : Nat) (hk : l.n ≠ k) :
    (l.setCur p).params[k]! = l.params[k]! := by
  unfold URIParamsLst.setCur; split
  · simp [Array.getElem!_eq_getD, Array.getD_eq_getD_getElem?, Array.getElem?_setIfInBounds_ne hk]
  · rfl
theorem pSetCur_tmp_in (l : URIParamsLst) (p : URIParam) (h : l.n < l.params.size) : (l.setCur p).tmp = l.tmp := by
  unfold URIParamsLst.setCur; rw [if_pos h]
theorem pSetCur_tmp_out (l : URIParamsLst) (p : URIParam) (h : ¬ l.n < l.params.size) : (l.setCur p).tmp = p := by
  unfold URIParamsLst.setCur; rw [if_neg h]
theorem pSetCur_params_out (l : URIParamsLst) (p : URIParam) (h : ¬ l.n < l.params.size) :
    (l.setCur p).params = l.params := by
  unfold URIParamsLst.setCur; rw [if_neg h]

theorem pSetCur_cur (l : URIParamsLst) (p : URIParam) : (l.setCur p).cur = p := by
  rw [← pSlots_cur, pSlots_setCur]; exact SlotArr.cur_setCur _ p

theorem pSetCur_get_n (l : URIParamsLst) (p : URIParam) (h : l.n < l.params.size) :
    (l.setCur p).params[l.n]! = p := by
  have := pSetCur_cur l p
  unfold URIParamsLst.cur at this
  rw [pSetCur_n, pSetCur_size, if_pos h] at this
  exact this

theorem pSetCur_setCur (l : URIParamsLst) (p q : URIParam) : (l.setCur p).setCur q = l.setCur q := by
  unfold URIParamsLst.setCur
  split
  · rename_i h
    have h' : l.n < (l.params.set! l.n p).size := by simpa using h
    simp only [h', ↓reduceIte]
    simp [Array.setIfInBounds_setIfInBounds]
  · rfl

theorem pSetCur_self (l : URIParamsLst) : l.setCur l.cur = l := by
  unfold URIParamsLst.setCur URIParamsLst.cur
  split <;> rename_i h
  · rw [set!_getElem!_self _ _ h]
  · rfl


/-! the exits of the loop that store no finished element -/

section
variable {b : Buf} {offs : Nat} {l : URIParamsLst} {flags vNo next : Nat} {e : Err} {tp : PTokParam}

theorem uriParamsLoop_eq_more (hp : parseTokenParam b offs l.cur.param flags = (next, .moreBytes, tp)) :
    uriParamsLoop b offs l flags vNo = (next, vNo, .moreBytes, l.setCur { l.cur with param := tp }) := by
  rw [uriParamsLoop_eq, hp]; rfl

theorem uriParamsLoop_err (hp : parseTokenParam b offs l.cur.param flags = (next, e, tp))
    (h1 : e ≠ .ok) (h2 : e ≠ .moreValues) (h3 : e ≠ .eoh) (h4 : e ≠ .moreBytes) :
    uriParamsLoop b offs l flags vNo = (next, vNo, e, l.setCur {}) := by
  rw [uriParamsLoop_eq, hp]
  cases e <;> first | rfl | exact absurd rfl h1 | exact absurd rfl h2 | exact absurd rfl h3 | exact absurd rfl h4

theorem uriParamsLoop_panic (hp : parseTokenParam b offs l.cur.param flags = (next, e, tp))
    (he : e = .ok ∨ e = .moreValues ∨ e = .eoh) (hg : tp.name.get? b = none) :
    uriParamsLoop b offs l flags vNo = (next, vNo, e, { l.setCur { l.cur with param := tp } with pnc := true }) := by
  rw [uriParamsLoop_eq, hp]
  rcases he with rfl | rfl | rfl <;> simp only [hg] <;> rfl

end

theorem pNext_n (l : URIParamsLst) (tp : PTokParam) (t : Nat) : (l.next tp t).n = l.n + 1 := by
  unfold URIParamsLst.next; split <;> simp only [pSetCur_n]
theorem pNext_size (l : URIParamsLst) (tp : PTokParam) (t : Nat) : (l.next tp t).params.size = l.params.size := by
  unfold URIParamsLst.next; split <;> simp only [pSetCur_size]
theorem pNext_types (l : URIParamsLst) (tp : PTokParam) (t : Nat) : (l.next tp t).types = l.types ||| t := by
  unfold URIParamsLst.next; split <;> simp only [pSetCur_types]
theorem pNext_pnc (l : URIParamsLst) (tp : PTokParam) (t : Nat) : (l.next tp t).pnc = l.pnc := by
  unfold URIParamsLst.next; split <;> simp only [pSetCur_pnc]
theorem pNext_params (l : URIParamsLst) (tp : PTokParam) (t : Nat) :
    (l.next tp t).params = (l.setCur { param := tp, t := t }).params := by
  unfold URIParamsLst.next; split <;> rfl

theorem pNext_setCur (l : URIParamsLst) (p : URIParam) (tp : PTokParam) (t : Nat) :
    (l.setCur p).next tp t = l.next tp t := by
  unfold URIParamsLst.next
  rw [pSetCur_setCur, pSetCur_n, pSetCur_size]

/-- unused slots (and the scratch slot while the array is not full) hold zero values -/
def plClean (l : URIParamsLst) : Prop :=
  (∀ k, l.n < k → k < l.params.size → l.params[k]! = {}) ∧ (l.n < l.params.size → l.tmp = {})

theorem plClean_slots (l : URIParamsLst) : plClean l ↔ SlotArr.Clean {} l.slots := Iff.rfl

theorem plClean_setCur {l : URIParamsLst} (p : URIParam) (h : plClean l) : plClean (l.setCur p) := by
  rw [plClean_slots, pSlots_setCur]; exact SlotArr.Clean.setCur p h

theorem plClean_pnc {l : URIParamsLst} (v : Bool) (h : plClean l) : plClean { l with pnc := v } := h

theorem plClean_next {l : URIParamsLst} (tp : PTokParam) (t : Nat) (h : plClean l) :
    plClean (l.next tp t) ∧ (l.next tp t).cur = {} := by
  rw [plClean_slots, ← pSlots_cur, pSlots_next]; exact ⟨SlotArr.Clean.push _ h, SlotArr.Clean.cur_push _ h⟩

/-- legitimacy of a URI-parameter list for buffer `b`: clean, and the current element is a legitimate
    token-parameter object -/
def plOK (b : Buf) (l : URIParamsLst) : Prop := tpOK b l.cur.param ∧ plClean l

theorem plOK_grows {b : Buf} (s : Buf) {l : URIParamsLst} (h : plOK b l) : plOK (b ++ s) l :=
  ⟨tpOK_grows s h.1, h.2⟩

def pLaws : SlotLaws pOps where
  clean := plClean
  okTok := tpOK
  cur_setCur := pSetCur_cur
  setCur_setCur := pSetCur_setCur
  setCur_cur := pSetCur_self
  next_setCur := fun l p x => pNext_setCur l p x.param x.t
  clean_setCur := fun _ p h => plClean_setCur p h
  clean_next := fun _ x h => plClean_next x.param x.t h
  clean_panic := fun _ h => h
  cur_panic := fun _ => rfl
  tok_withTok := fun _ _ => rfl
  withTok_withTok := fun _ _ _ => rfl
  tok_zero := rfl
  okTok_new := tpOK_new
  okTok_grows := fun _ s _ h => tpOK_grows s h
  okTok_post := fun b o p flags _ _ _ ho hok h => ((parseTokenParam_facts b o p flags h).2 ho).2.2 hok
  fin_grows := fun b s tp h => by
    show (tp.name.get? (b ++ s)).map _ = (tp.name.get? b).map _
    rw [PField.get?_app _ b s h.2]


theorem hasFlag_semiSep (flags : Nat) :
    hasFlag (flags ||| POptParamSemiSepF) POptInputEndF = hasFlag flags POptInputEndF := by
  unfold hasFlag POptParamSemiSepF POptInputEndF
  rw [Nat.and_or_distrib_right]
  simp

theorem hasFlag_uriHdr (flags : Nat) :
    hasFlag (flags ||| POptParamAmpSepF ||| POptTokURIHdrF) POptInputEndF = hasFlag flags POptInputEndF := by
  unfold hasFlag POptParamAmpSepF POptTokURIHdrF POptInputEndF
  rw [Nat.and_or_distrib_right, Nat.and_or_distrib_right]
  simp

theorem parseAllURIParams_stable2 (b s : Buf) (offs : Nat) (l : URIParamsLst) (f f' : Nat)
    (hf : hasFlag f POptInputEndF = false) (hff : SameButEnd f f') (hok : plOK b l) (ho : offs ≤ b.size)
    {o' n' : Nat} {e : Err} {l' : URIParamsLst}
    (hr : parseAllURIParams b offs l f = (o', n', e, l')) (he : e ≠ .moreBytes) :
    parseAllURIParams (b ++ s) offs l f' = (o', n', e, l') := by
  unfold parseAllURIParams at hr ⊢
  rw [uriParamsLoop_slot] at hr ⊢
  exact slotLoop_stable pLaws b s _ _ (by rw [hasFlag_semiSep]; exact hf) (hff.or _) offs l 0 hok ho hr he

/-- **L1 for ParseAllURIParams**: a definitive result (offset, number of values, verdict, list object) does not
    change when bytes are appended -/
theorem parseAllURIParams_stable (b s : Buf) (offs : Nat) (l : URIParamsLst) (flags : Nat)
    (hf : hasFlag flags POptInputEndF = false) (hok : plOK b l) (ho : offs ≤ b.size)
    {o' n' : Nat} {e : Err} {l' : URIParamsLst}
    (hr : parseAllURIParams b offs l flags = (o', n', e, l')) (he : e ≠ .moreBytes) :
    parseAllURIParams (b ++ s) offs l flags = (o', n', e, l') :=
  parseAllURIParams_stable2 b s offs l flags flags hf (.refl _) hok ho hr he

/-! ### legitimate list objects: new and reset lists of any capacity -/

theorem clearUpToP_size {α : Type} [Inhabited α] (a : Array α) (z : α) (n : Nat) : (clearUpToP a z n).size = a.size :=
  foldl_setz_size z _ a

theorem clearUpToP_get {α : Type} [Inhabited α] (a : Array α) (z : α) (n k : Nat) (hk : k < a.size) :
    (clearUpToP a z n)[k]! = if k ≤ n then z else a[k]! := by
  have hs : k < (clearUpToP a z n).size := by rw [clearUpToP_size]; exact hk
  rw [getElem!_pos _ k hs, getElem!_pos a k hk]
  refine (foldl_setz_get z (List.range (min (n + 1) a.size)) a k hk).trans ?_
  simp only [List.mem_range]
  by_cases h : k ≤ n
  · rw [if_pos h, if_pos (by omega)]
  · rw [if_neg h, if_neg (by omega)]

theorem plOK_new (b : Buf) (k : Nat) : plOK b ({ params := Array.replicate k {} } : URIParamsLst) :=
  have hcur : ({ params := Array.replicate k {} } : URIParamsLst).cur = {} := SlotArr.cur_replicate ({} : URIParam) k
  ⟨by rw [hcur]; exact tpOK_new b, SlotArr.clean_replicate ({} : URIParam) k⟩

theorem plClean_reset_get {l : URIParamsLst} (h : plClean l) (j : Nat) (hj : j < l.params.size) :
    l.reset.params[j]! = {} := by
  rw [uriParams_reset_eq_new l ((plClean_slots l).1 h).tailZero]; simp [hj]

theorem plClean_reset_cur {l : URIParamsLst} (h : plClean l) : l.reset.cur = {} := by
  rw [uriParams_reset_eq_new l ((plClean_slots l).1 h).tailZero]; exact SlotArr.cur_replicate ({} : URIParam) _

/-- `Reset()` of a clean list (whatever it holds in the used slots) is a legitimate empty list -/
theorem plOK_reset (b : Buf) {l : URIParamsLst} (h : plClean l) : plOK b l.reset ∧ l.reset.n = 0 := by
  rw [uriParams_reset_eq_new l ((plClean_slots l).1 h).tailZero]; exact ⟨plOK_new b _, rfl⟩


/-! ### URI-parameter list: L2 -/

/-- **L2 for ParseAllURIParams**, the resumed call made with `f'`: after `MoreBytes` (with `n'` values parsed so far)
    at `(o', l')`, the call on the extended buffer with `(o', l')` returns the offset, the verdict and the very list
    object of the call on the extended buffer from `(offs, l)`; the numbers of values parsed add up. -/
theorem parseAllURIParams_resume2 (b s : Buf) (offs : Nat) (l : URIParamsLst) (f f' : Nat)
    (hf : hasFlag f POptInputEndF = false) (hff : SameButEnd f f') (hok : plOK b l) (ho : offs ≤ b.size)
    {o' n' : Nat} {l' : URIParamsLst}
    (hr : parseAllURIParams b offs l f = (o', n', Err.moreBytes, l')) :
    ((parseAllURIParams (b ++ s) o' l' f').1 = (parseAllURIParams (b ++ s) offs l f').1 ∧
     n' + (parseAllURIParams (b ++ s) o' l' f').2.1 = (parseAllURIParams (b ++ s) offs l f').2.1 ∧
     (parseAllURIParams (b ++ s) o' l' f').2.2 = (parseAllURIParams (b ++ s) offs l f').2.2) ∧
    plOK (b ++ s) l' ∧ offs ≤ o' ∧ o' ≤ b.size ∧ l'.cur.param.state ≠ .fin := by
  unfold parseAllURIParams at hr ⊢
  rw [uriParamsLoop_slot] at hr
  rw [uriParamsLoop_slot, uriParamsLoop_slot]
  exact slotLoop_resume0 pLaws b s _ _ (by rw [hasFlag_semiSep]; exact hf) (hff.or _) offs l hok ho hr

/-- **L2 for ParseAllURIParams**: after `MoreBytes` (with `n'` values parsed so far) at `(o', l')`, the call on the
    extended buffer with `(o', l')` returns the offset, the verdict and the very list object of the call on the
    extended buffer from `(offs, l)`; the numbers of values parsed add up. -/
theorem parseAllURIParams_resume (b s : Buf) (offs : Nat) (l : URIParamsLst) (flags : Nat)
    (hf : hasFlag flags POptInputEndF = false) (hok : plOK b l) (ho : offs ≤ b.size)
    {o' n' : Nat} {l' : URIParamsLst}
    (hr : parseAllURIParams b offs l flags = (o', n', Err.moreBytes, l')) :
    ((parseAllURIParams (b ++ s) o' l' flags).1 = (parseAllURIParams (b ++ s) offs l flags).1 ∧
     n' + (parseAllURIParams (b ++ s) o' l' flags).2.1 = (parseAllURIParams (b ++ s) offs l flags).2.1 ∧
     (parseAllURIParams (b ++ s) o' l' flags).2.2 = (parseAllURIParams (b ++ s) offs l flags).2.2) ∧
    plOK (b ++ s) l' ∧ offs ≤ o' ∧ o' ≤ b.size ∧ l'.cur.param.state ≠ .fin :=
  parseAllURIParams_resume2 b s offs l flags flags hf (.refl _) hok ho hr


/-! ### URI-parameter list: the capacity of the array does not influence the parse -/

/-- two list objects (with possibly different capacities) that went through the same parse -/
structure PlRel (l1 l2 : URIParamsLst) : Prop where
  n : l1.n = l2.n
  types : l1.types = l2.types
  pnc : l1.pnc = l2.pnc
  cur : l1.cur = l2.cur
  agree : ∀ k, k < l1.n → k < l1.params.size → k < l2.params.size → l1.params[k]! = l2.params[k]!
  clean1 : plClean l1
  clean2 : plClean l2

theorem PlRel.slots {l1 l2 : URIParamsLst} (h : PlRel l1 l2) : SlotArr.Agree l1.slots l2.slots := ⟨h.n, h.agree⟩

theorem PlRel.setCur {l1 l2 : URIParamsLst} (h : PlRel l1 l2) (p : URIParam) : PlRel (l1.setCur p) (l2.setCur p) := by
  have ha : SlotArr.Agree (l1.setCur p).slots (l2.setCur p).slots := by
    rw [pSlots_setCur, pSlots_setCur]; exact h.slots.setCur p
  exact ⟨ha.1, by rw [pSetCur_types, pSetCur_types, h.types], by rw [pSetCur_pnc, pSetCur_pnc, h.pnc],
    by rw [pSetCur_cur, pSetCur_cur], ha.2, plClean_setCur p h.clean1, plClean_setCur p h.clean2⟩

theorem PlRel.setPnc {l1 l2 : URIParamsLst} (h : PlRel l1 l2) (v : Bool) :
    PlRel { l1 with pnc := v } { l2 with pnc := v } :=
  ⟨h.n, h.types, rfl, h.cur, h.agree, h.clean1, h.clean2⟩

theorem PlRel.next {l1 l2 : URIParamsLst} (h : PlRel l1 l2) (tp : PTokParam) (t : Nat) :
    PlRel (l1.next tp t) (l2.next tp t) := by
  have c1 := plClean_next tp t h.clean1
  have c2 := plClean_next tp t h.clean2
  have ha : SlotArr.Agree (l1.next tp t).slots (l2.next tp t).slots := by
    rw [pSlots_next, pSlots_next]; exact h.slots.push _ _
  exact ⟨ha.1, by rw [pNext_types, pNext_types, h.types], by rw [pNext_pnc, pNext_pnc, h.pnc], by rw [c1.2, c2.2],
    ha.2, c1.1, c2.1⟩

theorem PlRel.slotRel : SlotRel pLaws PlRel :=
  ⟨PlRel.cur, fun h => ⟨h.clean1, h.clean2⟩, fun p h => h.setCur p, fun x h => h.next x.param x.t, fun h => h.setPnc true⟩

theorem parseAllURIParams_rel (b : Buf) (offs : Nat) (l1 l2 : URIParamsLst) (flags : Nat) (h : PlRel l1 l2) :
    (parseAllURIParams b offs l1 flags).1 = (parseAllURIParams b offs l2 flags).1 ∧
    (parseAllURIParams b offs l1 flags).2.1 = (parseAllURIParams b offs l2 flags).2.1 ∧
    (parseAllURIParams b offs l1 flags).2.2.1 = (parseAllURIParams b offs l2 flags).2.2.1 ∧
    PlRel (parseAllURIParams b offs l1 flags).2.2.2 (parseAllURIParams b offs l2 flags).2.2.2 := by
  unfold parseAllURIParams
  rw [uriParamsLoop_slot, uriParamsLoop_slot]
  exact slotLoop_rel pLaws PlRel.slotRel b _ offs l1 l2 0 h

/-- new lists of any two capacities are related -/
theorem PlRel_new (k1 k2 : Nat) :
    PlRel ({ params := Array.replicate k1 {} } : URIParamsLst) ({ params := Array.replicate k2 {} } : URIParamsLst) :=
  ⟨rfl, rfl, rfl, (SlotArr.cur_replicate ({} : URIParam) k1).trans (SlotArr.cur_replicate ({} : URIParam) k2).symm,
    (fun k hk => by cases hk), (plOK_new #[] k1).2, (plOK_new #[] k2).2⟩

theorem PlRel_reset {l1 l2 : URIParamsLst} (h1 : plClean l1) (h2 : plClean l2) : PlRel l1.reset l2.reset :=
  ⟨rfl, rfl, rfl, by rw [plClean_reset_cur h1, plClean_reset_cur h2], (fun k hk => by cases hk), (plOK_reset #[] h1).1.2,
    (plOK_reset #[] h2).1.2⟩

/-! ### the URI-header list object -/

theorem hSetCur_n (l : URIHdrsLst) (p : PTokParam) : (l.setCur p).n = l.n := by
  unfold URIHdrsLst.setCur; split <;> rfl
theorem hSetCur_size (l : URIHdrsLst) (p : PTokParam) : (l.setCur p).hdrs.size = l.hdrs.size := by
  unfold URIHdrsLst.setCur; split
  · simp
  · rfl
theorem hSetCur_get_ne (l : URIHdrsLst) (p : PTokParam) (k : Nat) (hk : l.n ≠ k) :
    (l.setCur p).hdrs[k]! = l.hdrs[k]! := by
  unfold URIHdrsLst.setCur; split
  · simp [Array.getElem!_eq_getD, Array.getD_eq_getD_getElem?, Array.getElem?_setIfInBounds_ne hk]
  · rfl

theorem hSetCur_tmp_in (l : URIHdrsLst) (p : PTokParam) (h : l.n < l.hdrs.size) : (l.setCur p).tmp = l.tmp := by
  unfold URIHdrsLst.setCur; rw [if_pos h]
theorem hSetCur_tmp_out (l : URIHdrsLst) (p : PTokParam) (h : ¬ l.n < l.hdrs.size) : (l.setCur p).tmp = p := by
  unfold URIHdrsLst.setCur; rw [if_neg h]

theorem hSetCur_cur (l : URIHdrsLst) (p : PTokParam) : (l.setCur p).cur = p := by
  rw [← hSlots_cur, hSlots_setCur]; exact SlotArr.cur_setCur _ p

theorem hSetCur_get_n (l : URIHdrsLst) (p : PTokParam) (h : l.n < l.hdrs.size) :
    (l.setCur p).hdrs[l.n]! = p := by
  have := hSetCur_cur l p
  unfold URIHdrsLst.cur at this
  rw [hSetCur_n, hSetCur_size, if_pos h] at this
  exact this

theorem hSetCur_setCur (l : URIHdrsLst) (p q : PTokParam) : (l.setCur p).setCur q = l.setCur q := by
  unfold URIHdrsLst.setCur
  split
  · rename_i h
    have h' : l.n < (l.hdrs.set! l.n p).size := by simpa using h
    simp only [h', ↓reduceIte]
    simp [Array.setIfInBounds_setIfInBounds]
  · rfl

theorem hSetCur_self (l : URIHdrsLst) : l.setCur l.cur = l := by
  unfold URIHdrsLst.setCur URIHdrsLst.cur
  split <;> rename_i h
  · rw [set!_getElem!_self _ _ h]
  · rfl

section
variable {b : Buf} {offs : Nat} {l : URIHdrsLst} {flags vNo next : Nat} {e : Err} {tp : PTokParam}

theorem uriHdrsLoop_eq_more (hp : parseTokenParam b offs l.cur flags = (next, .moreBytes, tp)) :
    uriHdrsLoop b offs l flags vNo = (next, vNo, .moreBytes, l.setCur tp) := by
  rw [uriHdrsLoop_eq, hp]; rfl

theorem uriHdrsLoop_err (hp : parseTokenParam b offs l.cur flags = (next, e, tp))
    (h1 : e ≠ .ok) (h2 : e ≠ .moreValues) (h3 : e ≠ .eoh) (h4 : e ≠ .moreBytes) :
    uriHdrsLoop b offs l flags vNo = (next, vNo, e, l.setCur {}) := by
  rw [uriHdrsLoop_eq, hp]
  cases e <;> first | rfl | exact absurd rfl h1 | exact absurd rfl h2 | exact absurd rfl h3 | exact absurd rfl h4

end

theorem hNext_n (l : URIHdrsLst) (tp : PTokParam) : (l.next tp).n = l.n + 1 := by
  unfold URIHdrsLst.next; split <;> simp only [hSetCur_n]
theorem hNext_size (l : URIHdrsLst) (tp : PTokParam) : (l.next tp).hdrs.size = l.hdrs.size := by
  unfold URIHdrsLst.next; split <;> simp only [hSetCur_size]
theorem hNext_hdrs (l : URIHdrsLst) (tp : PTokParam) : (l.next tp).hdrs = (l.setCur tp).hdrs := by
  unfold URIHdrsLst.next; split <;> rfl

theorem hNext_setCur (l : URIHdrsLst) (p tp : PTokParam) : (l.setCur p).next tp = l.next tp := by
  unfold URIHdrsLst.next
  rw [hSetCur_setCur, hSetCur_n, hSetCur_size]

/-- legitimacy of a URI-header list: unused slots (and the scratch slot while the array is not full) hold zero
    values.  (The header list never reads the buffer back, so nothing is asked of the current element.) -/
def hlClean (l : URIHdrsLst) : Prop :=
  (∀ k, l.n < k → k < l.hdrs.size → l.hdrs[k]! = {}) ∧ (l.n < l.hdrs.size → l.tmp = {})

theorem hlClean_slots (l : URIHdrsLst) : hlClean l ↔ SlotArr.Clean {} l.slots := Iff.rfl

theorem hlClean_setCur {l : URIHdrsLst} (p : PTokParam) (h : hlClean l) : hlClean (l.setCur p) := by
  rw [hlClean_slots, hSlots_setCur]; exact SlotArr.Clean.setCur p h

theorem hlClean_next {l : URIHdrsLst} (tp : PTokParam) (h : hlClean l) :
    hlClean (l.next tp) ∧ (l.next tp).cur = {} := by
  rw [hlClean_slots, ← hSlots_cur, hSlots_next]; exact ⟨SlotArr.Clean.push _ h, SlotArr.Clean.cur_push _ h⟩

def hLaws : SlotLaws hOps where
  clean := hlClean
  okTok := fun _ _ => True
  cur_setCur := hSetCur_cur
  setCur_setCur := hSetCur_setCur
  setCur_cur := hSetCur_self
  next_setCur := hNext_setCur
  clean_setCur := fun _ p h => hlClean_setCur p h
  clean_next := fun _ x h => hlClean_next x h
  clean_panic := fun _ h => h
  cur_panic := fun _ => rfl
  tok_withTok := fun _ _ => rfl
  withTok_withTok := fun _ _ _ => rfl
  tok_zero := rfl
  okTok_new := fun _ => trivial
  okTok_grows := fun _ _ _ h => h
  okTok_post := fun _ _ _ _ _ _ _ _ _ _ => trivial
  fin_grows := fun _ _ _ _ => rfl


theorem parseAllURIHdrs_stable2 (b s : Buf) (offs : Nat) (l : URIHdrsLst) (f f' : Nat)
    (hf : hasFlag f POptInputEndF = false) (hff : SameButEnd f f') (hok : hlClean l) (ho : offs ≤ b.size)
    {o' n' : Nat} {e : Err} {l' : URIHdrsLst}
    (hr : parseAllURIHdrs b offs l f = (o', n', e, l')) (he : e ≠ .moreBytes) :
    parseAllURIHdrs (b ++ s) offs l f' = (o', n', e, l') := by
  unfold parseAllURIHdrs at hr ⊢
  rw [uriHdrsLoop_slot] at hr ⊢
  exact slotLoop_stable hLaws b s _ _ (by rw [hasFlag_uriHdr]; exact hf) ((hff.or _).or _) offs l 0 ⟨trivial, hok⟩ ho hr he

theorem parseAllURIHdrs_stable (b s : Buf) (offs : Nat) (l : URIHdrsLst) (flags : Nat)
    (hf : hasFlag flags POptInputEndF = false) (hok : hlClean l) (ho : offs ≤ b.size)
    {o' n' : Nat} {e : Err} {l' : URIHdrsLst}
    (hr : parseAllURIHdrs b offs l flags = (o', n', e, l')) (he : e ≠ .moreBytes) :
    parseAllURIHdrs (b ++ s) offs l flags = (o', n', e, l') :=
  parseAllURIHdrs_stable2 b s offs l flags flags hf (.refl _) hok ho hr he

theorem hlClean_new (k : Nat) : hlClean ({ hdrs := Array.replicate k {} } : URIHdrsLst) :=
  SlotArr.clean_replicate ({} : PTokParam) k

theorem hlClean_reset_get {l : URIHdrsLst} (h : hlClean l) (j : Nat) (hj : j < l.hdrs.size) :
    l.reset.hdrs[j]! = {} := by
  rw [uriHdrs_reset_eq_new l ((hlClean_slots l).1 h).tailZero]; simp [hj]

/-- `Reset()` of a clean list is a legitimate empty list -/
theorem hlClean_reset {l : URIHdrsLst} (h : hlClean l) : hlClean l.reset ∧ l.reset.n = 0 ∧ l.reset.cur = {} := by
  rw [uriHdrs_reset_eq_new l ((hlClean_slots l).1 h).tailZero]; exact ⟨hlClean_new _, rfl, SlotArr.cur_replicate ({} : PTokParam) _⟩


/-! ### URI-header list: L2 -/

theorem parseAllURIHdrs_resume2 (b s : Buf) (offs : Nat) (l : URIHdrsLst) (f f' : Nat)
    (hf : hasFlag f POptInputEndF = false) (hff : SameButEnd f f') (hok : hlClean l) (ho : offs ≤ b.size)
    {o' n' : Nat} {l' : URIHdrsLst}
    (hr : parseAllURIHdrs b offs l f = (o', n', Err.moreBytes, l')) :
    ((parseAllURIHdrs (b ++ s) o' l' f').1 = (parseAllURIHdrs (b ++ s) offs l f').1 ∧
     n' + (parseAllURIHdrs (b ++ s) o' l' f').2.1 = (parseAllURIHdrs (b ++ s) offs l f').2.1 ∧
     (parseAllURIHdrs (b ++ s) o' l' f').2.2 = (parseAllURIHdrs (b ++ s) offs l f').2.2) ∧
    hlClean l' ∧ offs ≤ o' ∧ o' ≤ b.size ∧ l'.cur.state ≠ .fin := by
  unfold parseAllURIHdrs at hr ⊢
  rw [uriHdrsLoop_slot] at hr
  rw [uriHdrsLoop_slot, uriHdrsLoop_slot]
  have := slotLoop_resume0 hLaws b s _ _ (by rw [hasFlag_uriHdr]; exact hf) ((hff.or _).or _) offs l ⟨trivial, hok⟩ ho hr
  exact ⟨this.1, this.2.1.2, this.2.2⟩

/-- **L2 for ParseAllURIHdrs**: after `MoreBytes` (with `n'` values parsed so far) at `(o', l')`, the call on the
    extended buffer with `(o', l')` returns the offset, the verdict and the very list object of the call on the
    extended buffer from `(offs, l)`; the numbers of values parsed add up. -/
theorem parseAllURIHdrs_resume (b s : Buf) (offs : Nat) (l : URIHdrsLst) (flags : Nat)
    (hf : hasFlag flags POptInputEndF = false) (hok : hlClean l) (ho : offs ≤ b.size)
    {o' n' : Nat} {l' : URIHdrsLst}
    (hr : parseAllURIHdrs b offs l flags = (o', n', Err.moreBytes, l')) :
    ((parseAllURIHdrs (b ++ s) o' l' flags).1 = (parseAllURIHdrs (b ++ s) offs l flags).1 ∧
     n' + (parseAllURIHdrs (b ++ s) o' l' flags).2.1 = (parseAllURIHdrs (b ++ s) offs l flags).2.1 ∧
     (parseAllURIHdrs (b ++ s) o' l' flags).2.2 = (parseAllURIHdrs (b ++ s) offs l flags).2.2) ∧
    hlClean l' ∧ offs ≤ o' ∧ o' ≤ b.size ∧ l'.cur.state ≠ .fin :=
  parseAllURIHdrs_resume2 b s offs l flags flags hf (.refl _) hok ho hr

/-! ### URI-header list: the capacity of the array does not influence the parse -/

/-- two list objects (with possibly different capacities) that went through the same parse -/
structure HlRel (l1 l2 : URIHdrsLst) : Prop where
  n : l1.n = l2.n
  cur : l1.cur = l2.cur
  agree : ∀ k, k < l1.n → k < l1.hdrs.size → k < l2.hdrs.size → l1.hdrs[k]! = l2.hdrs[k]!
  clean1 : hlClean l1
  clean2 : hlClean l2

theorem HlRel.slots {l1 l2 : URIHdrsLst} (h : HlRel l1 l2) : SlotArr.Agree l1.slots l2.slots := ⟨h.n, h.agree⟩

theorem HlRel.setCur {l1 l2 : URIHdrsLst} (h : HlRel l1 l2) (p : PTokParam) : HlRel (l1.setCur p) (l2.setCur p) := by
  have ha : SlotArr.Agree (l1.setCur p).slots (l2.setCur p).slots := by
    rw [hSlots_setCur, hSlots_setCur]; exact h.slots.setCur p
  exact ⟨ha.1, by rw [hSetCur_cur, hSetCur_cur], ha.2, hlClean_setCur p h.clean1, hlClean_setCur p h.clean2⟩

theorem HlRel.next {l1 l2 : URIHdrsLst} (h : HlRel l1 l2) (tp : PTokParam) : HlRel (l1.next tp) (l2.next tp) := by
  have c1 := hlClean_next tp h.clean1
  have c2 := hlClean_next tp h.clean2
  have ha : SlotArr.Agree (l1.next tp).slots (l2.next tp).slots := by
    rw [hSlots_next, hSlots_next]; exact h.slots.push _ _
  exact ⟨ha.1, by rw [c1.2, c2.2], ha.2, c1.1, c2.1⟩

theorem HlRel.slotRel : SlotRel hLaws HlRel :=
  ⟨HlRel.cur, fun h => ⟨h.clean1, h.clean2⟩, fun p h => h.setCur p, fun x h => h.next x, id⟩

theorem parseAllURIHdrs_rel (b : Buf) (offs : Nat) (l1 l2 : URIHdrsLst) (flags : Nat) (h : HlRel l1 l2) :
    (parseAllURIHdrs b offs l1 flags).1 = (parseAllURIHdrs b offs l2 flags).1 ∧
    (parseAllURIHdrs b offs l1 flags).2.1 = (parseAllURIHdrs b offs l2 flags).2.1 ∧
    (parseAllURIHdrs b offs l1 flags).2.2.1 = (parseAllURIHdrs b offs l2 flags).2.2.1 ∧
    HlRel (parseAllURIHdrs b offs l1 flags).2.2.2 (parseAllURIHdrs b offs l2 flags).2.2.2 := by
  unfold parseAllURIHdrs
  rw [uriHdrsLoop_slot, uriHdrsLoop_slot]
  exact slotLoop_rel hLaws HlRel.slotRel b _ offs l1 l2 0 h

/-- new lists of any two capacities are related -/
theorem HlRel_new (k1 k2 : Nat) :
    HlRel ({ hdrs := Array.replicate k1 {} } : URIHdrsLst) ({ hdrs := Array.replicate k2 {} } : URIHdrsLst) :=
  ⟨rfl, (SlotArr.cur_replicate ({} : PTokParam) k1).trans (SlotArr.cur_replicate ({} : PTokParam) k2).symm,
    (fun k hk => by cases hk), hlClean_new k1, hlClean_new k2⟩

theorem HlRel_reset {l1 l2 : URIHdrsLst} (h1 : hlClean l1) (h2 : hlClean l2) : HlRel l1.reset l2.reset :=
  ⟨rfl, by rw [(hlClean_reset h1).2.2, (hlClean_reset h2).2.2], (fun k hk => by cases hk), (hlClean_reset h1).1,
    (hlClean_reset h2).1⟩

/-! ### every call returns a legitimate list object (whatever the verdict) -/

/-- ParseAllURIParams keeps the list legitimate and returns an offset in `[offs, len(buf)]` -/
theorem parseAllURIParams_post (b : Buf) (offs : Nat) (l : URIParamsLst) (flags : Nat)
    (hok : plOK b l) (ho : offs ≤ b.size) :
    plOK b (parseAllURIParams b offs l flags).2.2.2 ∧ offs ≤ (parseAllURIParams b offs l flags).1 ∧
      (parseAllURIParams b offs l flags).1 ≤ b.size := by
  unfold parseAllURIParams
  rw [uriParamsLoop_slot]
  exact slotLoop_post pLaws b _ offs l 0 hok ho

-- `hf` is not needed by the proof; the statement stands as the property files export it
set_option linter.unusedVariables false in
/-- ParseAllURIHdrs keeps the list legitimate and returns an offset in `[offs, len(buf)]` -/
theorem parseAllURIHdrs_post (b : Buf) (offs : Nat) (l : URIHdrsLst) (flags : Nat)
    (hf : hasFlag flags POptInputEndF = false) (hok : hlClean l) (ho : offs ≤ b.size) :
    hlClean (parseAllURIHdrs b offs l flags).2.2.2 ∧ offs ≤ (parseAllURIHdrs b offs l flags).1 ∧
      (parseAllURIHdrs b offs l flags).1 ≤ b.size := by
  unfold parseAllURIHdrs
  rw [uriHdrsLoop_slot]
  have := slotLoop_post hLaws b (flags ||| POptParamAmpSepF ||| POptTokURIHdrF) offs l 0 ⟨trivial, hok⟩ ho
  exact ⟨this.1.2, this.2⟩

/-! ### chunk schedules -/

/-- ParseTokenParam is resumable in the sense of `Schedule.lean` -/
theorem parseTokenParam_resumable (flags : Nat) (hf : hasFlag flags POptInputEndF = false) :
    Resumable (fun b o p => parseTokenParam b o p flags) :=
  fun b s o st _ _ h => parseTokenParam_resume b s o st flags hf h

/-- **ParseTokenParam under every chunk schedule**: the chain of resumed calls returns what fresh one-shot calls on
    the same prefixes return (offset, verdict, object) -/
theorem parseTokenParam_schedule (flags : Nat) (hf : hasFlag flags POptInputEndF = false) (o : Nat) (p : PTokParam)
    (bs : List Buf) (hg : Growing bs) :
    resumeRun (fun b o p => parseTokenParam b o p flags) o p bs =
      oneShotRun (fun b o p => parseTokenParam b o p flags) o p bs :=
  resumeRun_eq_oneShot _ (parseTokenParam_resumable flags hf) o p bs hg

/-- ParseAllURIParams as a streaming parser: the object is the list together with the number of values parsed by
    the calls made so far -/
def uriParamsParser (flags : Nat) : Parser (Nat × URIParamsLst) := fun b o st =>
  ((parseAllURIParams b o st.2 flags).1, (parseAllURIParams b o st.2 flags).2.2.1,
   (st.1 + (parseAllURIParams b o st.2 flags).2.1, (parseAllURIParams b o st.2 flags).2.2.2))

/-- the one-step laws for the streaming parser, the later call made with `f'` -/
theorem uriParamsParser_resume2 (f f' : Nat) (hf : hasFlag f POptInputEndF = false) (hff : SameButEnd f f')
    (b s : Buf) (o : Nat) (st : Nat × URIParamsLst) (o' : Nat) (st' : Nat × URIParamsLst)
    (hI : plOK b st.2 ∧ o ≤ b.size) (hP : uriParamsParser f b o st = (o', Err.moreBytes, st')) :
    uriParamsParser f' (b ++ s) o' st' = uriParamsParser f' (b ++ s) o st ∧
      (plOK (b ++ s) st'.2 ∧ o' ≤ (b ++ s).size) := by
  rcases hr : parseAllURIParams b o st.2 f with ⟨a, n, e, l'⟩
  unfold uriParamsParser at hP
  rw [hr] at hP
  simp only [Prod.mk.injEq] at hP
  obtain ⟨rfl, rfl, rfl⟩ := hP
  obtain ⟨⟨h1, h2, h3⟩, h4, _, h6, _⟩ := parseAllURIParams_resume2 b s o st.2 f f' hf hff hI.1 hI.2 hr
  refine ⟨?_, h4, by rw [Array.size_append]; omega⟩
  unfold uriParamsParser
  simp only
  rw [h1, ← h2, h3, Nat.add_assoc]

theorem uriParamsParser_stable2 (f f' : Nat) (hf : hasFlag f POptInputEndF = false) (hff : SameButEnd f f')
    (b s : Buf) (o : Nat) (st : Nat × URIParamsLst) (o' : Nat) (e : Err) (st' : Nat × URIParamsLst)
    (hI : plOK b st.2 ∧ o ≤ b.size) (hP : uriParamsParser f b o st = (o', e, st')) (he : e ≠ .moreBytes) :
    uriParamsParser f' (b ++ s) o st = (o', e, st') := by
  rcases hr : parseAllURIParams b o st.2 f with ⟨a, n, e1, l'⟩
  unfold uriParamsParser at hP ⊢
  rw [hr] at hP
  simp only [Prod.mk.injEq] at hP
  obtain ⟨rfl, rfl, rfl⟩ := hP
  rw [parseAllURIParams_stable2 b s o st.2 f f' hf hff hI.1 hI.2 hr he]

/-- **ParseAllURIParams under every chunk schedule**: offset, verdict, total number of values and list object of
    the chain of resumed calls are those of fresh one-shot calls on the same prefixes -/
theorem parseAllURIParams_schedule (flags : Nat) (hf : hasFlag flags POptInputEndF = false) (o : Nat)
    (l : URIParamsLst) (bs : List Buf) (hg : Growing bs) (h0 : ∀ b ∈ bs.head?, plOK b l ∧ o ≤ b.size) :
    resumeRun (uriParamsParser flags) o (0, l) bs = oneShotRun (uriParamsParser flags) o (0, l) bs :=
  resumeRun_eq_oneShotI _ _ (uriParamsParser_resume2 flags flags hf (.refl _)) o (0, l) bs hg h0

def uriHdrsParser (flags : Nat) : Parser (Nat × URIHdrsLst) := fun b o st =>
  ((parseAllURIHdrs b o st.2 flags).1, (parseAllURIHdrs b o st.2 flags).2.2.1,
   (st.1 + (parseAllURIHdrs b o st.2 flags).2.1, (parseAllURIHdrs b o st.2 flags).2.2.2))

/-- the one-step laws for the streaming parser, the later call made with `f'` -/
theorem uriHdrsParser_resume2 (f f' : Nat) (hf : hasFlag f POptInputEndF = false) (hff : SameButEnd f f')
    (b s : Buf) (o : Nat) (st : Nat × URIHdrsLst) (o' : Nat) (st' : Nat × URIHdrsLst)
    (hI : hlClean st.2 ∧ o ≤ b.size) (hP : uriHdrsParser f b o st = (o', Err.moreBytes, st')) :
    uriHdrsParser f' (b ++ s) o' st' = uriHdrsParser f' (b ++ s) o st ∧
      (hlClean st'.2 ∧ o' ≤ (b ++ s).size) := by
  rcases hr : parseAllURIHdrs b o st.2 f with ⟨a, n, e, l'⟩
  unfold uriHdrsParser at hP
  rw [hr] at hP
  simp only [Prod.mk.injEq] at hP
  obtain ⟨rfl, rfl, rfl⟩ := hP
  obtain ⟨⟨h1, h2, h3⟩, h4, _, h6, _⟩ := parseAllURIHdrs_resume2 b s o st.2 f f' hf hff hI.1 hI.2 hr
  refine ⟨?_, h4, by rw [Array.size_append]; omega⟩
  unfold uriHdrsParser
  simp only
  rw [h1, ← h2, h3, Nat.add_assoc]

theorem uriHdrsParser_stable2 (f f' : Nat) (hf : hasFlag f POptInputEndF = false) (hff : SameButEnd f f')
    (b s : Buf) (o : Nat) (st : Nat × URIHdrsLst) (o' : Nat) (e : Err) (st' : Nat × URIHdrsLst)
    (hI : hlClean st.2 ∧ o ≤ b.size) (hP : uriHdrsParser f b o st = (o', e, st')) (he : e ≠ .moreBytes) :
    uriHdrsParser f' (b ++ s) o st = (o', e, st') := by
  rcases hr : parseAllURIHdrs b o st.2 f with ⟨a, n, e1, l'⟩
  unfold uriHdrsParser at hP ⊢
  rw [hr] at hP
  simp only [Prod.mk.injEq] at hP
  obtain ⟨rfl, rfl, rfl⟩ := hP
  rw [parseAllURIHdrs_stable2 b s o st.2 f f' hf hff hI.1 hI.2 hr he]

theorem parseAllURIHdrs_schedule (flags : Nat) (hf : hasFlag flags POptInputEndF = false) (o : Nat)
    (l : URIHdrsLst) (bs : List Buf) (hg : Growing bs) (h0 : ∀ b ∈ bs.head?, hlClean l ∧ o ≤ b.size) :
    resumeRun (uriHdrsParser flags) o (0, l) bs = oneShotRun (uriHdrsParser flags) o (0, l) bs :=
  resumeRun_eq_oneShotI _ _ (uriHdrsParser_resume2 flags flags hf (.refl _)) o (0, l) bs hg h0

/-! ### tests / non-vacuity (closed computations, `decide +kernel`) -/

/-- test: a call with `POptTokSpTermF` is suspended inside the white space after a value ... -/
example : parseTokenParam "a=b ".toUTF8.data 0 {} POptTokSpTermF =
    (3, .moreBytes, { all := ⟨0, 2⟩, name := ⟨0, 1⟩, val := ⟨2, 0⟩, state := .val }) := by decide +kernel
/-- ... and the resumed call (start offset 3) and the one-shot call (start offset 0) both end the parameter at the
    white space, through the previous-byte test of `POptTokSpTermF` (instance of `parseTokenParam_resume`) -/
example : parseTokenParam "a=b c".toUTF8.data 3 { all := ⟨0, 2⟩, name := ⟨0, 1⟩, val := ⟨2, 0⟩, state := .val }
      POptTokSpTermF = parseTokenParam "a=b c".toUTF8.data 0 {} POptTokSpTermF ∧
    (parseTokenParam "a=b c".toUTF8.data 0 {} POptTokSpTermF).1 = 3 ∧
    (parseTokenParam "a=b c".toUTF8.data 0 {} POptTokSpTermF).2.1 = .ok := by decide +kernel
/-- test: suspension right after a closing quote (state "find separator" at the end of the buffer): the resumed
    call starts exactly on the new token and skips the previous-byte test, the one-shot call makes it and sees the
    quote; both return offset 5 -/
example : (parseTokenParam "a=\"x\"".toUTF8.data 0 {} POptTokSpTermF).1 = 5 ∧
    (parseTokenParam "a=\"x\"".toUTF8.data 0 {} POptTokSpTermF).2.1 = .moreBytes ∧
    parseTokenParam "a=\"x\"c".toUTF8.data 5 (parseTokenParam "a=\"x\"".toUTF8.data 0 {} POptTokSpTermF).2.2
      POptTokSpTermF = parseTokenParam "a=\"x\"c".toUTF8.data 0 {} POptTokSpTermF ∧
    (parseTokenParam "a=\"x\"c".toUTF8.data 0 {} POptTokSpTermF).1 = 5 := by decide +kernel
/-- test: the hypotheses of the list theorems hold for new lists (`plOK_new`, `hlClean_new`, `PlRel_new`,
    `HlRel_new`); a run that is suspended in the third element with capacity 1 and capacity 3 -/
example : (parseAllURIParams "lr;transport=udp;x=1?".toUTF8.data 0 { params := Array.replicate 1 {} } 0).1 = 21 ∧
    (parseAllURIParams "lr;transport=udp;x=1?".toUTF8.data 0 { params := Array.replicate 1 {} } 0).2.1 = 2 ∧
    (parseAllURIParams "lr;transport=udp;x=1?".toUTF8.data 0 { params := Array.replicate 1 {} } 0).2.2.1 = .moreBytes ∧
    (parseAllURIParams "lr;transport=udp;x=1?".toUTF8.data 0 { params := Array.replicate 3 {} } 0).1 = 21 ∧
    (parseAllURIParams "lr;transport=udp;x=1?".toUTF8.data 0 { params := Array.replicate 3 {} } 0).2.2.2.types = 33 ∧
    (parseAllURIParams "lr;transport=udp;x=1?".toUTF8.data 0 { params := Array.replicate 1 {} } 0).2.2.2.types = 33 := by
  decide +kernel
/-- test: URI headers, capacity 2, suspended in the third element -/
example : (parseAllURIHdrs "a=1&b=2&c".toUTF8.data 0 { hdrs := Array.replicate 2 {} } 0).1 = 9 ∧
    (parseAllURIHdrs "a=1&b=2&c".toUTF8.data 0 { hdrs := Array.replicate 2 {} } 0).2.1 = 2 ∧
    (parseAllURIHdrs "a=1&b=2&c".toUTF8.data 0 { hdrs := Array.replicate 2 {} } 0).2.2.1 = .moreBytes := by
  decide +kernel

end Sipsp
