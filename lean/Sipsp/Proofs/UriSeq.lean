/-
  Sipsp.Proofs.UriSeq — property C18 for SEQUENCES of operations on one parsed URI. The theorems of C18 / UriLink are
  about ONE AdjustOffs / view call on a freshly parsed URI (scheme at offset 0); here (1) the invariant `USWf u` (of
  the structure alone: no buffer, any scheme offset; it is defined in UriLink, and `us_` is its vocabulary there and
  here) is shown to be closed under every operation a caller can apply, for all such URIs, spans and buffers (no size
  bounds). `us_adjust_eq` is AdjustOffs completely, for every 16-bit span: accepted iff the end does not wrap and
  `Len ≥ ulLen u`, then the result is `ulRelocate u np.Offs`, else nothing changes; never a panic. With closure under
  Truncate: operations `USOp`, interpreter `usRun` (stops at the first panic), the caller's obligations `usPreAll` (a
  span is two 16-bit numbers; the buffer given to Flat holds the span Long() reports), and no sequence of calls panics
  (`us_ops_never_panic`, `uri_ops_never_panic`). Further: (2) relocation composes; (3) after Truncate the threshold is
  `ulLen u.truncate` (end of the last PRESENT component of scheme … port), NOT the original length — it equals the
  length of Short() unless the port is present but empty; (4) the views commute with relocation. The numbers in the
  docstrings are these four groups, as in Properties/C18; the sections stand in the order in which the proofs need
  them. The theorems make no exception for present-but-empty components; the tests at the end use `sip:h;`, `sip:h:`,
  `sip:u:@h`, `sip:h?`, `sip:h:;x`, `tel:a:b@c`.

  OBSERVATIONS (true of the model, held by tests, no defect claimed):
   * AdjustOffs measures the URI up to the last PRESENT component, Long() / Flat() up to the last NON-EMPTY one. For
     `sip:h;`, `sip:h:`, `sip:h?` (6 bytes) Long() is `sip:h` (5 bytes) and a span of Long().Len = 5 bytes is REFUSED; 6
     are needed (the dangling delimiter counts). Same after Truncate when the port is present but empty (`sip:h:;x`:
     truncated threshold 6, Long() 5).
   * a relocated present-but-empty component stays present (its new offset is > the new scheme offset ≥ 0), so
     "present" is stable under every sequence of operations; this needs the scheme to be non-empty (`USWf.sch`).
  NOT proved here: nothing about URIs that are not the result of ParseURI + these operations (e.g. hand-built
  structures with overlapping components); nothing about AdjustOffs spans whose fields exceed 16 bits (`usSpan`).
-/
import Sipsp.Proofs.UriLink


namespace Sipsp

/-! ### AdjustOffs, completely -/

/-- the span is made of two 16-bit numbers (Go: `OffsT` = `uint16`) -/
def usSpan (np : PField) : Prop := np.offs < 65536 ∧ np.len < 65536

/-- **AdjustOffs on a URI that satisfies the invariant, for EVERY span** [EXPORT C18]: it never panics; the span is accepted
    exactly when its end stays inside the 16-bit range and its length is at least `ulLen u` (the end of the last
    PRESENT component, relative to the scheme); then the result is the URI moved to `np.Offs`; otherwise nothing is
    changed -/
theorem us_adjust_eq {u : PsipURI} (h : USWf u) (np : PField) (hnp : usSpan np) :
    u.adjustOffs np =
      if np.offs + np.len < 65536 ∧ ulLen u ≤ np.len then (true, ulRelocate u np.offs, false) else (false, u, false) := by
  by_cases hw : np.offs + np.len < 65536
  · by_cases hl : ulLen u ≤ np.len
    · rw [if_pos ⟨hw, hl⟩]
      exact ul_adjust_moves u np (ulLen u) h.ulwf hl (Nat.le_trans h.sum hl) hw
    · rw [if_neg (fun hh => hl hh.2)]
      exact ul_adjust_refused u np (by omega)
  · rw [if_neg (fun hh => hw hh.1)]
    exact ul_adjust_wrap_refused u np hnp.1 hnp.2 (by omega)

/-! ### closure -/

theorem USWf.behind {u : PsipURI} (h : USWf u) (f : PField) (hf : f ∈ ulComps u) (hz : f.offs ≠ 0) :
    u.scheme.offs < f.offs := by
  have := (h.comps f hf).2 hz
  have := h.sch
  omega

/-- one component of a chain moved from `s` to `o`: it stays absent or present, stands at the moved cursor, and the
    length loop counts the same for it -/
theorem us_moved_step {a s o : Nat} {f : PField} (ha : 0 < a) (hz : f.offs = 0 → f.len = 0)
    (hp : f.offs ≠ 0 → s + a ≤ f.offs) (hl : uafter (s + a) f < 65536) (ho : o + ulenStep a s f < 65536) :
    ((ulMoved f s o).offs = 0 → (ulMoved f s o).len = 0) ∧ ((ulMoved f s o).offs ≠ 0 → o + a ≤ (ulMoved f s o).offs) ∧
    uafter (o + a) (ulMoved f s o) = o + ulenStep a s f ∧ ulenStep a o (ulMoved f s o) = ulenStep a s f := by
  by_cases h0 : f.offs = 0
  · rw [us_moved_absent _ _ h0, ulenStep_absent a s h0, ulenStep_absent a o h0]
    exact ⟨hz, fun h => absurd h0 h, if_pos h0, rfl⟩
  · have := hp h0
    rw [us_uafter_present h0] at hl
    have e : ulenStep a s f = f.offs + f.len - s := by
      rw [ulenStep_present a s h0 (by omega) hl]
      exact Nat.max_eq_right (by omega)
    rw [e] at ho ⊢
    have hne : (⟨f.offs - s + o, f.len⟩ : PField).offs ≠ 0 := by simp only; omega
    rw [us_moved_present _ _ h0, us_uafter_present hne, ulenStep_present a o hne (by simp only; omega) (by simp only; omega)]
    simp only
    refine ⟨fun h => by omega, fun _ => by omega, by omega, ?_⟩
    rw [Nat.max_eq_right (by omega)]
    omega

/-- a whole chain moved from `s` to `o`: it is a chain again, from the moved cursor, and the length loop counts the
    same for it -/
theorem us_chain_moved (s o : Nat) : ∀ (l : List PField) (a : Nat), 0 < a → usChain (s + a) l →
    o + l.foldl (fun a f => ulenStep a s f) a < 65536 →
    usChain (o + a) (l.map (ulMoved · s o)) ∧
    (l.map (ulMoved · s o)).foldl (fun a f => ulenStep a o f) a = l.foldl (fun a f => ulenStep a s f) a
  | [], a, _, _, ho => ⟨ho, Eq.refl a⟩
  | f :: r, a, ha, ⟨hz, hp, hr⟩, ho => by
    have hl := us_chain_lt r _ hr
    obtain ⟨m1, m2, m3, m4⟩ := us_moved_step ha hz hp hl
      (Nat.lt_of_le_of_lt (Nat.add_le_add_left (ulenFold_ge s r _) o) ho)
    rw [← (us_chain_step hz hp hl).1] at hr
    obtain ⟨i1, i2⟩ := us_chain_moved s o r _ (Nat.lt_of_lt_of_le ha (ulenStep_ge a s f)) hr ho
    simp only [List.map_cons, List.foldl_cons]
    rw [m4]
    exact ⟨⟨m1, m2, by rw [m3]; exact i1⟩, i2⟩

theorem us_moved_offs {f : PField} (s o : Nat) (hb : f.offs ≠ 0 → s < f.offs) :
    (ulMoved f s o).offs = 0 ↔ f.offs = 0 := by
  by_cases h0 : f.offs = 0
  · rw [us_moved_absent _ _ h0]
  · have := hb h0
    rw [us_moved_present _ _ h0]
    simp only
    omega

theorem USWf.relocate {u : PsipURI} (h : USWf u) (o : Nat) (ho : o + ulLen u < 65536) :
    USWf (ulRelocate u o) ∧ ulLen (ulRelocate u o) = ulLen u := by
  have hh := us_moved_offs u.scheme.offs o (h.behind u.host ulComps_host)
  have hq : usSeq (ulRelocate u o) = (usSeq u).map (ulMoved · u.scheme.offs o) := by
    unfold usSeq usFst usSnd
    show (if (ulMoved u.host u.scheme.offs o).offs = 0 then _ else _) :: (if (ulMoved u.host u.scheme.offs o).offs = 0 then _ else _) :: _ = _
    by_cases hz : u.host.offs = 0
    · rw [if_pos hz, if_pos hz, if_pos (hh.2 hz), if_pos (hh.2 hz)]
      rfl
    · rw [if_neg hz, if_neg hz, if_neg (fun h0 => hz (hh.1 h0)), if_neg (fun h0 => hz (hh.1 h0))]
      rfl
  rw [us_len_seq] at ho
  obtain ⟨c1, c2⟩ := us_chain_moved u.scheme.offs o _ _ h.sch h.chain ho
  rw [← hq] at c1 c2
  refine ⟨⟨h.sch, c1, ?_⟩, by rw [us_len_seq, us_len_seq]; exact c2⟩
  show 0 < (ulMoved u.host u.scheme.offs o).len ∨
    ((ulMoved u.host u.scheme.offs o).offs = 0 ∧ 0 < (ulMoved u.user u.scheme.offs o).len)
  rw [us_moved_len, us_moved_len, hh]
  exact h.core

/-- **(1) closure under AdjustOffs, accepted or refused** [EXPORT C18]: whatever the span, the call does not panic and the URI it
    leaves behind satisfies the invariant, with the same computed length -/
theorem USWf.adjust {u : PsipURI} (h : USWf u) (np : PField) (hnp : usSpan np) :
    (u.adjustOffs np).2.2 = false ∧ USWf (u.adjustOffs np).2.1 ∧ ulLen (u.adjustOffs np).2.1 = ulLen u := by
  rw [us_adjust_eq h np hnp]
  by_cases hc : np.offs + np.len < 65536 ∧ ulLen u ≤ np.len
  · rw [if_pos hc]
    exact ⟨rfl, h.relocate np.offs (by omega)⟩
  · rw [if_neg hc]
    exact ⟨rfl, h, rfl⟩

/-! ### the views of a relocated URI -/

theorem us_moved_end {f : PField} (s o : Nat) (hl : 0 < f.len) (hz : f.offs = 0 → f.len = 0) (hs : s ≤ f.offs) :
    (ulMoved f s o).offs + (ulMoved f s o).len = f.offs + f.len - s + o := by
  have hp : f.offs ≠ 0 := fun h0 => by have := hz h0; omega
  rw [us_moved_present s o hp]
  simp only
  omega

theorem usSel_moved {f : PField} {s o : Nat} (X X' : Nat) (hz : f.offs = 0 → f.len = 0) (hs : f.offs ≠ 0 → s ≤ f.offs)
    (hX : ¬ f.len > 0 → X' = X - s + o) : usSel X' (ulMoved f s o) = usSel X f - s + o := by
  by_cases c : f.len > 0
  · rw [usSel, usSel, if_pos c, if_pos (by rw [us_moved_len]; exact c)]
    exact us_moved_end s o c hz (hs fun h0 => by have := hz h0; omega)
  · rw [usSel, usSel, if_neg c, if_neg (by rw [us_moved_len]; exact c)]
    exact hX c

theorem us_ends_relocate {u : PsipURI} (h : USWf u) (o : Nat) :
    usLongEnd (ulRelocate u o) = usLongEnd u - u.scheme.offs + o ∧
    usShortEnd (ulRelocate u o) = usShortEnd u - u.scheme.offs + o := by
  have mv : ∀ f ∈ ulComps u, ∀ X X', (¬ f.len > 0 → X' = X - u.scheme.offs + o) →
      usSel X' (ulMoved f u.scheme.offs o) = usSel X f - u.scheme.offs + o := fun f hf X X' =>
    usSel_moved X X' (h.comps f hf).1 (fun hp => Nat.le_of_lt (h.behind f hf hp))
  have hs : usShortEnd (ulRelocate u o) = usShortEnd u - u.scheme.offs + o :=
    mv _ ulComps_port _ _ fun _ => mv _ ulComps_host _ _ fun c =>
      us_moved_end _ o (h.nohost c).2.1 (h.comps _ ulComps_user).1
        (Nat.le_of_lt (h.behind _ ulComps_user fun h0 => by
          have := (h.comps u.user ulComps_user).1 h0; have := (h.nohost c).2.1; omega))
  exact ⟨mv _ ulComps_headers _ _ fun _ => mv _ ulComps_params _ _ fun _ => hs, hs⟩

theorem us_long_relocate {u : PsipURI} (h : USWf u) (o : Nat) (ho : o + ulLen u < 65536) :
    (ulRelocate u o).long = ({ u.long.1 with offs := o }, false) := by
  rw [us_long_eq (h.relocate o ho).1, us_long_eq h, (us_ends_relocate h o).1]
  show (({ offs := o, len := usLongEnd u - u.scheme.offs + o - o } : PField), false) = _
  rw [Nat.add_sub_cancel]

theorem us_short_relocate {u : PsipURI} (h : USWf u) (o : Nat) (ho : o + ulLen u < 65536) :
    (ulRelocate u o).short = ({ u.short.1 with offs := o }, false) := by
  rw [us_short_eq (h.relocate o ho).1, us_short_eq h, (us_ends_relocate h o).2]
  show (({ offs := o, len := usShortEnd u - u.scheme.offs + o - o } : PField), false) = _
  rw [Nat.add_sub_cancel]

theorem us_truncate_relocate (u : PsipURI) (o : Nat) : (ulRelocate u o).truncate = ulRelocate u.truncate o := by
  unfold PsipURI.truncate ulRelocate
  have z : ulMoved ({} : PField) u.scheme.offs o = {} := us_moved_absent _ _ rfl
  simp only [z]

theorem us_flat_relocate {u : PsipURI} (h : USWf u) (o : Nat) (ho : o + ulLen u < 65536) (b2 b : Buf)
    (ht : USSameText b2 o b u.scheme.offs (ulLen u)) :
    (ulRelocate u o).flat b2 = u.flat b ∧ u.flat b = some (b.extract u.scheme.offs (usLongEnd u)) := by
  obtain ⟨e1, e2, e3⟩ := us_ends h
  obtain ⟨g1, g2, g3⟩ := ht
  have hr := h.relocate o ho
  rw [us_flat_eq hr.1, us_flat_eq h, (us_ends_relocate h o).1]
  have hs : (ulRelocate u o).scheme.offs = o := rfl
  rw [hs, if_pos (by omega), if_pos (by omega)]
  refine ⟨?_, rfl⟩
  have := us_extract_sub ⟨g1, g2, g3⟩ 0 (usLongEnd u - u.scheme.offs) (by omega)
  simp only [Nat.add_zero] at this
  have e : u.scheme.offs + (usLongEnd u - u.scheme.offs) = usLongEnd u := by omega
  have e' : usLongEnd u - u.scheme.offs + o = o + (usLongEnd u - u.scheme.offs) := by omega
  rw [e] at this
  rw [e', this]

/-! ## relocation composes -/

theorem us_moved_moved {f : PField} (s a c : Nat) (hz : f.offs ≠ 0 → s < f.offs) :
    ulMoved (ulMoved f s a) a c = ulMoved f s c := by
  by_cases h0 : f.offs = 0
  · rw [us_moved_absent s a h0, us_moved_absent a c h0, us_moved_absent s c h0]
  · have := hz h0
    rw [us_moved_present s a h0, us_moved_present s c h0, us_moved_present a c (by simp only; omega)]
    simp only
    congr 1
    omega

theorem us_moved_self {f : PField} (s : Nat) (hz : f.offs ≠ 0 → s ≤ f.offs) : ulMoved f s s = f := by
  by_cases h0 : f.offs = 0
  · rw [us_moved_absent s s h0]
  · have := hz h0
    rw [us_moved_present s s h0]
    cases f
    simp only at this ⊢
    congr 1
    omega

theorem us_relocate_relocate {u : PsipURI} (h : USWf u) (a c : Nat) :
    ulRelocate (ulRelocate u a) c = ulRelocate u c := by
  have e1 := us_moved_moved u.scheme.offs a c (h.behind u.user ulComps_user)
  have e2 := us_moved_moved u.scheme.offs a c (h.behind u.pass ulComps_pass)
  have e3 := us_moved_moved u.scheme.offs a c (h.behind u.host ulComps_host)
  have e4 := us_moved_moved u.scheme.offs a c (h.behind u.port ulComps_port)
  have e5 := us_moved_moved u.scheme.offs a c (h.behind u.params ulComps_params)
  have e6 := us_moved_moved u.scheme.offs a c (h.behind u.headers ulComps_headers)
  simp only [ulRelocate, e1, e2, e3, e4, e5, e6]

theorem us_relocate_self {u : PsipURI} (h : USWf u) : ulRelocate u u.scheme.offs = u := by
  have e1 := us_moved_self u.scheme.offs (fun hz => Nat.le_of_lt (h.behind u.user ulComps_user hz))
  have e2 := us_moved_self u.scheme.offs (fun hz => Nat.le_of_lt (h.behind u.pass ulComps_pass hz))
  have e3 := us_moved_self u.scheme.offs (fun hz => Nat.le_of_lt (h.behind u.host ulComps_host hz))
  have e4 := us_moved_self u.scheme.offs (fun hz => Nat.le_of_lt (h.behind u.port ulComps_port hz))
  have e5 := us_moved_self u.scheme.offs (fun hz => Nat.le_of_lt (h.behind u.params ulComps_params hz))
  have e6 := us_moved_self u.scheme.offs (fun hz => Nat.le_of_lt (h.behind u.headers ulComps_headers hz))
  simp only [ulRelocate, e1, e2, e3, e4, e5, e6]

/-- an accepted AdjustOffs, read backwards -/
theorem us_adjust_accepted {u : PsipURI} (h : USWf u) (np : PField) (hnp : usSpan np)
    (hacc : (u.adjustOffs np).1 = true) :
    np.offs + np.len < 65536 ∧ ulLen u ≤ np.len ∧ u.adjustOffs np = (true, ulRelocate u np.offs, false) := by
  have e := us_adjust_eq h np hnp
  by_cases hc : np.offs + np.len < 65536 ∧ ulLen u ≤ np.len
  · rw [if_pos hc] at e
    exact ⟨hc.1, hc.2, e⟩
  · rw [if_neg hc] at e
    rw [e] at hacc
    cases hacc

/-- **(2) AdjustOffs to `np1` (accepted), then to `np2`** [EXPORT C18]: the second call is accepted exactly when `np2` would have been
    accepted directly; then the result (every component, the flags) is that of the direct call; otherwise the second
    call changes nothing -/
theorem us_adjust_adjust {u : PsipURI} (h : USWf u) (np1 np2 : PField) (h1 : usSpan np1) (h2 : usSpan np2)
    (hacc : (u.adjustOffs np1).1 = true) :
    ((u.adjustOffs np1).2.1.adjustOffs np2).1 = (u.adjustOffs np2).1 ∧
    ((u.adjustOffs np2).1 = true → (u.adjustOffs np1).2.1.adjustOffs np2 = u.adjustOffs np2) ∧
    ((u.adjustOffs np2).1 = false →
      (u.adjustOffs np1).2.1.adjustOffs np2 = (false, (u.adjustOffs np1).2.1, false)) := by
  obtain ⟨a1, a2, a3⟩ := us_adjust_accepted h np1 h1 hacc
  obtain ⟨hw, hlen⟩ := h.relocate np1.offs (by omega)
  rw [a3]
  simp only
  rw [us_adjust_eq hw np2 h2, us_adjust_eq h np2 h2, hlen]
  by_cases hc : np2.offs + np2.len < 65536 ∧ ulLen u ≤ np2.len
  · rw [if_pos hc, if_pos hc, us_relocate_relocate h]
    exact ⟨rfl, fun _ => rfl, (fun hh => by cases hh)⟩
  · rw [if_neg hc, if_neg hc]
    exact ⟨rfl, (fun hh => by cases hh), fun _ => rfl⟩

/-- **(2) relocating back onto the original position restores the original URI exactly** [EXPORT C18] -/
theorem us_adjust_back {u : PsipURI} (h : USWf u) (np1 np2 : PField) (h1 : usSpan np1) (h2 : usSpan np2)
    (hacc : (u.adjustOffs np1).1 = true) (hback : np2.offs = u.scheme.offs) (hlen : ulLen u ≤ np2.len)
    (hlim : np2.offs + np2.len < 65536) :
    (u.adjustOffs np1).2.1.adjustOffs np2 = (true, u, false) := by
  obtain ⟨_, e, _⟩ := us_adjust_adjust h np1 np2 h1 h2 hacc
  have e2 := us_adjust_eq h np2 h2
  rw [if_pos ⟨hlim, hlen⟩, hback, us_relocate_self h] at e2
  rw [e (by rw [e2]), e2]

/-! ## Truncate, then AdjustOffs -/

/-- **(3) after Truncate the span only has to hold what is left** [EXPORT C18]: AdjustOffs on the truncated URI never panics and
    accepts a span (inside the 16-bit range) exactly when its length is at least `ulLen u.truncate` — the end of the
    last PRESENT component among scheme … port, NOT the original length — and then the result is the truncated URI
    moved; its Long() and Short() are the Short() of the original, moved -/
theorem us_truncate_adjust {u : PsipURI} (h : USWf u) (np : PField) (hnp : usSpan np) :
    u.truncate.adjustOffs np =
      (if np.offs + np.len < 65536 ∧ ulLen u.truncate ≤ np.len then (true, ulRelocate u.truncate np.offs, false)
       else (false, u.truncate, false)) ∧
    ulLen u.truncate ≤ ulLen u ∧
    (np.offs + ulLen u.truncate < 65536 →
      (ulRelocate u.truncate np.offs).long = ({ u.short.1 with offs := np.offs }, false) ∧
      (ulRelocate u.truncate np.offs).short = ({ u.short.1 with offs := np.offs }, false)) := by
  obtain ⟨ht, hle⟩ := h.truncate
  refine ⟨us_adjust_eq ht np hnp, hle, fun ho => ?_⟩
  have hs : u.truncate.short = u.short := rfl
  rw [us_long_relocate ht _ ho, us_short_relocate ht _ ho, us_truncate_long h, hs]
  exact ⟨rfl, rfl⟩

/-- [EXPORT C18] (3) the threshold after Truncate and the views: Short() (= Long() after Truncate) is never longer than the
    threshold, and they are EQUAL unless the port is present but empty (`sip:h:;x`: threshold 6, Short() = 5) -/
theorem us_truncate_len {u : PsipURI} (h : USWf u) :
    u.truncate.long.1.len = u.short.1.len ∧ u.short.1.len ≤ ulLen u.truncate ∧
    ((u.port.offs ≠ 0 → 0 < u.port.len) → ulLen u.truncate = u.short.1.len) := by
  obtain ⟨ht, hle⟩ := h.truncate
  have e := us_truncate_long h
  refine ⟨by rw [e], ?_, fun hp => ?_⟩
  · rw [← e]; exact us_long_le_len ht
  · have hne : ∀ f ∈ [u.truncate.port, u.truncate.params, u.truncate.headers], f.offs ≠ 0 → 0 < f.len := by
      intro f hf
      simp only [List.mem_cons, List.not_mem_nil, or_false] at hf
      rcases hf with rfl | rfl | rfl
      · exact hp
      · intro hz; exact absurd rfl hz
      · intro hz; exact absurd rfl hz
    have e2 := us_long_eq_len ht hne
    have e3 := (us_ends ht).1
    have e4 : u.truncate.long.1.len = usLongEnd u.truncate - u.truncate.scheme.offs := by rw [us_long_eq ht]
    rw [← e, e4]
    omega

/-! ### the views commute with an accepted AdjustOffs -/

/-- **(4) the views commute with an accepted AdjustOffs** [EXPORT C18]: Long / Short of the relocated URI are the Long /
    Short of the original with the new start (same length, no panic); Truncate after AdjustOffs = AdjustOffs (same
    span, also accepted) after Truncate; and when the buffer `b2` holds at `np.Offs` the bytes that `b` holds at the
    old position, Flat and `Get` on every one of the seven fields return in `b2` what they return for the original
    in `b`, without panic -/
theorem us_adjust_views {u : PsipURI} (h : USWf u) (np : PField) (hnp : usSpan np)
    (hacc : (u.adjustOffs np).1 = true) :
    (u.adjustOffs np).2.1.long = ({ u.long.1 with offs := np.offs }, false) ∧
    (u.adjustOffs np).2.1.short = ({ u.short.1 with offs := np.offs }, false) ∧
    (u.truncate.adjustOffs np).1 = true ∧ (u.adjustOffs np).2.1.truncate = (u.truncate.adjustOffs np).2.1 ∧
    ∀ b2 b, USSameText b2 np.offs b u.scheme.offs (ulLen u) →
      (u.adjustOffs np).2.1.flat b2 = u.flat b ∧ (u.flat b).isSome ∧
      PField.get? b2 (u.adjustOffs np).2.1.scheme = PField.get? b u.scheme ∧
      PField.get? b2 (u.adjustOffs np).2.1.user = PField.get? b u.user ∧
      PField.get? b2 (u.adjustOffs np).2.1.pass = PField.get? b u.pass ∧
      PField.get? b2 (u.adjustOffs np).2.1.host = PField.get? b u.host ∧
      PField.get? b2 (u.adjustOffs np).2.1.port = PField.get? b u.port ∧
      PField.get? b2 (u.adjustOffs np).2.1.params = PField.get? b u.params ∧
      PField.get? b2 (u.adjustOffs np).2.1.headers = PField.get? b u.headers ∧
      (PField.get? b u.scheme).isSome ∧ ∀ f ∈ ulComps u, (PField.get? b f).isSome := by
  obtain ⟨a1, a2, a3⟩ := us_adjust_accepted h np hnp hacc
  have ho : np.offs + ulLen u < 65536 := by omega
  obtain ⟨ht, hle⟩ := h.truncate
  have et := us_adjust_eq ht np hnp
  rw [if_pos ⟨a1, Nat.le_trans hle a2⟩] at et
  rw [a3, et]
  simp only
  refine ⟨us_long_relocate h _ ho, us_short_relocate h _ ho, trivial, us_truncate_relocate u np.offs, ?_⟩
  intro b2 b hb
  obtain ⟨f1, f2⟩ := us_flat_relocate h _ ho b2 b hb
  obtain ⟨g0, g⟩ := us_comp_relocate h _ ho b2 b hb
  refine ⟨f1, by rw [f2]; rfl, g0.1, (g u.user ulComps_user).1, (g u.pass ulComps_pass).1,
    (g u.host ulComps_host).1, (g u.port ulComps_port).1, (g u.params ulComps_params).1,
    (g u.headers ulComps_headers).1, by rw [g0.2.1]; rfl, fun f hf => by rw [(g f hf).2.1]; rfl⟩

/-! ## the operations and their interpreter -/

/-- the calls a user of a parsed URI can make -/
inductive USOp where
  /-- `u.Truncate()` -/
  | truncate
  /-- `u.AdjustOffs(np)` -/
  | adjust (np : PField)
  /-- `u.Long()` -/
  | long
  /-- `u.Short()` -/
  | short
  /-- `u.Flat(buf)` -/
  | flat (b : Buf)

/-- what the caller owes for a call on the URI `u`: the span given to AdjustOffs is made of 16-bit numbers (it is a
    `PField`), and the buffer given to Flat is long enough for the span that Long() reports -/
def usPre (u : PsipURI) : USOp → Prop
  | .adjust np => usSpan np
  | .flat b => u.long.1.offs + u.long.1.len ≤ b.size
  | _ => True

/-- one call: (the structure afterwards, did the call panic) -/
def usExec (u : PsipURI) : USOp → PsipURI × Bool
  | .truncate => (u.truncate, false)
  | .adjust np => ((u.adjustOffs np).2.1, (u.adjustOffs np).2.2)
  | .long => (u, u.long.2)
  | .short => (u, u.short.2)
  | .flat b => (u, (u.flat b).isNone)

/-- a sequence of calls, stopping at the first panic: (the structure at the end, did some call panic) -/
def usRun : PsipURI → List USOp → PsipURI × Bool
  | u, [] => (u, false)
  | u, op :: r => if (usExec u op).2 then ((usExec u op).1, true) else usRun (usExec u op).1 r

/-- the caller's obligations along the sequence, each one for the structure as it is at that moment -/
def usPreAll : PsipURI → List USOp → Prop
  | _, [] => True
  | u, op :: r => usPre u op ∧ usPreAll (usExec u op).1 r

theorem us_exec_ok {u : PsipURI} (h : USWf u) (op : USOp) (hp : usPre u op) :
    (usExec u op).2 = false ∧ USWf (usExec u op).1 ∧ ulLen (usExec u op).1 ≤ ulLen u ∧
    (usExec u op).1.uriType = u.uriType ∧ (usExec u op).1.portNo = u.portNo ∧
    (usExec u op).1.scheme.len = u.scheme.len := by
  cases op with
  | truncate => exact ⟨rfl, h.truncate.1, h.truncate.2, rfl, rfl, rfl⟩
  | adjust np =>
    obtain ⟨a1, a2, a3⟩ := h.adjust np hp
    refine ⟨a1, a2, Nat.le_of_eq a3, ?_⟩
    show (u.adjustOffs np).2.1.uriType = u.uriType ∧ (u.adjustOffs np).2.1.portNo = u.portNo ∧
      (u.adjustOffs np).2.1.scheme.len = u.scheme.len
    rw [us_adjust_eq h np hp]
    split <;> exact ⟨rfl, rfl, rfl⟩
  | long =>
    refine ⟨?_, h, Nat.le_refl _, rfl, rfl, rfl⟩
    show u.long.2 = false
    rw [us_long_eq h]
  | short =>
    refine ⟨?_, h, Nat.le_refl _, rfl, rfl, rfl⟩
    show u.short.2 = false
    rw [us_short_eq h]
  | flat b =>
    refine ⟨?_, h, Nat.le_refl _, rfl, rfl, rfl⟩
    show (u.flat b).isNone = false
    have hp' : u.long.1.offs + u.long.1.len ≤ b.size := hp
    rw [us_long_eq h] at hp'
    have e1 := (us_ends h).1
    have e2 := (us_ends h).2.1
    have hb : usLongEnd u ≤ b.size := by
      have : u.scheme.offs + (usLongEnd u - u.scheme.offs) ≤ b.size := hp'
      omega
    rw [us_flat_eq h b, if_pos hb]
    rfl

/-- **(1) ANY finite sequence of Truncate / AdjustOffs (any 16-bit spans, accepted or refused) / Long / Short / Flat
    calls on a URI that satisfies the invariant never panics** [EXPORT C18], and the URI at the end satisfies the invariant -/
theorem us_ops_never_panic (ops : List USOp) : ∀ {u : PsipURI}, USWf u → usPreAll u ops →
    (usRun u ops).2 = false ∧ USWf (usRun u ops).1 ∧ ulLen (usRun u ops).1 ≤ ulLen u ∧
    (usRun u ops).1.uriType = u.uriType ∧ (usRun u ops).1.portNo = u.portNo ∧
    (usRun u ops).1.scheme.len = u.scheme.len := by
  induction ops with
  | nil => intro u h _; exact ⟨rfl, h, Nat.le_refl _, rfl, rfl, rfl⟩
  | cons op r ih =>
    intro u h hpre
    obtain ⟨e1, e2, e3, e4, e5, e6⟩ := us_exec_ok h op hpre.1
    obtain ⟨i1, i2, i3, i4, i5, i6⟩ := ih e2 hpre.2
    have hr : usRun u (op :: r) = usRun (usExec u op).1 r := by
      show (if (usExec u op).2 then ((usExec u op).1, true) else usRun (usExec u op).1 r) = _
      rw [e1]
      rfl
    rw [hr]
    exact ⟨i1, i2, Nat.le_trans i3 e3, i4.trans e4, i5.trans e5, i6.trans e6⟩

theorem us_preAll_take (ops : List USOp) : ∀ (u : PsipURI) (n : Nat), usPreAll u ops → usPreAll u (ops.take n) := by
  induction ops with
  | nil => intro u n h; rw [List.take_nil]; exact h
  | cons op r ih =>
    intro u n h
    cases n with
    | zero => exact trivial
    | succ n => exact ⟨h.1, ih _ n h.2⟩

/-- **(1) … and at EVERY step** [EXPORT C18] (after the first `n` calls, for every `n`): no call has panicked, the invariant holds, so
    the hypotheses of the C18 theorems about AdjustOffs (`ULWF u (ulLen u)`, field for field `C18.WF`, and
    `ulSum u ≤ ulLen u`) hold for the structure as it is then, and Long / Short do not panic on it -/
theorem us_ops_every_step {u : PsipURI} (h : USWf u) (ops : List USOp) (hpre : usPreAll u ops) (n : Nat) :
    (usRun u (ops.take n)).2 = false ∧ USWf (usRun u (ops.take n)).1 ∧
    ULWF (usRun u (ops.take n)).1 (ulLen (usRun u (ops.take n)).1) ∧
    ulSum (usRun u (ops.take n)).1 ≤ ulLen (usRun u (ops.take n)).1 ∧
    ulLen (usRun u (ops.take n)).1 ≤ ulLen u ∧
    (usRun u (ops.take n)).1.long.2 = false ∧ (usRun u (ops.take n)).1.short.2 = false := by
  obtain ⟨a1, a2, a3, _⟩ := us_ops_never_panic (ops.take n) h (us_preAll_take ops u n hpre)
  obtain ⟨v1, v2, _⟩ := us_short_prefix_long a2
  exact ⟨a1, a2, a2.ulwf, a2.sum, a3, v1, v2⟩

/-- **(1) ANY finite sequence of Truncate / AdjustOffs (to any 16-bit spans, accepted or refused) / Long /
    Short / Flat calls on a parsed URI never panics, and every theorem of C18 applies at every step** [EXPORT C18]: for every
    accepted input `b` (≤ 65,535 bytes), every list of calls whose only obligations are those of `usPre` (the span is
    a pair of 16-bit numbers; the buffer given to Flat holds the span Long() reports) and every `n`: after the first
    `n` calls nothing has panicked, the structure satisfies the invariant, hence `ULWF` (= `C18.WF`) with its own
    computed length and `ulSum ≤ ulLen` — the hypotheses of `adjust_moves` / `adjust_refused` — and the computed
    length never exceeds len(b) -/
theorem uri_ops_never_panic (b : Buf) (hfit : b.size ≤ 65535) (hacc : (parseURI b {}).1 = .none)
    (ops : List USOp) (hpre : usPreAll (parseURI b {}).2.2.1 ops) (n : Nat) :
    (usRun (parseURI b {}).2.2.1 (ops.take n)).2 = false ∧
    USWf (usRun (parseURI b {}).2.2.1 (ops.take n)).1 ∧
    ULWF (usRun (parseURI b {}).2.2.1 (ops.take n)).1 (ulLen (usRun (parseURI b {}).2.2.1 (ops.take n)).1) ∧
    ulSum (usRun (parseURI b {}).2.2.1 (ops.take n)).1 ≤ ulLen (usRun (parseURI b {}).2.2.1 (ops.take n)).1 ∧
    ulLen (usRun (parseURI b {}).2.2.1 (ops.take n)).1 ≤ b.size ∧
    (usRun (parseURI b {}).2.2.1 (ops.take n)).1.long.2 = false ∧
    (usRun (parseURI b {}).2.2.1 (ops.take n)).1.short.2 = false := by
  obtain ⟨hw, _, hlen⟩ := us_parsed_wf b hfit hacc
  have := us_ops_every_step hw ops hpre n
  rw [hlen] at this
  exact this

/-- **(2) parse, relocate, relocate again** [EXPORT C18]: for an accepted input and two spans that hold it (inside the
    16-bit range), AdjustOffs to the first and then to the second gives exactly what AdjustOffs to the second gives
    directly (so `C18.relocate_parsed` describes the result: every component reads the original bytes), and going
    back to a span at offset 0 gives back the parsed URI itself -/
theorem us_parsed_relocate_twice (b : Buf) (hfit : b.size ≤ 65535) (hacc : (parseURI b {}).1 = .none)
    (np1 np2 : PField) (h1 : b.size ≤ np1.len) (l1 : np1.offs + np1.len < 65536) (h2 : b.size ≤ np2.len)
    (l2 : np2.offs + np2.len < 65536) :
    ((parseURI b {}).2.2.1.adjustOffs np1).1 = true ∧ ((parseURI b {}).2.2.1.adjustOffs np2).1 = true ∧
    ((parseURI b {}).2.2.1.adjustOffs np1).2.1.adjustOffs np2 = (parseURI b {}).2.2.1.adjustOffs np2 ∧
    (np2.offs = 0 → ((parseURI b {}).2.2.1.adjustOffs np1).2.1.adjustOffs np2 = (true, (parseURI b {}).2.2.1, false)) := by
  obtain ⟨hw, hs, hlen⟩ := us_parsed_wf b hfit hacc
  have s1 : usSpan np1 := ⟨by omega, by omega⟩
  have s2 : usSpan np2 := ⟨by omega, by omega⟩
  have e1 := us_adjust_eq hw np1 s1
  have e2 := us_adjust_eq hw np2 s2
  rw [if_pos ⟨l1, by omega⟩] at e1
  rw [if_pos ⟨l2, by omega⟩] at e2
  have acc1 : ((parseURI b {}).2.2.1.adjustOffs np1).1 = true := by rw [e1]
  have acc2 : ((parseURI b {}).2.2.1.adjustOffs np2).1 = true := by rw [e2]
  refine ⟨acc1, acc2, (us_adjust_adjust hw np1 np2 s1 s2 acc1).2.1 acc2, fun h0 => ?_⟩
  exact us_adjust_back hw np1 np2 s1 s2 acc1 (by omega) (by omega) l2

/-- **(3) parse, Truncate, relocate** [EXPORT C18]: the truncated URI is accepted by exactly the spans (inside the 16-bit
    range) of at least `ulLen u.truncate` bytes — at most len(b), at least the length of Short(), equal to it unless
    the port is present but empty — and Long / Short of the result are the Short of the parsed URI at the new offset -/
theorem us_parsed_truncate_adjust (b : Buf) (hfit : b.size ≤ 65535) (hacc : (parseURI b {}).1 = .none)
    (np : PField) (hnp : usSpan np) (hlim : np.offs + np.len < 65536) :
    (((parseURI b {}).2.2.1.truncate.adjustOffs np).1 = true ↔ ulLen (parseURI b {}).2.2.1.truncate ≤ np.len) ∧
    ((parseURI b {}).2.2.1.truncate.adjustOffs np).2.2 = false ∧
    (parseURI b {}).2.2.1.short.1.len ≤ ulLen (parseURI b {}).2.2.1.truncate ∧
    ulLen (parseURI b {}).2.2.1.truncate ≤ b.size ∧
    (((parseURI b {}).2.2.1.port.offs ≠ 0 → 0 < (parseURI b {}).2.2.1.port.len) →
      ulLen (parseURI b {}).2.2.1.truncate = (parseURI b {}).2.2.1.short.1.len) ∧
    (((parseURI b {}).2.2.1.truncate.adjustOffs np).1 = true →
      ((parseURI b {}).2.2.1.truncate.adjustOffs np).2.1.long =
        ({ (parseURI b {}).2.2.1.short.1 with offs := np.offs }, false) ∧
      ((parseURI b {}).2.2.1.truncate.adjustOffs np).2.1.short =
        ({ (parseURI b {}).2.2.1.short.1 with offs := np.offs }, false)) := by
  obtain ⟨hw, hs, hlen⟩ := us_parsed_wf b hfit hacc
  obtain ⟨t1, t2, t3⟩ := us_truncate_adjust hw np hnp
  obtain ⟨_, k2, k3⟩ := us_truncate_len hw
  rw [hlen] at t2
  by_cases hc : ulLen (parseURI b {}).2.2.1.truncate ≤ np.len
  · rw [if_pos ⟨hlim, hc⟩] at t1
    rw [t1]
    exact ⟨⟨fun _ => hc, fun _ => rfl⟩, rfl, k2, t2, k3, fun _ => t3 (by omega)⟩
  · rw [if_neg (fun hh => hc hh.2)] at t1
    rw [t1]
    exact ⟨⟨(fun hh => by cases hh), fun hh => absurd hh hc⟩, rfl, k2, t2, k3, (fun hh => by cases hh)⟩

/-! ## tests / non-vacuity: empty-but-present components (closed computations, `decide +kernel`)

  `sip:h;` (parameters present, empty), `sip:h:` (port present, empty), `sip:u:@h` (password present, empty),
  `sip:h?` (headers present, empty), `sip:h:;x` (empty port in the middle), `tel:a:b@c` (user behind the password). -/

instance usSpanDec (np : PField) : Decidable (usSpan np) := by unfold usSpan; infer_instance

/-- decision procedure for the caller's obligations (used by the tests only) -/
def usPreDec (u : PsipURI) : (op : USOp) → Decidable (usPre u op)
  | .truncate => isTrue trivial
  | .adjust np => usSpanDec np
  | .long => isTrue trivial
  | .short => isTrue trivial
  | .flat b => inferInstanceAs (Decidable (u.long.1.offs + u.long.1.len ≤ b.size))

def usPreAllDec : (u : PsipURI) → (ops : List USOp) → Decidable (usPreAll u ops)
  | _, [] => isTrue trivial
  | u, op :: r => @instDecidableAnd _ _ (usPreDec u op) (usPreAllDec (usExec u op).1 r)

instance (u : PsipURI) (ops : List USOp) : Decidable (usPreAll u ops) := usPreAllDec u ops

def usTP (s : String) : PsipURI := (parseURI s.toUTF8.data {}).2.2.1

-- test: the four corner inputs are accepted; the empty component is PRESENT (offset ≠ 0, length 0)
example : (parseURI "sip:h;".toUTF8.data {}).1 = .none ∧ (usTP "sip:h;").params = ⟨6, 0⟩ ∧
    (parseURI "sip:h:".toUTF8.data {}).1 = .none ∧ (usTP "sip:h:").port = ⟨6, 0⟩ ∧
    (parseURI "sip:u:@h".toUTF8.data {}).1 = .none ∧ (usTP "sip:u:@h").pass = ⟨6, 0⟩ ∧
    (usTP "sip:u:@h").host = ⟨7, 1⟩ ∧
    (parseURI "sip:h?".toUTF8.data {}).1 = .none ∧ (usTP "sip:h?").headers = ⟨6, 0⟩ := by decide +kernel

-- non-vacuity: the hypotheses of `us_parsed_wf` are met by each of them, so every theorem above applies
example : USWf (usTP "sip:h;") := (us_parsed_wf "sip:h;".toUTF8.data (by decide +kernel) (by decide +kernel)).1
example : USWf (usTP "sip:h:") := (us_parsed_wf "sip:h:".toUTF8.data (by decide +kernel) (by decide +kernel)).1
example : USWf (usTP "sip:u:@h") := (us_parsed_wf "sip:u:@h".toUTF8.data (by decide +kernel) (by decide +kernel)).1
example : USWf (usTP "sip:h?") := (us_parsed_wf "sip:h?".toUTF8.data (by decide +kernel) (by decide +kernel)).1
example : USWf (usTP "tel:a:b@c") := (us_parsed_wf "tel:a:b@c".toUTF8.data (by decide +kernel) (by decide +kernel)).1

-- test: the computed length counts the dangling delimiter (6), Long() does not (5): a span of Long().Len bytes is
-- REFUSED for these URIs, 6 bytes are needed; the relocated empty component stays present (106 ≠ 0)
example : ulLen (usTP "sip:h;") = 6 ∧ (usTP "sip:h;").long = (⟨0, 5⟩, false) ∧
    ((usTP "sip:h;").adjustOffs ⟨100, 5⟩) = (false, usTP "sip:h;", false) ∧
    ((usTP "sip:h;").adjustOffs ⟨100, 6⟩).1 = true ∧
    ((usTP "sip:h;").adjustOffs ⟨100, 6⟩).2.1.params = ⟨106, 0⟩ ∧
    ((usTP "sip:h:").adjustOffs ⟨100, 5⟩).1 = false ∧ ((usTP "sip:h:").adjustOffs ⟨100, 6⟩).2.1.port = ⟨106, 0⟩ ∧
    ((usTP "sip:h?").adjustOffs ⟨100, 5⟩).1 = false ∧ ((usTP "sip:h?").adjustOffs ⟨100, 6⟩).2.1.headers = ⟨106, 0⟩ ∧
    ((usTP "sip:u:@h").adjustOffs ⟨100, 7⟩).1 = false ∧ ((usTP "sip:u:@h").adjustOffs ⟨100, 8⟩).2.1.pass = ⟨106, 0⟩ := by
  decide +kernel

-- test (2): relocate twice = relocate once; back to offset 0 = the parsed URI; all four corner inputs and tel:
example : ∀ s ∈ ["sip:h;", "sip:h:", "sip:u:@h", "sip:h?", "sip:h:;x", "tel:a:b@c"],
    (((usTP s).adjustOffs ⟨100, 9⟩).2.1.adjustOffs ⟨7, 20⟩) = (usTP s).adjustOffs ⟨7, 20⟩ ∧
    ((usTP s).adjustOffs ⟨7, 20⟩).1 = true ∧
    (((usTP s).adjustOffs ⟨100, 9⟩).2.1.adjustOffs ⟨0, 9⟩) = (true, usTP s, false) := by decide +kernel

-- the same through the theorems (hypotheses instantiated)
example : ((usTP "sip:h;").adjustOffs ⟨100, 9⟩).2.1.adjustOffs ⟨0, 9⟩ = (true, usTP "sip:h;", false) :=
  us_adjust_back (us_parsed_wf "sip:h;".toUTF8.data (by decide +kernel) (by decide +kernel)).1 ⟨100, 9⟩ ⟨0, 9⟩
    (by decide) (by decide) (by decide +kernel) (by decide +kernel) (by decide +kernel) (by decide)

-- test (3): the threshold after Truncate. `sip:h;` / `sip:h?`: 5 (the dangling delimiter went with the component);
-- `sip:h:` and `sip:h:;x`: 6 although Long() of the truncated URI is `sip:h` = 5 bytes — the empty port is still
-- present; `sips:u@h:5;a?b` (14 bytes): 10, not 14
example : ulLen (usTP "sip:h;").truncate = 5 ∧ ulLen (usTP "sip:h?").truncate = 5 ∧
    ((usTP "sip:h;").truncate.adjustOffs ⟨9, 5⟩).1 = true ∧ ((usTP "sip:h;").truncate.adjustOffs ⟨9, 4⟩).1 = false ∧
    ulLen (usTP "sip:h:").truncate = 6 ∧ (usTP "sip:h:").truncate.long = (⟨0, 5⟩, false) ∧
    ((usTP "sip:h:").truncate.adjustOffs ⟨9, 5⟩).1 = false ∧ ((usTP "sip:h:").truncate.adjustOffs ⟨9, 6⟩).1 = true ∧
    ulLen (usTP "sip:h:;x") = 8 ∧ ulLen (usTP "sip:h:;x").truncate = 6 ∧
    (usTP "sip:h:;x").truncate.long = (⟨0, 5⟩, false) ∧
    ((usTP "sip:h:;x").truncate.adjustOffs ⟨9, 5⟩).1 = false ∧
    ((usTP "sip:h:;x").truncate.adjustOffs ⟨9, 6⟩).2.1.long = (⟨9, 5⟩, false) ∧
    ulLen (usTP "sips:u@h:5;a?b") = 14 ∧ ulLen (usTP "sips:u@h:5;a?b").truncate = 10 ∧
    ((usTP "sips:u@h:5;a?b").truncate.adjustOffs ⟨9, 10⟩).1 = true ∧
    ((usTP "sips:u@h:5;a?b").truncate.adjustOffs ⟨9, 9⟩).1 = false := by decide +kernel

-- test (4): the views of the relocated URI are the relocated views
example : ∀ s ∈ ["sip:h;", "sip:h:", "sip:u:@h", "sip:h?", "sip:h:;x", "tel:a:b@c", "sips:u@h:5;a?b"],
    ((usTP s).adjustOffs ⟨100, 14⟩).1 = true ∧
    ((usTP s).adjustOffs ⟨100, 14⟩).2.1.long = ({ (usTP s).long.1 with offs := 100 }, false) ∧
    ((usTP s).adjustOffs ⟨100, 14⟩).2.1.short = ({ (usTP s).short.1 with offs := 100 }, false) := by decide +kernel

-- test (4), bytes: "sip:u:@h" sits at offset 4 of "To:<sip:u:@h>"; Flat of the relocated URI there = Flat of the
-- original = the 8 bytes; `USSameText` is satisfiable
example : USSameText "To:<sip:u:@h>".toUTF8.data 4 "sip:u:@h".toUTF8.data 0 8 := by
  refine ⟨?_, ?_, ?_⟩ <;> decide +kernel
example : (ulRelocate (usTP "sip:u:@h") 4).flat "To:<sip:u:@h>".toUTF8.data = some "sip:u:@h".toUTF8.data ∧
    (usTP "sip:u:@h").flat "sip:u:@h".toUTF8.data = some "sip:u:@h".toUTF8.data ∧
    (ulRelocate (usTP "sip:h;") 4).flat "To:<sip:h;>".toUTF8.data = some "sip:h".toUTF8.data := by decide +kernel

-- `us_parsed_relocate_twice`, `us_parsed_truncate_adjust`, `us_adjust_views` with all hypotheses instantiated
example : ((usTP "sip:u:@h").adjustOffs ⟨100, 8⟩).2.1.adjustOffs ⟨0, 9⟩ = (true, usTP "sip:u:@h", false) :=
  (us_parsed_relocate_twice "sip:u:@h".toUTF8.data (by decide +kernel) (by decide +kernel) ⟨100, 8⟩ ⟨0, 9⟩
    (by decide +kernel) (by decide) (by decide +kernel) (by decide)).2.2.2 rfl
example : ((usTP "sip:h:;x").truncate.adjustOffs ⟨9, 6⟩).1 = true :=
  (us_parsed_truncate_adjust "sip:h:;x".toUTF8.data (by decide +kernel) (by decide +kernel) ⟨9, 6⟩ (by decide)
    (by decide)).1.2 (by decide +kernel)
example : ((usTP "sip:h?").adjustOffs ⟨4, 6⟩).2.1.flat "To:<sip:h?>".toUTF8.data = (usTP "sip:h?").flat "sip:h?".toUTF8.data :=
  ((us_adjust_views (us_parsed_wf "sip:h?".toUTF8.data (by decide +kernel) (by decide +kernel)).1 ⟨4, 6⟩ (by decide)
    (by decide +kernel)).2.2.2.2 "To:<sip:h?>".toUTF8.data "sip:h?".toUTF8.data
    (by refine ⟨?_, ?_, ?_⟩ <;> decide +kernel)).1

/-- a sequence of calls on the parsed `sip:h:;x`: views, a relocation, Flat in the new buffer, a refused span, a span
    whose end wraps, Truncate, a relocation onto 6 bytes, one onto 5 bytes (refused: the empty port is present) -/
def usTOps : List USOp :=
  [.long, .adjust ⟨4, 8⟩, .flat "To:<sip:h:;x>".toUTF8.data, .adjust ⟨50, 7⟩, .adjust ⟨65530, 8⟩, .short, .truncate,
   .adjust ⟨200, 6⟩, .adjust ⟨300, 5⟩, .long, .flat (Array.replicate 205 0)]

-- test: the caller's obligations hold along the sequence; nothing panics; the structure at the end
example : usPreAll (usTP "sip:h:;x") usTOps := by decide +kernel
example : usRun (usTP "sip:h:;x") usTOps =
    ({ uriType := SIPuri, scheme := ⟨200, 4⟩, host := ⟨204, 1⟩, port := ⟨206, 0⟩ }, false) := by decide +kernel
-- … and `uri_ops_never_panic` with all hypotheses instantiated, after 9 of the 11 calls
example : (usRun (usTP "sip:h:;x") (usTOps.take 9)).2 = false ∧ USWf (usRun (usTP "sip:h:;x") (usTOps.take 9)).1 :=
  have h := uri_ops_never_panic "sip:h:;x".toUTF8.data (by decide +kernel) (by decide +kernel) usTOps
    (by decide +kernel) 9
  ⟨h.1, h.2.1⟩
-- test: the interpreter does report a panic when the obligation of Flat is NOT met (buffer too short)
example : usRun (usTP "sip:h;") [.flat "sip".toUTF8.data, .truncate] = (usTP "sip:h;", true) := by decide +kernel

end Sipsp

