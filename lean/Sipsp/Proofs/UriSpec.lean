/-
  Sipsp.Proofs.UriSpec — ParseURI on ALL inputs of at most 65,535 bytes: never panics, reports a position inside the
  input, and an accepted URI is tiled by the reported components (`parseURI_ok`, `URILayout`); the '@' that ends the
  user-info is the last one (`parseURI_at`); a host that opens with `[` ends with `]` (`parseURI_br`).
  `parseURI_layout` is the form of `parseURI_ok` for accepted URIs that proofs start from.

  `parseURI_ok` is `parseURI_scheme_cases` and `ucRun_char` (UriInv); what it says about accepted URIs, and the other
  two, are facts about texts of the grammar (`parseURI_accepted`, then `UcRest.layout` / `.noAt` / `.hostBr`).
-/
import Sipsp.Proofs.UriInv


namespace Sipsp

theorem uhostField_out (u : PsipURI) : uhostField (ucOut u) = u.host := by
  unfold uhostField
  rw [ucOut_type]
  by_cases ht : u.uriType = TELuri
  · rw [if_pos ht, ucOut_tel ht]
  · rw [if_neg ht, ucOut_nontel ht]

/-- **ParseURI, all inputs of at most 65,535 bytes**: never panics, reports a position inside the input, and when it
    accepts, it has consumed everything and the components tile the input (`URILayout`; for tel: after the swap). -/
theorem parseURI_ok (b : Buf) (hfit : b.size ≤ 65535) :
    (parseURI b {}).2.1 ≤ b.size ∧ (parseURI b {}).2.2.2 = false ∧
    ((parseURI b {}).1 = .none →
      (parseURI b {}).2.1 = b.size ∧
      ∃ t k u0, ((t = SIPuri ∧ k = 4 ∧ USchEnd b) ∨ (t = TELuri ∧ k = 4 ∧ USchEnd b) ∨
          (t = SIPSuri ∧ k = 5 ∧ b[4]? = some 58)) ∧
        URILayout b k u0 ∧ u0.uriType = t ∧ (parseURI b {}).2.2.1 = if t = TELuri then telSwap u0 else u0) := by
  refine ⟨?_, ?_, fun hacc => ?_⟩
  · rcases parseURI_scheme_cases b with ⟨-, h⟩ | ⟨h5, -, -, -, h⟩ | ⟨t, k, σ0, -, hi, hk, hk2, h⟩ <;> rw [h]
    · exact Nat.le_refl _
    · simp only; omega
    · rcases (ucRun_char hi hk hk2 hfit).2 with ⟨_, _, _, _, hr⟩ | ⟨_, _, _, _, hp⟩ | ⟨c, _, _, _, hc, _⟩
      · rw [hr]; exact Nat.le_refl _
      · exact Nat.le_of_eq hp
      · exact Nat.le_of_lt (get?_lt hc)
  · rcases parseURI_scheme_cases b with ⟨-, h⟩ | ⟨-, -, -, -, h⟩ | ⟨t, k, σ0, -, hi, hk, hk2, h⟩ <;> rw [h]
    exact (ucRun_char hi hk hk2 hfit).1
  · obtain ⟨t, k, u0, hsch, ⟨hty, hs, hr⟩, h⟩ := parseURI_accepted b hfit hacc
    rw [h]
    exact ⟨rfl, t, k, u0, hsch.schEnd, hr.layout hs, hty, ucOut_swap hty⟩

/-- the shape of every accepted URI: the sip-style decomposition `u0` tiles the input from the scheme length `k` on,
    and the reported object is `u0` (tel: `u0` with the number moved from host to user) -/
theorem parseURI_layout (b : Buf) (hfit : b.size ≤ 65535) (hacc : (parseURI b {}).1 = .none) :
    ∃ k u0, 0 < k ∧ URILayout b k u0 ∧
      (parseURI b {}).2.2.1 = if u0.uriType = TELuri then telSwap u0 else u0 := by
  obtain ⟨_, t, k, u0, hk, hl, rfl, hu⟩ := (parseURI_ok b hfit).2.2 hacc
  exact ⟨k, u0, by rcases hk with ⟨_, rfl, _⟩ | ⟨_, rfl, _⟩ | ⟨_, rfl, _⟩ <;> decide, hl, hu⟩

/-- the same by scheme: sip and sips report the decomposition itself, tel the one with the number moved -/
theorem parseURI_shape (b : Buf) (hfit : b.size ≤ 65535) (hacc : (parseURI b {}).1 = .none) :
    ((parseURI b {}).2.2.1.uriType = SIPuri ∧ USchEnd b ∧ URILayout b 4 (parseURI b {}).2.2.1) ∨
    ((parseURI b {}).2.2.1.uriType = TELuri ∧ USchEnd b ∧
      ∃ u0, URILayout b 4 u0 ∧ (parseURI b {}).2.2.1 = telSwap u0) ∨
    ((parseURI b {}).2.2.1.uriType = SIPSuri ∧ b[4]? = some 58 ∧ URILayout b 5 (parseURI b {}).2.2.1) := by
  obtain ⟨_, t, k, u0, hk, hl, hty, hu⟩ := (parseURI_ok b hfit).2.2 hacc
  rw [hu]
  rcases hk with ⟨rfl, rfl, h3⟩ | ⟨rfl, rfl, h3⟩ | ⟨rfl, rfl, h4⟩
  · rw [if_neg (by decide)]; exact .inl ⟨hty, h3, hl⟩
  · rw [if_pos rfl]; exact .inr (.inl ⟨hty, h3, u0, hl, rfl⟩)
  · rw [if_neg (by decide)]; exact .inr (.inr ⟨hty, h4, hl⟩)

/-- every component of a URI accepted by ParseURI (sip, sips, tel) reads back as the slice `[offs, offs + len)` -/
theorem parseURI_get (b : Buf) (hfit : b.size ≤ 65535) (hacc : (parseURI b {}).1 = .none) :
    ∀ f ∈ [(parseURI b {}).2.2.1.scheme, (parseURI b {}).2.2.1.user, (parseURI b {}).2.2.1.pass,
        (parseURI b {}).2.2.1.host, (parseURI b {}).2.2.1.port, (parseURI b {}).2.2.1.params,
        (parseURI b {}).2.2.1.headers], f.get? b = some (useg b f) := by
  obtain ⟨k, u0, hk0, hl, hu⟩ := parseURI_layout b hfit hacc
  have hg := hl.get hk0 hfit
  rw [hu]
  intro f hf
  split at hf
  · simp only [telSwap, List.mem_cons, List.not_mem_nil, or_false] at hf
    rcases hf with rfl | rfl | rfl | rfl | rfl | rfl | rfl
    all_goals first | exact field_get? b 0 0 (Nat.zero_le _) hfit | exact hg _ (by simp)
  · exact hg f hf

/-- **the '@' that ends the user-info is the last '@' of an accepted URI**; without user-info the only place where
    an '@' can be is the very first byte after the scheme (`k` = scheme length). -/
theorem parseURI_at (b : Buf) (hfit : b.size ≤ 65535) (hacc : (parseURI b {}).1 = .none) :
    ∀ j, (parseURI b {}).2.2.1.scheme.len < j → uhostStart (parseURI b {}).2.2.1 ≤ j → j < b.size →
      b[j]? ≠ some 64 := by
  obtain ⟨t, k, u0, -, ⟨-, hs, hr⟩, h⟩ := parseURI_accepted b hfit hacc
  intro j hkj h1 h2
  rw [h] at hkj h1
  rw [show (ucOut u0).scheme = u0.scheme by unfold ucOut; split <;> rfl, hs] at hkj
  rw [uhostStart_eq, uhostField_out] at h1
  exact hr.noAt hkj h1 h2

/-- **bracketed hosts keep their brackets**: if the reported host of an accepted URI starts with '[', its last byte
    is ']' (for tel: the host is what is reported as user) -/
theorem parseURI_br (b : Buf) (hfit : b.size ≤ 65535) (hacc : (parseURI b {}).1 = .none) :
    UHostBr b (uhostField (parseURI b {}).2.2.1) := by
  obtain ⟨t, k, u0, -, ⟨-, -, hr⟩, h⟩ := parseURI_accepted b hfit hacc
  rw [h]
  simp only [uhostField_out]
  exact hr.hostBr

end Sipsp
