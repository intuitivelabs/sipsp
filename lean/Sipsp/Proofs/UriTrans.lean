/-
  Sipsp.Proofs.UriTrans — `parseURI` (ParseURI of sipuri.go) described once for all proofs about it.  `UTr` has one
  constructor per state group and class of byte, with the outcome of `uriStep`; `UFin` has one per exit of the
  end-of-input switch.  Both descriptions are exact (`UTr.eq`, `UFin.eq`), so an invariant of the automaton is a
  `cases` on them.  The loop and the run behind the scheme are stated for any property that the steps which go on keep
  (`uriLoop_cases`, `ucRun_cases`).  The scheme test compares the first four bytes after OR-ing 0x20 into each
  (`parseURI_scheme_cases`); `parseURI_congr` says that this word, the ':' test at the fifth byte and the automaton
  behind it are all that ParseURI reads of its input.
-/
import Sipsp.Model.URI
import Sipsp.Proofs.Buf

namespace Sipsp

/-- what a ':' in parameters / headers does to the back-tracking data: the first one is remembered as the start of a
    password, a second one settles that there is no user part -/
def uMarkColon (i : Nat) (σ : UState) : UState :=
  if σ.foundUser == false then
    if σ.passOffs != 0 then { σ with foundUser := true, passOffs := 0 } else { σ with passOffs := i }
  else σ

/-- what a ';' / '?' in parameters / headers does to them: a remembered ':' was not the start of a password -/
def uSettle (σ : UState) : UState :=
  if σ.passOffs != 0 then { σ with passOffs := 0, foundUser := true } else σ

/-- the '@' found in parameters / headers, user (and password) in `σ1`: the host starts behind it -/
def uAtReset (i : Nat) (σ1 : UState) : UState :=
  { σ1 with foundUser := true, errHeaders := false, st := .host0, s := i + 1, portNo := 0,
            u := { σ1.u with host := {}, port := {}, portNo := 0, params := {}, headers := {} } }

/-- the accepting exit of `uriFinish`: for tel: the host is handed out as the user (on the components this is `ucOut`:
    `ucProj_uAccept`, UriGrammar) -/
def uAccept (n : Nat) (σ : UState) : UErr × Nat × UState :=
  if σ.u.uriType == TELuri then (.none, n, { σ with u := { σ.u with user := σ.u.host, host := {} } })
  else (.none, n, σ)

@[simp] theorem uMarkColon_u (i : Nat) (σ : UState) : (uMarkColon i σ).u = σ.u := by
  unfold uMarkColon; split <;> (try split) <;> rfl
@[simp] theorem uMarkColon_st (i : Nat) (σ : UState) : (uMarkColon i σ).st = σ.st := by
  unfold uMarkColon; split <;> (try split) <;> rfl
@[simp] theorem uMarkColon_s (i : Nat) (σ : UState) : (uMarkColon i σ).s = σ.s := by
  unfold uMarkColon; split <;> (try split) <;> rfl
@[simp] theorem uMarkColon_pnc (i : Nat) (σ : UState) : (uMarkColon i σ).pnc = σ.pnc := by
  unfold uMarkColon; split <;> (try split) <;> rfl
@[simp] theorem uMarkColon_errHeaders (i : Nat) (σ : UState) : (uMarkColon i σ).errHeaders = σ.errHeaders := by
  unfold uMarkColon; split <;> (try split) <;> rfl
@[simp] theorem uSettle_u (σ : UState) : (uSettle σ).u = σ.u := by unfold uSettle; split <;> rfl
@[simp] theorem uSettle_st (σ : UState) : (uSettle σ).st = σ.st := by unfold uSettle; split <;> rfl
@[simp] theorem uSettle_s (σ : UState) : (uSettle σ).s = σ.s := by unfold uSettle; split <;> rfl
@[simp] theorem uSettle_pnc (σ : UState) : (uSettle σ).pnc = σ.pnc := by unfold uSettle; split <;> rfl
@[simp] theorem uSettle_errHeaders (σ : UState) : (uSettle σ).errHeaders = σ.errHeaders := by
  unfold uSettle; split <;> rfl

inductive UTr (i : Nat) (c : UInt8) (σ : UState) : UStep → Prop
  | init_br (hst : σ.st = .initSIP ∨ σ.st = .initSIPS ∨ σ.st = .initTEL) (hc : c = 91) :
      UTr i c σ (.next { σ with st := .host61, s := i })
  | init_bad (hst : σ.st = .initSIP ∨ σ.st = .initSIPS ∨ σ.st = .initTEL) (hc : c = 58 ∨ c = 93) :
      UTr i c σ (.fail .badChar i σ)
  | init_tok (hst : σ.st = .initSIP ∨ σ.st = .initSIPS ∨ σ.st = .initTEL) (hc : c ≠ 91 ∧ c ≠ 58 ∧ c ≠ 93) :
      UTr i c σ (.next { σ with st := .user, s := i })
  | user_at (hst : σ.st = .user) (hc : c = 64) :
      UTr i c σ (.next { σ.setUser σ.s i with st := .host0, foundUser := true, s := i + 1 })
  | user_colon (hst : σ.st = .user) (hc : c = 58) :
      UTr i c σ (.next { σ.setUser σ.s i with st := .pass0, s := i + 1 })
  | user_semi (hst : σ.st = .user) (hc : c = 59) :
      UTr i c σ (.next { σ.setHost σ.s i with st := .param0, s := i + 1 })
  | user_quest (hst : σ.st = .user) (hc : c = 63) :
      UTr i c σ (.next { σ.setHost σ.s i with st := .headers, s := i + 1 })
  | user_bad (hst : σ.st = .user) (hc : c = 91 ∨ c = 93) : UTr i c σ (.fail .badChar i σ)
  | user_tok (hst : σ.st = .user) (hc : c ≠ 64 ∧ c ≠ 58 ∧ c ≠ 59 ∧ c ≠ 63 ∧ c ≠ 91 ∧ c ≠ 93) : UTr i c σ (.next σ)
  | pass0_at (hst : σ.st = .pass0) (hc : c = 64) :
      UTr i c σ (.next { σ.setPass σ.s i with portNo := 0, st := .host0, foundUser := true, s := i + 1 })
  | pass0_big (hst : σ.st = .pass0) (hc : c = 59 ∨ c = 63) (hbig : σ.portNo > 65535) :
      UTr i c σ (.fail .port i (σ.setPort σ.s i))
  | pass0_semi (hst : σ.st = .pass0) (hc : c = 59) (hle : σ.portNo ≤ 65535) :
      UTr i c σ (.next { σ.setPort σ.s i with
        u := { (σ.setPort σ.s i).u with portNo := σ.portNo, host := σ.u.user, user := {} },
        foundUser := true, s := i + 1, st := .param0 })
  | pass0_quest (hst : σ.st = .pass0) (hc : c = 63) (hle : σ.portNo ≤ 65535) :
      UTr i c σ (.next { σ.setPort σ.s i with
        u := { (σ.setPort σ.s i).u with portNo := σ.portNo, host := σ.u.user, user := {} },
        foundUser := true, s := i + 1, st := .headers })
  | pass0_digit (hst : σ.st = .pass0) (hc : isDigit c = true) :
      UTr i c σ (.next { σ with portNo := accPort σ.portNo c })
  | pass0_bad (hst : σ.st = .pass0) (hc : c = 91 ∨ c = 93 ∨ c = 58) : UTr i c σ (.fail .badChar i σ)
  | pass0_tok (hst : σ.st = .pass0)
      (hc : c ≠ 64 ∧ c ≠ 59 ∧ c ≠ 63 ∧ isDigit c = false ∧ c ≠ 91 ∧ c ≠ 93 ∧ c ≠ 58) :
      UTr i c σ (.next { σ with portNo := 0, st := .pass1 })
  | pass1_at (hst : σ.st = .pass1) (hc : c = 64) :
      UTr i c σ (.next { σ.setPass σ.s i with st := .host0, foundUser := true, s := i + 1 })
  | pass1_bad (hst : σ.st = .pass1) (hc : c = 59 ∨ c = 63 ∨ c = 91 ∨ c = 93 ∨ c = 58) :
      UTr i c σ (.fail .badChar i σ)
  | pass1_tok (hst : σ.st = .pass1) (hc : c ≠ 64 ∧ c ≠ 59 ∧ c ≠ 63 ∧ c ≠ 91 ∧ c ≠ 93 ∧ c ≠ 58) :
      UTr i c σ (.next σ)
  | host0_br (hst : σ.st = .host0) (hc : c = 91) : UTr i c σ (.next { σ with st := .host61 })
  | host0_bad (hst : σ.st = .host0) (hc : c = 58 ∨ c = 59 ∨ c = 63 ∨ c = 38 ∨ c = 64) : UTr i c σ (.fail .host i σ)
  | host0_tok (hst : σ.st = .host0) (hc : c ≠ 64 ∧ c ≠ 91 ∧ c ≠ 58 ∧ c ≠ 59 ∧ c ≠ 63 ∧ c ≠ 38) :
      UTr i c σ (.next { σ with st := .host1 })
  | host_colon (hst : σ.st = .host1 ∨ σ.st = .host6E) (hc : c = 58) :
      UTr i c σ (.next { σ.setHost σ.s i with st := .port, s := i + 1 })
  | host_semi (hst : σ.st = .host1 ∨ σ.st = .host6E) (hc : c = 59) :
      UTr i c σ (.next { σ.setHost σ.s i with st := .param0, s := i + 1 })
  | host_quest (hst : σ.st = .host1 ∨ σ.st = .host6E) (hc : c = 63) :
      UTr i c σ (.next { σ.setHost σ.s i with st := .headers, s := i + 1 })
  | host1_bad (hst : σ.st = .host1) (hc : c = 38 ∨ c = 64) : UTr i c σ (.fail .badChar i σ)
  | host1_tok (hst : σ.st = .host1) (hc : c ≠ 64 ∧ c ≠ 58 ∧ c ≠ 59 ∧ c ≠ 63 ∧ c ≠ 38) : UTr i c σ (.next σ)
  | host61_close (hst : σ.st = .host61) (hc : c = 93) : UTr i c σ (.next { σ with st := .host6E })
  | host61_bad (hst : σ.st = .host61) (hc : c = 91 ∨ c = 64 ∨ c = 59 ∨ c = 63 ∨ c = 38) :
      UTr i c σ (.fail .host i σ)
  | host61_tok (hst : σ.st = .host61) (hc : c ≠ 64 ∧ c ≠ 93 ∧ c ≠ 91 ∧ c ≠ 59 ∧ c ≠ 63 ∧ c ≠ 38) :
      UTr i c σ (.next σ)
  | host6E_bad (hst : σ.st = .host6E) (hc : c ≠ 58 ∧ c ≠ 59 ∧ c ≠ 63) : UTr i c σ (.fail .host i σ)
  | port_digit (hst : σ.st = .port) (hc : isDigit c = true) :
      UTr i c σ (.next { σ with portNo := accPort σ.portNo c })
  | port_big (hst : σ.st = .port) (hd : isDigit c = false) (hc : c = 59 ∨ c = 63) (hbig : σ.portNo > 65535) :
      UTr i c σ (.fail .port i (σ.setPort σ.s i))
  | port_semi (hst : σ.st = .port) (hc : c = 59) (hle : σ.portNo ≤ 65535) :
      UTr i c σ (.next { σ.setPort σ.s i with
        u := { (σ.setPort σ.s i).u with portNo := σ.portNo }, s := i + 1, st := .param0 })
  | port_quest (hst : σ.st = .port) (hc : c = 63) (hle : σ.portNo ≤ 65535) :
      UTr i c σ (.next { σ.setPort σ.s i with
        u := { (σ.setPort σ.s i).u with portNo := σ.portNo }, s := i + 1, st := .headers })
  | port_bad (hst : σ.st = .port) (hc : isDigit c = false ∧ c ≠ 59 ∧ c ≠ 63) : UTr i c σ (.fail .port i σ)
  | at_bad (hst : σ.st = .param0 ∨ σ.st = .param1 ∨ σ.st = .headers) (hc : c = 64) (hfu : σ.foundUser = true) :
      UTr i c σ (.fail .badChar i σ)
  | at_user (hst : σ.st = .param0 ∨ σ.st = .param1 ∨ σ.st = .headers) (hc : c = 64) (hfu : σ.foundUser = false)
      (hpo : σ.passOffs = 0) :
      UTr i c σ (.next (uAtReset i { σ.setUser σ.u.host.offs i with
        u := { (σ.setUser σ.u.host.offs i).u with pass := {} } }))
  | at_pass (hst : σ.st = .param0 ∨ σ.st = .param1 ∨ σ.st = .headers) (hc : c = 64) (hfu : σ.foundUser = false)
      (hpo : σ.passOffs ≠ 0) :
      UTr i c σ (.next (uAtReset i ((σ.setUser σ.u.host.offs σ.passOffs).setPass (σ.passOffs + 1) i)))
  | par_colon (hst : σ.st = .param0 ∨ σ.st = .param1) (hc : c = 58) :
      UTr i c σ (.next { uMarkColon i σ with st := .param1 })
  | par_semi (hst : σ.st = .param0 ∨ σ.st = .param1) (hc : c = 59) :
      UTr i c σ (.next { uSettle σ with st := .param0 })
  | par_quest (hst : σ.st = .param0 ∨ σ.st = .param1) (hc : c = 63) :
      UTr i c σ (.next (uSettle { σ.setParams σ.s i with st := .headers, s := i + 1 }))
  | par_tok (hst : σ.st = .param0 ∨ σ.st = .param1) (hc : c ≠ 64 ∧ c ≠ 58 ∧ c ≠ 59 ∧ c ≠ 63) :
      UTr i c σ (.next { σ with st := .param1 })
  | hdr_semi_bad (hst : σ.st = .headers) (hc : c = 59) (h : σ.foundUser = true ∨ σ.passOffs ≠ 0) :
      UTr i c σ (.fail .badChar i σ)
  | hdr_semi (hst : σ.st = .headers) (hc : c = 59) (hfu : σ.foundUser = false) (hpo : σ.passOffs = 0) :
      UTr i c σ (.next { σ with errHeaders := true })
  | hdr_colon (hst : σ.st = .headers) (hc : c = 58) : UTr i c σ (.next (uMarkColon i σ))
  | hdr_quest (hst : σ.st = .headers) (hc : c = 63) : UTr i c σ (.next (uSettle σ))
  | hdr_tok (hst : σ.st = .headers) (hc : c ≠ 64 ∧ c ≠ 59 ∧ c ≠ 58 ∧ c ≠ 63) : UTr i c σ (.next σ)
  | dead (hst : σ.st = .init ∨ σ.st = .sip ∨ σ.st = .sips ∨ σ.st = .tel) : UTr i c σ (.next σ)

theorem UTr.ite {i : Nat} {c : UInt8} {σ : UState} {p : Prop} [Decidable p] {r s : UStep}
    (h1 : p → UTr i c σ r) (h2 : ¬ p → UTr i c σ s) : UTr i c σ (if p then r else s) := by
  split
  · exact h1 ‹_›
  · exact h2 ‹_›

theorem utr_at {i : Nat} {c : UInt8} {σ : UState} (hst : σ.st = .param0 ∨ σ.st = .param1 ∨ σ.st = .headers)
    (hc : c = 64) : UTr i c σ (uAtInParams i σ) := by
  unfold uAtInParams
  refine .ite (fun h => ?_) fun h => .at_bad hst hc (by simpa using h)
  have hfu : σ.foundUser = false := by simpa using h
  by_cases hpo : σ.passOffs = 0
  · have e : (σ.passOffs != 0) = false := by simp [hpo]
    simp only [e, Bool.false_eq_true, ↓reduceIte]
    exact .at_user hst hc hfu hpo
  · have e : (σ.passOffs != 0) = true := by simp [hpo]
    simp only [e, ↓reduceIte]
    exact .at_pass hst hc hfu hpo

theorem uriStep_tr (i : Nat) (c : UInt8) (σ : UState) : UTr i c σ (uriStep i c σ) := by
  unfold uriStep
  split
  iterate 3
    next hst =>
      have hst : σ.st = .initSIP ∨ σ.st = .initSIPS ∨ σ.st = .initTEL := by simp [hst]
      exact .ite (fun h => .init_br hst (by simpa using h)) fun h1 =>
        .ite (fun h => .init_bad hst (by simpa using h)) fun h2 => .init_tok hst (by simp_all)
  next hst =>
    exact .ite (fun h => .user_at hst (by simpa using h)) fun h1 =>
      .ite (fun h => .user_colon hst (by simpa using h)) fun h2 =>
      .ite (fun h => .user_semi hst (by simpa using h)) fun h3 =>
      .ite (fun h => .user_quest hst (by simpa using h)) fun h4 =>
      .ite (fun h => .user_bad hst (by simpa using h)) fun h5 => .user_tok hst (by simp_all)
  next hst =>
    refine .ite (fun h => .pass0_at hst (by simpa using h)) fun h1 => .ite (fun h => ?_) fun h2 =>
      .ite (fun h => .pass0_digit hst h) fun h3 =>
      .ite (fun h => .pass0_bad hst (by simpa [or_assoc] using h)) fun h4 => .pass0_tok hst (by simp_all)
    have h : c = 59 ∨ c = 63 := by simpa using h
    refine .ite (fun hb => .pass0_big hst h hb) fun hb => ?_
    rcases h with rfl | rfl
    · exact .pass0_semi hst rfl (Nat.le_of_not_gt hb)
    · exact .pass0_quest hst rfl (Nat.le_of_not_gt hb)
  next hst =>
    exact .ite (fun h => .pass1_at hst (by simpa using h)) fun h1 =>
      .ite (fun h => .pass1_bad hst (by simpa [or_assoc] using h)) fun h2 => .pass1_tok hst (by simp_all)
  next hst =>
    exact .ite (fun h => .host0_br hst (by simpa using h)) fun h1 =>
      .ite (fun h => .host0_bad hst (by simpa [or_assoc] using h)) fun h2 => .host0_tok hst (by simp_all)
  next hst =>
    exact .ite (fun h => .host_colon (.inl hst) (by simpa using h)) fun h1 =>
      .ite (fun h => .host_semi (.inl hst) (by simpa using h)) fun h2 =>
      .ite (fun h => .host_quest (.inl hst) (by simpa using h)) fun h3 =>
      .ite (fun h => .host1_bad hst (by simpa using h)) fun h4 => .host1_tok hst (by simp_all)
  next hst =>
    exact .ite (fun h => .host61_close hst (by simpa using h)) fun h1 =>
      .ite (fun h => .host61_bad hst (by simpa [or_assoc] using h)) fun h2 => .host61_tok hst (by simp_all)
  next hst =>
    exact .ite (fun h => .host_colon (.inr hst) (by simpa using h)) fun h1 =>
      .ite (fun h => .host_semi (.inr hst) (by simpa using h)) fun h2 =>
      .ite (fun h => .host_quest (.inr hst) (by simpa using h)) fun h3 => .host6E_bad hst (by simp_all)
  next hst =>
    refine .ite (fun h => .port_digit hst h) fun h1 => .ite (fun h => ?_) fun h2 => .port_bad hst (by simp_all)
    have h : c = 59 ∨ c = 63 := by simpa using h
    refine .ite (fun hb => .port_big hst (by simpa using h1) h hb) fun hb => ?_
    rcases h with rfl | rfl
    · exact .port_semi hst rfl (Nat.le_of_not_gt hb)
    · exact .port_quest hst rfl (Nat.le_of_not_gt hb)
  iterate 2
    next hst =>
      have hst : σ.st = .param0 ∨ σ.st = .param1 := by simp [hst]
      refine .ite (fun h => ?_) fun h1 =>
        .ite (fun h => .par_colon hst (by simpa using h)) fun h2 =>
        .ite (fun h => .par_semi hst (by simpa using h)) fun h3 =>
        .ite (fun h => .par_quest hst (by simpa using h)) fun h4 => .par_tok hst (by simp_all)
      exact utr_at (hst.elim .inl fun h => .inr (.inl h)) (by simpa using h)
  next hst =>
    refine .ite (fun h => utr_at (.inr (.inr hst)) (by simpa using h)) fun h1 => .ite (fun h => ?_) fun h2 =>
      .ite (fun h => ?_) fun h3 => .ite (fun h => ?_) fun h4 => .hdr_tok hst (by simp_all)
    · have h : c = 59 := by simpa using h
      refine .ite (fun hb => .hdr_semi_bad hst h (by simpa using hb)) fun hb => .hdr_semi hst h ?_ ?_ <;> simp_all
    · simp only [← apply_ite UStep.next]
      exact .hdr_colon hst (by simpa using h)
    · simp only [← apply_ite UStep.next]
      exact .hdr_quest hst (by simpa using h)
  next h1 h2 h3 h4 h5 h6 h7 h8 h9 h10 h11 h12 h13 h14 =>
    refine .dead ?_
    cases hst : σ.st <;> first | contradiction | simp

@[simp] theorem uAccept_err (n : Nat) (σ : UState) : (uAccept n σ).1 = .none := by unfold uAccept; split <;> rfl

/-- the accepting exits of `uriFinish`: it hands out `uAccept n σx`, `σx` being the state before the tel: swap -/
inductive UAcc (n : Nat) (σ : UState) : UState → Prop
  | user (hst : σ.st = .user) (hfu : σ.foundUser = false) : UAcc n σ { σ.setHost σ.s n with st := .host0 }
  | pass0 (hst : σ.st = .pass0) (hfu : σ.foundUser = false) (hle : σ.portNo ≤ 65535) :
      UAcc n σ { σ.setPort σ.s n with
        u := { (σ.setPort σ.s n).u with portNo := σ.portNo, host := σ.u.user, user := {} } }
  | host (hst : σ.st = .host1 ∨ σ.st = .host6E) : UAcc n σ (σ.setHost σ.s n)
  | port (hst : σ.st = .port) (hle : σ.portNo ≤ 65535) :
      UAcc n σ { σ.setPort σ.s n with u := { (σ.setPort σ.s n).u with portNo := σ.portNo } }
  | params (hst : σ.st = .param0 ∨ σ.st = .param1) : UAcc n σ (σ.setParams σ.s n)
  | hdr (hst : σ.st = .headers) (h : σ.errHeaders = false) : UAcc n σ (σ.setHeaders σ.s n)

inductive UFin (n : Nat) (σ : UState) : UErr × Nat × UState → Prop
  | acc {σx : UState} (h : UAcc n σ σx) : UFin n σ (uAccept n σx)
  | short (hst : σ.st = .init ∨ σ.st = .initTEL ∨ σ.st = .initSIP ∨ σ.st = .initSIPS) : UFin n σ (.tooShort, n, σ)
  | user_bad (hst : σ.st = .user) (hfu : σ.foundUser = true) : UFin n σ (.bad, n, σ)
  | pass_bad (hst : σ.st = .pass0 ∨ σ.st = .pass1) (h : σ.foundUser = true ∨ σ.st = .pass1) :
      UFin n σ (.port, n, σ)
  | pass0_big (hst : σ.st = .pass0) (hfu : σ.foundUser = false) (hbig : σ.portNo > 65535) :
      UFin n σ (.port, n, σ.setPort σ.s n)
  | nohost (hst : σ.st = .host0 ∨ σ.st = .host61) : UFin n σ (.host, n, σ)
  | port_big (hst : σ.st = .port) (hbig : σ.portNo > 65535) : UFin n σ (.port, n, σ.setPort σ.s n)
  | hdr_bad (hst : σ.st = .headers) (h : σ.errHeaders = true) : UFin n σ (.headers, n, σ.setHeaders σ.s n)
  | bug (hst : σ.st = .sip ∨ σ.st = .sips ∨ σ.st = .tel) : UFin n σ (.bug, n, σ)

theorem UFin.ite {n : Nat} {σ : UState} {p : Prop} [Decidable p] {r s : UErr × Nat × UState}
    (h1 : p → UFin n σ r) (h2 : ¬ p → UFin n σ s) : UFin n σ (if p then r else s) := by
  split
  · exact h1 ‹_›
  · exact h2 ‹_›

theorem uriFinish_fin (n : Nat) (σ : UState) : UFin n σ (uriFinish n σ) := by
  unfold uriFinish
  split
  iterate 4
    next hst => exact .short (by simp [hst])
  next hst => exact .ite (fun h => .user_bad hst h) fun h => .acc (.user hst (by simpa using h))
  next hst =>
    refine .ite (fun h => .pass_bad (.inl hst) (by simpa [hst] using h)) fun h => ?_
    have hfu : σ.foundUser = false := by simpa [hst] using h
    exact .ite (fun hb => .pass0_big hst hfu hb) fun hb => .acc (.pass0 hst hfu (Nat.le_of_not_gt hb))
  next hst => exact .ite (fun _ => .pass_bad (.inr hst) (.inr hst)) fun h => absurd (by simp [hst]) h
  iterate 2
    next hst => exact .acc (.host (by simp [hst]))
  iterate 2
    next hst => exact .nohost (by simp [hst])
  next hst => exact .ite (fun hb => .port_big hst hb) fun hb => .acc (.port hst (Nat.le_of_not_gt hb))
  iterate 2
    next hst => exact .acc (.params (by simp [hst]))
  next hst => exact .ite (fun h => .hdr_bad hst h) fun h => .acc (.hdr hst (by simpa [UState.setHeaders] using h))
  next =>
    refine .bug ?_
    cases hst : σ.st <;> first | contradiction | simp

theorem UFin.acc_of {n : Nat} {σ : UState} {r : UErr × Nat × UState} (h : UFin n σ r) (h0 : r.1 = .none) :
    ∃ σx, UAcc n σ σx ∧ r = uAccept n σx := by
  cases h with
  | acc ha => exact ⟨_, ha, rfl⟩
  | short | user_bad | pass_bad | pass0_big | nohost | port_big | hdr_bad | bug => exact nomatch h0

theorem isDigit_ne {c : UInt8} (h : isDigit c = true) :
    c ≠ 64 ∧ c ≠ 58 ∧ c ≠ 59 ∧ c ≠ 63 ∧ c ≠ 91 ∧ c ≠ 93 := by
  refine ⟨?_, ?_, ?_, ?_, ?_, ?_⟩ <;> (rintro rfl; exact absurd h (by decide))

theorem UTr.eq {i : Nat} {c : UInt8} {σ : UState} {r : UStep} (h : UTr i c σ r) : uriStep i c σ = r := by
  unfold uriStep
  cases h with
  | init_br hst hc | init_tok hst hc => rcases hst with hst | hst | hst <;> simp [hst, hc]
  | init_bad hst hc => rcases hst with hst | hst | hst <;> rcases hc with rfl | rfl <;> simp [hst]
  | dead hst => rcases hst with hst | hst | hst | hst <;> simp [hst]
  | host_colon hst hc | host_semi hst hc | host_quest hst hc | par_colon hst hc | par_semi hst hc | par_quest hst hc
  | par_tok hst hc =>
    rcases hst with hst | hst <;> simp [hst, hc, uMarkColon, uSettle]
  | at_bad hst hc hfu => rcases hst with hst | hst | hst <;> simp [hst, hc, uAtInParams, hfu]
  | at_user hst hc hfu hpo | at_pass hst hc hfu hpo =>
    rcases hst with hst | hst | hst <;> simp [hst, hc, uAtInParams, hfu, hpo, uAtReset]
  | user_bad hst hc | host1_bad hst hc => rcases hc with rfl | rfl <;> simp [hst]
  | pass0_big hst hc hb => rcases hc with rfl | rfl <;> simp [hst, UState.setPort, hb]
  | port_big hst hd hc hb => rcases hc with rfl | rfl <;> simp [hst, UState.setPort, hb, isDigit]
  | pass0_bad hst hc => rcases hc with rfl | rfl | rfl <;> simp [hst, isDigit]
  | pass1_bad hst hc | host0_bad hst hc | host61_bad hst hc =>
    rcases hc with rfl | rfl | rfl | rfl | rfl <;> simp [hst]
  | pass0_semi hst hc hle | pass0_quest hst hc hle | port_semi hst hc hle | port_quest hst hc hle =>
    subst hc; simp [hst, UState.setPort, Nat.not_lt.mpr hle, isDigit]
  | hdr_semi_bad hst hc h => subst hc; rcases h with h | h <;> simp [hst, h]
  | hdr_semi hst hc hfu hpo => simp [hst, hc, hfu, hpo]
  | port_digit hst hc => simp [hst, hc]
  | pass0_digit hst hc => have := isDigit_ne hc; simp [hst, hc, this]
  | hdr_colon hst hc | hdr_quest hst hc => simp [hst, hc, uMarkColon, uSettle, apply_ite UStep.next]
  | user_at hst hc | user_colon hst hc | user_semi hst hc | user_quest hst hc | user_tok hst hc | pass0_at hst hc
  | pass0_tok hst hc | pass1_at hst hc | pass1_tok hst hc | host0_br hst hc | host0_tok hst hc | host1_tok hst hc
  | host61_close hst hc | host61_tok hst hc | host6E_bad hst hc | port_bad hst hc | hdr_tok hst hc =>
    simp [hst, hc]

theorem UFin.eq {n : Nat} {σ : UState} {r : UErr × Nat × UState} (h : UFin n σ r) : uriFinish n σ = r := by
  unfold uriFinish
  cases h with
  | short hst => rcases hst with hst | hst | hst | hst <;> simp [hst]
  | bug hst => rcases hst with hst | hst | hst <;> simp [hst]
  | nohost hst => rcases hst with hst | hst <;> simp [hst]
  | pass_bad hst h => rcases hst with hst | hst <;> simp_all
  | user_bad hst h | hdr_bad hst h => simp [hst, h, UState.setHeaders]
  | pass0_big hst hfu hb => simp [hst, hfu, UState.setPort, hb]
  | port_big hst hb => simp [hst, UState.setPort, hb]
  | acc ha =>
    cases ha with
    | host hst | params hst => rcases hst with hst | hst <;> simp [hst, uAccept]
    | user hst h | hdr hst h => simp [hst, h, uAccept, UState.setHeaders]
    | pass0 hst hfu hb => simp [hst, hfu, UState.setPort, Nat.not_lt.mpr hb, uAccept]
    | port hst hb => simp [hst, UState.setPort, Nat.not_lt.mpr hb, uAccept]

theorem UTr.fail_pos {i : Nat} {c : UInt8} {σ σ' : UState} {e : UErr} {p : Nat} (h : UTr i c σ (.fail e p σ')) :
    e ≠ .none ∧ p = i := by
  cases h <;> exact ⟨by decide, rfl⟩

/-! ### the loop and the run behind the scheme -/

theorem uriLoop_cases {b : Buf} {P : Nat → UState → Prop}
    (hstep : ∀ i c σ σ', b[i]? = some c → P i σ → UTr i c σ (.next σ') → P (i + 1) σ')
    (i : Nat) (σ : UState) (hi : i ≤ b.size) (h : P i σ) :
    (∃ σ', uriLoop b i σ = (.none, b.size, σ') ∧ P b.size σ') ∨
    (∃ j c σp e σ', uriLoop b i σ = (e, j, σ') ∧ e ≠ .none ∧ i ≤ j ∧ b[j]? = some c ∧ P j σp ∧
      UTr j c σp (.fail e j σ')) := by
  fun_induction uriLoop b i σ with
  | case1 i σ hb =>
    have : i = b.size := by have := get?_none_ge hb; omega
    subst this
    exact .inl ⟨σ, rfl, h⟩
  | case2 i σ c hb σ' hs ih =>
    rcases ih (get?_lt hb) (hstep i c σ σ' hb h (hs ▸ uriStep_tr i c σ)) with h1 | ⟨j, c', σp, e, σ'', h1, h2, h3, h4⟩
    · exact .inl h1
    · exact .inr ⟨j, c', σp, e, σ'', h1, h2, by omega, h4⟩
  | case3 i σ c hb e p σ' hs =>
    have ht : UTr i c σ (.fail e p σ') := hs ▸ uriStep_tr i c σ
    obtain ⟨he, rfl⟩ := UTr.fail_pos ht
    exact .inr ⟨p, c, σ, e, σ', rfl, he, Nat.le_refl _, hb, h, ht⟩

/-- what `parseURI` hands out of a result of loop / end-of-input switch -/
def ucProj (r : UErr × Nat × UState) : UErr × Nat × PsipURI × Bool := (r.1, r.2.1, r.2.2.u, r.2.2.pnc)

/-! ### a byte that neither leaves the parameters / headers nor is rejected there -/

theorem uMarkColon_fu {i : Nat} {σ : UState} (h : σ.foundUser = true) : (uMarkColon i σ).foundUser = true := by
  unfold uMarkColon; simp [h]

theorem uSettle_fu {σ : UState} (h : σ.foundUser = true) : (uSettle σ).foundUser = true := by
  unfold uSettle; split <;> simp [h]

theorem uSettle_und {σ : UState} (h : σ.passOffs = 0) : uSettle σ = σ := by
  unfold uSettle; simp [h]

theorem uc_par_frame {i : Nat} {c : UInt8} {σ : UState} (hst : σ.st = .param0 ∨ σ.st = .param1) (h63 : c ≠ 63)
    (h64 : c ≠ 64) :
    ∃ σ', uriStep i c σ = .next σ' ∧
      ((c = 58 ∧ σ' = { uMarkColon i σ with st := .param1 }) ∨ (c = 59 ∧ σ' = { uSettle σ with st := .param0 }) ∨
       (c ≠ 58 ∧ c ≠ 59 ∧ σ' = { σ with st := .param1 })) := by
  by_cases h58 : c = 58
  · exact ⟨_, (UTr.par_colon hst h58).eq, .inl ⟨h58, rfl⟩⟩
  by_cases h59 : c = 59
  · exact ⟨_, (UTr.par_semi hst h59).eq, .inr (.inl ⟨h59, rfl⟩)⟩
  · exact ⟨_, (UTr.par_tok hst ⟨h64, h58, h59, h63⟩).eq, .inr (.inr ⟨h58, h59, rfl⟩)⟩

theorem uc_hdr_frame {i : Nat} {c : UInt8} {σ : UState} (hst : σ.st = .headers) (h64 : c ≠ 64)
    (h59 : c = 59 → σ.foundUser = false ∧ σ.passOffs = 0) :
    ∃ σ', uriStep i c σ = .next σ' ∧
      ((c = 58 ∧ σ' = uMarkColon i σ) ∨ (c = 63 ∧ σ' = uSettle σ) ∨ (c = 59 ∧ σ' = { σ with errHeaders := true }) ∨
       (c ≠ 58 ∧ c ≠ 63 ∧ c ≠ 59 ∧ σ' = σ)) := by
  by_cases h58 : c = 58
  · exact ⟨_, (UTr.hdr_colon hst h58).eq, .inl ⟨h58, rfl⟩⟩
  by_cases h63 : c = 63
  · exact ⟨_, (UTr.hdr_quest hst h63).eq, .inr (.inl ⟨h63, rfl⟩)⟩
  by_cases hs : c = 59
  · exact ⟨_, (UTr.hdr_semi hst hs (h59 hs).1 (h59 hs).2).eq, .inr (.inr (.inl ⟨hs, rfl⟩))⟩
  · exact ⟨_, (UTr.hdr_tok hst ⟨h64, hs, h58, h63⟩).eq, .inr (.inr (.inr ⟨h58, h63, hs, rfl⟩))⟩

/-! ### the run from behind the scheme: the loop, then the end-of-input switch -/

/-- `start` of `parseURI`: run the automaton from byte `i` in state `σ`, then the end-of-input switch -/
def ucRun (b : Buf) (i : Nat) (σ : UState) : UErr × Nat × PsipURI × Bool :=
  match uriLoop b i σ with
  | (.none, i, σ) =>
    match uriFinish i σ with
    | (e, p, σ') => (e, p, σ'.u, σ'.pnc)
  | (e, p, σ) => (e, p, σ.u, σ.pnc)

theorem uc_loop_next {b : Buf} {i : Nat} {c : UInt8} {σ σ' : UState} (hc : b[i]? = some c)
    (hs : uriStep i c σ = .next σ') : uriLoop b i σ = uriLoop b (i + 1) σ' := by
  rw [uriLoop]
  split
  · rename_i h; rw [hc] at h; cases h
  · rename_i c' h
    rw [hc] at h
    cases h
    rw [hs]

theorem uc_loop_fail {b : Buf} {i p : Nat} {c : UInt8} {e : UErr} {σ σ' : UState} (hc : b[i]? = some c)
    (hs : uriStep i c σ = .fail e p σ') : uriLoop b i σ = (e, p, σ') := by
  rw [uriLoop]
  split
  · rename_i h; rw [hc] at h; cases h
  · rename_i c' h
    rw [hc] at h
    cases h
    rw [hs]

theorem uc_loop_end {b : Buf} {i : Nat} {σ : UState} (hc : b[i]? = none) : uriLoop b i σ = (.none, i, σ) := by
  rw [uriLoop]
  split
  · rfl
  · rename_i c' h; rw [hc] at h; cases h

theorem ucRun_next {b : Buf} {i : Nat} {c : UInt8} {σ σ' : UState} (hc : b[i]? = some c)
    (hs : uriStep i c σ = .next σ') : ucRun b i σ = ucRun b (i + 1) σ' := by
  unfold ucRun
  rw [uc_loop_next hc hs]

theorem ucRun_loop_ok {b : Buf} {i j : Nat} {σ σ' : UState} (h : uriLoop b i σ = (.none, j, σ')) :
    ucRun b i σ = ucProj (uriFinish j σ') := by
  unfold ucRun
  rw [h]
  rfl

theorem ucRun_loop_err {b : Buf} {i p : Nat} {e : UErr} {σ σ' : UState} (h : uriLoop b i σ = (e, p, σ'))
    (he : e ≠ .none) : ucRun b i σ = (e, p, σ'.u, σ'.pnc) := by
  unfold ucRun
  rw [h]
  cases e <;> first | rfl | exact absurd rfl he

theorem ucRun_fail {b : Buf} {i p : Nat} {c : UInt8} {e : UErr} {σ σ' : UState} (hc : b[i]? = some c)
    (hs : uriStep i c σ = .fail e p σ') (he : e ≠ .none) : ucRun b i σ = (e, p, σ'.u, σ'.pnc) :=
  ucRun_loop_err (uc_loop_fail hc hs) he

theorem ucRun_end {b : Buf} {i : Nat} {σ : UState} (hc : i = b.size) : ucRun b i σ = ucProj (uriFinish i σ) :=
  ucRun_loop_ok (uc_loop_end (by rw [hc]; exact Array.getElem?_eq_none (Nat.le_refl _)))

theorem ucRun_cases {b : Buf} {P : Nat → UState → Prop}
    (hstep : ∀ i c σ σ', b[i]? = some c → P i σ → UTr i c σ (.next σ') → P (i + 1) σ')
    {k : Nat} {σ0 : UState} (hk : k ≤ b.size) (h : P k σ0) :
    (∃ σ, P b.size σ ∧ ucRun b k σ0 = ucProj (uriFinish b.size σ)) ∨
    (∃ j c σp e σ', e ≠ .none ∧ k ≤ j ∧ b[j]? = some c ∧ P j σp ∧ UTr j c σp (.fail e j σ') ∧
      ucRun b k σ0 = (e, j, σ'.u, σ'.pnc)) := by
  rcases uriLoop_cases hstep k σ0 hk h with ⟨σ, h1, h2⟩ | ⟨j, c, σp, e, σ', h1, h2, h3, h4, h5, h6⟩
  · exact .inl ⟨σ, h2, ucRun_loop_ok h1⟩
  · exact .inr ⟨j, c, σp, e, σ', h2, h3, h4, h5, h6, ucRun_loop_err h1 h2⟩

/-! ### the scheme test -/

theorem uc_or4 (a b c d a' b' c' d' : Nat) :
    (a ||| b ||| c ||| d) ||| (a' ||| b' ||| c' ||| d') = (a ||| a') ||| (b ||| b') ||| (c ||| c') ||| (d ||| d') := by
  ac_rfl

theorem uc_horner (y0 y1 y2 y3 : Nat) (h0 : y0 < 256) (h1 : y1 < 256) (h2 : y2 < 256) :
    y3 <<< 24 ||| y2 <<< 16 ||| y1 <<< 8 ||| y0 = y3 * 16777216 + y2 * 65536 + y1 * 256 + y0 := by
  have s1 : y3 <<< 24 = (y3 <<< 8) <<< 16 := by rw [← Nat.shiftLeft_add]
  have e1 : y3 <<< 24 ||| y2 <<< 16 = (y3 <<< 8 ||| y2) <<< 16 := by
    rw [Nat.shiftLeft_or_distrib, s1]
  have s2 : ∀ z : Nat, z <<< 16 = (z <<< 8) <<< 8 := fun z => by rw [← Nat.shiftLeft_add]
  have e2 : (y3 <<< 8 ||| y2) <<< 16 ||| y1 <<< 8 = ((y3 <<< 8 ||| y2) <<< 8 ||| y1) <<< 8 := by
    rw [Nat.shiftLeft_or_distrib (a := (y3 <<< 8 ||| y2) <<< 8), s2]
  rw [e1, e2]
  rw [← Nat.shiftLeft_add_eq_or_of_lt (show y2 < 2 ^ 8 by omega),
      ← Nat.shiftLeft_add_eq_or_of_lt (show y1 < 2 ^ 8 by omega),
      ← Nat.shiftLeft_add_eq_or_of_lt (show y0 < 2 ^ 8 by omega)]
  simp only [Nat.shiftLeft_eq]
  omega

/-- a byte with 0x20 OR-ed in (ASCII letters: lower case) -/
def ucLow (c : UInt8) : Nat := c.toNat ||| 32

theorem ucLow_lt (c : UInt8) : ucLow c < 256 := Nat.or_lt_two_pow (n := 8) c.toNat_lt (by omega)

theorem uc_word (b0 b1 b2 b3 : UInt8) :
    (b3.toNat <<< 24 ||| b2.toNat <<< 16 ||| b1.toNat <<< 8 ||| b0.toNat) ||| 0x20202020 =
      ucLow b3 * 16777216 + ucLow b2 * 65536 + ucLow b1 * 256 + ucLow b0 := by
  have e : (0x20202020 : Nat) = 32 <<< 24 ||| 32 <<< 16 ||| 32 <<< 8 ||| 32 := by decide
  rw [e, uc_or4, ← Nat.shiftLeft_or_distrib, ← Nat.shiftLeft_or_distrib, ← Nat.shiftLeft_or_distrib]
  exact uc_horner _ _ _ _ (ucLow_lt _) (ucLow_lt _) (ucLow_lt _)

/-- the scheme word: the first four bytes, each OR-ed with 0x20, little endian -/
def ucWord (b0 b1 b2 b3 : UInt8) : Nat := ucLow b3 * 16777216 + ucLow b2 * 65536 + ucLow b1 * 256 + ucLow b0

def ucStart (t : Nat) (st : US) (k : Nat) : UState := { st := st, u := { uriType := t, scheme := PField.set 0 k } }

theorem uc_parse_unfold {b : Buf} {b0 b1 b2 b3 b4 : UInt8} (h0 : b[0]? = some b0) (h1 : b[1]? = some b1)
    (h2 : b[2]? = some b2) (h3 : b[3]? = some b3) (h4 : b[4]? = some b4) :
    parseURI b {} =
      if ucWord b0 b1 b2 b3 = 980445555 then ucRun b 4 (ucStart SIPuri .initSIP 4)
      else if ucWord b0 b1 b2 b3 = 980182388 then ucRun b 4 (ucStart TELuri .initTEL 4)
      else if ucWord b0 b1 b2 b3 = 1936746867 ∧ b4 = 58 then ucRun b 5 (ucStart SIPSuri .initSIPS 5)
      else (.scheme, 4, {}, false) := by
  unfold parseURI
  rw [h0, h1, h2, h3, h4]
  simp only [uc_word]
  unfold ucWord
  by_cases c1 : ucLow b3 * 16777216 + ucLow b2 * 65536 + ucLow b1 * 256 + ucLow b0 = 980445555
  · rw [if_pos c1, if_pos (by rw [c1]; rfl)]
    rfl
  rw [if_neg c1, if_neg (by simpa [Gen.C.ParseURI_SchSIP] using c1)]
  by_cases c2 : ucLow b3 * 16777216 + ucLow b2 * 65536 + ucLow b1 * 256 + ucLow b0 = 980182388
  · rw [if_pos c2, if_pos (by rw [c2]; rfl)]
    rfl
  rw [if_neg c2, if_neg (by simpa [Gen.C.ParseURI_SchTEL] using c2)]
  by_cases c3 : ucLow b3 * 16777216 + ucLow b2 * 65536 + ucLow b1 * 256 + ucLow b0 = 1936746867
  · rw [if_pos (show (_ == Gen.C.ParseURI_SchSIPS) = true by rw [c3]; rfl)]
    by_cases c4 : b4 = 58
    · rw [if_pos (show (b4 == 58) = true by rw [c4]; rfl), if_pos ⟨c3, c4⟩]
      rfl
    · rw [if_neg (show ¬ (b4 == 58) = true by simpa using c4), if_neg (fun h => c4 h.2)]
      rfl
  · rw [if_neg (show ¬ (_ == Gen.C.ParseURI_SchSIPS) = true by simpa [Gen.C.ParseURI_SchSIPS] using c3),
      if_neg (fun h => c3 h.1)]
    rfl

/-- the first four bytes, letters in either case (each byte is compared after OR-ing 0x20 into it, which also lets
    0x1a pass for ':') -/
def UcSch4 (b : Buf) (c0 c1 c2 c3 : Nat) : Prop :=
  ∃ b0 b1 b2 b3, b[0]? = some b0 ∧ b[1]? = some b1 ∧ b[2]? = some b2 ∧ b[3]? = some b3 ∧
    ucLow b0 = c0 ∧ ucLow b1 = c1 ∧ ucLow b2 = c2 ∧ ucLow b3 = c3

/-- `sip:` -/
def UcSchSip (b : Buf) : Prop := UcSch4 b 115 105 112 58
/-- `tel:` -/
def UcSchTel (b : Buf) : Prop := UcSch4 b 116 101 108 58
/-- `sips:` (the ':' is compared exactly) -/
def UcSchSips (b : Buf) : Prop := UcSch4 b 115 105 112 115 ∧ b[4]? = some 58

/-- `b` starts with the scheme of URI type `t`, which has `k` bytes, and has at least one more byte -/
def UcScheme (b : Buf) (t k : Nat) : Prop :=
  (t = SIPuri ∧ k = 4 ∧ UcSchSip b) ∨ (t = TELuri ∧ k = 4 ∧ UcSchTel b) ∨ (t = SIPSuri ∧ k = 5 ∧ UcSchSips b)

theorem ucWord_eq (b0 b1 b2 b3 : UInt8) (c0 c1 c2 c3 : Nat) (h0 : c0 < 256) (h1 : c1 < 256) (h2 : c2 < 256) :
    ucWord b0 b1 b2 b3 = c3 * 16777216 + c2 * 65536 + c1 * 256 + c0 ↔
      ucLow b0 = c0 ∧ ucLow b1 = c1 ∧ ucLow b2 = c2 ∧ ucLow b3 = c3 := by
  unfold ucWord
  have := ucLow_lt b0
  have := ucLow_lt b1
  have := ucLow_lt b2
  have := ucLow_lt b3
  constructor
  · intro h; omega
  · intro h; omega

/-- the state right behind the scheme -/
def UcInitSt (σ : UState) (t k : Nat) : Prop :=
  (σ.st = .initSIP ∨ σ.st = .initSIPS ∨ σ.st = .initTEL) ∧ σ.foundUser = false ∧ σ.passOffs = 0 ∧ σ.portNo = 0 ∧
  σ.errHeaders = false ∧ σ.pnc = false ∧ σ.u = { uriType := t, scheme := ⟨0, k⟩ }

theorem ucStart_init (t k : Nat) (st : US) (hst : st = .initSIP ∨ st = .initSIPS ∨ st = .initTEL) (hk : k ≤ 65535) :
    UcInitSt (ucStart t st k) t k := by
  unfold ucStart UcInitSt
  rw [show PField.set 0 k = ⟨0, k⟩ by simp [PField.set, trunc16, Nat.mod_eq_of_lt (show k < 65536 by omega)]]
  exact ⟨hst, rfl, rfl, rfl, rfl, rfl, rfl⟩

/-- with the scheme in place and at least five bytes, `parseURI` is the automaton run from behind the scheme
    (for `sips:` the run may start at the very end of the input) -/
theorem parseURI_run {b : Buf} {t k : Nat} (h : UcScheme b t k) (h5 : 5 ≤ b.size) :
    ∃ σ, UcInitSt σ t k ∧ parseURI b {} = ucRun b k σ ∧ 0 < k ∧ k ≤ b.size := by
  obtain ⟨b4, h4⟩ := uget b 4 (by omega)
  rcases h with ⟨rfl, rfl, b0, b1, b2, b3, h0, h1, h2, h3, hl⟩ | ⟨rfl, rfl, b0, b1, b2, b3, h0, h1, h2, h3, hl⟩ |
    ⟨rfl, rfl, ⟨b0, b1, b2, b3, h0, h1, h2, h3, hl⟩, h4'⟩
  · refine ⟨_, ucStart_init SIPuri 4 .initSIP (Or.inl rfl) (by omega), ?_, by omega, by omega⟩
    rw [uc_parse_unfold h0 h1 h2 h3 h4, if_pos ((ucWord_eq b0 b1 b2 b3 115 105 112 58 (by omega) (by omega) (by omega)).mpr hl)]
  · refine ⟨_, ucStart_init TELuri 4 .initTEL (Or.inr (Or.inr rfl)) (by omega), ?_, by omega, by omega⟩
    have hw := (ucWord_eq b0 b1 b2 b3 116 101 108 58 (by omega) (by omega) (by omega)).mpr hl
    rw [uc_parse_unfold h0 h1 h2 h3 h4, if_neg (by rw [hw]; decide), if_pos hw]
  · refine ⟨_, ucStart_init SIPSuri 5 .initSIPS (Or.inr (Or.inl rfl)) (by omega), ?_, by omega, by omega⟩
    have hw := (ucWord_eq b0 b1 b2 b3 115 105 112 115 (by omega) (by omega) (by omega)).mpr hl
    rw [uc_parse_unfold h0 h1 h2 h3 h4', if_neg (by rw [hw]; decide), if_neg (by rw [hw]; decide), if_pos ⟨hw, rfl⟩]

/-- `parseURI_run` for an input that has a byte behind the scheme -/
theorem uc_parse_run {b : Buf} {t k : Nat} (h : UcScheme b t k) (hsz : k < b.size) :
    ∃ σ, UcInitSt σ t k ∧ parseURI b {} = ucRun b k σ := by
  have h5 : 5 ≤ b.size := by rcases h with ⟨-, rfl, -⟩ | ⟨-, rfl, -⟩ | ⟨-, rfl, -⟩ <;> omega
  obtain ⟨σ, h1, h2, -⟩ := parseURI_run h h5
  exact ⟨σ, h1, h2⟩

/-- **shorter than the shortest scheme plus one byte** [EXPORT C14]: `ErrURITooShort` at the end of the input -/
theorem parseURI_err_short (b : Buf) (h : b.size < 5) : parseURI b {} = (.tooShort, b.size, {}, false) := by
  have h4 : b[4]? = none := Array.getElem?_eq_none (by omega)
  unfold parseURI
  split
  · rename_i hh; rw [h4] at hh; cases hh
  · rfl

/-- **unknown scheme** [EXPORT C14] (at least five bytes, not `sip:` / `sips:` / `tel:` in any letter case):
    `ErrURIScheme`, position 4 -/
theorem parseURI_err_scheme (b : Buf) (h5 : 5 ≤ b.size) (h1 : ¬ UcSchSip b) (h2 : ¬ UcSchTel b) (h3 : ¬ UcSchSips b) :
    parseURI b {} = (.scheme, 4, {}, false) := by
  obtain ⟨b0, h0⟩ := uget b 0 (by omega)
  obtain ⟨b1, g1⟩ := uget b 1 (by omega)
  obtain ⟨b2, g2⟩ := uget b 2 (by omega)
  obtain ⟨b3, g3⟩ := uget b 3 (by omega)
  obtain ⟨b4, g4⟩ := uget b 4 (by omega)
  rw [uc_parse_unfold h0 g1 g2 g3 g4, if_neg, if_neg, if_neg]
  · intro ⟨hw, h58⟩
    exact h3 ⟨⟨b0, b1, b2, b3, h0, g1, g2, g3,
      (ucWord_eq b0 b1 b2 b3 115 105 112 115 (by omega) (by omega) (by omega)).mp hw⟩, by rw [g4, h58]⟩
  · intro hw
    exact h2 ⟨b0, b1, b2, b3, h0, g1, g2, g3,
      (ucWord_eq b0 b1 b2 b3 116 101 108 58 (by omega) (by omega) (by omega)).mp hw⟩
  · intro hw
    exact h1 ⟨b0, b1, b2, b3, h0, g1, g2, g3,
      (ucWord_eq b0 b1 b2 b3 115 105 112 58 (by omega) (by omega) (by omega)).mp hw⟩

theorem parseURI_scheme_cases (b : Buf) :
    (b.size < 5 ∧ parseURI b {} = (.tooShort, b.size, {}, false)) ∨
    (5 ≤ b.size ∧ ¬ UcSchSip b ∧ ¬ UcSchTel b ∧ ¬ UcSchSips b ∧ parseURI b {} = (.scheme, 4, {}, false)) ∨
    (∃ t k σ0, UcScheme b t k ∧ UcInitSt σ0 t k ∧ 0 < k ∧ k ≤ b.size ∧ parseURI b {} = ucRun b k σ0) := by
  by_cases h5 : b.size < 5
  · exact .inl ⟨h5, parseURI_err_short b h5⟩
  by_cases hsch : ∃ t k, UcScheme b t k
  · obtain ⟨t, k, hsch⟩ := hsch
    obtain ⟨σ0, hi, hr, hk, hk2⟩ := parseURI_run hsch (by omega)
    exact .inr (.inr ⟨t, k, σ0, hsch, hi, hk, hk2, hr⟩)
  · have h1 : ¬ UcSchSip b := fun h => hsch ⟨SIPuri, 4, .inl ⟨rfl, rfl, h⟩⟩
    have h2 : ¬ UcSchTel b := fun h => hsch ⟨TELuri, 4, .inr (.inl ⟨rfl, rfl, h⟩)⟩
    have h3 : ¬ UcSchSips b := fun h => hsch ⟨SIPSuri, 5, .inr (.inr ⟨rfl, rfl, h⟩)⟩
    exact .inr (.inl ⟨by omega, h1, h2, h3, parseURI_err_scheme b (by omega) h1 h2 h3⟩)

/-! ### two buffers the automaton cannot tell apart -/

theorem uriLoop_congr (b b' : Buf) (k : Nat) (hnone : ∀ j, k ≤ j → b[j]? = none → b'[j]? = none)
    (hsome : ∀ j c, k ≤ j → b[j]? = some c → ∃ c', b'[j]? = some c' ∧ ∀ σ, uriStep j c' σ = uriStep j c σ) :
    ∀ (i : Nat) (σ : UState), k ≤ i → uriLoop b' i σ = uriLoop b i σ := by
  intro i σ
  fun_induction uriLoop b i σ with
  | case1 i σ hb => exact fun hk => uc_loop_end (hnone i hk hb)
  | case2 i σ c hb σ' hs ih =>
    intro hk
    obtain ⟨c', hc', hstep⟩ := hsome i c hk hb
    rw [uc_loop_next hc' ((hstep σ).trans hs)]
    exact ih (by omega)
  | case3 i σ c hb e p σ' hs =>
    intro hk
    obtain ⟨c', hc', hstep⟩ := hsome i c hk hb
    exact uc_loop_fail hc' ((hstep σ).trans hs)

theorem sch_congr {a0 a1 a2 a3 c0 c1 c2 c3 : UInt8}
    (h0 : a0 ||| 0x20 = c0 ||| 0x20) (h1 : a1 ||| 0x20 = c1 ||| 0x20) (h2 : a2 ||| 0x20 = c2 ||| 0x20)
    (h3 : a3 ||| 0x20 = c3 ||| 0x20) :
    ((a3.toNat <<< 24) ||| (a2.toNat <<< 16) ||| (a1.toNat <<< 8) ||| a0.toNat) ||| 0x20202020 =
    ((c3.toNat <<< 24) ||| (c2.toNat <<< 16) ||| (c1.toNat <<< 8) ||| c0.toNat) ||| 0x20202020 := by
  have k : ∀ {a c : UInt8}, a ||| 0x20 = c ||| 0x20 → ucLow a = ucLow c := fun h => by
    have := congrArg UInt8.toNat h
    rw [UInt8.toNat_or, UInt8.toNat_or] at this
    exact this
  rw [uc_word, uc_word, k h0, k h1, k h2, k h3]

/-- ParseURI reads its input only through the scheme word (the first four bytes or-ed with 0x20), the test for ':'
    at the fifth byte, and the automaton from the fifth byte on -/
theorem parseURI_congr (raw raw' : Buf) (pu : PsipURI) (hsz : raw'.size = raw.size)
    (hlo : ∀ j, j < 4 → ∀ c c', raw[j]? = some c → raw'[j]? = some c' → c' ||| 0x20 = c ||| 0x20)
    (h4 : ∀ c c', raw[4]? = some c → raw'[4]? = some c' → (c' == 58) = (c == 58))
    (hloop : ∀ i σ, 4 ≤ i → uriLoop raw' i σ = uriLoop raw i σ) :
    parseURI raw' pu = parseURI raw pu := by
  by_cases hlen : 5 ≤ raw.size
  · have g : ∀ (b : Buf) j, b.size = raw.size → j < 5 → ∃ c, b[j]? = some c := fun b j hb hj =>
      ⟨b[j]'(by omega), Array.getElem?_eq_getElem (by omega)⟩
    obtain ⟨c0, hc0⟩ := g raw 0 rfl (by omega)
    obtain ⟨c1, hc1⟩ := g raw 1 rfl (by omega)
    obtain ⟨c2, hc2⟩ := g raw 2 rfl (by omega)
    obtain ⟨c3, hc3⟩ := g raw 3 rfl (by omega)
    obtain ⟨c4, hc4⟩ := g raw 4 rfl (by omega)
    obtain ⟨a0, ha0⟩ := g raw' 0 hsz (by omega)
    obtain ⟨a1, ha1⟩ := g raw' 1 hsz (by omega)
    obtain ⟨a2, ha2⟩ := g raw' 2 hsz (by omega)
    obtain ⟨a3, ha3⟩ := g raw' 3 hsz (by omega)
    obtain ⟨a4, ha4⟩ := g raw' 4 hsz (by omega)
    have hs := sch_congr (hlo 0 (by omega) c0 a0 hc0 ha0) (hlo 1 (by omega) c1 a1 hc1 ha1)
      (hlo 2 (by omega) c2 a2 hc2 ha2) (hlo 3 (by omega) c3 a3 hc3 ha3)
    have l4 : ∀ σ, uriLoop raw' (3 + 1) σ = uriLoop raw (3 + 1) σ := fun σ => hloop _ σ (by omega)
    have l5 : ∀ σ, uriLoop raw' (4 + 1) σ = uriLoop raw (4 + 1) σ := fun σ => hloop _ σ (by omega)
    unfold parseURI
    simp only [hc0, hc1, hc2, hc3, hc4, ha0, ha1, ha2, ha3, ha4, hs, h4 c4 a4 hc4 ha4, l4, l5]
  · have short : ∀ b : Buf, b.size = raw.size → parseURI b pu = (.tooShort, b.size, pu, false) := fun b hb => by
      have n4 : b[4]? = none := Array.getElem?_eq_none (by omega)
      unfold parseURI
      split
      · rename_i h; rw [n4] at h; cases h
      · rfl
    rw [short raw rfl, short raw' hsz, hsz]


end Sipsp
