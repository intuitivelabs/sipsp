/-
  Sipsp.Proofs.ValAssoc — [C05] message level: WHICH header line each stored Contact / P-Asserted-Identity value belongs
  to, for EVERY input within the 65,535-byte limit (no grammar assumption).

  One accepted header line of the list's type counts as one more header and brings at least one value (`HxCnt`), so the
  values of a list fall into consecutive blocks, one per accepted line of the type (`hxIdx`, `hxStart`).  `GAssoc` states
  that association for any notion `In j v` of "value `v` is one of line `j`".  Two instances:
  * `AfcAssoc` / `AfcMsg`, the association by index ("pinned" in theorem names: the line index is fixed by the input,
    not existentially quantified): the lines are the list `afcMsgLines b o m` of ALL accepted header objects, stored in
    the header array or not — a function of the input (MsgLift.lean) — and every stored value has at least one byte and
    lies inside the `val` of ITS line, whether or not that line is stored;
  * `PlAssoc` / `PlMsg`, weaker and a consequence of the first: a monotone map to the counted lines; the value is compared
    with the `val` of its line only if that line is stored, so nothing is said once the header array overflows.
  Both are carried from one header line to ParseSIPMsg on an Init object by the lift of MsgLift.lean, and to every chunk
  schedule through the one-shot equivalence of OneShot.lean.  The per-line counts are unique when every line of the type
  and every value is stored.
  NOT proved here: the message-level statement for objects suspended in the middle of a header line other than through
  the one-shot equivalence; the converse (every stored Contact header has a value); uniqueness of the counts when values
  or header lines were dropped (false for values: with capacity 0 every count list fits).
-/
import Sipsp.Proofs.PaiLines
import Sipsp.Proofs.FieldsLo
import Sipsp.Proofs.CapacityExtra

namespace Sipsp

/-- what an accepted header line of type `t` does to the counters of the value list of type `ty` (`n`, `hNo` before,
    `n'`, `hNo'` after): a line of the list's type counts as ONE more header and brings at least one value; a line of
    another type leaves both counters alone -/
def HxCnt (ty n hNo n' hNo' t : Nat) : Prop :=
  (t = ty → n < n' ∧ hNo' = hNo + 1) ∧ (t ≠ ty → n' = n ∧ hNo' = hNo)

theorem hx_gen_not_contact {b : Buf} {hv : PHdrVals} {t : Nat} (hg : HxGen b hv t) : t ≠ HdrContact ∧ t ≠ HdrPAI := by
  obtain ⟨i, h1, hs, ht, hq⟩ := hg
  refine ⟨fun hc => ?_, fun hc => ?_⟩
  · rw [parseBody_contact b i h1 hv (ht.trans hc)] at hq
    cases hq
  · rw [parseBody_pai b i h1 hv (ht.trans hc)] at hq
    cases hq

/-- the dispatch on a header in the "body start" state, verdict OK: the counters of both lists -/
theorem hx_parseBody_cnt (b : Buf) (o : Nat) (h : Hdr) (hv : PHdrVals) (hst : h.state = .bodyStart)
    {n : Nat} {h2 : Hdr} {hv2 : PHdrVals} (hr : parseBody b o h (some hv) = (n, .ok, h2, some hv2)) :
    HxCnt HdrContact hv.contacts.n hv.contacts.hNo hv2.contacts.n hv2.contacts.hNo h.type ∧
    HxCnt HdrPAI hv.pais.n hv.pais.hNo hv2.pais.n hv2.pais.hNo h.type := by
  obtain ⟨_, f1, f2, _, _, _⟩ := hx_parseBody_frame b o h hv hr
  refine ⟨⟨fun htc => ?_, fun hne => by rw [f1 hne]; exact ⟨rfl, rfl⟩⟩, ⟨fun htp => ?_, fun hne => by rw [f2 hne]; exact ⟨rfl, rfl⟩⟩⟩
  · obtain ⟨c1, hq, -, e2⟩ := parseBody_contact_new htc (by rw [hst]; decide) hr
    cases e2
    have hk := pl_contact_line_keep b o hv.contacts (hv.contacts.hNo + 1)
    rw [hq] at hk
    exact ⟨hk.2.2 rfl, hk.2.1⟩
  · obtain ⟨c1, hq, -, e2⟩ := parseBody_pai_new htp (by rw [hst]; decide) hr
    cases e2
    have hk := pl_pai_line_keep b o hv.pais (hv.pais.hNo + 1)
    rw [hq] at hk
    exact ⟨hk.2.2 rfl, hk.2.1⟩

/-- **one accepted header line** (header object that has not reached the colon, in particular a new one; any buffer,
    any values object): the counters of the Contact list and of the identity list, relative to the type of the
    accepted header -/
theorem hx_line_cnt (b : Buf) (o : Nat) (h : Hdr) (hv : PHdrVals) (hst : HxPre h.state)
    {o' : Nat} {h' : Hdr} {hb' : Option PHdrVals} (hr : parseHdrLine b o h (some hv) = (o', .ok, h', hb')) :
    ∃ hv', hb' = some hv' ∧
      HxCnt HdrContact hv.contacts.n hv.contacts.hNo hv'.contacts.n hv'.contacts.hNo h'.type ∧
      HxCnt HdrPAI hv.pais.n hv.pais.hNo hv'.pais.n hv'.pais.hNo h'.type := by
  obtain ⟨hv', hb, hcase⟩ := hx_parseHdrLine_split b o h hv hst hr
  simp only at hb hcase
  subst hb
  refine ⟨hv', rfl, ?_⟩
  rcases hcase with ⟨rfl, hg⟩ | ⟨i, h1, h2, _, hs1, hp, _, _, hh'⟩
  · obtain ⟨g1, g2⟩ := hx_gen_not_contact (hg trivial)
    exact ⟨⟨fun hh => absurd hh g1, fun _ => ⟨rfl, rfl⟩⟩, ⟨fun hh => absurd hh g2, fun _ => ⟨rfl, rfl⟩⟩⟩
  · have hty : h'.type = h1.type := by
      rw [hh']
      simp only [flo_beq_ok, ↓reduceIte]
      exact (hx_parseBody_frame b i h1 hv hp).1
    rw [hty]
    exact hx_parseBody_cnt b i h1 hv hs1 hp

/-- the positions `j < N` of the lines of type `ty`, in increasing order -/
def hxIdx (ty : Nat) (tyOf : Nat → Nat) (N : Nat) : List Nat := (List.range N).filter (fun j => tyOf j == ty)
/-- the index of the first value of the `i`-th block: the sum of the first `i` counts -/
def hxStart (cnt : List Nat) (i : Nat) : Nat := (cnt.take i).sum

theorem hxIdx_succ (ty : Nat) (tyOf : Nat → Nat) (N : Nat) :
    hxIdx ty tyOf (N + 1) = hxIdx ty tyOf N ++ (if tyOf N = ty then [N] else []) := by
  unfold hxIdx
  rw [List.range_succ, List.filter_append]
  congr 1
  by_cases h : tyOf N = ty <;> simp [h]

theorem hxIdx_congr (ty : Nat) (f g : Nat → Nat) (N : Nat) (h : ∀ j, j < N → f j = g j) : hxIdx ty f N = hxIdx ty g N := by
  unfold hxIdx
  apply List.filter_congr
  intro x hx
  rw [h x (List.mem_range.1 hx)]

theorem hxIdx_lt {ty : Nat} {tyOf : Nat → Nat} {N i j : Nat} (h : (hxIdx ty tyOf N)[i]? = some j) : j < N ∧ tyOf j = ty := by
  have := List.mem_of_getElem? h
  unfold hxIdx at this
  rw [List.mem_filter] at this
  exact ⟨List.mem_range.1 this.1, by simpa using this.2⟩

theorem hxStart_le (cnt : List Nat) (i : Nat) : hxStart cnt i ≤ cnt.sum := by
  unfold hxStart
  conv => rhs; rw [← List.take_append_drop i cnt]
  rw [List.sum_append]
  omega

theorem hxStart_append_le (cnt : List Nat) (x i : Nat) (h : i ≤ cnt.length) : hxStart (cnt ++ [x]) i = hxStart cnt i := by
  unfold hxStart
  rw [List.take_append_of_le_length h]

theorem hxStart_length (cnt : List Nat) : hxStart cnt cnt.length = cnt.sum := by
  unfold hxStart; rw [List.take_length]

theorem hxStart_append_succ (cnt : List Nat) (x : Nat) : hxStart (cnt ++ [x]) (cnt.length + 1) = cnt.sum + x := by
  unfold hxStart
  have : (cnt ++ [x]).take (cnt.length + 1) = cnt ++ [x] := by
    apply List.take_of_length_le; simp
  rw [this, List.sum_append]; simp

/-- every value index below the sum of the counts belongs to exactly one block of the cumulative counts -/
theorem hx_block_exists (cnt : List Nat) (k : Nat) (hk : k < cnt.sum) :
    ∃ i, i < cnt.length ∧ hxStart cnt i ≤ k ∧ k < hxStart cnt (i + 1) := by
  induction cnt generalizing k with
  | nil => simp at hk
  | cons c cs ih =>
    by_cases h : k < c
    · exact ⟨0, by simp, by simp [hxStart], by simp [hxStart]; exact h⟩
    · simp only [List.sum_cons] at hk
      obtain ⟨i, h1, h2, h3⟩ := ih (k - c) (by omega)
      refine ⟨i + 1, by simp; omega, ?_, ?_⟩
      · simp only [hxStart, List.take_succ_cons, List.sum_cons] at h2 ⊢; omega
      · simp only [hxStart, List.take_succ_cons, List.sum_cons] at h3 ⊢; omega

theorem afc_hxStart_mono (cnt : List Nat) {a c : Nat} (h : a ≤ c) : hxStart cnt a ≤ hxStart cnt c := by
  unfold hxStart
  have : cnt.take a = (cnt.take c).take a := by rw [List.take_take, Nat.min_eq_left h]
  rw [this]
  exact hxStart_le (cnt.take c) a

theorem hx_block_unique (cnt : List Nat) (k i i' : Nat) (h1 : hxStart cnt i ≤ k) (h2 : k < hxStart cnt (i + 1))
    (h1' : hxStart cnt i' ≤ k) (h2' : k < hxStart cnt (i' + 1)) : i = i' := by
  rcases Nat.lt_trichotomy i i' with h | h | h
  · have := afc_hxStart_mono cnt (show i + 1 ≤ i' by omega); omega
  · exact h
  · have := afc_hxStart_mono cnt (show i' + 1 ≤ i by omega); omega

theorem afc_hxStart_succ (cnt : List Nat) (i : Nat) (hi : i < cnt.length) :
    hxStart cnt (i + 1) = hxStart cnt i + cnt[i] := by
  unfold hxStart
  rw [List.take_add_one, List.sum_append, List.getElem?_eq_getElem hi]
  simp

/-- the positions of the lines of a type are listed in increasing order -/
theorem afc_idx_mono {ty : Nat} {tyOf : Nat → Nat} {N i i' j j' : Nat} (h : (hxIdx ty tyOf N)[i]? = some j)
    (h' : (hxIdx ty tyOf N)[i']? = some j') (hii : i < i') : j < j' := by
  have hp : List.Pairwise (· < ·) (hxIdx ty tyOf N) := by
    unfold hxIdx
    exact List.Pairwise.filter _ List.pairwise_lt_range
  obtain ⟨h1, e1⟩ := List.getElem?_eq_some_iff.1 h
  obtain ⟨h2, e2⟩ := List.getElem?_eq_some_iff.1 h'
  have := (List.pairwise_iff_getElem.1 hp) i i' h1 h2 hii
  rw [e1, e2] at this
  exact this

/-- the values of a list (`vals`; `n` counted, header count `hNo`) against `N` accepted header lines: `tyOf j` = the type
    of line `j`, `In j v` = "value `v` is one of line `j`".  The lines of type `ty` are exactly `hNo` many; `cnt` gives the
    number of values of each (≥ 1, sum `n`); the values of the `i`-th such line are the `i`-th block of the cumulative
    counts -/
def GAssoc (ty N : Nat) (tyOf : Nat → Nat) (In : Nat → PFromBody → Prop) (vals : Array PFromBody) (n hNo : Nat) : Prop :=
  ∃ cnt : List Nat, (hxIdx ty tyOf N).length = hNo ∧ cnt.length = hNo ∧ (∀ c ∈ cnt, 0 < c) ∧ cnt.sum = n ∧
    ∀ i j, (hxIdx ty tyOf N)[i]? = some j → ∀ k, hxStart cnt i ≤ k → k < hxStart cnt (i + 1) → k < vals.size → In j vals[k]!

theorem GAssoc.imp {ty N : Nat} {tyOf : Nat → Nat} {In In' : Nat → PFromBody → Prop} {vals : Array PFromBody} {n hNo : Nat}
    (H : GAssoc ty N tyOf In vals n hNo) (h : ∀ j v, j < N → In j v → In' j v) : GAssoc ty N tyOf In' vals n hNo := by
  obtain ⟨cnt, h2, h3, h4, h5, h6⟩ := H
  exact ⟨cnt, h2, h3, h4, h5, fun i j hij k k1 k2 k3 => h j _ (hxIdx_lt hij).1 (h6 i j hij k k1 k2 k3)⟩

/-- what an accepted line of type `t` did to the list, read off `PlEff` and `HxCnt` -/
theorem PlEff.cases {ty : Nat} {vals vals' : Array PFromBody} {n n' hNo hNo' t : Nat} {V : PField}
    (E : PlEff ty vals n vals' n' t V) (C : HxCnt ty n hNo n' hNo' t) :
    (t = ty → hNo' = hNo + 1 ∧ n < n' ∧ PlKeep vals n vals' n' ∧
      ∀ j, n ≤ j → j < n' → j < vals'.size → PlIn V vals'[j]!.v) ∧
    (t ≠ ty → hNo' = hNo ∧ n' = n ∧ vals' = vals) := by
  refine ⟨fun ht => ?_, fun ht => ?_⟩
  · obtain ⟨hlt, hh⟩ := C.1 ht
    rcases E with ⟨_, e2⟩ | ⟨_, hK, hin⟩
    · omega
    · exact ⟨hh, hlt, hK, hin⟩
  · obtain ⟨e1, e2⟩ := C.2 ht
    rcases E with ⟨e3, _⟩ | ⟨e3, _⟩
    · exact ⟨e2, e1, e3⟩
    · exact absurd e3 ht

/-- **one more accepted line** (type `t`): the old lines keep their values, the new line gets the new values -/
theorem GAssoc.snoc {ty N : Nat} {tyOf tyOf' : Nat → Nat} {In In' : Nat → PFromBody → Prop}
    {vals vals' : Array PFromBody} {n n' hNo hNo' t : Nat} (H : GAssoc ty N tyOf In vals n hNo)
    (hty : ∀ j, j < N → tyOf' j = tyOf j) (htN : tyOf' N = t)
    (hold : ∀ j v, j < N → In j v → In' j v)
    (hnew : t = ty → hNo' = hNo + 1 ∧ n < n' ∧ PlKeep vals n vals' n' ∧
      ∀ k, n ≤ k → k < n' → k < vals'.size → In' N vals'[k]!)
    (hsame : t ≠ ty → hNo' = hNo ∧ n' = n ∧ vals' = vals) : GAssoc ty (N + 1) tyOf' In' vals' n' hNo' := by
  obtain ⟨cnt, h2, h3, h4, h5, h6⟩ := H
  have hidx : hxIdx ty tyOf' (N + 1) = hxIdx ty tyOf N ++ (if t = ty then [N] else []) := by
    rw [hxIdx_succ, hxIdx_congr ty tyOf' tyOf N hty, htN]
  by_cases ht : t = ty
  · obtain ⟨hh, hlt, hK, hin⟩ := hnew ht
    refine ⟨cnt ++ [n' - n], ?_, ?_, ?_, ?_, ?_⟩
    · rw [hidx, if_pos ht, List.length_append, h2, hh]; rfl
    · rw [List.length_append, h3, hh]; rfl
    · intro c hc
      rcases List.mem_append.1 hc with hc | hc
      · exact h4 c hc
      · simp only [List.mem_singleton] at hc; omega
    · rw [List.sum_append, h5]; simp only [List.sum_cons, List.sum_nil]; omega
    · intro i j hij k k1 k2 k3
      rw [hidx, if_pos ht] at hij
      by_cases hi : i < hNo
      · rw [List.getElem?_append_left (by rw [h2]; exact hi)] at hij
        rw [hxStart_append_le cnt _ i (by omega)] at k1
        rw [hxStart_append_le cnt _ (i + 1) (by omega)] at k2
        have hkn : k < n := by have := hxStart_le cnt (i + 1); omega
        rw [hK.2.2 k hkn]
        exact hold j _ (hxIdx_lt hij).1 (h6 i j hij k k1 k2 (by rw [← hK.1]; exact k3))
      · by_cases hi2 : i = hNo
        · have hi3 : i = cnt.length := by omega
          rw [hi3] at k1 k2
          rw [List.getElem?_append_right (by rw [h2]; omega), h2, hi2, Nat.sub_self] at hij
          simp only [List.getElem?_cons_zero, Option.some.injEq] at hij
          subst hij
          rw [hxStart_append_le cnt _ cnt.length (by omega), hxStart_length, h5] at k1
          rw [hxStart_append_succ, h5] at k2
          exact hin k k1 (by omega) k3
        · exfalso
          rw [List.getElem?_eq_none (by rw [List.length_append, h2]; simp only [List.length_cons, List.length_nil]; omega)] at hij
          cases hij
  · obtain ⟨e2, e1, ev⟩ := hsame ht
    subst e1 e2 ev
    refine ⟨cnt, ?_, h3, h4, h5, ?_⟩
    · rw [hidx, if_neg ht, List.append_nil, h2]
    · intro i j hij k k1 k2 k3
      rw [hidx, if_neg ht, List.append_nil] at hij
      exact hold j _ (hxIdx_lt hij).1 (h6 i j hij k k1 k2 k3)

/-! ### the association by index: the list of ALL accepted lines -/

/-- the positions, in the list `gs` of ALL accepted header lines, of the lines of type `ty` -/
def afcIdx (ty : Nat) (gs : List Hdr) : List Nat := hxIdx ty (fun j => gs[j]!.type) gs.length

theorem afcIdx_lt {ty : Nat} {gs : List Hdr} {i j : Nat} (h : (afcIdx ty gs)[i]? = some j) :
    j < gs.length ∧ gs[j]!.type = ty := hxIdx_lt h

/-- the ghost list agrees with the header array: `gs` has one entry per counted line, and every stored header is the
    entry of its line -/
def AfcStored (gs : List Hdr) (hl : HdrLst) : Prop :=
  gs.length = hl.n ∧ ∀ j, j < hl.n → j < hl.hdrs.size → hl.hdrs[j]! = gs[j]!

/-- the values of the `i`-th line of type `ty` are those of the `i`-th block of the cumulative counts `cnt`; each of
    them that is stored is not empty and lies inside the `val` of that line (stored in the header array or not) -/
def AfcBlocks (ty : Nat) (gs : List Hdr) (vals : Array PFromBody) (cnt : List Nat) : Prop :=
  ∀ i j, (afcIdx ty gs)[i]? = some j → ∀ k, hxStart cnt i ≤ k → k < hxStart cnt (i + 1) → k < vals.size →
    PlIn gs[j]!.val vals[k]!.v

/-- **the association by index** of a value list (`vals`, `n` values counted, header count `hNo`) with the list `gs` of ALL
    accepted header lines -/
def AfcAssoc (ty : Nat) (gs : List Hdr) (vals : Array PFromBody) (n hNo : Nat) : Prop :=
  ∃ cnt : List Nat, (afcIdx ty gs).length = hNo ∧ cnt.length = hNo ∧ (∀ c ∈ cnt, 0 < c) ∧ cnt.sum = n ∧
    AfcBlocks ty gs vals cnt

theorem AfcStored.setCur {gs : List Hdr} {hl : HdrLst} (H : AfcStored gs hl) (g : Hdr) : AfcStored gs (hl.setCur g) := by
  obtain ⟨h1, h2⟩ := H
  refine ⟨by rw [hlSetCur_n]; exact h1, fun j hj hs => ?_⟩
  rw [hlSetCur_n] at hj
  rw [hlSetCur_size] at hs
  rw [hlSetCur_ne hl g j (by omega)]
  exact h2 j hj hs

theorem AfcStored.next {gs : List Hdr} {hl : HdrLst} (H : AfcStored gs hl) (g : Hdr) :
    AfcStored (gs ++ [g]) ((hl.setCur g).accept g) := by
  obtain ⟨h1, h2⟩ := H
  have hn : ((hl.setCur g).accept g).n = hl.n + 1 := by rw [accept_n, hlSetCur_n]
  have hs : ((hl.setCur g).accept g).hdrs.size = hl.hdrs.size := by rw [accept_hdrs, hlSetCur_size]
  refine ⟨by rw [hn, ← h1]; simp, fun j hj hjs => ?_⟩
  rw [hn] at hj
  rw [hs] at hjs
  by_cases hjn : j = hl.n
  · subst hjn
    rw [accept_hdrs, hlSetCur_get_n hl g hjs, ← h1]
    simp
  · have hj' : j < gs.length := by omega
    have e : (gs ++ [g])[j]! = gs[j]! := by
      rw [getElem!_pos (gs ++ [g]) j (by simp; omega), getElem!_pos gs j hj']
      exact List.getElem_append_left hj'
    rw [e, accept_hdrs, hlSetCur_ne hl g j (by omega)]
    exact h2 j (by omega) hjs

theorem AfcAssoc_iff {ty : Nat} {gs : List Hdr} {vals : Array PFromBody} {n hNo : Nat} :
    AfcAssoc ty gs vals n hNo ↔ GAssoc ty gs.length (fun j => gs[j]!.type) (fun j v => PlIn gs[j]!.val v.v) vals n hNo :=
  Iff.rfl

/-- one more accepted line `g`: the association is carried over (the header array plays no part) -/
theorem AfcAssoc.snoc {ty : Nat} {gs : List Hdr} {vals vals' : Array PFromBody} {n n' hNo hNo' : Nat}
    (H : AfcAssoc ty gs vals n hNo) (g : Hdr) (E : PlEff ty vals n vals' n' g.type g.val)
    (C : HxCnt ty n hNo n' hNo' g.type) : AfcAssoc ty (gs ++ [g]) vals' n' hNo' := by
  have hold : ∀ j, j < gs.length → (gs ++ [g])[j]! = gs[j]! := fun j hj => by
    rw [getElem!_pos (gs ++ [g]) j (by simp; omega), getElem!_pos gs j hj]
    exact List.getElem_append_left hj
  have hnew : (gs ++ [g])[gs.length]! = g := by simp
  rw [AfcAssoc_iff] at H ⊢
  rw [show (gs ++ [g]).length = gs.length + 1 by simp]
  refine H.snoc (t := g.type) (fun j hj => by simp only [hold j hj]) (by simp only [hnew])
    (fun j v hj h => by simp only [hold j hj]; exact h) (fun ht => ?_) (E.cases C).2
  obtain ⟨a, c, d, e⟩ := (E.cases C).1 ht
  exact ⟨a, c, d, by simp only [hnew]; exact e⟩

/-- the association by index for both lists of a values object -/
def AfcInv (gs : List Hdr) (hb : Option PHdrVals) : Prop :=
  ∀ hv, hb = some hv → AfcAssoc HdrContact gs hv.contacts.vals hv.contacts.n hv.contacts.hNo ∧
    AfcAssoc HdrPAI gs hv.pais.vals hv.pais.n hv.pais.hNo

theorem afc_lineStep (b : Buf) (hfit : b.size ≤ 65535) : LineStep b fun gs hl hv =>
    AfcStored gs hl ∧ AfcAssoc HdrContact gs hv.contacts.vals hv.contacts.n hv.contacts.hNo ∧
      AfcAssoc HdrPAI gs hv.pais.vals hv.pais.n hv.pais.hNo := by
  intro gs offs hl hv n e g hv1 hcur HS hp ⟨S, G1, G2⟩
  obtain ⟨hct, hpa⟩ := HS.idle hcur
  have hpre : HxPre hl.cur.state := by rw [hcur]; exact Or.inl rfl
  obtain ⟨hv', hq, hemp, hokE⟩ := pl_parseHdrLine b offs hl.cur hv hfit (by rw [hcur]; exact Or.inl rfl) hct hpa hp
  cases hq
  refine ⟨fun he => ?_, fun he => ?_⟩
  · subst he
    obtain ⟨hv1', hq, C1, C2⟩ := hx_line_cnt b offs hl.cur hv hpre hp
    cases hq
    exact ⟨S.next g, G1.snoc g (hokE rfl).1 C1, G2.snoc g (hokE rfl).2 C2⟩
  · rw [hemp he]; exact ⟨S.setCur g, G1, G2⟩

/-- **header block**: `gs0` = the lines accepted before the call; after OK the
    lines are `gs0 ++ afcTrace …`, the stored headers are entries of that list, and both value lists are associated
    with it -/
theorem afc_parseHeaders (b : Buf) (offs : Nat) (hl : HdrLst) (hb : Option PHdrVals) (hfit : b.size ≤ 65535)
    (hok1 : hlsOK b hl) (hok2 : hbOK b offs hb) (hpe : hlsPend hl hb) (ho : offs ≤ b.size)
    (H : HlsSafe b offs hl hb) (hcur : hl.cur = {}) (hsome : hb ≠ none) (gs0 : List Hdr) (fuel : Nat)
    (hfuel : b.size - offs < fuel) (S : AfcStored gs0 hl) (G : AfcInv gs0 hb) :
    (parseHeaders b offs hl hb).2.1 = .ok →
      AfcStored (gs0 ++ afcTrace b fuel offs hl hb) (parseHeaders b offs hl hb).2.2.1 ∧
      AfcInv (gs0 ++ afcTrace b fuel offs hl hb) (parseHeaders b offs hl hb).2.2.2 := by
  intro hokv
  cases hb with
  | none => exact absurd rfl hsome
  | some hv =>
    have key := lift_parseHeaders hfit (afc_lineStep b hfit) offs hl (some hv) ⟨hok1, hok2, hpe, ho, H⟩ hcur hsome gs0 fuel hfuel
      (fun hv' hh => by cases hh; exact ⟨S, G hv rfl⟩) hokv
    obtain ⟨hv', hq⟩ := Option.isSome_iff_exists.1 (parseHeaders_isSome b offs hl hv)
    exact ⟨(key hv' hq).1, fun hv'' hh => by rw [hq] at hh; cases hh; exact (key hv' hq).2⟩

/-- the statement about one message object, relative to the list `gs` of all accepted header lines -/
structure AfcMsg (gs : List Hdr) (m : PSIPMsg) : Prop where
  stored : AfcStored gs m.hl
  contacts : AfcAssoc HdrContact gs m.pv.contacts.vals m.pv.contacts.n m.pv.contacts.hNo
  pais : AfcAssoc HdrPAI gs m.pv.pais.vals m.pv.pais.n m.pv.pais.hNo

/-- **message, one call from the initial state** (no header counted yet) -/
theorem afc_parseSIPMsg (b : Buf) (o : Nat) (m : PSIPMsg) (flags : Nat) (hfit : b.size ≤ 65535)
    (hok : msgOK2 b o m) (H : MsgSafe b o m) (hst : m.state = .init) (hcur : m.hl.cur = {}) (h0 : m.hl.n = 0)
    (G : AfcInv [] (some m.pv)) {o' : Nat} {m' : PSIPMsg} (hr : parseSIPMsg b o m flags = (o', .ok, m')) :
    AfcMsg (afcMsgLines b o m) m' := by
  obtain ⟨h1, h2, h3⟩ := lift_parseSIPMsg hfit (afc_lineStep b hfit) o m flags hok H hst hcur
    ⟨⟨h0.symm, fun j hj => by omega⟩, G _ rfl⟩ hr
  exact ⟨h1, h2, h3⟩

theorem AfcAssoc_nil (ty : Nat) (vals : Array PFromBody) : AfcAssoc ty [] vals 0 0 :=
  ⟨[], rfl, rfl, (fun c hc => by cases hc), rfl, fun i j hij => by cases hij⟩

/-- **[C05] message level, one call on an object produced by Init, association by index** (any previous contents, caller
    arrays of any capacity or none; EVERY input within the 65,535-byte limit): with `gs` = the list of ALL accepted
    header lines (a function of the input), `AfcMsg gs m'` -/
theorem afc_values_pinned_init (b : Buf) (o : Nat) (m0 : PSIPMsg) (len kh kc : Nat) (hdrs cts : Option Unit)
    (flags : Nat) (hfit : b.size ≤ 65535) (ho : o ≤ b.size) {o' : Nat} {m' : PSIPMsg}
    (hr : parseSIPMsg b o (m0.init len (hdrs.map fun _ => Array.replicate kh {}) (cts.map fun _ => Array.replicate kc {}))
      flags = (o', .ok, m')) :
    AfcMsg (afcMsgLines b o (m0.init len (hdrs.map fun _ => Array.replicate kh {}) (cts.map fun _ => Array.replicate kc {})))
      m' := by
  obtain ⟨h1, h2, h3⟩ := lift_init hfit (afc_lineStep b hfit) o m0 len kh kc hdrs cts flags ho
    (fun _ _ => ⟨⟨rfl, fun j hj => by cases hj⟩, AfcAssoc_nil _ _, AfcAssoc_nil _ _⟩) hr
  exact ⟨h1, h2, h3⟩

/-! ### what `AfcAssoc` says: the map form -/

/-- **`AfcAssoc`, the map form**: there is a map `f` from the values counted to the positions in `gs` (ALL accepted
    lines), monotone (values are associated with lines in message order), such that line `f k` has the type of the
    list and — whether or not that line is stored in the header array — every stored value `k` has at least one byte
    and lies inside the `val` of line `f k`; every line of the type is the line of some value -/
theorem AfcAssoc.map {ty : Nat} {gs : List Hdr} {vals : Array PFromBody} {n hNo : Nat} (H : AfcAssoc ty gs vals n hNo) :
    ∃ f : Nat → Nat, (∀ k k', k ≤ k' → k' < n → f k ≤ f k') ∧
      (∀ k, k < n → f k < gs.length ∧ gs[f k]!.type = ty ∧ (k < vals.size → PlIn gs[f k]!.val vals[k]!.v)) ∧
      (∀ j, j < gs.length → gs[j]!.type = ty → ∃ k, k < n ∧ f k = j) := by
  obtain ⟨cnt, h2, h3, h4, h5, h6⟩ := H
  have hb : ∀ k, ∃ i, k < n → (i < cnt.length ∧ hxStart cnt i ≤ k ∧ k < hxStart cnt (i + 1)) := by
    intro k
    by_cases hk : k < n
    · obtain ⟨i, a1, a2, a3⟩ := hx_block_exists cnt k (by rw [h5]; exact hk)
      exact ⟨i, fun _ => ⟨a1, a2, a3⟩⟩
    · exact ⟨0, fun hh => absurd hh hk⟩
  have hblk : ∀ k, k < n → ((fun k => Classical.choose (hb k)) k < cnt.length ∧
      hxStart cnt ((fun k => Classical.choose (hb k)) k) ≤ k ∧ k < hxStart cnt ((fun k => Classical.choose (hb k)) k + 1)) :=
    fun k => Classical.choose_spec (hb k)
  generalize (fun k => Classical.choose (hb k)) = blk at hblk
  have hget : ∀ k, k < n → (afcIdx ty gs)[blk k]? = some (afcIdx ty gs)[blk k]! := by
    intro k hk
    have hlt : blk k < (afcIdx ty gs).length := by rw [h2, ← h3]; exact (hblk k hk).1
    rw [getElem!_pos (afcIdx ty gs) (blk k) hlt]
    exact List.getElem?_eq_getElem hlt
  have hblkmono : ∀ k k', k ≤ k' → k' < n → blk k ≤ blk k' := by
    intro k k' hkk hk'
    obtain ⟨_, a2, a3⟩ := hblk k (by omega)
    obtain ⟨_, c2, c3⟩ := hblk k' hk'
    rcases Nat.lt_or_ge (blk k') (blk k) with hlt | hge
    · have := afc_hxStart_mono cnt (show blk k' + 1 ≤ blk k by omega)
      omega
    · exact hge
  refine ⟨fun k => (afcIdx ty gs)[blk k]!, fun k k' hkk hk' => ?_, fun k hk => ?_, fun j hj hty => ?_⟩
  · show (afcIdx ty gs)[blk k]! ≤ (afcIdx ty gs)[blk k']!
    rcases Nat.lt_or_ge (blk k) (blk k') with hlt | hge
    · exact Nat.le_of_lt (afc_idx_mono (hget k (by omega)) (hget k' hk') hlt)
    · have : blk k = blk k' := Nat.le_antisymm (hblkmono k k' hkk hk') hge
      rw [this]; exact Nat.le_refl _
  · obtain ⟨a1, a2, a3⟩ := hblk k hk
    obtain ⟨b1, b2⟩ := afcIdx_lt (hget k hk)
    exact ⟨b1, b2, fun hks => h6 _ _ (hget k hk) k a2 a3 hks⟩
  · have hmem : j ∈ afcIdx ty gs := by
      unfold afcIdx hxIdx
      rw [List.mem_filter]
      exact ⟨List.mem_range.2 hj, by simpa using hty⟩
    obtain ⟨i, hi, hij⟩ := List.getElem_of_mem hmem
    have hic : i < cnt.length := by rw [h3, ← h2]; exact hi
    have hpos : 0 < cnt[i] := h4 _ (List.getElem_mem hic)
    have hs := afc_hxStart_succ cnt i hic
    have hle := hxStart_le cnt (i + 1)
    have hkn : hxStart cnt i < n := by omega
    refine ⟨hxStart cnt i, hkn, ?_⟩
    obtain ⟨a1, a2, a3⟩ := hblk (hxStart cnt i) hkn
    have : blk (hxStart cnt i) = i :=
      hx_block_unique cnt (hxStart cnt i) _ _ a2 a3 (Nat.le_refl _) (by omega)
    show (afcIdx ty gs)[blk (hxStart cnt i)]! = j
    rw [this, getElem!_pos (afcIdx ty gs) i hi]
    exact hij

/-- **`AfcMsg`, spelled out for the Contact values** (the identities: the same with `pais`): `gs` has one entry per counted
    header line, the stored headers are entries of `gs`, and there is a monotone map `f` into the positions of `gs` with:
    line `f k` is a Contact line; stored value `k` has at least one byte and lies inside the `val` of line `f k`, stored
    or not; every Contact line is hit; and `HNo` is the number of Contact lines in `gs` -/
theorem AfcMsg.meaning {gs : List Hdr} {m : PSIPMsg} (h : AfcMsg gs m) :
    gs.length = m.hl.n ∧ (∀ j, j < m.hl.n → j < m.hl.hdrs.size → m.hl.hdrs[j]! = gs[j]!) ∧
    ((List.range gs.length).filter (fun j => gs[j]!.type == HdrContact)).length = m.pv.contacts.hNo ∧
    ∃ f : Nat → Nat, (∀ k k', k ≤ k' → k' < m.pv.contacts.n → f k ≤ f k') ∧
      (∀ k, k < m.pv.contacts.n → f k < gs.length ∧ gs[f k]!.type = HdrContact ∧
        (k < m.pv.contacts.vals.size → 0 < m.pv.contacts.vals[k]!.v.len ∧
          gs[f k]!.val.offs ≤ m.pv.contacts.vals[k]!.v.offs ∧
          m.pv.contacts.vals[k]!.v.offs + m.pv.contacts.vals[k]!.v.len ≤ gs[f k]!.val.offs + gs[f k]!.val.len)) ∧
      (∀ j, j < gs.length → gs[j]!.type = HdrContact → ∃ k, k < m.pv.contacts.n ∧ f k = j) := by
  obtain ⟨f, hm, hf, hon⟩ := h.contacts.map
  obtain ⟨cnt, c1, _⟩ := h.contacts
  refine ⟨h.stored.1, h.stored.2, c1, f, hm, fun k hk => ?_, hon⟩
  obtain ⟨a1, a2, a3⟩ := hf k hk
  exact ⟨a1, a2, fun hks => ⟨(a3 hks).1, (a3 hks).2.1, (a3 hks).2.2⟩⟩

/-! ### the plain form: a monotone map to the counted lines -/

/-- **the association**: a map `f` from the values of the list (`vals`, `n`) to the counted header lines, in message
    order (a later value comes from the same or a later line); if the value `k` is stored and the header `f k` is itself
    stored (`f k` below the capacity of the header array), that header has the type `ty` and the value lies inside its
    `val` -/
def PlAssoc (ty : Nat) (hl : HdrLst) (vals : Array PFromBody) (n : Nat) : Prop :=
  ∃ f : Nat → Nat, (∀ k k', k ≤ k' → k' < n → f k ≤ f k') ∧
    ∀ k, k < n → f k < hl.n ∧
      (k < vals.size → f k < hl.hdrs.size → hl.hdrs[f k]!.type = ty ∧ PlIn hl.hdrs[f k]!.val vals[k]!.v)

/-- the association by index implies the plain one (the comparison only if the line is stored) -/
theorem AfcAssoc.plAssoc {ty : Nat} {gs : List Hdr} {hl : HdrLst} {vals : Array PFromBody} {n hNo : Nat}
    (S : AfcStored gs hl) (H : AfcAssoc ty gs vals n hNo) : PlAssoc ty hl vals n := by
  obtain ⟨f, hm, hf, _⟩ := H.map
  refine ⟨f, hm, fun k hk => ?_⟩
  obtain ⟨a1, a2, a3⟩ := hf k hk
  refine ⟨by rw [← S.1]; exact a1, fun hks hfs => ?_⟩
  rw [S.2 (f k) (by rw [← S.1]; exact a1) hfs]
  exact ⟨a2, a3 hks⟩

/-- the statement about one message object: there is a map `f` from the Contact values to the counted header lines,
    in message order, such that for every stored value `k` whose header `f k` is stored, that header is a Contact header
    and the value's span `V` is not empty and lies inside its `val` (`PlIn`); likewise for the P-Asserted-Identity
    values (spelled out in `PlMsg.meaning`) -/
def PlMsg (m : PSIPMsg) : Prop :=
  PlAssoc HdrContact m.hl m.pv.contacts.vals m.pv.contacts.n ∧ PlAssoc HdrPAI m.hl m.pv.pais.vals m.pv.pais.n

theorem AfcMsg.plMsg {gs : List Hdr} {m : PSIPMsg} (h : AfcMsg gs m) : PlMsg m :=
  ⟨h.contacts.plAssoc h.stored, h.pais.plAssoc h.stored⟩


/-- **[C05] message level, one call on an object produced by Init** (any previous contents, caller arrays of any
    capacity or none; EVERY input within the 65,535-byte limit) -/
theorem pl_values_in_headers_init (b : Buf) (o : Nat) (m0 : PSIPMsg) (len kh kc : Nat) (hdrs cts : Option Unit)
    (flags : Nat) (hfit : b.size ≤ 65535) (ho : o ≤ b.size) {o' : Nat} {m' : PSIPMsg}
    (hr : parseSIPMsg b o (m0.init len (hdrs.map fun _ => Array.replicate kh {}) (cts.map fun _ => Array.replicate kc {}))
      flags = (o', .ok, m')) : PlMsg m' :=
  (afc_values_pinned_init b o m0 len kh kc hdrs cts flags hfit ho hr).plMsg

/-- **[C05] … under every chunk schedule, from Init**: if the chain of resumed calls over growing prefixes ends with
    OK, the final object satisfies the same statement -/
theorem pl_values_in_headers_schedule_init (flags : Nat) (o : Nat) (m0 : PSIPMsg) (len kh kc : Nat)
    (hdrs cts : Option Unit) (l : List Buf) (hg : Growing l) (hfit : ∀ x ∈ l, x.size ≤ 65535) (hne : l ≠ [])
    (ho : ∀ b ∈ l, o ≤ b.size) {o' : Nat} {m' : PSIPMsg}
    (hr : resumeRun (C01.msgP flags) o
      (m0.init len (hdrs.map fun _ => Array.replicate kh {}) (cts.map fun _ => Array.replicate kc {})) l = (o', .ok, m')) :
    PlMsg m' := by
  obtain ⟨b, hb, h⟩ := flo_schedule_init flags o m0 len kh kc hdrs cts l hg hfit hne ho hr
  exact pl_values_in_headers_init b o m0 len kh kc hdrs cts flags (hfit b hb) (ho b hb) h

/-- **`PlMsg`, spelled out**: there is a map `f` from value indices to header-line indices (`f k < HdrLst.N`), monotone
    on the values counted (`k ≤ k' < N` ⇒ `f k ≤ f k'`: values are associated with header lines in message order), such
    that for every stored Contact value `k` (`k < min (N, capacity)`), if header `f k` is stored (`f k` below the capacity
    of the header array) then header `f k` is a Contact header, the value's `V` has at least one byte, starts at or after
    the start of the header's `val` and ends at or before its end; likewise for the stored P-Asserted-Identity values -/
theorem PlMsg.meaning {m : PSIPMsg} (h : PlMsg m) :
    (∃ f : Nat → Nat, (∀ k k', k ≤ k' → k' < m.pv.contacts.n → f k ≤ f k') ∧
      ∀ k, k < m.pv.contacts.n → f k < m.hl.n ∧ (k < m.pv.contacts.vals.size → f k < m.hl.hdrs.size →
        m.hl.hdrs[f k]!.type = HdrContact ∧ 0 < m.pv.contacts.vals[k]!.v.len ∧
        m.hl.hdrs[f k]!.val.offs ≤ m.pv.contacts.vals[k]!.v.offs ∧
        m.pv.contacts.vals[k]!.v.offs + m.pv.contacts.vals[k]!.v.len ≤
          m.hl.hdrs[f k]!.val.offs + m.hl.hdrs[f k]!.val.len)) ∧
    (∃ f : Nat → Nat, (∀ k k', k ≤ k' → k' < m.pv.pais.n → f k ≤ f k') ∧
      ∀ k, k < m.pv.pais.n → f k < m.hl.n ∧ (k < m.pv.pais.vals.size → f k < m.hl.hdrs.size →
        m.hl.hdrs[f k]!.type = HdrPAI ∧ 0 < m.pv.pais.vals[k]!.v.len ∧
        m.hl.hdrs[f k]!.val.offs ≤ m.pv.pais.vals[k]!.v.offs ∧
        m.pv.pais.vals[k]!.v.offs + m.pv.pais.vals[k]!.v.len ≤
          m.hl.hdrs[f k]!.val.offs + m.hl.hdrs[f k]!.val.len)) := by
  obtain ⟨⟨f, hm, hf⟩, ⟨g, gm, hg⟩⟩ := h
  refine ⟨⟨f, hm, fun k hk => ⟨(hf k hk).1, fun h1 h2 => ?_⟩⟩, ⟨g, gm, fun k hk => ⟨(hg k hk).1, fun h1 h2 => ?_⟩⟩⟩
  · have := (hf k hk).2 h1 h2
    exact ⟨this.1, this.2.1, this.2.2.1, this.2.2.2⟩
  · have := (hg k hk).2 h1 h2
    exact ⟨this.1, this.2.1, this.2.2.1, this.2.2.2⟩

/-- the plain form: every stored Contact (P-Asserted-Identity) value lies inside the `val` of some counted header line
    of that type, provided that header is stored -/
theorem PlMsg.some_header {m : PSIPMsg} (h : PlMsg m) :
    (∀ k, k < m.pv.contacts.n → k < m.pv.contacts.vals.size →
      ∃ j, j < m.hl.n ∧ (j < m.hl.hdrs.size →
        m.hl.hdrs[j]!.type = HdrContact ∧ PlIn m.hl.hdrs[j]!.val m.pv.contacts.vals[k]!.v)) ∧
    (∀ k, k < m.pv.pais.n → k < m.pv.pais.vals.size →
      ∃ j, j < m.hl.n ∧ (j < m.hl.hdrs.size →
        m.hl.hdrs[j]!.type = HdrPAI ∧ PlIn m.hl.hdrs[j]!.val m.pv.pais.vals[k]!.v)) := by
  obtain ⟨⟨f, _, hf⟩, ⟨g, _, hg⟩⟩ := h
  exact ⟨fun k h1 h2 => ⟨f k, (hf k h1).1, (hf k h1).2 h2⟩, fun k h1 h2 => ⟨g k, (hg k h1).1, (hg k h1).2 h2⟩⟩

/-! ### non-vacuity and tests (closed computations by `decide +kernel`: examples, not the general claims) -/

/-- test message: two Contact lines (three values; the second line uses the compact name `m`), two
    P-Asserted-Identity lines (three identities), other headers between them -/
def plTestMsg : Buf := "REGISTER sip:a@b SIP/2.0\r\nContact: <sip:a@b>;expires=5 , \"N\" <sip:c@d>\r\nVia: x\r\nP-Asserted-Identity: <sip:p@q>, <tel:1>\r\nm: <sip:e@f>\r\nP-Asserted-Identity: <sip:r@s>\r\nCall-ID: x\r\nCSeq: 1 REGISTER\r\n\r\n".toUTF8.data

/-- the parsed message object: header array of `kh` entries, contact array of `kc` entries -/
def plTestM (kh kc : Nat) : PSIPMsg :=
  (parseSIPMsg plTestMsg 0 (({} : PSIPMsg).init 0 ((some ()).map fun _ => Array.replicate kh {})
    ((some ()).map fun _ => Array.replicate kc {})) 0).2.2

/-- **the hypothesis of `pl_values_in_headers_init` is satisfiable** and the theorem applies to the test message
    (header capacity 8, contact capacity 2) -/
theorem plTest_msg : PlMsg (plTestM 8 2) := by
  have h : (parseSIPMsg plTestMsg 0 (({} : PSIPMsg).init 0 ((some ()).map fun _ => Array.replicate 8 {})
      ((some ()).map fun _ => Array.replicate 2 {})) 0).2.1 = .ok := by decide +kernel
  rw [plTestM]
  rcases hp : parseSIPMsg plTestMsg 0 (({} : PSIPMsg).init 0 ((some ()).map fun _ => Array.replicate 8 {})
      ((some ()).map fun _ => Array.replicate 2 {})) 0 with ⟨o', e', m'⟩
  rw [hp] at h
  simp only at h
  subst h
  exact pl_values_in_headers_init plTestMsg 0 {} 0 8 2 (some ()) (some ()) 0 (by decide +kernel) (Nat.zero_le _) hp

/-- test: what the object looks like — 7 headers (Contact, Via, PAI, Contact, PAI, Call-ID, CSeq); 3 contact values of
    which 2 are stored, both from header 0 (`val` = `[35, 70)`: `V` = `[35, 54)` and `[57, 70)`); 3 identities of which 2
    are stored, both from header 2 (`val` = `[101, 119)`: `V` = `[101, 110)` and `[112, 119)`) -/
example : (plTestM 8 2).hl.n = 7 ∧
    ((plTestM 8 2).hl.hdrs.toList.map (fun h => (h.type, h.val.offs, h.val.len))).take 5 =
      [(HdrContact, 35, 35), (HdrVia, 77, 1), (HdrPAI, 101, 18), (HdrContact, 124, 9), (HdrPAI, 156, 9)] ∧
    (plTestM 8 2).pv.contacts.n = 3 ∧
    (plTestM 8 2).pv.contacts.vals.toList.map (fun f => (f.v.offs, f.v.len)) = [(35, 19), (57, 13)] ∧
    (plTestM 8 2).pv.pais.n = 3 ∧
    (plTestM 8 2).pv.pais.vals.toList.map (fun f => (f.v.offs, f.v.len)) = [(101, 9), (112, 7)] := by decide +kernel

/-- test: with a header array of ONE entry the two stored identities come from header line 2, which is counted
    (`n = 7`) but not stored — the case the clause "if that header is stored" is there for -/
example : (plTestM 1 2).hl.n = 7 ∧ (plTestM 1 2).hl.hdrs.size = 1 ∧ (plTestM 1 2).pv.pais.n = 3 ∧
    (plTestM 1 2).pv.pais.vals.toList.map (fun f => (f.v.offs, f.v.len)) = [(101, 9), (112, 7)] := by decide +kernel

/-! ### the per-line counts of `AfcAssoc` are unique when every line and every value is stored

  NOT claimed: uniqueness when contact VALUES were dropped (false: with capacity 0 every count list fits) or when header
  lines were dropped (the order of lines that are not stored is not derived). -/

/-- two lists with the same length and the same cumulative sums are equal -/
theorem lo2_eq_of_starts (cnt cnt' : List Nat) (hl : cnt.length = cnt'.length)
    (hs : ∀ i, i ≤ cnt.length → hxStart cnt i = hxStart cnt' i) : cnt = cnt' := by
  apply List.ext_getElem hl
  intro i h1 h2
  have a := afc_hxStart_succ cnt i h1
  have b := afc_hxStart_succ cnt' i h2
  have c := hs i (by omega)
  have d := hs (i + 1) (by omega)
  omega

/-- abstract core: `P i k` = "value `k` lies in line `i`"; if no value lies in two consecutive lines, the block
    decomposition (positive counts, same total) is unique -/
theorem lo2_counts_unique_core (P : Nat → Nat → Prop) (H n : Nat) (cnt cnt' : List Nat)
    (l1 : cnt.length = H) (l2 : cnt'.length = H) (p1 : ∀ c ∈ cnt, 0 < c) (p2 : ∀ c ∈ cnt', 0 < c)
    (s1 : cnt.sum = n) (s2 : cnt'.sum = n)
    (B1 : ∀ i, i < H → ∀ k, hxStart cnt i ≤ k → k < hxStart cnt (i + 1) → P i k)
    (B2 : ∀ i, i < H → ∀ k, hxStart cnt' i ≤ k → k < hxStart cnt' (i + 1) → P i k)
    (D : ∀ i k, P i k → ¬ P (i + 1) k) : cnt = cnt' := by
  apply lo2_eq_of_starts cnt cnt' (by omega)
  intro i
  induction i with
  | zero => intro _; rfl
  | succ i ih =>
    intro hi
    have e := ih (by omega)
    have hi1 : i < cnt.length := by omega
    have hi2 : i < cnt'.length := by omega
    have a := afc_hxStart_succ cnt i hi1
    have b := afc_hxStart_succ cnt' i hi2
    have pa : 0 < cnt[i] := p1 _ (List.getElem_mem hi1)
    have pb : 0 < cnt'[i] := p2 _ (List.getElem_mem hi2)
    have t1 : hxStart cnt (i + 1) ≤ n := by rw [← s1]; exact hxStart_le cnt (i + 1)
    have t2 : hxStart cnt' (i + 1) ≤ n := by rw [← s2]; exact hxStart_le cnt' (i + 1)
    have f1 : hxStart cnt cnt.length = n := by rw [hxStart_length]; exact s1
    have f2 : hxStart cnt' cnt'.length = n := by rw [hxStart_length]; exact s2
    rcases Nat.lt_trichotomy cnt[i] cnt'[i] with hlt | heq | hgt
    · -- the value `k = start (i+1)` of `cnt` is in block `i` of `cnt'` and in block `i+1` of `cnt`
      exfalso
      have hi3 : i + 1 < cnt.length := by
        apply Nat.lt_of_le_of_ne hi
        intro h; rw [h] at a; omega
      have a' := afc_hxStart_succ cnt (i + 1) hi3
      have pa' : 0 < cnt[i + 1] := p1 _ (List.getElem_mem hi3)
      exact D i (hxStart cnt (i + 1)) (B2 i (by omega) _ (by omega) (by omega))
        (B1 (i + 1) (by omega) _ (Nat.le_refl _) (by omega))
    · omega
    · exfalso
      have hi3 : i + 1 < cnt'.length := by
        apply Nat.lt_of_le_of_ne (by omega)
        intro h; rw [h] at b; omega
      have b' := afc_hxStart_succ cnt' (i + 1) hi3
      have pb' : 0 < cnt'[i + 1] := p2 _ (List.getElem_mem hi3)
      exact D i (hxStart cnt' (i + 1)) (B1 i (by omega) _ (by omega) (by omega))
        (B2 (i + 1) (by omega) _ (Nat.le_refl _) (by omega))

/-- the `val` spans of the accepted lines are in buffer order without overlap (a later line has an empty `val` or its
    `val` starts at or after the end of the `val` of every earlier line) -/
def lo2Apart (gs : List Hdr) : Prop :=
  ∀ j k, j < k → k < gs.length → gs[k]!.val.len = 0 ∨ gs[j]!.val.offs + gs[j]!.val.len ≤ gs[k]!.val.offs

/-- no non-empty value lies inside the `val` of two different lines -/
theorem lo2Apart.disjoint {gs : List Hdr} (A : lo2Apart gs) {j k : Nat} (hjk : j < k) (hk : k < gs.length)
    {v : PField} (h1 : PlIn gs[j]!.val v) (h2 : PlIn gs[k]!.val v) : False := by
  obtain ⟨a1, a2, a3⟩ := h1
  obtain ⟨_, b2, b3⟩ := h2
  rcases A j k hjk hk with h | h <;> omega

/-- **the counts of `AfcAssoc` are unique** when the `val` spans of the lines do not overlap and every value counted is
    stored (`n ≤ vals.size`): two count lists that satisfy the conjuncts of `AfcAssoc` for the same object are equal -/
theorem lo2_counts_unique {ty : Nat} {gs : List Hdr} {vals : Array PFromBody} {n hNo : Nat} (A : lo2Apart gs)
    (hall : n ≤ vals.size) (hidx : (afcIdx ty gs).length = hNo) (cnt cnt' : List Nat)
    (l1 : cnt.length = hNo) (l2 : cnt'.length = hNo) (p1 : ∀ c ∈ cnt, 0 < c) (p2 : ∀ c ∈ cnt', 0 < c)
    (s1 : cnt.sum = n) (s2 : cnt'.sum = n) (B1 : AfcBlocks ty gs vals cnt) (B2 : AfcBlocks ty gs vals cnt') :
    cnt = cnt' := by
  apply lo2_counts_unique_core
    (fun i k => ∃ j, (afcIdx ty gs)[i]? = some j ∧ PlIn gs[j]!.val vals[k]!.v) hNo n cnt cnt' l1 l2 p1 p2 s1 s2
  · intro i hi k h1 h2
    have hj : i < (afcIdx ty gs).length := by omega
    refine ⟨(afcIdx ty gs)[i], List.getElem?_eq_getElem hj, ?_⟩
    have : hxStart cnt (i + 1) ≤ n := by rw [← s1]; exact hxStart_le cnt (i + 1)
    exact B1 i _ (List.getElem?_eq_getElem hj) k h1 h2 (by omega)
  · intro i hi k h1 h2
    have hj : i < (afcIdx ty gs).length := by omega
    refine ⟨(afcIdx ty gs)[i], List.getElem?_eq_getElem hj, ?_⟩
    have : hxStart cnt' (i + 1) ≤ n := by rw [← s2]; exact hxStart_le cnt' (i + 1)
    exact B2 i _ (List.getElem?_eq_getElem hj) k h1 h2 (by omega)
  · rintro i k ⟨j, hj, hp⟩ ⟨j', hj', hp'⟩
    exact A.disjoint (afc_idx_mono hj hj' (Nat.lt_succ_self i)) (afcIdx_lt hj').1 hp hp'

/-- the order hypothesis follows from the order of the STORED headers (`HlsLo`, FieldsLo) when every accepted line is
    stored -/
theorem lo2Apart_of_stored {gs : List Hdr} {hl : HdrLst} {s : Nat} (S : AfcStored gs hl) (L : HlsLo s hl)
    (hall : hl.n ≤ hl.hdrs.size) : lo2Apart gs := by
  intro j k hjk hk
  obtain ⟨e, hst⟩ := S
  rw [e] at hk
  have hk2 : k < hl.hdrs.size := by omega
  rw [← hst k hk hk2, ← hst j (by omega) (by omega)]
  have ho := (L.order j k hjk hk hk2).2
  have hsp := (L.stored k hk hk2).2.2
  have ho' : hl.hdrs[j]!.val.offs + hl.hdrs[j]!.val.len ≤ hl.hdrs[k]!.name.offs := ho
  rcases hsp with h | h
  · exact Or.inl h
  · exact Or.inr (by omega)

/-- **message level**: for an object that satisfies `AfcMsg gs m` and the order facts `HlsLo`
    (both proved for every successful ParseSIPMsg from Init: `afc_values_pinned_init`, `parseSIPMsg_lo_init`), with every
    accepted header line stored and every contact (resp. identity) value stored, the per-line counts are determined -/
theorem lo2_msg_counts_unique {gs : List Hdr} {m : PSIPMsg} {s : Nat} (M : AfcMsg gs m) (L : HlsLo s m.hl)
    (hall : m.hl.n ≤ m.hl.hdrs.size) :
    (m.pv.contacts.n ≤ m.pv.contacts.vals.size → ∀ cnt cnt' : List Nat,
      (cnt.length = m.pv.contacts.hNo ∧ (∀ c ∈ cnt, 0 < c) ∧ cnt.sum = m.pv.contacts.n ∧
        AfcBlocks HdrContact gs m.pv.contacts.vals cnt) →
      (cnt'.length = m.pv.contacts.hNo ∧ (∀ c ∈ cnt', 0 < c) ∧ cnt'.sum = m.pv.contacts.n ∧
        AfcBlocks HdrContact gs m.pv.contacts.vals cnt') → cnt = cnt') ∧
    (m.pv.pais.n ≤ m.pv.pais.vals.size → ∀ cnt cnt' : List Nat,
      (cnt.length = m.pv.pais.hNo ∧ (∀ c ∈ cnt, 0 < c) ∧ cnt.sum = m.pv.pais.n ∧
        AfcBlocks HdrPAI gs m.pv.pais.vals cnt) →
      (cnt'.length = m.pv.pais.hNo ∧ (∀ c ∈ cnt', 0 < c) ∧ cnt'.sum = m.pv.pais.n ∧
        AfcBlocks HdrPAI gs m.pv.pais.vals cnt') → cnt = cnt') := by
  have A := lo2Apart_of_stored M.stored L hall
  obtain ⟨_, hc, _⟩ := M.contacts
  obtain ⟨_, hp, _⟩ := M.pais
  exact ⟨fun hn cnt cnt' ⟨a1, a2, a3, a4⟩ ⟨b1, b2, b3, b4⟩ =>
      lo2_counts_unique A hn hc cnt cnt' a1 b1 a2 b2 a3 b3 a4 b4,
    fun hn cnt cnt' ⟨a1, a2, a3, a4⟩ ⟨b1, b2, b3, b4⟩ =>
      lo2_counts_unique A hn hp cnt cnt' a1 b1 a2 b2 a3 b3 a4 b4⟩

/-- **one ParseSIPMsg call from Init, OK, nothing dropped from the header array nor from the contact array**: there is
    EXACTLY ONE list of per-line counts for the contact values (existence: `afc_values_pinned_init`) -/
theorem lo2_contact_counts_exists_unique_init (b : Buf) (o : Nat) (m0 : PSIPMsg) (len kh kc : Nat)
    (hdrs cts : Option Unit) (flags : Nat) (hfit : b.size ≤ 65535) (ho : o ≤ b.size) {o' : Nat} {m' : PSIPMsg}
    (hr : parseSIPMsg b o (m0.init len (hdrs.map fun _ => Array.replicate kh {}) (cts.map fun _ => Array.replicate kc {}))
      flags = (o', .ok, m'))
    (hallH : m'.hl.n ≤ m'.hl.hdrs.size) (hallC : m'.pv.contacts.n ≤ m'.pv.contacts.vals.size) :
    let gs := afcMsgLines b o (m0.init len (hdrs.map fun _ => Array.replicate kh {}) (cts.map fun _ => Array.replicate kc {}))
    ∃ cnt : List Nat,
      (cnt.length = m'.pv.contacts.hNo ∧ (∀ c ∈ cnt, 0 < c) ∧ cnt.sum = m'.pv.contacts.n ∧
        AfcBlocks HdrContact gs m'.pv.contacts.vals cnt) ∧
      ∀ cnt' : List Nat, (cnt'.length = m'.pv.contacts.hNo ∧ (∀ c ∈ cnt', 0 < c) ∧ cnt'.sum = m'.pv.contacts.n ∧
        AfcBlocks HdrContact gs m'.pv.contacts.vals cnt') → cnt' = cnt := by
  intro gs
  have M := afc_values_pinned_init b o m0 len kh kc hdrs cts flags hfit ho hr
  have L := (parseSIPMsg_lo_init b o m0 len kh kc hdrs cts flags hfit ho hr).hl
  obtain ⟨cnt, c1, c2, c3, c4, c5⟩ := M.contacts
  exact ⟨cnt, ⟨c2, c3, c4, c5⟩, fun cnt' h' => (lo2_msg_counts_unique M L hallH).1 hallC cnt' cnt h' ⟨c2, c3, c4, c5⟩⟩

/-! tests / non-vacuity: the message `exMsg` of CapacityExtra.lean (two Contact lines with 2 + 1 values) parsed in
    one call into arrays of 7 headers / 5 contacts: the hypotheses hold -/
def lo2ExM : Nat × Err × PSIPMsg :=
  parseSIPMsg exMsg 0 (({} : PSIPMsg).init 0 ((some ()).map fun _ => Array.replicate 7 {})
    ((some ()).map fun _ => Array.replicate 5 {})) 0

theorem lo2ExM_facts : lo2ExM.2.1 = Err.ok ∧ lo2ExM.2.2.hl.n ≤ lo2ExM.2.2.hl.hdrs.size ∧
    lo2ExM.2.2.pv.contacts.n ≤ lo2ExM.2.2.pv.contacts.vals.size ∧ lo2ExM.2.2.pv.contacts.n = 3 ∧
    lo2ExM.2.2.pv.contacts.hNo = 2 := by decide +kernel

example : ∃ cnt : List Nat, cnt.length = 2 ∧ cnt.sum = 3 ∧
    ∀ cnt' : List Nat, (cnt'.length = lo2ExM.2.2.pv.contacts.hNo ∧ (∀ c ∈ cnt', 0 < c) ∧
      cnt'.sum = lo2ExM.2.2.pv.contacts.n ∧
      AfcBlocks HdrContact (afcMsgLines exMsg 0 (({} : PSIPMsg).init 0 ((some ()).map fun _ => Array.replicate 7 {})
        ((some ()).map fun _ => Array.replicate 5 {}))) lo2ExM.2.2.pv.contacts.vals cnt') → cnt' = cnt := by
  have hr : parseSIPMsg exMsg 0 (({} : PSIPMsg).init 0 ((some ()).map fun _ => Array.replicate 7 {})
      ((some ()).map fun _ => Array.replicate 5 {})) 0 = (lo2ExM.1, .ok, lo2ExM.2.2) :=
    mlf_triple_eta lo2ExM rfl lo2ExM_facts.1
  obtain ⟨cnt, ⟨a1, _, a3, _⟩, hu⟩ := lo2_contact_counts_exists_unique_init exMsg 0 {} 0 7 5 (some ()) (some ()) 0
    exMsg_fits.2 (Nat.zero_le _) hr lo2ExM_facts.2.1 lo2ExM_facts.2.2.1
  exact ⟨cnt, by rw [a1]; exact lo2ExM_facts.2.2.2.2, by rw [a3]; exact lo2ExM_facts.2.2.2.1, hu⟩

end Sipsp
