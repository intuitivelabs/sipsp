/-
  Sipsp.Proofs.ValCall — the typed value parsers of a header line as ONE function of the header state.

  `parseBody` (parse_headers.go: the `switch h.Type` after the colon) and `hlCont` (the continuation of a value on a
  resumed call) both call one of eight value parsers and store its result the same way. `valCall S st` is that call for
  the parser of state `S` made while the header is in state `st`; `valKind` says which parser `parseBody` selects.
  `parseBody_eq` and `hlCont_nf` put both functions into that form: a property of the dispatch is one lemma about
  `valCall S st`, by cases on `S`.
-/
import Sipsp.Model.Msg
import Sipsp.Proofs.Lex

namespace Sipsp

/-- the list object the Contact parser is called with while the header is in state `st`: on a new header line
    (`st` is not the Contact state) the header number is advanced and the running extent cleared -/
def ctArg (st : HState) (c : PContacts) : PContacts :=
  if st != .hContact then { c with hNo := c.hNo + 1, lastHVal := {} } else c

def paArg (st : HState) (c : PPAIs) : PPAIs :=
  if st != .hPAI then { c with hNo := c.hNo + 1, lastHVal := {} } else c

/-- **the typed value parser of the header state `S`**, as `parseBody` (header in state `st`) and `hlCont` (`st = S`)
    call it: returned offset, verdict, the extent of the value, the updated values object -/
def valCall (S st : HState) (b : Buf) (o : Nat) (hv : PHdrVals) : Nat × Err × PField × PHdrVals :=
  match S with
  | .hFrom => match parseNameAddrPVal HdrFrom b o hv.from_ with | (n, e, f) => (n, e, f.v, { hv with from_ := f })
  | .hTo => match parseNameAddrPVal HdrTo b o hv.to with | (n, e, f) => (n, e, f.v, { hv with to := f })
  | .hCallID => match parseCallIDVal b o hv.callid with | (n, e, f) => (n, e, f.callID, { hv with callid := f })
  | .hCSeq => match parseCSeqVal b o hv.cseq with | (n, e, f) => (n, e, f.v, { hv with cseq := f })
  | .hCLen => match parseCLenVal b o hv.clen with | (n, e, f) => (n, e, f.sVal, { hv with clen := f })
  | .hContact =>
    match parseAllContactValues b o (ctArg st hv.contacts) with
    | (n, e, c) => (n, e, c.lastHVal, { hv with contacts := c })
  | .hExpires => match parseUIntVal b o hv.expires with | (n, e, f) => (n, e, f.sVal, { hv with expires := f })
  | .hPAI =>
    match parseAllPAIValues b o (paArg st hv.pais) with
    | (n, e, c) => (n, e, c.lastHVal, { hv with pais := c })
  | _ => (o, .bug, {}, hv)

/-- frame: the call of the parser of state `S` leaves the objects of the other states alone -/
theorem pl_valCall_frame (S st : HState) (b : Buf) (o : Nat) (hv : PHdrVals) :
    (S ≠ .hContact → (valCall S st b o hv).2.2.2.contacts = hv.contacts) ∧
    (S ≠ .hPAI → (valCall S st b o hv).2.2.2.pais = hv.pais) ∧
    (S ≠ .hCSeq → (valCall S st b o hv).2.2.2.cseq = hv.cseq) ∧
    (S ≠ .hFrom → (valCall S st b o hv).2.2.2.from_ = hv.from_) ∧
    (S ≠ .hTo → (valCall S st b o hv).2.2.2.to = hv.to) := by
  cases S <;> refine ⟨fun h => ?_, fun h => ?_, fun h => ?_, fun h => ?_, fun h => ?_⟩ <;>
    first | rfl | exact absurd rfl h

/-- the value parser the dispatch `parseBody` selects: by header type, unless that value has been parsed already -/
def valKind (h : Hdr) (hv : PHdrVals) : Option HState :=
  if h.type == HdrFrom then (if !hv.from_.parsed then some .hFrom else none)
  else if h.type == HdrTo then (if !hv.to.parsed then some .hTo else none)
  else if h.type == HdrCallID then (if !hv.callid.parsed then some .hCallID else none)
  else if h.type == HdrCSeq then (if !hv.cseq.parsed then some .hCSeq else none)
  else if h.type == HdrCLen then (if !hv.clen.parsed then some .hCLen else none)
  else if h.type == HdrContact then some .hContact
  else if h.type == HdrExpires then (if !hv.expires.parsed then some .hExpires else none)
  else if h.type == HdrPAI then some .hPAI
  else none

/-- `parseBody` once the parser is selected -/
def bodyDisp (b : Buf) (o : Nat) (h : Hdr) (hv : PHdrVals) : Option HState → Nat × Err × Hdr × Option PHdrVals
  | none => (o, .ok, h, some hv)
  | some S =>
    ((valCall S h.state b o hv).1, (valCall S h.state b o hv).2.1,
      { h with state := S, val := if (valCall S h.state b o hv).2.1 == .ok then (valCall S h.state b o hv).2.2.1
                                  else h.val },
      some (valCall S h.state b o hv).2.2.2)

/-- the caller's result, for a header that is `h` unless the parser returns OK -/
def hlWrap (h : Hdr) (e : Err) (p : PField × PHdrVals) : HLσ :=
  ((if e == .ok then { h with val := p.1, state := .fin } else h), some p.2)

/-- the call of the value parser of state `S` while the header `h` is in state `h.state`: on a resumed call
    (`hlCont`, `S = h.state`) and after the ':' (`S` selected by `valKind`, `h.state = bodyStart`) -/
def valSite (S : HState) (b : Buf) (j : Nat) (h : Hdr) (hv : PHdrVals) : Step HLσ :=
  .done (valCall S h.state b j hv).1 (valCall S h.state b j hv).2.1
    (hlWrap { h with state := S } (valCall S h.state b j hv).2.1 (valCall S h.state b j hv).2.2)

/-- both sides are the same cascade of tests once `bodyDisp` is moved into the branches of `valKind` -/
theorem parseBody_eq (b : Buf) (o : Nat) (h : Hdr) (hv : PHdrVals) :
    parseBody b o h (some hv) = bodyDisp b o h hv (valKind h hv) := by
  unfold parseBody valKind parseFromVal
  simp only [apply_ite (bodyDisp b o h hv)]
  rfl

/-- outside the value states both sides are the `Bug` exit -/
theorem hlCont_nf (b : Buf) (i : Nat) (h : Hdr) (hv : PHdrVals) :
    hlCont b i h (some hv) = valSite h.state b i h hv := by
  obtain ⟨t, n, v, st, p⟩ := h
  unfold hlCont valSite valCall hlWrap parseFromVal
  cases st <;> rfl

/-- the states in which the loop body continues a header-specific value parser -/
def HState.isVal (st : HState) : Prop :=
  st = .hFrom ∨ st = .hTo ∨ st = .hCallID ∨ st = .hCSeq ∨ st = .hCLen ∨ st = .hContact ∨ st = .hExpires ∨ st = .hPAI

theorem HState.isVal.ne_bodyStart {S : HState} (h : S.isVal) : S ≠ .bodyStart := by
  rintro rfl; simp [HState.isVal] at h

/-- **when `valKind` selects the parser of state `S`**: the list parsers by the type alone, the others for a value
    that is not yet parsed -/
theorem valKind_eq_some_iff {h : Hdr} {hv : PHdrVals} {S : HState} :
    valKind h hv = some S ↔
      (S = .hFrom ∧ h.type = HdrFrom ∧ hv.from_.parsed = false) ∨ (S = .hTo ∧ h.type = HdrTo ∧ hv.to.parsed = false) ∨
      (S = .hCallID ∧ h.type = HdrCallID ∧ hv.callid.parsed = false) ∨
      (S = .hCSeq ∧ h.type = HdrCSeq ∧ hv.cseq.parsed = false) ∨ (S = .hCLen ∧ h.type = HdrCLen ∧ hv.clen.parsed = false) ∨
      (S = .hContact ∧ h.type = HdrContact) ∨ (S = .hExpires ∧ h.type = HdrExpires ∧ hv.expires.parsed = false) ∨
      (S = .hPAI ∧ h.type = HdrPAI) := by
  constructor
  · unfold valKind
    repeat' refine ite_ind (P := fun r => r = some S → _) (fun _ => ?_) (fun _ => ?_)
    all_goals intro hk
    all_goals cases hk
    all_goals simp only [beq_iff_eq, Bool.not_eq_eq_eq_not, Bool.not_true] at *
    all_goals simp only [*, reduceCtorEq, false_and, and_self, or_false, or_true]
  · rintro (⟨rfl, ht, hp⟩ | ⟨rfl, ht, hp⟩ | ⟨rfl, ht, hp⟩ | ⟨rfl, ht, hp⟩ | ⟨rfl, ht, hp⟩ | ⟨rfl, ht⟩ | ⟨rfl, ht, hp⟩ |
      ⟨rfl, ht⟩) <;> unfold valKind <;> simp +decide only [*, ↓reduceIte, Bool.not_false]

theorem valKind_isVal {h : Hdr} {hv : PHdrVals} {S : HState} (hk : valKind h hv = some S) : S.isVal := by
  rcases valKind_eq_some_iff.mp hk with h | h | h | h | h | h | h | h <;> simp [h.1, HState.isVal]

/-! ### a property of the call, parser by parser -/

/-- outside the eight value states the call is the `Bug` exit -/
theorem valCall_other {S : HState} (hS : ¬ S.isVal) (st : HState) (b : Buf) (o : Nat) (hv : PHdrVals) :
    valCall S st b o hv = (o, .bug, {}, hv) := by
  cases S <;> first | rfl | exact absurd (by simp [HState.isVal]) hS

/-- **case rule for `valCall`**: a property `M` of what the call returns (offset, verdict, extent, values object)
    holds if, for each of the eight parsers, it holds of what the call makes of ANY result `(n, e, f)` of that parser on
    the component it is given; in every other state the call is the `Bug` exit -/
theorem valCall_cases {M : Nat → Err → PField → PHdrVals → Prop} {S st : HState} {b : Buf} {o : Nat} {hv : PHdrVals}
    (from_ : S = .hFrom → ∀ n e f, parseNameAddrPVal HdrFrom b o hv.from_ = (n, e, f) →
      M n e f.v { hv with from_ := f })
    (to : S = .hTo → ∀ n e f, parseNameAddrPVal HdrTo b o hv.to = (n, e, f) → M n e f.v { hv with to := f })
    (callID : S = .hCallID → ∀ n e f, parseCallIDVal b o hv.callid = (n, e, f) →
      M n e f.callID { hv with callid := f })
    (cseq : S = .hCSeq → ∀ n e f, parseCSeqVal b o hv.cseq = (n, e, f) → M n e f.v { hv with cseq := f })
    (clen : S = .hCLen → ∀ n e f, parseCLenVal b o hv.clen = (n, e, f) → M n e f.sVal { hv with clen := f })
    (contact : S = .hContact → ∀ n e c, parseAllContactValues b o (ctArg st hv.contacts) = (n, e, c) →
      M n e c.lastHVal { hv with contacts := c })
    (expires : S = .hExpires → ∀ n e f, parseUIntVal b o hv.expires = (n, e, f) →
      M n e f.sVal { hv with expires := f })
    (pai : S = .hPAI → ∀ n e c, parseAllPAIValues b o (paArg st hv.pais) = (n, e, c) →
      M n e c.lastHVal { hv with pais := c })
    (other : ¬ S.isVal → M o .bug {} hv)
    {n : Nat} {e : Err} {V : PField} {hv2 : PHdrVals} (hq : valCall S st b o hv = (n, e, V, hv2)) : M n e V hv2 := by
  unfold valCall at hq
  cases S <;> simp only at hq
  case hFrom =>
    rcases hp : parseNameAddrPVal HdrFrom b o hv.from_ with ⟨n1, e1, f1⟩
    rw [hp] at hq; cases hq; exact from_ rfl _ _ _ hp
  case hTo =>
    rcases hp : parseNameAddrPVal HdrTo b o hv.to with ⟨n1, e1, f1⟩
    rw [hp] at hq; cases hq; exact to rfl _ _ _ hp
  case hCallID =>
    rcases hp : parseCallIDVal b o hv.callid with ⟨n1, e1, f1⟩
    rw [hp] at hq; cases hq; exact callID rfl _ _ _ hp
  case hCSeq =>
    rcases hp : parseCSeqVal b o hv.cseq with ⟨n1, e1, f1⟩
    rw [hp] at hq; cases hq; exact cseq rfl _ _ _ hp
  case hCLen =>
    rcases hp : parseCLenVal b o hv.clen with ⟨n1, e1, f1⟩
    rw [hp] at hq; cases hq; exact clen rfl _ _ _ hp
  case hContact =>
    rcases hp : parseAllContactValues b o (ctArg st hv.contacts) with ⟨n1, e1, f1⟩
    rw [hp] at hq; cases hq; exact contact rfl _ _ _ hp
  case hExpires =>
    rcases hp : parseUIntVal b o hv.expires with ⟨n1, e1, f1⟩
    rw [hp] at hq; cases hq; exact expires rfl _ _ _ hp
  case hPAI =>
    rcases hp : parseAllPAIValues b o (paArg st hv.pais) with ⟨n1, e1, f1⟩
    rw [hp] at hq; cases hq; exact pai rfl _ _ _ hp
  all_goals cases hq; exact other (by simp [HState.isVal])

end Sipsp
