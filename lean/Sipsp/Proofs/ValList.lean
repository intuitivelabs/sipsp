/-
  Sipsp.Proofs.ValList — the Contact and the P-Asserted-Identity value lists are one object and one loop.

  Data: `PPAIs` has the fields `vals n hNo lastHVal last pnc` of `PContacts` and the same text for `cur`, `setCur`,
  `account` (minus the expires summaries and `first`), `next`, `wrap`; `PContacts.toPa` forgets the extra fields and
  commutes with each of them, and every identity list is `c.toCt.toPa`, so a fact about `PPAIs` is the `PContacts`
  fact at `c.toCt` read through the projection. The equations of these operations, for both lists, are in this file.
  Loop: `contactsLoop` / `paisLoop` (Model/Msg.lean) are `valsLoop one` for the two one-value parsers; one pass of the
  body is `valsStep`, and a statement about the loops is proved by looking at ONE pass (`valsLoop_inv` for one run,
  `valsLoop_rel` for two runs in lockstep: two parsers, two buffers).
-/
import Sipsp.Model.Msg

namespace Sipsp

def PContacts.toPa (c : PContacts) : PPAIs :=
  { vals := c.vals, n := c.n, hNo := c.hNo, lastHVal := c.lastHVal, last := c.last, pnc := c.pnc }

def PPAIs.toCt (c : PPAIs) : PContacts :=
  { vals := c.vals, n := c.n, hNo := c.hNo, lastHVal := c.lastHVal, last := c.last, pnc := c.pnc }

theorem PPAIs.toCt_toPa (c : PPAIs) : c.toCt.toPa = c := rfl

/-- the wrapper's normalisation of the scratch slot before a new header line -/
def PContacts.wrap (c : PContacts) : PContacts :=
  if c.n ≥ c.vals.size && c.last.parsed then { c with last := {} } else c

def PPAIs.wrap (c : PPAIs) : PPAIs :=
  if c.n ≥ c.vals.size && c.last.parsed then { c with last := {} } else c

/-- the object the loop goes on with after a completed value (more values follow) -/
def PContacts.next (c : PContacts) (pf : PFromBody) : PContacts :=
  if c.n < c.vals.size then (c.setCur pf).account pf else { (c.setCur pf).account pf with last := {} }

def PPAIs.next (c : PPAIs) (pf : PFromBody) : PPAIs :=
  if c.n < c.vals.size then (c.setCur pf).account pf else { (c.setCur pf).account pf with last := {} }

theorem setCur_cur (c : PContacts) (pf : PFromBody) : (c.setCur pf).cur = pf := by
  unfold PContacts.setCur PContacts.cur
  split
  · rename_i h
    have h' : c.n < (c.vals.set! c.n pf).size := by simpa using h
    simp only [h', ↓reduceIte]
    simp [h]
  · rfl

theorem setCur_last_out (c : PContacts) (pf : PFromBody) (h : ¬ c.n < c.vals.size) : (c.setCur pf).last = pf := by
  unfold PContacts.setCur; rw [if_neg h]

theorem account_vals (c : PContacts) (pf : PFromBody) : (c.account pf).vals = c.vals := by
  simp only [PContacts.account, apply_ite PContacts.vals, ite_self]

theorem account_n (c : PContacts) (pf : PFromBody) : (c.account pf).n = c.n + 1 := by
  simp only [PContacts.account, apply_ite PContacts.n, ite_self]

theorem account_last (c : PContacts) (pf : PFromBody) : (c.account pf).last = c.last := by
  simp only [PContacts.account, apply_ite PContacts.last, ite_self]

theorem setCur_n (c : PContacts) (pf : PFromBody) : (c.setCur pf).n = c.n := by
  unfold PContacts.setCur; split <;> rfl

theorem setCur_size (c : PContacts) (pf : PFromBody) : (c.setCur pf).vals.size = c.vals.size := by
  unfold PContacts.setCur; split
  · simp
  · rfl

theorem setCur_vals_ne (c : PContacts) (pf : PFromBody) (k : Nat) (hk : c.n ≠ k) :
    (c.setCur pf).vals[k]! = c.vals[k]! := by
  unfold PContacts.setCur; split
  · simp [Array.getElem!_eq_getD, Array.getD_eq_getD_getElem?, Array.getElem?_setIfInBounds_ne hk]
  · rfl

theorem setCur_last_in (c : PContacts) (pf : PFromBody) (h : c.n < c.vals.size) : (c.setCur pf).last = c.last := by
  unfold PContacts.setCur; rw [if_pos h]

theorem setCur_get_n (c : PContacts) (pf : PFromBody) (h : c.n < c.vals.size) : (c.setCur pf).vals[c.n]! = pf := by
  have := setCur_cur c pf
  unfold PContacts.cur at this
  rw [setCur_n, setCur_size, if_pos h] at this
  exact this

theorem setCur_setCur (c : PContacts) (p q : PFromBody) : (c.setCur p).setCur q = c.setCur q := by
  unfold PContacts.setCur
  split
  · rename_i h
    have h' : c.n < (c.vals.set! c.n p).size := by simpa using h
    simp only [h', ↓reduceIte]
    simp [Array.setIfInBounds_setIfInBounds]
  · rfl

theorem setCur_out_clear (c : PContacts) (p : PFromBody) (h : ¬ c.n < c.vals.size) :
    ({ c.setCur p with last := {} } : PContacts) = { c with last := {} } := by
  unfold PContacts.setCur; rw [if_neg h]

theorem clear_setCur_out (c : PContacts) (p : PFromBody) (h : ¬ c.n < c.vals.size) :
    ({ c.setCur p with last := {} } : PContacts) = { c with last := {} } :=
  setCur_out_clear c p h

theorem setCur_next (c : PContacts) (p q : PFromBody) : (c.setCur p).next q = c.next q := by
  unfold PContacts.next; rw [setCur_n, setCur_size, setCur_setCur]

/-! `account` field by field: the projection is pushed through its nested updates. -/

theorem account_hNo (c : PContacts) (pf : PFromBody) : (c.account pf).hNo = c.hNo := by
  simp only [PContacts.account, apply_ite PContacts.hNo, ite_self]

theorem account_maxE (c : PContacts) (pf : PFromBody) :
    (c.account pf).maxExpires = if c.maxExpires < pf.expires then pf.expires else c.maxExpires := by
  simp only [PContacts.account, apply_ite PContacts.maxExpires, ite_self]

theorem account_minE (c : PContacts) (pf : PFromBody) :
    (c.account pf).minExpires =
      if (if c.n == 0 then 4294967295 else c.minExpires) > pf.expires then pf.expires
      else (if c.n == 0 then 4294967295 else c.minExpires) := by
  simp only [PContacts.account, apply_ite PContacts.minExpires, ite_self]

theorem account_lhv (c : PContacts) (pf : PFromBody) :
    (c.account pf).lastHVal = if c.lastHVal.isEmpty then pf.v else c.lastHVal.extend pf.v.endT := by
  simp only [PContacts.account, apply_ite PContacts.lastHVal, ite_self]

theorem account_pnc (c : PContacts) (pf : PFromBody) :
    (c.account pf).pnc = if c.lastHVal.isEmpty then c.pnc else (c.pnc || c.lastHVal.extendPanics pf.v.endT) := by
  simp only [PContacts.account, apply_ite PContacts.pnc, apply_ite PContacts.lastHVal, ite_self]

theorem account_first (c : PContacts) (pf : PFromBody) :
    (c.account pf).first = if c.n = 0 ∧ c.vals.size = 0 then pf else c.first := by
  simp only [PContacts.account, apply_ite PContacts.first, apply_ite PContacts.n, apply_ite PContacts.vals, ite_self]
  simp

theorem setCur_first (c : PContacts) (pf : PFromBody) : (c.setCur pf).first = c.first := by
  unfold PContacts.setCur; split <;> rfl

theorem setCur_scalars (c : PContacts) (pf : PFromBody) :
    (c.setCur pf).hNo = c.hNo ∧ (c.setCur pf).maxExpires = c.maxExpires ∧ (c.setCur pf).minExpires = c.minExpires ∧
    (c.setCur pf).lastHVal = c.lastHVal ∧ (c.setCur pf).pnc = c.pnc := by
  unfold PContacts.setCur; split <;> exact ⟨rfl, rfl, rfl, rfl, rfl⟩

theorem next_n (c : PContacts) (pf : PFromBody) : (c.next pf).n = c.n + 1 := by
  unfold PContacts.next; split <;> simp [account_n, setCur_n]

theorem next_vals (c : PContacts) (pf : PFromBody) : (c.next pf).vals = (c.setCur pf).vals := by
  unfold PContacts.next; split <;> simp [account_vals]

theorem wrap_scalars (c : PContacts) :
    c.wrap.n = c.n ∧ c.wrap.vals = c.vals ∧ c.wrap.hNo = c.hNo ∧ c.wrap.maxExpires = c.maxExpires ∧
    c.wrap.minExpires = c.minExpires ∧ c.wrap.lastHVal = c.lastHVal ∧ c.wrap.pnc = c.pnc := by
  unfold PContacts.wrap; split <;> exact ⟨rfl, rfl, rfl, rfl, rfl, rfl, rfl⟩

theorem bump_wrap (c : PContacts) (k : Nat) :
    ({ c with hNo := k, lastHVal := {} } : PContacts).wrap = { c.wrap with hNo := k, lastHVal := {} } := by
  unfold PContacts.wrap; split <;> rfl

theorem setCur_storedP (P : PFromBody → Prop) (c : PContacts) (pf : PFromBody)
    (h1 : ∀ k, k < c.n → k < c.vals.size → P c.vals[k]!) (h2 : P pf) :
    ∀ k, k < c.n + 1 → k < c.vals.size → P (c.setCur pf).vals[k]! := by
  intro k hk hs
  by_cases hkn : k = c.n
  · subst hkn; rw [setCur_get_n c pf hs]; exact h2
  · rw [setCur_vals_ne c pf k (by omega)]; exact h1 k (by omega) hs

theorem setCur_lastP (P : PFromBody → Prop) (c : PContacts) (pf : PFromBody) (h1 : P c.last) (h2 : P pf) :
    P (c.setCur pf).last := by
  unfold PContacts.setCur; split
  · exact h1
  · exact h2

theorem PContacts.toPa_setCur (c : PContacts) (pf : PFromBody) : (c.setCur pf).toPa = c.toPa.setCur pf := by
  unfold PContacts.setCur PPAIs.setCur
  show (if c.n < c.vals.size then _ else _ : PContacts).toPa = if c.n < c.vals.size then _ else _
  split <;> rfl

theorem PContacts.toPa_account (c : PContacts) (pf : PFromBody) : (c.account pf).toPa = c.toPa.account pf := by
  unfold PContacts.account PPAIs.account
  -- the projections of the nested updates, field by field; the expires summaries and `first` drop out
  by_cases h : c.lastHVal.isEmpty = true <;>
    simp only [PContacts.toPa, h, apply_ite PContacts.vals, apply_ite PContacts.n, apply_ite PContacts.hNo,
      apply_ite PContacts.lastHVal, apply_ite PContacts.last, apply_ite PContacts.pnc, ite_self, Bool.false_eq_true,
      ↓reduceIte]

theorem PContacts.toPa_next (c : PContacts) (pf : PFromBody) : (c.next pf).toPa = c.toPa.next pf := by
  unfold PContacts.next PPAIs.next
  show (if c.n < c.vals.size then _ else _ : PContacts).toPa = if c.n < c.vals.size then _ else _
  split
  · rw [toPa_account, toPa_setCur]
  · rw [← toPa_setCur, ← toPa_account]; rfl

theorem PContacts.toPa_wrap (c : PContacts) : c.wrap.toPa = c.toPa.wrap := by
  unfold PContacts.wrap PPAIs.wrap
  show (if (decide (c.n ≥ c.vals.size) && c.last.parsed) = true then _ else _ : PContacts).toPa =
    if (decide (c.n ≥ c.vals.size) && c.last.parsed) = true then _ else _
  split <;> rfl

theorem PPAIs.setCur_eq (c : PPAIs) (pf : PFromBody) : c.setCur pf = (c.toCt.setCur pf).toPa :=
  (PContacts.toPa_setCur c.toCt pf).symm

theorem PPAIs.account_eq (c : PPAIs) (pf : PFromBody) : c.account pf = (c.toCt.account pf).toPa :=
  (PContacts.toPa_account c.toCt pf).symm

theorem PPAIs.next_eq (c : PPAIs) (pf : PFromBody) : c.next pf = (c.toCt.next pf).toPa :=
  (PContacts.toPa_next c.toCt pf).symm

theorem PPAIs.wrap_eq (c : PPAIs) : c.wrap = c.toCt.wrap.toPa := (PContacts.toPa_wrap c.toCt).symm

theorem paAccount_vals (c : PPAIs) (pf : PFromBody) : (c.account pf).vals = c.vals := by
  rw [PPAIs.account_eq]; exact account_vals c.toCt pf

theorem paAccount_n (c : PPAIs) (pf : PFromBody) : (c.account pf).n = c.n + 1 := by
  rw [PPAIs.account_eq]; exact account_n c.toCt pf

theorem paAccount_last (c : PPAIs) (pf : PFromBody) : (c.account pf).last = c.last := by
  rw [PPAIs.account_eq]; exact account_last c.toCt pf

theorem paSetCur_n (c : PPAIs) (pf : PFromBody) : (c.setCur pf).n = c.n := by
  rw [PPAIs.setCur_eq]; exact setCur_n c.toCt pf

theorem paSetCur_size (c : PPAIs) (pf : PFromBody) : (c.setCur pf).vals.size = c.vals.size := by
  rw [PPAIs.setCur_eq]; exact setCur_size c.toCt pf

theorem paSetCur_vals_ne (c : PPAIs) (pf : PFromBody) (k : Nat) (hk : c.n ≠ k) :
    (c.setCur pf).vals[k]! = c.vals[k]! := by
  rw [PPAIs.setCur_eq]; exact setCur_vals_ne c.toCt pf k hk

theorem paSetCur_last_in (c : PPAIs) (pf : PFromBody) (h : c.n < c.vals.size) : (c.setCur pf).last = c.last := by
  rw [PPAIs.setCur_eq]; exact setCur_last_in c.toCt pf h

theorem paSetCur_cur (c : PPAIs) (pf : PFromBody) : (c.setCur pf).cur = pf := by
  rw [PPAIs.setCur_eq]; exact setCur_cur c.toCt pf

theorem paSetCur_setCur (c : PPAIs) (p q : PFromBody) : (c.setCur p).setCur q = c.setCur q := by
  rw [PPAIs.setCur_eq c q, ← setCur_setCur c.toCt p q, PContacts.toPa_setCur, ← PPAIs.setCur_eq]

theorem paSetCur_out_clear (c : PPAIs) (p : PFromBody) (h : ¬ c.n < c.vals.size) :
    ({ c.setCur p with last := {} } : PPAIs) = { c with last := {} } := by
  unfold PPAIs.setCur; rw [if_neg h]

theorem clear_paSetCur_out (c : PPAIs) (p : PFromBody) (h : ¬ c.n < c.vals.size) :
    ({ c.setCur p with last := {} } : PPAIs) = { c with last := {} } :=
  paSetCur_out_clear c p h

theorem paSetCur_last_out (c : PPAIs) (pf : PFromBody) (h : ¬ c.n < c.vals.size) : (c.setCur pf).last = pf := by
  unfold PPAIs.setCur; rw [if_neg h]

theorem paSetCur_storedP (P : PFromBody → Prop) (c : PPAIs) (pf : PFromBody)
    (h1 : ∀ k, k < c.n → k < c.vals.size → P c.vals[k]!) (h2 : P pf) :
    ∀ k, k < c.n + 1 → k < c.vals.size → P (c.setCur pf).vals[k]! := by
  rw [PPAIs.setCur_eq]
  exact setCur_storedP P c.toCt pf h1 h2

theorem paBump_wrap (c : PPAIs) (k : Nat) :
    ({ c with hNo := k, lastHVal := {} } : PPAIs).wrap = { c.wrap with hNo := k, lastHVal := {} } := by
  unfold PPAIs.wrap; split <;> rfl

/-- a list suspended inside a value is left alone by the wrapper -/
theorem wrap_id_of_pending (c : PContacts) (h : c.cur.state ≠ .fin) : c.wrap = c := by
  unfold PContacts.wrap
  split
  · rename_i hc
    exfalso
    simp only [Bool.and_eq_true, decide_eq_true_eq] at hc
    have hcur : c.cur = c.last := by unfold PContacts.cur; rw [if_neg (by omega)]
    rw [hcur] at h
    exact h (by simpa [PFromBody.parsed] using hc.2)
  · rfl

theorem paWrap_id_of_pending (c : PPAIs) (h : c.cur.state ≠ .fin) : c.wrap = c := by
  rw [PPAIs.wrap_eq, wrap_id_of_pending c.toCt h]; rfl

/-- one pass of the loop body: stop with a result, or go round again at `next` -/
inductive VPass where
  | stop (r : Nat × Err × PContacts)
  | again (next : Nat) (c : PContacts)

/-- the body of the loops of parse_contact.go / parse_pai.go over the one-value parser `one` -/
def valsStep (one : Buf → Nat → PFromBody → Nat × Err × PFromBody) (b : Buf) (offs : Nat) (c : PContacts) : VPass :=
  match one b offs c.cur with
  | (next, .ok, pf) => .stop (next, .ok, (c.setCur pf).account pf)
  | (next, .moreValues, pf) =>
    if offs < next ∧ next ≤ b.size then .again next (c.next pf) else .stop (next, .lbug, c.next pf)
  | (next, .moreBytes, pf) => .stop (next, .moreBytes, c.setCur pf)
  | (next, e, pf) => .stop (next, e, if c.n < c.vals.size then c.setCur pf else { c with last := {} })

theorem valsStep_again {one : Buf → Nat → PFromBody → Nat × Err × PFromBody} {b : Buf} {offs : Nat} {c : PContacts}
    {next : Nat} {c' : PContacts} (h : valsStep one b offs c = .again next c') : offs < next ∧ next ≤ b.size := by
  unfold valsStep at h
  split at h
  any_goals cases h
  split at h
  · rename_i hg; cases h; exact hg
  · cases h

def valsLoop (one : Buf → Nat → PFromBody → Nat × Err × PFromBody) (b : Buf) (offs : Nat) (c : PContacts) :
    Nat × Err × PContacts :=
  match _ : valsStep one b offs c with
  | .stop r => r
  | .again next c' => valsLoop one b next c'
termination_by b.size - offs
decreasing_by rename_i h; have := valsStep_again h; omega

theorem valsLoop_eq (one : Buf → Nat → PFromBody → Nat × Err × PFromBody) (b : Buf) (offs : Nat) (c : PContacts) :
    valsLoop one b offs c =
      match valsStep one b offs c with
      | .stop r => r
      | .again next c' => valsLoop one b next c' := by
  rw [valsLoop]
  split <;> rename_i h <;> rw [h]

/-- the rule for one run: `P` holds on entry and is kept by a pass that goes round again; a pass that stops gives `Q` -/
theorem valsLoop_inv (one : Buf → Nat → PFromBody → Nat × Err × PFromBody) (b : Buf) (P : Nat → PContacts → Prop)
    (Q : Nat × Err × PContacts → Prop)
    (hpass : ∀ o c, P o c → match valsStep one b o c with
      | .stop r => Q r
      | .again next c' => P next c')
    (o : Nat) (c : PContacts) (h : P o c) : Q (valsLoop one b o c) := by
  induction hk : b.size - o using Nat.strongRecOn generalizing o c with
  | _ k ih =>
    have hp := hpass o c h
    rw [valsLoop_eq]
    cases hs : valsStep one b o c with
    | stop r => rw [hs] at hp; exact hp
    | again next c' =>
      rw [hs] at hp
      have := valsStep_again hs
      exact ih (b.size - next) (by omega) next c' hp rfl

/-- the rule for two runs (two one-value parsers, two buffers): in configurations related by `C` both passes stop, with
    results related by `R`, or both go round again into related configurations -/
theorem valsLoop_rel (one1 one2 : Buf → Nat → PFromBody → Nat × Err × PFromBody) (b1 b2 : Buf)
    (C : Nat → PContacts → Nat → PContacts → Prop) (R : Nat × Err × PContacts → Nat × Err × PContacts → Prop)
    (hpass : ∀ o1 c1 o2 c2, C o1 c1 o2 c2 → match valsStep one1 b1 o1 c1, valsStep one2 b2 o2 c2 with
      | .stop r1, .stop r2 => R r1 r2
      | .again n1 c1', .again n2 c2' => C n1 c1' n2 c2'
      | _, _ => False)
    {o1 : Nat} {c1 : PContacts} {o2 : Nat} {c2 : PContacts} (h : C o1 c1 o2 c2) :
    R (valsLoop one1 b1 o1 c1) (valsLoop one2 b2 o2 c2) := by
  refine valsLoop_inv one2 b2 (fun j2 d2 => ∃ j1 d1, C j1 d1 j2 d2 ∧ valsLoop one1 b1 j1 d1 = valsLoop one1 b1 o1 c1)
    (fun r => R (valsLoop one1 b1 o1 c1) r) (fun j2 d2 ⟨j1, d1, hC, heq⟩ => ?_) o2 c2 ⟨o1, c1, h, rfl⟩
  have hp := hpass j1 d1 j2 d2 hC
  rw [valsLoop_eq] at heq
  cases hs1 : valsStep one1 b1 j1 d1 <;> cases hs2 : valsStep one2 b2 j2 d2 <;> rw [hs1, hs2] at hp <;>
    rw [hs1] at heq
  · rw [← heq]; exact hp
  · exact hp.elim
  · exact hp.elim
  · exact ⟨_, _, hp, heq⟩

theorem contactsLoop_eq_valsLoop (b : Buf) (offs : Nat) (c : PContacts) :
    contactsLoop b offs c = valsLoop parseOneContact b offs c := by
  induction hk : b.size - offs using Nat.strongRecOn generalizing offs c with
  | _ k ih =>
    rw [contactsLoop, valsLoop_eq]
    unfold valsStep
    rcases parseOneContact b offs c.cur with ⟨next, e, pf⟩
    cases e <;> simp only <;> try rfl
    by_cases hg : offs < next ∧ next ≤ b.size
    · simp only [if_pos hg]; exact ih (b.size - next) (by omega) next _ rfl
    · simp only [if_neg hg]; rfl

/-- the result of the identity loop is the projection of the result of the contact loop run with ParseOnePAI -/
def toPaR (r : Nat × Err × PContacts) : Nat × Err × PPAIs := (r.1, r.2.1, r.2.2.toPa)

theorem paisLoop_toPa (b : Buf) (offs : Nat) (c : PContacts) :
    paisLoop b offs c.toPa = toPaR (valsLoop parseOnePAI b offs c) := by
  induction hk : b.size - offs using Nat.strongRecOn generalizing offs c with
  | _ k ih =>
    have hnx : ∀ pf, (if c.toPa.n < c.toPa.vals.size then (c.toPa.setCur pf).account pf
        else { (c.toPa.setCur pf).account pf with last := {} }) = (c.next pf).toPa :=
      fun pf => (PContacts.toPa_next c pf).symm
    have herr : ∀ pf, (if c.toPa.n < c.toPa.vals.size then c.toPa.setCur pf else { c.toPa with last := {} }) =
        (if c.n < c.vals.size then c.setCur pf else { c with last := {} }).toPa := fun pf => by
      by_cases hin : c.n < c.vals.size
      · rw [if_pos hin, if_pos (show c.toPa.n < c.toPa.vals.size from hin), PContacts.toPa_setCur]
      · rw [if_neg hin, if_neg (show ¬ c.toPa.n < c.toPa.vals.size from hin)]; rfl
    rw [paisLoop, valsLoop_eq]
    unfold valsStep
    rw [show c.toPa.cur = c.cur from rfl]
    rcases parseOnePAI b offs c.cur with ⟨next, e, pf⟩
    cases e <;> simp only [hnx, herr, toPaR, PContacts.toPa_setCur, PContacts.toPa_account]
    by_cases hg : offs < next ∧ next ≤ b.size
    · simp only [if_pos hg]
      exact ih (b.size - next) (by omega) next (c.next pf) rfl
    · simp only [if_neg hg]

theorem paisLoop_eq_valsLoop (b : Buf) (offs : Nat) (c : PPAIs) :
    paisLoop b offs c = toPaR (valsLoop parseOnePAI b offs c.toCt) :=
  paisLoop_toPa b offs c.toCt

theorem parseAllContactValues_eq_wrap (b : Buf) (offs : Nat) (c : PContacts) :
    parseAllContactValues b offs c = contactsLoop b offs c.wrap := rfl

theorem parseAllPAIValues_eq_wrap (b : Buf) (offs : Nat) (c : PPAIs) :
    parseAllPAIValues b offs c = paisLoop b offs c.wrap := rfl

/-- ParseAllContactValues / ParseAllPAIValues over the one-value parser `one`: the loop on the normalised (`wrap`) object -/
def valsAll (one : Buf → Nat → PFromBody → Nat × Err × PFromBody) (b : Buf) (offs : Nat) (c : PContacts) :
    Nat × Err × PContacts := valsLoop one b offs c.wrap

theorem parseAllContactValues_eq_valsAll (b : Buf) (offs : Nat) (c : PContacts) :
    parseAllContactValues b offs c = valsAll parseOneContact b offs c := contactsLoop_eq_valsLoop b offs c.wrap

theorem parseAllPAIValues_toPa (b : Buf) (offs : Nat) (c : PContacts) :
    parseAllPAIValues b offs c.toPa = toPaR (valsAll parseOnePAI b offs c) := by
  rw [parseAllPAIValues_eq_wrap, ← PContacts.toPa_wrap]; exact paisLoop_toPa b offs c.wrap

theorem parseAllPAIValues_eq_valsAll (b : Buf) (offs : Nat) (c : PPAIs) :
    parseAllPAIValues b offs c = toPaR (valsAll parseOnePAI b offs c.toCt) :=
  parseAllPAIValues_toPa b offs c.toCt

end Sipsp
