/-
  Sipsp.Proofs.Verdicts — the verdicts a parser can return, stated once per parser.

  `Step.Verd V s` (RunLoop.lean): if the step result `s` ends the loop, its verdict satisfies `V`.  `runLoop_verd`,
  `lwsStd_verd` (LwsSite.lean), `Step.Verd.ite` / `verd_ite` carry `V` through the generic driver, the white-space site
  and an `if` cascade; the branch conditions are never needed, so a cascade is walked by unification alone.  For each parser there is one list
  `…Verdicts` and one theorem `(P b o st).2.1 ∈ …Verdicts` for every buffer, offset and object; "never verdict `x`" is
  `ne_of_verdicts (P_verdicts …) (by decide)`.  A list holds the model-only verdict `lbug` exactly when the loop that
  can return it has a guard whose truth needs a hypothesis on the object (the header block, in VerdictsMsg).
  This file: the single-value parsers (Call-ID, unsigned numbers, Content-Length, CSeq, token parameters, name-addr).
-/
import Sipsp.Proofs.TokParamTrans
import Sipsp.Proofs.CallID
import Sipsp.Proofs.UInt
import Sipsp.Proofs.SkipQuoted
import Sipsp.Proofs.CSeq
import Sipsp.Proofs.NaRun

namespace Sipsp

variable {σ : Type}

/-! ### Call-ID, unsigned numbers (Expires), Content-Length, CSeq -/

/-- the single-value parsers that end at white space: the end of the buffer, the end-of-header code (OK / Bad / Bug
    by the state), a byte that cannot follow, a number that does not fit -/
def valVerdicts : List Err := [.ok, .moreBytes, .bad, .bug, .badChar, .numTooBig]

theorem ciEOH_verdicts (s : PCallIDBody) (j n crl : Nat) : (ciEOH s j n crl).2.1 ∈ valVerdicts := by
  unfold ciEOH; cases s.state <;> exact verd_mem rfl

theorem parseCallIDVal_verdicts (b : Buf) (o : Nat) (st : PCallIDBody) : (parseCallIDVal b o st).2.1 ∈ valVerdicts := by
  unfold parseCallIDVal
  refine verd_ite (V := (· ∈ valVerdicts)) (verd_mem rfl) ?_
  refine runLoop_verd ciMachine b (· ∈ valVerdicts) ci_progress (fun i c s _ => ?_) (fun _ _ => verd_mem rfl) o st
  show (ciStep b i c s).Verd _
  rcases ciStep_cases i c s with ⟨_, st1, _, hB⟩ | ⟨st2, _, hB⟩ | ⟨e, he, hB⟩ <;> rw [hB]
  · exact lwsStd_verd _ b i _ ciEOH id (verd_mem rfl) ciEOH_verdicts
  · exact True.intro
  · subst he; exact verd_mem rfl

theorem clEOH_verdicts (s : PUIntBody) (j n crl : Nat) : (clEOH s j n crl).2.1 ∈ valVerdicts := by
  unfold clEOH; cases s.state <;> exact verd_mem rfl

theorem parseUIntVal_verdicts (b : Buf) (o : Nat) (st : PUIntBody) : (parseUIntVal b o st).2.1 ∈ valVerdicts := by
  unfold parseUIntVal
  refine verd_ite (V := (· ∈ valVerdicts)) (verd_mem rfl) ?_
  refine runLoop_verd clMachine b (· ∈ valVerdicts) cl_progress (fun i c s _ => ?_) (fun _ _ => verd_mem rfl) o st
  show (clStep b i c s).Verd _
  rcases clStep_cases i c s with ⟨_, st1, _, hB⟩ | ⟨st2, _, hB⟩ | ⟨e, he, hB⟩ <;> rw [hB]
  · exact lwsStd_verd _ b i _ clEOH id (verd_mem rfl) clEOH_verdicts
  · exact True.intro
  · rcases he with rfl | rfl <;> exact verd_mem rfl

theorem parseCLenVal_verdicts (b : Buf) (o : Nat) (st : PUIntBody) : (parseCLenVal b o st).2.1 ∈ valVerdicts := by
  rcases parseCLenVal_cases b o st with ⟨_, _, h⟩ | ⟨_, h⟩ <;> rw [h]
  · exact verd_mem rfl
  · exact parseUIntVal_verdicts b o st

theorem csEOH_verdicts (b : Buf) (s : PCSeqBody) (j n crl : Nat) : (csEOH b s j n crl).2.1 ∈ valVerdicts := by
  unfold csEOH csFinish
  cases s.state <;> dsimp only <;> first
    | exact verd_mem rfl
    | (refine verd_ite (V := (· ∈ valVerdicts)) (verd_mem rfl) ?_; split <;> exact verd_mem rfl)

theorem parseCSeqVal_verdicts (b : Buf) (o : Nat) (st : PCSeqBody) : (parseCSeqVal b o st).2.1 ∈ valVerdicts := by
  unfold parseCSeqVal
  refine verd_ite (V := (· ∈ valVerdicts)) (verd_mem rfl) ?_
  refine runLoop_verd csMachine b (· ∈ valVerdicts) cs_progress (fun i c s _ => ?_) (fun _ _ => verd_mem rfl) o st
  show (csStep b i c s).Verd _
  rcases csStep_cases i c s with ⟨_, st1, _, _, hB⟩ | ⟨st2, _, _, hB⟩ | ⟨e, he, hB⟩ <;> rw [hB]
  · exact lwsStd_verd _ b i _ (csEOH b) id (verd_mem rfl) (csEOH_verdicts b)
  · exact True.intro
  · rcases he with rfl | rfl <;> exact verd_mem rfl

/-! ### ParseTokenParam -/

def tpVerdicts : List Err := [.ok, .eoh, .moreValues, .moreBytes, .badChar, .bug]

abbrev TpV (s : Step PTokParam) : Prop := s.Verd (· ∈ tpVerdicts)

theorem tpEOH_verdicts (p : PTokParam) (n crl : Nat) : (tpEOH p n crl).2.1 ∈ tpVerdicts := by
  unfold tpEOH
  cases p.state <;> exact verd_mem rfl

theorem tpMoreBytes_verdicts (b : Buf) (flags : Nat) (p : PTokParam) (i : Nat) :
    (tpMoreBytes b flags p i).2.1 ∈ tpVerdicts := by
  unfold tpMoreBytes
  refine verd_ite (V := (· ∈ tpVerdicts)) ?_ (verd_mem rfl)
  cases p.state <;> first | exact tpEOH_verdicts _ _ _ | exact verd_mem rfl

theorem tpLWS_verdicts (b : Buf) (flags i : Nat) (p : PTokParam) (upd : PTokParam → PTokParam) :
    TpV (tpLWS b flags i p upd) := by
  unfold tpLWS
  rcases hs : skipLWS b i flags with ⟨n, crl, e⟩
  rcases skipLWS_three_verdicts b i flags hs with rfl | rfl | rfl
  · exact True.intro
  · exact tpEOH_verdicts _ _ _
  · exact tpMoreBytes_verdicts b flags p i

theorem tpSpTermSep_verdicts (b : Buf) (offs i : Nat) (p : PTokParam) : TpV (tpSpTermSep b offs i p) := by
  unfold tpSpTermSep
  dsimp only
  repeat' first | apply Step.Verd.ite | split
  all_goals exact verd_mem rfl

theorem tpSpTermEq_verdicts (offs i : Nat) (p : PTokParam) : TpV (tpSpTermEq offs i p) := by
  unfold tpSpTermEq
  apply Step.Verd.ite <;> exact verd_mem rfl

theorem tpStep_verdicts (flags offs : Nat) (b : Buf) (i : Nat) (c : UInt8) (p : PTokParam) :
    TpV (tpStep flags offs b i c p) := by
  unfold tpStep
  cases p.state <;> dsimp only
  case quotedVal =>
    rcases hsk : skipQuoted b i with ⟨n, e⟩
    rcases skipQuoted_verdicts b i hsk with rfl | rfl | ⟨rfl, _⟩
    · exact tpMoreBytes_verdicts b flags p _
    · exact verd_mem rfl
    · exact True.intro
  all_goals
    repeat' with_reducible apply Step.Verd.ite
    all_goals first
      | exact True.intro
      | exact tpLWS_verdicts b flags i p _
      | exact tpSpTermSep_verdicts b offs i p
      | exact tpSpTermEq_verdicts offs i p
      | exact verd_mem rfl

theorem parseTokenParam_verdicts (b : Buf) (offs : Nat) (p : PTokParam) (flags : Nat) :
    (parseTokenParam b offs p flags).2.1 ∈ tpVerdicts := by
  unfold parseTokenParam
  exact verd_ite (V := (· ∈ tpVerdicts)) (verd_mem rfl)
    (runLoop_verd (tpMachine flags offs) b _ (tp_progress flags offs)
      (fun i c st _ => tpStep_verdicts flags offs b i c st) (fun i st => tpMoreBytes_verdicts b flags st i) offs p)

/-! ### ParseNameAddrPVal (33 states), ParseOnePAI -/

def naVerdicts : List Err := [.ok, .moreValues, .moreBytes, .bad, .bug, .badChar]

abbrev NaV (s : Step PFromBody) : Prop := s.Verd (· ∈ naVerdicts)

theorem naEOH_verdicts (h : Nat) (b : Buf) (pf : PFromBody) (i n crl : Nat) (r : Err) (hr : r ∈ naVerdicts) :
    (naEOH h b pf i n crl r).2.1 ∈ naVerdicts := by
  unfold naEOH
  cases pf.state <;> simp only [naFinish] <;> first | exact hr | exact verd_mem rfl

theorem naMoreValues_verdicts (h : Nat) (b : Buf) (pf : PFromBody) (i : Nat) : NaV (naMoreValues h b pf i) := by
  unfold naMoreValues
  exact naEOH_verdicts h b pf i i 1 _ (verd_mem rfl)

theorem naCommaAfterWS_verdicts (h : Nat) (b : Buf) (pf : PFromBody) (i k : Nat) : NaV (naCommaAfterWS h b pf i k) := by
  unfold naCommaAfterWS
  exact Step.Verd.ite (naEOH_verdicts h b pf k i 1 _ (verd_mem rfl)) (verd_mem rfl)

theorem naLWS_verdicts (h : Nat) (b : Buf) (i : Nat) (pf : PFromBody) : NaV (naLWS h b i pf) := by
  unfold naLWS
  exact lwsStd_verd _ b i pf _ _ (verd_mem rfl) (fun s j n crl => naEOH_verdicts h b s j n crl .ok (verd_mem rfl))

/-- the white-space site of the parameter name / value states (the objects may depend on the offset `skipLWS` returns) -/
theorem naPV_site_verdicts (h : Nat) (b : Buf) (i : Nat) (pf : PFromBody) (pf1 pf2 pf3 : Nat → PFromBody) :
    NaV (match skipLWS b i 0 with
      | (_, _, .moreBytes) => Step.done i .moreBytes pf.saveS
      | (n, _, .ok) => .cont n (pf1 n)
      | (n, crl, .eoh) => let r := naEOH h b (pf2 n) i n crl .ok; .done r.1 r.2.1 r.2.2
      | (n, _, e) => .done n e (pf3 n)) := by
  rcases hsk : skipLWS b i 0 with ⟨n, crl, e1⟩
  rcases skipLWS_three_verdicts b i 0 hsk with rfl | rfl | rfl
  · exact True.intro
  · exact naEOH_verdicts h b _ i n crl .ok (verd_mem rfl)
  · exact verd_mem rfl

theorem naStep_verdicts (h : Nat) (b : Buf) (i : Nat) (c : UInt8) (pf : PFromBody) : NaV (naStep h b i c pf) := by
  unfold naStep
  cases pf.state <;> dsimp only [naStepA, naStepQ, naStepU, naStepUF, naStepP, naStepPE, naStepV, naStepVE, naStepStar]
  all_goals
    repeat' with_reducible apply Step.Verd.ite
    all_goals first
      | exact True.intro
      | exact naLWS_verdicts h b i _
      | exact naMoreValues_verdicts h b _ i
      | exact naCommaAfterWS_verdicts h b _ i _
      | exact naPV_site_verdicts h b i pf _ _ _
      | (cases b[i + 1]? <;> first | exact verd_mem rfl | exact Step.Verd.ite (verd_mem rfl) True.intro)
      | exact verd_mem rfl

theorem parseNameAddrPVal_verdicts (h : Nat) (b : Buf) (o : Nat) (pf : PFromBody) :
    (parseNameAddrPVal h b o pf).2.1 ∈ naVerdicts := by
  unfold parseNameAddrPVal
  refine verd_ite (V := (· ∈ naVerdicts)) (verd_mem rfl) ?_
  exact runLoop_verd (naMachine h) b _ (na_progress h) (fun i c st _ => naStep_verdicts h b i c st)
    (fun _ _ => verd_mem rfl) o _

/-- the name-addr verdicts and the bad-value verdict the `*` value is remapped to -/
def paiVerdicts : List Err := .valBad :: naVerdicts

theorem parseOnePAI_verdicts (b : Buf) (o : Nat) (pf : PFromBody) : (parseOnePAI b o pf).2.1 ∈ paiVerdicts := by
  have hne := parseNameAddrPVal_verdicts HdrPAI b o pf
  unfold parseOnePAI
  rcases hp : parseNameAddrPVal HdrPAI b o pf with ⟨n, e, p⟩
  rw [hp] at hne
  exact verd_ite (V := (· ∈ paiVerdicts)) (verd_mem rfl) (List.mem_cons_of_mem _ hne)

end Sipsp
