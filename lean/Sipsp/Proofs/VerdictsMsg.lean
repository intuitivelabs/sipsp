/-
  Sipsp.Proofs.VerdictsMsg — Verdicts, continued: the value lists, the header line, the header block, the first line
  and the message.

  The list loops of `ParseAllContactValues` / `ParseAllPAIValues` have a model-only guard that always holds
  (`parseNameAddrPVal_mv_range`), and `ParseHdrLine` makes progress, so their lists are free of `lbug`.  The guard of
  the `ParseHeaders` loop holds for legitimate lists only (AuditFixA `parseHeaders_ne_lbug`); without a hypothesis its
  list, and the message's, hold `lbug`.
-/
import Sipsp.Proofs.Verdicts
import Sipsp.Proofs.NameAddrPost
import Sipsp.Proofs.ContactsL1
import Sipsp.Proofs.MsgPhases
import Sipsp.Proofs.HlLex
import Sipsp.Proofs.FLine

namespace Sipsp

/-- the name-addr verdicts without MoreValues (the loop goes on to the next value) -/
def ctVerdicts : List Err := [.ok, .moreBytes, .bad, .bug, .badChar]

theorem contactsLoop_verdicts (b : Buf) (offs : Nat) (c : PContacts) : (contactsLoop b offs c).2.1 ∈ ctVerdicts := by
  induction hk : b.size - offs using Nat.strongRecOn generalizing offs c with
  | _ k ih =>
    rw [contactsLoop]
    have hne := parseNameAddrPVal_verdicts HdrContact b offs c.cur
    rcases hp : parseOneContact b offs c.cur with ⟨next, e1, pf⟩
    have hp' : parseNameAddrPVal HdrContact b offs c.cur = (next, e1, pf) := hp
    rw [hp'] at hne
    dsimp only at hne
    cases e1 <;> simp only <;> try (first | exact verd_mem rfl | exact absurd hne (by decide))
    rw [if_pos (parseNameAddrPVal_mv_range HdrContact b offs next c.cur pf hp')]
    exact ih (b.size - next) (by have := parseNameAddrPVal_mv_range HdrContact b offs next c.cur pf hp'; omega) next _ rfl

theorem parseAllContactValues_verdicts (b : Buf) (offs : Nat) (c : PContacts) :
    (parseAllContactValues b offs c).2.1 ∈ ctVerdicts := by
  unfold parseAllContactValues; exact contactsLoop_verdicts b offs _

def paiListVerdicts : List Err := .valBad :: ctVerdicts

theorem paisLoop_verdicts (b : Buf) (offs : Nat) (c : PPAIs) : (paisLoop b offs c).2.1 ∈ paiListVerdicts := by
  induction hk : b.size - offs using Nat.strongRecOn generalizing offs c with
  | _ k ih =>
    rw [paisLoop]
    have hne := parseOnePAI_verdicts b offs c.cur
    rcases hp : parseOnePAI b offs c.cur with ⟨next, e1, pf⟩
    rw [hp] at hne
    dsimp only at hne
    obtain ⟨e0, h0, he0⟩ := parseOnePAI_inv hp
    cases e1 <;> simp only <;> try (first | exact verd_mem rfl | exact absurd hne (by decide))
    have he0' : e0 = .moreValues := by
      split at he0
      · cases he0
      · exact he0.symm
    subst he0'
    have hg := parseNameAddrPVal_mv_range HdrPAI b offs next c.cur pf h0
    rw [if_pos hg]
    exact ih (b.size - next) (by omega) next _ rfl

theorem parseAllPAIValues_verdicts (b : Buf) (offs : Nat) (c : PPAIs) :
    (parseAllPAIValues b offs c).2.1 ∈ paiListVerdicts := by
  unfold parseAllPAIValues; exact paisLoop_verdicts b offs _

/-- the verdicts of the typed value parsers -/
def callVerdicts : List Err := [.ok, .moreBytes, .moreValues, .bad, .bug, .badChar, .numTooBig, .valBad]

/-- … and the header line's own: the empty line -/
def hlVerdicts : List Err := .empty :: callVerdicts

theorem valCall_verdicts (S st : HState) (b : Buf) (o : Nat) (hv : PHdrVals) : (valCall S st b o hv).2.1 ∈ callVerdicts := by
  rcases hq : valCall S st b o hv with ⟨n, e, V, hv2⟩
  exact valCall_cases (M := fun _ e _ _ => e ∈ callVerdicts)
    (from_ := fun _ _ _ _ hp => verd_mono (hp ▸ parseNameAddrPVal_verdicts HdrFrom b o hv.from_) (by decide))
    (to := fun _ _ _ _ hp => verd_mono (hp ▸ parseNameAddrPVal_verdicts HdrTo b o hv.to) (by decide))
    (callID := fun _ _ _ _ hp => verd_mono (hp ▸ parseCallIDVal_verdicts b o hv.callid) (by decide))
    (cseq := fun _ _ _ _ hp => verd_mono (hp ▸ parseCSeqVal_verdicts b o hv.cseq) (by decide))
    (clen := fun _ _ _ _ hp => verd_mono (hp ▸ parseCLenVal_verdicts b o hv.clen) (by decide))
    (contact := fun _ _ _ _ hp => verd_mono (hp ▸ parseAllContactValues_verdicts b o (ctArg st hv.contacts)) (by decide))
    (expires := fun _ _ _ _ hp => verd_mono (hp ▸ parseUIntVal_verdicts b o hv.expires) (by decide))
    (pai := fun _ _ _ _ hp => verd_mono (hp ▸ parseAllPAIValues_verdicts b o (paArg st hv.pais)) (by decide))
    (other := fun _ => verd_mem rfl) hq

theorem parseBody_verdicts (b : Buf) (o : Nat) (h : Hdr) (hb : Option PHdrVals) :
    (parseBody b o h hb).2.1 ∈ callVerdicts := by
  cases hb with
  | none => unfold parseBody; exact verd_mem rfl
  | some hv =>
    rw [parseBody_eq]
    cases valKind h hv with
    | none => exact verd_mem rfl
    | some S => exact valCall_verdicts S h.state b o hv

/-- every buffer, offset, header object, values object or nil: what the lexer exits with, the two exits of the code
    after the colon and of a typed value without a values object, and the verdicts of the typed value parsers -/
theorem parseHdrLine_verdicts (b : Buf) (o : Nat) (h : Hdr) (hb : Option PHdrVals) :
    (parseHdrLine b o h hb).2.1 ∈ hlVerdicts := by
  rcases hr : parseHdrLine b o h hb with ⟨o', e, h', hb'⟩
  refine parseHdrLine_ind b (fun _ _ => True) (fun _ e _ => e ∈ hlVerdicts)
    (hexit := fun i c h hb o e h' hc _ ha => ?_) (hgo := fun _ _ _ _ _ _ _ _ _ => trivial)
    (hnoname := fun _ _ _ _ _ _ _ _ _ _ => verd_mem rfl) (huntyped := fun _ _ _ _ _ _ _ _ _ _ _ _ => trivial)
    (hnil := fun _ _ _ _ _ _ => verd_mem rfl)
    (hcall := fun _ _ _ hv j h1 K _ _ _ => List.mem_cons_of_mem _ (valCall_verdicts K h1.state b j hv))
    (heob := fun _ _ _ => verd_mem rfl) trivial hr
  have sp := hlLex_spec b i c h hc
  rw [ha] at sp
  rcases sp.exit_verdict with rfl | rfl | rfl | rfl | rfl <;> exact verd_mem rfl

/-- the header line's verdicts and the model-only exit of the loop over the lines -/
def hdrsVerdicts : List Err := .lbug :: hlVerdicts

theorem parseHeaders_verdicts (b : Buf) (offs : Nat) (hl : HdrLst) (hb : Option PHdrVals) :
    (parseHeaders b offs hl hb).2.1 ∈ hdrsVerdicts := by
  refine parseHeaders_ind b (J := fun _ _ _ => True) (R := fun r => r.2.1 ∈ hdrsVerdicts)
    (line := fun _ _ _ _ _ _ _ _ _ _ => trivial) (bug := fun _ _ _ _ _ _ _ _ _ => verd_mem rfl)
    (endOk := fun _ _ _ _ _ _ _ _ _ _ => verd_mem rfl) (endEmpty := fun _ _ _ _ _ _ _ _ _ _ => verd_mem rfl)
    (stop := fun offs hl hb n e g hb' _ _ hp _ _ => ?_) (eob := fun _ _ _ _ _ => verd_mem rfl) offs hl hb trivial
  have := parseHdrLine_verdicts b offs hl.cur hb
  rw [hp] at this
  exact List.mem_cons_of_mem _ this

def flVerdicts : List Err := [.ok, .moreBytes, .noCR, .badChar]

theorem flCRLF_verdicts (b : Buf) (i : Nat) (pl : PFLine) : (flCRLF b i pl).2.1 ∈ flVerdicts := by
  unfold flCRLF
  rcases hs : skipCRLF b i with ⟨n, crl, e⟩
  rcases skipCRLF_verdicts hs with rfl | rfl | rfl <;> exact verd_mem rfl

theorem flRplReason_verdicts (b : Buf) (i : Nat) (pl : PFLine) : (flRplReason b i pl).2.1 ∈ flVerdicts := by
  unfold flRplReason skipLine
  rcases hs : skipCRLF b (skipToEOL b i) with ⟨n, crl, e⟩
  rcases skipCRLF_verdicts hs with rfl | rfl | rfl <;> exact verd_mem rfl

/-- the exits of the token stages are MoreBytes and BadChar; the line end and the reason line add NoCR -/
theorem parseFLine_verdicts (b : Buf) (o : Nat) (pl : PFLine) : (parseFLine b o pl).2.1 ∈ flVerdicts :=
  parseFLine_cases (P := fun r => r.2.1 ∈ flVerdicts) b o pl (short := fun _ _ => verd_mem rfl)
    (status := fun _ _ _ _ _ _ _ _ _ _ _ _ => verd_mem rfl) (more := fun _ _ _ _ _ => verd_mem rfl)
    (bad := fun _ _ _ _ _ _ _ => verd_mem rfl) (empty := fun _ _ _ _ _ _ _ _ => verd_mem rfl)
    (unread := fun _ _ _ _ _ => verd_mem rfl) (crlf := fun _ => flCRLF_verdicts b _ _)
    (reason := fun _ => flRplReason_verdicts b _ _) (dead := fun _ => verd_mem rfl)

def bodyVerdicts : List Err := [.ok, .moreBytes, .noCLen]

theorem msgBody_verdicts (b : Buf) (o : Nat) (m : PSIPMsg) (flags : Nat) : (msgBody b o m flags).2.1 ∈ bodyVerdicts := by
  unfold msgBody msgEnd
  dsimp only
  repeat' with_reducible apply verd_ite (V := (· ∈ bodyVerdicts))
  all_goals exact verd_mem rfl

/-- the first line's, the header block's and the body section's verdicts, and Trunc for an unfinished message when no
    more data will come -/
def msgVerdicts : List Err :=
  [.ok, .empty, .moreBytes, .moreValues, .noCR, .bad, .bug, .badChar, .numTooBig, .valBad, .trunc, .noCLen, .lbug]

theorem parseSIPMsg_verdicts (b : Buf) (o : Nat) (m : PSIPMsg) (flags : Nat) : (parseSIPMsg b o m flags).2.1 ∈ msgVerdicts := by
  refine parseSIPMsg_cases (P := fun r => r.2.1 ∈ msgVerdicts) b o m flags (dead := fun _ => verd_mem rfl)
    (flErr := fun {o1 m1 _ _ _} _ hp _ => ?flErr) (hdErr := fun {o1 m1 _ _ _ _} _ hp _ => ?hdErr)
    (body := fun _ => verd_mono (msgBody_verdicts b _ _ flags) (by decide))
  case flErr =>
    have := parseFLine_verdicts b o1 m1.fl
    rw [hp] at this
    exact msgErr_verd _ _ _ _ _ (verd_mono this (by decide)) (verd_mem rfl)
  case hdErr =>
    have := parseHeaders_verdicts b o1 m1.hl (some m1.pv)
    rw [hp] at this
    exact msgErr_verd _ _ _ _ _ (verd_mono this (by decide)) (verd_mem rfl)

end Sipsp
