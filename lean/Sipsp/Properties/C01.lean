/-
  Property C01 — resumed whole-message parsing equals parsing the same bytes from scratch.

  Statement proved (`schedule_msg`): for EVERY growing sequence of buffer prefixes c1 < c2 < … < ck (every way of
  cutting the stream: any number of cuts, anywhere — inside CR LF, folded lines, quoted strings, escapes, numbers,
  parameter names, the blank line), all within the documented 65,535-byte limit, every parse-flag combination,
  every caller-supplied header / contact capacity (or none), every start offset inside the first chunk, and every
  byte string (well-formed, malformed, truncated): the chain of calls in which each call resumes from the offset
  returned by the previous one, on the same message object, returns
    * the same verdict and the same offset as ONE call on a freshly initialised object given the same prefix, and
    * the same message object: exactly the same whenever the verdict is not an error (everything the caller can
      read back — first line, header list and first-of-type shortcuts, From/To/Call-ID/CSeq/Content-Length/Expires/
      Contact/P-Asserted-Identity values, body, raw message), and after an error verdict the same up to the
      name-addr parsers' unexported saved restart offset `soffs` (`msgObs`; no exported accessor reads it).
  Since the sequence is arbitrary, this covers every intermediate call (cut the sequence after that call).
  `resume_msg` is the one-step law, which moreover allows the flags to change between calls (e.g. the
  no-more-data flag on the last call).

  Modelled rather than verified: the Lean model `parseSIPMsg` is tied to parse_msg.go etc. by the correspondence
  check (same sessions run on the Go code and on this model) and by the regenerated facts in `Sipsp.Tie`.
  Extension file `Properties/C01x.lean` (from `Sipsp.Proofs.MsgLastFlags`, a layer that imports this file): the flags of
  the LAST call may differ from those of the earlier calls — in particular the no-more-data flag on the final call
  only — and what the chain then returns.
-/
import Sipsp.Proofs.MsgL2

namespace Sipsp.C01
open Sipsp

/-- one step: after MoreBytes, the next call (any flags) on any extension equals a fresh call on that extension -/
theorem resume_msg (b s : Buf) (o : Nat) (m : PSIPMsg) (flags flags' : Nat) (hok : msgOK2 b o m)
    (hfit : b.size ≤ 65535) {o' : Nat} {m' : PSIPMsg}
    (hr : parseSIPMsg b o m flags = (o', Err.moreBytes, m')) :
    RR msgObs (parseSIPMsg (b ++ s) o' m' flags') (parseSIPMsg (b ++ s) o m flags') ∧
      msgOK2 (b ++ s) o' m' ∧ o' ≤ b.size :=
  parseSIPMsg_resume b s o m flags flags' hok hfit hr

/-- … with exact equality of the whole result whenever the fresh call's verdict is not an error -/
theorem resume_msg_exact (b s : Buf) (o : Nat) (m : PSIPMsg) (flags flags' : Nat) (hok : msgOK2 b o m)
    (hfit : b.size ≤ 65535) {o' : Nat} {m' : PSIPMsg}
    (hr : parseSIPMsg b o m flags = (o', Err.moreBytes, m'))
    (hg : Err.goesOn (parseSIPMsg (b ++ s) o m flags').2.1) :
    parseSIPMsg (b ++ s) o' m' flags' = parseSIPMsg (b ++ s) o m flags' :=
  (parseSIPMsg_resume b s o m flags flags' hok hfit hr).1.eq hg

/-- the message parser with fixed flags, as a streaming parser -/
def msgP (flags : Nat) : Parser PSIPMsg := fun b o m => parseSIPMsg b o m flags

theorem resumable_msg (flags : Nat) : ResumableRC (msgP flags) msgOK2 msgObs (fun b => b.size ≤ 65535) := by
  intro b s o st o' st' hC hI hr
  have := parseSIPMsg_resume b s o st flags flags hI hC hr
  exact ⟨this.1, this.2.1⟩

/-- **C01**: every chunk schedule, from any legitimate message object -/
theorem schedule_msg (flags : Nat) (o : Nat) (m : PSIPMsg) (l : List Buf) (hg : Growing l)
    (hfit : ∀ x ∈ l, x.size ≤ 65535) (h0 : ∀ b ∈ l.head?, msgOK2 b o m) :
    RR msgObs (resumeRun (msgP flags) o m l) (oneShotRun (msgP flags) o m l) :=
  resumeRun_eq_oneShotRC (msgP flags) msgOK2 msgObs _ (resumable_msg flags) o m l hg hfit h0

/-- **C01 from Init**: any previous contents of the object, ZEROED caller arrays of any capacity (or none) — Go's Init does
    not clear a caller-supplied array, so "like new" presupposes a cleared one -/
theorem schedule_msg_init (flags : Nat) (o : Nat) (m0 : PSIPMsg) (len kh kc : Nat) (hdrs cts : Option Unit)
    (l : List Buf) (hg : Growing l) (hfit : ∀ x ∈ l, x.size ≤ 65535) (ho : ∀ b ∈ l.head?, o ≤ b.size) :
    let m := m0.init len (hdrs.map fun _ => Array.replicate kh {}) (cts.map fun _ => Array.replicate kc {})
    RR msgObs (resumeRun (msgP flags) o m l) (oneShotRun (msgP flags) o m l) :=
  schedule_msg flags o _ l hg hfit (fun b hb => msgOK2_init b o (ho b hb) m0 len kh kc hdrs cts)

/-- the verdict and the offset of the chain of resumed calls are those of the fresh calls -/
theorem schedule_msg_verdict (flags : Nat) (o : Nat) (m : PSIPMsg) (l : List Buf) (hg : Growing l)
    (hfit : ∀ x ∈ l, x.size ≤ 65535) (h0 : ∀ b ∈ l.head?, msgOK2 b o m) :
    (resumeRun (msgP flags) o m l).1 = (oneShotRun (msgP flags) o m l).1 ∧
    (resumeRun (msgP flags) o m l).2.1 = (oneShotRun (msgP flags) o m l).2.1 :=
  let h := schedule_msg flags o m l hg hfit h0; ⟨h.1, h.2.1⟩

/-- … and on success (or any other non-error verdict) the whole object is the same -/
theorem schedule_msg_object (flags : Nat) (o : Nat) (m : PSIPMsg) (l : List Buf) (hg : Growing l)
    (hfit : ∀ x ∈ l, x.size ≤ 65535) (h0 : ∀ b ∈ l.head?, msgOK2 b o m)
    (hv : Err.goesOn (oneShotRun (msgP flags) o m l).2.1) :
    resumeRun (msgP flags) o m l = oneShotRun (msgP flags) o m l :=
  (schedule_msg flags o m l hg hfit h0).eq hv

/-! ### non-vacuity: a concrete message cut in two -/
def exMsg : Buf := "OPTIONS sip:a@b SIP/2.0\r\nCall-ID: x\r\nCSeq: 1 OPTIONS\r\nFrom: <sip:a@b>;tag=1\r\nTo: <sip:c@d>\r\nContent-Length: 0\r\n\r\n".toUTF8.data
def exInit : PSIPMsg := ({} : PSIPMsg).init 0 none none

example : (parseSIPMsg (exMsg.extract 0 40) 0 exInit 0).2.1 = Err.moreBytes := by decide +kernel
theorem exMsg_ok : (parseSIPMsg exMsg 0 exInit 0).2.1 = Err.ok := by decide +kernel
example : (parseSIPMsg exMsg 0 exInit 0).2.1 = Err.ok := exMsg_ok
example : msgOK2 (exMsg.extract 0 40) 0 exInit :=
  msgOK2_init _ 0 (Nat.zero_le _) {} 0 0 0 none none

end Sipsp.C01
