/-
  Property C01 - extension file: theorems of this property that are proved in layers which themselves import
  Sipsp/Properties/C01.lean (message-level compositions, audit lemmas). Same namespace as the main file; the check
  audits both files together.
-/
import Sipsp.Properties.C01
import Sipsp.Proofs.MsgLastFlags

namespace Sipsp.C01
open Sipsp

/-! ### the flags of the LAST call may differ (the caller learns that the stream ended) -/

/-- **C01, the flags of the last call differ (general form)**: for EVERY growing sequence of prefixes (each within the
    65,535-byte limit), EVERY flag word `f` for the calls before the last and EVERY flag word `f'` for the last
    call, from any legitimate object: the chain of resumed calls returns what FRESH calls on the same prefixes return
    (`f` on the prefixes before the last — the first definitive verdict wins, as in `schedule_msg` —, `f'` on the last
    buffer): same offset, same verdict, the very same object when the verdict is not an error and the same `msgObs`
    observation after an error. No hypothesis on `f` or `f'`. -/
theorem schedule_msg_last_flags : type_of% @Sipsp.schedule_msg_last_flags := @Sipsp.schedule_msg_last_flags

/-- … from any object produced by Init: any previous contents, zeroed caller arrays of any capacity (or none) -/
theorem schedule_msg_last_flags_init : type_of% @Sipsp.schedule_msg_last_flags_init := @Sipsp.schedule_msg_last_flags_init

/-- **C01, the stream ended while the parser was still asking for more**: `f` any flag word without the no-more-data
    flag, `f'` ANY flag word (in particular `f ||| SIPMsgNoMoreDataF`). If one call with `f` on the last buffer `B`
    says MoreBytes (equivalently, by `schedule_msg`: the chain with `f` alone ends with MoreBytes), then the chain —
    `f` before the last call, `f'` at the last call on `B` — returns what ONE call with `f'` on `B` returns on the
    original object. The last two buffers may be equal (nothing more arrived: the caller just learnt that the
    stream ended and calls again on the same bytes with the flag). -/
theorem schedule_msg_last_flags_more : type_of% @Sipsp.schedule_msg_last_flags_more := @Sipsp.schedule_msg_last_flags_more

/-- the chain with ONE flag word (`schedule_msg`) in terms of one call: if one call on the last buffer says MoreBytes,
    so does the chain, at the same offset with the same object -/
theorem schedule_msg_more : type_of% @Sipsp.schedule_msg_more := @Sipsp.schedule_msg_more

/-- … for `f' = f ||| SIPMsgNoMoreDataF` -/
theorem schedule_msg_last_nmd : type_of% @Sipsp.schedule_msg_last_nmd := @Sipsp.schedule_msg_last_nmd

/-- **the corollary a user cares about.** The whole input `B` is a message whose body is shorter than its
    Content-Length (hypotheses as in `parseSIPMsg_clen_framing`, on `B`: first line OK, header block OK at `h` with a
    parsed Content-Length `n`, `h + n > len(B)`), body parsing on, `f` without the no-more-data flag. It is fed as ANY
    growing sequence of prefixes ending with `B` (the last two may be equal), from a new / Init / Reset object:
    * with the no-more-data flag on the final call the chain returns exactly (offset, verdict, whole object) what ONE
      call with the flag on `B` returns: OK at `len(B)`, finished, the parsed values `hv`, and the body is the
      truncated body `B[h:]`;
    * WITHOUT the flag the chain ends with MoreBytes at `h` (the body start), exactly as one call on `B`. -/
theorem schedule_msg_truncated_body : type_of% @Sipsp.schedule_msg_truncated_body := @Sipsp.schedule_msg_truncated_body

/-- **the no-more-data flag is only read where the call would otherwise say MoreBytes**: a definitive result of a call
    without the flag is the result of the call with any flag word `f'` that agrees with `f` on the two body-mode
    flags (in particular `f' = f ||| SIPMsgNoMoreDataF`), on the same buffer — any object, any buffer -/
theorem flags_switch : type_of% @Sipsp.parseSIPMsg_flags_switch := @Sipsp.parseSIPMsg_flags_switch

end Sipsp.C01
