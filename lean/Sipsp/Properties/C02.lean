/-
  Property C02 — every exported incremental sub-parser resumes transparently on its own.

  Full statement (for every exported streaming parser P): `Resumable P`, i.e.
     P b o st = (o', MoreBytes, st')  →  P (b ++ s) o' st' = P (b ++ s) o st
  for ALL buffers b, ALL extensions s, ALL offsets and ALL objects; from it, by `resumeRun_eq_oneShot`,
  for EVERY chunk schedule (any number of cuts, anywhere) the resumed calls return the verdict, offset and
  object of fresh one-shot calls on the same prefixes.

  Proved here (any buffer size): ParseCallIDVal, ParseUIntVal (= ParseExpiresVal), ParseCLenVal, SkipQuoted
  (no hypotheses); ParseCSeqVal and ParseFLine (for objects that are new or were returned by an earlier call
  on a prefix of the buffer: `csOK`, `flOK`, re-established at every suspension, so the schedule theorem
  applies to every chunk schedule starting from a new object).
  ParseNameAddrPVal for every header kind (= ParseFromVal / ParseOneContact, and ParseOnePAI up to its remapping of a
  `*` value; 33 states): offset,
  verdict and object equal — the object exactly after OK / MoreBytes / MoreValues and up to the unexported
  saved restart offset `soffs` after an error verdict (the code leaves `soffs` at its entry value on the error
  exits, and the entry value depends on where the previous chunk ended; no exported accessor reads it).
  ParseAllContactValues, ParseAllPAIValues, ParseHdrLine, ParseHeaders: the relational law `RR` (same offset,
  same verdict, same object unless the verdict is an error, same observable object after an error), with the
  legitimacy conditions re-established at every suspension.
  ParseTokenParam (every option combination without the end-of-input option, the space-terminator mode included) and the
  URI parameter / header list wrappers: `resume_tokparam`, `schedule_tokparam`, `resume_uriparams`, `resume_urihdrs`,
  `schedule_uri*` (Proofs/UriListsL).
  The end-of-input option on the LAST call (`Sipsp.Proofs.TokParamEnd`): `resume_tokparam_end` — if a call without the
  option returned MoreBytes, the resumed call on any extension WITH the option equals one call with the option from the
  original state (same offset, verdict, object; no hypothesis on the object): the option may be switched on at the
  resumed call; `stable_tokparam_end` (a definitive result without the option is the result with it on every
  extension); `schedule_tokparam_end`: for every growing sequence of prefixes whose last element is the whole input, all
  calls but the last without the option and the last with it, the chain returns what ONE call with the option on the
  whole input returns; `resume_uriparams_end`, `resume_urihdrs_end`, `schedule_uriparams_end`, `schedule_urihdrs_end`:
  the same for the list wrappers (per-call counts sum to the one-shot count). All three suspension sites (end of
  buffer, white space up to the end of buffer, open quoted string) are valid restart points once the end of buffer
  becomes a terminator.
  Schedule corollaries for the remaining parsers and ParseOnePAI (`Sipsp.Proofs.AuditFixB`):
  `schedule_fline`, `schedule_contacts`, `schedule_pais`, `schedule_hdrline`, `schedule_headers` (every chunk schedule,
  from new objects of any capacity and from any legitimate object), `resume_onepai`, `stable_onepai`, `schedule_onepai`
  (ParseOnePAI remaps a `*` value to the bad-value verdict), `what_rr_gives` (what the relational law gives a caller).
  `all_parsers_partial`: the generic schedule statement for ANY parser with an unconditional one-step law
  (`Resumable`); `schedule_callid`, `schedule_uint`, `schedule_clen`, `schedule_skipquoted` are its instances.  The
  parsers whose law holds for legitimate objects only go through its variants: with an invariant (`schedule_cseq`),
  with an observation (`schedule_nameaddr`), the others through the relational law `RR` or the schedule lemmas of
  their own files.
  NOT proved: schedules in which a call before the last one already carries the end-of-input option (a misuse: the
  option claims the input ends there).
-/
import Sipsp.Proofs.CallID
import Sipsp.Proofs.UInt
import Sipsp.Proofs.SkipQuoted
import Sipsp.Proofs.Schedule
import Sipsp.Proofs.FLine
import Sipsp.Proofs.NameAddrL2
import Sipsp.Proofs.HeadersL2
import Sipsp.Model.Msg
import Sipsp.Proofs.UriListsL
import Sipsp.Proofs.TokParamEnd
import Sipsp.Proofs.AuditFixB

namespace Sipsp.C02
open Sipsp

theorem resume_callid : Resumable parseCallIDVal :=
  fun b s o st _ _ h => parseCallIDVal_resume b s o st h

theorem resume_uint : Resumable parseUIntVal :=
  fun b s o st _ _ h => parseUIntVal_resume b s o st h

theorem resume_clen : Resumable parseCLenVal :=
  fun b s o st _ _ h => parseCLenVal_resume b s o st h

/-- ParseCSeqVal: one-step law, with the invariant re-established on the extended buffer -/
theorem resume_cseq : ResumableI parseCSeqVal csOK :=
  fun b s o st _ _ hI h => parseCSeqVal_resume b s o st hI h

/-- every chunk schedule, CSeq, starting from a new object at an offset inside the first chunk -/
theorem schedule_cseq (o : Nat) (l : List Buf) (hg : Growing l) (h0 : ∀ b ∈ l.head?, o ≤ b.size) :
    resumeRun parseCSeqVal o {} l = oneShotRun parseCSeqVal o {} l :=
  resumeRun_eq_oneShotI parseCSeqVal csOK resume_cseq o {} l hg
    (fun b hb => Or.inr ⟨h0 b hb, by simp, by simp⟩)

/-- ParseFLine: one-step law within the documented 65,535-byte limit -/
theorem resume_fline (b s : Buf) (o : Nat) (pl : PFLine) (ho : o ≤ b.size) (hok : flOK pl)
    (hfit : b.size ≤ 65535) {o' : Nat} {pl' : PFLine} (h : parseFLine b o pl = (o', Err.moreBytes, pl')) :
    parseFLine (b ++ s) o' pl' = parseFLine (b ++ s) o pl ∧ flOK pl' ∧ o' ≤ b.size :=
  parseFLine_resume b s o pl ho hok hfit h

/-- ParseNameAddrPVal (header kind `t`): one-step law up to the saved restart offset -/
theorem resume_nameaddr (t : Nat) : ResumableO (parseNameAddrPVal t) naOK PFromBody.obs := by
  intro b s o st o' st' hI h
  obtain ⟨r, k, h1, h2, h3⟩ := parseNameAddrPVal_resume t b s o st hI h
  refine ⟨?_, h3⟩
  rw [h1, h2]
  exact ⟨rfl, rfl, naExit_obs _ _ _ _⟩

/-- … and exactly, whenever the verdict on the extended buffer is one after which parsing goes on -/
theorem resume_nameaddr_exact (t : Nat) (b s : Buf) (o : Nat) (pf : PFromBody) (hok : naOK b o pf)
    {o' : Nat} {pf' : PFromBody} (h : parseNameAddrPVal t b o pf = (o', Err.moreBytes, pf'))
    (hv : (parseNameAddrPVal t (b ++ s) o pf).2.1 = .ok ∨ (parseNameAddrPVal t (b ++ s) o pf).2.1 = .moreBytes ∨
          (parseNameAddrPVal t (b ++ s) o pf).2.1 = .moreValues) :
    parseNameAddrPVal t (b ++ s) o' pf' = parseNameAddrPVal t (b ++ s) o pf := by
  obtain ⟨r, k, h1, h2, _⟩ := parseNameAddrPVal_resume t b s o pf hok h
  rw [h1] at hv
  rw [h1, h2, naExit_nonerr k pf.soffs r.2.1 r.2.2 hv]

/-- every chunk schedule, name-addr values of every header kind, from a new object -/
theorem schedule_nameaddr (t : Nat) (o : Nat) (l : List Buf) (hg : Growing l) (h0 : ∀ b ∈ l.head?, o ≤ b.size) :
    ResEq PFromBody.obs (resumeRun (parseNameAddrPVal t) o {} l) (oneShotRun (parseNameAddrPVal t) o {} l) :=
  resumeRun_eq_oneShotO (parseNameAddrPVal t) naOK PFromBody.obs (resume_nameaddr t) o {} l hg
    (fun b hb => Or.inr ⟨h0 b hb, Nat.zero_le _, Nat.zero_le _⟩)

/-- **one-step law for ParseAllContactValues / ParseAllPAIValues** (`RR`; the object returned with MoreBytes is
    legitimate again at the returned offset) -/
theorem resume_contacts (b s : Buf) (o : Nat) (c : PContacts) (hok : ctOK b o c) (ho : o ≤ b.size)
    {o' : Nat} {c' : PContacts} (hr : parseAllContactValues b o c = (o', Err.moreBytes, c')) :
    RR PContacts.obs (parseAllContactValues (b ++ s) o' c') (parseAllContactValues (b ++ s) o c) ∧
      ctOK (b ++ s) o' c' ∧ c'.cur.state ≠ .fin ∧ o ≤ o' ∧ o' ≤ b.size :=
  parseAllContactValues_resume b s o c hok ho hr

theorem resume_pais (b s : Buf) (o : Nat) (c : PPAIs) (hok : paOK b o c) (ho : o ≤ b.size)
    {o' : Nat} {c' : PPAIs} (hr : parseAllPAIValues b o c = (o', Err.moreBytes, c')) :
    RR PPAIs.obs (parseAllPAIValues (b ++ s) o' c') (parseAllPAIValues (b ++ s) o c) ∧
      paOK (b ++ s) o' c' ∧ c'.cur.state ≠ .fin ∧ o ≤ o' ∧ o' ≤ b.size :=
  parseAllPAIValues_resume b s o c hok ho hr

/-- ParseHdrLine: every suspension site is a valid restart point -/
theorem resume_hdrline (b s : Buf) (o : Nat) (h : Hdr) (hb : Option PHdrVals) (hok : hlOK b o h hb)
    (hpe : hlPending (h, hb)) {o' : Nat} {h' : Hdr} {hb' : Option PHdrVals}
    (hr : parseHdrLine b o h hb = (o', Err.moreBytes, h', hb')) :
    RR hlObs (parseHdrLine (b ++ s) o' h' hb') (parseHdrLine (b ++ s) o h hb) ∧
      hlOK (b ++ s) o' h' hb' ∧ hlPending (h', hb') ∧ o ≤ o' ∧ o' ≤ b.size :=
  parseHdrLine_resume b s o h hb hok hpe hr

/-- **one-step law for ParseHeaders** (`RR`; list and values object returned with MoreBytes are legitimate again) -/
theorem resume_headers (b s : Buf) (o : Nat) (hl : HdrLst) (hb : Option PHdrVals)
    (hok1 : hlsOK b hl) (hok2 : hbOK b o hb) (hpe : hlsPend hl hb) (ho : o ≤ b.size)
    {o' : Nat} {hl' : HdrLst} {hb' : Option PHdrVals}
    (hr : parseHeaders b o hl hb = (o', Err.moreBytes, hl', hb')) :
    RR hdrsObs (parseHeaders (b ++ s) o' hl' hb') (parseHeaders (b ++ s) o hl hb) ∧
      hlsOK (b ++ s) hl' ∧ hbOK (b ++ s) o' hb' ∧ hlsPend hl' hb' ∧ o ≤ o' ∧ o' ≤ b.size :=
  parseHeaders_resume b s o hl hb hok1 hok2 hpe ho hr

/-- SkipQuoted as a parser over the trivial object -/
def skipQuotedP : Parser Unit := fun b o _ => ((skipQuoted b o).1, (skipQuoted b o).2, ())

theorem resume_skipquoted : Resumable skipQuotedP := by
  intro b s o st o' st' h
  simp only [skipQuotedP, Prod.mk.injEq] at h
  have : skipQuoted b o = (o', Err.moreBytes) := by
    rcases hq : skipQuoted b o with ⟨x, y⟩; rw [hq] at h; simp only at h; rw [h.1, h.2.1]
  simp only [skipQuotedP, skipQuoted_resume b s o this]

/-- **every chunk schedule** (Call-ID): resumed calls = fresh one-shot calls on the same prefixes -/
theorem schedule_callid (o : Nat) (st : PCallIDBody) (l : List Buf) (hg : Growing l) :
    resumeRun parseCallIDVal o st l = oneShotRun parseCallIDVal o st l :=
  resumeRun_eq_oneShot _ resume_callid o st l hg

theorem schedule_uint (o : Nat) (st : PUIntBody) (l : List Buf) (hg : Growing l) :
    resumeRun parseUIntVal o st l = oneShotRun parseUIntVal o st l :=
  resumeRun_eq_oneShot _ resume_uint o st l hg

theorem schedule_clen (o : Nat) (st : PUIntBody) (l : List Buf) (hg : Growing l) :
    resumeRun parseCLenVal o st l = oneShotRun parseCLenVal o st l :=
  resumeRun_eq_oneShot _ resume_clen o st l hg

theorem schedule_skipquoted (o : Nat) (l : List Buf) (hg : Growing l) :
    resumeRun skipQuotedP o () l = oneShotRun skipQuotedP o () l :=
  resumeRun_eq_oneShot _ resume_skipquoted o () l hg

/-! ### the stand-alone parameter parsers -/

/-- ParseTokenParam: one-step law for EVERY option combination without the end-of-input option, `POptTokSpTermF`
    included (the resumed call starts at another offset, which the space-terminator's previous-byte test looks at:
    the proof shows a call is never suspended where that could matter) -/
theorem resume_tokparam (b s : Buf) (o : Nat) (p : PTokParam) (flags : Nat) (hf : hasFlag flags POptInputEndF = false)
    {o' : Nat} {p' : PTokParam} (h : parseTokenParam b o p flags = (o', Err.moreBytes, p')) :
    parseTokenParam (b ++ s) o' p' flags = parseTokenParam (b ++ s) o p flags :=
  parseTokenParam_resume b s o p flags hf h

theorem schedule_tokparam : type_of% @parseTokenParam_schedule := @parseTokenParam_schedule

/-- the URI parameter / header list wrappers: the resumed call returns the same offset, verdict and list object; the
    per-call value counters add up -/
theorem resume_uriparams : type_of% @parseAllURIParams_resume := @parseAllURIParams_resume
theorem resume_urihdrs : type_of% @parseAllURIHdrs_resume := @parseAllURIHdrs_resume
theorem schedule_uriparams : type_of% @parseAllURIParams_schedule := @parseAllURIParams_schedule
theorem schedule_urihdrs : type_of% @parseAllURIHdrs_schedule := @parseAllURIHdrs_schedule

/-- "called again after finishing": a finished object returns the offset it is given, unchanged -/
theorem finished_callid (b : Buf) (o : Nat) (st : PCallIDBody) (h : st.state = .fin) :
    parseCallIDVal b o st = (o, .ok, st) := by simp [parseCallIDVal, h]
theorem finished_uint (b : Buf) (o : Nat) (st : PUIntBody) (h : st.state = .fin) :
    parseUIntVal b o st = (o, .ok, st) := by simp [parseUIntVal, h]
theorem finished_cseq (b : Buf) (o : Nat) (st : PCSeqBody) (h : st.state = .fin) :
    parseCSeqVal b o st = (o, .ok, st) := by simp [parseCSeqVal, h]
theorem finished_nameaddr (t : Nat) (b : Buf) (o : Nat) (st : PFromBody) (h : st.state = .fin) :
    parseNameAddrPVal t b o st = (o, .ok, st) := by simp [parseNameAddrPVal, h]

/-- the generic schedule statement: the one-step law of ANY parser gives the schedule statement for it (nothing else is
    assumed) -/
theorem all_parsers_partial {σ : Type} (P : Parser σ) (hP : Resumable P) (o : Nat) (st : σ) (l : List Buf)
    (hg : Growing l) : resumeRun P o st l = oneShotRun P o st l :=
  resumeRun_eq_oneShot P hP o st l hg

/-! ### non-vacuity: a concrete schedule cutting "a@b \r\n X" inside the CR LF -/
example : Growing [#[97, 64, 98, 32, 13], #[97, 64, 98, 32, 13, 10], #[97, 64, 98, 32, 13, 10, 88]] := by
  refine ⟨⟨#[10], by decide⟩, ⟨#[88], by decide⟩, trivial⟩
example : (parseCallIDVal #[97, 64, 98, 32, 13] 0 {}).2.1 = Err.moreBytes := by decide +kernel
example : (parseCallIDVal #[97, 64, 98, 32, 13, 10, 88] 0 {}).2.1 = Err.ok := by decide +kernel

/-! ### the end-of-input option on the last call of a schedule (proved in `Sipsp.Proofs.TokParamEnd`) -/

/-- **C02 for ParseTokenParam, the last call carrying the end-of-input option**: if a call without the option
    returned MoreBytes at `(o', p')`, the call on any extension `b ++ s` (possibly `s = #[]`: nothing more arrived,
    the input just ended) from `(o', p')` WITH the option returns exactly (offset, verdict, object) what one call
    with the option on `b ++ s` from the original `(o, p)` returns.  Any object `p`, any other options. -/
theorem resume_tokparam_end : type_of% @Sipsp.parseTokenParam_resume_end := @Sipsp.parseTokenParam_resume_end

/-- **L1 for ParseTokenParam, flag switched on later**: a definitive result of a call without the end-of-input
    option is the result of the call with the option on every extension of the buffer (the buffer itself included) -/
theorem stable_tokparam_end : type_of% @Sipsp.parseTokenParam_stable_end := @Sipsp.parseTokenParam_stable_end

/-- **ParseTokenParam under every chunk schedule whose last call carries the end-of-input option**: all calls but
    the last without the option, the last one (on the whole input `B`) with it: the chain returns the offset, the
    verdict and the object of ONE call with the option on `B`. -/
theorem schedule_tokparam_end : type_of% @Sipsp.parseTokenParam_schedule_end := @Sipsp.parseTokenParam_schedule_end

/-- **C02 for ParseAllURIParams, the last call carrying the end-of-input option**: after `MoreBytes` (with `n'` values
    parsed so far) at `(o', l')` from a call without the option, the call WITH the option on any extension from
    `(o', l')` returns the offset, the verdict and the very list object of ONE call with the option on the extended
    buffer from `(offs, l)`; the numbers of values parsed add up. -/
theorem resume_uriparams_end : type_of% @Sipsp.parseAllURIParams_resume_end := @Sipsp.parseAllURIParams_resume_end

/-- **C02 for ParseAllURIHdrs, the last call carrying the end-of-input option** -/
theorem resume_urihdrs_end : type_of% @Sipsp.parseAllURIHdrs_resume_end := @Sipsp.parseAllURIHdrs_resume_end

/-- **ParseAllURIParams under every chunk schedule whose last call carries the end-of-input option**: offset,
    verdict, total number of values (the per-call numbers added up) and list object of the chain are those of ONE
    call with the option on the whole input `B` -/
theorem schedule_uriparams_end : type_of% @Sipsp.parseAllURIParams_schedule_end := @Sipsp.parseAllURIParams_schedule_end

/-- **ParseAllURIHdrs under every chunk schedule whose last call carries the end-of-input option** -/
theorem schedule_urihdrs_end : type_of% @Sipsp.parseAllURIHdrs_schedule_end := @Sipsp.parseAllURIHdrs_schedule_end

/-! ### schedule corollaries for the remaining parsers; ParseOnePAI (proved in `Sipsp.Proofs.AuditFixB`) -/

/-- the one-step law spelled out, with everything the proof yields: the invariant on the extended buffer, the object
    is not finished, the returned offset lies between the start offset and the end of the parsed buffer -/
theorem resume_onepai : type_of% @Sipsp.afb_onePAI_resume := @Sipsp.afb_onePAI_resume

/-- L1: a definitive result is the result on every extension -/
theorem stable_onepai : type_of% @Sipsp.afb_onePAI_stable := @Sipsp.afb_onePAI_stable

/-- **every chunk schedule, ParseOnePAI, from a new object** at an offset inside the first chunk -/
theorem schedule_onepai : type_of% @Sipsp.afb_onePAI_schedule := @Sipsp.afb_onePAI_schedule

/-- … from a new object -/
theorem schedule_fline : type_of% @Sipsp.afb_fline_schedule := @Sipsp.afb_fline_schedule

/-- **every chunk schedule, ParseAllContactValues, from a new object** over a cleared array of any capacity -/
theorem schedule_contacts : type_of% @Sipsp.afb_contacts_schedule := @Sipsp.afb_contacts_schedule

/-- **every chunk schedule, ParseAllPAIValues, from a new object** -/
theorem schedule_pais : type_of% @Sipsp.afb_pais_schedule := @Sipsp.afb_pais_schedule

/-- **every chunk schedule, ParseHdrLine, from a new header** with new header values (contact array of any capacity)
    or none (`nil = true`) -/
theorem schedule_hdrline : type_of% @Sipsp.afb_hdrline_schedule := @Sipsp.afb_hdrline_schedule

/-- **every chunk schedule, ParseHeaders, from a new header list** (cleared array of any capacity) with new header
    values (contact array of any capacity) or none -/
theorem schedule_headers : type_of% @Sipsp.afb_headers_schedule := @Sipsp.afb_headers_schedule

/-- what `RR` gives a caller: same offset, same verdict; the very same object whenever the verdict is one after which
    parsing goes on (OK, MoreBytes, MoreValues, Empty) -/
theorem what_rr_gives : type_of% @Sipsp.afb_RR_use := @Sipsp.afb_RR_use

end Sipsp.C02
