/-
  Property C03 — no premature verdicts: a definitive result never changes when more bytes arrive.

  Full statement (for every streaming parser P and flags without the end-of-input modes):
     P b o st = (o', e, st') ∧ e ≠ MoreBytes  →  P (b ++ s) o st = (o', e, st')     for ALL b, s, o, st.
  Proved here: skipCRLF, skipLWS (without POptInputEndF), skipToken / skipLine scanners, ParseCallIDVal,
  ParseUIntVal (= ParseExpiresVal), ParseCLenVal, SkipQuoted, ParseCSeqVal, ParseFLine, and
  ParseNameAddrPVal for every header kind (= ParseFromVal, ParseOneContact; 33-state machine),
  ParseAllContactValues, ParseAllPAIValues, ParseHdrLine, ParseHeaders and **ParseSIPMsg** (`stable_msg`:
  every flag combination without the no-more-data flag, every caller-supplied capacity, messages up to the
  documented 65,535-byte limit; the body extent of a message without Content-Length is the property's own
  exemption, `bodyToEnd`); and the generic theorems `runLoop_stable` / `runLoop_stableI` every loop parser is
  an instance of.
  The hypotheses `csOK` / `flOK` / `naOK` / `hlOK` / `msgOK` say that the object handed in is new, finished, or
  was returned by an earlier call on a prefix of the buffer (saved positions lie inside the buffer);
  `msgOK_init` shows that every object produced by Init satisfies `msgOK`.
  Also `stable_tokparam`: ParseTokenParam, every option combination without the end-of-input option
  (the property's own exemption), any object.
  The exempted case is characterised exactly (`body_to_end_grows`, `body_to_end_grows_init`, `body_to_end_bytes`,
  `body_to_end_really_changes`): for a message without Content-Length whose body is "the rest of the buffer", the
  call on the longer buffer returns OK at the new end and an object that differs from the first one ONLY in the body
  length, len(Buf) and the raw-message length (`BodyGrew`); the new body is the old body followed by the appended
  bytes; and the result does change when bytes are appended — so the exemption is necessary.
  `stable_uriparams`, `stable_urihdrs`: the URI parameter / header list wrappers (without the end-of-input option,
  legitimate list = clean unused slots; new and reset lists qualify).
  The side condition `¬ bodyToEnd flags m'` of `stable_msg` looks only at the flags and at "no Content-Length parsed", so
  with flags 0 it also excludes every ERROR
  verdict reached before a Content-Length line — far more than the property's exemption (the body extent of an OK
  message without Content-Length). Hence (`Sipsp.Proofs.AuditFixA`) `stable_msg_errors`: every definitive verdict other than OK (first-line errors,
  header errors, empty, missing Content-Length, state error) is stable under ANY appended bytes with NO side condition;
  `stable_msg_all(_init)`: the side condition is needed for the OK verdict only (`e = OK → ¬ bodyToEnd`).
-/
import Sipsp.Proofs.CallID
import Sipsp.Proofs.UInt
import Sipsp.Proofs.SkipQuoted
import Sipsp.Proofs.NameAddrL1b
import Sipsp.Proofs.MsgL1
import Sipsp.Proofs.TokParamL1
import Sipsp.Proofs.MsgL1Body
import Sipsp.Proofs.UriListsL
import Sipsp.Proofs.FLine
import Sipsp.Proofs.AuditFixA

namespace Sipsp.C03
open Sipsp

theorem stable_skipCRLF (b s : Buf) (i : Nat) {n crl : Nat} {e : Err}
    (h : skipCRLF b i = (n, crl, e)) (he : e ≠ .moreBytes) : skipCRLF (b ++ s) i = (n, crl, e) :=
  skipCRLF_stable b s i h he

theorem stable_skipLWS (b s : Buf) (i flags : Nat) {n crl : Nat} {e : Err}
    (h : skipLWS b i flags = (n, crl, e)) (he : e ≠ .moreBytes) (hf : hasFlag flags POptInputEndF = false) :
    skipLWS (b ++ s) i flags = (n, crl, e) :=
  skipLWS_stable b s i flags h he hf

theorem stable_callid (b s : Buf) (o : Nat) (st : PCallIDBody) {o' : Nat} {e : Err} {st' : PCallIDBody}
    (h : parseCallIDVal b o st = (o', e, st')) (he : e ≠ .moreBytes) :
    parseCallIDVal (b ++ s) o st = (o', e, st') := parseCallIDVal_stable b s o st h he

theorem stable_uint (b s : Buf) (o : Nat) (st : PUIntBody) {o' : Nat} {e : Err} {st' : PUIntBody}
    (h : parseUIntVal b o st = (o', e, st')) (he : e ≠ .moreBytes) :
    parseUIntVal (b ++ s) o st = (o', e, st') := parseUIntVal_stable b s o st h he

theorem stable_clen (b s : Buf) (o : Nat) (st : PUIntBody) {o' : Nat} {e : Err} {st' : PUIntBody}
    (h : parseCLenVal b o st = (o', e, st')) (he : e ≠ .moreBytes) :
    parseCLenVal (b ++ s) o st = (o', e, st') := parseCLenVal_stable b s o st h he

theorem stable_skipquoted (b s : Buf) (o : Nat) {o' : Nat} {e : Err}
    (h : skipQuoted b o = (o', e)) (he : e ≠ .moreBytes) : skipQuoted (b ++ s) o = (o', e) :=
  skipQuoted_stable b s o h he

theorem stable_cseq (b s : Buf) (o : Nat) (st : PCSeqBody) (hok : csOK b o st) {o' : Nat} {e : Err}
    {st' : PCSeqBody} (h : parseCSeqVal b o st = (o', e, st')) (he : e ≠ .moreBytes) :
    parseCSeqVal (b ++ s) o st = (o', e, st') := parseCSeqVal_stable b s o st hok h he

theorem stable_fline (b s : Buf) (o : Nat) (pl : PFLine) (hok : flOK pl) (hfit : b.size ≤ 65535)
    {o' : Nat} {e : Err} {pl' : PFLine} (h : parseFLine b o pl = (o', e, pl')) (he : e ≠ .moreBytes) :
    parseFLine (b ++ s) o pl = (o', e, pl') := parseFLine_stable b s o pl hok hfit h he

theorem stable_nameaddr (t : Nat) (b s : Buf) (o : Nat) (pf : PFromBody) (hok : naOK b o pf)
    {o' : Nat} {e : Err} {pf' : PFromBody} (h : parseNameAddrPVal t b o pf = (o', e, pf')) (he : e ≠ .moreBytes) :
    parseNameAddrPVal t (b ++ s) o pf = (o', e, pf') := parseNameAddrPVal_stable t b s o pf hok h he

theorem stable_contacts (b s : Buf) (o : Nat) (c : PContacts) (hok : ctOK b o c) (ho : o ≤ b.size)
    {o' : Nat} {e : Err} {c' : PContacts} (h : parseAllContactValues b o c = (o', e, c')) (he : e ≠ .moreBytes) :
    parseAllContactValues (b ++ s) o c = (o', e, c') := parseAllContactValues_stable b s o c hok ho h he

theorem stable_pais (b s : Buf) (o : Nat) (c : PPAIs) (hok : paOK b o c) (ho : o ≤ b.size)
    {o' : Nat} {e : Err} {c' : PPAIs} (h : parseAllPAIValues b o c = (o', e, c')) (he : e ≠ .moreBytes) :
    parseAllPAIValues (b ++ s) o c = (o', e, c') := parseAllPAIValues_stable b s o c hok ho h he

theorem stable_hdrline (b s : Buf) (o : Nat) (h : Hdr) (hb : Option PHdrVals) (hok : hlOK b o h hb)
    {o' : Nat} {e : Err} {h' : Hdr} {hb' : Option PHdrVals}
    (hr : parseHdrLine b o h hb = (o', e, h', hb')) (he : e ≠ .moreBytes) :
    parseHdrLine (b ++ s) o h hb = (o', e, h', hb') := parseHdrLine_stable b s o h hb hok hr he

theorem stable_headers (b s : Buf) (o : Nat) (hl : HdrLst) (hb : Option PHdrVals)
    (hok1 : hlsOK b hl) (hok2 : hbOK b o hb) {o' : Nat} {e : Err} {hl' : HdrLst} {hb' : Option PHdrVals}
    (hr : parseHeaders b o hl hb = (o', e, hl', hb')) (he : e ≠ .moreBytes) :
    parseHeaders (b ++ s) o hl hb = (o', e, hl', hb') := parseHeaders_stable b s o hl hb hok1 hok2 hr he

/-- **C03 for the message parser**: a verdict other than MoreBytes on `b` is the result on every extension `b ++ s`
    (no-more-data flag off; not for a body that runs to the end of the input, `bodyToEnd`) -/
theorem stable_msg (b s : Buf) (o : Nat) (m : PSIPMsg) (flags : Nat) (hok : msgOK b o m)
    (hfit : b.size ≤ 65535) (hnf : hasFlag flags SIPMsgNoMoreDataF = false)
    {o' : Nat} {e : Err} {m' : PSIPMsg} (hr : parseSIPMsg b o m flags = (o', e, m'))
    (he : e ≠ .moreBytes) (hx : ¬ bodyToEnd flags m') :
    parseSIPMsg (b ++ s) o m flags = (o', e, m') := parseSIPMsg_stable b s o m flags hok hfit hnf hr he hx

/-- … from any object produced by Init, with ZEROED caller arrays of any capacity (or none) -/
theorem stable_msg_init (b s : Buf) (o : Nat) (ho : o ≤ b.size) (m0 : PSIPMsg) (len kh kc : Nat)
    (hdrs cts : Option Unit) (flags : Nat) (hfit : b.size ≤ 65535)
    (hnf : hasFlag flags SIPMsgNoMoreDataF = false) {o' : Nat} {e : Err} {m' : PSIPMsg}
    (hr : parseSIPMsg b o (m0.init len (hdrs.map fun _ => Array.replicate kh {})
      (cts.map fun _ => Array.replicate kc {})) flags = (o', e, m'))
    (he : e ≠ .moreBytes) (hx : ¬ bodyToEnd flags m') :
    parseSIPMsg (b ++ s) o (m0.init len (hdrs.map fun _ => Array.replicate kh {})
      (cts.map fun _ => Array.replicate kc {})) flags = (o', e, m') :=
  parseSIPMsg_stable b s o _ flags (msgOK_init b o ho m0 len kh kc hdrs cts) hfit hnf hr he hx

/-- ParseTokenParam (stand-alone parser; `POptInputEndF` is the "no more data" mode the property exempts) -/
theorem stable_tokparam (b s : Buf) (o : Nat) (p : PTokParam) (flags : Nat)
    (hf : hasFlag flags POptInputEndF = false) {o' : Nat} {e : Err} {p' : PTokParam}
    (h : parseTokenParam b o p flags = (o', e, p')) (he : e ≠ .moreBytes) :
    parseTokenParam (b ++ s) o p flags = (o', e, p') := parseTokenParam_stable b s o p flags hf h he

theorem stable_uriparams (b s : Buf) (offs : Nat) (l : URIParamsLst) (flags : Nat)
    (hf : hasFlag flags POptInputEndF = false) (hok : plOK b l) (ho : offs ≤ b.size) {o' n' : Nat} {e : Err}
    {l' : URIParamsLst} (h : parseAllURIParams b offs l flags = (o', n', e, l')) (he : e ≠ .moreBytes) :
    parseAllURIParams (b ++ s) offs l flags = (o', n', e, l') := parseAllURIParams_stable b s offs l flags hf hok ho h he

theorem stable_urihdrs (b s : Buf) (offs : Nat) (l : URIHdrsLst) (flags : Nat)
    (hf : hasFlag flags POptInputEndF = false) (hok : hlClean l) (ho : offs ≤ b.size) {o' n' : Nat} {e : Err}
    {l' : URIHdrsLst} (h : parseAllURIHdrs b offs l flags = (o', n', e, l')) (he : e ≠ .moreBytes) :
    parseAllURIHdrs (b ++ s) offs l flags = (o', n', e, l') := parseAllURIHdrs_stable b s offs l flags hf hok ho h he

/-- new lists of any capacity are legitimate -/
theorem new_lists_ok (b : Buf) (k : Nat) :
    plOK b { params := Array.replicate k {} } ∧ hlClean { hdrs := Array.replicate k {} } := ⟨plOK_new b k, hlClean_new k⟩

/-! ### the exempted case: body = rest of the buffer -/

/-- everything but the body length, len(Buf) and the raw length is unchanged; those are the ones of the longer buffer.
    (`hoffs`: the object is new, or its remembered start lies inside the shorter buffer, or the first call did not
    panic — automatically true for objects from Init) -/
theorem body_to_end_grows (b s : Buf) (o : Nat) (m : PSIPMsg) (flags : Nat) (hok : msgOK b o m)
    (hfit : (b ++ s).size ≤ 65535) (hnf : hasFlag flags SIPMsgNoMoreDataF = false) {o' : Nat} {m' : PSIPMsg}
    (hr : parseSIPMsg b o m flags = (o', .ok, m')) (hx : bodyToEnd flags m')
    (hoffs : m.state = .init ∨ m.offs ≤ b.size ∨ m'.pnc = false) :
    o' = b.size ∧ ∃ m'', parseSIPMsg (b ++ s) o m flags = ((b ++ s).size, .ok, m'') ∧ BodyGrew m' (b ++ s).size m'' :=
  parseSIPMsg_bodyToEnd_grows b s o m flags hok hfit hnf hr hx hoffs

theorem body_to_end_grows_init (b s : Buf) (o : Nat) (ho : o ≤ b.size) (m0 : PSIPMsg) (len kh kc : Nat)
    (hdrs cts : Option Unit) (flags : Nat) (hfit : (b ++ s).size ≤ 65535)
    (hnf : hasFlag flags SIPMsgNoMoreDataF = false) {o' : Nat} {m' : PSIPMsg}
    (hr : parseSIPMsg b o (m0.init len (hdrs.map fun _ => Array.replicate kh {})
      (cts.map fun _ => Array.replicate kc {})) flags = (o', .ok, m')) (hx : bodyToEnd flags m') :
    o' = b.size ∧ ∃ m'', parseSIPMsg (b ++ s) o (m0.init len (hdrs.map fun _ => Array.replicate kh {})
      (cts.map fun _ => Array.replicate kc {})) flags = ((b ++ s).size, .ok, m'') ∧ BodyGrew m' (b ++ s).size m'' :=
  parseSIPMsg_bodyToEnd_grows_init b s o ho m0 len kh kc hdrs cts flags hfit hnf hr hx

/-- the new body is the old body followed by the appended bytes -/
theorem body_to_end_bytes (b s : Buf) (o : Nat) (m : PSIPMsg) (flags : Nat) (hok : msgOK b o m)
    (hfit : (b ++ s).size ≤ 65535) (hnf : hasFlag flags SIPMsgNoMoreDataF = false) {o' : Nat} {m' : PSIPMsg}
    (hr : parseSIPMsg b o m flags = (o', .ok, m')) (hx : bodyToEnd flags m')
    (hoffs : m.state = .init ∨ m.offs ≤ b.size ∨ m'.pnc = false) {o'' : Nat} {e'' : Err} {m'' : PSIPMsg}
    (hr2 : parseSIPMsg (b ++ s) o m flags = (o'', e'', m'')) :
    ∃ body, m'.body.get? b = some body ∧ m''.body.get? (b ++ s) = some (body ++ s) :=
  parseSIPMsg_bodyToEnd_body b s o m flags hok hfit hnf hr hx hoffs hr2

/-- the exemption is necessary: with a non-empty extension the result does change -/
theorem body_to_end_really_changes (b s : Buf) (o : Nat) (m : PSIPMsg) (flags : Nat) (hok : msgOK b o m)
    (hfit : (b ++ s).size ≤ 65535) (hnf : hasFlag flags SIPMsgNoMoreDataF = false) {o' : Nat} {m' : PSIPMsg}
    (hr : parseSIPMsg b o m flags = (o', .ok, m')) (hx : bodyToEnd flags m')
    (hoffs : m.state = .init ∨ m.offs ≤ b.size ∨ m'.pnc = false) (hs : 0 < s.size) :
    (parseSIPMsg (b ++ s) o m flags).1 = o' + s.size ∧ parseSIPMsg (b ++ s) o m flags ≠ parseSIPMsg b o m flags :=
  parseSIPMsg_bodyToEnd_changes b s o m flags hok hfit hnf hr hx hoffs hs

/-- a new object satisfies the hypotheses -/
theorem new_objects_ok (b : Buf) (o : Nat) (ho : o ≤ b.size) :
    csOK b o {} ∧ flOK {} ∧ naOK b o {} := by
  refine ⟨Or.inr ⟨ho, by simp, by simp⟩, by simp [flOK], Or.inr ⟨ho, by simp, by simp⟩⟩

/-- the generic theorem: any loop parser whose steps are stable and whose end-of-buffer exit asks for more
    bytes has no premature verdict -/
theorem stable_generic {σ : Type} (m : Machine σ) (b s : Buf) (hst : StepStable m b s) (heob : EobMore m b)
    (i : Nat) (st : σ) {o : Nat} {e : Err} {st' : σ}
    (h : runLoop m b i st = (o, e, st')) (he : e ≠ .moreBytes) : runLoop m (b ++ s) i st = (o, e, st') :=
  runLoop_stable m b s hst heob i st h he

/-! ### non-vacuity -/
example : (parseCallIDVal #[97, 64, 98, 13, 10, 88] 0 {}).2.1 = Err.ok := by decide +kernel
example : (skipLWS #[32, 13, 10, 88] 0 0) = (1, 2, Err.eoh) := by decide +kernel

/-! ### token / line scanners (`Sipsp.Proofs.Scan`, `Sipsp.Proofs.FLine`) -/

/-- if the scan stopped on a byte of `b`, it stops there on every extension -/
theorem stable_skipToken : type_of% @Sipsp.skipToken_stable := @Sipsp.skipToken_stable

/-- `skipLine`: a definitive result is stable -/
theorem stable_skipLine : type_of% @Sipsp.skipLine_stable := @Sipsp.skipLine_stable

/-! ### every non-OK definitive verdict is stable without side condition (proved in `Sipsp.Proofs.AuditFixA`) -/

/-- **every ERROR verdict of ParseSIPMsg is stable**, whatever the flags (without no-more-data) and whether or not a
    Content-Length header was seen: first-line errors, header errors, `.empty`, NoCLen, the state error. -/
theorem stable_msg_errors : type_of% @Sipsp.parseSIPMsg_stable_err := @Sipsp.parseSIPMsg_stable_err

/-- **L1 for ParseSIPMsg**: the exemption `bodyToEnd` (body = rest of the buffer) has to be excluded
    for the verdict OK only; every other definitive verdict is stable unconditionally. -/
theorem stable_msg_all : type_of% @Sipsp.parseSIPMsg_stable_all := @Sipsp.parseSIPMsg_stable_all

/-- … from any object produced by Init, caller arrays of any capacity (or none) -/
theorem stable_msg_all_init : type_of% @Sipsp.parseSIPMsg_stable_all_init := @Sipsp.parseSIPMsg_stable_all_init

end Sipsp.C03
