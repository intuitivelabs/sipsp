/-
  Property C04 — crash-free, terminating, offset-sane on arbitrary bytes; isolation.

  * **Termination** (all buffers, offsets and objects; no size bound). Every function of the model is a total Lean
    function (none is `partial`; the recursions are structural or well-founded on `b.size - i`). The model's artefacts
    are (a) the progress test of the generic loop driver, which never fires: `progress_*` for the seven loop bodies
    (Call-ID, integer, CSeq, name-addr, token parameter, header line, quoted string) — these are also the termination
    arguments of the corresponding Go `for i < len(buf)` loops — and (b) six more loop guards that the Go
    `for { … continue }` loops do not have (value lists, header block, URI lists: model-only verdict `lbug`; Via branch
    loop: a silent exit), which are never taken (`*_no_model_exit`, `viabr_*`; Sipsp.Proofs.AuditFixA): without any
    hypothesis for ParseTokenParam, ParseNameAddrPVal, the two value lists, ParseHdrLine and GetViaBrSig (whose guard
    holds on EVERY input: the loop equals the Go recursion without it); for legitimate objects for ParseHeaders,
    ParseSIPMsg (one call and every chunk schedule; Init objects and objects Reset after any history qualify) and
    ParseAllURIParams / Hdrs (new and reset lists, every option word, every schedule). Just outside the domain (an element
    left in a non-idle state by the caller, an object re-used after an error verdict without Reset) the guards do fire
    while Go carries on with the stale element — those inputs are excluded by the legitimacy hypotheses; tests show them.
  * **Offset sanity** (no size bound): `offs ≤ o' ≤ len(buf)` whatever the verdict for ParseCallIDVal (`callid_offs_sane`;
    the integer parser has the same shape) and for the lexical layer (`lws_offs_sane`).
  * **Isolation (static part)**: the regenerated source facts show no write to a package-level variable outside init(),
    no goroutine, no `unsafe`/`sync` import (`no_shared_state`); in the model every result is a function of the call's
    explicit arguments. The "running concurrently" clause itself (Go memory model, scheduler) is outside any executable
    model: partial. The check additionally compares a 16-goroutine run with a sequential run of the same calls (testing,
    not proof).
  * **Panic-freedom, offset sanity and dereferenceable fields for the message parser and everything it calls**
    (`msg_never_panics(_init)`, `msg_schedule_never_panics(_init)`). Every panic-freedom theorem of this file carries the
    documented limit `b.size ≤ 65535`. Within it, for all start offsets inside the buffer, all flag combinations, all
    caller-supplied capacities (or none) and ALL chunk schedules, ParseSIPMsg records no panic (the model's `pnc` flags
    mark every Go construct that panics: slice bounds, PField.Set/Extend on inverted ranges, nil interface), returns an
    offset inside the buffer that is not before the offset passed in when the verdict is OK or MoreBytes, and every field
    of the object — first line, every header slot, the first-of-type shortcuts, From/To/Call-ID/CSeq/Content-Length/
    Expires values, every stored contact and identity value, the body — lies inside the buffer (`MsgFine`), whatever the
    verdict; `fine_deref` turns that into "the model's `Get` returns a slice". The same is proved for the nested parsers
    on their own (`nameaddr_never_panics`, 33 states, … `headers_never_panics`) and for the stand-alone entry points
    (Sipsp.Proofs.SafeRest): ParseTokenParam, ParseAllURIParams / Hdrs, URIParamsEq / HdrsEq, URICmp(Short), URIParseCmp,
    GetCallIDSig, GetViaBrSig, ContainsIP6, GetMsgSig.
  * **GetMsgSig after ANY history** (Sipsp.Proofs.SigCompose; `sig_never_panics*`): after a completed ParseSIPMsg — the
    cleanliness of the header list it needs is an invariant: kept by Init with cleared arrays, by every ParseSIPMsg call
    whatever its verdict, and by Reset —, after any history of Init / parse calls (complete, suspended, failed) / Reset
    followed by a legitimate call that ends with OK, for every chunk schedule from Init, and after Reset (Reset after any
    history is literally an Init object, `reset_after_history_is_init`).
  * **GetMsgSig in EVERY state** (finding F24: without the guard msg_sig.go:206-212 the function slices `msg.Buf`, which is
    set only on completion, and panics on a suspended or failed message). The model's `getMsgSig` is that completeness
    guard in front of `getMsgSigCore`, the function the `sig_*` theorems above are about (Sipsp.Proofs.SigGuard): in any
    state other than the final / Content-Length-required end state the answer is "empty" and nothing is read
    (`sig_empty_before_completion`), otherwise it is the core (`sig_is_core_when_complete`), so the only way GetMsgSig
    could panic is through its core on a completed message (`sig_panics_only_via_core`) — which `sig_never_panics*`
    exclude. Sipsp.Proofs.SigGuardSafe: after ANY legitimate call or chain of resumed calls, WHATEVER verdict it ended
    with, GetMsgSig does not panic (`sig_never_panics_any_verdict*`) and answers "empty" unless the verdict was OK /
    missing-Content-Length (`sig_empty_unless_complete`); the exact relation between the verdict of a ParseSIPMsg call
    and the state it leaves holds without any hypothesis (`verdict_state_relation`, `state_*_iff_*`,
    `call_on_finished_object`). Tests show that the CORE does panic on a suspended / failed object: the guard is
    necessary. `sig_never_panics_any_verdict_schedule` speaks about SOME buffer of the schedule (`∃ b ∈ l`), the
    `sig_never_panics` / schedule forms name the buffer of the completing call and bound `bufLen` by it, and
    `sig_never_panics_last(_from)` (Sipsp.Proofs.AuditFixC) are stated on the LAST buffer `B` of the schedule and every
    extension of it, with `bufLen ≤ B.size` in the completed states. For MoreBytes and error verdicts these statements
    follow from the two-line guard alone; their content is the missing-Content-Length case plus `verdict_state_relation`.
  Assumed (as everywhere): arrays handed to Init are cleared (Go's Init does not clear them either).
-/
import Sipsp.Proofs.Range
import Sipsp.Proofs.TokParamTrans
import Sipsp.Proofs.SafeMsg
import Sipsp.Tie
import Sipsp.Proofs.SafeRest
import Sipsp.Proofs.SigCompose
import Sipsp.Proofs.AuditFixA
import Sipsp.Proofs.SigGuard
import Sipsp.Proofs.SigGuardSafe
import Sipsp.Proofs.AuditFixC

namespace Sipsp.C04
open Sipsp

theorem progress_callid : Progress ciMachine := ci_progress
theorem progress_uint : Progress clMachine := cl_progress
theorem progress_cseq : Progress csMachine := cs_progress
theorem progress_nameaddr (h : Nat) : Progress (naMachine h) := na_progress h
theorem progress_tokparam (flags offs : Nat) : Progress (tpMachine flags offs) := tp_progress flags offs
theorem progress_hdrline : Progress hlMachine := hl_progress
theorem progress_skipquoted : Progress sqMachine := sq_progress

/-- the lexical layer never moves backwards and never leaves the buffer -/
theorem lws_offs_sane (b : Buf) (i flags : Nat) {n crl : Nat} {e : Err}
    (h : skipLWS b i flags = (n, crl, e)) : i ≤ n ∧ (i ≤ b.size → n ≤ b.size) := skipLWS_range b i flags h

theorem clEOH_fst (s : PUIntBody) (j n crl : Nat) : (clEOH s j n crl).1 = n + crl :=
  Sipsp.clEOH_fst s j n crl

/-- **ParseCallIDVal: the returned offset lies inside the buffer and not before the offset passed in** -/
theorem callid_offs_sane (b : Buf) (o : Nat) (st : PCallIDBody) (ho : o ≤ b.size) :
    o ≤ (parseCallIDVal b o st).1 ∧ (parseCallIDVal b o st).1 ≤ b.size :=
  parseCallIDVal_range b o st ho

/-! ### panic-freedom, offsets, dereferenceable fields -/

theorem nameaddr_never_panics (h : Nat) (b : Buf) (o : Nat) (pf : PFromBody) (hE : NaEntry b o pf)
    {o' : Nat} {e : Err} {pf' : PFromBody} (hr : parseNameAddrPVal h b o pf = (o', e, pf')) :
    NaOut b o' pf' ∧ (e = .moreBytes → NaEntry b o' pf') := parseNameAddrPVal_safe h b o pf hE hr

theorem callid_never_panics (b : Buf) (o : Nat) (st : PCallIDBody) (h : CiSafe b o st) :
    CiSafe b (parseCallIDVal b o st).1 (parseCallIDVal b o st).2.2 := parseCallIDVal_safe b o st h

theorem uint_never_panics (b : Buf) (o : Nat) (st : PUIntBody) (h : ClSafe b o st) :
    ClSafe b (parseUIntVal b o st).1 (parseUIntVal b o st).2.2 := parseUIntVal_safe b o st h

theorem clen_never_panics (b : Buf) (o : Nat) (st : PUIntBody) (h : ClSafe b o st) :
    ClOut b (parseCLenVal b o st).2.2 ∧
    ((parseCLenVal b o st).2.1 ≠ .numTooBig → ClSafe b (parseCLenVal b o st).1 (parseCLenVal b o st).2.2) ∧
    (parseCLenVal b o st).1 ≤ b.size := parseCLenVal_safe b o st h

theorem cseq_never_panics (b : Buf) (o : Nat) (st : PCSeqBody) (hfit : b.size ≤ 65535) (h : CsSafe b o st) :
    CsT b (parseCSeqVal b o st).1 (parseCSeqVal b o st).2.1 (parseCSeqVal b o st).2.2 :=
  parseCSeqVal_safe b o st hfit h

theorem contacts_never_panics (b : Buf) (o : Nat) (c : PContacts) (hfit : b.size ≤ 65535) (h : CtSafe b o c) :
    CtOut b (parseAllContactValues b o c).2.2 ∧
    ((parseAllContactValues b o c).2.1 = .moreBytes →
      CtSafe b (parseAllContactValues b o c).1 (parseAllContactValues b o c).2.2) ∧
    ((parseAllContactValues b o c).2.1 = .ok →
      CtIdle b (parseAllContactValues b o c).2.2 ∧ (parseAllContactValues b o c).1 ≤ b.size ∧
      CtIn b (parseAllContactValues b o c).1 (parseAllContactValues b o c).2.2) ∧
    (parseAllContactValues b o c).1 ≤ b.size := parseAllContactValues_safe b o c hfit h

theorem pais_never_panics (b : Buf) (o : Nat) (c : PPAIs) (hfit : b.size ≤ 65535) (h : PaSafe b o c) :
    PaOut b (parseAllPAIValues b o c).2.2 ∧
    ((parseAllPAIValues b o c).2.1 = .moreBytes → PaSafe b (parseAllPAIValues b o c).1 (parseAllPAIValues b o c).2.2) ∧
    ((parseAllPAIValues b o c).2.1 = .ok →
      PaIdle b (parseAllPAIValues b o c).2.2 ∧ (parseAllPAIValues b o c).1 ≤ b.size ∧
      PaIn b (parseAllPAIValues b o c).1 (parseAllPAIValues b o c).2.2) ∧
    (parseAllPAIValues b o c).1 ≤ b.size := parseAllPAIValues_safe b o c hfit h

theorem fline_never_panics (b : Buf) (o : Nat) (pl : PFLine) (hfit : b.size ≤ 65535) (h : FlSafe b o pl) :
    FlSafe b (parseFLine b o pl).1 (parseFLine b o pl).2.2 := parseFLine_safe b o pl hfit h

theorem hdrline_never_panics (b : Buf) (o : Nat) (h : Hdr) (hb : Option PHdrVals) (hfit : b.size ≤ 65535)
    (H : HlSafe b o (h, hb)) (hI : hlOK b o h hb) {o' : Nat} {e : Err} {h' : Hdr} {hb' : Option PHdrVals}
    (hr : parseHdrLine b o h hb = (o', e, h', hb')) :
    HlOut b (h', hb') ∧ ((e = .ok ∨ e = .moreBytes) → HlSafe b o' (h', hb')) ∧ (e = .ok → h'.state = .fin) ∧
      o' ≤ b.size ∧ (e = .empty → HlSafe b o' (h', hb')) := parseHdrLine_safe b o h hb hfit H hI hr

theorem headers_never_panics (b : Buf) (offs : Nat) (hl : HdrLst) (hb : Option PHdrVals) (hfit : b.size ≤ 65535)
    (hok1 : hlsOK b hl) (hok2 : hbOK b offs hb) (hpe : hlsPend hl hb) (ho : offs ≤ b.size)
    (H : HlsSafe b offs hl hb) :
    HlsOut b (parseHeaders b offs hl hb).2.2.1 ∧
    (∀ hv, (parseHeaders b offs hl hb).2.2.2 = some hv → HvFine b hv) ∧
    ((parseHeaders b offs hl hb).2.1 = .moreBytes ∨ (parseHeaders b offs hl hb).2.1 = .ok →
      HlsSafe b (parseHeaders b offs hl hb).1 (parseHeaders b offs hl hb).2.2.1 (parseHeaders b offs hl hb).2.2.2) ∧
    ((parseHeaders b offs hl hb).2.1 = .ok ∨ (parseHeaders b offs hl hb).2.1 = .moreBytes →
      offs ≤ (parseHeaders b offs hl hb).1 ∧ (parseHeaders b offs hl hb).1 ≤ b.size) ∧
    (parseHeaders b offs hl hb).1 ≤ b.size := parseHeaders_safe b offs hl hb hfit hok1 hok2 hpe ho H

/-- **one ParseSIPMsg call, any legitimate object** -/
theorem msg_never_panics (b : Buf) (o : Nat) (m : PSIPMsg) (flags : Nat) (hfit : b.size ≤ 65535)
    (hok : msgOK2 b o m) (H : MsgSafe b o m) :
    MsgFine b (parseSIPMsg b o m flags).2.2 ∧ (parseSIPMsg b o m flags).1 ≤ b.size ∧
    ((parseSIPMsg b o m flags).2.1 = .ok ∨ (parseSIPMsg b o m flags).2.1 = .moreBytes →
      o ≤ (parseSIPMsg b o m flags).1) ∧
    ((parseSIPMsg b o m flags).2.1 = .moreBytes →
      msgOK2 b (parseSIPMsg b o m flags).1 (parseSIPMsg b o m flags).2.2 ∧
      MsgSafe b (parseSIPMsg b o m flags).1 (parseSIPMsg b o m flags).2.2) := by
  have hT := parseSIPMsg_safe b o m flags hfit hok H
  refine ⟨hT.out, hT.le, hT.ge, fun hmb => ⟨?_, hT.more hmb⟩⟩
  rcases hp : parseSIPMsg b o m flags with ⟨o1, e1, m1⟩
  rw [hp] at hmb
  simp only at hmb
  subst hmb
  have := (parseSIPMsg_resume b #[] o m flags flags hok hfit hp).2.1
  simpa only [Array.append_empty] using this

/-- … in particular from any object produced by Init: any previous contents, ZEROED caller arrays of any capacity (or none),
    any start offset inside the buffer -/
theorem msg_never_panics_init (b : Buf) (o : Nat) (ho : o ≤ b.size) (m0 : PSIPMsg) (len kh kc : Nat)
    (hdrs cts : Option Unit) (flags : Nat) (hfit : b.size ≤ 65535) :
    let m := m0.init len (hdrs.map fun _ => Array.replicate kh {}) (cts.map fun _ => Array.replicate kc {})
    MsgFine b (parseSIPMsg b o m flags).2.2 ∧ (parseSIPMsg b o m flags).1 ≤ b.size ∧
    ((parseSIPMsg b o m flags).2.1 = .ok ∨ (parseSIPMsg b o m flags).2.1 = .moreBytes →
      o ≤ (parseSIPMsg b o m flags).1) :=
  let h := msg_never_panics b o _ flags hfit (msgOK2_init b o ho m0 len kh kc hdrs cts)
    (MsgSafe_init b o ho m0 len kh kc hdrs cts)
  ⟨h.1, h.2.1, h.2.2.1⟩

/-- **every chunk schedule** -/
theorem msg_schedule_never_panics (flags : Nat) (o : Nat) (m : PSIPMsg) (l : List Buf) (hg : Growing l)
    (hfit : ∀ x ∈ l, x.size ≤ 65535) (hne : l ≠ []) (h0 : ∀ b ∈ l.head?, msgOK2 b o m ∧ MsgSafe b o m) :
    ∃ b ∈ l, MsgQ b o (resumeRun (fun b o m => parseSIPMsg b o m flags) o m l) :=
  parseSIPMsg_schedule_safe flags o m l hg hfit hne h0

/-- **every chunk schedule, from Init** -/
theorem msg_schedule_never_panics_init (flags : Nat) (o : Nat) (m0 : PSIPMsg) (len kh kc : Nat)
    (hdrs cts : Option Unit) (l : List Buf) (hg : Growing l) (hfit : ∀ x ∈ l, x.size ≤ 65535) (hne : l ≠ [])
    (ho : ∀ b ∈ l.head?, o ≤ b.size) :
    let m := m0.init len (hdrs.map fun _ => Array.replicate kh {}) (cts.map fun _ => Array.replicate kc {})
    ∃ b ∈ l, MsgQ b o (resumeRun (fun b o m => parseSIPMsg b o m flags) o m l) :=
  parseSIPMsg_schedule_safe flags o _ l hg hfit hne
    (fun b hb => ⟨msgOK2_init b o (ho b hb) m0 len kh kc hdrs cts, MsgSafe_init b o (ho b hb) m0 len kh kc hdrs cts⟩)

/-- what `MsgFine` means for a caller: within the 65,535-byte limit, `Get` on the reported fields returns a slice
    of the buffer (never out of range) -/
theorem fine_deref (b : Buf) (m : PSIPMsg) (hfit : b.size ≤ 65535) (h : MsgFine b m) :
    m.pnc = false ∧
    (∃ x, m.fl.method.get? b = some x) ∧ (∃ x, m.fl.uri.get? b = some x) ∧ (∃ x, m.fl.version.get? b = some x) ∧
    (∃ x, m.fl.statusCode.get? b = some x) ∧ (∃ x, m.fl.reason.get? b = some x) ∧ (∃ x, m.body.get? b = some x) ∧
    (∀ k, k < m.hl.hdrs.size → (∃ x, m.hl.hdrs[k]!.name.get? b = some x) ∧ (∃ x, m.hl.hdrs[k]!.val.get? b = some x)) ∧
    (∀ j, j < m.hl.h.size → (∃ x, m.hl.h[j]!.name.get? b = some x) ∧ (∃ x, m.hl.h[j]!.val.get? b = some x)) ∧
    (∃ x, m.pv.from_.uri.get? b = some x) ∧ (∃ x, m.pv.from_.tag.get? b = some x) ∧
    (∃ x, m.pv.to.uri.get? b = some x) ∧ (∃ x, m.pv.to.tag.get? b = some x) ∧
    (∃ x, m.pv.callid.callID.get? b = some x) ∧ (∃ x, m.pv.cseq.cseq.get? b = some x) ∧
    (∃ x, m.pv.cseq.method.get? b = some x) ∧ (∃ x, m.pv.clen.sVal.get? b = some x) ∧
    (∀ k, k < m.pv.contacts.n → k < m.pv.contacts.vals.size →
      (∃ x, m.pv.contacts.vals[k]!.uri.get? b = some x) ∧ (∃ x, m.pv.contacts.vals[k]!.v.get? b = some x)) ∧
    (∀ k, k < m.pv.pais.n → k < m.pv.pais.vals.size → ∃ x, m.pv.pais.vals[k]!.uri.get? b = some x) := by
  have g := fun f hf => field_get?_some b f hf hfit
  refine ⟨h.pnc, g _ h.fl.method, g _ h.fl.uri, g _ h.fl.version, g _ h.fl.statusCode, g _ h.fl.reason, g _ h.body,
    (fun k hk => ⟨g _ (h.hl.all k hk).2.1, g _ (h.hl.all k hk).2.2⟩),
    (fun j hj => ⟨g _ (h.hl.hF j hj).2.1, g _ (h.hl.hF j hj).2.2⟩),
    g _ h.pv.from_.uri, g _ h.pv.from_.tag, g _ h.pv.to.uri, g _ h.pv.to.tag, g _ h.pv.callid.1, g _ h.pv.cseq.1,
    g _ h.pv.cseq.2.1, g _ h.pv.clen.1,
    (fun k h1 h2 => ⟨g _ (h.pv.contacts.stored k h1 h2).uri, g _ (h.pv.contacts.stored k h1 h2).v⟩),
    (fun k h1 h2 => g _ (h.pv.pais.stored k h1 h2).uri)⟩

/-- **isolation, static part** (regenerated from the source on every run) -/
theorem no_shared_state :
    Gen.pkgVarWrites = [] ∧ Gen.goStmts = [] ∧
    (Gen.imports.filter (fun s => s == "unsafe" || s == "sync" || s == "sync/atomic")) = [] :=
  ⟨Tie.noSharedWrites.1, Tie.noSharedWrites.2, Tie.noUnsafeOrSync⟩

/-! ### non-vacuity -/
example : (parseCallIDVal #[32, 97, 13] 1 {}).1 = 2 := by decide +kernel
/-- the hypotheses of `msg_never_panics` are satisfiable: every object produced by Init meets them -/
example (b : Buf) : msgOK2 b 0 (({} : PSIPMsg).init 0 none none) ∧ MsgSafe b 0 (({} : PSIPMsg).init 0 none none) :=
  ⟨msgOK2_init b 0 (Nat.zero_le _) {} 0 0 0 none none, MsgSafe_init b 0 (Nat.zero_le _) {} 0 0 0 none none⟩

/-! ### the remaining entry points (Proofs/SafeRest.lean) -/

/-- **ParseTokenParam never panics** (new or legitimately suspended parameter, any offset inside the buffer, any flags) and its fields stay inside the consumed bytes -/
theorem tokparam_never_panics : type_of% @parseTokenParam_never_panics := @parseTokenParam_never_panics

/-- … the invariant form (`SrTpIn`: name/val/all end at or before the offset) -/
theorem tokparam_safe : type_of% @parseTokenParam_safe := @parseTokenParam_safe

/-- **ParseAllURIParams never panics** and keeps every stored parameter inside the consumed bytes -/
theorem uriparams_never_panics : type_of% @parseAllURIParams_safe := @parseAllURIParams_safe

/-- **ParseAllURIHdrs never panics** -/
theorem urihdrs_never_panics : type_of% @parseAllURIHdrs_safe := @parseAllURIHdrs_safe

/-- **URIParamsEq never panics** on buffers ≤ 65,535 bytes -/
theorem uriparams_eq_never_panics : type_of% @uriParamsEq_some := @uriParamsEq_some

/-- **URIHdrsEq never panics** -/
theorem urihdrs_eq_never_panics : type_of% @uriHdrsEq_some := @uriHdrsEq_some

/-- **URICmpShort never panics** on parsed URIs -/
theorem uricmp_short_never_panics : type_of% @uriCmpShort_some := @uriCmpShort_some

/-- **URICmp never panics** on parsed URIs -/
theorem uricmp_never_panics : type_of% @uriCmp_some := @uriCmp_some

/-- **URIParseCmp never panics** on any two byte strings ≤ 65,535 bytes -/
theorem uriparsecmp_never_panics : type_of% @uriParseCmp_some := @uriParseCmp_some

/-- **GetCallIDSig never panics** on any byte string -/
theorem callid_sig_never_panics : type_of% @getCallIDSig_safe := @getCallIDSig_safe

/-- **GetViaBrSig never panics** -/
theorem viabr_sig_never_panics : type_of% @getViaBrSig_safe := @getViaBrSig_safe

/-- **GetMsgSig never panics** on a message whose stored headers lie inside the buffer -/
theorem msgsig_never_panics : type_of% @getMsgSig_safe := @getMsgSig_safe

/-- … in particular after a completed ParseSIPMsg (hypothesis `hun`: the header list was unused before the parse) -/
theorem msgsig_after_parse_never_panics : type_of% @getMsgSig_after_parse := @getMsgSig_after_parse

/-! ### GetMsgSig after ANY history of Init / parse / Reset (no cleanliness hypothesis) (proved in `Sipsp.Proofs.SigCompose`) -/

/-- `getMsgSig_after_parse` without its hypothesis on the unused header slots: it follows from the invariant -/
theorem sig_never_panics : type_of% @Sipsp.sc_getMsgSig_safe := @Sipsp.sc_getMsgSig_safe

/-- **after ANY history** that left the object legitimate for the next call (`msgOK2`, `MsgSafe`: a resumed call on
    an extension of the same buffer; for the first call after Init / Reset they hold, see below), a successful
    ParseSIPMsg is followed by a panic-free GetMsgSig -/
theorem sig_never_panics_history : type_of% @Sipsp.sc_getMsgSig_safe_history := @Sipsp.sc_getMsgSig_safe_history

/-- the first call after Init: the two legitimacy hypotheses hold -/
theorem sig_never_panics_init : type_of% @Sipsp.sc_getMsgSig_safe_init := @Sipsp.sc_getMsgSig_safe_init

/-- **every chunk schedule from Init that ends with OK**: the result is what one call on one of the buffers (the one
    of the last call made) returns, `msg.Buf` lies inside that buffer, and GetMsgSig on it — or on any extension of
    it — does not panic -/
theorem sig_never_panics_schedule : type_of% @Sipsp.sc_getMsgSig_safe_schedule := @Sipsp.sc_getMsgSig_safe_schedule

/-- **any history, then Reset, then one successful call**: GetMsgSig does not panic (no legitimacy hypothesis left) -/
theorem sig_never_panics_reset : type_of% @Sipsp.sc_getMsgSig_safe_reset := @Sipsp.sc_getMsgSig_safe_reset

/-- **any history, then Reset, then any chunk schedule that ends with OK**: as `sc_getMsgSig_safe_schedule` -/
theorem sig_never_panics_reset_schedule : type_of% @Sipsp.sc_getMsgSig_safe_reset_schedule := @Sipsp.sc_getMsgSig_safe_reset_schedule

/-- **Reset after any history gives an Init object** (so every theorem stated "from Init" applies after Reset) … -/
theorem reset_after_history_is_init : type_of% @Sipsp.sc_reset_after_history := @Sipsp.sc_reset_after_history

/-! ### ContainsIP6 (proved in `Sipsp.Proofs.SafeRest`) -/

/-- **ContainsIP6 never panics** -/
theorem containsip6_never_panics : type_of% @Sipsp.containsIP6_safe := @Sipsp.containsIP6_safe

/-! ### the model-only loop guards are never taken (the functions return) (proved in `Sipsp.Proofs.AuditFixA`) -/

/-- **the guard of `viaBrLoop` holds on every input**: a MoreValues verdict of the parameter parser (new object,
    the Via-branch options) lies strictly after the start and inside the buffer -/
theorem viabr_guard_always_holds : type_of% @Sipsp.afa_viaBr_guard := @Sipsp.afa_viaBr_guard

/-- **`viaBrLoop` satisfies the recursion of the Go loop without the guard** (every offset inside the buffer) -/
theorem viabr_loop_unguarded : type_of% @Sipsp.viaBrLoop_unguarded := @Sipsp.viaBrLoop_unguarded

/-- **GetViaBrSig, every input: the model-only exit is never taken** (whatever it would return, the result is the same) -/
theorem viabr_exit_irrelevant : type_of% @Sipsp.getViaBrSig_exit_irrelevant := @Sipsp.getViaBrSig_exit_irrelevant

/-- **ParseTokenParam never returns the model-only verdict** (every buffer, offset, object, option set) -/
theorem tokparam_no_model_exit : type_of% @Sipsp.parseTokenParam_ne_lbug := @Sipsp.parseTokenParam_ne_lbug

/-- **ParseNameAddrPVal never returns the model-only verdict** (every header kind, buffer, offset, object) -/
theorem nameaddr_no_model_exit : type_of% @Sipsp.parseNameAddrPVal_ne_lbug := @Sipsp.parseNameAddrPVal_ne_lbug

/-- **ParseAllContactValues never takes the model-only exit**: every buffer, offset and object (in particular under
    `CtSafe`, the hypothesis of `contacts_never_panics`) -/
theorem contacts_no_model_exit : type_of% @Sipsp.parseAllContactValues_ne_lbug := @Sipsp.parseAllContactValues_ne_lbug

/-- **ParseAllPAIValues never takes the model-only exit** (every buffer, offset and object) -/
theorem pais_no_model_exit : type_of% @Sipsp.parseAllPAIValues_ne_lbug := @Sipsp.parseAllPAIValues_ne_lbug

/-- **ParseHdrLine never returns the model-only verdict** (every buffer, offset, header object, values object or nil) -/
theorem hdrline_no_model_exit : type_of% @Sipsp.parseHdrLine_ne_lbug := @Sipsp.parseHdrLine_ne_lbug

/-- **ParseHeaders never takes the model-only exit**, from every legitimate list / values object — the hypotheses
    of `headers_never_panics` minus the ones not needed (`HlsSafe`, the 65,535 limit): new, finished, or returned by an
    earlier call on a prefix of the buffer with MoreBytes (`hlsOK`, `hbOK`), and no stale suspended header in the slots
    still to be filled (`hlsPend`) -/
theorem headers_no_model_exit : type_of% @Sipsp.parseHeaders_ne_lbug := @Sipsp.parseHeaders_ne_lbug

/-- ParseHeaders on the list and values object of any Init message object (caller arrays of any capacity, or none),
    with or without a values object -/
theorem headers_no_model_exit_init : type_of% @Sipsp.parseHeaders_ne_lbug_init := @Sipsp.parseHeaders_ne_lbug_init

/-- **ParseSIPMsg never takes a model-only exit — one call, any legitimate object** (`msgOK2`, the legitimacy
    hypothesis of `msg_never_panics`; `MsgSafe` and the 65,535 limit are not needed here) -/
theorem msg_no_model_exit : type_of% @Sipsp.parseSIPMsg_ne_lbug := @Sipsp.parseSIPMsg_ne_lbug

/-- … from any object produced by Init: any previous contents, caller arrays of any capacity (or none), any start
    offset inside the buffer, any flags -/
theorem msg_no_model_exit_init : type_of% @Sipsp.parseSIPMsg_ne_lbug_init := @Sipsp.parseSIPMsg_ne_lbug_init

/-- **every chunk schedule**: the chain of resumed ParseSIPMsg calls never ends with the model-only verdict (the
    hypotheses are those of `msg_schedule_never_panics`) -/
theorem msg_schedule_no_model_exit : type_of% @Sipsp.parseSIPMsg_schedule_ne_lbug := @Sipsp.parseSIPMsg_schedule_ne_lbug

/-- **every chunk schedule, from Init** -/
theorem msg_schedule_no_model_exit_init : type_of% @Sipsp.parseSIPMsg_schedule_ne_lbug_init := @Sipsp.parseSIPMsg_schedule_ne_lbug_init

/-- **after ANY history of Init / parse calls (complete, suspended, failed) / Reset, then Reset**: the next
    ParseSIPMsg call, at any offset inside any buffer, never takes a model-only exit (`ScReach`: the reachability
    predicate of `sig_never_panics_history`; Reset after any history is an Init object) -/
theorem msg_no_model_exit_reset : type_of% @Sipsp.parseSIPMsg_ne_lbug_reset := @Sipsp.parseSIPMsg_ne_lbug_reset

/-- **ParseAllURIParams never takes the model-only exit**: every buffer, every offset inside it, every option word,
    every clean list (unused slots zero: new lists of any capacity, lists after Reset, lists returned by earlier
    calls — see `plOK_new`, `plOK_reset`, `parseAllURIParams_post`) -/
theorem uriparams_no_model_exit : type_of% @Sipsp.parseAllURIParams_ne_lbug := @Sipsp.parseAllURIParams_ne_lbug

/-- **ParseAllURIHdrs never takes the model-only exit** (as `parseAllURIParams_ne_lbug`; `hlClean_new`, `hlClean_reset`,
    `parseAllURIHdrs_post`) -/
theorem urihdrs_no_model_exit : type_of% @Sipsp.parseAllURIHdrs_ne_lbug := @Sipsp.parseAllURIHdrs_ne_lbug

/-- new lists of any capacity and lists after Reset qualify -/
theorem uri_lists_qualify : type_of% @Sipsp.afa_lists_qualify := @Sipsp.afa_lists_qualify

/-- **ParseAllURIParams, every chunk schedule (option off)**: the chain of resumed calls never ends with the
    model-only verdict (hypotheses of `parseAllURIParams_schedule`) -/
theorem uriparams_schedule_no_model_exit : type_of% @Sipsp.parseAllURIParams_schedule_ne_lbug := @Sipsp.parseAllURIParams_schedule_ne_lbug

/-- **ParseAllURIHdrs, every chunk schedule (option off)** -/
theorem urihdrs_schedule_no_model_exit : type_of% @Sipsp.parseAllURIHdrs_schedule_ne_lbug := @Sipsp.parseAllURIHdrs_schedule_ne_lbug

/-! ### GetMsgSig = completeness guard + core (finding F24) (proved in `Sipsp.Proofs.SigGuard`) -/

/-- before completion (any other state: new, suspended in the first line / header block / body, failed) there is no
    signature, nothing is read, nothing can panic -/
theorem sig_empty_before_completion : type_of% @Sipsp.getMsgSig_incomplete := @Sipsp.getMsgSig_incomplete

/-- on a completely parsed message (final state, or the "Content-Length required but missing" end state) the signature
    function is its core -/
theorem sig_is_core_when_complete : type_of% @Sipsp.getMsgSig_complete := @Sipsp.getMsgSig_complete

/-- **no panic in ANY state**: the only way `GetMsgSig` can panic is through its core on a completed message -/
theorem sig_panics_only_via_core : type_of% @Sipsp.getMsgSig_panics_only_via_core := @Sipsp.getMsgSig_panics_only_via_core

/-! ### GetMsgSig never panics, whatever verdict the parse ended with (proved in `Sipsp.Proofs.SigGuardSafe`) -/

/-- **GetMsgSig never panics, whatever state the parse is in** — one legitimate call on an object with ANY history
    (`ScReach`), ANY verdict: OK, MoreBytes, NoCLen, any error -/
theorem sig_never_panics_any_verdict : type_of% @Sipsp.sig_never_panics_any_verdict := @Sipsp.sig_never_panics_any_verdict

/-- **the first call after Init** (any previous contents of the object, cleared caller arrays of any capacity or
    none): no legitimacy hypothesis left -/
theorem sig_never_panics_any_verdict_init : type_of% @Sipsp.sig_never_panics_any_verdict_init := @Sipsp.sig_never_panics_any_verdict_init

/-- **any history, then Reset, then one call** with any verdict -/
theorem sig_never_panics_any_verdict_after_reset : type_of% @Sipsp.sig_never_panics_any_verdict_after_reset := @Sipsp.sig_never_panics_any_verdict_after_reset

/-- **every chunk schedule from Init, whatever verdict the chain ends with** (OK, MoreBytes — the message is still
    incomplete when the data at hand ends —, NoCLen, any error): GetMsgSig on the object does not panic — against
    the buffer of the last call made, against every extension of it, in particular against the last (longest) buffer
    of the schedule — and gives the same result on all of them -/
theorem sig_never_panics_any_verdict_schedule : type_of% @Sipsp.sig_never_panics_any_verdict_schedule := @Sipsp.sig_never_panics_any_verdict_schedule

/-- **"empty" unless the parse completed**: after a verdict other than OK and NoCLen — MoreBytes or any error — the
    signature function answers "empty" (empty signature, no panic), whatever buffer it is given. Any call, any object. -/
theorem sig_empty_unless_complete : type_of% @Sipsp.sig_empty_unless_complete := @Sipsp.sig_empty_unless_complete

/-- **verdict / state relation of ParseSIPMsg** — EVERY call: any object (new, suspended, finished, failed), buffer,
    offset, flags -/
theorem verdict_state_relation : type_of% @Sipsp.sg_verdict_state := @Sipsp.sg_verdict_state

/-- the final state `fin` is reached exactly with the verdict OK -/
theorem state_fin_iff_ok : type_of% @Sipsp.sg_fin_iff_ok := @Sipsp.sg_fin_iff_ok

/-- MoreBytes is the verdict of exactly the calls that leave the object suspended (first line / header block / body) -/
theorem state_suspended_iff_morebytes : type_of% @Sipsp.sg_suspended_iff := @Sipsp.sg_suspended_iff

/-- the error state is reached exactly with the error verdicts (everything but OK, NoCLen, MoreBytes) -/
theorem state_err_iff_error : type_of% @Sipsp.sg_err_iff := @Sipsp.sg_err_iff

/-- a call on an object in an end state (final, NoCLen, error) answers "bug" and leaves the error state -/
theorem call_on_finished_object : type_of% @Sipsp.sg_terminal_call := @Sipsp.sg_terminal_call

/-- **the core is safe in the `noCLen` end state**: after a legitimate call that answered "Content-Length required
    but missing" the body of GetMsgSig behind its guard does not panic -/
theorem sig_core_safe_after_noclen : type_of% @Sipsp.sg_core_safe_noCLen := @Sipsp.sg_core_safe_noCLen

/-! ### GetMsgSig after any schedule, on the LAST buffer of the schedule and every extension of it (proved in `Sipsp.Proofs.AuditFixC`) -/

/-- **every chunk schedule from Init, whatever verdict the chain ends with (OK, MoreBytes, NoCLen, any error),
    stated on the last buffer `B` of the schedule** (`l.getLast? = some B`): GetMsgSig on the final object does not
    panic against `B`, nor against any extension of `B`, with the same result; in the completed states
    `len(msg.Buf) ≤ len(B)` -/
theorem sig_never_panics_last : type_of% @Sipsp.afc_sig_never_panics_last := @Sipsp.afc_sig_never_panics_last

/-- **every chunk schedule from any legitimate object, whatever verdict the chain ends with, stated on the last
    buffer `B` of the schedule** -/
theorem sig_never_panics_last_from : type_of% @Sipsp.afc_sig_never_panics_last_from := @Sipsp.afc_sig_never_panics_last_from

end Sipsp.C04
