/-
  Property C04 - extension file: theorems of this property that are proved in layers which themselves import
  Sipsp/Properties/C04.lean (message-level compositions, audit lemmas). Same namespace as the main file; the check
  audits both files together.
-/
import Sipsp.Properties.C04
import Sipsp.Proofs.AuditExamples

namespace Sipsp.C04
open Sipsp

/-! ### new value lists are safe; a suspended message stays legitimate; offsets never move backwards on OK / MoreBytes
  (`Sipsp.Proofs.AuditExamples`) -/

/-- a NEW contacts object (cleared array of any capacity) satisfies the safety
    invariant `CtSafe` at ANY offset inside the buffer — so `C04.contacts_never_panics` applies to the first call -/
theorem new_contacts_safe : type_of% @Sipsp.ae_CtSafe_new := @Sipsp.ae_CtSafe_new

/-- a NEW identities object satisfies `PaSafe` at any offset inside the buffer -/
theorem new_pais_safe : type_of% @Sipsp.ae_PaSafe_new := @Sipsp.ae_PaSafe_new

/-- legitimacy of a SUSPENDED message object, for any input: if a call from a legitimate object (`msgOK2`, `MsgSafe`:
    e.g. any Init object) returns MoreBytes, the returned object and offset satisfy both conditions on every extension
    of the buffer (`parseSIPMsg_resume`, `C04.msg_never_panics`) -/
theorem msg_suspended_legit : type_of% @Sipsp.ae_msg_suspended_legit := @Sipsp.ae_msg_suspended_legit

/-- a first call that is suspended, the resumed call ends with OK: the exported (guarded) `GetMsgSig` does not panic —
    `C04.sig_never_panics_history` applies to the suspended (non-Init) object, and the guard can only panic through its
    core (`Sipsp.Proofs.SigGuard`) -/
theorem sig_after_suspension : type_of% @Sipsp.ae_sig_after_suspension_guarded := @Sipsp.ae_sig_after_suspension_guarded

theorem uint_offset_monotone : type_of% @Sipsp.ae_parseUIntVal_offset_monotone := @Sipsp.ae_parseUIntVal_offset_monotone

theorem clen_offset_monotone : type_of% @Sipsp.ae_parseCLenVal_offset_monotone := @Sipsp.ae_parseCLenVal_offset_monotone

theorem cseq_offset_monotone : type_of% @Sipsp.ae_parseCSeqVal_offset_monotone := @Sipsp.ae_parseCSeqVal_offset_monotone

theorem nameaddr_offset_monotone : type_of% @Sipsp.ae_parseNameAddrPVal_offset_monotone := @Sipsp.ae_parseNameAddrPVal_offset_monotone

theorem contacts_offset_monotone : type_of% @Sipsp.ae_parseAllContactValues_offset_monotone := @Sipsp.ae_parseAllContactValues_offset_monotone

theorem pais_offset_monotone : type_of% @Sipsp.ae_parseAllPAIValues_offset_monotone := @Sipsp.ae_parseAllPAIValues_offset_monotone

theorem fline_offset_monotone : type_of% @Sipsp.ae_parseFLine_offset_monotone := @Sipsp.ae_parseFLine_offset_monotone

theorem hdrline_offset_monotone : type_of% @Sipsp.ae_parseHdrLine_offset_monotone := @Sipsp.ae_parseHdrLine_offset_monotone

end Sipsp.C04
