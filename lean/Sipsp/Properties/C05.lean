/-
  Property C05 — reported fields are contained, nested and ordered like the text they describe.

  Proved for ALL buffers within the 65,535-byte limit, offsets, flags, capacities; "after a successful ParseSIPMsg" means
  one call on a legitimate object or on an object produced by Init, and every chain of resumed calls over growing
  prefixes from Init.
  * **layout** (`layout_one_call`, `layout_schedule_init`): the object is in its final state, the body starts exactly where
    ParseHeaders stopped and ends at the returned offset, `Buf` is the buffer up to the returned offset, RawMsg is the
    bytes from the offset given to the first call to the returned offset.
  * **upper bound** (`fields_inside_consumed(_schedule_init)`, `consumed_meaning`): EVERY reported field ends at or
    before the returned offset — first line, name and value of every stored header and shortcut, From / To with their
    sub-fields, Call-ID, CSeq, Content-Length, Expires, every stored contact and identity, the running header value of
    the Contact / PAI lines, the body. `fields_inside_buffer`: whatever the verdict, every reported field lies inside
    the buffer of the call (the C04 theorem; callers slice the buffer with these fields).
  * **lower bound, order, own line** (`msg_lower_bound*`, `first_line_lower_bound`, `header_line_lower_bound`): every
    field starts at or after the message start; first-line order (`first_line_order_request` / `_reply`: each field exactly the token
    of the text); header name / value inside their own line; stored headers in buffer order without overlap; first
    line before headers; everything before the body; CSeq nesting.
  * **nesting of the name-addr sub-fields, EVERY input** (`nameaddr_nested*`, `msg_values_nested*`): after OK / "more
    values" the URI lies inside the value V (for `*` it is V), the display name is unset or lies between V's start and
    the URI, the parameter span is unset or runs from at or after the URI end exactly to V's end, the tag is unset or
    lies inside the parameter span; after a successful ParseSIPMsg this holds for From, To and every stored Contact /
    P-Asserted-Identity value.
  * **shortcut values = the value of their first stored header, EVERY input** (`shortcut_eq_first_header`,
    `shortcut_values_eq*`): for From, To, Call-ID, CSeq, Content-Length, Expires, if `j` is the first stored header of
    the type then the shortcut object is parsed and `Hdrs[j].Val` EQUALS the shortcut's span — exact equality (a
    repeated From is scanned generically and never touches the shortcut); `shortcut_parsed_of_flag`: type flag set ⇒
    shortcut parsed, also when the array was too small to store the header.
  * **which header line a stored Contact / identity value belongs to, EVERY input**, three statements of growing
    strength:
    - `values_in_headers_*`: a monotone map from stored values to counted header lines such that, whenever that header
      is itself stored, it has the list's type and the value's V is non-empty and lies inside its Val
      (`value_nonempty`: a completed value is never empty; `contact_values_inside_header_line`: one line);
    - `values_exact_*`, `parseHeaders(_init)`: the accepted lines of the type, in message order, are `HNo` in number,
      each contributes at least one value, the counts sum to N, and the values of the i-th cumulative block lie inside
      the Val of the i-th line (`assoc_meaning_all_stored`, `assoc_value_line`, `block_exists`, `block_unique`);
    - `values_pinned_*` ("pinned" = the line index is fixed by the input, not existentially quantified): the list of ALL
      accepted header lines is a function of the input (`pinned_lines_are_the_text`: they are the lines of the text),
      and every stored value lies inside the Val of ITS line whether or not that line was stored; no constant map
      satisfies this when the header array overflows (refuted by evaluation for capacities 1 / 4); it implies the two
      statements above (`pinned_implies_in_headers`). `counts_unique`, `msg_counts_unique`,
      `contact_counts_exists_unique_init`: the per-line counts are UNIQUE when every line of the type and every value
      is stored, and genuinely not unique once values are dropped (capacity 1, three values on two lines: `[1,2]` and
      `[2,1]` both fit).
  * `cseq_number_before_method*`, `parseCSeqVal_strict`: the CSeq number ends strictly before the method starts, both
    non-empty. `value_last_byte(_ok)`, `params_last_byte`, `msg_trim_*`: V and the parameter span never end with SP / HT /
    CR / LF, the ONE exception being the verdict "more values" with a white-space run directly after `;` or `=` before
    the comma (`<a>;tag= ,<b>`).
  NOT proved: that a Contact header's Val starts with its first value and ends with its last (containment only);
  leading / inner white space of the spans; the `first` / `last` overflow slots of the contact list.
  Scope notes:
  * every `_init` theorem of this file takes the object of `Init` over ZERO-VALUED caller arrays (new or cleared; Go's
    Init does not clear them and a stale finished slot does change the parse — shown by tests); "any capacity" stands.
  * `values_in_headers_*`: the line index of a value is existentially quantified and only constrained for STORED
    headers, so the statement carries content when all header lines were stored (`hl.n ≤` capacity); once the header
    array overflows it is satisfied trivially. `values_exact_*` is exact for stored values and stored headers — the
    counts are existential and the type of a line that was not stored is a ghost function; `assoc_value_line` gives
    existence of the line, not uniqueness.
  * "trimming": proved is only that the LAST byte of V (and of the parameter span) is not SP / HT / CR / LF, with the one
    exception stated; nothing is claimed about Name, URI, Tag or leading white space (a display name `"A B"  <…>` does
    end with blanks, in the model and in Go).
  * `msg_trim_schedule_init` speaks about SOME buffer of the schedule (`∃ b ∈ l`); `msg_trim_last` names the last one.
-/
import Sipsp.Proofs.Layout
import Sipsp.Properties.C01
import Sipsp.Properties.C08
import Sipsp.Proofs.FieldsLo
import Sipsp.Proofs.NaNest
import Sipsp.Proofs.SigCovered
import Sipsp.Proofs.PaiLines
import Sipsp.Proofs.HnoExact
import Sipsp.Proofs.AuditFixC
import Sipsp.Proofs.ValAssoc

namespace Sipsp.C05
open Sipsp

/-- **layout after one successful call** -/
theorem layout_one_call (b : Buf) (o : Nat) (m : PSIPMsg) (flags : Nat) (hfit : b.size ≤ 65535)
    (hok : msgOK2 b o m) (H : MsgSafe b o m) {o' : Nat} {m' : PSIPMsg}
    (hr : parseSIPMsg b o m flags = (o', .ok, m')) :
    ∃ h, (if m.state = .init then o else m.offs) ≤ h ∧ h ≤ o' ∧ o' ≤ b.size ∧
      MsgLayout m' (if m.state = .init then o else m.offs) h o' := parseSIPMsg_layout b o m flags hfit hok H hr

/-- what the layout record says, spelled out -/
theorem layout_meaning (m : PSIPMsg) (s h e : Nat) (L : MsgLayout m s h e) :
    m.state = .fin ∧ m.body.offs = h ∧ m.body.offs + m.body.len = e ∧ m.bufLen = e ∧ m.rawOffs = s ∧
    m.rawOffs + m.rawLen = e ∧ m.offs = s := ⟨L.state, L.bodyOffs, L.bodyEnd, L.bufLen, L.rawOffs, L.rawEnd, L.offs⟩

/-- **layout under every chunk schedule, from Init**: if the chain of resumed calls ends with OK, the final object
    has the layout of the message relative to the offset the first call was given -/
theorem layout_schedule_init (flags : Nat) (o : Nat) (m0 : PSIPMsg) (len kh kc : Nat) (hdrs cts : Option Unit)
    (l : List Buf) (hg : Growing l) (hfit : ∀ x ∈ l, x.size ≤ 65535) (hne : l ≠ []) (ho : ∀ b ∈ l, o ≤ b.size)
    {o' : Nat} {m' : PSIPMsg}
    (hr : resumeRun (C01.msgP flags) o
      (m0.init len (hdrs.map fun _ => Array.replicate kh {}) (cts.map fun _ => Array.replicate kc {})) l = (o', .ok, m')) :
    ∃ b ∈ l, ∃ h, o ≤ h ∧ h ≤ o' ∧ o' ≤ b.size ∧ MsgLayout m' o h o' := by
  obtain ⟨b, hb, hr⟩ := flo_schedule_init flags o m0 len kh kc hdrs cts l hg hfit hne ho hr
  exact ⟨b, hb, parseSIPMsg_layout b o _ flags (hfit b hb) (msgOK2_init b o (ho b hb) m0 len kh kc hdrs cts)
    (MsgSafe_init b o (ho b hb) m0 len kh kc hdrs cts) hr⟩

/-- **every reported field lies inside the consumed region (upper bound), one call** -/
theorem fields_inside_consumed (b : Buf) (o : Nat) (m : PSIPMsg) (flags : Nat) (hfit : b.size ≤ 65535)
    (hok : msgOK2 b o m) (H : MsgSafe b o m) {o' : Nat} {m' : PSIPMsg}
    (hr : parseSIPMsg b o m flags = (o', .ok, m')) : MsgRelIn b o' m' ∧ m'.body.inside o' := by
  have hT := parseSIPMsg_safe b o m flags hfit hok H
  rw [hr] at hT
  exact hT.inn rfl

/-- … under every chunk schedule, from Init -/
theorem fields_inside_consumed_schedule_init (flags : Nat) (o : Nat) (m0 : PSIPMsg) (len kh kc : Nat)
    (hdrs cts : Option Unit) (l : List Buf) (hg : Growing l) (hfit : ∀ x ∈ l, x.size ≤ 65535) (hne : l ≠ [])
    (ho : ∀ b ∈ l, o ≤ b.size) {o' : Nat} {m' : PSIPMsg}
    (hr : resumeRun (C01.msgP flags) o
      (m0.init len (hdrs.map fun _ => Array.replicate kh {}) (cts.map fun _ => Array.replicate kc {})) l = (o', .ok, m')) :
    ∃ b ∈ l, MsgRelIn b o' m' ∧ m'.body.inside o' := by
  obtain ⟨b, hb, hr⟩ := flo_schedule_init flags o m0 len kh kc hdrs cts l hg hfit hne ho hr
  exact ⟨b, hb, fields_inside_consumed b o _ flags (hfit b hb) (msgOK2_init b o (ho b hb) m0 len kh kc hdrs cts)
    (MsgSafe_init b o (ho b hb) m0 len kh kc hdrs cts) hr⟩

/-- what `MsgRelIn b o' m'` says, field by field (`f.inside o'` is `f.offs + f.len ≤ o'`) -/
theorem consumed_meaning (b : Buf) (o' : Nat) (m : PSIPMsg) (h : MsgRelIn b o' m) :
    o' ≤ b.size ∧
    m.fl.method.inside o' ∧ m.fl.uri.inside o' ∧ m.fl.version.inside o' ∧ m.fl.statusCode.inside o' ∧
    m.fl.reason.inside o' ∧
    (∀ k, k < m.hl.n → k < m.hl.hdrs.size → m.hl.hdrs[k]!.name.inside o' ∧ m.hl.hdrs[k]!.val.inside o') ∧
    (∀ j, j < m.hl.h.size → m.hl.h[j]!.name.inside o' ∧ m.hl.h[j]!.val.inside o') ∧
    (m.pv.from_.name.inside o' ∧ m.pv.from_.uri.inside o' ∧ m.pv.from_.tag.inside o' ∧ m.pv.from_.params.inside o' ∧
      m.pv.from_.v.inside o') ∧
    (m.pv.to.name.inside o' ∧ m.pv.to.uri.inside o' ∧ m.pv.to.tag.inside o' ∧ m.pv.to.params.inside o' ∧
      m.pv.to.v.inside o') ∧
    m.pv.callid.callID.inside o' ∧
    (m.pv.cseq.cseq.inside o' ∧ m.pv.cseq.method.inside o' ∧ m.pv.cseq.v.inside o') ∧
    m.pv.clen.sVal.inside o' ∧ m.pv.expires.sVal.inside o' ∧
    m.pv.contacts.lastHVal.inside o' ∧
    (∀ k, k < m.pv.contacts.n → k < m.pv.contacts.vals.size →
      m.pv.contacts.vals[k]!.name.inside o' ∧ m.pv.contacts.vals[k]!.uri.inside o' ∧
      m.pv.contacts.vals[k]!.params.inside o' ∧ m.pv.contacts.vals[k]!.v.inside o') ∧
    m.pv.pais.lastHVal.inside o' ∧
    (∀ k, k < m.pv.pais.n → k < m.pv.pais.vals.size →
      m.pv.pais.vals[k]!.name.inside o' ∧ m.pv.pais.vals[k]!.uri.inside o' ∧ m.pv.pais.vals[k]!.v.inside o') :=
  ⟨h.fl.ho, h.fl.method, h.fl.uri, h.fl.version, h.fl.statusCode, h.fl.reason,
   (fun k h1 h2 => h.hl.stored k h1 h2), (fun j hj => h.hl.hI j hj),
   ⟨h.pv.from_.name, h.pv.from_.uri, h.pv.from_.tag, h.pv.from_.params, h.pv.from_.v⟩,
   ⟨h.pv.to.name, h.pv.to.uri, h.pv.to.tag, h.pv.to.params, h.pv.to.v⟩,
   h.pv.callid, h.pv.cseq, h.pv.clen, h.pv.expires, h.pv.contacts.lhv,
   (fun k h1 h2 => ⟨(h.pv.contacts.stored k h1 h2).name, (h.pv.contacts.stored k h1 h2).uri,
     (h.pv.contacts.stored k h1 h2).params, (h.pv.contacts.stored k h1 h2).v⟩),
   h.pv.pais.lhv,
   (fun k h1 h2 => ⟨(h.pv.pais.stored k h1 h2).name, (h.pv.pais.stored k h1 h2).uri, (h.pv.pais.stored k h1 h2).v⟩)⟩

/-- **every reported field lies inside the buffer, whatever the verdict** (restated from C04) -/
theorem fields_inside_buffer (b : Buf) (o : Nat) (m : PSIPMsg) (flags : Nat) (hfit : b.size ≤ 65535)
    (hok : msgOK2 b o m) (H : MsgSafe b o m) : MsgFine b (parseSIPMsg b o m flags).2.2 :=
  (parseSIPMsg_safe b o m flags hfit hok H).out

/-- **first-line fields appear in order** (request): for a first line `method SP uri SP version CRLF` made of
    tokens, the reported fields are exactly those tokens, disjoint and one after the other -/
theorem first_line_order_request (b : Buf) (o m u v e crl : Nat) (hfit : b.size ≤ 65535) (hlen : ¬ b.size - o < 14)
    (hnr : (bcPrefix sipVerSP (b.extract o (o + 8)).toList).2 = false)
    (hm : TokenRun b o m) (hm0 : o < m) (hsp1 : b[m]? = some 32)
    (hu : TokenRun b (m + 1) u) (hu0 : m + 1 < u) (hsp2 : b[u]? = some 32)
    (hv : TokenRun b (u + 1) v) (hv0 : u + 1 < v) {c : UInt8} (hend : b[v]? = some c) (hc : c = 13 ∨ c = 10)
    (heol : skipCRLF b v = (e, crl, .ok)) :
    let pl := (parseFLine b o {}).2.2
    o ≤ pl.method.offs ∧ pl.method.offs + pl.method.len < pl.uri.offs ∧
    pl.uri.offs + pl.uri.len < pl.version.offs ∧ pl.version.offs + pl.version.len = v := by
  rw [C08.request_line b o m u v e crl hfit hlen hnr hm hm0 hsp1 hu hu0 hsp2 hv hv0 hend hc heol]
  simp only
  omega

/-- … and for a status line `SIP/2.0 SP code SP reason CRLF` -/
theorem first_line_order_reply (b : Buf) (o v e crl l : Nat) (hfit : b.size ≤ 65535) (hlen : ¬ b.size - o < 14)
    (hpre : bcPrefix sipVerSP (b.extract o (o + 8)).toList = (l, true))
    {d0 d1 d2 : UInt8} (h0 : b[o + 8]? = some d0) (h1 : b[o + 9]? = some d1) (h2 : b[o + 10]? = some d2)
    (hd0 : isDigit d0 = true) (hd1 : isDigit d1 = true) (hd2 : isDigit d2 = true)
    (hsp : b[o + 11]? = some 32)
    (hr : LineRun b (o + 12) v) (hv0 : o + 12 ≤ v) {c : UInt8} (hend : b[v]? = some c) (hc : c = 13 ∨ c = 10)
    (heol : skipCRLF b v = (e, crl, .ok)) :
    let pl := (parseFLine b o {}).2.2
    o ≤ pl.version.offs ∧ pl.version.offs + pl.version.len < pl.statusCode.offs ∧
    pl.statusCode.offs + pl.statusCode.len < pl.reason.offs ∧ pl.reason.offs + pl.reason.len = v := by
  rw [C08.status_line b o v e crl l hfit hlen hpre h0 h1 h2 hd0 hd1 hd2 hsp hr hv0 hend hc heol]
  simp only
  omega

/-! ### non-vacuity -/
example : (parseSIPMsg C01.exMsg 0 C01.exInit 0).2.1 = Err.ok := C01.exMsg_ok

/-! ### lower bounds, nesting and order for every input (Proofs/FieldsLo.lean) -/

/-- **lower bound, first line, resumption invariant**: every non-empty first-line field (and the one a suspended parse is extending) starts at or after the start offset `s`; holds for a new object and is kept by every call at an offset ≥ s, whatever the verdict (Proofs/FieldsLo.lean) -/
theorem first_line_lower_bound : type_of% @parseFLine_lo := @parseFLine_lo

/-- **first-line fields appear in order, for every input**: whenever ParseFLine returns OK the fields are method < URI < version or version < status < reason, separated, non-empty, the first at `o`, the last ending before the returned offset -/
theorem first_line_order : type_of% @parseFLine_order := @parseFLine_order

/-- **a header's name and value lie inside its own line**: name starts at the line start, is non-empty, the value (if any) starts after the name's end, both end at or before the returned offset -/
theorem header_line_own_line : type_of% @parseHdrLine_own_line := @parseHdrLine_own_line

/-- … the lower-bound half, including every typed header value object -/
theorem header_line_lower_bound : type_of% @parseHdrLine_lo := @parseHdrLine_lo

/-- **CSeq number and method lie inside the CSeq value**: `cseq.offs = v.offs`, cseq ends at or before the method, the method ends where the value ends -/
theorem cseq_nesting : type_of% @parseCSeqVal_lo := @parseCSeqVal_lo

/-- **stored headers appear in buffer order**: for j < k header j's name and value end at or before header k's name; every stored header and first-of-type shortcut starts at or after the block start -/
theorem headers_in_order : type_of% @parseHeaders_lo := @parseHeaders_lo

/-- … in the k, k+1 form -/
theorem headers_consecutive : type_of% @HlsLo.consecutive := @HlsLo.consecutive

/-- **every reported field of a message starts at or after the message start** (one call) -/
theorem msg_lower_bound : type_of% @parseSIPMsg_lo := @parseSIPMsg_lo

/-- … for an object produced by Init -/
theorem msg_lower_bound_init : type_of% @parseSIPMsg_lo_init := @parseSIPMsg_lo_init

/-- … for any chain of resumed calls from Init -/
theorem msg_lower_bound_schedule_init : type_of% @parseSIPMsg_lo_schedule_init := @parseSIPMsg_lo_schedule_init

/-- what `MsgLo` says, field by field -/
theorem msg_lower_bound_meaning : type_of% @MsgLo.meaning := @MsgLo.meaning

/-- **first line before headers**: the first line is in order from `o` and ends before some `o1`; every stored header, shortcut and header value starts at or after `o1` -/
theorem msg_order : type_of% @parseSIPMsg_ord := @parseSIPMsg_ord

/-- … for an object produced by Init -/
theorem msg_order_init : type_of% @parseSIPMsg_ord_init := @parseSIPMsg_ord_init

/-- … for any chain of resumed calls from Init -/
theorem msg_order_schedule_init : type_of% @parseSIPMsg_ord_schedule_init := @parseSIPMsg_ord_schedule_init

/-- **every first-line and header field ends at or before the start of the body** -/
theorem fields_before_body : type_of% @parseSIPMsg_before_body := @parseSIPMsg_before_body

/-- … for any chain of resumed calls from Init -/
theorem fields_before_body_schedule_init : type_of% @parseSIPMsg_before_body_schedule_init := @parseSIPMsg_before_body_schedule_init

/-! ### nesting of the name-addr sub-fields, every input (proved in `Sipsp.Proofs.NaNest`) -/

/-- **nesting theorem for ParseNameAddrPVal** (any header kind; buffers within the 65,535-byte limit): a parse of one
    value that started at `lo` on a new object — in one call, or continued over the objects returned with MoreBytes —
    and ends with OK or MoreValues leaves a value whose sub-fields are nested and ordered (`NaNest`) and which
    starts at or after `lo`; after MoreBytes the object is again a legitimate argument at the returned offset. -/
theorem nameaddr_nested : type_of% @Sipsp.parseNameAddrPVal_nest := @Sipsp.parseNameAddrPVal_nest

/-- one call on a new object (the form used by the callers that parse a value in one go) -/
theorem nameaddr_nested_new : type_of% @Sipsp.parseNameAddrPVal_nest_new := @Sipsp.parseNameAddrPVal_nest_new

/-- **`NaNest`, spelled out** (a field `[offs, offs+len)`; an unset field is `{}` = `⟨0,0⟩`):
    * the URI lies inside the value;
    * the display name, if reported, starts inside the value and ends at or before the start of the URI;
    * the parameter span, if reported, starts at or after the end of the URI, inside the value, and ends exactly
      where the value ends;
    * the tag, if reported, lies inside the parameter span (which is then reported), hence inside the value. -/
theorem nameaddr_nested_meaning : type_of% @Sipsp.NaNest.meaning := @Sipsp.NaNest.meaning

/-- **message, one call from the initial state** (same hypotheses as `parseSIPMsg_lo`): after a successful
    ParseSIPMsg the From and To values (if such headers were seen) and every stored Contact and
    P-Asserted-Identity value are nested -/
theorem msg_values_nested : type_of% @Sipsp.parseSIPMsg_nn := @Sipsp.parseSIPMsg_nn

/-- **message, one call on an object produced by Init** (any previous contents, caller arrays of any capacity or
    none; buffers within the 65,535-byte limit) -/
theorem msg_values_nested_init : type_of% @Sipsp.parseSIPMsg_nn_init := @Sipsp.parseSIPMsg_nn_init

/-- **message, under every chunk schedule, from Init**: if the chain of resumed calls over growing prefixes ends
    with OK, the name-addr header values of the final object are nested -/
theorem msg_values_nested_schedule_init : type_of% @Sipsp.parseSIPMsg_nn_schedule_init := @Sipsp.parseSIPMsg_nn_schedule_init

/-- **`HvNn`, spelled out** with `NaNest.meaning`: for From, To (unless untouched) and each stored Contact /
    P-Asserted-Identity value `p`: URI inside `p.v`; display name (if any) inside `p.v` and before the URI; parameter
    span (if any) after the URI, inside `p.v`, ending where `p.v` ends; tag (if any) inside the parameter span -/
theorem msg_values_nested_meaning : type_of% @Sipsp.HvNn.meaning := @Sipsp.HvNn.meaning

/-! ### shortcut values equal the value of their first stored header (proved in `Sipsp.Proofs.SigCovered`) -/

/-- **kind by kind**: in the object returned by a successful ParseSIPMsg call — after ANY history of the object it was
    called on (`SvParsed`), in particular after any chunk schedule from Init with any capacities; no size bound — if a
    header of the kind's type is stored, the shortcut object of the kind is parsed and the `val` of the FIRST stored
    header of that type EQUALS the span the shortcut object reports -/
theorem shortcut_eq_first_header : type_of% @Sipsp.shortcut_eq_first_header := @Sipsp.shortcut_eq_first_header

/-- **[C05] the six shortcut values, spelled out**: From, To, Call-ID, CSeq, Content-Length, Expires -/
theorem shortcut_values_eq : type_of% @Sipsp.shortcut_values_eq := @Sipsp.shortcut_values_eq

/-- … after the first call on an Init object -/
theorem shortcut_values_eq_init : type_of% @Sipsp.shortcut_values_eq_init := @Sipsp.shortcut_values_eq_init

/-- … after every chunk schedule from Init that ends with OK (any list of buffers) -/
theorem shortcut_values_eq_schedule_init : type_of% @Sipsp.shortcut_values_eq_schedule_init := @Sipsp.shortcut_values_eq_schedule_init

/-- a header of the kind's type was accepted (its type flag is set — also when the array was too small to store it):
    the shortcut object is parsed -/
theorem shortcut_parsed_of_flag : type_of% @Sipsp.shortcut_parsed_of_flag := @Sipsp.shortcut_parsed_of_flag

/-- **a Contact header line, header and values together**: for a header object of type Contact not in the middle of
    its value list and an idle value list object, if the dispatch ends with OK then the header's `val` is the running
    header value, it ends at or before the returned offset, and every value stored from this line lies inside `val` -/
theorem contact_values_inside_header_line : type_of% @Sipsp.svc_contact_header := @Sipsp.svc_contact_header

/-! ### where the headers stopped (proved in `Sipsp.Proofs.Layout`) -/

/-- layout of a successful message parse, relative to the header block the call (or an earlier call) finished:
    `∃ h`, the end of the header block, with `start ≤ … ≤ h ≤ o'` -/
theorem headers_end_is_body_start : type_of% @Sipsp.msgHeaders_layout := @Sipsp.msgHeaders_layout

/-! ### every stored Contact / identity value lies inside the value of the header line it came from
  (`Sipsp.Proofs.ValAssoc`; `value_nonempty`: `Sipsp.Proofs.PaiLines`) -/

/-- **[C05] message level, one call on an object produced by Init** (any previous contents, caller arrays of any
    capacity or none; EVERY input within the 65,535-byte limit) -/
theorem values_in_headers_init : type_of% @Sipsp.pl_values_in_headers_init := @Sipsp.pl_values_in_headers_init

/-- **[C05] … under every chunk schedule, from Init**: if the chain of resumed calls over growing prefixes ends with
    OK, the final object satisfies the same statement -/
theorem values_in_headers_schedule_init : type_of% @Sipsp.pl_values_in_headers_schedule_init := @Sipsp.pl_values_in_headers_schedule_init

/-- **`PlMsg`, spelled out**: there is a map `f` from value indices to header-line indices (`f k < HdrLst.N`), monotone
    on the values counted (`k ≤ k' < N` ⇒ `f k ≤ f k'`: values are associated with header lines in message order), such
    that for every stored Contact value `k` (`k < min (N, capacity)`), if header `f k` is stored (`f k` below the capacity
    of the header array) then header `f k` is a Contact header, the value's `V` has at least one byte, starts at or after
    the start of the header's `val` and ends at or before its end; likewise for the stored P-Asserted-Identity values -/
theorem values_in_headers_meaning : type_of% @Sipsp.PlMsg.meaning := @Sipsp.PlMsg.meaning

/-- **a completed name-addr value is never empty**: whenever ParseNameAddrPVal, started on a new object, says OK or
    "more values", the reported value span `V` has at least one byte — every header kind, EVERY input within the
    65,535-byte limit -/
theorem value_nonempty : type_of% @Sipsp.pn_value_nonempty := @Sipsp.pn_value_nonempty

/-! ### which header line each stored Contact / identity value belongs to (exactly), CSeq number strictly before the
  method, trimming of name-addr spans (`Sipsp.Proofs.HnoExact`; `block_*`, `line_cnt`: `ValAssoc`; `msg_vals_init`: `MsgLift`) -/

/-- **`HxAssoc`, when the header array holds all the headers** (`hl.n ≤` its capacity): let `idx` be the positions of the
    stored headers of type `ty`, in order.  Then `HNo` is the number of these headers, and there are counts `cnt` — one
    for each of them, each at least 1, with sum `N` — such that the values of the `i`-th header of type `ty` are exactly
    those with index in `[hxStart cnt i, hxStart cnt (i+1))` (cumulative counts): each of them that is stored has at
    least one byte and lies inside the `val` of THAT header; every value index below `N` is in exactly one of the blocks
    (`hx_block_exists`, `hx_block_unique`) -/
theorem assoc_meaning_all_stored : type_of% @Sipsp.HxAssoc.meaning_all_stored := @Sipsp.HxAssoc.meaning_all_stored

/-- **`HxAssoc`, any capacity of the header array**: the same with a ghost function `tyOf` for the types of ALL accepted
    header lines (it agrees with the stored ones); a value is compared with the `val` of its header only if that header
    is stored -/
theorem assoc_meaning : type_of% @Sipsp.HxAssoc.meaning := @Sipsp.HxAssoc.meaning

/-- **every stored value has its header line**: for each value index `k < N` there is exactly one line number `i < HNo`
    with `k` in the block of `i`; if the header array holds all headers, the `i`-th stored header of type `ty` exists
    and the value lies inside its `val` -/
theorem assoc_value_line : type_of% @Sipsp.HxAssoc.value_line := @Sipsp.HxAssoc.value_line

/-- every value index below the sum of the counts belongs to exactly one block of the cumulative counts -/
theorem block_exists : type_of% @Sipsp.hx_block_exists := @Sipsp.hx_block_exists

theorem block_unique : type_of% @Sipsp.hx_block_unique := @Sipsp.hx_block_unique

/-- **header block** (a legitimate list whose current slot is new, i.e. one call of ParseHeaders from the start of a
    line; buffers within the 65,535-byte limit): ParseHeaders keeps / establishes
    the exact association -/
theorem parseHeaders : type_of% @Sipsp.hx_parseHeaders := @Sipsp.hx_parseHeaders

/-- **ParseHeaders, one call on the header list and values object of an Init object** -/
theorem parseHeaders_init : type_of% @Sipsp.hx_parseHeaders_init := @Sipsp.hx_parseHeaders_init

/-- **[C05] message level, one call on an object produced by Init** (any previous contents, caller arrays of any
    capacity or none; EVERY input within the 65,535-byte limit) -/
theorem values_exact_init : type_of% @Sipsp.hx_values_exact_init := @Sipsp.hx_values_exact_init

/-- **[C05] … under every chunk schedule, from Init**: if the chain of resumed calls over growing prefixes ends with
    OK, the final object satisfies the same statement -/
theorem values_exact_schedule_init : type_of% @Sipsp.hx_values_exact_schedule_init := @Sipsp.hx_values_exact_schedule_init

/-- **one accepted header line** (header object that has not reached the colon, in particular a new one; any buffer,
    any values object): the counters of the Contact list and of the identity list, relative to the type of the
    accepted header -/
theorem line_cnt : type_of% @Sipsp.hx_line_cnt := @Sipsp.hx_line_cnt

/-- **`cseq_number_before_method`, ParseCSeqVal**: whenever ParseCSeqVal says OK — on a new object, or on any object
    returned by earlier calls on the same buffer (`HxCsI`, which holds of every object in the initial state and is kept
    by every call that asks for more bytes) — the number field has at least one byte, ends STRICTLY before the start of
    the method field, and the method field has at least one byte.  Every input within the 65,535-byte limit. -/
theorem parseCSeqVal_strict : type_of% @Sipsp.hx_parseCSeqVal_strict := @Sipsp.hx_parseCSeqVal_strict

/-- one call on a new object -/
theorem parseCSeqVal_strict_new : type_of% @Sipsp.hx_parseCSeqVal_strict_new := @Sipsp.hx_parseCSeqVal_strict_new

/-- **`cseq_number_before_method`**: in a message object that satisfies `HxMsg` (every successful parse from Init, see
    below), if the CSeq object is parsed then the number field has at least one byte, ends STRICTLY before the start of
    the method field, and the method field has at least one byte -/
theorem cseq_number_before_method : type_of% @Sipsp.hx_cseq_number_before_method := @Sipsp.hx_cseq_number_before_method

/-- … one successful ParseSIPMsg call on an object produced by Init; "a CSeq header was accepted" = its type flag is set
    (also when the header array was too small to store it) -/
theorem cseq_number_before_method_init : type_of% @Sipsp.hx_cseq_number_before_method_init := @Sipsp.hx_cseq_number_before_method_init

/-- … every chain of resumed calls over growing prefixes, from Init -/
theorem cseq_number_before_method_schedule_init : type_of% @Sipsp.hx_cseq_number_before_method_schedule_init := @Sipsp.hx_cseq_number_before_method_schedule_init

/-- **the last byte of a reported name-addr value `V`** (ParseNameAddrPVal started on a new object, verdict OK or "more
    values", any header kind, EVERY input within the 65,535-byte limit): the byte before the end of `V` is not white
    space (SP, HT, CR, LF) — except in ONE shape: the verdict is "more values", the byte at the end of `V` is the comma,
    and `V` ends with a non-empty run of white space that directly follows a `;` (an empty parameter: `<a>; ,<b>`) or a
    `=` (an empty parameter value: `<a>;tag= ,<b>`).  After verdict OK (last value of a line, From / To) `V` never ends
    with white space. -/
theorem value_last_byte : type_of% @Sipsp.hx_value_last_byte := @Sipsp.hx_value_last_byte

/-- after verdict OK (the last value of a header line; From, To, …) the value never ends with white space -/
theorem value_last_byte_ok : type_of% @Sipsp.hx_value_last_byte_ok := @Sipsp.hx_value_last_byte_ok

/-- **the parameter span**: if reported, it ends exactly where `V` ends (`NaNest`), so the same statement holds for its
    last byte -/
theorem params_last_byte : type_of% @Sipsp.hx_params_last_byte := @Sipsp.hx_params_last_byte

/-- **[C05] trimming, message level, one call on an Init object**: after a successful ParseSIPMsg the From and To
    values (if parsed) do not end with white space; every stored Contact / identity value does not end with white
    space, except in the one shape of `HxTrC` (`; ,` / `= ,`) -/
theorem msg_trim_init : type_of% @Sipsp.hx_msg_trim_init := @Sipsp.hx_msg_trim_init

/-- … under every chunk schedule, from Init (the buffer is the one of the call that completed the message) -/
theorem msg_trim_schedule_init : type_of% @Sipsp.hx_msg_trim_schedule_init := @Sipsp.hx_msg_trim_schedule_init

/-- **any property of completed name-addr values holds of From, To and every stored Contact / identity value** after one
    successful ParseSIPMsg call on an object produced by Init -/
theorem msg_vals_init : type_of% @Sipsp.hx_msg_vals_init := @Sipsp.hx_msg_vals_init

/-- `HxTrC`, spelled out (`E` = the end of the span) -/
theorem trim_meaning : type_of% @Sipsp.HxTrC.meaning := @Sipsp.HxTrC.meaning

/-! ### the line of every stored value fixed by the input ("pinned": the list of all accepted lines is a function of it): not satisfiable
  by a constant map when the header array overflows (`Sipsp.Proofs.ValAssoc`; the schedule forms, `pinned_lines_*`,
  `msg_trim_last`: `Sipsp.Proofs.AuditFixC`) -/

/-- **[C05] message level, one call on an object produced by Init, line index pinned** (any previous contents, caller
    arrays of any capacity or none; EVERY input within the 65,535-byte limit): with `gs` = the list of ALL accepted
    header lines (a function of the input), `AfcMsg gs m'` -/
theorem values_pinned_init : type_of% @Sipsp.afc_values_pinned_init := @Sipsp.afc_values_pinned_init

/-- **[C05] … under every chunk schedule, from Init**: if the chain of resumed calls over growing prefixes ends with
    OK, the final object is the object of ONE call on a buffer `b` of the schedule — a prefix of the last buffer `B`, so
    every span is a span of `B` with the same bytes — and satisfies the pinned statement relative to the accepted lines
    of `b` -/
theorem values_pinned_schedule_init : type_of% @Sipsp.afc_values_pinned_schedule_init := @Sipsp.afc_values_pinned_schedule_init

/-- **[C05] the pinned statement under every chunk schedule from Init, on the LAST buffer `B` of the schedule**
    (`l.getLast? = some B`): if the chain of resumed calls over growing prefixes ends with OK, the final object satisfies
    `AfcMsg` relative to the accepted header lines of `B` itself -/
theorem values_pinned_last : type_of% @Sipsp.afc_values_pinned_last := @Sipsp.afc_values_pinned_last

/-- **header block** (same hypotheses as `hx_parseHeaders`): `gs0` = the lines accepted before the call; after OK the
    lines are `gs0 ++ afcTrace …`, the stored headers are entries of that list, and both value lists are associated
    with it -/
theorem values_pinned_headers : type_of% @Sipsp.afc_parseHeaders := @Sipsp.afc_parseHeaders

/-- **message, one call from the initial state** (same hypotheses as `hx_parseSIPMsg`; no header counted yet) -/
theorem values_pinned_msg : type_of% @Sipsp.afc_parseSIPMsg := @Sipsp.afc_parseSIPMsg

/-- **message from Init**: the list `afcMsgLines` is a chain of lines of the header block — it starts where the first line
    ends, every entry has the name as written and the type of that name — and the header list of the final object is
    what accepting exactly these entries, in order, produces -/
theorem pinned_lines_are_the_text : type_of% @Sipsp.afc_msgLines_chain := @Sipsp.afc_msgLines_chain

/-- a message parsed with OK has the same accepted header lines in every extension of the buffer -/
theorem pinned_lines_stable : type_of% @Sipsp.afc_msgLines_app := @Sipsp.afc_msgLines_app

/-- **`AfcMsg`, spelled out for the Contact values** (the identities: the same with `pais`): `gs` has one entry per counted
    header line, the stored headers are entries of `gs`, and there is a monotone map `f` into the positions of `gs` with:
    line `f k` is a Contact line; stored value `k` has at least one byte and lies inside the `val` of line `f k`, stored
    or not; every Contact line is hit; and `HNo` is the number of Contact lines in `gs` -/
theorem pinned_meaning : type_of% @Sipsp.AfcMsg.meaning := @Sipsp.AfcMsg.meaning

theorem pinned_implies_in_headers : type_of% @Sipsp.AfcMsg.plMsg := @Sipsp.AfcMsg.plMsg

/-- **`AfcAssoc`, the map form**: there is a map `f` from the values counted to the positions in `gs` (ALL accepted
    lines), monotone (values are associated with lines in message order), such that line `f k` has the type of the
    list and — whether or not that line is stored in the header array — every stored value `k` has at least one byte
    and lies inside the `val` of line `f k`; every line of the type is the line of some value -/
theorem pinned_assoc_map : type_of% @Sipsp.AfcAssoc.map := @Sipsp.AfcAssoc.map

/-- **[C05] trimming under every chunk schedule from Init, stated on the last buffer `B` of the schedule**: if the chain
    ends with OK, then — reading the bytes in `B` — the From and To values (if parsed) do not end with white space,
    every stored Contact / identity value does not end with white space except in the one shape of `HxTrC`; the
    message is complete and `len(msg.Buf)` = the returned offset `≤ len(B)` -/
theorem msg_trim_last : type_of% @Sipsp.afc_msg_trim_last := @Sipsp.afc_msg_trim_last

/-! ### the per-line counts are unique when every line and every value is stored (proved in `Sipsp.Proofs.ValAssoc`) -/

/-- **the counts of `AfcAssoc` are unique** when the `val` spans of the lines do not overlap and every value counted is
    stored (`n ≤ vals.size`): two count lists that satisfy the conjuncts of `AfcAssoc` for the same object are equal -/
theorem counts_unique : type_of% @Sipsp.lo2_counts_unique := @Sipsp.lo2_counts_unique

/-- **message level**: for an object that satisfies the pinned statement `AfcMsg gs m` and the order facts `HlsLo`
    (both proved for every successful ParseSIPMsg from Init: `afc_values_pinned_init`, `parseSIPMsg_lo_init`), with every
    accepted header line stored and every contact (resp. identity) value stored, the per-line counts are determined -/
theorem msg_counts_unique : type_of% @Sipsp.lo2_msg_counts_unique := @Sipsp.lo2_msg_counts_unique

/-- **one ParseSIPMsg call from Init, OK, nothing dropped from the header array nor from the contact array**: there is
    EXACTLY ONE list of per-line counts for the contact values (existence: `afc_values_pinned_init`) -/
theorem contact_counts_exists_unique_init : type_of% @Sipsp.lo2_contact_counts_exists_unique_init := @Sipsp.lo2_contact_counts_exists_unique_init

end Sipsp.C05
