/-
  Property C06 — message framing: Content-Length, body modes and pipelined messages.

  `msgBody b h m flags` is the code of `case SIPMsgBody:` of ParseSIPMsg, reached with `h` = the offset where
  the header block ended. The theorems give the complete case table for ALL buffers, ALL offsets, ALL
  Content-Length values and ALL 8 flag sets (`flags % 8` determines the flags). `clen` is
  `m.pv.clen.uiVal` when a Content-Length header was parsed.

  * The body table (`body_*`) with its derived facts "success exactly when n bytes follow" and "offset = first byte
    after the body"; the table is what ParseSIPMsg executes (`Sipsp.Proofs.AuditFixA`; `body_*` are about the helper
    `msgBody` only): with the first line OK and the header block OK at `h`, `parseSIPMsg = msgBody b h …`; after a
    successful ParseSIPMsg with a parsed Content-Length `n` and body parsing on, `h + n ≤ len`, the returned offset
    is `h + n` and the body is `[h, h+n)`; with fewer bytes the verdict is MoreBytes at `h`.
  * Pipelining (`Sipsp.Proofs.ShiftMsg`, from the message-level position independence of C11): if the first message
    fills `b1` exactly (OK at `o1 = len(b1)`), parsing `b1 ++ b2` at `o1` from an Init object gives the result of
    parsing `b2` alone at 0 with the offset and every field moved by `len(b1)`, whatever `b2` is (valid or not,
    complete or not); the same for message `i` of a list of messages laid out one after the other. Together with
    "offset = first byte after the body" this is the property's "parsing resumes exactly there and the next message
    parses as it would alone".
  * Each message as it would parse ALONE (`Sipsp.Proofs.PipelineAlone`). "Framing-definite" = the no-more-data flag
    is not set and (skip-body ∨ Content-Length required ∨ a Content-Length header was parsed) — exactly the modes in
    which the body is not "the rest of the buffer". A text that parses alone to (its size, OK, obj) in such a mode
    returns exactly the same triple when ANY bytes follow it; without that condition a non-empty continuation moves
    the offset (the property's own exemption). In a buffer holding texts one after the other, parsing at the start of
    text `i` (from Init, or from the previous object after Reset, any history) returns (start of text i+1, OK, the
    stand-alone object of text i moved by its start) — only text `i` must be a complete framing-definite message,
    the others are arbitrary; the caller's loop "Reset, parse at the returned offset, until the buffer is exhausted"
    returns exactly the list of the moved stand-alone objects and ends at the end of the buffer.
  * A LAST text that is complete only in no-more-data mode (`Sipsp.Proofs.TruncPipeline`): k complete framing-definite
    messages followed by a text whose header block is complete and whose body is shorter than its Content-Length: the
    caller's loop with the no-more-data flag returns the k moved stand-alone objects and then OK with the truncated
    body reaching the end of the buffer (= the flagged stand-alone result of that text, moved; read back byte for
    byte), without the flag the same k objects and MoreBytes at the body start; the flag makes no difference for the
    complete messages in front; with a parsed Content-Length n and n bytes available the body is EXACTLY those n
    bytes whatever follows and whatever the no-more-data flag says; every chunk schedule of the pipeline buffer gives
    the same list of objects.
  NOT proved: a truncated text that is not the last one (not a pipeline: the announced bytes are taken from the next
  text); a last text whose header block is incomplete; schedules in which an earlier call already carries the flag.
  Scope notes: "every chunk schedule of the pipeline buffer" = one schedule PER MESSAGE, each started on the Reset
  object, the last buffer of each schedule parsed with the final flags (`tpScheds`); in `pipeline_last_truncated` the
  object of the flagged stand-alone call is `paAlone` by definition — the content of that conjunct is its offset,
  verdict and body read-back.
-/
import Sipsp.Model.Msg
import Sipsp.Proofs.ShiftMsg
import Sipsp.Proofs.PipelineAlone
import Sipsp.Proofs.AuditFixA
import Sipsp.Proofs.TruncPipeline

namespace Sipsp.C06
open Sipsp

/-- what the body section returns, as far as the table speaks of it: (offset, verdict, body field, state) -/
def bodyObs (r : Nat × Err × PSIPMsg) : Nat × Err × PField × MsgState := (r.1, r.2.1, r.2.2.body, r.2.2.state)

variable (b : Buf) (h : Nat) (m : PSIPMsg) (flags : Nat)

/-- skip-body + require-Content-Length + none present: reported as such at the body start -/
theorem body_skip_noclen (hs : hasFlag flags SIPMsgSkipBodyF = true) (hr : hasFlag flags SIPMsgCLenReqF = true)
    (hc : m.pv.clen.parsed = false) :
    bodyObs (msgBody b h m flags) = (h, .noCLen, PField.set h h, .noCLen) := by
  simp [bodyObs, msgBody, hs, hr, hc, PSIPMsg.setBufs]

/-- skip-body otherwise: success, offset = body start, empty body -/
theorem body_skip (hs : hasFlag flags SIPMsgSkipBodyF = true)
    (hr : hasFlag flags SIPMsgCLenReqF = false ∨ m.pv.clen.parsed = true) :
    bodyObs (msgBody b h m flags) = (h, .ok, (PField.set h h).extend h, .fin) := by
  rcases hr with hr | hr <;> simp [bodyObs, msgBody, msgEnd, hs, hr, PSIPMsg.setBufs]

/-- body parsing on, Content-Length n, n bytes available: success, body = exactly those n bytes, offset after them -/
theorem body_clen_ok (hs : hasFlag flags SIPMsgSkipBodyF = false) (hc : m.pv.clen.parsed = true)
    (hfit : h + m.pv.clen.uiVal ≤ b.size) :
    bodyObs (msgBody b h m flags) =
      (h + m.pv.clen.uiVal, .ok, (PField.set h h).extend (h + m.pv.clen.uiVal), .fin) := by
  have : ¬ (h + m.pv.clen.uiVal > b.size) := by omega
  simp [bodyObs, msgBody, msgEnd, hs, hc, this, PSIPMsg.setBufs]

/-- fewer bytes available, more data may come: more-bytes-needed at the body start (nothing consumed) -/
theorem body_clen_more (hs : hasFlag flags SIPMsgSkipBodyF = false) (hc : m.pv.clen.parsed = true)
    (hshort : h + m.pv.clen.uiVal > b.size) (hn : hasFlag flags SIPMsgNoMoreDataF = false) :
    (msgBody b h m flags).1 = h ∧ (msgBody b h m flags).2.1 = .moreBytes := by
  simp [msgBody, hs, hc, hshort, hn]

/-- fewer bytes available in no-more-data mode: truncated body = rest of the buffer -/
theorem body_clen_trunc (hs : hasFlag flags SIPMsgSkipBodyF = false) (hc : m.pv.clen.parsed = true)
    (hshort : h + m.pv.clen.uiVal > b.size) (hn : hasFlag flags SIPMsgNoMoreDataF = true) :
    bodyObs (msgBody b h m flags) = (b.size, .ok, (PField.set h h).extend b.size, .fin) := by
  simp [bodyObs, msgBody, msgEnd, hs, hc, hshort, hn, PSIPMsg.setBufs]

/-- no Content-Length, require-Content-Length mode: never guesses, the body is empty -/
theorem body_noclen_req (hs : hasFlag flags SIPMsgSkipBodyF = false) (hc : m.pv.clen.parsed = false)
    (hr : hasFlag flags SIPMsgCLenReqF = true) :
    bodyObs (msgBody b h m flags) = (h, .ok, (PField.set h h).extend h, .fin) := by
  simp [bodyObs, msgBody, msgEnd, hs, hc, hr, PSIPMsg.setBufs]

/-- no Content-Length and neither flag: the body is the rest of the buffer -/
theorem body_noclen_rest (hs : hasFlag flags SIPMsgSkipBodyF = false) (hc : m.pv.clen.parsed = false)
    (hr : hasFlag flags SIPMsgCLenReqF = false) :
    bodyObs (msgBody b h m flags) = (b.size, .ok, (PField.set h h).extend b.size, .fin) := by
  simp [bodyObs, msgBody, msgEnd, hs, hc, hr, PSIPMsg.setBufs]

/-- **success exactly when n bytes follow the blank line** (body parsing on, Content-Length present,
    more data may come) -/
theorem success_iff_bytes_follow (hs : hasFlag flags SIPMsgSkipBodyF = false) (hc : m.pv.clen.parsed = true)
    (hn : hasFlag flags SIPMsgNoMoreDataF = false) :
    (msgBody b h m flags).2.1 = .ok ↔ h + m.pv.clen.uiVal ≤ b.size := by
  by_cases hfit : h + m.pv.clen.uiVal ≤ b.size
  · have := body_clen_ok b h m flags hs hc hfit
    simp only [bodyObs, Prod.mk.injEq] at this
    simp [this.2.1, hfit]
  · have := body_clen_more b h m flags hs hc (by omega) hn
    simp [this.2, hfit]

/-- the body field denotes `[h, h+n)` when everything fits the 16-bit addressing limit -/
theorem body_span (n : Nat) (hlim : h + n < 65536) :
    ((PField.set h h).extend (h + n)).offs = h ∧ ((PField.set h h).extend (h + n)).len = n := by
  rw [set_extend h (h + n) (Nat.le_add_right h n) (by omega)]
  exact ⟨rfl, Nat.add_sub_cancel_left (n := h) (m := n)⟩

/-! ### non-vacuity -/
example : hasFlag 5 SIPMsgSkipBodyF = true ∧ hasFlag 5 SIPMsgCLenReqF = false := by decide
example : (parseSIPMsg
    #[65, 32, 66, 32, 67, 13, 10, 108, 58, 50, 13, 10, 13, 10, 120, 121, 122] 0
    ({} : PSIPMsg) 0).1 = 16 := by decide +kernel

/-! ### pipelining: the next message in the same buffer (proved in `Sipsp.Proofs.ShiftMsg`) -/

/-- **pipelined messages (property C06)**: when the first message fills `b1` exactly (ParseSIPMsg on `b1` from an
    Init object says OK at offset `o1 = b1.size`), parsing the buffer `b1 ++ b2` at offset `o1` from an Init object
    gives the result of parsing `b2` alone at offset 0 moved by `b1.size` (`smResM`): the same verdict, the returned
    offset + `b1.size`, and every field of the message object (first line, headers, values, body, `Buf` / `RawMsg`
    bookkeeping) moved by exactly `b1.size` — numbers, counts and flags unchanged. (`len` is what Init records as
    `len(msg.Buf)`; the parser never reads it.) -/
theorem pipeline_second_message : type_of% @_root_.pipeline_second_message := @_root_.pipeline_second_message

/-- … and when the second message parses successfully on its own, the pipelined call returns exactly the moved
    message: OK at `b1.size + o2` with `shMsg b1.size m2` -/
theorem pipeline_second_message_ok : type_of% @_root_.pipeline_second_message_ok := @_root_.pipeline_second_message_ok

/-- **any message of a pipeline**: in the buffer that holds the messages `l` one after the other, parsing at the
    offset where message `i` starts (from an Init object) gives the result of parsing the rest of the pipeline
    (messages `i, i+1, …` in a buffer of their own, at offset 0) moved by the total size of the messages before it -/
theorem pipeline_nth_message : type_of% @_root_.pipeline_nth_message := @_root_.pipeline_nth_message

/-! ### each message of a pipeline parses as it would alone (proved in `Sipsp.Proofs.PipelineAlone`) -/

/-- **a message that parses alone parses identically when followed by anything**: if the text `x` parsed alone
    (from any Init object) gives OK at `x.size` with object `obj`, in a framing-definite mode, then for ANY bytes `rest`
    the call on `x ++ rest` returns exactly the same offset, verdict and object. No bookkeeping field differs. -/
theorem msg_alone_then_followed : type_of% @Sipsp.msg_alone_then_followed := @Sipsp.msg_alone_then_followed

/-- the framing condition is necessary: if the message parsed alone is NOT framing-definite because its body is "the
    rest of the buffer" (no Content-Length, neither flag), then any non-empty continuation changes the result -/
theorem alone_needs_framing : type_of% @Sipsp.pa_alone_needs_framing := @Sipsp.pa_alone_needs_framing

theorem framing_definite_iff : type_of% @Sipsp.paFramed_iff := @Sipsp.paFramed_iff

/-- **message `i` of a pipeline parses as it would alone**: `l` is a list of texts laid one after the other in one
    buffer (`smCat l`). If text `i` parsed alone (from an Init object) gives OK at its end with object `obj`, in a
    framing-definite mode, then parsing the big buffer at the offset where text `i` starts (from the same Init
    object) returns OK, the offset of the first byte of text `i+1`, and the stand-alone object with every field moved
    by the start offset (`shMsg`). Nothing is assumed about the other texts. -/
theorem pipeline_each_message_as_alone : type_of% @Sipsp.pipeline_each_message_as_alone := @Sipsp.pipeline_each_message_as_alone

/-- … and the same with the caller's actual object: any object with any history (`ScReach`), Reset before the call.
    The stand-alone parse is the one from an Init object with the capacities of that object. -/
theorem pipeline_each_message_after_reset : type_of% @Sipsp.pipeline_each_message_after_reset := @Sipsp.pipeline_each_message_after_reset

/-- **… in the no-more-data mode**: message `i` is complete and framing-definite under `flags` (no-more-data not
    set); the pipelined call may use `flags'` = the same flags with the no-more-data flag set (e.g. the whole datagram
    is in the buffer) and still returns the moved stand-alone object. -/
theorem pipeline_each_message_nomore : type_of% @Sipsp.pipeline_each_message_as_alone_nomore := @Sipsp.pipeline_each_message_as_alone_nomore

/-- **the caller's loop over a buffer of pipelined messages**: the buffer holds the texts `l` one after the
    other, each of which is a complete message in a framing-definite mode when parsed alone (from an Init object with
    the capacities of the caller's object). Starting at offset 0 with an object `m` of any history, the loop "Reset,
    ParseSIPMsg, continue at the returned offset" returns exactly the stand-alone objects, message `i` moved by the
    total size of the messages before it, and stops with OK at the end of the buffer. -/
theorem parse_all_pipeline : type_of% @Sipsp.parseAll_pipeline := @Sipsp.parseAll_pipeline

/-- … read per message: the loop returns as many objects as there are messages, and object `i` is the stand-alone object
    of message `i` moved by the offset where message `i` starts -/
theorem parse_all_pipeline_get : type_of% @Sipsp.parseAll_pipeline_get := @Sipsp.parseAll_pipeline_get

/-- **… in the no-more-data mode**: the messages are complete and framing-definite under `flags` (no-more-data not
    set); the loop may run with `flags'` = the same flags plus the no-more-data flag and returns the same list -/
theorem parse_all_pipeline_nomore : type_of% @Sipsp.parseAll_pipeline_nomore := @Sipsp.parseAll_pipeline_nomore

/-! ### the body table is what ParseSIPMsg executes (proved in `Sipsp.Proofs.AuditFixA`) -/

/-- **the link**: on a new / Init / Reset object (state `init`), if ParseFLine says OK at `o1` and ParseHeaders
    says OK at `h`, then ParseSIPMsg IS the body section `msgBody` entered at `h` with the parsed parts. -/
theorem msg_is_body_table : type_of% @Sipsp.parseSIPMsg_eq_msgBody := @Sipsp.parseSIPMsg_eq_msgBody

/-- conversely, an OK verdict of ParseSIPMsg on a state-`init` object went through exactly this path -/
theorem ok_went_through_body_table : type_of% @Sipsp.parseSIPMsg_ok_path := @Sipsp.parseSIPMsg_ok_path

/-- **Content-Length framing of ParseSIPMsg itself** (body parsing on, more data may come): the first line was OK,
    ParseHeaders stopped with OK at `h` and its values object `hv` holds a parsed Content-Length `n = hv.clen.uiVal`.
    Then: the verdict is OK iff `h + n ≤ len(buf)`; if so the returned offset is `h + n`, the body field is
    `Set(h,h)` extended to `h + n`, and the returned object carries exactly `hv`; otherwise the verdict is MoreBytes
    at `h` (nothing of the body consumed). -/
theorem clen_framing : type_of% @Sipsp.parseSIPMsg_clen_framing := @Sipsp.parseSIPMsg_clen_framing

/-- **the corollary in the property's words**: ParseSIPMsg on a state-`init` object returned OK with object `m'`, a
    Content-Length header was parsed (`m'.pv.clen.parsed`), body parsing on, more data may come. Then there is the
    offset `h` where ParseHeaders stopped (OK) such that the `n = m'.pv.clen.uiVal` body bytes are all there
    (`h + n ≤ len(buf)`), the returned offset is `h + n` — the first byte after the body — and the body field is
    `Set(h,h).Extend(h+n)`, i.e. `[h, h+n)` when it fits the 16-bit fields. -/
theorem ok_with_content_length : type_of% @Sipsp.parseSIPMsg_ok_clen := @Sipsp.parseSIPMsg_ok_clen

/-! ### a last text with a truncated body, the no-more-data flag, declared lengths, chunk schedules of a pipeline (proved in `Sipsp.Proofs.TruncPipeline`) -/

/-- **a last text with a truncated body**: the buffer holds `k` complete framing-definite messages `l` (complete under
    `flags`, which does not carry the no-more-data flag) followed by a LAST text `y` whose header block is complete
    (ends at `h` inside `y`) and whose body is shorter than its Content-Length (`tpTruncated`); body parsing on.
    The caller's loop — Reset, ParseSIPMsg at the returned offset — started at 0 with an object of any history:
    * run WITH the no-more-data flag (`flags'` = `flags` plus the flag) it returns the `k` moved stand-alone objects
      and then, for the last text, the stand-alone no-more-data object of `y` moved by the start of `y`, and ends with
      OK at the end of the buffer; that stand-alone object is what ONE call with the flag on `y` alone returns (OK at
      `len(y)`), its body is `Set(h,h).Extend(len(y))`, and the moved body read back from the pipeline buffer is
      exactly the bytes of `y` after its header block: the truncated body reaches the end of the buffer;
    * run WITHOUT the flag it returns the same first `k` objects and stops with MoreBytes at the body start of the
      last text (`len(messages) + h`): nothing of the truncated body is consumed. -/
theorem pipeline_last_truncated : type_of% @Sipsp.pipeline_last_truncated := @Sipsp.pipeline_last_truncated

/-- **a last text that alone ends OK at its end**: `k` complete framing-definite messages `l` followed by a last text `y` which,
    parsed ALONE with the flag word `flags'` of the loop, gives OK exactly at its end with object `obj` — for whatever
    reason: a truncated body in the no-more-data mode (then this is the first half of `pipeline_last_truncated`), or
    "no Content-Length, body = rest of the buffer", or a complete framing-definite message. The caller's loop returns
    the `k` moved stand-alone objects, then `obj` moved by the start of `y`, and ends with OK at the end of the buffer. -/
theorem pipeline_last_complete_at_end : type_of% @Sipsp.pipeline_last_complete_at_end := @Sipsp.pipeline_last_complete_at_end

/-- **the no-more-data flag is irrelevant before the last text**: the buffer holds the complete framing-definite messages `l` followed by
    ANY last text `tail` (complete, truncated, garbage, empty). The caller's loop run with the no-more-data flag
    (`flags'`) and the loop run without it (`flags`) return the same first `k = l.length` objects: entry `i` is the
    stand-alone object of message `i` moved by the offset where message `i` starts. Whatever the flag changes, it
    changes it at `tail`. -/
theorem pipeline_flag_irrelevant_before_last : type_of% @Sipsp.pipeline_flag_irrelevant_before_last := @Sipsp.pipeline_flag_irrelevant_before_last

/-- **… at call level**: in a buffer `pre ++ (x ++ rest)` where `x` is a complete framing-definite message (`pre`, `rest`
    arbitrary — e.g. a truncated last text in `rest`), the call at the start of `x` on a Reset object of any history
    returns the same triple with the no-more-data flag (`flags'`) as without it (`flags`): the moved stand-alone
    object of `x`, OK at the first byte after `x` (`flags_switch` of C01x at pipeline level) -/
theorem flag_irrelevant_call : type_of% @Sipsp.tp_flag_irrelevant_call := @Sipsp.tp_flag_irrelevant_call

/-- **a declared length rules**: body parsing on; the text `x`, parsed from a new / Init / Reset object at `o` with a
    flag word `flags` without the no-more-data flag, gives OK with a parsed Content-Length `n` (so, by
    `ok_with_content_length`, at least `n` bytes follow its header block). Then there is the offset `h` where the header
    block ended such that for ANY bytes `rest` appended and for the flag word `flags'` WITH (or without) the
    no-more-data flag, the call on `x ++ rest` returns exactly the same triple: OK at `h + n` with the same object,
    whose body is `Set(h,h).Extend(h+n)` = exactly the `n` bytes `x[h : h+n]` after the blank line — never more (the
    bytes of `rest`, or further bytes of `x`, are not taken, also when the caller says no more data will come) and
    never fewer. -/
theorem declared_length_rules : type_of% @Sipsp.declared_length_rules := @Sipsp.declared_length_rules

/-- **the Content-Length row of the body table for ParseSIPMsg itself, for EVERY flag word with body parsing on** (the
    no-more-data flag may be set or not, `parseSIPMsg_clen_framing` has the case without it): first line OK, header
    block OK at `h` with a parsed Content-Length `n`, and `n` bytes available after `h`. Then the call says OK at
    `h + n`, the object is finished, carries the parsed values, and the body field is `Set(h,h).Extend(h+n)`; within
    the 16-bit limit it denotes exactly `buf[h : h+n]` — never more, never fewer, whatever follows. -/
theorem clen_fit_any_flags : type_of% @Sipsp.tp_clen_fit := @Sipsp.tp_clen_fit

/-- after any history, Reset + ParseSIPMsg WITH the no-more-data flag at the start of the truncated text `y` that is
    preceded by `pre` and ends the buffer: OK at the end of the buffer, the stand-alone no-more-data object moved -/
theorem truncated_call_nomore : type_of% @Sipsp.tp_turn_trunc_nmd := @Sipsp.tp_turn_trunc_nmd

/-- … and WITHOUT the flag: MoreBytes at the body start of `y` (`pre.size + h`), nothing of the body consumed -/
theorem truncated_call_more : type_of% @Sipsp.tp_turn_trunc_more := @Sipsp.tp_turn_trunc_more

/-- **a complete message inside the buffer, every schedule**: the buffer `B = pre ++ (x ++ rest)` arrives in
    pieces: `c` is ANY growing list of prefixes of `B` ending with `B` (any number of cuts, anywhere — inside `x`,
    inside `rest`, the last two buffers may be equal), the first of which reaches the start of `x`. The caller Resets
    its object (any history) and calls ParseSIPMsg at the start of `x` on each buffer in turn, resuming at the
    returned offset on the same object while the verdict is MoreBytes — with `flags` throughout (`resumeRun`), or with
    `flags'` (e.g. plus the no-more-data flag) on the last buffer (`resumeRunEnd`). If `x` is a complete
    framing-definite message, both chains return exactly what ONE call on `B` returns: OK at the first byte after `x`
    with the stand-alone object of `x` moved by `pre.size`. The chunking does not show in the result. -/
theorem schedule_message_in_pipeline : type_of% @Sipsp.tp_schedule_message := @Sipsp.tp_schedule_message

/-- **the truncated last text, every schedule**: `B = pre ++ y` where `y` has a complete header block (ending at
    `h`) and a body shorter than its Content-Length, body parsing on; `c` is any growing list of prefixes of `B` ending
    with `B` whose first buffer reaches the start of `y`. The chain of resumed calls from a Reset object with `flags`
    (no no-more-data flag) on all buffers but the last and `flags'` (with the flag) on the last returns exactly what
    ONE call with the flag returns: OK at the end of the buffer, the stand-alone no-more-data object of `y` moved by
    `pre.size`; the chain with `flags` throughout ends with MoreBytes at the body start `pre.size + h`. -/
theorem schedule_last_truncated : type_of% @Sipsp.tp_schedule_last_truncated := @Sipsp.tp_schedule_last_truncated

/-- **the chunking of a pipeline does not show**: the buffer holds the complete framing-definite messages `l`; it arrives in
    chunks, and the caller works through it with ONE message object, message after message, each message over its own
    ARBITRARY chunk schedule (`tpScheds`: any cuts; the schedule of message `i` ends with any buffer that holds
    messages `0..i` and possibly more). The streaming loop returns exactly the moved stand-alone objects — the list
    that the loop over the complete buffer returns (`parse_all_pipeline`) — and ends at the end of the messages.
    Neither the chunking nor a no-more-data flag on the last call of each schedule (`flags'`) shows in the result. -/
theorem pipeline_chunking_irrelevant : type_of% @Sipsp.pipeline_chunking_irrelevant := @Sipsp.pipeline_chunking_irrelevant

/-- **… with a truncated last text**: `k` complete framing-definite messages `l`, each over its own
    arbitrary chunk schedule, then a LAST text `y` with a complete header block (ending at `h`) and a body shorter
    than its Content-Length, over an arbitrary schedule `cy` ending with the whole buffer `smCat l ++ y`; body parsing
    on. With the no-more-data flag on the last call of each schedule (`flags'`) the streaming loop returns what the
    loop over the complete buffer returns (`pipeline_last_truncated`): the `k` moved stand-alone objects, then the
    stand-alone no-more-data object of `y` moved by the start of `y` (truncated body reaching the end of the buffer),
    OK at the end of the buffer. Without the flag (`flags` throughout) it returns the same first `k` objects and stops
    with MoreBytes at the body start of `y`. -/
theorem pipeline_chunking_irrelevant_truncated : type_of% @Sipsp.pipeline_chunking_irrelevant_truncated := @Sipsp.pipeline_chunking_irrelevant_truncated

end Sipsp.C06
