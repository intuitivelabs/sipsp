/-
  Property C07 — header block tokenisation is faithful to the text.

  The grammar (`Sipsp.Proofs.HdrSpec`): a header line is a name (bytes other than SP, HT, CR, LF and ':'),
  optional spaces / tabs, ':', linear white space (spaces, tabs and folds = line end followed by SP / HT), an
  optional value made of one or more tokens separated by linear white space, optional white space, and a line end —
  CR LF, a lone CR or a lone LF — whose next byte is not SP / HT. A block is a sequence of such lines followed by an
  empty line.

  Proved for ALL buffers within the 65,535-byte limit, ALL offsets and ALL lines / blocks of that grammar (any name,
  any number of tokens and folds, any mix of line ends), for the generic treatment (no values object, or header
  types without a dedicated value parser):
  * `header_line`, `header_line_empty_value`: ParseHdrLine returns OK, the offset after the line end, the name as the
    text before the colon without the white space, the value from its first to its last non-white-space byte
    (across folds), the type = classification of the name (whose table is that of C16), the header finished.
  * `header_block`: ParseHeaders reports exactly one header per line, in order, and stops after the empty line
    (OK; "empty" if the block has no header at all).
  * `block_count` (N counts every header, also those beyond the caller's array), `block_stored` (the stored
    headers are the headers of the block, in order), `block_flags` (a type flag is set iff a header of that type was
    seen), `block_first_of_type` (the first-of-type table holds the first header of each type).
  With a values object supplied, the eight header types with dedicated value parsers (`Sipsp.Proofs.HdrTyped`):
  * `typed_from`, `typed_to`, `typed_callid`, `typed_cseq`, `typed_clen`, `typed_expires`, `typed_contact`,
    `typed_pai`: for ANY text after the colon, ParseHdrLine returns the verdict and offset of the value parser started
    after the colon; the header has the name as written and the classified type, is finished with `Val` = the value
    parser's reported span iff the verdict is OK; the values object changes in that one component only (Contact /
    PAI: header counter bumped, running extent cleared).
  * `from_value`, `to_value` (C09 grammar: `Val` = the name-addr value from its first non-white-space byte to where
    its terminator begins), `callid_value` (one run of non-white-space bytes), `expires_value`, `clen_value` (digit
    string, number exact, within the documented ranges), `cseq_value` (digits, white space, method token: `Val` from
    the first digit to the end of the method), `contact_values_line`, `pai_values_line` (comma-separated value list:
    `Val` from the start of the first value to the end of the last one, for any capacity and for objects that already
    hold values of earlier lines).
  * `generic_with_values`: types without a value parser, and repeated single-valued headers whose value is already
    parsed, are scanned generically also when a values object is supplied.
  * `typed_block`: ParseHeaders on a block that mixes generic and typed lines (each typed value meeting its grammar)
    reports one header per line in order, the values object threaded through the typed lines.
  Observed while proving (not a violation for well-formed blocks: the values are not valid for their header type):
  with a values object an EMPTY Call-ID / Contact / Content-Length value, `i: a b`, a ten-digit Content-Length are
  rejected by the value parser although the generic scanner (no values object) accepts the line.
  SOUNDNESS for ALL inputs (`Sipsp.Proofs.HdrSound`; every buffer ≤ 65,535 bytes, every offset, new header / new or
  reset list of any capacity; "generic" = no values object, or no typed name at a line start):
  * `line_sound`, `line_sound_explicit`, `line_ok_iff`, `line_reject`, `line_verdicts`, `line_empty_iff`: ParseHdrLine
    returns OK iff the text at the offset is a header line of the grammar, and then exactly the reported header
    (name, trimmed value, type, offset); the "empty" verdict is exactly the empty line; the only other verdicts are
    MoreBytes and BadChar — an ill-formed line is never silently mis-tokenised;
  * `block_sound`, `block_ok_iff`, `block_accepts_iff`, `block_empty_iff`, `block_verdicts`, `block_report`,
    `block_unique`: ParseHeaders says OK at `e` iff `[o, e)` is a non-empty block of the grammar and the list object is
    the one its lines produce (count = number of lines, stored = the first k lines in order, flags, first-of-type);
    a block has exactly one reading;
  * with ANY values object, typed lines included: `line_name_type_sound`, `block_all_report` — every accepted line has a
    non-empty name, optional SP / HT, the colon; reported name = that text, reported type = its classification; one
    header per accepted line, in order, with count / stored / flags / first-of-type;
  * `line_sound_resumed`, `block_sound_resumed`: after a suspension (no values object).
  OVER EVERY CHUNK SCHEDULE (`Sipsp.Proofs.ResumedConverse`): `line_sound_schedule(_from)`, `line_ok_iff_schedule`,
  `line_verdicts_schedule`, `block_sound_schedule(_from)`, `block_ok_iff_schedule`, `block_report_schedule`, … — the
  soundness statements above for a chain of resumed calls over growing prefixes (new header / new or reset list, any
  capacity, with or without a values object), and `typed_*_schedule`, `from_value_schedule`, `contact_values_schedule`,
  `typed_block_schedule`: the typed kinds with a values object when the chain was suspended in the MIDDLE of the value.
  NOT proved here: soundness of the VALUE part of the eight typed kinds beyond reducing the line to the value parser
  (their value grammar is C09 / C10); Contact `*` inside a header line; general rejection results for typed values;
  chains whose first call starts inside a line.
  Scope notes: the hypothesis `HsGeneric B o hb` of the `block_*_schedule` theorems
  (with a values object) ranges over EVERY line start of the whole last buffer `B`, body and following messages included —
  a typed name at a line start anywhere behind the block (`\nf: z` in a body) takes the input out of their scope;
  `block_all_report_schedule_from` and `line_sound_reported_schedule_from` do not have that restriction. The schedule
  theorems take a NEW header list (`hsNew kh`), not a reset one. Stronger (`Sipsp.Proofs.HdrSound`, `Sipsp.Proofs.ResumedConverse`):
  `block_sound_in`, `block_ok_iff_in`, `block_*_schedule_in` need the generic-treatment hypothesis only for the line starts
  INSIDE the accepted block `[o, e)` (a `From:` line in the body does not matter; there is no verdict-list form of these).
-/
import Sipsp.Proofs.HdrSpec
import Sipsp.Proofs.HdrTyped
import Sipsp.Proofs.HdrSound
import Sipsp.Proofs.ResumedConverse

namespace Sipsp.C07
open Sipsp

theorem header_line (b : Buf) (o n c v ve p e : Nat) (hb : Option PHdrVals) (hfit : b.size ≤ 65535)
    (hname : NameRun b o n) (hon : o < n) (hws : WsRun b n c) (hnc : n ≤ c) (hcolon : b[c]? = some 58)
    (hlws : Lws b (c + 1) v) (hval : ValRun b v ve p) (he : Eol b p e) {c2 : UInt8} (h2 : b[e]? = some c2)
    (hw2 : isWS c2 = false) (hg : hb = none ∨ IsOther (getHdrType (b.extract o n))) :
    parseHdrLine b o {} hb =
      (e, .ok, { type := getHdrType (b.extract o n), name := ⟨o, n - o⟩, val := ⟨v, ve - v⟩, state := .fin }, hb) :=
  parseHdrLine_spec b o n c v ve p e hb hfit hname hon hws hnc hcolon hlws hval he h2 hw2 hg

theorem header_line_empty_value (b : Buf) (o n c p e : Nat) (hb : Option PHdrVals) (hfit : b.size ≤ 65535)
    (hname : NameRun b o n) (hon : o < n) (hws : WsRun b n c) (hnc : n ≤ c) (hcolon : b[c]? = some 58)
    (hlws : Lws b (c + 1) p) (he : Eol b p e) {c2 : UInt8} (h2 : b[e]? = some c2)
    (hw2 : isWS c2 = false) (hg : hb = none ∨ IsOther (getHdrType (b.extract o n))) :
    parseHdrLine b o {} hb =
      (e, .ok, { type := getHdrType (b.extract o n), name := ⟨o, n - o⟩, val := {}, state := .fin }, hb) :=
  parseHdrLine_spec_empty b o n c p e hb hfit hname hon hws hnc hcolon hlws he h2 hw2 hg

/-- the value really is "first to last non-white-space byte": it starts and ends with a token byte -/
theorem value_trimmed (b : Buf) (v ve p : Nat) (h : ValRun b v ve p) :
    v < ve ∧ ve ≤ p ∧ (∃ c, b[v]? = some c ∧ isLWSch c = false) ∧ (∃ c, b[ve - 1]? = some c ∧ isLWSch c = false) := by
  refine ⟨h.bounds.1, h.bounds.2, h.first, ?_⟩
  induction h with
  | last v j p ht hvj _ => exact ht (j - 1) (by omega) (by omega)
  | cons v j v2 ve p c _ _ _ _ _ _ _ ih => exact ih

theorem header_block (b : Buf) (hb : Option PHdrVals) (hfit : b.size ≤ 65535) (o e : Nat) (hs : List Hdr)
    (H : HdrBlock b o hs e) (hl : HdrLst) (hc : HlsClean hl) (hcur : hl.cur = {})
    (hg : hb = none ∨ ∀ h ∈ hs, IsOther h.type) :
    parseHeaders b o hl hb =
      (e, (if (hl.acceptAll hs).n > 0 then Err.ok else Err.empty), (hl.acceptAll hs).setCur { state := .fin }, hb) :=
  parseHeaders_block b hb hfit H hl hc hcur hg

/-- a new list object (any capacity) satisfies the hypotheses of `header_block` -/
theorem new_list_ok (k : Nat) :
    HlsClean ({ hdrs := Array.replicate k {} } : HdrLst) ∧ ({ hdrs := Array.replicate k {} } : HdrLst).cur = {} :=
  hls_new_ok k

theorem block_count (hl : HdrLst) (hs : List Hdr) :
    ((hl.acceptAll hs).setCur { state := .fin }).n = hl.n + hs.length := by
  rw [hlSetCur_n, acceptAll_n]

theorem block_stored (hl : HdrLst) (hs : List Hdr) (k : Nat) (hk : k < hs.length) (hin : hl.n + k < hl.hdrs.size) :
    ((hl.acceptAll hs).setCur { state := .fin }).hdrs[hl.n + k]! = hs[k] := by
  rw [hlSetCur_ne _ _ _ (by rw [acceptAll_n]; omega)]
  exact acceptAll_stored hl hs k hk hin

theorem block_flags (hl : HdrLst) (hs : List Hdr) (t : Nat) (ht : t < 16) (h0 : hl.pflags < 65536) :
    ((hl.acceptAll hs).setCur { state := .fin }).pflags.testBit t =
      (hl.pflags.testBit t || hs.any (fun h => h.type == t)) := by
  rw [(hlSetCur_scalars _ _).1]; exact acceptAll_pflags hl hs t ht h0

theorem block_first_of_type (hl : HdrLst) (hs : List Hdr) (j : Nat) (hj : j < hl.h.size)
    (hm : hl.h[j]!.missing = true) :
    ((hl.acceptAll hs).setCur { state := .fin }).h[j]! =
      (match hs.find? (fun h => h.type == j + 1) with | some h => h | none => hl.h[j]!) := by
  rw [(hlSetCur_scalars _ _).2]; exact (acceptAll_first hl hs j hj hm).1

/-! ### non-vacuity -/

/-- test (not a proof of the property): a folded header with white space before the colon, lone-CR line end -/
example : (parseHdrLine "Subject :  a\r\n b \rX".toUTF8.data 0 {} none).1 = 18 ∧
    (parseHdrLine "Subject :  a\r\n b \rX".toUTF8.data 0 {} none).2.2.1 =
      { type := HdrOther, name := ⟨0, 7⟩, val := ⟨11, 5⟩, state := .fin } := by
  decide +kernel

/-- the hypotheses of `header_line` are satisfiable: the line `a:b CR LF` followed by `X` -/
example : HdrLineAt "a:b\r\nX".toUTF8.data 0 5 (hdrAt (getHdrType ("a:b\r\nX".toUTF8.data.extract 0 1)) 0 1 ⟨2, 1⟩ .fin) := by
  refine Or.inl ⟨1, 1, 2, 3, 3, 88, ?_, by decide, ?_, by decide, by decide, Lws.nil 2, ?_, ?_, by decide, by decide, rfl⟩
  · intro k _ hk
    have : k = 0 := by omega
    subst this
    exact ⟨97, by decide, by decide, by decide⟩
  · intro k h1 h2; omega
  · refine ValRun.last 2 3 3 ?_ (by decide) (Lws.nil 3)
    intro k h1 h2
    have : k = 2 := by omega
    subst this
    exact ⟨98, by decide, by decide⟩
  · exact Eol.crlf 3 (by decide) (by decide)

/-! ### the eight header types with dedicated value parsers, values object supplied (proved in `Sipsp.Proofs.HdrTyped`) -/

theorem typed_from : type_of% @Sipsp.ht_line_from := @Sipsp.ht_line_from

theorem typed_to : type_of% @Sipsp.ht_line_to := @Sipsp.ht_line_to

theorem typed_callid : type_of% @Sipsp.ht_line_callid := @Sipsp.ht_line_callid

theorem typed_cseq : type_of% @Sipsp.ht_line_cseq := @Sipsp.ht_line_cseq

theorem typed_clen : type_of% @Sipsp.ht_line_clen := @Sipsp.ht_line_clen

theorem typed_expires : type_of% @Sipsp.ht_line_expires := @Sipsp.ht_line_expires

theorem typed_contact : type_of% @Sipsp.ht_line_contact := @Sipsp.ht_line_contact

theorem typed_pai : type_of% @Sipsp.ht_line_pai := @Sipsp.ht_line_pai

/-- **From**: name, colon, a name-addr value of the C09 grammar (leading linear white space included) ending with
    the line end; new From object. The header's value is the value span of the name-addr value. -/
theorem from_value : type_of% @Sipsp.ht_from_value := @Sipsp.ht_from_value

/-- **To** -/
theorem to_value : type_of% @Sipsp.ht_to_value := @Sipsp.ht_to_value

/-- **Call-ID**: name, colon, a Call-ID value; new Call-ID object. The header's value is the run `[v, j)`. -/
theorem callid_value : type_of% @Sipsp.ht_callid_value := @Sipsp.ht_callid_value

/-- **Expires**: name, colon, digits; new object. The header's value is the digit string, the number its value. -/
theorem expires_value : type_of% @Sipsp.ht_expires_value := @Sipsp.ht_expires_value

/-- **Content-Length**: name, colon, at most 9 digits with a value of at most 2^24; new object -/
theorem clen_value : type_of% @Sipsp.ht_clen_value := @Sipsp.ht_clen_value

/-- **CSeq**: name, colon, a CSeq value; new object. The header's value runs from the number through the method. -/
theorem cseq_value : type_of% @Sipsp.ht_cseq_value := @Sipsp.ht_cseq_value

/-- **Contact**: name, colon, a comma-separated list of name-addr values of the C09 grammar ending with the line end.
    The header's value runs from the start of the first value to the end of the last one (`htSpan`, see
    `ht_lhv_line`); the contacts object is `htLine` of the old one: header counter bumped, values accepted in order. -/
theorem contact_values_line : type_of% @Sipsp.ht_contact_values := @Sipsp.ht_contact_values

/-- **P-Asserted-Identity**: as `ht_contact_values` -/
theorem pai_values_line : type_of% @Sipsp.ht_pai_values := @Sipsp.ht_pai_values

/-- a header line with a value, scanned generically although a values object is supplied -/
theorem generic_with_values : type_of% @Sipsp.ht_line_gen := @Sipsp.ht_line_gen

/-- **ParseHeaders on a well-formed block with a values object**: one header per line, in order (generic and typed
    lines mixed), the values object as left by the typed lines, then the end of the block -/
theorem typed_block : type_of% @Sipsp.ht_parseHeaders_block := @Sipsp.ht_parseHeaders_block

/-! ### soundness for ALL inputs: accepted => a line / block of the grammar (proved in `Sipsp.Proofs.HdrSound`) -/

/-- **(1) soundness of an accepted line**: whatever ParseHdrLine accepts (OK) is a header line of the grammar, and the
    header reported is exactly the one the grammar denotes -/
theorem line_sound : type_of% @Sipsp.hs_line_sound := @Sipsp.hs_line_sound

/-- the same with the positions spelled out: name `[o, n)` (non-empty), spaces / tabs up to the colon at `c`, linear
    white space, then either a value `[v, ve)` of tokens and linear white space or nothing, the line end at `p`, and
    a byte after the line end that is not SP / HT (the look-ahead that tells the end of the header from a fold) -/
theorem line_sound_explicit : type_of% @Sipsp.hs_line_sound_explicit := @Sipsp.hs_line_sound_explicit

/-- **accepted iff of the grammar** (line level, with `parseHdrLine_spec` for the other direction) -/
theorem line_ok_iff : type_of% @Sipsp.hs_line_ok_iff := @Sipsp.hs_line_ok_iff

/-- a rejected or suspended line is not a line of the grammar (from completeness: the scanner is a function) -/
theorem line_reject : type_of% @Sipsp.hs_line_reject := @Sipsp.hs_line_reject

/-- **every other verdict is "more bytes" or the error "bad character"** -/
theorem line_verdicts : type_of% @Sipsp.hs_line_verdicts := @Sipsp.hs_line_verdicts

theorem line_empty_iff : type_of% @Sipsp.hs_line_empty_iff := @Sipsp.hs_line_empty_iff

/-- **(2) soundness of an accepted block**: if ParseHeaders ends with OK (or "empty": no header at all), the text
    `[o, e)` is a block of the grammar — header lines one after the other, then the empty line — and the list object
    is exactly what accepting the headers denoted by those lines, in order, produces -/
theorem block_sound : type_of% @Sipsp.hs_block_sound := @Sipsp.hs_block_sound

/-- **(3) ParseHeaders accepts iff the text is a block of the grammar** (new list object of any capacity, generic
    treatment): the result is OK at `e` with list object `hl'` iff `[o, e)` is a block with at least one header line
    and `hl'` is the list object those headers produce. An ill-formed block is never accepted, a well-formed one never
    rejected, and what is reported is determined by the grammar. -/
theorem block_ok_iff : type_of% @Sipsp.hs_block_ok_iff := @Sipsp.hs_block_ok_iff

/-- the same without the list object: ParseHeaders says OK at `e` iff `[o, e)` is a non-empty block of the grammar -/
theorem block_accepts_iff : type_of% @Sipsp.hs_block_accepts_iff := @Sipsp.hs_block_accepts_iff

/-- "empty" (no header at all): exactly when the text at `o` is the empty line -/
theorem block_empty_iff : type_of% @Sipsp.hs_block_empty_iff := @Sipsp.hs_block_empty_iff

/-- the verdicts of ParseHeaders (generic treatment): OK, "empty", "more bytes", or the error "bad character" -/
theorem block_verdicts : type_of% @Sipsp.hs_block_verdicts := @Sipsp.hs_block_verdicts

/-- **what an accepted block reports** (new list object of capacity `k`, generic treatment): the headers of the block
    of the grammar, counted / stored / flagged / indexed as `hs_new_report` says -/
theorem block_report : type_of% @Sipsp.hs_block_report := @Sipsp.hs_block_report

/-- a block of the grammar at `o` is unique: its end and the headers it denotes are determined by the text -/
theorem block_unique : type_of% @Sipsp.hs_block_unique := @Sipsp.hs_block_unique

/-- **name and type of ANY accepted line, with or without a values object, typed or not**: if ParseHdrLine says OK
    for a new header object, the text at `o` starts with a non-empty name `[o, n)` (no SP / HT / CR / LF / colon in
    it), spaces / tabs, and the colon; the reported name is `[o, n)`, the reported type is the classification of
    exactly that text, and the header is finished -/
theorem line_name_type_sound : type_of% @Sipsp.hs_line_name_type_sound := @Sipsp.hs_line_name_type_sound

/-- **what ANY accepted block reports** (new list object of capacity `k`, with or without a values object, typed
    lines included): a chain of lines whose reported names and types are right (`HsChain`), counted / stored / flagged
    / indexed as `hs_new_report` says -/
theorem block_all_report : type_of% @Sipsp.hs_block_all_report := @Sipsp.hs_block_all_report

/-- a line accepted by a RESUMED call — the first call on the prefix `b` asked for more bytes, the second call
    continues at the returned offset with the returned objects on the longer buffer — is a line of the grammar in
    the longer buffer, starting at the ORIGINAL offset, and the header reported is the one it denotes -/
theorem line_sound_resumed : type_of% @Sipsp.hs_line_resumed_sound := @Sipsp.hs_line_resumed_sound

/-- the same for ParseHeaders: a block accepted by a resumed call is a block of the grammar in the longer buffer
    from the original offset, and the list object is the one its headers produce -/
theorem block_sound_resumed : type_of% @Sipsp.hs_block_resumed_sound := @Sipsp.hs_block_resumed_sound

/-! ### soundness over every chunk schedule, typed lines suspended in the middle of the value (proved in `Sipsp.Proofs.ResumedConverse`) -/

theorem line_sound_schedule : type_of% @Sipsp.rc_line_sound_schedule := @Sipsp.rc_line_sound_schedule

/-- **(4) `line_sound` over EVERY chunk schedule** (generic treatment: no values object, or the name at `o` in the whole
    buffer is not one of the eight typed kinds): the chain ends with OK at `e` ⇒ the text at `o` of the WHOLE buffer is
    a header line of the grammar ending at `e`, the reported header is the one it denotes, the values object is
    untouched -/
theorem line_sound_schedule_from : type_of% @Sipsp.rc_line_sound_schedule_from := @Sipsp.rc_line_sound_schedule_from

/-- the same with the positions spelled out (`line_sound_explicit`) -/
theorem line_sound_explicit_schedule : type_of% @Sipsp.rc_line_sound_explicit_schedule := @Sipsp.rc_line_sound_explicit_schedule

/-- **accepted by the chain iff a line of the grammar in the whole buffer** (`line_ok_iff` over every schedule) -/
theorem line_ok_iff_schedule : type_of% @Sipsp.rc_line_ok_iff_schedule := @Sipsp.rc_line_ok_iff_schedule

/-- the "empty" verdict at the end of a chain: exactly the empty line of the whole buffer (ANY values object) -/
theorem line_empty_schedule_from : type_of% @Sipsp.rc_line_empty_schedule_from := @Sipsp.rc_line_empty_schedule_from

/-- the verdicts of a chain (generic treatment): OK, "empty", "more bytes" or the error "bad character" -/
theorem line_verdicts_schedule : type_of% @Sipsp.rc_line_verdicts_schedule := @Sipsp.rc_line_verdicts_schedule

/-- **name and type of ANY line accepted by a chain** (with or without a values object, typed or not, the value
    suspended anywhere): non-empty name, SP / HT, colon in the whole buffer; reported name = that text, reported type =
    its classification, header finished -/
theorem line_name_type_schedule_from : type_of% @Sipsp.rc_line_name_type_schedule_from := @Sipsp.rc_line_name_type_schedule_from

/-- … and if the REPORTED type is not one of the eight typed kinds, the whole line is a line of the grammar -/
theorem line_sound_reported_schedule_from : type_of% @Sipsp.rc_line_sound_reported_schedule_from := @Sipsp.rc_line_sound_reported_schedule_from

theorem block_sound_schedule : type_of% @Sipsp.rc_block_sound_schedule := @Sipsp.rc_block_sound_schedule

/-- **(4) `block_sound` over EVERY chunk schedule** (generic treatment `HsGeneric` of the whole buffer: no values
    object, or no line start carries one of the eight typed names): the chain ends with OK or "empty" at `e` ⇒ `[o, e)`
    of the WHOLE buffer is a block of the grammar, the list object is exactly what accepting its headers in order
    produces, the values object is untouched -/
theorem block_sound_schedule_from : type_of% @Sipsp.rc_block_sound_schedule_from := @Sipsp.rc_block_sound_schedule_from

/-- **the chain accepts iff the text of the whole buffer is a non-empty block of the grammar** (`block_ok_iff`) -/
theorem block_ok_iff_schedule : type_of% @Sipsp.rc_block_ok_iff_schedule := @Sipsp.rc_block_ok_iff_schedule

/-- **what a block accepted by a chain reports** (`block_report`): count = number of lines, stored headers = the first
    `kh` lines in order, type flags, first-of-type table -/
theorem block_report_schedule : type_of% @Sipsp.rc_block_report_schedule := @Sipsp.rc_block_report_schedule

/-- the verdicts of a chain of ParseHeaders calls (generic treatment) -/
theorem block_verdicts_schedule : type_of% @Sipsp.rc_block_verdicts_schedule := @Sipsp.rc_block_verdicts_schedule

/-- **what ANY block accepted by a chain reports** (`block_all_report`; with or without a values object, typed lines
    included, suspended anywhere — also in the middle of a typed value): a chain of lines of the whole buffer whose
    reported names and types are right, counted / stored / flagged / indexed -/
theorem block_all_report_schedule_from : type_of% @Sipsp.rc_block_all_report_schedule_from := @Sipsp.rc_block_all_report_schedule_from

theorem typed_from_schedule : type_of% @Sipsp.rc_typed_from_schedule := @Sipsp.rc_typed_from_schedule

theorem typed_to_schedule : type_of% @Sipsp.rc_typed_to_schedule := @Sipsp.rc_typed_to_schedule

theorem typed_callid_schedule : type_of% @Sipsp.rc_typed_callid_schedule := @Sipsp.rc_typed_callid_schedule

theorem typed_cseq_schedule : type_of% @Sipsp.rc_typed_cseq_schedule := @Sipsp.rc_typed_cseq_schedule

theorem typed_clen_schedule : type_of% @Sipsp.rc_typed_clen_schedule := @Sipsp.rc_typed_clen_schedule

theorem typed_expires_schedule : type_of% @Sipsp.rc_typed_expires_schedule := @Sipsp.rc_typed_expires_schedule

theorem typed_contact_schedule : type_of% @Sipsp.rc_typed_contact_schedule := @Sipsp.rc_typed_contact_schedule

theorem typed_pai_schedule : type_of% @Sipsp.rc_typed_pai_schedule := @Sipsp.rc_typed_pai_schedule

theorem from_value_schedule : type_of% @Sipsp.rc_from_value_schedule := @Sipsp.rc_from_value_schedule

theorem to_value_schedule : type_of% @Sipsp.rc_to_value_schedule := @Sipsp.rc_to_value_schedule

theorem contact_values_schedule : type_of% @Sipsp.rc_contact_values_schedule := @Sipsp.rc_contact_values_schedule

theorem pai_values_schedule : type_of% @Sipsp.rc_pai_values_schedule := @Sipsp.rc_pai_values_schedule

/-- **a well-formed block with typed lines** (`typed_block` of C07: generic and typed lines mixed, every typed value
    meeting its grammar) is reported the same by EVERY chunk schedule: one header per line, in order, the values object
    threaded through the typed lines -/
theorem typed_block_schedule : type_of% @Sipsp.rc_typed_block_schedule := @Sipsp.rc_typed_block_schedule

/-! ### block soundness with the generic-treatment hypothesis restricted to the line starts INSIDE the accepted block (proved in `Sipsp.Proofs.HdrSound` / `Sipsp.Proofs.ResumedConverse`) -/

/-- **(2) soundness of an accepted block, hypothesis restricted to the accepted block**: if ParseHeaders ends with OK
    (or "empty") at `e`, and no line start of `[o, e)` carries a typed name (or there is no values object), then `[o, e)`
    is a block of the grammar and the list object is exactly what accepting its headers, in order, produces; the values
    object is untouched.  Nothing is assumed about the bytes from `e` on. -/
theorem block_sound_in : type_of% @Sipsp.afc_block_sound_in := @Sipsp.afc_block_sound_in

/-- **ParseHeaders (new list object of any capacity) accepts at `e` iff `[o, e)` is a non-empty block of the grammar** —
    for every `e` such that no line start of `[o, e)` carries a typed name (or without a values object) -/
theorem block_ok_iff_in : type_of% @Sipsp.afc_block_ok_iff_in := @Sipsp.afc_block_ok_iff_in

theorem block_sound_schedule_in : type_of% @Sipsp.afc_block_sound_schedule := @Sipsp.afc_block_sound_schedule

/-- **`block_sound` over EVERY chunk schedule, hypothesis restricted to the accepted block** of the whole buffer `B` -/
theorem block_sound_schedule_from_in : type_of% @Sipsp.afc_block_sound_schedule_from := @Sipsp.afc_block_sound_schedule_from

/-- **the chain accepts at `e` iff `[o, e)` of the whole buffer is a non-empty block of the grammar**, for every `e` such
    that no line start of `[o, e)` carries a typed name -/
theorem block_ok_iff_schedule_in : type_of% @Sipsp.afc_block_ok_iff_schedule := @Sipsp.afc_block_ok_iff_schedule

/-- **what a block accepted by a chain reports**, hypothesis restricted to the accepted block -/
theorem block_report_schedule_in : type_of% @Sipsp.afc_block_report_schedule := @Sipsp.afc_block_report_schedule

theorem generic_in_of_generic : type_of% @Sipsp.HsGeneric.afc_in := @Sipsp.HsGeneric.afc_in

/-! ### the verdict list with the generic-treatment hypothesis restricted to a region chosen by the caller (proved in `Sipsp.Proofs.HdrSound` / `Sipsp.Proofs.ResumedConverse`) -/

/-- **one ParseHeaders call** (list object in the state of a new one), hypothesis restricted to the line starts below
    `e'`: the verdict is OK / empty / MoreBytes / BadChar, or the text holds header lines of the grammar from `o` up
    to a line start at or beyond `e'` -/
theorem block_verdicts_in : type_of% @Sipsp.lo2_block_verdicts_in := @Sipsp.lo2_block_verdicts_in

/-- **every chunk schedule** (restricted form of `rc_block_verdicts_schedule`; `B` the last buffer) -/
theorem block_verdicts_schedule_in : type_of% @Sipsp.lo2_block_verdicts_schedule_in := @Sipsp.lo2_block_verdicts_schedule_in

end Sipsp.C07
