/-
  Property C08 — the first line is decomposed exactly: request vs reply, tokens, status, method.

  Proved here, for buffers up to the documented 65,535 bytes, any start offset, any line end (CR LF, lone CR, lone
  LF — whatever `skipCRLF` accepts at the end of the line) and tokens of any length:
    * `request_line` : a line `method SP uri SP version EOL` (three non-empty runs of bytes other than SP/HT/CR/LF,
      separated by single spaces, not starting with `SIP/2.0 SP`) is reported as a request with exactly those three
      tokens; the numeric method is `GetMethodNo(method)` (C16 proves that this is the case-sensitive table lookup
      with unknown names mapped to 'other'); the returned offset is the one after the line end;
    * `status_line` : a line `SIP/2.0 SP d d d SP reason EOL` — version compared case-insensitively
      (`version_prefix_iff`) — is reported as a reply whose status is the value of the three digits and whose reason
      is the rest of the line without the terminator, possibly empty;
    * `reject_*` : the method followed by HT / CR / LF instead of SP, two spaces after the method, a status that is
      not three digits followed by SP: rejected with BadChar, never mis-split.
  The ≥ 14 available bytes are ParseFLine's own look-ahead rule (shorter input gives MoreBytes: C03).
  SOUNDNESS for ALL inputs (`Sipsp.Proofs.FLineSound`; every buffer ≤ 65,535 bytes, every offset, new and resumed
  objects) — the "rejected rather than mis-split" clause:
    * `sound`: if ParseFLine returns OK then the text at the offset IS a request line or a status line of the grammar
      above and the object is exactly the one of `request_line` / `status_line`; `ok_iff`, `ok_iff_at`: OK ⇔ grammar;
      `classify`: OK / MoreBytes / BadChar are the only verdicts on a new object, BadChar exactly when the text is
      decided not to be a line; `short_input` (fewer than 14 bytes: MoreBytes, never OK);
    * `never_missplit`: after OK the reported spans tile the line, each next span starts exactly one SP after the
      previous one, no SP / HT / CR / LF inside a span (reason: no CR / LF), the line end follows directly, the fields of
      the other shape are untouched; `request_unique`, `status_unique`, `request_not_status`: exactly one reading;
    * `status_value` (100·d0 + 10·d1 + d2), `request_iff`, `reply_of_status`; `reject_after_version` (a fourth token);
    * `sound_resumed`, `resumed_eq_oneshot`: the same after any number of MoreBytes / append / call-again rounds.
  `request_iff`, `reply_iff`: `Request()` is true exactly for the request lines and false exactly for the status lines,
  code `000` included. Finding F22: `Request()` as `Status == 0` alone reports the accepted status line `SIP/2.0 000 x` as a
  request (wrong `Method()`, a signature for a reply); `Request()` is `Status == 0 && StatusCode.Empty()` (a reply always
  carries its status-code text), in the code (07883de) and in the model.
  Observed (true of the Go code): request tokens are ANY bytes other than SP / HT / CR / LF and the request's version
  is not compared with `SIP/2.0`.
  Model tied to parse_fline.go by the correspondence check.
-/
import Sipsp.Proofs.FLineSpec
import Sipsp.Proofs.EqFold
import Sipsp.Proofs.FLineSound

namespace Sipsp.C08
open Sipsp

theorem request_line (b : Buf) (o m u v e crl : Nat) (hfit : b.size ≤ 65535) (hlen : ¬ b.size - o < 14)
    (hnr : (bcPrefix sipVerSP (b.extract o (o + 8)).toList).2 = false)
    (hm : TokenRun b o m) (hm0 : o < m) (hsp1 : b[m]? = some 32)
    (hu : TokenRun b (m + 1) u) (hu0 : m + 1 < u) (hsp2 : b[u]? = some 32)
    (hv : TokenRun b (u + 1) v) (hv0 : u + 1 < v) {c : UInt8} (hend : b[v]? = some c) (hc : c = 13 ∨ c = 10)
    (heol : skipCRLF b v = (e, crl, .ok)) :
    parseFLine b o {} =
      (e, .ok, { method := ⟨o, m - o⟩, uri := ⟨m + 1, u - (m + 1)⟩, version := ⟨u + 1, v - (u + 1)⟩,
                 methodNo := getMethodNo (b.extract o m), state := .fin }) :=
  parseFLine_request b o m u v e crl hfit hlen hnr hm hm0 hsp1 hu hu0 hsp2 hv hv0 hend hc heol

/-- … and such a result is a request (status 0 and no status-code text) -/
theorem request_line_is_request (b : Buf) (o m u v e crl : Nat) (hfit : b.size ≤ 65535) (hlen : ¬ b.size - o < 14)
    (hnr : (bcPrefix sipVerSP (b.extract o (o + 8)).toList).2 = false)
    (hm : TokenRun b o m) (hm0 : o < m) (hsp1 : b[m]? = some 32)
    (hu : TokenRun b (m + 1) u) (hu0 : m + 1 < u) (hsp2 : b[u]? = some 32)
    (hv : TokenRun b (u + 1) v) (hv0 : u + 1 < v) {c : UInt8} (hend : b[v]? = some c) (hc : c = 13 ∨ c = 10)
    (heol : skipCRLF b v = (e, crl, .ok)) : (parseFLine b o {}).2.2.request = true := by
  rw [parseFLine_request b o m u v e crl hfit hlen hnr hm hm0 hsp1 hu hu0 hsp2 hv hv0 hend hc heol]
  rfl

theorem status_line (b : Buf) (o v e crl l : Nat) (hfit : b.size ≤ 65535) (hlen : ¬ b.size - o < 14)
    (hpre : bcPrefix sipVerSP (b.extract o (o + 8)).toList = (l, true))
    {d0 d1 d2 : UInt8} (h0 : b[o + 8]? = some d0) (h1 : b[o + 9]? = some d1) (h2 : b[o + 10]? = some d2)
    (hd0 : isDigit d0 = true) (hd1 : isDigit d1 = true) (hd2 : isDigit d2 = true)
    (hsp : b[o + 11]? = some 32)
    (hr : LineRun b (o + 12) v) (hv0 : o + 12 ≤ v) {c : UInt8} (hend : b[v]? = some c) (hc : c = 13 ∨ c = 10)
    (heol : skipCRLF b v = (e, crl, .ok)) :
    parseFLine b o {} =
      (e, .ok, { version := ⟨o, 7⟩, statusCode := ⟨o + 8, 3⟩,
                 status := (d0.toNat - 48) * 100 + (d1.toNat - 48) * 10 + (d2.toNat - 48),
                 reason := ⟨o + 12, v - (o + 12)⟩, state := .fin }) :=
  parseFLine_reply b o v e crl l hfit hlen hpre h0 h1 h2 hd0 hd1 hd2 hsp hr hv0 hend hc heol

/-- `bytescase.Prefix` on a string at least as long as the prefix: byte by byte, up to letter case -/
theorem prefixAux_iff (p s : List UInt8) (i : Nat) (hl : p.length ≤ s.length) :
    (prefixAux p s i).2 = true ↔ ∀ k (hk : k < p.length), eqFold (s[k]'(by omega)) p[k] = true := by
  rw [(prefixAux_spec p s i hl).1]
  unfold lowerL
  constructor
  · intro h k hk
    have := congrArg (·[k]?) h
    simp only [List.getElem?_map, List.getElem?_take, hk, ↓reduceIte, List.getElem?_eq_getElem (show k < s.length by omega),
      List.getElem?_eq_getElem hk, Option.map_some, Option.some.injEq] at this
    rw [eqFold_iff, this, beq_self_eq_true]
  · intro h
    apply List.ext_getElem (by simp; omega)
    intro k h1 h2
    simp only [List.length_map] at h2
    have := h k h2
    rw [eqFold_iff, beq_iff_eq] at this
    simp only [List.getElem_map, List.getElem_take, this]

/-- the version test: the eight bytes equal `SIP/2.0 SP` up to letter case -/
theorem version_prefix_iff (s : List UInt8) (hs : s.length = 8) :
    (bcPrefix sipVerSP s).2 = true ↔ ∀ k (hk : k < 8), eqFold (s[k]'(by omega)) (sipVerSP[k]'(by simpa [sipVerSP] using hk)) = true := by
  unfold bcPrefix
  rw [if_neg (by rw [hs]; decide)]
  exact prefixAux_iff sipVerSP s 0 (by rw [hs]; decide)

theorem reject_bad_separator (b : Buf) (o m : Nat) (hlen : ¬ b.size - o < 14)
    (hnr : (bcPrefix sipVerSP (b.extract o (o + 8)).toList).2 = false)
    (hm : TokenRun b o m) (hm0 : o ≤ m) {c : UInt8} (hsep : b[m]? = some c) (hc : c = 9 ∨ c = 13 ∨ c = 10) :
    (parseFLine b o {}).2.1 = .badChar ∧ (parseFLine b o {}).1 = m :=
  parseFLine_reject_sep1 b o m hlen hnr hm hm0 hsep hc

theorem reject_double_space (b : Buf) (o m : Nat) (hfit : b.size ≤ 65535) (hlen : ¬ b.size - o < 14)
    (hnr : (bcPrefix sipVerSP (b.extract o (o + 8)).toList).2 = false)
    (hm : TokenRun b o m) (hm0 : o < m) (hsp1 : b[m]? = some 32) (hsp2 : b[m + 1]? = some 32) :
    (parseFLine b o {}).2.1 = .badChar :=
  parseFLine_reject_empty_uri b o m hfit hlen hnr hm hm0 hsp1 hsp2

theorem reject_bad_status (b : Buf) (o l : Nat) (hlen : ¬ b.size - o < 14)
    (hpre : bcPrefix sipVerSP (b.extract o (o + 8)).toList = (l, true))
    {d0 d1 d2 sp : UInt8} (h0 : b[o + 8]? = some d0) (h1 : b[o + 9]? = some d1) (h2 : b[o + 10]? = some d2)
    (hsp : b[o + 11]? = some sp)
    (hbad : sp ≠ 32 ∨ isDigit d0 = false ∨ isDigit d1 = false ∨ isDigit d2 = false) :
    (parseFLine b o {}).2.1 = .badChar :=
  parseFLine_reject_status b o l hlen hpre h0 h1 h2 hsp hbad

/-! ### non-vacuity -/
example : (parseFLine "INVITE sip:a@b SIP/2.0\r\nX".toUTF8.data 0 {}).2.1 = Err.ok := by decide +kernel
example : (parseFLine "sip/2.0 486 Busy Here\nX".toUTF8.data 0 {}).2.2.status = 486 := by decide +kernel
example : (parseFLine "INVITE  sip:a@b SIP/2.0\r\nX".toUTF8.data 0 {}).2.1 = Err.badChar := by decide +kernel

/-! ### soundness for ALL inputs: accepted => a line of the grammar, never mis-split (proved in `Sipsp.Proofs.FLineSound`) -/

/-- **soundness (C08, converse of `parseFLine_request` / `parseFLine_reply`)**: if ParseFLine says OK on a new object
    then the consumed text `b[o, e)` is an instance of one of the two grammars and the reported object is exactly
    the one made of its components -/
theorem sound : type_of% @Sipsp.parseFLine_sound := @Sipsp.parseFLine_sound

/-- **OK iff grammar**, verdict only -/
theorem ok_iff : type_of% @Sipsp.fline_ok_iff := @Sipsp.fline_ok_iff

/-- **OK iff grammar**: on a new object ParseFLine returns OK with next-line offset `e` iff the text at `o` is a request
    line or a status line ending at `e` (both predicates contain the 14-byte look-ahead rule) -/
theorem ok_iff_at : type_of% @Sipsp.fline_ok_iff_at := @Sipsp.fline_ok_iff_at

/-- **never mis-split**: whenever the verdict is OK on a new object, the reported spans tile the line.
    Request shape: method, uri, version are three non-empty spans without SP / HT / CR / LF, the method starts at
    `o`, each next span starts exactly one byte (an SP) after the previous one, the line end follows the version
    directly, and the reply fields stay untouched.
    Reply shape: the version is the 7 bytes at `o` (no SP / HT / CR / LF) followed by one SP, the status code is
    three digits followed by one SP, the reason is a possibly empty span without CR / LF directly followed by the
    line end, and the request fields stay untouched. -/
theorem never_missplit : type_of% @Sipsp.fline_never_missplit := @Sipsp.fline_never_missplit

/-- fewer than 14 bytes available: MoreBytes, never OK, nothing touched -/
theorem short_input : type_of% @Sipsp.fs_short := @Sipsp.fs_short

/-- the reported status is the decimal value of the three digits: between 0 and 999, and 0 only for `000` -/
theorem status_value : type_of% @Sipsp.fs_status_value := @Sipsp.fs_status_value

/-- **request vs reply**: after an OK verdict on a new object `Request()` is true exactly for the request lines -/
theorem request_iff : type_of% @Sipsp.fline_request_iff := @Sipsp.fline_request_iff

/-- a non-zero status means a status line, and the status is the value of its digits -/
theorem reply_of_status : type_of% @Sipsp.fline_reply_of_status := @Sipsp.fline_reply_of_status

/-- **classification**: on a new object, for every buffer and offset, exactly these three things can happen —
    OK and the text at `o` is a line of the grammar; MoreBytes and the buffer was exhausted (or is shorter than the
    14-byte look-ahead); BadChar and the text at `o` is not a line of the grammar -/
theorem classify : type_of% @Sipsp.fline_classify := @Sipsp.fline_classify

/-- on a new object ParseFLine answers OK, MoreBytes or BadChar, nothing else (in particular never NoCR: the line
    end is only looked for at a CR / LF or at the end of the buffer) -/
theorem verdicts : type_of% @Sipsp.fs_verdicts := @Sipsp.fs_verdicts

/-- `method SP uri SP version` followed by SP or HT instead of the line end (e.g. a fourth space-separated token):
    BadChar at that byte -/
theorem reject_after_version : type_of% @Sipsp.fs_reject_after_version := @Sipsp.fs_reject_after_version

theorem request_unique : type_of% @Sipsp.fs_req_unique := @Sipsp.fs_req_unique

theorem status_unique : type_of% @Sipsp.fs_status_unique := @Sipsp.fs_status_unique

/-- the two grammars exclude each other -/
theorem request_not_status : type_of% @Sipsp.fs_req_not_status := @Sipsp.fs_req_not_status

/-- **soundness for resumed objects**: an OK verdict — also when it comes after any number of MoreBytes rounds — means
    that the text at the original offset `o` of the final buffer is a line of one of the two grammars, and the
    object holds exactly its components -/
theorem sound_resumed : type_of% @Sipsp.parseFLine_sound_resumed := @Sipsp.parseFLine_sound_resumed

/-- resuming gives what a single call on the whole buffer gives (from the L2 theorem `parseFLine_resume`) -/
theorem resumed_eq_oneshot : type_of% @Sipsp.fs_resumed_eq := @Sipsp.fs_resumed_eq

/-- … and `Request()` is false exactly for the status lines, whatever their code (000 included) -/
theorem reply_iff : type_of% @Sipsp.fline_reply_iff := @Sipsp.fline_reply_iff

end Sipsp.C08
