/-
  Property C09 — name-addr values (From / To / Contact / P-Asserted-Identity) are decomposed as written.

  The grammar (`Sipsp.Proofs.NameAddrSpec`, predicates over buffer positions):
    value   =  [display-name] "<" uri ">" [LWS] *( ";" param )  end          (`AddrPrefix`, `Run isURIch`)
            |  bare-uri [LWS] *( ";" param )  end                            (`isTok1`, `Run isTokch`)
    display-name = quoted-string name-tail | token [LWS name-tail]           (`AddrPrefix`, `NameTail`)
    name-tail    = *( token-byte | LWS | quoted-string )                      up to the "<"
    param   =  [LWS] name [ [LWS] "=" [LWS] value ] [LWS]                    (`ParamAt`, `PList`)
    value   =  1*( value-byte | quoted-string )                              (`PVal`)
    quoted-string = DQUOTE *( byte | "\" byte | LWS ) DQUOTE                 (`NaQBody`)
    end     =  [LWS] line-end not followed by SP / HT    -> verdict OK, offset after the line end
            |  [LWS] ","  (header kinds with several values: Contact, P-Asserted-Identity, …)
                                                          -> verdict "more values", offset after the comma   (`Term`)
  LWS = spaces, tabs and folds (`Lws`); line end = CR LF, lone CR or lone LF (`Eol`); names, URIs, values, quoted
  strings of ANY length and content within the byte classes `isURIch`, `isQch` (exactly the "ordinary byte" branches of
  the automaton in those states) and `isTokch`, `isPNch`, `isPVch` (the "ordinary byte" branches minus the comma).

  Proved for ALL buffers within the 65,535-byte limit, ALL offsets, ALL header kinds `h`, ALL values of that grammar,
  parsed into a new object:
  * `bracket_form`, `bracket_form_params`, `bare_uri`, `bare_uri_params`: ParseNameAddrPVal returns the verdict and
    offset of the end (`Term`), and the object is exactly `naResult`:
      Name   = from the first byte of the display name up to the "<" (quotes AND the white space in front of "<"
               included — this is what the code reports), empty when there is no display name;
      URI    = the text between "<" and ">" (brackets excluded), resp. the bare URI;
      Params = from the first byte of the first parameter name to the last byte of the last parameter (trailing
               white space excluded), empty when there are none;
      V      = from the first byte of the value ("<", the opening quote or the first token byte) to ">" resp. to the
               last byte of the last parameter;
      Type   = h; state finished; Tag / LR / Expires / Q / parameter error = `accAll` of the parameters, in order;
      parameters after a bare URI are header parameters (same treatment as after "<uri>").
  * `angle_uri_only`, `angle_uri_tag`, `quoted_name`, `token_name`: the simple shapes spelled out.
  * `param_flag`, `param_valued`, `param_tag`, `param_expires`, `param_lr`, `param_other`: what one parameter does:
    `tag=v` sets Tag to the value as written; `expires=digits` sets Expires to the decimal value saturated at 2^32-1
    (any number of digits) and the has-expires flag; `lr` (with or without value) sets the LR flag; names are compared
    case-insensitively (`cmpEqL`, see `Sipsp.cmpEqL_iff`); any other parameter leaves the object alone; the last
    occurrence of `tag` wins (`accAll` is a left fold).
  * `param_q_frac`, `param_q_int`: `q=int[.frac]` with at most three fraction digits and value at most 1 sets Q to the
    value in thousandths (`qValue`), e.g. 0.5 -> 500, 1.0 -> 1000, 0.25 -> 250.
  * `leading_lws`: linear white space in front of a value is skipped (every theorem above then applies at the first
    byte); `value_parse`: the four forms as one predicate `NAValue` (leading white space included).
  * `star_value`: `*` [LWS] line end sets the star indicator, URI = V = the `*`; `star_comma_rejected`.
  * `comma_inside_uri`, `comma_inside_quotes`: a comma between "<" and ">" or inside a quoted string is an ordinary
    byte of the grammar: values are split only at a comma in `Term` position.
  * Comma-separated lists (`ValList`: every value but the last ends with [LWS] ",", the last with the line end):
    `contact_values` / `pai_values`: ParseAllContactValues / ParseAllPAIValues return OK, the offset after the line
    end and the object `acceptAll` of the values in order, for ANY capacity of the caller's Contact array (the PAI
    array has two slots) (`new_contacts_ok`, `new_pais_ok`: a new object qualifies); `contact_count` / `pai_count`: N
    counts every value, also those beyond the array; `contact_stored`: the stored values are the values of the header, in order; `contact_max_expires`,
    `contact_min_expires`: maximum / minimum of the Expires fields of ALL values (minimum starting from 2^32-1).
  * `field_text`: a reported span `⟨i, j - i⟩` inside the buffer dereferences to the bytes `[i, j)`.
  * Further shapes (`Sipsp.Proofs.NameAddrSpec`, `Sipsp.Proofs.NameAddrSpec2`): `q_any_text`, `q_ok_iff`, `param_q_any`: EVERY value text of a `q`
    parameter, of any length: exactly the texts digits[.≤3 digits] with value ≤ 1 (`NqQText`; the code also takes an
    empty integer part and leading zeros: `.5` -> 500, `001` -> 1000) set Q to the value in thousandths, every other
    text leaves Q unset and sets the parameter-error indication; `bracket_params_general`, `bare_params_general`,
    `trailing_semicolon_uri`, `trailing_semicolon_params`, `empty_param_value`: a trailing ";", empty parameters ";;"
    and `name=` with an empty value are accepted (empty value = no value: only `lr` is recognised), the reported
    spans run up to and including the trailing ";" / "="; rejections with verdict and offset for the general shapes:
    `reject_uri_unterminated` (line end / second "<" inside the brackets -> bad character at that byte),
    `reject_name_quote_unterminated`, `reject_name_quote_esc_crlf`, `reject_name_without_uri`,
    `reject_param_name_bad`, `reject_param_value_bad`, `reject_param_quote_unterminated`; `empty_uri_accepted`
    (`<>` gives an empty URI span); `bytes_after_bracket_skipped(_params)`: after ">" every byte other than ";",
    LWS and (multi-valued kinds) "," is skipped; `single_valued_comma_ignored`: for From / To a comma after the
    value is NOT a separator (`From: <sip:a@b>, <sip:c@d>` is reported exactly like `<sip:a@b>` alone);
    `bare_uri_comma`, `single_valued_comma_after_ws_rejected`.
  * Several header lines of one message (`Sipsp.Proofs.HdrTyped`): `contact_lines_hno`, `contact_lines_n`,
    `contact_lines_stored`, `contact_lines_max_expires`, `contact_lines_min_expires`: after any number of Contact
    lines (each a `ValList`) parsed with one values object, HNo = number of lines, N = total number of values, the
    stored values are all values in order up to the capacity, max / min expires range over all of them;
    `block_contacts`: the same for the Contact / PAI lines of a header block parsed by ParseHeaders, whatever headers
    stand between them; `pai_lines_hno`, `pai_lines_n`.
  * The converse of the splitting clause, for ALL inputs (`Sipsp.Proofs.NaSplit`; "top level" = the automaton's own
    notion, a 9-mode byte scanner `NsTop`): `value_ends_at_first_top_comma` (verdict "more values" ⇒ the byte before the
    returned offset is a comma at top level and NO top-level comma occurs before it), `value_ok_no_top_comma` (OK ⇒
    the offset follows a line end not followed by SP / HT, and for multi-valued kinds the value has no top-level
    comma), `single_valued_never_more_values` (From / To never answer "more values", any object, any state);
    `contact_list_segments`, `pai_list_segments`, `contact_count_is_commas`, `pai_count_is_commas`,
    `contact_list_converse`, `pai_list_converse`: after OK the header value is cut at exactly its top-level commas,
    N = 1 + their number for every capacity, the stored values are the value parser's reports for the first pieces in
    order, min / max expires range over all pieces; `value_span_end`, `value_span_start`.
    Where the automaton's "top level" differs from "outside quotes and outside <…>" (each shown by a test):
    a `"` inside `<…>`, after `>` or inside a parameter NAME is an ordinary byte (`<sip:"a>,b` splits at the comma),
    a `<` after `>` is ordinary; a `"` inside a bare URI or name token does open a quoted string.
  * Stored values of several P-Asserted-Identity lines (`Sipsp.Proofs.PaiLines`): `pai_lines_stored`, `pai_lines_more`,
    `pai_lines_get`, `pai_new_lines`, `block_pais`: after any number of PAI lines with one values object the stored
    identities are the first values of ALL lines in order (two slots), `More()` ⇔ N > 2, `GetPAI 0 / 1` return them, nil
    beyond — also inside ParseHeaders blocks, whatever headers stand between the lines; `value_nonempty`: whenever
    ParseNameAddrPVal says OK / "more values" the reported value V has at least one byte (every input).
  The converse over EVERY CHUNK SCHEDULE (`Sipsp.Proofs.ResumedConverse`): `value_ends_at_first_top_comma_schedule`,
  `value_ok_no_top_comma_schedule`, `single_valued_never_more_values_schedule`, `contact_list_converse_schedule`,
  `pai_list_converse_schedule`, `*_list_segments_schedule`: a chain of resumed calls over growing prefixes ends in the
  triple of one call on the last prefix, so every statement above holds for it; and, for every input, WHICH values
  each line contributes: `line_lists` (an accepted Contact / PAI line hands the list exactly the value parser's reports
  for the pieces of the text after the colon cut at its top-level commas; any other line leaves both lists unchanged),
  `block_lists`, `msg_lists(_init)`, and the same after every chunk schedule (`*_lists_schedule*`).
  NOT proved here (oracle / correspondence only): chains whose first call starts inside a value; commas inside
  parameter names / unquoted values for From / To in general (ordinary bytes, except that a leading comma is dropped);
  the partial object left behind by the parameter-level rejections; value lists whose values use the trailing-";" /
  junk-after-">" shapes.  Model tied to parse_from.go / parse_contact.go / parse_pai.go by the correspondence check.
  Scope notes: the `_init` / `_schedule_init` / `_schedule_whole` message-level theorems take the object of `Init` over
  ZERO-VALUED caller arrays (a stale finished contact slot changes the parse: it is reported as the first contact — a
  test in `Sipsp.Proofs.AuditFixB`); they drop the explicit first-line conjunct of `msg_lists` (the first-line offset is then fixed only through
  the header block; `msg_lists_*_fl` keep it); in `RcLine` the colon position of the event is not tied to the one of
  `HsNameAt` (harmless: a wrong colon is refuted by the value clause); `pai_lines_stored / _more / _get /
  pai_new_lines` are statements about the fold `htLines` and become statements about the parser through `block_pais`
  and `msg_lists_init`.
-/
import Sipsp.Proofs.NameAddrSpec
import Sipsp.Proofs.NameAddrSpec2
import Sipsp.Proofs.HdrTyped
import Sipsp.Proofs.NaSplit
import Sipsp.Proofs.PaiLines
import Sipsp.Proofs.ResumedConverse

namespace Sipsp.C09
open Sipsp

/-! ### the general theorems -/

/-- `[display-name] <uri>` followed by the end of the value -/
theorem bracket_form (h : Nat) (b : Buf) (o a g o' : Nat) (e' : Err) (nm : PField) (hfit : b.size ≤ 65535)
    (hp : AddrPrefix b o nm a) (hu : Run isURIch b (a + 1) g) (hag : a + 1 ≤ g) (hg : b[g]? = some 62)
    (T : Term h b (g + 1) o' e') :
    parseNameAddrPVal h b o {} = (o', e', naResult h nm ⟨a + 1, g - (a + 1)⟩ {} ⟨o, g + 1 - o⟩ {}) :=
  parseNameAddr_bracket h b o a g o' e' nm hfit hp hu hag hg T

/-- `[display-name] <uri> [LWS] ;param ;param …` followed by the end of the value -/
theorem bracket_form_params (h : Nat) (b : Buf) (o a g m w o' : Nat) (e' : Err) (nm : PField) (L : List PSpan)
    (hfit : b.size ≤ 65535) (hp : AddrPrefix b o nm a) (hu : Run isURIch b (a + 1) g) (hag : a + 1 ≤ g)
    (hg : b[g]? = some 62) (hl : Lws b (g + 1) m) (hm : b[m]? = some 59) (hL : PList b (m + 1) L w)
    (T : Term h b w o' e') :
    parseNameAddrPVal h b o {} =
      (o', e', naResult h nm ⟨a + 1, g - (a + 1)⟩ ⟨firstPs 0 L, w - firstPs 0 L⟩ ⟨o, w - o⟩ (accAll b L {})) :=
  parseNameAddr_bracket_params h b o a g m w o' e' nm L hfit hp hu hag hg hl hm hL T

/-- a bare URI followed by the end of the value -/
theorem bare_uri (h : Nat) (b : Buf) (o t o' : Nat) (e' : Err) (hfit : b.size ≤ 65535) {c : UInt8}
    (hc : b[o]? = some c) (h1 : isTok1 c = true) (hr : Run isTokch b (o + 1) t) (hot : o + 1 ≤ t)
    (T : Term h b t o' e') :
    parseNameAddrPVal h b o {} = (o', e', naResult h {} ⟨o, t - o⟩ {} ⟨o, t - o⟩ {}) :=
  parseNameAddr_bare h b o t o' e' hfit hc h1 hr hot T

/-- a bare URI with parameters: they are header parameters -/
theorem bare_uri_params (h : Nat) (b : Buf) (o t m w o' : Nat) (e' : Err) (L : List PSpan)
    (hfit : b.size ≤ 65535) {c : UInt8} (hc : b[o]? = some c) (h1 : isTok1 c = true)
    (hr : Run isTokch b (o + 1) t) (hot : o + 1 ≤ t) (hl : Lws b t m) (hm : b[m]? = some 59)
    (hL : PList b (m + 1) L w) (T : Term h b w o' e') :
    parseNameAddrPVal h b o {} =
      (o', e', naResult h {} ⟨o, t - o⟩ ⟨firstPs 0 L, w - firstPs 0 L⟩ ⟨o, w - o⟩ (accAll b L {})) :=
  parseNameAddr_bare_params h b o t m w o' e' L hfit hc h1 hr hot hl hm hL T

/-- the verdict is OK or "more values", as the end of the value says -/
theorem end_verdict {h : Nat} {b : Buf} {w o' : Nat} {e' : Err} (T : Term h b w o' e') :
    (e' = .ok ∧ ∃ p, Lws b w p ∧ Eol b p o') ∨
    (e' = .moreValues ∧ multipleValsOk h = true ∧ ∃ m, Lws b w m ∧ b[m]? = some 44 ∧ o' = m + 1) := by
  rcases T with ⟨p, e, c2, hl, he, _, _⟩ | ⟨m, hl, hm, hmv⟩
  · exact Or.inl ⟨rfl, p, hl, he⟩
  · exact Or.inr ⟨rfl, hmv, m, hl, hm, rfl⟩

/-! ### the simple shapes -/

/-- (1) `<uri>` alone, then CR LF (or a lone CR / LF) and a byte that is not SP / HT -/
theorem angle_uri_only (h : Nat) (b : Buf) (o g e : Nat) (hfit : b.size ≤ 65535) (h0 : b[o]? = some 60)
    (hu : Run isURIch b (o + 1) g) (hog : o + 1 ≤ g) (hg : b[g]? = some 62) (he : Eol b (g + 1) e) {c2 : UInt8}
    (h2 : b[e]? = some c2) (hw2 : isWS c2 = false) :
    parseNameAddrPVal h b o {} =
      (e, .ok, { uri := ⟨o + 1, g - (o + 1)⟩, v := ⟨o, g + 1 - o⟩, type := h, state := .fin }) :=
  parseNameAddr_bracket h b o o g e .ok {} hfit (.none h0) hu hog hg (.eol (g + 1) e c2 (Lws.nil _) he h2 hw2)

/-- (2) `<uri>;tag=value` (name `tag` in any letter case, value of value bytes), then the line end -/
theorem angle_uri_tag (h : Nat) (b : Buf) (o g eq ve e : Nat) (hfit : b.size ≤ 65535) (h0 : b[o]? = some 60)
    (hu : Run isURIch b (o + 1) g) (hog : o + 1 ≤ g) (hg : b[g]? = some 62) (hsemi : b[g + 1]? = some 59)
    (hn : Run isPNch b (g + 2) eq) (hne : g + 2 < eq) (htag : cmpEqL (b.extract (g + 2) eq) sTag = true)
    (heq : b[eq]? = some 61) {c : UInt8} (hv0 : b[eq + 1]? = some c) (hc : isPVch c = true)
    (hv : PValTail b (eq + 2) ve) (he : Eol b ve e) {c2 : UInt8} (h2 : b[e]? = some c2) (hw2 : isWS c2 = false) :
    parseNameAddrPVal h b o {} =
      (e, .ok, { uri := ⟨o + 1, g - (o + 1)⟩, params := ⟨g + 2, ve - (g + 2)⟩, tag := ⟨eq + 1, ve - (eq + 1)⟩,
                 v := ⟨o, ve - o⟩, type := h, state := .fin }) := by
  have hle := hv.le
  have hsz : ve < b.size := by obtain ⟨c0, hc0, _⟩ := he.first; exact get?_lt hc0
  have hL : PList b (g + 1 + 1) [⟨g + 2, eq, eq + 1, ve⟩] ve :=
    .last _ _ _ (.val (g + 2) eq eq (eq + 1) ve (Lws.nil _) hn hne (Lws.nil _) heq (Lws.nil _) (Or.inl ⟨c, hv0, hc, hv⟩))
  rw [parseNameAddr_bracket_params h b o o g (g + 1) ve e .ok {} _ hfit (.none h0) hu hog hg (Lws.nil _) hsemi hL
    (.eol ve e c2 (Lws.nil _) he h2 hw2)]
  rw [accAll_cons, accAll_nil, paramEffect_tag b (g + 2) eq (eq + 1) ve {} hne (by omega) (by omega) (by omega) hfit htag]
  rfl

/-- (3a) `"name" <uri>`: the reported name runs from the opening quote to the byte before `<` -/
theorem quoted_name (h : Nat) (b : Buf) (o k a g o' : Nat) (e' : Err) (hfit : b.size ≤ 65535) (h0 : b[o]? = some 34)
    (hq : NaQBody b (o + 1) k) (hl : Lws b (k + 1) a) (ha : b[a]? = some 60) (hu : Run isURIch b (a + 1) g)
    (hag : a + 1 ≤ g) (hg : b[g]? = some 62) (T : Term h b (g + 1) o' e') :
    parseNameAddrPVal h b o {} =
      (o', e', { name := ⟨o, a - o⟩, uri := ⟨a + 1, g - (a + 1)⟩, v := ⟨o, g + 1 - o⟩, type := h, state := .fin }) := by
  have hle := hl.le
  have ht : NameTail b (k + 1) a := by
    by_cases h1 : k + 1 < a
    · exact .lws _ a a 60 hl h1 ha (by decide) (.done a ha)
    · have : k + 1 = a := by omega
      rw [this]; exact .done a ha
  exact parseNameAddr_bracket h b o a g o' e' _ hfit (.quoted k a h0 hq ht) hu hag hg T

/-- (3b) `name <uri>` / `name<uri>`: the reported name runs from its first byte to the byte before `<` -/
theorem token_name (h : Nat) (b : Buf) (o t a g o' : Nat) (e' : Err) (hfit : b.size ≤ 65535) {c : UInt8}
    (h0 : b[o]? = some c) (h1 : isTok1 c = true) (hr : Run isTokch b (o + 1) t) (hot : o + 1 ≤ t) (hl : Lws b t a)
    (ha : b[a]? = some 60) (hu : Run isURIch b (a + 1) g) (hag : a + 1 ≤ g) (hg : b[g]? = some 62)
    (T : Term h b (g + 1) o' e') :
    parseNameAddrPVal h b o {} =
      (o', e', { name := ⟨o, a - o⟩, uri := ⟨a + 1, g - (a + 1)⟩, v := ⟨o, g + 1 - o⟩, type := h, state := .fin }) := by
  have hle := hl.le
  by_cases h2 : t < a
  · exact parseNameAddr_bracket h b o a g o' e' _ hfit
      (.token t a a c 60 h0 h1 hr hot hl h2 ha (by decide) (by decide) (.done a ha)) hu hag hg T
  · have : t = a := by omega
    subst this
    exact parseNameAddr_bracket h b o t g o' e' _ hfit (.tokenLt t c h0 h1 hr hot ha) hu hag hg T

/-! ### what one parameter does (`accAll` folds these over the list, first to last) -/

theorem param_flag (b : Buf) (ps pe : Nat) (a : PAcc) (h1 : ps < pe) (h3 : pe ≤ b.size) :
    paramEffect b ps pe 0 0 a = if cmpEqL (b.extract ps pe) sLr then { a with lr := true } else a :=
  paramEffect_empty b ps pe 0 a h1 h3

theorem param_valued (b : Buf) (ps pe vs ve : Nat) (a : PAcc) (h1 : ps < pe) (h2 : vs < ve) (h3 : pe ≤ b.size)
    (h4 : ve ≤ b.size) :
    paramEffect b ps pe vs ve a =
      if cmpEqL (b.extract ps pe) sTag then { a with tag := PField.set vs ve }
      else if cmpEqL (b.extract ps pe) sExpires then
        (setExpires { (({} : PFromBody).withAcc a) with pstart := ps, pend := pe, vstart := vs, vend := ve }
          (b.extract vs ve).toList).acc
      else if cmpEqL (b.extract ps pe) sQ then
        (setQ { (({} : PFromBody).withAcc a) with pstart := ps, pend := pe, vstart := vs, vend := ve }
          (b.extract vs ve).toList).acc
      else if cmpEqL (b.extract ps pe) sLr then { a with lr := true }
      else a :=
  paramEffect_valued b ps pe vs ve a h1 h2 h3 h4

theorem param_tag (b : Buf) (ps pe vs ve : Nat) (a : PAcc) (h1 : ps < pe) (h2 : vs < ve) (h3 : pe ≤ b.size)
    (h4 : ve ≤ b.size) (hfit : b.size ≤ 65535) (hn : cmpEqL (b.extract ps pe) sTag = true) :
    paramEffect b ps pe vs ve a = { a with tag := ⟨vs, ve - vs⟩ } :=
  paramEffect_tag b ps pe vs ve a h1 h2 h3 h4 hfit hn

theorem param_expires (b : Buf) (ps pe vs ve : Nat) (a : PAcc) (h1 : ps < pe) (h2 : vs < ve) (h3 : pe ≤ b.size)
    (h4 : ve ≤ b.size) (hn : cmpEqL (b.extract ps pe) sExpires = true) (hd : AllDigits (b.extract vs ve).toList) :
    paramEffect b ps pe vs ve a =
      { a with hasExpires := true, expires := min (decOf (b.extract vs ve).toList) 4294967295 } :=
  paramEffect_expires b ps pe vs ve a h1 h2 h3 h4 hn hd

theorem param_lr (b : Buf) (ps pe vs ve : Nat) (a : PAcc) (h1 : ps < pe) (h2 : vs < ve) (h3 : pe ≤ b.size)
    (h4 : ve ≤ b.size) (hn : cmpEqL (b.extract ps pe) sLr = true) :
    paramEffect b ps pe vs ve a = { a with lr := true } :=
  paramEffect_lr b ps pe vs ve a h1 h2 h3 h4 hn

theorem param_other (b : Buf) (ps pe vs ve : Nat) (a : PAcc) (h1 : ps < pe) (h2 : vs < ve) (h3 : pe ≤ b.size)
    (h4 : ve ≤ b.size) (n1 : cmpEqL (b.extract ps pe) sTag = false) (n2 : cmpEqL (b.extract ps pe) sExpires = false)
    (n3 : cmpEqL (b.extract ps pe) sQ = false) (n4 : cmpEqL (b.extract ps pe) sLr = false) :
    paramEffect b ps pe vs ve a = a :=
  paramEffect_other b ps pe vs ve a h1 h2 h3 h4 n1 n2 n3 n4

/-! ### commas inside angle brackets and quotes do not split -/

theorem comma_inside_uri : isURIch 44 = true := by decide
theorem comma_inside_quotes : isQch 44 = true := by decide

/-! ### the `q` value -/

theorem param_q_frac (b : Buf) (ps pe vs ve : Nat) (a : PAcc) (h1 : ps < pe) (h2 : vs < ve) (h3 : pe ≤ b.size)
    (h4 : ve ≤ b.size) (hn : cmpEqL (b.extract ps pe) sQ = true) (ip fp : List UInt8)
    (hv : (b.extract vs ve).toList = ip ++ 46 :: fp) (hi : AllDigits ip) (hf : AllDigits fp) (hl : fp.length ≤ 3)
    (hu : decOf ip ≤ 1) (hone : decOf ip = 1 → decOf fp = 0) :
    paramEffect b ps pe vs ve a = { a with q := qValue ip fp } :=
  paramEffect_q_frac b ps pe vs ve a h1 h2 h3 h4 hn ip fp hv hi hf hl hu hone

theorem param_q_int (b : Buf) (ps pe vs ve : Nat) (a : PAcc) (h1 : ps < pe) (h2 : vs < ve) (h3 : pe ≤ b.size)
    (h4 : ve ≤ b.size) (hn : cmpEqL (b.extract ps pe) sQ = true) (hi : AllDigits (b.extract vs ve).toList)
    (hu : decOf (b.extract vs ve).toList ≤ 1) :
    paramEffect b ps pe vs ve a = { a with q := decOf (b.extract vs ve).toList * 1000 } :=
  paramEffect_q_int b ps pe vs ve a h1 h2 h3 h4 hn hi hu

/-! ### leading white space, the four forms as one predicate, `*` -/

theorem leading_lws (h : Nat) (b : Buf) (o0 o : Nat) (hl : Lws b o0 o) {c : UInt8} (hc : b[o]? = some c)
    (hcl : isLWSch c = false) : parseNameAddrPVal h b o0 {} = parseNameAddrPVal h b o {} :=
  parse_lead_lws h b hl hc hcl {} rfl

theorem value_parse (h : Nat) (b : Buf) (o0 o' : Nat) (e' : Err) (r : PFromBody) (H : NAValue h b o0 o' e' r)
    (hfit : b.size ≤ 65535) : parseNameAddrPVal h b o0 {} = (o', e', r) :=
  H.parse hfit

theorem star_value (h : Nat) (b : Buf) (o p e : Nat) (hfit : b.size ≤ 65535) (h0 : b[o]? = some 42)
    (hl : Lws b (o + 1) p) (he : Eol b p e) {c2 : UInt8} (h2 : b[e]? = some c2) (hw2 : isWS c2 = false) :
    parseNameAddrPVal h b o {} =
      (e, .ok, { star := true, uri := ⟨o, 1⟩, v := ⟨o, 1⟩, type := h, state := .fin }) :=
  parseNameAddr_star h b o p e hfit h0 hl he h2 hw2

theorem star_comma_rejected (h : Nat) (b : Buf) (o : Nat) (h0 : b[o]? = some 42) (h1 : b[o + 1]? = some 44) :
    (parseNameAddrPVal h b o {}).2.1 = .badChar :=
  parseNameAddr_star_comma h b o h0 h1

/-- a span inside the buffer dereferences to its bytes (Go: `f.Get(buf)` does not panic and returns `buf[i:j]`) -/
theorem field_text (b : Buf) (i j : Nat) (hij : i ≤ j) (hj : j ≤ b.size) (hfit : b.size ≤ 65535) :
    PField.get? b ⟨i, j - i⟩ = some (b.extract i j) := by
  rw [field_get? b i (j - i) (by omega) hfit]
  congr 2; omega

/-! ### comma-separated lists: Contact and P-Asserted-Identity -/

theorem contact_values (b : Buf) (hfit : b.size ≤ 65535) (o o' : Nat) (rs : List PFromBody)
    (H : ValList HdrContact b o rs o') (c : PContacts) (hc : CtClean c) (hcur : c.cur = {}) :
    parseAllContactValues b o c = (o', .ok, c.acceptAll rs) :=
  parseAllContactValues_list b hfit H c hc hcur

theorem new_contacts_ok (k : Nat) :
    CtClean ({ vals := Array.replicate k {} } : PContacts) ∧ ({ vals := Array.replicate k {} } : PContacts).cur = {} :=
  ct_new_ok k

theorem contact_count (c : PContacts) (rs : List PFromBody) : (c.acceptAll rs).n = c.n + rs.length :=
  ctAcceptAll_n c rs

theorem contact_stored (c : PContacts) (rs : List PFromBody) (k : Nat) (hk : k < rs.length)
    (hin : c.n + k < c.vals.size) : (c.acceptAll rs).vals[c.n + k]! = rs[k] :=
  ctAcceptAll_stored c rs k hk hin

theorem contact_max_expires (c : PContacts) (rs : List PFromBody) :
    (c.acceptAll rs).maxExpires = rs.foldl (fun m r => max m r.expires) c.maxExpires :=
  ctAcceptAll_maxE c rs

theorem contact_min_expires (c : PContacts) (rs : List PFromBody) (hne : rs ≠ []) :
    (c.acceptAll rs).minExpires =
      rs.foldl (fun m r => min m r.expires) (if c.n == 0 then 4294967295 else c.minExpires) :=
  ctAcceptAll_minE c rs hne

theorem pai_values (b : Buf) (hfit : b.size ≤ 65535) (o o' : Nat) (rs : List PFromBody)
    (H : ValList HdrPAI b o rs o') (c : PPAIs) (hc : PaClean c) (hcur : c.cur = {}) :
    parseAllPAIValues b o c = (o', .ok, c.acceptAll rs) :=
  parseAllPAIValues_list b hfit H c hc hcur

theorem new_pais_ok : PaClean ({} : PPAIs) ∧ ({} : PPAIs).cur = {} := pa_new_ok

theorem pai_count (c : PPAIs) (rs : List PFromBody) : (c.acceptAll rs).n = c.n + rs.length :=
  paAcceptAll_n c rs

/-! ### non-vacuity and tests -/

/-- the hypotheses of `bracket_form_params` are satisfiable: `"A" <s:b>;tag=x;lr CR LF X` as a From value
    (quoted display name, white space before `<`, a valued and a value-less parameter) -/
example : parseNameAddrPVal HdrFrom "\"A\" <s:b>;tag=x;lr\r\nX".toUTF8.data 0 {} =
    (20, .ok, naResult HdrFrom ⟨0, 4⟩ ⟨5, 3⟩ ⟨10, 8⟩ ⟨0, 18⟩
      (accAll "\"A\" <s:b>;tag=x;lr\r\nX".toUTF8.data [⟨10, 13, 14, 15⟩, ⟨16, 18, 0, 0⟩] {})) := by
  have hq : NaQBody "\"A\" <s:b>;tag=x;lr\r\nX".toUTF8.data 1 2 := .ch 1 2 65 (by decide) (by decide) (.nil 2 (by decide))
  have ht : NameTail "\"A\" <s:b>;tag=x;lr\r\nX".toUTF8.data 3 4 :=
    .lws 3 4 4 60 (.ws 3 4 32 (by decide) (by decide) (.nil 4)) (by decide) (by decide) (by decide) (.done 4 (by decide))
  have hL : PList "\"A\" <s:b>;tag=x;lr\r\nX".toUTF8.data (9 + 1) [⟨10, 13, 14, 15⟩, ⟨16, 18, 0, 0⟩] 18 :=
    .cons 10 15 15 18 _ _
      (.val 10 13 13 14 15 (.nil 10) (run_of_check (by decide)) (by decide) (.nil 13) (by decide) (.nil 14)
        (Or.inl ⟨120, by decide, by decide, .nil 15⟩))
      (.nil 15) (by decide)
      (.last 16 18 _ (.flag 16 18 (.nil 16) (run_of_check (by decide)) (by decide)))
  exact bracket_form_params HdrFrom _ 0 4 8 9 18 20 .ok ⟨0, 4⟩ _ (by decide)
    (.quoted 2 4 (by decide) hq ht) (run_of_check (by decide)) (by decide) (by decide) (.nil 9) (by decide) hL
    (.eol 18 20 88 (.nil 18) (.crlf 18 (by decide) (by decide)) (by decide) (by decide))

/-- … and what `accAll` is on that instance (test by evaluation) -/
example : accAll "\"A\" <s:b>;tag=x;lr\r\nX".toUTF8.data [⟨10, 13, 14, 15⟩, ⟨16, 18, 0, 0⟩] {} =
    { tag := ⟨14, 1⟩, lr := true } := by decide +kernel

/-- the hypotheses of `contact_values` are satisfiable: `a:b,<c> CR LF X` — a bare URI ended by a comma and a
    bracketed URI ended by the line end — parsed into an array of capacity 1: two values counted, OK, offset 9 -/
example : (parseAllContactValues "a:b,<c>\r\nX".toUTF8.data 0 { vals := Array.replicate 1 {} }).1 = 9 ∧
    (parseAllContactValues "a:b,<c>\r\nX".toUTF8.data 0 { vals := Array.replicate 1 {} }).2.1 = .ok ∧
    (parseAllContactValues "a:b,<c>\r\nX".toUTF8.data 0 { vals := Array.replicate 1 {} }).2.2.n = 2 := by
  have v1 : NAValue HdrContact "a:b,<c>\r\nX".toUTF8.data 0 4 .moreValues
      (naResult HdrContact {} ⟨0, 3 - 0⟩ {} ⟨0, 3 - 0⟩ {}) :=
    Or.inr (Or.inr (Or.inl ⟨0, 3, 97, .nil 0, by decide, by decide, run_of_check (by decide), by decide,
      .comma 3 (.nil 3) (by decide) (by decide), rfl⟩))
  have v2 : NAValue HdrContact "a:b,<c>\r\nX".toUTF8.data 4 9 .ok
      (naResult HdrContact {} ⟨4 + 1, 6 - (4 + 1)⟩ {} ⟨4, 6 + 1 - 4⟩ {}) :=
    Or.inl ⟨4, 4, 6, {}, .nil 4, .none (by decide), run_of_check (by decide), by decide, by decide,
      .eol 7 9 88 (.nil 7) (.crlf 7 (by decide) (by decide)) (by decide) (by decide), rfl⟩
  have hlist := ValList.cons 0 4 9 _ _ v1 (.last 4 9 _ v2)
  have hnew := new_contacts_ok 1
  rw [contact_values _ (by decide) 0 9 _ hlist _ hnew.1 hnew.2]
  exact ⟨rfl, rfl, by rw [contact_count]; rfl⟩

/-- tests (evaluation of the model on concrete inputs, not proofs of the property): display name, commas and `;`
    inside the brackets, white space around `;` and `=`, upper-case `Q`, saturating expires, comma after the value -/
example : (parseNameAddrPVal HdrContact "Bob <sip:b@h;x=1,y> ; Q = 0.5 ;expires=4294967299, <z>\r\nX".toUTF8.data 0 {}) =
    (50, .moreValues, { name := ⟨0, 4⟩, uri := ⟨5, 13⟩, params := ⟨22, 27⟩, v := ⟨0, 49⟩, q := 500, hasExpires := true, expires := 4294967295, type := HdrContact, state := .fin }) := by
  decide +kernel

/-- test: bare URI, quoted tag value containing `;`, a fold before the line end -/
example : (parseNameAddrPVal HdrTo "sip:b@h;tag=\"a;b\"\r\n \r\nX".toUTF8.data 0 {}) =
    (22, .ok, { uri := ⟨0, 7⟩, params := ⟨8, 9⟩, tag := ⟨12, 5⟩, v := ⟨0, 17⟩, type := HdrTo, state := .fin }) := by
  decide +kernel

example : (parseNameAddrPVal HdrContact "*\r\nX".toUTF8.data 0 {}).2.2.star = true := by decide +kernel

/-! ### further shapes: every q text, trailing ';' and empty values, rejections, bytes after '>', commas in single-valued kinds (proved in `Sipsp.Proofs.NameAddrSpec`, `Sipsp.Proofs.NameAddrSpec2`) -/

/-- **the `q` value, every text**: either the text is a `q` text (`NqQText`: digits, optionally a dot and at most three
    digits, value at most 1 — the integer part may be empty or have leading zeros) and Q is set to its value in
    thousandths, nothing else changes; or it is not, Q is left alone and the parameter-error indication is set: one of
    "not a number", "too long", "bad value" with the offset of the START of the value — except for more than three bytes
    after the first dot: "too long" with the offset of the END of the value. -/
theorem q_any_text : type_of% @Sipsp.nq_setQ_total := @Sipsp.nq_setQ_total

/-- **iff**: on an object without a pending parameter error, `setQ` leaves the error indication clear exactly for the
    `q` texts -/
theorem q_ok_iff : type_of% @Sipsp.nq_setQ_ok_iff := @Sipsp.nq_setQ_ok_iff

/-- **`q=value`, every value**: lifted to the effect of the parameter on the object -/
theorem param_q_any : type_of% @Sipsp.nq_param_q_any := @Sipsp.nq_param_q_any

/-- **`[display-name] <uri> [LWS] ;` and ANY generalised parameter list** (`NqParams`: parameters with / without value,
    empty values `name=`, empty parameters `;;`, trailing `;`): accepted; the parameter span runs from the first byte of
    the first parameter name to `ve` (empty if there is no named parameter), the value from its first byte to `ve` -/
theorem bracket_params_general : type_of% @Sipsp.n2_bracket_params := @Sipsp.n2_bracket_params

/-- **bare URI `[LWS] ;` and ANY generalised parameter list**: they are header parameters -/
theorem bare_params_general : type_of% @Sipsp.n2_bare_params := @Sipsp.n2_bare_params

/-- `<uri> ;` and the line end: accepted, no parameters; the reported value INCLUDES the `;` -/
theorem trailing_semicolon_uri : type_of% @Sipsp.n2_uri_trailing_semi := @Sipsp.n2_uri_trailing_semi

/-- `<uri> ;params ;` and the line end: accepted; the reported parameter span and value INCLUDE the trailing `;` (and
    the white space in front of it) -/
theorem trailing_semicolon_params : type_of% @Sipsp.n2_params_trailing_semi := @Sipsp.n2_params_trailing_semi

/-- `<uri> ;name=` and the line end (an `=` without a value as the only parameter): accepted; the parameter acts like
    `;name` (only `lr` is recognised: `tag=`, `q=`, `expires=` set nothing and raise no error); the reported spans
    INCLUDE the `=` -/
theorem empty_param_value : type_of% @Sipsp.n2_empty_value := @Sipsp.n2_empty_value

/-- **unterminated `<` / a second `<`**: `[display-name] <` followed by URI bytes and then — instead of `>` — a space,
    a tab, a CR, a LF (the line end) or another `<`: verdict "bad character", the offset is that of the offending byte
    (inside the value), the object is left in the "inside the URI" state with only the display name recorded -/
theorem reject_uri_unterminated : type_of% @Sipsp.n3_uri_unterminated := @Sipsp.n3_uri_unterminated

/-- **empty URI `<>`**: NOT rejected — the value is accepted with an empty URI span (instance of the bracket form) -/
theorem empty_uri_accepted : type_of% @Sipsp.n3_empty_uri := @Sipsp.n3_empty_uri

/-- **unterminated quoted string in the display name**: a quote opens at `k` (at the start of the value or after name
    tokens / closed quoted strings) and the line ends before it is closed: verdict "bad header" (ErrHdrBad), the
    returned offset is the one after the line end (it is NOT the offset of the quote), nothing but the start of the
    value is recorded -/
theorem reject_name_quote_unterminated : type_of% @Sipsp.n3_name_quote_unterminated := @Sipsp.n3_name_quote_unterminated

/-- … and a backslash in front of the CR / LF inside it: "bad character" at the CR / LF -/
theorem reject_name_quote_esc_crlf : type_of% @Sipsp.n3_name_quote_esc_crlf := @Sipsp.n3_name_quote_esc_crlf

/-- **a display name that is never followed by `<uri>`** (`Bob sip:a@b`, `"Bob" sip:a@b`, … — two or more tokens /
    quoted strings and then the line end): verdict "bad header" (ErrHdrBad), offset after the line end -/
theorem reject_name_without_uri : type_of% @Sipsp.n3_name_without_uri := @Sipsp.n3_name_without_uri

/-- **`<` or `>` where a parameter name is expected or inside a parameter name** (after any number of well-formed
    parameters): "bad character" at that byte -/
theorem reject_param_name_bad : type_of% @Sipsp.n3_param_name_bad := @Sipsp.n3_param_name_bad

/-- **`=`, `<` or `>` inside (or in place of) a parameter value**: "bad character" at that byte -/
theorem reject_param_value_bad : type_of% @Sipsp.n3_param_value_bad := @Sipsp.n3_param_value_bad

/-- **unterminated quoted string in a parameter value** (the quote opens at `k`, at the start of the value or after
    well-formed value text): verdict "bad header" (ErrHdrBad), offset after the line end -/
theorem reject_param_quote_unterminated : type_of% @Sipsp.n3_param_quote_unterminated := @Sipsp.n3_param_quote_unterminated

/-- **`[display-name] <uri>` followed by ignored bytes** and the end of the value: accepted exactly like `<uri>` alone;
    the ignored bytes are in no reported span (the value ends at the `>`). A second `<…>` after the first is such a
    run of ignored bytes. -/
theorem bytes_after_bracket_skipped : type_of% @Sipsp.n4_bracket_junk := @Sipsp.n4_bracket_junk

/-- … and then `;` and a (generalised) parameter list: the parameters are attached to the FIRST `<uri>`; the reported
    value then covers the ignored bytes -/
theorem bytes_after_bracket_skipped_params : type_of% @Sipsp.n4_bracket_junk_params := @Sipsp.n4_bracket_junk_params

/-- **From / To: a comma after `<uri>` is NOT a separator and NOT an error**: `<uri> [LWS] , anything-without-";"` up to
    the line end is accepted and reported exactly as `<uri>` alone — the second value is silently ignored
    (e.g. `From: <sip:a@b>, <sip:c@d>`) -/
theorem single_valued_comma_ignored : type_of% @Sipsp.n4_single_comma_ignored := @Sipsp.n4_single_comma_ignored

/-- **From / To with a bare URI: commas inside it belong to the URI** (`From: sip:a@b,sip:c@d` reports the one URI
    `sip:a@b,sip:c@d`) -/
theorem bare_uri_comma : type_of% @Sipsp.n4_bare_comma := @Sipsp.n4_bare_comma

/-- **From / To: `… ;param [=value] LWS ,`** (a well-formed parameter, at least one byte of white space, a comma):
    "bad character" at the comma — whereas the same comma WITHOUT white space in front of it is taken as a byte of the
    parameter name / value -/
theorem single_valued_comma_after_ws_rejected : type_of% @Sipsp.n4_single_comma_after_ws := @Sipsp.n4_single_comma_after_ws

/-! ### several Contact / P-Asserted-Identity header lines of one message (proved in `Sipsp.Proofs.HdrTyped`) -/

/-- **`HNo` is the number of Contact header lines** -/
theorem contact_lines_hno : type_of% @Sipsp.ht_htLines_hNo := @Sipsp.ht_htLines_hNo

/-- **`N` is the total number of values of all Contact lines** (also those beyond the caller's array) -/
theorem contact_lines_n : type_of% @Sipsp.ht_htLines_n := @Sipsp.ht_htLines_n

/-- **the stored values are the values of all Contact lines, in order** (those that fit the caller's array) -/
theorem contact_lines_stored : type_of% @Sipsp.ht_htLines_stored := @Sipsp.ht_htLines_stored

/-- **the maximum expires summarises the values of all Contact lines** -/
theorem contact_lines_max_expires : type_of% @Sipsp.ht_htLines_maxE := @Sipsp.ht_htLines_maxE

/-- **the minimum expires summarises the values of all Contact lines**, starting from 2^32-1 for the first value of
    the message -/
theorem contact_lines_min_expires : type_of% @Sipsp.ht_htLines_minE := @Sipsp.ht_htLines_minE

/-- **the Contact values of a whole block**: whatever other headers stand between them, the contacts object
    after the block is the old one after the Contact lines of the block, in order (`htLines`: see `ht_htLines_hNo`,
    `ht_htLines_n`, `ht_htLines_stored`, `ht_htLines_maxE`, `ht_htLines_minE`); likewise P-Asserted-Identity -/
theorem block_contacts : type_of% @Sipsp.HtBlock.contacts := @Sipsp.HtBlock.contacts

theorem pai_lines_hno : type_of% @Sipsp.ht_paLines_hNo := @Sipsp.ht_paLines_hNo

theorem pai_lines_n : type_of% @Sipsp.ht_paLines_n := @Sipsp.ht_paLines_n

/-! ### split only at top-level commas: the converse, for ALL inputs (proved in `Sipsp.Proofs.NaSplit`) -/

/-- "more values": the byte before the returned offset is a comma, it is at top level, and it is the FIRST
    top-level comma of the text that starts at `o` -/
theorem value_ends_at_first_top_comma : type_of% @Sipsp.ns_value_more := @Sipsp.ns_value_more

/-- OK: the returned offset is the one after the line end of the header, and (header kinds with several
    values) there is no top-level comma before it -/
theorem value_ok_no_top_comma : type_of% @Sipsp.ns_value_ok := @Sipsp.ns_value_ok

/-- **the converse of the splitting rule, value level, any object that is at the start of a value** -/
theorem value_split_any_init_object : type_of% @Sipsp.ns_parse := @Sipsp.ns_parse

/-- a header kind with a single value (From, To, …): the verdict is never "more values", whatever the input
    and whatever object is passed in -/
theorem single_valued_never_more_values : type_of% @Sipsp.ns_single_never_more := @Sipsp.ns_single_never_more

/-- **ParseAllContactValues, converse**: whenever it answers OK — any buffer, any offset, any capacity — the text
    it consumed is cut at its top-level commas into pieces (`NsSegs`), and the object is the old one after accepting,
    in order, exactly the values the value parser reports for those pieces -/
theorem contact_list_segments : type_of% @Sipsp.parseAllContactValues_segs := @Sipsp.parseAllContactValues_segs

/-- **ParseAllPAIValues, converse** (no accepted value is `*`) -/
theorem pai_list_segments : type_of% @Sipsp.parseAllPAIValues_segs := @Sipsp.parseAllPAIValues_segs

/-- **the value count**: after ParseAllContactValues answered OK, `N` has grown by 1 + the number of top-level
    commas of the consumed text — for every capacity of the caller's array -/
theorem contact_count_is_commas : type_of% @Sipsp.parseAllContactValues_count := @Sipsp.parseAllContactValues_count

theorem pai_count_is_commas : type_of% @Sipsp.parseAllPAIValues_count := @Sipsp.parseAllPAIValues_count

/-- **ParseAllContactValues on a new object of ANY capacity `cap`, converse direction.**  If the call answers OK
    with offset `o'`, then there is a list `L` of pieces (start offset, reported value) such that
    * `NsSegs`: the pieces tile the text from `o`: each but the last is closed by the FIRST top-level comma after its
      start (the next piece starts right after it), the last has no top-level comma and is closed by the line end of the
      header, `o'` being the offset after it; the value of a piece is what the value parser reports at its start;
    * `NsVSpans`: each reported `V` lies inside its piece, before the closing comma; it starts at the first byte of
      the piece that is not white space / a line-end byte;
    * `N` = number of pieces = 1 + number of top-level commas of the text `[o, o')` — also beyond the capacity;
    * the stored values are the values of the first `cap` pieces, in order;
    * max / min expires summarise ALL pieces. -/
theorem contact_list_converse : type_of% @Sipsp.parseAllContactValues_new_converse := @Sipsp.parseAllContactValues_new_converse

/-- **ParseAllPAIValues on a new object, converse direction** (two slots; `N` counts all pieces) -/
theorem pai_list_converse : type_of% @Sipsp.parseAllPAIValues_new_converse := @Sipsp.parseAllPAIValues_new_converse

/-- where the reported value ends: on "more values" at or before the comma; on OK at or before a run of white space /
    line-end bytes that reaches the returned offset -/
theorem value_span_end : type_of% @Sipsp.ns_value_vend := @Sipsp.ns_value_vend

/-- **the reported value starts at the first byte of the piece that is not white space / a line-end byte** (header
    kinds with several values; buffers within the 65,535-byte limit) -/
theorem value_span_start : type_of% @Sipsp.ns_value_lead := @Sipsp.ns_value_lead

/-! ### the link to the header parser (the 'several lines' theorems above are about the fold; this ties it to ParseHdrLine / ParseHeaders) (proved in `Sipsp.Proofs.HdrTyped`) -/

/-- **Contact**: name, colon, a comma-separated list of name-addr values of the C09 grammar ending with the line end.
    The header's value runs from the start of the first value to the end of the last one (`htSpan`, see
    `ht_lhv_line`); the contacts object is `htLine` of the old one: header counter bumped, values accepted in order. -/
theorem contact_line_through_hdrline : type_of% @Sipsp.ht_contact_values := @Sipsp.ht_contact_values

/-- **To** -/
theorem to_value_through_hdrline : type_of% @Sipsp.ht_to_value := @Sipsp.ht_to_value

/-- **ParseHeaders on a well-formed block with a values object**: one header per line, in order (generic and typed
    lines mixed), the values object as left by the typed lines, then the end of the block -/
theorem block_through_parseheaders : type_of% @Sipsp.ht_parseHeaders_block := @Sipsp.ht_parseHeaders_block

/-! ### stored values of several P-Asserted-Identity lines (proved in `Sipsp.Proofs.PaiLines`) -/

/-- **the stored identities are the values of ALL P-Asserted-Identity lines, in order** (those that fit the array: the
    Go type has a fixed array of two) — for any object the lines are parsed into, whatever it already holds -/
theorem pai_lines_stored : type_of% @Sipsp.pl_lines_stored := @Sipsp.pl_lines_stored

/-- **`More()`** ⇔ the lines carry more values than the array holds -/
theorem pai_lines_more : type_of% @Sipsp.pl_lines_more := @Sipsp.pl_lines_more

/-- **`GetPAI(k)`** after the lines, on an object that held no value before: the `k`-th value of all lines, for `k`
    below the capacity; nil from `min (N, capacity)` on -/
theorem pai_lines_get : type_of% @Sipsp.pl_lines_getPAI := @Sipsp.pl_lines_getPAI

/-- **a new P-Asserted-Identity object (two slots) after any number of lines**: `GetPAI 0` / `GetPAI 1` are the first
    two values of ALL lines in order, `More()` ⇔ more than two values, `N` counts every value, `HNo` every line -/
theorem pai_new_lines : type_of% @Sipsp.pl_new_lines := @Sipsp.pl_new_lines

/-- **the P-Asserted-Identity values of a whole header block** parsed by ParseHeaders with a values object whose
    identity list is new: whatever other headers stand between the P-Asserted-Identity lines, `HNo` = their number,
    `N` = the total number of their values, `GetPAI 0 / 1` = the first two values of all of them in order, `More()` ⇔
    more than two values -/
theorem block_pais : type_of% @Sipsp.HtBlock.pl_pais := @Sipsp.HtBlock.pl_pais

/-- **a completed name-addr value is never empty**: whenever ParseNameAddrPVal, started on a new object, says OK or
    "more values", the reported value span `V` has at least one byte — every header kind, EVERY input within the
    65,535-byte limit -/
theorem value_nonempty : type_of% @Sipsp.pn_value_nonempty := @Sipsp.pn_value_nonempty

/-! ### the splitting converse over every chunk schedule; which values each Contact / PAI line of a block / message contributes (proved in `Sipsp.Proofs.ResumedConverse`) -/

/-- **`value_ends_at_first_top_comma` over EVERY chunk schedule**: if the chain of resumed calls of
    ParseNameAddrPVal (new object; the buffers `l` are growing prefixes, the last one is `B`) ends with "more values" at
    `o'`, then in the WHOLE buffer `B`: the kind has several values, the byte before `o'` is a comma at top level of the
    text that starts at `o`, and no top-level comma occurs before it; the object is the one ONE call on `B` reports -/
theorem value_ends_at_first_top_comma_schedule : type_of% @Sipsp.rc_value_more_schedule := @Sipsp.rc_value_more_schedule

/-- **`value_ok_no_top_comma` over EVERY chunk schedule**: the chain ends with OK at `o'` ⇒ in the whole buffer
    `o'` follows a line end not followed by SP / HT and (kinds with several values) no top-level comma occurs in
    `[o, o')`; the object is the one ONE call on `B` reports -/
theorem value_ok_no_top_comma_schedule : type_of% @Sipsp.rc_value_ok_schedule := @Sipsp.rc_value_ok_schedule

/-- a kind with a single value never answers "more values", also at the end of a chain of resumed calls -/
theorem single_valued_never_more_values_schedule : type_of% @Sipsp.rc_single_never_more_schedule := @Sipsp.rc_single_never_more_schedule

/-- **`contact_list_converse` over EVERY chunk schedule.**  `l` = growing prefixes of the buffer `B` (its last
    element), `B` within the 65,535-byte limit, a new contacts object over a cleared array of ANY capacity `cap`, start
    offset inside the first chunk.  If the LAST call of the chain of resumed calls answers OK at `o'` with object `c'`,
    then `c'` is the object of ONE call on `B`, and in `B` there is a list `L` of pieces (start, reported value):
    the value text is cut at exactly its top-level commas (`NsSegs`), every reported `V` lies inside its piece and starts
    at its first non-white-space byte, `N` = number of pieces = 1 + number of top-level commas of `[o, o')`, the stored
    values are the reports for the first `cap` pieces in order, max / min expires range over ALL pieces. -/
theorem contact_list_converse_schedule : type_of% @Sipsp.rc_contact_list_converse_schedule := @Sipsp.rc_contact_list_converse_schedule

/-- **`pai_list_converse` over EVERY chunk schedule** (two slots; `N` counts all pieces; no accepted value is `*`) -/
theorem pai_list_converse_schedule : type_of% @Sipsp.rc_pai_list_converse_schedule := @Sipsp.rc_pai_list_converse_schedule

/-- the segments and the count alone (no size limit on the buffer) -/
theorem contact_list_segments_schedule : type_of% @Sipsp.rc_contact_list_segments_schedule := @Sipsp.rc_contact_list_segments_schedule

theorem pai_list_segments_schedule : type_of% @Sipsp.rc_pai_list_segments_schedule := @Sipsp.rc_pai_list_segments_schedule

/-- **ONE call of ParseHdrLine, new header object, values object whose two lists are between lines (`HtReady`; a new
    values object qualifies), EVERY input within the 65,535-byte limit**: an accepted line has a name and type that are
    right (`HsNameAt`) and did to the two value lists what `RcLine` says -/
theorem line_lists : type_of% @Sipsp.rc_line_lists := @Sipsp.rc_line_lists

/-- **ONE call of ParseHeaders, a values object whose two lists are between lines, EVERY input ≤ 65,535 bytes**: if
    the verdict is OK (or "empty") the accepted text is a chain of lines, each with the right name and type, and for
    every Contact / P-Asserted-Identity line the values handed to the list object are exactly the value parser's
    reports for the pieces of that line's value (cut at its top-level commas); the other lines leave both lists alone -/
theorem block_lists : type_of% @Sipsp.rc_block_lists := @Sipsp.rc_block_lists

/-- **ONE call of ParseSIPMsg from the initial state** (header list in the state of a new one, nothing counted yet, the two value
    lists between lines; EVERY input ≤ 65,535 bytes): if the call ends OK, the first line ended at `o1` and the header block
    `[o1, e)` is a chain of accepted lines in which every Contact / P-Asserted-Identity line handed exactly the pieces of
    its value to the list objects found in the final message object -/
theorem msg_lists : type_of% @Sipsp.rc_msg_lists := @Sipsp.rc_msg_lists

/-- **ONE call of ParseSIPMsg on an object produced by Init** (any previous contents, caller arrays of any capacity
    or none), EVERY input ≤ 65,535 bytes: if the call ends OK there are the end `o1` of the first line, the end `e` of the
    header block, the reported headers `hs` (at least one) and for every header line what it was for the value lists
    (`RcBlock`): every Contact / P-Asserted-Identity line handed to the list exactly the value parser's reports for the
    pieces of its value, cut at the top-level commas; the final contacts / identities objects are the NEW ones after
    exactly these lines, in order (`htLines`; so `ht_htLines_n`, `ht_htLines_stored`, `ht_htLines_maxE / _minE`,
    `pl_lines_stored`, `pl_lines_getPAI` read them off) -/
theorem msg_lists_init : type_of% @Sipsp.rc_msg_lists_init := @Sipsp.rc_msg_lists_init

/-- **ParseHdrLine over EVERY chunk schedule** (new header object; a values object that is legitimate at `o` and
    whose two lists are between lines — a new one of any capacity qualifies: `rc_newHv_ok`): if the chain of resumed
    calls ends OK at `e`, then in the WHOLE buffer `B` the line has a name and a type that are right, and
    * if it is a Contact (P-Asserted-Identity) line, the text after the colon is cut at exactly its top-level commas and
      the values handed to the list object are the value parser's reports for the pieces, in order (`RcLine`),
    * otherwise both lists are exactly as before —
    wherever the calls were suspended: inside the name, a quoted string, a URI, a parameter, the line end. -/
theorem line_lists_schedule : type_of% @Sipsp.rc_line_lists_schedule := @Sipsp.rc_line_lists_schedule

/-- **ParseHeaders over EVERY chunk schedule, new header list of any capacity `kh`, new values object with a
    contact array of any capacity `kc`**: if the chain of resumed calls ends OK at `e`, then in the WHOLE buffer `B` the
    accepted text is a chain of lines (`RcBlock`): for each Contact / P-Asserted-Identity line the values handed to the
    list are exactly the value parser's reports for the pieces of the line's value (cut at its top-level commas, in
    order), all other lines leave the lists alone; hence (`RcBlock.lists`) the final contacts / identities objects are
    the new ones after exactly these lines; the header list is what accepting the reported headers produces. -/
theorem block_lists_schedule : type_of% @Sipsp.rc_block_lists_schedule := @Sipsp.rc_block_lists_schedule

/-- **ParseSIPMsg from Init over EVERY chunk schedule** (growing prefixes within the 65,535-byte limit, every flag
    word, every capacity): if the chain of resumed calls ends OK, the statement of `rc_msg_lists_init` holds for the final
    message object, in the buffer `b` of the call that finished — a prefix of the whole buffer `B`, so every byte and
    every span of `b` is one of `B` -/
theorem msg_lists_schedule_init : type_of% @Sipsp.rc_msg_lists_schedule_init := @Sipsp.rc_msg_lists_schedule_init

/-- **ParseSIPMsg from Init over EVERY chunk schedule, stated in the WHOLE buffer `B`** (the last element of the
    growing list `l`; every chunk within the 65,535-byte limit, every flag word, caller arrays of any capacity or none):
    if the chain of resumed calls ends OK with the object `m'`, there are the reported headers `hs` (at least one) and,
    line by line, what each accepted header line of `B` was for the value lists (`RcBlock B …`): every Contact /
    P-Asserted-Identity line handed to its list exactly the value parser's reports for the pieces of its value, cut at
    its top-level commas, in order; every other line left both lists alone; the contacts / identities of `m'` are the
    NEW objects after exactly these lines (`htLines` of the piece values), and the header list of `m'` is what accepting
    `hs` produces. -/
theorem msg_lists_schedule_whole : type_of% @Sipsp.rc_msg_lists_schedule_whole := @Sipsp.rc_msg_lists_schedule_whole

/-! ### message-level list statements that keep the first-line conjunct (proved in `Sipsp.Proofs.ResumedConverse`) -/

/-- **ONE call of ParseSIPMsg on an object produced by Init, with the first line**: the statement of `rc_msg_lists_init`,
    and `o1` — where the header block starts — is the offset ParseFLine (run on a new first-line object at `o`)
    returns with the verdict OK -/
theorem msg_lists_init_fl : type_of% @Sipsp.afc_msg_lists_init := @Sipsp.afc_msg_lists_init

/-- **ParseSIPMsg from Init over EVERY chunk schedule, with the first line** (in the buffer `b` of the call that
    finished, a prefix of the last buffer `B`) -/
theorem msg_lists_schedule_init_fl : type_of% @Sipsp.afc_msg_lists_schedule_init := @Sipsp.afc_msg_lists_schedule_init

/-- **… stated in the WHOLE buffer `B`, with the first line**: ParseFLine on `B` itself (new first-line object, offset
    `o`) says OK at `o1`, and `RcBlock B o1 …` -/
theorem msg_lists_schedule_whole_fl : type_of% @Sipsp.afc_msg_lists_schedule_whole := @Sipsp.afc_msg_lists_schedule_whole

end Sipsp.C09
