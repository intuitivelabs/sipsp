/-
  Property C10 — numeric values are exact or rejected, never silently wrapped.

  Proved (digit strings of ANY length, no bound):
  * the accumulators: the 64-bit parameter parser returns the exact value or saturates with an error; the Contact
    `expires` parameter is min(value, 2^32-1); the 32-bit accumulator used by CSeq / Content-Length / Expires headers
    holds the exact value while it fits and rejects as soon as it does not (`uint_digit_step`, `cseq_digit_step` tie it
    to the actual loop bodies); Content-Length above 2^24 or longer than 9 digits is rejected; the URI port accumulator
    is exact up to 65535 and stays above it otherwise (so it is rejected by the `> 65535` test); the reply status is
    the value of its 3 digits.
  * **run level, header numbers** (any buffer within the 65,535-byte limit, any offset, new or suspended objects): when
    ParseUIntVal (= ParseExpiresVal) / ParseCLenVal / ParseCSeqVal succeed, the reported field is a non-empty string
    of digits of the buffer and the reported number is exactly its decimal value (`value_meaning` spells this out with
    the model's `Get`).
  * **run level, URI port** (Proofs/UriLink.lean): for every URI accepted by ParseURI the reported port field consists
    of digits, PortNo is exactly their decimal value and ≤ 65535 (this is the statement that defect F20 violated).
  * **run level, Contact expires / q** (`Sipsp.Proofs.NaNumRun`; ParseNameAddrPVal with its 33 states, any header kind,
    any verdict, new and resumed objects): the numeric fields of the returned object (HasExpires, Expires, Q,
    ParamErr, ErrOffs) are the left fold, over a list of parameter spans lying in the parsed text (name non-empty,
    value after the name, for Contact only white space and one '=' in between), of the pure per-parameter effect
    (`nameaddr_numbers`); either no expires is reported, or there is an `expires` parameter (any letter case) in the
    text and Expires = min(decimal value of its digit string, 2^32-1) for digit strings of ANY length
    (`expires_any_text`: for an arbitrary value text it is the value of the leading digits — the code ignores the
    conversion error there: `expires=12abc` gives 12, `expires=abc` gives 0; not a digit string, so outside this
    property's domain, recorded as an observation); Q ≤ 1000 always; Q is the thousandths value of the last accepted
    `q` parameter of the text, every `q` text of another shape (more than three decimals, above 1, non-digits, 2^64
    overflow) leaves Q untouched and sets the parameter-error indication; never a wrapped or truncated number.
  * **the range half at run level** (`Sipsp.Proofs.AuditFixB`; the `*_value_exact` theorems give "number = value of
    the digits" but, the model's numbers being unbounded naturals, not the range): after OK, Expires ≤ 2^32-1; CSeq ≤
    2^32-1 with at most 10 digits; Content-Length ≤ 2^24 with at most 9 digits — for new and legitimately suspended
    objects and after EVERY chunk schedule; a digit string whose value exceeds 2^32-1 is rejected with number-too-big
    at one of its digits, whatever follows, also when the call is resumed inside the number; on "[blanks] digits CR LF
    non-continuation" the verdict is OK with exactly the value iff in range, number-too-big otherwise. The reply
    status at run level is C08 `status_value`.
  NOT proved: completeness at run level (that EVERY expires / q parameter of the text is among the recorded spans) is
  the grammar-level C09 theorem.
-/
import Sipsp.Proofs.EqFold
import Sipsp.Proofs.Num
import Sipsp.Proofs.NumRun
import Sipsp.Proofs.UriLink
import Sipsp.Proofs.NaNumRun
import Sipsp.Proofs.AuditFixB

namespace Sipsp.C10
open Sipsp

theorem u64_exact_or_saturated (l : List UInt8) (hd : AllDigits l) :
    (decOf l ≤ maxU64 → pUInt64Val l = (decOf l, Err.ok)) ∧
    (decOf l > maxU64 → pUInt64Val l = (maxU64, Err.valTooLong)) := pUInt64Val_spec l hd

theorem contact_expires_saturates (pf : PFromBody) (val : List UInt8) (hd : AllDigits val) :
    (setExpires pf val).expires = min (decOf val) 4294967295 ∧ (setExpires pf val).hasExpires = true :=
  setExpires_spec pf val hd

theorem u32_header_exact_or_rejected (l : List UInt8) :
    (decOf l ≤ 4294967295 → accU32 0 l = some (decOf l)) ∧ (decOf l > 4294967295 → accU32 0 l = none) :=
  accU32_spec l 0 (by omega)

/-- the digit case of the Content-Length / Expires loop body is one step of `accU32` -/
theorem uint_digit_step (b : Buf) (i : Nat) (c : UInt8) (st : PUIntBody) (hc : isDigit c = true)
    (hs : st.state = .found) :
    clStep b i c st =
      (if st.uiVal * 10 + dval c > 4294967295 then Step.done i Err.numTooBig st
       else Step.cont (i + 1) { st with uiVal := st.uiVal * 10 + dval c }) :=
  clAcc.step b i c st ((isDigit_iff c).1 hc) hs

/-- the digit case of the CSeq loop body (number part) is one step of `accU32` -/
theorem cseq_digit_step (b : Buf) (i : Nat) (c : UInt8) (st : PCSeqBody) (hc : isDigit c = true)
    (hs : st.state = .foundDigit) :
    csStep b i c st =
      (if st.cseqNo * 10 + dval c > 4294967295 then Step.done i Err.numTooBig st
       else Step.cont (i + 1) { st with cseqNo := st.cseqNo * 10 + dval c }) :=
  csAcc.step b i c st ((isDigit_iff c).1 hc) hs

/-- Content-Length: a value above 2^24 or written with more than 9 digits is never returned as a success -/
theorem clen_range (b : Buf) (o : Nat) (st : PUIntBody) (o' : Nat) (st' : PUIntBody)
    (h : parseCLenVal b o st = (o', .ok, st')) : st'.sVal.len ≤ 9 ∧ st'.uiVal ≤ 16777216 :=
  parseCLenVal_ok_range h

/-- the URI port: exact while it fits 16 bits, otherwise it stays above 65535 and the `> 65535` test rejects it -/
theorem port_exact_or_rejected (l : List UInt8) :
    (decOf l ≤ 65535 → accPortL 0 l = decOf l) ∧ (decOf l > 65535 → accPortL 0 l > 65535) :=
  accPortL_spec l 0

/-- the reply status is the decimal value of the three digits -/
theorem status_exact (b : Buf) (i0 l : Nat) (pl : PFLine) (d0 d1 d2 : UInt8)
    (h0 : b[i0 + l]? = some d0) (h1 : b[i0 + l + 1]? = some d1) (h2 : b[i0 + l + 2]? = some d2)
    (h3 : b[i0 + l + 3]? = some 32) (hd : (isDigit d0 && isDigit d1 && isDigit d2) = true) :
    ∀ o e pl', flReply b i0 l pl = (o, e, pl') → pl'.status = decOf [d0, d1, d2] := by
  intro o e pl' h
  unfold flReply at h
  simp only [h0, h1, h2, h3, hd] at h
  simp only [bne_self_eq_false, Bool.not_true, Bool.or_self, Bool.false_eq_true, if_false] at h
  unfold flRplReason at h
  simp only [decOf, decFrom_cons, decFrom_nil, dval_def]
  split at h <;> (cases h; simp only; omega)


/-! ### run level: the number reported after a successful parse is the value of the reported digit string -/

theorem uint_value_exact (b : Buf) (o : Nat) (st : PUIntBody) (hfit : b.size ≤ 65535) (ho : o ≤ b.size)
    (h : ClNum b o st) {o' : Nat} {st' : PUIntBody} (hr : parseUIntVal b o st = (o', .ok, st')) :
    NumDone b st'.sVal st'.uiVal := parseUIntVal_exact b o st hfit ho h hr

theorem clen_value_exact (b : Buf) (o : Nat) (st : PUIntBody) (hfit : b.size ≤ 65535) (ho : o ≤ b.size)
    (h : ClNum b o st) {o' : Nat} {st' : PUIntBody} (hr : parseCLenVal b o st = (o', .ok, st')) :
    NumDone b st'.sVal st'.uiVal := parseCLenVal_exact b o st hfit ho h hr

theorem cseq_value_exact (b : Buf) (o : Nat) (st : PCSeqBody) (hfit : b.size ≤ 65535) (ho : o ≤ b.size)
    (h : CsNum b o st) (hni : st.state = .fin → NumDone b st.cseq st.cseqNo)
    {o' : Nat} {st' : PCSeqBody} (hr : parseCSeqVal b o st = (o', .ok, st')) :
    NumDone b st'.cseq st'.cseqNo := parseCSeqVal_exact b o st hfit ho h hni hr

/-- new objects satisfy the hypotheses -/
theorem new_objects_num (b : Buf) (o : Nat) : ClNum b o {} ∧ CsNum b o {} := ⟨ClNum_new b o, CsNum_new b o⟩

/-- what `NumDone` says: `Get` on the field returns a non-empty all-digit slice whose decimal value is the number -/
theorem value_meaning (b : Buf) (fld : PField) (v : Nat) (h : NumDone b fld v) (hfit : b.size ≤ 65535) :
    ∃ d, fld.get? b = some d ∧ d.size ≥ 1 ∧ AllDigits d.toList ∧ v = decOf d.toList := h.get hfit

/-! ### non-vacuity -/
example : AllDigits [53, 48, 48] ∧ decOf [53, 48, 48] = 500 := by
  constructor
  · intro c hc; simp only [List.mem_cons, List.not_mem_nil, or_false] at hc
    rcases hc with h | h | h <;> (subst h; unfold IsDigitB; decide)
  · simp only [decOf, decFrom_cons, decFrom_nil, dval_def]; decide

/-- test: a Content-Length value parsed from a new object -/
example : (parseCLenVal "  4711\r\nX".toUTF8.data 0 {}).2.1 = Err.ok ∧ (parseCLenVal "  4711\r\nX".toUTF8.data 0 {}).2.2.uiVal = 4711 := by
  decide +kernel

/-! ### run level, URI port (Proofs/UriLink.lean) -/

/-- **run level, URI port**: for every URI accepted by ParseURI the bytes of the reported port field are digits, `PortNo` is exactly their decimal value and ≤ 65535 -/
theorem port_value_exact : type_of% @ul_port_exact := @ul_port_exact

/-- no port or an empty port: `PortNo = 0` -/
theorem port_zero : type_of% @ul_port_zero := @ul_port_zero

/-- a non-empty port field, in the phrasing used for Content-Length / CSeq (`NumDone`), plus the range -/
theorem port_numdone : type_of% @ul_port_numdone := @ul_port_numdone

/-- spelled out with `Get` -/
theorem port_meaning : type_of% @ul_port_meaning := @ul_port_meaning

/-! ### run level: Contact expires / q after a whole ParseNameAddrPVal / ParseOneContact (proved in `Sipsp.Proofs.NaNumRun`) -/

/-- **`expires` with ANY value text**: the has-expires flag is set and the number is the decimal value of the leading
    digits of the text (all of it when it is a digit string; the empty string counts 0), saturated at 2^32-1.  No
    length bound; never a wrapped value. -/
theorem expires_any_text : type_of% @Sipsp.nr_setExpires_any := @Sipsp.nr_setExpires_any

/-- **`setQ` on ANY text**: either the text is an accepted `q` value and `q` becomes exactly its value in thousandths,
    or `q` is left alone and the parameter error is set (to something other than "no error") -/
theorem q_any_text_cases : type_of% @Sipsp.nr_setQ_cases := @Sipsp.nr_setQ_cases

/-- **ParseNameAddrPVal, any header kind, any buffer, any verdict**: if the object passed in satisfies the invariant
    (a new object does, `nr_entry_new`; so does an object returned with MoreBytes), the numeric fields of the returned
    object are the fold of `nrEffect` over a list of parameter spans lying in `[o, o')`; after MoreBytes the object
    satisfies the invariant again. -/
theorem nameaddr_numbers : type_of% @Sipsp.nr_parse := @Sipsp.nr_parse

/-- **resumed call**: a call that asked for more bytes, followed by a call on the extended buffer from the returned
    offset with the returned object (and so on: the hypothesis of the second call is the conclusion of the first) -/
theorem nameaddr_numbers_resume : type_of% @Sipsp.nr_parse_resume := @Sipsp.nr_parse_resume

/-- **C10 (a), run level, one call on a new object**: whatever the verdict, `HasExpires` is reported only when the
    consumed text `[offs, o')` contains an `expires` parameter — name `[ps, pe)` matched case-insensitively, non-empty
    value text `[vs, ve)` after it — and then `Expires` is the decimal value of the leading digits of that text (all of
    it when the text is a digit string, of ANY length), saturated at 2^32-1; never a wrapped value. -/
theorem nameaddr_expires : type_of% @Sipsp.nr_new_expires := @Sipsp.nr_new_expires

/-- **C10 (b), run level, one call on a new object**: `Q` is 0 (never set) or EXACTLY the value in thousandths of the
    text of a `q` parameter of the consumed input, the text being of an accepted shape (`NrQOk`) -/
theorem nameaddr_q : type_of% @Sipsp.nr_new_q := @Sipsp.nr_new_q

theorem nameaddr_q_le : type_of% @Sipsp.nr_new_q_le := @Sipsp.nr_new_q_le

/-- **C10 (a) for one Contact value** (one call of `parseOneContact` = ParseNameAddrPVal(HdrContact, …) on a new
    object, any buffer, any offset inside it, any verdict — in particular OK and MoreValues): if `HasExpires` is
    reported there are offsets `offs ≤ ps < pe ≤ eq < vs < ve ≤ o' ≤ len(buf)` such that `buf[ps:pe]` is `expires` in
    any letter case, `buf[pe:eq]` and `buf[eq+1:vs]` are white space, `buf[eq]` is `=`, and `Expires` is the decimal
    value of the leading digits of `buf[vs:ve]` saturated at 2^32-1 — of all of `buf[vs:ve]` when it consists of
    digits, whatever their number; otherwise `Expires` is 0. -/
theorem contact_expires_run : type_of% @Sipsp.nr_contact_expires := @Sipsp.nr_contact_expires

/-- **C10 (b) for one Contact value**: `Q` is 0 (never set) or exactly the value in thousandths of the text of a `q`
    parameter (located as in `nr_contact_expires`) whose text has an accepted shape; in particular `Q ≤ 1000`. -/
theorem contact_q_run : type_of% @Sipsp.nr_contact_q := @Sipsp.nr_contact_q

/-- **C10 (b), the flag, for one Contact value**: there is a list `L` of parameter spans of the consumed text
    (`NrSpanOk`), the numeric fields being the fold of `nrEffect` over it, such that `Q` is the value of the last `q`
    parameter of `L` with an accepted text (0 if none), `ParamErr` is set when some `q` parameter of `L` has a rejected
    text, and is not set otherwise. -/
theorem contact_q_flag_run : type_of% @Sipsp.nr_contact_q_flag := @Sipsp.nr_contact_q_flag

/-! ### the 32-bit range at run level; rejection of larger numbers; suspended objects (proved in `Sipsp.Proofs.AuditFixB`) -/

/-- … as a bound: OK ⇒ `uiVal ≤ 2^32-1` -/
theorem uint_in_range : type_of% @Sipsp.afb_uint_ok_le := @Sipsp.afb_uint_ok_le

/-- … as a bound: OK ⇒ `cseqNo ≤ 2^32-1` and `cseq.len ≤ 10` -/
theorem cseq_in_range : type_of% @Sipsp.afb_cseq_ok_le := @Sipsp.afb_cseq_ok_le

/-- **C10 for ParseUIntVal (= ParseExpiresVal) at run level**: after OK the reported field is a non-empty digit string
    of the buffer, the reported number is exactly its decimal value, and it does not exceed 2^32-1 -/
theorem uint_exact_in_range : type_of% @Sipsp.afb_uint_exact_in_range := @Sipsp.afb_uint_exact_in_range

/-- **C10 for ParseCLenVal at run level**: exact, at most 9 digits, at most 2^24 -/
theorem clen_exact_in_range : type_of% @Sipsp.afb_clen_exact_in_range := @Sipsp.afb_clen_exact_in_range

/-- **C10 for ParseCSeqVal at run level**: after OK the reported number field is a non-empty digit string of the
    buffer of at most 10 digits, the reported number is exactly its decimal value, and it does not exceed 2^32-1 -/
theorem cseq_exact_in_range : type_of% @Sipsp.afb_cseq_exact_in_range := @Sipsp.afb_cseq_exact_in_range

/-- **ParseUIntVal under every chunk schedule from a new object**: if the chain of resumed calls ends with OK, the
    reported field is a digit string of the buffer of the call that finished, the number is its exact value, ≤ 2^32-1 -/
theorem uint_schedule_exact : type_of% @Sipsp.afb_uint_schedule := @Sipsp.afb_uint_schedule

theorem clen_schedule_exact : type_of% @Sipsp.afb_clen_schedule := @Sipsp.afb_clen_schedule

theorem cseq_schedule_exact : type_of% @Sipsp.afb_cseq_schedule := @Sipsp.afb_cseq_schedule

/-- **ParseUIntVal, new object, optional leading spaces / tabs, then a digit string of value above 2^32-1**: rejected
    with NumTooBig at one of the digits, whatever follows them -/
theorem uint_big_rejected : type_of% @Sipsp.afb_uint_big_rejected_ws := @Sipsp.afb_uint_big_rejected_ws

/-- ParseCLenVal passes the verdict on -/
theorem clen_big_rejected : type_of% @Sipsp.afb_clen_big_rejected_ws := @Sipsp.afb_clen_big_rejected_ws

/-- **ParseCSeqVal, new object, optional leading spaces / tabs, then a digit string of value above 2^32-1**: rejected
    with NumTooBig at one of the digits, whatever follows them (method or not) -/
theorem cseq_big_rejected : type_of% @Sipsp.afb_cseq_big_rejected_ws := @Sipsp.afb_cseq_big_rejected_ws

/-- **ParseUIntVal resumed (or called) inside a number**: the object is in the middle of a digit string that began at
    `st.soffs` (`ClNum`), the bytes `[i, e)` are further digits, and the value of the whole string `[st.soffs, e)`
    exceeds 2^32-1: the call is rejected with NumTooBig at one of these digits, whatever follows. -/
theorem uint_big_rejected_resumed : type_of% @Sipsp.afb_uint_big_resumed := @Sipsp.afb_uint_big_resumed

/-- **ParseCSeqVal resumed (or called) inside the number**: see `afb_uint_big_resumed` -/
theorem cseq_big_rejected_resumed : type_of% @Sipsp.afb_cseq_big_resumed := @Sipsp.afb_cseq_big_resumed

/-- **ParseUIntVal on the canonical input, complete**: a new object; optional spaces / tabs `[o, i)`; a non-empty digit
    string `[i, e)`; CR LF and a byte that does not continue the line.  If the value fits 32 bits the call returns OK
    just after the CR LF with exactly that value and the field `[i, e)`; otherwise NumTooBig at one of the digits. -/
theorem uint_canonical : type_of% @Sipsp.afb_uint_canonical := @Sipsp.afb_uint_canonical

/-- **ParseCLenVal on the canonical input, complete** (buffer within the 65,535-byte limit): OK with the exact value
    and field iff the value is at most 2^24 and written with at most 9 digits; NumTooBig otherwise -/
theorem clen_canonical : type_of% @Sipsp.afb_clen_canonical := @Sipsp.afb_clen_canonical

/-- **ParseUIntVal suspended**: after MoreBytes the returned object satisfies `ClNum` at the returned offset — on the
    buffer that was parsed and on every extension of it — the offset lies inside the buffer and the object is not
    finished: the hypotheses of `uint_value_exact` / `clen_value_exact` for the resumed call. -/
theorem uint_suspended_legit : type_of% @Sipsp.afb_uint_more_inv := @Sipsp.afb_uint_more_inv

theorem clen_suspended_legit : type_of% @Sipsp.afb_clen_more_inv := @Sipsp.afb_clen_more_inv

/-- **ParseCSeqVal suspended**: after MoreBytes the returned object satisfies `CsNum` at the returned offset (on the
    parsed buffer and on every extension), the offset lies inside the buffer and the object is not finished: the
    hypotheses of `cseq_value_exact` for the resumed call. -/
theorem cseq_suspended_legit : type_of% @Sipsp.afb_cseq_more_inv := @Sipsp.afb_cseq_more_inv

end Sipsp.C10
