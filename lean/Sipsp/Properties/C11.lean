/-
  Property C11 — results are invariant under where in the buffer the text starts.

  Setting: the text `t` is parsed once at its own start (buffer `t`, offset `o`) and once after `k = pre.size`
  arbitrary junk bytes (buffer `pre ++ t`, offset `k + o`), up to the 16-bit addressing limit
  (`pre.size + t.size ≤ 65535`). `shRes k sh r` is the result `r` with the offset moved by `k` and the object
  translated by `sh`; the translations `shCi` / `shCl` / `shCs` move exactly the fields that are set in the object's
  state by `k` (`shF`), leave numbers, method number, state and the panic flag unchanged, and are the identity on a
  new object.

  Proved for ALL `pre`, `t`, offsets and objects (new, suspended or finished):
  * lexical layer: `shift_skipCRLF`, `shift_skipLWS` (every flag value), `shift_skipToken`, `shift_skipTokenDelim`,
    `shift_skipWS`: same verdict / line-end length, offset moved by exactly `k`;
  * `shift_generic`: any loop parser whose steps commute with the translation (for states satisfying an invariant
    kept by continuing steps) commutes as a whole — the theorem every instance below goes through;
  * `shift_callid`, `shift_uint` (= ParseExpiresVal), `shift_clen` (including its "number too big" exit, whose offset
    points back at the value), `shift_cseq` (number, method number and verdict unchanged; the three fields and the
    returned offset — also the one pointing back at an oversized number — moved by `k`); `*_new` corollaries for new
    objects; `field_bytes`: a moved field of the moved buffer holds the same bytes.
  * `shift_fline_new`, `shift_fline_request`, `shift_fline_reason`: ParseFLine from a new object (request line or
    status line, valid or not) and from an object suspended in the method / URI / version / line end / reason phrase:
    same verdict, status and method number; offset and the fields of the line moved by `k` (`shReq` / `shRpl`).
  * `shift_nameaddr`, `shift_nameaddr_new`, `shift_nameaddr_exact`, `shift_nameaddr_reported`, `shift_nameaddr_bytes`,
    `shift_nameaddr_resume`: ParseNameAddrPVal (= ParseFromVal / ParseOneContact / To / PAI values; all 33 states, every
    header kind; new, suspended and finished objects): same verdict, offset + k, URI and value moved by k, name / tag /
    parameters moved unless absent, numbers / flags / kind unchanged, the moved fields denote the same bytes; the "offset 0
    = parameter list not started" sentinel never misfires (positions are ≥ 1 once the value has started). After an ERROR
    verdict the internal restart offset `soffs` (never reported) is stale and is the only component not moved
    (`shResNa`; a `decide` example in Proofs/ShiftNA.lean shows the plain form is false there).
  * contact / identity value lists (`Sipsp.Proofs.ShiftLists`, re-exported below): ParseAllContactValues /
    ParseAllPAIValues for every legitimate resumption state.
  * token parameters and URI lists (`Sipsp.Proofs.ShiftParams`): `shift_skipquoted`; `shift_tokparam_any` (EVERY
    verdict, every flag combination incl. the end-of-input and space-terminator options, all 11 states: offset + k,
    same verdict, same state, value field moved), `shift_tokparam` / `shift_tokparam_new` (the plain equation with the
    translated object `shTp k` on every non-error verdict; `shift_tokparam_obs` on error verdicts compares everything
    but the `all` / `name` spans, which the code leaves half-set there: `a\x01` vs `\x01` behind junk — callers never
    read them and the list wrappers zero the element), `shift_tokparam_resumable` (a suspended object is legitimate
    again, so the theorems apply to resumed calls); `shift_uriparams`, `shift_urihdrs` (plain equations for every
    verdict; stored elements, element in progress moved; counts, type masks unchanged), `*_new`, `*_reset`,
    `*_resumable`.
  * **header line, header block, whole message** (`Sipsp.Proofs.ShiftMsg`): `shift_hdrline`, `shift_hdrline_exact`,
    `shift_hdrline_resume` (ParseHdrLine with any legitimate header / values pair — new, or returned with MoreBytes —,
    every typed value parser included: offset + k, same verdict, name / value / every typed value moved),
    `shift_headers` (stored headers, first-of-type shortcuts, count, type flags), `shift_msg`, `shift_msg_exact`,
    `shift_msg_ok`, `shift_msg_init`, `shift_msg_resume` (ParseSIPMsg, every flag combination, objects in every
    non-terminal state, one call from Init and resumed calls: first line, header list, values, body, message start,
    Buf / RawMsg extents moved by k; counts, flags, numbers, state unchanged; `msg_init_legitimate`,
    `msg_translation_scalars`). Exact after non-error verdicts; after an error verdict equal up to the never-reported
    restart offset of the name-addr value being parsed (a `decide` test shows the plain form is false there).
    Observed while proving: the "zero field = not set" convention is not position independent for the header NAME in
    two intermediate error states (`:x` at offset 0 leaves name ⟨0,0⟩, behind junk ⟨k,0⟩ — an empty name after an
    error verdict, never a reported value).
  NOT proved: calls on already-terminated objects (an error is terminal, C12 covers re-use after Reset); relocation of
  parsed URIs is C18 (AdjustOffs).
-/
import Sipsp.Proofs.Shift
import Sipsp.Proofs.ShiftFLine
import Sipsp.Proofs.ShiftNA
import Sipsp.Proofs.ShiftLists
import Sipsp.Proofs.ShiftParams
import Sipsp.Proofs.ShiftMsg

namespace Sipsp.C11
open Sipsp

theorem shift_skipCRLF (pre t : Buf) (i : Nat) :
    skipCRLF (pre ++ t) (pre.size + i) = (pre.size + (skipCRLF t i).1, (skipCRLF t i).2.1, (skipCRLF t i).2.2) :=
  skipCRLF_shift pre t i

theorem shift_skipLWS (pre t : Buf) (i flags : Nat) :
    skipLWS (pre ++ t) (pre.size + i) flags =
      (pre.size + (skipLWS t i flags).1, (skipLWS t i flags).2.1, (skipLWS t i flags).2.2) :=
  skipLWS_shift pre t i flags

theorem shift_skipToken (pre t : Buf) (i : Nat) : skipToken (pre ++ t) (pre.size + i) = pre.size + skipToken t i :=
  skipToken_shift pre t i

theorem shift_skipTokenDelim (pre t : Buf) (i : Nat) (d : UInt8) :
    skipTokenDelim (pre ++ t) (pre.size + i) d = pre.size + skipTokenDelim t i d := skipTokenDelim_shift pre t i d

theorem shift_skipWS (pre t : Buf) (i : Nat) : skipWS (pre ++ t) (pre.size + i) = pre.size + skipWS t i :=
  skipWS_shift pre t i

theorem shift_generic {σ : Type} (m : Machine σ) (pre t : Buf) (sh : σ → σ) (Inv : Nat → σ → Prop)
    (hinv : ∀ i c st i' st', t[i]? = some c → Inv i st → m.step t i c st = .cont i' st' → i < i' → Inv i' st')
    (hstep : ∀ i c st, t[i]? = some c → Inv i st →
      m.step (pre ++ t) (pre.size + i) c (sh st) = shStep pre.size sh (m.step t i c st))
    (heob : ∀ i st, t[i]? = none → Inv i st →
      m.eob (pre ++ t) (pre.size + i) (sh st) = shRes pre.size sh (m.eob t i st))
    (i : Nat) (st : σ) (hI : Inv i st) :
    runLoop m (pre ++ t) (pre.size + i) (sh st) = shRes pre.size sh (runLoop m t i st) :=
  runLoop_shift m pre t sh Inv hinv hstep heob i st hI

theorem field_bytes (pre t : Buf) (f : PField) (hin : f.inside t.size) (hfit : pre.size + t.size ≤ 65535) :
    (shF pre.size f).get? (pre ++ t) = f.get? t := get?_shiftF pre t f hin hfit

theorem shift_callid (pre t : Buf) (o : Nat) (st : PCallIDBody) (hS : CiSafe t o st)
    (hfit : pre.size + t.size ≤ 65535) :
    parseCallIDVal (pre ++ t) (pre.size + o) (shCi pre.size st) =
      shRes pre.size (shCi pre.size) (parseCallIDVal t o st) := parseCallIDVal_shift pre t o st hS hfit

/-- … from a new object: the same verdict, the offset moved by `k`, and a finished value moved by `k` -/
theorem shift_callid_new (pre t : Buf) (o : Nat) (ho : o ≤ t.size) (hfit : pre.size + t.size ≤ 65535) :
    parseCallIDVal (pre ++ t) (pre.size + o) {} = shRes pre.size (shCi pre.size) (parseCallIDVal t o {}) :=
  parseCallIDVal_shift pre t o {} ⟨ho, Nat.zero_le _, PField.inside_zero _, rfl⟩ hfit

theorem shift_uint (pre t : Buf) (o : Nat) (st : PUIntBody) (hS : ClSafe t o st) (hfit : pre.size + t.size ≤ 65535) :
    parseUIntVal (pre ++ t) (pre.size + o) (shCl pre.size st) =
      shRes pre.size (shCl pre.size) (parseUIntVal t o st) := parseUIntVal_shift pre t o st hS hfit

theorem shift_clen (pre t : Buf) (o : Nat) (st : PUIntBody) (hS : ClSafe t o st) (hfit : pre.size + t.size ≤ 65535) :
    parseCLenVal (pre ++ t) (pre.size + o) (shCl pre.size st) =
      shRes pre.size (shCl pre.size) (parseCLenVal t o st) := parseCLenVal_shift pre t o st hS hfit

theorem shift_clen_new (pre t : Buf) (o : Nat) (ho : o ≤ t.size) (hfit : pre.size + t.size ≤ 65535) :
    parseCLenVal (pre ++ t) (pre.size + o) {} = shRes pre.size (shCl pre.size) (parseCLenVal t o {}) :=
  parseCLenVal_shift pre t o {} ⟨ho, Nat.zero_le _, PField.inside_zero _, rfl⟩ hfit

theorem shift_cseq (pre t : Buf) (o : Nat) (st : PCSeqBody) (hS : CsSafe t o st) (hP : CsPos o st)
    (hfit : pre.size + t.size ≤ 65535) :
    parseCSeqVal (pre ++ t) (pre.size + o) (shCs pre.size st) =
      shRes pre.size (shCs pre.size) (parseCSeqVal t o st) := parseCSeqVal_shift pre t o st hS hP hfit

theorem shift_cseq_new (pre t : Buf) (o : Nat) (ho : o ≤ t.size) (hfit : pre.size + t.size ≤ 65535) :
    parseCSeqVal (pre ++ t) (pre.size + o) {} = shRes pre.size (shCs pre.size) (parseCSeqVal t o {}) :=
  parseCSeqVal_shift pre t o {}
    ⟨ho, Nat.zero_le _, PField.inside_zero _, PField.inside_zero _, PField.inside_zero _, rfl⟩
    ⟨fun hh => absurd rfl hh, fun hh => by rcases hh with hh | hh <;> cases hh⟩ hfit

/-- what the translation does to a finished CSeq object: numbers unchanged, the three fields moved by `k` -/
theorem shift_cseq_meaning (k : Nat) (st : PCSeqBody) (hf : st.state = .fin) :
    (shCs k st).cseqNo = st.cseqNo ∧ (shCs k st).methodNo = st.methodNo ∧ (shCs k st).state = .fin ∧
    (shCs k st).cseq = ⟨st.cseq.offs + k, st.cseq.len⟩ ∧ (shCs k st).method = ⟨st.method.offs + k, st.method.len⟩ ∧
    (shCs k st).v = ⟨st.v.offs + k, st.v.len⟩ ∧ (shCs k st).pnc = st.pnc := by
  unfold shCs; rw [hf]; exact ⟨rfl, rfl, rfl, rfl, rfl, rfl, rfl⟩

theorem shift_fline_new (pre t : Buf) (o : Nat) (ho : o ≤ t.size) (hfit : pre.size + t.size ≤ 65535) :
    parseFLine (pre ++ t) (pre.size + o) {} =
      shRes pre.size (if (bcPrefix sipVerSP (t.extract o (o + 8)).toList).2 then shRpl pre.size else shReq pre.size)
        (parseFLine t o {}) := parseFLine_shift_new pre t o ho hfit

theorem shift_fline_request (pre t : Buf) (o : Nat) (pl : PFLine)
    (hst : pl.state = .reqMethod ∨ pl.state = .reqURI ∨ pl.state = .reqVer ∨ pl.state = .crlf)
    (hS : FlSafe t o pl) (hfit : pre.size + t.size ≤ 65535) :
    parseFLine (pre ++ t) (pre.size + o) (shReq pre.size pl) = shRes pre.size (shReq pre.size) (parseFLine t o pl) :=
  parseFLine_shift_req pre t o pl hst hS hfit

theorem shift_fline_reason (pre t : Buf) (o : Nat) (pl : PFLine) (hst : pl.state = .rplReason)
    (hS : FlSafe t o pl) (hfit : pre.size + t.size ≤ 65535) :
    parseFLine (pre ++ t) (pre.size + o) (shRpl pre.size pl) = shRes pre.size (shRpl pre.size) (parseFLine t o pl) :=
  parseFLine_shift_rpl pre t o pl hst hS hfit

/-- **ParseNameAddrPVal is position independent** (every header kind, any legitimate object) -/
theorem shift_nameaddr (h : Nat) (pre t : Buf) (o : Nat) (pf : PFromBody) (hfit : pre.size + t.size ≤ 65535)
    (hE : NaShiftEntry t o pf) :
    parseNameAddrPVal h (pre ++ t) (pre.size + o) (shNa pre.size pf) =
      shResNa pre.size pf (parseNameAddrPVal h t o pf) := parseNameAddrPVal_shift h pre t o pf hfit hE

theorem shift_nameaddr_new (h : Nat) (pre t : Buf) (o : Nat) (ho : o ≤ t.size) (hfit : pre.size + t.size ≤ 65535) :
    parseNameAddrPVal h (pre ++ t) (pre.size + o) {} = shResNa pre.size {} (parseNameAddrPVal h t o {}) :=
  parseNameAddrPVal_shift_new h pre t o ho hfit

/-- the exact form (whole object translated) when the verdict is OK / MoreValues / MoreBytes -/
theorem shift_nameaddr_exact (h : Nat) (pre t : Buf) (o : Nat) (pf : PFromBody) (hfit : pre.size + t.size ≤ 65535)
    (hE : NaShiftEntry t o pf) (hw : naWrote (parseNameAddrPVal h t o pf).2.1 = true) :
    parseNameAddrPVal h (pre ++ t) (pre.size + o) (shNa pre.size pf) =
      shRes pre.size (shNa pre.size) (parseNameAddrPVal h t o pf) := parseNameAddrPVal_shift_wrote h pre t o pf hfit hE hw

/-- what a caller sees after a complete value from a new object -/
theorem shift_nameaddr_reported : type_of% @parseNameAddrPVal_shift_reported := @parseNameAddrPVal_shift_reported

/-- … and the moved fields denote the same bytes -/
theorem shift_nameaddr_bytes : type_of% @parseNameAddrPVal_shift_bytes := @parseNameAddrPVal_shift_bytes

/-- a suspended parse resumed after more bytes is position independent too -/
theorem shift_nameaddr_resume : type_of% @parseNameAddrPVal_shift_resume := @parseNameAddrPVal_shift_resume

/-! ### non-vacuity (tests) -/
example : parseCSeqVal ("xyz".toUTF8.data ++ "12 INVITE\r\nX".toUTF8.data) 3 {} =
    shRes 3 (shCs 3) (parseCSeqVal "12 INVITE\r\nX".toUTF8.data 0 {}) := by decide +kernel
example : (parseCSeqVal "12 INVITE\r\nX".toUTF8.data 0 {}).2.1 = Err.ok := by decide +kernel

/-! ### Contact / P-Asserted-Identity value lists (Proofs/ShiftLists.lean) -/

/-- **ParseAllContactValues is position independent**: the same Contact header bytes behind any prefix `pre`, parsed with the translated object, give the translated result (offset, verdict, every stored contact, counters, expires range); stated for every legitimate resumption state `CtShift` (proved in Proofs/ShiftLists.lean) -/
theorem shift_contacts : type_of% @parseAllContactValues_shift := @parseAllContactValues_shift

/-- … as a plain equation after OK / MoreBytes -/
theorem shift_contacts_exact : type_of% @parseAllContactValues_shift_exact := @parseAllContactValues_shift_exact

/-- … from a new object of any capacity, at any start offset -/
theorem shift_contacts_new : type_of% @parseAllContactValues_shift_new := @parseAllContactValues_shift_new

/-- … and for a call resumed after MoreBytes on a grown buffer -/
theorem shift_contacts_resume : type_of% @parseAllContactValues_shift_resume := @parseAllContactValues_shift_resume

/-- after MoreBytes the returned object is a legitimate resumption state again -/
theorem shift_contacts_entry : type_of% @parseAllContactValues_shiftEntry := @parseAllContactValues_shiftEntry

/-- what a caller reads from the moved list: counts, capacities and numbers are identical -/
theorem shift_contacts_scalars : type_of% @shCt_scalars := @shCt_scalars

/-- `GetContact(j)` of the moved list is the moved `GetContact(j)` -/
theorem shift_contacts_get : type_of% @shCt_getContact := @shCt_getContact

/-- **ParseAllPAIValues is position independent** -/
theorem shift_pais : type_of% @parseAllPAIValues_shift := @parseAllPAIValues_shift

/-- … as a plain equation after OK / MoreBytes -/
theorem shift_pais_exact : type_of% @parseAllPAIValues_shift_exact := @parseAllPAIValues_shift_exact

/-- … from a new object -/
theorem shift_pais_new : type_of% @parseAllPAIValues_shift_new := @parseAllPAIValues_shift_new

/-- … resumed after MoreBytes on a grown buffer -/
theorem shift_pais_resume : type_of% @parseAllPAIValues_shift_resume := @parseAllPAIValues_shift_resume

/-- `GetPAI(j)` of the moved list is the moved `GetPAI(j)` -/
theorem shift_pais_get : type_of% @shPa_getPAI := @shPa_getPAI

/-! ### token parameters and the URI parameter / header lists (proved in `Sipsp.Proofs.ShiftParams`) -/

/-- **SkipQuoted is position independent** -/
theorem shift_skipquoted : type_of% @Sipsp.skipQuoted_shift := @Sipsp.skipQuoted_shift

/-- every verdict (errors included): offset moved by `k`, same verdict, same state and panic flag, value field moved
    unless absent; after an error only `all` / `name` are not compared -/
theorem shift_tokparam_any : type_of% @Sipsp.parseTokenParam_shift_any := @Sipsp.parseTokenParam_shift_any

/-- **ParseTokenParam is position independent**, every verdict: offset + k, same verdict, translated object (after an error verdict `all` / `name` are not compared: `spTpNz`) -/
theorem shift_tokparam_obs : type_of% @Sipsp.parseTokenParam_shiftN := @Sipsp.parseTokenParam_shiftN

/-- **ParseTokenParam is position independent** (every flag combination, every legitimate object): after OK /
    MoreValues / end of header / MoreBytes the call behind `pre` returns the offset moved by `k = pre.size`, the same
    verdict and the translated object -/
theorem shift_tokparam : type_of% @Sipsp.parseTokenParam_shift := @Sipsp.parseTokenParam_shift

/-- … from a new object, at any start offset -/
theorem shift_tokparam_new : type_of% @Sipsp.parseTokenParam_shift_new := @Sipsp.parseTokenParam_shift_new

/-- after MoreBytes the returned object is a legitimate argument at the returned offset (so the theorems apply to
    the resumed call as well) -/
theorem shift_tokparam_resumable : type_of% @Sipsp.parseTokenParam_shiftEntry := @Sipsp.parseTokenParam_shiftEntry

/-- **ParseAllURIParams is position independent** (every flag combination, any capacity, every legitimate list) -/
theorem shift_uriparams : type_of% @Sipsp.parseAllURIParams_shift := @Sipsp.parseAllURIParams_shift

/-- **ParseAllURIHdrs is position independent** (every flag combination, any capacity, every legitimate list) -/
theorem shift_urihdrs : type_of% @Sipsp.parseAllURIHdrs_shift := @Sipsp.parseAllURIHdrs_shift

/-- … from a new list of any capacity -/
theorem shift_uriparams_new : type_of% @Sipsp.parseAllURIParams_shift_new := @Sipsp.parseAllURIParams_shift_new

/-- … from a new list of any capacity -/
theorem shift_urihdrs_new : type_of% @Sipsp.parseAllURIHdrs_shift_new := @Sipsp.parseAllURIHdrs_shift_new

/-- … from a reset list (whatever it held before, e.g. fields of another buffer) -/
theorem shift_uriparams_reset : type_of% @Sipsp.parseAllURIParams_shift_reset := @Sipsp.parseAllURIParams_shift_reset

/-- … from a reset list -/
theorem shift_urihdrs_reset : type_of% @Sipsp.parseAllURIHdrs_shift_reset := @Sipsp.parseAllURIHdrs_shift_reset

/-- after MoreBytes the list returned by ParseAllURIParams is a legitimate argument at the returned offset -/
theorem shift_uriparams_resumable : type_of% @Sipsp.parseAllURIParams_shiftEntry := @Sipsp.parseAllURIParams_shiftEntry

/-- after MoreBytes the list returned by ParseAllURIHdrs is a legitimate argument at the returned offset -/
theorem shift_urihdrs_resumable : type_of% @Sipsp.parseAllURIHdrs_shiftEntry := @Sipsp.parseAllURIHdrs_shiftEntry

/-! ### header line, header block, whole message (proved in `Sipsp.Proofs.ShiftMsg`) -/

/-- **ParseHdrLine is position independent**: for a legitimate (header, values) pair (`HlAll`), the call on
    `pre ++ t` at `pre.size + o` with the moved header and values returns the moved result: offset moved by
    `pre.size`, the same verdict, and the moved header and values — exactly after OK / MoreBytes / Empty, and up to
    the stale (never reported) restart offset of the name-addr value that was being parsed after an error verdict
    (`smRelHL`). After OK and MoreBytes the returned pair satisfies the shift invariant `HlSh` again at the
    returned offset. -/
theorem shift_hdrline : type_of% @Sipsp.parseHdrLine_shift := @Sipsp.parseHdrLine_shift

/-- … in the plain form after OK / MoreBytes / Empty -/
theorem shift_hdrline_exact : type_of% @Sipsp.parseHdrLine_shift_exact := @Sipsp.parseHdrLine_shift_exact

/-- **after MoreBytes the returned pair is a legitimate argument again**, at the returned offset, also once more
    bytes `s` have arrived (`hlPending`: the value a suspended header waits for is not finished yet — true of every
    pair returned with MoreBytes and of every new header) -/
theorem shift_hdrline_resumable : type_of% @Sipsp.parseHdrLine_shiftEntry := @Sipsp.parseHdrLine_shiftEntry

/-- … hence **the resumed call is position independent too** -/
theorem shift_hdrline_resume : type_of% @Sipsp.parseHdrLine_shift_resume := @Sipsp.parseHdrLine_shift_resume

/-- **ParseHeaders is position independent**: from a legitimate pair the call on `pre ++ t` at `pre.size + offs`
    with the moved header list and values returns the offset moved by `pre.size`, the same verdict, the moved header
    list (every stored header, the first-of-type table, counts and type flags) and the moved values (exactly after a
    non-error verdict; up to the stale restart offset of the name-addr value in progress after an error). After
    MoreBytes the header in progress and the values satisfy `HlSh` at the returned offset. -/
theorem shift_headers : type_of% @Sipsp.parseHeaders_shift := @Sipsp.parseHeaders_shift

/-- **ParseSIPMsg is position independent**: for every legitimate message object (`MsgAll`: new / produced by Init, or
    suspended by MoreBytes in the first line, in the header section or before the body), every flag combination and
    every prefix `pre` with `pre.size + t.size ≤ 65535`, the call on `pre ++ t` at `pre.size + o` with the moved object
    returns the offset moved by `pre.size`, the same verdict and the moved message object (`shMsg`: first line, every
    stored header and shortcut, every header value, body, `Buf` / `RawMsg` bookkeeping moved by exactly `pre.size`;
    status, method numbers, counts, flags, lengths and the state unchanged) — exactly, unless the call ended in the
    error state, in which case the header values agree up to the stale (never reported) restart offset of the
    name-addr value that was being parsed (`smRelM`). After MoreBytes the returned object is legitimate again at the
    returned offset on every grown buffer. -/
theorem shift_msg : type_of% @Sipsp.parseSIPMsg_shift := @Sipsp.parseSIPMsg_shift

/-- … in the plain form whenever the call did not end in the error state -/
theorem shift_msg_exact : type_of% @Sipsp.parseSIPMsg_shift_exact := @Sipsp.parseSIPMsg_shift_exact

/-- **a successfully parsed message**: the moved call returns exactly the moved message -/
theorem shift_msg_ok : type_of% @Sipsp.parseSIPMsg_shift_ok := @Sipsp.parseSIPMsg_shift_ok

/-- **from an Init object, one call**: the object is its own translation -/
theorem shift_msg_init : type_of% @Sipsp.parseSIPMsg_shift_init := @Sipsp.parseSIPMsg_shift_init

/-- **the resumed call**: a message that ran out of bytes in `t` (parsed from an Init object) and is resumed at the
    returned offset with the returned object once more bytes `s` have arrived -/
theorem shift_msg_resume : type_of% @Sipsp.parseSIPMsg_shift_resume := @Sipsp.parseSIPMsg_shift_resume

/-- **every object produced by Init is legitimate** (any previous contents, caller arrays of any capacity or none) -/
theorem msg_init_legitimate : type_of% @Sipsp.MsgAll_init := @Sipsp.MsgAll_init

/-- what a caller reads from the moved message: the same verdict-independent numbers and flags -/
theorem msg_translation_scalars : type_of% @Sipsp.shMsg_scalars := @Sipsp.shMsg_scalars

end Sipsp.C11
