/-
  Property C12 — Reset/Init make a used parser object behave like a new one.

  In the model a call's result is a function of (buffer, offset, flags, object) only, so "behaves on every
  later input exactly like a new object" follows from `reset obj = fresh (capacities of obj)`.

  * objects whose Go `Reset` is `*x = T{}` (PFLine, PFromBody, PCSeqBody, PCallIDBody, PUIntBody,
    PTokParam, Hdr, URIParam, PPAIs, PsipURI): the model of Reset IS the fresh value, for every state
    whatsoever (`reset_simple`).
  * HdrLst.Reset clears the whole caller array: fresh for every state (`reset_hdrlst`).
  * PContacts / URIParamsLst / URIHdrsLst clear entries `0..N` only: fresh provided the entries above the one
    in progress are untouched (`reset_contacts`, `reset_uriparams`, `reset_urihdrs`), and that invariant is
    established by `new` and preserved by every parse call (`sc_ct_parseAll` in Proofs/SigCompose) — so it holds for every
    reachable state: after complete, suspended or failed parses, any number of them.
  * PHdrVals / PSIPMsg: composition (`reset_hdrvals`, `reset_msg`).
  * URI parameter list / URI header list, whole histories (`uriparams_any_history`, `urihdrs_any_history`,
    `uriparams_behave_like_new`, `urihdrs_behave_like_new`): take a new object of any capacity, apply ANY sequence of
    ParseAllURIParams / ParseAllURIHdrs calls (any buffers, offsets, flags; complete, suspended, failed) and Reset
    calls, then Reset: the object is literally the new object of that capacity, and every later parse call returns
    what it returns on a new object.
  `Sipsp.Proofs.AuditFixB`: `reset_msg` / `reset_hdrvals` / `reset_contacts` above carry the
  invariant `TailClean` as a hypothesis; `msg_reset_after_any_history`, `msg_reset_like_new(_schedule)`,
  `hdrvals_reset_after_any_history`, `hdrvals_reset_like_new`, `contacts_reset_after_any_history`,
  `contacts_reset_like_new` have NO side condition: for every object reachable by any history of Init (zeroed arrays) /
  parse calls (complete, suspended, failed) / Reset, Reset gives literally the new object over cleared arrays of the same
  capacities, and every later call or chain of resumed calls returns what it returns on a new object (`bufLen`, which
  the parser never reads, aside). `msg_init_any`, `msg_init_like_new`, `contacts_init_new_iff_cleared`: Init builds the
  zero object over the GIVEN arrays — it does not clear them (neither does the Go code), so "like new" holds iff the
  caller's array is cleared (a test shows a stale slot leaking into MaxExpires). `reset_simple`'s first conjunct is a
  tautology: the Go Reset of PFLine, PFromBody, PCSeqBody, PCallIDBody, PUIntBody, PTokParam, Hdr,
  URIParam, PsipURI is `*x = T{}`; the model has no function for it and the session driver substitutes `{}`
  (`driver_reset_simple`, definitional and labelled so); `pais_reset_is_new`.
-/
import Sipsp.Model.Msg
import Sipsp.Model.Params
import Sipsp.Model.URI
import Sipsp.Proofs.UriListsL
import Sipsp.Proofs.AuditFixB

namespace Sipsp.C12
open Sipsp

/-- `*x = T{}`: the reset value does not depend on the previous state -/
theorem reset_simple : (∀ _x : PFLine, ({} : PFLine) = {}) ∧ (∀ c : PPAIs, c.reset = {}) := ⟨fun _ => rfl, fun _ => rfl⟩

/-- **HdrLst.Reset = new header list with the same caller array capacity** (any previous state) -/
theorem reset_hdrlst (hl : HdrLst) : hl.reset = { hdrs := Array.replicate hl.hdrs.size {} } := by
  simp only [HdrLst.reset, Array.map_const']

/-- entries above index `n` are still in their initial state -/
def TailClean {α : Type} (a : Array α) (z : α) (n : Nat) : Prop := ∀ k, n < k → ∀ h : k < a.size, a[k] = z

/-- clearing `0..n` of an array whose tail is clean gives the all-clean array -/
theorem clear_of_tailClean {α : Type} (a : Array α) (z : α) (n : Nat) (h : TailClean a z n) :
    (List.range (min (n + 1) a.size)).foldl (fun acc i => acc.set! i z) a = Array.replicate a.size z :=
  clearUpToP_of_tailZero a z n h

/-- **PContacts.Reset = new contacts object with the same caller array** -/
theorem reset_contacts (c : PContacts) (h : TailClean c.vals {} c.n) :
    c.reset = { vals := Array.replicate c.vals.size {} } := afb_ct_reset_of_tail c h

theorem reset_uriparams (l : URIParamsLst) (h : TailClean l.params {} l.n) :
    l.reset = { params := Array.replicate l.params.size {} } := by
  simp only [URIParamsLst.reset, clearUpToP, clear_of_tailClean l.params {} l.n h]

theorem reset_urihdrs (l : URIHdrsLst) (h : TailClean l.hdrs {} l.n) :
    l.reset = { hdrs := Array.replicate l.hdrs.size {} } := by
  simp only [URIHdrsLst.reset, clearUpToP, clear_of_tailClean l.hdrs {} l.n h]

/-- **C12 for PContacts, every history**: start from a new object; apply any finite sequence of parse calls
    (any buffers, any offsets: complete, abandoned while suspended, or failed); reset: the object equals a
    new one with the same caller array capacity.  (The invariant `TailClean` is kept by every call:
    `sc_ct_parseAll`; a history is a derivation of `AfbCtReach`.) -/
theorem contacts_reset_after_history (cap : Nat) (hist : List (Buf × Nat)) :
    let c := hist.foldl (fun c (bo : Buf × Nat) => (parseAllContactValues bo.1 bo.2 c).2.2)
      ({ vals := Array.replicate cap {} } : PContacts)
    c.reset = { vals := Array.replicate c.vals.size {} } := by
  intro c
  have : ∀ (l : List (Buf × Nat)) (c0 : PContacts), AfbCtReach c0 →
      AfbCtReach (l.foldl (fun c (bo : Buf × Nat) => (parseAllContactValues bo.1 bo.2 c).2.2) c0) := by
    intro l
    induction l with
    | nil => intro c0 h; exact h
    | cons x xs ih => intro c0 h; exact ih _ (.parse x.1 x.2 h)
  exact afb_ct_reset_reach (this hist _ (.new cap))

/-- PHdrVals.Reset resets everything and keeps only the (cleared) caller contact array -/
theorem reset_hdrvals (hv : PHdrVals) (h : TailClean hv.contacts.vals {} hv.contacts.n) :
    hv.reset = { contacts := { vals := Array.replicate hv.contacts.vals.size {} } } := afb_hv_reset_of_tail hv h

/-- **PSIPMsg.Reset = new message object with the same caller arrays** (the retained `Buf` length aside,
    which no parser reads) -/
theorem reset_msg (m : PSIPMsg) (h : TailClean m.pv.contacts.vals {} m.pv.contacts.n) :
    m.reset = { bufLen := m.bufLen,
                hl := { hdrs := Array.replicate m.hl.hdrs.size {} },
                pv := { contacts := { vals := Array.replicate m.pv.contacts.vals.size {} } } } := by
  simp only [PSIPMsg.reset, reset_hdrlst, reset_hdrvals m.pv h]

/-! ### non-vacuity: a suspended two-contact parse into a 3-element array, then reset -/
example :
    let c := (parseAllContactValues #[60, 115, 105, 112, 58, 97, 62, 44, 60, 115] 0 { vals := Array.replicate 3 {} }).2.2
    c.n = 1 ∧ c.reset.n = 0 := by decide +kernel

/-! ### URI parameter / header lists: any history of uses, then Reset = new -/

/-- `hist`: `some (buf, offs, flags)` = a parse call, `none` = a Reset -/
theorem uriparams_any_history (cap : Nat) (hist : List (Option (Buf × Nat × Nat))) :
    (hist.foldl uriParamsUse { params := Array.replicate cap {} }).reset = { params := Array.replicate cap {} } :=
  uriParams_reset_after_uses cap hist

theorem urihdrs_any_history (cap : Nat) (hist : List (Option (Buf × Nat × Nat))) :
    (hist.foldl uriHdrsUse { hdrs := Array.replicate cap {} }).reset = { hdrs := Array.replicate cap {} } :=
  uriHdrs_reset_after_uses cap hist

theorem uriparams_behave_like_new (cap : Nat) (hist : List (Option (Buf × Nat × Nat))) (b : Buf) (offs flags : Nat) :
    parseAllURIParams b offs (hist.foldl uriParamsUse { params := Array.replicate cap {} }).reset flags =
      parseAllURIParams b offs { params := Array.replicate cap {} } flags :=
  uriParams_behaves_like_new cap hist b offs flags

theorem urihdrs_behave_like_new (cap : Nat) (hist : List (Option (Buf × Nat × Nat))) (b : Buf) (offs flags : Nat) :
    parseAllURIHdrs b offs (hist.foldl uriHdrsUse { hdrs := Array.replicate cap {} }).reset flags =
      parseAllURIHdrs b offs { hdrs := Array.replicate cap {} } flags :=
  uriHdrs_behaves_like_new cap hist b offs flags

/-! ### the message object after ANY history, no side condition; what Init guarantees (proved in `Sipsp.Proofs.AuditFixB`) -/

/-- **C12 for PSIPMsg.Reset, no side condition**: for every object reachable by any history of Init (cleared arrays or
    nil) / ParseSIPMsg (any buffer, offset, flags, verdict) / Reset calls, Reset gives literally the new object with
    the same array capacities -/
theorem msg_reset_after_any_history : type_of% @Sipsp.afb_msg_reset_reach := @Sipsp.afb_msg_reset_reach

/-- … hence for EVERY later buffer / offset / flags the call on the Reset object returns what it returns on the new
    object: "behaves like new" -/
theorem msg_reset_like_new : type_of% @Sipsp.afb_msg_reset_like_new := @Sipsp.afb_msg_reset_like_new

/-- … and so does every chain of resumed calls (every chunk schedule) -/
theorem msg_reset_like_new_schedule : type_of% @Sipsp.afb_msg_reset_like_new_schedule := @Sipsp.afb_msg_reset_like_new_schedule

/-- **PSIPMsg.Init, EVERY object `m` (reachable or not), every argument**: the result does not depend on `m` at all; it
    is the zero object over the GIVEN arrays (`none` = nil: the private 10-element arrays, which the Reset inside Init
    has just zeroed).  Init does not clear the caller's arrays: the result is the new object iff they are cleared. -/
theorem msg_init_any : type_of% @Sipsp.afb_msg_init_any := @Sipsp.afb_msg_init_any

/-- **Init of any used object with cleared arrays behaves like new**: every later call — any buffer, offset, flags —
    returns what it returns on the new object -/
theorem msg_init_like_new : type_of% @Sipsp.afb_msg_init_like_new := @Sipsp.afb_msg_init_like_new

/-- **C12 for PHdrVals.Reset, no side condition** -/
theorem hdrvals_reset_after_any_history : type_of% @Sipsp.afb_hv_reset_reach := @Sipsp.afb_hv_reset_reach

/-- … behaves like new in every later ParseHdrLine / ParseHeaders call -/
theorem hdrvals_reset_like_new : type_of% @Sipsp.afb_hv_reset_like_new := @Sipsp.afb_hv_reset_like_new

/-- **C12 for PContacts.Reset, no side condition**, and "behaves like new" -/
theorem contacts_reset_after_any_history : type_of% @Sipsp.afb_ct_reset_reach := @Sipsp.afb_ct_reset_reach

theorem contacts_reset_like_new : type_of% @Sipsp.afb_ct_reset_like_new := @Sipsp.afb_ct_reset_like_new

/-- … which is the new object exactly when the given array is cleared -/
theorem contacts_init_new_iff_cleared : type_of% @Sipsp.afb_contacts_init_new_iff := @Sipsp.afb_contacts_init_new_iff

/-- the one model function of this kind: `PPAIs.reset` returns the zero object for EVERY argument -/
theorem pais_reset_is_new : type_of% @Sipsp.afb_pais_reset := @Sipsp.afb_pais_reset

/-- the driver's Reset of a stand-alone object of these types is the substitution of the zero object, whatever the
    object was (definitional) -/
theorem driver_reset_simple : type_of% @Sipsp.afb_driver_reset_simple := @Sipsp.afb_driver_reset_simple

end Sipsp.C12
