/-
  Property C13 — caller-chosen capacities only truncate what is stored, never change the parse.

  Proved here (two-run relation; `MsgRel` relates two message objects that differ only in the capacity-dependent
  representation of the header list and of the contacts):
    * `capacity_init`      : two Init calls with ANY header / contact capacities (or none), whatever the objects held
                             before, give related objects;
    * `capacity_one_call`  : one ParseSIPMsg call on related objects returns the same offset and the same verdict; after
                             MoreBytes the objects are related again; after OK they agree on everything listed in
                             `observables`;
    * `capacity_schedule`  : the same for every chunk schedule (chains of resumed calls), buffers ≤ 65,535 bytes;
    * `observables`        : first line, body, raw message, header count, type flags, every first-of-type shortcut,
                             From/To/Call-ID/CSeq/Content-Length/Expires/PAI values, contact count and header count,
                             the expires summary — all equal; the stored headers / contacts agree on every index both
                             arrays hold (the stored elements are a prefix of what a larger array holds); the "more"
                             indicators are `n > capacity` with equal `n`;
    * `capacity_contacts`  : for ParseAllContactValues itself, additionally: after OK the first and the last contact
                             are retrievable (`GetContact 0`, `GetContact (n-1)`) whatever the capacity, incl. zero.
  (The P-Asserted-Identity array has a fixed capacity of 2 in the library; its capacity-generic proof is in
  Proofs/CapacityPAI.lean.)
    * message level (`capacity_from_init_first_last`, `capacity_schedule_first_last`, `first_last_contact`,
      `contacts_more_indicator`, `contacts_stored_prefix`, `headers_stored_prefix`, `identities_*`): after a successful
      parse (any chunk schedule, any two capacity choices incl. zero / none) the first and the last contact are
      retrievable and equal in both runs; 'more' ⇔ N > capacity ⇔ something was dropped; the stored contacts / headers
      of the smaller array are a prefix of the larger one's; the identity list likewise (its last value is retrievable
      only when nothing was dropped: GetPAI has no scratch-slot fallback — stated as such).
  URI parameter / header list capacities: `capacity_uriparams`, `capacity_urihdrs`.
  Not proved:
  while a parse is suspended INSIDE a Contact line the "last contact" read returns the half-parsed value (true of the
  code as well; the theorems state the condition). The signature's truncation indication is proved in C19.
  ACCESSORS FOR EVERY INDEX (`Sipsp.Proofs.CapacityExtra`): `getContact_cases`, `getContact_isSome_iff`, `getContact_none_of_ge`
  — the complete case table of `GetContact(k)` for every `k` (stored value / `last` slot for k = N-1 / `first` slot for
  k = 0 / nil), `getPAI_cases`, `getPAI_none_iff`, `getHdr_cases`, `getHdr_none_iff`, `getHdr_after_run` (nil exactly for the
  none / other / unknown types, after Init and any chunk schedule); `first_last_reference`: for every capacity (0 and none
  included) and every schedule, `GetContact(0)` / `GetContact(N-1)` equal the first / last value of a reference run whose
  array stores them.
-/
import Sipsp.Proofs.CapacityMsg
import Sipsp.Proofs.CapacityExtra
import Sipsp.Proofs.UriListsL

namespace Sipsp.C13
open Sipsp

theorem capacity_init (m0 m0' : PSIPMsg) (len : Nat) (kh1 kc1 kh2 kc2 : Nat) (hd1 ct1 hd2 ct2 : Option Unit) :
    MsgRel (m0.init len (hd1.map fun _ => Array.replicate kh1 {}) (ct1.map fun _ => Array.replicate kc1 {}))
      (m0'.init len (hd2.map fun _ => Array.replicate kh2 {}) (ct2.map fun _ => Array.replicate kc2 {})) :=
  MsgRel_init m0 m0' len kh1 kc1 kh2 kc2 hd1 ct1 hd2 ct2

theorem capacity_one_call (b : Buf) (o : Nat) (m1 m2 : PSIPMsg) (flags : Nat) (hR : MsgRel m1 m2)
    (hok : msgOK2 b o m1) :
    (parseSIPMsg b o m1 flags).1 = (parseSIPMsg b o m2 flags).1 ∧
    (parseSIPMsg b o m1 flags).2.1 = (parseSIPMsg b o m2 flags).2.1 ∧
    ((parseSIPMsg b o m1 flags).2.1 = .moreBytes → MsgRel (parseSIPMsg b o m1 flags).2.2 (parseSIPMsg b o m2 flags).2.2) ∧
    ((parseSIPMsg b o m1 flags).2.1 = .ok → MsgDone (parseSIPMsg b o m1 flags).2.2 (parseSIPMsg b o m2 flags).2.2) :=
  parseSIPMsg_rel b o m1 m2 flags hR hok

theorem capacity_schedule (flags : Nat) (o : Nat) (m1 m2 : PSIPMsg) (l : List Buf) (hg : Growing l)
    (hfit : ∀ x ∈ l, x.size ≤ 65535) (hR : MsgRel m1 m2) (h0 : ∀ b ∈ l.head?, msgOK2 b o m1) (hne : l ≠ []) :
    MsgOut (resumeRun (fun b o m => parseSIPMsg b o m flags) o m1 l)
      (resumeRun (fun b o m => parseSIPMsg b o m flags) o m2 l) :=
  Sipsp.capacity_schedule flags o m1 m2 l hg hfit hR h0 hne

/-- from Init with any two capacity choices, any chunk schedule: same offset, same verdict, and on success the
    same observables -/
theorem capacity_from_init (flags : Nat) (o : Nat) (m0 m0' : PSIPMsg) (len kh1 kc1 kh2 kc2 : Nat)
    (hd1 ct1 hd2 ct2 : Option Unit) (l : List Buf) (hg : Growing l) (hfit : ∀ x ∈ l, x.size ≤ 65535)
    (ho : ∀ b ∈ l.head?, o ≤ b.size) (hne : l ≠ []) :
    MsgOut
      (resumeRun (fun b o m => parseSIPMsg b o m flags) o
        (m0.init len (hd1.map fun _ => Array.replicate kh1 {}) (ct1.map fun _ => Array.replicate kc1 {})) l)
      (resumeRun (fun b o m => parseSIPMsg b o m flags) o
        (m0'.init len (hd2.map fun _ => Array.replicate kh2 {}) (ct2.map fun _ => Array.replicate kc2 {})) l) :=
  Sipsp.capacity_schedule flags o _ _ l hg hfit (MsgRel_init m0 m0' len kh1 kc1 kh2 kc2 hd1 ct1 hd2 ct2)
    (fun b hb => msgOK2_init b o (ho b hb) m0 len kh1 kc1 hd1 ct1) hne

theorem observables {m1 m2 : PSIPMsg} (h : MsgDone m1 m2) :
    m1.fl = m2.fl ∧ m1.body = m2.body ∧ m1.bufLen = m2.bufLen ∧ m1.rawOffs = m2.rawOffs ∧ m1.rawLen = m2.rawLen ∧
    m1.state = m2.state ∧
    m1.hl.n = m2.hl.n ∧ m1.hl.pflags = m2.hl.pflags ∧ (∀ t, m1.hl.getHdr t = m2.hl.getHdr t) ∧
    (∀ k, k < m1.hl.n → k < m1.hl.hdrs.size → k < m2.hl.hdrs.size → m1.hl.hdrs[k]! = m2.hl.hdrs[k]!) ∧
    m1.pv.from_ = m2.pv.from_ ∧ m1.pv.to = m2.pv.to ∧ m1.pv.callid = m2.pv.callid ∧ m1.pv.cseq = m2.pv.cseq ∧
    m1.pv.clen = m2.pv.clen ∧ m1.pv.expires = m2.pv.expires ∧ m1.pv.pais = m2.pv.pais ∧
    m1.pv.contacts.n = m2.pv.contacts.n ∧ m1.pv.contacts.hNo = m2.pv.contacts.hNo ∧
    m1.pv.maxExpires = m2.pv.maxExpires ∧ m1.pv.contacts.minExpires = m2.pv.contacts.minExpires ∧
    (∀ k, k < m1.pv.contacts.n → k < m1.pv.contacts.vals.size → k < m2.pv.contacts.vals.size →
      m1.pv.contacts.vals[k]! = m2.pv.contacts.vals[k]!) := h.observables

/-- ParseAllContactValues on two contacts objects of ANY two capacities (incl. zero) that went through the same
    history: same offset and verdict; after OK the counts, the expires summary and the running header value agree,
    the stored values agree wherever both arrays hold them, and the first and the last value are retrievable -/
theorem capacity_contacts (b : Buf) (o : Nat) (c1 c2 : PContacts) (h : CtW c1 c2) :
    (parseAllContactValues b o c1).1 = (parseAllContactValues b o c2).1 ∧
    (parseAllContactValues b o c1).2.1 = (parseAllContactValues b o c2).2.1 ∧
    ((parseAllContactValues b o c1).2.1 = .ok →
      CtDone (parseAllContactValues b o c1).2.2 (parseAllContactValues b o c2).2.2) :=
  let r := parseAllContactValues_rel b o c1 c2 h; ⟨r.1, r.2.1, r.2.2.2⟩

theorem contacts_new_related (k1 k2 : Nat) :
    CtW ({ vals := Array.replicate k1 {} } : PContacts) ({ vals := Array.replicate k2 {} } : PContacts) :=
  CtW_new k1 k2

/-! ### message level: first / last contact, "more" indicators, stored prefixes, identities -/

/-- every chunk schedule, two Init calls with any capacities (or none): same offset and verdict, the relations of
    `MsgOutX` (= `MsgOut` + first / last contact agreement) between the two final objects -/
theorem capacity_from_init_first_last : type_of% @capacity_from_initX := @capacity_from_initX

/-- … from any two related objects -/
theorem capacity_schedule_first_last : type_of% @capacity_scheduleX := @capacity_scheduleX

/-- **first and last contact retrievable for every capacity (zero included), and equal in both runs** -/
theorem first_last_contact {m1 m2 : PSIPMsg} (h : MsgDoneX m1 m2) (hn : m1.pv.contacts.n > 0) :
    m1.pv.contacts.n = m2.pv.contacts.n ∧ ∃ f l,
      m1.pv.contacts.getContact 0 = some f ∧ m2.pv.contacts.getContact 0 = some f ∧
      m1.pv.contacts.getContact (m1.pv.contacts.n - 1) = some l ∧
      m2.pv.contacts.getContact (m2.pv.contacts.n - 1) = some l := h.first_last hn

/-- **the 'more' indicator says exactly when values were dropped**; the stored count is min(N, capacity) -/
theorem contacts_more_indicator : type_of% @MsgDone.contacts_more := @MsgDone.contacts_more

/-- **what is stored is a prefix of what a larger array holds** (contacts, then headers) -/
theorem contacts_stored_prefix : type_of% @MsgDone.contacts_mono := @MsgDone.contacts_mono
theorem headers_stored_prefix : type_of% @MsgDone.hdrs_mono := @MsgDone.hdrs_mono

/-- identity values: stand-alone list parser with any two capacities; indicators, prefix, first / last -/
theorem capacity_identities : type_of% @capacity_pais := @capacity_pais
theorem identities_more_prefix : type_of% @PaDone.more_prefix := @PaDone.more_prefix
theorem identities_first_last : type_of% @PaDone.first_last := @PaDone.first_last
theorem identities_in_message : type_of% @MsgDone.pais := @MsgDone.pais


/-! ### URI parameter / header lists (stand-alone parsers) -/

/-- two runs with arrays of different capacity: same offset, value count and verdict; the result lists are related
    again (same N, type flags, current element; stored elements agree wherever both arrays have room) -/
theorem capacity_uriparams : type_of% @parseAllURIParams_rel := @parseAllURIParams_rel
theorem capacity_urihdrs : type_of% @parseAllURIHdrs_rel := @parseAllURIHdrs_rel
theorem uri_lists_new_related (k1 k2 : Nat) :
    PlRel { params := Array.replicate k1 {} } { params := Array.replicate k2 {} } ∧
    HlRel { hdrs := Array.replicate k1 {} } { hdrs := Array.replicate k2 {} } := ⟨PlRel_new k1 k2, HlRel_new k1 k2⟩


/-! ### non-vacuity: capacity 0 versus capacity 3 on a two-value Contact line -/
def exLine : Buf := "<sip:a@b>;expires=5, <sip:c@d>\r\nX".toUTF8.data
example : (parseAllContactValues exLine 0 { vals := #[] }).2.1 = Err.ok := by decide +kernel
example : (parseAllContactValues exLine 0 { vals := #[] }).2.2.n = 2 := by decide +kernel

/-! ### first / last contact retrievable (proved in `Sipsp.Proofs.CapacityExtra`) -/

/-- with at least one value parsed, `GetContact(0)` is never nil, whatever the capacity -/
theorem first_contact_retrievable : type_of% @Sipsp.getContact_first_isSome := @Sipsp.getContact_first_isSome

/-- with at least one value parsed, `GetContact(N-1)` is never nil, whatever the capacity -/
theorem last_contact_retrievable : type_of% @Sipsp.getContact_last_isSome := @Sipsp.getContact_last_isSome

/-! ### the accessors for EVERY index; first / last contact against a reference run that stores them (proved in `Sipsp.Proofs.CapacityExtra`) -/

/-- complete case table of `GetContact(k)`, every `k` -/
theorem getContact_cases : type_of% @Sipsp.lo2_getContact_cases := @Sipsp.lo2_getContact_cases

/-- `GetContact(k)` is non-nil exactly for a stored index, or — when at least one value was parsed — for the first
    and the last index (scratch slots) -/
theorem getContact_isSome_iff : type_of% @Sipsp.lo2_getContact_isSome_iff := @Sipsp.lo2_getContact_isSome_iff

/-- an index at or beyond the number of parsed values gives nil -/
theorem getContact_none_of_ge : type_of% @Sipsp.lo2_getContact_none_of_ge := @Sipsp.lo2_getContact_none_of_ge

theorem getPAI_cases : type_of% @Sipsp.lo2_getPAI_cases := @Sipsp.lo2_getPAI_cases

/-- `GetPAI(k)`: nil exactly outside `[0, VNo)` -/
theorem getPAI_none_iff : type_of% @Sipsp.lo2_getPAI_none_iff := @Sipsp.lo2_getPAI_none_iff

/-- `GetHdr(t)` for every `t`: the slot `t-1` of the first-of-type table for a known type, nil otherwise -/
theorem getHdr_cases : type_of% @Sipsp.lo2_getHdr_cases := @Sipsp.lo2_getHdr_cases

theorem getHdr_none_iff : type_of% @Sipsp.lo2_getHdr_none_iff := @Sipsp.lo2_getHdr_none_iff

/-- **`GetHdr` after Init and any chain of ParseSIPMsg calls**: total, nil exactly for `HdrNone`, `HdrOther` and
    unknown type numbers, otherwise the slot of that type -/
theorem getHdr_after_run : type_of% @Sipsp.lo2_getHdr_after_run := @Sipsp.lo2_getHdr_after_run

/-- **from Init, every chunk schedule, every capacity (zero / none included)**: after OK with at least one contact,
    `GetContact(0)` is the element a reference run stores at index 0 and `GetContact(N-1)` the element it stores at
    index N-1 (reference = any run whose array has room for them) -/
theorem first_last_reference : type_of% @Sipsp.lo2_first_last_reference := @Sipsp.lo2_first_last_reference

end Sipsp.C13
