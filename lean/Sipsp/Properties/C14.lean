/-
  Property C14 — URI parsing is a lossless, ordered decomposition.

  Proved here for ALL byte strings `b` of at most 65,535 bytes (the documented maximum; needed because field
  offsets are 16 bit), parsed with `ParseURI` into a zero `PsipURI`, in any scheme letter case:
    * `never_panics`, `position_inside` : ParseURI never panics and the returned position is ≤ len(b) for every
      outcome (so every rejection reports an error position inside the input);
    * `accepted_consumes_all` : an accepted URI is consumed completely (returned offset = len(b));
    * `accepted_shape` : an accepted URI has type sip / sips / tel with scheme field `[0,4)` / `[0,5)` / `[0,4)`;
      the byte closing the scheme is ':' for sips; for sip and tel it is ':' or 0x1a (see below);
    * `sip_layout` : for an accepted sip: / sips: URI the reported components satisfy `URILayout b k u`:
      scheme = [0,k); then either no user and no password and the host starts at k, or the user starts at k, is not
      empty, is followed by an optional ':' password, then '@', then the host; the host is not empty; then an
      optional ':' port, an optional ';' parameters, an optional '?' headers; every present component starts exactly
      one byte after the previous one ends, that byte being the right delimiter, and the last one ends at len(b).
      "Present" means offset ≠ 0 (a present port / parameters / headers / password may be empty: `sip:h:`, `sip:u:@h`);
    * `sip_order` : hence the present components lie inside the buffer, start at or after the scheme, and are pairwise
      disjoint and strictly ordered user < password < host < port < parameters < headers;
    * `sip_lossless` : joining scheme, [user [':' password] '@'], host, [':' port], [';' parameters], ['?' headers]
      gives back the input byte for byte (`urender b u = b`, an equation on `Array.extract`s);
    * `sip_fields_readable` : `Get` on each of the seven fields does not panic and returns that slice;
    * `tel_layout` : for an accepted tel: URI the host field is zero and the result is the sip-style decomposition
      `u0` (which satisfies `URILayout b 4 u0`) with `u0.host` handed out as the user; `tel_lossless` : when the number
      starts right after the scheme (user offset 4: no '@' re-attribution took place) scheme ++ user ++ optional
      parts reproduce the input; `tel_fields_readable` : `Get` works on all fields;
    * `at_is_last`, `sip_at_is_last`, `sip_no_user_no_at` : which '@' splits — in an accepted URI there is no '@' at or
      after the start of the reported host, i.e. the '@' that closes the user-info is the LAST '@' of the input, so
      every ';' '?' ':' in front of it lies in user[:password] (by `sip_layout`) and none of the host, port, parameters,
      headers contains an '@'; when no user is reported the input has no '@' at all after the first byte behind the
      scheme (that first byte is not examined for '@': `sip:@h` has host `@h`);
    * `bracket_host`, `sip_bracket_host` : a reported host that starts with '[' ends with ']' (brackets are kept).
  The back-tracking of the automaton (text first taken as host / port / parameters / headers and re-attributed to
  user / password when '@' shows up: `foundUser`, `passOffs`, `errHeaders`) is covered: the theorems hold for every
  accepted input, whichever path the automaton took (loop invariant `URun` in Sipsp/Proofs/UriInv.lean; an accepted
  URI is a text of the grammar, `parseURI_accepted` in UriInv.lean, and layout, last '@' and brackets are read off
  the grammar in UriGrammar.lean).

  COMPLETENESS and the exact iff (`Sipsp.Proofs.UriComplete`, byte classes taken from the automaton's ordinary-byte
  branches): `complete` — every text of the grammar `UcURI` (scheme in any letter case; optional user[:password]@ with
  the ';' / '?' / "host:port;params" back-tracking forms; host = token run or `[…]`; optional :port with value ≤ 65535;
  optional ;params; optional ?headers) is accepted with exactly the stated components; `sound_grammar`, `accepted_iff`,
  `ok_iff`: a text is accepted as sip: / sips: IF AND ONLY IF it is a `UcURI`, `decomposition_unique`; tel:
  (`tel_complete`, `tel_simple`, `tel_sound`, `tel_iff`: exact iff as well; Host empty, User = the number);
  error code AND position for the rejection shapes a user meets: `err_too_short`, `err_scheme`, `err_empty_host`,
  `err_bracket_open`, `err_bracket_junk` (at the offending byte or the end of input), `err_port_char` (at the
  non-digit; hosts behind '@' and bracketed hosts), `err_port_big` (at the byte behind the digits).
  EVERY rejection (`Sipsp.Proofs.UriErrors`): `err_first_char`, `err_user_bracket`, `err_pass_char`, `err_pass_no_at`,
  `err_pass_end`, `err_host_at`, `err_second_at`, `err_committed_at`, `err_headers_semi` — the remaining rejection
  shapes with code and position; `total`: every input ≤ 65,535 bytes is accepted (then a text of the grammar), too
  short, without a known scheme (always reported at position 4), or rejected behind a scheme — at the end of the input
  with the whole text described, or at the byte at the reported position with the text in front of it described;
  `reject_inside`: a reported position inside the input is 4 (scheme) or points at a byte of an explicit finite set per
  error code (BadChar: `: ] [ ; ? @ &`; host: `: ; ? & @ [` or junk behind `]`; port: a non-digit) — never at an
  innocent byte; `reject_end`; `scheme_case_stable`. Positions that are NOT at the offending byte (each with a test):
  a bad scheme is always reported at 4; `token:text` without '@' with a non-digit in the text is reported at the END
  (`sip:h:12x` → 9) or at a following ';' / '?'; a ';' inside the headers without user-info is reported at the END.
  NOT proved: the converse of the rejection shapes as one statement (each alternative but the last is the hypothesis
  of an `err_*` theorem).
  Observed (each with a test in UriComplete): `sip:h:12x` reports the port error at the END of the input (without
  '@' the non-digit starts a password); `sip:a&b` is accepted with host `a&b` but `sip:u@a&b` is rejected;
  `sip:u@a]b[` is accepted; `sip:u:1;x@h` is rejected while `sip:[a]:1;x@h` is accepted; for tel: URIs containing
  '@' the user-info part is dropped from the report, so no tiling is claimed there.
  Quirks of the code visible in the statements: the scheme test ORs 0x20 into the first four bytes, so 0x1a is
  accepted in place of ':' after `sip` / `tel` (`USchEnd`); the first byte after the scheme is only checked for
  ':' ']' '[' and otherwise taken as ordinary text, even '@' ';' '?' (`sip:@h` has host `@h`).
  Model tied to sipuri.go by the correspondence check.
  Scope of "EVERY rejection": the last alternative of `UeShape` and the
  headers alternative of `UeEndShape` are necessary conditions only; the reject sets of host and port are not finite sets
  of bytes (host: junk behind `]`; port: any non-digit).
-/
import Sipsp.Proofs.UriSpec
import Sipsp.Proofs.UriComplete
import Sipsp.Proofs.UriErrors

namespace Sipsp.C14
open Sipsp

/-- ParseURI does not panic, whatever the input -/
theorem never_panics (b : Buf) (hfit : b.size ≤ 65535) : (parseURI b {}).2.2.2 = false :=
  (parseURI_ok b hfit).2.1

/-- accepted or rejected, the reported position lies inside the input -/
theorem position_inside (b : Buf) (hfit : b.size ≤ 65535) : (parseURI b {}).2.1 ≤ b.size :=
  (parseURI_ok b hfit).1

/-- an accepted URI is consumed completely -/
theorem accepted_consumes_all (b : Buf) (hfit : b.size ≤ 65535) (hacc : (parseURI b {}).1 = .none) :
    (parseURI b {}).2.1 = b.size :=
  ((parseURI_ok b hfit).2.2 hacc).1

/-- the accepted URI types, the scheme field and the byte that closes the scheme -/
theorem accepted_shape (b : Buf) (hfit : b.size ≤ 65535) (hacc : (parseURI b {}).1 = .none) :
    ((parseURI b {}).2.2.1.uriType = SIPuri ∧ (parseURI b {}).2.2.1.scheme = ⟨0, 4⟩ ∧ USchEnd b) ∨
    ((parseURI b {}).2.2.1.uriType = TELuri ∧ (parseURI b {}).2.2.1.scheme = ⟨0, 4⟩ ∧ USchEnd b) ∨
    ((parseURI b {}).2.2.1.uriType = SIPSuri ∧ (parseURI b {}).2.2.1.scheme = ⟨0, 5⟩ ∧ b[4]? = some 58) := by
  rcases parseURI_shape b hfit hacc with ⟨ht, h3, hl⟩ | ⟨ht, h3, u0, hl, hu⟩ | ⟨ht, h4, hl⟩
  · exact .inl ⟨ht, hl.1, h3⟩
  · exact .inr (.inl ⟨ht, by rw [hu]; exact hl.1, h3⟩)
  · exact .inr (.inr ⟨ht, hl.1, h4⟩)

/-- sip: and sips: — the reported components tile the input (`k` = scheme length with its ':') -/
theorem sip_layout (b : Buf) (hfit : b.size ≤ 65535) (hacc : (parseURI b {}).1 = .none)
    (hsip : (parseURI b {}).2.2.1.uriType ≠ TELuri) :
    ∃ k, (k = 4 ∨ k = 5) ∧ URILayout b k (parseURI b {}).2.2.1 := by
  rcases parseURI_shape b hfit hacc with ⟨_, _, hl⟩ | ⟨ht, _⟩ | ⟨_, _, hl⟩
  · exact ⟨4, .inl rfl, hl⟩
  · exact absurd ht hsip
  · exact ⟨5, .inr rfl, hl⟩

/-- ordered, disjoint, inside the buffer -/
theorem sip_order (b : Buf) (hfit : b.size ≤ 65535) (hacc : (parseURI b {}).1 = .none)
    (hsip : (parseURI b {}).2.2.1.uriType ≠ TELuri) :
    ∃ k, (k = 4 ∨ k = 5) ∧
      (parseURI b {}).2.2.1.scheme = ⟨0, k⟩ ∧ k ≤ b.size ∧
      0 < (parseURI b {}).2.2.1.host.len ∧ k ≤ (parseURI b {}).2.2.1.host.offs ∧
      (∀ f ∈ [(parseURI b {}).2.2.1.user, (parseURI b {}).2.2.1.pass, (parseURI b {}).2.2.1.host,
              (parseURI b {}).2.2.1.port, (parseURI b {}).2.2.1.params, (parseURI b {}).2.2.1.headers],
        f.offs + f.len ≤ b.size ∧ (f.offs ≠ 0 → k ≤ f.offs)) ∧
      List.Pairwise UBefore
        [(parseURI b {}).2.2.1.user, (parseURI b {}).2.2.1.pass, (parseURI b {}).2.2.1.host,
         (parseURI b {}).2.2.1.port, (parseURI b {}).2.2.1.params, (parseURI b {}).2.2.1.headers] := by
  obtain ⟨k, hk, hl⟩ := sip_layout b hfit hacc hsip
  exact ⟨k, hk, hl.order (by omega)⟩

/-- nothing dropped, nothing duplicated: the components joined with their delimiters are the input -/
theorem sip_lossless (b : Buf) (hfit : b.size ≤ 65535) (hacc : (parseURI b {}).1 = .none)
    (hsip : (parseURI b {}).2.2.1.uriType ≠ TELuri) : urender b (parseURI b {}).2.2.1 = b := by
  obtain ⟨k, hk, hl⟩ := sip_layout b hfit hacc hsip
  exact hl.join (by omega)

/-- every field can be read back with `Get` -/
theorem sip_fields_readable (b : Buf) (hfit : b.size ≤ 65535) (hacc : (parseURI b {}).1 = .none)
    (hsip : (parseURI b {}).2.2.1.uriType ≠ TELuri) :
    ∀ f ∈ [(parseURI b {}).2.2.1.scheme, (parseURI b {}).2.2.1.user, (parseURI b {}).2.2.1.pass,
           (parseURI b {}).2.2.1.host, (parseURI b {}).2.2.1.port, (parseURI b {}).2.2.1.params,
           (parseURI b {}).2.2.1.headers],
      PField.get? b f = some (b.extract f.offs (f.offs + f.len)) :=
  parseURI_get b hfit hacc

/-- tel: — the host is empty and the number is what the sip-style decomposition `u0` calls the host -/
theorem tel_layout (b : Buf) (hfit : b.size ≤ 65535) (hacc : (parseURI b {}).1 = .none)
    (htel : (parseURI b {}).2.2.1.uriType = TELuri) :
    (parseURI b {}).2.2.1.host = ⟨0, 0⟩ ∧
    ∃ u0, URILayout b 4 u0 ∧ (parseURI b {}).2.2.1 = telSwap u0 ∧ (parseURI b {}).2.2.1.user = u0.host := by
  rcases parseURI_shape b hfit hacc with ⟨ht, _⟩ | ⟨_, _, u0, hl, hu⟩ | ⟨ht, _⟩
  · rw [htel] at ht; cases ht
  · rw [hu]; exact ⟨rfl, u0, hl, rfl, rfl⟩
  · rw [htel] at ht; cases ht

/-- tel: with the number right after the scheme: scheme ++ number ++ optional parts is the input -/
theorem tel_lossless (b : Buf) (hfit : b.size ≤ 65535) (hacc : (parseURI b {}).1 = .none)
    (htel : (parseURI b {}).2.2.1.uriType = TELuri) (h4 : (parseURI b {}).2.2.1.user.offs = 4) :
    utelRender b (parseURI b {}).2.2.1 = b := by
  obtain ⟨_, u0, hl, hu, huser⟩ := tel_layout b hfit hacc htel
  rw [huser] at h4
  rw [hu]
  exact hl.tel_join (by omega) h4

/-- tel: every field can be read back with `Get` -/
theorem tel_fields_readable (b : Buf) (hfit : b.size ≤ 65535) (hacc : (parseURI b {}).1 = .none)
    (htel : (parseURI b {}).2.2.1.uriType = TELuri) :
    ∀ f ∈ [(parseURI b {}).2.2.1.scheme, (parseURI b {}).2.2.1.user, (parseURI b {}).2.2.1.pass,
           (parseURI b {}).2.2.1.host, (parseURI b {}).2.2.1.port, (parseURI b {}).2.2.1.params,
           (parseURI b {}).2.2.1.headers],
      PField.get? b f = some (b.extract f.offs (f.offs + f.len)) :=
  parseURI_get b hfit hacc

/-! ### which '@' splits, brackets -/

/-- no '@' at or after the start of the reported host (all URI types; for tel: the host is reported as user) -/
theorem at_is_last (b : Buf) (hfit : b.size ≤ 65535) (hacc : (parseURI b {}).1 = .none) :
    ∀ j, (parseURI b {}).2.2.1.scheme.len < j → uhostStart (parseURI b {}).2.2.1 ≤ j → j < b.size →
      b[j]? ≠ some 64 :=
  parseURI_at b hfit hacc

/-- sip: / sips: — the '@' in front of the host is the last '@' of the input: host, port, parameters and headers
    are free of '@' (only the very first byte after the scheme is exempt: it is never looked at as a delimiter) -/
theorem sip_at_is_last (b : Buf) (hfit : b.size ≤ 65535) (hacc : (parseURI b {}).1 = .none)
    (hsip : (parseURI b {}).2.2.1.uriType ≠ TELuri) :
    ∀ j, (parseURI b {}).2.2.1.scheme.len < j → (parseURI b {}).2.2.1.host.offs ≤ j → j < b.size →
      b[j]? ≠ some 64 := by
  intro j h1 h2 h3
  refine parseURI_at b hfit hacc j h1 ?_ h3
  unfold uhostStart
  rw [if_neg hsip]
  exact h2

/-- sip: / sips: — if no user is reported there is no '@' after the first byte behind the scheme: an '@' further on
    always produces a user part (so ';' '?' ':' before an '@' are never left in host / parameters / headers) -/
theorem sip_no_user_no_at (b : Buf) (hfit : b.size ≤ 65535) (hacc : (parseURI b {}).1 = .none)
    (hsip : (parseURI b {}).2.2.1.uriType ≠ TELuri) (hno : (parseURI b {}).2.2.1.user.offs = 0) :
    ∀ j, (parseURI b {}).2.2.1.scheme.len < j → j < b.size → b[j]? ≠ some 64 := by
  intro j h1 h3
  obtain ⟨k, hk, hl⟩ := sip_layout b hfit hacc hsip
  have hsch : (parseURI b {}).2.2.1.scheme.len = k := by rw [hl.1]
  have hho : (parseURI b {}).2.2.1.host.offs = k := by
    have := hl.2.1.arith
    omega
  exact sip_at_is_last b hfit hacc hsip j h1 (by omega) h3

/-- a reported host (for tel: the user) that starts with '[' ends with ']' -/
theorem bracket_host (b : Buf) (hfit : b.size ≤ 65535) (hacc : (parseURI b {}).1 = .none) :
    UHostBr b (uhostField (parseURI b {}).2.2.1) :=
  parseURI_br b hfit hacc

theorem sip_bracket_host (b : Buf) (hfit : b.size ≤ 65535) (hacc : (parseURI b {}).1 = .none)
    (hsip : (parseURI b {}).2.2.1.uriType ≠ TELuri)
    (hbr : b[(parseURI b {}).2.2.1.host.offs]? = some 91) :
    b[(parseURI b {}).2.2.1.host.offs + (parseURI b {}).2.2.1.host.len - 1]? = some 93 := by
  have h := parseURI_br b hfit hacc
  unfold uhostField at h
  rw [if_neg hsip] at h
  exact h hbr

/-! ### tests / non-vacuity (closed computations, `decide +kernel`) -/

-- the hypotheses are satisfiable: accepted sip:, sips: and tel: URIs, with back-tracking ('@' after ';' '?' ':')
example : (parseURI "sip:u;x?y:p@[::1]:5060;a=b?c=d".toUTF8.data {}).1 = UErr.none := by decide +kernel
example : (parseURI "sip:u;x?y:p@[::1]:5060;a=b?c=d".toUTF8.data {}).2.2.1 =
    { uriType := SIPuri, scheme := ⟨0, 4⟩, user := ⟨4, 5⟩, pass := ⟨10, 1⟩, host := ⟨12, 5⟩, port := ⟨18, 4⟩,
      params := ⟨23, 3⟩, headers := ⟨27, 3⟩, portNo := 5060 } := by decide +kernel
example : (parseURI "SIPS:h".toUTF8.data {}).2.2.1.uriType = SIPSuri := by decide +kernel
example : (parseURI "sip:h:".toUTF8.data {}).2.2.1.port = ⟨6, 0⟩ := by decide +kernel
example : (parseURI "tel:+123;x=y".toUTF8.data {}).1 = UErr.none ∧
    (parseURI "tel:+123;x=y".toUTF8.data {}).2.2.1.user = ⟨4, 4⟩ ∧
    (parseURI "tel:+123;x=y".toUTF8.data {}).2.2.1.host = ⟨0, 0⟩ := by decide +kernel
-- the 0x1a quirk: `sip` 0x1a `h` is accepted as a sip URI with host `h`
example : (parseURI #[115, 105, 112, 26, 104] {}).1 = UErr.none := by decide +kernel
-- tel: with '@': the user-info is dropped from the report (why `tel_lossless` needs its hypothesis)
example : (parseURI "tel:a@b".toUTF8.data {}).2.2.1.user = ⟨6, 1⟩ := by decide +kernel
-- a bracketed host: `[::1]` is reported with both brackets
example : (parseURI "sip:[::1]:5".toUTF8.data {}).2.2.1.host = ⟨4, 5⟩ := by decide +kernel
-- a rejected URI
example : (parseURI "sip:a@b@c".toUTF8.data {}).1 = UErr.badChar ∧ (parseURI "sip:a@b@c".toUTF8.data {}).2.1 = 7 := by
  decide +kernel

/-! ### completeness: which texts are accepted (exact iff), and error positions (proved in `Sipsp.Proofs.UriComplete`) -/

/-- **EXPORT C14 — completeness for sip: / sips:**: a text of the grammar is accepted with exactly the components
    user, password, host, port, port number, parameters, headers and type of its decomposition -/
theorem complete : type_of% @Sipsp.parseURI_complete := @Sipsp.parseURI_complete

/-- **EXPORT C14 — completeness, all URI types**: a text of the grammar (≤ 65,535 bytes) is accepted, consumed to
    the end, never panics, and the report is exactly the decomposition `u` (for tel: with the host handed out as
    the user, `ucOut`) -/
theorem complete_all_schemes : type_of% @Sipsp.parseURI_complete_gen := @Sipsp.parseURI_complete_gen

/-- **EXPORT C14 — soundness of the grammar**: every accepted sip: / sips: text (≤ 65,535 bytes) is a text of the
    grammar, and the reported components are its decomposition -/
theorem sound_grammar : type_of% @Sipsp.parseURI_sound := @Sipsp.parseURI_sound

/-- **EXPORT C14 — accepted with which report**: a text of at most 65,535 bytes is accepted as a sip: / sips: URI with the
    report `u` exactly when `u` is a decomposition of the text according to the grammar `UcURI` -/
theorem accepted_iff : type_of% @Sipsp.parseURI_iff := @Sipsp.parseURI_iff

/-- **EXPORT C14 — which texts are accepted**: exactly the texts of the grammar -/
theorem ok_iff : type_of% @Sipsp.parseURI_ok_iff := @Sipsp.parseURI_ok_iff

/-- **EXPORT C14 — the decomposition is unique** -/
theorem decomposition_unique : type_of% @Sipsp.UcURI_unique := @Sipsp.UcURI_unique

/-- **EXPORT C14 — completeness for tel:**: accepted; the host field is empty and the number is reported as user -/
theorem tel_complete : type_of% @Sipsp.parseURI_complete_tel := @Sipsp.parseURI_complete_tel

/-- **EXPORT C14 — tel:** `tel:` number `[;params]` with no `@ : ? [ ]` in the number and no `?`, `@` in the
    parameters: accepted, the host field is empty, the user field is the number, the parameters follow -/
theorem tel_simple : type_of% @Sipsp.parseURI_tel_simple := @Sipsp.parseURI_tel_simple

/-- **EXPORT C14 — soundness of the grammar for tel:**: an accepted tel: text is a text of the grammar; the report
    is its decomposition with the host (the number) handed out as the user -/
theorem tel_sound : type_of% @Sipsp.parseURI_sound_tel := @Sipsp.parseURI_sound_tel

/-- **EXPORT C14 — which texts are accepted as tel:**: exactly the texts of the grammar behind `tel:` -/
theorem tel_iff : type_of% @Sipsp.parseURI_tel_iff := @Sipsp.parseURI_tel_iff

/-- **EXPORT C14 — shorter than the shortest scheme plus one byte**: `ErrURITooShort` at the end of the input -/
theorem err_too_short : type_of% @Sipsp.parseURI_err_short := @Sipsp.parseURI_err_short

/-- **EXPORT C14 — unknown scheme** (at least five bytes, not `sip:` / `sips:` / `tel:` in any letter case):
    `ErrURIScheme`, position 4 -/
theorem err_scheme : type_of% @Sipsp.parseURI_err_scheme := @Sipsp.parseURI_err_scheme

/-- **EXPORT C14 — empty host** behind `scheme user-info @`: the input ends there, or one of `: ; ? & @` follows:
    `ErrURIHost`, position = that byte (= the length of the input when it ends there) -/
theorem err_empty_host : type_of% @Sipsp.parseURI_err_empty_host := @Sipsp.parseURI_err_empty_host

/-- **EXPORT C14 — `]` missing**: a host that opens with `[` (right behind the scheme or behind the '@') and is
    not closed before the end of the input or before one of `[ @ ; ? &`: `ErrURIHost` at that position -/
theorem err_bracket_open : type_of% @Sipsp.parseURI_err_bracket_open := @Sipsp.parseURI_err_bracket_open

/-- **EXPORT C14 — text behind `]`** other than `:` `;` `?`: `ErrURIHost` at that byte -/
theorem err_bracket_junk : type_of% @Sipsp.parseURI_err_bracket_junk := @Sipsp.parseURI_err_bracket_junk

/-- **EXPORT C14 — non-digit in the port** (host behind '@', or bracketed host; then ':' and digits up to `p`):
    a byte at `p` that is neither a digit nor `;` / `?` gives `ErrURIPort` at `p` -/
theorem err_port_char : type_of% @Sipsp.parseURI_err_port_char := @Sipsp.parseURI_err_port_char

/-- **EXPORT C14 — port above 65535** (any host of the grammar; then ':' and digits up to `p` whose value exceeds
    65535, closed by `;` / `?` or the end of the input): `ErrURIPort` at `p` (the byte behind the digits) -/
theorem err_port_big : type_of% @Sipsp.parseURI_err_port_big := @Sipsp.parseURI_err_port_big

/-! ### every rejection: code, position, totality (proved in `Sipsp.Proofs.UriErrors`) -/

/-- **EXPORT C14 — `:` or `]` right behind the scheme** (where neither a port nor a password can start):
    `ErrURIBadChar` at that byte -/
theorem err_first_char : type_of% @Sipsp.parseURI_err_first_char := @Sipsp.parseURI_err_first_char

/-- **EXPORT C14 — `[` or `]` inside the first token** behind the scheme (a user, or a host name without
    user-info): `ErrURIBadChar` at that byte -/
theorem err_user_bracket : type_of% @Sipsp.parseURI_err_user_bracket := @Sipsp.parseURI_err_user_bracket

/-- **EXPORT C14 — `[`, `]` or a second `:` in a password** (`token:` and bytes without `@ : ; ? [ ]` up to `p`):
    `ErrURIBadChar` at that byte -/
theorem err_pass_char : type_of% @Sipsp.parseURI_err_pass_char := @Sipsp.parseURI_err_pass_char

/-- **EXPORT C14 — a password that is not followed by '@'**: `token:text` where `text` (no `@ : ; ? [ ]`) holds a
    non-digit, then `;` or `?`: `ErrURIBadChar` at the `;` / `?` -/
theorem err_pass_no_at : type_of% @Sipsp.parseURI_err_pass_no_at := @Sipsp.parseURI_err_pass_no_at

/-- **EXPORT C14 — a password that is not followed by anything**: `token:text` up to the end of the input where
    `text` (no `@ : ; ? [ ]`) holds a non-digit: `ErrURIPort`, reported at the END of the input and not at the
    non-digit (`sip:h:12x` → 9) -/
theorem err_pass_end : type_of% @Sipsp.parseURI_err_pass_end := @Sipsp.parseURI_err_pass_end

/-- **EXPORT C14 — a second '@' (or an `&`) in the host name** behind the '@' of a user-info: `ErrURIBadChar` at
    that byte -/
theorem err_host_at : type_of% @Sipsp.parseURI_err_host_at := @Sipsp.parseURI_err_host_at

/-- **EXPORT C14 — a second '@' behind `user-info@host[:port]`, or a `;` in its headers**: with the text between
    the host (and port ≤ 65535) and `p` being `;` parameters (no `?`, no `@`) and / or `?` headers (no `;`, no `@`),
    an '@' at `p`, or a `;` at `p` when `p` lies in the headers, is `ErrURIBadChar` at `p` -/
theorem err_second_at : type_of% @Sipsp.parseURI_err_second_at := @Sipsp.parseURI_err_second_at

/-- **EXPORT C14 — an '@' behind `token:digits;` / `token:digits?`** (value ≤ 65535): the `;` / `?` has committed the
    token as host and the digits as port, so an '@' further on (or a `;` in the headers) is `ErrURIBadChar` at that
    byte (`sip:u:1;x@h` → 9) -/
theorem err_committed_at : type_of% @Sipsp.parseURI_err_committed_at := @Sipsp.parseURI_err_committed_at

/-- **EXPORT C14 — `;` inside the headers of a URI without user-info** (host = first token or `[…]`, no port, optional
    `;` parameters without `:`, then `?` at `q`): when neither '@' nor `:` follows, a `;` anywhere in the headers
    gives `ErrURIHeaders`, reported at the END of the input (`sip:h?a;b` → 9) -/
theorem err_headers_semi : type_of% @Sipsp.parseURI_err_headers_semi := @Sipsp.parseURI_err_headers_semi

/-- **EXPORT C14 — totality of the description of `ParseURI`**: for every input of at most 65,535 bytes
    at least one of four things happens (the four are mutually exclusive by the error code / position):
    * it is ACCEPTED, consumed to the end, and is a text of the grammar (`UcURI` or `UcTelURI`);
    * it has fewer than five bytes: `ErrURITooShort` at the end;
    * it has no known scheme: `ErrURIScheme` at position 4 (always 4: the position is not that of an offending
      byte unless the scheme is `sips` without its `:`);
    * behind a scheme of `k` bytes it is REJECTED, either at its END (position = length) with the whole text
      described by `UeEndShape`, or at the byte `c` at the reported position `p ≥ k`, which the automaton rejects
      in the state it has reached: `UeShape` gives the text in front of `p`, the byte and the code. -/
theorem total : type_of% @Sipsp.parseURI_total := @Sipsp.parseURI_total

/-- **EXPORT C14 — a position inside the input points at an offending byte**: when `ParseURI` rejects an input
    (≤ 65,535 bytes) at a position `p < len`, then either the code is `ErrURIScheme` and `p = 4`, or the byte at `p`
    is one of the bytes the automaton rejects with that code (`UeByte`: a finite set for `ErrURIBadChar`; for
    `ErrURIHost` a finite set or any byte but `: ; ?` right behind `]`; a non-digit for `ErrURIPort`).  The codes
    `ErrURITooShort` and `ErrURIHeaders` are only ever reported at the end of the input, and `ErrURIBad` /
    `ErrURIBug` never. -/
theorem reject_inside : type_of% @Sipsp.parseURI_reject_inside := @Sipsp.parseURI_reject_inside

/-- **EXPORT C14 — rejections at the end of the input**: when the reported position is the length of the input, the
    code is `ErrURITooShort`, `ErrURIHost`, `ErrURIPort` or `ErrURIHeaders`, and the whole input has one of the
    shapes of `UeEndShape`.  These are the only rejections whose position is not that of an offending byte (the
    scheme error aside); in particular `ErrURIPort` at the end covers `token:text` without '@' where `text` holds a
    non-digit somewhere (`sip:h:12x`), and `ErrURIHeaders` is reported at the end although the offending `;` lies
    inside. -/
theorem reject_end : type_of% @Sipsp.parseURI_reject_end := @Sipsp.parseURI_reject_end

/-- **EXPORT C14 — the letter case of the scheme does not matter**: two inputs that differ only in the case of the
    scheme letters (`sip:` / `SIP:` / `sIpS:` …) get the same verdict — the same error code, the same position, the
    same components, for every input, accepted or rejected -/
theorem scheme_case_stable : type_of% @Sipsp.parseURI_case_stable := @Sipsp.parseURI_case_stable

end Sipsp.C14
