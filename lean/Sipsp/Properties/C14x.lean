/-
  Property C14 - extension file: theorems of this property that are proved in layers which themselves import
  Sipsp/Properties/C14.lean (message-level compositions, audit lemmas). Same namespace as the main file; the check
  audits both files together.
-/
import Sipsp.Properties.C14
import Sipsp.Proofs.AuditExamples

namespace Sipsp.C14
open Sipsp

/-! ### a bare scheme (proved in `Sipsp.Proofs.AuditExamples`) -/

/-- **the scheme alone, `sips:` (any letter case), 5 bytes**: `ErrURITooShort` at position 5 (the end of the
    input); the URI object has the type and the scheme field already filled in. (`sip:` and `tel:` alone are 4 bytes:
    `C14.err_too_short` gives `ErrURITooShort` at position 4 with the object untouched.) -/
theorem err_bare_sips : type_of% @Sipsp.ae_parseURI_bare_sips := @Sipsp.ae_parseURI_bare_sips

/-- the scheme alone, all three: error code and position -/
theorem err_bare_scheme : type_of% @Sipsp.ae_parseURI_bare_scheme := @Sipsp.ae_parseURI_bare_scheme

end Sipsp.C14
