/-
  Property C15 — URI comparison obeys the laws of an equivalence check.

  Everything below is proved for ALL inputs the statement quantifies over: all parsed URIs / lists / buffers of any
  size, and all flag values (any `Nat`, not only the 64 combinations of the six skip flags).  A Go panic is the outcome
  `none` of the model; no theorem hides it: either the statement is about `Option` values (so panics are compared
  too), or it has an explicit hypothesis that the fields read lie inside their buffers (`ParamIn`, `HdrIn`, `URIWf`),
  or it proves that no panic occurs.

  (1) FLAG MONOTONICITY: if every skip flag of `f` is also set in `g`, a verdict "equal" under `f` is a verdict "equal"
      under `g` (so the run under `g` does not panic either) — URICmpShort, URICmp, URIParseCmp; no hypothesis on the
      URIs at all.  What a verdict "equal" means, stage by stage, is stated as an iff.
  (2) URICmpShort is symmetric for ALL inputs, panics included, and reflexive; its verdict depends on the hosts only up
      to letter case, and on nothing but scheme type, port number, user and password bytes; user and password compare
      byte for byte, i.e. case-sensitively.  The byte comparisons: `bytesEq` is equality, `cmpEq` is equality of the
      lower-cased strings (reflexive, symmetric, transitive, unchanged by any byte-wise re-casing of either side).
  (3) URIParamsLstEq, for lists inside their buffers (`ParamIn`) and free of duplicates (`ParamsNoDup`: no two
      parameters of the same type and, for the type `other`, with names equal up to case): no panic; "equal" ⇔ same
      user / ttl / method / maddr presence mask and every parameter present in both lists has the same value up to
      case; reflexive, symmetric, unchanged by permuting either list and by the letter case of names and values.
  (4) URIHdrsLstEq, same side conditions (`HdrIn`, `HdrsNoDup`): "equal" ⇔ same count and every header of the first
      list occurs in the second with the same name and value up to case; reflexive, symmetric (by a counting
      argument), unchanged by order and letter case.
  (5) The entry points: URIParamsEq / URIHdrsEq are "parse each string separately, then compare the lists"; URICmp on
      well-formed URIs is reflexive, symmetric and unchanged by order and letter case, for every flag value;
      URIParseCmp is "ParseURI on each string, then URICmp" (the parsed URIs handed back are exactly those) and is
      symmetric; ParseURI, hence URIParseCmp, returns the same result when the first four bytes change only in bit
      0x20 (e.g. the letter case of the scheme).

  The side conditions are necessary (tests below): a URI with a repeated parameter / header name is NOT equal to itself
  for the model (first match wins), and with a repeated name the verdict depends on the order of the two arguments.

  The parsers establish the side conditions (`Sipsp.Proofs.UriCmpLink`): after ParseAllURIParams / ParseAllURIHdrs on a
  new list of any capacity, any verdict, there is no panic, every stored element lies inside the string, the recorded
  type is the classification of its name, and the type mask is the set of types that occur unless elements were
  dropped for lack of room; every accepted URI whose list names are duplicate-free up to letter case satisfies the
  hypotheses of the laws.  Laws for RAW strings (≤ 65,535 bytes): accepted, lists parse, duplicate-free names ⇒ equal
  to itself for every flag set, both parsed URIs handed back; symmetry for any two strings (the complete results with
  the parsed URIs swapped when both are accepted); presence of user / ttl / method / maddr in any letter case in both
  texts or in neither (≤ 100 parameters); and, with NO side condition, letter case: ParseURI returns the identical
  result on strings differing only in letter case, and the same text up to case outside user / password gives the
  identical complete URIParseCmp result.  The two hypotheses of reflexivity are necessary: `sip:a@b;<` is accepted by
  ParseURI but not equal to itself because its parameter list is rejected; `sip:a@b;x=1;X=2`.

  The laws on URI TEXT (`Sipsp.Proofs.UriCmpPerm`): a URI rendered from parts — scheme in any case, optional
  user[:password]@, host name, optional :port, parameter items `name[=value]` joined with ';', header items joined with
  '&' (plain token names / values, names duplicate-free up to case, ≤ 100 items, text ≤ 65,535 bytes) — is a URI of the
  C14 grammar with lists of the C17 grammar.  URIParseCmp on two renderings never panics, reports no error, hands back
  both parsed URIs, and says "equal" EXACTLY when an explicit predicate on the parts holds; hence: reordering parameter
  and / or header items gives equal (both argument orders, every flag set); so does changing the letter case of
  scheme, host, parameter names / values, header names / values; user / password differing in case are UNEQUAL unless
  skipped; a user / ttl / method / maddr item in only one text gives unequal; any other item present in only one text
  does not matter.

  NOT proved here:
    * the text-level laws for texts outside that rendering (white space, quoted values, empty items, `[…]` hosts, tel:);
    * the presence rule beyond 100 parameters (the mask then also covers dropped parameters);
    * transitivity of URICmp (false in general: parameters present in only one URI are ignored);
    * behaviour with more than 100 parameters / headers beyond what the hypotheses say about the stored prefix.
  Model tied to sipuri.go / parse_uri_params.go / parse_uri_hdrs.go by the correspondence check.
  KNOWN FINDING F25 (a genuine defect of the library, known_findings.json): beyond
  100 parameters / headers the comparison depends on the order of the items and ignores the items after the 100th
  (`URIParamsEq` / `URIHdrsEq` compare what fitted into scratch arrays of 100 entries). The theorems below that speak
  about raw texts carry "at most 100 items" for this reason; model and code agree on the witnesses (101 headers rotated:
  unequal; 101st value changed: equal), both contradict the property there.
-/
import Sipsp.Proofs.UriCmpLaws
import Sipsp.Proofs.UriCmpLink
import Sipsp.Proofs.UriCmpPerm

namespace Sipsp.C15
open Sipsp

/-! ### (1) flag monotonicity -/

/-- URICmpShort: ignoring more components can only turn "different" into "equal". -/
theorem flags_mono_short (u1 : PsipURI) (b1 : Buf) (u2 : PsipURI) (b2 : Buf) (f g : Nat)
    (hPort : hasFlag f URICmpSkipPort = true → hasFlag g URICmpSkipPort = true)
    (hScheme : hasFlag f URICmpSkipScheme = true → hasFlag g URICmpSkipScheme = true)
    (hUser : hasFlag f URICmpSkipUser = true → hasFlag g URICmpSkipUser = true)
    (hPass : hasFlag f URICmpSkipPass = true → hasFlag g URICmpSkipPass = true)
    (hParams : hasFlag f URICmpSkipParams = true → hasFlag g URICmpSkipParams = true)
    (hHeaders : hasFlag f URICmpSkipHeaders = true → hasFlag g URICmpSkipHeaders = true)
    (h : uriCmpShort u1 b1 u2 b2 f = some true) : uriCmpShort u1 b1 u2 b2 g = some true :=
  uriCmpShort_mono ⟨hPort, hScheme, hUser, hPass, hParams, hHeaders⟩ u1 b1 u2 b2 h

/-- URICmp: ignoring more components can only turn "different" into "equal" (and cannot introduce a panic). -/
theorem flags_mono (u1 : PsipURI) (b1 : Buf) (u2 : PsipURI) (b2 : Buf) (f g : Nat)
    (hPort : hasFlag f URICmpSkipPort = true → hasFlag g URICmpSkipPort = true)
    (hScheme : hasFlag f URICmpSkipScheme = true → hasFlag g URICmpSkipScheme = true)
    (hUser : hasFlag f URICmpSkipUser = true → hasFlag g URICmpSkipUser = true)
    (hPass : hasFlag f URICmpSkipPass = true → hasFlag g URICmpSkipPass = true)
    (hParams : hasFlag f URICmpSkipParams = true → hasFlag g URICmpSkipParams = true)
    (hHeaders : hasFlag f URICmpSkipHeaders = true → hasFlag g URICmpSkipHeaders = true)
    (h : uriCmp u1 b1 u2 b2 f = some true) : uriCmp u1 b1 u2 b2 g = some true :=
  uriCmp_mono ⟨hPort, hScheme, hUser, hPass, hParams, hHeaders⟩ u1 b1 u2 b2 h

/-- URIParseCmp: the complete result (verdict, error, index, parsed URIs) is kept. -/
theorem flags_mono_parseCmp (raw1 raw2 : Buf) (f g : Nat) (hfg : FlagsLe f g) {e : UErr} {i : Nat}
    {r1 r2 : Option PsipURI} (h : uriParseCmp raw1 raw2 f = some (true, e, i, r1, r2)) :
    uriParseCmp raw1 raw2 g = some (true, e, i, r1, r2) :=
  uriParseCmp_mono hfg raw1 raw2 h

/-- the six implications hold whenever `f` is bitwise contained in `g` -/
theorem flags_mono_of_subset (u1 : PsipURI) (b1 : Buf) (u2 : PsipURI) (b2 : Buf) (f g : Nat) (hfg : f &&& g = f)
    (h : uriCmp u1 b1 u2 b2 f = some true) : uriCmp u1 b1 u2 b2 g = some true :=
  uriCmp_mono (FlagsLe.of_and hfg) u1 b1 u2 b2 h

/-- what "equal" means for URICmp: the short comparison says equal and the parameter and header stages are either
    skipped or say equal -/
theorem cmp_true_iff (u1 : PsipURI) (b1 : Buf) (u2 : PsipURI) (b2 : Buf) (f : Nat) :
    uriCmp u1 b1 u2 b2 f = some true ↔
      uriCmpShort u1 b1 u2 b2 f = some true ∧
      (hasFlag f URICmpSkipParams = true ∨ uriCmpParamsPart u1 b1 u2 b2 = some true) ∧
      (hasFlag f URICmpSkipHeaders = true ∨ uriCmpHdrsPart u1 b1 u2 b2 = some true) :=
  uriCmp_true_iff u1 b1 u2 b2 f

/-! ### (2) URICmpShort and the byte comparisons -/

theorem bytesEq_iff (a c : Buf) : bytesEq a c = true ↔ a = c := Sipsp.bytesEq_iff a c
theorem cmpEq_iff (a c : Buf) : cmpEq a c = true ↔ lowerL a.toList = lowerL c.toList := Sipsp.cmpEq_iff a c
theorem cmpEq_refl (a : Buf) : cmpEq a a = true := Sipsp.cmpEq_refl a
theorem cmpEq_symm (a c : Buf) : cmpEq a c = cmpEq c a := Sipsp.cmpEq_symm a c
theorem cmpEq_trans (a c d : Buf) (h : cmpEq a c = true) (h' : cmpEq c d = true) : cmpEq a d = true :=
  Sipsp.cmpEq_trans h h'

/-- `cmpEq` ignores ASCII letter case: lower-casing / upper-casing any selection of byte positions on either side
    (`recase`) does not change the verdict. -/
theorem cmpEq_ignores_case (s1 s2 : Nat → Bool × Bool) (a c : Buf) :
    cmpEq (recase s1 a) (recase s2 c) = cmpEq a c := cmpEq_recase s1 s2 a c

/-- meaning of "equal" for URICmpShort: scheme type and port number equal or skipped, user and password byte-equal
    (case-sensitive) or skipped, hosts equal up to case; every field that is read lies inside its buffer. -/
theorem short_true_iff (u1 : PsipURI) (b1 : Buf) (u2 : PsipURI) (b2 : Buf) (f : Nat) :
    uriCmpShort u1 b1 u2 b2 f = some true ↔
      (hasFlag f URICmpSkipScheme = true ∨ u1.uriType = u2.uriType) ∧
      (hasFlag f URICmpSkipPort = true ∨ u1.portNo = u2.portNo) ∧
      (hasFlag f URICmpSkipUser = true ∨ ∃ a c, u1.user.get? b1 = some a ∧ u2.user.get? b2 = some c ∧ a = c) ∧
      (hasFlag f URICmpSkipPass = true ∨ ∃ a c, u1.pass.get? b1 = some a ∧ u2.pass.get? b2 = some c ∧ a = c) ∧
      (∃ a c, u1.host.get? b1 = some a ∧ u2.host.get? b2 = some c ∧ CaseEq a c) :=
  uriCmpShort_true_iff u1 b1 u2 b2 f

/-- symmetric for ALL inputs and flags, panics included -/
theorem short_symm (u1 : PsipURI) (b1 : Buf) (u2 : PsipURI) (b2 : Buf) (f : Nat) :
    uriCmpShort u1 b1 u2 b2 f = uriCmpShort u2 b2 u1 b1 f := uriCmpShort_symm u1 b1 u2 b2 f

/-- reflexive when user, password and host lie inside the buffer -/
theorem short_refl (u : PsipURI) (b : Buf) (f : Nat)
    (hu : (u.user.get? b).isSome) (hp : (u.pass.get? b).isSome) (hh : (u.host.get? b).isSome) :
    uriCmpShort u b u b f = some true := uriCmpShort_refl u b f hu hp hh

/-- insensitive to the letter case of the host: same verdict (panics included) on URIs with the same scheme type,
    port number, user and password bytes and hosts equal up to case -/
theorem short_host_case (u1 : PsipURI) (b1 : Buf) (u1' : PsipURI) (b1' : Buf) (u2 : PsipURI) (b2 : Buf)
    (u2' : PsipURI) (b2' : Buf) (f : Nat) (s1 : ShortSame u1 b1 u1' b1') (s2 : ShortSame u2 b2 u2' b2') :
    uriCmpShort u1 b1 u2 b2 f = uriCmpShort u1' b1' u2' b2' f :=
  uriCmpShort_congr u1 b1 u1' b1' u2 b2 u2' b2' f s1 s2

/-- sensitive to the letter case of the user: "equal" without URICmpSkipUser forces identical user bytes -/
theorem short_user_exact (u1 : PsipURI) (b1 : Buf) (u2 : PsipURI) (b2 : Buf) (f : Nat)
    (h : uriCmpShort u1 b1 u2 b2 f = some true) (hf : hasFlag f URICmpSkipUser = false) :
    ∃ a, u1.user.get? b1 = some a ∧ u2.user.get? b2 = some a := uriCmpShort_true_user u1 b1 u2 b2 f h hf

/-- … and of the password -/
theorem short_pass_exact (u1 : PsipURI) (b1 : Buf) (u2 : PsipURI) (b2 : Buf) (f : Nat)
    (h : uriCmpShort u1 b1 u2 b2 f = some true) (hf : hasFlag f URICmpSkipPass = false) :
    ∃ a, u1.pass.get? b1 = some a ∧ u2.pass.get? b2 = some a := uriCmpShort_true_pass u1 b1 u2 b2 f h hf

/-! ### (3) URIParamsLstEq -/

theorem paramsLst_spec (l1 : URIParamsLst) (b1 : Buf) (l2 : URIParamsLst) (b2 : Buf)
    (hin1 : ∀ p ∈ l1.plist, ParamIn b1 p) (hin2 : ∀ p ∈ l2.plist, ParamIn b2 p)
    (hnd2 : ParamsNoDup b2 l2.plist) :
    ∃ r, uriParamsLstEq l1 b1 l2 b2 = some r ∧
      (r = true ↔
        (l1.types &&& uriParamsBMask) = (l2.types &&& uriParamsBMask) ∧
        ∀ p1 ∈ l1.plist, ∀ p2 ∈ l2.plist, PMatch b1 p1 b2 p2 → PValEq b1 p1 b2 p2) :=
  uriParamsLstEq_spec l1 b1 l2 b2 hin1 hin2 hnd2

theorem paramsLst_refl (l : URIParamsLst) (b : Buf)
    (hin : ∀ p ∈ l.plist, ParamIn b p) (hnd : ParamsNoDup b l.plist) :
    uriParamsLstEq l b l b = some true := uriParamsLstEq_refl l b hin hnd

theorem paramsLst_symm (l1 : URIParamsLst) (b1 : Buf) (l2 : URIParamsLst) (b2 : Buf)
    (hin1 : ∀ p ∈ l1.plist, ParamIn b1 p) (hin2 : ∀ p ∈ l2.plist, ParamIn b2 p)
    (hnd1 : ParamsNoDup b1 l1.plist) (hnd2 : ParamsNoDup b2 l2.plist) :
    uriParamsLstEq l1 b1 l2 b2 = uriParamsLstEq l2 b2 l1 b1 :=
  uriParamsLstEq_symm l1 b1 l2 b2 hin1 hin2 hnd1 hnd2

/-- independent of the order of the parameters of either list -/
theorem paramsLst_order (l1 l1' l2 l2' : URIParamsLst) (b1 b2 : Buf)
    (ht1 : l1.types = l1'.types) (ht2 : l2.types = l2'.types)
    (hp1 : l1.plist.Perm l1'.plist) (hp2 : l2.plist.Perm l2'.plist)
    (hin1 : ∀ p ∈ l1.plist, ParamIn b1 p) (hin2 : ∀ p ∈ l2.plist, ParamIn b2 p)
    (hnd2 : ParamsNoDup b2 l2.plist) :
    uriParamsLstEq l1 b1 l2 b2 = uriParamsLstEq l1' b1 l2' b2 :=
  uriParamsLstEq_perm l1 l1' l2 l2' b1 b2 ht1 ht2 hp1 hp2 hin1 hin2 hnd2

/-- independent of order and of the letter case of parameter names and values (the lists may live in different
    buffers) -/
theorem paramsLst_order_case (l1 l1' l2 l2' : URIParamsLst) (b1 b1' b2 b2' : Buf)
    (ht1 : l1.types = l1'.types) (ht2 : l2.types = l2'.types)
    (hs1 : ParamsSim b1 l1.plist b1' l1'.plist) (hs2 : ParamsSim b2 l2.plist b2' l2'.plist)
    (hnd2 : ParamsNoDup b2 l2.plist) (hnd2' : ParamsNoDup b2' l2'.plist) :
    uriParamsLstEq l1 b1 l2 b2 = uriParamsLstEq l1' b1' l2' b2' :=
  uriParamsLstEq_congr l1 l1' l2 l2' b1 b1' b2 b2' ht1 ht2 hs1 hs2 hnd2 hnd2'

/-- user, ttl, method, maddr must be present in both lists or in neither -/
theorem paramsLst_presence (l1 : URIParamsLst) (b1 : Buf) (l2 : URIParamsLst) (b2 : Buf)
    (h : uriParamsLstEq l1 b1 l2 b2 = some true) (t1 : TypesOk l1) (t2 : TypesOk l2) :
    ∀ x ∈ [URIParamUserF, URIParamTTLF, URIParamMethodF, URIParamMaddrF],
      ((∃ p ∈ l1.plist, p.t = x) ↔ (∃ p ∈ l2.plist, p.t = x)) :=
  uriParamsLstEq_true_presence l1 b1 l2 b2 h t1 t2

/-- different presence masks: verdict "different", for all inputs, without reading any field -/
theorem paramsLst_mask_ne (l1 : URIParamsLst) (b1 : Buf) (l2 : URIParamsLst) (b2 : Buf)
    (h : (l1.types &&& uriParamsBMask) ≠ (l2.types &&& uriParamsBMask)) :
    uriParamsLstEq l1 b1 l2 b2 = some false := uriParamsLstEq_mask_ne l1 b1 l2 b2 h

/-! ### (4) URIHdrsLstEq -/

theorem hdrsLst_spec (l1 : URIHdrsLst) (b1 : Buf) (l2 : URIHdrsLst) (b2 : Buf)
    (hin1 : ∀ h ∈ l1.hlist, HdrIn b1 h) (hin2 : ∀ h ∈ l2.hlist, HdrIn b2 h)
    (hnd2 : HdrsNoDup b2 l2.hlist) :
    ∃ r, uriHdrsLstEq l1 b1 l2 b2 = some r ∧
      (r = true ↔ l1.hNo = l2.hNo ∧ ∀ h1 ∈ l1.hlist, ∃ h2 ∈ l2.hlist, HSame b1 h1 b2 h2) :=
  uriHdrsLstEq_spec l1 b1 l2 b2 hin1 hin2 hnd2

theorem hdrsLst_refl (l : URIHdrsLst) (b : Buf)
    (hin : ∀ h ∈ l.hlist, HdrIn b h) (hnd : HdrsNoDup b l.hlist) :
    uriHdrsLstEq l b l b = some true := uriHdrsLstEq_refl l b hin hnd

theorem hdrsLst_symm (l1 : URIHdrsLst) (b1 : Buf) (l2 : URIHdrsLst) (b2 : Buf)
    (hin1 : ∀ h ∈ l1.hlist, HdrIn b1 h) (hin2 : ∀ h ∈ l2.hlist, HdrIn b2 h)
    (hnd1 : HdrsNoDup b1 l1.hlist) (hnd2 : HdrsNoDup b2 l2.hlist) :
    uriHdrsLstEq l1 b1 l2 b2 = uriHdrsLstEq l2 b2 l1 b1 :=
  uriHdrsLstEq_symm l1 b1 l2 b2 hin1 hin2 hnd1 hnd2

theorem hdrsLst_order (l1 l1' l2 l2' : URIHdrsLst) (b1 b2 : Buf)
    (hp1 : l1.hlist.Perm l1'.hlist) (hp2 : l2.hlist.Perm l2'.hlist)
    (hin1 : ∀ p ∈ l1.hlist, HdrIn b1 p) (hin2 : ∀ p ∈ l2.hlist, HdrIn b2 p)
    (hnd2 : HdrsNoDup b2 l2.hlist) :
    uriHdrsLstEq l1 b1 l2 b2 = uriHdrsLstEq l1' b1 l2' b2 :=
  uriHdrsLstEq_perm l1 l1' l2 l2' b1 b2 hp1 hp2 hin1 hin2 hnd2

theorem hdrsLst_order_case (l1 l1' l2 l2' : URIHdrsLst) (b1 b1' b2 b2' : Buf)
    (hn1 : l1.hNo = l1'.hNo) (hn2 : l2.hNo = l2'.hNo)
    (hs1 : HdrsSim b1 l1.hlist b1' l1'.hlist) (hs2 : HdrsSim b2 l2.hlist b2' l2'.hlist)
    (hnd2 : HdrsNoDup b2 l2.hlist) (hnd2' : HdrsNoDup b2' l2'.hlist) :
    uriHdrsLstEq l1 b1 l2 b2 = uriHdrsLstEq l1' b1' l2' b2' :=
  uriHdrsLstEq_congr l1 l1' l2 l2' b1 b1' b2 b2' hn1 hn2 hs1 hs2 hnd2 hnd2'

/-! ### (5) the entry points -/

/-- URIParamsEq = ParseAllURIParams on each string (fresh 100-element list), then URIParamsLstEq -/
theorem paramsEq_agrees (b1 : Buf) (o1 : Nat) (b2 : Buf) (o2 : Nat) :
    uriParamsEq b1 o1 b2 o2 =
      if (uriParamsParse b1 o1).2.pnc then none
      else if !errOkOrEOH (uriParamsParse b1 o1).1 then some (false, (uriParamsParse b1 o1).1)
      else if (uriParamsParse b2 o2).2.pnc then none
      else if !errOkOrEOH (uriParamsParse b2 o2).1 then some (false, (uriParamsParse b2 o2).1)
      else (uriParamsLstEq (uriParamsParse b1 o1).2 b1 (uriParamsParse b2 o2).2 b2).map (fun r => (r, Err.ok)) :=
  uriParamsEq_eq b1 o1 b2 o2

theorem hdrsEq_agrees (b1 : Buf) (o1 : Nat) (b2 : Buf) (o2 : Nat) :
    uriHdrsEq b1 o1 b2 o2 =
      if !errOkOrEOH (uriHdrsParse b1 o1).1 then some (false, (uriHdrsParse b1 o1).1)
      else if !errOkOrEOH (uriHdrsParse b2 o2).1 then some (false, (uriHdrsParse b2 o2).1)
      else (uriHdrsLstEq (uriHdrsParse b1 o1).2 b1 (uriHdrsParse b2 o2).2 b2).map (fun r => (r, Err.ok)) :=
  uriHdrsEq_eq b1 o1 b2 o2

/-- URICmp is reflexive on well-formed URIs whose parameter and header strings parse, for every flag value -/
theorem cmp_refl (u : PsipURI) (b : Buf) (f : Nat) (w : URIGood u b) : uriCmp u b u b f = some true :=
  uriCmp_refl u b f w

/-- URICmp is symmetric on well-formed URIs (the parameter / header strings may fail to parse), every flag value -/
theorem cmp_symm (u1 : PsipURI) (b1 : Buf) (u2 : PsipURI) (b2 : Buf) (f : Nat) (w1 : URIWf u1 b1) (w2 : URIWf u2 b2) :
    uriCmp u1 b1 u2 b2 f = uriCmp u2 b2 u1 b1 f := uriCmp_symm u1 b1 u2 b2 f w1 w2

/-- URICmp is unaffected by the letter case of scheme (through `uriType`), host, parameter names and values, header
    names and values, and by the order of parameters and of headers -/
theorem cmp_order_case (u1 : PsipURI) (b1 : Buf) (u1' : PsipURI) (b1' : Buf) (u2 : PsipURI) (b2 : Buf)
    (u2' : PsipURI) (b2' : Buf) (f : Nat) (s1 : URISame u1 b1 u1' b1') (s2 : URISame u2 b2 u2' b2') :
    uriCmp u1 b1 u2 b2 f = uriCmp u1' b1' u2' b2' f :=
  uriCmp_congr u1 b1 u1' b1' u2 b2 u2' b2' f s1 s2

/-- URIParseCmp agrees with parsing each URI separately and calling URICmp, and hands back exactly the parsed URIs -/
theorem parseCmp_agrees (raw1 raw2 : Buf) (f : Nat) {o1 o2 : Nat} {u1 u2 : PsipURI}
    (h1 : parseURI raw1 {} = (UErr.none, o1, u1, false)) (h2 : parseURI raw2 {} = (UErr.none, o2, u2, false)) :
    uriParseCmp raw1 raw2 f = (uriCmp u1 raw1 u2 raw2 f).map (fun r => (r, UErr.none, 0, some u1, some u2)) :=
  uriParseCmp_ok raw1 raw2 f h1 h2

theorem parseCmp_err1 (raw1 raw2 : Buf) (f : Nat) {e1 : UErr} {o1 : Nat} {u1 : PsipURI}
    (h1 : parseURI raw1 {} = (e1, o1, u1, false)) (he : e1 ≠ UErr.none) :
    uriParseCmp raw1 raw2 f = some (false, e1, 0, none, none) := uriParseCmp_err1 raw1 raw2 f h1 he

theorem parseCmp_err2 (raw1 raw2 : Buf) (f : Nat) {e2 : UErr} {o1 o2 : Nat} {u1 u2 : PsipURI}
    (h1 : parseURI raw1 {} = (UErr.none, o1, u1, false)) (h2 : parseURI raw2 {} = (e2, o2, u2, false))
    (he : e2 ≠ UErr.none) :
    uriParseCmp raw1 raw2 f = some (false, e2, 1, some u1, none) := uriParseCmp_err2 raw1 raw2 f h1 h2 he

/-- the verdict of URIParseCmp is symmetric on raw URIs that parse to well-formed URIs -/
theorem parseCmp_symm (raw1 raw2 : Buf) (f : Nat) {o1 o2 : Nat} {u1 u2 : PsipURI}
    (h1 : parseURI raw1 {} = (UErr.none, o1, u1, false)) (h2 : parseURI raw2 {} = (UErr.none, o2, u2, false))
    (w1 : URIWf u1 raw1) (w2 : URIWf u2 raw2) :
    (uriParseCmp raw1 raw2 f).map (·.1) = (uriParseCmp raw2 raw1 f).map (·.1) := by
  rw [uriParseCmp_ok raw1 raw2 f h1 h2, uriParseCmp_ok raw2 raw1 f h2 h1, uriCmp_symm u1 raw1 u2 raw2 f w1 w2]
  simp only [Option.map_map]
  rfl

/-- ParseURI is unaffected by the letter case of the scheme (more generally by bit 0x20 of the first four bytes) -/
theorem parse_scheme_case (raw raw' : Buf) (pu : PsipURI) (v : SchemeCaseVariant raw raw') :
    parseURI raw' pu = parseURI raw pu := v.parse pu

/-- … and so is the complete result of URIParseCmp -/
theorem parseCmp_scheme_case (raw1 raw1' raw2 raw2' : Buf) (f : Nat)
    (v1 : SchemeCaseVariant raw1 raw1') (v2 : SchemeCaseVariant raw2 raw2')
    (a1 : AfterScheme (parseURI raw1 {}).2.2.1) (a2 : AfterScheme (parseURI raw2 {}).2.2.1) :
    uriParseCmp raw1' raw2' f = uriParseCmp raw1 raw2 f :=
  uriParseCmp_scheme_case raw1 raw1' raw2 raw2' f v1 v2 a1 a2

/-! ### tests / non-vacuity (closed computations, `decide +kernel`) -/

section Tests

def rawA : Buf := "sip:Alice:pw@Example.COM:5060;transport=udp;Foo=Bar?a=1&B=2".toUTF8.data
/-- `rawA` with scheme, host, parameter and header names / values re-cased and parameters and headers reordered -/
def rawA' : Buf := "SIP:Alice:pw@eXAMPLE.com:5060;FOO=bAR;Transport=UDP?b=2&A=1".toUTF8.data
def uA : PsipURI := (parseURI rawA {}).2.2.1
def uA' : PsipURI := (parseURI rawA' {}).2.2.1
def pA : Buf := "transport=udp;Foo=Bar".toUTF8.data
def pA' : Buf := "FOO=bAR;Transport=UDP".toUTF8.data
def hA : Buf := "a=1&B=2".toUTF8.data
def hA' : Buf := "b=2&A=1".toUTF8.data

/-- non-vacuity of `URIGood` (hence of `URIWf`, `ParamsWf`, `HdrsWf`, `ParamIn`, `ParamsNoDup`, `HdrIn`, `HdrsNoDup`):
    a URI with user, password, port, two parameters and two headers -/
theorem good_A : URIGood uA rawA :=
  { user := by decide +kernel, pass := by decide +kernel, host := by decide +kernel,
    params := ⟨pA, by decide +kernel⟩, headers := ⟨hA, by decide +kernel⟩ }

/-- non-vacuity of `URISame` (hence of `ShortSame`, `ParamsStrSim`, `HdrsStrSim`, `ParamsSim`, `HdrsSim`) -/
theorem same_A : URISame uA rawA uA' rawA' :=
  { short := by decide +kernel, params := ⟨pA, pA', by decide +kernel⟩, headers := ⟨hA, hA', by decide +kernel⟩ }

/-- the theorems applied: rawA equals itself and its re-written form under every flag value -/
example (f : Nat) : uriCmp uA rawA uA rawA f = some true := cmp_refl uA rawA f good_A
example (f : Nat) : uriCmp uA rawA uA' rawA' f = some true := by
  rw [← cmp_order_case uA rawA uA rawA uA rawA uA' rawA' f good_A.same same_A]
  exact cmp_refl uA rawA f good_A

/-- test: the parse-and-compare entry point on the two raw strings -/
example : (uriParseCmp rawA rawA' 0).map (·.1) = some true := by decide +kernel
/-- test: it hands back the two parsed URIs -/
example : (uriParseCmp rawA rawA' 0).map (·.2.2.2) = some (some uA, some uA') := by decide +kernel

/-- non-vacuity of `TypesOk` and of the presence theorem's conclusion -/
example : TypesOk (uriParamsParse "transport=udp;user=phone;Foo=Bar;ttl=3".toUTF8.data 0).2 := by decide +kernel
/-- test: `user=` in only one URI ⇒ different -/
example : (uriParseCmp "sip:a@b;user=phone".toUTF8.data "sip:a@b".toUTF8.data 0).map (·.1) = some false := by
  decide +kernel
/-- test: a parameter outside the mask in only one URI is ignored -/
example : (uriParseCmp "sip:a@b;lr".toUTF8.data "sip:a@b".toUTF8.data 0).map (·.1) = some true := by decide +kernel

/-- test: user is case-sensitive, unless skipped -/
example : (uriParseCmp "sip:a@b".toUTF8.data "sip:A@b".toUTF8.data 0).map (·.1) = some false := by decide +kernel
example : (uriParseCmp "sip:a@b".toUTF8.data "sip:A@b".toUTF8.data URICmpSkipUser).map (·.1) = some true := by
  decide +kernel

/-- the no-duplicate side condition is NECESSARY for reflexivity (first match wins): parameters … -/
theorem refl_needs_nodup_params :
    uriParamsEq "x=1;x=2".toUTF8.data 0 "x=1;x=2".toUTF8.data 0 = some (false, Err.ok) := by decide +kernel
/-- … and headers; so does the whole comparison of `sip:a@b;x=1;x=2` with itself -/
theorem refl_needs_nodup_hdrs :
    uriHdrsEq "a=1&a=2".toUTF8.data 0 "a=1&a=2".toUTF8.data 0 = some (false, Err.ok) := by decide +kernel
example : (uriParseCmp "sip:a@b;x=1;x=2".toUTF8.data "sip:a@b;x=1;x=2".toUTF8.data 0).map (·.1) = some false := by
  decide +kernel

/-- … and for symmetry: with a repeated name the verdict depends on the argument order -/
theorem symm_needs_nodup_params :
    uriParamsEq "x=1;x=2".toUTF8.data 0 "x=1".toUTF8.data 0 = some (false, Err.ok) ∧
    uriParamsEq "x=1".toUTF8.data 0 "x=1;x=2".toUTF8.data 0 = some (true, Err.ok) := by decide +kernel
theorem symm_needs_nodup_hdrs :
    uriHdrsEq "a=1&a=2".toUTF8.data 0 "a=1&a=1".toUTF8.data 0 = some (false, Err.ok) ∧
    uriHdrsEq "a=1&a=1".toUTF8.data 0 "a=1&a=2".toUTF8.data 0 = some (true, Err.ok) := by decide +kernel

/-- non-vacuity of `SchemeCaseVariant` and `AfterScheme` -/
example : SchemeCaseVariant "sips:a@b;x=1".toUTF8.data "SiPS:a@b;x=1".toUTF8.data := by decide +kernel
example : AfterScheme (parseURI "sips:a@b;x=1".toUTF8.data {}).2.2.1 := by decide +kernel
example : AfterScheme uA := by decide +kernel

/-- non-vacuity of `FlagsLe` with a strict inclusion -/
example : FlagsLe URICmpSkipPort (URICmpSkipPort ||| URICmpSkipHeaders) := FlagsLe.of_and (by decide)

end Tests

/-! ### the parsers establish the side conditions; laws for raw strings; letter case (proved in `Sipsp.Proofs.UriCmpLink`) -/

/-- **ParseAllURIParams establishes the list hypotheses of the comparison laws** (new list of any capacity `k`, any
    flags, any verdict, any offset inside a buffer within the 65,535-byte limit): no panic; every stored parameter
    lies inside the buffer (`ParamIn`) and its recorded type is the classification of its name (`UclCls`); the type
    mask is the set of types stored (`TypesOk`) unless parameters were dropped for lack of room. -/
theorem params_parsed_wf : type_of% @Sipsp.parseAllURIParams_ucl := @Sipsp.parseAllURIParams_ucl

/-- **ParseAllURIHdrs establishes the list hypothesis of the comparison laws**: every stored header lies inside the
    buffer (`HdrIn`) -/
theorem hdrs_parsed_wf : type_of% @Sipsp.parseAllURIHdrs_ucl := @Sipsp.parseAllURIHdrs_ucl

/-- **every parameter string without duplicate names is well formed for comparison** (`ParamsWf`, the hypothesis of
    the symmetry / reflexivity laws): the no-panic and inside-the-string parts hold for EVERY string within the limit -/
theorem params_wf_of_nodup : type_of% @Sipsp.ucl_paramsWf := @Sipsp.ucl_paramsWf

/-- **every header string without duplicate names is well formed for comparison** (`HdrsWf`) -/
theorem hdrs_wf_of_nodup : type_of% @Sipsp.ucl_hdrsWf := @Sipsp.ucl_hdrsWf

/-- **every URI ParseURI accepts (sip, sips, tel; at most 65,535 bytes) whose parameter and header names are free of
    duplicates is well formed for comparison** (`URIWf`, the hypothesis of the symmetry law) -/
theorem uri_wf_of_parse : type_of% @Sipsp.ucl_uriWf := @Sipsp.ucl_uriWf

/-- **REFLEXIVITY for the raw-string entry point**: every raw URI of at most 65,535 bytes that ParseURI accepts, whose
    parameter and header lists are well formed and free of duplicate names, is equal to itself under every flag
    value; URIParseCmp reports no error and hands back the parsed URI twice. -/
theorem refl_raw : type_of% @Sipsp.uriParseCmp_refl_raw := @Sipsp.uriParseCmp_refl_raw

/-- **SYMMETRY for the raw-string entry point**: for ANY two byte strings of at most 65,535 bytes (accepted by
    ParseURI or not) the verdict of URIParseCmp does not depend on the order of the arguments, provided the accepted
    ones are free of duplicate parameter / header names -/
theorem symm_raw : type_of% @Sipsp.uriParseCmp_symm_raw := @Sipsp.uriParseCmp_symm_raw

/-- … with the complete results when both are accepted: same verdict, no error, the two parsed URIs handed back in the
    order of the arguments -/
theorem symm_raw_full : type_of% @Sipsp.uriParseCmp_symm_full := @Sipsp.uriParseCmp_symm_full

/-- … and for raw URIs: a verdict "equal" of URIParseCmp without URICmpSkipParams means that each of `user`, `ttl`,
    `method`, `maddr` is a parameter name of both URIs or of neither (at most 100 parameters each) -/
theorem presence_raw : type_of% @Sipsp.uriParseCmp_presence_raw := @Sipsp.uriParseCmp_presence_raw

/-- **LETTER CASE, ParseURI**: ParseURI returns the same result (verdict, position, all component offsets and
    lengths, port number) on two byte strings that differ only in the case of ASCII letters — anywhere: scheme, user,
    host, parameters, headers. -/
theorem parse_uri_case : type_of% @Sipsp.parseURI_case := @Sipsp.parseURI_case

/-- **LETTER CASE for the raw-string entry point**: for ANY two byte strings of at most 65,535 bytes, the complete
    result of URIParseCmp (verdict, error, index, both parsed URIs — identical objects) is unchanged when the letter
    case of either string is changed anywhere outside its user and password: scheme, host, parameter names and
    values, header names and values.  No condition on duplicates or on the lists being well formed. -/
theorem cmp_case_raw : type_of% @Sipsp.uriParseCmp_case := @Sipsp.uriParseCmp_case

/-- **HOST LETTER CASE for the raw-string entry point**: for ANY two byte strings of at most 65,535 bytes, the
    complete result of URIParseCmp (verdict, error, index, both parsed URIs) is unchanged when the letter case of
    host bytes of either string is changed — no condition on duplicates or on the lists being well formed. -/
theorem cmp_host_case_raw : type_of% @Sipsp.uriParseCmp_host_case := @Sipsp.uriParseCmp_host_case

/-- the hypothesis `UclListsOk` of reflexivity is NECESSARY: ParseURI accepts `sip:a@b;<` (it does not look inside
    the parameter string), ParseAllURIParams rejects `<`, and URIParseCmp then reports the URI different from
    itself; same for a header string -/
theorem refl_needs_lists_ok : type_of% @Sipsp.ucl_refl_needs_listsOk := @Sipsp.ucl_refl_needs_listsOk

/-- the hypothesis `UclNoDup` is necessary for reflexivity and for symmetry (names equal up to case count as
    duplicates) -/
theorem symm_needs_nodup : type_of% @Sipsp.ucl_needs_nodup := @Sipsp.ucl_needs_nodup

/-! ### the laws on URI TEXT (renderings from parts): order, letter case, user case, presence (proved in `Sipsp.Proofs.UriCmpPerm`) -/

/-- **URIParseCmp on two renderings**: no panic, no error, both parsed URIs handed back (they are `ucpmURI`), and the
    verdict is "equal" exactly when the parts are equal in the sense of `UcpmSpec` — for every flag value -/
theorem text_spec : type_of% @Sipsp.uriParseCmp_text_spec := @Sipsp.uriParseCmp_text_spec

/-- **ORDER OF PARAMETERS AND HEADERS, on the text**: a rendering and the rendering of the same parts with the
    parameter items and / or the header items in another order compare EQUAL under `uriParseCmp` (URIParseCmp /
    URIRawCmp) for every flag set: verdict true, no error, no panic, both parsed URIs handed back. -/
theorem perm_text : type_of% @Sipsp.uriParseCmp_perm_text := @Sipsp.uriParseCmp_perm_text

/-- **LETTER CASE, on the text**: two renderings that differ only in the letter case of scheme, host, parameter
    names / values and header names / values compare EQUAL for every flag set. -/
theorem case_text : type_of% @Sipsp.uriParseCmp_case_text := @Sipsp.uriParseCmp_case_text

/-- … and re-casing either side does not change the verdict against any third rendering -/
theorem case_text_gen : type_of% @Sipsp.uriParseCmp_case_text_gen := @Sipsp.uriParseCmp_case_text_gen

/-- **ORDER AND LETTER CASE ON THE TEXT, general form**: the verdict of URIParseCmp on two renderings is unchanged when
    either one is replaced by a rendering of the same parts up to the order of the parameter / header items and the
    letter case of scheme, host, parameter names / values and header names / values; no panic, no error, each call
    hands back the URIs parsed from its own two texts -/
theorem congr_text : type_of% @Sipsp.uriParseCmp_congr_text := @Sipsp.uriParseCmp_congr_text

/-- **USER, on the text**: renderings with different user bytes (e.g. another letter case) compare UNEQUAL when
    the user comparison is not skipped -/
theorem user_case_text : type_of% @Sipsp.uriParseCmp_user_case_text := @Sipsp.uriParseCmp_user_case_text

/-- **PASSWORD, on the text** -/
theorem pass_case_text : type_of% @Sipsp.uriParseCmp_pass_case_text := @Sipsp.uriParseCmp_pass_case_text

/-- **… unless skipped**: renderings that agree in everything but user and password compare EQUAL when the
    flags skip each of the two that differs -/
theorem user_skip_text : type_of% @Sipsp.uriParseCmp_user_skip_text := @Sipsp.uriParseCmp_user_skip_text

/-- **PRESENCE RULE, on the text**: a rendering with a `user` / `ttl` / `method` / `maddr` parameter item (any
    letter case) and a rendering without one compare UNEQUAL, in either order, when the parameters are not skipped -/
theorem presence_text : type_of% @Sipsp.uriParseCmp_presence_text := @Sipsp.uriParseCmp_presence_text

/-- **… while a parameter with any OTHER name present in only one of the two does not matter**: a rendering and
    the rendering with one more parameter item (anywhere in the list) whose name is none of user / ttl / method /
    maddr compare EQUAL, in either order, for every flag set -/
theorem extra_param_text : type_of% @Sipsp.uriParseCmp_extra_param_text := @Sipsp.uriParseCmp_extra_param_text

end Sipsp.C15
