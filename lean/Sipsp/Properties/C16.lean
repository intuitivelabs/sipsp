/-
  Property C16 — header-name and method classification is total and exactly the table.

  `Spec.hdrTable` / `Spec.mthTable` are the tables written in the property; `Gen.hdrName2Type` /
  `Gen.method2Name` are REGENERATED from the Go source on every run, so `gen_hdr_table_is_spec` /
  `gen_mth_table_is_spec` (and with them every theorem below) are re-checked against what the code says now.
  All theorems hold for names of ANY length (no bound), the empty name included.
-/
import Sipsp.Proofs.Lookup
import Sipsp.Spec.Tables
import Sipsp.Model.Msg

namespace Sipsp.C16
open Sipsp

/-! ### facts about the regenerated tables (finite: `decide`) -/

/-- the regenerated header table is the property's table (as a set) -/
theorem gen_hdr_table_is_spec :
    (Gen.hdrName2Type.all fun e => Spec.hdrTable.contains e) = true ∧
    (Spec.hdrTable.all fun e => Gen.hdrName2Type.contains e) = true := by decide +kernel

theorem gen_hdr_lower : (Gen.hdrName2Type.all fun e => lowerL e.1 == e.1 && e.1 != []) = true := by decide +kernel

/-- a name determines its type (no name listed with two types) -/
theorem spec_hdr_functional :
    (Spec.hdrTable.all fun e => Spec.hdrTable.all fun e' => e.1 != e'.1 || e.2 == e'.2) = true := by decide +kernel

theorem spec_hdr_known : (Spec.hdrTable.all fun e => decide (1 ≤ e.2 ∧ e.2 ≤ 13)) = true := by decide +kernel

/-- the method names registered by `init()` are exactly the property's method table -/
theorem gen_mth_table_is_spec :
    (mthEntries.all fun e => Spec.mthTable.contains e) = true ∧
    (Spec.mthTable.all fun e => mthEntries.contains e) = true := by decide +kernel

theorem spec_mth_functional :
    (Spec.mthTable.all fun e => Spec.mthTable.all fun e' => e.1 != e'.1 || e.2 == e'.2) = true := by decide +kernel

theorem spec_mth_nonempty : (Spec.mthTable.all fun e => e.1 != []) = true := by decide +kernel

private theorem mem_gen_iff (e : List UInt8 × Nat) : e ∈ Gen.hdrName2Type ↔ e ∈ Spec.hdrTable := by
  have h := gen_hdr_table_is_spec
  simp only [List.all_eq_true, List.contains_iff_mem] at h
  exact ⟨h.1 e, h.2 e⟩

private theorem mem_mth_iff (e : List UInt8 × Nat) : e ∈ mthEntries ↔ e ∈ Spec.mthTable := by
  have h := gen_mth_table_is_spec
  simp only [List.all_eq_true, List.contains_iff_mem] at h
  exact ⟨h.1 e, h.2 e⟩

private theorem gen_lower {e : List UInt8 × Nat} (he : e ∈ Gen.hdrName2Type) : lowerL e.1 = e.1 ∧ e.1 ≠ [] := by
  have h := gen_hdr_lower
  simp only [List.all_eq_true, Bool.and_eq_true, beq_iff_eq, bne_iff_ne] at h
  exact h e he

/-- `GetHdrType` is one search of the whole table -/
private theorem getHdrType_eq (name : Buf) :
    getHdrType name = ((Gen.hdrName2Type.find? fun e => cmpEqL name e.1).map (·.2)).getD HdrOther := by
  refine firstByte_getD (fun h0 => ?_) fun c h0 => ?_
  · rw [Option.map_eq_none_iff, List.find?_eq_none]
    intro e he hc
    have := (cmpEqL_iff name e.1).1 hc
    rw [nil_of_get0 h0, (gen_lower he).1] at this
    exact (gen_lower he).2 this.symm
  · rw [← lookupCI_eq_find]
    refine lookupCI_filter name _ _ fun e _ hc => ?_
    have hl := (cmpEqL_iff name e.1).1 hc
    rw [(head_of_get0 h0).1] at hl
    rw [(head_of_get0 h0).2, hashNameL_of_lower hl]
    simp

private theorem hdr_fun (name : Buf) : ∀ e ∈ Gen.hdrName2Type, ∀ e' ∈ Gen.hdrName2Type,
    cmpEqL name e.1 = true → cmpEqL name e'.1 = true → e.2 = e'.2 := by
  intro e he e' he' hc hc'
  have h1 := (cmpEqL_iff name e.1).1 hc
  rw [(cmpEqL_iff name e'.1).1 hc', (gen_lower he).1, (gen_lower he').1] at h1
  have hf := spec_hdr_functional
  simp only [List.all_eq_true, Bool.or_eq_true, bne_iff_ne, beq_iff_eq] at hf
  exact (hf e ((mem_gen_iff e).1 he) e' ((mem_gen_iff e').1 he')).resolve_left (fun h => h h1.symm)

/-- **C16 (header names), known names**: a name that equals a listed name ignoring letter case gets that
    name's type. -/
theorem hdr_known (name : Buf) (e : List UInt8 × Nat) (he : e ∈ Spec.hdrTable)
    (hm : lowerL name.toList = e.1) : getHdrType name = e.2 := by
  have heg := (mem_gen_iff e).2 he
  rw [getHdrType_eq]
  exact find?_getD_of_mem (hdr_fun name) heg ((cmpEqL_iff name e.1).2 (by rw [hm, (gen_lower heg).1]))

/-- **C16 (header names), all other names**: a name that equals no listed name (ignoring case) is `other`.
    Holds for the empty name too (no panic: the model returns a value for every input). -/
theorem hdr_other (name : Buf) (hno : ∀ e ∈ Spec.hdrTable, lowerL name.toList ≠ e.1) :
    getHdrType name = HdrOther := by
  rw [getHdrType_eq]
  refine find?_getD_of_not fun e he => Bool.eq_false_iff.2 fun hc => hno e ((mem_gen_iff e).1 he) ?_
  rw [(cmpEqL_iff name e.1).1 hc, (gen_lower he).1]

/-- **C16 (header names), "if and only if"**: the result is a known type exactly for the listed names. -/
theorem hdr_iff (name : Buf) (t : Nat) (ht : t ≠ HdrOther) :
    getHdrType name = t ↔ ∃ e ∈ Spec.hdrTable, lowerL name.toList = e.1 ∧ e.2 = t := by
  constructor
  · intro h
    by_cases hex : ∃ e ∈ Spec.hdrTable, lowerL name.toList = e.1
    · obtain ⟨e, he, hm⟩ := hex
      exact ⟨e, he, hm, by rw [← hdr_known name e he hm, h]⟩
    · exfalso
      have := hdr_other name (fun e he hm => hex ⟨e, he, hm⟩)
      exact ht (by rw [← h, this])
  · rintro ⟨e, he, hm, rfl⟩
    exact hdr_known name e he hm

/-! ### methods -/

/-- `GetMethodNo` is one search of the whole table -/
private theorem getMethodNo_eq (name : Buf) :
    getMethodNo name = ((mthEntries.find? fun e => bytesEqL name e.1).map (·.2)).getD MOther := by
  refine firstByte_getD (fun h0 => ?_) fun c h0 => ?_
  · rw [Option.map_eq_none_iff, List.find?_eq_none]
    intro e he hc
    have h := spec_mth_nonempty
    simp only [List.all_eq_true, bne_iff_ne] at h
    exact h e ((mem_mth_iff e).1 he) (((bytesEqL_iff _ _).1 hc).symm.trans (nil_of_get0 h0))
  · rw [← lookupExact_eq_find]
    refine lookupExact_filter name _ _ fun e _ hc => ?_
    rw [← hc, (head_of_get0 h0).1]
    simp only [hashNameL, List.length_cons, beq_iff_eq]
    rw [(head_of_get0 h0).2]

private theorem mth_fun (name : Buf) : ∀ e ∈ mthEntries, ∀ e' ∈ mthEntries,
    bytesEqL name e.1 = true → bytesEqL name e'.1 = true → e.2 = e'.2 := by
  intro e he e' he' hc hc'
  have h1 := ((bytesEqL_iff _ _).1 hc).symm.trans ((bytesEqL_iff _ _).1 hc')
  have hf := spec_mth_functional
  simp only [List.all_eq_true, Bool.or_eq_true, bne_iff_ne, beq_iff_eq] at hf
  exact (hf e ((mem_mth_iff e).1 he) e' ((mem_mth_iff e').1 he')).resolve_left (fun h => h h1)

/-- **C16 (methods), known**: exactly the upper-case listed name gives that method. -/
theorem mth_known (name : Buf) (e : List UInt8 × Nat) (he : e ∈ Spec.mthTable) (hm : name.toList = e.1) :
    getMethodNo name = e.2 := by
  rw [getMethodNo_eq]
  exact find?_getD_of_mem (mth_fun name) ((mem_mth_iff e).2 he) ((bytesEqL_iff _ _).2 hm)

/-- **C16 (methods), other**: every other byte string (other letter case included) is `other`. -/
theorem mth_other (name : Buf) (hno : ∀ e ∈ Spec.mthTable, name.toList ≠ e.1) : getMethodNo name = MOther := by
  rw [getMethodNo_eq]
  exact find?_getD_of_not fun e he => Bool.eq_false_iff.2 fun hc =>
    hno e ((mem_mth_iff e).1 he) ((bytesEqL_iff _ _).1 hc)

/-- **C16 (round trip)**: mapping a known method (1..14) to its name and back is the identity. -/
theorem mth_roundtrip :
    ((List.range 15).all fun m => m == 0 || getMethodNo (methodName m).toArray == m) = true := by
  decide +kernel

/-- `SIPMethod.Name()` of a known method is the listed name -/
theorem mth_name : (Spec.mthTable.all fun e => methodName e.2 == e.1) = true := by decide +kernel

/-- the header-specific value parsers never change the type stored in the header -/
theorem parseBody_type (b : Buf) (o : Nat) (h : Hdr) (hb : Option PHdrVals) :
    (parseBody b o h hb).2.2.1.type = h.type := by
  unfold parseBody
  cases hb with
  | none => rfl
  | some hv =>
    simp only [apply_ite (fun r : Nat × Err × Hdr × Option PHdrVals => r.2.2.1.type), ite_self]

/-- the type of the header carried by a step result of the header-line machine -/
def stepHdrType : Step HLσ → Nat
  | .cont _ st => st.1.type
  | .done _ _ st => st.1.type

/-- **C16 (the header parser assigns exactly this classification)**: when `ParseHdrLine` reaches the
    colon it stores `getHdrType` of the name field (`h.Type = GetHdrType(h.Name.Get(buf))`), and nothing
    after that changes it: whatever the step results in, the header carries that type. -/
theorem hdrline_assigns (b : Buf) (i : Nat) (h : Hdr) (hb : Option PHdrVals) (nm : Buf)
    (hn : h.name.get? b = some nm) : stepHdrType (hlAfterColon b i h hb) = getHdrType nm := by
  unfold hlAfterColon
  rw [hn]
  simp only
  have ht := parseBody_type b i { h with type := getHdrType nm } hb
  generalize parseBody b i { h with type := getHdrType nm } hb = r at ht
  obtain ⟨n, e, h2, hb2⟩ := r
  simp only at ht ⊢
  by_cases hs : (h2.state != HState.bodyStart) = true
  · rw [if_pos hs]
    by_cases he : (e == Err.ok) = true
    · simp only [stepHdrType, if_pos he, ht]
    · simp only [stepHdrType, if_neg he, ht]
  · rw [if_neg hs]
    simp only [stepHdrType, ht]

/-! ### non-vacuity: the hypotheses are satisfiable by concrete non-trivial names -/

example : getHdrType #[67, 97, 76, 108, 45, 105, 68] = 3 :=   -- "CaLl-iD"
  hdr_known _ ([99, 97, 108, 108, 45, 105, 100], 3) (by decide) (by decide)
example : getHdrType #[84, 105, 109, 101, 115, 116, 97, 109, 112] = HdrOther :=   -- "Timestamp"
  hdr_other _ (by decide)
example : getMethodNo #[105, 110, 118, 105, 116, 101] = MOther := mth_other _ (by decide)   -- "invite"

end Sipsp.C16
