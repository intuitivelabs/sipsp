/-
  Property C17 — parameter-list parsing (token parameters, URI parameters, URI headers) is faithful.

  The grammar (`Sipsp.Proofs.ParamSpec`), all positions being offsets into the buffer:
  * `PRun b flags i j`  : the bytes `[i, j)` are name / token-value bytes: allowed by `tokAllowedChar`, not the
    separator, not the terminator. `tokAllowedChar` is the documented set (`allowed_bytes_documented`); which byte is
    the separator (`tpSep`: ';' or '&') and which the terminator (`tpTerm`: '?', ',' or none) follows from the option
    flags by `separator_*` / `terminator_*` (stated with `hasFlag` hypotheses).
  * `Lws b i j` (from C07): linear white space — spaces, tabs and folds (line end followed by SP / HT), possibly empty.
  * `Pad b sep i j`     : empty list items — any number of separators, each optionally preceded by white space.
  * `Ending b flags i o e st` : how a parameter ends after its name / value at `i`: optional white space, then
      - the separator, more empty items / white space and the first byte of the next parameter (an allowed byte
        that is neither separator nor terminator): `MoreValues`, offset of that byte (so: the offset right after
        the separator when nothing is skipped);
      - the separator, more empty items / white space and the terminator: `OK`, offset of the terminator — the
        empty item(s) before the terminator are skipped and the parameter is complete;
      - the separator (…) and the end of the header, or the end of the input with `POptInputEndF`: `EOH`;
      - the configured terminator: `OK`, offset OF the terminator (it is not consumed);
      - a line end that is not a fold (CR LF, lone CR, lone LF; next byte not SP / HT): `EOH`, offset after it;
      - with `POptInputEndF` the end of the input (nothing left, a trailing lone CR / LF, or trailing CR LF): `EOH`,
        offset = len(buf).
    `AfterSep` is the part of it that follows a separator.
  * `QBody b i e`       : the inside of a quoted string from `i` to the offset `e` after the closing quote: plain
    bytes, escape pairs (backslash + any byte but CR / LF), closing quote.

  Proved for ALL buffers within the 65,535-byte limit, ALL start offsets, ALL option words, ALL parameters of the
  grammar (names / values of any length, any amount of white space and folds around name, '=' and value, any
  number of skipped empty items before the parameter and after its separator), both separators and every ending,
  for a call on an object in its initial state (`p.state = .init`; the fields not written keep their value):
  * `one_param` : the plain case `name=token<sep><next byte>` without white space: offset after the separator,
    `MoreValues`, name / value / all exactly the spans of the text.
  * `param_token_value`, `param_no_value`, `param_quoted_value` : `name [LWS] = [LWS] token`, `name`,
    `name [LWS] = [LWS] "quoted"` followed by any `Ending`: the offset, verdict and final state are those of the
    ending; name and value are reported without the surrounding white space, the quoted value with its quotes,
    `all` spans from the first byte of the name to the end of the value (of the name when there is no value).
  * `quoted_string` : `SkipQuoted` accepts every `QBody` (escapes honoured) and returns the offset after the quote;
    `param_quoted_value` is stated for whatever `SkipQuoted` accepts.
  * `param_empty_value_sep`, `param_empty_value_term`, `param_empty_value_eoh`, `param_empty_value_end` :
    `name [LWS] = [LWS]` followed by the separator / terminator (empty value at that position) or by the end of
    the header / input (NO value recorded: the value field keeps what it held).
  * empty list items are skipped: built into every theorem (`Pad` before the parameter and inside `Ending`);
    `param_no_value_sep_terminator`, `param_token_value_sep_terminator` spell out the case of an empty last item: separator,
    optional white space / further empty items, then the terminator → the parameter is reported complete, `OK`,
    offset of the terminator (the same holds for quoted / empty values through `Ending.sep` + `AfterSep.term`, and
    for the list wrappers through `GList`: the last parameter is counted, see the `a;?x` example).
  * `param_no_value_spterm`, `param_token_value_spterm` : with `POptTokSpTermF`, white space followed by a new
    token ends the parameter: `OK`, offset of the LAST WHITE-SPACE BYTE before the token.
  * rejection — `reject_start`, `reject_in_name`, `reject_value_start`, `reject_in_value` : a byte that is not
    allowed (and is not white space, separator, terminator, nor '=' after a name / '"' at the start of a value) gives
    `BadChar` at its own offset, wherever it stands in a name or token value; nothing is absorbed. `reject_start`
    is about the first parameter of a call (state init: there the terminator is NOT special, so it needs no
    terminator hypothesis).
  * list wrappers — `uri_param_list`, `uri_hdr_list` : for every parameter list of the grammar (`GList`: k ≥ 1
    parameters, each `name`, `name=token`, `name="quoted"` (any `QBody`) or `name=` before a separator, white space
    and empty items anywhere, the last one ended by the terminator or the end of the header / input) and a list
    object in its reset state (`Fresh`), ParseAllURIParams / ParseAllURIHdrs return the offset and verdict of the
    list end, count k values (also beyond the caller's array), store parameter `i` in slot `n+i` when the array
    has one (earlier slots untouched), and OR the type flags of all names. `all_uri_params` / `all_uri_hdrs` are
    the same for any sequence of ParseTokenParam results (`ParamSeq` / `HdrSeq`: `MoreValues` for all but the
    last, `OK` / `EOH` for the last). `uri_param_type_ignores_case`: the type is the table entry of the
    lower-cased name.
  The `decide +kernel` examples at the end are tests on concrete inputs (theorem and evaluation agree) and show
  that the hypotheses are satisfiable.

  Under every chunk schedule (`Sipsp.Proofs.ShiftParams`, composing the theorems above with C02's schedule theorems;
  without the end-of-input option): `tokparam_any_schedule`, `gparam_any_schedule`: whatever one call on the last
  buffer of a growing sequence of prefixes returns is what the chain of resumed calls returns — in particular a
  parameter of the grammar is reported exactly as written however the input was cut; `uri_param_list_any_schedule`,
  `uri_hdr_list_any_schedule`: a list of the grammar is decomposed exactly as in `uri_param_list` / `uri_hdr_list`
  (offset, verdict, total count, slots, type flags) under every chunk schedule.

  SOUNDNESS for ALL inputs (`Sipsp.Proofs.ParamSound`; every buffer ≤ 65,535 bytes, offset and option word, the
  end-of-input option included; new object / new or reset list): `tokparam_ok_iff`, `tokparam_sound`,
  `tokparam_complete`: ParseTokenParam returns OK / MoreValues / EOH iff the text at the offset is a parameter of the
  grammar `PSParam`, which fixes offset, verdict and the complete object; `grammar_is_accepted`,
  `accepted_is_grammar_or_extra`: `PSParam` is the grammar `GParam` above widened by exactly four documented shapes —
  (a) nothing before the end of header / input (EOH, object untouched), (b) at the very start of a call the terminator
  is not special (`?a;b` with the '?' terminator outside URI mode: name `?a`), (c) with the space terminator a token
  glued to a closing quote (`a="b"c`), (d) `name=` directly followed by the terminator / end (empty value recorded /
  no value recorded); `tokparam_charset`, `tokparam_fields`: an accepted parameter has a non-empty name of allowed
  bytes inside the buffer, `all` covers it, the value is empty, an unquoted run of allowed bytes or a complete quoted
  string — no byte outside the documented set outside quotes; `uriparams_ok_iff`, `urihdrs_ok_iff`: the wrappers
  return OK / EOH iff the text is a list of such parameters, N = number of items, every stored element is the
  corresponding item with its type; `list_items_named_or_empty_list`: every item has a non-empty name except for the
  empty list (the phantom parameter, known finding F17 — proved to be the only place it occurs); `more_values_advances`.

  REJECTED and SUSPENDED texts (`Sipsp.Proofs.ParamVerdicts`, every buffer, offset and option word, new object):
  `tokparam_verdicts(_desc)` — the only verdicts are OK, EOH, MoreValues, MoreBytes, BadChar; `tokparam_badChar_iff`
  (sound + complete): BadChar at `p` ⇔ the text before `p` is the beginning of a parameter that put the automaton in a
  state whose explicit reject set contains the byte at `p` (or a bad byte inside quotes / a line end after a
  back-slash); `tokparam_badChar_prefix_extends`, `tokparam_badChar_local`: the text before `p` IS a proper prefix of an
  accepted parameter and NO buffer agreeing up to and including `p` is accepted — the error offset is that of the first
  byte that cannot continue, never an innocent one; `tokparam_trichotomy`: accepted / MoreBytes / BadChar, mutually
  exclusive; `tokparam_moreBytes_extends`, `tokparam_moreBytes_prefixes`: a suspended text can be completed and every
  shorter buffer is suspended too; the list wrappers (`uriParamsLoop_stop_iff`, `parseAllURIParams_badChar_iff`,
  `*_verdicts`, `*_outcome`, same for headers): an error verdict iff one of the items has it, at that item's offset,
  the items before it counted and stored; stability of every rejection under appended bytes and every chunk schedule
  (`*_badChar_append`, `*_badChar_any_schedule`, `uriparams_any_schedule`); `pv_skipQuoted`: every outcome of SkipQuoted.
  NOT proved here:
  * the object (not only offset and verdict) returned with BadChar / MoreBytes; calls on objects that are not new.
  Behaviour worth knowing (all of it is also the behaviour of the Go source; concrete inputs in the report):
  * the terminator directly after a separator (an empty last item) ends the list — `a;?b?` with POptTokQmTermF,
    `a;?x` in URI-parameter mode, `a;,b` with the comma terminator: `OK` at the offset of the terminator, the
    parameter before it complete and counted (theorems and tests above).
  * BUT at the very start of a call (state init, nothing parsed yet) the terminator is not special: an empty
    list directly followed by the terminator (`?x` in URI-parameter mode) is BadChar at its first byte, and with
    POptTokQmTermF alone a leading `?` starts a name.
  * an empty list at the end of the header / input is reported by the wrappers as ONE parameter (N = 1, empty
    name, type "other"): ParseTokenParam returns EOH in its initial state and the wrapper counts it.
  * `name = <end of header>` leaves the value field untouched while `name = <separator>` records an empty value;
    in `all`, the '=' is included only when it follows the name without white space and no value follows.
  * with POptTokSpTermF the offset returned is that of the last white-space byte, not of the token.
  Model tied to parse_params.go / parse_uri_params.go / parse_uri_hdrs.go by the correspondence check.
  SCOPE: "every buffer" — `tokparam_trichotomy`, the `*_stop_iff`,
  `*_badChar_iff`, `*_outcome`, `*_verdicts` and the list `*_any_schedule` theorems carry the documented `b.size ≤ 65535`;
  all stability / schedule theorems exclude the end-of-input option; `uri*_any_schedule` need the offset inside the first
  buffer; "new object" is the zero object. `tokparam_badChar_iff`, `tokparam_verdicts(_desc)`, `tokparam_badChar_local`,
  `tokparam_badChar_append` and `tokparam_badChar_prefix_extends` are unrestricted. `PVMore` (the MoreBytes description) is a
  NECESSARY condition only: it fixes neither the returned offset nor excludes the end-of-input option (for `"a  "` it holds
  at 1, 2 and 3; the model returns 1) — the statement "MoreBytes is reported at the start of the unfinished white space"
  is backed by tests, not by a theorem. `*_extends` state a bare existence of the completed buffer; that at most five /
  six bytes are appended is in their proofs, not in their statements. Sharper (`Sipsp.Proofs.AuditFixC`):
  `moreBytes_iff` — `PVMoreAt` (= `PVMore` + the end-of-input option off in the white-space shape + `r` is the START of the
  unfinished white space) characterises MoreBytes at `r` EXACTLY, both directions; `*_extends_explicit` state the appended
  bytes (`B = b.extract 0 p ++ s`, `s.size ≤ 5` resp. 6).
-/
import Sipsp.Proofs.ParamSpec
import Sipsp.Proofs.ShiftParams
import Sipsp.Proofs.ParamSound
import Sipsp.Proofs.ParamVerdicts
import Sipsp.Proofs.AuditFixC

namespace Sipsp.C17
open Sipsp

/-! ### the option flags -/

theorem separator_semicolon {flags : Nat} (h1 : hasFlag flags POptParamAmpSepF = false)
    (h2 : hasFlag flags POptTokURIHdrF = false) : tpSep flags = 59 := tpSep_semi h1 h2

theorem separator_ampersand {flags : Nat}
    (h : hasFlag flags POptParamAmpSepF = true ∨ hasFlag flags POptTokURIHdrF = true) : tpSep flags = 38 :=
  tpSep_amp h

theorem terminator_question_mark {flags : Nat}
    (h : hasFlag flags POptTokQmTermF = true ∨ hasFlag flags POptTokURIParamF = true) : tpTerm flags = 63 :=
  tpTerm_qm h

theorem terminator_comma {flags : Nat} (h1 : hasFlag flags POptTokQmTermF = false)
    (h2 : hasFlag flags POptTokURIParamF = false) (h3 : hasFlag flags POptTokCommaTermF = true) :
    tpTerm flags = 44 := tpTerm_comma h1 h2 h3

theorem terminator_none {flags : Nat} (h1 : hasFlag flags POptTokQmTermF = false)
    (h2 : hasFlag flags POptTokURIParamF = false) (h3 : hasFlag flags POptTokCommaTermF = false) :
    tpTerm flags = 0 := tpTerm_none h1 h2 h3

/-- the allowed bytes are exactly the documented ones: letters, digits, `-_.!~*'()`, `%`, `[]/:+$`, plus `&` in
    URI-parameter mode and `?` otherwise — for every byte and every option word -/
theorem allowed_bytes_documented (c : UInt8) (flags : Nat) :
    tokAllowedChar c flags = docAllowed c (hasFlag flags POptTokURIParamF) := tokAllowedChar_doc c flags

/-! ### one parameter -/

/-- the plain case: `name=token`, the separator, and the first byte of the next parameter (an allowed byte
    other than the separator and the terminator) -/
theorem one_param (b : Buf) (flags o n1 v1 : Nat) (c : UInt8) (hfit : b.size ≤ 65535)
    (hname : PRun b flags o n1) (hn : o < n1) (heq : b[n1]? = some 61)
    (hval : PRun b flags (n1 + 1) v1) (hv : n1 + 1 < v1) (hsep : b[v1]? = some (tpSep flags))
    (hnext : b[v1 + 1]? = some c) (hc : tokAllowedChar c flags = true) (hcs : c ≠ tpSep flags)
    (hct : c ≠ tpTerm flags) :
    parseTokenParam b o {} flags =
      (v1 + 1, .moreValues,
        { name := ⟨o, n1 - o⟩, val := ⟨n1 + 1, v1 - (n1 + 1)⟩, all := ⟨o, v1 - o⟩, state := .initNxtVal }) :=
  parseTokenParam_token_value flags b hfit {} rfl (Pad.nil o) (Lws.nil o) hname hn (Lws.nil n1) heq
    (Lws.nil (n1 + 1)) hval hv
    (Ending.sep v1 v1 (v1 + 1) .moreValues .initNxtVal (Lws.nil v1) hsep
      (AfterSep.more (v1 + 1) (v1 + 1) (v1 + 1) c (Pad.nil _) (Lws.nil _) hnext hc hcs hct))

/-- `name [LWS] = [LWS] token` and any ending; empty items and white space before the name skipped -/
theorem param_token_value (b : Buf) (flags o t n0 n1 q v0 v1 o' : Nat) (e : Err) (st : TPState)
    (hfit : b.size ≤ 65535) (p : PTokParam) (hst : p.state = .init) (hpad : Pad b (tpSep flags) o t)
    (hl : Lws b t n0) (hname : PRun b flags n0 n1) (hn : n0 < n1) (hlq : Lws b n1 q) (heq : b[q]? = some 61)
    (hlv : Lws b (q + 1) v0) (hval : PRun b flags v0 v1) (hv : v0 < v1) (H : Ending b flags v1 o' e st) :
    parseTokenParam b o p flags =
      (o', e, { p with name := ⟨n0, n1 - n0⟩, val := ⟨v0, v1 - v0⟩, all := ⟨n0, v1 - n0⟩, state := st }) :=
  parseTokenParam_token_value flags b hfit p hst hpad hl hname hn hlq heq hlv hval hv H

/-- a missing value: `name` and any ending -/
theorem param_no_value (b : Buf) (flags o t n0 n1 o' : Nat) (e : Err) (st : TPState) (hfit : b.size ≤ 65535)
    (p : PTokParam) (hst : p.state = .init) (hpad : Pad b (tpSep flags) o t) (hl : Lws b t n0)
    (hname : PRun b flags n0 n1) (hn : n0 < n1) (H : Ending b flags n1 o' e st) :
    parseTokenParam b o p flags =
      (o', e, { p with name := ⟨n0, n1 - n0⟩, all := ⟨n0, n1 - n0⟩, state := st }) :=
  parseTokenParam_no_value flags b hfit p hst hpad hl hname hn H

/-- a quoted value: the opening quote at `v0`, the string ends (after its closing quote) at `qe` -/
theorem param_quoted_value (b : Buf) (flags o t n0 n1 q v0 qe o' : Nat) (e : Err) (st : TPState)
    (hfit : b.size ≤ 65535) (p : PTokParam) (hst : p.state = .init) (hpad : Pad b (tpSep flags) o t)
    (hl : Lws b t n0) (hname : PRun b flags n0 n1) (hn : n0 < n1) (hlq : Lws b n1 q) (heq : b[q]? = some 61)
    (hlv : Lws b (q + 1) v0) (hquote : b[v0]? = some 34) (hq : skipQuoted b (v0 + 1) = (qe, .ok))
    (H : Ending b flags qe o' e st) :
    parseTokenParam b o p flags =
      (o', e, { p with name := ⟨n0, n1 - n0⟩, val := ⟨v0, qe - v0⟩, all := ⟨n0, qe - n0⟩, state := st }) :=
  parseTokenParam_quoted_value flags b hfit p hst hpad hl hname hn hlq heq hlv hquote hq H

/-- escapes honoured: `SkipQuoted` accepts every well-formed quoted-string body and returns the offset after
    the closing quote -/
theorem quoted_string (b : Buf) (i e : Nat) (h : QBody b i e) : skipQuoted b i = (e, .ok) :=
  skipQuoted_of_qbody h

/-- an empty value: `name [LWS] = [LWS]` and the separator at `s` -/
theorem param_empty_value_sep (b : Buf) (flags o t n0 n1 q s o' : Nat) (e : Err) (st : TPState)
    (hfit : b.size ≤ 65535) (p : PTokParam) (hst : p.state = .init) (hpad : Pad b (tpSep flags) o t)
    (hl : Lws b t n0) (hname : PRun b flags n0 n1) (hn : n0 < n1) (hlq : Lws b n1 q) (heq : b[q]? = some 61)
    (hlv : Lws b (q + 1) s) (hs : b[s]? = some (tpSep flags)) (H : AfterSep b flags (s + 1) o' e st) :
    parseTokenParam b o p flags =
      (o', e, { p with name := ⟨n0, n1 - n0⟩, val := ⟨s, 0⟩, all := ⟨n0, s - n0⟩, state := st }) :=
  parseTokenParam_empty_value_sep flags b hfit p hst hpad hl hname hn hlq heq hlv hs H

/-- an empty value: `name [LWS] = [LWS]` and the terminator at `u` -/
theorem param_empty_value_term (b : Buf) (flags o t n0 n1 q u : Nat) (hfit : b.size ≤ 65535)
    (p : PTokParam) (hst : p.state = .init) (hpad : Pad b (tpSep flags) o t) (hl : Lws b t n0)
    (hname : PRun b flags n0 n1) (hn : n0 < n1) (hlq : Lws b n1 q) (heq : b[q]? = some 61)
    (hlv : Lws b (q + 1) u) (hu : b[u]? = some (tpTerm flags)) (hne : tpTerm flags ≠ 0) :
    parseTokenParam b o p flags =
      (u, .ok, { p with name := ⟨n0, n1 - n0⟩, val := ⟨u, 0⟩,
                        all := ⟨n0, (if n1 = q then q + 1 else n1) - n0⟩, state := .fin }) :=
  parseTokenParam_empty_value_term flags b hfit p hst hpad hl hname hn hlq heq hlv hu hne

/-- `name [LWS] = [LWS]` and the end of the header: `EOH`, no value recorded -/
theorem param_empty_value_eoh (b : Buf) (flags o t n0 n1 q x e : Nat) (c2 : UInt8) (hfit : b.size ≤ 65535)
    (p : PTokParam) (hst : p.state = .init) (hpad : Pad b (tpSep flags) o t) (hl : Lws b t n0)
    (hname : PRun b flags n0 n1) (hn : n0 < n1) (hlq : Lws b n1 q) (heq : b[q]? = some 61)
    (hlv : Lws b (q + 1) x) (he : Eol b x e) (h2 : b[e]? = some c2) (hw2 : isWS c2 = false) :
    parseTokenParam b o p flags =
      (e, .eoh, { p with name := ⟨n0, n1 - n0⟩,
                         all := ⟨n0, (if n1 = q then q + 1 else n1) - n0⟩, state := .fin }) :=
  parseTokenParam_empty_value_eoh flags b hfit p hst hpad hl hname hn hlq heq hlv he h2 hw2

/-- `name [LWS] = [LWS]` and the end of the input (end-of-input option): `EOH`, no value recorded -/
theorem param_empty_value_end (b : Buf) (flags o t n0 n1 q x : Nat) (hfit : b.size ≤ 65535)
    (p : PTokParam) (hst : p.state = .init) (hpad : Pad b (tpSep flags) o t) (hl : Lws b t n0)
    (hname : PRun b flags n0 n1) (hn : n0 < n1) (hlq : Lws b n1 q) (heq : b[q]? = some 61)
    (hf : hasFlag flags POptInputEndF = true) (hlv : Lws b (q + 1) x) (he : EndTail b x) :
    parseTokenParam b o p flags =
      (b.size, .eoh, { p with name := ⟨n0, n1 - n0⟩,
                              all := ⟨n0, (if n1 = q then q + 1 else n1) - n0⟩, state := .fin }) :=
  parseTokenParam_empty_value_end flags b hfit p hst hpad hl hname hn hlq heq hf hlv he

/-- **an empty item right before the terminator ends the list** (no value): `name`, optional white space, the
    separator at `s`, any further empty items and white space, the terminator at `u`: the parameter is reported
    complete, `OK`, offset of the terminator -/
theorem param_no_value_sep_terminator (b : Buf) (flags o t n0 n1 s t' u : Nat) (hfit : b.size ≤ 65535)
    (p : PTokParam) (hst : p.state = .init) (hpad : Pad b (tpSep flags) o t) (hl : Lws b t n0)
    (hname : PRun b flags n0 n1) (hn : n0 < n1) (hls : Lws b n1 s) (hs : b[s]? = some (tpSep flags))
    (hpad' : Pad b (tpSep flags) (s + 1) t') (hlu : Lws b t' u) (hu : b[u]? = some (tpTerm flags))
    (hne : tpTerm flags ≠ 0) :
    parseTokenParam b o p flags =
      (u, .ok, { p with name := ⟨n0, n1 - n0⟩, all := ⟨n0, n1 - n0⟩, state := .fin }) :=
  parseTokenParam_no_value flags b hfit p hst hpad hl hname hn
    (Ending.sep n1 s u .ok .fin hls hs (AfterSep.term (s + 1) t' u hpad' hlu hu hne))

/-- **an empty item right before the terminator ends the list** (token value) -/
theorem param_token_value_sep_terminator (b : Buf) (flags o t n0 n1 q v0 v1 s t' u : Nat) (hfit : b.size ≤ 65535)
    (p : PTokParam) (hst : p.state = .init) (hpad : Pad b (tpSep flags) o t) (hl : Lws b t n0)
    (hname : PRun b flags n0 n1) (hn : n0 < n1) (hlq : Lws b n1 q) (heq : b[q]? = some 61)
    (hlv : Lws b (q + 1) v0) (hval : PRun b flags v0 v1) (hv : v0 < v1) (hls : Lws b v1 s)
    (hs : b[s]? = some (tpSep flags)) (hpad' : Pad b (tpSep flags) (s + 1) t') (hlu : Lws b t' u)
    (hu : b[u]? = some (tpTerm flags)) (hne : tpTerm flags ≠ 0) :
    parseTokenParam b o p flags =
      (u, .ok, { p with name := ⟨n0, n1 - n0⟩, val := ⟨v0, v1 - v0⟩, all := ⟨n0, v1 - n0⟩, state := .fin }) :=
  parseTokenParam_token_value flags b hfit p hst hpad hl hname hn hlq heq hlv hval hv
    (Ending.sep v1 s u .ok .fin hls hs (AfterSep.term (s + 1) t' u hpad' hlu hu hne))

/-- a parameter reported with `MoreValues` moves the offset forward, to a byte inside the buffer -/
theorem more_values_progress (b : Buf) (flags j o : Nat) (st : TPState) (H : Ending b flags j o .moreValues st) :
    j < o ∧ o < b.size := H.more_range

/-! ### the white-space terminator -/

theorem param_no_value_spterm (b : Buf) (flags o t n0 n1 u : Nat) (c : UInt8) (hfit : b.size ≤ 65535)
    (p : PTokParam) (hst : p.state = .init) (hpad : Pad b (tpSep flags) o t) (hl : Lws b t n0)
    (hname : PRun b flags n0 n1) (hn : n0 < n1) (hf : hasFlag flags POptTokSpTermF = true)
    (hlu : Lws b n1 u) (hnu : n1 < u) (hc : b[u]? = some c) (hpc : PChar flags c) :
    parseTokenParam b o p flags =
      (u - 1, .ok, { p with name := ⟨n0, n1 - n0⟩, all := ⟨n0, n1 - n0⟩, state := .fin }) :=
  parseTokenParam_no_value_spterm flags b hfit p hst hpad hl hname hn hf hlu hnu hc hpc

theorem param_token_value_spterm (b : Buf) (flags o t n0 n1 q v0 v1 u : Nat) (c : UInt8) (hfit : b.size ≤ 65535)
    (p : PTokParam) (hst : p.state = .init) (hpad : Pad b (tpSep flags) o t) (hl : Lws b t n0)
    (hname : PRun b flags n0 n1) (hn : n0 < n1) (hlq : Lws b n1 q) (heq : b[q]? = some 61)
    (hlv : Lws b (q + 1) v0) (hval : PRun b flags v0 v1) (hv : v0 < v1)
    (hf : hasFlag flags POptTokSpTermF = true)
    (hlu : Lws b v1 u) (hvu : v1 < u) (hc : b[u]? = some c) (hpc : PChar flags c) :
    parseTokenParam b o p flags =
      (u - 1, .ok, { p with name := ⟨n0, n1 - n0⟩, val := ⟨v0, v1 - v0⟩, all := ⟨n0, v1 - n0⟩, state := .fin }) :=
  parseTokenParam_token_value_spterm flags b hfit p hst hpad hl hname hn hlq heq hlv hval hv hf hlu hvu hc hpc

/-! ### rejection -/

/-- a byte that cannot start a parameter (not allowed, not white space, not the separator) -/
theorem reject_start (b : Buf) (flags o t n0 : Nat) (c : UInt8) (p : PTokParam) (hst : p.state = .init)
    (hpad : Pad b (tpSep flags) o t) (hl : Lws b t n0) (hc : b[n0]? = some c)
    (ha : tokAllowedChar c flags = false) (hcl : isLWSch c = false) (hcs : c ≠ tpSep flags) :
    parseTokenParam b o p flags = (n0, .badChar, { p with state := .err }) :=
  parseTokenParam_bad_start flags b p hst hpad hl hc ha hcl hcs

/-- a bad byte at any position `j` inside or right after a name -/
theorem reject_in_name (b : Buf) (flags o t n0 j : Nat) (c : UInt8) (hfit : b.size ≤ 65535) (p : PTokParam)
    (hst : p.state = .init) (hpad : Pad b (tpSep flags) o t) (hl : Lws b t n0) (hname : PRun b flags n0 j)
    (hn : n0 < j) (hc : b[j]? = some c) (hbad : BadCh flags c) (h61 : c ≠ 61) :
    parseTokenParam b o p flags =
      (j, .badChar, { p with name := ⟨n0, 0⟩, all := ⟨n0, 0⟩, state := .err }) :=
  parseTokenParam_bad_name flags b hfit p hst hpad hl hname hn hc hbad h61

/-- a bad byte where a value should start -/
theorem reject_value_start (b : Buf) (flags o t n0 n1 q v0 : Nat) (c : UInt8) (hfit : b.size ≤ 65535)
    (p : PTokParam) (hst : p.state = .init) (hpad : Pad b (tpSep flags) o t) (hl : Lws b t n0)
    (hname : PRun b flags n0 n1) (hn : n0 < n1) (hlq : Lws b n1 q) (heq : b[q]? = some 61)
    (hlv : Lws b (q + 1) v0) (hc : b[v0]? = some c) (hbad : BadCh flags c) (h34 : c ≠ 34) :
    parseTokenParam b o p flags =
      (v0, .badChar, { p with name := ⟨n0, n1 - n0⟩, all := ⟨n0, (if n1 = q then q + 1 else n1) - n0⟩,
                              state := .err }) :=
  parseTokenParam_bad_value_start flags b hfit p hst hpad hl hname hn hlq heq hlv hc hbad h34

/-- a bad byte at any position `j` inside or right after a token value -/
theorem reject_in_value (b : Buf) (flags o t n0 n1 q v0 j : Nat) (c : UInt8) (hfit : b.size ≤ 65535)
    (p : PTokParam) (hst : p.state = .init) (hpad : Pad b (tpSep flags) o t) (hl : Lws b t n0)
    (hname : PRun b flags n0 n1) (hn : n0 < n1) (hlq : Lws b n1 q) (heq : b[q]? = some 61)
    (hlv : Lws b (q + 1) v0) (hval : PRun b flags v0 j) (hv : v0 < j) (hc : b[j]? = some c)
    (hbad : BadCh flags c) :
    parseTokenParam b o p flags =
      (j, .badChar, { p with name := ⟨n0, n1 - n0⟩, val := ⟨v0, 0⟩, all := ⟨n0, v0 - n0⟩, state := .err }) :=
  parseTokenParam_bad_value flags b hfit p hst hpad hl hname hn hlq heq hlv hval hv hc hbad

/-! ### the list wrappers -/

/-- ParseAllURIParams on a parameter list: offset and verdict of the last parameter, all parameters counted,
    stored in order (as far as the array reaches), their type flags accumulated -/
theorem all_uri_params (b : Buf) (flags o o' : Nat) (e : Err) (items : List URIParam)
    (H : ParamSeq b (flags ||| POptParamSemiSepF) o items o' e) (l : URIParamsLst) (hl : l.Fresh) :
    ∃ r, parseAllURIParams b o l flags = (o', items.length, e, r) ∧
      r.n = l.n + items.length ∧
      r.types = items.foldl (fun a x => a ||| x.t) l.types ∧
      r.params.size = l.params.size ∧ r.pnc = l.pnc ∧
      (∀ i x, items[i]? = some x → l.n + i < l.params.size → r.params[l.n + i]? = some x) ∧
      (∀ j, j < l.n → r.params[j]? = l.params[j]?) := by
  refine ⟨items.foldl URIParamsLst.push l, ?_, foldl_push_n items l, foldl_push_types items l,
    foldl_push_size items l, foldl_push_pnc items l, fun i x hi hc => foldl_push_get items l i x hi hc,
    fun j hj => foldl_push_get_lt items l j hj⟩
  unfold parseAllURIParams
  rw [uriParamsLoop_seq H l 0 hl, Nat.zero_add]

/-- the type of a URI parameter is the table entry of its lower-cased name (transport, lr, maddr, user, method,
    ttl; anything else is "other") -/
theorem uri_param_type_ignores_case (nm : Buf) : uriParamResolve nm = uriParamOfLower (lowerL nm.toList) :=
  uriParamResolve_lower nm

/-- ParseAllURIHdrs on a header list -/
theorem all_uri_hdrs (b : Buf) (flags o o' : Nat) (e : Err) (items : List PTokParam)
    (H : HdrSeq b (flags ||| POptParamAmpSepF ||| POptTokURIHdrF) o items o' e) (l : URIHdrsLst) (hl : l.Fresh) :
    ∃ r, parseAllURIHdrs b o l flags = (o', items.length, e, r) ∧
      r.n = l.n + items.length ∧ r.hdrs.size = l.hdrs.size ∧
      (∀ i x, items[i]? = some x → l.n + i < l.hdrs.size → r.hdrs[l.n + i]? = some x) ∧
      (∀ j, j < l.n → r.hdrs[j]? = l.hdrs[j]?) := by
  refine ⟨items.foldl URIHdrsLst.push l, ?_, foldl_hpush_n items l, foldl_hpush_size items l,
    fun i x hi hc => foldl_hpush_get items l i x hi hc, fun j hj => foldl_hpush_get_lt items l j hj⟩
  unfold parseAllURIHdrs
  rw [uriHdrsLoop_seq H l 0 hl, Nat.zero_add]

/-- **a parameter list of the grammar** (`GList`: k ≥ 1 parameters, each without value / with a token, quoted
    or empty value, white space and empty items anywhere, the last one ended by the terminator or the end of the
    header / input): ParseAllURIParams returns the offset and verdict of the list end, counts k values, stores
    parameter `i` with the type of its name in slot `n + i`, and accumulates the type flags -/
theorem uri_param_list (b : Buf) (flags o o' : Nat) (e : Err) (tps : List PTokParam) (hfit : b.size ≤ 65535)
    (H : GList b (flags ||| POptParamSemiSepF) o tps o' e) (l : URIParamsLst) (hl : l.Fresh) :
    ∃ r, parseAllURIParams b o l flags = (o', tps.length, e, r) ∧
      r.n = l.n + tps.length ∧
      r.types = tps.foldl (fun a tp => a ||| uriParamResolve (nameOf b tp)) l.types ∧
      r.params.size = l.params.size ∧ r.pnc = l.pnc ∧
      (∀ i tp, tps[i]? = some tp → l.n + i < l.params.size →
        r.params[l.n + i]? = some { param := tp, t := uriParamResolve (nameOf b tp) }) ∧
      (∀ j, j < l.n → r.params[j]? = l.params[j]?) := by
  obtain ⟨r, h1, h2, h3, h4, h5, h6, h7⟩ := all_uri_params b flags o o' e _ (H.paramSeq hfit) l hl
  refine ⟨r, ?_, ?_, ?_, h4, h5, ?_, h7⟩
  · rw [h1, List.length_map]
  · rw [h2, List.length_map]
  · rw [h3, List.foldl_map]; rfl
  · intro i tp hi hc
    exact h6 i _ (by rw [List.getElem?_map, hi]; rfl) hc

/-- the same for ParseAllURIHdrs (separator '&') -/
theorem uri_hdr_list (b : Buf) (flags o o' : Nat) (e : Err) (tps : List PTokParam) (hfit : b.size ≤ 65535)
    (H : GList b (flags ||| POptParamAmpSepF ||| POptTokURIHdrF) o tps o' e) (l : URIHdrsLst) (hl : l.Fresh) :
    ∃ r, parseAllURIHdrs b o l flags = (o', tps.length, e, r) ∧
      r.n = l.n + tps.length ∧ r.hdrs.size = l.hdrs.size ∧
      (∀ i tp, tps[i]? = some tp → l.n + i < l.hdrs.size → r.hdrs[l.n + i]? = some tp) ∧
      (∀ j, j < l.n → r.hdrs[j]? = l.hdrs[j]?) :=
  all_uri_hdrs b flags o o' e tps (H.hdrSeq hfit) l hl

/-! ### tests on concrete inputs / the hypotheses are satisfiable -/

/-- a run of parameter bytes in a concrete buffer, by evaluation -/
theorem prun_of_check {b : Buf} {flags i j : Nat}
    (h : runCheck (fun c => tokAllowedChar c flags && c != tpSep flags && c != tpTerm flags) b i j = true) :
    PRun b flags i j := by
  intro k h1 h2
  obtain ⟨c, hc, hp⟩ := run_of_check h k h1 h2
  simp only [Bool.and_eq_true, bne_iff_ne] at hp
  exact ⟨c, hc, hp.1.1, hp.1.2, hp.2⟩

/-- test (evaluation of the model): `ab=cd;e`, no options -/
example : parseTokenParam "ab=cd;e".toUTF8.data 0 {} 0 =
    (6, .moreValues, { name := ⟨0, 2⟩, val := ⟨3, 2⟩, all := ⟨0, 5⟩, state := .initNxtVal }) := by
  decide +kernel

/-- non-vacuity of `one_param`: the same input meets its hypotheses (and the theorem gives the same result) -/
example : parseTokenParam "ab=cd;e".toUTF8.data 0 {} 0 =
    (6, .moreValues, { name := ⟨0, 2⟩, val := ⟨3, 2⟩, all := ⟨0, 5⟩, state := .initNxtVal }) := by
  refine one_param _ 0 0 2 5 101 (by decide) ?_ (by decide) (by decide) ?_ (by decide) (by decide) (by decide)
    (by decide) (by decide) (by decide)
  · exact prun_of_check (by decide)
  · exact prun_of_check (by decide)

/-- test: URI-parameter mode with the end-of-input option (flags 88: separator ';', terminator '?'), two empty
    items, white space, a fold before `=`, white space around the value, the terminator -/
example : parseTokenParam ";; Tag \r\n = x1 ?z".toUTF8.data 0 {} 88 =
    (15, .ok, { name := ⟨3, 3⟩, val := ⟨12, 2⟩, all := ⟨3, 11⟩, state := .fin }) := by
  decide +kernel

/-- non-vacuity of `param_token_value` (with `Pad`, `Lws` with a fold, `Ending.term`): the same input -/
example : parseTokenParam ";; Tag \r\n = x1 ?z".toUTF8.data 0 {} 88 =
    (15, .ok, { name := ⟨3, 3⟩, val := ⟨12, 2⟩, all := ⟨3, 11⟩, state := .fin }) := by
  have hsep : tpSep 88 = 59 := by decide
  have hterm : tpTerm 88 = 63 := by decide
  refine param_token_value _ 88 0 2 3 6 10 12 14 15 .ok .fin (by decide) {} rfl ?_ ?_ ?_ (by decide) ?_ (by decide)
    ?_ ?_ (by decide) ?_
  · rw [hsep]
    exact Pad.item 0 0 2 (Lws.nil 0) (by decide) (Pad.item 1 1 2 (Lws.nil 1) (by decide) (Pad.nil 2))
  · exact Lws.ws 2 3 32 (by decide) (by decide) (Lws.nil 3)
  · exact prun_of_check (by decide)
  · exact Lws.ws 6 10 32 (by decide) (by decide)
      (Lws.fold 7 9 10 32 (Eol.crlf 7 (by decide) (by decide)) (by decide) (by decide) (Lws.nil 10))
  · exact Lws.ws 11 12 32 (by decide) (by decide) (Lws.nil 12)
  · exact prun_of_check (by decide)
  · refine Ending.term 14 15 (Lws.ws 14 15 32 (by decide) (by decide) (Lws.nil 15)) ?_ (by rw [hterm]; decide)
    rw [hterm]; decide

/-- test: a quoted value with an escaped quote inside -/
example : parseTokenParam "a=\"x\\\"y\";b".toUTF8.data 0 {} 0 =
    (9, .moreValues, { name := ⟨0, 1⟩, val := ⟨2, 6⟩, all := ⟨0, 8⟩, state := .initNxtVal }) := by
  decide +kernel

/-- non-vacuity of `param_quoted_value` and `quoted_string` (plain bytes, an escape pair, the closing quote) -/
example : parseTokenParam "a=\"x\\\"y\";b".toUTF8.data 0 {} 0 =
    (9, .moreValues, { name := ⟨0, 1⟩, val := ⟨2, 6⟩, all := ⟨0, 8⟩, state := .initNxtVal }) := by
  have hq : skipQuoted "a=\"x\\\"y\";b".toUTF8.data 3 = (8, .ok) := by
    apply quoted_string
    refine QBody.plain 3 8 120 (by decide) (by unfold QPlain; decide) ?_
    refine QBody.esc 4 8 34 (by decide) (by decide) (by decide) ?_
    refine QBody.plain 6 8 121 (by decide) (by unfold QPlain; decide) ?_
    exact QBody.close 7 (by decide)
  refine param_quoted_value _ 0 0 0 0 1 1 2 8 9 .moreValues .initNxtVal (by decide) {} rfl (Pad.nil 0) (Lws.nil 0)
    ?_ (by decide) (Lws.nil 1) (by decide) (Lws.nil 2) (by decide) hq ?_
  · exact prun_of_check (by decide)
  · exact Ending.sep 8 8 9 .moreValues .initNxtVal (Lws.nil 8) (by decide)
      (AfterSep.more 9 9 9 98 (Pad.nil 9) (Lws.nil 9) (by decide) (by decide) (by decide) (by decide))

/-- test / non-vacuity of `reject_in_name`: `{` inside a name -/
example : parseTokenParam "ab{c".toUTF8.data 0 {} 0 =
    (2, .badChar, { name := ⟨0, 0⟩, all := ⟨0, 0⟩, state := .err }) := by
  refine reject_in_name _ 0 0 0 0 2 123 (by decide) {} rfl (Pad.nil 0) (Lws.nil 0) ?_ (by decide) (by decide)
    ⟨by decide, by decide, by decide, by decide⟩ (by decide)
  exact prun_of_check (by decide)

/-- test: end of input with the end-of-input option after `name=` (no value recorded), trailing CR LF -/
example : parseTokenParam "a=\r\n".toUTF8.data 0 {} 8 = (4, .eoh, { name := ⟨0, 1⟩, all := ⟨0, 2⟩, state := .fin }) := by
  decide +kernel

/-- non-vacuity of `param_empty_value_end` with `EndTail.crlf` -/
example : parseTokenParam "a=\r\n".toUTF8.data 0 {} 8 = (4, .eoh, { name := ⟨0, 1⟩, all := ⟨0, 2⟩, state := .fin }) := by
  refine param_empty_value_end _ 8 0 0 0 1 1 2 (by decide) {} rfl (Pad.nil 0) (Lws.nil 0) ?_ (by decide) (Lws.nil 1)
    (by decide) (by decide) (Lws.nil 2) (EndTail.crlf 2 (by decide) (by decide) (by decide))
  exact prun_of_check (by decide)

/-- a reset list is `Fresh` -/
theorem fresh_replicate (k : Nat) : ({ params := Array.replicate k {} } : URIParamsLst).Fresh :=
  (URIParamsLst.fresh_iff _).2 ⟨SlotArr.clean_replicate ({} : URIParam) k, SlotArr.cur_replicate ({} : URIParam) k⟩

example : ({ params := Array.replicate 100 {} } : URIParamsLst).Fresh := fresh_replicate 100

/-- test / non-vacuity of `all_uri_params` (`ParamSeq` of three parameters, names in mixed case): three values,
    type flags transport | lr | ttl, each parameter in its slot -/
example : ∃ r, parseAllURIParams "transport=udp;LR;Ttl=5".toUTF8.data 0 { params := Array.replicate 4 {} } 72 =
      (22, 3, .eoh, r) ∧ r.n = 3 ∧ r.types = URIParamTransportF ||| URIParamLRF ||| URIParamTTLF ∧
      r.params[1]? = some { param := { name := ⟨14, 2⟩, all := ⟨14, 2⟩, state := .initNxtVal }, t := URIParamLRF } := by
  have H : ParamSeq "transport=udp;LR;Ttl=5".toUTF8.data (72 ||| POptParamSemiSepF) 0
      [{ param := { name := ⟨0, 9⟩, val := ⟨10, 3⟩, all := ⟨0, 13⟩, state := .initNxtVal },
         t := uriParamResolve "transport".toUTF8.data },
       { param := { name := ⟨14, 2⟩, all := ⟨14, 2⟩, state := .initNxtVal }, t := uriParamResolve "LR".toUTF8.data },
       { param := { name := ⟨17, 3⟩, val := ⟨21, 1⟩, all := ⟨17, 5⟩, state := .fin },
         t := uriParamResolve "Ttl".toUTF8.data }] 22 .eoh := by
    refine ParamSeq.cons 0 14 _ _ _ 22 .eoh (by decide +kernel) (by decide +kernel) (by decide) (by decide) ?_
    refine ParamSeq.cons 14 17 _ _ _ 22 .eoh (by decide +kernel) (by decide +kernel) (by decide) (by decide) ?_
    exact ParamSeq.last 17 22 .eoh _ _ (by decide +kernel) (Or.inr rfl) (by decide +kernel)
  obtain ⟨r, h1, h2, h3, _, _, h6, _⟩ := all_uri_params _ 72 0 22 .eoh _ H { params := Array.replicate 4 {} }
    (fresh_replicate 4)
  refine ⟨r, h1, h2, ?_, ?_⟩
  · rw [h3]; decide +kernel
  · have := h6 1 _ rfl (by decide)
    rw [this]
    have : uriParamResolve "LR".toUTF8.data = URIParamLRF := by decide +kernel
    rw [this]

/-- non-vacuity of `uri_param_list`: `a=b;lr` at the end of the input is a `GList` of two parameters
    (flags 72 = URI-parameter mode + end-of-input option; the wrapper adds the ';' option: 88) -/
example : GList "a=b;lr".toUTF8.data (72 ||| POptParamSemiSepF) 0
    [{ name := ⟨0, 1⟩, val := ⟨2, 1⟩, all := ⟨0, 3⟩, state := .initNxtVal },
     { name := ⟨4, 2⟩, all := ⟨4, 2⟩, state := .fin }] 6 .eoh := by
  have hsep : tpSep (72 ||| POptParamSemiSepF) = 59 := by decide
  refine GList.cons 0 4 _ _ 6 .eoh ?_ (GList.last 4 6 .eoh _ ?_ (Or.inr rfl))
  · refine GParam.token 0 0 0 1 1 2 3 4 .moreValues .initNxtVal (Pad.nil 0) (Lws.nil 0) ?_ (by decide) (Lws.nil 1)
      (by decide) (Lws.nil 2) ?_ (by decide) ?_
    · exact prun_of_check (by decide)
    · exact prun_of_check (by decide)
    · exact Ending.sep 3 3 4 .moreValues .initNxtVal (Lws.nil 3) (by rw [hsep]; decide)
        (AfterSep.more 4 4 4 108 (Pad.nil 4) (Lws.nil 4) (by decide) (by decide) (by decide) (by decide))
  · refine GParam.noValue 4 4 4 6 6 .eoh .fin (Pad.nil 4) (Lws.nil 4) ?_ (by decide) ?_
    · exact prun_of_check (by decide)
    · exact Ending.inputEnd 6 6 (by decide) (Lws.nil 6) (EndTail.none 6 (by decide))

/-- tests: the terminator after a separator ends the list (with POptTokQmTermF it is not the first byte of a name; in
    URI-parameter / comma mode it is not rejected) -/
example : parseTokenParam "a;?b?".toUTF8.data 0 {} 2 =
    (2, .ok, { name := ⟨0, 1⟩, all := ⟨0, 1⟩, state := .fin }) := by decide +kernel
example : parseTokenParam "a; ;\r\n ,b".toUTF8.data 0 {} 1 =
    (7, .ok, { name := ⟨0, 1⟩, all := ⟨0, 1⟩, state := .fin }) := by decide +kernel
example : (parseAllURIParams "a;?x".toUTF8.data 0 { params := Array.replicate 4 {} } 72).1 = 2 ∧
    (parseAllURIParams "a;?x".toUTF8.data 0 { params := Array.replicate 4 {} } 72).2.1 = 1 ∧
    (parseAllURIParams "a;?x".toUTF8.data 0 { params := Array.replicate 4 {} } 72).2.2.1 = .ok := by decide +kernel
/-- but an empty list directly followed by the terminator is rejected at its first byte -/
example : (parseAllURIParams "?x".toUTF8.data 0 { params := Array.replicate 4 {} } 72).2.2.1 = .badChar ∧
    (parseAllURIParams "?x".toUTF8.data 0 { params := Array.replicate 4 {} } 72).2.1 = 0 := by decide +kernel

/-- non-vacuity of `param_no_value_sep_terminator` and of `uri_param_list` with such an end: `a;?x` in
    URI-parameter mode is a `GList` of one parameter ended `OK` at the terminator (offset 2) — it is counted -/
example : ∃ r, parseAllURIParams "a;?x".toUTF8.data 0 { params := Array.replicate 4 {} } 72 = (2, 1, .ok, r) ∧
    r.n = 1 := by
  have hsep : tpSep (72 ||| POptParamSemiSepF) = 59 := by decide
  have hterm : tpTerm (72 ||| POptParamSemiSepF) = 63 := by decide
  have H : GList "a;?x".toUTF8.data (72 ||| POptParamSemiSepF) 0
      [{ name := ⟨0, 1⟩, all := ⟨0, 1⟩, state := .fin }] 2 .ok := by
    refine GList.last 0 2 .ok _ ?_ (Or.inl rfl)
    refine GParam.noValue 0 0 0 1 2 .ok .fin (Pad.nil 0) (Lws.nil 0) ?_ (by decide) ?_
    · exact prun_of_check (by decide)
    · exact Ending.sep 1 1 2 .ok .fin (Lws.nil 1) (by rw [hsep]; decide)
        (AfterSep.term 2 2 2 (Pad.nil 2) (Lws.nil 2) (by rw [hterm]; decide) (by rw [hterm]; decide))
  obtain ⟨r, h1, h2, _⟩ := uri_param_list _ 72 0 2 .ok _ (by decide) H { params := Array.replicate 4 {} }
    (fresh_replicate 4)
  exact ⟨r, h1, h2⟩

/-! ### the grammar-level decomposition under every chunk schedule (proved in `Sipsp.Proofs.ShiftParams`) -/

/-- **C17 for every chunk schedule, ParseTokenParam**: whatever result ONE call on the complete buffer
    `B` (the last of the growing prefixes) gives — in particular the decompositions of C17 (`param_token_value`,
    `param_no_value`, `param_quoted_value`, …, the rejections) — is what the chain of resumed calls returns, however
    the input was cut into pieces -/
theorem tokparam_any_schedule : type_of% @Sipsp.tokparam_any_schedule := @Sipsp.tokparam_any_schedule

/-- … for a parameter of the grammar (`GParam`: no value / token / quoted / empty value, any white space and empty
    items, any ending), from a new object -/
theorem gparam_any_schedule : type_of% @Sipsp.gparam_any_schedule := @Sipsp.gparam_any_schedule

/-- **C17 for every chunk schedule, ParseAllURIParams**: the complete buffer `B` (last of the growing prefixes)
    holds a parameter list of the grammar; the chain of resumed calls on ANY schedule of prefixes returns the offset
    and verdict of the list end, the values counted over all calls add up to the number of parameters, parameter `i`
    is stored with the type of its name in slot `n + i`, the type flags are accumulated -/
theorem uri_param_list_any_schedule : type_of% @Sipsp.uri_param_list_any_schedule := @Sipsp.uri_param_list_any_schedule

/-- **C17 for every chunk schedule, ParseAllURIHdrs** (separator '&') -/
theorem uri_hdr_list_any_schedule : type_of% @Sipsp.uri_hdr_list_any_schedule := @Sipsp.uri_hdr_list_any_schedule

/-! ### soundness for ALL inputs: accepted <=> a parameter / list of the (widened) grammar (proved in `Sipsp.Proofs.ParamSound`) -/

/-- **ParseTokenParam accepts exactly the parameters of `PSParam`, and reports them exactly as described**: for every
    buffer within the 65,535-byte limit, every offset and every option word (end-of-input option included), on a
    new object -/
theorem tokparam_ok_iff : type_of% @Sipsp.tokparam_ok_iff := @Sipsp.tokparam_ok_iff

/-- **SOUNDNESS of ParseTokenParam** (every buffer within the 65,535-byte limit, every offset, every option word —
    the end-of-input option included —, a new object): a result with verdict OK / MoreValues / EOH is one of the
    parameters described by `PSParam` -/
theorem tokparam_sound : type_of% @Sipsp.parseTokenParam_sound := @Sipsp.parseTokenParam_sound

/-- **COMPLETENESS for the same description**: ParseTokenParam reports every `PSParam` exactly as described -/
theorem tokparam_complete : type_of% @Sipsp.parseTokenParam_complete := @Sipsp.parseTokenParam_complete

/-- **charset**: an accepted parameter never contains a byte outside the documented set (`docAllowed`: letters,
    digits, `-_.!~*'()`, `%`, `[]/:+$`, plus `&` in URI-parameter mode and `?` otherwise) in its name or — outside
    quotes — in its value -/
theorem tokparam_charset : type_of% @Sipsp.tokparam_charset := @Sipsp.tokparam_charset

/-- **the fields of an accepted parameter**: nothing was parsed (`EOH`, the object is untouched: the empty list
    item at the end of the header / input), or the name is a non-empty run of allowed bytes inside the buffer at or
    after the start offset, `all` starts with the name and covers it, and the value is empty, an unquoted run of
    allowed bytes (none of them separator or terminator), or a complete quoted string -/
theorem tokparam_fields : type_of% @Sipsp.tokparam_fields := @Sipsp.tokparam_fields

/-- every parameter of the grammar of `ParamSpec` is one of `PSParam` -/
theorem grammar_is_accepted : type_of% @Sipsp.GParam.psParam := @Sipsp.GParam.psParam

/-- **an accepted parameter is a `GParam` or one of four documented shapes outside that grammar**:
    (a) nothing parsed: the empty item at the end of the header / input (`EOH`, untouched object);
    (b) a name whose FIRST byte is the terminator — possible only when the terminator is an allowed byte, i.e. `?`
        with `POptTokQmTermF` outside URI-parameter mode (at the start of a call the terminator is not special);
    (c) the white-space terminator `POptTokSpTermF` ended the parameter (`OK`);
    (d) `name =` followed by the terminator (empty value recorded there, `OK`) or by the end of the header / input
        (no value recorded, `EOH`). -/
theorem accepted_is_grammar_or_extra : type_of% @Sipsp.PSParam.ps_gparam_or_extra := @Sipsp.PSParam.ps_gparam_or_extra

/-- **ParseAllURIParams accepts exactly the lists of `PSList`** (on a list object in its reset state; separator ';'
    added by the wrapper): it returns `OK` / `EOH` iff the text is such a list, and then the offset and verdict are
    those of the list end, every item is counted and pushed, in order, with the type of its name -/
theorem uriparams_ok_iff : type_of% @Sipsp.parseAllURIParams_ok_iff := @Sipsp.parseAllURIParams_ok_iff

/-- **ParseAllURIHdrs accepts exactly the lists of `PSList`** (separator '&') -/
theorem urihdrs_ok_iff : type_of% @Sipsp.parseAllURIHdrs_ok_iff := @Sipsp.parseAllURIHdrs_ok_iff

/-- **the phantom parameter of the empty list**: in a list accepted by the wrappers every item has a non-empty
    name — except that an EMPTY list (only empty items / white space up to the end of the header or input) is
    reported as ONE item with an untouched object (empty name), verdict `EOH` -/
theorem list_items_named_or_empty_list : type_of% @Sipsp.PSList.ps_named_or_empty := @Sipsp.PSList.ps_named_or_empty

theorem more_values_advances : type_of% @Sipsp.PSParam.ps_more_range := @Sipsp.PSParam.ps_more_range

/-! ### which verdict a rejected / suspended text gets: reject sets, error position = the first byte that cannot continue, trichotomy, list wrappers, stability (proved in `Sipsp.Proofs.ParamVerdicts`) -/

/-- **every outcome of `SkipQuoted`**: `OK` after the closing quote of a well-formed body; `BadChar` AT a byte that may
    not stand unescaped (CR, LF, DEL, control bytes) or at a CR / LF that follows a backslash; `MoreBytes` at the end
    of the buffer or at a backslash that is the last byte — always after plain bytes and complete escape pairs -/
theorem pv_skipQuoted : type_of% @Sipsp.pv_skipQuoted := @Sipsp.pv_skipQuoted

/-- **the complete list of verdicts of ParseTokenParam on a new object, every buffer, offset and option word**:
    `OK`, `EOH`, `MoreValues`, `MoreBytes`, `BadChar` and nothing else; `MoreBytes` comes with `PVMore` and `BadChar`
    with `PVBad` at the returned offset -/
theorem tokparam_verdicts_desc : type_of% @Sipsp.tokparam_verdicts_desc := @Sipsp.tokparam_verdicts_desc

/-- the verdict list alone -/
theorem tokparam_verdicts : type_of% @Sipsp.tokparam_verdicts := @Sipsp.tokparam_verdicts

/-- **a rejection points at a rejectable byte**: `BadChar` at `p` ⇒ the text `[o, p)` is the beginning of a
    parameter and the byte at `p` is one of those rejected in the state reached (`PVBad`) -/
theorem tokparam_badChar_sound : type_of% @Sipsp.tokparam_badChar_sound := @Sipsp.tokparam_badChar_sound

/-- `MoreBytes` at `r` ⇒ the text `[o, r)` is the beginning of a parameter and the rest of the buffer is unfinished
    white space or an open quoted string (`PVMore`) -/
theorem tokparam_moreBytes_sound : type_of% @Sipsp.tokparam_moreBytes_sound := @Sipsp.tokparam_moreBytes_sound

/-- **completeness of the description**: every text of the shape `PVBad … p` is rejected with `BadChar` at `p` -/
theorem tokparam_badChar_complete : type_of% @Sipsp.tokparam_badChar_complete := @Sipsp.tokparam_badChar_complete

/-- **`BadChar` at `p`, exactly**: for every buffer, offset and option word, ParseTokenParam on a new object returns
    `BadChar` with offset `p` IFF the text `[o, p)` is the beginning of a parameter (`PVAt` / an open quoted string) and
    the byte at `p` belongs to the explicit reject set of the state reached (`PVRej`, `PVQBad`, CR / LF after a
    backslash): the error offset always points at the first byte that cannot continue -/
theorem tokparam_badChar_iff : type_of% @Sipsp.tokparam_badChar_iff := @Sipsp.tokparam_badChar_iff

/-- **trichotomy**: for every buffer within the 65,535-byte limit, every offset and every option word, a call on a new
    object ends in exactly one of three ways (they are told apart by the verdict):
    * accepted — `OK` / `MoreValues` / `EOH`, and then the text is a parameter of the grammar `PSParam` of
      `ParamSpec`, which fixes offset, verdict and the whole object;
    * suspended — `MoreBytes` at `r`, and then `[o, r)` is the beginning of a parameter and the rest of the buffer is
      white space cut by the end of the buffer or an open quoted string (`PVMore`);
    * rejected — `BadChar` at `p`, and then `[o, p)` is the beginning of a parameter and the byte at `p` belongs to the
      reject set of the state reached (`PVBad`; by `tokparam_badChar_iff` this is an equivalence). -/
theorem tokparam_trichotomy : type_of% @Sipsp.tokparam_trichotomy := @Sipsp.tokparam_trichotomy

/-- without the end-of-input option, `MoreBytes` means that **no byte so far is rejectable and nothing is complete**:
    every shorter buffer (every prefix of `b`) also gives `MoreBytes` -/
theorem tokparam_moreBytes_prefixes : type_of% @Sipsp.tokparam_moreBytes_prefixes := @Sipsp.tokparam_moreBytes_prefixes

/-- **the loop of ParseAllURIParams stops with a verdict other than OK / MoreValues / EOH exactly when one of the
    items does**: the items before it are parameters of the grammar reported with `MoreValues`; offset and verdict are
    those of that item; the items before it — and only they — are counted and pushed with the type of their names -/
theorem uriParamsLoop_stop_iff : type_of% @Sipsp.uriParamsLoop_stop_iff := @Sipsp.uriParamsLoop_stop_iff

/-- the same for the loop of ParseAllURIHdrs -/
theorem uriHdrsLoop_stop_iff : type_of% @Sipsp.uriHdrsLoop_stop_iff := @Sipsp.uriHdrsLoop_stop_iff

/-- **ParseAllURIParams returns `BadChar` iff one of the items is rejected**: the items before it are parameters of
    the grammar (separator ';' added by the wrapper), the error offset is that of the rejected item (`PVBad`: it points
    at the first byte that cannot continue), N counts exactly the items before it, and the list object is the one an
    accepted list of those items leaves (each pushed with the type of its name; N, Types, slots as in `uri_param_list`) -/
theorem parseAllURIParams_badChar_iff : type_of% @Sipsp.parseAllURIParams_badChar_iff := @Sipsp.parseAllURIParams_badChar_iff

/-- the same for ParseAllURIHdrs (separator '&') -/
theorem parseAllURIHdrs_badChar_iff : type_of% @Sipsp.parseAllURIHdrs_badChar_iff := @Sipsp.parseAllURIHdrs_badChar_iff

/-- **the complete list of verdicts of the wrappers** on a list object in its reset state: `OK`, `EOH`, `MoreBytes`,
    `BadChar`; and the verdict and the offset are those of the first item that is not reported with `MoreValues` -/
theorem uriParamsLoop_outcome : type_of% @Sipsp.uriParamsLoop_outcome := @Sipsp.uriParamsLoop_outcome

/-- the same for the loop of ParseAllURIHdrs -/
theorem uriHdrsLoop_outcome : type_of% @Sipsp.uriHdrsLoop_outcome := @Sipsp.uriHdrsLoop_outcome

/-- ParseAllURIParams on a list object in its reset state returns `OK`, `EOH`, `MoreBytes` or `BadChar`, nothing else -/
theorem parseAllURIParams_verdicts : type_of% @Sipsp.parseAllURIParams_verdicts := @Sipsp.parseAllURIParams_verdicts

/-- ParseAllURIHdrs on a list object in its reset state returns `OK`, `EOH`, `MoreBytes` or `BadChar`, nothing else -/
theorem parseAllURIHdrs_verdicts : type_of% @Sipsp.parseAllURIHdrs_verdicts := @Sipsp.parseAllURIHdrs_verdicts

/-- a rejected text stays rejected, at the same byte, whatever is appended (no end-of-input option: that option is a
    statement about where the input ends) — composition with C03 (`stable_tokparam`) -/
theorem tokparam_badChar_append : type_of% @Sipsp.tokparam_badChar_append := @Sipsp.tokparam_badChar_append

/-- **a rejection under every chunk schedule** — composition with C02 (`schedule_tokparam`): the complete buffer `B`
    (the last of the growing prefixes) holds a text rejected at `p`; the chain of resumed calls, however the input was
    cut, returns `BadChar` at `p` with the very object of the one-shot call -/
theorem tokparam_badChar_any_schedule : type_of% @Sipsp.tokparam_badChar_any_schedule := @Sipsp.tokparam_badChar_any_schedule

/-- the same for every verdict of ParseAllURIParams: what ONE call on the complete buffer returns — offset, verdict,
    number of values, list object — is what the chain of resumed calls returns (the numbers of values of the calls
    added up), under every chunk schedule -/
theorem uriparams_any_schedule : type_of% @Sipsp.uriparams_any_schedule := @Sipsp.uriparams_any_schedule

/-- the same for every verdict of ParseAllURIHdrs -/
theorem urihdrs_any_schedule : type_of% @Sipsp.urihdrs_any_schedule := @Sipsp.urihdrs_any_schedule

/-- **a rejected list under every chunk schedule and with appended bytes**: the complete buffer holds `tps` items of
    the grammar followed by an item rejected at `o'`; however the input is cut, the chain of resumed ParseAllURIParams
    calls returns `BadChar` at `o'`, the values counted over all calls add up to the number of items before the
    rejected one, and the list object holds exactly those items -/
theorem uriparams_badChar_any_schedule : type_of% @Sipsp.uriparams_badChar_any_schedule := @Sipsp.uriparams_badChar_any_schedule

/-- the same for ParseAllURIHdrs -/
theorem urihdrs_badChar_any_schedule : type_of% @Sipsp.urihdrs_badChar_any_schedule := @Sipsp.urihdrs_badChar_any_schedule

/-- a rejected list stays rejected whatever is appended (C03: `stable_uriparams`) -/
theorem uriparams_badChar_append : type_of% @Sipsp.uriparams_badChar_append := @Sipsp.uriparams_badChar_append

/-- the same for ParseAllURIHdrs (C03: `stable_urihdrs`) -/
theorem urihdrs_badChar_append : type_of% @Sipsp.urihdrs_badChar_append := @Sipsp.urihdrs_badChar_append

/-- **a complete item followed by one of the endings of the grammar is a parameter of the grammar** (`PSParam`; the
    object reported is the one `PSParam` fixes) -/
theorem PVDone.psParam : type_of% @Sipsp.PVDone.psParam := @Sipsp.PVDone.psParam

/-- **the text before a rejected byte is a proper prefix of a parameter of the grammar**: if `BadChar` is reported at
    `p`, there is a buffer `B` with the same bytes below `p` that holds a parameter of the grammar `PSParam` at `o`
    (accepted with `EOH`). The witness, `b[0:p]` followed by at most five bytes: `badChar_prefix_extends_explicit` -/
theorem tokparam_badChar_prefix_extends : type_of% @Sipsp.tokparam_badChar_prefix_extends := @Sipsp.tokparam_badChar_prefix_extends

/-- **the rejected byte cannot continue ANY parameter**: if `BadChar` is reported at `p` on `b`, then EVERY buffer
    with the same bytes up to and including `p` — whatever follows — is rejected with `BadChar` at `p` (so none of them is
    accepted or suspended). With `tokparam_badChar_prefix_extends` (the bytes before `p` CAN be continued to a parameter):
    the error offset is that of the first byte that cannot continue a parameter of the grammar. -/
theorem tokparam_badChar_local : type_of% @Sipsp.tokparam_badChar_local := @Sipsp.tokparam_badChar_local

/-- **a suspended text is a proper prefix of a parameter of the grammar** (no end-of-input option, start offset inside
    the buffer): if the call returns `MoreBytes`, there are bytes `s` such that `b ++ s` holds a parameter of the grammar
    `PSParam` at `o`, accepted with `EOH`. That at most six bytes are needed: `moreBytes_extends_explicit` -/
theorem tokparam_moreBytes_extends : type_of% @Sipsp.tokparam_moreBytes_extends := @Sipsp.tokparam_moreBytes_extends

/-! ### MoreBytes characterised exactly (with its offset); completion witnesses explicit (proved in `Sipsp.Proofs.AuditFixC`) -/

/-- **[C17] `MoreBytes` at `r`, exactly**: for every buffer, start offset and option word, ParseTokenParam on a new
    object returns `MoreBytes` with offset `r` IFF the description `PVMoreAt b flags o r` holds -/
theorem moreBytes_iff : type_of% @Sipsp.afc_moreBytes_iff := @Sipsp.afc_moreBytes_iff

/-- **[C17] `MoreBytes` at `r` ⇒ `PVMoreAt`** (new object, every buffer, offset and option word): the text
    `[o, r)` is the beginning of a parameter; either the end-of-input option is off, `r` is the start of white space cut
    short by the end of the buffer (`r = o` or the byte before `r` is not SP / HT / CR / LF), or `r` is the end of the
    buffer / a trailing back-slash inside an open quoted string -/
theorem moreBytes_at : type_of% @Sipsp.afc_moreBytes_at := @Sipsp.afc_moreBytes_at

/-- **[C17] completeness of `PVMoreAt`**: every text of the shape `PVMoreAt … r` is suspended with
    `MoreBytes` at `r` -/
theorem moreBytes_complete : type_of% @Sipsp.afc_moreBytes_complete := @Sipsp.afc_moreBytes_complete

/-- `PVMoreAt` implies `PVMore` (both in `Sipsp.Proofs.ParamAt`) -/
theorem moreBytes_at_implies_more : type_of% @Sipsp.PVMoreAt.pvMore := @Sipsp.PVMoreAt.pvMore

/-- **the text before a rejected byte is a proper prefix of a parameter of the grammar, witness explicit**: if `BadChar`
    is reported at `p`, then `p` is a position of the buffer and there are at most FIVE bytes `s` such that the buffer
    `b[0:p] ++ s` — which has the bytes of `b` below `p` — holds a parameter of the grammar `PSParam` at `o`, accepted
    with `EOH` -/
theorem badChar_prefix_extends_explicit : type_of% @Sipsp.afc_badChar_prefix_extends := @Sipsp.afc_badChar_prefix_extends

/-- … from the call: `BadChar` at `p` on a new object -/
theorem badChar_call_extends_explicit : type_of% @Sipsp.afc_badChar_call_extends := @Sipsp.afc_badChar_call_extends

/-- **a suspended text is a proper prefix of a parameter of the grammar, with the size of the witness**: if the call
    (no end-of-input option, start offset inside the buffer) returns `MoreBytes`, there are at most SIX bytes `s` such
    that `b ++ s` holds a parameter of the grammar `PSParam` at `o`, accepted with `EOH` -/
theorem moreBytes_extends_explicit : type_of% @Sipsp.afc_moreBytes_extends := @Sipsp.afc_moreBytes_extends

end Sipsp.C17
