/-
  Property C18 — relocating a parsed URI and its derived views preserve every component.

  `WF u L` describes what ParseURI produces (C14) for a URI of `L` bytes: every present component (`Offs ≠ 0`) lies
  inside `[scheme start, scheme start + L)` — no order among the components is asked for —, the length AdjustOffs
  computes is at most `L`, and everything fits the 16-bit addressing limit.  `comps`, `ulenOf`, `WF`, `moved`, `sumLen`
  of this file are, word for word, `ulComps`, `ulLen`, `ULWF`, `ulMoved`, `ulSum` of Proofs/UriLink.lean, in which the
  sequence theorems below are stated (`parsed_wf` shows the field-for-field conversion).
  Proved for ALL such URIs, ALL target offsets and ALL span lengths:
  * `adjust_refused`: a span shorter than the URI is refused, the structure is unchanged, no panic;
  * `adjust_moves`: a span that holds the URI is accepted (no panic) and every present component keeps its
    length and its distance to the URI start (so it denotes the same bytes when the target holds the text);
  * `short_long_same_start`, `long_truncate_eq_short`, `truncate_exact`.
  The link to the parser (Proofs/UriLink.lean, on top of the C14 layout theorem): EVERY URI accepted by ParseURI
  (sip:, sips:, tel:; input ≤ 65,535 bytes) satisfies `WF u len(b)` and the length AdjustOffs computes is exactly
  len(b) (`parsed_wf`, `parsed_len`), hence — without any hypothesis on the URI —
  * `relocate_parsed`: parse, then AdjustOffs onto ANY span inside the 16-bit addressing range (Offs + Len < 65536)
    with Len ≥ len(b): accepted, no panic, type and port number
    kept, and in any buffer holding the same text at the new offset every one of the seven relocated fields reads the
    same bytes as before;
  * `refuse_parsed`: ANY span with Len < len(b) is refused, structure unchanged, no panic;
  * `views_sip`, `views_tel`, `short_prefix_long`: Long / Short / Flat / Truncate of a parsed URI: no panic, both start
    at the scheme, the short view is a byte prefix of the long view, Long after Truncate = Short, Long = the whole
    input when no trailing component is present-but-empty.
  Finding F21 (`tel:a:b@c`): the tel: case of the link rests on the guard of library commit 8e3585d; without it the
  statement is false for that input.
  `refuse_wrapping_span`: a span whose end offset does not fit in 16 bits (Offs + Len ≥ 65536) is refused, structure
  unchanged, no panic.  Finding F23: the property quantifies over target offsets 0..65,535-len AND span lengths up to
  len+k, so the end of the span can pass 65,535; without the guard of library commit 1a8b02b `AdjustOffs {65510,26}` on
  a 25-byte URI panics AFTER rewriting every offset, and `{65530,25}` returns true with Pass.Offs wrapped to 0 (the
  "absent" marker).
  SEQUENCES of operations (`Sipsp.Proofs.UriLink`, `Sipsp.Proofs.UriSeq`): `seq_parsed_wf` — every URI ParseURI accepts satisfies a structural
  invariant `USWf` (scheme non-empty, present components in buffer order behind it, the last one ending below 65,536, tel:
  shape); `wf_truncate`, `wf_adjust`: Truncate and AdjustOffs (accepted or refused, any 16-bit span) preserve it and never
  panic; `seq_adjust_eq`: AdjustOffs on such a URI accepts a span EXACTLY when its end does not wrap and its length is at
  least the extent of the last PRESENT component, the result is then the relocated URI, otherwise nothing changes;
  `uri_ops_never_panic`, `seq_ops_never_panic`, `seq_ops_every_step`: ANY finite sequence of Truncate / AdjustOffs / Long /
  Short / Flat calls on a parsed URI never panics and every theorem above applies at every step; `seq_adjust_adjust`,
  `seq_adjust_back`, `seq_parsed_relocate_twice`: relocations compose and relocating back restores the URI exactly;
  `seq_truncate_adjust`, `seq_truncate_len`, `seq_parsed_truncate_adjust`: after Truncate the threshold is the extent up to the
  port (not the original length); `seq_adjust_views`, `seq_long_eq`, `seq_short_eq`, `seq_short_prefix_long`,
  `seq_truncate_long`: the views commute with relocation, Long after Truncate = Short. Observed (true of the code):
  AdjustOffs measures up to the last PRESENT component, Long / Flat up to the last NON-EMPTY one — for `sip:h;` (6 bytes)
  Long() is `sip:h` and a 5-byte span is refused.
-/
import Sipsp.Model.URI
import Sipsp.Proofs.UriLink
import Sipsp.Proofs.UriSeq

namespace Sipsp.C18
open Sipsp

/-- the components after the scheme, in order -/
def comps (u : PsipURI) : List PField := [u.user, u.pass, u.host, u.port, u.params, u.headers]

/-- real URI length as computed by AdjustOffs (end of the last present component) -/
def ulenOf (u : PsipURI) : Nat := (comps u).foldl (fun a f => ulenStep a u.scheme.offs f) u.scheme.len

/-- well-formed w.r.t. a URI occupying `[start, start+L)`: present components lie inside it (no order is asked for),
    and the length AdjustOffs computes is at most `L` -/
structure WF (u : PsipURI) (L : Nat) : Prop where
  lim : u.scheme.offs + L < 65536
  sch : u.scheme.len ≤ L
  inside : ∀ f ∈ comps u, f.offs ≠ 0 → u.scheme.offs ≤ f.offs ∧ f.offs + f.len ≤ u.scheme.offs + L
  ulen : ulenOf u ≤ L

/-- one component moved by `delta = offs - start` -/
def moved (f : PField) (start offs : Nat) : PField :=
  if f.offs != 0 then { f with offs := f.offs - start + offs } else f

/-- **a span too short to hold the URI is refused without touching the structure** -/
theorem adjust_refused (u : PsipURI) (np : PField) (h : ulenOf u > np.len) :
    u.adjustOffs np = (false, u, false) :=
  ul_adjust_refused u np h

/-- the sum of the lengths of scheme and components (the hypothesis `sumLen u ≤ np.len` of `adjust_moves`) -/
def sumLen (u : PsipURI) : Nat :=
  u.scheme.len + u.user.len + u.pass.len + u.host.len + u.port.len + u.params.len + u.headers.len

/-- **a span that holds the URI: accepted, no panic, every component moved by exactly `np.offs - start`** -/
theorem adjust_moves (u : PsipURI) (np : PField) (L : Nat) (hwf : WF u L) (hfit : L ≤ np.len)
    (hsum : sumLen u ≤ np.len) (hlim : np.offs + np.len < 65536) :
    let r := u.adjustOffs np
    r.1 = true ∧ r.2.2 = false ∧
    r.2.1.scheme = { u.scheme with offs := np.offs } ∧
    r.2.1.user = moved u.user u.scheme.offs np.offs ∧ r.2.1.pass = moved u.pass u.scheme.offs np.offs ∧
    r.2.1.host = moved u.host u.scheme.offs np.offs ∧ r.2.1.port = moved u.port u.scheme.offs np.offs ∧
    r.2.1.params = moved u.params u.scheme.offs np.offs ∧ r.2.1.headers = moved u.headers u.scheme.offs np.offs ∧
    r.2.1.portNo = u.portNo ∧ r.2.1.uriType = u.uriType := by
  intro r
  have h : r = (true, ulRelocate u np.offs, false) :=
    ul_adjust_moves u np L ⟨hwf.lim, hwf.sch, hwf.inside, hwf.ulen⟩ hfit hsum hlim
  rw [h]
  exact ⟨rfl, rfl, rfl, rfl, rfl, rfl, rfl, rfl, rfl, rfl, rfl⟩

private theorem ite_offs {c : Prop} [Decidable c] {s t : PField × Bool} {o : Nat}
    (hs : s.1.offs = o) (ht : ¬ c → t.1.offs = o) : (if c then s else t).1.offs = o := by
  split
  · exact hs
  · exact ht ‹_›

/-- every branch of `Long()` but the last starts at the scheme (walked with `ite_offs`: `split` on the whole
    cascade is slow) -/
theorem long_offs (u : PsipURI) (h : u.port.len > 0 ∨ u.host.len > 0 ∨ u.user.len > 0) :
    u.long.1.offs = trunc16 u.scheme.offs := by
  unfold PsipURI.long
  exact ite_offs rfl fun _ => ite_offs rfl fun _ => ite_offs rfl fun hp => ite_offs rfl fun hh =>
    ite_offs (ite_offs rfl fun _ => rfl) fun _ => ite_offs rfl fun hu =>
      (h.elim hp fun h => h.elim hh hu).elim

/-- **the short view starts where the long view starts** (both start at the scheme) -/
theorem short_long_same_start (u : PsipURI) : u.short.1.len = 0 ∨ u.short.1.offs = u.long.1.offs := by
  unfold PsipURI.short
  split
  · exact .inr (long_offs u (.inl ‹_›)).symm
  split
  · exact .inr (long_offs u (.inr (.inl ‹_›))).symm
  split
  · exact .inr (long_offs u (.inr (.inr ‹_›))).symm
  · exact .inl rfl

/-- **Truncate removes exactly parameters and headers** -/
theorem truncate_exact (u : PsipURI) :
    u.truncate = { u with params := {}, headers := {} } := rfl

/-- after Truncate the long view stops where the short view of the original stops, when there is no
    password-only tail -/
theorem long_truncate_eq_short (u : PsipURI) (hp : u.port.len > 0 ∨ u.host.len > 0) :
    u.truncate.long = u.short := by
  unfold PsipURI.truncate PsipURI.long PsipURI.short setFrom
  simp only [Nat.lt_irrefl, if_false]
  rcases hp with h | h
  · simp [h]
  · by_cases hpo : u.port.len > 0
    · simp [hpo]
    · simp [hpo, h]

/-! ### non-vacuity: "sip:a@b" -/
example : WF { uriType := 1, scheme := ⟨0, 4⟩, user := ⟨4, 1⟩, host := ⟨6, 1⟩ } 7 := by
  refine ⟨by decide, by decide, ?_, by decide⟩
  intro f hf hz
  simp only [comps, List.mem_cons, List.not_mem_nil, or_false] at hf
  rcases hf with h | h | h | h | h | h <;> subst h <;> first | (exact absurd rfl hz) | (simp)

/-! ### the link to ParseURI: no hypothesis on the URI (Proofs/UriLink.lean) -/

/-- **every URI accepted by ParseURI is well formed for AdjustOffs** (any scheme): `ULWF u len(b)`, scheme at 0, computed length = len(b), absent components are zero -/
theorem parsed_good : type_of% @ul_parsed_good := @ul_parsed_good

/-- the length AdjustOffs computes for an accepted URI is exactly len(b) (all schemes, incl. tel: with a password before the number) -/
theorem parsed_len : type_of% @ul_parsed_len := @ul_parsed_len

/-- **parse, then relocate onto any span at least as long as the URI**: accepted, no panic, type / port number kept, every relocated field reads the same bytes in any buffer holding the text at the new offset -/
theorem relocate_parsed : type_of% @ul_relocate_parsed := @ul_relocate_parsed

/-- **any span shorter than the URI is refused**: result false, structure unchanged, no panic (all schemes) -/
theorem refuse_parsed : type_of% @ul_refuse := @ul_refuse

/-- **views of a parsed sip: / sips: URI** -/
theorem views_sip : type_of% @ul_views_sip := @ul_views_sip

/-- **views of a parsed tel: URI** (the number, reported as user, in the host's place) -/
theorem views_tel : type_of% @ul_views_tel := @ul_views_tel

/-- all schemes: **the short view is a prefix of the long view**, both are prefixes of the input, no panics, Long after Truncate = Short -/
theorem short_prefix_long : type_of% @ul_short_prefix_long := @ul_short_prefix_long

/-- the hypothesis `WF` of `adjust_refused` / `adjust_moves` above holds for every accepted URI, with `L = len(b)` -/
theorem parsed_wf (b : Buf) (hfit : b.size ≤ 65535) (hacc : (parseURI b {}).1 = .none) :
    WF (parseURI b {}).2.2.1 b.size := by
  have h := ul_parsed_wf b hfit hacc
  exact ⟨h.lim, h.sch, h.inside, h.ulen⟩

/-! ### spans that end past the 16-bit range (proved in `Sipsp.Proofs.UriLink`) -/

/-- a span that ends past the 16-bit range (its end offset wraps) is refused, nothing is changed, no panic
    (finding F23: without this guard the code panics after rewriting the offsets, or wraps them) -/
theorem refuse_wrapping_span : type_of% @Sipsp.ul_adjust_wrap_refused := @Sipsp.ul_adjust_wrap_refused

/-! ### SEQUENCES of operations on one parsed URI: closure of the invariant under Truncate / AdjustOffs / views, composition of relocations, Truncate then AdjustOffs, views commute with relocation (proved in `Sipsp.Proofs.UriLink` and `Sipsp.Proofs.UriSeq`) -/

/-- **(1) the invariant implies the well-formedness hypothesis of the AdjustOffs theorems** (`ULWF`, field for field
    `C18.WF`), with `L` = the length AdjustOffs computes -/
theorem wf_ulwf : type_of% @Sipsp.USWf.ulwf := @Sipsp.USWf.ulwf

/-- **AdjustOffs on a URI that satisfies the invariant, for EVERY span**: it never panics; the span is accepted
    exactly when its end stays inside the 16-bit range and its length is at least `ulLen u` (the end of the last
    PRESENT component, relative to the scheme); then the result is the URI moved to `np.Offs`; otherwise nothing is
    changed -/
theorem seq_adjust_eq : type_of% @Sipsp.us_adjust_eq := @Sipsp.us_adjust_eq

/-- **(1) closure under AdjustOffs, accepted or refused**: whatever the span, the call does not panic and the URI it
    leaves behind satisfies the invariant, with the same computed length -/
theorem wf_adjust : type_of% @Sipsp.USWf.adjust := @Sipsp.USWf.adjust

/-- **(1) closure under Truncate**; the computed length can only shrink -/
theorem wf_truncate : type_of% @Sipsp.USWf.truncate := @Sipsp.USWf.truncate

/-- **(4) Long() in closed form**: no panic; it starts at the scheme and ends where the last non-empty component ends -/
theorem seq_long_eq : type_of% @Sipsp.us_long_eq := @Sipsp.us_long_eq

/-- **(4) Short() in closed form**: no panic; it starts at the scheme and ends at the port (if not empty, else at the host) -/
theorem seq_short_eq : type_of% @Sipsp.us_short_eq := @Sipsp.us_short_eq

/-- (4) the short view is a prefix of the long view: same start, not longer; neither panics -/
theorem seq_short_prefix_long : type_of% @Sipsp.us_short_prefix_long := @Sipsp.us_short_prefix_long

/-- **(4) Long after Truncate = Short**, for every URI that satisfies the invariant (also tel: with a password) -/
theorem seq_truncate_long : type_of% @Sipsp.us_truncate_long := @Sipsp.us_truncate_long

/-- **(2) AdjustOffs to `np1` (accepted), then to `np2`**: the second call is accepted exactly when `np2` would have been
    accepted directly; then the result (every component, the flags) is that of the direct call; otherwise the second
    call changes nothing -/
theorem seq_adjust_adjust : type_of% @Sipsp.us_adjust_adjust := @Sipsp.us_adjust_adjust

/-- **(2) relocating back onto the original position restores the original URI exactly** -/
theorem seq_adjust_back : type_of% @Sipsp.us_adjust_back := @Sipsp.us_adjust_back

/-- **(3) after Truncate the span only has to hold what is left**: AdjustOffs on the truncated URI never panics and
    accepts a span (inside the 16-bit range) exactly when its length is at least `ulLen u.truncate` — the end of the
    last PRESENT component among scheme … port, NOT the original length — and then the result is the truncated URI
    moved; its Long() and Short() are the Short() of the original, moved -/
theorem seq_truncate_adjust : type_of% @Sipsp.us_truncate_adjust := @Sipsp.us_truncate_adjust

/-- (3) the threshold after Truncate and the views: Short() (= Long() after Truncate) is never longer than the
    threshold, and they are EQUAL unless the port is present but empty (`sip:h:;x`: threshold 6, Short() = 5) -/
theorem seq_truncate_len : type_of% @Sipsp.us_truncate_len := @Sipsp.us_truncate_len

/-- **(4) the views commute with an accepted AdjustOffs**: Long / Short of the relocated URI are the Long /
    Short of the original with the new start (same length, no panic); Truncate after AdjustOffs = AdjustOffs (same
    span, also accepted) after Truncate; and when the buffer `b2` holds at `np.Offs` the bytes that `b` holds at the
    old position, Flat and `Get` on every one of the seven fields return in `b2` what they return for the original
    in `b`, without panic -/
theorem seq_adjust_views : type_of% @Sipsp.us_adjust_views := @Sipsp.us_adjust_views

/-- **(1) ANY finite sequence of Truncate / AdjustOffs (any 16-bit spans, accepted or refused) / Long / Short / Flat
    calls on a URI that satisfies the invariant never panics**, and the URI at the end satisfies the invariant -/
theorem seq_ops_never_panic : type_of% @Sipsp.us_ops_never_panic := @Sipsp.us_ops_never_panic

/-- **(1) … and at EVERY step** (after the first `n` calls, for every `n`): no call has panicked, the invariant holds, so
    the hypotheses of the C18 theorems about AdjustOffs (`ULWF u (ulLen u)`, field for field `C18.WF`, and
    `ulSum u ≤ ulLen u`) hold for the structure as it is then, and Long / Short do not panic on it -/
theorem seq_ops_every_step : type_of% @Sipsp.us_ops_every_step := @Sipsp.us_ops_every_step

/-- **(1) what ParseURI establishes**: every URI accepted by ParseURI (sip:, sips:, tel:; input of at most
    65,535 bytes) satisfies the invariant `USWf`, its scheme is at offset 0 and the length AdjustOffs computes is
    len(b) -/
theorem seq_parsed_wf : type_of% @Sipsp.us_parsed_wf := @Sipsp.us_parsed_wf

/-- **(1) ANY finite sequence of Truncate / AdjustOffs (to any 16-bit spans, accepted or refused) / Long /
    Short / Flat calls on a parsed URI never panics, and every theorem of C18 applies at every step**: for every
    accepted input `b` (≤ 65,535 bytes), every list of calls whose only obligations are those of `usPre` (the span is
    a pair of 16-bit numbers; the buffer given to Flat holds the span Long() reports) and every `n`: after the first
    `n` calls nothing has panicked, the structure satisfies the invariant, hence `ULWF` (= `C18.WF`) with its own
    computed length and `ulSum ≤ ulLen` — the hypotheses of `adjust_moves` / `adjust_refused` — and the computed
    length never exceeds len(b) -/
theorem uri_ops_never_panic : type_of% @Sipsp.uri_ops_never_panic := @Sipsp.uri_ops_never_panic

/-- **(2) parse, relocate, relocate again**: for an accepted input and two spans that hold it (inside the
    16-bit range), AdjustOffs to the first and then to the second gives exactly what AdjustOffs to the second gives
    directly (so `C18.relocate_parsed` describes the result: every component reads the original bytes), and going
    back to a span at offset 0 gives back the parsed URI itself -/
theorem seq_parsed_relocate_twice : type_of% @Sipsp.us_parsed_relocate_twice := @Sipsp.us_parsed_relocate_twice

/-- **(3) parse, Truncate, relocate**: the truncated URI is accepted by exactly the spans (inside the 16-bit
    range) of at least `ulLen u.truncate` bytes — at most len(b), at least the length of Short(), equal to it unless
    the port is present but empty — and Long / Short of the result are the Short of the parsed URI at the new offset -/
theorem seq_parsed_truncate_adjust : type_of% @Sipsp.us_parsed_truncate_adjust := @Sipsp.us_parsed_truncate_adjust

end Sipsp.C18
