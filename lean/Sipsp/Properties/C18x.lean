/-
  Property C18 - extension file: theorems of this property that are proved in layers which themselves import
  Sipsp/Properties/C18.lean (message-level compositions, audit lemmas). Same namespace as the main file; the check
  audits both files together.
-/
import Sipsp.Properties.C18
import Sipsp.Proofs.AuditExamples

namespace Sipsp.C18
open Sipsp

/-! ### a relocated URI is well formed again (it can be relocated again) (proved in `Sipsp.Proofs.AuditExamples`) -/

/-- **C18: a relocated URI is again well formed**: after an accepted
    AdjustOffs onto a span inside the addressing range, the result satisfies `WF` with the same length, so
    `adjust_moves` / `adjust_refused` apply to a SECOND relocation -/
theorem relocated_is_wf : type_of% @Sipsp.ae_adjust_wf := @Sipsp.ae_adjust_wf

end Sipsp.C18
