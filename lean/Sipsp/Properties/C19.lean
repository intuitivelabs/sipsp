/-
  Property C19 — the message signature depends only on what it is documented to fingerprint.

  Model: `getMsgSigCore m b` (Sipsp/Model/Sig.lean, GetMsgSig of msg_sig.go) for a parsed-message object `m` whose `Buf` is
  the prefix `b[0 : m.bufLen]`, and `MsgSig.toStr`. Sections (1)–(5) are proved for ALL message objects `m` (any stored
  header list of any length, any flag word, any header count `n`, any field offsets) and ALL buffers; there is no size
  bound and no assumption that `m` came out of the parser other than the hypotheses spelled out in each statement.

  The VIEW of a message (`view m b`) keeps of every stored header only a `SigKey`: its type, whether the name is one
  byte long (compact form), and — for Via headers — the bytes of its value. `firsts m b` = `sigFirsts [] (view m b)` is
  the view restricted to the eight fingerprinted types (Call-ID, Contact, CSeq, From, Max-Forwards, To, Via,
  User-Agent) at their FIRST occurrence; `firsts_*` say what it holds (a sub-sequence of the view, only
  fingerprinted types, no type twice, and for each fingerprinted type exactly the first header of that type).

  (1) a reply gives the zero signature with verdict Empty, rendered "" (`reply_no_signature`, `reply_renders_empty`).
  (2) at most eight header entries, each a 4-bit value: position in the table, plus 8 for the compact form
      (`at_most_eight`, `entries_below_16`).
  (3) `factorisation`: for a request whose Call-ID and From-tag fields lie inside the buffer and whose flag word covers
      the fingerprinted stored types (`Covered`: it holds after every successful parse, see (8)),
        signature = `sigOfView method callid-bytes fromtag-bytes (firsts m b)`
      i.e. method; Call-ID class/length (`getCallIDSig`) and From-tag class (`getStrCharsSig`) of those byte strings;
      one entry per first occurrence, in order, Contact only for INVITE (`sigOfView_hdrSig`); the branch class of the
      first Via's value (`sigOfView_viaBSig`). Neither early exit of the loop (eight entries / all flagged types seen)
      changes the result. The "Go would panic" flag factors the same way. `Covered` cannot be dropped (last test: a
      flag word that lacks a stored type cuts the loop).
      `same_view_same_signature`: two message objects over two buffers with the same method, the same Call-ID and
      From-tag bytes and the same `firsts` have the same signature — whatever else differs (other headers, their
      values, repeated headers, offsets, header count, array size, flag word). `same_view_same_result`: with NO
      hypothesis on the flag word the whole result is a function of request / method / Call-ID bytes / From-tag
      bytes / flag word / "count exceeds array" and the unrestricted view.
      Corollaries on the stored header list (`edit_*`, message level; `view_*`, view level): the signature does not
      change when (3a) a header of a non-fingerprinted type, or any number of them, e.g. the cleared tail entries of a
      larger header array, is inserted or removed anywhere; (3b) a header whose type occurred earlier in the list is
      inserted or removed; (3c) a non-fingerprinted header is replaced by another one, or anything of ANY header is
      changed but its type, the compactness of its name and (for Via) its value bytes.
  (4) the text rendering (`render_shape`): unless method and entries are both empty (then ""), the text is
        value(method) value(entry)* 'I' hhhh hh 'F' hhhh 'V' hhhh
      where a value is one lower-case hex digit, preceded by 'E' if it does not fit (≥ 16); 18 + n ≤ length ≤ 19 + 2n;
      only 0-9a-f and E I F V occur; for what `getMsgSigCore` returns with a method number below 16 the text is exactly
      18 + n ≤ 26 characters, one digit per value (`render_of_signature`).
  (5) `truncated_or_same`: if the header count exceeds the array, the verdict is Trunc, or else the whole result
      (signature, verdict, panic flag) is the one obtained with ANY longer array extending the stored one; `fits_ok`.
  (6) composition with C01 and C13 (`Sipsp.Proofs.SigCompose`): every chunk schedule from Init that ends with OK gives
      the object — hence signature, verdict and panic flag — of the fresh one-shot call (`sig_chunking`); a complete
      message cut anywhere = one call on the whole buffer, given that the earlier prefixes are incomplete (without
      Content-Length the body runs to the end of the completing call's buffer; `sig_chunking_whole`,
      `sig_two_schedules`); two header-array capacities that both hold all headers: the identical result; an array
      too small against a larger one: Trunc, or exactly the same result — both occur (`sig_capacity_fit`, `_small`,
      `sig_capacity` for two runs from Init with any capacities over any chunk schedule).
  (7) what the character-class functions compute (`Sipsp.Proofs.SigChars`): getStrCharsSig of any byte string = an
      explicit list function; bit 3..12 is set iff the reserved byte `@ . : - * / + = _ |` of that bit occurs; bits
      13–15 are the hex / base64 / digit-block guesses (length and position dependent — NOT order independent:
      `GGGGGGGG=` is flagged base64, its permutation `=GGGGGGGG` is not); no other bit is ever set; the class bits are
      order independent and additive (`strsig_*`). GetViaBrSig reads the parameters after the first ';', the FIRST
      parameter named `branch` (any letter case) decides, its value minus the magic cookie (stripped
      case-insensitively, only when something follows it) is classified, a later `branch` is ignored, no `branch` /
      empty value gives the empty signature (`viabr_*`). `same_classes_same_signature`: two covered requests that
      agree on method, first occurrences with form, Call-ID class AND short length, From-tag class and first-Via
      branch class have the same signature.
      Observed: the signature also contains the Call-ID short length (length without the address, in units of 4), so
      "a function of the classes" holds with that length counted as part of the Call-ID's class.
  (8) the coverage hypothesis discharged (`Sipsp.Proofs.SigCovered`): after ParseHeaders says OK — ANY values object,
      typed headers included, any capacity — the flag word covers the fingerprinted stored types; `Covered m` after
      EVERY successful ParseSIPMsg (one call, any history of Init / parse / Reset, any chunk schedule: `covered_*`);
      hence `factorisation_unconditional` and `same_view_same_signature_unconditional`: two successfully parsed
      requests with the same method, Call-ID and From-tag bytes and first occurrences have the same signature — no
      side condition on flag words or field positions left.

  Scope notes: "replies yield no signature" is `reply_no_signature` under `m.request = false`; C08 `reply_iff` shows
  that this holds for EVERY accepted status line, code `000` included (defect F22: decided by `Status == 0`, the status
  line `SIP/2.0 000 x` got a signature; fixed in 07883de). The `edit_*` corollaries compare
  `getMsgSigCore (withHdrs m …)` with `getMsgSigCore m` on one frozen buffer / values object: they are statements
  about the stored header LIST; the statement about two parsed messages is `same_view_same_signature(_unconditional)`
  (its hypotheses are equalities of `get?` Options — both `none` is allowed and means both fields unreadable, which
  (8) + C04 exclude after a successful parse). `sig_chunking*` / `sig_capacity` assume zeroed caller arrays and buffers
  ≤ 65,535 bytes; `sig_capacity` the same recorded length and cap1 ≤ cap2.
  Note on names: `GetMsgSig` first checks that the message is completely parsed (else "empty"; the fix of defect F24);
  the model's `getMsgSig` is that guard in front of `getMsgSigCore`, and every theorem of this file is stated about
  `getMsgSigCore`; for a message in the final state (every successfully parsed message: C05 `layout_*`)
  `getMsgSig = getMsgSigCore` (`sig_is_core_when_complete`), and after a call / any chunk schedule that ends with OK
  on every buffer, with no hypothesis on the object (`sig_guard_transparent(_schedule)`, `_noclen`).
  NOT proved here: no theorem relates two BYTE messages that differ by an inserted / removed / changed header line (that
  composition — C07 / HdrTyped blocks + C11 shifts + `same_view_same_signature_unconditional` — is carried out by the
  metamorphic oracle).
  Observed (true of the Go code as well): every visited type, fingerprinted or not, is recorded in the loop's `seen`
  word, so the "all flagged types seen" exit can fire only before the first non-fingerprinted header (type < 16,
  which includes an unused, cleared array entry); afterwards a too-small array yields Trunc even when every
  fingerprinted header was stored (see the second test (5) below). This is within the documented behaviour ("same
  signature or truncated indication").
  Model tied to msg_sig.go by the correspondence check.
-/
import Sipsp.Proofs.SigSpec
import Sipsp.Proofs.SigCompose
import Sipsp.Proofs.SigChars
import Sipsp.Proofs.SigCovered
import Sipsp.Proofs.SigGuard
import Sipsp.Proofs.SigGuardSafe

namespace Sipsp.C19
open Sipsp

/-! ### the view -/

/-- `msg.Buf` -/
def msgBuf (m : PSIPMsg) (b : Buf) : Buf := b.extract 0 m.bufLen

/-- the view of the stored headers: (type, compact name?, Via value bytes) of each -/
def view (m : PSIPMsg) (b : Buf) : List SigKey := m.hl.hdrs.toList.map (hdrKey (msgBuf m b))

/-- the view restricted to fingerprinted types at their first occurrence -/
def firsts (m : PSIPMsg) (b : Buf) : List SigKey := sigFirsts [] (view m b)

/-- the signature as a function of method, Call-ID bytes, From-tag bytes and the restricted view -/
def sigOfView (method : Nat) (cid tag : Buf) (fs : List SigKey) : MsgSig :=
  sigApply fs (sigInit method cid tag).sig

/-- the flag word covers the fingerprinted types of the stored headers -/
def Covered (m : PSIPMsg) : Prop := FlagsCover m.hl.pflags m.hl.hdrs.toList

/-- the same message object with another stored header list / header count -/
def withHdrs (m : PSIPMsg) (hs : List Hdr) (n : Nat) : PSIPMsg :=
  { m with hl := { m.hl with hdrs := hs.toArray, n := n } }

theorem sigOfView_fixed (method : Nat) (cid tag : Buf) (fs : List SigKey) :
    (sigOfView method cid tag fs).method = method ∧
    (sigOfView method cid tag fs).cidSig = (getCallIDSig cid).1 ∧
    (sigOfView method cid tag fs).cidSLen = (getCallIDSig cid).2.1 ∧
    (sigOfView method cid tag fs).fromSig = (getStrCharsSig tag 0 0).1 := ⟨rfl, rfl, rfl, rfl⟩

/-- one entry per element of the restricted view, in order: position of the type in the table, plus 8 for the
    compact form; Contact counts only for INVITE -/
theorem sigOfView_hdrSig (method : Nat) (cid tag : Buf) (fs : List SigKey) :
    (sigOfView method cid tag fs).hdrSig =
      fs.flatMap (fun k => if isSigType k.type && (k.type != HdrContact || method == MInvite)
                           then [sigEntry k.type k.compact] else []) := by
  show [] ++ fs.flatMap (fun k => k.entry method) = _
  rw [List.nil_append]; rfl

/-- the Via part: branch class of the value of the first Via (0 without a Via, or if its field is outside) -/
theorem sigOfView_viaBSig (method : Nat) (cid tag : Buf) (fs : List SigKey) :
    (sigOfView method cid tag fs).viaBSig =
      match fs.find? (fun k => k.type == HdrVia) with
      | some k => k.viaSig 0
      | none => 0 := rfl

/-! ### (1) replies -/

theorem reply_no_signature (m : PSIPMsg) (b : Buf) (h : m.request = false) :
    getMsgSigCore m b = ({}, .empty, false) := getMsgSig_reply m b h

theorem reply_renders_empty (m : PSIPMsg) (b : Buf) (h : m.request = false) : (getMsgSigCore m b).1.toStr = "" := by
  rw [getMsgSig_reply m b h]; exact toStr_empty _ ⟨rfl, rfl⟩

/-! ### (2) at most eight entries, all of them 4-bit values -/

theorem at_most_eight (m : PSIPMsg) (b : Buf) : (getMsgSigCore m b).1.hdrSig.length ≤ 8 := by
  rcases getMsgSigCore_cases m b with ⟨_, h⟩ | ⟨_, _, h⟩ | ⟨_, cid, tag, _, _, h⟩ <;> rw [h]
  · exact Nat.zero_le _
  · exact Nat.zero_le _
  · exact msgSigLoop_len_le _ _ _ _ (show 0 < 8 by decide)

theorem entries_below_16 (m : PSIPMsg) (b : Buf) : ∀ e ∈ (getMsgSigCore m b).1.hdrSig, e < 16 := by
  rcases getMsgSigCore_cases m b with ⟨_, h⟩ | ⟨_, _, h⟩ | ⟨_, cid, tag, _, _, h⟩ <;> rw [h]
  · intro e he; cases he
  · intro e he; cases he
  · exact msgSigLoop_entries_lt _ _ _ _ (by intro e he; cases he)

/-! ### (3) factorisation through the restricted view -/

theorem factorisation (m : PSIPMsg) (b : Buf) (hr : m.request = true) (cid tag : Buf)
    (hc : m.pv.callid.callID.get? (msgBuf m b) = some cid) (ht : m.pv.from_.tag.get? (msgBuf m b) = some tag)
    (hcov : Covered m) :
    (getMsgSigCore m b).1 = sigOfView m.fl.methodNo cid tag (firsts m b) ∧
    (getMsgSigCore m b).2.2 = ((getCallIDSig cid).2.2 || (firsts m b).any (fun k => k.viaPnc)) := by
  rw [getMsgSig_request m b hr cid tag hc ht]
  exact msgSigLoop_view (b.extract 0 m.bufLen) m.hl.pflags m.hl.hdrs.toList m.fl.methodNo cid tag hcov

/-- the restricted view is a sub-sequence of the view (order is kept) … -/
theorem firsts_sublist (m : PSIPMsg) (b : Buf) : (firsts m b).Sublist (view m b) := sigFirsts_sublist _ _

/-- … of fingerprinted types only … -/
theorem firsts_fingerprinted (m : PSIPMsg) (b : Buf) : ∀ k ∈ firsts m b, k.type ∈ Gen.sigHdrs :=
  fun k hk => (isSigType_iff _).mp (sigFirsts_isSig _ _ k hk)

/-- … no type twice … -/
theorem firsts_distinct (m : PSIPMsg) (b : Buf) : (firsts m b).Pairwise (fun a c => a.type ≠ c.type) :=
  sigFirsts_pairwise _ _

/-- … holding, for every fingerprinted type, exactly the first stored header of that type -/
theorem firsts_first_of_type (m : PSIPMsg) (b : Buf) (t : Nat) (ht : t ∈ Gen.sigHdrs) :
    (firsts m b).find? (fun k => k.type == t) = (view m b).find? (fun k => k.type == t) :=
  sigFirsts_find [] _ t ((isSigType_iff t).mpr ht) rfl

/-- two message objects (two buffers) with the same method, Call-ID bytes, From-tag bytes and restricted view have
    the same signature (and the same "Go would panic" flag) -/
theorem same_view_same_signature (m m' : PSIPMsg) (b b' : Buf) (hr : m.request = true) (hr' : m'.request = true)
    (cid tag : Buf)
    (hc : m.pv.callid.callID.get? (msgBuf m b) = some cid) (ht : m.pv.from_.tag.get? (msgBuf m b) = some tag)
    (hc' : m'.pv.callid.callID.get? (msgBuf m' b') = some cid) (ht' : m'.pv.from_.tag.get? (msgBuf m' b') = some tag)
    (hcov : Covered m) (hcov' : Covered m')
    (hmeth : m'.fl.methodNo = m.fl.methodNo) (hview : firsts m' b' = firsts m b) :
    (getMsgSigCore m' b').1 = (getMsgSigCore m b).1 ∧ (getMsgSigCore m' b').2.2 = (getMsgSigCore m b).2.2 := by
  have h1 := factorisation m b hr cid tag hc ht hcov
  have h2 := factorisation m' b' hr' cid tag hc' ht' hcov'
  rw [h1.1, h1.2, h2.1, h2.2, hmeth, hview]
  exact ⟨rfl, rfl⟩

/-- without any hypothesis on the flag word: the whole result is a function of request / method / Call-ID bytes /
    From-tag bytes / flag word / "count exceeds array" and the (unrestricted) view — nothing else of the stored
    headers is read (not the name bytes, not the value of any non-Via header, no parser state) -/
theorem same_view_same_result (m m' : PSIPMsg) (b b' : Buf) (hr : m'.request = m.request)
    (hmeth : m'.fl.methodNo = m.fl.methodNo)
    (hc : m'.pv.callid.callID.get? (msgBuf m' b') = m.pv.callid.callID.get? (msgBuf m b))
    (ht : m'.pv.from_.tag.get? (msgBuf m' b') = m.pv.from_.tag.get? (msgBuf m b))
    (hpf : m'.hl.pflags = m.hl.pflags)
    (hn : (m'.hl.n > m'.hl.hdrs.size) ↔ (m.hl.n > m.hl.hdrs.size))
    (hview : view m' b' = view m b) : getMsgSigCore m' b' = getMsgSigCore m b := by
  rcases getMsgSigCore_cases m b with ⟨hq, h⟩ | ⟨hq, ho, h⟩ | ⟨hq, cid, tag, hcc, htt, h⟩ <;> rw [h]
  · exact getMsgSig_reply m' b' (hr.trans hq)
  · exact getMsgSig_outside m' b' (hr.trans hq) (ho.imp hc.trans ht.trans)
  · rw [getMsgSig_request m' b' (hr.trans hq) cid tag (hc.trans hcc) (ht.trans htt), hmeth, hpf,
      msgSigLoop_congr_keys (b'.extract 0 m'.bufLen) (b.extract 0 m.bufLen) m.hl.pflags m'.hl.hdrs.toList
        m.hl.hdrs.toList _ hview]
    by_cases h1 : m.hl.n > m.hl.hdrs.size
    · simp only [h1, hn.mpr h1]
    · have h2 : ¬ m'.hl.n > m'.hl.hdrs.size := fun h => h1 (hn.mp h)
      simp only [h1, h2]

/-! #### view-level corollaries -/

theorem view_insert_other (l1 l2 : List SigKey) (x : SigKey) (hx : x.type ∉ Gen.sigHdrs) :
    sigFirsts [] (l1 ++ x :: l2) = sigFirsts [] (l1 ++ l2) :=
  sigFirsts_insert_nosig [] l1 l2 x (isSigType_of_not hx)

theorem view_insert_repeat (l1 l2 : List SigKey) (x : SigKey) (hx : ∃ k ∈ l1, k.type = x.type) :
    sigFirsts [] (l1 ++ x :: l2) = sigFirsts [] (l1 ++ l2) :=
  sigFirsts_insert_repeat [] l1 l2 x (Or.inr hx)

theorem view_change_other (l1 l2 : List SigKey) (x x' : SigKey) (hx : x.type ∉ Gen.sigHdrs)
    (hx' : x'.type ∉ Gen.sigHdrs) : sigFirsts [] (l1 ++ x' :: l2) = sigFirsts [] (l1 ++ x :: l2) := by
  rw [view_insert_other l1 l2 x hx, view_insert_other l1 l2 x' hx']

/-! #### message-level corollaries: editing the stored header list of one message object -/

/-- general form: any other stored list with the same restricted view (and covered by the same flag word) -/
theorem edit_same_firsts (m : PSIPMsg) (b : Buf) (hs' : List Hdr) (n' : Nat) (hcov : Covered m)
    (hcov' : FlagsCover m.hl.pflags hs')
    (hv : sigFirsts [] (hs'.map (hdrKey (msgBuf m b))) = sigFirsts [] (m.hl.hdrs.toList.map (hdrKey (msgBuf m b)))) :
    (getMsgSigCore (withHdrs m hs' n') b).1 = (getMsgSigCore m b).1 ∧
    (getMsgSigCore (withHdrs m hs' n') b).2.2 = (getMsgSigCore m b).2.2 := by
  have hreq : (withHdrs m hs' n').request = m.request := rfl
  rcases getMsgSigCore_cases m b with ⟨hr, h⟩ | ⟨hr, ho, h⟩ | ⟨hr, cid, tag, hc, ht, _⟩
  · rw [h, getMsgSig_reply _ b (hreq.trans hr)]; exact ⟨rfl, rfl⟩
  · rw [h, getMsgSig_outside _ b (hreq.trans hr) ho]; exact ⟨rfl, rfl⟩
  · have h1 := factorisation m b hr cid tag hc ht hcov
    have h2 := factorisation (withHdrs m hs' n') b (hreq.trans hr) cid tag hc ht (by
      show FlagsCover m.hl.pflags hs'.toArray.toList
      rw [List.toList_toArray]; exact hcov')
    have hf : firsts (withHdrs m hs' n') b = firsts m b := by
      show sigFirsts [] (hs'.toArray.toList.map (hdrKey (msgBuf m b))) = _
      rw [List.toList_toArray]; exact hv
    rw [h1.1, h1.2, h2.1, h2.2, hf]
    exact ⟨rfl, rfl⟩

/-- (3a) inserting a header of a non-fingerprinted type anywhere does not change the signature
    (read right-to-left: removing one) -/
theorem edit_insert_other (m : PSIPMsg) (b : Buf) (l1 l2 : List Hdr) (x : Hdr) (n' : Nat) (hcov : Covered m)
    (hl : m.hl.hdrs.toList = l1 ++ l2) (hx : x.type ∉ Gen.sigHdrs) :
    (getMsgSigCore (withHdrs m (l1 ++ x :: l2) n') b).1 = (getMsgSigCore m b).1 ∧
    (getMsgSigCore (withHdrs m (l1 ++ x :: l2) n') b).2.2 = (getMsgSigCore m b).2.2 := by
  have hc := hcov; rw [Covered, hl, FlagsCover.append] at hc
  apply edit_same_firsts m b _ n' hcov
  · exact FlagsCover.append.2 ⟨hc.1, FlagsCover.cons.2 ⟨fun hs => absurd hs (by rw [isSigType_of_not hx]; decide), hc.2⟩⟩
  · rw [hl, List.map_append, List.map_append, List.map_cons]
    exact view_insert_other _ _ _ hx

/-- (3a, many) … any number of them, e.g. cleared entries at the end of a larger header array -/
theorem edit_padding (m : PSIPMsg) (b : Buf) (l1 pad l2 : List Hdr) (n' : Nat) (hcov : Covered m)
    (hl : m.hl.hdrs.toList = l1 ++ l2) (hp : ∀ x ∈ pad, x.type ∉ Gen.sigHdrs) :
    (getMsgSigCore (withHdrs m (l1 ++ pad ++ l2) n') b).1 = (getMsgSigCore m b).1 ∧
    (getMsgSigCore (withHdrs m (l1 ++ pad ++ l2) n') b).2.2 = (getMsgSigCore m b).2.2 := by
  have hc := hcov; rw [Covered, hl, FlagsCover.append] at hc
  apply edit_same_firsts m b _ n' hcov
  · exact FlagsCover.append.2 ⟨FlagsCover.append.2 ⟨hc.1, fun x hx hs => by
      rw [isSigType_of_not (hp x hx)] at hs; cases hs⟩, hc.2⟩
  · rw [hl, List.map_append, List.map_append, List.map_append]
    refine sigFirsts_insert_nosig_list _ _ _ _ fun k hk => ?_
    obtain ⟨x, hx, rfl⟩ := List.mem_map.mp hk
    exact isSigType_of_not (hp x hx)

/-- (3b) inserting a header whose type occurred earlier in the list (a repeated fingerprinted header, or any other
    repeated header) does not change the signature -/
theorem edit_insert_repeat (m : PSIPMsg) (b : Buf) (l1 l2 : List Hdr) (x : Hdr) (n' : Nat) (hcov : Covered m)
    (hl : m.hl.hdrs.toList = l1 ++ l2) (hx : ∃ h ∈ l1, h.type = x.type) :
    (getMsgSigCore (withHdrs m (l1 ++ x :: l2) n') b).1 = (getMsgSigCore m b).1 ∧
    (getMsgSigCore (withHdrs m (l1 ++ x :: l2) n') b).2.2 = (getMsgSigCore m b).2.2 := by
  obtain ⟨h0, hh0, ht0⟩ := hx
  have hc := hcov; rw [Covered, hl, FlagsCover.append] at hc
  apply edit_same_firsts m b _ n' hcov
  · exact FlagsCover.append.2 ⟨hc.1, FlagsCover.cons.2 ⟨ht0 ▸ hc.1 h0 hh0, hc.2⟩⟩
  · rw [hl, List.map_append, List.map_append, List.map_cons]
    exact view_insert_repeat _ _ _ ⟨hdrKey (msgBuf m b) h0, List.mem_map.mpr ⟨h0, hh0, rfl⟩, ht0⟩

/-- (3c) replacing a non-fingerprinted header by any other non-fingerprinted header (other value, other name, other
    non-fingerprinted type) does not change the signature -/
theorem edit_change_other (m : PSIPMsg) (b : Buf) (l1 l2 : List Hdr) (x x' : Hdr) (n' : Nat) (hcov : Covered m)
    (hl : m.hl.hdrs.toList = l1 ++ x :: l2) (hx : x.type ∉ Gen.sigHdrs) (hx' : x'.type ∉ Gen.sigHdrs) :
    (getMsgSigCore (withHdrs m (l1 ++ x' :: l2) n') b).1 = (getMsgSigCore m b).1 ∧
    (getMsgSigCore (withHdrs m (l1 ++ x' :: l2) n') b).2.2 = (getMsgSigCore m b).2.2 := by
  have hc := hcov; rw [Covered, hl, FlagsCover.append, FlagsCover.cons] at hc
  apply edit_same_firsts m b _ n' hcov
  · exact FlagsCover.append.2 ⟨hc.1, FlagsCover.cons.2 ⟨fun hs => absurd hs (by rw [isSigType_of_not hx']; decide), hc.2.2⟩⟩
  · rw [hl, List.map_append, List.map_append, List.map_cons, List.map_cons]
    exact view_change_other _ _ _ _ hx hx'

/-- (3c') changing anything of ANY stored header except its type, the compactness of its name and — for a Via — the
    bytes of its value: in particular the value (offsets, bytes) of every non-Via header, fingerprinted or not -/
theorem edit_change_value (m : PSIPMsg) (b : Buf) (l1 l2 : List Hdr) (x x' : Hdr) (n' : Nat) (hcov : Covered m)
    (hl : m.hl.hdrs.toList = l1 ++ x :: l2) (ht : x'.type = x.type)
    (hn : (x'.name.len == 1) = (x.name.len == 1))
    (hv : x.type = HdrVia → x'.val.get? (msgBuf m b) = x.val.get? (msgBuf m b)) :
    (getMsgSigCore (withHdrs m (l1 ++ x' :: l2) n') b).1 = (getMsgSigCore m b).1 ∧
    (getMsgSigCore (withHdrs m (l1 ++ x' :: l2) n') b).2.2 = (getMsgSigCore m b).2.2 := by
  have hc := hcov; rw [Covered, hl, FlagsCover.append, FlagsCover.cons] at hc
  apply edit_same_firsts m b _ n' hcov
  · exact FlagsCover.append.2 ⟨hc.1, FlagsCover.cons.2 ⟨ht ▸ hc.2.1, hc.2.2⟩⟩
  · rw [hl, List.map_append, List.map_append, List.map_cons, List.map_cons,
      hdrKey_congr (msgBuf m b) x x' ht hn hv]

/-! ### where `Covered` comes from -/

/-- the bookkeeping ParseHeaders performs on the list object (store the header, set its type flag, count it —
    `HdrLst.acceptAll`, then the end-of-block entry) yields a covered list from every empty, clean list object, for
    EVERY sequence of accepted headers and every array size (also a too small one) -/
theorem covered_bookkeeping (hl : HdrLst) (hs : List Hdr) (h0 : hl.n = 0) (hp : hl.pflags < 65536)
    (hc : HlsClean hl) :
    FlagsCover ((hl.acceptAll hs).setCur { state := .fin }).pflags
      ((hl.acceptAll hs).setCur { state := .fin }).hdrs.toList := acceptAll_covered hl hs h0 hp hc

/-- … hence ParseHeaders' result is covered on every header block of the C07 grammar (generic treatment, as in C07
    `header_block`) -/
theorem covered_header_block (b : Buf) (hb : Option PHdrVals) (hfit : b.size ≤ 65535) (o e : Nat) (hs : List Hdr)
    (H : HdrBlock b o hs e) (hl : HdrLst) (hc : HlsClean hl) (hcur : hl.cur = {}) (h0 : hl.n = 0)
    (hp : hl.pflags < 65536) (hg : hb = none ∨ ∀ h ∈ hs, IsOther h.type) :
    FlagsCover (parseHeaders b o hl hb).2.2.1.pflags (parseHeaders b o hl hb).2.2.1.hdrs.toList := by
  rw [parseHeaders_block b hb hfit H hl hc hcur hg]
  exact acceptAll_covered hl hs h0 hp hc

/-- non-vacuity: a fresh list object with a cleared array of any size meets the hypotheses on `hl` -/
example (k : Nat) : HlsClean ({ hdrs := Array.replicate k {} } : HdrLst) ∧
    ({ hdrs := Array.replicate k {} } : HdrLst).cur = {} ∧ ({ hdrs := Array.replicate k {} } : HdrLst).n = 0 ∧
    ({ hdrs := Array.replicate k {} } : HdrLst).pflags < 65536 := by
  exact ⟨(hls_new_ok k).1, (hls_new_ok k).2, rfl, (show 0 < 65536 by decide)⟩

/-! ### (4) the text rendering -/

/-- the characters that can occur -/
def sigAlphabet : List Char := "0123456789abcdef".toList ++ ['E', 'I', 'F', 'V']

theorem render_empty (s : MsgSig) (h : s.method = MUndef ∧ s.hdrSig = []) : s.toStr = "" := toStr_empty s h

/-- shape: value(method) value(entry)* 'I' hhhh hh 'F' hhhh 'V' hhhh, with `sigCh v` = optional 'E' + one hex digit
    and `sigTail s` the 17-character tail (`sigTail_shape`) -/
theorem render_shape (s : MsgSig) (h : ¬ (s.method = MUndef ∧ s.hdrSig = [])) :
    s.toStr = String.ofList (sigCh s.method ++ s.hdrSig.flatMap sigCh ++ sigTail s) := toStr_eq s h

theorem sigTail_shape (s : MsgSig) :
    sigTail s = ['I'] ++ hex4 s.cidSig ++ [hexDigit (s.cidSLen / 16 % 16), hexDigit (s.cidSLen % 16)] ++
      ['F'] ++ hex4 s.fromSig ++ ['V'] ++ hex4 s.viaBSig ∧ (sigTail s).length = 17 ∧
    (∀ v, (hex4 v).length = 4) := ⟨rfl, sigTail_length s, fun _ => rfl⟩

theorem render_length_bounds (s : MsgSig) (h : ¬ (s.method = MUndef ∧ s.hdrSig = [])) :
    18 + s.hdrSig.length ≤ s.toStr.length ∧ s.toStr.length ≤ 19 + 2 * s.hdrSig.length := by
  rw [toStr_eq s h, String.length_ofList, List.length_append, List.length_append, sigTail_length]
  have h1 := sigCh_length s.method
  have h2 := flatMap_sigCh_length s.hdrSig
  omega

theorem render_alphabet (s : MsgSig) : ∀ c ∈ s.toStr.toList, c ∈ sigAlphabet := by
  have hhex : ∀ n, hexDigit n ∈ sigAlphabet := fun n => List.mem_append_left _ (hexDigit_mem n)
  have hE : 'E' ∈ sigAlphabet := List.mem_append_right _ (by decide)
  have hch : ∀ v, ∀ c ∈ sigCh v, c ∈ sigAlphabet := by
    intro v c hc
    unfold sigCh at hc
    rcases List.mem_append.mp hc with h1 | h1
    · split at h1
      · rw [List.mem_singleton.mp h1]; exact hE
      · cases h1
    · rw [List.mem_singleton.mp h1]; exact hhex _
  have h4 : ∀ v, ∀ c ∈ hex4 v, c ∈ sigAlphabet := by
    intro v c hc
    simp only [hex4, List.mem_cons, List.not_mem_nil, or_false] at hc
    rcases hc with e | e | e | e <;> rw [e] <;> exact hhex _
  by_cases h : s.method = MUndef ∧ s.hdrSig = []
  · rw [toStr_empty s h]; intro c hc; simp at hc
  · rw [toStr_eq s h, String.toList_ofList]
    intro c hc
    rcases List.mem_append.mp hc with h1 | h1
    · rcases List.mem_append.mp h1 with h2 | h2
      · exact hch _ c h2
      · obtain ⟨v, _, hv⟩ := List.mem_flatMap.mp h2
        exact hch v c hv
    · unfold sigTail at h1
      simp only [List.mem_append, List.mem_cons, List.not_mem_nil, or_false] at h1
      rcases h1 with ((((((e | h1) | e | e) | e) | h1) | e) | h1)
      · rw [e]; exact List.mem_append_right _ (by decide)
      · exact h4 _ c h1
      · rw [e]; exact hhex _
      · rw [e]; exact hhex _
      · rw [e]; exact List.mem_append_right _ (by decide)
      · exact h4 _ c h1
      · rw [e]; exact List.mem_append_right _ (by decide)
      · exact h4 _ c h1

/-- what `getMsgSigCore` returns renders with exactly one hex digit per value when the method number is below 16 (the
    parser's method numbers are 1 … 15): 18 + (number of entries) ≤ 26 characters -/
theorem render_of_signature (m : PSIPMsg) (b : Buf) (hm : (getMsgSigCore m b).1.method < 16)
    (h : ¬ ((getMsgSigCore m b).1.method = MUndef ∧ (getMsgSigCore m b).1.hdrSig = [])) :
    (getMsgSigCore m b).1.toStr =
      String.ofList ([hexDigit (getMsgSigCore m b).1.method] ++ (getMsgSigCore m b).1.hdrSig.map hexDigit ++
        sigTail (getMsgSigCore m b).1) ∧
    (getMsgSigCore m b).1.toStr.length = 18 + (getMsgSigCore m b).1.hdrSig.length ∧
    (getMsgSigCore m b).1.toStr.length ≤ 26 := by
  have he := entries_below_16 m b
  have h8 := at_most_eight m b
  have hs : (getMsgSigCore m b).1.toStr =
      String.ofList ([hexDigit (getMsgSigCore m b).1.method] ++ (getMsgSigCore m b).1.hdrSig.map hexDigit ++
        sigTail (getMsgSigCore m b).1) := by
    rw [toStr_eq _ h, sigCh_small _ hm, flatMap_sigCh_small _ he]
  refine ⟨hs, ?_⟩
  rw [hs, String.length_ofList, List.length_append, List.length_append, sigTail_length, List.length_map,
    List.length_singleton]
  omega

/-! ### (5) header array too small -/

/-- the verdict, once -/
private theorem verdict (m : PSIPMsg) (b : Buf) :
    ((getMsgSigCore m b).2.1 = .empty ∧ m.request = false) ∨ ((getMsgSigCore m b).2.1 = .ok ∧ m.request = true) ∨
    ((getMsgSigCore m b).2.1 = .trunc ∧ m.request = true ∧ m.hl.n > m.hl.hdrs.size) := by
  rcases getMsgSigCore_cases m b with ⟨hr, h⟩ | ⟨hr, _, h⟩ | ⟨hr, cid, tag, _, _, h⟩ <;> rw [h]
  · exact .inl ⟨rfl, hr⟩
  · exact .inr (.inl ⟨rfl, hr⟩)
  · dsimp only
    split
    · exact .inr (.inl ⟨rfl, hr⟩)
    · split
      · exact .inr (.inr ⟨rfl, hr, ‹_›⟩)
      · exact .inr (.inl ⟨rfl, hr⟩)

theorem verdict_cases (m : PSIPMsg) (b : Buf) :
    (getMsgSigCore m b).2.1 = .ok ∨ (getMsgSigCore m b).2.1 = .trunc ∨ (getMsgSigCore m b).2.1 = .empty := by
  rcases verdict m b with h | h | h
  · exact .inr (.inr h.1)
  · exact .inl h.1
  · exact .inr (.inl h.1)

theorem trunc_only_when_too_small (m : PSIPMsg) (b : Buf) (h : (getMsgSigCore m b).2.1 = .trunc) :
    m.request = true ∧ m.hl.n > m.hl.hdrs.size := by
  rcases verdict m b with h1 | h1 | h1
  · rw [h1.1] at h; cases h
  · rw [h1.1] at h; cases h
  · exact h1.2

/-- all headers fit: a request never gets the truncated indication -/
theorem fits_ok (m : PSIPMsg) (b : Buf) (hr : m.request = true) (hn : m.hl.n ≤ m.hl.hdrs.size) :
    (getMsgSigCore m b).2.1 = .ok := by
  rcases verdict m b with h | h | h
  · rw [hr] at h; cases h.2
  · exact h.1
  · exact absurd h.2.2 (Nat.not_lt.2 hn)

/-- more headers than the array holds: the verdict is Trunc, or else the result — signature, verdict and panic flag —
    is the one obtained with ANY longer array that extends the stored one (so nothing was missed) -/
theorem truncated_or_same (m : PSIPMsg) (b : Buf) (hn : m.hl.n > m.hl.hdrs.size) :
    (getMsgSigCore m b).2.1 = .trunc ∨
    ∀ (extra : List Hdr) (n' : Nat), getMsgSigCore (withHdrs m (m.hl.hdrs.toList ++ extra) n') b = getMsgSigCore m b := by
  rcases getMsgSigCore_cases m b with ⟨hr, h⟩ | ⟨hr, ho, h⟩ | ⟨hr, cid, tag, hc, ht, h⟩ <;> rw [h]
  · exact Or.inr fun extra n' => getMsgSig_reply _ b (show (withHdrs m _ n').request = false from hr)
  · exact Or.inr fun extra n' => getMsgSig_outside _ b (show (withHdrs m _ n').request = true from hr) ho
  · cases hex : (msgSigLoop (b.extract 0 m.bufLen) m.hl.pflags m.hl.hdrs.toList
        (sigInit m.fl.methodNo cid tag)).2
    · left
      simp only [Bool.false_eq_true, ↓reduceIte, hn]
    · right; intro extra n'
      rw [getMsgSig_request _ b (show (withHdrs m _ n').request = true from hr) cid tag hc ht]
      have e : (withHdrs m (m.hl.hdrs.toList ++ extra) n').hl.hdrs.toList = m.hl.hdrs.toList ++ extra := by
        show (m.hl.hdrs.toList ++ extra).toArray.toList = _
        rw [List.toList_toArray]
      have hp : (withHdrs m (m.hl.hdrs.toList ++ extra) n').hl.pflags = m.hl.pflags := rfl
      have hb : (withHdrs m (m.hl.hdrs.toList ++ extra) n').bufLen = m.bufLen := rfl
      have hm : (withHdrs m (m.hl.hdrs.toList ++ extra) n').fl.methodNo = m.fl.methodNo := rfl
      rw [e, hp, hb, hm, msgSigLoop_append_exit _ _ _ extra _ hex]
      simp only [hex, ↓reduceIte]

/-! ### tests / non-vacuity (`decide +kernel` on one concrete message; these are examples, not the general claims) -/

/-- INVITE with Via, Subject (not fingerprinted), compact From, To, Call-ID, CSeq, a second Via, Content-Length -/
def exMsg : Buf := "INVITE sip:a@b SIP/2.0\r\nVia: SIP/2.0/UDP h;branch=z9hG4bK-a.b\r\nSubject: x\r\nf: <sip:a@b>;tag=a-1\r\nTo: <sip:c@d>\r\nCall-ID: x@1.2.3.4\r\nCSeq: 1 INVITE\r\nVia: SIP/2.0/UDP h2\r\nContent-Length: 0\r\n\r\n".toUTF8.data

/-- the parsed message object, with a header array of `k` entries -/
def exM (k : Nat) : PSIPMsg :=
  (parseSIPMsg exMsg 0 (({} : PSIPMsg).init 0 (some (Array.replicate k {})) none) 0).2.2

/-- everything the tests below say about the parsed message with an array of 10, in one evaluation (the kernel
    parses the message once) -/
theorem exM10 : ((exM 10).request = true ∧
      (exM 10).pv.callid.callID.get? (msgBuf (exM 10) exMsg) = some "x@1.2.3.4".toUTF8.data ∧
      (exM 10).pv.from_.tag.get? (msgBuf (exM 10) exMsg) = some "a-1".toUTF8.data) ∧
    FlagsCover (exM 10).hl.pflags (exM 10).hl.hdrs.toList ∧
    (firsts (exM 10) exMsg).map (fun k => (k.type, k.compact)) =
      [(HdrVia, false), (HdrFrom, true), (HdrTo, false), (HdrCallID, false), (HdrCSeq, false)] ∧
    getMsgSigCore (exM 10) exMsg =
      ({ method := 2, cidSLen := 1, cidSig := 10, fromSig := 64, viaBSig := 80, hdrSig := [6, 11, 5, 0, 2] },
       .ok, false) := by unfold FlagsCover; decide +kernel

/-- test: the hypotheses of `factorisation` hold for the parsed message (array of 10) -/
example : (exM 10).request = true ∧
    (exM 10).pv.callid.callID.get? (msgBuf (exM 10) exMsg) = some "x@1.2.3.4".toUTF8.data ∧
    (exM 10).pv.from_.tag.get? (msgBuf (exM 10) exMsg) = some "a-1".toUTF8.data := exM10.1

theorem exCovered : Covered (exM 10) := exM10.2.1

/-- test: its restricted view: Via, From (compact), To, Call-ID, CSeq — no Subject, no second Via, no Content-Length,
    none of the two unused array entries -/
example : (firsts (exM 10) exMsg).map (fun k => (k.type, k.compact)) =
    [(HdrVia, false), (HdrFrom, true), (HdrTo, false), (HdrCallID, false), (HdrCSeq, false)] := exM10.2.2.1

/-- test: its signature -/
example : getMsgSigCore (exM 10) exMsg =
    ({ method := 2, cidSLen := 1, cidSig := 10, fromSig := 64, viaBSig := 80, hdrSig := [6, 11, 5, 0, 2] },
     .ok, false) := exM10.2.2.2

/-- test: the rendering of that signature: 18 + 5 characters -/
example : ({ method := 2, cidSLen := 1, cidSig := 10, fromSig := 64, viaBSig := 80,
             hdrSig := [6, 11, 5, 0, 2] } : MsgSig).toStr = "26b502I000a01F0040V0050" := by decide +kernel

/-- the test message and the parsed objects are those of the tests of `Sipsp.Proofs.SigCompose` -/
theorem exMsg_eq : exMsg = scTestMsg := rfl

theorem exM_eq (k : Nat) : exM k = (parseSIPMsg scTestMsg 0 (scTestInit k) 0).2.2 := by
  rw [exM, scTestInit, exMsg_eq, Option.map_some, Option.map_none]

/-- test (5): an array of 3 for 8 headers: truncated indication, entries of the stored part only -/
example : (exM 3).hl.n = 8 ∧ (exM 3).hl.hdrs.size = 3 ∧ getMsgSigCore (exM 3) exMsg =
    ({ method := 2, cidSLen := 1, cidSig := 10, fromSig := 64, viaBSig := 80, hdrSig := [6, 11] },
     .trunc, false) := by
  rw [exM_eq, exMsg_eq]
  exact ⟨scTest_parse3.2.1, (sc_size_parseSIPMsg _ 0 _ 0).trans (Array.size_replicate ..), scTest_parse3.2.2⟩

/-- test (5), the observation of the header comment: an array of 6 holds every fingerprinted header of the message
    (the signature is complete), still the verdict is Trunc — the non-fingerprinted Subject header sits in `seen` -/
example : getMsgSigCore (exM 6) exMsg =
    ({ method := 2, cidSLen := 1, cidSig := 10, fromSig := 64, viaBSig := 80, hdrSig := [6, 11, 5, 0, 2] },
     .trunc, false) := by decide +kernel

/-- test (1): a parsed status line is not a request -/
example : ({ fl := (parseFLine "SIP/2.0 200 OK\r\nX".toUTF8.data 0 {}).2.2 } : PSIPMsg).request = false := by
  decide +kernel

/-- use of (3a): an extra header of type "other" (e.g. another Subject) at position 2, any count -/
example (x : Hdr) (hx : x.type = HdrOther) (n' : Nat) :
    (getMsgSigCore (withHdrs (exM 10) ((exM 10).hl.hdrs.toList.take 2 ++ x :: (exM 10).hl.hdrs.toList.drop 2) n')
      exMsg).1 = (getMsgSigCore (exM 10) exMsg).1 :=
  (edit_insert_other (exM 10) exMsg _ _ x n' exCovered (List.take_append_drop 2 _).symm
    (by rw [hx]; decide)).1

/-- test: `Covered` is needed in `factorisation` — a hand-made object whose flag word has the From bit only, with
    From and To stored: the loop stops after From ("all flagged types seen") -/
def exUncovered : PSIPMsg :=
  { hl := { pflags := 2, n := 2, hdrs := #[{ type := HdrFrom, name := ⟨0, 4⟩ }, { type := HdrTo, name := ⟨0, 2⟩ }] } }

example : (getMsgSigCore exUncovered #[]).1.hdrSig = [3] ∧
    (sigOfView 0 #[] #[] (firsts exUncovered #[])).hdrSig = [3, 5] := by decide +kernel

/-! ### composition with chunking (C01) and capacities (C13) (proved in `Sipsp.Proofs.SigCompose`) -/

/-- **every chunk schedule from Init that ends with OK** gives the object — hence the signature, verdict and panic
    flag of GetMsgSig on any buffer — that the fresh one-shot calls on the same prefixes give -/
theorem sig_chunking : type_of% @Sipsp.sc_sig_chunking := @Sipsp.sc_sig_chunking

/-- **a complete message handed over in ANY number of pieces** (each earlier piece boundary leaves an incomplete
    message: the one-shot verdict on that prefix is MoreBytes; the whole buffer `B` = last element parses OK): the
    chain of resumed calls returns exactly what ONE call on `B` returns — offset, verdict, object — and so
    GetMsgSig gives the same signature, verdict and panic flag -/
theorem sig_chunking_whole : type_of% @Sipsp.sc_sig_chunking_whole := @Sipsp.sc_sig_chunking_whole

/-- … hence two different ways of cutting the same complete message give the same signature (and the same object) -/
theorem sig_two_schedules : type_of% @Sipsp.sc_sig_two_schedules := @Sipsp.sc_sig_two_schedules

/-- **two header arrays that both hold all headers of the message**: the same signature, verdict (OK) and panic
    flag. `MsgDone` is the relation the capacity theorems (C13) establish between the results of two runs with
    different capacities; `ScDone` holds after every successful parse (`sc_parseSIPMsg`, `sc_resumeRun`). -/
theorem sig_capacity_fit : type_of% @Sipsp.sc_sig_fit := @Sipsp.sc_sig_fit

/-- **a header array too small for the message** compared with any array at least as large (too small as well, or
    large enough): GetMsgSig gives the explicit truncated indication, or else exactly the same result — signature,
    verdict, panic flag — as with the larger array -/
theorem sig_capacity_small : type_of% @Sipsp.sc_sig_small := @Sipsp.sc_sig_small

/-- **capacities, any chunk schedule, from Init**: two runs over the same chunk schedule on objects initialised
    with ANY two header / contact capacities (or none = the private arrays of 10), the first one ending with OK:
    the second one ends with OK at the same offset with the same header count `n`; the arrays keep their capacities;
    * if both capacities hold all `n` headers, GetMsgSig gives the same result (signature, verdict OK, panic flag);
    * if the first capacity is too small and the second is not smaller, GetMsgSig on the first object gives the
      truncated indication, or else exactly the result on the second object. -/
theorem sig_capacity : type_of% @Sipsp.sc_sig_capacity := @Sipsp.sc_sig_capacity

/-! ### what the character-class functions compute (proved in `Sipsp.Proofs.SigChars`) -/

/-- **`getStrCharsSig s 0 0` is `scSig s`, for every byte string** (no extra bytes skipped) -/
theorem strsig_eq : type_of% @Sipsp.getStrCharsSig_eq := @Sipsp.getStrCharsSig_eq

/-- **the bits of `scSig`**: bits 3–12 are the class bits; bit 13 (hex encoding), bit 15 (digit blocks), bit 14
    (base64) as stated; no other bit -/
theorem strsig_bits : type_of% @Sipsp.scSig_testBit := @Sipsp.scSig_testBit

/-- **class bits of `getStrCharsSig s 0 0`**: the bit of a reserved byte is set iff the byte occurs in `s` -/
theorem strsig_class_bit : type_of% @Sipsp.getStrCharsSig_class_bit := @Sipsp.getStrCharsSig_class_bit

/-- bits 0–2 (the IP-position bits) and bits above 15 are never set by `getStrCharsSig s 0 0` -/
theorem strsig_no_other_bit : type_of% @Sipsp.getStrCharsSig_no_other_bit := @Sipsp.getStrCharsSig_no_other_bit

/-- order independence of the class bits (bits 0–12): permuting the bytes does not change them. The three
    encoding bits 13–15 ARE positional (see the examples below). -/
theorem strsig_perm_low : type_of% @Sipsp.getStrCharsSig_perm_low := @Sipsp.getStrCharsSig_perm_low

/-- monotonicity under concatenation, class bits: the class bits of `s ++ t` are the union of those of `s`, `t` -/
theorem strsig_append_low : type_of% @Sipsp.getStrCharsSig_append_low := @Sipsp.getStrCharsSig_append_low

/-- the result of `getStrCharsSig` with any excluded span: the class of the bytes outside the span, possibly with
    some of the three encoding flags (bits 13–15); and the count of skipped neighbours -/
theorem strsig_span : type_of% @Sipsp.getStrCharsSig_span := @Sipsp.getStrCharsSig_span

/-- **class bits with an excluded span**: for k = 3 … 12 the bit is set iff the corresponding reserved byte occurs
    OUTSIDE the span; bits 0–2 are never set -/
theorem strsig_span_bit : type_of% @Sipsp.getStrCharsSig_span_bit := @Sipsp.getStrCharsSig_span_bit

/-- no `;` in the Via value: no parameters, empty signature -/
theorem viabr_no_semicolon : type_of% @Sipsp.getViaBrSig_no_semicolon := @Sipsp.getViaBrSig_no_semicolon

/-- the parameters are read from the byte after the FIRST `;` -/
theorem viabr_first_semicolon : type_of% @Sipsp.getViaBrSig_first_semicolon := @Sipsp.getViaBrSig_first_semicolon

/-- **`GetViaBrSig` on a Via value `sent-protocol sent-by ; params`** (first `;` at `s`, then a parameter list of the
    C17 grammar with separator `;`, ended by `,` or the end of the value): the signature is that of the value of
    the FIRST parameter called `branch` (case-insensitive), without the magic cookie; an empty or missing value, or
    no such parameter, gives the empty signature; a later `branch` is ignored; Go does not panic -/
theorem viabr_glist : type_of% @Sipsp.getViaBrSig_glist := @Sipsp.getViaBrSig_glist

/-- a later `branch` is ignored: the result depends only on the list up to and including the first `branch` -/
theorem viabr_first_branch : type_of% @Sipsp.scViaResult_first := @Sipsp.scViaResult_first

theorem viabr_no_branch : type_of% @Sipsp.scViaResult_none := @Sipsp.scViaResult_none

/-- **C19 in its own words**: two requests that agree on the method, on the first occurrences of the fingerprinted
    headers (type and long / compact form, in order), on the Call-ID signature and short length, on the From-tag
    signature and on the branch signature of the first Via have the same signature — whatever the bytes of
    Call-ID, From-tag and Via are, and whatever else differs -/
theorem same_classes_same_signature : type_of% @Sipsp.getMsgSig_same_classes := @Sipsp.getMsgSig_same_classes

/-! ### the coverage hypothesis discharged for every parser output (proved in `Sipsp.Proofs.SigCovered`) -/

/-- **`Covered` after ParseHeaders, ANY values object** (typed headers included; no size bound): the list object
    satisfies the two invariants (`ScTail`: the slots after the current one are untouched and the current one has no
    type while in its initial state; `SvCov`) — every new / reset list of any capacity does, and so does a list
    returned by a suspended call; if ParseHeaders says OK the flag word covers every fingerprinted stored type -/
theorem covered_any_values : type_of% @Sipsp.covered_any_values := @Sipsp.covered_any_values

/-- … for a new list object of any capacity `k` -/
theorem covered_any_values_new : type_of% @Sipsp.covered_any_values_new := @Sipsp.covered_any_values_new

/-- **`Covered` after one successful ParseSIPMsg call** on an object satisfying the invariants (any buffer, offset,
    flags; the call may complete a message suspended earlier) -/
theorem covered_after_parse : type_of% @Sipsp.covered_parseSIPMsg := @Sipsp.covered_parseSIPMsg

/-- **after ANY history of the object** (no size bound, no legitimacy hypothesis: the flag word and the stored types
    are kept consistent by every call) -/
theorem covered_after_history : type_of% @Sipsp.covered_after_history := @Sipsp.covered_after_history

/-- **every chunk schedule from Init that ends with OK** -/
theorem covered_schedule_init : type_of% @Sipsp.covered_schedule_init := @Sipsp.covered_schedule_init

/-- **factorisation for every successfully parsed request** (C19 `factorisation` without `Covered`) -/
theorem factorisation_unconditional : type_of% @Sipsp.svc_factorisation := @Sipsp.svc_factorisation

/-- **two successfully parsed requests** (each the result of a successful call after any history — in particular of
    any chunk schedule from Init, with any capacities) with the same method, the same Call-ID and From-tag bytes and
    the same restricted view have the same signature and the same "Go would panic" flag: no side condition on the
    flag words left -/
theorem same_view_same_signature_unconditional : type_of% @Sipsp.svc_same_view_same_signature := @Sipsp.svc_same_view_same_signature

/-! ### GetMsgSig = completeness guard + core (proved in `Sipsp.Proofs.SigGuard`) -/

/-- on a completely parsed message (final state, or the "Content-Length required but missing" end state) the signature
    function is its core -/
theorem sig_is_core_when_complete : type_of% @Sipsp.getMsgSig_complete := @Sipsp.getMsgSig_complete

/-- a reply never has a signature -/
theorem sig_reply_empty : type_of% @Sipsp.getMsgSig_reply_empty := @Sipsp.getMsgSig_reply_empty

/-! ### the completeness guard is transparent for completed messages (proved in `Sipsp.Proofs.SigGuardSafe`) -/

/-- **after OK, GetMsgSig IS the function all the signature theorems are about** (any call, any object, any buffer
    handed to the signature function) -/
theorem sig_guard_transparent : type_of% @Sipsp.sig_guard_transparent := @Sipsp.sig_guard_transparent

/-- **every chunk schedule that ends with OK** (any start object, any buffers): GetMsgSig is its core on the result -/
theorem sig_guard_transparent_schedule : type_of% @Sipsp.sig_guard_transparent_schedule := @Sipsp.sig_guard_transparent_schedule

/-- … and after "Content-Length required but missing" -/
theorem sig_guard_transparent_noclen : type_of% @Sipsp.sig_guard_transparent_noCLen := @Sipsp.sig_guard_transparent_noCLen

end Sipsp.C19
