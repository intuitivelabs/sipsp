/-
  Property C20 — IPv4 detection is sound and complete; decoded address bytes are exact.

  Proved here for texts of ANY length (the property's quantifier enumerates lengths up to 10–11 and samples longer
  ones):
    * `contains_iff`  : ContainsIP4 reports an address ⇔ the text contains a substring of four dot-separated groups
                        of one to three digits, each at most 255 (`IsIP4`);
    * `contains_span` : the span it reports is such a substring, and its four groups are the returned bytes;
    * `prefix_iff`    : IP4Prefix accepts ⇔ the text starts with such a group sequence;
    * `prefix_span`, `prefix_indications` : the accepted prefix is a group sequence with the returned bytes, and the
                        verdict tells what follows it: end of input (Ok), a digit (MoreValues), another byte (BadChar).
    * `prefix_is_longest`, `prefix_stops_at_first_bad_byte`, `contains_span_is_longest`,
      `contains_span_cannot_grow`, `contains_is_leftmost` : the accepted prefix / reported span is the LONGEST group
      sequence at that position, the byte after it (when there is one and the verdict is not Ok) cannot extend any
      group sequence whatever follows, and ContainsIP4 reports the leftmost position at which a match starts.
  The Call-ID signature (`Sipsp.Proofs.SigChars`): `contains_iff_leftmost_longest` (ContainsIP4 reports exactly the
  leftmost dotted quad, taken as long as possible), `callid_ip4_bits`: for that quad `[o, o+n)` exactly one position bit
  is set — bit 0 iff it starts the Call-ID, bit 1 iff it ends it (and does not start it), bit 2 otherwise —, bits 3–12 are
  the classes of the bytes OUTSIDE the quad; `callid_ip4_len` (the short length counts the bytes outside the address and
  its reserved neighbours, in units of 4, capped at 255); `callid_noip`, `callid_flags_need_ip` (position bits only
  when an IPv4 or IPv6 address is reported), `callid_ip6` (the IPv6 fallback in terms of the model's ContainsIP6).
  Not proved: ContainsIP6 / IP6Prefix address correctness (no property asks for it; safety is C04).
  Model tied to ip_prefix.go by the correspondence check (functions `ip4prefix`, `containsip4`).
-/
import Sipsp.Proofs.IP4
import Sipsp.Proofs.IP4Longest
import Sipsp.Proofs.SigChars

namespace Sipsp.C20
open Sipsp

/-- the text contains an address somewhere -/
def HasIP4 (b : Buf) : Prop := ∃ p l t a0 a1 a2 a3, IsIP4 l a0 a1 a2 a3 ∧ b.toList.drop p = l ++ t

theorem contains_iff (b : Buf) : (containsIP4 b).isSome = true ↔ HasIP4 b := by
  rw [Option.isSome_iff_ne_none, Ne, scContainsIP4_none_iff, Classical.not_not]; rfl

theorem contains_span (b : Buf) {o n : Nat} {ip : Array Nat} (h : containsIP4 b = some (o, n, ip)) :
    o + n ≤ b.size ∧ IsIP4 ((b.toList.drop o).take n) ip[0]! ip[1]! ip[2]! ip[3]! :=
  ⟨(scContainsIP4_ll b h).1.1, (containsIP4_some b h).2⟩

theorem prefix_iff (b : Buf) :
    (ip4Prefix b).1 = true ↔ ∃ l t a0 a1 a2 a3, IsIP4 l a0 a1 a2 a3 ∧ b.toList = l ++ t := by
  constructor
  · intro h
    rcases hp : ip4Prefix b with ⟨ok, n, e, ip⟩
    rw [hp] at h
    simp only at h
    subst h
    exact ⟨_, b.toList.drop n, _, _, _, _, (ip4Prefix_sound b hp).2.1, (List.take_append_drop n b.toList).symm⟩
  · rintro ⟨l, t, a0, a1, a2, a3, h1, h2⟩
    exact ip4PrefixAt_complete b 0 l t a0 a1 a2 a3 h1 (by simpa using h2)

theorem prefix_span (b : Buf) {n : Nat} {e : Err} {ip : Array Nat} (h : ip4Prefix b = (true, n, e, ip)) :
    n ≤ b.size ∧ IsIP4 (b.toList.take n) ip[0]! ip[1]! ip[2]! ip[3]! :=
  ⟨(ip4Prefix_sound b h).1, (ip4Prefix_sound b h).2.1⟩

theorem prefix_indications (b : Buf) {n : Nat} {e : Err} {ip : Array Nat} (h : ip4Prefix b = (true, n, e, ip)) :
    (e = .ok ∨ e = .moreValues ∨ e = .badChar) ∧
    (e = .ok → n = b.size) ∧
    (e = .moreValues → ∃ c, b[n]? = some c ∧ IsDigitB c) ∧
    (e = .badChar → ∃ c, b[n]? = some c ∧ ¬ IsDigitB c) :=
  (ip4Prefix_sound b h).2.2

/-- the accepted length is exactly the maximum: `take n` is a group sequence with the returned bytes, and no prefix
    of the text that is a group sequence is longer -/
theorem prefix_is_longest (b : Buf) {n : Nat} {e : Err} {ip : Array Nat} (h : ip4Prefix b = (true, n, e, ip)) :
    (n ≤ b.size ∧ IsIP4 (b.toList.take n) ip[0]! ip[1]! ip[2]! ip[3]!) ∧
      ∀ m, m ≤ b.size → (∃ a0 a1 a2 a3, IsIP4 (b.toList.take m) a0 a1 a2 a3) → m ≤ n := ip4Prefix_is_max b h

/-- "stops at the first byte that cannot extend it": with a verdict other than Ok, the accepted bytes followed by the
    next byte do not begin any group sequence, whatever is appended -/
theorem prefix_stops_at_first_bad_byte (b : Buf) {n : Nat} {e : Err} {ip : Array Nat}
    (h : ip4Prefix b = (true, n, e, ip)) (he : e ≠ .ok) (u : List UInt8) (a0 a1 a2 a3 : Nat) :
    ¬ IsIP4 (b.toList.take (n + 1) ++ u) a0 a1 a2 a3 := ip4Prefix_stop_byte b h he u a0 a1 a2 a3

theorem contains_span_is_longest (b : Buf) {o n : Nat} {ip : Array Nat} (h : containsIP4 b = some (o, n, ip))
    (l t : List UInt8) (a0 a1 a2 a3 : Nat) (hl : IsIP4 l a0 a1 a2 a3) (hd : b.toList.drop o = l ++ t) :
    l.length ≤ n := containsIP4_longest b h l t a0 a1 a2 a3 hl hd

theorem contains_span_cannot_grow (b : Buf) {o n : Nat} {ip : Array Nat} (h : containsIP4 b = some (o, n, ip))
    (hlt : o + n < b.size) (u : List UInt8) (a0 a1 a2 a3 : Nat) :
    ¬ IsIP4 ((b.toList.drop o).take (n + 1) ++ u) a0 a1 a2 a3 := containsIP4_stop_byte b h hlt u a0 a1 a2 a3

theorem contains_is_leftmost (b : Buf) {o n : Nat} {ip : Array Nat} (h : containsIP4 b = some (o, n, ip))
    (p : Nat) (l t : List UInt8) (a0 a1 a2 a3 : Nat) (hl : IsIP4 l a0 a1 a2 a3) (hd : b.toList.drop p = l ++ t) :
    o ≤ p := containsIP4_leftmost b h p l t a0 a1 a2 a3 hl hd


/-! ### non-vacuity -/
example : ip4Prefix "10.0.255.7".toUTF8.data = (true, 10, .ok, #[10, 0, 255, 7]) := by decide +kernel
example : IsIP4 ("10.0.255.7".toUTF8.data.toList.take 10) 10 0 255 7 :=
  (prefix_span "10.0.255.7".toUTF8.data (n := 10) (e := .ok) (ip := #[10, 0, 255, 7]) (by decide +kernel)).2
example : containsIP4 "x256.1.1.1".toUTF8.data = some (2, 8, #[56, 1, 1, 1]) := by decide +kernel

/-! ### the Call-ID signature: IP position flags (proved in `Sipsp.Proofs.SigChars`) -/

/-- ContainsIP4 reports exactly the leftmost dotted quad, as long as possible -/
theorem contains_iff_leftmost_longest : type_of% @Sipsp.scContainsIP4_iff_ll := @Sipsp.scContainsIP4_iff_ll

/-- **IP-position flags of the Call-ID signature, IPv4**: when the Call-ID contains a dotted quad, let `[o, o+n)` be
    its leftmost occurrence (as long as possible). Then exactly one of the three position bits is set: bit 0 iff it
    starts the Call-ID, bit 1 iff it does not but ends it, bit 2 otherwise. Bits 3–12 are the class bits of the
    bytes OUTSIDE `[o, o+n)`. No "Go would panic" indication. -/
theorem callid_ip4_bits : type_of% @Sipsp.getCallIDSig_ip4_bits := @Sipsp.getCallIDSig_ip4_bits

/-- **the short length of the Call-ID signature, IPv4**: a quarter (rounded up, at most 255) of the length of the
    Call-ID without the leftmost dotted quad and without the reserved byte directly before it and the reserved
    byte directly after it (when there are such bytes) -/
theorem callid_ip4_len : type_of% @Sipsp.getCallIDSig_ip4_len := @Sipsp.getCallIDSig_ip4_len

/-- **no address**: without a dotted quad and with ContainsIP6 finding nothing, no position bit is set and the
    signature is that of the whole Call-ID (`scSig`); the short length is a quarter of the length, at most 255 -/
theorem callid_noip : type_of% @Sipsp.getCallIDSig_noip_eq := @Sipsp.getCallIDSig_noip_eq

/-- the position bits are set only when ContainsIP4 or ContainsIP6 reports an address -/
theorem callid_flags_need_ip : type_of% @Sipsp.getCallIDSig_flags_need_ip := @Sipsp.getCallIDSig_flags_need_ip

theorem callid_ip6 : type_of% @Sipsp.getCallIDSig_ip6 := @Sipsp.getCallIDSig_ip6

end Sipsp.C20
