/-
  Sipsp.Tie — ties the constants hard-wired in the hand-written model to the constants REGENERATED
  from the Go sources on every run (Sipsp.Generated.Facts). If a constant of the source changes, this
  file stops building and every property check reports it.
-/
import Sipsp.Model.Sig
import Sipsp.Model.URI

namespace Sipsp.Tie
open Sipsp

theorem errs : [Err.ok, .eoh, .empty, .moreBytes, .moreValues, .noCR, .badChar, .params, .bad, .valNotNumber,
      .valTooLong, .valBad, .numTooBig, .trunc, .noCLen, .bug, .convBug, .tooManyVals].map Err.toNat =
    [Gen.C.ErrHdrOk, Gen.C.ErrHdrEOH, Gen.C.ErrHdrEmpty, Gen.C.ErrHdrMoreBytes, Gen.C.ErrHdrMoreValues,
     Gen.C.ErrHdrNoCR, Gen.C.ErrHdrBadChar, Gen.C.ErrHdrParams, Gen.C.ErrHdrBad, Gen.C.ErrHdrValNotNumber,
     Gen.C.ErrHdrValTooLong, Gen.C.ErrHdrValBad, Gen.C.ErrHdrNumTooBig, Gen.C.ErrHdrTrunc, Gen.C.ErrHdrNoCLen,
     Gen.C.ErrHdrBug, Gen.C.ErrConvBug, Gen.C.ErrHdrTooManyVals] := by decide

theorem uerrs : [UErr.none, .badChar, .scheme, .host, .port, .headers, .tooShort, .bad, .bug].map UErr.toNat =
    [Gen.C.NoURIErr, Gen.C.ErrURIBadChar, Gen.C.ErrURIScheme, Gen.C.ErrURIHost, Gen.C.ErrURIPort,
     Gen.C.ErrURIHeaders, Gen.C.ErrURITooShort, Gen.C.ErrURIBad, Gen.C.ErrURIBug] := by decide

theorem hdrTypes : [HdrNone, HdrFrom, HdrTo, HdrCallID, HdrCSeq, HdrVia, HdrMaxFwd, HdrCLen, HdrContact, HdrExpires,
      HdrUA, HdrRecordRoute, HdrRoute, HdrPAI, HdrOther] =
    [Gen.C.HdrNone, Gen.C.HdrFrom, Gen.C.HdrTo, Gen.C.HdrCallID, Gen.C.HdrCSeq, Gen.C.HdrVia, Gen.C.HdrMaxFwd,
     Gen.C.HdrCLen, Gen.C.HdrContact, Gen.C.HdrExpires, Gen.C.HdrUA, Gen.C.HdrRecordRoute, Gen.C.HdrRoute,
     Gen.C.HdrPAI, Gen.C.HdrOther] := by decide

theorem methods : [MUndef, MInvite, MOther] = [Gen.C.MUndef, Gen.C.MInvite, Gen.C.MOther] := by decide

theorem popts : [POptTokCommaTermF, POptTokQmTermF, POptTokSpTermF, POptInputEndF, POptParamSemiSepF,
      POptParamAmpSepF, POptTokURIParamF, POptTokURIHdrF] =
    [Gen.C.POptTokCommaTermF, Gen.C.POptTokQmTermF, Gen.C.POptTokSpTermF, Gen.C.POptInputEndF,
     Gen.C.POptParamSemiSepF, Gen.C.POptParamAmpSepF, Gen.C.POptTokURIParamF, Gen.C.POptTokURIHdrF] := by decide

theorem msgFlags : [SIPMsgSkipBodyF, SIPMsgCLenReqF, SIPMsgNoMoreDataF] =
    [Gen.C.SIPMsgSkipBodyF, Gen.C.SIPMsgCLenReqF, Gen.C.SIPMsgNoMoreDataF] := by decide

theorem uriParamFlags : [URIParamNone, URIParamTransportF, URIParamUserF, URIParamMethodF, URIParamTTLF,
      URIParamMaddrF, URIParamLRF, URIParamOtherF] =
    [Gen.C.URIParamNone, Gen.C.URIParamTransportF, Gen.C.URIParamUserF, Gen.C.URIParamMethodF,
     Gen.C.URIParamTTLF, Gen.C.URIParamMaddrF, Gen.C.URIParamLRF, Gen.C.URIParamOtherF] := by decide

theorem uriCmpFlags : [URICmpSkipPort, URICmpSkipScheme, URICmpSkipUser, URICmpSkipPass, URICmpSkipParams,
      URICmpSkipHeaders] =
    [Gen.C.URICmpSkipPort, Gen.C.URICmpSkipScheme, Gen.C.URICmpSkipUser, Gen.C.URICmpSkipPass,
     Gen.C.URICmpSkipParams, Gen.C.URICmpSkipHeaders] := by decide

theorem uriTypes : [INVALIDuri, SIPuri, SIPSuri, TELuri] =
    [Gen.C.INVALIDuri, Gen.C.SIPuri, Gen.C.SIPSuri, Gen.C.TELuri] := by decide

theorem sigFlags : [SigIPStartF, SigIPEndF, SigIPMiddleF, SigHasAtF, SigHasDotF, SigHasColonF, SigHasDashF,
      SigHasStarF, SigHasDivF, SigHasPlusF, SigHasEqF, SigHasUnderF, SigHasPipeF, SigHexEncF, SigB64EncF,
      SigDigBlocksF] =
    [Gen.C.SigIPStartF, Gen.C.SigIPEndF, Gen.C.SigIPMiddleF, Gen.C.SigHasAtF, Gen.C.SigHasDotF,
     Gen.C.SigHasColonF, Gen.C.SigHasDashF, Gen.C.SigHasStarF, Gen.C.SigHasDivF, Gen.C.SigHasPlusF,
     Gen.C.SigHasEqF, Gen.C.SigHasUnderF, Gen.C.SigHasPipeF, Gen.C.SigHexEncF, Gen.C.SigB64EncF,
     Gen.C.SigDigBlocksF] := by decide

theorem limits : [MaxCLenValueSize, MaxClenValue, MaxCSeqNValueSize, HdrSigIdCMask, viaBrFlags] =
    [Gen.C.MaxCLenValueSize, Gen.C.MaxClenValue, Gen.C.MaxCSeqNValueSize, Gen.C.HdrSigIdCMask,
     Gen.C.GetViaBrSig_flags] := by decide

theorem maxCSeq : Gen.C.MaxCSeqNValue = 4294967295 := by decide

theorem sipVer : Gen.byteLits.lookup "sipVerSP" = some sipVerSP := by decide

/-- the state ranges of ParseHdrLine and ParseTokenParam: first state 0, last state 14 / 10, i.e. as many states as the
    model has; the numbering in between is not observable and is not compared -/
theorem hdrLineStates : [Gen.C.ParseHdrLine_hInit, Gen.C.ParseHdrLine_hFIN] = [0, 14] := by decide
theorem tokParamStates : [Gen.C.ParseTokenParam_paramInit, Gen.C.ParseTokenParam_paramFIN] = [0, 10] := by decide

/-- no shared mutable state: no write to a package-level variable outside init(), no goroutines -/
theorem noSharedWrites : Gen.pkgVarWrites = [] ∧ Gen.goStmts = [] := by decide

theorem noUnsafeOrSync : (Gen.imports.filter (fun s => s == "unsafe" || s == "sync" || s == "sync/atomic")) = [] := by decide

end Sipsp.Tie
