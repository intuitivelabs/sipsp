/-
  Sipsp.TieFuncs — the second tie between model and code: leaf functions TRANSLATED from the Go sources on every run
  (/verif/extract/funcs.go → Sipsp/Generated/Funcs.lean, namespace `Sipsp.Gen.F`) are proved equal to the functions of
  the hand-written model, for ALL arguments. For these functions the model is therefore not merely compared with the
  implementation on generated inputs: the kernel re-checks, against what the source says now, that the model computes
  the same function as the translated source text. Trusted here: the translator (funcs.go, a scalar subset
  of Go, loop-free but for the scanning loop below) and `Sipsp.GoSem`.
  Methods with a pointer receiver to a STRUCT whose scalar fields they assign are translated as "fields in, assigned
  fields out"; a `panic(...)` statement is `none`.
  A SCANNING LOOP `for ; cond; i++ { }` becomes a recursive function over explicit fuel (len(buf) + 1); running out of
  fuel is `none`, so a tie `= some …` also shows that the loop ends within its fuel; a call of an already translated
  function is a call of its translation.
  Functions that READ a byte slice (`len`, `buf[i]`) are translated into `Option`: `none` is Go's index-out-of-range
  panic; the tie then also says that the function never panics.
  Finite domains are settled by `decide` over the whole domain (complete: such a proof can only fail when the two
  functions really differ); 64-bit flag words are first reduced to the one bit the function looks at.
  This module is built by the check as a SOFT obligation: when a function leaves the translatable subset or a tie no
  longer checks, the check says so in its evidence and falls back on the differential correspondence for that
  function (which is exhaustive for these leaves: all 256 bytes × both flag values, all header types), so a harmless
  rewrite of a leaf cannot raise an alarm by itself.
  The lines `-- TIE: <Go function>` are read by the check: from them it builds its table "Go function ↦ the theorem that
  states translated = model for ALL arguments" (the theorem that follows the line, after an optional docstring), audits
  the axioms of these theorems and reports which translated functions are not tied.  They are not comments to tidy up.
-/
import Sipsp.Generated.Funcs
import Sipsp.Model.Sig
import Sipsp.Model.URI
import Sipsp.Model.Lex
import Sipsp.Proofs.Scan
import Sipsp.Proofs.EqFold

namespace Sipsp.TieFuncs
open Sipsp

private theorem u64_bne0 (x : UInt64) : (x != 0) = (x.toNat != 0) := by
  rw [Bool.eq_iff_iff, bne_iff_ne, bne_iff_ne, Ne, Ne, ← UInt64.toNat_inj]; rfl

-- TIE: tokAllowedChar
/-- `tokAllowedChar` (parse_params.go) as translated from the source = the model's function, for every byte and every
    64-bit option word. -/
theorem tokAllowedChar_tie (c : UInt8) (flags : UInt64) :
    Gen.F.tokAllowedChar c flags = Sipsp.tokAllowedChar c flags.toNat := by
  have hbit : hasFlag flags.toNat POptTokURIParamF = ((flags &&& 64) != 0) := by
    rw [u64_bne0, UInt64.toNat_and]; rfl
  unfold Gen.F.tokAllowedChar Sipsp.tokAllowedChar
  -- the option word enters both sides as one Boolean: 256 bytes × its two values
  rw [hbit]
  generalize ((flags &&& 64) != 0) = bit
  revert c bit
  exact forall_byte (by decide +kernel)


-- TIE: resCharSigFlag
/-- `resCharSigFlag` (msg_sig.go), every byte -/
theorem resCharSigFlag_tie (c : UInt8) : (Gen.F.resCharSigFlag c).toNat = Sipsp.resCharSigFlag c :=
  forall_byte (P := fun c => (Gen.F.resCharSigFlag c).toNat = Sipsp.resCharSigFlag c) (by decide +kernel) c

private theorem u16_beq (h k : UInt16) : (h == k) = (h.toNat == k.toNat) := by
  rw [Bool.eq_iff_iff, beq_iff_eq, beq_iff_eq, ← UInt16.toNat_inj]

-- TIE: multipleValsOk
/-- `multipleValsOk` (parse_from.go): every 16-bit header type; the `==` cascade is `contains` of the regenerated case list -/
theorem multipleValsOk_tie (h : UInt16) : Gen.F.multipleValsOk h = Sipsp.multipleValsOk h.toNat := by
  unfold Gen.F.multipleValsOk Sipsp.multipleValsOk Gen.multipleVals
  simp only [u16_beq, List.contains_cons, List.contains_nil, Bool.or_false, Bool.or_assoc]
  rw [(by decide : ∀ x : Bool, (if x = true then true else false) = x)]; rfl

private theorem natcast_beq0 (n : Nat) : (((n : Int)) == 0) = (n == 0) := by
  rw [Bool.eq_iff_iff, beq_iff_eq, beq_iff_eq]; exact Int.natCast_eq_zero

private theorem natcast_pos (n : Nat) : decide ((n : Int) > 0) = decide (n > 0) :=
  decide_eq_decide.mpr Int.natCast_pos

private theorem u16_beq0 (l : UInt16) : (l == 0) = (l.toNat == 0) := by
  rw [Bool.eq_iff_iff, beq_iff_eq, beq_iff_eq, ← UInt16.toNat_inj]; rfl

private theorem u16_ofNat_beq0 (n : Nat) (h : n < 65536) : (UInt16.ofNat n == 0) = (n == 0) := by
  rw [u16_beq0, UInt16.toNat_ofNat', Nat.mod_eq_of_lt h]

-- TIE: PField.Empty
/-- `PField.Empty` (parse_types.go) -/
theorem pfieldEmpty_tie (l : UInt16) : Gen.F.PField_Empty l = ({ offs := 0, len := l.toNat } : PField).isEmpty :=
  u16_beq0 l

/-! the `N == 0` / `N > 0` predicates of the four value lists (parse_contact.go, parse_pai.go, parse_uri_*.go) -/

-- TIE: PContacts.Empty
theorem contactsEmpty_tie (c : PContacts) : Gen.F.PContacts_Empty (Int.ofNat c.n) = c.isEmpty := natcast_beq0 c.n
-- TIE: PContacts.Parsed
theorem contactsParsed_tie (c : PContacts) : Gen.F.PContacts_Parsed (Int.ofNat c.n) = c.parsed := natcast_pos c.n
-- TIE: PPAIs.Empty
theorem paisEmpty_tie (c : PPAIs) : Gen.F.PPAIs_Empty (Int.ofNat c.n) = c.isEmpty := natcast_beq0 c.n
-- TIE: PPAIs.Parsed
theorem paisParsed_tie (c : PPAIs) : Gen.F.PPAIs_Parsed (Int.ofNat c.n) = c.parsed := natcast_pos c.n
-- TIE: URIParamsLst.Empty
theorem uriParamsEmpty_tie (l : URIParamsLst) : Gen.F.URIParamsLst_Empty (Int.ofNat l.n) = l.isEmpty :=
  natcast_beq0 l.n
-- TIE: URIHdrsLst.Empty
theorem uriHdrsEmpty_tie (l : URIHdrsLst) : Gen.F.URIHdrsLst_Empty (Int.ofNat l.n) = l.isEmpty := natcast_beq0 l.n

/-- `HdrFlags.Set` (parse_headers.go) = the bookkeeping step of the model's ParseHeaders (`pflags ||| 1 <<< type`,
    reduced to 16 bits), for every flag word and every header type below 16 (the library's types are 0..14).  This is
    one of the two cases of `hdrFlagsSet_tie_all` below, which holds for EVERY type and is the tie of the function. -/
theorem hdrFlagsSet_tie (f t : UInt16) (ht : t.toNat < 16) :
    (Gen.F.HdrFlags_Set f t).toNat = (f.toNat ||| (1 <<< t.toNat)) % 65536 := by
  unfold Gen.F.HdrFlags_Set GoSem.shl16
  have : ¬ t.toNat ≥ 16 := by omega
  simp only [this, if_false]
  simp only [UInt16.toNat_or, UInt16.toNat_shiftLeft, UInt16.toNat_ofNat', UInt16.toNat_one]
  have hf := f.toNat_lt
  have h16 : t.toNat % 2 ^ 16 = t.toNat := Nat.mod_eq_of_lt (by omega)
  have h2 : (65536 : Nat) = 2 ^ 16 := by decide
  simp only [h16]
  rw [Nat.mod_eq_of_lt ht, h2, Nat.or_mod_two_pow, Nat.mod_eq_of_lt (by omega : f.toNat < 2 ^ 16)]

/-- beyond the width Go's shift gives 0: `Set` with a type ≥ 16 leaves the word unchanged -/
theorem hdrFlagsSet_wide (f t : UInt16) (ht : t.toNat ≥ 16) : Gen.F.HdrFlags_Set f t = f := by
  unfold Gen.F.HdrFlags_Set GoSem.shl16
  simp [ht]

private theorem or_shift_wide (f t : Nat) (hf : f < 65536) (ht : t ≥ 16) : (f ||| (1 <<< t)) % 65536 = f := by
  have h2 : (65536 : Nat) = 2 ^ 16 := by decide
  rw [h2, Nat.or_mod_two_pow, Nat.mod_eq_of_lt (by omega : f < 2 ^ 16)]
  have : (1 <<< t) % 2 ^ 16 = 0 := by
    rw [Nat.one_shiftLeft]
    obtain ⟨k, rfl⟩ : ∃ k, t = 16 + k := ⟨t - 16, by omega⟩
    rw [Nat.pow_add]
    exact Nat.mul_mod_right _ _
  rw [this]; simp

-- TIE: HdrFlags.Set
/-- **`HdrFlags.Set` for EVERY flag word and EVERY 16-bit header type** = the expression the model's ParseHeaders uses
    for its bookkeeping step (`(pflags ||| 1 <<< type) % 65536`, Model/Msg.lean `parseHeaders`; the same expression,
    reduced mod 65536, is the `bit` of Model/Sig.lean `msgSigLoop`) -/
theorem hdrFlagsSet_tie_all (f t : UInt16) :
    (Gen.F.HdrFlags_Set f t).toNat = (f.toNat ||| (1 <<< t.toNat)) % 65536 := by
  by_cases ht : t.toNat < 16
  · exact hdrFlagsSet_tie f t ht
  · rw [hdrFlagsSet_wide f t (by omega), or_shift_wide f.toNat t.toNat f.toNat_lt (by omega)]

/-- `HdrFlags.Test` after `Set` of the same type (< 16) is true -/
theorem hdrFlagsTest_after_set (f t : UInt16) (ht : t.toNat < 16) :
    Gen.F.HdrFlags_Test (Gen.F.HdrFlags_Set f t) t = true := by
  unfold Gen.F.HdrFlags_Test Gen.F.HdrFlags_Set GoSem.shl16
  have : ¬ t.toNat ≥ 16 := by omega
  simp only [this, if_false]
  have hne : ((1 : UInt16) <<< UInt16.ofNat t.toNat) ≠ 0 :=
    (by decide : ∀ n, n < 16 → ((1 : UInt16) <<< UInt16.ofNat n) ≠ 0) _ ht
  have e : ((f ||| (1 : UInt16) <<< UInt16.ofNat t.toNat) &&& (1 : UInt16) <<< UInt16.ofNat t.toNat)
      = (1 : UInt16) <<< UInt16.ofNat t.toNat := by
    apply UInt16.eq_of_toBitVec_eq
    simp only [UInt16.toBitVec_and, UInt16.toBitVec_or]
    ext i hi
    simp only [BitVec.getElem_and, BitVec.getElem_or]
    cases (f.toBitVec)[i] <;> simp
  rw [e]
  exact bne_iff_ne.mpr hne

/-! ### state predicates: `Parsed()` / `Empty()` / `Pending()` / `Err()` / `Missing()`

The model's parser states are inductive types without numbers (the numbering is not observable). To tie the Go predicates,
which compare the numeric state with a constant, each constructor is numbered here by the REGENERATED constant OF THE SAME
NAME (`ciFound` ↦ `Gen.C.ciFound` …), the numbering is shown injective (no two states share a number, so a predicate on
numbers cannot conflate states), and the translated predicate applied to the number of a state is proved equal to the
model's predicate on the state. If `Parsed()` were changed to test another constant, or two constants were given the same
value, these theorems would fail. -/

/-- the Go numbering of the model's states: each constructor is numbered by the REGENERATED constant of the same name -/
def ciNum : CIState → Nat
  | .init => Gen.C.ciInit | .found => Gen.C.ciFound | .fend => Gen.C.ciEnd | .fin => Gen.C.ciFIN
def clNum : CLState → Nat
  | .init => Gen.C.clInit | .found => Gen.C.clFound | .fend => Gen.C.clEnd | .fin => Gen.C.clFIN
def csNum : CSState → Nat
  | .init => Gen.C.csInit | .foundDigit => Gen.C.csFoundDigit | .endDigit => Gen.C.csEndDigit
  | .foundMethod => Gen.C.csFoundMethod | .fend => Gen.C.csEnd | .fin => Gen.C.csFIN
def flNum : FLState → Nat
  | .init => Gen.C.flInit | .reqMethod => Gen.C.flReqMethod | .reqURI => Gen.C.flReqURI | .reqVer => Gen.C.flReqVer
  | .rplStatus => Gen.C.flRplStatus | .rplReason => Gen.C.flRplReason | .crlf => Gen.C.flCRLF | .fin => Gen.C.flFIN
def msgNum : MsgState → Nat
  | .init => Gen.C.SIPMsgInit | .fline => Gen.C.SIPMsgFLine | .headers => Gen.C.SIPMsgHeaders | .body => Gen.C.SIPMsgBody
  | .err => Gen.C.SIPMsgErr | .noCLen => Gen.C.SIPMsgNoCLen | .fin => Gen.C.SIPMsgFIN

theorem ciNum_inj (a b : CIState) : ciNum a = ciNum b → a = b := by cases a <;> cases b <;> decide
theorem clNum_inj (a b : CLState) : clNum a = clNum b → a = b := by cases a <;> cases b <;> decide
theorem csNum_inj (a b : CSState) : csNum a = csNum b → a = b := by cases a <;> cases b <;> decide
theorem flNum_inj (a b : FLState) : flNum a = flNum b → a = b := by cases a <;> cases b <;> decide
theorem msgNum_inj (a b : MsgState) : msgNum a = msgNum b → a = b := by cases a <;> cases b <;> decide
theorem flNum_is_toNat (s : FLState) : flNum s = s.toNat := by cases s <;> decide

-- TIE: PCallIDBody.Parsed
theorem callidParsed_tie (s : PCallIDBody) : Gen.F.PCallIDBody_Parsed (UInt8.ofNat (ciNum s.state)) = s.parsed := by
  unfold PCallIDBody.parsed; cases s.state <;> decide
-- TIE: PCallIDBody.Empty
theorem callidEmpty_tie (st : CIState) : Gen.F.PCallIDBody_Empty (UInt8.ofNat (ciNum st)) = (st == .init) := by
  cases st <;> decide
-- TIE: PCallIDBody.Pending
theorem callidPending_tie (st : CIState) :
    Gen.F.PCallIDBody_Pending (UInt8.ofNat (ciNum st)) = (st != .fin && st != .init) := by cases st <;> decide
-- TIE: PUIntBody.Parsed
theorem uintParsed_tie (s : PUIntBody) : Gen.F.PUIntBody_Parsed (UInt8.ofNat (clNum s.state)) = s.parsed := by
  unfold PUIntBody.parsed; cases s.state <;> decide
-- TIE: PUIntBody.Empty
theorem uintEmpty_tie (st : CLState) : Gen.F.PUIntBody_Empty (UInt8.ofNat (clNum st)) = (st == .init) := by
  cases st <;> decide
-- TIE: PUIntBody.Pending
theorem uintPending_tie (st : CLState) :
    Gen.F.PUIntBody_Pending (UInt8.ofNat (clNum st)) = (st != .fin && st != .init) := by cases st <;> decide
-- TIE: PCSeqBody.Parsed
theorem cseqParsed_tie (s : PCSeqBody) : Gen.F.PCSeqBody_Parsed (UInt8.ofNat (csNum s.state)) = s.parsed := by
  unfold PCSeqBody.parsed; cases s.state <;> decide
-- TIE: PCSeqBody.Empty
theorem cseqEmpty_tie (st : CSState) : Gen.F.PCSeqBody_Empty (UInt8.ofNat (csNum st)) = (st == .init) := by
  cases st <;> decide
-- TIE: PCSeqBody.Pending
theorem cseqPending_tie (st : CSState) :
    Gen.F.PCSeqBody_Pending (UInt8.ofNat (csNum st)) = (st != .fin && st != .init) := by cases st <;> decide
-- TIE: PFLine.Parsed
theorem flineParsed_tie (pl : PFLine) : Gen.F.PFLine_Parsed (UInt8.ofNat (flNum pl.state)) = pl.parsed := by
  unfold PFLine.parsed; cases pl.state <;> decide
-- TIE: PFLine.Empty
theorem flineEmpty_tie (pl : PFLine) : Gen.F.PFLine_Empty (UInt8.ofNat (flNum pl.state)) = pl.isEmpty := by
  unfold PFLine.isEmpty; cases pl.state <;> decide
-- TIE: PFLine.Pending
theorem flinePending_tie (pl : PFLine) : Gen.F.PFLine_Pending (UInt8.ofNat (flNum pl.state)) = pl.pending := by
  unfold PFLine.pending; cases pl.state <;> decide
-- TIE: PSIPMsg.Parsed
theorem msgParsed_tie (m : PSIPMsg) : Gen.F.PSIPMsg_Parsed (UInt8.ofNat (msgNum m.state)) = m.parsed := by
  unfold PSIPMsg.parsed; cases m.state <;> decide
-- TIE: PSIPMsg.Err
theorem msgErr_tie (st : MsgState) : Gen.F.PSIPMsg_Err (UInt8.ofNat (msgNum st)) = (st == .err) := by
  cases st <;> decide
/-- the same for the 33 states of ParseNameAddrPVal (`fbInit` … `fbFIN`, parse_from.go) -/
def fbNum : FBState → Nat
  | .init => Gen.C.fbInit
  | .nameOrURI => Gen.C.fbNameOrURI
  | .nameOrURIEnd => Gen.C.fbNameOrURIEnd
  | .name => Gen.C.fbName
  | .quoted => Gen.C.fbQuoted
  | .uri => Gen.C.fbURI
  | .uriFound => Gen.C.fbURIFound
  | .newPossibleParam => Gen.C.fbNewPossibleParam
  | .possibleParamName => Gen.C.fbPossibleParamName
  | .possibleParamNameEnd => Gen.C.fbPossibleParamNameEnd
  | .newParam => Gen.C.fbNewParam
  | .paramName => Gen.C.fbParamName
  | .paramNameEnd => Gen.C.fbParamNameEnd
  | .newParamVal => Gen.C.fbNewParamVal
  | .paramVal => Gen.C.fbParamVal
  | .paramValEnd => Gen.C.fbParamValEnd
  | .newPossibleVal => Gen.C.fbNewPossibleVal
  | .possibleVal => Gen.C.fbPossibleVal
  | .possibleValEnd => Gen.C.fbPossibleValEnd
  | .quotedVal => Gen.C.fbQuotedVal
  | .quotedPossibleVal => Gen.C.fbQuotedPossibleVal
  | .tagT => Gen.C.fbTagT
  | .tagA => Gen.C.fbTagA
  | .tagG => Gen.C.fbTagG
  | .tagEq => Gen.C.fbTagEq
  | .tagVal => Gen.C.fbTagVal
  | .pTagT => Gen.C.fbPTagT
  | .pTagA => Gen.C.fbPTagA
  | .pTagG => Gen.C.fbPTagG
  | .pTagEq => Gen.C.fbPTagEq
  | .pTagVal => Gen.C.fbPTagVal
  | .star => Gen.C.fbStar
  | .fin => Gen.C.fbFIN
theorem fbNum_inj (a b : FBState) : fbNum a = fbNum b → a = b := by
  have key : ∀ i < 33, ∀ j < 33, fbNum (.ofNat i) = fbNum (.ofNat j) → FBState.ofNat i = .ofNat j := by
    decide +kernel
  have lt (s : FBState) : s.ctorIdx < 33 := by cases s <;> decide
  simpa only [FBState.ofNat_ctorIdx] using key _ (lt a) _ (lt b)
-- TIE: PFromBody.Parsed
theorem fromParsed_tie (pf : PFromBody) : Gen.F.PFromBody_Parsed (UInt8.ofNat (fbNum pf.state)) = pf.parsed := by
  unfold PFromBody.parsed; cases pf.state <;> decide
-- TIE: PFromBody.Empty
theorem fromEmpty_tie (pf : PFromBody) : Gen.F.PFromBody_Empty (UInt8.ofNat (fbNum pf.state)) = pf.isEmpty := by
  unfold PFromBody.isEmpty; cases pf.state <;> decide
-- TIE: PFromBody.Pending
theorem fromPending_tie (pf : PFromBody) : Gen.F.PFromBody_Pending (UInt8.ofNat (fbNum pf.state)) = pf.pending := by
  unfold PFromBody.pending; cases pf.state <;> decide
-- TIE: Hdr.Missing
theorem hdrMissing_tie (h : Hdr) (ht : h.type < 65536) : Gen.F.Hdr_Missing (UInt16.ofNat h.type) = h.missing :=
  u16_ofNat_beq0 h.type ht

/-! ### methods that assign struct fields and may panic: `PField.Set`, `PField.Extend` -/

private theorem ofInt16_nat (n : Nat) : GoSem.ofInt16 (Int.ofNat n) = UInt16.ofNat (n % 65536) := by
  unfold GoSem.ofInt16
  have : ((Int.ofNat n) % 65536).toNat = n % 65536 := by
    have h : (Int.ofNat n) % 65536 = Int.ofNat (n % 65536) := by simp
    rw [h]; rfl
  rw [this]

private theorem lt_nat (i n : Nat) : decide ((Int.ofNat i : Int) < Int.ofNat n) = decide (i < n) :=
  decide_eq_decide.mpr Int.ofNat_lt

-- TIE: PField.Set
/-- **`PField.Set(start, end)` (parse_types.go)**: the translated method — a pointer receiver to a struct becomes "fields
    in, assigned fields out", Go's `panic("invalid range")` becomes `none` — panics exactly when the model's `setPanics`
    says so (`end < start`) and otherwise stores exactly the model's field (16-bit truncation of the offset and of the
    length), for all natural `start`, `end`. This is the site every parser reports its spans through. -/
theorem set_tie (o l : UInt16) (s e : Nat) :
    Gen.F.PField_Set o l (Int.ofNat s) (Int.ofNat e) =
      if PField.setPanics s e then none
      else some (UInt16.ofNat (PField.set s e).offs, UInt16.ofNat (PField.set s e).len) := by
  unfold Gen.F.PField_Set PField.setPanics PField.set
  simp only [Option.bind_some, lt_nat]
  split
  · rfl
  · rename_i h
    simp only [decide_eq_true_eq] at h
    have hsub : (Int.ofNat e - Int.ofNat s) = Int.ofNat (e - s) := by
      show (e : Int) - (s : Int) = ((e - s : Nat) : Int); omega
    rw [hsub, ofInt16_nat, ofInt16_nat]
    rfl

-- TIE: PField.Extend
/-- **`PField.Extend(newEnd)`**: panics exactly when `extendPanics` says so (`newEnd < Offs`), otherwise the new length is
    the model's (uint16 subtraction), for every field with a 16-bit offset and every natural `newEnd` -/
theorem extend_tie (l : UInt16) (p : PField) (e : Nat) (hp : p.offs < 65536) :
    Gen.F.PField_Extend l (UInt16.ofNat p.offs) (Int.ofNat e) =
      if p.extendPanics e then none else some (UInt16.ofNat (p.extend e).len) := by
  unfold Gen.F.PField_Extend PField.extendPanics PField.extend
  have ho : (UInt16.ofNat p.offs).toNat = p.offs := by
    rw [UInt16.toNat_ofNat']; exact Nat.mod_eq_of_lt hp
  simp only [Option.bind_some, ho, lt_nat, ofInt16_nat]
  split
  · rfl
  · congr 1
    apply UInt16.toNat_inj.mp
    simp only [UInt16.toNat_sub, UInt16.toNat_ofNat', trunc16, Nat.reducePow, Nat.mod_mod, Nat.mod_eq_of_lt hp]
    congr 1
    omega

/-! ### a function that reads a slice: `skipCRLF` -/

private theorem idx_nat (b : Buf) (k : Nat) : GoSem.idx? b (Int.ofNat k) = b[k]? := by
  unfold GoSem.idx?
  have h : ¬ ((k : Int) < 0) := by omega
  simp [h]

private theorem idx_nat1 (b : Buf) (k : Nat) : GoSem.idx? b (Int.ofNat k + 1) = b[k+1]? := by
  have : (Int.ofNat k + 1) = Int.ofNat (k+1) := by simp
  rw [this, idx_nat]

/-- Go's `a && x` and `a || x` as translated (the right operand is only read when needed) -/
private theorem and_some (a x : Bool) : (if a = true then some x else some false) = some (a && x) := by
  cases a <;> rfl
private theorem or_some (a x : Bool) : (if a = true then some true else some x) = some (a || x) := by
  cases a <;> rfl

private theorem size_le_of_none {b : Buf} {i : Nat} (hb : b[i]? = none) : b.size ≤ i :=
  Nat.le_of_not_lt fun h => by rw [Array.getElem?_eq_getElem h] at hb; cases hb

private theorem lt_size_false {b : Buf} {i : Nat} (hb : b[i]? = none) : decide (i < b.size) = false :=
  decide_eq_false (Nat.not_lt.2 (size_le_of_none hb))

/-- the Go error code (`ErrorHdr`, a uint32) of a model verdict -/
def errU32 (e : Err) : UInt32 := UInt32.ofNat e.toNat

private theorem ge_nat (i n : Nat) : decide ((Int.ofNat i + 1 : Int) ≥ Int.ofNat n) = decide (n ≤ i + 1) :=
  decide_eq_decide.mpr (Int.ofNat_le (m := n) (n := i + 1))

-- TIE: skipCRLF
/-- **`skipCRLF` (parse_utils.go), the line-end recogniser under every parser of the library**: the translated source —
    with Go's index-out-of-range panic made explicit as `none` — never panics and returns exactly the model's triple
    (offset after the line end, its length, verdict), for every buffer and every start offset ≥ 0. -/
theorem skipCRLF_tie (b : Buf) (i : Nat) :
    Gen.F.skipCRLF b (Int.ofNat i) =
      some (Int.ofNat (skipCRLF b i).1, Int.ofNat (skipCRLF b i).2.1, errU32 (skipCRLF b i).2.2) := by
  unfold Gen.F.skipCRLF skipCRLF
  simp only [Option.bind_some, idx_nat, idx_nat1, ge_nat, lt_nat]
  cases h1 : b[i + 1]? with
  | none =>
    rw [decide_eq_true (size_le_of_none h1)]
    cases h0 : b[i]? with
    | none => rw [lt_size_false h0]; rfl
    | some c0 =>
      rw [decide_eq_true (get?_lt h0)]
      simp only [if_true, Option.bind_some, and_some]
      generalize (c0 != 13 && c0 != 10) = x
      cases x <;> rfl
  | some c1 =>
    have := get?_lt h1
    rw [decide_eq_false (by omega), Array.getElem?_eq_getElem (by omega : i < b.size)]
    simp only [Bool.false_eq_true, if_false, Option.bind_some]
    generalize (b[i] == 13) = x
    generalize (b[i] == 10) = z
    generalize (c1 == 10) = y
    cases x <;> cases y <;> cases z <;> rfl

/-! ### `Request()` / `Method()` / `PTokParam.Empty()`: paths of field selections and calls of translated methods

`PFLine.Request` is the site of defect F22 (`Status == 0` alone reports a status line with code 000 as a request): what is
translated is `Status == 0 && StatusCode.Empty()`, and it is proved to be the model's `request`. -/

-- TIE: PFLine.Request
theorem flineRequest_tie (pl : PFLine) (hs : pl.status < 65536) (hl : pl.statusCode.len < 65536) :
    Gen.F.PFLine_Request (UInt16.ofNat pl.status) (UInt16.ofNat pl.statusCode.len) = pl.request := by
  unfold Gen.F.PFLine_Request Gen.F.PField_Empty PFLine.request
  rw [u16_ofNat_beq0 _ hs, u16_ofNat_beq0 _ hl]
-- TIE: PTokParam.Empty
theorem tokparamEmpty_tie (p : PTokParam) (hl : p.all.len < 65536) :
    Gen.F.PTokParam_Empty (UInt16.ofNat p.all.len) = p.isEmpty := by
  unfold Gen.F.PTokParam_Empty Gen.F.PField_Empty PTokParam.isEmpty PField.isEmpty
  rw [u16_ofNat_beq0 _ hl]
-- TIE: PSIPMsg.Request
theorem msgRequest_tie (m : PSIPMsg) (hs : m.fl.status < 65536) (hl : m.fl.statusCode.len < 65536) :
    Gen.F.PSIPMsg_Request (UInt16.ofNat m.fl.status) (UInt16.ofNat m.fl.statusCode.len) = m.request := by
  unfold Gen.F.PSIPMsg_Request PSIPMsg.request
  exact flineRequest_tie m.fl hs hl
-- TIE: PSIPMsg.Method
theorem msgMethod_tie (m : PSIPMsg) (hs : m.fl.status < 65536) (hl : m.fl.statusCode.len < 65536) :
    Gen.F.PSIPMsg_Method (UInt8.ofNat m.pv.cseq.methodNo) (UInt8.ofNat m.fl.methodNo) (UInt16.ofNat m.fl.status)
      (UInt16.ofNat m.fl.statusCode.len) = UInt8.ofNat m.method := by
  unfold Gen.F.PSIPMsg_Method PSIPMsg.method
  rw [msgRequest_tie m hs hl]
  by_cases h : m.request = true <;> simp [h]

/-! ### the capacity accessors `VNo / PNo / HNo / More` (the caller's array enters as its length) -/

private theorem gt_nat (a b : Nat) : decide ((Int.ofNat a : Int) > Int.ofNat b) = decide (a > b) :=
  decide_eq_decide.mpr Int.ofNat_lt

private theorem cap_no (n k : Nat) :
    (if decide (Int.ofNat n > Int.ofNat k) then Int.ofNat k else Int.ofNat n) = Int.ofNat (if n > k then k else n) := by
  by_cases h : n > k <;> simp [h]

-- TIE: PContacts.VNo
theorem contactsVNo_tie (c : PContacts) : Gen.F.PContacts_VNo (Int.ofNat c.n) c.vals.size = Int.ofNat c.vNo :=
  cap_no c.n c.vals.size
-- TIE: PContacts.More
theorem contactsMore_tie (c : PContacts) : Gen.F.PContacts_More (Int.ofNat c.n) c.vals.size = c.more := gt_nat _ _
-- TIE: PPAIs.VNo
theorem paisVNo_tie (c : PPAIs) (h2 : c.vals.size = 2) : Gen.F.PPAIs_VNo (Int.ofNat c.n) = Int.ofNat c.vNo := by
  rw [PPAIs.vNo, h2]; exact cap_no c.n 2
-- TIE: PPAIs.More
theorem paisMore_tie (c : PPAIs) (h2 : c.vals.size = 2) : Gen.F.PPAIs_More (Int.ofNat c.n) = c.more := by
  rw [PPAIs.more, h2]; exact gt_nat c.n 2
-- TIE: URIParamsLst.PNo
theorem uriParamsPNo_tie (l : URIParamsLst) : Gen.F.URIParamsLst_PNo (Int.ofNat l.n) l.params.size = Int.ofNat l.pNo :=
  cap_no l.n l.params.size
-- TIE: URIParamsLst.More
theorem uriParamsMore_tie (l : URIParamsLst) : Gen.F.URIParamsLst_More (Int.ofNat l.n) l.params.size = l.more :=
  gt_nat _ _
-- TIE: URIHdrsLst.HNo
theorem uriHdrsHNo_tie (l : URIHdrsLst) : Gen.F.URIHdrsLst_HNo (Int.ofNat l.n) l.hdrs.size = Int.ofNat l.hNo :=
  cap_no l.n l.hdrs.size
-- TIE: URIHdrsLst.More
theorem uriHdrsMore_tie (l : URIHdrsLst) : Gen.F.URIHdrsLst_More (Int.ofNat l.n) l.hdrs.size = l.more := gt_nat _ _


/-! ### scanning loops: `skipWS`, `skipToken`, `skipTokenDelim`, `skipLine` -/

/-- a translated `for ; cond; i++ {}` whose condition at a natural position is "inside the buffer and not a stop byte"
    ends within `b.size - i + 1` rounds where `scanTo stop` ends; the loop equation `hL` holds by `rfl` (which also
    finds `cond`), so the condition is the only obligation of an instance -/
private theorem loop_tie (b : Buf) (stop : UInt8 → Bool) (cond : Int → Option Bool) (L : Nat → Int → Option Int)
    (hL : ∀ n v, L (n + 1) v = (cond v).bind fun c => if c then L n (v + 1) else some v)
    (hc : ∀ i, cond (Int.ofNat i) = some (match b[i]? with | none => false | some c => !stop c)) :
    ∀ fuel i, b.size - i < fuel → L fuel (Int.ofNat i) = some (Int.ofNat (scanTo stop b i)) := by
  intro fuel
  induction fuel with
  | zero => intro i h; omega
  | succ n ih =>
    intro i h
    rw [hL, hc, Option.bind_some]
    cases hb : b[i]? with
    | none => rw [scanTo_none hb]; rfl
    | some c =>
      cases hs : stop c <;> simp only [hs, Bool.not_true, Bool.not_false, Bool.false_eq_true, if_true, if_false]
      · rw [scanTo_step hb hs]; exact ih (i + 1) (by have := get?_lt hb; omega)
      · rw [scanTo_eq_self hb hs]

/-- the bounds test of a translated condition, in terms of the read it guards -/
private theorem lt_size (b : Buf) (i : Nat) : decide (i < b.size) = b[i]?.isSome := by
  cases hb : b[i]? with
  | none => exact lt_size_false hb
  | some c => exact decide_eq_true (get?_lt hb)

-- TIE: skipWS
/-- **`skipWS` (parse_utils.go), a scanning LOOP**: the translated loop — a recursive function over explicit fuel
    `len(buf) + 1` — finishes within its fuel, never indexes out of range and returns the model's offset, for every
    buffer and every start offset ≥ 0 -/
theorem skipWS_tie (b : Buf) (i : Nat) : Gen.F.skipWS b (Int.ofNat i) = some (Int.ofNat (skipWS b i)) := by
  unfold Gen.F.skipWS
  rw [loop_tie b (fun c => !isWS c) _ (Gen.F.skipWS_loop1 b) (fun _ _ => rfl) (fun i => ?_) _ i (by omega), skipWS_eq]
  · rfl
  · simp only [Option.bind_some, idx_nat, lt_nat, lt_size]
    cases b[i]? <;> simp only [Option.isSome, Bool.false_eq_true, if_true, if_false, Option.bind_some, or_some,
      isWS, Bool.not_not]

-- TIE: skipToken
/-- **`skipToken` (parse_utils.go), a scanning LOOP**: as for `skipWS` -/
theorem skipToken_tie (b : Buf) (i : Nat) : Gen.F.skipToken b (Int.ofNat i) = some (Int.ofNat (skipToken b i)) := by
  unfold Gen.F.skipToken
  rw [loop_tie b isLWSch _ (Gen.F.skipToken_loop1 b) (fun _ _ => rfl) (fun i => ?_) _ i (by omega), skipToken_eq]
  · rfl
  · simp only [Option.bind_some, idx_nat, lt_nat, lt_size]
    cases b[i]? <;> simp only [Option.isSome, Bool.false_eq_true, if_true, if_false, Option.bind_some, and_some,
      isLWSch, bne, Bool.not_or]

-- TIE: skipTokenDelim
/-- **`skipTokenDelim` (parse_utils.go), a scanning LOOP**: as for `skipWS` -/
theorem skipTokenDelim_tie (b : Buf) (i : Nat) (d : UInt8) :
    Gen.F.skipTokenDelim b (Int.ofNat i) d = some (Int.ofNat (skipTokenDelim b i d)) := by
  unfold Gen.F.skipTokenDelim
  rw [loop_tie b (fun c => isLWSch c || c == d) _ (Gen.F.skipTokenDelim_loop1 b d) (fun _ _ => rfl) (fun i => ?_) _ i
    (by omega), skipTokenDelim_eq]
  · rfl
  · simp only [Option.bind_some, idx_nat, lt_nat, lt_size]
    cases b[i]? <;> simp only [Option.isSome, Bool.false_eq_true, if_true, if_false, Option.bind_some, and_some,
      isLWSch, bne, Bool.not_or]

-- TIE: skipLine
/-- **`skipLine` (parse_utils.go)**: a scanning loop followed by a CALL of the translated `skipCRLF` = the model's
    `skipLine` (skip to the line end, then recognise it), for every buffer and every start offset ≥ 0 -/
theorem skipLine_tie (b : Buf) (i : Nat) :
    Gen.F.skipLine b (Int.ofNat i) =
      some (Int.ofNat (skipLine b i).1, Int.ofNat (skipLine b i).2.1, errU32 (skipLine b i).2.2) := by
  unfold Gen.F.skipLine skipLine
  rw [loop_tie b isCRLFch _ (Gen.F.skipLine_loop1 b) (fun _ _ => rfl) (fun i => ?_) _ i (by omega), skipToEOL_eq]
  · simp only [Option.bind_some]
    rw [skipCRLF_tie]; rfl
  · simp only [Option.bind_some, idx_nat, lt_nat, lt_size]
    cases b[i]? <;> simp only [Option.isSome, Bool.false_eq_true, if_true, if_false, Option.bind_some, and_some,
      isCRLFch, bne, Bool.not_or, Bool.and_comm]

end Sipsp.TieFuncs
