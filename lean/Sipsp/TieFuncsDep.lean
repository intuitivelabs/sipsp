/-
  Sipsp.TieFuncsDep — translator tie for the DEPENDENCY github.com/intuitivelabs/bytescase (a separate module so that a
  sandbox without that module in its cache only loses this part of the soft obligation).
-/
import Sipsp.TieFuncs
import Sipsp.Model.Bytescase

namespace Sipsp.TieFuncs
open Sipsp

/-! ### the dependency `github.com/intuitivelabs/bytescase` (the version pinned by the repository's go.mod, read from the
module cache): its scalar leaf `ByteToLower`, the letter-case fold under every case-insensitive comparison -/

/-- the whole table, evaluated once: the translated function against the model's and against its specification -/
private theorem lower_table : ∀ b : UInt8, Gen.F.bytescase_ByteToLower b = byteToLower b ∧
    Gen.F.bytescase_ByteToLower b = if (65 ≤ b && b ≤ 90) then b ||| 32 else b :=
  forall_byte (by decide +kernel)

-- TIE: bytescase.ByteToLower
/-- `bytescase.ByteToLower` (branch-free bit arithmetic on uint32) as translated from the dependency's source = the
    model's `byteToLower`, for every byte -/
theorem byteToLower_tie (b : UInt8) : Gen.F.bytescase_ByteToLower b = byteToLower b :=
  (lower_table b).1

/-- and it is what it should be: upper-case ASCII letters get bit 5 set, every other byte is unchanged -/
theorem byteToLower_spec (b : UInt8) :
    Gen.F.bytescase_ByteToLower b = if (65 ≤ b && b ≤ 90) then b ||| 32 else b :=
  (lower_table b).2

end Sipsp.TieFuncs
