import Sipsp.Properties.C02
import Sipsp.Properties.C04
open Sipsp
#check @parseTokenParam_range_end
#check @parseTokenParam_mv_start_end
theorem viaBr_guard (b : Buf) (offs next : Nat) (p : PTokParam) (ho : offs ≤ b.size)
    (hp : parseTokenParam b offs {} viaBrFlags = (next, .moreValues, p)) : offs < next ∧ next ≤ b.size := by
  have e : viaBrFlags = (17 ||| POptInputEndF) := by decide
  rw [e] at hp
  have hr := parseTokenParam_range_end b offs {} 17 ho hp
  refine ⟨?_, hr.2⟩
  rcases Nat.lt_or_ge offs next with h | h
  · exact h
  · have : next = offs := by omega
    subst this
    have := parseTokenParam_mv_start_end b next {} 17 hp
    cases this
